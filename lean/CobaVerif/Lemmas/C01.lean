/-
C01 / C03 — running tasks: the invariant of `ProcessTasks` in one address space (every task sees a pristine learner),
the events of a run under every configuration and schedule, run = spec, the log, process-level state, resumed runs.
What is only about task lists is in `C01Tasks`, what is only about `TransactionResult` in `C01Result`, what `evalS` is
on the built-in evaluators in `C01Evaluators`.
-/
import CobaVerif.Lemmas.C01Tasks
import CobaVerif.Lemmas.C01Result

namespace Coba.C01
open List

/-! ## ProcessTasks in an address space -/

/-- the task evaluates learner object `l` -/
def Task.uses (l : Nat) : Task → Prop
  | .eval _ _ _ l' _ _ _ => l' = l
  | _ => False

instance (l : Nat) (t : Task) : Decidable (t.uses l) := by
  cases t <;> simp only [Task.uses] <;> infer_instance

@[simp] theorem Task.uses_eval (l ei e li l' vi v : Nat) (c : Bool) : (Task.eval ei e li l' vi v c).uses l ↔ l' = l := Iff.rfl
@[simp] theorem Task.uses_env (l i e : Nat) : (Task.env i e).uses l ↔ False := Iff.rfl
@[simp] theorem Task.uses_lrn (l i e : Nat) : (Task.lrn i e).uses l ↔ False := Iff.rfl
@[simp] theorem Task.uses_val (l i e : Nat) : (Task.val i e).uses l ↔ False := Iff.rfl

/-- the task evaluates learner object `l` in place (no deepcopy) -/
def Task.mutates (l : Nat) : Task → Prop
  | .eval _ _ _ l' _ _ c => l' = l ∧ c = false
  | _ => False

theorem Task.mutates.uses {l : Nat} {t : Task} (h : t.mutates l) : t.uses l := by
  cases t <;> simp_all [Task.mutates, Task.uses]

/-- the event of a task when its learner cell is pristine -/
def pristineEv {S P Row} (c : Comps S P Row) (seed : Nat) (t : Task) : Ev P Row := (runTask c seed c.init t).1

theorem runTask_ev_congr {S P Row} (c : Comps S P Row) (seed : Nat) (h h' : Heap S) (t : Task)
    (hh : ∀ l, t.uses l → h l = h' l) : (runTask c seed h t).1 = (runTask c seed h' t).1 := by
  cases t with
  | eval ei e li l vi v cp =>
    have := hh l rfl
    simp only [runTask, this]
  | _ => rfl

theorem runTask_heap {S P Row} (c : Comps S P Row) (seed : Nat) (h : Heap S) (t : Task) (l : Nat)
    (hm : ¬ t.mutates l) : (runTask c seed h t).2 l = h l := by
  cases t with
  | eval ei e li l' vi v cp =>
    cases cp with
    | true => simp [runTask]
    | false =>
      have : l ≠ l' := fun hl => hm ⟨hl.symm, rfl⟩
      simp [runTask, Heap.set, this]
  | _ => rfl

/-- no learner cell is used again after an in-place evaluation, as a count (stable under permutation and under taking
sublists) -/
def AtMostOnce (ts : List Task) : Prop :=
  ∀ t ∈ ts, ∀ l, t.mutates l → (ts.filter (fun t' => decide (t'.uses l))).length ≤ 1

theorem AtMostOnce.perm {ts ts' : List Task} (h : AtMostOnce ts) (p : ts ~ ts') : AtMostOnce ts' := by
  intro t ht l hm
  rw [← (p.filter _).length_eq]
  exact h t (p.mem_iff.2 ht) l hm

theorem AtMostOnce.sublist {ts ts' : List Task} (h : AtMostOnce ts) (p : ts' <+ ts) : AtMostOnce ts' := by
  intro t ht l hm
  exact Nat.le_trans (p.filter _).length_le (h t (p.subset ht) l hm)

theorem AtMostOnce.head {t : Task} {ts : List Task} (h : AtMostOnce (t :: ts)) {l : Nat} (hm : t.mutates l) {t' : Task}
    (ht' : t' ∈ ts) : ¬ t'.uses l := by
  intro hu
  have h1 := h t mem_cons_self l hm
  have h2 : decide (t.uses l) = true := by simpa using hm.uses
  rw [filter_cons, h2, if_pos rfl, length_cons] at h1
  have h3 : t' ∈ ts.filter (fun t' => decide (t'.uses l)) := by
    simp [mem_filter, ht', hu]
  have := length_pos_of_mem h3
  omega

/-- the invariant of `ProcessTasks`: every cell still to be used is pristine -/
theorem runSeq_pristine {S P Row} (c : Comps S P Row) (seed : Nat) : ∀ (ts : List Task) (h : Heap S),
    (∀ t ∈ ts, ∀ l, t.uses l → h l = c.init l) → AtMostOnce ts →
    (runSeq c seed h ts).1 = ts.map (pristineEv c seed)
  | [], _, _, _ => rfl
  | t :: ts, h, hA, hN => by
    simp only [runSeq, map_cons]
    have h1 : (runTask c seed h t).1 = pristineEv c seed t :=
      runTask_ev_congr c seed h c.init t (fun l hl => hA t (mem_cons_self) l hl)
    rw [h1]
    congr 1
    apply runSeq_pristine c seed ts _ _ (hN.sublist (sublist_cons_self t ts))
    intro t' ht' l hl
    rw [runTask_heap c seed h t l (fun hm => hN.head hm ht' hl)]
    exact hA t' (mem_cons_of_mem _ ht') l hl

theorem runSeq_heap {S P Row} (c : Comps S P Row) (seed : Nat) (l : Nat) : ∀ (ts : List Task) (h : Heap S),
    (∀ t ∈ ts, ¬ t.mutates l) → (runSeq c seed h ts).2 l = h l
  | [], _, _ => rfl
  | t :: ts, h, hm => by
    simp only [runSeq]
    rw [runSeq_heap c seed l ts _ (fun t' ht' => hm t' (mem_cons_of_mem _ ht'))]
    exact runTask_heap c seed h t l (hm t mem_cons_self)

theorem Kind.not_uses (k : Kind) (i o l : Nat) : ¬ (k.task i o).uses l := by cases k <;> exact id

theorem makeTasks_uses_length (ts : List Triple) (l : Nat) :
    ((makeTasks .none ts).filter (fun t => decide (t.uses l))).length = lrnCount ts l := by
  have hp : (Kind.all.flatMap (paramTasks · ts)).filter (fun t => decide (t.uses l)) = [] := by
    refine filter_eq_nil_iff.2 fun t ht => ?_
    obtain ⟨k, _, ht⟩ := mem_flatMap.1 ht
    obtain ⟨oi, _, rfl⟩ := mem_map.1 ht
    simpa using k.not_uses oi.2 oi.1 l
  rw [((makeTasks_perm ts).filter _).length_eq, filter_append, hp, nil_append, filter_map, length_map, lrnCount]
  congr 1

theorem mutates_count {ts : List Triple} {t : Task} {l : Nat} (ht : t ∈ makeTasks .none ts) (hm : t.mutates l) :
    lrnCount ts l ≤ 1 := by
  cases t with
  | eval ei e li l' vi v cp =>
    obtain ⟨rfl, rfl⟩ := hm
    simpa using (mem_makeTasks_eval.1 ht).copy.symm
  | _ => exact absurd hm (by simp [Task.mutates])

theorem makeTasks_atMostOnce (ts : List Triple) : AtMostOnce (makeTasks .none ts) := by
  intro t ht l hm
  rw [makeTasks_uses_length]
  exact mutates_count ht hm


/-! ## every configuration and every schedule emits the pristine events of the tasks -/

section chunks
variable {S P Row : Type} (c : Comps S P Row) (seed : Nat) {tasks : List Task} (hA : AtMostOnce tasks)
  {chunks : List (List Task)} (hflat : chunks.flatten ~ tasks)
include hA hflat

theorem runSeq_chunks_perm :
    (chunks.map (fun ch => (runSeq c seed c.init ch).1)).flatten ~ tasks.map (pristineEv c seed) := by
  have hch : ∀ ch ∈ chunks, (runSeq c seed c.init ch).1 = ch.map (pristineEv c seed) := fun ch hch =>
    runSeq_pristine c seed ch c.init (fun _ _ _ _ => rfl) ((hA.perm hflat.symm).sublist (sublist_flatten_of_mem hch))
  rw [map_congr_left hch, ← map_flatten]
  exact hflat.map _

theorem runSeq_flatten_perm : (runSeq c seed c.init chunks.flatten).1 ~ tasks.map (pristineEv c seed) := by
  rw [runSeq_pristine c seed _ c.init (fun _ _ _ _ => rfl) (hA.perm hflat.symm)]
  exact hflat.map _

end chunks

theorem runEventsOn_perm {S P Row} (c : Comps S P Row) (cfg : Cfg) (picks : List Nat) (seed : Nat)
    (tasks : List Task) (hA : AtMostOnce tasks) :
    (runEventsOn c cfg picks seed tasks).1 ~ tasks.map (pristineEv c seed) := by
  unfold runEventsOn
  split
  · exact (interleave_perm _ _).trans (runSeq_chunks_perm c seed hA (chunksOn_flatten c cfg tasks))
  · exact runSeq_flatten_perm c seed hA (chunksOn_flatten c cfg tasks)

theorem runEvents_eq_runEventsOn {S P Row} (c : Comps S P Row) (cfg : Cfg) (picks : List Nat) (seed : Nat) (ts : List Triple) :
    runEvents c cfg picks seed ts = runEventsOn c cfg picks seed (makeTasks .none ts) := rfl

theorem runEvents_perm {S P Row} (c : Comps S P Row) (cfg : Cfg) (picks : List Nat) (seed : Nat)
    (ts : List Triple) :
    (runEvents c cfg picks seed ts).1 ~ (makeTasks .none ts).map (pristineEv c seed) := by
  rw [runEvents_eq_runEventsOn]; exact runEventsOn_perm c cfg picks seed _ (makeTasks_atMostOnce ts)

theorem runEvents_heap {S P Row} (c : Comps S P Row) (cfg : Cfg) (picks : List Nat) (seed : Nat) (ts : List Triple)
    (l : Nat) (h : lrnCount ts l > 1 ∨ cfg.multi = true) :
    (runEvents c cfg picks seed ts).2 l = c.init l := by
  unfold runEvents
  split
  · rfl
  · rename_i hm
    rcases h with h | h
    · apply runSeq_heap
      intro t ht hmut
      have := mutates_count ((chunksOn_flatten c cfg _).mem_iff.1 ht) hmut
      omega
    · exact absurd h hm


/-! ## run = spec: the records of a run are, in some order, the records of the spec -/

section records
variable {S P Row : Type} (c : Comps S P Row) (seed : Nat)

/-- the record the task yields on pristine objects (none when it raises) -/
def pristineRec (t : Task) : Option (Rec P Row) := (pristineEv c seed t).rec?

theorem filterMap_rec_eq (tasks : List Task) :
    (tasks.map (pristineEv c seed)).filterMap Ev.rec? = tasks.filterMap (pristineRec c seed) := by
  rw [filterMap_map]; rfl

theorem pristineEv_param (k : Kind) (i o : Nat) :
    pristineEv c seed (k.task i o) = paramEv (k.task i o) (k.mk i) (k.params c o) := by cases k <;> rfl

theorem pristineRec_param (k : Kind) (i o : Nat) :
    pristineRec c seed (k.task i o) = (k.params c o).toOption.map (k.mk i) := by
  rw [pristineRec, pristineEv_param]; cases k.params c o <;> rfl

theorem pristineRec_eval (ei e li l vi v : Nat) (cp : Bool) :
    pristineRec c seed (.eval ei e li l vi v cp) = (evalS c seed (e, l, v)).toOption.map (Rec.T4 (ei, li, vi)) := by
  simp only [pristineRec, pristineEv, runTask, evalS]
  cases (c.eval v e (c.init l) (effSeed c seed v)).1 <;> rfl

/-- the `Rec.rkey` of the record the task yields: that of a record of its constructor under its ids (the payload has
no part in a key) -/
def Task.tkey : Task → Nat × Key3
  | .env i _ => (Rec.T1 i () : Rec Unit Unit).rkey
  | .lrn i _ => (Rec.T2 i () : Rec Unit Unit).rkey
  | .val i _ => (Rec.T3 i () : Rec Unit Unit).rkey
  | .eval ei _ li _ vi _ _ => (Rec.T4 (ei, li, vi) [] : Rec Unit Unit).rkey

theorem Kind.tkey_task (k : Kind) (i o : Nat) : (k.task i o).tkey = (k.tag, (i, 0, 0)) := by cases k <;> rfl

theorem Task.tkey_eval (ei e li l vi v : Nat) (cp : Bool) : (Task.eval ei e li l vi v cp).tkey = (4, (ei, li, vi)) := rfl

theorem tkey_inj {ts : List Triple} {t t' : Task} (ht : t ∈ makeTasks .none ts) (ht' : t' ∈ makeTasks .none ts)
    (h : t.tkey = t'.tkey) : t = t' := by
  cases t using Task.kindCases with
  | param k i o =>
    cases t' using Task.kindCases with
    | param k' i' o' =>
      rw [Kind.tkey_task, Kind.tkey_task, Prod.mk.injEq, Prod.mk.injEq] at h
      cases Kind.tag_inj h.1; cases h.2.1
      have h1 := mem_makeTasks_param.1 ht; have h2 := mem_makeTasks_param.1 ht'
      rw [idOf_inj h1.1 (h1.2.symm.trans h2.2)]
    | eval => exact absurd (congrArg Prod.fst h) (by rw [Kind.tkey_task]; exact k.tag_ne_four)
  | eval ei e li l vi v cp =>
    cases t' using Task.kindCases with
    | param k' i' o' => exact absurd (congrArg Prod.fst h).symm (by rw [Kind.tkey_task]; exact k'.tag_ne_four)
    | eval ei' e' li' l' vi' v' cp' =>
      rw [Task.tkey_eval, Task.tkey_eval] at h
      cases (Prod.mk.inj h).2
      have h1 := mem_makeTasks_eval.1 ht; have h2 := mem_makeTasks_eval.1 ht'
      cases idKey_inj h1.listed (h1.key.symm.trans h2.key)
      rw [h1.copy, h2.copy]

theorem pristineRec_rkey (t : Task) (r : Rec P Row) (h : pristineRec c seed t = some r) : r.rkey = t.tkey := by
  cases t using Task.kindCases with
  | param k i o =>
    rw [pristineRec_param, Option.map_eq_some_iff] at h
    obtain ⟨p, _, rfl⟩ := h
    rw [Kind.rkey_mk, Kind.tkey_task]
  | eval ei e li l vi v cp =>
    rw [pristineRec_eval, Option.map_eq_some_iff] at h
    obtain ⟨rows, _, rfl⟩ := h
    rfl

variable (ts : List Triple)

theorem filterMap_paramTasks (k : Kind) :
    (paramTasks k ts).filterMap (pristineRec c seed) = paramRecs k.mk (k.params c) (k.objs ts) := by
  rw [paramTasks, filterMap_map, paramRecs]
  refine filterMap_congr fun oi _ => ?_
  rw [Function.comp_apply, pristineRec_param]
  cases k.params c oi.1 <;> rfl

theorem filterMap_evalTasks : (ts.map (evalTaskOf ts)).filterMap (pristineRec c seed) = evalRecs c seed ts := by
  rw [filterMap_map, evalRecs]
  refine filterMap_congr fun t _ => ?_
  rw [Function.comp_apply, evalTaskOf, pristineRec_eval]
  cases evalS c seed t <;> rfl

theorem specRecs_eq : specRecs c seed ts =
    Rec.T0 (metaOf seed ts) :: (Kind.all.flatMap (fun k => paramRecs k.mk (k.params c) (k.objs ts)) ++ evalRecs c seed ts) := by
  rw [Kind.flatMap_all, append_assoc, append_assoc]; rfl

theorem pristineRecs_perm :
    Rec.T0 (metaOf seed ts) :: (makeTasks .none ts).filterMap (pristineRec c seed) ~ specRecs c seed ts := by
  rw [specRecs_eq]
  refine Perm.cons _ (((makeTasks_perm ts).filterMap _).trans (Perm.of_eq ?_))
  rw [filterMap_append, filterMap_flatMap, filterMap_evalTasks]
  simp only [filterMap_paramTasks]

/-- the key of a record is the key of its task, and the tasks of a fresh run have distinct keys -/
theorem specRecs_keysFunctional : KeysFunctional (specRecs c seed ts) := by
  have h0 : ∀ t : Task, t.tkey.1 ≠ 0 := fun t => by cases t <;> simp [Task.tkey, Rec.rkey]
  intro r hr r' hr' h
  rw [← (pristineRecs_perm c seed ts).mem_iff, mem_cons, mem_filterMap] at hr hr'
  rcases hr with rfl | ⟨t, ht, hr⟩ <;> rcases hr' with rfl | ⟨t', ht', hr'⟩
  · rfl
  · exact absurd (congrArg Prod.fst (h.trans (pristineRec_rkey c seed t' r' hr'))).symm (h0 t')
  · exact absurd (congrArg Prod.fst (h.symm.trans (pristineRec_rkey c seed t r hr))).symm (h0 t)
  · cases tkey_inj ht ht' ((pristineRec_rkey c seed t r hr).symm.trans (h.trans (pristineRec_rkey c seed t' r' hr')))
    exact Option.some.inj (hr.symm.trans hr')

theorem result_of_perm_specRecs (recs : List (Rec P Row)) (h : recs ~ specRecs c seed ts) :
    result recs = resultS c seed ts :=
  (result_perm h.symm (specRecs_keysFunctional c seed ts)).symm

theorem result_of_pristineRecs (recs : List (Rec P Row))
    (h : ∀ r, r ∈ recs ↔ r ∈ (makeTasks .none ts).filterMap (pristineRec c seed)) :
    result (Rec.T0 (metaOf seed ts) :: recs) = resultS c seed ts :=
  (result_ext (fun r => by rw [← (pristineRecs_perm c seed ts).mem_iff, mem_cons, mem_cons, h])
    (specRecs_keysFunctional c seed ts)).symm

end records

section runEqSpec
variable {S P Row : Type} (c : Comps S P Row) (cfg : Cfg) (picks : List Nat) (seed : Nat) (ts : List Triple)

theorem runRecords_perm : runRecords c cfg picks seed ts ~ specRecs c seed ts := by
  refine (Perm.cons _ ?_).trans (pristineRecs_perm c seed ts)
  rw [← filterMap_rec_eq]
  exact (runEvents_perm c cfg picks seed ts).filterMap _

theorem result_of_records_perm (recs : List (Rec P Row)) (h : recs ~ runRecords c cfg picks seed ts) :
    result recs = resultS c seed ts :=
  result_of_perm_specRecs c seed ts recs (h.trans (runRecords_perm c cfg picks seed ts))

theorem run_eq_resultS : run c cfg picks seed ts = resultS c seed ts :=
  result_of_records_perm c cfg picks seed ts _ (Perm.refl _)

end runEqSpec


/-! ## the tables of the result, row by row -/

section specRows
variable {S P Row : Type} (c : Comps S P Row) (seed : Nat) (ts : List Triple)

theorem mem_paramRecs {mk : Nat → P → Rec P Row} {params : Nat → Except Err P} {objs : List Nat} {r : Rec P Row} :
    r ∈ paramRecs mk params objs ↔ ∃ o ∈ objs, ∃ p, params o = .ok p ∧ r = mk (idOf objs o) p := by
  simp only [paramRecs, mem_filterMap, Prod.exists, mem_zipIdx_firsts]
  constructor
  · rintro ⟨o, i, ⟨ho, rfl⟩, h⟩
    cases hp : params o with
    | ok p => rw [hp] at h; exact ⟨o, ho, p, hp, (Option.some.inj h).symm⟩
    | error e => rw [hp] at h; cases h
  · rintro ⟨o, ho, p, hp, rfl⟩
    exact ⟨o, _, ⟨ho, rfl⟩, by rw [hp]⟩

theorem mem_evalRecs {r : Rec P Row} :
    r ∈ evalRecs c seed ts ↔ ∃ t ∈ ts, ∃ rows, evalS c seed t = .ok rows ∧ r = .T4 (idKey ts t) rows := by
  simp only [evalRecs, mem_filterMap]
  constructor
  · rintro ⟨t, ht, h⟩
    cases hr : evalS c seed t with
    | ok rows => rw [hr] at h; exact ⟨t, ht, rows, hr, (Option.some.inj h).symm⟩
    | error e => rw [hr] at h; cases h
  · rintro ⟨t, ht, rows, hr, rfl⟩; exact ⟨t, ht, by rw [hr]⟩

theorem mem_specRecs_param (k : Kind) (i : Nat) (p : P) :
    k.mk i p ∈ specRecs c seed ts ↔ ∃ o ∈ k.objs ts, i = idOf (k.objs ts) o ∧ k.params c o = .ok p := by
  have h4 : (k.mk i p : Rec P Row) ∉ evalRecs c seed ts := fun h => by
    obtain ⟨t, _, rows, _, h⟩ := (mem_evalRecs c seed ts).1 h
    exact Kind.mk_ne_T4 h
  simp only [specRecs_eq, mem_cons, Kind.mk_ne_T0, false_or, mem_append, h4, or_false, mem_flatMap, Kind.mem_all, true_and,
    mem_paramRecs, Kind.mk_inj]
  constructor
  · rintro ⟨k', o, ho, p', hp, rfl, rfl, rfl⟩; exact ⟨o, ho, rfl, hp⟩
  · rintro ⟨o, ho, rfl, hp⟩; exact ⟨k, o, ho, p, hp, rfl, rfl, rfl⟩

theorem mem_specRecs_eval (key : Key3) (rows : List Row) :
    Rec.T4 key rows ∈ specRecs c seed ts ↔ ∃ t ∈ ts, key = idKey ts t ∧ evalS c seed t = .ok rows := by
  have hp : ∀ k : Kind, Rec.T4 key rows ∉ paramRecs k.mk (k.params c) (k.objs ts) := fun k h => by
    obtain ⟨o, _, p, _, h⟩ := mem_paramRecs.1 h
    exact Kind.mk_ne_T4 h.symm
  simp only [specRecs_eq, mem_cons, reduceCtorEq, false_or, mem_append, mem_flatMap, hp, and_false, exists_false,
    mem_evalRecs, Rec.T4.injEq]
  constructor
  · rintro ⟨t, ht, rows', hr, rfl, rfl⟩; exact ⟨t, ht, rfl, hr⟩
  · rintro ⟨t, ht, rfl, hr⟩; exact ⟨t, ht, rows, hr, rfl, rfl⟩

theorem rowsOf_resultS (t : Triple) (ht : t ∈ ts) :
    (resultS c seed ts).rowsOf (idKey ts t) =
      match evalS c seed t with
      | .ok rows => numbered rows
      | .error _ => [] := by
  cases hr : evalS c seed t with
  | ok rows =>
    exact rowsOf_result (specRecs_keysFunctional c seed ts) ((mem_specRecs_eval c seed ts _ rows).2 ⟨t, ht, rfl, hr⟩)
  | error e =>
    -- an entry under this key would belong to `t` itself (`idKey_inj`), whose evaluation raises
    refine rowsOf_result_nil (specRecs_keysFunctional c seed ts) fun rows h => ?_
    obtain ⟨t', ht', hk, hr'⟩ := (mem_specRecs_eval c seed ts _ rows).1 h
    cases idKey_inj ht hk
    rw [hr] at hr'
    cases hr'

end specRows

section runRows
variable {S P Row : Type} (c : Comps S P Row) (cfg : Cfg) (picks : List Nat) (seed : Nat) (ts : List Triple)

theorem rowsOf_run (t : Triple) (ht : t ∈ ts) :
    (run c cfg picks seed ts).rowsOf (idKey ts t) =
      match evalS c seed t with
      | .ok rows => numbered rows
      | .error _ => [] := by
  rw [run_eq_resultS]; exact rowsOf_resultS c seed ts t ht

theorem mem_table_run (k : Kind) (i : Nat) (p : P) :
    (i, p) ∈ k.table (run c cfg picks seed ts) ↔ ∃ o ∈ k.objs ts, i = idOf (k.objs ts) o ∧ k.params c o = .ok p := by
  rw [run_eq_resultS, resultS, mem_table_result (specRecs_keysFunctional c seed ts), mem_specRecs_param]

end runRows

theorem rowsOf_run_alone {S P Row} (c : Comps S P Row) (cfg cfg' : Cfg) (picks picks' : List Nat) (seed : Nat)
    (ts : List Triple) (t : Triple) (ht : t ∈ ts) :
    (run c cfg picks seed ts).rowsOf (idKey ts t) = (run c cfg' picks' seed [t]).rowsOf (0, 0, 0) := by
  rw [rowsOf_run c cfg picks seed ts t ht, ← idKey_singleton t, rowsOf_run c cfg' picks' seed [t] t (mem_singleton.2 rfl)]


/-! ## the log -/

/-- the task raises when it is processed on pristine objects -/
def Task.fails {S P Row} (c : Comps S P Row) (seed : Nat) : Task → Bool
  | .env _ e => match c.envParams e with | .ok _ => false | .error _ => true
  | .lrn _ l => match c.lrnParams l with | .ok _ => false | .error _ => true
  | .val _ v => match c.valParams v with | .ok _ => false | .error _ => true
  | .eval _ e _ l _ v _ => match evalS c seed (e, l, v) with | .ok _ => false | .error _ => true

theorem fails_param {S P Row} (c : Comps S P Row) (seed : Nat) (k : Kind) (i o : Nat) :
    (k.task i o).fails c seed = (k.params c o).toOption.isNone := by
  cases k <;> simp only [Kind.task, Kind.params, Task.fails] <;> split <;> simp [Except.toOption, *]

theorem fails_eval {S P Row} (c : Comps S P Row) (seed : Nat) (ei e li l vi v : Nat) (cp : Bool) :
    (Task.eval ei e li l vi v cp).fails c seed = (evalS c seed (e, l, v)).toOption.isNone := by
  simp only [Task.fails]; split <;> simp [Except.toOption, *]

theorem pristineEv_err {S P Row} (c : Comps S P Row) (seed : Nat) (t : Task) :
    (pristineEv c seed t).err? = if t.fails c seed then some t else none := by
  cases t using Task.kindCases with
  | param k i o => rw [pristineEv_param, fails_param]; cases k.params c o <;> rfl
  | eval ei e li l vi v cp =>
    cases h : (c.eval v e (c.init l) (effSeed c seed v)).1 <;> simp [pristineEv, runTask, Task.fails, evalS, h, Ev.err?]

theorem filterMap_err_eq_filter {S P Row} (c : Comps S P Row) (seed : Nat) (tasks : List Task) :
    (tasks.map (pristineEv c seed)).filterMap Ev.err? = tasks.filter (fun t => t.fails c seed) := by
  induction tasks with
  | nil => rfl
  | cons t tasks ih =>
    simp only [map_cons, filterMap_cons, filter_cons, pristineEv_err, ih]
    cases t.fails c seed <;> rfl

theorem runLog_exact {S P Row} (c : Comps S P Row) (cfg : Cfg) (picks : List Nat) (seed : Nat) (ts : List Triple) :
    runLog c cfg picks seed ts ~ (makeTasks .none ts).filter (fun t => t.fails c seed) := by
  rw [← filterMap_err_eq_filter]; exact (runEvents_perm c cfg picks seed ts).filterMap _

theorem mem_runLog {S P Row} (c : Comps S P Row) (cfg : Cfg) (picks : List Nat) (seed : Nat) (ts : List Triple) (t : Task) :
    t ∈ runLog c cfg picks seed ts ↔ t ∈ makeTasks .none ts ∧ t.fails c seed = true := by
  rw [(runLog_exact c cfg picks seed ts).mem_iff, mem_filter]

theorem params_failure {S P Row} (c : Comps S P Row) (cfg : Cfg) (picks : List Nat) (seed : Nat) (ts : List Triple) (k : Kind)
    (o : Nat) (ho : o ∈ k.objs ts) (err : Err) (hf : k.params c o = .error err) :
    k.task (idOf (k.objs ts) o) o ∈ runLog c cfg picks seed ts ∧
    ∀ p, (idOf (k.objs ts) o, p) ∉ k.table (run c cfg picks seed ts) := by
  constructor
  · exact (mem_runLog c cfg picks seed ts _).2 ⟨mem_makeTasks_param.2 ⟨ho, rfl⟩, by rw [fails_param, hf]; rfl⟩
  · intro p
    rw [mem_table_run]
    rintro ⟨o', _, hid, hok⟩
    cases idOf_inj ho hid
    rw [hf] at hok
    cases hok


/-! ## process-level state, worker lifetimes, un-copyable learners -/

/-- a learner state of `cp.clean` carries the identity of its object -/
def liftHeap {S} (h : Heap S) : Heap (Nat × S) := fun l => (l, h l)

theorem liftHeap_set {S} (h : Heap S) (l : Nat) (s : S) : liftHeap (h.set l s) = (liftHeap h).set l (l, s) := by
  funext x
  by_cases hx : x = l <;> simp [liftHeap, Heap.set, hx]

/-- the `copy` flag of the task is the one `MakeTasks` computes from the triple list `ts` -/
def Task.copyOK (ts : List Triple) : Task → Prop
  | .eval _ _ _ l _ _ c => c = decide (lrnCount ts l > 1)
  | _ => True

theorem copyOK_of_mem {ts : List Triple} {t : Task} (h : t ∈ makeTasks .none ts) : t.copyOK ts := by
  cases t with
  | eval ei e li l vi v cp => exact (mem_makeTasks_eval.1 h).copy
  | _ => trivial

section simulation
variable {G S P Row : Type} {cp : CompsP G S P Row} {Clean : G → Prop} (hc : ProcessLocalClean cp Clean)
  (seed : Nat) (ts : List Triple)
include hc

theorem runTaskP_clean (σ : G) (hσ : Clean σ) (h : Heap S) (t : Task) (ht : t.copyOK ts) :
    (runTaskP cp seed (σ, h) t).1 = (runTask (cp.clean ts) seed (liftHeap h) t).1 ∧
    Clean (runTaskP cp seed (σ, h) t).2.1 ∧
    liftHeap (runTaskP cp seed (σ, h) t).2.2 = (runTask (cp.clean ts) seed (liftHeap h) t).2 := by
  cases t with
  | env i e => exact ⟨rfl, hσ, rfl⟩
  | lrn i e => exact ⟨rfl, hσ, rfl⟩
  | val i e => exact ⟨rfl, hσ, rfl⟩
  | eval ei e li l vi v c =>
    have hb : (c && !cp.copyable l) = cp.blocked ts l := by rw [CompsP.blocked, show c = _ from ht]
    have hsame := hc.same σ hσ v e (h l) (effSeedP cp seed v)
    have hst := hc.stays σ hσ v e (h l) (effSeedP cp seed v)
    simp only [effSeedP] at hsame hst
    simp only [runTaskP, runTask, CompsP.clean, liftHeap, effSeed, effSeedP, hb]
    cases hbl : cp.blocked ts l with
    | true =>
      have hc' : c = true := (Bool.and_eq_true_iff.1 (hb.trans hbl)).1
      subst hc'
      exact ⟨rfl, hσ, rfl⟩
    | false =>
      simp only [Bool.false_eq_true, if_false, hsame]
      refine ⟨trivial, hst, ?_⟩
      cases c with
      | true => rfl
      | false => exact liftHeap_set h l _

theorem runSeqP_clean : ∀ (tasks : List Task) (σ : G) (h : Heap S), Clean σ → (∀ t ∈ tasks, t.copyOK ts) →
    (runSeqP cp seed (σ, h) tasks).1 = (runSeq (cp.clean ts) seed (liftHeap h) tasks).1 ∧
    Clean (runSeqP cp seed (σ, h) tasks).2.1
  | [], σ, h, hσ, _ => ⟨rfl, hσ⟩
  | t :: tasks, σ, h, hσ, hts => by
    obtain ⟨h1, h2, h3⟩ := runTaskP_clean hc seed ts σ hσ h t (hts t mem_cons_self)
    have ih := runSeqP_clean tasks (runTaskP cp seed (σ, h) t).2.1 (runTaskP cp seed (σ, h) t).2.2 h2
      (fun t' ht' => hts t' (mem_cons_of_mem _ ht'))
    simp only [runSeqP, runSeq]
    rw [h1, ← h3]
    exact ⟨by rw [ih.1], ih.2⟩

theorem runLifeP_clean : ∀ (life : List (List Task)) (σ : G), Clean σ → (∀ t ∈ life.flatten, t.copyOK ts) →
    (runLifeP cp seed σ life).1 = life.map (fun ch => (runSeq (cp.clean ts) seed (cp.clean ts).init ch).1) ∧
    Clean (runLifeP cp seed σ life).2
  | [], σ, hσ, _ => ⟨rfl, hσ⟩
  | ch :: life, σ, hσ, hts => by
    have h1 := runSeqP_clean hc seed ts ch σ cp.init hσ (fun t ht => hts t (mem_append_left _ ht))
    have ih := runLifeP_clean life (runSeqP cp seed (σ, cp.init) ch).2.1 h1.2 (fun t ht => hts t (mem_append_right _ ht))
    simp only [runLifeP, map_cons]
    exact ⟨by rw [h1.1, ih.1]; rfl, ih.2⟩

theorem flatMap_runLifeP (lives : List (List (List Task))) (hts : ∀ t ∈ lives.flatten.flatten, t.copyOK ts) :
    lives.flatMap (fun life => (runLifeP cp seed cp.σ0 life).1) =
      lives.flatten.map (fun ch => (runSeq (cp.clean ts) seed (cp.clean ts).init ch).1) := by
  induction lives with
  | nil => rfl
  | cons life lives ih =>
    rw [flatten_cons, flatten_append] at hts
    simp only [flatMap_cons, flatten_cons, map_append]
    rw [(runLifeP_clean hc seed ts life cp.σ0 hc.fresh (fun t ht => hts t (mem_append_left _ ht))).1,
      ih (fun t ht => hts t (mem_append_right _ ht))]

end simulation

theorem chunksOnP_eq_chunksOn {G S P Row : Type} {cp : CompsP G S P Row} (cfg : Cfg) (ts : List Triple) (tasks : List Task) :
    chunksOnP cp cfg tasks = chunksOn (cp.clean ts) cfg tasks := rfl

theorem runEventsPFrom_eq_runEventsOnPFrom {G S P Row : Type} {cp : CompsP G S P Row} (cfg : Cfg) (sched : Sched) (seed : Nat)
    (ts : List Triple) (σ : G) :
    runEventsPFrom cp cfg sched seed σ ts = runEventsOnPFrom cp cfg sched seed σ (makeTasks .none ts) := rfl

section processState
variable {G S P Row : Type} {cp : CompsP G S P Row} {Clean : G → Prop} (hc : ProcessLocalClean cp Clean)
  (cfg : Cfg) (sched : Sched) (seed : Nat) (ts : List Triple)
include hc

theorem runEventsOnPFrom_perm (σ : G) (hσ : Clean σ) (tasks : List Task) (hA : AtMostOnce tasks)
    (hokT : ∀ t ∈ tasks, t.copyOK ts) :
    (runEventsOnPFrom cp cfg sched seed σ tasks).1 ~ tasks.map (pristineEv (cp.clean ts) seed) := by
  have hflat := chunksOn_flatten (cp.clean ts) cfg tasks
  unfold runEventsOnPFrom
  rw [chunksOnP_eq_chunksOn cfg ts]
  split
  · -- the lifetimes of the workers are one more division of the tasks into chunks
    have hl := (workers_flatten cfg.mc sched.assign (chunksOn (cp.clean ts) cfg tasks)).flatten.trans hflat
    refine (interleave_perm _ _).trans ?_
    rw [flatMap_runLifeP hc seed ts _ (fun t ht => hokT t (hl.mem_iff.1 ht))]
    exact runSeq_chunks_perm (cp.clean ts) seed hA hl
  · rw [(runSeqP_clean hc seed ts _ σ cp.init hσ (fun t ht => hokT t (hflat.mem_iff.1 ht))).1]
    exact runSeq_flatten_perm (cp.clean ts) seed hA hflat

theorem runEventsOnPFrom_clean (σ : G) (hσ : Clean σ) (tasks : List Task) (hokT : ∀ t ∈ tasks, t.copyOK ts) :
    Clean (runEventsOnPFrom cp cfg sched seed σ tasks).2.1 := by
  unfold runEventsOnPFrom
  split
  · exact hσ
  · rw [chunksOnP_eq_chunksOn cfg ts]
    exact (runSeqP_clean hc seed ts _ σ cp.init hσ
      (fun t ht => hokT t ((chunksOn_flatten (cp.clean ts) cfg tasks).mem_iff.1 ht))).2

theorem runEventsPFrom_perm (σ : G) (hσ : Clean σ) :
    (runEventsPFrom cp cfg sched seed σ ts).1 ~ (makeTasks .none ts).map (pristineEv (cp.clean ts) seed) := by
  rw [runEventsPFrom_eq_runEventsOnPFrom]
  exact runEventsOnPFrom_perm hc cfg sched seed ts σ hσ _ (makeTasks_atMostOnce ts) (fun _ => copyOK_of_mem)

theorem stateAfter_clean (σ : G) (hσ : Clean σ) : Clean (stateAfter cp cfg sched seed σ ts) := by
  rw [stateAfter, runEventsPFrom_eq_runEventsOnPFrom]
  exact runEventsOnPFrom_clean hc cfg sched seed ts σ hσ _ (fun _ => copyOK_of_mem)

theorem runPFrom_eq_resultSP (σ : G) (hσ : Clean σ) : runPFrom cp cfg sched seed σ ts = resultSP cp seed ts := by
  unfold runPFrom resultSP
  refine result_of_pristineRecs _ seed ts _ fun r => ?_
  rw [← filterMap_rec_eq]
  exact ((runEventsPFrom_perm hc cfg sched seed ts σ hσ).filterMap _).mem_iff

theorem runLogP_exact : runLogP cp cfg sched seed ts ~ (makeTasks .none ts).filter (fun t => t.fails (cp.clean ts) seed) := by
  rw [← filterMap_err_eq_filter]; exact (runEventsPFrom_perm hc cfg sched seed ts cp.σ0 hc.fresh).filterMap _

end processState

section cleanComps
variable {G S P Row : Type} {cp : CompsP G S P Row} (seed : Nat) (ts : List Triple)

theorem evalS_clean_blocked (t : Triple) (hb : cp.blocked ts t.2.1 = true) :
    evalS (cp.clean ts) seed t = .error .raised := by
  simp [evalS, CompsP.clean, hb]

theorem evalS_clean_free (t : Triple) (hb : cp.blocked ts t.2.1 = false) :
    evalS (cp.clean ts) seed t = (cp.evalP cp.σ0 t.2.2 t.1 (cp.init t.2.1) (effSeedP cp seed t.2.2)).1.1 := by
  simp [evalS, CompsP.clean, hb, effSeed, effSeedP]

theorem blocked_singleton (t : Triple) : cp.blocked [t] t.2.1 = false := by
  simp [CompsP.blocked, lrnCount]

end cleanComps

/-! ### the isolation hypothesis is forced -/

/-- components whose evaluation leaks through the process state: it records the number of
evaluations this process has seen before (finding F3 has this shape: what an earlier evaluation left
in `learning_info` ends up in the rows of the next one) -/
def leakyComps : CompsP Nat Nat Nat Nat :=
  { envParams := fun e => .ok e, lrnParams := fun l => .ok l, valParams := fun v => .ok v,
    chunkKey := fun _ => none, init := fun _ => 0, valSeed := fun _ => none, copyable := fun _ => true,
    σ0 := 0, evalP := fun σ _ e s _ => ((.ok [e * 10 + σ], s), σ + 1) }

def leakyTriples : List Triple := [(0, 0, 0), (1, 1, 0)]

theorem leaky_inprocess_ints :
    (runP leakyComps ⟨1, 0, 0⟩ ⟨[], []⟩ 1 leakyTriples).ints = [((0, 0, 0), 1, 0), ((1, 1, 0), 1, 11)] := by
  decide +kernel


/-! ## resumed runs -/

theorem mem_map_fst_filterMap {α K V} (f : α → Option (K × V)) (l : List α) (k : K) :
    k ∈ (l.filterMap f).map (·.1) ↔ ∃ a ∈ l, ∃ v, f a = some (k, v) := by
  simp only [mem_map, mem_filterMap]
  constructor
  · rintro ⟨⟨k', v⟩, ⟨a, ha, hf⟩, rfl⟩; exact ⟨a, ha, v, hf⟩
  · rintro ⟨a, ha, v, hf⟩; exact ⟨(k, v), ⟨a, ha, hf⟩, rfl⟩

theorem keep_restoredOf {P Row} (old : List (Rec P Row)) (t : Task) :
    Task.keep (restoredOf old) t = true ↔ ∀ r ∈ old, r.rkey ≠ t.tkey := by
  cases t using Task.kindCases with
  | param k i o =>
    rw [Kind.keep_task, decide_eq_true_iff, Kind.restored_restoredOf, mem_map_fst_filterMap, Kind.tkey_task]
    simp only [not_exists, not_and, ne_eq, Rec.rkey_eq_param]
  | eval ei e li l vi v cp =>
    rw [Task.keep, decide_eq_true_iff, restoredOf, mem_map_fst_filterMap, Task.tkey_eval]
    simp only [not_exists, not_and, ne_eq, Rec.rkey_eq_four]

section resumed
variable {S P Row : Type} (c : Comps S P Row) (cfg : Cfg) (picks : List Nat) (seed : Nat) (ts : List Triple)

/-- the records the log holds when the tasks selected by `done` were finished before the interruption (a finished
task that raised left none) -/
def doneRecs (done : Task → Bool) : List (Rec P Row) :=
  ((makeTasks .none ts).filter done).filterMap (pristineRec c seed)

theorem doneRecs_subset (done : Task → Bool) :
    doneRecs c seed ts done ⊆ (makeTasks .none ts).filterMap (pristineRec c seed) :=
  (filter_sublist.filterMap _).subset

theorem result_resumed (old : List (Rec P Row)) (hold : old ⊆ (makeTasks .none ts).filterMap (pristineRec c seed))
    (evs : List (Ev P Row)) (hev : evs ~ (resumedTasks old ts).map (pristineEv c seed)) :
    result (Rec.T0 (metaOf seed ts) :: (old ++ evs.filterMap Ev.rec?)) = resultS c seed ts := by
  refine result_of_pristineRecs c seed ts _ fun r => ?_
  rw [mem_append, (hev.filterMap _).mem_iff, filterMap_rec_eq, resumedTasks, makeTasks_restored]
  constructor
  · rintro (h | h)
    · exact hold h
    · exact (filter_sublist.filterMap _).subset h
  · intro h
    obtain ⟨t, ht, h⟩ := mem_filterMap.1 h
    by_cases hk : Task.keep (restoredOf old) t = true
    · exact Or.inr (mem_filterMap.2 ⟨t, mem_filter.2 ⟨ht, hk⟩, h⟩)
    · -- the log holds a record with the key of `t`; it is the record of a fresh task with that key, which is `t`
      rw [keep_restoredOf] at hk
      simp only [ne_eq, not_forall, not_not] at hk
      obtain ⟨r', hr', hkey⟩ := hk
      obtain ⟨t', ht', h'⟩ := mem_filterMap.1 (hold hr')
      cases tkey_inj ht' ht ((pristineRec_rkey c seed t' r' h').symm.trans hkey)
      cases h'.symm.trans h
      exact Or.inl hr'

theorem runResumed_nil : runResumed c cfg picks seed ts [] = run c cfg picks seed ts := rfl

end resumed

theorem resumedTasks_sublist {P Row} (ts : List Triple) (old : List (Rec P Row)) :
    (resumedTasks old ts).Sublist (makeTasks .none ts) := by
  rw [resumedTasks, makeTasks_restored]; exact filter_sublist

theorem resumedTasks_atMostOnce {P Row} (ts : List Triple) (old : List (Rec P Row)) : AtMostOnce (resumedTasks old ts) :=
  (makeTasks_atMostOnce ts).sublist (resumedTasks_sublist ts old)

end Coba.C01
