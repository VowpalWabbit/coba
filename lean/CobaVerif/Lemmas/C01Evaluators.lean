/-
C01 / C03 — the built-in evaluators as the evaluation component of an experiment: what `evalS` is on `seqComps`,
`seqCompsX`, `seqCompsR` (SequentialCB plain and extended, RejectionCB), the probing wrapper, and the loop of
`RejectionCB.evaluate`.  Nothing here is about tasks, runs or results.
-/
import CobaVerif.Model.C01

namespace Coba.C01
open List

/-! ## SequentialCB and RejectionCB as the evaluation component -/

section outcomes
variable {σ V R : Type}

theorem seqOutcome_ok_iff (ls : Nat × σ) (o : Coba.C06.Outcome (σ × List (Coba.C06.Call V) × List (Coba.C06.Row V R)))
    (rows : List (Coba.C06.Row V R)) :
    (seqOutcome ls o).1 = .ok rows ↔ ∃ s calls, o = .ok (s, calls, rows) := by
  cases o with
  | ok r => obtain ⟨s, calls, rs⟩ := r; simp [seqOutcome]
  | rejected k => simp [seqOutcome]
  | crashed e => simp [seqOutcome]

theorem probeWrap_answer (L : Coba.C06.Learner σ V) (k : Nat) (st : σ × Nat × Option (Option V × Option (List V)))
    (ctx : Option V) (acts : Option (List V)) :
    ((probeWrap L k).predict st ctx acts).2 = (L.predict st.1 ctx acts).2 := rfl

theorem probeWrap_state_no_probe (L : Coba.C06.Learner σ V) (k : Nat) (st : σ × Nat × Option (Option V × Option (List V)))
    (ctx : Option V) (acts : Option (List V)) (h : st.2.1 + 1 ≠ k) :
    ((probeWrap L k).predict st ctx acts).1.1 = (L.predict st.1 ctx acts).1 := by
  simp [probeWrap, h]

theorem probeWrap_state_probe (L : Coba.C06.Learner σ V) (k : Nat) (s : σ) (n : Nat)
    (first : Option V × Option (List V)) (ctx : Option V) (acts : Option (List V)) (h : n + 1 = k) :
    ((probeWrap L k).predict (s, n, some first) ctx acts).1.1 =
      (L.predict (L.predict s ctx acts).1 first.1 first.2).1 := by
  simp [probeWrap, h]

end outcomes

section seqcb
variable {σ V R P : Type} [DecidableEq V] [Coba.C06.RewardFn R V] (w : SeqWorld σ V R P)

theorem evalS_seqComps (seed : Nat) (t : Triple) :
    evalS (seqComps w) seed t =
      match w.envRows t.1 with
      | .error _ => .error .raised
      | .ok rows =>
        (seqOutcome (R := R) (t.2.1, w.init t.2.1)
          (Coba.C06.evaluate (w.cfgOf t.2.2) (w.learner t.2.1) (w.batch t.1) rows (w.init t.2.1))).1 := by
  obtain ⟨e, l, v⟩ := t
  simp only [evalS, seqComps, seqEval]
  cases w.envRows e <;> rfl

end seqcb

section seqx
variable {σ V R P : Type} [DecidableEq V] [Coba.C06.RewardFn R V] (w : SeqWorldX σ V R P)

theorem evalS_seqCompsX_plain (seed : Nat) (t : Triple) (hx : w.ext t.2.1 = none) :
    evalS (seqCompsX w) seed t = evalS (seqComps w.base) seed t := by
  obtain ⟨e, l, v⟩ := t
  simp only [evalS, seqCompsX, seqComps, seqEvalX] at hx ⊢
  rw [hx]; rfl

theorem evalS_seqCompsX_ext (seed : Nat) (t : Triple) (x : SeqExt σ V) (hx : w.ext t.2.1 = some x) :
    evalS (seqCompsX w) seed t =
      match w.base.envRows t.1 with
      | .error _ => .error .raised
      | .ok inter =>
        (seqEvalExt w.base t.2.2 t.1 (t.2.1, w.base.init t.2.1) (effSeed (seqCompsX w) seed t.2.2) inter x).1 := by
  obtain ⟨e, l, v⟩ := t
  simp only [evalS, seqCompsX, seqEvalX] at hx ⊢
  rw [hx]; dsimp only
  cases w.base.envRows e <;> rfl

theorem effSeed_seqCompsX (seed v : Nat) : effSeed (seqCompsX w) seed v = (w.base.valSeed v).getD seed := rfl

end seqx

section seqr
variable {σ V R P : Type} [DecidableEq V] [Coba.C06.RewardFn R V] (w : SeqWorldR σ V R P)

theorem effSeed_seqCompsR (seed v : Nat) : effSeed (seqCompsR w) seed v = (w.x.base.valSeed v).getD seed := rfl

theorem evalS_seqCompsR_rej (seed : Nat) (t : Triple) (rc : RejConfig) (hv : w.rej t.2.2 = some rc) :
    evalS (seqCompsR w) seed t =
      match w.x.base.envRows t.1 with
      | .error _ => .error .raised
      | .ok inter =>
        (rejEvaluate rc (w.x.base.learner t.2.1) (w.x.base.batch t.1) inter (w.x.base.init t.2.1)
          (Coba.C05.normInt (Int.ofNat (effSeed (seqCompsR w) seed t.2.2)))).1 := by
  obtain ⟨e, l, v⟩ := t
  simp only [evalS, seqCompsR, seqEvalR] at hv ⊢
  rw [hv]; dsimp only
  cases w.x.base.envRows e <;> rfl

theorem evalS_seqCompsR_seq (seed : Nat) (t : Triple) (hv : w.rej t.2.2 = none) :
    evalS (seqCompsR w) seed t = evalS (seqCompsX w.x) seed t := by
  obtain ⟨e, l, v⟩ := t
  simp only [evalS, seqCompsR, seqEvalR, seqCompsX, effSeed] at hv ⊢
  rw [hv]

end seqr

/-! ### facts about the loop of `RejectionCB.evaluate` -/

theorem insortR_length (x : Rat) (q : List Rat) : (insortR x q).length = q.length + 1 := by
  induction q with
  | nil => rfl
  | cons y ys ih => simp only [insortR]; split <;> simp [ih]

theorem insortR_perm (x : Rat) (q : List Rat) : (insortR x q).Perm (x :: q) := by
  induction q with
  | nil => exact List.Perm.refl _
  | cons y ys ih =>
    simp only [insortR]; split
    · exact List.Perm.refl _
    · exact (List.Perm.cons y ih).trans (List.Perm.swap x y ys)

theorem rejLoop_rows_le {σ V R : Type} (rc : RejConfig) (L : Coba.C06.Learner σ V)
    (ds : List (Coba.C06.Dict (Coba.C06.Fld V R))) (s : σ) (g : Nat) (q : List Rat) (c : Rat)
    (acc rows : List (Coba.C06.Row V R)) (s' : σ) (h : rejLoop rc L ds s g q c acc = (.ok rows, s')) :
    rows.length ≤ acc.length + ds.length := by
  fun_induction rejLoop rc L ds s g q c acc
  case case1 => cases h; simp
  case case7 ih =>
    -- accepted: the row is recorded unless it is empty
    have := ih h
    split at this
    · simp only [length_cons]; omega
    · simp only [length_cons] at this ⊢; omega
  case case8 ih =>
    have := ih h
    simp only [length_cons]; omega
  all_goals cases h

end Coba.C01
