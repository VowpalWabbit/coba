/-
C01 / C03 — the three kinds of parameter rows.  `MakeTasks` (an id by first appearance, one parameter task),
`ProcessTasks` (one record or one logged exception) and `TransactionResult` (one table keyed by the id) treat
environments, learners and evaluators alike; a `Kind` selects the column of the triples, the constructors of the task
and of the record, the `params` function and the table, so that a fact about the three is one statement about `k`.
Every selector reduces on a constructor, so the statement at `.env` IS the statement about `Task.env`, `Rec.T1`, ….
-/
import CobaVerif.Model.C01
import Mathlib.Data.List.Basic

namespace Coba.C01
open List

inductive Kind | env | lrn | val

namespace Kind
variable {S P Row : Type}

def all : List Kind := [env, lrn, val]

def objs : Kind → List Triple → List Nat
  | env => envsOf | lrn => lrnsOf | val => valsOf

def task : Kind → Nat → Nat → Task
  | env => .env | lrn => .lrn | val => .val

def params : Kind → Comps S P Row → Nat → Except Err P
  | env => (·.envParams) | lrn => (·.lrnParams) | val => (·.valParams)

def mk : Kind → Nat → P → Rec P Row
  | env => .T1 | lrn => .T2 | val => .T3

def proj : Kind → Rec P Row → Option (Nat × P)
  | env => Rec.t1? | lrn => Rec.t2? | val => Rec.t3?

def table : Kind → Result P Row → List (Nat × P)
  | env => (·.envs) | lrn => (·.lrns) | val => (·.vals)

def restored : Kind → Restored → List Nat
  | env => (·.envs) | lrn => (·.lrns) | val => (·.vals)

theorem mem_all (k : Kind) : k ∈ all := by cases k <;> simp [all]

theorem flatMap_all {α} (f : Kind → List α) : all.flatMap f = f env ++ (f lrn ++ f val) := by simp [all]

theorem task_inj {k k' : Kind} {i o i' o' : Nat} : k.task i o = k'.task i' o' ↔ k = k' ∧ i = i' ∧ o = o' := by
  cases k <;> cases k' <;> simp [task]

theorem task_ne_eval {k : Kind} {i o ei e li l vi v : Nat} {cp : Bool} : k.task i o ≠ .eval ei e li l vi v cp := by
  cases k <;> simp [task]

theorem mk_inj {k k' : Kind} {i i' : Nat} {p p' : P} : (k.mk i p : Rec P Row) = k'.mk i' p' ↔ k = k' ∧ i = i' ∧ p = p' := by
  cases k <;> cases k' <;> simp [mk]

theorem mk_ne_T0 {k : Kind} {i : Nat} {p : P} {m : Meta} : (k.mk i p : Rec P Row) ≠ .T0 m := by
  cases k <;> simp [mk]

theorem mk_ne_T4 {k : Kind} {i : Nat} {p : P} {key : Key3} {rows : List Row} : (k.mk i p : Rec P Row) ≠ .T4 key rows := by
  cases k <;> simp [mk]

theorem proj_eq_some {k : Kind} {r : Rec P Row} {x : Nat × P} : k.proj r = some x ↔ r = k.mk x.1 x.2 := by
  cases k <;> cases r <;> simp [proj, mk, Rec.t1?, Rec.t2?, Rec.t3?, Prod.ext_iff]

theorem keep_task (R : Restored) (k : Kind) (i o : Nat) : Task.keep R (k.task i o) = decide (i ∉ k.restored R) := by
  cases k <;> rfl

theorem restored_restoredOf (k : Kind) (recs : List (Rec P Row)) :
    k.restored (restoredOf recs) = (recs.filterMap k.proj).map (·.1) := by cases k <;> rfl

theorem table_result (k : Kind) (recs : List (Rec P Row)) :
    k.table (result recs) = tableOf natLt (recs.filterMap k.proj) := by cases k <;> rfl

end Kind

@[elab_as_elim] theorem Task.kindCases {motive : Task → Prop} (param : ∀ k i o, motive (Kind.task k i o))
    (eval : ∀ ei e li l vi v cp, motive (.eval ei e li l vi v cp)) : ∀ t, motive t
  | .env i o => param .env i o
  | .lrn i o => param .lrn i o
  | .val i o => param .val i o
  | .eval ei e li l vi v cp => eval ei e li l vi v cp

end Coba.C01
