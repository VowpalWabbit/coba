/-
C01 / C03 — `TransactionResult`: a table built by keyed insertion is the strictly sorted list of its entries, hence the
result depends only on which records the log holds, not on their order or number; how a row is looked up in a sorted
table; and what the tables of a result hold, in terms of the records of the log it was read from.
-/
import CobaVerif.Lemmas.C01Kind
import Mathlib.Data.List.Perm.Basic
import Mathlib.Data.List.Nodup
import Mathlib.Data.List.Induction

namespace Coba.C01
open List

theorem getLast?_eq_of_all_eq {α} {l l' : List α} (hm : ∀ x, x ∈ l ↔ x ∈ l') (h : ∀ x ∈ l, ∀ y ∈ l, x = y) :
    l.getLast? = l'.getLast? := by
  rcases eq_nil_or_concat l with rfl | ⟨t, a, rfl⟩
  · rw [eq_nil_iff_forall_not_mem.2 fun x hx => not_mem_nil ((hm x).2 hx)]
  · rcases eq_nil_or_concat l' with rfl | ⟨t', a', rfl⟩
    · exact absurd ((hm a).1 (by simp)) not_mem_nil
    · rw [concat_eq_append, concat_eq_append, getLast?_concat, getLast?_concat]
      exact congrArg some (h a (by simp) a' ((hm a').2 (by simp)))


/-! ### tables are sorted association lists -/

/-- what the table lemmas need of a key order (`natLt`, `key3Lt`): then a table has one sorted form -/
structure StrictTotal {K} (lt : K → K → Bool) : Prop where
  irrefl : ∀ a, lt a a = false
  trans : ∀ a b c, lt a b = true → lt b c = true → lt a c = true
  tri : ∀ a b, lt a b = true ∨ a = b ∨ lt b a = true

theorem StrictTotal.asymm {K} {lt : K → K → Bool} (h : StrictTotal lt) {a b : K} (hab : lt a b = true) :
    lt b a = false := by
  cases hba : lt b a with
  | false => rfl
  | true => have := h.trans a b a hab hba; rw [h.irrefl] at this; exact absurd this (by simp)

theorem StrictTotal.ne {K} {lt : K → K → Bool} (h : StrictTotal lt) {a b : K} (hab : lt a b = true) : a ≠ b := by
  rintro rfl; rw [h.irrefl] at hab; exact absurd hab (by simp)

theorem natLt_strictTotal : StrictTotal natLt where
  irrefl a := by simp [natLt]
  trans a b c := by simp only [natLt, decide_eq_true_eq]; omega
  tri a b := by simp only [natLt, decide_eq_true_eq]; omega

theorem StrictTotal.lex {A B} [DecidableEq A] {ltA : A → A → Bool} {ltB : B → B → Bool} (hA : StrictTotal ltA)
    (hB : StrictTotal ltB) :
    StrictTotal (fun a b : A × B => ltA a.1 b.1 || (decide (a.1 = b.1) && ltB a.2 b.2)) where
  irrefl a := by simp [hA.irrefl, hB.irrefl]
  trans a b c := by
    simp only [Bool.or_eq_true, Bool.and_eq_true, decide_eq_true_eq]
    rintro (h | ⟨h, h'⟩) (k | ⟨k, k'⟩)
    · exact Or.inl (hA.trans _ _ _ h k)
    · exact Or.inl (k ▸ h)
    · exact Or.inl (h ▸ k)
    · exact Or.inr ⟨h.trans k, hB.trans _ _ _ h' k'⟩
  tri a b := by
    simp only [Bool.or_eq_true, Bool.and_eq_true, decide_eq_true_eq]
    rcases hA.tri a.1 b.1 with h | h | h
    · exact Or.inl (Or.inl h)
    · rcases hB.tri a.2 b.2 with k | k | k
      · exact Or.inl (Or.inr ⟨h, k⟩)
      · exact Or.inr (Or.inl (Prod.ext h k))
      · exact Or.inr (Or.inr (Or.inr ⟨h.symm, k⟩))
    · exact Or.inr (Or.inr (Or.inl h))

theorem key3Lt_strictTotal : StrictTotal key3Lt := by
  have h : key3Lt = fun a b : Key3 => natLt a.1 b.1 || (decide (a.1 = b.1) && (natLt a.2.1 b.2.1 || (decide (a.2.1 = b.2.1) && natLt a.2.2 b.2.2))) := by
    funext a b; simp [key3Lt, natLt, Bool.decide_or, Bool.decide_and]
  rw [h]
  exact natLt_strictTotal.lex (natLt_strictTotal.lex natLt_strictTotal)

/-- no key is written with two different values, so the order of the writes cannot show in the table -/
def Functional {K V} (kvs : List (K × V)) : Prop := ∀ x ∈ kvs, ∀ y ∈ kvs, x.1 = y.1 → x = y

/-- the invariant of `upsert`: keys strictly ascending (hence distinct) -/
def SortedKeys {K V} (lt : K → K → Bool) (t : List (K × V)) : Prop := t.Pairwise (fun a b => lt a.1 b.1 = true)

theorem sortedKeys_nil {K V} {lt : K → K → Bool} : SortedKeys lt ([] : List (K × V)) := Pairwise.nil

theorem sortedKeys_cons {K V} {lt : K → K → Bool} {a : K × V} {t : List (K × V)} :
    SortedKeys lt (a :: t) ↔ (∀ b ∈ t, lt a.1 b.1 = true) ∧ SortedKeys lt t := pairwise_cons

theorem SortedKeys.nodup {K V} {lt : K → K → Bool} (hlt : StrictTotal lt) {t : List (K × V)} (h : SortedKeys lt t) :
    t.Nodup := Pairwise.imp (fun hab e => hlt.ne hab (congrArg Prod.fst e)) h

theorem mem_upsert {K V} [DecidableEq K] {lt : K → K → Bool} (hlt : StrictTotal lt) (k : K) (v : V) (x : K × V)
    (t : List (K × V)) (hs : SortedKeys lt t) : x ∈ upsert lt k v t ↔ x = (k, v) ∨ (x ∈ t ∧ x.1 ≠ k) := by
  fun_induction upsert lt k v t with
  | case1 => simp
  | case2 k' v' t h1 =>
    -- `k` is below every key of the table
    have hall : ∀ b ∈ (k', v') :: t, b.1 ≠ k := by
      intro b hb
      rcases mem_cons.1 hb with rfl | hb
      · exact (hlt.ne h1).symm
      · exact (hlt.ne (hlt.trans _ _ _ h1 ((sortedKeys_cons.1 hs).1 b hb))).symm
    rw [mem_cons]
    exact or_congr_right ⟨fun h => ⟨h, hall x h⟩, fun h => h.1⟩
  | case3 v' t h1 =>
    have hall : ∀ b ∈ t, b.1 ≠ k := fun b hb => (hlt.ne ((sortedKeys_cons.1 hs).1 b hb)).symm
    simp only [mem_cons]
    constructor
    · rintro (h | h)
      · exact Or.inl h
      · exact Or.inr ⟨Or.inr h, hall x h⟩
    · rintro (h | ⟨h | h, hne⟩)
      · exact Or.inl h
      · subst h; exact absurd rfl hne
      · exact Or.inr h
  | case4 k' v' t h1 h2 ih =>
    simp only [mem_cons, ih (sortedKeys_cons.1 hs).2]
    constructor
    · rintro (h | h | ⟨h, hne⟩)
      · subst h; exact Or.inr ⟨Or.inl rfl, fun h => h2 h.symm⟩
      · exact Or.inl h
      · exact Or.inr ⟨Or.inr h, hne⟩
    · rintro (h | ⟨h | h, hne⟩)
      · exact Or.inr (Or.inl h)
      · exact Or.inl h
      · exact Or.inr (Or.inr ⟨h, hne⟩)

theorem upsert_sorted {K V} [DecidableEq K] {lt : K → K → Bool} (hlt : StrictTotal lt) (k : K) (v : V)
    (t : List (K × V)) (hs : SortedKeys lt t) : SortedKeys lt (upsert lt k v t) := by
  fun_induction upsert lt k v t with
  | case1 => exact sortedKeys_cons.2 ⟨fun _ hb => absurd hb not_mem_nil, sortedKeys_nil⟩
  | case2 k' v' t h1 =>
    refine sortedKeys_cons.2 ⟨fun b hb => ?_, hs⟩
    rcases mem_cons.1 hb with rfl | hb
    · exact h1
    · exact hlt.trans _ _ _ h1 ((sortedKeys_cons.1 hs).1 b hb)
  | case3 v' t h1 => exact sortedKeys_cons.2 ⟨(sortedKeys_cons.1 hs).1, (sortedKeys_cons.1 hs).2⟩
  | case4 k' v' t h1 h2 ih =>
    refine sortedKeys_cons.2 ⟨fun b hb => ?_, ih (sortedKeys_cons.1 hs).2⟩
    rcases (mem_upsert hlt k v b t (sortedKeys_cons.1 hs).2).1 hb with rfl | ⟨hb, _⟩
    · rcases hlt.tri k k' with h | h | h
      · exact absurd h h1
      · exact absurd h h2
      · exact h
    · exact (sortedKeys_cons.1 hs).1 b hb

theorem tableOf_append_singleton {K V} [DecidableEq K] (lt : K → K → Bool) (l : List (K × V)) (kv : K × V) :
    tableOf lt (l ++ [kv]) = upsert lt kv.1 kv.2 (tableOf lt l) := by
  simp [tableOf, foldl_append]

theorem tableOf_sorted {K V} [DecidableEq K] {lt : K → K → Bool} (hlt : StrictTotal lt) (l : List (K × V)) :
    SortedKeys lt (tableOf lt l) := by
  induction l using List.reverseRec with
  | nil => exact sortedKeys_nil
  | append_singleton l kv ih => rw [tableOf_append_singleton]; exact upsert_sorted hlt _ _ _ ih

theorem mem_tableOf {K V} [DecidableEq K] {lt : K → K → Bool} (hlt : StrictTotal lt) (x : K × V) (l : List (K × V)) :
    Functional l → (x ∈ tableOf lt l ↔ x ∈ l) := by
  induction l using List.reverseRec with
  | nil => intro _; simp [tableOf]
  | append_singleton l kv ih =>
    intro hf
    have hf' : Functional l := fun a ha b hb => hf a (mem_append_left _ ha) b (mem_append_left _ hb)
    rw [tableOf_append_singleton, mem_upsert hlt _ _ _ _ (tableOf_sorted hlt l), ih hf']
    simp only [mem_append, mem_singleton]
    constructor
    · rintro (h | ⟨h, _⟩)
      · exact Or.inr h
      · exact Or.inl h
    · rintro (h | h)
      · by_cases hk : x.1 = kv.1
        · exact Or.inl (hf x (mem_append_left _ h) kv (mem_append_right _ (mem_singleton.2 rfl)) hk)
        · exact Or.inr ⟨h, hk⟩
      · exact Or.inl h

/-- both sides are the one strictly sorted list with these entries -/
theorem tableOf_ext {K V} [DecidableEq K] {lt : K → K → Bool} (hlt : StrictTotal lt)
    {l₁ l₂ : List (K × V)} (hm : ∀ x, x ∈ l₁ ↔ x ∈ l₂) (hf : Functional l₁) : tableOf lt l₁ = tableOf lt l₂ := by
  have hf₂ : Functional l₂ := fun x hx y hy => hf x ((hm x).2 hx) y ((hm y).2 hy)
  have h₁ := tableOf_sorted hlt l₁
  have h₂ := tableOf_sorted hlt l₂
  refine Perm.eq_of_pairwise (fun a b _ _ hab hba => absurd hba (by rw [hlt.asymm hab]; simp)) h₁ h₂ ?_
  refine (perm_ext_iff_of_nodup (h₁.nodup hlt) (h₂.nodup hlt)).2 fun x => ?_
  rw [mem_tableOf hlt x l₁ hf, mem_tableOf hlt x l₂ hf₂, hm]


/-! ### the result depends on the set of records only -/

/-- tag + key of a record -/
def Rec.rkey {P Row} : Rec P Row → Nat × Key3
  | .T0 _ => (0, (0, 0, 0))
  | .T1 i _ => (1, (i, 0, 0))
  | .T2 i _ => (2, (i, 0, 0))
  | .T3 i _ => (3, (i, 0, 0))
  | .T4 k _ => (4, k)

/-- records with the same tag and key are the same record (in particular: keys distinct) -/
def KeysFunctional {P Row} (recs : List (Rec P Row)) : Prop :=
  ∀ r ∈ recs, ∀ r' ∈ recs, r.rkey = r'.rkey → r = r'

theorem KeysFunctional.of_nodup {P Row} {recs : List (Rec P Row)} (h : (recs.map Rec.rkey).Nodup) :
    KeysFunctional recs := by
  intro r hr r' hr' hk
  exact inj_on_of_nodup_map h hr hr' hk

theorem Rec.t0?_eq_some {P Row} {r : Rec P Row} {m : Meta} : r.t0? = some m ↔ r = .T0 m := by
  cases r <;> simp [Rec.t0?]

theorem Rec.t4?_eq_some {P Row} {r : Rec P Row} {x : Key3 × List Row} : r.t4? = some x ↔ r = .T4 x.1 x.2 := by
  cases r <;> simp [Rec.t4?, Prod.ext_iff]

/-- the tag of the records of kind `k`: the first component of their `Rec.rkey` -/
def Kind.tag (k : Kind) : Nat := (k.mk 0 () : Rec Unit Unit).rkey.1

theorem Kind.rkey_mk {P Row} (k : Kind) (i : Nat) (p : P) : (k.mk i p : Rec P Row).rkey = (k.tag, (i, 0, 0)) := by
  cases k <;> rfl

theorem Kind.tag_inj {k k' : Kind} (h : k.tag = k'.tag) : k = k' := by cases k <;> cases k' <;> first | rfl | cases h

theorem Kind.tag_ne_four (k : Kind) : k.tag ≠ 4 := by cases k <;> decide

theorem Rec.rkey_eq_param {P Row} {r : Rec P Row} {k : Kind} {i : Nat} :
    r.rkey = (k.tag, (i, 0, 0)) ↔ ∃ p, k.proj r = some (i, p) := by
  cases k <;> cases r <;> simp [Rec.rkey, Kind.tag, Kind.mk, Kind.proj, Rec.t1?, Rec.t2?, Rec.t3?]

theorem Rec.rkey_eq_four {P Row} {r : Rec P Row} {k : Key3} : r.rkey = (4, k) ↔ ∃ rows, r.t4? = some (k, rows) := by
  cases r <;> simp [Rec.rkey, Rec.t4?]

theorem Functional.filterMap {α K K' V} {l : List α} {g : α → Option (K × V)} {key : α → K'} (tag : K → K')
    (hkey : ∀ a y, g a = some y → key a = tag y.1) (hinj : ∀ a ∈ l, ∀ b ∈ l, key a = key b → a = b) :
    Functional (l.filterMap g) := by
  intro x hx y hy hxy
  obtain ⟨a, ha, hax⟩ := mem_filterMap.1 hx
  obtain ⟨b, hb, hby⟩ := mem_filterMap.1 hy
  cases hinj a ha b hb (by rw [hkey a x hax, hkey b y hby, hxy])
  exact Option.some.inj (hax.symm.trans hby)

theorem KeysFunctional.proj {P Row} {recs : List (Rec P Row)} (hk : KeysFunctional recs) (k : Kind) :
    Functional (recs.filterMap k.proj) :=
  Functional.filterMap (fun i => (k.tag, (i, 0, 0))) (fun _ x h => Rec.rkey_eq_param.2 ⟨x.2, h⟩) hk

theorem KeysFunctional.t4 {P Row} {recs : List (Rec P Row)} (hk : KeysFunctional recs) :
    Functional (recs.filterMap Rec.t4?) :=
  Functional.filterMap (fun k => (4, k)) (fun _ x h => Rec.rkey_eq_four.2 ⟨x.2, h⟩) hk

theorem Result.ext_tables {P Row} {r r' : Result P Row} (h0 : r.exp = r'.exp) (hk : ∀ k : Kind, k.table r = k.table r')
    (h4 : r.ints = r'.ints) : r = r' := by
  cases r; cases r'
  have h1 := hk .env; have h2 := hk .lrn; have h3 := hk .val
  simp only [Kind.table] at h0 h1 h2 h3 h4
  subst h0 h1 h2 h3 h4; rfl

theorem result_ext {P Row} {recs recs' : List (Rec P Row)} (hm : ∀ r, r ∈ recs ↔ r ∈ recs') (hk : KeysFunctional recs) :
    result recs = result recs' := by
  have hp : ∀ {β : Type} (f : Rec P Row → Option β) (y : β), y ∈ recs.filterMap f ↔ y ∈ recs'.filterMap f := fun f y => by
    simp only [mem_filterMap, hm]
  refine Result.ext_tables ?_ (fun k => ?_) ?_
  · refine getLast?_eq_of_all_eq (hp _) fun x hx y hy => ?_
    obtain ⟨r, hr, hrx⟩ := mem_filterMap.1 hx
    obtain ⟨r', hr', hry⟩ := mem_filterMap.1 hy
    rw [Rec.t0?_eq_some] at hrx hry
    subst hrx hry
    exact Rec.T0.inj (hk _ hr _ hr' rfl)
  · rw [Kind.table_result, Kind.table_result]; exact tableOf_ext natLt_strictTotal (hp _) (hk.proj k)
  · exact congrArg (flatMap numberRows) (tableOf_ext key3Lt_strictTotal (hp _) hk.t4)

theorem result_perm {P Row} {recs recs' : List (Rec P Row)} (p : recs ~ recs') (hk : KeysFunctional recs) :
    result recs = result recs' := result_ext (fun _ => p.mem_iff) hk


/-! ### looking up rows in a sorted table -/

theorem filter_key_sorted {K V} [DecidableEq K] {lt : K → K → Bool} (hlt : StrictTotal lt) (k : K) (v : V) :
    ∀ t : List (K × V), SortedKeys lt t → (k, v) ∈ t → t.filter (fun x => decide (x.1 = k)) = [(k, v)]
  | [], _, h => by simp at h
  | a :: t, hs, h => by
    rw [sortedKeys_cons] at hs
    rw [filter_cons]
    rcases mem_cons.1 h with rfl | h
    · -- every later key is above `k`
      rw [if_pos (decide_eq_true rfl), filter_eq_nil_iff.2 fun b hb => by simpa using (hlt.ne (hs.1 b hb)).symm]
    · rw [if_neg (by simpa using hlt.ne (hs.1 _ h))]
      exact filter_key_sorted hlt k v t hs.2 h

theorem filter_numberRows {Row} (k : Key3) (kr : Key3 × List Row) :
    (numberRows kr).filter (fun x => decide (x.1 = k)) = if kr.1 = k then numberRows kr else [] := by
  rw [numberRows, filter_map]
  split <;> rename_i h <;> simp [Function.comp_def, h]

theorem filter_flatMap_numberRows {Row} (k : Key3) (tbl : List (Key3 × List Row)) :
    (tbl.flatMap numberRows).filter (fun x => decide (x.1 = k)) =
      (tbl.filter (fun x => decide (x.1 = k))).flatMap numberRows := by
  induction tbl with
  | nil => rfl
  | cons kr tbl ih =>
    rw [flatMap_cons, filter_append, ih, filter_numberRows, filter_cons]
    by_cases h : kr.1 = k <;> simp [h]

/-- rows numbered 1..N -/
def numbered {Row} (rows : List Row) : List (Nat × Row) := (rows.zipIdx 1).map (fun ri => (ri.2, ri.1))

theorem mem_numberRows (kr : Key3 × List Row) (k : Key3) (i : Nat) (row : Row) :
    (k, i, row) ∈ numberRows kr ↔ k = kr.1 ∧ (i, row) ∈ numbered kr.2 := by
  simp only [numberRows, numbered, mem_map, Prod.mk.injEq]
  constructor
  · rintro ⟨ri, hri, rfl, rfl, rfl⟩; exact ⟨rfl, ri, hri, rfl, rfl⟩
  · rintro ⟨rfl, ri, hri, rfl, rfl⟩; exact ⟨ri, hri, rfl, rfl, rfl⟩


/-! ### what the tables of a result hold, read off the log -/

section tables
variable {P Row : Type} {recs : List (Rec P Row)} (hk : KeysFunctional recs)
include hk

theorem mem_table_result (k : Kind) (i : Nat) (p : P) : (i, p) ∈ k.table (result recs) ↔ k.mk i p ∈ recs := by
  rw [Kind.table_result, mem_tableOf natLt_strictTotal _ _ (hk.proj k), mem_filterMap]
  simp only [Kind.proj_eq_some, exists_eq_right]

theorem mem_t4Table (key : Key3) (rows : List Row) :
    (key, rows) ∈ tableOf key3Lt (recs.filterMap Rec.t4?) ↔ Rec.T4 key rows ∈ recs := by
  rw [mem_tableOf key3Lt_strictTotal _ _ hk.t4, mem_filterMap]
  simp only [Rec.t4?_eq_some, exists_eq_right]

theorem mem_ints_result (key : Key3) (i : Nat) (row : Row) :
    (key, i, row) ∈ (result recs).ints ↔ ∃ rows, Rec.T4 key rows ∈ recs ∧ (i, row) ∈ numbered rows := by
  simp only [result, mem_flatMap, mem_numberRows]
  constructor
  · rintro ⟨⟨k', rows⟩, h, rfl, hm⟩; exact ⟨rows, (mem_t4Table hk _ _).1 h, hm⟩
  · rintro ⟨rows, h, hm⟩; exact ⟨(key, rows), (mem_t4Table hk _ _).2 h, rfl, hm⟩

theorem rowsOf_result {key : Key3} {rows : List Row} (h : Rec.T4 key rows ∈ recs) :
    (result recs).rowsOf key = numbered rows := by
  unfold Result.rowsOf result
  simp only
  rw [filter_flatMap_numberRows, filter_key_sorted key3Lt_strictTotal _ rows _ (tableOf_sorted key3Lt_strictTotal _)
    ((mem_t4Table hk key rows).2 h)]
  simp [numberRows, numbered, Function.comp_def]

theorem rowsOf_result_nil {key : Key3} (h : ∀ rows, Rec.T4 key rows ∉ recs) : (result recs).rowsOf key = [] := by
  unfold Result.rowsOf result
  simp only
  rw [filter_flatMap_numberRows, filter_eq_nil_iff.2, flatMap_nil, map_nil]
  intro x hx hkx
  exact h x.2 ((mem_t4Table hk _ _).1 (of_decide_eq_true hkx ▸ hx))

theorem exp_result {m : Meta} (h : Rec.T0 m ∈ recs) : (result recs).exp = some m := by
  have hne : recs.filterMap Rec.t0? ≠ [] := ne_nil_of_mem (mem_filterMap.2 ⟨_, h, rfl⟩)
  obtain ⟨r, hr, hrm⟩ := mem_filterMap.1 (getLast_mem hne)
  rw [Rec.t0?_eq_some] at hrm
  subst hrm
  exact (getLast?_eq_some_getLast hne).trans (congrArg some (Rec.T0.inj (hk _ hr _ h rfl)))

end tables

end Coba.C01
