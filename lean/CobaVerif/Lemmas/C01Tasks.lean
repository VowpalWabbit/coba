/-
C01 / C03 — facts about task lists: ids by first appearance, what `MakeTasks` lists (fresh and resumed), that
`ChunkTasks`, the worker lifetimes and every schedule deliver each task exactly once.  Nothing here runs a task.
-/
import CobaVerif.Lemmas.C01Kind
import Mathlib.Data.List.Perm.Basic

namespace Coba.C01
open List

/-! ### generic list facts -/

theorem flatten_map_singleton {α} (l : List α) : (l.map (fun t => [t])).flatten = l := by
  induction l <;> simp [*]

theorem zipIdx_idxOf {α} [DecidableEq α] {l : List α} (hl : l.Nodup) {x : α} {i : Nat} (h : (x, i) ∈ l.zipIdx) :
    l.idxOf x = i := by
  rw [mem_zipIdx_iff_getElem?] at h
  simp only at h
  obtain ⟨hi, hx⟩ := List.getElem?_eq_some_iff.1 h
  rw [← hx]
  exact hl.idxOf_getElem i hi

theorem perm_append_append {α} (a b A B : List α) : (a ++ b) ++ (A ++ B) ~ (a ++ A) ++ (b ++ B) := by
  rw [append_assoc, append_assoc]
  exact (perm_append_comm_assoc b A B).append_left a

/-- one pass of a loop that emits four sorts of items, in front of what the later passes emit -/
theorem perm_four {α} {a b c d A B C D R : List α} (h : R ~ A ++ (B ++ (C ++ D))) :
    a ++ (b ++ (c ++ (d ++ R))) ~ (a ++ A) ++ ((b ++ B) ++ ((c ++ C) ++ (d ++ D))) :=
  calc a ++ (b ++ (c ++ (d ++ R))) = (a ++ (b ++ (c ++ d))) ++ R := by simp only [append_assoc]
    _ ~ (a ++ (b ++ (c ++ d))) ++ (A ++ (B ++ (C ++ D))) := h.append_left _
    _ ~ (a ++ A) ++ ((b ++ (c ++ d)) ++ (B ++ (C ++ D))) := perm_append_append ..
    _ ~ (a ++ A) ++ ((b ++ B) ++ ((c ++ d) ++ (C ++ D))) := (perm_append_append ..).append_left _
    _ ~ _ := ((perm_append_append ..).append_left _).append_left _


/-! ### ids by first appearance -/

theorem mem_firsts {x : Nat} : ∀ {xs : List Nat}, x ∈ firsts xs ↔ x ∈ xs
  | [] => by simp [firsts]
  | y :: ys => by
    simp only [firsts, mem_cons, mem_filter, decide_eq_true_eq]
    rw [mem_firsts (xs := ys)]
    by_cases h : x = y <;> simp [h]

theorem firsts_nodup : ∀ xs : List Nat, (firsts xs).Nodup
  | [] => by simp [firsts]
  | y :: ys => by
    simp only [firsts, nodup_cons, mem_filter, decide_eq_true_eq]
    exact ⟨fun h => h.2 rfl, (firsts_nodup ys).filter _⟩

theorem length_addFirst (acc : List Nat) (x : Nat) :
    (addFirst acc x).length = acc.length + (if x ∈ acc then 0 else 1) := by
  unfold addFirst; split <;> simp

theorem firsts_cons_filter (acc : List Nat) (x : Nat) (xs : List Nat) :
    (firsts (x :: xs)).filter (fun y => decide (y ∉ acc)) =
      (if x ∈ acc then [] else [x]) ++ (firsts xs).filter (fun y => decide (y ∉ addFirst acc x)) := by
  have h : ∀ y, (decide (y ∉ acc) && decide (y ≠ x)) = decide (y ∉ addFirst acc x) := by
    intro y
    by_cases hx : x ∈ acc <;> by_cases hy : y = x <;> simp [addFirst, hx, hy]
  simp only [firsts, filter_cons, filter_filter, h]
  by_cases hx : x ∈ acc <;> simp [hx]

/-- the objects of `xs` that the dict `seen` does not hold yet, with the ids they are going to get -/
def newIds (seen xs : List Nat) : List (Nat × Nat) :=
  ((firsts xs).filter (fun y => decide (y ∉ seen))).zipIdx seen.length

theorem newIds_cons (seen : List Nat) (x : Nat) (xs : List Nat) :
    newIds seen (x :: xs) = (if x ∈ seen then [] else [(x, seen.length)]) ++ newIds (addFirst seen x) xs := by
  rw [newIds, newIds, firsts_cons_filter, length_addFirst]
  by_cases hx : x ∈ seen <;> simp [hx, zipIdx_cons]

theorem newIds_nil (xs : List Nat) : newIds [] xs = (firsts xs).zipIdx := by simp [newIds]

theorem foldl_addFirst (xs : List Nat) : ∀ acc : List Nat,
    xs.foldl addFirst acc = acc ++ (firsts xs).filter (fun y => y ∉ acc) := by
  induction xs with
  | nil => intro acc; simp [firsts]
  | cons x xs ih =>
    intro acc
    rw [foldl_cons, ih, firsts_cons_filter]
    by_cases hx : x ∈ acc <;> simp [addFirst, hx]

theorem foldl_addFirst_nil (xs : List Nat) : xs.foldl addFirst [] = firsts xs := by
  rw [foldl_addFirst]; simp

theorem idxOf_foldl_addFirst {x : Nat} (xs : List Nat) {acc : List Nat} (h : x ∈ acc) :
    (xs.foldl addFirst acc).idxOf x = acc.idxOf x := by
  rw [foldl_addFirst]; exact idxOf_append_of_mem h

theorem mem_addFirst_self (acc : List Nat) (x : Nat) : x ∈ addFirst acc x := by
  unfold addFirst; split <;> simp [*]

theorem idOf_inj {xs : List Nat} {x y : Nat} (hx : x ∈ xs) (h : idOf xs x = idOf xs y) : x = y := by
  unfold idOf at h
  have hx' : x ∈ firsts xs := mem_firsts.2 hx
  by_contra hne
  by_cases hy : y ∈ firsts xs
  · exact hne ((idxOf_inj hx').1 h)
  · have := idxOf_lt_length_of_mem hx'
    rw [h, idxOf_eq_length_iff.2 hy] at this
    exact absurd this (Nat.lt_irrefl _)

theorem mem_zipIdx_firsts {xs : List Nat} {x i : Nat} : (x, i) ∈ (firsts xs).zipIdx ↔ x ∈ xs ∧ i = idOf xs x := by
  rw [mem_zipIdx_iff_getElem?, ← mem_firsts]
  constructor
  · intro h
    exact ⟨mem_of_getElem? h, (zipIdx_idxOf (firsts_nodup xs) (mem_zipIdx_iff_getElem?.2 h)).symm⟩
  · rintro ⟨hx, rfl⟩
    exact getElem?_idxOf hx

theorem idKey_inj {ts : List Triple} {t t' : Triple} (ht : t ∈ ts) (h : idKey ts t = idKey ts t') : t = t' := by
  obtain ⟨e, l, v⟩ := t
  obtain ⟨e', l', v'⟩ := t'
  simp only [idKey, Prod.mk.injEq] at h
  obtain ⟨h1, h2, h3⟩ := h
  have he : e ∈ envsOf ts := mem_map.2 ⟨_, ht, rfl⟩
  have hl : l ∈ lrnsOf ts := mem_map.2 ⟨_, ht, rfl⟩
  have hv : v ∈ valsOf ts := mem_map.2 ⟨_, ht, rfl⟩
  rw [idOf_inj he h1, idOf_inj hl h2, idOf_inj hv h3]

theorem idKey_singleton (t : Triple) : idKey [t] t = (0, 0, 0) := by
  obtain ⟨e, l, v⟩ := t
  simp [idKey, idOf, envsOf, lrnsOf, valsOf, firsts]


/-! ### MakeTasks -/

/-- `MakeTasks.read`: `if x not in d: d[x] = len(d)`, then `if id not in restored: yield Task(id, x)`, with `seen` the
keys of `d` -/
def newObj (mk : Nat → Nat → Task) (restored seen : List Nat) (x : Nat) : List Task :=
  if x ∈ seen then [] else if seen.length ∈ restored then [] else [mk seen.length x]

/-- the evaluation task `MakeTasks.read` yields for `t` when its three dicts hold `envs`, `lrns`, `vals` -/
def evalTask (cnt : Nat → Nat) (envs lrns vals : List Nat) (t : Triple) : Task :=
  .eval (envs.idxOf t.1) t.1 (lrns.idxOf t.2.1) t.2.1 (vals.idxOf t.2.2) t.2.2 (decide (cnt t.2.1 > 1))

theorem makeAux_cons (cnt : Nat → Nat) (R : Restored) (envs lrns vals : List Nat) (t : Triple) (ts : List Triple) :
    makeAux cnt R envs lrns vals (t :: ts) =
      newObj .env R.envs envs t.1 ++ (newObj .lrn R.lrns lrns t.2.1 ++ (newObj .val R.vals vals t.2.2 ++
        ((if ((addFirst envs t.1).idxOf t.1, (addFirst lrns t.2.1).idxOf t.2.1, (addFirst vals t.2.2).idxOf t.2.2) ∈ R.outs then []
          else [evalTask cnt (addFirst envs t.1) (addFirst lrns t.2.1) (addFirst vals t.2.2) t]) ++
        makeAux cnt R (addFirst envs t.1) (addFirst lrns t.2.1) (addFirst vals t.2.2) ts))) := rfl

theorem filter_newObj (p : Task → Bool) (mk : Nat → Nat → Task) (restored seen : List Nat) (x : Nat)
    (hp : ∀ i, p (mk i x) = decide (i ∉ restored)) :
    newObj mk restored seen x = (newObj mk [] seen x).filter p := by
  unfold newObj
  by_cases h : x ∈ seen <;> by_cases h2 : seen.length ∈ restored <;> simp [h, h2, hp]

theorem makeAux_filter (cnt : Nat → Nat) (R : Restored) : ∀ (ts : List Triple) (envs lrns vals : List Nat),
    makeAux cnt R envs lrns vals ts = (makeAux cnt .none envs lrns vals ts).filter (Task.keep R)
  | [], _, _, _ => rfl
  | t :: ts, envs, lrns, vals => by
    rw [makeAux_cons, makeAux_cons, makeAux_filter cnt R ts, filter_newObj (Task.keep R) .env R.envs envs t.1 (fun _ => rfl),
      filter_newObj (Task.keep R) .lrn R.lrns lrns t.2.1 (fun _ => rfl),
      filter_newObj (Task.keep R) .val R.vals vals t.2.2 (fun _ => rfl)]
    simp only [Restored.none, not_mem_nil, if_false, filter_append, filter_cons, filter_nil, evalTask, Task.keep,
      decide_not, Bool.not_eq_true', decide_eq_false_iff_not, ite_not]

theorem makeTasks_restored (R : Restored) (ts : List Triple) :
    makeTasks R ts = (makeTasks .none ts).filter (Task.keep R) := makeAux_filter _ R ts [] [] []

/-! ### the tasks of a fresh run, kind by kind -/

/-- one parameter task per distinct object of kind `k`, under its first-appearance id -/
def paramTasks (k : Kind) (ts : List Triple) : List Task := (firsts (k.objs ts)).zipIdx.map fun oi => k.task oi.2 oi.1

/-- the evaluation task of a listed triple, in the terms of the spec (`idKey`, `lrnCount`) -/
def evalTaskOf (ts : List Triple) (t : Triple) : Task :=
  .eval (idKey ts t).1 t.1 (idKey ts t).2.1 t.2.1 (idKey ts t).2.2 t.2.2 (decide (lrnCount ts t.2.1 > 1))

theorem newObj_none (mk : Nat → Nat → Task) (seen : List Nat) (x : Nat) :
    newObj mk [] seen x = (if x ∈ seen then [] else [(x, seen.length)]).map fun oi => mk oi.2 oi.1 := by
  unfold newObj; split <;> simp

theorem evalTask_foldl (cnt : Nat → Nat) (xs ys zs : List Nat) {envs lrns vals : List Nat} {t : Triple} (he : t.1 ∈ envs)
    (hl : t.2.1 ∈ lrns) (hv : t.2.2 ∈ vals) :
    evalTask cnt (xs.foldl addFirst envs) (ys.foldl addFirst lrns) (zs.foldl addFirst vals) t = evalTask cnt envs lrns vals t := by
  simp only [evalTask, idxOf_foldl_addFirst _ he, idxOf_foldl_addFirst _ hl, idxOf_foldl_addFirst _ hv]

theorem makeAux_perm (cnt : Nat → Nat) : ∀ (ts : List Triple) (envs lrns vals : List Nat),
    makeAux cnt .none envs lrns vals ts ~
      ((newIds envs (envsOf ts)).map fun oi => Task.env oi.2 oi.1) ++
      (((newIds lrns (lrnsOf ts)).map fun oi => Task.lrn oi.2 oi.1) ++
      (((newIds vals (valsOf ts)).map fun oi => Task.val oi.2 oi.1) ++
        ts.map (evalTask cnt ((envsOf ts).foldl addFirst envs) ((lrnsOf ts).foldl addFirst lrns)
          ((valsOf ts).foldl addFirst vals))))
  | [], _, _, _ => by simp [makeAux, newIds, envsOf, lrnsOf, valsOf, firsts]
  | t :: ts, envs, lrns, vals => by
    -- the ids of an evaluation task are read off the dicts as they are after its triple; later insertions keep them
    rw [makeAux_cons, show envsOf (t :: ts) = t.1 :: envsOf ts from rfl, show lrnsOf (t :: ts) = t.2.1 :: lrnsOf ts from rfl,
      show valsOf (t :: ts) = t.2.2 :: valsOf ts from rfl, newIds_cons, newIds_cons, newIds_cons, map_append, map_append,
      map_append, map_cons, foldl_cons, foldl_cons, foldl_cons,
      evalTask_foldl cnt _ _ _ (mem_addFirst_self _ _) (mem_addFirst_self _ _) (mem_addFirst_self _ _), ← newObj_none,
      ← newObj_none, ← newObj_none]
    exact perm_four (makeAux_perm cnt ts _ _ _)

theorem makeTasks_perm (ts : List Triple) :
    makeTasks .none ts ~ Kind.all.flatMap (paramTasks · ts) ++ ts.map (evalTaskOf ts) := by
  have h := makeAux_perm (lrnCount ts) ts [] [] []
  rw [newIds_nil, newIds_nil, newIds_nil, foldl_addFirst_nil, foldl_addFirst_nil, foldl_addFirst_nil] at h
  rw [Kind.flatMap_all, append_assoc, append_assoc]
  exact h

theorem mem_paramTasks {k k' : Kind} {ts : List Triple} {i o : Nat} :
    k.task i o ∈ paramTasks k' ts ↔ k = k' ∧ o ∈ k.objs ts ∧ i = idOf (k.objs ts) o := by
  simp only [paramTasks, mem_map, Prod.exists, Kind.task_inj, mem_zipIdx_firsts]
  constructor
  · rintro ⟨o', i', ⟨ho, hi⟩, rfl, rfl, rfl⟩; exact ⟨rfl, ho, hi⟩
  · rintro ⟨rfl, ho, hi⟩; exact ⟨o, i, ⟨ho, hi⟩, rfl, rfl, rfl⟩

theorem mem_makeTasks_param {k : Kind} {ts : List Triple} {i o : Nat} :
    k.task i o ∈ makeTasks .none ts ↔ o ∈ k.objs ts ∧ i = idOf (k.objs ts) o := by
  have h : k.task i o ∉ ts.map (evalTaskOf ts) := fun h => by
    obtain ⟨t, _, ht⟩ := mem_map.1 h; exact Kind.task_ne_eval ht.symm
  simp only [(makeTasks_perm ts).mem_iff, mem_append, mem_flatMap, Kind.mem_all, true_and, mem_paramTasks, exists_eq_left', h,
    or_false]

/-- what it takes for `Task.eval ei e li l vi v cp` to be a task of the fresh run of `ts` -/
structure IsEvalTask (ts : List Triple) (ei e li l vi v : Nat) (cp : Bool) : Prop where
  listed : (e, l, v) ∈ ts
  key : (ei, li, vi) = idKey ts (e, l, v)
  copy : cp = decide (lrnCount ts l > 1)

theorem mem_makeTasks_eval {ts : List Triple} {ei e li l vi v : Nat} {cp : Bool} :
    Task.eval ei e li l vi v cp ∈ makeTasks .none ts ↔ IsEvalTask ts ei e li l vi v cp := by
  have h : ∀ k, Task.eval ei e li l vi v cp ∉ paramTasks k ts := fun k h => by
    obtain ⟨oi, _, ht⟩ := mem_map.1 h; exact Kind.task_ne_eval ht
  simp only [(makeTasks_perm ts).mem_iff, mem_append, mem_flatMap, h, and_false, exists_false, false_or, mem_map, evalTaskOf,
    Task.eval.injEq]
  constructor
  · rintro ⟨t, ht, rfl, rfl, rfl, rfl, rfl, rfl, rfl⟩; exact ⟨ht, rfl, rfl⟩
  · rintro ⟨ht, hk, rfl⟩
    exact ⟨_, ht, congrArg (·.1) hk.symm, rfl, congrArg (·.2.1) hk.symm, rfl, congrArg (·.2.2) hk.symm, rfl, rfl⟩


/-! ### ChunkTasks: every task in exactly one chunk -/

theorem maxChunkAux_flatten {α} (n : Nat) (l : List α) (room : Nat) (cur : List α) :
    (maxChunkAux n l room cur).flatten = cur.reverse ++ l := by
  fun_induction maxChunkAux n l room cur with
  | case1 room cur hc => rw [isEmpty_iff.1 hc]; rfl
  | case2 => simp
  | case3 x xs cur ih => simp [ih]
  | case4 x xs room cur hr ih => simp [ih]

theorem maxChunker_flatten {α} (mt : Nat) (l : List α) : (maxChunker mt l).flatten = l := by
  unfold maxChunker
  by_cases h : mt = 0
  · by_cases h2 : l.isEmpty
    · have : l = [] := by simpa using h2
      simp [h, this]
    · simp [h, h2]
  · simp [h, maxChunkAux_flatten]

theorem groupInsert_flatten (k : Nat) (t : Task) (acc : List (Nat × List Task)) :
    ((groupInsert k t acc).map (·.2)).flatten ~ (acc.map (·.2)).flatten ++ [t] := by
  fun_induction groupInsert k t acc with
  | case1 => simp
  | case2 g rest =>
    simp only [map_cons, flatten_cons, append_assoc]
    exact (perm_append_left_iff g).2 perm_append_comm
  | case3 k' g rest h ih =>
    simp only [map_cons, flatten_cons, append_assoc]
    exact (perm_append_left_iff g).2 ih

theorem groupTasks_flatten_aux (ckey : Nat → Option Nat) : ∀ (ts : List Task) (acc : List (Nat × List Task)),
    ((ts.foldl (groupStep ckey) acc).map (·.2)).flatten ~
      (acc.map (·.2)).flatten ++ ts.filter (fun t => (ckey t.envObj).isSome)
  | [], acc => by simp
  | t :: ts, acc => by
    simp only [foldl_cons, filter_cons, groupStep]
    cases h : ckey t.envObj with
    | none =>
      simpa [h] using groupTasks_flatten_aux ckey ts acc
    | some k =>
      simp only [Option.isSome_some, if_true]
      refine (groupTasks_flatten_aux ckey ts (groupInsert k t acc)).trans ?_
      have := (groupInsert_flatten k t acc).append_right (ts.filter (fun t => (ckey t.envObj).isSome))
      simpa [append_assoc] using this

theorem groupTasks_flatten (ckey : Nat → Option Nat) (ts : List Task) :
    ((groupTasks ckey ts).map (·.2)).flatten ~ ts.filter (fun t => (ckey t.envObj).isSome) := by
  simpa [groupTasks] using groupTasks_flatten_aux ckey ts []

theorem flatMap_maxChunker_flatten (mt : Nat) (f : List Task → List Task) (hf : ∀ g, f g ~ g) :
    ∀ gs : List (List Task), (gs.flatMap (fun g => maxChunker mt (f g))).flatten ~ gs.flatten
  | [] => by simp
  | g :: gs => by
    simp only [flatMap_cons, flatten_append, flatten_cons, maxChunker_flatten]
    exact (hf g).append (flatMap_maxChunker_flatten mt f hf gs)

theorem chunkTasks_flatten (mt : Nat) (ckey : Nat → Option Nat) (ts : List Task) :
    (chunkTasks mt ckey ts).flatten ~ ts := by
  unfold chunkTasks
  simp only [flatten_append, flatten_map_singleton]
  have h3 : ((((groupTasks ckey (ts.filter fun t => t.hasEnv)).map (·.2)).mergeSort
      (fun a b => decide (minEnv a ≤ minEnv b))).flatMap (fun g => maxChunker mt (g.mergeSort taskLe))).flatten ~
      (ts.filter fun t => t.hasEnv).filter (fun t => (ckey t.envObj).isSome) := by
    refine (flatMap_maxChunker_flatten mt (fun g => g.mergeSort taskLe) (fun g => mergeSort_perm g _) _).trans ?_
    refine ((mergeSort_perm _ _).flatten).trans ?_
    exact groupTasks_flatten ckey _
  have h4 := filter_append_perm (fun t : Task => (ckey t.envObj).isSome) (ts.filter fun t => t.hasEnv)
  simp only [Option.not_isSome] at h4
  have h5 := filter_append_perm (fun t : Task => t.hasEnv) ts
  exact ((h3.append_left _).append_left _).trans
    (((perm_append_comm.trans h4).append_left _).trans (perm_append_comm.trans h5))


/-! ### size of the chunks -/

theorem maxChunkAux_bound {α} (n : Nat) (hn : 0 < n) (l : List α) (room : Nat) (cur : List α)
    (hinv : room + cur.length = n) : ∀ ch ∈ maxChunkAux n l room cur, ch ≠ [] ∧ ch.length ≤ n := by
  fun_induction maxChunkAux n l room cur with
  | case1 room cur hc => intro ch hch; cases hch
  | case2 room cur hc =>
    intro ch hch
    rw [mem_singleton] at hch
    subst hch
    exact ⟨by simpa using hc, by rw [length_reverse]; omega⟩
  | case3 x xs cur ih =>
    intro ch hch
    rcases mem_cons.1 hch with rfl | hch
    · -- a full batch: `room = 0` and `0 < n` make `cur` non-empty
      refine ⟨fun h => ?_, by rw [length_reverse]; omega⟩
      rw [reverse_eq_nil_iff] at h
      subst h
      exact absurd hinv (Nat.ne_of_lt hn)
    · exact ih (by rw [length_singleton]; omega) ch hch
  | case4 x xs room cur hr ih => exact ih (by rw [length_cons]; omega)

theorem maxChunker_bound {α} (mt : Nat) (l : List α) : ∀ ch ∈ maxChunker mt l, ch ≠ [] ∧ (0 < mt → ch.length ≤ mt) := by
  intro ch hch
  unfold maxChunker at hch
  by_cases h : mt = 0
  · by_cases h2 : l.isEmpty
    · simp [h, h2] at hch
    · simp only [h, if_true, h2, Bool.false_eq_true, if_false, mem_singleton] at hch
      subst hch
      exact ⟨fun hnil => h2 (by simpa using hnil), fun hp => absurd h (by omega)⟩
  · simp only [h, if_false] at hch
    have := maxChunkAux_bound mt (by omega) l mt [] (by simp) ch hch
    exact ⟨this.1, fun _ => this.2⟩

theorem chunkTasks_bound (mt : Nat) (ckey : Nat → Option Nat) (ts : List Task) :
    ∀ ch ∈ chunkTasks mt ckey ts, ch ≠ [] ∧ (0 < mt → ch.length ≤ mt) := by
  intro ch hch
  unfold chunkTasks at hch
  simp only [mem_append, mem_map, mem_flatMap] at hch
  rcases hch with ⟨t, _, rfl⟩ | ⟨t, _, rfl⟩ | ⟨g, _, hg⟩
  · exact ⟨by simp, fun h => by simp; omega⟩
  · exact ⟨by simp, fun h => by simp; omega⟩
  · exact maxChunker_bound mt _ ch hg


/-! ### ProcessTasks' order, worker lifetimes -/

theorem procOrder_perm (ch : List Task) : procOrder ch ~ ch :=
  (reverse_perm _).trans (mergeSort_perm _ _)

theorem chunksOn_flatten {S P Row} (c : Comps S P Row) (cfg : Cfg) (tasks : List Task) :
    (chunksOn c cfg tasks).flatten ~ tasks := by
  have h : (chunkTasks cfg.mt c.chunkKey tasks).flatMap procOrder ~ (chunkTasks cfg.mt c.chunkKey tasks).flatMap id :=
    Perm.flatMap_left _ fun ch _ => procOrder_perm ch
  rw [flatMap_id, flatMap_def] at h
  exact h.trans (chunkTasks_flatten _ _ _)

theorem putAt_flatten {α} (x : α) (k : Nat) (ls : List (List α)) : (putAt k x ls).flatten ~ ls.flatten ++ [x] := by
  fun_induction putAt k x ls with
  | case1 => simp
  | case2 x l ls =>
    simp only [flatten_cons, append_assoc]
    exact (perm_append_left_iff l).2 perm_append_comm
  | case3 k x l ls ih =>
    simp only [flatten_cons, append_assoc]
    exact (perm_append_left_iff l).2 ih

theorem foldl_putAt_flatten {α} (f : α × Nat → Nat) : ∀ (l : List (α × Nat)) (acc : List (List α)),
    (l.foldl (fun acc ci => putAt (f ci) ci.1 acc) acc).flatten ~ acc.flatten ++ l.map (·.1)
  | [], acc => by simp
  | ci :: l, acc => by
    simp only [foldl_cons, map_cons]
    refine (foldl_putAt_flatten f l _).trans ?_
    have := (putAt_flatten ci.1 (f ci) acc).append_right (l.map (·.1))
    simpa [append_assoc] using this

theorem livesOf_flatten {α} (assign : List Nat) (chunks : List α) : (livesOf assign chunks).flatten ~ chunks := by
  unfold livesOf
  have := foldl_putAt_flatten (fun ci : α × Nat => assign.getD ci.2 0) chunks.zipIdx []
  simpa using this

theorem retire_flatten {α} (mc : Nat) : ∀ lives : List (List α), (retire mc lives).flatten = lives.flatten
  | [] => rfl
  | l :: ls => by
    have ih := retire_flatten mc ls
    simp only [retire, flatMap_cons, flatten_append, flatten_cons] at ih ⊢
    rw [ih, maxChunker_flatten]

theorem workers_flatten {α} (mc : Nat) (assign : List Nat) (chunks : List α) :
    (retire mc (livesOf assign chunks)).flatten ~ chunks := by
  rw [retire_flatten]; exact livesOf_flatten assign chunks


/-! ### schedules -/

theorem popAt_perm {α} (i : Nat) (qs : List (List α)) (x : α) (qs' : List (List α))
    (h : popAt i qs = some (x, qs')) : qs.flatten ~ x :: qs'.flatten := by
  fun_induction popAt i qs generalizing x qs' with
  | case1 => cases h
  | case2 => cases h
  | case3 y q qs => cases h; simp
  | case4 i q qs ih =>
    simp only [Option.map_eq_some_iff] at h
    obtain ⟨⟨y, r⟩, hr, h2⟩ := h
    cases h2
    exact ((ih y r hr).append_left q).trans perm_middle

theorem popAt_none {α} (i : Nat) (qs : List (List α)) (h : popAt i qs = none) (hne : ∀ q ∈ qs, q ≠ []) :
    qs.length ≤ i := by
  fun_induction popAt i qs with
  | case1 => simp
  | case2 qs => exact absurd rfl (hne [] mem_cons_self)
  | case3 y q qs => cases h
  | case4 i q qs ih =>
    have := ih (Option.map_eq_none_iff.1 h) (fun q' hq' => hne q' (mem_cons_of_mem _ hq'))
    simp only [length_cons]
    omega

theorem interleave_perm {α} : ∀ (picks : List Nat) (qs : List (List α)), interleave qs picks ~ qs.flatten
  | [], qs => by simp [interleave]
  | p :: ps, qs => by
    unfold interleave
    simp only
    cases h : popAt (p % (qs.filter (fun q => !q.isEmpty)).length) (qs.filter (fun q => !q.isEmpty)) with
    | none =>
      have hne : ∀ q ∈ qs.filter (fun q => !q.isEmpty), q ≠ [] := by
        rintro q hq rfl
        exact Bool.false_ne_true (mem_filter.1 hq).2
      have hlen := popAt_none _ _ h hne
      have hnil : qs.filter (fun q => !q.isEmpty) = [] := by
        by_contra hcon
        have hpos : 0 < (qs.filter (fun q => !q.isEmpty)).length := length_pos_iff.2 hcon
        have := Nat.mod_lt p hpos
        omega
      rw [← flatten_filter_not_isEmpty, hnil]
      simp
    | some r =>
      obtain ⟨x, qs'⟩ := r
      simp only
      have h1 := popAt_perm _ _ _ _ h
      rw [flatten_filter_not_isEmpty] at h1
      exact ((interleave_perm ps qs').cons x).trans h1.symm

end Coba.C01
