/-
C02, the text protocol: what a killed run leaves on disk (`cut`) and what `Experiment.run` makes of it.
Byte level (serialize / splitNL / the bracket scanner), decoding and the repair step on a clean log with a tail,
MakeTasks (filter form, no duplicates), valid logs, `restore` on a cut log (`restore_cut`), `finish_correct` (one
completed resumption keeps the log valid and complete), then resumptions in a row, sparse logs, the shape test,
the table codec of the driver and the concrete witnesses `Ex`.  Gzip members are in `C02Gz`, the order of tasks and records in `C02Order`.
-/
import CobaVerif.Lemmas.C02Blocks
import Mathlib.Data.List.Perm.Basic
import Mathlib.Data.List.Nodup

namespace Coba.C02

/-! ### lists -/

theorem mem_ite_singleton_append {α} {c : Prop} [Decidable c] {x t : α} {l : List α}
    (h : t ∈ (if c then [x] else []) ++ l) : t = x ∨ t ∈ l := by
  split at h
  · exact List.mem_cons.mp h
  · exact Or.inr h

theorem nodup_ite_singleton_append {α} {c : Prop} [Decidable c] {x : α} {l : List α} (hl : l.Nodup) (hx : c → x ∉ l) :
    ((if c then [x] else []) ++ l).Nodup := by
  split
  · exact List.nodup_cons.mpr ⟨hx ‹_›, hl⟩
  · exact hl

theorem filter_ite_singleton {α} (q : α → Bool) (b : Bool) (x : α) :
    (if b = true then [x] else []).filter q = if (b && q x) = true then [x] else [] := by
  cases b <;> simp [List.filter_cons]

/-! ### DiskSink / DiskSource: lines -/

theorem serialize_eq_nil {a : List Bytes} : serialize a = [] ↔ a = [] := by
  cases a <;> simp [serialize]

theorem NoNL_prefix {p r : Bytes} (h : NoNL r) (hp : p <+: r) : NoNL p :=
  fun m => h (hp.subset m)

theorem NoNL_tail {α : Type} {text : α → Bytes} {xs : List α} (h : ∀ x ∈ xs, NoNL (text x)) {j : Nat} {p : Bytes}
    (hp : p = [] ∨ ∃ x, xs[j]? = some x ∧ p <+: text x) : NoNL p := by
  rcases hp with rfl | ⟨x, hx, hpx⟩
  · exact List.not_mem_nil
  · exact NoNL_prefix (h x (List.mem_of_getElem? hx)) hpx

theorem splitNL_noNL {t : Bytes} (h : NoNL t) : splitNL t = ([], t) := by
  induction t with
  | nil => rfl
  | cons b bs ih =>
    have hb : b ≠ NL := fun e => h (by simp [e])
    have hbs : NoNL bs := fun m => h (List.mem_cons_of_mem _ m)
    simp [splitNL, hb, ih hbs]

theorem splitNL_line (r : Bytes) (h : NoNL r) (rest : Bytes) :
    splitNL (r ++ NL :: rest) = (r :: (splitNL rest).1, (splitNL rest).2) := by
  induction r with
  | nil => simp [splitNL]
  | cons b bs ih =>
    have hb : b ≠ NL := fun e => h (by simp [e])
    have hbs : NoNL bs := fun m => h (List.mem_cons_of_mem _ m)
    simp [splitNL, hb, ih hbs]

theorem splitNL_serialize_append (rs : List Bytes) (h : ∀ r ∈ rs, NoNL r) (t : Bytes) :
    splitNL (serialize rs ++ t) = (rs ++ (splitNL t).1, (splitNL t).2) := by
  induction rs with
  | nil => simp [serialize]
  | cons r rs ih =>
    simp only [serialize, List.append_assoc, List.cons_append]
    rw [splitNL_line r (h r List.mem_cons_self), ih (fun x hx => h x (List.mem_cons_of_mem _ hx))]

theorem splitNL_clean (rs : List Bytes) (h : ∀ r ∈ rs, NoNL r) {p : Bytes} (hp : NoNL p) :
    splitNL (serialize rs ++ p) = (rs, p) := by
  rw [splitNL_serialize_append rs h, splitNL_noNL hp, List.append_nil]

theorem serialize_splitNL (f : Bytes) : serialize (splitNL f).1 ++ (splitNL f).2 = f := by
  induction f with
  | nil => rfl
  | cons b bs ih =>
    simp only [splitNL]
    split
    · rename_i hb; subst hb; simp [serialize, ih]
    · split
      · rename_i h1; rw [h1] at ih; simp [serialize] at ih ⊢; exact ih
      · rename_i l ls h1; rw [h1] at ih; simp [serialize] at ih ⊢; exact ih

theorem lines_clean (rs : List Bytes) (h1 : ∀ r ∈ rs, NoNL r) (h2 : ∀ r ∈ rs, r ≠ []) {p : Bytes} (hp : NoNL p) :
    lines (serialize rs ++ p) = rs ++ [p].filter (fun l => !l.isEmpty) := by
  unfold lines
  rw [splitNL_clean rs h1 hp, List.filter_append, List.filter_eq_self.mpr]
  intro r hr
  simpa [List.isEmpty_iff] using h2 r hr

theorem lines_tail (rs : List Bytes) (h1 : ∀ r ∈ rs, NoNL r) (h2 : ∀ r ∈ rs, r ≠ []) {p : Bytes} (hp : NoNL p)
    (hne : p ≠ []) : lines (serialize rs ++ p) = rs ++ [p] := by
  rw [lines_clean rs h1 h2 hp]; simp [hne]

/-! ### the bracket scanner -/

theorem closes_prefix_free (s : St) (l p : Bytes) (h : closes s l = true) (hp : p <+: l) (hne : p ≠ l) :
    closes s p = false := by
  induction l generalizing s p with
  | nil => simp [closes] at h
  | cons b bs ih =>
    cases p with
    | nil => rfl
    | cons c cs =>
      obtain ⟨rfl, hcs⟩ := List.cons_prefix_cons.mp hp
      have hne' : cs ≠ bs := fun e => hne (by rw [e])
      simp only [closes] at h ⊢
      split at h
      · -- the bracket closes at `b`: nothing may follow, so `cs` would be all of `bs = []`
        rw [List.isEmpty_iff.mp h] at hcs hne'
        exact absurd (List.prefix_nil.mp hcs) hne'
      · rename_i h0
        rw [if_neg h0]
        exact ih _ _ h hcs hne'

theorem balanced_prefix_free (r p : Bytes) (h : balanced r = true) (hp : p <+: r) (hne : p ≠ r) :
    balanced p = false := by
  cases r with
  | nil => simp [balanced] at h
  | cons b bs =>
    cases p with
    | nil => rfl
    | cons c cs =>
      obtain ⟨rfl, hcs⟩ := List.cons_prefix_cons.mp hp
      simp only [balanced, Bool.and_eq_true, decide_eq_true_eq] at h
      simp only [balanced]
      rw [closes_prefix_free _ bs cs h.2 hcs (fun e => hne (by rw [e])), Bool.and_false]

theorem balanced_ne_nil {b : Bytes} (h : balanced b = true) : b ≠ [] := by
  rintro rfl; simp [balanced] at h

/-! ### decoding, and the repair step, on a clean log with a tail -/

theorem decodeLines_map_enc (c : Codec) (K : List Rec) (h : ∀ r ∈ K, c.dec (c.enc r) = some r) :
    decodeLines c (K.map c.enc) = some K := by
  induction K with
  | nil => rfl
  | cons r rs ih =>
    have h1 := h r (by simp)
    have h2 := ih (fun x hx => h x (List.mem_cons_of_mem _ hx))
    simp [decodeLines, h1, h2]

theorem decodeLines_append_none (c : Codec) (A : List Bytes) (p : Bytes) (h : c.dec p = none) :
    decodeLines c (A ++ [p]) = none := by
  induction A with
  | nil => simp [decodeLines, h]
  | cons a A ih => simp only [List.cons_append, decodeLines, ih]; cases c.dec a <;> rfl

theorem Codec.Lawful.mono {c : Codec} {U V : List Rec} (h : c.Lawful U) (hV : ∀ r ∈ V, r ∈ U) : c.Lawful V :=
  ⟨fun r hr => h.dec_enc r (hV r hr), fun r hr => h.noNL r (hV r hr), fun r hr => h.ne r (hV r hr),
   fun r hr => h.torn r (hV r hr)⟩

section Lawful
variable {c : Codec} {U : List Rec} (hc : c.Lawful U)
include hc

theorem Codec.Lawful.noNL_texts {A : List Rec} (hA : ∀ r ∈ A, r ∈ U) : ∀ t ∈ A.map c.enc, NoNL t :=
  List.forall_mem_map.mpr fun x hx => hc.noNL x (hA x hx)

theorem Codec.Lawful.ne_texts {A : List Rec} (hA : ∀ r ∈ A, r ∈ U) : ∀ t ∈ A.map c.enc, t ≠ [] :=
  List.forall_mem_map.mpr fun x hx => hc.ne x (hA x hx)

theorem lines_map_enc {A : List Rec} (hA : ∀ r ∈ A, r ∈ U) : lines (serialize (A.map c.enc)) = A.map c.enc := by
  have := lines_clean _ (hc.noNL_texts hA) (hc.ne_texts hA) (p := []) (List.not_mem_nil)
  simpa using this

theorem decodeAll_of_lines {K : List Rec} (hK : ∀ r ∈ K, r ∈ U) (hne : K ≠ [])
    (hver : ∀ x, K.head? = some x → x.key = Key.ver) {file : Bytes} (h : lines file = K.map c.enc) :
    decodeAll c file = some K := by
  obtain ⟨r0, K', rfl⟩ := List.exists_cons_of_ne_nil hne
  unfold decodeAll
  rw [h, decodeLines_map_enc c _ (fun r hr => hc.dec_enc r (hK r hr))]
  simp [hver r0 rfl]

theorem repair_torn {A : List Rec} (hA : ∀ r ∈ A, r ∈ U) {p : Bytes}
    (hp : p = [] ∨ ∃ r ∈ U, p <+: c.enc r ∧ p ≠ c.enc r) :
    repair c (serialize (A.map c.enc) ++ p) = serialize (A.map c.enc) := by
  have hNo : NoNL p := by
    rcases hp with rfl | ⟨r, hr, hpr, _⟩
    · exact List.not_mem_nil
    · exact NoNL_prefix (hc.noNL r hr) hpr
  unfold repair
  rw [splitNL_clean _ (hc.noNL_texts hA) hNo]
  rcases hp with rfl | ⟨r, hr, hpr, hne⟩
  · simp
  · simp only [hc.torn r hr p hpr hne, Option.isSome_none, Bool.false_eq_true, if_false]
    split
    · rename_i hemp
      rw [List.isEmpty_iff.mp hemp, List.append_nil]
    · rfl

theorem repair_whole {A : List Rec} (hA : ∀ r ∈ A, r ∈ U) {r : Rec} (hr : r ∈ U) :
    repair c (serialize (A.map c.enc) ++ c.enc r) = serialize ((A ++ [r]).map c.enc) := by
  unfold repair
  rw [splitNL_clean _ (hc.noNL_texts hA) (hc.noNL r hr)]
  simp [hc.dec_enc r hr, List.isEmpty_iff, hc.ne r hr, serialize_blocks.append, serialize]

end Lawful

/-! ### counting complete records -/

theorem nCompleteB_eq_zero (c : Codec) (M : List Rec) (p : Bytes) (h : ∀ x, M.head? = some x → ¬ c.enc x <+: p) :
    nCompleteB c M p = 0 := by
  cases M with
  | nil => rfl
  | cons x rs =>
    have : (c.enc x).isPrefixOf p = false := by
      rw [← Bool.not_eq_true, List.isPrefixOf_iff_prefix]; exact h x rfl
    simp [nCompleteB, this]

theorem nCompleteB_clean (c : Codec) (A M : List Rec) (p : Bytes) :
    nCompleteB c (A ++ M) (serialize (A.map c.enc) ++ p) = A.length + nCompleteB c M p := by
  induction A with
  | nil => simp [serialize]
  | cons x A ih =>
    have hpre : (c.enc x).isPrefixOf (c.enc x ++ (NL :: (serialize (A.map c.enc) ++ p))) = true :=
      List.isPrefixOf_iff_prefix.mpr (List.prefix_append _ _)
    have hdrop : (c.enc x ++ (NL :: (serialize (A.map c.enc) ++ p))).drop ((c.enc x).length + 1)
        = serialize (A.map c.enc) ++ p := by
      rw [← List.drop_drop, List.drop_left]; rfl
    simp only [List.map_cons, serialize, List.cons_append, List.append_assoc, nCompleteB, hpre, if_true, hdrop, ih,
      List.length_cons]
    rw [← Nat.add_assoc, Nat.add_comm 1]

theorem nCompleteB_whole {c : Codec} {U : List Rec} (hc : c.Lawful U) (x : Rec) (rs : List Rec) (hrs : ∀ r ∈ rs, r ∈ U) :
    nCompleteB c (x :: rs) (c.enc x) = 1 := by
  have hpre : (c.enc x).isPrefixOf (c.enc x) = true := List.isPrefixOf_iff_prefix.mpr (List.prefix_refl _)
  have hrest : nCompleteB c rs [] = 0 :=
    nCompleteB_eq_zero c rs [] fun y hy h => hc.ne y (hrs y (List.mem_of_mem_head? hy)) (List.prefix_nil.mp h)
  simp only [nCompleteB, hpre, if_true, List.drop_eq_nil_of_le (Nat.le_succ _), hrest]

/-! ### MakeTasks -/

theorem done_nil (fx : Bool) (t : Task) : done fx [] t = false := rfl

/-- ids are given in order of first sight, whatever was restored: the restored records only filter -/
theorem mkAux_filter (fx : Bool) (K : List Rec) (ts : List (Nat × Nat × Nat)) (E L V : List Nat) :
    mkAux fx K ts E L V = (mkAux false [] ts E L V).filter (fun t => !done fx K t) := by
  induction ts generalizing E L V with
  | nil => rfl
  | cons t ts ih =>
    obtain ⟨e, l, v⟩ := t
    simp only [mkAux, done_nil, Bool.not_false, Bool.and_true, if_true, List.filter_append, ih, filter_ite_singleton,
      List.filter_cons, List.filter_nil]

theorem makeTasks_filter (fx : Bool) (K : List Rec) (ts : List (Nat × Nat × Nat)) :
    makeTasks fx K ts = (makeTasks false [] ts).filter (fun t => !done fx K t) := mkAux_filter fx K ts [] [] []

theorem mem_makeTasks_iff (fx : Bool) (K : List Rec) (ts : List (Nat × Nat × Nat)) (t : Task) :
    t ∈ makeTasks fx K ts ↔ t ∈ makeTasks false [] ts ∧ done fx K t = false := by
  rw [makeTasks_filter, List.mem_filter, Bool.not_eq_true']

theorem makeTasks_nil (fx : Bool) (ts : List (Nat × Nat × Nat)) : makeTasks fx [] ts = makeTasks false [] ts := by
  rw [makeTasks_filter fx [] ts]
  simp [done_nil]

/-- the dict of objects after the whole loop -/
def grow : List Nat → List Nat → List Nat
  | [], E => E
  | x :: xs, E => grow xs (ins E x)

theorem prefix_ins (E : List Nat) (x : Nat) : E <+: ins E x := by
  unfold ins; split
  · exact List.prefix_refl _
  · exact List.prefix_append E [x]

theorem prefix_grow (xs E : List Nat) : E <+: grow xs E := by
  induction xs generalizing E with
  | nil => exact List.prefix_refl _
  | cons x xs ih => exact (prefix_ins E x).trans (ih _)

theorem mem_ins (E : List Nat) (x : Nat) : x ∈ ins E x := by
  unfold ins; split
  · rename_i h; simpa using h
  · simp

theorem length_lt_ins {E : List Nat} {x : Nat} (h : (!E.contains x) = true) : E.length < (ins E x).length := by
  rw [Bool.not_eq_true'] at h
  rw [ins, h, if_neg Bool.false_ne_true, List.length_append]
  exact Nat.lt_succ_self _

theorem mem_grow_of_mem (xs E : List Nat) (x : Nat) (h : x ∈ xs) : x ∈ grow xs E := by
  induction xs generalizing E with
  | nil => simp at h
  | cons y ys ih =>
    rcases List.mem_cons.mp h with rfl | h
    · exact (prefix_grow ys _).subset (mem_ins E x)
    · exact ih _ h

theorem idxOf_grow {xs E : List Nat} {x : Nat} (hx : x ∈ E) : (grow xs E).idxOf x = E.idxOf x := by
  obtain ⟨t, ht⟩ := prefix_grow xs E
  rw [← ht]; exact List.idxOf_append_of_mem hx

theorem idxOf_grow_inj {xs E : List Nat} {x y : Nat} (hx : x ∈ E) (h : E.idxOf x = (grow xs E).idxOf y) : x = y := by
  rw [← idxOf_grow (xs := xs) hx] at h
  exact (List.idxOf_inj ((prefix_grow xs E).subset hx)).mp h

/-- what the loop can still emit once the dicts are `E L V`: parameter tasks with ids not yet given, evaluations of the
remaining triples under their final ids -/
def TaskSpec (ts : List (Nat × Nat × Nat)) (E L V : List Nat) : Task → Prop
  | .penv i => E.length ≤ i
  | .plrn i => L.length ≤ i
  | .pval i => V.length ≤ i
  | .eval a b c => ∃ e l v, (e, l, v) ∈ ts ∧ a = (grow (ts.map (·.1)) E).idxOf e ∧
      b = (grow (ts.map (·.2.1)) L).idxOf l ∧ c = (grow (ts.map (·.2.2)) V).idxOf v

theorem mem_mkAux_nil (ts : List (Nat × Nat × Nat)) (E L V : List Nat) (t : Task)
    (h : t ∈ mkAux false [] ts E L V) : TaskSpec ts E L V t := by
  induction ts generalizing E L V with
  | nil => simp [mkAux] at h
  | cons tr ts ih =>
    obtain ⟨e, l, v⟩ := tr
    simp only [mkAux, done_nil] at h
    rcases mem_ite_singleton_append h with rfl | h
    · exact Nat.le_refl _
    rcases mem_ite_singleton_append h with rfl | h
    · exact Nat.le_refl _
    rcases mem_ite_singleton_append h with rfl | h
    · exact Nat.le_refl _
    rcases mem_ite_singleton_append h with rfl | h
    · exact ⟨e, l, v, List.mem_cons_self, (idxOf_grow (mem_ins E e)).symm, (idxOf_grow (mem_ins L l)).symm,
        (idxOf_grow (mem_ins V v)).symm⟩
    · have := ih _ _ _ h
      cases t with
      | penv i => exact Nat.le_trans (prefix_ins E e).length_le this
      | plrn i => exact Nat.le_trans (prefix_ins L l).length_le this
      | pval i => exact Nat.le_trans (prefix_ins V v).length_le this
      | eval a b c =>
        obtain ⟨e2, l2, v2, hm, ha, hb, hc⟩ := this
        exact ⟨e2, l2, v2, List.mem_cons_of_mem _ hm, ha, hb, hc⟩

theorem mkAux_nil_nodup (ts : List (Nat × Nat × Nat)) (hts : ts.Nodup) (E L V : List Nat) :
    (mkAux false [] ts E L V).Nodup := by
  induction ts generalizing E L V with
  | nil => simp [mkAux]
  | cons tr ts ih =>
    obtain ⟨e, l, v⟩ := tr
    have ⟨hnot, hts'⟩ := List.nodup_cons.mp hts
    have hrest := ih hts' (ins E e) (ins L l) (ins V v)
    have hspec := mem_mkAux_nil ts (ins E e) (ins L l) (ins V v)
    -- the evaluation emitted now comes back only if its triple does
    have h4 : Task.eval ((ins E e).idxOf e) ((ins L l).idxOf l) ((ins V v).idxOf v) ∉
        mkAux false [] ts (ins E e) (ins L l) (ins V v) := fun hb => by
      obtain ⟨e2, l2, v2, hm, he, hl, hv⟩ := hspec _ hb
      rw [idxOf_grow_inj (mem_ins E e) he, idxOf_grow_inj (mem_ins L l) hl, idxOf_grow_inj (mem_ins V v) hv] at hnot
      exact hnot hm
    simp only [mkAux, done_nil, Bool.not_false, Bool.and_true]
    -- tasks of different kinds are different, so only the tail of the loop can repeat one; a parameter task emitted now
    -- has the id the new object just got, which is too small for the tail
    refine nodup_ite_singleton_append (nodup_ite_singleton_append (nodup_ite_singleton_append
      (nodup_ite_singleton_append hrest fun _ => h4) fun hc hb => ?_) fun hc hb => ?_) fun hc hb => ?_
    · exact (mem_ite_singleton_append hb).elim nofun fun hb => Nat.not_le_of_gt (length_lt_ins hc) (hspec _ hb)
    · exact (mem_ite_singleton_append hb).elim nofun fun hb =>
        (mem_ite_singleton_append hb).elim nofun fun hb => Nat.not_le_of_gt (length_lt_ins hc) (hspec _ hb)
    · exact (mem_ite_singleton_append hb).elim nofun fun hb =>
        (mem_ite_singleton_append hb).elim nofun fun hb =>
          (mem_ite_singleton_append hb).elim nofun fun hb => Nat.not_le_of_gt (length_lt_ins hc) (hspec _ hb)

theorem makeTasks_nodup (ts : List (Nat × Nat × Nat)) (hts : ts.Nodup) : (makeTasks false [] ts).Nodup :=
  mkAux_nil_nodup ts hts [] [] []

/-! ### ids, the universe, valid logs -/

theorem Task.key_inj {a b : Task} (h : a.key = b.key) : a = b := by
  cases a <;> cases b <;> simp_all [Task.key]

theorem Task.key_ne_ver (t : Task) : t.key ≠ Key.ver := by cases t <;> simp [Task.key]
theorem Task.key_ne_exp (t : Task) : t.key ≠ Key.exp := by cases t <;> simp [Task.key]

theorem filterMap_out_keys_nodup (out : Task → Option Rec) (hout : ∀ t r, out t = some r → r.key = t.key)
    (ts : List Task) (h : ts.Nodup) : ((ts.filterMap out).map (·.key)).Nodup := by
  rw [List.map_filterMap]
  refine h.filterMap fun a a' b ha ha' => ?_
  obtain ⟨r, hr, rfl⟩ := Option.map_eq_some_iff.mp ha
  obtain ⟨r', hr', hk⟩ := Option.map_eq_some_iff.mp ha'
  exact Task.key_inj (by rw [← hout a r hr, ← hout a' r' hr', hk])

theorem mem_universe_iff (w : World) (r : Rec) :
    r ∈ w.universe ↔ r = w.ver ∨ r = w.exp ∨ ∃ t ∈ makeTasks false [] w.triples, w.out t = some r := by
  simp [World.universe, List.mem_filterMap]

theorem ver_mem_universe (w : World) : w.ver ∈ w.universe := List.mem_cons_self
theorem exp_mem_universe (w : World) : w.exp ∈ w.universe := List.mem_cons_of_mem _ List.mem_cons_self

theorem universe_keys_nodup (w : World) (hw : w.OK) : (w.universe.map (·.key)).Nodup := by
  have hF := filterMap_out_keys_nodup w.out hw.out_key _ (makeTasks_nodup _ hw.triples_nodup)
  have hk : ∀ k ∈ ((makeTasks false [] w.triples).filterMap w.out).map (·.key), k ≠ Key.ver ∧ k ≠ Key.exp := by
    intro k hk
    obtain ⟨r, hr, rfl⟩ := List.mem_map.mp hk
    obtain ⟨t, _, ho⟩ := List.mem_filterMap.mp hr
    rw [hw.out_key t r ho]
    exact ⟨t.key_ne_ver, t.key_ne_exp⟩
  simp only [World.universe, List.map_cons, List.nodup_cons, List.mem_cons, hw.ver_key, hw.exp_key]
  refine ⟨?_, ?_, hF⟩
  · rintro (h | h)
    · cases h
    · exact (hk _ h).1 rfl
  · intro h
    exact (hk _ h).2 rfl

theorem eq_of_key_eq (w : World) (hw : w.OK) {a b : Rec} (ha : a ∈ w.universe) (hb : b ∈ w.universe)
    (hk : a.key = b.key) : a = b :=
  List.inj_on_of_nodup_map (universe_keys_nodup w hw) ha hb hk

theorem eq_exp_of_key (w : World) (hw : w.OK) {r : Rec} (hr : r ∈ w.universe) (hk : r.key = Key.exp) : r = w.exp :=
  eq_of_key_eq w hw hr (exp_mem_universe w) (hk.trans hw.exp_key.symm)

/-- `hI`: without the repair an evaluation counts as done only when its record has rows -/
theorem done_iff (w : World) (fx : Bool) (K : List Rec) (hI : fx = true ∨ NonEmptyI w)
    (hK : ∀ r ∈ K, r ∈ w.universe) (t : Task) :
    done fx K t = true ↔ ∃ r ∈ K, r.key = t.key := by
  simp only [done, List.any_eq_true, Bool.and_eq_true, decide_eq_true_eq]
  constructor
  · rintro ⟨r, hr, hk, _⟩
    exact ⟨r, hr, hk⟩
  · rintro ⟨r, hr, hk⟩
    refine ⟨r, hr, hk, ?_⟩
    rcases hI with h | h
    · simp [h]
    · cases t with
      | eval e l v => have := h r (hK r hr) e l v hk; simp [this]
      | _ => simp [Task.isEval]

theorem makeTasks_fresh (w : World) (fx : Bool) (K : List Rec) (hI : fx = true ∨ NonEmptyI w)
    (hK : ∀ r ∈ K, r ∈ w.universe) : ∀ t ∈ makeTasks fx K w.triples, ∀ r ∈ K, r.key ≠ t.key := by
  intro t ht r hr hk
  have hd := ((mem_makeTasks_iff fx K w.triples t).mp ht).2
  rw [(done_iff w fx K hI hK t).mpr ⟨r, hr, hk⟩] at hd
  cases hd

theorem done_append (fx : Bool) (K B : List Rec) (t : Task) (hB : ∀ r ∈ B, r.key ≠ t.key) :
    done fx (K ++ B) t = done fx K t := by
  have : B.any (fun r => decide (r.key = t.key) && (fx || !t.isEval || decide (0 < r.rows))) = false :=
    List.any_eq_false.mpr fun r hr => by rw [decide_eq_false (hB r hr), Bool.false_and]; exact Bool.false_ne_true
  rw [done, List.any_append, this, Bool.or_false, done]

theorem makeTasks_append_preamble (w : World) (hw : w.OK) (fx : Bool) (K B : List Rec) (hB : ∀ r ∈ B, r = w.ver ∨ r = w.exp) :
    makeTasks fx (K ++ B) w.triples = makeTasks fx K w.triples := by
  rw [makeTasks_filter fx K, makeTasks_filter fx (K ++ B)]
  refine List.filter_congr fun t _ => ?_
  rw [done_append fx K B t fun r hr => ?_]
  rcases hB r hr with rfl | rfl
  · rw [hw.ver_key]; exact t.key_ne_ver.symm
  · rw [hw.exp_key]; exact t.key_ne_exp.symm

section ValidLog
variable {w : World} {L : List Rec} (h : ValidLog w L)
include h

theorem ValidLog.keys_nodup : (L.map (·.key)).Nodup := h.1
theorem ValidLog.mem_universe : ∀ r ∈ L, r ∈ w.universe := h.2.1
theorem ValidLog.head_eq : ∀ r, L.head? = some r → r = w.ver := h.2.2

end ValidLog

theorem ValidLog.prefix {w : World} {L K : List Rec} (h : ValidLog w L) (hK : K <+: L) : ValidLog w K := by
  refine ⟨?_, fun r hr => h.mem_universe r (hK.subset hr), ?_⟩
  · exact h.keys_nodup.sublist (hK.sublist.map _)
  · intro r hr
    apply h.head_eq
    obtain ⟨t, rfl⟩ := hK
    cases K with
    | nil => simp at hr
    | cons a K' => simpa using hr

theorem ValidLog.take {w : World} {L : List Rec} (h : ValidLog w L) (n : Nat) : ValidLog w (L.take n) :=
  h.prefix (List.take_prefix _ _)

theorem ValidLog.nil (w : World) : ValidLog w [] := ⟨by simp, by simp, by simp⟩

theorem ValidLog.ver_mem {w : World} {K : List Rec} (h : ValidLog w K) (hne : K ≠ []) : w.ver ∈ K := by
  obtain ⟨a, K', rfl⟩ := List.exists_cons_of_ne_nil hne
  rw [h.head_eq a rfl]; exact List.mem_cons_self

theorem ValidLog.append {w : World} {M B : List Rec} (hM : ValidLog w M) (hne : M ≠ [])
    (hB : ∀ r ∈ B, r ∈ w.universe) (hBk : (B.map (·.key)).Nodup) (hfresh : ∀ a ∈ M, ∀ b ∈ B, a.key ≠ b.key) :
    ValidLog w (M ++ B) := by
  refine ⟨?_, fun r hr => (List.mem_append.mp hr).elim (hM.mem_universe r) (hB r),
    fun r hr => hM.head_eq r (List.head?_append_of_ne_nil _ hne ▸ hr)⟩
  rw [List.map_append, List.nodup_append]
  refine ⟨hM.keys_nodup, hBk, fun a ha b hb hab => ?_⟩
  obtain ⟨r, hr, rfl⟩ := List.mem_map.mp ha
  obtain ⟨r', hr', rfl⟩ := List.mem_map.mp hb
  exact hfresh r hr r' hr' hab

theorem decodeAll_logFile {w : World} (hw : w.OK) {K : List Rec} (hK : ValidLog w K) (hne : K ≠ []) :
    decodeAll w.c (logFile w K) = some K :=
  decodeAll_of_lines hw.codec hK.mem_universe hne (fun x hx => hK.head_eq x hx ▸ hw.ver_key)
    (lines_map_enc hw.codec hK.mem_universe)

/-! ### restore -/

theorem restore_none (fl : Flags) (c : Codec) : restore fl c none = some ⟨[], []⟩ := rfl

theorem restore_of_repair (fl : Flags) (hr : fl.repairPlain = true) {w : World} (hw : w.OK) {K : List Rec}
    (hK : ValidLog w K) {file : Bytes} (h : repair w.c file = logFile w K) :
    restore fl w.c (some file) = some ⟨logFile w K, K⟩ := by
  simp only [restore, hr, if_true, h, Bool.true_and]
  cases K with
  | nil => rfl
  | cons r K' =>
    rw [decodeAll_logFile hw hK (List.cons_ne_nil _ _), if_neg]
    simp [logFile, serialize]

theorem restore_logFile_repaired (fl : Flags) (hr : fl.repairPlain = true) (w : World) (hw : w.OK) (K : List Rec) (hK : ValidLog w K) :
    restore fl w.c (some (logFile w K)) = some ⟨logFile w K, K⟩ :=
  restore_of_repair fl hr hw hK (by
    show repair w.c (serialize (K.map w.c.enc)) = serialize (K.map w.c.enc)
    simpa using repair_torn hw.codec hK.mem_universe (p := []) (Or.inl rfl))

theorem restore_boundary (fl : Flags) (w : World) (hw : w.OK) (K : List Rec) (hK : ValidLog w K) (hne : K ≠ []) :
    restore fl w.c (some (logFile w K)) = some ⟨logFile w K, K⟩ := by
  cases hr : fl.repairPlain
  · simp only [restore, hr, Bool.false_and, Bool.false_eq_true, if_false, decodeAll_logFile hw hK hne]
  · exact restore_logFile_repaired fl hr w hw K hK

/-- the cut `k` of the log `L` read back: `j` complete lines and the tail `p` after the last newline, which is either the
whole text of record `j`, which then counts (`n = j + 1`), or is dropped (`n = j`) -/
structure RestoredCut (fl : Flags) (w : World) (L : List Rec) (k j : Nat) (p : Bytes) (n : Nat) : Prop where
  cut_eq : cut w L k = logFile w (L.take j) ++ p
  tail : p = [] ∨ ∃ x, L[j]? = some x ∧ p <+: w.c.enc x
  lines_prefix : L.take j <+: L.take n
  count : nCompleteB w.c L (cut w L k) = n
  restore_eq : restore fl w.c (some (cut w L k)) = some ⟨logFile w (L.take n), L.take n⟩

theorem restore_cut (fl : Flags) (hr : fl.repairPlain = true) (w : World) (hw : w.OK) (L : List Rec) (hL : ValidLog w L)
    (k : Nat) : ∃ j p n, RestoredCut fl w L k j p n := by
  obtain ⟨j, p, hj, h1, h2⟩ := (logFile_blocks w).take_terminated L k
  change cut w L k = _ at h1
  have hU := hL.mem_universe
  have hA := (hL.take j).mem_universe
  have hcount : nCompleteB w.c L (cut w L k) = j + nCompleteB w.c (L.drop j) p := by
    have := nCompleteB_clean w.c (L.take j) (L.drop j) p
    rwa [List.take_append_drop, List.length_take_of_le hj, ← logFile, ← h1] at this
  by_cases hwhole : ∃ x, L[j]? = some x ∧ p = w.c.enc x
  · obtain ⟨x, hx, rfl⟩ := hwhole
    have hxU := hU x (List.mem_of_getElem? hx)
    have htake : L.take (j + 1) = L.take j ++ [x] := by rw [List.take_add_one, hx]; rfl
    obtain ⟨hjl, rfl⟩ := List.getElem?_eq_some_iff.mp hx
    refine ⟨j, _, j + 1, h1, h2, htake ▸ List.prefix_append _ _, ?_,
      restore_of_repair fl hr hw (hL.take _) ?_⟩
    · rw [hcount, List.drop_eq_getElem_cons hjl,
        nCompleteB_whole hw.codec _ _ (fun r hr => hU r (List.mem_of_mem_drop hr))]
    · rw [h1, htake]; exact repair_whole hw.codec hA hxU
  · have htorn : p = [] ∨ ∃ r ∈ w.universe, p <+: w.c.enc r ∧ p ≠ w.c.enc r := by
      rcases h2 with h | ⟨x, hx, hp⟩
      · exact Or.inl h
      · exact Or.inr ⟨x, hU x (List.mem_of_getElem? hx), hp, fun e => hwhole ⟨x, hx, e⟩⟩
    refine ⟨j, p, j, h1, h2, List.prefix_refl _, ?_,
      restore_of_repair fl hr hw (hL.take _) ?_⟩
    · rw [hcount, nCompleteB_eq_zero, Nat.add_zero]
      intro x hx hpre
      rw [List.head?_drop] at hx
      rcases h2 with rfl | ⟨y, hy, hp⟩
      · exact hw.codec.ne x (hU x (List.mem_of_getElem? hx)) (List.prefix_nil.mp hpre)
      · rw [hx] at hy; cases hy
        exact hwhole ⟨x, hx, List.IsPrefix.eq_of_length_le hp hpre.length_le⟩
    · rw [h1]; exact repair_torn hw.codec hA htorn

/-! ### one completed resumption -/

theorem preamble_spec (w : World) (hw : w.OK) (fl : Flags) (K : List Rec) (hK : ∀ r ∈ K, r ∈ w.universe)
    (hpre : fl.preambleFix = true ∨ K = [] ∨ w.exp ∈ K) :
    (K = [] ∧ preamble fl w.ver w.exp K = [w.ver, w.exp]) ∨
    (K ≠ [] ∧ w.exp ∈ K ∧ preamble fl w.ver w.exp K = []) ∨
    (K ≠ [] ∧ w.exp ∉ K ∧ preamble fl w.ver w.exp K = [w.exp]) := by
  cases K with
  | nil => exact Or.inl ⟨rfl, rfl⟩
  | cons a K' =>
    right
    have hany : (a :: K').any (fun r => decide (r.key = Key.exp)) = true ↔ w.exp ∈ a :: K' := by
      simp only [List.any_eq_true, decide_eq_true_eq]
      constructor
      · rintro ⟨r, hr, hk⟩
        exact eq_exp_of_key w hw (hK r hr) hk ▸ hr
      · exact fun h => ⟨w.exp, h, hw.exp_key⟩
    by_cases he : w.exp ∈ a :: K'
    · exact Or.inl ⟨List.cons_ne_nil _ _, he, by simp [preamble, hany.mpr he]⟩
    · have hf : fl.preambleFix = true := by
        rcases hpre with h | h | h
        · exact h
        · cases h
        · exact absurd h he
      have : (a :: K').any (fun r => decide (r.key = Key.exp)) = false := by
        rw [← Bool.not_eq_true, hany]; exact he
      exact Or.inr ⟨List.cons_ne_nil _ _, he, by simp [preamble, this, hf]⟩

theorem preamble_valid (w : World) (hw : w.OK) (fl : Flags) (K : List Rec) (hKv : ValidLog w K)
    (hpre : fl.preambleFix = true ∨ K = [] ∨ w.exp ∈ K) :
    ValidLog w (K ++ preamble fl w.ver w.exp K) ∧ w.ver ∈ K ++ preamble fl w.ver w.exp K ∧
      w.exp ∈ K ++ preamble fl w.ver w.exp K ∧ ∀ r ∈ preamble fl w.ver w.exp K, r = w.ver ∨ r = w.exp := by
  rcases preamble_spec w hw fl K hKv.mem_universe hpre with ⟨rfl, h⟩ | ⟨hne, he, h⟩ | ⟨hne, he, h⟩ <;> rw [h]
  · refine ⟨⟨?_, ?_, ?_⟩, List.mem_cons_self, List.mem_cons_of_mem _ List.mem_cons_self, ?_⟩
    · simp [hw.ver_key, hw.exp_key]
    · exact fun r hr => (List.mem_cons.mp hr).elim (fun e => e ▸ ver_mem_universe w)
        fun h => List.mem_singleton.mp h ▸ exp_mem_universe w
    · exact fun r hr => (Option.some.inj hr).symm
    · exact fun r hr => (List.mem_cons.mp hr).imp_right List.mem_singleton.mp
  · rw [List.append_nil]
    exact ⟨hKv, hKv.ver_mem hne, he, fun r hr => absurd hr List.not_mem_nil⟩
  · have hver := hKv.ver_mem hne
    refine ⟨hKv.append hne (fun r hr => List.mem_singleton.mp hr ▸ exp_mem_universe w) (List.nodup_singleton _) ?_,
      List.mem_append_left _ hver, List.mem_append_right _ List.mem_cons_self,
      fun r hr => Or.inr (List.mem_singleton.mp hr)⟩
    intro a ha b hb hab
    rw [List.mem_singleton.mp hb] at hab
    exact he (eq_exp_of_key w hw (hKv.mem_universe a ha) (hab.trans hw.exp_key) ▸ ha)

theorem validLog_append_tasks (w : World) (hw : w.OK) (fx : Bool) (M : List Rec)
    (hI : fx = true ∨ NonEmptyI w) (hMv : ValidLog w M) (hver : w.ver ∈ M) (hexp : w.exp ∈ M)
    (app : List Rec) (happ : app.Perm ((makeTasks fx M w.triples).filterMap w.out)) :
    ValidLog w (M ++ app) ∧ (M ++ app).Perm w.universe := by
  have hMU := hMv.mem_universe
  have hrun := mem_makeTasks_iff fx M w.triples
  have happ_task : ∀ r ∈ app, r ∈ w.universe ∧ ∃ t ∈ makeTasks fx M w.triples, r.key = t.key := by
    intro r hr
    obtain ⟨t, ht, ho⟩ := List.mem_filterMap.mp (happ.subset hr)
    exact ⟨(mem_universe_iff w r).mpr (Or.inr (Or.inr ⟨t, ((hrun t).mp ht).1, ho⟩)), t, ht, hw.out_key t r ho⟩
  have happk : (app.map (·.key)).Nodup :=
    (happ.map _).nodup_iff.mpr (filterMap_out_keys_nodup w.out hw.out_key _
      (makeTasks_filter fx M w.triples ▸ (makeTasks_nodup _ hw.triples_nodup).filter _))
  have hvalid : ValidLog w (M ++ app) := by
    refine hMv.append (List.ne_nil_of_mem hver) (fun r hr => (happ_task r hr).1) happk fun r hr r' hr' hab => ?_
    obtain ⟨_, t, ht, hk⟩ := happ_task r' hr'
    exact makeTasks_fresh w fx M hI hMU t ht r hr (hab.trans hk)
  refine ⟨hvalid, ?_⟩
  rw [List.perm_ext_iff_of_nodup (List.Nodup.of_map _ hvalid.keys_nodup) (List.Nodup.of_map _ (universe_keys_nodup w hw))]
  refine fun r => ⟨hvalid.mem_universe r, fun hr => ?_⟩
  rw [List.mem_append]
  rcases (mem_universe_iff w r).mp hr with rfl | rfl | ⟨t, ht, ho⟩
  · exact Or.inl hver
  · exact Or.inl hexp
  · cases hd : done fx M t with
    | true =>
      obtain ⟨r', hr', hk'⟩ := (done_iff w fx M hI hMU t).mp hd
      exact Or.inl (eq_of_key_eq w hw (hMU r' hr') hr (hk'.trans (hw.out_key t r ho).symm) ▸ hr')
    | false => exact Or.inr (happ.symm.subset (List.mem_filterMap.mpr ⟨t, (hrun t).mpr ⟨ht, hd⟩, ho⟩))

/-- what a completed resumption from the restored log `K` leaves: the new records stand on fresh lines after the log of
`K`, the file reads back, the log is valid again and holds every record of the experiment once, no restored id was run -/
structure Resumed (w : World) (K : List Rec) (o : Outcome) : Prop where
  file_eq : o.file = logFile w (K ++ o.appended)
  final_eq : o.final = some (K ++ o.appended)
  valid : ValidLog w (K ++ o.appended)
  perm : (K ++ o.appended).Perm w.universe
  fresh : ∀ t ∈ o.tasks, ∀ r ∈ K, r.key ≠ t.key

theorem resumed_iff {w : World} {K : List Rec} {o : Outcome} :
    Resumed w K o ↔ o.file = logFile w (K ++ o.appended) ∧ o.final = some (K ++ o.appended) ∧
      ValidLog w (K ++ o.appended) ∧ (K ++ o.appended).Perm w.universe ∧ (∀ t ∈ o.tasks, ∀ r ∈ K, r.key ≠ t.key) :=
  ⟨fun h => ⟨h.file_eq, h.final_eq, h.valid, h.perm, h.fresh⟩, fun ⟨h1, h2, h3, h4, h5⟩ => ⟨h1, h2, h3, h4, h5⟩⟩

/-- `hI`: row-less evaluations are seen (repair) or do not exist; `hpre`: the experiment line gets written when it is
missing (repair) or is not missing -/
theorem finish_correct (w : World) (hw : w.OK) (fx : Bool)
    (K : List Rec) (hI : fx = true ∨ NonEmptyI w) (hKv : ValidLog w K) (fl : Flags)
    (hpre : fl.preambleFix = true ∨ K = [] ∨ w.exp ∈ K)
    (app : List Rec) (happ : app.Perm ((makeTasks fx K w.triples).filterMap w.out)) :
    Resumed w K (finish w.c ⟨logFile w K, K⟩ (makeTasks fx K w.triples) (preamble fl w.ver w.exp K) app) := by
  obtain ⟨hMv, hverM, hexpM, hM⟩ := preamble_valid w hw fl K hKv hpre
  rw [← makeTasks_append_preamble w hw fx K _ hM] at happ
  obtain ⟨hvalid, hperm⟩ := validLog_append_tasks w hw fx _ hI hMv hverM hexpM app happ
  have hne : K ++ preamble fl w.ver w.exp K ++ app ≠ [] := List.ne_nil_of_mem (List.mem_append_left _ hverM)
  rw [List.append_assoc] at hvalid hperm hne
  -- with `finish` unfolded the file is `logFile w K ++ serialize …`: the log of `K` followed by what was appended
  simp only [resumed_iff, finish]
  rw [← logFile, ← (logFile_blocks w).append]
  exact ⟨rfl, decodeAll_logFile hw hvalid hne, hvalid, hperm, makeTasks_fresh w fx K hI hKv.mem_universe⟩

/-! ### the Result as a function of the records per id -/

theorem bodies_length_le_one (U : List Rec) (hU : (U.map (·.key)).Nodup) (k : Key) :
    (bodies U k).length ≤ 1 := by
  -- the ids of the records filed under `k` are a duplicate-free list of copies of `k`
  have h1 : ((bodies U k).map (·.key)).Nodup := hU.sublist (List.filter_sublist.map _)
  have h2 : (bodies U k).map (·.key) = List.replicate (bodies U k).length k :=
    List.eq_replicate_iff.mpr ⟨List.length_map _, fun b hb => by
      obtain ⟨r, hr, rfl⟩ := List.mem_map.mp hb
      exact of_decide_eq_true (List.mem_filter.mp hr).2⟩
  rw [h2] at h1
  exact List.nodup_replicate.mp h1

theorem bodies_eq_of_perm {F U : List Rec} (hp : F.Perm U) (hU : (U.map (·.key)).Nodup) (k : Key) :
    bodies F k = bodies U k := by
  have hperm : (bodies F k).Perm (bodies U k) := hp.filter _
  have hlen := bodies_length_le_one U hU k
  match hb : bodies U k with
  | [] => rw [hb] at hperm; exact hperm.eq_nil
  | [x] => rw [hb] at hperm; exact List.perm_singleton.mp hperm
  | _ :: _ :: _ => rw [hb] at hlen; simp at hlen

/-! ### one resumption of a cut log, then several in a row

Under any version of the code that has the torn-tail and the preamble repair; row-less evaluations need either the
finished-triples repair or the hypothesis that there are none. -/

section Repaired
variable (fl : Flags) (hr : fl.repairPlain = true) (hp : fl.preambleFix = true) (w : World) (hw : w.OK)
  (hI : fl.finishedFix = true ∨ NonEmptyI w)
include hr hp hw hI

theorem resume_correct_gen (L : List Rec) (hL : ValidLog w L) (k : Nat) :
    ∃ j p n, RestoredCut fl w L k j p n ∧
      ∀ app, app.Perm ((makeTasks fl.finishedFix (L.take n) w.triples).filterMap w.out) →
        Resumed w (L.take n) (finish w.c ⟨logFile w (L.take n), L.take n⟩ (makeTasks fl.finishedFix (L.take n) w.triples)
          (preamble fl w.ver w.exp (L.take n)) app) := by
  obtain ⟨j, p, n, h⟩ := restore_cut fl hr w hw L hL k
  exact ⟨j, p, n, h, finish_correct w hw fl.finishedFix _ hI (hL.take n) fl (Or.inl hp)⟩

theorem resume_outcome (L : List Rec) (hL : ValidLog w L) (k : Nat) {R : Restore}
    (hR : restore fl w.c (some (cut w L k)) = some R) {app : List Rec}
    (happ : app.Perm ((makeTasks fl.finishedFix R.K w.triples).filterMap w.out)) :
    ∃ F, (finish w.c R (makeTasks fl.finishedFix R.K w.triples) (preamble fl w.ver w.exp R.K) app).file = logFile w F ∧
      (finish w.c R (makeTasks fl.finishedFix R.K w.triples) (preamble fl w.ver w.exp R.K) app).final = some F ∧
      ValidLog w F ∧ F.Perm w.universe := by
  obtain ⟨_, _, n, h, hfin⟩ := resume_correct_gen fl hr hp w hw hI L hL k
  obtain rfl : R = ⟨logFile w (L.take n), L.take n⟩ := Option.some.inj (hR.symm.trans h.restore_eq)
  have ho := hfin app happ
  exact ⟨_, ho.file_eq, ho.final_eq, ho.valid, ho.perm⟩

theorem resume_eq_gen (L : List Rec) (hL : ValidLog w L) (k : Nat) :
    ∃ o F, resume fl w (some (cut w L k)) = some o ∧ o.final = some F ∧
      o.file = logFile w F ∧ F = o.restored.K ++ o.appended ∧ o.restored.K <+: L ∧
      ValidLog w F ∧ F.Perm w.universe ∧ (∀ key, bodies F key = bodies w.universe key) ∧
      (∀ t ∈ o.tasks, ∀ r ∈ o.restored.K, r.key ≠ t.key) := by
  obtain ⟨_, _, n, h, hfin⟩ := resume_correct_gen fl hr hp w hw hI L hL k
  have ho := hfin _ (List.Perm.refl _)
  refine ⟨_, _, ?_, ho.final_eq, ho.file_eq, rfl, List.take_prefix _ _, ho.valid, ho.perm, ?_, ho.fresh⟩
  · simp only [resume, h.restore_eq]
  · exact bodies_eq_of_perm ho.perm (universe_keys_nodup w hw)

theorem resumeStep_spec (L : List Rec) (hL : ValidLog w L) (k : Nat) :
    (∃ M, ResumeStep fl w L k M) ∧ ∀ M, ResumeStep fl w L k M → ValidLog w M ∧ M.Perm w.universe := by
  constructor
  · obtain ⟨_, _, n, h⟩ := restore_cut fl hr w hw L hL k
    obtain ⟨F, _, hF, _⟩ := resume_outcome fl hr hp w hw hI L hL k h.restore_eq (List.Perm.refl _)
    exact ⟨F, _, _, h.restore_eq, List.Perm.refl _, hF⟩
  · rintro M ⟨R, app, hR, happ, hM⟩
    obtain ⟨F, _, hF, hv, hperm⟩ := resume_outcome fl hr hp w hw hI L hL k hR happ
    cases hM.symm.trans hF
    exact ⟨hv, hperm⟩

theorem resume_chain_gen (L : List Rec) (hL : ValidLog w L) :
    (∀ ks, ∃ F, Chain fl w ks L F) ∧
    (∀ ks F, Chain fl w ks L F → ValidLog w F ∧
      (ks ≠ [] → F.Perm w.universe ∧ ∀ key, bodies F key = bodies w.universe key)) := by
  constructor
  · intro ks
    induction ks generalizing L with
    | nil => exact ⟨L, Chain.nil L⟩
    | cons k ks ih =>
      obtain ⟨⟨M, hM⟩, hall⟩ := resumeStep_spec fl hr hp w hw hI L hL k
      obtain ⟨F, hF⟩ := ih M (hall M hM).1
      exact ⟨F, Chain.cons hM hF⟩
  · intro ks F hc
    induction hc with
    | nil L => exact ⟨hL, fun h => absurd rfl h⟩
    | @cons k ks L M F hstep hrest ih =>
      obtain ⟨hMv, hMp⟩ := (resumeStep_spec fl hr hp w hw hI L hL k).2 M hstep
      obtain ⟨hFv, hFp⟩ := ih hMv
      refine ⟨hFv, fun _ => ?_⟩
      cases hrest with
      | nil => exact ⟨hMp, bodies_eq_of_perm hMp (universe_keys_nodup w hw)⟩
      | cons h1 h2 => exact hFp (List.cons_ne_nil _ _)

theorem byteStep_iff (L : List Rec) (hL : ValidLog w L) (k : Nat) (g : Bytes) :
    ByteStep fl w (logFile w L) k g ↔ ∃ M, g = logFile w M ∧ ResumeStep fl w L k M := by
  constructor
  · rintro ⟨R, app, hR, happ, rfl⟩
    obtain ⟨F, hfile, hF, _⟩ := resume_outcome fl hr hp w hw hI L hL k hR happ
    exact ⟨F, hfile, R, app, hR, happ, hF⟩
  · rintro ⟨M, rfl, R, app, hR, happ, hM⟩
    obtain ⟨F, hfile, hF, _⟩ := resume_outcome fl hr hp w hw hI L hL k hR happ
    cases hM.symm.trans hF
    exact ⟨R, app, hR, happ, hfile⟩

theorem byteChain_iff (ks : List Nat) (L : List Rec) (hL : ValidLog w L) (h : Bytes) :
    ByteChain fl w ks (logFile w L) h ↔ ∃ F, h = logFile w F ∧ Chain fl w ks L F := by
  induction ks generalizing L with
  | nil =>
    constructor
    · intro hc; cases hc; exact ⟨L, rfl, Chain.nil L⟩
    · rintro ⟨F, rfl, hc⟩; cases hc; exact ByteChain.nil _
  | cons k ks ih =>
    have hstep := byteStep_iff fl hr hp w hw hI L hL k
    have hvalid := fun M hM => ((resumeStep_spec fl hr hp w hw hI L hL k).2 M hM).1
    constructor
    · intro hc
      cases hc with
      | cons hs hrest =>
        obtain ⟨M, rfl, hM⟩ := (hstep _).mp hs
        obtain ⟨F, hF, hch⟩ := (ih M (hvalid M hM)).mp hrest
        exact ⟨F, hF, Chain.cons hM hch⟩
    · rintro ⟨F, rfl, hc⟩
      cases hc with
      | cons hM hch => exact ByteChain.cons ((hstep _).mpr ⟨_, rfl, hM⟩) ((ih _ (hvalid _ hM)).mpr ⟨F, rfl, hch⟩)

theorem cut_resume_end_to_end_gen (L : List Rec) (hL : ValidLog w L) :
    (∀ ks, ∃ h, ByteChain fl w ks (logFile w L) h) ∧
    (∀ ks h, ByteChain fl w ks (logFile w L) h → ∃ F, h = logFile w F ∧ ValidLog w F ∧
      (ks ≠ [] → decodeAll w.c h = some F ∧ F.Perm w.universe ∧ ∀ key, bodies F key = bodies w.universe key)) := by
  obtain ⟨hex, hall⟩ := resume_chain_gen fl hr hp w hw hI L hL
  constructor
  · intro ks
    obtain ⟨F, hF⟩ := hex ks
    exact ⟨_, (byteChain_iff fl hr hp w hw hI ks L hL _).mpr ⟨F, rfl, hF⟩⟩
  · intro ks h hc
    obtain ⟨F, rfl, hF⟩ := (byteChain_iff fl hr hp w hw hI ks L hL h).mp hc
    obtain ⟨hFv, hFp⟩ := hall ks F hF
    refine ⟨F, rfl, hFv, fun hks => ?_⟩
    obtain ⟨hperm, hbod⟩ := hFp hks
    exact ⟨decodeAll_logFile hw hFv (List.ne_nil_of_mem (hperm.symm.subset (ver_mem_universe w))), hperm, hbod⟩
end Repaired

section TornTailRepaired
variable (fl : Flags) (hr : fl.repairPlain = true) (w : World) (hw : w.OK) (hI : fl.finishedFix = true ∨ NonEmptyI w)
include hr hw hI

theorem no_reeval_gen (L : List Rec) (hL : ValidLog w L) (k : Nat) :
    ∃ R, restore fl w.c (some (cut w L k)) = some R ∧
      ∀ l ∈ (splitNL (cut w L k)).1, ∀ r, w.c.dec l = some r →
        ∀ t ∈ makeTasks fl.finishedFix R.K w.triples, t.key ≠ r.key := by
  obtain ⟨j, p, n, h⟩ := restore_cut fl hr w hw L hL k
  refine ⟨_, h.restore_eq, fun l hl r hr t ht e => ?_⟩
  -- the complete lines of the cut are the texts of `L.take j`, and those records are restored: their tasks are done
  have hA := (hL.take j).mem_universe
  have hNo : NoNL p := NoNL_tail (fun x hx => hw.codec.noNL x (hL.mem_universe x hx)) h.tail
  rw [h.cut_eq, logFile, splitNL_clean _ (hw.codec.noNL_texts hA) hNo] at hl
  obtain ⟨x, hx, rfl⟩ := List.mem_map.mp hl
  rw [hw.codec.dec_enc x (hA x hx)] at hr
  obtain rfl : x = r := Option.some.inj hr
  exact makeTasks_fresh w _ (L.take n) hI (hL.take n).mem_universe t ht x (h.lines_prefix.subset hx) e.symm

theorem resume_idempotent_gen (L : List Rec) (hL : ValidLog w L) (hfull : L.Perm w.universe) :
    ∃ o, resume fl w (some (logFile w L)) = some o ∧ o.restored.K = L ∧ o.appended = [] ∧
      o.file = logFile w L ∧ o.final = some L ∧ (∀ t ∈ o.tasks, w.out t = none) := by
  have hexpL : w.exp ∈ L := hfull.symm.subset (exp_mem_universe w)
  have ho := finish_correct w hw fl.finishedFix L hI hL fl (Or.inr (Or.inr hexpL)) _ (List.Perm.refl _)
  have hfile := ho.file_eq
  have hfinal := ho.final_eq
  -- the log is complete already: a permutation of the universe that extends it adds nothing
  have hnil := ho.perm.length_eq.trans hfull.length_eq.symm
  rw [List.length_append, Nat.add_eq_left, List.length_eq_zero_iff] at hnil
  rw [hnil, List.append_nil] at hfile hfinal
  exact ⟨_, by simp only [resume, restore_logFile_repaired fl hr w hw L hL], rfl, hnil, hfile, hfinal,
    List.filterMap_eq_nil_iff.mp (List.append_eq_nil_iff.mp hnil).2⟩

end TornTailRepaired

/-! ### sparse logs -/

theorem validLog_of_subperm (w : World) (hw : w.OK) (full : List Rec) (hfull : full.Perm w.universe)
    (rest : List Rec) (hsub : (w.ver :: rest).Subperm full) : ValidLog w (w.ver :: rest) := by
  have hfk : (full.map (·.key)).Nodup := (hfull.map _).nodup_iff.mpr (universe_keys_nodup w hw)
  refine ⟨?_, fun r hr => hfull.subset (hsub.subset hr), fun r hr => by simpa using hr.symm⟩
  obtain ⟨l, hl, hls⟩ := hsub
  exact (hl.map _).nodup_iff.mp (hfk.sublist (hls.map _))

/-! ### the shape test -/

theorem restoredShape_own (w : World) (hw : w.OK) (shapeOf : Rec → Option Nat × Option Nat) (K : List Rec)
    (hK : ∀ r ∈ K, r ∈ w.universe) :
    restoredShape shapeOf K = shapeOf w.exp ∨ restoredShape shapeOf K = (none, none) := by
  unfold restoredShape
  cases hl : (K.filter (fun r => decide (r.key = Key.exp))).getLast? with
  | none => exact Or.inr rfl
  | some r =>
    have := List.mem_filter.mp (List.mem_of_getLast? hl)
    have hk : r.key = Key.exp := by simpa using this.2
    rw [eq_exp_of_key w hw (hK r this.1) hk]
    exact Or.inl rfl

/-! ### the concrete codec of the driver -/

theorem find?_of_nodup_map {α β} [DecidableEq β] (f : α → β) (l : List α) (h : (l.map f).Nodup)
    (p : α) (hp : p ∈ l) : l.find? (fun q => decide (f q = f p)) = some p := by
  induction l with
  | nil => simp at hp
  | cons a l ih =>
    simp only [List.map_cons, List.nodup_cons] at h
    rcases List.mem_cons.mp hp with rfl | hp
    · simp
    · have hne : f a ≠ f p := fun e => h.1 (e ▸ List.mem_map_of_mem hp)
      simp [hne, ih h.2 hp]

theorem tableCodec_lawful (tbl : List (Rec × Bytes)) (h : tableOK tbl = true) :
    (tableCodec tbl).Lawful (tbl.map (·.1)) := by
  simp only [tableOK, Bool.and_eq_true, List.all_eq_true, decide_eq_true_eq] at h
  obtain ⟨⟨hall, h1⟩, h2⟩ := h
  have henc : ∀ p ∈ tbl, tableEnc tbl p.1 = p.2 := by
    intro p hp
    simp only [tableEnc, find?_of_nodup_map (·.1) tbl h1 p hp]
  constructor
  · intro r hr
    obtain ⟨p, hp, rfl⟩ := List.mem_map.mp hr
    simp only [tableCodec, henc p hp, tableDec, (hall p hp).1, if_true,
      find?_of_nodup_map (·.2) tbl h2 p hp, Option.map_some]
  · intro r hr
    obtain ⟨p, hp, rfl⟩ := List.mem_map.mp hr
    simp only [tableCodec, henc p hp]
    exact (hall p hp).2
  · intro r hr
    obtain ⟨p, hp, rfl⟩ := List.mem_map.mp hr
    simp only [tableCodec, henc p hp]
    exact balanced_ne_nil (hall p hp).1
  · intro r hr q hq hne
    obtain ⟨p, hp, rfl⟩ := List.mem_map.mp hr
    simp only [tableCodec, henc p hp] at hq hne ⊢
    simp [tableDec, balanced_prefix_free p.2 q (hall p hp).1 hq hne]

/-! ### concrete witnesses (replayed on the real code by the harness corpus) -/
namespace Ex

/-- a one-triple experiment; record texts `[v]`, `[x]`, `[L]`, `[V]`, `[E]`, `[I]` -/
def rVer : Rec := ⟨.ver, 0, 0⟩
def rExp : Rec := ⟨.exp, 0, 1⟩
def rL : Rec := ⟨.lrn 0, 0, 2⟩
def rV : Rec := ⟨.val 0, 0, 3⟩
def rE : Rec := ⟨.env 0, 0, 4⟩
def rI : Rec := ⟨.int 0 0 0, 2, 5⟩
def tbl : List (Rec × Bytes) :=
  [(rVer, [91, 118, 93]), (rExp, [91, 120, 93]), (rL, [91, 76, 93]), (rV, [91, 86, 93]), (rE, [91, 69, 93]),
   (rI, [91, 73, 93])]
def w : World := tableWorld tbl rVer rExp [(0, 0, 0)]
/-- the uninterrupted log -/
def log : List Rec := [rVer, rExp, rE, rL, rV, rI]
def full : Bytes := serialize (log.map w.c.enc)

/-- the same experiment whose evaluation yields no rows: `["I",[0,0,0],{"_packed":{}}]` -/
def rI0 : Rec := ⟨.int 0 0 0, 0, 5⟩
def tbl0 : List (Rec × Bytes) :=
  [(rVer, [91, 118, 93]), (rExp, [91, 120, 93]), (rL, [91, 76, 93]), (rV, [91, 86, 93]), (rE, [91, 69, 93]),
   (rI0, [91, 73, 93])]
def w0 : World := tableWorld tbl0 rVer rExp [(0, 0, 0)]
def log0 : List Rec := [rVer, rExp, rE, rL, rV, rI0]
def full0 : Bytes := serialize (log0.map w0.c.enc)

theorem tableWorldOK_w : tableWorldOK tbl rVer rExp [(0, 0, 0)] = true := by decide +kernel

theorem validLog_log : ValidLog w log :=
  ⟨by decide +kernel, by decide +kernel, fun _ hr => (Option.some.inj hr).symm⟩

end Ex

end Coba.C02
