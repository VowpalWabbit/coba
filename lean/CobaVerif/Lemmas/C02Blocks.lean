/-
C02, files written block by block.  DiskSink writes a log as the blocks `text ++ "\n"`, a `.gz` file is the blocks of
its members' bytes.  A run that is killed leaves the first `k` bytes: some whole blocks and a proper prefix of the next
one (`Blocks.take`).  The text protocol (`C02`) and the gzip members (`C02Gz`) both start from this.
-/
import CobaVerif.Model.C02
import Mathlib.Data.List.Basic

namespace Coba.C02

theorem take_ne_of_lt {α} {l : List α} {k : Nat} (h : k < l.length) : l.take k ≠ l := fun e =>
  Nat.ne_of_lt h (by rw [← List.length_take_of_le (Nat.le_of_lt h), e])

/-- `f xs` is the concatenation of the blocks `blk x`, stated by the two equations the writers of the model are defined by -/
structure Blocks {α : Type} (blk : α → Bytes) (f : List α → Bytes) : Prop where
  nil : f [] = []
  cons : ∀ x xs, f (x :: xs) = blk x ++ f xs

namespace Blocks
variable {α : Type} {blk : α → Bytes} {f : List α → Bytes} (hf : Blocks blk f)
include hf

theorem append (a b : List α) : f (a ++ b) = f a ++ f b := by
  induction a with
  | nil => rw [hf.nil]; rfl
  | cons x xs ih => rw [List.cons_append, hf.cons, hf.cons, ih, List.append_assoc]

theorem take_prefix (xs : List α) (j : Nat) : f (xs.take j) <+: f xs :=
  ⟨f (xs.drop j), by rw [← hf.append, List.take_append_drop]⟩

theorem take (xs : List α) (k : Nat) :
    ∃ j q, j ≤ xs.length ∧ (f xs).take k = f (xs.take j) ++ q ∧
      (q = [] ∨ ∃ x, xs[j]? = some x ∧ q <+: blk x ∧ q ≠ blk x) := by
  induction xs generalizing k with
  | nil => exact ⟨0, [], Nat.le_refl _, by rw [List.take_nil, hf.nil, List.take_nil, List.append_nil], Or.inl rfl⟩
  | cons x xs ih =>
    by_cases hk : k < (blk x).length
    · refine ⟨0, (blk x).take k, Nat.zero_le _, ?_, Or.inr ⟨x, rfl, List.take_prefix _ _, take_ne_of_lt hk⟩⟩
      rw [hf.cons, List.take_append_of_le_length (Nat.le_of_lt hk), List.take_zero, hf.nil]; rfl
    · obtain ⟨j, q, hj, h1, h2⟩ := ih (k - (blk x).length)
      refine ⟨j + 1, q, Nat.succ_le_succ hj, ?_, h2⟩
      rw [hf.cons, List.take_append, List.take_of_length_le (Nat.le_of_not_lt hk), h1, List.take_succ_cons, hf.cons,
        List.append_assoc]

end Blocks

theorem Blocks.take_terminated {α : Type} {text : α → Bytes} {a : Nat} {f : List α → Bytes}
    (hf : Blocks (fun x => text x ++ [a]) f) (xs : List α) (k : Nat) :
    ∃ j q, j ≤ xs.length ∧ (f xs).take k = f (xs.take j) ++ q ∧ (q = [] ∨ ∃ x, xs[j]? = some x ∧ q <+: text x) := by
  obtain ⟨j, q, hj, h1, h2⟩ := hf.take xs k
  refine ⟨j, q, hj, h1, h2.imp_right ?_⟩
  rintro ⟨x, hx, hq, hne⟩
  exact ⟨x, hx, (List.prefix_concat_iff.mp hq).resolve_left hne⟩

theorem serialize_blocks : Blocks (fun r => r ++ [NL]) serialize :=
  ⟨rfl, fun r rs => (List.append_assoc r [NL] (serialize rs)).symm⟩

theorem logFile_blocks (w : World) : Blocks (fun r => w.c.enc r ++ [NL]) (logFile w) :=
  ⟨rfl, fun r rs => (List.append_assoc (w.c.enc r) [NL] (logFile w rs)).symm⟩

theorem flatM_blocks : Blocks Member.bytes flatM := ⟨rfl, fun _ _ => rfl⟩

end Coba.C02
