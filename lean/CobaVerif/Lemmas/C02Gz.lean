/-
C02, `.gz` result files: a file is a sequence of gzip members (`flatM`), a killed run leaves complete members followed
by a torn one.  Under the zlib laws `MLaws` both readers pass complete members whatever follows (`scanLoop_members`,
`gunzipLoop_members`), so the member scan of `_drop_torn_tail` stops after the last complete member and
`gzip.open().read()` returns the payloads, or raises on a torn piece (`scanLoop_spec`, `gunzip_spec`, `gunzipLoop_torn`);
the scan as it is written, with chunked reads of a streaming decompressor (`ZLaws`), computes the same offset
(`chunkLoop_eq`).  Then the table scanners of the driver.
-/
import CobaVerif.Lemmas.C02Blocks

namespace Coba.C02

/-! ### members -/

theorem MLaws.mono {scan : MScan} {a b : List Member} (h : MLaws scan a) (hb : ∀ m ∈ b, m ∈ a) : MLaws scan b :=
  ⟨fun m hm => h.complete m (hb m hm), fun m hm => h.torn m (hb m hm), fun m hm => h.ne m (hb m hm)⟩

theorem payloadLog_payloads (c : Codec) (ms : List Member) (L : List Rec) (h : PayloadLog c ms L) :
    payloadsM ms = serialize (L.map c.enc) := by
  induction h with
  | nil => rfl
  | line hp _ ih => simp [payloadsM, serialize, hp, ih]
  | empty hp _ ih => simp [payloadsM, hp, ih]

theorem payloadLog_take (c : Codec) (ms : List Member) (L : List Rec) (h : PayloadLog c ms L) (j : Nat) :
    ∃ i, PayloadLog c (ms.take j) (L.take i) := by
  induction h generalizing j with
  | nil => exact ⟨0, by simpa using PayloadLog.nil⟩
  | @line m ms r L hp _ ih =>
    cases j with
    | zero => exact ⟨0, PayloadLog.nil⟩
    | succ j =>
      obtain ⟨i, hi⟩ := ih j
      exact ⟨i + 1, PayloadLog.line hp hi⟩
  | @empty m ms L hp _ ih =>
    cases j with
    | zero => exact ⟨0, PayloadLog.nil⟩
    | succ j =>
      obtain ⟨i, hi⟩ := ih j
      exact ⟨i, PayloadLog.empty hp hi⟩

theorem payloadLog_append (c : Codec) (a b : List Member) (A B : List Rec) (ha : PayloadLog c a A) (hb : PayloadLog c b B) :
    PayloadLog c (a ++ b) (A ++ B) := by
  induction ha with
  | nil => simpa using hb
  | line hp _ ih => exact PayloadLog.line hp ih
  | empty hp _ ih => exact PayloadLog.empty hp ih

/-! ### the member scan and `gunzip` on complete members followed by a torn one -/

theorem scanLoop_stop (scan : MScan) (f : Nat) (d : Bytes) (pos : Nat) (h : scan d = none) :
    scanLoop scan (f + 1) d pos = pos := by
  simp only [scanLoop, h]; split <;> rfl

theorem scanLoop_some (scan : MScan) (f : Nat) {d : Bytes} (pos : Nat) {p : Bytes} {n : Nat} (hd : d ≠ [])
    (h : scan d = some (p, n)) (hn : n ≠ 0) : scanLoop scan (f + 1) d pos = scanLoop scan f (d.drop n) (pos + n) := by
  rw [scanLoop, if_neg (fun e => hd (List.isEmpty_iff.mp e)), h]
  exact if_neg hn

theorem gunzipLoop_some (scan : MScan) (f : Nat) {d p : Bytes} {n : Nat} (hd : d ≠ []) (h : scan d = some (p, n))
    (hn : n ≠ 0) : gunzipLoop scan (f + 1) d = (gunzipLoop scan f (d.drop n)).map (fun r => p ++ r) := by
  rw [gunzipLoop, if_neg (fun e => hd (List.isEmpty_iff.mp e)), h]
  exact if_neg hn

section Laws
variable {scan : MScan} {all : List Member} (hl : MLaws scan all)
include hl

theorem scanLoop_members (ms : List Member) (hms : ∀ m ∈ ms, m ∈ all) (f : Nat) (rest : Bytes) (pos : Nat) :
    scanLoop scan (ms.length + f) (flatM ms ++ rest) pos = scanLoop scan f rest (pos + (flatM ms).length) := by
  induction ms generalizing pos with
  | nil => rw [List.length_nil, Nat.zero_add, flatM, List.nil_append, List.length_nil, Nat.add_zero]
  | cons m ms ih =>
    have hm := hms m List.mem_cons_self
    have hne := hl.ne m hm
    rw [List.length_cons, Nat.add_right_comm, flatM, List.append_assoc,
      scanLoop_some scan _ pos (List.append_ne_nil_of_left_ne_nil hne _) (hl.complete m hm _)
        (fun h => hne (List.eq_nil_of_length_eq_zero h)),
      List.drop_left, ih (fun x hx => hms x (List.mem_cons_of_mem _ hx)), List.length_append, Nat.add_assoc]

theorem gunzipLoop_members (ms : List Member) (hms : ∀ m ∈ ms, m ∈ all) (f : Nat) (rest : Bytes) :
    gunzipLoop scan (ms.length + f) (flatM ms ++ rest) = (gunzipLoop scan f rest).map (fun r => payloadsM ms ++ r) := by
  induction ms with
  | nil =>
    rw [List.length_nil, Nat.zero_add, flatM, List.nil_append]
    cases gunzipLoop scan f rest <;> rfl
  | cons m ms ih =>
    have hm := hms m List.mem_cons_self
    have hne := hl.ne m hm
    rw [List.length_cons, Nat.add_right_comm, flatM, List.append_assoc,
      gunzipLoop_some scan _ (List.append_ne_nil_of_left_ne_nil hne _) (hl.complete m hm _)
        (fun h => hne (List.eq_nil_of_length_eq_zero h)),
      List.drop_left, ih (fun x hx => hms x (List.mem_cons_of_mem _ hx))]
    cases gunzipLoop scan f rest with
    | none => rfl
    | some r => exact congrArg some (List.append_assoc _ _ _).symm

theorem flatM_length_ge (ms : List Member) (hms : ∀ m ∈ ms, m ∈ all) : ms.length ≤ (flatM ms).length := by
  induction ms with
  | nil => exact Nat.le_refl _
  | cons m ms ih =>
    have hpos : 1 ≤ m.bytes.length := List.length_pos_iff.mpr (hl.ne m (hms m List.mem_cons_self))
    rw [flatM, List.length_append, List.length_cons, Nat.add_comm]
    exact Nat.add_le_add hpos (ih (fun x hx => hms x (List.mem_cons_of_mem _ hx)))

/-! Fuel as long as the data is enough, since no member is empty. -/

theorem scanLoop_spec (ms : List Member) (hms : ∀ m ∈ ms, m ∈ all) (q : Bytes)
    (hq : q = [] ∨ ∃ m ∈ all, q <+: m.bytes ∧ q ≠ m.bytes) (f pos : Nat) (hf : (flatM ms).length ≤ f) :
    scanLoop scan (f + 1) (flatM ms ++ q) pos = pos + (flatM ms).length := by
  obtain ⟨g, rfl⟩ := Nat.exists_eq_add_of_le (Nat.le_trans (flatM_length_ge hl ms hms) hf)
  rw [Nat.add_assoc, scanLoop_members hl ms hms]
  rcases hq with rfl | ⟨m, hm, hp, hne⟩
  · rfl
  · exact scanLoop_stop scan g q _ (hl.torn m hm q hp hne)

theorem gunzipLoop_spec (ms : List Member) (hms : ∀ m ∈ ms, m ∈ all) (f : Nat) (hf : (flatM ms).length ≤ f) :
    gunzipLoop scan (f + 1) (flatM ms) = some (payloadsM ms) := by
  obtain ⟨g, rfl⟩ := Nat.exists_eq_add_of_le (Nat.le_trans (flatM_length_ge hl ms hms) hf)
  have := gunzipLoop_members hl ms hms (g + 1) []
  rw [List.append_nil] at this
  rw [Nat.add_assoc, this]
  exact congrArg some (List.append_nil _)

theorem gunzip_spec (ms : List Member) (hms : ∀ m ∈ ms, m ∈ all) : gunzip scan (flatM ms) = some (payloadsM ms) :=
  gunzipLoop_spec hl ms hms _ (Nat.le_refl _)

theorem gunzip_payloadLog {c : Codec} {ms : List Member} {L : List Rec} (hms : ∀ m ∈ ms, m ∈ all)
    (h : PayloadLog c ms L) : gunzip scan (flatM ms) = some (serialize (L.map c.enc)) := by
  rw [gunzip_spec hl ms hms, payloadLog_payloads c ms L h]

theorem gunzipLoop_torn (ms : List Member) (hms : ∀ m ∈ ms, m ∈ all) (q : Bytes)
    (hq : ∃ m ∈ all, q <+: m.bytes ∧ q ≠ m.bytes) (hqne : q ≠ []) (f : Nat) (hf : (flatM ms).length ≤ f) :
    gunzipLoop scan (f + 1) (flatM ms ++ q) = none := by
  obtain ⟨mq, hmq, hp, hne⟩ := hq
  obtain ⟨g, rfl⟩ := Nat.exists_eq_add_of_le (Nat.le_trans (flatM_length_ge hl ms hms) hf)
  have hqe : q.isEmpty = false := by simpa [List.isEmpty_iff] using hqne
  rw [Nat.add_assoc, gunzipLoop_members hl ms hms, gunzipLoop]
  simp only [hqe, hl.torn mq hmq q hp hne, Bool.false_eq_true, if_false, Option.map_none]

end Laws

/-! ### the scan as written: chunked reads of a streaming decompressor -/

theorem toMScan_eof {z : ZScan} {b : Bytes} {p : Bytes} {n : Nat} (h : z b = .eof p n) : toMScan z b = some (p, n) := by
  simp [toMScan, h]

theorem toMScan_more {z : ZScan} {b : Bytes} (h : z b = .more) : toMScan z b = none := by
  simp [toMScan, h]

theorem ZLaws.prefix_feed {z : ZScan} (hz : ZLaws z) {d p : Bytes} {n : Nat} (h : z d = .eof p n) (k : Nat) :
    z (d.take k) = .more ∨ z (d.take k) = .eof p n := by
  by_cases hk : k < n
  · exact Or.inl (hz.eof_more d p n h k hk)
  · right
    have h1 : (d.take k).take n = d.take n := by rw [List.take_take, Nat.min_eq_left (Nat.le_of_not_lt hk)]
    have h2 : d.take k = d.take n ++ (d.take k).drop n := by rw [← h1, List.take_append_drop]
    rw [h2]; exact hz.eof_ext d p n h _

/-- the decompressor created at `good`, fed `data[good:tell]`, reports the end of its member after `n` bytes:
`f.tell()-len(member.unused_data)` is the offset `good + n` of that end, and the member is complete in all of `data[good:]` -/
theorem ZLaws.eof_fed {z : ZScan} (hz : ZLaws z) {data : Bytes} {good tell : Nat} (hgt : good ≤ tell)
    (htl : tell ≤ data.length) {p : Bytes} {n : Nat} (h : z ((data.drop good).take (tell - good)) = .eof p n) :
    0 < n ∧ good + n ≤ tell ∧ tell - (((data.drop good).take (tell - good)).drop n).length = good + n ∧
      z (data.drop good) = .eof p n := by
  have hm : tell - good ≤ (data.drop good).length := by rw [List.length_drop]; exact Nat.sub_le_sub_right htl good
  obtain ⟨hn0, hnl⟩ := hz.eof_pos _ _ _ h
  rw [List.length_take_of_le hm] at hnl
  have hnt : good + n ≤ tell := Nat.add_le_of_le_sub' hgt hnl
  refine ⟨hn0, hnt, ?_, ?_⟩
  · rw [List.length_drop, List.length_take_of_le hm, Nat.sub_sub, Nat.sub_sub_self hnt]
  · have h1 := hz.eof_ext _ p n h (((data.drop good).take (tell - good)).drop n ++ (data.drop good).drop (tell - good))
    rwa [← List.append_assoc, List.take_append_drop, List.take_append_drop] at h1

theorem scanLoop_eof {z : ZScan} (hz : ZLaws z) {d p : Bytes} {n : Nat} (h : z d = .eof p n) (f pos : Nat) :
    scanLoop (toMScan z) (f + 1) d pos = scanLoop (toMScan z) f (d.drop n) (pos + n) := by
  obtain ⟨hn0, hnl⟩ := hz.eof_pos _ _ _ h
  refine scanLoop_some _ f pos (fun e => ?_) (toMScan_eof h) (Nat.ne_of_gt hn0)
  rw [e] at hnl
  exact Nat.not_le_of_gt hn0 hnl

theorem tell_read_le_length {data : Bytes} {pos : Nat} (h : pos ≤ data.length) (c : Nat) :
    pos + ((data.drop pos).take c).length ≤ data.length :=
  Nat.add_le_of_le_sub' h (by rw [List.length_take, List.length_drop]; exact Nat.min_le_right _ _)

theorem chunkLoop_eq (z : ZScan) (hz : ZLaws z) (c : Nat) (hc : 1 ≤ c) (data : Bytes) (good pos : Nat) :
    ∀ fuel, good ≤ pos → pos ≤ data.length →
    (good < pos → z ((data.drop good).take (pos - good)) = .more) →
    data.length - good < fuel →
    chunkLoop z c data good pos = scanLoop (toMScan z) fuel (data.drop good) good := by
  fun_induction chunkLoop z c data good pos with
  | case1 good pos chunk hch =>
    -- end of file: either a member is still open (`more`), or `good` is the end of the data
    intro fuel hgp hpl hinv hf
    obtain ⟨f, rfl⟩ := Nat.exists_eq_succ_of_ne_zero (Nat.ne_of_gt (Nat.zero_lt_of_lt hf))
    have hpos : data.length ≤ pos := List.drop_eq_nil_iff.mp
      ((List.take_eq_nil_iff.mp (List.isEmpty_iff.mp hch)).resolve_left (Nat.ne_of_gt hc))
    by_cases hg : good < pos
    · have h3 := hinv hg
      rw [List.take_of_length_le (by rw [List.length_drop]; exact Nat.sub_le_sub_right hpos good)] at h3
      exact (scanLoop_stop _ f _ good (toMScan_more h3)).symm
    · rw [List.drop_eq_nil_of_le (Nat.le_trans hpos (Nat.le_of_not_lt hg))]; rfl
  | case2 good pos chunk hch tell fed hzf =>
    -- `zlib.error`: by `prefix_feed` no member is complete at `good`
    intro fuel hgp hpl hinv hf
    obtain ⟨f, rfl⟩ := Nat.exists_eq_succ_of_ne_zero (Nat.ne_of_gt (Nat.zero_lt_of_lt hf))
    symm; apply scanLoop_stop
    cases hzd : z (data.drop good) with
    | eof p n =>
      have h : z fed = .more ∨ z fed = .eof p n := hz.prefix_feed hzd (tell - good)
      rw [hzf] at h
      rcases h with h | h <;> cases h
    | more => exact toMScan_more hzd
    | error => simp [toMScan, hzd]
  | case3 good pos chunk hch tell fed hzf ih =>
    intro fuel hgp hpl hinv hf
    exact ih fuel (Nat.le_trans hgp (Nat.le_add_right _ _)) (tell_read_le_length hpl c) (fun _ => hzf) hf
  | case4 good pos chunk hch tell fed p n hzf unused good' hg ih =>
    intro fuel hgp hpl hinv hf
    obtain ⟨f, rfl⟩ := Nat.exists_eq_succ_of_ne_zero (Nat.ne_of_gt (Nat.zero_lt_of_lt hf))
    have htl : tell ≤ data.length := (tell_read_le_length hpl c)
    obtain ⟨hn0, hnt, hg', hzd⟩ := hz.eof_fed (Nat.le_trans hgp (Nat.le_add_right _ _)) htl hzf
    change good' = good + n at hg'
    have hle : good + n ≤ data.length := Nat.le_trans hnt htl
    have hfuel : data.length - (good + n) < f := by
      rw [← Nat.sub_sub]
      exact Nat.lt_of_lt_of_le (Nat.sub_lt_of_pos_le hn0 (Nat.le_sub_of_add_le' hle)) (Nat.le_of_lt_succ hf)
    rw [scanLoop_eof hz hzd, List.drop_drop, ← hg']
    exact ih f (Nat.le_refl _) (hg' ▸ hle) (fun h => absurd h (Nat.lt_irrefl _)) (hg' ▸ hfuel)
  | case5 good pos chunk hch tell fed p n hzf unused good' hg =>
    -- the guard of the definition can not fail for a lawful decompressor
    intro fuel hgp hpl hinv hf
    obtain ⟨hn0, hnt, hg', _⟩ :=
      hz.eof_fed (Nat.le_trans hgp (Nat.le_add_right _ _)) (tell_read_le_length hpl c) hzf
    change good' = good + n at hg'
    exact absurd (hg' ▸ ⟨Nat.lt_add_of_pos_right hn0, hnt⟩) hg

/-! ### the table scanners of the driver -/

theorem tableScan_some {tbl : List Member} {data p : Bytes} {n : Nat} (h : tableScan tbl data = some (p, n)) :
    ∃ m ∈ tbl, m.bytes <+: data ∧ p = m.payload ∧ n = m.bytes.length := by
  obtain ⟨m, hf, hpn⟩ := Option.map_eq_some_iff.mp h
  have hp := List.find?_some hf
  cases hpn
  exact ⟨m, List.mem_of_find?_eq_some hf, List.isPrefixOf_iff_prefix.mp hp, rfl, rfl⟩

theorem tableZ_eof {tbl : List Member} {b p : Bytes} {n : Nat} (hb : tableZ tbl b = .eof p n) :
    tableScan tbl b = some (p, n) := by
  unfold tableZ at hb
  cases hs : tableScan tbl b with
  | none => rw [hs] at hb; simp only at hb; split at hb <;> cases hb
  | some pn => rw [hs] at hb; obtain ⟨p', n'⟩ := pn; simp only at hb; cases hb; rfl

end Coba.C02
