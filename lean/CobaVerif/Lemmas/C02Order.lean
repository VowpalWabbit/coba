/-
C02, what lies around the protocol and does not depend on it: the order in which ChunkTasks / ProcessTasks hand the
tasks on (a permutation), `_max_chunker` (`batches`, and the extracted program), interleavings of the per-chunk
record sequences (`Merge`), the write loop of DiskSink, universal newlines, the windowed torn-tail repair, and the
route by which a setting reaches a run.
-/
import CobaVerif.Model.C02
import Mathlib.Data.List.Basic
import Mathlib.Data.List.Perm.Basic

namespace Coba.C02

/-! ### the sorts and the grouping keep the tasks -/

theorem insertOrd_perm (lt : Task → Task → Bool) (t : Task) (l : List Task) : (insertOrd lt t l).Perm (t :: l) := by
  induction l with
  | nil => exact List.Perm.refl _
  | cons u us ih =>
    simp only [insertOrd]
    split
    · exact ((List.Perm.cons u ih).trans (List.Perm.swap t u us))
    · exact List.Perm.refl _

theorem sortOrd_perm (lt : Task → Task → Bool) (l : List Task) : (sortOrd lt l).Perm l := by
  induction l with
  | nil => exact List.Perm.refl _
  | cons t ts ih => exact (insertOrd_perm lt t _).trans (List.Perm.cons t ih)

theorem insertGrp_perm (key : List Task → Nat) (g : List Task) (l : List (List Task)) : (insertGrp key g l).Perm (g :: l) := by
  induction l with
  | nil => exact List.Perm.refl _
  | cons u us ih =>
    simp only [insertGrp]
    split
    · exact ((List.Perm.cons u ih).trans (List.Perm.swap g u us))
    · exact List.Perm.refl _

theorem sortGrp_perm (key : List Task → Nat) (l : List (List Task)) : (sortGrp key l).Perm l := by
  induction l with
  | nil => exact List.Perm.refl _
  | cons t ts ih => exact (insertGrp_perm key t _).trans (List.Perm.cons t ih)

theorem groupsOf_flatten_perm (ck : Task → Nat) (l : List Task) : (groupsOf ck l).flatten.Perm l := by
  fun_induction groupsOf ck l with
  | case1 => exact List.Perm.refl _
  | case2 t ts ih =>
    simp only [List.flatten_cons]
    have h1 : (t :: ts).filter (fun u => !(ck u == ck t)) = dropGroup ck (ck t) ts := by
      simp [dropGroup]
    have h2 := List.filter_append_perm (fun u => ck u == ck t) (t :: ts)
    rw [h1] at h2
    exact (List.Perm.append_left _ ih).trans h2

/-! ### `_max_chunker`: the batches, and the extracted program -/

theorem batches_go_nil (m f : Nat) : batches.go m [] f = [] := by cases f <;> rfl

theorem batches_go_cons (m : Nat) (a : Task) (as : List Task) (f : Nat) :
    batches.go m (a :: as) (f + 1) = (a :: as).take m :: batches.go m ((a :: as).drop m) f := rfl

theorem batches_of_ne_zero {m : Nat} (hm : m ≠ 0) (l : List Task) : batches m l = batches.go m l l.length := by
  rw [batches, if_neg hm]

theorem batches_go_spec (m : Nat) (hm : 1 ≤ m) (l : List Task) (f : Nat) (hf : l.length ≤ f) :
    (batches.go m l f).flatten = l ∧ (∀ b ∈ batches.go m l f, b ≠ [] ∧ b.length ≤ m) ∧
      ∀ b ∈ (batches.go m l f).dropLast, b.length = m := by
  induction f generalizing l with
  | zero => rw [List.eq_nil_of_length_eq_zero (Nat.le_zero.mp hf)]; exact ⟨rfl, nofun, nofun⟩
  | succ f ih =>
    cases l with
    | nil => exact ⟨rfl, nofun, nofun⟩
    | cons a as =>
      have hdrop : ((a :: as).drop m).length ≤ f := by
        rw [List.length_drop]
        exact Nat.le_trans (Nat.sub_le_sub_left hm _) (Nat.sub_le_of_le_add hf)
      obtain ⟨h1, h2, h3⟩ := ih _ hdrop
      rw [batches_go_cons]
      refine ⟨by rw [List.flatten_cons, h1, List.take_append_drop], fun b hb => ?_, fun b hb => ?_⟩
      · rcases List.mem_cons.mp hb with rfl | hb
        · exact ⟨fun e => (List.take_eq_nil_iff.mp e).elim (Nat.ne_of_gt hm) (List.cons_ne_nil _ _),
            List.length_take_le _ _⟩
        · exact h2 b hb
      · by_cases hx : batches.go m ((a :: as).drop m) f = []
        · rw [hx] at hb; exact absurd hb List.not_mem_nil
        · rw [List.dropLast_cons_of_ne_nil hx, List.mem_cons] at hb
          rcases hb with rfl | hb
          · -- something is left after this batch, so the batch is full
            have hne : (a :: as).drop m ≠ [] := fun e => hx (by rw [e]; exact batches_go_nil m f)
            have hle : m ≤ (a :: as).length := Nat.le_of_not_le fun h => hne (List.drop_eq_nil_of_le h)
            rw [List.length_take, Nat.min_eq_left hle]
          · exact h3 b hb

theorem batches_flatten (m : Nat) (l : List Task) : (batches m l).flatten = l := by
  by_cases hm : m = 0
  · rw [batches, if_pos hm]
    cases l <;> simp
  · rw [batches_of_ne_zero hm]
    exact (batches_go_spec m (Nat.pos_of_ne_zero hm) l _ (Nat.le_refl _)).1

/-- one round of `while batch != []: yield batch; batch = list(islice(chunk, m))` -/
theorem execWhile_round (m : Nat) (hm : m ≠ 0) (f : Nat) (it : List Task) (b : Task) (bs : List Task)
    (out : List (List Task)) :
    execWhile m [.yieldBatch, .takeBatch] (f + 1) ⟨it, b :: bs, out⟩ =
      execWhile m [.yieldBatch, .takeBatch] f ⟨it.drop m, it.take m, out ++ [b :: bs]⟩ := by
  simp only [execWhile, List.isEmpty_cons, Bool.false_eq_true, if_false, execBody, List.foldl_cons, List.foldl_nil,
    stepSimple, hm]

theorem execWhile_go (m : Nat) (hm : m ≠ 0) (f : Nat) (r : List Task) (out : List (List Task)) :
    (execWhile m [.yieldBatch, .takeBatch] f ⟨r.drop m, r.take m, out⟩).out = out ++ batches.go m r f := by
  induction f generalizing r out with
  | zero => exact (List.append_nil _).symm
  | succ f ih =>
    cases r with
    | nil => rw [batches_go_nil, List.append_nil, List.drop_nil, List.take_nil]; rfl
    | cons a as =>
      obtain ⟨k, rfl⟩ := Nat.exists_eq_succ_of_ne_zero hm
      rw [List.take_succ_cons, execWhile_round _ hm, ih, batches_go_cons, List.take_succ_cons, List.append_assoc]
      rfl

/-! ### ChunkTasks / ProcessTasks: the run order is a permutation -/

theorem chunkTasks_flatten_perm (chunkOf : Nat → Option Nat) (m : Nat) (tasks : List Task) :
    (chunkTasks chunkOf m tasks).flatten.Perm tasks := by
  unfold chunkTasks
  simp only [List.flatten_append, ← List.flatMap_def, List.flatMap_singleton']
  -- sorting inside a group and cutting it into batches, sorting the groups, grouping: each keeps the tasks
  have hg : ∀ gs : List (List Task),
      (gs.flatMap (fun g => batches m (sortOrd (fun a b => ordLt a.ord b.ord) g))).flatten.Perm gs.flatten := by
    intro gs
    induction gs with
    | nil => exact List.Perm.refl _
    | cons g gs ih =>
      simp only [List.flatMap_cons, List.flatten_append, List.flatten_cons, batches_flatten]
      exact List.Perm.append (sortOrd_perm _ g) ih
  have hsome : ∀ (f : Task → Option Nat), (fun t => (f t).isSome) = (fun t => !(f t).isNone) := by
    intro f; funext t; cases f t <;> rfl
  have h3 := (hg _).trans (((sortGrp_perm minEnv (groupsOf (fun t => (t.envId.bind chunkOf).getD 0)
    ((tasks.filter (fun t => t.envId.isSome)).filter (fun t => (t.envId.bind chunkOf).isSome)))).flatten).trans (groupsOf_flatten_perm _ _))
  -- the three-way split of the tasks (no environment / not chunked / chunked) is two complementary filters
  have h4 := List.filter_append_perm (fun t => (t.envId.bind chunkOf).isNone) (tasks.filter (fun t => t.envId.isSome))
  rw [← hsome (fun t => t.envId.bind chunkOf)] at h4
  have h5 := List.filter_append_perm (fun t => t.envId.isNone) tasks
  rw [← hsome (fun t => t.envId)] at h5
  exact (List.Perm.append_left _ ((List.Perm.append_left _ h3).trans h4)).trans h5

theorem processOrder_perm (c : List Task) : (processOrder c).Perm c :=
  (sortOrd_perm _ _).trans (List.reverse_perm c)

theorem runOrder_perm (chunkOf : Nat → Option Nat) (m : Nat) (tasks : List Task) : (runOrder chunkOf m tasks).Perm tasks := by
  have h : (runOrder chunkOf m tasks).Perm ((chunkTasks chunkOf m tasks).flatMap id) :=
    List.Perm.flatMap_left _ fun c _ => processOrder_perm c
  rw [List.flatMap_id] at h
  exact h.trans (chunkTasks_flatten_perm chunkOf m tasks)

/-! ### interleavings of the per-chunk sequences -/

theorem merge_perm {α : Type} (ls : List (List α)) (out : List α) (h : Merge ls out) : out.Perm ls.flatten := by
  induction h with
  | done ls hn => rw [List.flatten_eq_nil_iff.mpr hn]
  | step pre post x l out _ ih =>
    simp only [List.flatten_append, List.flatten_cons, List.cons_append] at ih ⊢
    exact (List.Perm.cons x ih).trans List.perm_middle.symm

theorem merge_sublist {α : Type} (ls : List (List α)) (out : List α) (h : Merge ls out) : ∀ l ∈ ls, l.Sublist out := by
  induction h with
  | done ls hn => intro l hl; rw [hn l hl]
  | step pre post x l out _ ih =>
    intro l' hl'
    rcases List.mem_append.mp hl' with hp | hp
    · exact (ih l' (List.mem_append_left _ hp)).cons x
    · rcases List.mem_cons.mp hp with rfl | hp
      · exact (ih l (List.mem_append_right _ (List.mem_cons_self))).cons_cons x
      · exact (ih l' (List.mem_append_right _ (List.mem_cons_of_mem _ hp))).cons x

theorem Merge.nil_cons {α : Type} {ls : List (List α)} {out : List α} (h : Merge ls out) : Merge ([] :: ls) out := by
  induction h with
  | done ls hn => exact Merge.done _ fun l hl => (List.mem_cons.mp hl).elim id (hn l)
  | step pre post x l out _ ih => exact Merge.step ([] :: pre) post x l out ih

theorem merge_chunks_perm (out : Task → Option Rec) (chunkOf : Nat → Option Nat) (m : Nat) (tasks : List Task)
    (app : List Rec) (h : Merge ((chunkTasks chunkOf m tasks).map (fun c => (processOrder c).filterMap out)) app) :
    app.Perm (tasks.filterMap out) := by
  have h1 : app.Perm (((chunkTasks chunkOf m tasks).map processOrder).map (List.filterMap out)).flatten := by
    rw [List.map_map]; exact merge_perm _ _ h
  rw [← List.filterMap_flatten, ← List.flatMap_def] at h1
  exact h1.trans ((runOrder_perm chunkOf m tasks).filterMap out)

/-! ### the write loop of DiskSink -/

theorem sinkWrite_go_one (f : Nat) (l : List Bytes) (h : l.length < f) :
    sinkWrite.go 1 f l = l.map (fun x => [x]) ++ [[]] := by
  induction f generalizing l with
  | zero => exact absurd h (Nat.not_lt_zero _)
  | succ f ih =>
    cases l with
    | nil => simp [sinkWrite.go]
    | cons a as =>
      simp [sinkWrite.go]
      exact ih as (by simpa using h)

theorem sinkWrite_go_flatten (b : Nat) (hb : b ≠ 0) (f : Nat) (l : List Bytes) (h : l.length < f) :
    (sinkWrite.go b f l).flatten = l := by
  induction f generalizing l with
  | zero => exact absurd h (Nat.not_lt_zero _)
  | succ f ih =>
    simp only [sinkWrite.go]
    split
    · -- a full batch: `b ≤ l.length`, and what is left is shorter
      rename_i ht
      rw [List.length_take] at ht
      have hbl : b ≤ l.length := Nat.le_trans (Nat.le_of_eq ht.symm) (Nat.min_le_right _ _)
      have hdrop : (l.drop b).length < f := by
        rw [List.length_drop]
        exact Nat.sub_lt_right_of_lt_add hbl (Nat.lt_of_lt_of_le h (Nat.add_le_add_left (Nat.pos_of_ne_zero hb) f))
      rw [List.flatten_cons, ih _ hdrop, List.take_append_drop]
    · rename_i ht
      rw [List.length_take] at ht
      simp only [List.flatten_cons, List.flatten_nil, List.append_nil]
      exact List.take_of_length_le (Nat.le_of_not_le fun hbl => ht (Nat.min_eq_left hbl))

/-! ### universal newlines -/

theorem univ_of_noCR (f : Bytes) (h : CR ∉ f) : univ f = f := by
  unfold univ
  induction f with
  | nil => rfl
  | cons b bs ih =>
    have hb : b ≠ CR := fun e => h (by simp [e])
    have hbs : CR ∉ bs := fun m => h (List.mem_cons_of_mem _ m)
    simp [univAux, hb, ih hbs]

theorem decodeAllU_eq (c : Codec) (f : Bytes) (h : CR ∉ f) : decodeAllU c f = decodeAll c f := by
  unfold decodeAllU linesU
  rw [univ_of_noCR f h]
  rfl

theorem noCR_serialize (rs : List Bytes) (h : ∀ r ∈ rs, CR ∉ r) : CR ∉ serialize rs := by
  induction rs with
  | nil => simp [serialize]
  | cons r rs ih =>
    simp only [serialize, List.mem_append, List.mem_cons, not_or]
    exact ⟨h r (by simp), by decide, ih (fun x hx => h x (List.mem_cons_of_mem _ hx))⟩

/-! ### a torn-tail repair that looks at a window only -/

theorem splitNL_lines_ne_nil (X : Bytes) (h : NL ∈ X) : (splitNL X).1 ≠ [] := by
  induction X with
  | nil => simp at h
  | cons b bs ih =>
    simp only [splitNL]
    by_cases hb : b = NL
    · simp [hb]
    · have : NL ∈ bs := by
        rcases List.mem_cons.mp h with e | e
        · exact absurd e.symm hb
        · exact e
      have := ih this
      simp only [hb, if_false]
      cases h1 : (splitNL bs).1 with
      | nil => exact absurd h1 this
      | cons l ls => simp

theorem splitNL_cons_of_mem (a : Nat) (X : Bytes) (h : NL ∈ X) :
    (splitNL (a :: X)).2 = (splitNL X).2 ∧ serialize (splitNL (a :: X)).1 = a :: serialize (splitNL X).1 := by
  have hne := splitNL_lines_ne_nil X h
  simp only [splitNL]
  by_cases ha : a = NL
  · simp [ha, serialize]
  · simp only [ha, if_false]
    cases h1 : (splitNL X).1 with
    | nil => exact absurd h1 hne
    | cons l ls => simp [serialize]

theorem repair_cons_of_mem (c : Codec) (a : Nat) (X : Bytes) (h : NL ∈ X) : repair c (a :: X) = a :: repair c X := by
  obtain ⟨h1, h2⟩ := splitNL_cons_of_mem a X h
  unfold repair
  simp only [h1, h2]
  split
  · rfl
  · split
    · rfl
    · rfl

theorem repair_append_of_mem (c : Codec) (A B : Bytes) (h : NL ∈ B) : repair c (A ++ B) = A ++ repair c B := by
  induction A with
  | nil => rfl
  | cons a as ih =>
    rw [List.cons_append, repair_cons_of_mem c a (as ++ B) (List.mem_append_right _ h), ih]; rfl

/-! ### the route of a setting -/

theorem runCfg_eq (r : CfgRoute) : runCfg r = (match r.arg with | some a => a | none => r.ctx) := by
  cases r with
  | mk s a c => cases a <;> rfl

end Coba.C02
