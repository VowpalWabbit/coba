/-
Lemmas for C04 (re-reading environments).  First the read sessions: the cache buffer, what a session does to one node, to a chain,
to an object and to the pool (`step_good`: the invariant; `step_frame`: what an operation can change).  The thread through them:
`ObjGood` sees of a chain only whether it is consistent, what it denotes, the params it reports and whether it holds a `Finalize`; a
chain that agrees with another in these may stand in for it (`StandsFor`; `Src.StandsFor` is the like for sources), and a good object
stays good when chain and source give way to stand-ins (`ObjGood.replace`).  A session keeps the stage of every node (`Node.stage`),
through which the last three factor; the repaired pickling, dropping unprotected caches and appending unread ones put a stand-in in
the place of single nodes.  Then the parts that stand alone: Densify's table, the memo, the stores of the aliasing model, the stage
and abandon tables.
-/
import CobaVerif.Model.C04
import CobaVerif.Generated.C04Stages
import Mathlib.Data.List.Basic

namespace Coba.C04

/-! ### the cache buffer -/

theorem fill_append (sz fuel : Nat) (c r : List Item) (k : Nat) :
    (fill sz fuel c r k).1 ++ (fill sz fuel c r k).2 = c ++ r := by
  induction fuel generalizing c r with
  | zero => rfl
  | succ fuel ih =>
    unfold fill
    split
    · rfl
    · rw [ih, List.append_assoc, List.take_append_drop]

theorem cacheStep_ok (sz : Option Nat) (u c r : List Item) (h : c ++ r = u) (d : Demand) :
    CacheOK u (cacheStep sz c r d).1 := by
  cases d with
  | none => exact h
  | all => exact h
  | pull k => exact (fill_append ..).trans h

theorem cacheStepX_nothing (sz : Option Nat) (c r : List Item) (d : Demand) :
    cacheStepX .nothing sz c r d = cacheStep sz c r d := by
  cases d <;> rfl

theorem cacheStepX_ok (x : ExitAct) (hx : x ≠ .dropIter) (sz : Option Nat) (u c r : List Item) (h : c ++ r = u) (d : Demand) :
    CacheOK u (cacheStepX x sz c r d).1 := by
  cases x with
  | nothing => rw [cacheStepX_nothing]; exact cacheStep_ok sz u c r h d
  | dropIter => exact absurd rfl hx
  | reset =>
    cases d with
    | pull k => trivial
    | none => exact cacheStep_ok sz u c r h .none
    | all => exact cacheStep_ok sz u c r h .all

theorem cacheSessX_ok (x : ExitAct) (hx : x ≠ .dropIter) (sz : Option Nat) (u : List Item) (st : CacheSt) (h : CacheOK u st) (d : Demand) :
    CacheOK u (cacheSessX x sz u st d) := by
  cases st with
  | done c => cases d <;> exact h
  | unread =>
    cases d with
    | none => exact h
    | _ => exact cacheStepX_ok x hx sz u [] u rfl _
  | prog c r =>
    cases d with
    | none => exact h
    | _ => exact cacheStepX_ok x hx sz u c r h _

theorem cacheOK_view (sz : Option Nat) (prot : Bool) (u : List Item) (st : CacheSt) (h : CacheOK u st) :
    nodeView (.cache sz prot st) u = u := by
  cases st with
  | unread => rfl
  | prog c r => exact h
  | done c => exact h

theorem nodeStep_cache (sz : Option Nat) (prot : Bool) (st : CacheSt) (u : List Item) (d : Demand) :
    (nodeStep (.cache sz prot st) u d).1 = .cache sz prot (cacheSessX .nothing sz u st d) := by
  cases d <;> cases st <;> rfl

theorem nodeOK_cache {sz : Option Nat} {prot : Bool} {st : CacheSt} {u : List Item} :
    nodeOK (.cache sz prot st) u ↔ CacheOK u st := by
  cases st <;> rfl

/-! ### one node -/

/-- the stage a node is an instance of: the node with the fields that survive between reads reset -/
def Node.stage : Node → Node
  | .pure p => .pure p
  | .shuffle v perm lg par _ => .shuffle v perm lg par 0
  | .cache sz prot _ => .cache sz prot .unread
  | .finalize p _ => .finalize p none

theorem nodeStep_stage (n : Node) (u : List Item) (d : Demand) : (nodeStep n u d).1.stage = n.stage := by
  cases n with
  | pure p => rfl
  | shuffle v perm lg par dep => cases v <;> cases d <;> rfl
  | cache sz prot st => rw [nodeStep_cache]; rfl
  | finalize p fl =>
    cases d <;> cases fl with
    | none => rfl
    | some b => cases b <;> rfl

theorem nodeDen_stage (n : Node) (x : List Item) : nodeDen n.stage x = nodeDen n x := by cases n <;> rfl
theorem nodeParDen_stage (n : Node) : nodeParDen n.stage = nodeParDen n := by cases n <;> rfl
theorem isFinalize_stage (n : Node) : isFinalize n.stage = isFinalize n := by cases n <;> rfl
theorem Node.fixed_stage (n : Node) : n.stage.Fixed ↔ n.Fixed := by cases n <;> rfl

theorem Node.stage_eq_finalize {n : Node} {p : PureSt} {fl : Option Bool} (h : n.stage = (Node.finalize p fl).stage) :
    ∃ fl', n = .finalize p fl' := by
  cases n <;> cases h
  exact ⟨_, rfl⟩

theorem nodeStep_den (n : Node) (u : List Item) (d : Demand) (x : List Item) :
    nodeDen (nodeStep n u d).1 x = nodeDen n x := by
  rw [← nodeDen_stage, nodeStep_stage, nodeDen_stage]

theorem nodeStep_fixed (n : Node) (u : List Item) (d : Demand) (hf : n.Fixed) :
    (nodeStep n u d).1.Fixed := by
  rwa [← Node.fixed_stage, nodeStep_stage, Node.fixed_stage]

theorem nodeView_eq_den (n : Node) (u : List Item) (hok : nodeOK n u) (hf : n.Fixed) :
    nodeView n u = nodeDen n u := by
  cases n with
  | pure p => rfl
  | shuffle v perm lg par dep =>
    cases hf
    rfl
  | cache sz prot st => exact cacheOK_view sz prot u st (nodeOK_cache.mp hok)
  | finalize p fl =>
    cases fl with
    | none => rfl
    | some b =>
      cases b with
      | false => rfl
      | true =>
        -- `_isempty` is set and consistent: the upstream is empty, both sides are `[]`
        cases (beq_iff_eq.mp hok.symm : u = [])
        rfl

theorem nodeStep_ok (n : Node) (u : List Item) (d : Demand) (hok : nodeOK n u) :
    nodeOK (nodeStep n u d).1 u := by
  cases n with
  | pure p => trivial
  | shuffle v perm lg par dep => cases v <;> cases d <;> trivial
  | cache sz prot st =>
    rw [nodeStep_cache]
    exact nodeOK_cache.mpr (cacheSessX_ok .nothing (by decide) sz u st (nodeOK_cache.mp hok) d)
  | finalize p fl =>
    cases fl with
    | none =>
      cases d with
      | none => trivial
      | _ => exact rfl
    | some b => cases b <;> cases d <;> exact hok

theorem nodePar_of_fixed (n : Node) (hf : n.Fixed) : nodePar n = nodeParDen n := by
  cases n with
  | shuffle v perm lg par dep =>
    cases hf
    rfl
  | _ => rfl

theorem sessions_stage (n : Node) (u : List Item) (ds : List Demand) : (sessions n u ds).stage = n.stage := by
  induction ds generalizing n with
  | nil => rfl
  | cons d ds ih => exact (ih _).trans (nodeStep_stage n u d)

theorem sessions_nodeOK (n : Node) (u : List Item) (hok : nodeOK n u) (ds : List Demand) : nodeOK (sessions n u ds) u := by
  induction ds generalizing n with
  | nil => exact hok
  | cons d ds ih => exact ih _ (nodeStep_ok n u d hok)

theorem sessions_view (n : Node) (u : List Item) (hok : nodeOK n u) (hf : n.Fixed) (ds : List Demand) :
    nodeView (sessions n u ds) u = nodeDen n u := by
  have hf' : (sessions n u ds).Fixed := by rwa [← Node.fixed_stage, sessions_stage, Node.fixed_stage]
  rw [nodeView_eq_den _ _ (sessions_nodeOK n u hok ds) hf', ← nodeDen_stage, sessions_stage, nodeDen_stage]

/-! ### chains -/

theorem viewN_eq_denN (ns : List Node) (u : List Item) (h : chainOK u ns) : viewN u ns = denN u ns := by
  induction ns generalizing u with
  | nil => rfl
  | cons n ns ih =>
    obtain ⟨hok, hf, hrest⟩ := h
    simp only [viewN, denN]
    rw [nodeView_eq_den n u hok hf]
    exact ih _ hrest

theorem denN_stage (ns : List Node) (x : List Item) : denN x (ns.map Node.stage) = denN x ns := by
  induction ns generalizing x with
  | nil => rfl
  | cons n ns ih => rw [List.map_cons, denN, denN, nodeDen_stage, ih]

theorem flatMap_nodeParDen_stage (ns : List Node) : (ns.map Node.stage).flatMap nodeParDen = ns.flatMap nodeParDen := by
  rw [List.flatMap_map]
  exact congrArg (ns.flatMap ·) (funext nodeParDen_stage)

theorem any_isFinalize_stage (ns : List Node) : (ns.map Node.stage).any isFinalize = ns.any isFinalize := by
  rw [List.any_map]
  exact congrArg ns.any (funext isFinalize_stage)

theorem touchN_stage (ns : List Node) (u : List Item) (d : Demand) : (touchN u ns d).1.map Node.stage = ns.map Node.stage := by
  induction ns generalizing u with
  | nil => rfl
  | cons n ns ih =>
    simp only [touchN, List.map_cons]
    rw [nodeStep_stage, ih]

theorem touchN_length : ∀ (ns : List Node) (u : List Item) (d : Demand),
    (touchN u ns d).1.length = ns.length := by
  intro ns u d
  rw [← List.length_map (f := Node.stage), touchN_stage, List.length_map]

theorem touchN_ok (ns : List Node) (u : List Item) (d : Demand) (h : chainOK u ns) : chainOK u (touchN u ns d).1 := by
  induction ns generalizing u with
  | nil => trivial
  | cons n ns ih =>
    obtain ⟨hok, hf, hrest⟩ := h
    simp only [touchN]
    refine ⟨nodeStep_ok n u _ hok, nodeStep_fixed n u _ hf, ?_⟩
    rw [nodeStep_den, nodeView_eq_den n u hok hf]
    exact ih _ hrest

theorem denN_append (a b : List Node) (u : List Item) : denN u (a ++ b) = denN (denN u a) b := by
  induction a generalizing u with
  | nil => rfl
  | cons n a ih => exact ih _

theorem viewN_append : ∀ (a b : List Node) (u : List Item), viewN u (a ++ b) = viewN (viewN u a) b := by
  intro a b
  induction a with
  | nil => exact fun _ => rfl
  | cons n a ih => exact fun u => ih _

theorem chainOK_append (a b : List Node) (u : List Item) :
    chainOK u (a ++ b) ↔ chainOK u a ∧ chainOK (denN u a) b := by
  induction a generalizing u with
  | nil => exact ⟨fun h => ⟨trivial, h⟩, fun h => h.2⟩
  | cons n a ih => simp only [List.cons_append, chainOK, denN, ih, and_assoc]

theorem chainOK_snoc {ns : List Node} {n : Node} {u : List Item} :
    chainOK u (ns ++ [n]) ↔ chainOK u ns ∧ nodeOK n (denN u ns) ∧ n.Fixed := by
  rw [chainOK_append]
  simp only [chainOK, and_true]

theorem touchN_append (a b : List Node) (u : List Item) (d : Demand) :
    touchN u (a ++ b) d =
      ((touchN u a (touchN (viewN u a) b d).2).1 ++ (touchN (viewN u a) b d).1, (touchN u a (touchN (viewN u a) b d).2).2) := by
  induction a generalizing u with
  | nil => rfl
  | cons n a ih =>
    simp only [List.cons_append, touchN, viewN]
    rw [ih]

theorem flatMap_nodePar_of_chainOK (ns : List Node) (u : List Item) (h : chainOK u ns) :
    ns.flatMap nodePar = ns.flatMap nodeParDen := by
  induction ns generalizing u with
  | nil => rfl
  | cons n ns ih =>
    obtain ⟨_, hf, hrest⟩ := h
    simp only [List.flatMap_cons]
    rw [ih _ hrest, nodePar_of_fixed n hf]

/-! ### chains that may stand in for one another -/

/-- `ns'` may stand in for `ns` over the upstream `u`: the fields are all `ObjGood` sees of a chain -/
structure StandsFor (u : List Item) (ns' ns : List Node) : Prop where
  ok : chainOK u ns → chainOK u ns'
  den : denN u ns' = denN u ns
  par : ns'.flatMap nodeParDen = ns.flatMap nodeParDen
  fin : ns'.any isFinalize = ns.any isFinalize

namespace StandsFor

theorem refl (u : List Item) (ns : List Node) : StandsFor u ns ns := ⟨id, rfl, rfl, rfl⟩

theorem trans {u : List Item} {a b c : List Node} (h1 : StandsFor u a b) (h2 : StandsFor u b c) : StandsFor u a c :=
  ⟨fun h => h1.ok (h2.ok h), h1.den.trans h2.den, h1.par.trans h2.par, h1.fin.trans h2.fin⟩

theorem append {u : List Item} {a' a c' c : List Node} (h1 : StandsFor u a' a) (h2 : StandsFor (denN u a) c' c) :
    StandsFor u (a' ++ c') (a ++ c) := by
  refine ⟨fun h => ?_, ?_, ?_, ?_⟩
  · obtain ⟨ha, hc⟩ := (chainOK_append a c u).mp h
    exact (chainOK_append a' c' u).mpr ⟨h1.ok ha, h1.den ▸ h2.ok hc⟩
  · rw [denN_append, denN_append, h1.den, h2.den]
  · rw [List.flatMap_append, List.flatMap_append, h1.par, h2.par]
  · rw [List.any_append, List.any_append, h1.fin, h2.fin]

theorem append_right {u : List Item} {a' a e : List Node} (h1 : StandsFor u a' a) (h2 : StandsFor (denN u a) e []) :
    StandsFor u (a' ++ e) a :=
  List.append_nil a ▸ h1.append h2

theorem of_sameStages {u : List Item} {ns' ns : List Node} (hst : ns'.map Node.stage = ns.map Node.stage)
    (hok : chainOK u ns → chainOK u ns') : StandsFor u ns' ns where
  ok := hok
  den := by rw [← denN_stage, hst, denN_stage]
  par := by rw [← flatMap_nodeParDen_stage, hst, flatMap_nodeParDen_stage]
  fin := by rw [← any_isFinalize_stage, hst, any_isFinalize_stage]

theorem cache_unread (u : List Item) (sz : Option Nat) (prot : Bool) : StandsFor u [.cache sz prot .unread] [] :=
  ⟨fun _ => ⟨trivial, trivial, trivial⟩, rfl, rfl, rfl⟩

theorem chunk (u : List Item) : StandsFor u [.pure chunkP] [] :=
  ⟨fun _ => ⟨trivial, trivial, trivial⟩, rfl, rfl, rfl⟩

theorem view {u : List Item} {ns' ns : List Node} (h : StandsFor u ns' ns) (hok : chainOK u ns) : viewN u ns' = denN u ns :=
  (viewN_eq_denN _ _ (h.ok hok)).trans h.den

end StandsFor

theorem touchN_standsFor (ns : List Node) (u : List Item) (d : Demand) : StandsFor u (touchN u ns d).1 ns :=
  .of_sameStages (touchN_stage ns u d) (touchN_ok ns u d)

theorem chain_reads {u x : List Item} {ns : List Node} (h : chainOK u ns) (hx : denN u ns = x) (d : Demand) :
    viewN u ns = x ∧ viewN u (touchN u ns d).1 = x :=
  ⟨(viewN_eq_denN _ _ h).trans hx, ((touchN_standsFor ns u d).view h).trans hx⟩

theorem resetLive_standsFor (n : Node) (u : List Item) : StandsFor u [resetLive n] [n] := by
  cases n with
  | cache sz prot st =>
    cases st with
    | prog c r => exact ⟨fun _ => ⟨trivial, trivial, trivial⟩, rfl, rfl, rfl⟩
    | _ => exact .refl _ _
  | _ => exact .refl _ _

theorem map_resetLive_standsFor (ns : List Node) (u : List Item) : StandsFor u (ns.map resetLive) ns := by
  induction ns generalizing u with
  | nil => exact .refl _ _
  | cons n ns ih => exact (resetLive_standsFor n u).append (ih _)

theorem not_kept {n : Node} (h : keptByMaterialize n ≠ true) : ∃ sz st, n = .cache sz false st := by
  cases n with
  | cache sz prot st =>
    cases prot with
    | false => exact ⟨sz, st, rfl⟩
    | true => exact absurd rfl h
  | _ => exact absurd rfl h

/-- `materialize()` drops the unprotected caches: they denote the identity, report nothing and are no `Finalize` -/
theorem filter_kept_standsFor (ns : List Node) (u : List Item) : StandsFor u (ns.filter keptByMaterialize) ns := by
  induction ns generalizing u with
  | nil => exact .refl _ _
  | cons n ns ih =>
    by_cases hk : keptByMaterialize n = true
    · rw [List.filter_cons_of_pos hk]
      exact (StandsFor.refl u [n]).append (ih _)
    · rw [List.filter_cons_of_neg hk]
      obtain ⟨sz, st, rfl⟩ := not_kept hk
      exact ⟨fun h => (ih u).ok h.2.2, (ih u).den, (ih u).par, (ih u).fin⟩

/-! ### chains of built-in filters and of fitting-window stages -/

theorem filtNodes_den (att : Item → Attr) (fs : List (Filt × List Nat)) (u : List Item) :
    denN u (filtNodes att fs) = filtDen att u fs := by
  induction fs generalizing u with
  | nil => rfl
  | cons f fs ih => exact ih _

theorem chainOK_map_pure {α : Type} (f : α → PureSt) (l : List α) (u : List Item) : chainOK u (l.map (fun a => .pure (f a))) := by
  induction l generalizing u with
  | nil => trivial
  | cons a l ih => exact ⟨trivial, trivial, ih _⟩

theorem filtNodes_ok (att : Item → Attr) (fs : List (Filt × List Nat)) (u : List Item) :
    chainOK u (filtNodes att fs) := chainOK_map_pure _ fs u

theorem fit_chain_den (sd : List Rat → Rat) (dec : List Item → C11.Ctxs) (enc : C11.Ctxs → List Item) (hde : ∀ c, dec (enc c) = c)
    (ss : List (FitStage × List Nat)) (u : List Item) :
    dec (denN u (ss.map (fun s => Node.pure (fitPure sd dec enc s.1 s.2)))) = fitDen sd (ss.map (·.1)) (dec u) := by
  induction ss generalizing u with
  | nil => rfl
  | cons s ss ih => exact (ih _).trans (congrArg (fitDen sd (ss.map (·.1))) (hde _))

theorem ctxsDrop_zero (c : C11.Ctxs) : ctxsDrop 0 c = c := by cases c <;> simp [ctxsDrop]

/-! ### objects -/

theorem srcView_reiter (s : Src) (h : s.once = false) : srcView s = s.items := by
  simp [srcView, h]

theorem srcStep_once (s : Src) (d : Demand) : (srcStep s d).once = s.once := rfl
theorem srcStep_items (s : Src) (d : Demand) : (srcStep s d).items = s.items := rfl
theorem srcStep_parPost (s : Src) (d : Demand) : (srcStep s d).parPost = s.parPost := rfl

/-- `s'` may stand in for `s`: the fields are all `ObjGood` sees of a source -/
structure Src.StandsFor (s' s : Src) : Prop where
  once : s'.once = s.once
  items : s'.items = s.items
  parPost : s'.parPost = s.parPost

theorem Src.StandsFor.refl (s : Src) : s.StandsFor s := ⟨rfl, rfl, rfl⟩

theorem Src.StandsFor.step (s : Src) (d : Demand) (b : Bool) : Src.StandsFor { srcStep s d with started := b } s := ⟨rfl, rfl, rfl⟩

theorem touch_src (o : Obj) (d : Demand) : (o.touch d).src.StandsFor o.src := .step _ _ _

theorem ObjGood.view_eq {fin D P} {o : Obj} (hg : ObjGood fin D P o) : o.view = D := by
  unfold Obj.view
  rw [srcView_reiter _ hg.reiter, viewN_eq_denN _ _ hg.ok]
  exact hg.den

theorem finalized_of_any {fin : PureSt} {ns : List Node} (h : ns.any isFinalize = true) :
    finalized fin ns = (ns, false) := by
  unfold finalized
  rw [if_pos h]

theorem finalized_of_not_any {fin : PureSt} {ns : List Node} (h : ns.any isFinalize = false) :
    finalized fin ns = (ns ++ [.finalize fin none], true) := by
  unfold finalized
  rw [if_neg (by rw [h]; exact Bool.false_ne_true)]

theorem viewN_finalized (fin : PureSt) (u : List Item) (b : List Node) :
    viewN u (finalized fin b).1 =
      if (finalized fin b).2 = true then nodeView (.finalize fin none) (viewN u b) else viewN u b := by
  cases h : b.any isFinalize with
  | true => rw [finalized_of_any h]; rfl
  | false => rw [finalized_of_not_any h]; exact viewN_append b _ u

theorem StandsFor.finalized {u : List Item} {b' b : List Node} (fin : PureSt) (h : StandsFor u b' b) :
    StandsFor u (finalized fin b').1 (finalized fin b).1 := by
  cases hf : b.any isFinalize with
  | true => rwa [finalized_of_any hf, finalized_of_any (h.fin.trans hf)]
  | false =>
    rw [finalized_of_not_any hf, finalized_of_not_any (h.fin.trans hf)]
    exact h.append (.refl _ _)

/-- the last node is the object's own `Finalize` (the `own` clause of `ObjGood`) -/
def Own (fin : PureSt) (ns : List Node) : Prop := ∃ b fl, ns = b ++ [.finalize fin fl] ∧ b.any isFinalize = false

theorem ObjGood.owns {fin D P} {o : Obj} (hg : ObjGood fin D P o) (h : o.ownFin = true) : Own fin o.nodes := hg.own h

theorem finalized_own {fin : PureSt} {b : List Node} (h : (finalized fin b).2 = true) : Own fin (finalized fin b).1 := by
  cases hf : b.any isFinalize with
  | true => rw [finalized_of_any hf] at h; cases h
  | false => rw [finalized_of_not_any hf]; exact ⟨b, none, rfl, hf⟩

theorem Own.of_sameStages {fin : PureSt} {ns' ns : List Node} (hst : ns'.map Node.stage = ns.map Node.stage) (h : Own fin ns) :
    Own fin ns' := by
  -- only the flag of the `Finalize` can differ
  obtain ⟨b, fl, hb, hnf⟩ := h
  rw [hb, List.map_append] at hst
  obtain ⟨b', l', rfl, hb', hl'⟩ := List.map_eq_append_iff.mp hst
  obtain ⟨n', rest, rfl, hn', hrest⟩ := List.map_eq_cons_iff.mp hl'
  cases List.map_eq_nil_iff.mp hrest
  obtain ⟨fl', rfl⟩ := Node.stage_eq_finalize hn'
  exact ⟨b', fl', rfl, by rwa [← any_isFinalize_stage, hb', any_isFinalize_stage]⟩

theorem ObjGood.replace {fin D P} {o : Obj} (hg : ObjGood fin D P o) (s : Src) (ns : List Node) (own : Bool)
    (hs : s.StandsFor o.src) (hns : StandsFor o.src.items ns o.nodes) (hown : own = true → Own fin ns) :
    ObjGood fin D P { src := s, nodes := ns, ownFin := own } where
  reiter := hs.once.trans hg.reiter
  ok := hs.items ▸ hns.ok hg.ok
  den := show denN s.items ns = D from hs.items ▸ hns.den.trans hg.den
  par := show s.parPost ++ ns.flatMap nodeParDen = P from hs.parPost ▸ hns.par ▸ hg.par
  hasFin := hns.fin.trans hg.hasFin
  own := hown

theorem ObjGood.touch {fin D P} {o : Obj} (hg : ObjGood fin D P o) (d : Demand) :
    ObjGood fin D P (o.touch d) :=
  hg.replace _ _ o.ownFin (touch_src o d) (srcView_reiter _ hg.reiter ▸ touchN_standsFor _ _ _)
    (fun h => .of_sameStages (touchN_stage _ _ _) (hg.owns h))

theorem ObjGood.params_eq {fin D P} {o : Obj} (hg : ObjGood fin D P o) (hs : o.src.started = true) :
    o.params = P := by
  unfold Obj.params srcPar
  rw [hs, flatMap_nodePar_of_chainOK _ _ hg.ok]
  exact hg.par

theorem touch_started (o : Obj) (d : Demand) (h : d.isNone = false) : (o.touch d).src.started = true := by
  simp [Obj.touch, h]

theorem ObjGood.own_or_inner {fin D P} {o : Obj} (hg : ObjGood fin D P o) :
    (o.base.any isFinalize = false ∧ ∃ fl, o.nodes = o.base ++ [.finalize fin fl]) ∨
    (o.base.any isFinalize = true ∧ o.nodes = o.base ∧ o.ownFin = false) := by
  by_cases hown : o.ownFin = true
  · obtain ⟨b, fl, hb, hnf⟩ := hg.own hown
    have hbase : o.base = b := by simp [Obj.base, hown, hb]
    exact .inl ⟨hbase ▸ hnf, fl, hbase ▸ hb⟩
  · have hown' : o.ownFin = false := eq_false_of_ne_true hown
    have hbase : o.base = o.nodes := by simp [Obj.base, hown']
    exact .inr ⟨hbase ▸ hg.hasFin, hbase.symm, hown'⟩

theorem ObjGood.tail_par {fin D P} {o : Obj} (hg : ObjGood fin D P o) :
    (o.nodes.drop o.base.length).flatMap nodePar = [] := by
  rcases hg.own_or_inner with ⟨_, fl, hnodes⟩ | ⟨_, hnodes, _⟩
  · rw [hnodes, List.drop_left]; rfl
  · rw [hnodes, List.drop_length]; rfl

/-- an own `Finalize` is as good as a fresh one -/
theorem ObjGood.finalized_base {fin D P} {o : Obj} (hg : ObjGood fin D P o) :
    StandsFor o.src.items (finalized fin o.base).1 o.nodes := by
  rcases hg.own_or_inner with ⟨hnf, fl, hnodes⟩ | ⟨hany, hnodes, _⟩
  · rw [finalized_of_not_any hnf, hnodes]
    exact .append (.refl _ _) (.of_sameStages rfl (fun _ => ⟨trivial, trivial, trivial⟩))
  · rw [finalized_of_any hany, hnodes]
    exact .refl _ _

theorem ObjGood.derive {fin D P} {o : Obj} (hg : ObjGood fin D P o) {b : List Node} (hb : StandsFor o.src.items b o.base) :
    ObjGood fin D P { src := o.src, nodes := (finalized fin b).1, ownFin := (finalized fin b).2 } :=
  hg.replace _ _ _ (.refl _) ((hb.finalized fin).trans hg.finalized_base) finalized_own

theorem Obj.base_append_drop (o : Obj) : o.base ++ o.nodes.drop o.base.length = o.nodes := by
  unfold Obj.base
  split
  · rw [List.dropLast_eq_take, List.length_take, Nat.min_eq_left (Nat.sub_le _ _), List.take_append_drop]
  · rw [List.drop_length, List.append_nil]

/-- the parent after `save()`: the session ran on the base alone, a fresh `Finalize` standing in for the object's own -/
theorem ObjGood.touchBase {fin D P} {o : Obj} (hg : ObjGood fin D P o) (d : Demand) :
    ObjGood fin D P { o with
      src := { srcStep o.src (touchN (srcView o.src) o.base d).2 with started := true },
      nodes := (touchN (srcView o.src) o.base d).1 ++ o.nodes.drop o.base.length } := by
  refine hg.replace _ _ _ (.step _ _ _) ?_
    (fun h => .of_sameStages (by rw [List.map_append, touchN_stage, ← List.map_append, o.base_append_drop]) (hg.owns h))
  have h := (touchN_standsFor o.base o.src.items d).append (.refl _ (o.nodes.drop o.base.length))
  rw [srcView_reiter _ hg.reiter]
  rwa [o.base_append_drop] at h

/-- the items `save()` writes (`items` in `stepObj`) are the view of the base finalized again -/
theorem ObjGood.finalized_view {fin D P} {o : Obj} (hg : ObjGood fin D P o) :
    (if (finalized fin o.base).2 = true then nodeView (.finalize fin none) (viewN (srcView o.src) o.base)
      else viewN (srcView o.src) o.base) = D := by
  rw [← viewN_finalized, srcView_reiter _ hg.reiter, hg.finalized_base.view hg.ok]
  exact hg.den

/-! ### the pool -/

theorem getObj_eq_some {w : World} {j : Nat} {o : Obj} : getObj w j = some o ↔ w.objs[j]? = some (some o) := by
  unfold getObj
  cases w.objs[j]? with
  | none => simp
  | some x => cases x <;> simp

theorem getObj_congr {w w' : World} {j : Nat} (h : w'.objs[j]? = w.objs[j]?) : getObj w' j = getObj w j := by
  unfold getObj
  rw [h]

theorem getObj_lt {w : World} {j : Nat} {o : Obj} (h : getObj w j = some o) : j < w.objs.length :=
  (List.getElem?_eq_some_iff.mp (getObj_eq_some.mp h)).1

theorem getObj_mem {w : World} {j : Nat} {o : Obj} (h : getObj w j = some o) : some o ∈ w.objs :=
  List.mem_of_getElem? (getObj_eq_some.mp h)

theorem setObj_length (w : World) (j : Nat) (o : Obj) : (setObj w j o).objs.length = w.objs.length := List.length_set ..

theorem getObj_push_new (w : World) (x : Obj) : getObj (pushObj w (some x)) w.objs.length = some x :=
  getObj_eq_some.mpr List.getElem?_concat_length

theorem WorldGood.set {D P} {w : World} (hw : WorldGood D P w) (j : Nat) {o : Obj}
    (ho : ObjGood w.fin D P o) : WorldGood D P (setObj w j o) := by
  refine ⟨hw.fixed, hw.finIdem, ?_⟩
  intro o' hmem
  simp only [setObj] at hmem
  rcases List.mem_or_eq_of_mem_set hmem with h | h
  · exact hw.objs o' h
  · cases h
    exact ho

theorem WorldGood.push {D P} {w : World} (hw : WorldGood D P w) {x : Option Obj}
    (hx : ∀ o, x = some o → ObjGood w.fin D P o) : WorldGood D P (pushObj w x) := by
  refine ⟨hw.fixed, hw.finIdem, ?_⟩
  intro o' hmem
  simp only [pushObj, List.mem_append, List.mem_singleton] at hmem
  rcases hmem with h | h
  · exact hw.objs o' h
  · exact hx o' h.symm

theorem WorldGood.push_some {D P} {w : World} (hw : WorldGood D P w) {o : Obj} (ho : ObjGood w.fin D P o) :
    WorldGood D P (pushObj w (some o)) :=
  hw.push (fun _ h => Option.some.inj h ▸ ho)

/-- results of the read operations demanded by the property -/
def OutOK (D : List Item) : Op → Out → Prop
  | .full _, out => out = .items D ∨ out = .skip
  | .part _ k, out => out = .items ((partialDemand k D).take D) ∨ out = .skip
  | _, _ => True

theorem stepObj_good {D P} {w : World} (hw : WorldGood D P w) (j : Nat) (o : Obj)
    (hg : ObjGood w.fin D P o) (op : Op) :
    WorldGood D P (stepObj w j o op).1 ∧ OutOK D op (stepObj w j o op).2 := by
  have unowned : ∀ {ns : List Node}, false = true → Own w.fin ns := fun h => nomatch h
  cases op with
  | full on =>
    exact ⟨hw.set j (hg.touch .all), Or.inl (congrArg Out.items hg.view_eq)⟩
  | part on k =>
    exact ⟨hw.set j (hg.touch _), Or.inl (by rw [← hg.view_eq]; rfl)⟩
  | params on => exact ⟨hw, trivial⟩
  | cache on =>
    exact ⟨hw.push_some (hg.derive (.append_right (.refl _ _) (.cache_unread _ _ _))), trivial⟩
  | chunk on =>
    exact ⟨hw.push_some (hg.derive (.append_right (.refl _ _) (.append (c := []) (.chunk _) (.cache_unread _ _ _)))), trivial⟩
  | materialize on =>
    refine ⟨?_, trivial⟩
    have hF : StandsFor o.src.items (finalized w.fin o.base).1 o.nodes := hg.finalized_base
    simp only [stepObj]
    split
    · exact hw.push_some (hg.replace _ _ _ (.refl _) hF unowned)
    · -- the materialized object, read completely; the read starts the source it shares with its parent
      have hm := (hg.replace _ _ _ (.refl _)
        (.trans (.append_right (filter_kept_standsFor _ _) (.cache_unread _ none true)) hF) unowned).touch .all
      -- the parent's source is taken from the goal first: matched against `o.src` alone, `touch_src` would be a read of `o`
      refine (hw.set j (hg.replace _ _ _ ?_ (.refl _ _) hg.owns)).push_some hm
      exact touch_src _ _
  | pickle on =>
    refine ⟨?_, trivial⟩
    simp only [stepObj, hw.fixed]
    exact hw.push_some (hg.replace o.src _ _ (.refl _) (map_resetLive_standsFor _ _) unowned)
  | save on =>
    refine ⟨?_, trivial⟩
    simp only [stepObj, hw.fixed]
    have hparent := hg.touchBase (if (finalized w.fin o.base).2 = true
      then (nodeStep (Node.finalize w.fin none) (viewN (srcView o.src) o.base) Demand.all).2 else Demand.all)
    refine (hw.set j hparent).push_some
      { reiter := rfl, ok := ⟨trivial, trivial, trivial⟩, den := ?den, par := ?par, hasFin := rfl, own := fun _ => ⟨[], none, rfl, rfl⟩ }
    case den =>
      -- the items written to the file are the denotation, and `Finalize` leaves it as it is
      show nodeDen (.finalize w.fin none) _ = D
      rw [hg.finalized_view]
      exact hw.finIdem
    case par =>
      -- the params recorded after the read are those of the parent once its source has been started
      have hp := hparent.params_eq rfl
      unfold Obj.params at hp
      rw [List.flatMap_append, hg.tail_par, List.append_nil] at hp
      show (_ ++ _) ++ [] = P
      rw [List.append_nil]
      exact hp

theorem step_some {w : World} {op : Op} {o : Obj} (h : getObj w op.on = some o) :
    step w op = stepObj w op.on o op := by
  unfold step
  rw [h]

theorem step_none {w : World} {op : Op} (h : getObj w op.on = none) :
    step w op = (if isDerive op then pushObj w none else w, .skip) := by
  unfold step
  rw [h]

theorem step_good {D P} {w : World} (hw : WorldGood D P w) (op : Op) :
    WorldGood D P (step w op).1 ∧ OutOK D op (step w op).2 := by
  cases ho : getObj w op.on with
  | some o =>
    rw [step_some ho]
    exact stepObj_good hw _ o (hw.objs o (getObj_mem ho)) op
  | none =>
    rw [step_none ho]
    refine ⟨?_, ?_⟩
    · dsimp only
      split
      · exact hw.push (fun _ h => nomatch h)
      · exact hw
    · cases op <;> first | trivial | exact Or.inr rfl

theorem runW_good {D P} (ops : List Op) {w : World} (hw : WorldGood D P w) : WorldGood D P (runW w ops) := by
  induction ops generalizing w with
  | nil => exact hw
  | cons op ops ih => exact ih (step_good hw op).1

theorem run_append (a b : List Op) (w : World) : run w (a ++ b) = run w a ++ run (runW w a) b := by
  induction a generalizing w with
  | nil => rfl
  | cons op a ih => simp only [List.cons_append, run, runW]; rw [ih]

theorem runW_append (a b : List Op) (w : World) : runW w (a ++ b) = runW (runW w a) b := by
  induction a generalizing w with
  | nil => rfl
  | cons op a ih => exact ih _

/-! ### what an operation can change in the pool -/

/-- `o'` is `o` some operations later -/
structure Obj.SameData (o o' : Obj) : Prop where
  items : o'.src.items = o.src.items
  started : o.src.started = true → o'.src.started = true

theorem Obj.SameData.refl (o : Obj) : o.SameData o := ⟨rfl, id⟩

theorem Obj.SameData.trans {a b c : Obj} (h1 : a.SameData b) (h2 : b.SameData c) : a.SameData c :=
  ⟨h2.items.trans h1.items, fun h => h2.started (h1.started h)⟩

theorem touch_sameData (o : Obj) (d : Demand) : o.SameData (o.touch d) :=
  ⟨(touch_src o d).items, fun h => by simp [Obj.touch, h]⟩

theorem stepObj_objs (w : World) (i : Nat) (o : Obj) (op : Op) (ho : getObj w i = some o) :
    ∃ o' xs, (stepObj w i o op).1.objs = w.objs.set i (some o') ++ xs ∧ o.SameData o' := by
  have hself : w.objs.set i (some o) = w.objs := by
    obtain ⟨h, he⟩ := List.getElem?_eq_some_iff.mp (getObj_eq_some.mp ho)
    rw [← he, List.set_getElem_self]
  have hpush : ∀ x, ∃ o' xs, (pushObj w x).objs = w.objs.set i (some o') ++ xs ∧ o.SameData o' :=
    fun x => ⟨o, [x], by rw [hself]; rfl, .refl o⟩
  cases op with
  | full on => exact ⟨o.touch .all, [], (List.append_nil _).symm, touch_sameData o _⟩
  | part on k => exact ⟨o.touch (partialDemand k o.view), [], (List.append_nil _).symm, touch_sameData o _⟩
  | params on => exact ⟨o, [], by rw [hself, List.append_nil]; rfl, .refl o⟩
  | cache on => exact hpush _
  | chunk on => exact hpush _
  | materialize on =>
    simp only [stepObj]
    split
    · exact hpush _
    · -- the projections of the new parent are reduced first: matched as they stand they make the unifier unfold `Obj.touch`
      refine ⟨_, [_], rfl, { items := ?_, started := fun _ => ?_ }⟩
      · dsimp only
        exact (touch_src _ .all).items
      · dsimp only
        exact touch_started _ .all rfl
  | pickle on =>
    simp only [stepObj]
    split
    · split <;> exact hpush _
    · exact hpush _
  | save on => exact ⟨_, [_], rfl, { items := rfl, started := fun _ => rfl }⟩

/-- what an operation on object `i` leaves of the pool `w` in `w'` -/
structure Frame (w : World) (i : Nat) (w' : World) : Prop where
  length_le : w.objs.length ≤ w'.objs.length
  other : ∀ j, i ≠ j → j < w.objs.length → getObj w' j = getObj w j
  on : ∀ o, getObj w i = some o → ∃ o', getObj w' i = some o' ∧ o.SameData o'

theorem step_frame (w : World) (op : Op) : Frame w op.on (step w op).1 := by
  cases ho : getObj w op.on with
  | some o =>
    rw [step_some ho]
    obtain ⟨o', xs, hobjs, hsd⟩ := stepObj_objs w op.on o op ho
    have hlt := getObj_lt ho
    have hset : ∀ {j}, j < w.objs.length → j < (w.objs.set op.on (some o')).length := fun h => (List.length_set ..).symm ▸ h
    refine { length_le := ?_, other := fun j hj hjl => getObj_congr ?_, on := fun o₁ ho₁ => ⟨o', ?_, ?_⟩ }
    · rw [hobjs, List.length_append, List.length_set]
      exact Nat.le_add_right _ _
    · rw [hobjs, List.getElem?_append_left (hset hjl), List.getElem?_set_ne hj]
    · rw [getObj_eq_some, hobjs, List.getElem?_append_left (hset hlt), List.getElem?_set_self hlt]
    · cases ho.symm.trans ho₁
      exact hsd
  | none =>
    rw [step_none ho]
    refine { length_le := ?_, other := fun j _ hjl => ?_, on := fun o ho' => nomatch ho.symm.trans ho' }
    · dsimp only; split <;> simp [pushObj]
    · dsimp only
      split
      · exact getObj_congr (List.getElem?_append_left hjl)
      · rfl

theorem step_sameData (w : World) (op : Op) (j : Nat) (o : Obj) (h : getObj w j = some o) :
    ∃ o', getObj (step w op).1 j = some o' ∧ o.SameData o' := by
  by_cases hj : op.on = j
  · subst hj
    exact (step_frame w op).on o h
  · exact ⟨o, by rw [(step_frame w op).other j hj (getObj_lt h), h], .refl o⟩

theorem runW_sameData (ops : List Op) (w : World) (j : Nat) (o : Obj) (h : getObj w j = some o) :
    ∃ o', getObj (runW w ops) j = some o' ∧ o.SameData o' := by
  induction ops generalizing w o with
  | nil => exact ⟨o, h, .refl o⟩
  | cons op ops ih =>
    obtain ⟨o₁, h₁, s₁⟩ := step_sameData w op j o h
    obtain ⟨o₂, h₂, s₂⟩ := ih _ o₁ h₁
    exact ⟨o₂, h₂, s₁.trans s₂⟩

/-! ### params once the object has been read -/

/-- a read of object `j` has been started, so its source reports the params it has after a read (`srcPar`) -/
def Started (w : World) (j : Nat) : Prop := ∃ o, getObj w j = some o ∧ o.src.started = true

theorem runW_started (ops : List Op) (w : World) (j : Nat) (h : Started w j) : Started (runW w ops) j := by
  obtain ⟨o, ho, hst⟩ := h
  obtain ⟨o', ho', hsd⟩ := runW_sameData ops w j o ho
  exact ⟨o', ho', hsd.started hst⟩

theorem params_of_started {D P} {w : World} (hw : WorldGood D P w) (j : Nat) (h : Started w j) :
    (step w (.params j)).2 = .params P := by
  obtain ⟨o, ho, hst⟩ := h
  rw [step_some (op := .params j) ho]
  exact congrArg Out.params ((hw.objs o (getObj_mem ho)).params_eq hst)

theorem full_starts (w : World) (j : Nat) (o : Obj) (ho : getObj w j = some o) :
    Started (step w (.full j)).1 j := by
  rw [step_some (op := .full j) ho]
  exact ⟨_, getObj_eq_some.mpr (List.getElem?_set_self (getObj_lt ho)), touch_started _ _ rfl⟩

theorem materialize_started (w : World) (j : Nat) (o : Obj) (ho : getObj w j = some o)
    (hnc : lastIsCache (finalized w.fin o.base).1 = false) : Started (step w (.materialize j)).1 w.objs.length := by
  rw [step_some (op := .materialize j) ho]
  simp only [stepObj]
  rw [if_neg (by rw [hnc]; exact Bool.false_ne_true)]
  dsimp only
  rw [← setObj_length w j]
  exact ⟨_, getObj_push_new _ _, touch_started _ .all rfl⟩

theorem save_started (w : World) (j : Nat) (o : Obj) (ho : getObj w j = some o) :
    Started (step w (.save j)).1 w.objs.length := by
  rw [step_some (op := .save j) ho]
  simp only [stepObj]
  rw [← setObj_length w j]
  exact ⟨_, getObj_push_new _ _, rfl⟩

/-! ### Densify's lookup table -/

theorem feed_append (a b tbl : List Nat) : feed tbl (a ++ b) = feed (feed tbl a) b := by
  induction a generalizing tbl with
  | nil => rfl
  | cons k a ih => exact ih _

theorem feed_of_subset (a tbl : List Nat) (h : ∀ k ∈ a, k ∈ tbl) : feed tbl a = tbl := by
  induction a with
  | nil => rfl
  | cons k a ih =>
    simp only [feed]
    rw [if_pos (h k List.mem_cons_self)]
    exact ih (fun k' hk' => h k' (List.mem_cons_of_mem _ hk'))

theorem mem_feed_of_mem (a tbl : List Nat) (k : Nat) (h : k ∈ tbl) : k ∈ feed tbl a := by
  induction a generalizing tbl with
  | nil => exact h
  | cons k' a ih =>
    simp only [feed]
    apply ih
    split
    · exact h
    · exact List.mem_append_left _ h

theorem mem_feed_self (a tbl : List Nat) (k : Nat) (h : k ∈ a) : k ∈ feed tbl a := by
  induction a generalizing tbl with
  | nil => cases h
  | cons k' a ih =>
    simp only [feed]
    rcases List.mem_cons.mp h with rfl | h'
    · apply mem_feed_of_mem a
      split
      · assumption
      · simp
    · exact ih _ h'

theorem feed_absorb (tbl p l : List Nat) (h : l <+: p) : feed (feed tbl p) l = feed tbl p :=
  feed_of_subset _ _ fun k hk => mem_feed_self _ _ k (h.subset hk)

theorem feed_prefix (tbl : List Nat) {p l : List Nat} (h : p <+: l) : feed (feed tbl p) l = feed tbl l := by
  obtain ⟨q, rfl⟩ := h
  rw [feed_append, feed_absorb tbl p p (List.prefix_refl p), ← feed_append]

theorem feed_prefix_step (tbl K : List Nat) (M m : Nat) :
    feed (feed tbl (K.take M)) (K.take m) = feed tbl (K.take (max M m)) := by
  by_cases h : m ≤ M
  · rw [Nat.max_eq_left h]
    exact feed_absorb _ _ _ (List.take_prefix_take_left h)
  · rw [Nat.max_eq_right (Nat.le_of_not_le h)]
    exact feed_prefix _ (List.take_prefix_take_left (Nat.le_of_not_le h))

theorem feedHistory_prefix (tbl K : List Nat) (ms : List Nat) (M : Nat) :
    ∃ M', feedHistory K (feed tbl (K.take M)) ms = feed tbl (K.take M') := by
  induction ms generalizing M with
  | nil => exact ⟨M, rfl⟩
  | cons m ms ih =>
    simp only [feedHistory]
    rw [feed_prefix_step]
    exact ih _

/-! ### caller-owned objects -/

theorem hrun_eq_run (h : HWorld) (ops : List Op) : hrun h ops = run h.w ops := by
  induction ops generalizing h with
  | nil => rfl
  | cons op ops ih => exact congrArg ((step h.w op).2 :: ·) (ih (hstep h op).1)

theorem hrunW_caller (h : HWorld) (ops : List Op) (hne : ∀ j, h.argEdit j = none) : (hrunW h ops).caller = h.caller := by
  induction ops generalizing h with
  | nil => rfl
  | cons op ops ih =>
    refine (ih (hstep h op).1 hne).trans ?_
    simp only [hstep, hne, ite_self]

/-! ### per-instance memoisation -/

theorem lookup_filter_ne {κ β} [BEq κ] [LawfulBEq κ] (k k' : κ) (hk : k' ≠ k) (es : List (κ × β)) :
    (es.filter (fun e => e.1 != k)).lookup k' = es.lookup k' := by
  induction es with
  | nil => rfl
  | cons e es ih =>
    obtain ⟨a, b⟩ := e
    by_cases ha : a = k
    · subst ha
      have hka : (k' == a) = false := beq_false_of_ne hk
      simp [List.lookup, hka, ih]
    · simp [ha, List.lookup, ih]

theorem memo_call_none (draw : Nat → Nat → Nat → Nat) (m : Memo) (i a : Nat) :
    (m.call none draw i a).1.entries.lookup (i, a) = some (m.call none draw i a).2 ∧
    (∀ k v, m.entries.lookup k = some v → (m.call none draw i a).1.entries.lookup k = some v) := by
  unfold Memo.call
  cases h : m.entries.lookup (i, a) with
  | some v =>
    refine ⟨by simp [List.lookup], ?_⟩
    intro k v' hk
    by_cases hka : k = (i, a)
    · subst hka
      rw [h] at hk
      simp [List.lookup, Option.some.inj hk]
    · have : (k == (i, a)) = false := beq_false_of_ne hka
      simp only [List.lookup, this]
      rw [lookup_filter_ne (i, a) k hka]; exact hk
  | none =>
    refine ⟨by simp [List.lookup], ?_⟩
    intro k v' hk
    by_cases hka : k = (i, a)
    · subst hka; rw [h] at hk; simp at hk
    · have : (k == (i, a)) = false := beq_false_of_ne hka
      simp only [List.lookup, this]; exact hk

/-- what a read of the pairs `qs` through an unbounded memo `m` leaves (`m'`) and returns (`vs`) -/
structure Memo.ReadNone (m : Memo) (qs : List (Nat × Nat)) (m' : Memo) (vs : List Nat) : Prop where
  keeps : ∀ k v, m.entries.lookup k = some v → m'.entries.lookup k = some v
  vals : vs = qs.filterMap (fun q => m'.entries.lookup q)
  holds : ∀ q ∈ qs, (m'.entries.lookup q).isSome

theorem memo_read_none (draw : Nat → Nat → Nat → Nat) (qs : List (Nat × Nat)) (m : Memo) :
    m.ReadNone qs (Memo.read none draw m qs).1 (Memo.read none draw m qs).2 := by
  induction qs generalizing m with
  | nil => exact ⟨fun _ _ h => h, rfl, fun _ h => nomatch h⟩
  | cons q qs ih =>
    obtain ⟨i, a⟩ := q
    obtain ⟨c1, c2⟩ := memo_call_none draw m i a
    have r := ih (m.call none draw i a).1
    simp only [Memo.read]
    refine ⟨fun k v h => r.keeps k v (c2 k v h), ?_, ?_⟩
    · have hq := r.keeps (i, a) _ c1
      simp only [List.filterMap_cons, hq]
      rw [← r.vals]
    · intro q hq
      rcases List.mem_cons.mp hq with rfl | hq'
      · rw [r.keeps (i, a) _ c1]; rfl
      · exact r.holds q hq'

theorem memo_after_mono (draw : Nat → Nat → Nat → Nat) (qss : List (List (Nat × Nat))) (m : Memo) (k : Nat × Nat) (v : Nat)
    (h : m.entries.lookup k = some v) : (Memo.after none draw m qss).entries.lookup k = some v := by
  induction qss generalizing m with
  | nil => exact h
  | cons q qss ih => exact ih _ ((memo_read_none draw q m).keeps k v h)

/-! ### aliasing: which stage writes into objects it received -/

theorem gstage_store_grows {α : Type} (d : α) (s : GStage α) (hs : s.writesInput = false) (st : List α) (as : List Nat) :
    st <+: (s.run d (st, as)).1 := by
  cases s with
  | alloc F => exact List.prefix_append _ _
  | share => exact List.prefix_rfl
  | pick sel => exact List.prefix_rfl
  | write F => cases hs

theorem grunStages_store_grows {α : Type} (d : α) (ss : List (GStage α)) (h : ∀ s ∈ ss, s.writesInput = false) (st : List α) (as : List Nat) :
    st <+: (grunStages d ss (st, as)).1 := by
  induction ss generalizing st as with
  | nil => exact List.prefix_rfl
  | cons s ss ih =>
    exact (gstage_store_grows d s (h s List.mem_cons_self) st as).trans (ih (fun x hx => h x (List.mem_cons_of_mem _ hx)) _ _)

theorem gvals_append_left {α : Type} (d : α) (st ext : List α) (as : List Nat) (hv : ∀ a ∈ as, a < st.length) :
    gvals d (st ++ ext) as = gvals d st as := by
  apply List.map_congr_left
  intro a ha
  rw [List.getD_eq_getElem?_getD, List.getD_eq_getElem?_getD, List.getElem?_append_left (hv a ha)]

theorem gvals_alloc {α : Type} (d : α) (st vals : List α) :
    gvals d (st ++ vals) ((List.range vals.length).map (· + st.length)) = vals := by
  apply List.ext_getElem
  · simp only [gvals, List.length_map, List.length_range]
  · intro i h1 h2
    simp only [gvals, List.getElem_map, List.getElem_range, List.getD_eq_getElem?_getD,
      List.getElem?_append_right (Nat.le_add_left _ _), Nat.add_sub_cancel, List.getElem?_eq_getElem h2, Option.getD_some]

theorem gvals_pick {α : Type} (d : α) (st : List α) (as : List Nat) (idx : List Nat) :
    gvals d st (idx.filterMap (fun i => as[i]?)) = idx.filterMap (fun i => (gvals d st as)[i]?) := by
  unfold gvals
  rw [List.map_filterMap]
  apply List.filterMap_congr
  intro i _
  simp [List.getElem?_map]

theorem gstage_deliver_congr {α : Type} (d : α) (s : GStage α) (hs : s.writesInput = false) (st1 st2 : List α) (as1 as2 : List Nat)
    (h : gvals d st1 as1 = gvals d st2 as2) :
    gdeliver d (s.run d (st1, as1)) = gdeliver d (s.run d (st2, as2)) := by
  cases s with
  | alloc F =>
    simp only [GStage.run, gdeliver]
    rw [gvals_alloc, gvals_alloc, h]
  | share => exact h
  | pick sel =>
    have hl : as1.length = as2.length := by
      simpa only [gvals, List.length_map] using congrArg List.length h
    simp only [GStage.run, gdeliver]
    rw [gvals_pick, gvals_pick, h, hl]
  | write F => cases hs

theorem grunStages_deliver_congr {α : Type} (d : α) (ss : List (GStage α)) (h : ∀ s ∈ ss, s.writesInput = false)
    (st1 st2 : List α) (as1 as2 : List Nat) (hv : gvals d st1 as1 = gvals d st2 as2) :
    gdeliver d (grunStages d ss (st1, as1)) = gdeliver d (grunStages d ss (st2, as2)) := by
  induction ss generalizing st1 st2 as1 as2 with
  | nil => exact hv
  | cons s ss ih =>
    exact ih (fun x hx => h x (List.mem_cons_of_mem _ hx)) _ _ _ _
      (gstage_deliver_congr d s (h s List.mem_cons_self) st1 st2 as1 as2 hv)

theorem astage_keeps_store (s : AStage) (hs : s.writesInput = false) (st : Store) (as : List Nat) :
    (s.run (st, as)).1.take st.length = st := by
  cases s with
  | copyMap g => exact List.take_left
  | share => exact List.take_length
  | inPlace g => cases hs

/-! `AStage` is an instance of `GStage` only while nothing writes: an in-place stage handed the same object twice applies its
function twice, `GStage.write` stores one result. -/

theorem AStage.run_eq_toG (s : AStage) (hs : s.writesInput = false) (sa : Store × List Nat) :
    s.run sa = s.toG.run 0 sa := by
  cases s with
  | copyMap g => simp only [AStage.run, AStage.toG, GStage.run, gvals, List.map_map, Function.comp_def]
  | share => rfl
  | inPlace g => cases hs

theorem runStages_eq_toG (ss : List AStage) (h : ∀ s ∈ ss, s.writesInput = false) (sa : Store × List Nat) :
    runStages ss sa = grunStages 0 (ss.map AStage.toG) sa := by
  induction ss generalizing sa with
  | nil => rfl
  | cons s ss ih =>
    simp only [runStages, List.map_cons, grunStages]
    rw [AStage.run_eq_toG s (h s List.mem_cons_self), ih (fun x hx => h x (List.mem_cons_of_mem _ hx))]

theorem toG_no_write {ss : List AStage} (h : ∀ s ∈ ss, s.writesInput = false) :
    ∀ g ∈ ss.map AStage.toG, g.writesInput = false := by
  intro g hg
  obtain ⟨s, hs, rfl⟩ := List.mem_map.mp hg
  cases s with
  | inPlace g => exact h _ hs
  | _ => rfl

/-! ### the stage table and the abandon table -/

theorem stateAllowed_row {r : StageRow} (hr : r ∈ stageTable) {a : String} (ha : a ∈ r.attrs) :
    stateAllowed [r.cls] a = true := by
  simp only [stateAllowed, List.any_eq_true]
  exact ⟨r, hr, by simp [ha]⟩

theorem stateAllowed_unknown (mro : List String) (a : String) (h : ∀ r ∈ stageTable, r.cls ∉ mro) :
    stateAllowed mro a = false := by
  unfold stateAllowed
  rw [List.any_eq_false]
  intro r hr
  simp [h r hr]

theorem abandonTable_silent : ∀ r ∈ abandonTable, r.silent = true := by decide +kernel

theorem TryRow.not_runs_of_silent {r : TryRow} (h : r.silent = true) : r.runsOnAbandon = false := by
  simp only [TryRow.silent, Bool.and_eq_true, Bool.not_eq_true'] at h
  exact h.1

theorem abandonObsAllowed_header {r : TryRow} (hr : r ∈ abandonTable) (hk : r.kind = "try") (hs : r.runsOnAbandon = false) :
    abandonObsAllowed r.file r.fn "header" = true := by
  unfold abandonObsAllowed
  rw [if_pos (beq_self_eq_true _), List.any_eq_true]
  exact ⟨r, hr, by simp [hk, hs]⟩

theorem abandonObsAllowed_with {r : TryRow} (hr : r ∈ abandonTable) (hk : r.kind = "with") (hs : r.silent = true) :
    abandonObsAllowed r.file r.fn "with" = true := by
  unfold abandonObsAllowed
  rw [if_neg (by decide), if_pos (beq_self_eq_true _), List.any_eq_true]
  exact ⟨r, hr, by simp [hk, hs]⟩

theorem abandonObsAllowed_other_fn (file fn kind : String) (h : ∀ r ∈ abandonTable, r.fn ≠ fn) :
    abandonObsAllowed file fn kind = false := by
  -- both tests ask for a row of the function `fn` first
  have hrow : ∀ r ∈ abandonTable, ∀ c d : Bool, ¬ (r.file == file && r.fn == fn && c && d) = true := fun r hr c d => by
    rw [beq_false_of_ne (h r hr), Bool.and_false, Bool.false_and, Bool.false_and]
    exact Bool.false_ne_true
  unfold abandonObsAllowed
  split
  · exact List.any_eq_false.mpr (fun r hr => hrow r hr _ _)
  · split
    · exact List.any_eq_false.mpr (fun r hr => hrow r hr _ _)
    · rfl

/-- the handlers around the fill loop of `pipes.Cache.filter` do not see `GeneratorExit` -/
theorem cacheExitAct_source : cacheExitAct Generated.cacheFillHandlers = .nothing := by decide +kernel


end Coba.C04
