/-
C05 — lemmas about the model of `coba/random.py` (`Model/C05.lean`): the uniform stream and its scalings,
seed normalisation, the shuffle (recursive model = the loop as written), the equations and the case
analysis of `choice`/`choicew`, the Box–Muller bookkeeping, the closed form of the batch operations, the call
runners, the batched walk of `Reservoir`, and the filters.  The period of the stream is in `C05Period.lean`, the real-number bounds in `C05Real.lean`.
-/
import CobaVerif.Model.C05
import Mathlib.Algebra.Order.Field.Basic
import Mathlib.Algebra.Order.Field.Rat
import Mathlib.Data.Rat.Cast.Order
import Mathlib.Data.List.Perm.Basic
import Mathlib.Data.List.Iterate
import Mathlib.Data.Nat.ModEq

namespace Coba.C05

/-! ### generic facts (integer division) -/

theorem ediv_scale_pos {n k m : Int} (hk0 : 0 ≤ k) (hkm : k < m) (hn : 0 < n) :
    0 ≤ n * k / m ∧ n * k / m < n :=
  ⟨Int.ediv_nonneg (mul_nonneg hn.le hk0) (hk0.trans hkm.le),
   Int.ediv_lt_of_lt_mul (hk0.trans_lt hkm) (mul_lt_mul_of_pos_left hkm hn)⟩

theorem ediv_scale_nonpos {n k m : Int} (hk0 : 0 ≤ k) (hkm : k < m) (hn : n ≤ 0) :
    n ≤ n * k / m ∧ n * k / m ≤ 0 :=
  ⟨(Int.le_ediv_iff_mul_le (hk0.trans_lt hkm)).2 (mul_le_mul_of_nonpos_left hkm.le hn),
   Int.ediv_nonpos_of_nonpos_of_neg (mul_nonpos_of_nonpos_of_nonneg hn hk0) (hk0.trans_lt hkm)⟩

/-! ### the uniform stream -/

theorem M_pos : 0 < M := by decide

theorem next_lt (s : Nat) : next s < M := Nat.mod_lt _ M_pos

theorem unum_eq_next (s : Nat) : unum s = next s := rfl

theorem unum_lt (s : Nat) : unum s < M := (unum_eq_next s).trans_lt (next_lt s)

theorem unum_cast_lt (s : Nat) : (0 : Int) ≤ (unum s : Int) ∧ (unum s : Int) < (M : Int) :=
  ⟨Int.natCast_nonneg _, by exact_mod_cast unum_lt s⟩

theorem MQ_pos : (0 : Rat) < (M : Rat) := by exact_mod_cast M_pos

theorem u_nonneg (s : Nat) : 0 ≤ u s := div_nonneg (Nat.cast_nonneg _) MQ_pos.le

theorem u_lt_one (s : Nat) : u s < 1 := (div_lt_one MQ_pos).2 (by exact_mod_cast unum_lt s)

theorem u_le (s : Nat) : u s ≤ 1 - 1 / (M : Rat) := by
  unfold u
  rw [le_sub_iff_add_le, ← add_div, div_le_one MQ_pos]
  exact_mod_cast unum_lt s

theorem mul_u_mem (s : Nat) {d : Rat} (hd : 0 < d) : 0 ≤ d * u s ∧ d * u s < d :=
  ⟨mul_nonneg hd.le (u_nonneg s), mul_lt_of_lt_one_right hd (u_lt_one s)⟩

theorem mul_u_mem_neg (s : Nat) {d : Rat} (hd : d < 0) : d < d * u s ∧ d * u s ≤ 0 :=
  ⟨lt_mul_of_lt_one_right hd (u_lt_one s), mul_nonpos_of_nonpos_of_nonneg hd.le (u_nonneg s)⟩

theorem scaled_lt (s n : Nat) (hn : 0 < n) : scaled s n < n :=
  Nat.div_lt_of_lt_mul (Nat.mul_comm M n ▸ Nat.mul_lt_mul_of_pos_left (unum_lt s) hn)

theorem iterate_next_succ (n s : Nat) : Nat.iterate next (n+1) s = Nat.iterate next n (next s) := rfl

theorem unum_iterate (s i : Nat) : unum (next^[i] s) = next^[i] (next s) :=
  (unum_eq_next _).trans ((Function.iterate_succ_apply' next i s).symm.trans (Function.iterate_succ_apply next i s))

theorem next_mapsTo : Set.MapsTo next {s | s < M} {s | s < M} := fun s _ => next_lt s

theorem next_injOn : Set.InjOn next {s | s < M} := by
  intro s hs t ht h
  have h1 : (A * s + C) ≡ (A * t + C) [MOD M] := h
  have hcop : Nat.Coprime M A := by decide
  exact Nat.ModEq.eq_of_lt_of_lt
    (Nat.ModEq.cancel_left_of_coprime hcop (Nat.ModEq.add_right_cancel' C h1)) hs ht

/-! ### seed normalisation -/

theorem normInt_lt (z : Int) : normInt z < M :=
  have hM : (0 : Int) < (M : Int) := Int.natCast_pos.2 M_pos
  (Int.toNat_lt (Int.emod_nonneg z hM.ne')).2 (Int.emod_lt_of_pos z hM)

theorem normBytes_lt (bs : List Nat) : normBytes bs < M :=
  Nat.lt_trans (Nat.mod_lt _ (by decide)) (by decide)

theorem normInt_of_lt (n : Nat) (h : n < M) : normInt (n : Int) = n := by
  unfold normInt
  rw [Int.emod_eq_of_lt (Int.natCast_nonneg n) (by exact_mod_cast h), Int.toNat_natCast]

/-! ### `shuffle`: the recursive model and the loop as written -/

theorem swapAt_length {α} (l : List α) (i j : Nat) : (swapAt l i j).length = l.length := by
  unfold swapAt; split <;> simp

theorem swapAt_perm {α} (l : List α) (i j : Nat) : (swapAt l i j).Perm l := by
  unfold swapAt
  split
  · rename_i a b ha hb
    obtain ⟨hi, rfl⟩ := List.getElem?_eq_some_iff.1 ha
    obtain ⟨hj, rfl⟩ := List.getElem?_eq_some_iff.1 hb
    exact List.set_set_perm hi hj
  · rfl

theorem swapAt_self {α} (l : List α) (i : Nat) : swapAt l i i = l := by
  unfold swapAt
  split
  · rename_i a b h1 h2
    rw [h1] at h2; cases h2
    obtain ⟨hlt, rfl⟩ := List.getElem?_eq_some_iff.mp h1
    simp
  · rfl

theorem swapAt_append {α} (pre rest : List α) (a b : Nat) :
    swapAt (pre ++ rest) (pre.length + a) (pre.length + b) = pre ++ swapAt rest a b := by
  unfold swapAt
  rw [List.getElem?_append_right (Nat.le_add_right _ _), List.getElem?_append_right (Nat.le_add_right _ _),
    Nat.add_sub_cancel_left, Nat.add_sub_cancel_left]
  split
  · rw [List.set_append_right _ _ (Nat.le_add_right _ _), Nat.add_sub_cancel_left,
      List.set_append_right _ _ (Nat.le_add_right _ _), Nat.add_sub_cancel_left]
  · rfl

theorem swapAt_head_zero {α} (x : α) (xs : List α) : swapAt (x :: xs) 0 0 = x :: xs := swapAt_self _ 0

theorem swapAt_zero_succ {α} (x : α) (xs : List α) (j : Nat) :
    swapAt (x :: xs) 0 (j+1) = match xs[j]? with | some z => z :: xs.set j x | none => x :: xs := by
  simp only [swapAt, List.getElem?_cons_zero, List.getElem?_cons_succ]
  cases xs[j]? <;> rfl

/-- One step of the recursive `shuffle` is the swap of the loop (`swapAt … 0 j` with `j = ⌊len·u⌋`) followed by
the shuffle of the tail: the three branches of the model's `match` are the three shapes that swap can take. -/
theorem shuffle_induction {α} {motive : Nat → List α → Prop}
    (nil : ∀ s, motive s []) (single : ∀ s x, motive s [x])
    (step : ∀ s x y r h t, swapAt (x :: y :: r) 0 (scaled s ((y :: r).length + 1)) = h :: t → t.length = r.length + 1 →
      shuffle s (x :: y :: r) = ((shuffle (next s) t).1, h :: (shuffle (next s) t).2) →
      motive (next s) t → motive s (x :: y :: r))
    (s : Nat) (l : List α) : motive s l := by
  fun_induction shuffle s l with
  | case1 s => exact nil s
  | case2 s x => exact single s x
  | case3 s x y r xs j hj s' t heq ih =>
    have hj : scaled s ((y :: r).length + 1) = 0 := hj
    refine step s x y r x (y :: r) (by rw [hj, swapAt_head_zero]) rfl ?_ ih
    rw [shuffle, hj]
  | case4 s x y r xs j j' hj z hz s' t heq ih =>
    have hj : scaled s ((y :: r).length + 1) = j' + 1 := hj
    have hz : (y :: r)[j']? = some z := hz
    refine step s x y r z ((y :: r).set j' x) (by rw [hj, swapAt_zero_succ, hz]) (List.length_set ..) ?_ ih
    rw [shuffle, hj]; simp only [hz]
  | case5 s x y r xs j j' hj hz s' t heq ih =>
    have hj : scaled s ((y :: r).length + 1) = j' + 1 := hj
    have hz : (y :: r)[j']? = none := hz
    refine step s x y r x (y :: r) (by rw [hj, swapAt_zero_succ, hz]) rfl ?_ ih
    rw [shuffle, hj]; simp only [hz]

theorem shuffle_perm' {α} (s : Nat) (xs : List α) : (shuffle s xs).2.Perm xs := by
  induction s, xs using shuffle_induction with
  | nil s => rw [shuffle]
  | single s x => rw [shuffle]
  | step s x y r h t hsw hlen heq ih =>
    rw [heq]
    exact (ih.cons h).trans (hsw ▸ swapAt_perm ..)

theorem loopGo_eq {α} (s : Nat) (rest : List α) :
    ∀ pre : List α, shuffleLoopGo s (pre ++ rest) pre.length (rest.length - 1)
      = ((shuffle s rest).1, pre ++ (shuffle s rest).2) := by
  induction s, rest using shuffle_induction with
  | nil s => intro pre; rw [shuffle]; rfl
  | single s x => intro pre; rw [shuffle]; rfl
  | step s x y r h t hsw hlen heq ih =>
    intro pre
    have hk : (x :: y :: r).length - 1 = (t.length - 1) + 1 := by rw [hlen]; rfl
    have hl : (pre ++ x :: y :: r).length - pre.length = (y :: r).length + 1 := by
      rw [List.length_append, Nat.add_sub_cancel_left]; rfl
    have hs : swapAt (pre ++ x :: y :: r) pre.length (pre.length + scaled s ((y :: r).length + 1)) = pre ++ h :: t :=
      hsw ▸ swapAt_append pre (x :: y :: r) 0 _
    have := ih (pre ++ [h])
    simp only [List.append_assoc, List.singleton_append, List.length_append, List.length_singleton] at this
    rw [hk, shuffleLoopGo, hl, hs, heq, this]

theorem shuffle_eq_loop {α} (s : Nat) (l : List α) : shuffle s l = shuffleLoopGo s l 0 (l.length - 1) :=
  (loopGo_eq s l []).symm

/-! Naturality under `map` is proved on the loop, where a step is one `swapAt` whatever the list. -/

theorem swapAt_map {α β} (f : α → β) (l : List α) (i j : Nat) : swapAt (l.map f) i j = (swapAt l i j).map f := by
  unfold swapAt
  rw [List.getElem?_map, List.getElem?_map]
  cases l[i]? <;> cases l[j]? <;> simp only [Option.map_some, Option.map_none, List.map_set]

theorem shuffleLoopGo_map {α β} (f : α → β) (k : Nat) : ∀ (s : Nat) (l : List α) (i : Nat),
    shuffleLoopGo s (l.map f) i k = ((shuffleLoopGo s l i k).1, (shuffleLoopGo s l i k).2.map f) := by
  induction k with
  | zero => intro s l i; rfl
  | succ k ih => intro s l i; rw [shuffleLoopGo, shuffleLoopGo, List.length_map, swapAt_map, ih]

theorem shuffle_map {α β} (f : α → β) (s : Nat) (xs : List α) :
    shuffle s (xs.map f) = ((shuffle s xs).1, (shuffle s xs).2.map f) := by
  rw [shuffle_eq_loop, shuffle_eq_loop, List.length_map, shuffleLoopGo_map]

/-! ### `choice` and `choicew` -/

theorem sum_eq (ws : List Rat) : sum ws = ws.sum := List.sum_eq_foldl.symm

/-- the search over the running sums stops at a member of positive weight: the first cumulative weight above `r`
exceeds its predecessor, which is not above `r` -/
theorem firstLt_spec (r acc : Rat) (ws : List Rat) (k : Nat) (h1 : acc ≤ r) (h2 : r < acc + ws.sum) :
    ∃ i w, firstLt r (accumulate acc ws) k = some (k + i) ∧ ws[i]? = some w ∧ 0 < w ∧ i < ws.length := by
  induction ws generalizing acc k with
  | nil => rw [List.sum_nil, add_zero] at h2; exact absurd h2 (not_lt.2 h1)
  | cons w ws ih =>
    rw [accumulate, firstLt]
    by_cases hlt : r < acc + w
    · exact ⟨0, w, if_pos hlt, rfl, (lt_add_iff_pos_right acc).1 (h1.trans_lt hlt), Nat.succ_pos _⟩
    · rw [List.sum_cons, ← add_assoc] at h2
      obtain ⟨i, w', hf, hw, hpos, hi⟩ := ih (acc + w) (k+1) (not_lt.1 hlt) h2
      exact ⟨i+1, w', by rw [if_neg hlt, hf, Nat.add_right_comm, Nat.add_assoc], hw, hpos, Nat.succ_lt_succ hi⟩

theorem choice_none (s n : Nat) :
    choice s n none = if n = 0 then .error .indexError else .ok (next s, scaled s n) := rfl

theorem choice_some (s n : Nat) (ws : List Rat) :
    choice s n (some ws) =
      if (ws ≠ [] ∧ ws.length ≠ n) ∨ sum ws = 0 then .error .valueError
      else match firstLt (u s * sum ws) (accumulate 0 ws) 0 with
        | some i => if i < n then .ok (next s, i) else .error .stopIteration
        | none => .error .stopIteration := by
  simp only [choice]
  by_cases h1 : ws ≠ [] ∧ ws.length ≠ n
  · rw [if_pos h1, if_pos (Or.inl h1)]
  · by_cases h2 : sum ws = 0
    · rw [if_neg h1, if_pos h2, if_pos (Or.inr h2)]
    · rw [if_neg h1, if_neg h2, if_neg (not_or.2 ⟨h1, h2⟩)]; rfl

theorem length_eq_of_accepted {n : Nat} {ws : List Rat} (h : ¬ ((ws ≠ [] ∧ ws.length ≠ n) ∨ sum ws = 0)) :
    ws.length = n := by
  by_contra hne
  -- an empty list of weights is rejected too: its total is 0
  exact h (Or.elim (Classical.em (ws = [])) (fun e => Or.inr (e ▸ rfl)) (fun e => Or.inl ⟨e, hne⟩))

/-- The ways a call `choice s n w` can end, one constructor for each exit of `CobaRandom.choice`. -/
inductive ChoiceEnd (s n : Nat) (w : Option (List Rat)) : Prop
  /-- `return seq[…]`, or `next(compress(…))` finding an item -/
  | ok (i : Nat) (eq : choice s n w = .ok (next s, i)) (lt : i < n) (len : ∀ ws, w = some ws → ws.length = n)
  /-- either `raise ValueError`, both before the draw -/
  | valueError (eq : choice s n w = .error .valueError) (ws : List Rat) (given : w = some ws)
      (rejected : (ws ≠ [] ∧ ws.length ≠ n) ∨ sum ws = 0)
  /-- `seq[0]` on an empty sequence, without weights -/
  | indexError (eq : choice s n w = .error .indexError) (unweighted : w = none) (empty : n = 0)
  /-- `next(compress(…))` finds nothing among accepted weights -/
  | stopIteration (eq : choice s n w = .error .stopIteration) (ws : List Rat) (given : w = some ws)
      (accepted : ¬ ((ws ≠ [] ∧ ws.length ≠ n) ∨ sum ws = 0))

theorem choice_cases (s n : Nat) (w : Option (List Rat)) : ChoiceEnd s n w := by
  cases w with
  | none =>
    have hc := choice_none s n
    by_cases hn : n = 0
    · exact .indexError (hc.trans (if_pos hn)) rfl hn
    · exact .ok _ (hc.trans (if_neg hn)) (scaled_lt s n (Nat.pos_of_ne_zero hn)) nofun
  | some ws =>
    have hc := choice_some s n ws
    by_cases hr : (ws ≠ [] ∧ ws.length ≠ n) ∨ sum ws = 0
    · exact .valueError (hc.trans (if_pos hr)) ws rfl hr
    · rw [if_neg hr] at hc
      cases hf : firstLt (u s * sum ws) (accumulate 0 ws) 0 with
      | none => exact .stopIteration (by rw [hc, hf]) ws rfl hr
      | some i =>
        rw [hf] at hc
        by_cases hi : i < n
        · exact .ok i (hc.trans (if_pos hi)) hi fun ws' h => Option.some.inj h ▸ length_eq_of_accepted hr
        · exact .stopIteration (hc.trans (if_neg hi)) ws rfl hr

theorem choice_pos_total (s n : Nat) (ws : List Rat) (hlen : ws.length = n) (hpos : 0 < sum ws) :
    ∃ i, choice s n (some ws) = .ok (next s, i) ∧ i < n ∧ ∃ w, ws[i]? = some w ∧ 0 < w := by
  -- `u·total ∈ [0, total)`, whatever the signs of the single weights
  have hr1 : u s * sum ws < 0 + ws.sum := by
    rw [zero_add, ← sum_eq]; exact mul_lt_of_lt_one_left hpos (u_lt_one s)
  obtain ⟨i, w, hf, hw, hwpos, hi⟩ := firstLt_spec (u s * sum ws) 0 ws 0 (mul_nonneg (u_nonneg s) hpos.le) hr1
  refine ⟨i, ?_, hlen ▸ hi, w, hw, hwpos⟩
  rw [choice_some, if_neg (by rintro (⟨_, h⟩ | h); exacts [h hlen, hpos.ne' h]), hf, Nat.zero_add]
  exact if_pos (hlen ▸ hi)

theorem choice_uniform_mem' (s n : Nat) (hn : 0 < n) :
    ∃ i, choice s n none = .ok (next s, i) ∧ i < n :=
  ⟨scaled s n, if_neg (Nat.ne_of_gt hn), scaled_lt s n hn⟩

theorem choicew_weight' (s n : Nat) (ws : List Rat) (hlen : ws.length = n)
    (hnn : ∀ w ∈ ws, 0 ≤ w) (hpos : 0 < sum ws) :
    ∃ i w, choicew s n (some ws) = .ok (next s, i, w) ∧ ws[i]? = some w ∧ 0 < w := by
  obtain ⟨i, hc, _, w, hw, hwpos⟩ := choice_pos_total s n ws hlen hpos
  exact ⟨i, w, by simp only [choicew, hc, hw], hw, hwpos⟩

/-- `choicew` has no outcome of its own: in coba `1/len(seq)` is reached only for a non-empty sequence,
`weights[i]` only with `i` in range -/
theorem choicew_eq_map (s n : Nat) (w : Option (List Rat)) :
    ∃ wt : Nat → Rat, choicew s n w = (choice s n w).map (fun p => (p.1, p.2, wt p.2)) := by
  cases w with
  | none =>
    refine ⟨fun _ => 1 / (n : Rat), ?_⟩
    rw [choicew, choice_none]
    by_cases hn : n = 0
    · rw [if_pos hn]; rfl
    · simp only [if_neg hn]; rfl
  | some ws =>
    refine ⟨fun i => ws[i]?.getD 0, ?_⟩
    rw [choicew]
    cases choice_cases s n (some ws) with
    | ok i hc hi hl =>
      have : i < ws.length := (hl ws rfl).symm ▸ hi
      simp only [hc, Except.map, List.getElem?_eq_getElem this, Option.getD_some]
    | valueError hc | indexError hc | stopIteration hc => rw [hc]; rfl

theorem stepE_choicew (g : Gen) (n : Nat) (w : Option (List Rat)) :
    (stepE g (.choicew n w)).1 = (stepE g (.choice n w)).1 ∧
    ∀ e, (stepE g (.choicew n w)).2 = .err e ↔ (stepE g (.choice n w)).2 = .err e := by
  obtain ⟨wt, hw⟩ := choicew_eq_map g.s n w
  simp only [stepE, hw]
  cases choice g.s n w with
  | ok p => exact ⟨rfl, fun e => ⟨nofun, nofun⟩⟩
  | error e => exact ⟨rfl, fun e' => Iff.rfl⟩

/-! ### Box–Muller bookkeeping -/

/-- the uniform after a zero uniform is `C/M`, so one conditional redraw is enough -/
theorem skipZero_nonzero (s : Nat) : unum (skipZero s) ≠ 0 := by
  unfold skipZero
  split
  · next h =>
    rw [unum_eq_next] at h ⊢
    rw [h]
    decide
  · next h => exact h

/-- `gausses(2)` from an empty buffer consumes two uniforms (three if the first is zero) and leaves the buffer empty -/
theorem gausses_two_buf (g : Gen) (h : g.buf = none) :
    (gausses g 2).1.buf = none ∧ (gausses g 2).1.s = next (next (skipZero g.s)) := by
  simp [gausses, gauss1, h]

/-! ### batch operations -/

/-- Every batch operation of the model has this shape: it answers `g` of the state and moves on with `nx`. -/
theorem batch_eq_iterate {σ β} (nx : σ → σ) (g : σ → β) (batch : σ → Nat → σ × List β)
    (h0 : ∀ s, batch s 0 = (s, []))
    (hs : ∀ s n, batch s (n+1) = ((batch (nx s) n).1, g s :: (batch (nx s) n).2)) (s : σ) (n : Nat) :
    batch s n = (nx^[n] s, (List.iterate nx s n).map g) := by
  induction n generalizing s with
  | zero => exact h0 s
  | succ n ih => rw [hs, ih]; rfl

theorem randoms_eq_iterate (s n : Nat) (lo hi : Rat) :
    randoms s n lo hi = (next^[n] s, (List.iterate next s n).map (fun t => (random t lo hi).2)) :=
  batch_eq_iterate next _ (randoms · · lo hi) (fun _ => rfl) (fun _ _ => rfl) s n

theorem randints_eq_iterate (s n : Nat) (a b : Int) :
    randints s n a b = (next^[n] s, (List.iterate next s n).map (fun t => (randint t a b).2)) :=
  batch_eq_iterate next _ (randints · · a b) (fun _ => rfl) (fun _ _ => rfl) s n

theorem adv_unums_eq_iterate (s n : Nat) : (adv s n, unums s n) = (next^[n] s, (List.iterate next s n).map unum) :=
  batch_eq_iterate next unum (fun s n => (adv s n, unums s n)) (fun _ => rfl) (fun _ _ => rfl) s n

theorem unums_eq_iterate (s n : Nat) : unums s n = (List.iterate next s n).map unum :=
  congrArg Prod.snd (adv_unums_eq_iterate s n)

theorem gausses_eq_iterate (g : Gen) (n : Nat) :
    gausses g n = ((fun g => (gauss1 g).1)^[n] g, (List.iterate (fun g => (gauss1 g).1) g n).map (fun g => (gauss1 g).2)) :=
  batch_eq_iterate _ _ gausses (fun _ => rfl) (fun _ _ => rfl) g n

theorem gaussIter_eq_iterate (g : Gen) (n : Nat) :
    gaussIter g n = ((fun g => (gauss1 g).1)^[n] g, (List.iterate (fun g => (gauss1 g).1) g n).map (fun g => (gauss1 g).2)) :=
  batch_eq_iterate _ _ gaussIter (fun _ => rfl) (fun _ _ => rfl) g n

/-! ### call runners -/

theorem fresh_g (s : Nat) : (fresh s).g = { s := s } := rfl

theorem fresh_g_s (s : Nat) : (fresh s).g.s = s := rfl

theorem crunOneW_cons (f : Gen → Op → Gen × Out) (x : Inst) (c : Call) (cs : List Call) :
    crunOneW f x (c :: cs) = (cstepW f x c).2.toList ++ crunOneW f (cstepW f x c).1 cs := by
  rw [crunOneW]
  rcases cstepW f x c with ⟨x', _ | out⟩ <;> rfl

theorem crunW_cons (f : Gen → Op → Gen × Out) (st : Nat → Inst) (j : Nat) (c : Call) (h : List (Nat × Call)) :
    crunW f st ((j, c) :: h) = (cstepW f (st j) c).2.toList.map (Prod.mk j)
      ++ crunW f (fun k => if k = j then (cstepW f (st j) c).1 else st k) h := by
  rw [crunW]
  rcases cstepW f (st j) c with ⟨x', _ | out⟩ <;> rfl

theorem cstepW_step (x : Inst) (c : Call) : cstepW step x c = cstep x c := by cases c <;> rfl

theorem crunOneW_step (x : Inst) (cs : List Call) : crunOneW step x cs = crunOne x cs := by
  induction cs generalizing x with
  | nil => rfl
  | cons c cs ih => simp only [crunOneW, crunOne, cstepW_step, ih]

theorem runOneW_step (g : Gen) (ops : List Op) : runOneW step g ops = runOne g ops := by
  induction ops generalizing g with
  | nil => rfl
  | cons o ops ih => simp only [runOneW, runOne, ih]

theorem crunOneW_ops (f : Gen → Op → Gen × Out) (x : Inst) (ops : List Op) :
    crunOneW f x (ops.map .op) = runOneW f x.g ops := by
  induction ops generalizing x with
  | nil => rfl
  | cons o ops ih =>
    simp only [List.map_cons, crunOneW, cstepW, runOneW]
    rw [ih]

theorem crunOneW_append (f : Gen → Op → Gen × Out) (x : Inst) (pre post : List Call) :
    crunOneW f x (pre ++ post) = crunOneW f x pre ++ crunOneW f (cafterW f x pre) post := by
  induction pre generalizing x with
  | nil => rfl
  | cons c cs ih => rw [List.cons_append, crunOneW_cons, crunOneW_cons, ih, List.append_assoc]; rfl

theorem cafterW_ops_seed0 (f : Gen → Op → Gen × Out) (x : Inst) (ops : List Op) :
    (cafterW f x (ops.map .op)).seed0 = x.seed0 := by
  induction ops generalizing x with
  | nil => rfl
  | cons o ops ih =>
    simp only [List.map_cons, cafterW, cstepW]
    rw [ih]

/-! ### the batched walk of `Reservoir` -/

theorem chunk3_unums (s b : Nat) : chunk3 (unums s (3 * b)) = streamTriples s b := by
  induction b generalizing s with
  | zero => rfl
  | succ b ih =>
    rw [Nat.mul_succ]
    show _ :: chunk3 (unums _ (3 * b)) = _ :: streamTriples _ b
    rw [ih]

theorem streamTriples_add (s a b : Nat) :
    streamTriples s (a + b) = streamTriples s a ++ streamTriples (adv s (3 * a)) b := by
  induction a generalizing s with
  | zero => rw [Nat.zero_add, Nat.mul_zero]; rfl
  | succ a ih =>
    have h3 : 3 * (a + 1) = 3 * a + 1 + 1 + 1 := Nat.mul_succ 3 a
    rw [Nat.add_right_comm a 1 b, h3]
    simp only [streamTriples, List.cons_append, adv]
    rw [ih]

theorem streamTriples_length (s j : Nat) : (streamTriples s j).length = j := by
  induction j generalizing s with
  | zero => rfl
  | succ j ih => exact congrArg (· + 1) (ih _)

/-! ### the filters -/

theorem shuffleFilter_perm (s n : Nat) : (shuffleFilter s n).Perm (List.range n) := shuffle_perm' _ _

theorem fltOut_reservoir_some (c : Nat) (strict : Bool) (s n : Nat) :
    fltOut (.reservoir (some c) strict s) n =
      if c = 0 then .items []
      else if n < c then (if strict then .items [] else .items (shuffleFilter s n))
      else .walk (shuffleFilter s c) (shuffle s (List.range c)).1 := by
  rw [fltOut, fresh_g_s]

theorem fltRun_eq_map (objs : List Flt) (h : List (Nat × Nat)) :
    fltRun objs h = h.map (fun p => fltAt objs p.1 p.2) := by
  induction h with
  | nil => rfl
  | cons p h ih => exact congrArg (fltAt objs p.1 p.2 :: ·) ih

end Coba.C05
