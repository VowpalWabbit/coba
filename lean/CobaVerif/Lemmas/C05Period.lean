/-
C05 — the period of the uniform stream: Hull–Dobell for the modulus `2^k`, proved directly and about variables
(`lcg_period`: multiplier `b+1 ≡ 1 (mod 4)`, odd increment `c`).  The n-fold iterate of `s` is `(s + G n * (b*s + c)) % 2^k`
with `G n = 1 + (b+1) + … + (b+1)^(n-1)` and an odd displacement `b*s + c`, and `2^k ∣ G n ↔ 2^k ∣ n`; so the iterate is `s`
iff `2^k ∣ n`.  `next` is the instance `A % 4 = 1`, `C` odd, `M = 2^30`; what follows for its streams is in `Props/C05.lean`.
-/
import Mathlib.Data.Nat.ModEq
import Mathlib.Logic.Function.Iterate
import Mathlib.Data.Nat.Prime.Basic
import Mathlib.Data.Nat.GCD.Basic
import Mathlib.Tactic.Ring

namespace Coba.C05

/-! ### generic facts (residues, powers of two) -/

theorem add_mod_eq_self_iff {s x m : Nat} (hs : s < m) : (s + x) % m = s ↔ m ∣ x := by
  rw [← Nat.modEq_zero_iff_dvd]
  constructor
  · intro h
    exact Nat.ModEq.add_left_cancel' s
      (show s + x ≡ s + 0 [MOD m] by rw [Nat.add_zero, Nat.ModEq, h, Nat.mod_eq_of_lt hs])
  · intro h
    have := Nat.ModEq.add_left s h
    rwa [Nat.add_zero, Nat.ModEq, Nat.mod_eq_of_lt hs] at this

theorem two_pow_succ_dvd_two_mul {k j : Nat} : 2 ^ (k + 1) ∣ 2 * j ↔ 2 ^ k ∣ j := by
  rw [pow_succ, Nat.mul_comm (2 ^ k) 2, Nat.mul_dvd_mul_iff_left Nat.two_pos]

theorem two_pow_succ_dvd_mul {k g q : Nat} : 2 ^ (k + 1) ∣ g * (2 * (2 * q + 1)) ↔ 2 ^ k ∣ g := by
  have hcop : Nat.Coprime (2 ^ k) (2 * q + 1) := (Nat.coprime_two_left.2 ⟨q, rfl⟩).pow_left k
  rw [Nat.mul_left_comm, two_pow_succ_dvd_two_mul, hcop.dvd_mul_right]

theorem not_two_pow_succ_dvd_of_odd {k m : Nat} (hm : m % 2 = 1) : ¬ 2 ^ (k + 1) ∣ m := fun h =>
  have : m % 2 = 0 := Nat.mod_eq_zero_of_dvd ((dvd_pow_self 2 (Nat.succ_ne_zero k)).trans h)
  Nat.zero_ne_one (this.symm.trans hm)

theorem pow_add_one_eq_two_mul_odd (a : Nat) (ha : a % 4 = 1) (j : Nat) : ∃ q, a ^ j + 1 = 2 * (2 * q + 1) := by
  have h : a ^ j % 4 = 1 := by rw [Nat.pow_mod, ha, Nat.one_pow]
  refine ⟨a ^ j / 4, ?_⟩
  calc a ^ j + 1 = 4 * (a ^ j / 4) + a ^ j % 4 + 1 := by rw [Nat.div_add_mod]
    _ = 2 * (2 * (a ^ j / 4) + 1) := by rw [h, Nat.mul_add, ← Nat.mul_assoc]

/-! ### the geometric sum and its 2-adic valuation -/

/-- `1 + a + … + a^(n-1)`, in the shape the iteration produces it -/
def geo (a : Nat) : Nat → Nat
  | 0 => 0
  | n+1 => a * geo a n + 1

theorem geo_add (a m : Nat) : ∀ n, geo a (m + n) = a ^ n * geo a m + geo a n
  | 0 => by simp [geo]
  | n+1 => by
    have ih := geo_add a m n
    show a * geo a (m + n) + 1 = a ^ (n+1) * geo a m + (a * geo a n + 1)
    rw [ih]; ring

theorem geo_double (a j : Nat) : geo a (j + j) = geo a j * (a ^ j + 1) := by
  rw [geo_add]; ring

theorem geo_parity (a : Nat) (ha : a % 2 = 1) : ∀ n, geo a n % 2 = n % 2
  | 0 => rfl
  | n+1 => by
    show (a * geo a n + 1) % 2 = (n + 1) % 2
    rw [Nat.add_mod, Nat.mul_mod, ha, Nat.one_mul, Nat.mod_mod, geo_parity a ha n, ← Nat.add_mod]

theorem two_pow_dvd_geo (a : Nat) (ha : a % 4 = 1) : ∀ k n, 2 ^ k ∣ geo a n ↔ 2 ^ k ∣ n
  | 0, n => by rw [pow_zero]; exact iff_of_true (one_dvd _) (one_dvd _)
  | k+1, n => by
    rcases Nat.mod_two_eq_zero_or_one n with hn | hn
    · -- `n = j + j`: `G (j+j) = G j * (a^j + 1)`, one factor 2 comes off both sides
      obtain ⟨j, rfl⟩ := Nat.even_iff.2 hn
      obtain ⟨q, hq⟩ := pow_add_one_eq_two_mul_odd a ha j
      rw [geo_double, hq, two_pow_succ_dvd_mul, ← Nat.two_mul, two_pow_succ_dvd_two_mul]
      exact two_pow_dvd_geo a ha k j
    · -- `n` odd: so is `G n`, both sides are false
      exact iff_of_false (not_two_pow_succ_dvd_of_odd (by rw [geo_parity a (Nat.odd_of_mod_four_eq_one ha), hn]))
        (not_two_pow_succ_dvd_of_odd hn)

/-! ### the closed form of the iterate and the period -/

theorem iterate_lcg (b c m s : Nat) (hs : s < m) :
    ∀ n, (fun x => ((b + 1) * x + c) % m)^[n] s = (s + geo (b + 1) n * (b * s + c)) % m
  | 0 => by rw [Function.iterate_zero_apply, geo, Nat.zero_mul, Nat.add_zero, Nat.mod_eq_of_lt hs]
  | n+1 => by
    rw [Function.iterate_succ_apply', iterate_lcg b c m s hs n]
    -- with `d = b*s + c`, a step turns `s + G*d` into `s + ((b+1)*G + 1)*d`
    show ((b + 1) * ((s + geo (b + 1) n * (b * s + c)) % m) + c) % m
      = (s + ((b + 1) * geo (b + 1) n + 1) * (b * s + c)) % m
    rw [Nat.add_mod, Nat.mul_mod, Nat.mod_mod, ← Nat.mul_mod, ← Nat.add_mod]
    congr 1; ring

theorem lcg_period (b c k s : Nat) (hb : (b + 1) % 4 = 1) (hc : c % 2 = 1) (hs : s < 2 ^ k) (n : Nat) :
    (fun x => ((b + 1) * x + c) % 2 ^ k)^[n] s = s ↔ 2 ^ k ∣ n := by
  -- the displacement `b*s + c` is odd (`b` even, `c` odd), hence a unit modulo `2^k`
  have hodd : (b * s + c) % 2 = 1 := by
    rw [Nat.add_mod, Nat.mul_mod, Nat.succ_mod_two_eq_one_iff.1 (Nat.odd_of_mod_four_eq_one hb), Nat.zero_mul, hc]
  have hcop : Nat.Coprime (2 ^ k) (b * s + c) := (Nat.coprime_two_left.2 (Nat.odd_iff.2 hodd)).pow_left k
  rw [iterate_lcg b c _ s hs, add_mod_eq_self_iff hs, hcop.dvd_mul_right]
  exact two_pow_dvd_geo (b + 1) hb k n

end Coba.C05
