/-
C05 — what the float-level statements rest on: Box–Muller over the reals (the transcendental part the model
leaves out) and the bounds behind the standard model of rounding for `randint`.
-/
import CobaVerif.Model.C05
import Mathlib.Analysis.SpecialFunctions.Log.Basic
import Mathlib.Analysis.SpecialFunctions.Trigonometric.Basic
import Mathlib.Analysis.SpecialFunctions.Sqrt

namespace Coba.C05
open Real

/-- Box–Muller over the reals: the value computed from uniform numerators `k1 ∈ [1,M)`, `k2`. -/
noncomputable def boxMuller (k1 k2 : Nat) (isCos : Bool) : ℝ :=
  Real.sqrt (-2 * Real.log ((k1 : ℝ) / (M : ℝ))) *
    (if isCos then Real.cos (2 * Real.pi * ((k2 : ℝ) / (M : ℝ))) else Real.sin (2 * Real.pi * ((k2 : ℝ) / (M : ℝ))))

/-- `-2·log (k/M) = 60·log 2 - 2·log k` as `M = 2^30`, and `log k ≥ 0` for a numerator `k ≥ 1` -/
theorem boxMuller_radius_le (k : Nat) (h1 : 0 < k) :
    Real.sqrt (-2 * Real.log ((k : ℝ) / (M : ℝ))) ≤ Real.sqrt (60 * Real.log 2) := by
  have hM : (M : ℝ) = 2 ^ 30 := by norm_num [M]
  have hk : (k : ℝ) ≠ 0 := Nat.cast_ne_zero.2 h1.ne'
  rw [hM, Real.log_div hk (pow_ne_zero _ two_ne_zero), Real.log_pow, Nat.cast_ofNat,
    show -2 * (Real.log k - 30 * Real.log 2) = 60 * Real.log 2 - 2 * Real.log k by ring]
  exact Real.sqrt_le_sqrt (sub_le_self _ (mul_nonneg zero_le_two (Real.log_natCast_nonneg k)))

theorem one_add_mem {e δ : Rat} (hδ : δ < 1) (h : |e| ≤ δ) : 0 < 1 + e ∧ 1 + e ≤ 1 + δ :=
  ⟨by linarith [neg_le_of_abs_le h], add_le_add_right (le_of_abs_le h) 1⟩

theorem mul_three_lt_one {a x b δ ε : Rat} (ha : a ≤ 1 + δ) (hx0 : 0 ≤ x) (hx : x ≤ 1 - ε) (hb0 : 0 ≤ b) (hb : b ≤ 1 + δ)
    (hδ : 0 ≤ δ) (hnum : (1 + δ) * (1 - ε) * (1 + δ) < 1) : a * x * b < 1 :=
  have h1 : (0 : Rat) ≤ 1 + δ := add_nonneg zero_le_one hδ
  (mul_le_mul (mul_le_mul ha hx hx0 h1) hb hb0 (mul_nonneg h1 (hx0.trans hx))).trans_lt hnum

end Coba.C05
