/-
C06 — batching: rows of batched and un-batched evaluation for history-independent learners, the batched refinement
(`evaluate … (some n)` is `specRunB`), and how batched and un-batched call traces relate.
-/
import CobaVerif.Lemmas.C06Spec

namespace Coba.C06
variable {V R : Type}

/-! ## history-independent learners -/

/-- a learner whose answers do not depend on its state (what it has seen so far) -/
structure Oblivious {σ : Type} (L : Learner σ V) (f : Option V → Option (List V) → Pred V)
    (g : Option V → Option (List V) → Option V → Rat) : Prop where
  pred : ∀ s c a, (L.predict s c a).2 = f c a
  score : ∀ s c a x, (L.score s c a x).2 = g c a x

theorem predictPhase_preds {σ : Type} {L : Learner σ V} {f g} (ho : Oblivious L f g) (rows : List (RowIn V R)) (s : σ) :
    (predictPhase L s rows).2.1 = rows.map (fun r => f r.ctx r.acts) := by
  induction rows generalizing s with
  | nil => rfl
  | cons r rs ih => simp only [predictPhase_cons, List.map_cons, ih, ho.pred]

theorem scorePhase_scores {σ : Type} {L : Learner σ V} {f g} (ho : Oblivious L f g) (rows : List (RowIn V R)) (s : σ) :
    (scorePhase L s rows).2.1 = rows.map (fun r => g r.ctx r.acts r.offAct) := by
  induction rows generalizing s with
  | nil => rfl
  | cons r rs ih => simp only [scorePhase_cons, List.map_cons, ih, ho.score]

theorem predictS_oblivious {σ : Type} {L : Learner σ V} {f g} (ho : Oblivious L f g) (vs : List (View V R)) (s : σ) :
    (predictS L s vs).2 = vs.map (fun v => f v.ctx v.acts) := by
  induction vs generalizing s with
  | nil => rfl
  | cons v vs ih => simp [predictS, ho.pred, ih]

/-! ## fallible maps, `mapE` and the model's `mapM₃`, used through the inversion of a successful `cons` -/

/-- `prepAll` for any fallible function (`prepAll_eq_mapE`): the form in which the rows of a batch are computed one interaction at
a time, so that batches can be concatenated (`mapE_append`) and the two batching flags compared row by row (`mapE_rel`) -/
def mapE {α β : Type} (F : α → Except Err β) : List α → Except Err (List β)
  | [] => .ok []
  | x :: xs => (F x).bind fun y => (mapE F xs).bind fun ys => .ok (y :: ys)

theorem mapE_cons_ok {α β : Type} {F : α → Except Err β} {x : α} {xs : List α} {zs : List β} :
    mapE F (x :: xs) = .ok zs ↔ ∃ y ys, F x = .ok y ∧ mapE F xs = .ok ys ∧ zs = y :: ys := by
  simp only [mapE]
  cases F x with
  | error e => simp [Except.bind]
  | ok y =>
    cases mapE F xs with
    | error e => simp [Except.bind]
    | ok ys => simp [Except.bind, eq_comm]

theorem mapM₃_cons_ok {α β γ δ : Type} {F : α → β → γ → Except Err δ} {a : α} {as : List α} {b : β} {bs : List β}
    {c : γ} {cs : List γ} {zs : List δ} :
    mapM₃ F (a :: as) (b :: bs) (c :: cs) = .ok zs ↔ ∃ y ys, F a b c = .ok y ∧ mapM₃ F as bs cs = .ok ys ∧ zs = y :: ys := by
  simp only [mapM₃, bind, pure, Except.pure]
  cases F a b c with
  | error e => simp [Except.bind]
  | ok y =>
    cases mapM₃ F as bs cs with
    | error e => simp [Except.bind]
    | ok ys => simp [Except.bind, eq_comm]

theorem mapE_append {α β : Type} (F : α → Except Err β) (xs ys : List α) (a b : List β)
    (h1 : mapE F xs = .ok a) (h2 : mapE F ys = .ok b) : mapE F (xs ++ ys) = .ok (a ++ b) := by
  induction xs generalizing a with
  | nil => cases h1; exact h2
  | cons x xs ih =>
    obtain ⟨y, ys', hx, hr, rfl⟩ := mapE_cons_ok.mp h1
    exact mapE_cons_ok.mpr ⟨y, ys' ++ b, hx, ih ys' hr, rfl⟩

theorem mapE_forall {α β : Type} {F : α → Except Err β} {P : β → Prop} {xs : List α} {ys : List β}
    (hxs : mapE F xs = .ok ys) (hF : ∀ x y, F x = .ok y → P y) : ∀ y ∈ ys, P y := by
  induction xs generalizing ys with
  | nil => cases hxs; simp
  | cons x xs ih =>
    obtain ⟨y, ys', hx, hr, rfl⟩ := mapE_cons_ok.mp hxs
    intro z hz
    rcases List.mem_cons.mp hz with rfl | hz
    · exact hF x _ hx
    · exact ih hr z hz

theorem mapE_rel {α β γ : Type} {F : α → Except Err β} {G : α → Except Err γ} {h : β → γ} {xs : List α} {ys : List β}
    (hxs : mapE F xs = .ok ys) (hFG : ∀ x ∈ xs, ∀ y, F x = .ok y → G x = .ok (h y)) : mapE G xs = .ok (ys.map h) := by
  induction xs generalizing ys with
  | nil => cases hxs; rfl
  | cons x xs ih =>
    obtain ⟨y, ys', hx, hr, rfl⟩ := mapE_cons_ok.mp hxs
    exact mapE_cons_ok.mpr ⟨h y, ys'.map h, hFG x (List.mem_cons_self ..) y hx,
      ih hr (fun x' hx' => hFG x' (List.mem_cons_of_mem _ hx')), rfl⟩

theorem mapE_fuse {α β δ ε : Type} (E : α → Except Err δ) (G : α → β → δ → Except Err ε) (P : α → β) (xs : List α)
    (es : List δ) (out : List ε) (h1 : mapE E xs = .ok es) (h2 : mapM₃ G xs (xs.map P) es = .ok out) :
    mapE (fun x => (E x).bind (G x (P x))) xs = .ok out := by
  induction xs generalizing es out with
  | nil => cases h1; cases h2; rfl
  | cons x xs ih =>
    obtain ⟨e, es', hx, hr, rfl⟩ := mapE_cons_ok.mp h1
    obtain ⟨o, os, hG, hr2, rfl⟩ := mapM₃_cons_ok.mp h2
    exact mapE_cons_ok.mpr ⟨o, os, by rw [hx]; exact hG, ih es' os hr hr2, rfl⟩

theorem prepAll_eq_mapE (c : Config) (fl : Flags) (ds : List (Dict (Fld V R))) : prepAll c fl ds = mapE (prep c fl) ds := by
  induction ds with
  | nil => rfl
  | cons d ds ih => simp only [prepAll, mapE, ih, bind, Except.bind, pure, Except.pure]

/-! ## `allSome` of a zip that is `some`: every element was `some` -/

theorem allSome_cons_some {α : Type} {o : Option α} {os : List (Option α)} {r : List α} (h : allSome (o :: os) = some r) :
    ∃ a as, o = some a ∧ allSome os = some as ∧ r = a :: as := by
  cases o with
  | none => cases h
  | some a =>
    obtain ⟨as, has, rfl⟩ := Option.map_eq_some_iff.mp h
    exact ⟨a, as, rfl, has, rfl⟩

theorem allSome_zip3With_inv {α β γ δ : Type} (f : α → β → γ → Option δ) (as : List α) (bs : List β) (cs : List γ) (r : List δ)
    (h1 : bs.length = as.length) (h2 : cs.length = as.length) (h : allSome (zip3With f as bs cs) = some r) :
    r.length = as.length ∧ ∀ ar ∈ as.zip r, ∃ b c, f ar.1 b c = some ar.2 := by
  induction as generalizing bs cs r with
  | nil => cases h; exact ⟨rfl, nofun⟩
  | cons a as ih =>
    cases bs with
    | nil => simp at h1
    | cons b bs =>
      cases cs with
      | nil => simp at h2
      | cons c cs =>
        obtain ⟨d, r', hf, hr', rfl⟩ := allSome_cons_some h
        obtain ⟨hl, hp⟩ := ih bs cs r' (by simpa using h1) (by simpa using h2) hr'
        refine ⟨by simp [hl], fun ar har => ?_⟩
        simp only [List.zip_cons_cons, List.mem_cons] at har
        rcases har with har | har
        · subst har; exact ⟨b, c, hf⟩
        · exact hp ar har

theorem allSome_zipWith_inv {α β γ : Type} (F : α → Option β → Option γ) (xs : List α) (ps : List β) (args : List γ)
    (hl : ps.length = xs.length) (h : allSome (List.zipWith F xs (ps.map some)) = some args) :
    args.length = xs.length ∧ ∀ xpa ∈ (xs.zip ps).zip args, F xpa.1.1 (some xpa.1.2) = some xpa.2 := by
  induction xs generalizing ps args with
  | nil => cases h; exact ⟨rfl, nofun⟩
  | cons x xs ih =>
    cases ps with
    | nil => simp at hl
    | cons p ps =>
      obtain ⟨a, as, hF, has, rfl⟩ := allSome_cons_some h
      obtain ⟨hlen, hp⟩ := ih ps as (by simpa using hl) has
      refine ⟨by simp [hlen], fun y hy => ?_⟩
      simp only [List.zip_cons_cons, List.mem_cons] at hy
      rcases hy with hy | hy
      · subst hy; exact hF
      · exact hp y hy

theorem zipWith_eq_flatMap_of_allSome {α β γ δ : Type} (F : α → β → Option γ) (G : α → γ → δ) (P : α → β) (xs : List α) (args : List γ)
    (h : allSome (List.zipWith F xs (xs.map P)) = some args) :
    List.zipWith G xs args = xs.flatMap (fun x => match F x (P x) with
      | some a => [G x a]
      | none => []) := by
  induction xs generalizing args with
  | nil => simp
  | cons x xs ih =>
    obtain ⟨a, as, hF, has, rfl⟩ := allSome_cons_some h
    simp [hF, ih as has]

/-! ## the calls of one interaction, kind by kind -/

def Call.isScore : Call V → Bool
  | .score _ _ _ => true
  | _ => false

def Call.isLearn : Call V → Bool
  | .learn _ _ _ _ _ => true
  | _ => false

def predC (c : Config) (hs : Bool) (v : View V R) : List (Call V) :=
  if needPred c hs then [Call.predict v.ctx v.acts] else []

def scoreC (c : Config) (hs : Bool) (v : View V R) : List (Call V) :=
  if (c.eval == .ips && hs && !needPred c hs) then [Call.score v.ctx v.acts v.offAct] else []

theorem flatMap_predC (c : Config) (hs : Bool) (ch : List (View V R)) :
    ch.flatMap (predC c hs) = if needPred c hs then ch.map (fun v => Call.predict v.ctx v.acts) else [] := by
  unfold predC
  cases needPred c hs
  · exact List.flatMap_eq_nil_iff.mpr fun _ _ => rfl
  · exact List.map_eq_flatMap.symm

theorem flatMap_scoreC (c : Config) (hs : Bool) (ch : List (View V R)) :
    ch.flatMap (scoreC c hs) = if (c.eval == .ips && hs && !needPred c hs) then ch.map (fun v => Call.score v.ctx v.acts v.offAct) else [] := by
  unfold scoreC
  cases (c.eval == EvalMode.ips && hs && !needPred c hs)
  · exact List.flatMap_eq_nil_iff.mpr fun _ _ => rfl
  · exact List.map_eq_flatMap.symm

theorem filter_kinds (P S Lc : List (Call V)) (hP : ∀ x ∈ P, Call.isPredict x = true) (hS : ∀ x ∈ S, Call.isScore x = true)
    (hL : ∀ x ∈ Lc, Call.isLearn x = true) :
    (P ++ S ++ Lc).filter Call.isPredict = P ∧ (P ++ S ++ Lc).filter Call.isScore = S ∧ (P ++ S ++ Lc).filter Call.isLearn = Lc := by
  have e1 : ∀ x : Call V, Call.isPredict x = true → Call.isScore x = false ∧ Call.isLearn x = false := by
    intro x; cases x <;> simp [Call.isPredict, Call.isScore, Call.isLearn]
  have e2 : ∀ x : Call V, Call.isScore x = true → Call.isPredict x = false ∧ Call.isLearn x = false := by
    intro x; cases x <;> simp [Call.isPredict, Call.isScore, Call.isLearn]
  have e3 : ∀ x : Call V, Call.isLearn x = true → Call.isPredict x = false ∧ Call.isScore x = false := by
    intro x; cases x <;> simp [Call.isPredict, Call.isScore, Call.isLearn]
  refine ⟨?_, ?_, ?_⟩
  · rw [List.filter_append, List.filter_append, List.filter_eq_self.mpr hP,
      List.filter_eq_nil_iff.mpr (fun x hx => by simp [(e2 x (hS x hx)).1]),
      List.filter_eq_nil_iff.mpr (fun x hx => by simp [(e3 x (hL x hx)).1])]
    simp
  · rw [List.filter_append, List.filter_append, List.filter_eq_self.mpr hS,
      List.filter_eq_nil_iff.mpr (fun x hx => by simp [(e1 x (hP x hx)).1]),
      List.filter_eq_nil_iff.mpr (fun x hx => by simp [(e3 x (hL x hx)).2])]
    simp
  · rw [List.filter_append, List.filter_append, List.filter_eq_self.mpr hL,
      List.filter_eq_nil_iff.mpr (fun x hx => by simp [(e1 x (hP x hx)).2]),
      List.filter_eq_nil_iff.mpr (fun x hx => by simp [(e2 x (hS x hx)).2])]
    simp

variable [DecidableEq V] [RewardFn R V]

/-! ## rows for history-independent learners -/

theorem evalsOf_eq_mapE (c : Config) (sb : Bool) (P : RowIn V R → Option (Pred V)) (S : RowIn V R → Option Rat)
    (rows : List (RowIn V R)) :
    evalsOf c sb rows (rows.map P) (rows.map S)
      = mapE (fun r => if c.eval != .none then (evalReward sb r (P r) (S r)).map some else .ok none) rows := by
  unfold evalsOf
  by_cases he : (c.eval != .none) = true
  · simp only [he, if_true]
    induction rows with
    | nil => rfl
    | cons r rs ih =>
      simp only [List.map_cons, mapM₃, mapE, bind, pure, Except.pure, ← ih]
      cases evalReward sb r (P r) (S r) with
      | error e => rfl
      | ok x => cases mapM₃ (evalReward sb) rs (rs.map P) (rs.map S) <;> rfl
  · simp only [he]
    induction rows with
    | nil => rfl
    | cons r rs ih => simp only [mapE, ← ih]; rfl

/-- the row of one interaction when the learner's answers are given by `f`, `g` -/
def pureRow (c : Config) (fl : Flags) (hs b : Bool) (f : Option V → Option (List V) → Pred V)
    (g : Option V → Option (List V) → Option V → Rat) (r : RowIn V R) : Except Err (Row V R) :=
  let sp := shouldPred c hs
  let sb := c.eval == .ips && hs && !sp
  let p := if sp then some (f r.ctx r.acts) else none
  let sc := if sb then some (g r.ctx r.acts r.offAct) else none
  (if c.eval != .none then (evalReward sb r p sc).map some else .ok none).bind fun er => mkRow c fl sp b r p er

theorem stepChunk_rows {σ : Type} {L : Learner σ V} {f g} (ho : Oblivious L f g) (c : Config) (fl : Flags) (b : Bool)
    (s s' : σ) (ch : List (Dict (Fld V R))) (cs : List (Call V)) (out : List (Row V R))
    (h : stepChunk c fl L b s ch = .ok (s', cs, out)) :
    ∃ rows full, prepAll c fl ch = .ok rows ∧ mapE (pureRow c fl L.hasScore b f g) rows = .ok full
      ∧ out = full.filter (fun o => !o.isEmpty) := by
  rw [stepChunk_stages] at h
  obtain ⟨rows, hp, h⟩ := Except.bind_eq_ok h
  simp only [stage_answers _ _ _ _ rows (predictPhase_preds ho rows _), stage_answers _ _ _ _ rows (scorePhase_scores ho rows _),
    evalsOf_eq_mapE] at h
  obtain ⟨evals, hev, h⟩ := Except.bind_eq_ok h
  obtain ⟨ll, _, h⟩ := Except.bind_eq_ok h
  obtain ⟨out0, hm, h⟩ := Except.map_eq_ok h
  exact ⟨rows, out0, hp, mapE_fuse _ (fun r p er => mkRow c fl _ b r p er) _ rows evals out0 hev hm,
    (Prod.mk.inj (Prod.mk.inj h).2).2⟩

theorem runChunks_rows {σ : Type} {L : Learner σ V} {f g} (ho : Oblivious L f g) (c : Config) (fl : Flags) (b : Bool)
    (chs : List (List (Dict (Fld V R)))) (s s' : σ) (cs' : List (Call V)) (rs' : List (Row V R))
    (h : runChunks c fl L b s [] [] chs = .ok (s', cs', rs')) :
    ∃ rows full, mapE (prep c fl) chs.flatten = .ok rows ∧ mapE (pureRow c fl L.hasScore b f g) rows = .ok full
      ∧ rs' = full.filter (fun o => !o.isEmpty) := by
  induction chs generalizing s s' cs' rs' with
  | nil => cases h; exact ⟨[], [], rfl, rfl, rfl⟩
  | cons ch rest ih =>
    rw [runChunks_cons] at h
    obtain ⟨r1, hs, h⟩ := Except.bind_eq_ok h
    obtain ⟨r2, hr, h⟩ := Except.map_eq_ok h
    cases h
    obtain ⟨rows1, full1, hp1, hf1, ho1⟩ := stepChunk_rows ho c fl b s r1.1 ch r1.2.1 r1.2.2 hs
    obtain ⟨rowsR, fullR, hpR, hfR, hoR⟩ := ih r1.1 r2.1 r2.2.1 r2.2.2 hr
    rw [prepAll_eq_mapE] at hp1
    exact ⟨rows1 ++ rowsR, full1 ++ fullR, mapE_append _ _ _ _ _ hp1 hpR, mapE_append _ _ _ _ _ hf1 hfR,
      by rw [ho1, hoR, List.filter_append]⟩

theorem pureRow_flag (c : Config) (fl : Flags) (hs : Bool) (f : Option V → Option (List V) → Pred V)
    (g : Option V → Option (List V) → Option V → Rat) (r : RowIn V R) (hex : ∀ kv ∈ r.extras, kv.1 ≠ "probability") :
    (pureRow c fl hs true f g r).map dropNoneProb = pureRow c fl hs false f g r := by
  unfold pureRow
  simp only
  generalize (if (c.eval != EvalMode.none) = true then
      Except.map some (evalReward (c.eval == EvalMode.ips && hs && !shouldPred c hs) r
        (if shouldPred c hs = true then some (f r.ctx r.acts) else none)
        (if (c.eval == EvalMode.ips && hs && !shouldPred c hs) = true then some (g r.ctx r.acts r.offAct) else none))
    else Except.ok none) = E
  cases E with
  | error e => rfl
  | ok er => simp only [Except.bind]; exact mkRow_flag c fl _ r _ er hex

theorem mapE_pureRow_flag (c : Config) (fl : Flags) (hs : Bool) (f : Option V → Option (List V) → Pred V)
    (g : Option V → Option (List V) → Option V → Rat) (rows : List (RowIn V R)) (full : List (Row V R))
    (hex : ∀ r ∈ rows, ∀ kv ∈ r.extras, kv.1 ≠ "probability")
    (h : mapE (pureRow c fl hs true f g) rows = .ok full) :
    mapE (pureRow c fl hs false f g) rows = .ok (full.map dropNoneProb) :=
  mapE_rel h fun r hr o ho => by rw [← pureRow_flag c fl hs f g r (hex r hr), ho]; rfl

/-! ## batched refinement: one batch of any size -/

theorem evals_chunk {c : Config} (sb : Bool) (vs : List (View V R)) (ps : List (Option (Pred V))) (scs : List (Option Rat))
    (hw : ∀ v ∈ vs, WFR v) (h1 : sb = true → c.eval = .ips ∧ ∀ p ∈ ps, p = none) (h2 : sb = false → ∀ sc ∈ scs, sc = none) :
    toOpt (mapM₃ (evalReward sb) (vs.map (rowOf c)) ps scs) = allSome (zip3With (evalRewardS c) vs ps scs) :=
  toOpt_mapM₃ vs ps scs fun v hv p hp sc hsc =>
    evalReward_eq (hw v hv) sb p sc (fun h => ⟨(h1 h).1, (h1 h).2 p hp⟩) (fun h => h2 h sc hsc)

theorem args_chunk {c : Config} (hl : c.learn ≠ .none) (vs : List (View V R)) (ps : List (Option (Pred V)))
    (hw : ∀ v ∈ vs, WFR v) :
    toOpt (mapM₂ (learnArgs c) (vs.map (rowOf c)) ps) = allSome (List.zipWith (learnArgsS c) vs ps) :=
  toOpt_mapM₂ vs ps fun v hv p _ => learnArgs_eq (hw v hv) p hl

theorem rows_chunk {c : Config} {fl : Flags} (sp : Bool) (vs : List (View V R)) (ps : List (Option (Pred V)))
    (evals : List (Option Rat)) (hok : ∀ v ∈ vs, RowOK fl v) :
    toOpt (mapM₃ (mkRow c fl sp true) (vs.map (rowOf c)) ps evals) = allSome (zip3With (rowSB c fl sp) vs ps evals) :=
  toOpt_mapM₃ vs ps evals fun v hv p _ er _ => mkRow_eqB (hok v hv) sp p er

theorem evalsOf_chunk {c : Config} (sb : Bool) (vs : List (View V R)) (ps : List (Option (Pred V))) (scs : List (Option Rat))
    (hw : ∀ v ∈ vs, WFR v) (h1 : sb = true → c.eval = .ips ∧ ∀ p ∈ ps, p = none) (h2 : sb = false → ∀ sc ∈ scs, sc = none) :
    toOpt (evalsOf c sb (vs.map (rowOf c)) ps scs)
      = (if c.eval != .none then (allSome (zip3With (evalRewardS c) vs ps scs)).map (·.map some)
         else some (List.replicate vs.length none)) := by
  unfold evalsOf
  by_cases he : (c.eval != .none) = true
  · rw [if_pos he, if_pos he, toOpt_map, evals_chunk sb vs ps scs hw h1 h2]
  · rw [if_neg he, if_neg he]; simp

theorem learnsOf_chunk {c : Config} {σ : Type} (L : Learner σ V) (s : σ) (vs : List (View V R)) (ps : List (Option (Pred V)))
    (hw : ∀ v ∈ vs, WFR v) :
    toOpt (learnsOf c L s (vs.map (rowOf c)) ps)
      = (if c.learn != .none then allSome (List.zipWith (learnArgsS c) vs ps) else some []).map (fun args =>
            (learnS L s vs args, List.zipWith (fun (v : View V R) a => Call.learn v.ctx a.1 a.2.1 a.2.2.1 a.2.2.2) vs args)) := by
  unfold learnsOf
  split
  · rename_i hl
    rw [toOpt_map, args_chunk (by simpa [bne] using hl) vs ps hw]
    exact congrArg (Option.map · _) (funext fun args => learnPhase_eq L c vs args s)
  · simp only [toOpt_ok, Option.map_some, learnS_nil, List.zipWith_nil_right]

theorem stepChunk_batched {σ : Type} {c : Config} {fl : Flags} (L : Learner σ V) (s : σ) (ch : List (Dict (Fld V R)))
    (hall : ∀ d ∈ ch, WF fl d ∧ nodupKeys d.keys = true) (hv : Valid c L.hasScore fl)
    (hseq : fl.rwdsIsList = true → fl.discrete = true) :
    toOpt (stepChunk c fl L true s ch) =
      (specChunk c fl L s (ch.map view)).map (fun r => (r.1, r.2.1, r.2.2.filter (fun o => !o.isEmpty))) := by
  have hprep := prepAll_chunk hv ch (fun d hd => (hall d hd).1)
  rw [show ch.map (fun d => rowOf c (view d)) = (ch.map view).map (rowOf c) by rw [List.map_map]; rfl] at hprep
  have hok : ∀ v ∈ ch.map view, RowOK fl v := by
    intro v hvm
    obtain ⟨d, hd, rfl⟩ := List.mem_map.mp hvm
    exact rowOK_of_WF (hall d hd).1 (hall d hd).2 hseq
  have hw : ∀ v ∈ ch.map view, WFR v := fun v hvm => (hok v hvm).wfr
  generalize ch.map view = vs at *
  rw [stepChunk_stages, hprep]
  unfold specChunk
  simp only [toOpt_bind, toOpt_map, toOpt_ok, Option.bind_some, shouldPred_eq_needPred, stage_predict, stage_score]
  generalize needPred c L.hasScore = np
  generalize hsb : (c.eval == EvalMode.ips && L.hasScore && !np) = sb
  -- score-based evaluation is `eval = ips` without a prediction: then every prediction is `none`; otherwise every score is
  have h1 : sb = true → c.eval = .ips ∧ np = false := by
    intro h; rw [h] at hsb; simp only [Bool.and_eq_true, beq_iff_eq, Bool.not_eq_true'] at hsb; exact ⟨hsb.1.1, hsb.2⟩
  rw [evalsOf_chunk sb vs _ _ hw (fun h => ⟨(h1 h).1, none_of_off vs (h1 h).2⟩) (fun h => none_of_off vs h),
    learnsOf_chunk L _ vs _ hw]
  simp only [rows_chunk (c := c) (fl := fl) np vs _ _ hok, Option.bind_map, Option.map_bind, Option.map_map, Function.comp_def,
    List.map_const']

theorem runChunks_batched {σ : Type} {c : Config} {fl : Flags} (L : Learner σ V) (hv : Valid c L.hasScore fl)
    (hseq : fl.rwdsIsList = true → fl.discrete = true) (chs : List (List (Dict (Fld V R))))
    (hall : ∀ ch ∈ chs, ∀ d ∈ ch, WF fl d ∧ nodupKeys d.keys = true) (s : σ) :
    toOpt (runChunks c fl L true s [] [] chs) =
      (specRunB c fl L s (chs.map (List.map view))).map (fun r => (r.1, r.2.1, r.2.2.filter (fun o => !o.isEmpty))) := by
  induction chs generalizing s with
  | nil => rfl
  | cons ch rest ih =>
    rw [runChunks_cons, toOpt_bind, stepChunk_batched L s ch (hall ch (by simp)) hv hseq]
    simp only [List.map_cons, specRunB, toOpt_map, ih fun ch' h' => hall ch' (by simp [h']), Option.bind_map, Option.map_bind,
      Option.map_map, Function.comp_def, List.filter_append]

theorem evaluate_refines_batched {σ : Type} (c : Config) (L : Learner σ V) (n : Nat) (first : Dict (Fld V R))
    (rest : List (Dict (Fld V R))) (s : σ) (H : Hyp c L first rest) :
    (evaluate c L (some n) (first :: rest) s).toOpt =
      (specRunB c (mkFlags first) L s ((chunks n (first :: rest)).map (List.map view))).map
        (fun r => (r.1, r.2.1, r.2.2.filter (fun o => !o.isEmpty))) := by
  rw [evaluate_cons, validated_of_valid H.valid, Outcome.toOpt_ofExcept]
  exact runChunks_batched L (valid_of_missing_nil c L.hasScore first H.valid) H.seq (chunks n (first :: rest))
    (fun ch hch d hd => wfEnv_all H.wf d (mem_chunksAux n _ _ ch hch d hd)) s

/-! ## batched vs un-batched call traces -/

theorem specChunk_state {σ : Type} {c : Config} {fl : Flags} (L : Learner σ V) (s : σ) (vs : List (View V R))
    (r : σ × List (Call V) × List (Row V R)) (h : specChunk c fl L s vs = some r) :
    ∃ args, ((c.learn = .none ∧ args = []) ∨ (c.learn ≠ .none ∧
        allSome (List.zipWith (learnArgsS c) vs
          (if needPred c L.hasScore then (predictS L s vs).2.map some else vs.map (fun _ => none))) = some args)) ∧
      r.1 = learnS L
        (if (c.eval == .ips && L.hasScore && !needPred c L.hasScore) then
            (scoreS L (if needPred c L.hasScore then (predictS L s vs).1 else s) vs).1
          else (if needPred c L.hasScore then (predictS L s vs).1 else s)) vs args
      ∧ r.2.1 = (if needPred c L.hasScore then vs.map (fun v => Call.predict v.ctx v.acts) else [])
          ++ (if (c.eval == .ips && L.hasScore && !needPred c L.hasScore) then vs.map (fun v => Call.score v.ctx v.acts v.offAct) else [])
          ++ List.zipWith (fun (v : View V R) a => Call.learn v.ctx a.1 a.2.1 a.2.2.1 a.2.2.2) vs args := by
  unfold specChunk at h
  simp only [Option.bind_eq_some_iff, Option.map_eq_some_iff] at h
  obtain ⟨evals, _, args, hargs, rows, _, hr⟩ := h
  subst hr
  refine ⟨args, ?_, ?_, ?_⟩
  · by_cases hl : (c.learn != .none) = true
    · rw [if_pos hl] at hargs
      refine Or.inr ⟨by simpa [bne] using hl, ?_⟩
      cases hn : needPred c L.hasScore <;> simp only [hn, if_true, if_false, Bool.false_eq_true] at hargs ⊢ <;> exact hargs
    · rw [if_neg hl] at hargs
      simp only [Option.some.injEq] at hargs
      exact Or.inl ⟨by simpa [bne] using hl, hargs.symm⟩
  · cases needPred c L.hasScore <;> cases (c.eval == .ips && L.hasScore) <;> simp
  · cases needPred c L.hasScore <;> cases (c.eval == .ips && L.hasScore) <;> simp

/-- the learn call of one interaction for a learner answering `f` whatever its state -/
def learnCallsO (c : Config) (hs : Bool) (f : Option V → Option (List V) → Pred V) (v : View V R) : List (Call V) :=
  if c.learn != .none then
    match learnArgsS c v (if needPred c hs then some (f v.ctx v.acts) else none) with
    | some a => [Call.learn v.ctx a.1 a.2.1 a.2.2.1 a.2.2.2]
    | none => []
  else []

theorem specChunk_learnCalls {σ : Type} {c : Config} {L : Learner σ V} {f g} (ho : Oblivious L f g) (s : σ) (vs : List (View V R))
    {args : List (Option V × Option Rat × Option Rat × Dict V)}
    (hargs : (c.learn = .none ∧ args = []) ∨ (c.learn ≠ .none ∧
        allSome (List.zipWith (learnArgsS c) vs
          (if needPred c L.hasScore then (predictS L s vs).2.map some else vs.map (fun _ => none))) = some args)) :
    List.zipWith (fun (v : View V R) a => Call.learn v.ctx a.1 a.2.1 a.2.2.1 a.2.2.2) vs args
      = vs.flatMap (learnCallsO c L.hasScore f) := by
  rcases hargs with ⟨hn, h0⟩ | ⟨hn, h0⟩
  · subst h0
    have : ∀ v : View V R, learnCallsO c L.hasScore f v = [] := by intro v; simp [learnCallsO, hn]
    simp [this]
  · have hne : (c.learn != .none) = true := by simpa [bne] using hn
    have hps : (if needPred c L.hasScore = true then List.map some (predictS L s vs).2 else List.map (fun _ => none) vs)
        = vs.map (fun v => if needPred c L.hasScore then some (f v.ctx v.acts) else none) := by
      rw [predictS_oblivious ho]
      cases needPred c L.hasScore <;> simp
    rw [hps] at h0
    rw [zipWith_eq_flatMap_of_allSome (learnArgsS c) (fun (v : View V R) a => Call.learn v.ctx a.1 a.2.1 a.2.2.1 a.2.2.2) _ vs args h0]
    congr 1
    funext v
    simp only [learnCallsO, hne, if_true]
    cases learnArgsS c v (if needPred c L.hasScore = true then some (f v.ctx v.acts) else none) <;> rfl

theorem evaluate_ok_specB {σ : Type} (c : Config) (L : Learner σ V) (n : Nat) (first : Dict (Fld V R))
    (rest : List (Dict (Fld V R))) (s s' : σ) (calls : List (Call V)) (rows : List (Row V R)) (H : Hyp c L first rest)
    (h : evaluate c L (some n) (first :: rest) s = .ok (s', calls, rows)) :
    ∃ full, specRunB c (mkFlags first) L s ((chunks n (first :: rest)).map (List.map view)) = some (s', calls, full)
      ∧ rows = full.filter (fun o => !o.isEmpty) :=
  ok_of_refines (evaluate_refines_batched c L n first rest s H) h

/-! ## a batched run of the spec: one step per batch, its rows, the order of its calls -/

theorem specRunB_steps {σ : Type} {c : Config} {fl : Flags} (L : Learner σ V) (chs : List (List (View V R))) (s : σ)
    (r : σ × List (Call V) × List (Row V R)) (h : specRunB c fl L s chs = some r) :
    ∃ steps : List (σ × σ × List (Call V) × List (Row V R)),
      steps.length = chs.length ∧ r.2.1 = (steps.map (·.2.2.1)).flatten ∧ r.2.2 = (steps.map (·.2.2.2)).flatten ∧
      ∀ cst ∈ chs.zip steps, specChunk c fl L cst.2.1 cst.1 = some cst.2.2 := by
  obtain ⟨st, h1, h2, h3⟩ := run_steps (run := specRunB c fl L) (fun _ => rfl) (fun _ _ _ => rfl) h
  exact ⟨st, h1, h3 (·.2.1) (·.2.1) (fun _ => rfl) (fun _ _ => rfl), h3 (·.2.2) (·.2.2) (fun _ => rfl) (fun _ _ => rfl), h2⟩

theorem evaluate_ok_stepsB {σ : Type} (c : Config) (L : Learner σ V) (n : Nat) (first : Dict (Fld V R))
    (rest : List (Dict (Fld V R))) (s s' : σ) (calls : List (Call V)) (rows : List (Row V R)) (H : Hyp c L first rest)
    (h : evaluate c L (some n) (first :: rest) s = .ok (s', calls, rows)) :
    ∃ steps : List (σ × σ × List (Call V) × List (Row V R)), steps.length = (chunks n (first :: rest)).length ∧
      calls = (steps.map (·.2.2.1)).flatten ∧ rows = (steps.map (·.2.2.2)).flatten.filter (fun o => !o.isEmpty) ∧
      ∀ cst ∈ ((chunks n (first :: rest)).map (List.map view)).zip steps,
        specChunk c (mkFlags first) L cst.2.1 cst.1 = some cst.2.2 := by
  obtain ⟨full, hs, hrows⟩ := evaluate_ok_specB c L n first rest s s' calls rows H h
  obtain ⟨st, h1, h2, h3, h4⟩ := specRunB_steps L _ s _ hs
  exact ⟨st, by simpa using h1, h2, hrows.trans (congrArg _ h3), h4⟩

theorem specChunk_rows {σ : Type} {c : Config} {fl : Flags} (L : Learner σ V) (s : σ) (vs : List (View V R))
    (r : σ × List (Call V) × List (Row V R)) (h : specChunk c fl L s vs = some r) :
    r.2.2.length = vs.length ∧ ∀ vr ∈ vs.zip r.2.2,
      ∃ pre : Row V R, vr.2 = pre ++ vr.1.extras.map (fun kv => (kv.1, Cell.fld kv.2)) ∧ ∀ b ∈ pre, b.1 ∈ implicitExclude := by
  unfold specChunk at h
  simp only [Option.bind_eq_some_iff, Option.map_eq_some_iff] at h
  obtain ⟨evals, hev, args, _, rows, hrows, hr⟩ := h
  subst hr
  have hps : ∀ (np : Bool), (if np = true then List.map some (if np = true then predictS L s vs else (s, [])).2
      else List.map (fun _ => (none : Option (Pred V))) vs).length = vs.length := by
    intro np; cases np <;> simp [predictS_length]
  have hevl : evals.length = vs.length := by
    by_cases he : (c.eval != EvalMode.none) = true
    · rw [if_pos he] at hev
      simp only [Option.map_eq_some_iff] at hev
      obtain ⟨es, hes, rfl⟩ := hev
      rw [List.length_map]
      refine (allSome_zip3With_inv _ _ _ _ _ (hps _) ?_ hes).1
      cases (c.eval == EvalMode.ips && L.hasScore && !needPred c L.hasScore) <;> simp [scoreS_length]
    · rw [if_neg he] at hev
      simp only [Option.some.injEq] at hev
      subst hev; simp
  obtain ⟨hlen, hp⟩ := allSome_zip3With_inv _ _ _ _ _ (hps _) hevl hrows
  exact ⟨hlen, fun vr hvr => (hp vr hvr).elim fun p h => h.elim fun er hrow => rowSB_extras hrow⟩

theorem specChunk_on_policy {σ : Type} {c : Config} {fl : Flags} (L : Learner σ V) (s : σ) (vs : List (View V R))
    (r : σ × List (Call V) × List (Row V R)) (h : specChunk c fl L s vs = some r) (hl : c.learn = .on ∨ c.learn = .ips) :
    ∃ args : List (Option V × Option Rat × Option Rat × Dict V),
      r.2.1 = vs.map (fun v => Call.predict v.ctx v.acts)
        ++ List.zipWith (fun (v : View V R) a => Call.learn v.ctx a.1 a.2.1 a.2.2.1 a.2.2.2) vs args ∧
      args.length = vs.length ∧
      ∀ vpa ∈ (vs.zip (predictS L s vs).2).zip args,
        ∃ rew, (if c.learn = .on then envReward vpa.1.1 vpa.1.2.action else ipsReward vpa.1.1 (some vpa.1.2.action)) = some rew ∧
          vpa.2 = (some vpa.1.2.action, some rew, vpa.1.2.prob, vpa.1.2.kw) := by
  have hnp : needPred c L.hasScore = true := by rcases hl with hl | hl <;> simp [needPred, hl]
  obtain ⟨args, hargs, _, hshape⟩ := specChunk_state L s vs r h
  rw [hnp] at hshape hargs
  simp only [if_true, Bool.not_true, Bool.and_false, Bool.false_eq_true, if_false, List.append_nil] at hshape hargs
  rcases hargs with ⟨h0, _⟩ | ⟨_, hall⟩
  · rcases hl with hl | hl <;> rw [hl] at h0 <;> cases h0
  · obtain ⟨hlen, hp⟩ := allSome_zipWith_inv (learnArgsS c) vs (predictS L s vs).2 args (predictS_length L s vs) hall
    exact ⟨args, hshape, hlen, fun vpa hvpa => learnArgsS_on_policy hl (hp vpa hvpa)⟩

theorem specChunk_order {σ : Type} {c : Config} {fl : Flags} (L : Learner σ V) (s : σ) (vs : List (View V R))
    (r : σ × List (Call V) × List (Row V R)) (h : specChunk c fl L s vs = some r) :
    ∃ learns : List (Call V), (∀ x ∈ learns, Call.isLearn x = true) ∧ learns.length ≤ vs.length ∧
      r.2.1 = (if needPred c L.hasScore then vs.map (fun v => Call.predict v.ctx v.acts) else [])
        ++ (if (c.eval == .ips && L.hasScore && !needPred c L.hasScore) then vs.map (fun v => Call.score v.ctx v.acts v.offAct) else [])
        ++ learns ∧
      ∀ vl ∈ vs.zip learns, Call.ctx vl.2 = vl.1.ctx := by
  obtain ⟨args, _, _, hshape⟩ := specChunk_state L s vs r h
  refine ⟨_, ?_, ?_, hshape, ?_⟩
  · intro x hx
    rw [List.mem_iff_getElem] at hx
    obtain ⟨i, _, rfl⟩ := hx
    simp [Call.isLearn]
  · simp [List.length_zipWith]; omega
  · intro vl hvl
    rw [List.mem_iff_getElem] at hvl
    obtain ⟨i, hi, rfl⟩ := hvl
    simp [Call.ctx]

/-! ### closed forms of both traces (history-independent learners) -/

theorem specRun_calls_closed {σ : Type} {c : Config} {fl : Flags} {L : Learner σ V} {f g} (ho : Oblivious L f g)
    (vs : List (View V R)) (s : σ) (r : σ × List (Call V) × List (Row V R)) (h : specRun c fl L s vs = some r) :
    r.2.1 = vs.flatMap (fun v => predC c L.hasScore v ++ scoreC c L.hasScore v ++ learnCallsO c L.hasScore f v) := by
  induction vs generalizing s r with
  | nil => simp only [specRun, Option.some.injEq] at h; subst h; rfl
  | cons v vs ih =>
    simp only [specRun, Option.bind_eq_some_iff, Option.map_eq_some_iff] at h
    obtain ⟨r1, h1, r2, h2, hr⟩ := h
    subst hr
    obtain ⟨lc, hcs, hlc⟩ := specInter_calls L s v r1 h1
    have hl : lc = learnCallsO c L.hasScore f v := by
      rcases hlc with ⟨hn, h0⟩ | ⟨hn, a, ha, h0⟩
      · subst h0; simp [learnCallsO, hn]
      · subst h0
        have hne : (c.learn != .none) = true := by simpa [bne] using hn
        rw [ho.pred] at ha
        simp [learnCallsO, hne, ha]
    simp only [List.flatMap_cons, ih r1.1 r2 h2, hcs, hl, predC, scoreC]

theorem specRunB_calls_closed {σ : Type} {c : Config} {fl : Flags} {L : Learner σ V} {f g} (ho : Oblivious L f g)
    (chs : List (List (View V R))) (s : σ) (r : σ × List (Call V) × List (Row V R)) (h : specRunB c fl L s chs = some r) :
    r.2.1 = chs.flatMap (fun ch => ch.flatMap (predC c L.hasScore) ++ ch.flatMap (scoreC c L.hasScore)
      ++ ch.flatMap (learnCallsO c L.hasScore f)) := by
  induction chs generalizing s r with
  | nil => simp only [specRunB, Option.some.injEq] at h; subst h; rfl
  | cons ch rest ih =>
    simp only [specRunB, Option.bind_eq_some_iff, Option.map_eq_some_iff] at h
    obtain ⟨r1, h1, r2, h2, hr⟩ := h
    subst hr
    obtain ⟨args, hargs, _, hcalls⟩ := specChunk_state L s ch r1 h1
    simp only [List.flatMap_cons, ih r1.1 r2 h2, hcalls, specChunk_learnCalls ho s ch hargs, flatMap_predC, flatMap_scoreC]

/-! ### each kind of call on its own -/

/-- the calls of each kind in a run of the spec, for a learner answering `f`,`g` whatever its state -/
structure Kinds (c : Config) (hs : Bool) (f : Option V → Option (List V) → Pred V) (vs : List (View V R))
    (calls : List (Call V)) : Prop where
  pred : calls.filter Call.isPredict = (if needPred c hs then vs.map (fun v => Call.predict v.ctx v.acts) else [])
  score : calls.filter Call.isScore =
    (if (c.eval == .ips && hs && !needPred c hs) then vs.map (fun v => Call.score v.ctx v.acts v.offAct) else [])
  learn : calls.filter Call.isLearn = vs.flatMap (learnCallsO c hs f)

theorem Kinds.append {c : Config} {hs : Bool} {f : Option V → Option (List V) → Pred V} {vs ws : List (View V R)}
    {a b : List (Call V)} (h1 : Kinds c hs f vs a) (h2 : Kinds c hs f ws b) : Kinds c hs f (vs ++ ws) (a ++ b) := by
  refine ⟨?_, ?_, ?_⟩
  · rw [List.filter_append, h1.pred, h2.pred]; split <;> simp
  · rw [List.filter_append, h1.score, h2.score]; split <;> simp
  · rw [List.filter_append, h1.learn, h2.learn]; simp

theorem kinds_of_groups {c : Config} {hs : Bool} {f : Option V → Option (List V) → Pred V} (vs : List (View V R))
    (lc : List (Call V)) (hL : ∀ x ∈ lc, Call.isLearn x = true) (hlc : lc = vs.flatMap (learnCallsO c hs f)) :
    Kinds c hs f vs ((if needPred c hs then vs.map (fun v => Call.predict v.ctx v.acts) else [])
      ++ (if (c.eval == .ips && hs && !needPred c hs) then vs.map (fun v => Call.score v.ctx v.acts v.offAct) else []) ++ lc) := by
  have := filter_kinds (if needPred c hs then vs.map (fun v => Call.predict v.ctx v.acts) else [])
    (if (c.eval == .ips && hs && !needPred c hs) then vs.map (fun v => Call.score v.ctx v.acts v.offAct) else []) lc
    (by intro x hx; split at hx <;> simp at hx; obtain ⟨v, _, rfl⟩ := hx; rfl)
    (by intro x hx; split at hx <;> simp at hx; obtain ⟨v, _, rfl⟩ := hx; rfl) hL
  exact ⟨this.1, this.2.1, by rw [this.2.2, hlc]⟩

theorem learnCallsO_isLearn (c : Config) (hs : Bool) (f : Option V → Option (List V) → Pred V) (vs : List (View V R)) :
    ∀ x ∈ vs.flatMap (learnCallsO c hs f), Call.isLearn x = true := by
  intro x hx
  obtain ⟨v, _, hv⟩ := List.mem_flatMap.mp hx
  unfold learnCallsO at hv
  split at hv
  · split at hv
    · rw [List.mem_singleton.mp hv]; rfl
    · cases hv
  · cases hv

theorem kinds_closedB (c : Config) (hs : Bool) (f : Option V → Option (List V) → Pred V) (chs : List (List (View V R))) :
    Kinds c hs f chs.flatten (chs.flatMap (fun ch => ch.flatMap (predC c hs) ++ ch.flatMap (scoreC c hs)
      ++ ch.flatMap (learnCallsO c hs f))) := by
  induction chs with
  | nil => exact ⟨by simp, by simp, by simp⟩
  | cons ch rest ih =>
    rw [List.flatten_cons, List.flatMap_cons, flatMap_predC, flatMap_scoreC]
    exact Kinds.append (kinds_of_groups ch _ (learnCallsO_isLearn c hs f ch) rfl) ih

/-- the un-batched closed form is the batched one for batches of one -/
theorem kinds_closed (c : Config) (hs : Bool) (f : Option V → Option (List V) → Pred V) (vs : List (View V R)) :
    Kinds c hs f vs (vs.flatMap (fun v => predC c hs v ++ scoreC c hs v ++ learnCallsO c hs f v)) := by
  have := kinds_closedB c hs f (chunks 1 vs)
  rw [chunks_flatten 1 (by decide), chunks_one] at this
  simpa [List.flatMap_map] using this

end Coba.C06
