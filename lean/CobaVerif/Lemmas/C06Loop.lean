/-
C06 — the loop in the forms the proofs use: the three phases from the front, the optional phase of a pass (`stage`) and the
loop body through its stages (`stepChunk_stages`) and on one interaction (`stepChunk_eq_pass`), the loop over batches from the
front (`runChunks_cons`), and every entry point as validation of the first interaction followed by a loop (`validated`, `evaluate_cons`).
-/
import CobaVerif.Lemmas.C06Read

namespace Coba.C06
variable {V R : Type}

/-! ## the loop body: the three phases from the front, and on one interaction -/

theorem predictPhase_cons {σ : Type} (L : Learner σ V) (s : σ) (r : RowIn V R) (rs : List (RowIn V R)) :
    predictPhase L s (r :: rs) =
      ((predictPhase L (L.predict s r.ctx r.acts).1 rs).1,
       (L.predict s r.ctx r.acts).2 :: (predictPhase L (L.predict s r.ctx r.acts).1 rs).2.1,
       Call.predict r.ctx r.acts :: (predictPhase L (L.predict s r.ctx r.acts).1 rs).2.2) :=
  foldl_snoc₂ (fun s (r : RowIn V R) => (L.predict s r.ctx r.acts).1) (fun s r => (L.predict s r.ctx r.acts).2)
    (fun _ r => Call.predict r.ctx r.acts) rs _ [_] [_]

theorem scorePhase_cons {σ : Type} (L : Learner σ V) (s : σ) (r : RowIn V R) (rs : List (RowIn V R)) :
    scorePhase L s (r :: rs) =
      ((scorePhase L (L.score s r.ctx r.acts r.offAct).1 rs).1,
       (L.score s r.ctx r.acts r.offAct).2 :: (scorePhase L (L.score s r.ctx r.acts r.offAct).1 rs).2.1,
       Call.score r.ctx r.acts r.offAct :: (scorePhase L (L.score s r.ctx r.acts r.offAct).1 rs).2.2) :=
  foldl_snoc₂ (fun s (r : RowIn V R) => (L.score s r.ctx r.acts r.offAct).1) (fun s r => (L.score s r.ctx r.acts r.offAct).2)
    (fun _ r => Call.score r.ctx r.acts r.offAct) rs _ [_] [_]

theorem learnPhase_cons {σ : Type} (L : Learner σ V) (s : σ) (r : RowIn V R) (rs : List (RowIn V R))
    (a : Option V × Option Rat × Option Rat × Dict V) (as : List (Option V × Option Rat × Option Rat × Dict V)) :
    learnPhase L s (r :: rs) (a :: as) =
      ((learnPhase L (L.learn s r.ctx a.1 a.2.1 a.2.2.1 a.2.2.2) rs as).1,
       Call.learn r.ctx a.1 a.2.1 a.2.2.1 a.2.2.2 :: (learnPhase L (L.learn s r.ctx a.1 a.2.1 a.2.2.1 a.2.2.2) rs as).2) :=
  foldl_snoc₁ (fun s (ra : RowIn V R × (Option V × Option Rat × Option Rat × Dict V)) => L.learn s ra.1.ctx ra.2.1 ra.2.2.1 ra.2.2.2.1 ra.2.2.2.2)
    (fun _ ra => Call.learn ra.1.ctx ra.2.1 ra.2.2.1 ra.2.2.2.1 ra.2.2.2.2) (rs.zip as) _ [_]

theorem predictPhase_eq {σ : Type} (L : Learner σ V) (c : Config) (vs : List (View V R)) (s : σ) :
    predictPhase L s (vs.map (rowOf c)) = ((predictS L s vs).1, (predictS L s vs).2, vs.map (fun v => Call.predict v.ctx v.acts)) := by
  induction vs generalizing s with
  | nil => rfl
  | cons v vs ih => simp only [List.map_cons, predictPhase_cons, ih]; rfl

theorem scorePhase_eq {σ : Type} (L : Learner σ V) (c : Config) (vs : List (View V R)) (s : σ) :
    scorePhase L s (vs.map (rowOf c)) = ((scoreS L s vs).1, (scoreS L s vs).2, vs.map (fun v => Call.score v.ctx v.acts v.offAct)) := by
  induction vs generalizing s with
  | nil => rfl
  | cons v vs ih => simp only [List.map_cons, scorePhase_cons, ih]; rfl

theorem learnPhase_eq {σ : Type} (L : Learner σ V) (c : Config) (vs : List (View V R))
    (args : List (Option V × Option Rat × Option Rat × Dict V)) (s : σ) :
    learnPhase L s (vs.map (rowOf c)) args
      = (learnS L s vs args, List.zipWith (fun (v : View V R) a => Call.learn v.ctx a.1 a.2.1 a.2.2.1 a.2.2.2) vs args) := by
  induction vs generalizing args s with
  | nil => cases args <;> rfl
  | cons v vs ih =>
    cases args with
    | nil => rfl
    | cons a as => simp only [List.map_cons, learnPhase_cons, ih]; rfl

theorem predictS_length {σ : Type} (L : Learner σ V) (s : σ) (vs : List (View V R)) : (predictS L s vs).2.length = vs.length := by
  induction vs generalizing s with
  | nil => rfl
  | cons v vs ih => simp [predictS, ih]

theorem scoreS_length {σ : Type} (L : Learner σ V) (s : σ) (vs : List (View V R)) : (scoreS L s vs).2.length = vs.length := by
  induction vs generalizing s with
  | nil => rfl
  | cons v vs ih => simp [scoreS, ih]

@[simp] theorem learnS_nil {σ : Type} (L : Learner σ V) (s : σ) (vs : List (View V R)) : learnS L s vs [] = s := by
  cases vs <;> rfl

/-- an optional phase of a loop pass: when `on`, `run` threads the learner state through the rows and returns one answer per
row and the calls made; otherwise nothing is called and every row's answer is `none` -/
def stage {σ α ρ κ : Type} (on : Bool) (run : σ → List ρ → σ × List α × List κ) (s : σ) (rows : List ρ) :
    σ × List (Option α) × List κ :=
  ((if on then run s rows else (s, [], [])).1, optList on rows.length (if on then run s rows else (s, [], [])).2.1,
    (if on then run s rows else (s, [], [])).2.2)

theorem stage_true {σ α ρ κ : Type} (run : σ → List ρ → σ × List α × List κ) (s : σ) (rows : List ρ) :
    stage true run s rows = ((run s rows).1, (run s rows).2.1.map some, (run s rows).2.2) := rfl

theorem stage_false {σ α ρ κ : Type} (run : σ → List ρ → σ × List α × List κ) (s : σ) (rows : List ρ) :
    stage false run s rows = (s, List.replicate rows.length none, []) := rfl

theorem stage_single {σ α ρ κ : Type} (on : Bool) (run : σ → List ρ → σ × List α × List κ) (s : σ) (r : ρ) (s' : σ) (a : α)
    (k : κ) (h : run s [r] = (s', [a], [k])) :
    stage on run s [r] = (if on then s' else s, [if on then some a else none], if on then [k] else []) := by
  cases on
  · rfl
  · rw [stage_true, h]; rfl

theorem stage_answers {σ α ρ κ : Type} (on : Bool) (run : σ → List ρ → σ × List α × List κ) (P : ρ → α) (s : σ) (rows : List ρ)
    (h : (run s rows).2.1 = rows.map P) : (stage on run s rows).2.1 = rows.map (fun r => if on then some (P r) else none) := by
  cases on
  · simp [stage_false, List.map_const']
  · simp [stage_true, h]

/-- the right side is `specChunk`'s `let pp := if np …` as it stands after unfolding, the `if` inside the same `if` included, so that
`stepChunk_batched` closes by rewriting; likewise `stage_score` -/
theorem stage_predict {σ : Type} (L : Learner σ V) (c : Config) (np : Bool) (s : σ) (vs : List (View V R)) :
    stage np (predictPhase L) s (vs.map (rowOf c)) =
      ((if np then predictS L s vs else (s, [])).1,
       if np then (if np then predictS L s vs else (s, [])).2.map some else vs.map (fun _ => none),
       if np then vs.map (fun v => Call.predict v.ctx v.acts) else []) := by
  cases np
  · simp [stage_false, List.map_const']
  · rw [stage_true, predictPhase_eq]; rfl

theorem stage_score {σ : Type} (L : Learner σ V) (c : Config) (sb : Bool) (s : σ) (vs : List (View V R)) :
    stage sb (scorePhase L) s (vs.map (rowOf c)) =
      ((if sb then scoreS L s vs else (s, [])).1,
       if sb then (if sb then scoreS L s vs else (s, [])).2.map some else vs.map (fun _ => none),
       if sb then vs.map (fun v => Call.score v.ctx v.acts v.offAct) else []) := by
  cases sb
  · simp [stage_false, List.map_const']
  · rw [stage_true, scorePhase_eq]; rfl

theorem none_of_off {α β : Type} {on : Bool} {l : List (Option α)} (vs : List β) (h : on = false) :
    ∀ x ∈ (if on then l else vs.map (fun _ => none)), x = none := by
  subst h; intro x hx; simp at hx; exact hx.2.symm

section body
variable [DecidableEq V] [RewardFn R V]

theorem mapM₃_single {α β γ δ : Type} (f : α → β → γ → Except Err δ) (a : α) (b : β) (c : γ) :
    mapM₃ f [a] [b] [c] = (f a b c).map ([·]) := by
  simp only [mapM₃, bind, Except.bind, pure, Except.pure]; cases f a b c <;> rfl

theorem evalsOf_single (c : Config) (sb : Bool) (r : RowIn V R) (p : Option (Pred V)) (sc : Option Rat) :
    evalsOf c sb [r] [p] [sc] = (if c.eval != .none then (evalReward sb r p sc).map some else .ok none).map ([·]) := by
  unfold evalsOf
  split
  · rw [mapM₃_single]; cases evalReward sb r p sc <;> rfl
  · rfl

theorem learnsOf_single {σ : Type} (c : Config) (L : Learner σ V) (s : σ) (r : RowIn V R) (p : Option (Pred V)) :
    learnsOf c L s [r] [p] = (if c.learn != .none then (learnArgs c r p).map some else .ok none).map
      (fun la => match la with
        | some a => (L.learn s r.ctx a.1 a.2.1 a.2.2.1 a.2.2.2, [Call.learn r.ctx a.1 a.2.1 a.2.2.1 a.2.2.2])
        | none => (s, [])) := by
  unfold learnsOf
  split
  · simp only [mapM₂, bind, Except.bind, pure, Except.pure]; cases learnArgs c r p <;> rfl
  · rfl

/-- stated with `stage` so that whether a phase runs is analysed in the lemmas about `stage`, not with the whole body in the goal -/
theorem stepChunk_stages {σ : Type} (c : Config) (fl : Flags) (L : Learner σ V) (b : Bool) (s : σ) (ch : List (Dict (Fld V R))) :
    stepChunk c fl L b s ch = (prepAll c fl ch).bind fun rows =>
      let sp := shouldPred c L.hasScore
      let sb := c.eval == .ips && L.hasScore && !sp
      let P := stage sp (predictPhase L) s rows
      let Q := stage sb (scorePhase L) P.1 rows
      (evalsOf c sb rows P.2.1 Q.2.1).bind fun evals =>
      (learnsOf c L Q.1 rows P.2.1).bind fun ll =>
      (mapM₃ (mkRow c fl sp b) rows P.2.1 evals).map fun out =>
        (ll.1, P.2.2 ++ Q.2.2 ++ ll.2, out.filter (fun o => !o.isEmpty)) := by
  unfold stepChunk stage; rfl

/-- `passOf` and the loop body on a batch of one run the same steps and differ only in how the results are packed: after the
singleton equations every outcome of the three fallible steps is closed by `rfl` -/
theorem stepChunk_eq_pass {σ : Type} (c : Config) (fl : Flags) (L : Learner σ V) (s : σ) (d : Dict (Fld V R)) :
    stepChunk c fl L false s [d] =
      (passOf c fl L s d).map (fun k => (k.learnState L, k.allCalls, [k.out].filter (fun o => !o.isEmpty))) := by
  rw [stepChunk_stages]
  unfold passOf
  simp only [prepAll, bind, Except.bind, pure, Except.pure]
  cases prep c fl d with
  | error e => rfl
  | ok r =>
    simp only [stage_single _ (predictPhase L) _ r _ _ _ rfl, stage_single _ (scorePhase L) _ r _ _ _ rfl,
      evalsOf_single, learnsOf_single]
    generalize (if (c.eval != EvalMode.none) = true then Except.map some (evalReward _ r _ _) else Except.ok none) = E
    cases E with
    | error e => rfl
    | ok er =>
      generalize (if (c.learn != LearnMode.none) = true then Except.map some (learnArgs c r _) else Except.ok none) = LA
      cases LA with
      | error e => rfl
      | ok la =>
        simp only [Except.map, mapM₃_single]
        generalize mkRow c fl _ false r _ er = M
        cases M <;> cases la <;> rfl

/-! ## the loop over batches from the front -/

theorem runChunks_pull_acc {σ : Type} (c : Config) (fl : Flags) (L : Learner σ V) (b : Bool) (chs : List (List (Dict (Fld V R))))
    (s : σ) (cs : List (Call V)) (rs : List (Row V R)) :
    runChunks c fl L b s cs rs chs = (runChunks c fl L b s [] [] chs).map (fun r => (r.1, cs ++ r.2.1, rs ++ r.2.2)) := by
  induction chs generalizing s cs rs with
  | nil => simp [runChunks, Except.map]
  | cons ch rest ih =>
    simp only [runChunks, List.nil_append]
    cases stepChunk c fl L b s ch with
    | error e => rfl
    | ok r =>
      simp only [Except.bind]
      rw [ih, ih r.1 r.2.1]
      cases runChunks c fl L b r.1 [] [] rest <;> simp [Except.map, List.append_assoc]

/-- `runChunks` is written with accumulators; this is the form in which the other loops of the model and the specifications
(`runI`, `runIB`, `specRun`, `specRunB`) are written -/
theorem runChunks_cons {σ : Type} (c : Config) (fl : Flags) (L : Learner σ V) (b : Bool) (ch : List (Dict (Fld V R)))
    (rest : List (List (Dict (Fld V R)))) (s : σ) :
    runChunks c fl L b s [] [] (ch :: rest) = (stepChunk c fl L b s ch).bind fun r1 =>
      (runChunks c fl L b r1.1 [] [] rest).map fun r2 => (r2.1, r1.2.1 ++ r2.2.1, r1.2.2 ++ r2.2.2) := by
  simp only [runChunks, List.nil_append]
  congr 1; funext r1
  exact runChunks_pull_acc ..

end body

/-! ## the entry points: validation of the first interaction, then a loop; un-batched is `Batch(1)` without the batched flag -/

/-- every entry point of the evaluator looks at the first interaction before anything else happens: it rejects when a required key
is missing there, and otherwise runs -/
def validated {α : Type} (c : Config) (hs : Bool) (first : Dict (Fld V R)) (x : Except Err α) : Outcome α :=
  if missingKeys c hs first = [] then Outcome.ofExcept x else .rejected (missingKeys c hs first)

theorem validated_eq_ok {α : Type} {c : Config} {hs : Bool} {first : Dict (Fld V R)} {x : Except Err α} {a : α} :
    validated c hs first x = .ok a ↔ missingKeys c hs first = [] ∧ x = .ok a := by
  unfold validated
  split
  · exact ⟨fun h => ⟨‹_›, ofExcept_eq_ok h⟩, fun h => by rw [h.2]; rfl⟩
  · exact ⟨nofun, fun h => absurd h.1 ‹_›⟩

theorem validated_eq_rejected {α : Type} {c : Config} {hs : Bool} {first : Dict (Fld V R)} {x : Except Err α} {ks : List String} :
    validated c hs first x = .rejected ks ↔ missingKeys c hs first ≠ [] ∧ ks = missingKeys c hs first := by
  unfold validated
  split
  · exact ⟨fun h => absurd h (ofExcept_ne_rejected _ _), fun h => absurd ‹_› h.1⟩
  · exact ⟨fun h => ⟨‹_›, by cases h; rfl⟩, fun h => by rw [h.2]⟩

theorem validated_rejected_iff {α : Type} {c : Config} {hs : Bool} {first : Dict (Fld V R)} {x : Except Err α} :
    (∃ ks, validated c hs first x = .rejected ks) ↔ ∃ k ∈ required c hs, first.has k = false := by
  rw [← missingKeys_ne_nil_iff]
  exact ⟨fun ⟨ks, h⟩ => (validated_eq_rejected.mp h).1, fun h => ⟨_, validated_eq_rejected.mpr ⟨h, rfl⟩⟩⟩

theorem validated_of_valid {α : Type} {c : Config} {hs : Bool} {first : Dict (Fld V R)} (h : missingKeys c hs first = [])
    (x : Except Err α) : validated c hs first x = Outcome.ofExcept x := if_pos h

variable [DecidableEq V] [RewardFn R V]

theorem evaluate_cons {σ : Type} (c : Config) (L : Learner σ V) (bs : Option Nat) (first : Dict (Fld V R))
    (rest : List (Dict (Fld V R))) (s : σ) :
    evaluate c L bs (first :: rest) s = validated c L.hasScore first
      (runChunks c (mkFlags first) L bs.isSome s [] [] (chunks (bs.getD 1) (first :: rest))) := by
  simp only [evaluate, validated]
  cases missingKeys c L.hasScore first with
  | nil => cases bs <;> rfl
  | cons k ks => rfl

theorem evaluate_ok_iff {σ : Type} {c : Config} {L : Learner σ V} {bs : Option Nat} {first : Dict (Fld V R)}
    {rest : List (Dict (Fld V R))} {s : σ} {r : σ × List (Call V) × List (Row V R)} :
    evaluate c L bs (first :: rest) s = .ok r ↔ missingKeys c L.hasScore first = [] ∧
      runChunks c (mkFlags first) L bs.isSome s [] [] (chunks (bs.getD 1) (first :: rest)) = .ok r := by
  rw [evaluate_cons]; exact validated_eq_ok

theorem evaluateStopped_cons {σ : Type} (c : Config) (L : Learner σ V) (bs : Option Nat) (first : Dict (Fld V R))
    (rest : List (Dict (Fld V R))) (s : σ) (j : Nat) :
    evaluateStopped c L bs (first :: rest) s j = validated c L.hasScore first
      (runChunks c (mkFlags first) L bs.isSome s [] [] ((chunks (bs.getD 1) (first :: rest)).take j)) := by
  simp only [evaluateStopped, validated]
  cases missingKeys c L.hasScore first with
  | nil => cases bs <;> rfl
  | cons k ks => rfl

theorem resumeStopped_cons {σ : Type} (c : Config) (L : Learner σ V) (bs : Option Nat) (first : Dict (Fld V R))
    (rest : List (Dict (Fld V R))) (j : Nat) (r : σ × List (Call V) × List (Row V R)) :
    resumeStopped c L bs (first :: rest) j r =
      Outcome.ofExcept (runChunks c (mkFlags first) L bs.isSome r.1 r.2.1 r.2.2 ((chunks (bs.getD 1) (first :: rest)).drop j)) := by
  cases bs <;> rfl

theorem evaluateI_cons {σ : Type} (c : Config) (L : InfoLearner σ V) (first : Dict (Fld V R)) (rest : List (Dict (Fld V R))) (s : σ) :
    evaluateI c L (first :: rest) s = validated c L.hasScore first ((runI c (mkFlags first) L s (first :: rest)).map
      (fun r => (r.1, r.2.1, yieldRows r.2.2.1 r.2.2.2, r.2.2.1, r.2.2.2))) := by
  simp only [evaluateI, validated]
  cases missingKeys c L.hasScore first <;> rfl

theorem evaluateIB_cons {σ : Type} [Subscript V] (c : Config) (L : InfoLearner σ V) (n : Nat) (first : Dict (Fld V R))
    (rest : List (Dict (Fld V R))) (s : σ) :
    evaluateIB c L n (first :: rest) s = validated c L.hasScore first (runIB c (mkFlags first) L s (chunks n (first :: rest))) := by
  simp only [evaluateIB, validated]
  cases missingKeys c L.hasScore first <;> rfl

end Coba.C06
