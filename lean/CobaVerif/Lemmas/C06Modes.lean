/-
C06 — every mode the constructor accepts (`ConfigX`: mode conditions, package guard) and the calls the learner object receives
through `SafeLearner`.  The tables and the record program extracted from the source are imported here for `Props/C06.lean`.
-/
import CobaVerif.Lemmas.C06
import CobaVerif.Generated.C06Tables
import CobaVerif.Generated.C06RowProgram

namespace Coba.C06

/-! ## every accepted mode: required keys, package guard -/

theorem LearnModeX.onPolicy (l : LearnModeX) :
    (l != .none && l != .off) = (l == .on || l == .ips || l == .dr || l == .dm) := by cases l <;> rfl

theorem LearnModeX.logged (l : LearnModeX) :
    (l != .none && l != .on) = (l == .off || l == .ips || l == .dr || l == .dm) := by cases l <;> rfl

theorem EvalModeX.predicts (e : EvalModeX) (hs : Bool) :
    (e != .none && (e != .ips || !hs)) = (e == .on || e == .dr || e == .dm || (e == .ips && !hs)) := by
  cases e <;> cases hs <;> rfl

theorem EvalModeX.logged (e : EvalModeX) : (e != .none && e != .on) = (e == .ips || e == .dr || e == .dm) := by
  cases e <;> rfl

/-- a finite table: 30 mode pairs, 12 of them package-free, each row checked by unfolding -/
theorem requiredX_base (c : ConfigX) (c0 : Config) (hs : Bool) (h : c.base = some c0) :
    requiredX c hs = required c0 hs ∧ shouldPredX c hs = shouldPred c0 hs ∧ evalTargetX c = evalTarget c0
      ∧ opeFilters c = (if learnIps c0 then [(OpeType.ips, "learn_rewards")] else [])
          ++ (if evalIpsOwn c0 then [(OpeType.ips, "eval_rewards")] else []) := by
  obtain ⟨l, e, rec⟩ := c
  cases l <;> cases e <;> first | (cases h; exact ⟨rfl, rfl, rfl, rfl⟩) | cases h

theorem opeFilters_base_noVw (c : ConfigX) (c0 : Config) (vw : Bool) (h : c.base = some c0) :
    (opeFilters c).find? (fun tt => needsVw tt.1 && !vw) = none := by
  obtain ⟨l, e, rec⟩ := c
  cases l <;> cases e <;> first | rfl | cases h

theorem opeFilters_vw_of_base_none (c : ConfigX) (h : c.base = none) :
    ∃ tt, (opeFilters c).find? (fun tt => needsVw tt.1 && !false) = some tt := by
  obtain ⟨l, e, rec⟩ := c
  cases l <;> cases e <;> first | exact ⟨_, rfl⟩ | cases h

theorem evaluateX_cons {V R σ : Type} [DecidableEq V] [RewardFn R V] (vw : Bool) (c : ConfigX) (L : Learner σ V) (bs : Option Nat)
    (first : Dict (Fld V R)) (rest : List (Dict (Fld V R))) (s : σ) :
    evaluateX vw c L bs (first :: rest) s =
      if (requiredX c L.hasScore).filter (fun k => !first.has k) = [] then
        match (opeFilters c).find? (fun tt => needsVw tt.1 && !vw) with
        | some tt => .packageMissing tt.1 tt.2
        | none =>
          match c.base with
          | some c0 => .done (evaluate c0 L bs (first :: rest) s)
          | Option.none => .notModelled
      else .done (.rejected ((requiredX c L.hasScore).filter (fun k => !first.has k))) := by
  simp only [evaluateX]
  cases (requiredX c L.hasScore).filter (fun k => !first.has k) <;> rfl

/-! ## the calls the learner object sees (SafeLearner's call discipline) -/

theorem rowLevel_append (a b : List RawCall) : rowLevel (a ++ b) = rowLevel a ++ rowLevel b := by
  induction a with
  | nil => rfl
  | cons x t ih =>
    cases x with
    | scoreProbe => simpa [rowLevel] using ih
    | orient i => simpa [rowLevel] using ih
    | row m i => simp [rowLevel, ih]
    | batch m rows ok => cases ok <;> simp [rowLevel, ih]

theorem rowLevel_rows (m : Meth) (rows : List Nat) : rowLevel (rows.map (RawCall.row m)) = rows.map (fun i => (m, i)) := by
  induction rows with
  | nil => rfl
  | cons i t ih => simp [rowLevel, ih]

theorem rowLevel_safeCall (aware : Bool) (st : SafeSt) (m : Meth) (rows : List Nat) :
    rowLevel (safeCall aware st m rows).2 = rows.map (fun i => (m, i)) := by
  unfold safeCall
  split
  · simp [rowLevel]
  · simp [rowLevel_rows]
  · split <;> simp [rowLevel, rowLevel_rows]

theorem rowLevel_predictCall (aware : Bool) (width : Option Nat) (st : SafeSt) (rows : List Nat) :
    rowLevel (predictCall aware width st rows).2 = rows.map (fun i => (Meth.predict, i)) := by
  unfold predictCall
  simp only []
  split
  · exact rowLevel_safeCall ..
  · simp only [rowLevel_append, rowLevel_safeCall]
    split
    · cases rows <;> simp [rowLevel]
    · simp [rowLevel]

theorem rowLevel_phaseCall (batched aware : Bool) (width : Option Nat) (st : SafeSt) (m : Meth) (rows : List Nat) :
    rowLevel (phaseCall batched aware width st m rows).2 = rows.map (fun i => (m, i)) := by
  unfold phaseCall
  split
  · simp [rowLevel_rows]
  · split
    · rename_i h; have : m = .predict := by simpa using h
      subst this; exact rowLevel_predictCall ..
    · exact rowLevel_safeCall ..

theorem rowLevel_rawChunk (batched aware : Bool) (width : Option Nat) (phases : List Meth) (st : SafeSt) (rows : List Nat) :
    rowLevel (rawChunk batched aware width phases st rows).2 = phases.flatMap (fun m => rows.map (fun i => (m, i))) := by
  induction phases generalizing st with
  | nil => rfl
  | cons m ms ih => simp [rawChunk, rowLevel_append, rowLevel_phaseCall, ih]

theorem rowLevel_rawRun (batched aware : Bool) (width : Option Nat) (phases : List Meth) (st : SafeSt) (cs : List (List Nat)) :
    rowLevel (rawRun batched aware width phases st cs) = skeleton phases cs := by
  induction cs generalizing st with
  | nil => rfl
  | cons ch rest ih => simp [rawRun, skeleton, rowLevel_append, rowLevel_rawChunk, ih]

theorem countOrient_append (a b : List RawCall) : countOrient (a ++ b) = countOrient a + countOrient b := by
  induction a with
  | nil => simp [countOrient]
  | cons x t ih => cases x <;> simp [countOrient, ih] <;> omega

theorem countRefused_append (a b : List RawCall) : countRefused (a ++ b) = countRefused a + countRefused b := by
  induction a with
  | nil => simp [countRefused]
  | cons x t ih =>
    cases x with
    | batch m rows ok => cases ok <;> simp [countRefused, ih] <;> omega
    | _ => simp [countRefused, ih]

theorem countOrient_rows (m : Meth) (rows : List Nat) : countOrient (rows.map (RawCall.row m)) = 0 := by
  induction rows with
  | nil => rfl
  | cons i t ih => simp [countOrient, ih]

theorem countRefused_rows (m : Meth) (rows : List Nat) : countRefused (rows.map (RawCall.row m)) = 0 := by
  induction rows with
  | nil => rfl
  | cons i t ih => simp [countRefused, ih]

/-! ### what a call does to the wrapper -/

theorem SafeSt.get_set (st : SafeSt) (m m' : Meth) (b : Bool) :
    (st.set m b).get m' = if m' = m then some b else st.get m' := by cases m <;> cases m' <;> rfl

theorem SafeSt.parsed_set (st : SafeSt) (m : Meth) (b : Bool) : (st.set m b).parsed = st.parsed := by cases m <;> rfl

theorem SafeSt.get_parsed (st : SafeSt) (b : Bool) (m : Meth) : ({ st with parsed := b } : SafeSt).get m = st.get m := by
  cases m <;> rfl

theorem SafeSt.set_get {st : SafeSt} {m : Meth} {b : Bool} (h : st.get m = some b) : st.set m b = st := by
  cases m <;> cases st <;> simp only [SafeSt.get] at h <;> simp only [SafeSt.set, h]

/-- `h`: `_method[m]` is unset or already what the learner's behaviour makes it (a wrapper pinned to the other discipline never
arises from a fresh one) -/
theorem safeCall_batched (aware : Bool) (st : SafeSt) (m : Meth) (rows : List Nat) (h : st.get m ≠ some (!aware)) :
    (safeCall aware st m rows).1 = st.set m aware ∧
    countRefused (safeCall aware st m rows).2 = (if st.get m = none ∧ aware = false then 1 else 0) ∧
    countOrient (safeCall aware st m rows).2 = 0 := by
  unfold safeCall
  cases hg : st.get m with
  | none => cases aware <;> simp [countRefused, countOrient, countRefused_rows, countOrient_rows]
  | some b =>
    have hb : b = aware := by cases b <;> cases aware <;> simp_all
    subst hb
    cases b <;> simp [SafeSt.set_get hg, countRefused, countOrient, countRefused_rows, countOrient_rows]

theorem counts_probe (b : Bool) (rows : List Nat) :
    countRefused (if b then (rows.head?.map RawCall.orient).toList else []) = 0 ∧
    countOrient (if b then (rows.head?.map RawCall.orient).toList else []) = if b then rows.head?.toList.length else 0 := by
  cases b <;> cases rows <;> exact ⟨rfl, rfl⟩

theorem phaseCall_batched (aware : Bool) (width : Option Nat) (st : SafeSt) (m : Meth) (rows : List Nat)
    (h : st.get m ≠ some (!aware)) :
    (∀ m', (phaseCall true aware width st m rows).1.get m' = if m' = m then some aware else st.get m') ∧
    (phaseCall true aware width st m rows).1.parsed = (st.parsed || m == .predict) ∧
    countRefused (phaseCall true aware width st m rows).2 = (if st.get m = none ∧ aware = false then 1 else 0) ∧
    countOrient (phaseCall true aware width st m rows).2
      = (if m = .predict ∧ st.parsed = false ∧ aware = true ∧ width = some rows.length then rows.head?.toList.length else 0) := by
  obtain ⟨h1, h2, h3⟩ := safeCall_batched aware st m rows h
  by_cases hm : m = .predict
  · subst hm
    simp only [phaseCall, Bool.not_true, Bool.false_eq_true, if_false, beq_self_eq_true, if_true, predictCall, h1,
      SafeSt.parsed_set, Bool.or_true, true_and]
    cases hp : st.parsed
    · simp only [Bool.false_eq_true, if_false, SafeSt.get_parsed, SafeSt.get_set, countRefused_append, countOrient_append, h2, h3,
        counts_probe, Nat.add_zero, Nat.zero_add, implies_true, true_and]
      cases aware <;> simp [SafeSt.set]
    · simp only [if_true, h1, h2, h3, SafeSt.get_set, SafeSt.parsed_set, hp, Bool.true_eq_false, false_and, if_false,
        implies_true, and_self]
  · have hm' : (m == Meth.predict) = false := by simpa using hm
    simp only [phaseCall, Bool.not_true, Bool.false_eq_true, if_false, hm', hm, h1, h2, h3, SafeSt.get_set, SafeSt.parsed_set,
      Bool.or_false, false_and, implies_true, and_self]

/-- a wrapper whose call discipline is decided for every method of `phases` -/
def Settled (aware : Bool) (phases : List Meth) (st : SafeSt) : Prop :=
  (∀ m ∈ phases, st.get m = some aware) ∧ (Meth.predict ∈ phases → st.parsed = true)

theorem settled_phaseCall {aware : Bool} {phases : List Meth} {st : SafeSt} (hs : Settled aware phases st)
    (width : Option Nat) {m : Meth} (hm : m ∈ phases) (rows : List Nat) :
    Settled aware phases (phaseCall true aware width st m rows).1 ∧ countOrient (phaseCall true aware width st m rows).2 = 0
      ∧ countRefused (phaseCall true aware width st m rows).2 = 0 := by
  obtain ⟨hg, hp, hr, ho⟩ := phaseCall_batched aware width st m rows (by rw [hs.1 m hm]; cases aware <;> nofun)
  refine ⟨⟨fun m' hm' => ?_, fun h => by rw [hp, hs.2 h]; rfl⟩, ?_, ?_⟩
  · rw [hg]; split
    · rfl
    · exact hs.1 m' hm'
  · rw [ho, if_neg]; rintro ⟨rfl, h, _⟩; rw [hs.2 hm] at h; cases h
  · rw [hr, if_neg]; rintro ⟨h, _⟩; rw [hs.1 m hm] at h; cases h

theorem settled_rawChunk {aware : Bool} {phases : List Meth} {st : SafeSt} (hs : Settled aware phases st)
    (width : Option Nat) (ms : List Meth) (hms : ∀ m ∈ ms, m ∈ phases) (rows : List Nat) :
    Settled aware phases (rawChunk true aware width ms st rows).1 ∧ countOrient (rawChunk true aware width ms st rows).2 = 0
      ∧ countRefused (rawChunk true aware width ms st rows).2 = 0 := by
  induction ms generalizing st with
  | nil => exact ⟨hs, rfl, rfl⟩
  | cons m t ih =>
    obtain ⟨h1, h2, h3⟩ := settled_phaseCall hs width (hms m (by simp)) rows
    obtain ⟨i1, i2, i3⟩ := ih h1 (fun x hx => hms x (by simp [hx]))
    exact ⟨i1, by simp only [rawChunk, countOrient_append, h2, i2], by simp only [rawChunk, countRefused_append, h3, i3]⟩

theorem settled_rawRun {aware : Bool} {phases : List Meth} {st : SafeSt} (hs : Settled aware phases st)
    (width : Option Nat) (cs : List (List Nat)) :
    countOrient (rawRun true aware width phases st cs) = 0 ∧ countRefused (rawRun true aware width phases st cs) = 0 := by
  induction cs generalizing st with
  | nil => exact ⟨rfl, rfl⟩
  | cons ch rest ih =>
    obtain ⟨h1, h2, h3⟩ := settled_rawChunk hs width phases (fun _ h => h) ch
    obtain ⟨i1, i2⟩ := ih h1
    exact ⟨by simp only [rawRun, countOrient_append, h2, i1], by simp only [rawRun, countRefused_append, h3, i2]⟩

theorem rawChunk_fresh (aware : Bool) (width : Option Nat) (rows : List Nat) (ms : List Meth) (hnd : ms.Nodup) (st : SafeSt)
    (hun : ∀ m ∈ ms, st.get m = none) :
    (∀ m, (rawChunk true aware width ms st rows).1.get m = if m ∈ ms then some aware else st.get m) ∧
    (rawChunk true aware width ms st rows).1.parsed = (st.parsed || ms.contains .predict) ∧
    countRefused (rawChunk true aware width ms st rows).2 = (if aware then 0 else ms.length) ∧
    countOrient (rawChunk true aware width ms st rows).2
      = (if .predict ∈ ms ∧ st.parsed = false ∧ aware = true ∧ width = some rows.length then rows.head?.toList.length else 0) := by
  induction ms generalizing st with
  | nil => simp [rawChunk, countRefused, countOrient]
  | cons m ms ih =>
    obtain ⟨hm, hnd'⟩ := List.nodup_cons.mp hnd
    obtain ⟨hg, hp, hr, ho⟩ := phaseCall_batched aware width st m rows (by rw [hun m (List.mem_cons_self ..)]; nofun)
    obtain ⟨ig, ip, ir, io⟩ := ih hnd' (phaseCall true aware width st m rows).1 fun m' hm' => by
      rw [hg, if_neg (fun e : m' = m => hm (e ▸ hm')), hun m' (List.mem_cons_of_mem _ hm')]
    simp only [rawChunk, countRefused_append, countOrient_append, ig, ip, ir, io, hr, ho, hg, hp,
      hun m (List.mem_cons_self ..), true_and]
    refine ⟨fun m' => ?_, ?_, ?_, ?_⟩
    · by_cases e : m' = m
      · subst e; simp [hm]
      · simp [e]
    · cases m <;> simp [Bool.beq_eq_decide_eq]
    · cases aware <;> simp; omega
    · by_cases e : m = .predict
      · subst e; simp [hm]
      · have e' : (m == Meth.predict) = false := by simpa using e
        simp [e, e', Ne.symm e]

/-- all refusals and the one probe fall into the first pass, which leaves the wrapper settled -/
theorem rawRun_fresh (aware : Bool) (width : Option Nat) (phases : List Meth) (hnd : phases.Nodup) (i : Nat) (t : List Nat)
    (rest : List (List Nat)) :
    countOrient (rawRun true aware width phases {} ((i :: t) :: rest))
      = (if .predict ∈ phases ∧ aware = true ∧ width = some (t.length + 1) then 1 else 0) ∧
    countRefused (rawRun true aware width phases {} ((i :: t) :: rest)) = (if aware then 0 else phases.length) := by
  obtain ⟨hg, hp, hr, ho⟩ := rawChunk_fresh aware width (i :: t) phases hnd {} (fun m _ => by cases m <;> rfl)
  have hs : Settled aware phases (rawChunk true aware width phases {} (i :: t)).1 :=
    ⟨fun m hm => by rw [hg, if_pos hm], fun h => by rw [hp]; simp [h]⟩
  obtain ⟨h1, h2⟩ := settled_rawRun hs width rest
  simp only [rawRun, countOrient_append, countRefused_append, h1, h2, hr, ho]
  simp

theorem phasesOf_nodup (c : Config) (hs : Bool) : (phasesOf c hs).Nodup := by
  unfold phasesOf
  cases shouldPred c hs <;> cases (c.eval == .ips && hs) <;> cases (c.learn != .none) <;> decide

theorem predict_mem_phasesOf (c : Config) (hs : Bool) : Meth.predict ∈ phasesOf c hs ↔ shouldPred c hs = true := by
  unfold phasesOf
  cases shouldPred c hs <;> cases (c.eval == .ips && hs) <;> cases (c.learn != .none) <;> decide

theorem rawChunk_unbatched (aware : Bool) (width : Option Nat) (phases : List Meth) (st : SafeSt) (rows : List Nat) :
    (rawChunk false aware width phases st rows).2 = phases.flatMap (fun m => rows.map (RawCall.row m)) := by
  induction phases generalizing st with
  | nil => rfl
  | cons m ms ih => simp [rawChunk, phaseCall, ih]

end Coba.C06
