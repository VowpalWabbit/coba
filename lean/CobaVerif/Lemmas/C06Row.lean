/-
C06 — rows: the reserved cells, the extras and `dropNoneProb` on rows as data, and the rows `mkRow` assembles from a read
interaction against the rows of the spec (`mkRow_eq`, `mkRow_eqB`), batched against un-batched (`mkRow_flag`).
-/
import CobaVerif.Lemmas.C06Read

namespace Coba.C06
variable {V R : Type}

/-! ## rows as data: the reserved cells, the extras, `dropNoneProb` -/

theorem nodupKeys_iff (ks : List String) : nodupKeys ks = true ↔ ks.Nodup := by
  induction ks with
  | nil => simp [nodupKeys]
  | cons k ks ih => simp [nodupKeys, List.nodup_cons, ih]

theorem foldl_set_fresh (ex : Dict (Fld V R)) (base : Row V R)
    (hnd : nodupKeys (Dict.keys ex) = true) (hfresh : ∀ kv ∈ ex, ∀ b ∈ base, b.1 ≠ kv.1) :
    ex.foldl (fun o kv => Dict.set o kv.1 (Cell.fld kv.2)) base = base ++ ex.map (fun kv => (kv.1, Cell.fld kv.2)) := by
  induction ex generalizing base with
  | nil => simp
  | cons hd tl ih =>
    obtain ⟨hk, hnd'⟩ := List.nodup_cons.mp ((nodupKeys_iff _).mp hnd)
    simp only [List.foldl_cons, List.map_cons]
    rw [Dict.set_fresh base hd.1 _ (fun b hb => hfresh hd (by simp) b hb), ih _ ((nodupKeys_iff _).mpr hnd')]
    · simp
    · intro kv hkv b hb
      rcases List.mem_append.mp hb with hb | hb
      · exact hfresh kv (by simp [hkv]) b hb
      · rw [List.mem_singleton.mp hb]
        exact fun heq => hk (List.mem_map.mpr ⟨kv, hkv, heq.symm⟩)

theorem nodupKeys_filter (d : Dict (Fld V R)) (q : String × Fld V R → Bool) (h : nodupKeys (Dict.keys d) = true) :
    nodupKeys (Dict.keys (d.filter q)) = true :=
  (nodupKeys_iff _).mpr (((nodupKeys_iff _).mp h).sublist (List.filter_sublist.map _))

theorem extras_fresh (d : Dict (Fld V R)) : ∀ kv ∈ extrasOf d, kv.1 ∉ implicitExclude := by
  intro kv hkv
  simp only [extrasOf, List.mem_filter, Bool.not_eq_true', List.contains_eq_mem, decide_eq_false_iff_not] at hkv
  exact hkv.2

theorem prep_extras {c : Config} {fl : Flags} {d : Dict (Fld V R)} {r : RowIn V R} (h : prep c fl d = .ok r) :
    ∀ kv ∈ r.extras, kv.1 ≠ "probability" := by
  simp only [prep, bind] at h
  obtain ⟨d3, _, h⟩ := Except.bind_eq_ok h
  rw [(readRow_inv h).extras]
  intro kv hkv heq
  have := extras_fresh d3 kv hkv
  rw [heq] at this
  exact this (excl_at 5 rfl)

/-- the cells with reserved names, in the order `_results` writes them; `rw` is the `rewards` cell, `pc` the `probability` cell -/
def recCells (c : Config) (fl : Flags) (ctx : Option V) (acts : Option (List V)) (p : Option (Pred V)) (er : Option Rat)
    (rw pc : Row V R) : Row V R :=
  (if c.rcd "context" then [("context", Cell.val ctx)] else [])
  ++ (if c.rcd "actions" && fl.hasActions then [("actions", Cell.acts acts)] else [])
  ++ (if c.rcd "action" && c.eval != .none then [("action", Cell.val (p.map (·.action)))] else [])
  ++ (if c.rcd "reward" && c.eval != .none then [("reward", Cell.num er)] else [])
  ++ rw ++ pc

theorem recCells_reserved {c : Config} {fl : Flags} {ctx : Option V} {acts : Option (List V)} {p : Option (Pred V)}
    {er : Option Rat} {rw pc : Row V R} (hrw : ∀ b ∈ rw, b.1 = "rewards") (hpc : ∀ b ∈ pc, b.1 = "probability") :
    ∀ b ∈ recCells c fl ctx acts p er rw pc, b.1 ∈ implicitExclude := by
  intro b hb
  simp only [recCells, List.mem_append] at hb
  rcases hb with ((((hb | hb) | hb) | hb) | hb) | hb
  · rw [mem_ite_singleton hb]; exact excl_at 0 rfl
  · rw [mem_ite_singleton hb]; exact excl_at 1 rfl
  · rw [mem_ite_singleton hb]; exact excl_at 3 rfl
  · rw [mem_ite_singleton hb]; exact excl_at 4 rfl
  · rw [hrw b hb]; exact excl_at 2 rfl
  · rw [hpc b hb]; exact excl_at 5 rfl

theorem probCell_unbatched (c : Config) {sp : Bool} {p : Option (Pred V)} (hp : p.isSome = sp) :
    (if outProb c && sp && (p.bind (·.prob)).isSome then [("probability", Cell.num (p.bind (·.prob)))] else ([] : Row V R))
      = match p.bind (·.prob) with
        | some q => if c.rcd "probability" && c.eval != .none then [("probability", Cell.num (some q))] else []
        | none => [] := by
  cases hpr : p.bind (·.prob) with
  | none => simp
  | some q =>
    have : sp = true := by
      cases p with
      | none => cases hpr
      | some _ => exact hp.symm
    simp [this, outProb]

theorem isNoneProb_of_ne (k : String) (cell : Cell V R) (hk : k ≠ "probability") : isNoneProb (k, cell) = false := by
  unfold isNoneProb
  split
  · rename_i heq; simp only [Prod.mk.injEq] at heq; exact absurd heq.1 hk
  · rfl

theorem isNoneProb_none : isNoneProb (("probability", Cell.num none) : String × Cell V R) = true := by
  unfold isNoneProb
  split
  · rfl
  · rename_i h; exact absurd rfl h

theorem isNoneProb_some (k : String) (q : Rat) : isNoneProb ((k, Cell.num (some q)) : String × Cell V R) = false := by
  unfold isNoneProb
  split
  · rename_i h; cases h
  · rfl

theorem dropNoneProb_set (o : Row V R) (k : String) (v : Fld V R) (hk : k ≠ "probability") :
    dropNoneProb (Dict.set o k (Cell.fld v)) = Dict.set (dropNoneProb o) k (Cell.fld v) := by
  induction o with
  | nil => simp [Dict.set, dropNoneProb, isNoneProb_of_ne k _ hk]
  | cons hd tl ih =>
    obtain ⟨k1, v1⟩ := hd
    by_cases h1 : k1 = k
    · subst h1
      simp [Dict.set, dropNoneProb, isNoneProb_of_ne k1 _ hk]
    · unfold dropNoneProb at ih ⊢
      simp only [Dict.set, h1, if_false, List.filter_cons]
      by_cases hb : isNoneProb (k1, v1) = true
      · simp [hb, ih]
      · simp [hb, Dict.set, h1, ih]

theorem dropNoneProb_foldl (ex : Dict (Fld V R)) (o : Row V R) (hk : ∀ kv ∈ ex, kv.1 ≠ "probability") :
    dropNoneProb (ex.foldl (fun o kv => Dict.set o kv.1 (Cell.fld kv.2)) o)
      = ex.foldl (fun o kv => Dict.set o kv.1 (Cell.fld kv.2)) (dropNoneProb o) := by
  induction ex generalizing o with
  | nil => rfl
  | cons kv ex ih =>
    simp only [List.foldl_cons]
    rw [ih _ (fun kv' h' => hk kv' (by simp [h'])), dropNoneProb_set _ _ _ (hk kv (by simp))]

theorem dropNoneProb_append (a b : Row V R) : dropNoneProb (a ++ b) = dropNoneProb a ++ dropNoneProb b :=
  List.filter_append ..

theorem dropNoneProb_cell {q : Prop} [Decidable q] {k : String} (x : Cell V R) (hk : k ≠ "probability") :
    dropNoneProb (if q then [(k, x)] else []) = if q then [(k, x)] else [] := by
  split
  · simp only [dropNoneProb, List.filter_cons, isNoneProb_of_ne k x hk, Bool.not_false, if_true, List.filter_nil]
  · rfl

theorem dropNoneProb_eq_self {o : Row V R} (h : ∀ b ∈ o, b.1 ≠ "probability") : dropNoneProb o = o :=
  List.filter_eq_self.mpr fun b hb => by rw [isNoneProb_of_ne b.1 b.2 (h b hb)]; rfl

theorem filter_drop_filter (xs : List (Row V R)) :
    ((xs.filter (fun o => !o.isEmpty)).map dropNoneProb).filter (fun o => !o.isEmpty)
      = (xs.map dropNoneProb).filter (fun o => !o.isEmpty) := by
  induction xs with
  | nil => rfl
  | cons x xs ih =>
    cases x with
    | nil => simp [dropNoneProb, ih]
    | cons a as => simp [List.filter_cons, ih]

/-! ## row assembly -/

/-- what the row equations `mkRow_eq`, `mkRow_eqB` ask of a view -/
structure RowOK (fl : Flags) (v : View V R) : Prop where
  wfr : WFR v
  fin : fl.discrete = false → finRewards v = v.rewards
  nd : nodupKeys (Dict.keys v.extras) = true
  fr : ∀ kv ∈ v.extras, kv.1 ∉ implicitExclude

theorem rowOK_of_WF {fl : Flags} {d : Dict (Fld V R)} (h : WF fl d) (hnd : nodupKeys d.keys = true)
    (hseq : fl.rwdsIsList = true → fl.discrete = true) : RowOK fl (view d) := by
  refine ⟨WFR_of_WF h, ?_, nodupKeys_filter d _ hnd, extras_fresh d⟩
  intro hd
  apply finRewards_raw h
  cases hl : fl.rwdsIsList with
  | false => rfl
  | true => rw [hseq hl] at hd; cases hd

variable [DecidableEq V] [RewardFn R V]

theorem rewardsAt_eq {v : View V R} (hw : WFR v) (as : List V) :
    toOpt (rewardsAt (finRewards v) as) = rewardsAtS v as := by
  induction as with
  | nil => rfl
  | cons a as ih =>
    simp only [rewardsAt, rewardsAtS, bind, pure, Except.pure, toOpt_bind, toOpt_ok, applyFin_eq hw a, ih]

theorem rewardsCell_eq {c : Config} {fl : Flags} {v : View V R} (hw : WFR v)
    (hfin : fl.discrete = false → finRewards v = v.rewards) :
    toOpt (rewardsCell c fl (rowOf c v)) = rewardsCellS c fl v := by
  simp only [rewardsCell, rewardsCellS]
  split
  · cases hd : fl.discrete with
    | true =>
      simp only [rowOf_rewards, rowOf_acts, if_true]
      cases v.acts with
      | none => rfl
      | some as => simp only [toOpt_map, rewardsAt_eq hw as]
    | false =>
      simp only [rowOf_rewards, hfin hd, Bool.false_eq_true, if_false]
      cases v.rewards <;> rfl
  · rfl

theorem rewardsCell_keys_eq {c : Config} {fl : Flags} {r : RowIn V R} {rw : Row V R}
    (hx : rewardsCell c fl r = .ok rw) : Dict.keys rw = if c.rcd "rewards" && fl.hasRewards then ["rewards"] else [] := by
  unfold rewardsCell at hx
  split at hx
  · rename_i h1
    rw [if_pos h1]
    split at hx
    · split at hx
      · obtain ⟨xs, _, rfl⟩ := Except.map_eq_ok hx; rfl
      · cases hx
    · split at hx
      · cases hx; rfl
      · cases hx
  · rename_i h1
    rw [if_neg h1]; cases hx; rfl

theorem rewardsCell_keys {c : Config} {fl : Flags} {r : RowIn V R} {rw : Row V R}
    (hx : rewardsCell c fl r = .ok rw) : ∀ b ∈ rw, b.1 = "rewards" := by
  intro b hb
  have : b.1 ∈ Dict.keys rw := List.mem_map.mpr ⟨b, hb, rfl⟩
  rw [rewardsCell_keys_eq hx] at this
  exact mem_ite_singleton this

/-- with distinct extra keys, none of them reserved, the `update` of the row by the extras is an append -/
theorem mkRow_closed {c : Config} {fl : Flags} {sp b : Bool} {r : RowIn V R} {p : Option (Pred V)} {er : Option Rat}
    (hnd : nodupKeys (Dict.keys r.extras) = true) (hfr : ∀ kv ∈ r.extras, kv.1 ∉ implicitExclude) :
    mkRow c fl sp b r p er = (rewardsCell c fl r).map fun rw =>
      recCells c fl r.ctx r.acts p er rw
        (if outProb c && sp && (b || (p.bind (·.prob)).isSome) then [("probability", Cell.num (p.bind (·.prob)))] else [])
      ++ r.extras.map (fun kv => (kv.1, Cell.fld kv.2)) := by
  unfold mkRow
  cases hx : rewardsCell c fl r with
  | error e => rfl
  | ok rw =>
    refine congrArg Except.ok (foldl_set_fresh _ _ hnd fun kv hkv b hb heq => hfr kv hkv (heq ▸ ?_))
    exact recCells_reserved (rewardsCell_keys hx) (fun b hb => by rw [mem_ite_singleton hb]) b hb

theorem mkRow_eq {c : Config} {fl : Flags} {v : View V R} (ok : RowOK fl v) (sp : Bool) (p : Option (Pred V)) (er : Option Rat)
    (hp : p.isSome = sp) : toOpt (mkRow c fl sp false (rowOf c v) p er) = rowS c fl v p er := by
  rw [mkRow_closed (r := rowOf c v) ok.nd ok.fr, toOpt_map, rewardsCell_eq ok.wfr ok.fin, Bool.false_or, probCell_unbatched c hp]
  rfl

theorem mkRow_eqB {c : Config} {fl : Flags} {v : View V R} (ok : RowOK fl v) (sp : Bool) (p : Option (Pred V)) (er : Option Rat) :
    toOpt (mkRow c fl sp true (rowOf c v) p er) = rowSB c fl sp v p er := by
  rw [mkRow_closed (r := rowOf c v) ok.nd ok.fr, toOpt_map, rewardsCell_eq ok.wfr ok.fin]
  simp only [Bool.true_or, Bool.and_true, outProb]
  rfl

theorem rewardsCellS_keys {c : Config} {fl : Flags} {v : View V R} {rw : Row V R} (h : rewardsCellS c fl v = some rw) :
    ∀ b ∈ rw, b.1 = "rewards" := by
  intro b hb
  unfold rewardsCellS at h
  split at h
  · split at h
    · split at h
      · obtain ⟨xs, _, rfl⟩ := Option.map_eq_some_iff.mp h
        rw [List.mem_singleton.mp hb]
      · cases h
    · obtain ⟨f, _, rfl⟩ := Option.map_eq_some_iff.mp h
      rw [List.mem_singleton.mp hb]
  · cases h; cases hb

theorem rowS_extras {c : Config} {fl : Flags} {v : View V R} {p : Option (Pred V)} {er : Option Rat} {row : Row V R}
    (h : rowS c fl v p er = some row) :
    ∃ pre : Row V R, row = pre ++ v.extras.map (fun kv => (kv.1, Cell.fld kv.2)) ∧ ∀ b ∈ pre, b.1 ∈ implicitExclude := by
  obtain ⟨rw, hrw, rfl⟩ := Option.map_eq_some_iff.mp h
  refine ⟨recCells c fl v.ctx v.acts p er rw _, rfl, recCells_reserved (rewardsCellS_keys hrw) fun b hb => ?_⟩
  split at hb
  · rw [mem_ite_singleton hb]
  · cases hb

theorem rowSB_extras {c : Config} {fl : Flags} {np : Bool} {v : View V R} {p : Option (Pred V)} {er : Option Rat} {row : Row V R}
    (h : rowSB c fl np v p er = some row) :
    ∃ pre : Row V R, row = pre ++ v.extras.map (fun kv => (kv.1, Cell.fld kv.2)) ∧ ∀ b ∈ pre, b.1 ∈ implicitExclude := by
  obtain ⟨rw, hrw, rfl⟩ := Option.map_eq_some_iff.mp h
  exact ⟨recCells c fl v.ctx v.acts p er rw _, rfl,
    recCells_reserved (rewardsCellS_keys hrw) fun b hb => by rw [mem_ite_singleton hb]⟩

theorem mkRow_flag (c : Config) (fl : Flags) (sp : Bool) (r : RowIn V R) (p : Option (Pred V)) (er : Option Rat)
    (hex : ∀ kv ∈ r.extras, kv.1 ≠ "probability") :
    (mkRow c fl sp true r p er).map dropNoneProb = mkRow c fl sp false r p er := by
  unfold mkRow
  cases hx : rewardsCell c fl r with
  | error e => rfl
  | ok rw =>
    have hk := ne_probability
    simp only [List.forall_mem_cons] at hk
    obtain ⟨k1, k2, k3, k4, k5, -⟩ := hk
    have hrw : dropNoneProb rw = rw := dropNoneProb_eq_self fun b hb => by rw [rewardsCell_keys hx b hb]; exact k5
    simp only [Except.map, Except.ok.injEq]
    rw [dropNoneProb_foldl _ _ hex]
    simp only [dropNoneProb_append, hrw, dropNoneProb_cell _ k1, dropNoneProb_cell _ k2, dropNoneProb_cell _ k3,
      dropNoneProb_cell _ k4]
    congr 2
    -- the probability cell: batched writes `None` where un-batched writes nothing
    cases hpr : p.bind (·.prob) <;> by_cases hc : (outProb c && sp) = true <;>
      simp [hc, dropNoneProb, isNoneProb_none, isNoneProb_some]

end Coba.C06
