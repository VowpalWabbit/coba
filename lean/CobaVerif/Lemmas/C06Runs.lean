/-
C06 — what holds of `runChunks`/`evaluate` without any well-formedness: several evaluations with one learner, `learning_info`
(un-batched and batched), environments whose later interactions lack keys, and evaluations the consumer abandons.
-/
import CobaVerif.Lemmas.C06Loop

namespace Coba.C06
section Info
variable {V R : Type}
variable [DecidableEq V] [RewardFn R V]

/-! ## histories -/

theorem runHistory_append {σ : Type} (L : Learner σ V) (s : σ) (pre post : List (Episode V R)) :
    runHistory L s (pre ++ post) = runHistory L s pre ++ runHistory L (finalState L s pre) post := by
  induction pre generalizing s with
  | nil => rfl
  | cons e es ih => simp only [List.cons_append, runHistory, finalState, ih]

theorem runHistory_length {σ : Type} (L : Learner σ V) (s : σ) (es : List (Episode V R)) : (runHistory L s es).length = es.length := by
  induction es generalizing s with
  | nil => rfl
  | cons e es ih => simp [runHistory, ih]

/-! ## learning_info -/

theorem Dict.update_nil {α : Type} (a : Dict α) : Dict.update a [] = a := rfl

set_option linter.unusedSectionVars false in
theorem mergeInfo_nil (o : Row V R) : mergeInfo o [] = o := rfl

omit [DecidableEq V] [RewardFn R V] in
theorem Pass.info_silent {σ : Type} (c : Config) (L : InfoLearner σ V) (k : Pass σ V R) : k.info c L.silent = [] := by
  unfold Pass.info InfoLearner.silent
  cases k.la <;> exact (Dict.update_nil _).trans (ite_self _)

theorem stepI_silent {σ : Type} (c : Config) (fl : Flags) (L : InfoLearner σ V) (s : σ) (d : Dict (Fld V R)) :
    stepI c fl L.silent s d = (stepI c fl L s d).map (fun r => (r.1, r.2.1, r.2.2.1, [])) := by
  unfold stepI
  rw [show L.silent.toLearner = L.toLearner from rfl]
  cases passOf c fl L.toLearner s d with
  | error e => rfl
  | ok k => simp only [Except.map, Pass.info_silent]

theorem runI_silent {σ : Type} (c : Config) (fl : Flags) (L : InfoLearner σ V) (env : List (Dict (Fld V R))) (s : σ) :
    runI c fl L.silent s env = (runI c fl L s env).map (fun r => (r.1, r.2.1, r.2.2.1, r.2.2.2.map (fun _ => []))) := by
  induction env generalizing s with
  | nil => rfl
  | cons d ds ih =>
    simp only [runI, stepI_silent]
    cases stepI c fl L s d with
    | error e => rfl
    | ok r1 =>
      simp only [Except.map, Except.bind, ih]
      cases runI c fl L r1.1 ds with
      | error e => rfl
      | ok r2 => rfl

theorem runI_eq_runChunks {σ : Type} (c : Config) (fl : Flags) (L : InfoLearner σ V) (env : List (Dict (Fld V R))) (s : σ) :
    runChunks c fl L.toLearner false s [] [] (env.map ([·])) =
      (runI c fl L s env).map (fun r => (r.1, r.2.1, r.2.2.1.filter (fun o => !o.isEmpty))) := by
  induction env generalizing s with
  | nil => rfl
  | cons d ds ih =>
    simp only [List.map_cons, runChunks_cons, runI, stepChunk_eq_pass, stepI, ih]
    cases passOf c fl L.toLearner s d with
    | error e => rfl
    | ok k =>
      simp only [Except.map, Except.bind]
      cases runI c fl L (k.learnState L.toLearner) ds with
      | error e => rfl
      | ok r2 => simp only [← List.filter_append, List.singleton_append]

theorem passOf_s0 {σ : Type} {c : Config} {fl : Flags} {L : Learner σ V} {s : σ} {d : Dict (Fld V R)} {k : Pass σ V R}
    (h : passOf c fl L s d = .ok k) : k.s0 = s := by
  unfold passOf at h
  obtain ⟨r, _, h⟩ := Except.bind_eq_ok h
  obtain ⟨er, _, h⟩ := Except.bind_eq_ok h
  obtain ⟨la, _, h⟩ := Except.bind_eq_ok h
  obtain ⟨out, _, h⟩ := Except.map_eq_ok h
  subst h
  rfl

theorem runI_passes {σ : Type} (c : Config) (fl : Flags) (L : InfoLearner σ V) (env : List (Dict (Fld V R))) (s : σ)
    (r : σ × List (Call V) × List (Row V R) × List (Dict V)) (h : runI c fl L s env = .ok r) :
    ∃ passes : List (Pass σ V R), passes.length = env.length ∧ r.2.2.1 = passes.map (·.out) ∧
      r.2.2.2 = passes.map (Pass.info c L) ∧ ∀ dk ∈ env.zip passes, passOf c fl L.toLearner dk.2.s0 dk.1 = .ok dk.2 := by
  -- the loop seen through `toOpt`, with `passOf` for its step (`stepI` is `passOf` and a projection); the closing `rfl` reads
  -- the parts of the loop off the rewritten equation
  obtain ⟨st, h1, h2, h3⟩ := run_steps (run := fun s env => toOpt (runI c fl L s env)) (fun _ => rfl)
    (fun _ _ _ => by simp only [runI, stepI, toOpt_bind, toOpt_map, Option.bind_map, Function.comp_def]; rfl)
    (toOpt_eq_some.mpr h)
  refine ⟨st.map (·.2), by rw [List.length_map, h1], ?_, ?_, forall_zip_map_right fun dk hdk => ?_⟩
  · rw [h3 (·.2.2.1) (fun k => [k.out]) (fun _ => rfl) (fun _ _ => rfl), List.map_map]; exact List.map_eq_flatMap.symm
  · rw [h3 (·.2.2.2) (fun k => [k.info c L]) (fun _ => rfl) (fun _ _ => rfl), List.map_map]; exact List.map_eq_flatMap.symm
  · have hp := toOpt_eq_some.mp (h2 dk hdk)
    rw [passOf_s0 hp]; exact hp

/-! ## learning_info in batched passes -/

theorem stepChunk_eq_IB {σ : Type} (c : Config) (fl : Flags) (L : InfoLearner σ V) (s : σ) (ch : List (Dict (Fld V R))) :
    stepChunk c fl L.toLearner true s ch =
      (stepChunkIB c fl L s ch).map (fun r => (r.1, r.2.1, r.2.2.1.filter (fun o => !o.isEmpty))) := by
  unfold stepChunk stepChunkIB
  cases prepAll c fl ch with
  | error e => rfl
  | ok rows =>
    simp only [Except.bind]
    generalize evalsOf c _ rows _ _ = E
    cases E with
    | error e => rfl
    | ok evals =>
      simp only
      generalize learnsOf c L.toLearner _ rows _ = LL
      cases LL with
      | error e => rfl
      | ok ll =>
        simp only
        generalize mapM₃ (mkRow c fl (shouldPred c L.hasScore) true) rows _ evals = M
        cases M <;> rfl

variable [Subscript V]

theorem runIB_rows {σ : Type} (c : Config) (fl : Flags) (L : InfoLearner σ V) (chs : List (List (Dict (Fld V R)))) (s : σ)
    (r : σ × List (Call V) × List (Row V R)) (h : runIB c fl L s chs = .ok r) :
    ∃ steps : List (σ × σ × List (Call V) × List (Row V R) × Dict V), steps.length = chs.length ∧
      r.2.1 = (steps.map (·.2.2.1)).flatten ∧
      r.2.2 = (steps.map (fun st => (mergeIndexed st.2.2.2.2 0 st.2.2.2.1).filter (fun o => !o.isEmpty))).flatten ∧
      ∀ cst ∈ chs.zip steps, stepChunkIB c fl L cst.2.1 cst.1 = .ok cst.2.2 ∧
        stepChunk c fl L.toLearner true cst.2.1 cst.1
          = .ok (cst.2.2.1, cst.2.2.2.1, cst.2.2.2.2.1.filter (fun o => !o.isEmpty)) := by
  obtain ⟨st, h1, h2, h3⟩ := run_steps (run := fun s chs => toOpt (runIB c fl L s chs)) (fun _ => rfl)
    (fun _ _ _ => by simp only [runIB, toOpt_bind, toOpt_map]; rfl) (toOpt_eq_some.mpr h)
  refine ⟨st, h1, h3 (·.2.1) (·.2.1) (fun _ => rfl) (fun _ _ => rfl), h3 (·.2.2) _ (fun _ => rfl) (fun _ _ => rfl),
    fun cst hcst => ?_⟩
  have hc := toOpt_eq_some.mp (h2 cst hcst)
  exact ⟨hc, by rw [stepChunk_eq_IB, hc]; rfl⟩

end Info

/-! ## heterogeneous environments: an interaction is processed only if it has every key the code subscripts -/

section Hetero
variable {V R : Type}

theorem finalize_ok_has {b : Bool} {d d1 : Dict (Fld V R)} (h : finalize b d = .ok d1) :
    (b = true → d.get? "actions" ≠ none ∧ d.get? "rewards" ≠ none) ∧
    (∀ k, d1.get? k ≠ none → d.get? k ≠ none) := by
  unfold finalize at h
  cases b with
  | false => simp at h; subst h; exact ⟨by simp, fun _ hk => hk⟩
  | true =>
    simp only [if_true] at h
    split at h
    · rename_i as rs ha hr
      split at h
      · simp only [Except.ok.injEq] at h; subst h
        refine ⟨fun _ => ⟨by simp [ha], by simp [hr]⟩, ?_⟩
        intro k hk
        by_cases hkr : "rewards" = k
        · subst hkr; simp [hr]
        · rwa [Dict.get?_set_ne d _ hkr] at hk
      · cases h
    all_goals cases h

theorem opeIps_ok_has {t : String} {d d1 : Dict (Fld V R)} (h : opeIps t d = .ok d1) :
    (d.get? "action" ≠ none ∧ d.get? "reward" ≠ none) ∧ (∀ k, t ≠ k → d1.get? k ≠ none → d.get? k ≠ none) := by
  unfold opeIps at h
  obtain ⟨a, ha, h⟩ := Except.bind_eq_ok h
  obtain ⟨r, hr, h⟩ := Except.bind_eq_ok h
  obtain ⟨p, -, h⟩ := Except.bind_eq_ok h
  cases r with
  | none => cases h
  | some r =>
    cases h
    refine ⟨⟨?_, ?_⟩, fun k hk1 hk => ?_⟩
    · intro hn; rw [hn] at ha; cases ha
    · intro hn; rw [hn] at hr; cases hr
    · rwa [Dict.get?_set_ne d _ hk1] at hk

theorem opeIf_ok_has {on : Bool} {t : String} {d d1 : Dict (Fld V R)} (h : opeIf on t d = .ok d1) :
    (on = true → d.get? "action" ≠ none ∧ d.get? "reward" ≠ none) ∧ (∀ k, t ≠ k → d1.get? k ≠ none → d.get? k ≠ none) := by
  cases on with
  | false => simp [opeIf] at h; subst h; exact ⟨by simp, fun _ _ hk => hk⟩
  | true => simp only [opeIf, if_true] at h; exact ⟨fun _ => (opeIps_ok_has h).1, (opeIps_ok_has h).2⟩

theorem readRow_ok_has {c : Config} {fl : Flags} {d : Dict (Fld V R)} {r : RowIn V R} (h : readRow c fl d = .ok r) :
    (fl.hasContext = true → d.get? "context" ≠ none) ∧ (fl.hasActions = true → d.get? "actions" ≠ none) ∧
    (fl.hasRewards = true → d.get? "rewards" ≠ none) ∧ (fl.hasReward = true → d.get? "reward" ≠ none) ∧
    (fl.hasAction = true → d.get? "action" ≠ none) :=
  have i := readRow_inv h
  ⟨whenHas_present ⟨_, rfl⟩ i.ctx, whenHas_present ⟨_, rfl⟩ i.acts, whenHas_present ⟨_, rfl⟩ i.rewards,
    whenHas_present ⟨_, rfl⟩ i.offRwd, whenHas_present ⟨_, rfl⟩ i.offAct⟩

theorem prep_ok_has_needed {c : Config} {fl : Flags} {d : Dict (Fld V R)} {r : RowIn V R} (h : prep c fl d = .ok r) :
    missingOf c fl d = [] := by
  simp only [prep, pipeline, bind] at h
  obtain ⟨d3, hp, h⟩ := Except.bind_eq_ok h
  obtain ⟨d1, h1, hp⟩ := Except.bind_eq_ok hp
  obtain ⟨d2, h2, hp⟩ := Except.bind_eq_ok hp
  have f1 := finalize_ok_has h1
  have f2 := opeIf_ok_has h2
  have f3 := opeIf_ok_has hp
  have f4 := readRow_ok_has h
  -- a key present after the filters was present before them: they only write the two reward targets
  have back : ∀ k ∈ rawKeys, d3.get? k ≠ none → d.get? k ≠ none := fun k m hk =>
    f1.2 k (f2.2 k (rawKeys_unwritten k m).2.1.symm (f3.2 k (rawKeys_unwritten k m).2.2.symm hk))
  have back2 : ∀ k ∈ rawKeys, d2.get? k ≠ none → d.get? k ≠ none := fun k m hk =>
    f1.2 k (f2.2 k (rawKeys_unwritten k m).2.1.symm hk)
  have b3 := onRaw back
  have b2 := onRaw back2
  have key : ∀ k ∈ neededKeys c fl, d.get? k ≠ none := by
    simp only [neededKeys, List.forall_mem_append]
    refine ⟨⟨⟨⟨⟨⟨⟨?_, ?_⟩, ?_⟩, ?_⟩, ?_⟩, ?_⟩, ?_⟩, ?_⟩
    · exact forall_mem_ite fun hb => List.forall_mem_cons.mpr ⟨(f1.1 hb).1, List.forall_mem_singleton.mpr (f1.1 hb).2⟩
    · exact forall_mem_ite fun hb =>
        List.forall_mem_cons.mpr ⟨f1.2 _ (f2.1 hb).1, List.forall_mem_singleton.mpr (f1.2 _ (f2.1 hb).2)⟩
    · exact forall_mem_ite fun hb => List.forall_mem_cons.mpr ⟨b2.action (f3.1 hb).1, List.forall_mem_singleton.mpr (b2.reward (f3.1 hb).2)⟩
    · exact forall_mem_ite fun hb => List.forall_mem_singleton.mpr (b3.context (f4.1 hb))
    · exact forall_mem_ite fun hb => List.forall_mem_singleton.mpr (b3.actions (f4.2.1 hb))
    · exact forall_mem_ite fun hb => List.forall_mem_singleton.mpr
        (f1.2 _ (f2.2 _ written_distinct.1.symm (f3.2 _ written_distinct.2.1.symm (f4.2.2.1 hb))))
    · exact forall_mem_ite fun hb => List.forall_mem_singleton.mpr (b3.reward (f4.2.2.2.1 hb))
    · exact forall_mem_ite fun hb => List.forall_mem_singleton.mpr (b3.action (f4.2.2.2.2 hb))
  exact List.filter_eq_nil_iff.mpr fun k hk => by rw [Dict.has, Option.isSome_iff_ne_none.mpr (key k hk)]; decide

theorem prepAll_ok_mem {c : Config} {fl : Flags} {ch : List (Dict (Fld V R))} {rows : List (RowIn V R)}
    (h : prepAll c fl ch = .ok rows) : ∀ d ∈ ch, ∃ r, prep c fl d = .ok r := by
  induction ch generalizing rows with
  | nil => simp
  | cons d ds ih =>
    simp only [prepAll, bind] at h
    obtain ⟨r, hr, h⟩ := Except.bind_eq_ok h
    obtain ⟨rs, hrs, _⟩ := Except.bind_eq_ok h
    exact List.forall_mem_cons.mpr ⟨⟨r, hr⟩, ih hrs⟩

variable {σ : Type} [DecidableEq V] [RewardFn R V]

theorem runChunks_ok_needed {c : Config} {fl : Flags} {L : Learner σ V} {b : Bool} (chs : List (List (Dict (Fld V R))))
    (s : σ) {out} (h : runChunks c fl L b s [] [] chs = .ok out) : ∀ d ∈ chs.flatten, missingOf c fl d = [] := by
  induction chs generalizing s out with
  | nil => simp
  | cons ch rest ih =>
    rw [runChunks_cons] at h
    obtain ⟨r1, hs, h⟩ := Except.bind_eq_ok h
    obtain ⟨r2, hr, _⟩ := Except.map_eq_ok h
    unfold stepChunk at hs
    obtain ⟨rows, hp, _⟩ := Except.bind_eq_ok hs
    rw [List.flatten_cons, List.forall_mem_append]
    exact ⟨fun d hd => (prepAll_ok_mem hp d hd).elim fun _ => prep_ok_has_needed, ih _ hr⟩

end Hetero

/-! ## a consumer that stops early (`evaluateStopped`, `resumeStopped`, `runHistoryS`) -/
section stopped
variable {V R : Type} [DecidableEq V] [RewardFn R V] {σ : Type}

theorem runChunks_append (c : Config) (fl : Flags) (L : Learner σ V) (b : Bool) :
    ∀ (A B : List (List (Dict (Fld V R)))) (s : σ) (cs : List (Call V)) (rs : List (Row V R)),
    runChunks c fl L b s cs rs (A ++ B) =
      (runChunks c fl L b s cs rs A).bind fun r => runChunks c fl L b r.1 r.2.1 r.2.2 B := by
  intro A
  induction A with
  | nil => intro B s cs rs; rfl
  | cons ch A ih =>
    intro B s cs rs
    simp only [List.cons_append, runChunks]
    cases stepChunk c fl L b s ch with
    | error e => rfl
    | ok r => simp only [Except.bind]; exact ih B _ _ _

theorem runChunks_acc (c : Config) (fl : Flags) (L : Learner σ V) (b : Bool) (A : List (List (Dict (Fld V R)))) (s s' : σ)
    (cs cs' : List (Call V)) (rs rs' : List (Row V R)) (h : runChunks c fl L b s cs rs A = .ok (s', cs', rs')) :
    cs <+: cs' ∧ rs <+: rs' := by
  rw [runChunks_pull_acc] at h
  obtain ⟨r, _, h⟩ := Except.map_eq_ok h
  cases h
  exact ⟨List.prefix_append .., List.prefix_append ..⟩

theorem runChunks_split (c : Config) (fl : Flags) (L : Learner σ V) (b : Bool) (chs : List (List (Dict (Fld V R)))) (j : Nat)
    (s s' : σ) (calls : List (Call V)) (rows : List (Row V R)) (h : runChunks c fl L b s [] [] chs = .ok (s', calls, rows)) :
    ∃ r, runChunks c fl L b s [] [] (chs.take j) = .ok r ∧ r.2.1 <+: calls ∧ r.2.2 <+: rows ∧
      runChunks c fl L b r.1 r.2.1 r.2.2 (chs.drop j) = .ok (s', calls, rows) := by
  rw [← List.take_append_drop j chs, runChunks_append] at h
  obtain ⟨r, hr, hq⟩ := Except.bind_eq_ok h
  obtain ⟨h1, h2⟩ := runChunks_acc c fl L b _ _ _ _ _ _ _ hq
  exact ⟨r, hr, h1, h2, hq⟩

theorem evaluateStopped_eq_prefix (c : Config) (L : Learner σ V) (bs : Option Nat) (hn : 0 < bs.getD 1)
    (env : List (Dict (Fld V R))) (s : σ) (j : Nat) (hj : 0 < j) :
    evaluateStopped c L bs env s j = evaluate c L bs (env.take (j * bs.getD 1)) s := by
  cases env with
  | nil => simp [evaluateStopped, evaluate]
  | cons first rest =>
    obtain ⟨k, hk⟩ : ∃ k, j * bs.getD 1 = k + 1 := ⟨j * bs.getD 1 - 1, by have := Nat.mul_pos hj hn; omega⟩
    rw [evaluateStopped_cons, chunks_take _ hn, hk, List.take_succ_cons, evaluate_cons]

theorem EpisodeS.run_eq_seen (L : Learner σ V) (e : EpisodeS V R) (s : σ) (h : e.okStop) :
    e.run L s = evaluate e.seen.cfg L e.seen.bs e.seen.env s := by
  unfold EpisodeS.run
  cases hs : e.stop with
  | none => simp only [EpisodeS.seen, hs]
  | some j =>
    have hn : 0 < e.bs.getD 1 := by
      cases hb : e.bs with
      | none => decide
      | some n => exact h.2 n hb
    simp only [EpisodeS.seen, hs]
    exact evaluateStopped_eq_prefix _ L _ hn _ s j (h.1 j hs)

end stopped

end Coba.C06
