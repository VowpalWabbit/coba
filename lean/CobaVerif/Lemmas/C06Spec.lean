/-
C06 — the un-batched refinement: the loop body on one interaction is `specInter`, hence `evaluate … none` is `specRun`;
what a run of the spec looks like (calls per interaction, rows), and that the spec is defined on well-formed environments.
-/
import CobaVerif.Lemmas.C06Loop
import CobaVerif.Lemmas.C06Row

namespace Coba.C06
variable {V R : Type}

/-! ## outcomes read as options; a refinement equation read at a successful outcome -/

def Outcome.toOpt {α : Type} : Outcome α → Option α
  | .ok a => some a
  | _ => none

theorem Outcome.toOpt_ofExcept {α : Type} (x : Except Err α) : (Outcome.ofExcept x).toOpt = Coba.C06.toOpt x := by cases x <;> rfl

theorem Outcome.toOpt_eq_some {α : Type} {o : Outcome α} {a : α} : o.toOpt = some a ↔ o = .ok a := by
  cases o <;> simp [Outcome.toOpt]

theorem ok_of_refines {σ : Type} {o : Outcome (σ × List (Call V) × List (Row V R))}
    {sp : Option (σ × List (Call V) × List (Row V R))} {s' : σ} {calls : List (Call V)} {rows : List (Row V R)}
    (href : o.toOpt = sp.map (fun r => (r.1, r.2.1, r.2.2.filter (fun o => !o.isEmpty)))) (h : o = .ok (s', calls, rows)) :
    ∃ full, sp = some (s', calls, full) ∧ rows = full.filter (fun o => !o.isEmpty) := by
  subst h
  cases sp with
  | none => cases href
  | some r =>
    simp only [Outcome.toOpt, Option.map_some, Option.some.injEq, Prod.mk.injEq] at href
    obtain ⟨h1, h2, h3⟩ := href
    exact ⟨r.2.2, by rw [h1, h2], h3⟩

/-! ## PMF answers -/

theorem parsePmf_kw (dflt : V) (acts : Option (List V)) (pmf : List Rat) (kw : Dict V) (g : Nat) :
    (parsePmf dflt acts pmf kw g).1.kw = kw := by
  unfold parsePmf
  cases acts with
  | none => rfl
  | some as => simp only; cases Coba.C05.choicew g as.length (some pmf) <;> rfl

variable [DecidableEq V] [RewardFn R V]

/-! ## one interaction, the un-batched loop -/

theorem passOf_spec {σ : Type} {c : Config} {fl : Flags} (L : Learner σ V) (s : σ) {d : Dict (Fld V R)}
    (h : WF fl d) (hv : Valid c L.hasScore fl) (hseq : fl.rwdsIsList = true → fl.discrete = true)
    (hnd : nodupKeys d.keys = true) :
    (toOpt (passOf c fl L s d)).map (fun k => (k.learnState L, k.allCalls, k.out)) = specInter c fl L s (view d) := by
  have ok := rowOK_of_WF h hnd hseq
  unfold passOf specInter
  rw [prep_ok h hv, shouldPred_eq_needPred, toOpt_bind, toOpt_ok, Option.bind_some]
  simp only [toOpt_bind, toOpt_map, rowOf_ctx, rowOf_acts, rowOf_offAct]
  generalize hnp : needPred c L.hasScore = np
  generalize hp : (if np = true then some (L.predict s (view d).ctx (view d).acts).2 else none) = p
  generalize (if np = true then (L.predict s (view d).ctx (view d).acts).1 else s) = s1
  generalize hsb : (c.eval == EvalMode.ips && L.hasScore && !np) = sb
  generalize hsc : (if sb = true then some (L.score s1 (view d).ctx (view d).acts (view d).offAct).2 else none) = sc
  generalize (if sb = true then (L.score s1 (view d).ctx (view d).acts (view d).offAct).1 else s1) = s2
  have hpn : p.isSome = np := by subst hp; cases np <;> rfl
  have h1 : sb = true → c.eval = .ips ∧ p = none := by
    intro hs; subst hsb hp
    simp only [Bool.and_eq_true, beq_iff_eq, Bool.not_eq_true'] at hs
    exact ⟨hs.1.1, by rw [hs.2]; rfl⟩
  have h2 : sb = false → sc = none := by intro hs; subst hsc; rw [hs]; rfl
  have hE : toOpt (if (c.eval != .none) = true then Except.map some (evalReward sb (rowOf c (view d)) p sc) else .ok none)
      = if (c.eval != .none) = true then (evalRewardS c (view d) p sc).map some else some none := by
    split
    · rw [toOpt_map, evalReward_eq ok.wfr sb p sc h1 h2]
    · rfl
  have hLA : toOpt (if (c.learn != .none) = true then Except.map some (learnArgs c (rowOf c (view d)) p) else .ok none)
      = if (c.learn != .none) = true then (learnArgsS c (view d) p).map some else some none := by
    split
    · rename_i hl
      rw [toOpt_map, learnArgs_eq ok.wfr p (by simpa [bne] using hl)]
    · rfl
  have hM := fun er => mkRow_eq (c := c) ok np p er hpn
  rw [hE, hLA]
  simp only [hM]
  cases (if (c.eval != EvalMode.none) = true then Option.map some (evalRewardS c (view d) p sc) else some none) with
  | none => rfl
  | some er =>
    simp only [Option.bind_some]
    by_cases hl : (c.learn != LearnMode.none) = true
    · simp only [hl, if_true]
      cases learnArgsS c (view d) p with
      | none => rfl
      | some a => simp only [Option.map_some, Option.bind_some]; cases rowS c fl (view d) p er <;> rfl
    · simp only [hl, if_false, Bool.false_eq_true, Option.bind_some]; cases rowS c fl (view d) p er <;> rfl

theorem stepChunk_unbatched {σ : Type} {c : Config} {fl : Flags} (L : Learner σ V) (s : σ) {d : Dict (Fld V R)}
    (h : WF fl d) (hv : Valid c L.hasScore fl) (hseq : fl.rwdsIsList = true → fl.discrete = true)
    (hnd : nodupKeys d.keys = true) :
    toOpt (stepChunk c fl L false s [d]) =
      (specInter c fl L s (view d)).map (fun r => (r.1, r.2.1, [r.2.2].filter (fun o => !o.isEmpty))) := by
  rw [stepChunk_eq_pass, toOpt_map, ← passOf_spec L s h hv hseq hnd, Option.map_map]; rfl

theorem runChunks_unbatched {σ : Type} {c : Config} {fl : Flags} (L : Learner σ V) (hv : Valid c L.hasScore fl)
    (hseq : fl.rwdsIsList = true → fl.discrete = true) (env : List (Dict (Fld V R)))
    (hall : ∀ d ∈ env, WF fl d ∧ nodupKeys d.keys = true) (s : σ) :
    toOpt (runChunks c fl L false s [] [] (env.map ([·]))) =
      (specRun c fl L s (env.map view)).map (fun r => (r.1, r.2.1, r.2.2.filter (fun o => !o.isEmpty))) := by
  induction env generalizing s with
  | nil => rfl
  | cons d rest ih =>
    obtain ⟨hwf, hnd⟩ := hall d (by simp)
    rw [List.map_cons, runChunks_cons, toOpt_bind, stepChunk_unbatched L s hwf hv hseq hnd]
    simp only [List.map_cons, specRun, toOpt_map, ih fun d' h' => hall d' (by simp [h']), Option.bind_map, Option.map_bind,
      Option.map_map, Function.comp_def, ← List.filter_append, List.singleton_append]

/-! ## the whole evaluation -/

/-- the hypotheses of the refinement theorems: every interaction has the reserved keys of the first with fields of the right
shape and no key twice (`wfEnv`), the first interaction passes `_validate`, and sequence rewards come with a non-empty first
action list (with an empty one the code records the `DiscreteReward` object `Finalize` made as the `rewards` cell, which `rewardsCellS`
does not describe) -/
structure Hyp {σ : Type} (c : Config) (L : Learner σ V) (first : Dict (Fld V R)) (rest : List (Dict (Fld V R))) : Prop where
  wf : wfEnv (first :: rest) = true
  valid : missingKeys c L.hasScore first = []
  seq : (mkFlags first).rwdsIsList = true → (mkFlags first).discrete = true

theorem evaluate_refines {σ : Type} (c : Config) (L : Learner σ V) (first : Dict (Fld V R)) (rest : List (Dict (Fld V R)))
    (s : σ) (H : Hyp c L first rest) :
    (evaluate c L none (first :: rest) s).toOpt =
      (specRun c (mkFlags first) L s ((first :: rest).map view)).map
        (fun r => (r.1, r.2.1, r.2.2.filter (fun o => !o.isEmpty))) := by
  rw [evaluate_cons, validated_of_valid H.valid, Outcome.toOpt_ofExcept, Option.getD_none, chunks_one]
  exact runChunks_unbatched L (valid_of_missing_nil c L.hasScore first H.valid) H.seq (first :: rest) (wfEnv_all H.wf) s

/-! ## shape of the specified trace and rows -/

def Call.ctx : Call V → Option V
  | .predict c _ => c
  | .score c _ _ => c
  | .learn c _ _ _ _ => c

def Call.isPredict : Call V → Bool
  | .predict _ _ => true
  | _ => false

theorem specInter_calls {σ : Type} {c : Config} {fl : Flags} (L : Learner σ V) (s : σ) (v : View V R)
    (r : σ × List (Call V) × Row V R) (h : specInter c fl L s v = some r) :
    ∃ lc : List (Call V),
      r.2.1 = (if needPred c L.hasScore then [Call.predict v.ctx v.acts] else [])
        ++ (if (c.eval == .ips && L.hasScore && !needPred c L.hasScore) then [Call.score v.ctx v.acts v.offAct] else [])
        ++ lc
      ∧ ((c.learn = .none ∧ lc = []) ∨
         (c.learn ≠ .none ∧ ∃ a, learnArgsS c v (if needPred c L.hasScore then some (L.predict s v.ctx v.acts).2 else none) = some a
            ∧ lc = [Call.learn v.ctx a.1 a.2.1 a.2.2.1 a.2.2.2])) := by
  unfold specInter at h
  simp only [Option.bind_eq_some_iff, Option.map_eq_some_iff] at h
  obtain ⟨er, _, sc3, hl, row, _, hr⟩ := h
  subst hr
  by_cases hln : (c.learn != .none) = true
  · rw [if_pos hln] at hl
    simp only [Option.map_eq_some_iff] at hl
    obtain ⟨a, ha, hsc⟩ := hl
    subst hsc
    refine ⟨_, rfl, Or.inr ⟨by simpa [bne] using hln, a, ha, rfl⟩⟩
  · rw [if_neg hln] at hl
    simp only [Option.some.injEq] at hl
    subst hl
    refine ⟨[], by simp, Or.inl ⟨by simpa [bne] using hln, rfl⟩⟩

theorem specInter_call_cases {σ : Type} {c : Config} {fl : Flags} (L : Learner σ V) (s : σ) (v : View V R)
    (r : σ × List (Call V) × Row V R) (h : specInter c fl L s v = some r) (call : Call V) (hc : call ∈ r.2.1) :
    (needPred c L.hasScore = true ∧ call = Call.predict v.ctx v.acts) ∨ call = Call.score v.ctx v.acts v.offAct ∨
      ∃ a : Option V × Option Rat × Option Rat × Dict V, call = Call.learn v.ctx a.1 a.2.1 a.2.2.1 a.2.2.2 := by
  obtain ⟨lc, hcs, hlc⟩ := specInter_calls L s v r h
  rw [hcs] at hc
  simp only [List.mem_append] at hc
  rcases hc with (hc | hc) | hc
  · split at hc
    · exact Or.inl ⟨‹_›, List.mem_singleton.mp hc⟩
    · cases hc
  · exact Or.inr (Or.inl (mem_ite_singleton hc))
  · rcases hlc with ⟨_, rfl⟩ | ⟨_, a, _, rfl⟩
    · cases hc
    · exact Or.inr (Or.inr ⟨a, List.mem_singleton.mp hc⟩)

theorem specInter_ctx {σ : Type} {c : Config} {fl : Flags} (L : Learner σ V) (s : σ) (v : View V R)
    (r : σ × List (Call V) × Row V R) (h : specInter c fl L s v = some r) : ∀ call ∈ r.2.1, Call.ctx call = v.ctx := by
  intro call hc
  rcases specInter_call_cases L s v r h call hc with ⟨_, rfl⟩ | rfl | ⟨_, rfl⟩ <;> rfl

theorem learnArgsS_on_policy {c : Config} {v : View V R} {p : Pred V} {a : Option V × Option Rat × Option Rat × Dict V}
    (hl : c.learn = .on ∨ c.learn = .ips) (ha : learnArgsS c v (some p) = some a) :
    ∃ rew, (if c.learn = .on then envReward v p.action else ipsReward v (some p.action)) = some rew ∧
      a = (some p.action, some rew, p.prob, p.kw) := by
  rcases hl with hl | hl <;>
  · simp only [learnArgsS, hl, Option.map_eq_some_iff] at ha
    obtain ⟨rew, hrew, rfl⟩ := ha
    exact ⟨rew, by simp [hl, hrew], rfl⟩

theorem specInter_on_policy {σ : Type} {c : Config} {fl : Flags} (L : Learner σ V) (s : σ) (v : View V R)
    (r : σ × List (Call V) × Row V R) (h : specInter c fl L s v = some r) (hl : c.learn = .on ∨ c.learn = .ips) :
    ∃ rew, (if c.learn = .on then envReward v (L.predict s v.ctx v.acts).2.action
            else ipsReward v (some (L.predict s v.ctx v.acts).2.action)) = some rew ∧
      r.2.1 = [Call.predict v.ctx v.acts,
               Call.learn v.ctx (some (L.predict s v.ctx v.acts).2.action) (some rew)
                 (L.predict s v.ctx v.acts).2.prob (L.predict s v.ctx v.acts).2.kw] := by
  obtain ⟨lc, hcs, hlc⟩ := specInter_calls L s v r h
  have hnp : needPred c L.hasScore = true := by
    rcases hl with hl | hl <;> simp [needPred, hl]
  rw [hnp] at hcs hlc
  simp only [if_true, Bool.not_true, Bool.and_false, Bool.false_eq_true, if_false, List.append_nil] at hcs hlc
  rcases hlc with ⟨h0, _⟩ | ⟨_, a, ha, h1⟩
  · rcases hl with hl | hl <;> rw [hl] at h0 <;> cases h0
  · obtain ⟨rew, hrew, rfl⟩ := learnArgsS_on_policy hl ha
    exact ⟨rew, hrew, by rw [hcs, h1]; rfl⟩

theorem specInter_off_policy {σ : Type} {c : Config} {fl : Flags} (L : Learner σ V) (s : σ) (v : View V R)
    (r : σ × List (Call V) × Row V R) (h : specInter c fl L s v = some r) (hl : c.learn = .off) :
    r.2.1.getLast? = some (Call.learn v.ctx v.offAct v.offRwd v.offPr []) := by
  obtain ⟨lc, hcs, hlc⟩ := specInter_calls L s v r h
  rcases hlc with ⟨h0, _⟩ | ⟨_, a, ha, h1⟩
  · rw [hl] at h0; cases h0
  · simp only [learnArgsS, hl, Option.some.injEq] at ha
    subst ha
    rw [hcs, h1]
    simp

theorem specInter_extras {σ : Type} {c : Config} {fl : Flags} (L : Learner σ V) (s : σ) (v : View V R)
    (r : σ × List (Call V) × Row V R) (h : specInter c fl L s v = some r) :
    ∃ pre : Row V R, r.2.2 = pre ++ v.extras.map (fun kv => (kv.1, Cell.fld kv.2))
      ∧ ∀ b ∈ pre, b.1 ∈ implicitExclude := by
  unfold specInter at h
  simp only [Option.bind_eq_some_iff, Option.map_eq_some_iff] at h
  obtain ⟨er, _, sc3, _, row, hrow, rfl⟩ := h
  exact rowS_extras hrow

theorem specInter_reward_cell {σ : Type} {c : Config} {fl : Flags} (L : Learner σ V) (s : σ) (v : View V R)
    (r : σ × List (Call V) × Row V R) (h : specInter c fl L s v = some r) (hrec : c.rcd "reward" = true) (he : c.eval ≠ .none) :
    ∃ er, evalRewardS c v (if needPred c L.hasScore then some (L.predict s v.ctx v.acts).2 else none)
        (if (c.eval == .ips && L.hasScore && !needPred c L.hasScore) then
          some (L.score (if needPred c L.hasScore then (L.predict s v.ctx v.acts).1 else s) v.ctx v.acts v.offAct).2 else none) = some er
      ∧ ("reward", Cell.num (some er)) ∈ r.2.2 := by
  unfold specInter at h
  simp only [Option.bind_eq_some_iff, Option.map_eq_some_iff] at h
  obtain ⟨er, her, sc3, _, row, hrow, hr⟩ := h
  subst hr
  have hne : (c.eval != .none) = true := by simpa [bne] using he
  rw [if_pos hne] at her
  simp only [Option.map_eq_some_iff] at her
  obtain ⟨x, hx, rfl⟩ := her
  refine ⟨x, hx, ?_⟩
  simp only [rowS, Option.map_eq_some_iff] at hrow
  obtain ⟨rw, _, rfl⟩ := hrow
  -- the fourth group of cells, found by its place
  refine List.mem_append_left _ (List.mem_append_left _ (List.mem_append_left _ (List.mem_append_right _ ?_)))
  rw [if_pos (by rw [hrec, hne]; rfl)]
  exact .head _

theorem specInter_score_based {σ : Type} {c : Config} {fl : Flags} (L : Learner σ V) (s : σ) (v : View V R)
    (r : σ × List (Call V) × Row V R) (h : specInter c fl L s v = some r) (he : c.eval = .ips) (hs : L.hasScore = true)
    (hnp : needPred c L.hasScore = false) (hrec : c.rcd "reward" = true) :
    r.2.1.head? = some (Call.score v.ctx v.acts v.offAct) ∧
      ∃ w, ipsReward v v.offAct = some w ∧ ("reward", Cell.num (some ((L.score s v.ctx v.acts v.offAct).2 * w))) ∈ r.2.2 := by
  have hsb : (c.eval == EvalMode.ips && L.hasScore && !needPred c L.hasScore) = true := by rw [hnp, he, hs]; rfl
  constructor
  · obtain ⟨lc, hcs, _⟩ := specInter_calls L s v r h
    rw [hcs, hsb, hnp]
    rfl
  · obtain ⟨er, her, hmem⟩ := specInter_reward_cell L s v r h hrec (by rw [he]; decide)
    rw [hsb, hnp] at her
    simp only [Bool.false_eq_true, if_false, if_true, evalRewardS, he, Option.map_eq_some_iff] at her
    obtain ⟨w, hw, rfl⟩ := her
    exact ⟨w, hw, hmem⟩

/-! ## a run of the spec as one `specInter` step per interaction; a successful evaluation read that way -/

theorem specRun_steps {σ : Type} {c : Config} {fl : Flags} (L : Learner σ V) (vs : List (View V R)) (s : σ)
    (r : σ × List (Call V) × List (Row V R)) (h : specRun c fl L s vs = some r) :
    ∃ steps : List (σ × List (Call V) × Row V R),
      steps.length = vs.length ∧ r.2.1 = (steps.map (·.2.1)).flatten ∧ r.2.2 = steps.map (·.2.2) ∧
      ∀ vst ∈ vs.zip steps, ∃ s', specInter c fl L vst.2.1 vst.1 = some (s', vst.2.2.1, vst.2.2.2) := by
  obtain ⟨st, h1, h2, h3⟩ := run_steps (run := specRun c fl L) (fun _ => rfl) (fun _ _ _ => rfl) h
  refine ⟨st.map fun t => (t.1, t.2.2), by rw [List.length_map, h1], ?_, ?_, ?_⟩
  · rw [h3 (·.2.1) (·.2.1) (fun _ => rfl) (fun _ _ => rfl), List.map_map]; rfl
  · rw [h3 (·.2.2) (fun t => [t.2.2]) (fun _ => rfl) (fun _ _ => rfl), List.map_map]
    exact List.map_eq_flatMap.symm
  · exact forall_zip_map_right fun vst hvst => ⟨vst.2.2.1, h2 vst hvst⟩

theorem specRun_no_predict {σ : Type} {c : Config} {fl : Flags} (L : Learner σ V) (hnp : needPred c L.hasScore = false)
    (vs : List (View V R)) (s : σ) (r : σ × List (Call V) × List (Row V R)) (h : specRun c fl L s vs = some r) :
    ∀ call ∈ r.2.1, Call.isPredict call = false := by
  obtain ⟨st, h1, h2, _, h4⟩ := specRun_steps L vs s r h
  intro call hc
  rw [h2] at hc
  obtain ⟨cs, hcs, hcc⟩ := List.mem_flatten.mp hc
  obtain ⟨step, hstep, rfl⟩ := List.mem_map.mp hcs
  obtain ⟨v, _, hz⟩ := exists_zip_of_mem_right vs st h1 step hstep
  obtain ⟨s', hsi⟩ := h4 _ hz
  rcases specInter_call_cases L _ _ _ hsi call hcc with ⟨hp, _⟩ | rfl | ⟨_, rfl⟩
  · rw [hnp] at hp; cases hp
  · rfl
  · rfl

theorem evaluate_ok_spec {σ : Type} (c : Config) (L : Learner σ V) (first : Dict (Fld V R)) (rest : List (Dict (Fld V R)))
    (s s' : σ) (calls : List (Call V)) (rows : List (Row V R))
    (H : Hyp c L first rest) (h : evaluate c L none (first :: rest) s = .ok (s', calls, rows)) :
    ∃ full, specRun c (mkFlags first) L s ((first :: rest).map view) = some (s', calls, full)
      ∧ rows = full.filter (fun o => !o.isEmpty) :=
  ok_of_refines (evaluate_refines c L first rest s H) h

/-- the general form of the per-interaction theorems: a successful evaluation is one `specInter` step per interaction, each
from the learner state the earlier ones left -/
theorem evaluate_ok_steps {σ : Type} (c : Config) (L : Learner σ V) (first : Dict (Fld V R)) (rest : List (Dict (Fld V R)))
    (s s' : σ) (calls : List (Call V)) (rows : List (Row V R)) (H : Hyp c L first rest)
    (h : evaluate c L none (first :: rest) s = .ok (s', calls, rows)) :
    ∃ steps : List (σ × List (Call V) × Row V R), steps.length = (first :: rest).length ∧
      calls = (steps.map (·.2.1)).flatten ∧ rows = (steps.map (·.2.2)).filter (fun o => !o.isEmpty) ∧
      ∀ vst ∈ ((first :: rest).map view).zip steps,
        ∃ s₂, specInter c (mkFlags first) L vst.2.1 vst.1 = some (s₂, vst.2.2.1, vst.2.2.2) := by
  obtain ⟨full, hs, hrows⟩ := evaluate_ok_spec c L first rest s s' calls rows H h
  obtain ⟨st, h1, h2, h3, h4⟩ := specRun_steps L _ s _ hs
  exact ⟨st, by simpa using h1, h2, hrows.trans (congrArg _ h3), h4⟩

/-! ## the spec is defined on every well-formed environment that passes validation -/

theorem envReward_isSome {fl : Flags} {d : Dict (Fld V R)} (h : WF fl d) (hr : fl.hasRewards = true) (a : V) :
    ∃ x, envReward (view d) a = some x := by
  have hh := hasRewards_iff h
  rw [hr] at hh
  cases WFR_of_WF h with
  | absent h0 => simp [view] at h0; rw [h0] at hh; simp at hh
  | list rs as h1 h2 =>
    simp only [envReward, h1, h2]
    cases (as.zip rs).lookup a <;> simp
  | fn f h1 => simp [envReward, h1]

theorem rewardsAtS_isSome {fl : Flags} {d : Dict (Fld V R)} (h : WF fl d) (hr : fl.hasRewards = true) (as : List V) :
    ∃ xs, rewardsAtS (view d) as = some xs := by
  induction as with
  | nil => exact ⟨[], rfl⟩
  | cons a as ih =>
    obtain ⟨x, hx⟩ := envReward_isSome h hr a
    obtain ⟨xs, hxs⟩ := ih
    exact ⟨x :: xs, by simp [rewardsAtS, hx, hxs]⟩

theorem rowS_isSome {c : Config} {fl : Flags} {d : Dict (Fld V R)} (h : WF fl d)
    (hda : fl.discrete = true → fl.hasActions = true) (p : Option (Pred V)) (er : Option Rat) :
    ∃ row, rowS c fl (view d) p er = some row := by
  have : (rewardsCellS c fl (view d)).isSome = true := by
    unfold rewardsCellS
    by_cases h1 : (c.rcd "rewards" && fl.hasRewards) = true
    · rw [if_pos h1]
      have hr : fl.hasRewards = true := by simp at h1; exact h1.2
      by_cases h2 : fl.discrete = true
      · rw [if_pos h2]
        have ha := h.acts
        rw [hda h2] at ha
        cases hg : d.get? "actions" with
        | none => rw [hg] at ha; simp at ha
        | some fa =>
          rw [hg] at ha
          cases fa <;> simp at ha
          rename_i as
          obtain ⟨xs, hxs⟩ := rewardsAtS_isSome h hr as
          have hv : (view d).acts = some as := by simp [view, hg, viewActs]
          simp only [hv, hxs, Option.map_some, Option.isSome_some]
      · rw [if_neg h2]
        have hh := hasRewards_iff h
        rw [hr] at hh
        cases hg : d.get? "rewards" with
        | none => rw [hg] at hh; simp at hh
        | some f =>
          have hv : (view d).rewards = some f := by simp [view, hg]
          simp only [hv, Option.map_some, Option.isSome_some]
    · rw [if_neg h1]; rfl
  cases hrw : rewardsCellS c fl (view d) with
  | none => rw [hrw] at this; cases this
  | some rw => exact ⟨_, by simp only [rowS, hrw, Option.map_some]; rfl⟩

theorem specInter_isSome {σ : Type} {c : Config} {fl : Flags} (L : Learner σ V) (s : σ) {d : Dict (Fld V R)}
    (h : WF fl d) (hv : Valid c L.hasScore fl) (hda : fl.discrete = true → fl.hasActions = true) :
    ∃ r, specInter c fl L s (view d) = some r := by
  unfold specInter
  simp only []
  generalize hnp : needPred c L.hasScore = np
  generalize hp : (if np = true then some (L.predict s (view d).ctx (view d).acts).2 else none) = p
  generalize (if np = true then (L.predict s (view d).ctx (view d).acts).1 else s) = s1
  generalize hsb : (c.eval == EvalMode.ips && L.hasScore && !np) = sb
  generalize hsc : (if sb = true then some (L.score s1 (view d).ctx (view d).acts (view d).offAct).2 else none) = sc
  generalize (if sb = true then (L.score s1 (view d).ctx (view d).acts (view d).offAct).1 else s1) = s2
  -- a prediction is there when the mode needs one, else (score-based ips) a score
  have hpn : np = true → ∃ q, p = some q := fun hn => ⟨_, by rw [← hp, if_pos hn]⟩
  have hscn : np = false → c.eval = .ips → ∃ q, sc = some q := fun hn he => by
    have hs : L.hasScore = true := by
      cases hs : L.hasScore with
      | true => rfl
      | false => rw [← hnp] at hn; simp [needPred, he, hs] at hn
    exact ⟨_, by rw [← hsc, if_pos (by rw [← hsb, he, hs, hn]; rfl)]⟩
  obtain ⟨er, hE⟩ : ∃ er, (if (c.eval != .none) = true then (evalRewardS c (view d) p sc).map some else some none) = some er := by
    cases he : c.eval with
    | none => exact ⟨none, rfl⟩
    | on =>
      obtain ⟨q, rfl⟩ := hpn (by rw [← hnp]; simp [needPred, he])
      obtain ⟨x, hx⟩ := envReward_isSome h (hv.rwds (Or.inr he)) q.action
      exact ⟨some x, by simp [evalRewardS, he, hx]⟩
    | ips =>
      have hR := (hv.logged (Or.inr (Or.inr he))).2
      cases hn : np with
      | true =>
        obtain ⟨q, rfl⟩ := hpn hn
        obtain ⟨x, hx⟩ := ipsReward_isSome h hR (some q.action)
        exact ⟨some x, by simp [evalRewardS, he, hx]⟩
      | false =>
        obtain ⟨q, rfl⟩ := hscn hn he
        have hp0 : p = none := by rw [← hp, hn]; rfl
        obtain ⟨x, hx⟩ := ipsReward_isSome h hR (view d).offAct
        exact ⟨some (q * x), by simp [evalRewardS, he, hx, hp0]⟩
  obtain ⟨a, hLA⟩ : ∃ a, (if (c.learn != .none) = true then
        (learnArgsS c (view d) p).map (fun a => (L.learn s2 (view d).ctx a.1 a.2.1 a.2.2.1 a.2.2.2,
          [Call.learn (view d).ctx a.1 a.2.1 a.2.2.1 a.2.2.2]))
      else some (s2, [])) = some a := by
    cases hl : c.learn with
    | none => exact ⟨_, rfl⟩
    | off => exact ⟨_, by simp [learnArgsS, hl]; rfl⟩
    | on =>
      obtain ⟨q, rfl⟩ := hpn (by rw [← hnp]; simp [needPred, hl])
      obtain ⟨x, hx⟩ := envReward_isSome h (hv.rwds (Or.inl hl)) q.action
      exact ⟨_, by simp [learnArgsS, hl, hx]; rfl⟩
    | ips =>
      obtain ⟨q, rfl⟩ := hpn (by rw [← hnp]; simp [needPred, hl])
      obtain ⟨x, hx⟩ := ipsReward_isSome h (hv.logged (Or.inr (Or.inl hl))).2 (some q.action)
      exact ⟨_, by simp [learnArgsS, hl, hx]; rfl⟩
  obtain ⟨row, hrow⟩ := rowS_isSome (c := c) h hda p er
  exact ⟨_, by rw [hE, Option.bind_some, hLA, Option.bind_some, hrow]; rfl⟩

theorem specRun_isSome {σ : Type} {c : Config} {fl : Flags} (L : Learner σ V) (hv : Valid c L.hasScore fl)
    (hda : fl.discrete = true → fl.hasActions = true) (env : List (Dict (Fld V R))) (hall : ∀ d ∈ env, WF fl d) (s : σ) :
    ∃ r, specRun c fl L s (env.map view) = some r := by
  induction env generalizing s with
  | nil => exact ⟨_, rfl⟩
  | cons d ds ih =>
    obtain ⟨r1, h1⟩ := specInter_isSome L s (hall d (by simp)) hv hda
    obtain ⟨r2, h2⟩ := ih (fun d' hd' => hall d' (by simp [hd'])) r1.1
    exact ⟨_, by simp only [List.map_cons, specRun, h1, Option.bind_some, h2, Option.map_some]; rfl⟩

end Coba.C06
