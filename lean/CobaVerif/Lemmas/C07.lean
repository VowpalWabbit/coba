/-
C07 — the result log: what `encode` writes and `readLog` / `tablesOf` read back.  Values (`wire = normIn`), one evaluation
(column packing and unpacking, the reader's first-row decision `tupleColsFirstRow`, what `packAsIs = pack` needs when `str` is injective),
the params and interactions tables of an encoded log (each a dictionary filled by `accum`, then sorted), whole runs through
`collect` and their invariance under reordering, the padded tables, `full_name`, the record shapes, and logs regrouped by key.
Facts about plain lists and dictionaries are in `C07Dict`.
-/
import CobaVerif.Lemmas.C07Dict

namespace Coba.C07

/-! ### values -/

theorem minFlt_cases (rnd : Rat → Rat) (q : Rat) :
    (∃ i, minFlt rnd q = .int i) ∨ (minFlt rnd q = .flt (rnd q) ∧ (rnd q).den ≠ 1) := by
  unfold minFlt
  split
  · exact Or.inl ⟨_, rfl⟩
  · split
    · exact Or.inl ⟨_, rfl⟩
    · rename_i h; exact Or.inr ⟨rfl, h⟩

theorem minFlt_fixed (f : Val → Val) (hi : ∀ i, f (.int i) = .int i) (hf : ∀ x, f (.flt x) = .flt x) (rnd : Rat → Rat) (q : Rat) :
    f (minFlt rnd q) = minFlt rnd q := by
  rcases minFlt_cases rnd q with ⟨i, e⟩ | ⟨e, _⟩ <;> rw [e]
  · exact hi i
  · exact hf _

theorem jsonify_minFlt (rnd : Rat → Rat) (q : Rat) : jsonify (minFlt rnd q) = minFlt rnd q :=
  minFlt_fixed jsonify (fun _ => rfl) (fun _ => rfl) rnd q

mutual
theorem wire_eq_normIn (rnd : Rat → Rat) : ∀ v : Val, jsonify (minimize rnd v) = normIn rnd v
  | .flt q => jsonify_minFlt rnd q
  | .list xs => congrArg Val.list (wireL_eq_normInL rnd xs)
  | .tup xs => congrArg Val.list (wireL_eq_normInL rnd xs)
  | .dict kvs => congrArg Val.dict (wireD_eq_normInD rnd kvs)
  | .none => rfl
  | .bool _ => rfl
  | .int _ => rfl
  | .nan => rfl
  | .inf _ => rfl
  | .str _ => rfl
  | .reward _ _ => rfl
theorem wireL_eq_normInL (rnd : Rat → Rat) : ∀ xs : List Val, jsonifyL (minimizeL rnd xs) = normInL rnd xs
  | [] => rfl
  | x :: xs => congrArg₂ List.cons (wire_eq_normIn rnd x) (wireL_eq_normInL rnd xs)
theorem wireD_eq_normInD (rnd : Rat → Rat) : ∀ kvs : PyDict, jsonifyD (minimizeD rnd kvs) = normInD rnd kvs
  | [] => rfl
  | (k, v) :: kvs => congrArg₂ (fun a b => (Key.str k.json, a) :: b) (wire_eq_normIn rnd v) (wireD_eq_normInD rnd kvs)
end

theorem tupTop_normIn (rnd : Rat → Rat) (v : Val) : tupTop (normIn rnd v) = normTop rnd v := by
  cases v with
  | flt q => exact minFlt_fixed tupTop (fun _ => rfl) (fun _ => rfl) rnd q
  | _ => rfl

theorem tupTop_wire (rnd : Rat → Rat) (v : Val) : tupTop (wire rnd v) = normTop rnd v := by
  rw [wire, wire_eq_normIn, tupTop_normIn]

/-- `list2tuple(params)`: the top-level conversion applied to every value of a params record -/
def tupRow (r : Row) : Row := r.map (fun kv => (kv.1, tupTop kv.2))

theorem tupRow_wireDict (rnd : Rat → Rat) (p : PyDict) : tupRow (wireDict rnd p) = normParams rnd p := by
  induction p with
  | nil => rfl
  | cons kv p ih =>
    obtain ⟨k, v⟩ := kv
    simp only [wireDict, normParams, tupRow, List.map_cons, tupTop_wire] at ih ⊢
    rw [ih]

/-! ### minimize is idempotent -/

theorem minimize_minFlt (rnd : Rat → Rat) (q : Rat) (h : rnd (rnd q) = rnd q) :
    minimize rnd (minFlt rnd q) = minFlt rnd q := by
  rcases minFlt_cases rnd q with ⟨i, e⟩ | ⟨e, hd⟩
  · rw [e]; rfl
  · -- a rounded float that is not integral is rounded again, to itself
    rw [e]
    show minFlt rnd (rnd q) = _
    rw [minFlt, if_neg hd, h, if_neg hd]

mutual
theorem minimize_idem (rnd : Rat → Rat) : ∀ v : Val, (∀ q ∈ fltLeaves v, rnd (rnd q) = rnd q) →
    minimize rnd (minimize rnd v) = minimize rnd v
  | .flt q, h => minimize_minFlt rnd q (h q (List.mem_singleton_self q))
  | .list xs, h => congrArg Val.list (minimizeL_idem rnd xs h)
  | .tup xs, h => congrArg Val.list (minimizeL_idem rnd xs h)
  | .dict kvs, h => congrArg Val.dict (minimizeD_idem rnd kvs h)
  | .none, _ => rfl
  | .bool _, _ => rfl
  | .int _, _ => rfl
  | .nan, _ => rfl
  | .inf _, _ => rfl
  | .str _, _ => rfl
  | .reward _ _, _ => rfl
theorem minimizeL_idem (rnd : Rat → Rat) : ∀ xs : List Val, (∀ q ∈ fltLeavesL xs, rnd (rnd q) = rnd q) →
    minimizeL rnd (minimizeL rnd xs) = minimizeL rnd xs
  | [], _ => rfl
  | x :: xs, h => congrArg₂ List.cons (minimize_idem rnd x (fun q hq => h q (List.mem_append_left _ hq)))
      (minimizeL_idem rnd xs (fun q hq => h q (List.mem_append_right _ hq)))
theorem minimizeD_idem (rnd : Rat → Rat) : ∀ kvs : PyDict, (∀ q ∈ fltLeavesD kvs, rnd (rnd q) = rnd q) →
    minimizeD rnd (minimizeD rnd kvs) = minimizeD rnd kvs
  | [], _ => rfl
  | (k, v) :: kvs, h => congrArg₂ (fun a b => (k, a) :: b) (minimize_idem rnd v (fun q hq => h q (List.mem_append_left _ hq)))
      (minimizeD_idem rnd kvs (fun q hq => h q (List.mem_append_right _ hq)))
end

/-! ### one evaluation: packing and unpacking -/

/-- `packWith` with any cell function in place of `cellOf`: every stage of the reader maps a packing of this form to another one -/
def packF (g : String → PyDict → Val) (keys : List String) (rows : List PyDict) : Cols :=
  keys.map (fun s => (s, rows.map (g s)))

theorem unpackN_packF (g : String → PyDict → Val) (keys : List String) (rows : List PyDict) :
    unpackN rows.length (packF g keys rows) = rows.map (fun r => keys.map (fun s => (s, g s r))) := by
  induction rows with
  | nil => simp [unpackN]
  | cons r rs ih =>
    simp only [List.length_cons, unpackN, List.map_cons]
    congr 1
    · simp [heads, packF]
    · have : tails (packF g keys (r :: rs)) = packF g keys rs := by simp [tails, packF]
      rw [this, ih]

theorem packWith_eq (keys : List String) (rows : List PyDict) : packWith keys rows = packF cellOf keys rows := rfl

theorem wireCols_packF (rnd : Rat → Rat) (g) (keys : List String) (rows : List PyDict) :
    wireCols rnd (packF g keys rows) = packF (fun s r => wire rnd (g s r)) keys rows := by
  simp [wireCols, packF, Function.comp_def]

theorem tupleColsPerCell_packF (g) (keys : List String) (rows : List PyDict) :
    tupleColsPerCell (packF g keys rows) = packF (fun s r => if s = "rewards" then g s r else tupTop (g s r)) keys rows := by
  simp only [tupleColsPerCell, packF, List.map_map]
  apply List.map_congr_left
  intro s _
  by_cases h : s = "rewards" <;> simp [h, Function.comp_def]

theorem filter_packF (p : String → Bool) (g) (keys : List String) (rows : List PyDict) :
    (packF g keys rows).filter (fun c => p c.1) = packF g (keys.filter p) rows := by
  simp [packF, List.filter_map, Function.comp_def]

theorem firstLen_packF (g) (keys : List String) (rows : List PyDict) (h : keys ≠ []) :
    firstLen (packF g keys rows) = rows.length := by
  cases keys with
  | nil => exact absurd rfl h
  | cons k ks => simp [packF, firstLen]

theorem normCell_eq (rnd : Rat → Rat) (s : String) (c : Val) :
    (if s = "rewards" then wire rnd c else tupTop (wire rnd c)) = normCell rnd s c := by
  rw [tupTop_wire, wire, wire_eq_normIn]
  rfl

theorem wireCols_pack_isEmpty (rnd : Rat → Rat) (rows : List PyDict) :
    (wireCols rnd (pack rows)).isEmpty = (strKeys rows).isEmpty := by
  simp [pack, packWith, wireCols]

theorem triRows_pack (rnd : Rat → Rat) (e l v : Int) (rows : List PyDict) (n : Nat) (h : strKeys rows ≠ []) :
    triRows true e l v (wireCols rnd (pack rows)) n = .ok (specRows rnd e l v rows) := by
  have hne : (wireCols rnd (pack rows)).isEmpty = false := by rwa [wireCols_pack_isEmpty, List.isEmpty_eq_false_iff]
  simp only [triRows, hne, tupleCols, if_true, Bool.false_eq_true, if_false]
  simp only [pack, packWith_eq, wireCols_packF, tupleColsPerCell_packF, firstLen_packF _ _ _ h]
  rw [filter_packF (fun s => !idCols.contains s), unpackN_packF]
  simp only [specRows, normCell_eq]
  rfl

theorem triRows_packedOf (rnd : Rat → Rat) (e l v : Int) (rows : List PyDict) :
    triRows true e l v (packedOf rnd true rows).1 (packedOf rnd true rows).2 = .ok (specRows rnd e l v rows) := by
  by_cases h : strKeys rows = []
  · have he : (wireCols rnd (pack rows)).isEmpty = true := by rw [wireCols_pack_isEmpty, h]; rfl
    simp only [packedOf, if_true, he, triRows, specRows, h]
    -- `normRow rnd []` is constantly `[]`
    exact congrArg (fun rs => Except.ok (number e l v 1 rs)) (List.map_const' (l := rows) (b := ([] : Row))).symm
  · simp only [packedOf, if_true]
    exact triRows_pack rnd e l v rows _ h

theorem number_length (e l v : Int) (i : Nat) (rs : List Row) : (number e l v i rs).length = rs.length := by
  induction rs generalizing i with
  | nil => simp [number]
  | cons r rs ih => simp [number, ih]

theorem lookup_index_idCells (e l v : Int) (i : Nat) (r : Row) :
    (idCells e l v i ++ r).lookup "index" = some (Val.int i) := by
  simp [idCells, List.lookup]

theorem number_index (e l v : Int) (i : Nat) (rs : List Row) :
    (number e l v i rs).map (fun r => r.lookup "index") = (List.range' i rs.length).map (fun (j : Nat) => some (Val.int (j : Int))) := by
  induction rs generalizing i with
  | nil => simp [number]
  | cons r rs ih =>
    simp only [number, List.map_cons, List.length_cons, List.range'_succ, lookup_index_idCells, ih]

theorem number_ids (e l v : Int) (i : Nat) (rs : List Row) :
    ∀ r ∈ number e l v i rs, r.lookup "environment_id" = some (Val.int e) ∧ r.lookup "learner_id" = some (Val.int l)
      ∧ r.lookup "evaluator_id" = some (Val.int v) := by
  induction rs generalizing i with
  | nil => simp [number]
  | cons r rs ih =>
    intro x hx
    simp only [number, List.mem_cons] at hx
    rcases hx with rfl | hx
    · simp [idCells, List.lookup]
    · exact ih _ x hx

/-! ### the first-row decision (`tupleColsFirstRow`) -/

theorem mapTuple_all_list (col : List Val) (h : col.all isList = true) : mapTuple col = .ok (col.map tupTop) := by
  induction col with
  | nil => simp [mapTuple]
  | cons c cs ih =>
    simp only [List.all_cons, Bool.and_eq_true] at h
    obtain ⟨hc, hcs⟩ := h
    cases c <;> simp [isList] at hc
    simp [mapTuple, pyTuple, ih hcs, tupTop]

theorem map_tupTop_no_list (col : List Val) (h : col.all (fun c => !isList c) = true) : col.map tupTop = col := by
  induction col with
  | nil => simp
  | cons c cs ih =>
    simp only [List.all_cons, Bool.and_eq_true] at h
    obtain ⟨hc, hcs⟩ := h
    cases c <;> simp [isList] at hc <;> simp [tupTop, ih hcs]

/-! ### `packAsIs` agrees with `pack` when `str` is injective on the field names -/

theorem mem_insertKey (x : Key) (acc : List Key) (k : Key) : k ∈ insertKey x acc ↔ k ∈ acc ∨ k = x := by
  unfold insertKey
  split
  · rename_i hx
    have hm : x ∈ acc := by simpa using hx
    exact ⟨Or.inl, fun h => h.elim id (fun e => e ▸ hm)⟩
  · simp

theorem nodup_insertKey (x : Key) (acc : List Key) (h : acc.Nodup) : (insertKey x acc).Nodup := by
  unfold insertKey
  split
  · exact h
  · rename_i hx
    have hm : x ∉ acc := by simpa using hx
    exact List.Nodup.append h (List.nodup_singleton _) (List.disjoint_singleton.mpr hm)

theorem foldl_insertKey_mem (l : List Key) (acc : List Key) (k : Key) :
    k ∈ l.foldl (fun acc k => insertKey k acc) acc ↔ k ∈ acc ∨ k ∈ l := by
  induction l generalizing acc with
  | nil => simp
  | cons x xs ih => rw [List.foldl_cons, ih, mem_insertKey, List.mem_cons, or_assoc]

theorem foldl_insertKey_nodup (l : List Key) (acc : List Key) (h : acc.Nodup) :
    (l.foldl (fun acc k => insertKey k acc) acc).Nodup := by
  induction l generalizing acc with
  | nil => simpa
  | cons x xs ih =>
    simp only [List.foldl_cons]
    exact ih _ (nodup_insertKey x acc h)

theorem mem_unionKeys (rows : List PyDict) (k : Key) :
    k ∈ unionKeys rows ↔ ∃ r ∈ rows, k ∈ r.map (·.1) := by
  simp only [unionKeys, foldl_insertKey_mem, List.mem_flatMap, List.not_mem_nil, false_or]

theorem nodup_unionKeys (rows : List PyDict) : (unionKeys rows).Nodup :=
  foldl_insertKey_nodup _ [] (by simp)

theorem pystr_sortByStr_unionKeys (rows : List PyDict) (hc : NoStrCollision rows) :
    (sortByStr (unionKeys rows)).map Key.pystr = strKeys rows := by
  have hperm := sortByStr_perm (unionKeys rows)
  have hsnd : ((sortByStr (unionKeys rows)).map Key.pystr).Nodup :=
    (List.nodup_map_iff_inj_on (hperm.nodup_iff.mpr (nodup_unionKeys rows))).mpr
      (fun a ha b hb e => hc a (hperm.mem_iff.mp ha) b (hperm.mem_iff.mp hb) e)
  apply List.Perm.eq_of_pairwise (le := (· < ·))
  · intro a b _ _ h1 h2; exact absurd h2 (lt_asymm h1)
  · have hs := (List.pairwise_map.mpr (sortByStr_sorted (unionKeys rows)))
    exact (hs.and hsnd).imp (fun h => lt_of_le_of_ne h.1 h.2)
  · exact sortDedup_sorted _
  · apply (List.perm_ext_iff_of_nodup hsnd (sortDedup_nodup _)).mpr
    intro s
    simp only [sortDedup_mem, List.mem_map, List.mem_flatMap, rowStrs]
    constructor
    · rintro ⟨k, hk, rfl⟩
      obtain ⟨r, hr', hkr⟩ := (mem_unionKeys rows k).mp (hperm.mem_iff.mp hk)
      obtain ⟨kv, hkv, rfl⟩ := List.mem_map.mp hkr
      exact ⟨r, hr', kv, hkv, rfl⟩
    · rintro ⟨r, hr', kv, hkv, rfl⟩
      exact ⟨kv.1, hperm.mem_iff.mpr ((mem_unionKeys rows kv.1).mpr ⟨r, hr', List.mem_map_of_mem hkv⟩), rfl⟩

theorem lookupLast_none (s : String) (row : PyDict) (h : ∀ kv ∈ row, kv.1.pystr ≠ s) : lookupLast s row = none := by
  induction row with
  | nil => simp [lookupLast]
  | cons kv r ih =>
    obtain ⟨k, v⟩ := kv
    have h1 : k.pystr ≠ s := h (k, v) (by simp)
    simp [lookupLast, ih (fun kv hkv => h kv (by simp [hkv])), h1]

theorem cellOf_eq_rowGet (k : Key) (row : PyDict) (hnd : (row.map (·.1)).Nodup)
    (hinj : ∀ kv ∈ row, kv.1.pystr = k.pystr → kv.1 = k) : cellOf k.pystr row = rowGet k row := by
  unfold cellOf rowGet
  induction row with
  | nil => simp [lookupLast]
  | cons kv r ih =>
    obtain ⟨k', v⟩ := kv
    simp only [List.map_cons, List.nodup_cons] at hnd
    by_cases hk : k' = k
    · subst hk
      have hnone : lookupLast k'.pystr r = none := by
        apply lookupLast_none
        intro kv hkv e
        have := hinj kv (by simp [hkv]) e
        exact hnd.1 (this ▸ List.mem_map_of_mem (f := (·.1)) hkv)
      simp [lookupLast, hnone, List.lookup]
    · have hne : ¬ k'.pystr = k.pystr := fun e => hk (hinj (k', v) (by simp) e)
      have hb : (k == k') = false := by simpa using fun e : k = k' => hk e.symm
      have ih' := ih hnd.2 (fun kv hkv => hinj kv (by simp [hkv]))
      simp only [lookupLast, hne, if_false, List.lookup, hb]
      cases hl : lookupLast k.pystr r <;> simp [hl] at ih' ⊢ <;> exact ih'

/-! ### the params tables of a log -/

/-- `rows[id]` of a `defaultdict(dict)` -/
def getRow (o : Option Row) : Row := match o with | some r => r | none => []

theorem foldl_some_getRow {ι : Type} (step : Row → ι → Row) (l : List ι) (hne : l ≠ []) (o : Option Row) :
    l.foldl (fun o x => some (step (getRow o) x)) o = some (l.foldl step (getRow o)) := by
  have hs : ∀ (l : List ι) (r : Row), l.foldl (fun o x => some (step (getRow o) x)) (some r) = some (l.foldl step r) := by
    intro l
    induction l with
    | nil => intro r; rfl
    | cons x xs ih => intro r; exact ih _
  cases l with
  | nil => exact absurd rfl hne
  | cons x xs => exact hs xs _

/-- `rows[id].update(list2tuple(params))`, as a function of the entry `rows.get(id)` -/
def mergeParams (o : Option Row) (p : Row) : Row := update (getRow o) (tupRow p)

/-- `rows[id].update(params)` as the specification sees it: the params normalised -/
def mergeNorm (rnd : Rat → Rat) (o : Option Row) (p : PyDict) : Row := update (getRow o) (normParams rnd p)

theorem compRows_eq (t : Tbl) (recs : List Rec) : compRows t recs = sortBy ltId (accum mergeParams (compsOf t recs) []) := rfl

theorem compsOf_encode (rnd : Rat → Rat) (f : Bool) (t : Tbl) (txs : List Tx) :
    compsOf t (txs.map (encodeTx rnd f)) = (paramsOf t txs).map (fun ip => (ip.1, wireDict rnd ip.2)) := by
  induction txs with
  | nil => rfl
  | cons tx txs ih =>
    cases tx with
    | t0 _ | t4 _ _ => exact ih
    | t1 id p => cases t with | E => exact congrArg (List.cons _) ih | _ => exact ih
    | t2 id p => cases t with | L => exact congrArg (List.cons _) ih | _ => exact ih
    | t3 id p => cases t with | V => exact congrArg (List.cons _) ih | _ => exact ih

theorem compRows_encode (rnd : Rat → Rat) (f : Bool) (t : Tbl) (txs : List Tx) :
    compRows t (txs.map (encodeTx rnd f)) = sortBy ltId (accum (mergeNorm rnd) (paramsOf t txs) []) := by
  rw [compRows_eq, compsOf_encode, accum_map]
  simp only [mergeParams, tupRow_wireDict]
  rfl

theorem wireDict_keys (rnd : Rat → Rat) (p : PyDict) : (wireDict rnd p).map (·.1) = p.map (·.1.json) := by
  induction p with
  | nil => simp [wireDict]
  | cons kv p ih => obtain ⟨k, v⟩ := kv; simp [wireDict, ih]

theorem normParams_keys (rnd : Rat → Rat) (p : PyDict) : (normParams rnd p).map (·.1) = p.map (·.1.json) := by
  induction p with
  | nil => simp [normParams]
  | cons kv p ih => obtain ⟨k, v⟩ := kv; simp [normParams, ih]

theorem update_idCol_mergeNorm (rnd : Rat → Rat) (c : String × Val) (p : PyDict)
    (h1 : (p.map (·.1.json)).Nodup) (h2 : c.1 ∉ p.map (·.1.json)) :
    update [c] (mergeNorm rnd none p) = c :: normParams rnd p := by
  have hn : ((normParams rnd p).map (·.1)).Nodup := by rw [normParams_keys]; exact h1
  rw [mergeNorm, getRow, update_disjoint [] _ hn (fun _ _ => List.not_mem_nil), List.nil_append, update_disjoint [c] _ hn]
  · rfl
  · intro k hk
    rw [normParams_keys] at hk
    exact fun e => h2 ((List.mem_singleton.mp e : k = c.1) ▸ hk)

theorem compTable_encode (rnd : Rat → Rat) (f : Bool) (t : Tbl) (txs : List Tx)
    (hid : ((paramsOf t txs).map (·.1)).Nodup)
    (hk : ∀ ip ∈ paramsOf t txs, (ip.2.map (·.1.json)).Nodup ∧ idColName t ∉ ip.2.map (·.1.json)) :
    compTable t (txs.map (encodeTx rnd f)) = specParams rnd t txs := by
  unfold compTable specParams
  rw [compRows_encode, accum_of_fresh _ _ hid [] (fun _ _ => List.not_mem_nil), List.nil_append,
    sortBy_map (fun ip : Int × PyDict => (ip.1, mergeNorm rnd none ip.2)) ltIdP ltId (fun _ _ => rfl), List.map_map]
  refine List.map_congr_left fun ip hip => ?_
  obtain ⟨h1, h2⟩ := hk ip ((sortBy_perm ltIdP _).mem_iff.mp hip)
  exact update_idCol_mergeNorm rnd (idColName t, .int ip.1) ip.2 h1 h2

/-! ### the interactions table of a log -/

theorem intersOf_encode (rnd : Rat → Rat) (f : Bool) (txs : List Tx) :
    intersOf (txs.map (encodeTx rnd f)) = (t4sOf txs).map (fun ir => (ir.1, packedOf rnd f ir.2)) := by
  induction txs with
  | nil => rfl
  | cons tx txs ih =>
    cases tx with
    | t4 ids rows => exact congrArg (List.cons _) ih
    | _ => exact ih

/-- the interaction records under the key `int_rows` files them by -/
def keyed (l : List (List Int × Packed)) : List (List Int × Packed) := l.map (fun ic => (triKey ic.1, ic.2))

theorem interRecs_eq (recs : List Rec) : interRecs recs = sortBy ltTri (lastWins (keyed (intersOf recs))) := by
  unfold interRecs lastWins keyed
  rw [List.foldl_map]
  rfl

theorem keyed_of_wf (l : List (List Int × Packed)) (h : ∀ ic ∈ l, ic.1.length = 3) : keyed l = l :=
  (List.map_congr_left fun ic hic => by rw [triKey, h ic hic]; rfl).trans (List.map_id l)

theorem interRecs_encode (rnd : Rat → Rat) (f : Bool) (txs : List Tx) (hw : ∀ ir ∈ t4sOf txs, WellFormed ir) :
    interRecs (txs.map (encodeTx rnd f))
      = (sortBy ltTriP (lastWins (t4sOf txs))).map (fun ir => (ir.1, packedOf rnd f ir.2)) := by
  have h3 : ∀ ic ∈ (t4sOf txs).map (fun ir => (ir.1, packedOf rnd f ir.2)), ic.1.length = 3 := by
    intro ic hic
    obtain ⟨ir, hir, rfl⟩ := List.mem_map.mp hic
    exact hw ir hir
  rw [interRecs_eq, intersOf_encode, keyed_of_wf _ h3, lastWins_map (fun rows => packedOf rnd f rows),
    sortBy_map (fun ir : List Int × List PyDict => (ir.1, packedOf rnd f ir.2)) ltTriP ltTri (fun _ _ => rfl)]

theorem interGroups_flatten (fixed : Bool) (l : List (List Int × Packed)) :
    interTable fixed l = (interGroups fixed l).map List.flatten := by
  induction l with
  | nil => rfl
  | cons ic rest ih =>
    obtain ⟨ids, cols, n⟩ := ic
    match ids with
    | [e, l', v] =>
      simp only [interTable, interGroups, ih]
      cases triRows fixed e l' v cols n with
      | error _ => cases interGroups fixed rest <;> rfl
      | ok rows =>
        cases interGroups fixed rest with
        | error _ => rfl
        | ok more => cases rows <;> rfl
    | [] | [_] | [_, _] | _ :: _ :: _ :: _ :: _ => rfl

theorem interGroups_spec (rnd : Rat → Rat) (l : List (List Int × List PyDict)) (h : ∀ ir ∈ l, WellFormed ir) :
    interGroups true (l.map (fun ir => (ir.1, packedOf rnd true ir.2)))
      = .ok ((l.map (specRowsOf rnd)).filter (fun g => !g.isEmpty)) := by
  induction l with
  | nil => simp [interGroups]
  | cons ir l ih =>
    obtain ⟨ids, rows⟩ := ir
    have h3 : ids.length = 3 := h (ids, rows) (by simp)
    match ids, h3 with
    | [e, l', v], _ =>
      simp only [List.map_cons, interGroups, triRows_packedOf rnd e l' v rows, ih (fun x hx => h x (by simp [hx])), specRowsOf,
        List.filter_cons]
      by_cases hr : (specRows rnd e l' v rows).isEmpty <;> simp [hr]

theorem groups_encode_lw (rnd : Rat → Rat) (txs : List Tx) (hw : ∀ ir ∈ t4sOf txs, WellFormed ir) :
    interGroups true (interRecs (txs.map (encodeTx rnd true)))
      = .ok (((sortBy ltTriP (lastWins (t4sOf txs))).map (specRowsOf rnd)).filter (fun g => !g.isEmpty)) := by
  rw [interRecs_encode rnd true txs hw]
  exact interGroups_spec rnd _ (fun ir hir => hw ir (mem_lastWins _ _ ((sortBy_perm ltTriP _).mem_iff.mp hir)))

/-! ### whole logs -/

set_option linter.unusedVariables false in
theorem intersOf_skip (info : PyDict) (rnd : Rat → Rat) (f : Bool) (txs : List Tx) :
    t4sOf (.t0 info :: txs) = t4sOf txs := rfl

theorem params_of_t0 (t : Tbl) (info : PyDict) (txs : List Tx) : paramsOf t (.t0 info :: txs) = paramsOf t txs := rfl

theorem fileAfter_append (rnd : Rat → Rat) (f : Bool) (info : PyDict) (txs₁ txs₂ : List Tx) :
    fileAfter rnd f info none txs₁ ++ encode rnd f true txs₂ = fileAfter rnd f info none (txs₁ ++ txs₂) := by
  simp [fileAfter, encode]

theorem runNoFile_eq (rnd : Rat → Rat) (fe fr : Bool) (info : PyDict) (txs : List Tx) :
    runNoFile rnd fe fr info txs = readLog fr (.version 4 :: (Tx.t0 info :: txs).map (encodeTx rnd fe)) := rfl

/-- What `TransactionResult` has collected from the records of a version-4 log, sorted and unpacked: the Result (`readLog`) and the
padded tables (`tablesOf`) are two views of it. -/
structure Collected where
  experiment : Row
  environments : List Row
  learners : List Row
  evaluators : List Row
  groups : List (List Row)

def Collected.result (c : Collected) : Result where
  experiment := c.experiment
  environments := c.environments
  learners := c.learners
  evaluators := c.evaluators
  interactions := c.groups.flatten

def Collected.tables (c : Collected) : List PTable :=
  [padTable [idColName .E] (nonEmptyGroup c.environments), padTable [idColName .L] (nonEmptyGroup c.learners),
   padTable [idColName .V] (nonEmptyGroup c.evaluators), padTable idCols c.groups]

def collect (fr : Bool) (recs : List Rec) : Except Err Collected :=
  (interGroups fr (interRecs recs)).map fun groups =>
    ⟨lastExperiment recs, compTable .E recs, compTable .L recs, compTable .V recs, groups⟩

theorem readLog_eq_collect (fr : Bool) (recs : List Rec) :
    readLog fr (.version 4 :: recs) = (collect fr recs).map Collected.result := by
  rw [readLog, if_neg (not_not.mpr rfl), interGroups_flatten, collect]
  cases interGroups fr (interRecs recs) <;> rfl

theorem tablesOf_eq_collect (fr : Bool) (recs : List Rec) :
    tablesOf fr (.version 4 :: recs) = (collect fr recs).map Collected.tables := by
  rw [tablesOf, if_neg (not_not.mpr rfl), collect]
  cases interGroups fr (interRecs recs) <;> rfl

theorem collect_ok (fr : Bool) (recs : List Rec) (g : List (List Row)) (h : interGroups fr (interRecs recs) = .ok g) :
    collect fr recs = .ok ⟨lastExperiment recs, compTable .E recs, compTable .L recs, compTable .V recs, g⟩ := by
  rw [collect, h]
  rfl

theorem readLog_ok_version4 (fr : Bool) (file : List Rec) (res : Result) (h : readLog fr file = .ok res) :
    ∃ recs, file = .version 4 :: recs := by
  match file, h with
  | .version n :: recs, h =>
    by_cases hn : n = 4
    · exact ⟨recs, by rw [hn]⟩
    · rw [readLog, if_pos hn] at h; cases h

theorem lastExperiment_encode (rnd : Rat → Rat) (f : Bool) (info : PyDict) (txs : List Tx) (h : ∀ m, Tx.t0 m ∉ txs) :
    lastExperiment ((Tx.t0 info :: txs).map (encodeTx rnd f)) = wireDict rnd info := by
  -- the preamble's record sets the accumulator; no later record is an experiment record
  have keep : ∀ (txs : List Tx) (acc : Row), (∀ m, Tx.t0 m ∉ txs) →
      (txs.map (encodeTx rnd f)).foldl (fun acc r => match r with | .experiment d => d | _ => acc) acc = acc := by
    intro txs
    induction txs with
    | nil => intro _ _; rfl
    | cons tx txs ih =>
      intro acc h
      cases tx with
      | t0 m => exact absurd (List.mem_cons_self ..) (h m)
      | _ => exact ih acc (fun m hm => h m (List.mem_cons_of_mem _ hm))
  exact keep txs _ h

theorem run_wellFormed (rnd : Rat → Rat) (info : PyDict) (txs : List Tx) (hw : ∀ ir ∈ t4sOf txs, WellFormed ir) :
    runNoFile rnd true true info txs = .ok {
      experiment := lastExperiment ((Tx.t0 info :: txs).map (encodeTx rnd true))
      environments := compTable .E ((Tx.t0 info :: txs).map (encodeTx rnd true))
      learners := compTable .L ((Tx.t0 info :: txs).map (encodeTx rnd true))
      evaluators := compTable .V ((Tx.t0 info :: txs).map (encodeTx rnd true))
      interactions := specInteractionsLW rnd txs } := by
  rw [runNoFile_eq, readLog_eq_collect, collect_ok _ _ _ (groups_encode_lw rnd (.t0 info :: txs) hw)]
  show Except.ok _ = _
  rw [Collected.result, flatten_groups]
  rfl

theorem collect_clean (rnd : Rat → Rat) (info : PyDict) (txs : List Tx) (hc : CleanRun txs) :
    collect true ((Tx.t0 info :: txs).map (encodeTx rnd true))
      = .ok ⟨wireDict rnd info, specParams rnd .E txs, specParams rnd .L txs, specParams rnd .V txs, specGroups rnd txs⟩ := by
  have hp := fun t => compTable_encode rnd true t (.t0 info :: txs) (hc.idNodup t) (hc.keysOk t)
  rw [collect_ok _ _ _ (groups_encode_lw rnd (.t0 info :: txs) hc.wf), lastWins_of_nodup (t4sOf (.t0 info :: txs)) hc.triNodup,
    lastExperiment_encode rnd true info txs hc.noT0, hp .E, hp .L, hp .V]
  rfl

theorem Collected.result_clean (rnd : Rat → Rat) (info : PyDict) (txs : List Tx) :
    Collected.result ⟨wireDict rnd info, specParams rnd .E txs, specParams rnd .L txs, specParams rnd .V txs, specGroups rnd txs⟩
      = specResult rnd info txs :=
  congrArg (Result.mk _ _ _ _) (flatten_groups _ _)

theorem Collected.tables_clean (rnd : Rat → Rat) (e : Row) (txs : List Tx) :
    Collected.tables ⟨e, specParams rnd .E txs, specParams rnd .L txs, specParams rnd .V txs, specGroups rnd txs⟩ = specTables rnd txs := rfl

/-! ### the order of the transactions is immaterial -/

theorem paramsOf_cons (t : Tbl) (x : Tx) (txs : List Tx) : paramsOf t (x :: txs) = paramsOf t [x] ++ paramsOf t txs := by
  cases x with
  | t0 _ | t4 _ _ => rfl
  | t1 _ _ | t2 _ _ | t3 _ _ => cases t <;> rfl

theorem t4sOf_cons (x : Tx) (txs : List Tx) : t4sOf (x :: txs) = t4sOf [x] ++ t4sOf txs := by
  cases x <;> rfl

theorem paramsOf_perm (t : Tbl) (txs txs' : List Tx) (hp : txs.Perm txs') : (paramsOf t txs).Perm (paramsOf t txs') :=
  perm_of_cons_append (paramsOf t) rfl (paramsOf_cons t) hp

theorem t4sOf_perm (txs txs' : List Tx) (hp : txs.Perm txs') : (t4sOf txs).Perm (t4sOf txs') :=
  perm_of_cons_append t4sOf rfl t4sOf_cons hp

theorem sortBy_t4sOf_perm (txs txs' : List Tx) (hp : txs.Perm txs') (hnd : ((t4sOf txs).map (·.1)).Nodup) :
    sortBy ltTriP (t4sOf txs) = sortBy ltTriP (t4sOf txs') :=
  sortBy_eq_of_perm comparesKey_ltTriP _ _ (t4sOf_perm txs txs' hp) hnd

theorem specParams_perm (rnd : Rat → Rat) (t : Tbl) (txs txs' : List Tx) (hp : txs.Perm txs')
    (hnd : ((paramsOf t txs).map (·.1)).Nodup) : specParams rnd t txs = specParams rnd t txs' := by
  unfold specParams
  rw [sortBy_eq_of_perm comparesKey_ltIdP _ _ (paramsOf_perm t txs txs' hp) hnd]

theorem specResult_perm (rnd : Rat → Rat) (info : PyDict) (txs txs' : List Tx) (hp : txs.Perm txs') (hc : CleanRun txs) :
    specResult rnd info txs = specResult rnd info txs' := by
  simp only [specResult, specInteractions, specParams_perm rnd _ txs txs' hp (hc.idNodup _), sortBy_t4sOf_perm txs txs' hp hc.triNodup]

theorem specTables_perm (rnd : Rat → Rat) (txs txs' : List Tx) (hp : txs.Perm txs') (hc : CleanRun txs) :
    specTables rnd txs = specTables rnd txs' := by
  simp only [specTables, specGroups, specParams_perm rnd _ txs txs' hp (hc.idNodup _), sortBy_t4sOf_perm txs txs' hp hc.triNodup]

theorem cleanRun_perm (txs txs' : List Tx) (hp : txs.Perm txs') (hc : CleanRun txs) : CleanRun txs' where
  noT0 := fun m hm => hc.noT0 m (hp.mem_iff.mpr hm)
  wf := fun ir hir => hc.wf ir ((t4sOf_perm _ _ hp).mem_iff.mpr hir)
  triNodup := (((t4sOf_perm _ _ hp).map (·.1)).nodup_iff).mp hc.triNodup
  idNodup := fun t => (((paramsOf_perm t _ _ hp).map (·.1)).nodup_iff).mp (hc.idNodup t)
  keysOk := fun t ip hip => hc.keysOk t ip ((paramsOf_perm t _ _ hp).mem_iff.mpr hip)

/-! ### `Table`: column order and `Missing` padding -/

theorem addCols_mem (cols : List String) (g : List Row) (c : String) :
    c ∈ addCols cols g ↔ c ∈ cols ∨ ∃ r ∈ g, c ∈ rowKeys r := by
  unfold addCols
  simp only [List.mem_append, sortDedup_mem, List.mem_filter, List.mem_flatMap, Bool.not_eq_eq_eq_not, Bool.not_true,
    List.contains_eq_mem, decide_eq_false_iff_not]
  constructor
  · rintro (h | ⟨h, _⟩)
    · exact Or.inl h
    · exact Or.inr h
  · rintro (h | h)
    · exact Or.inl h
    · by_cases hc : c ∈ cols
      · exact Or.inl hc
      · exact Or.inr ⟨h, hc⟩

theorem addCols_nodup (cols : List String) (g : List Row) (h : cols.Nodup) : (addCols cols g).Nodup := by
  unfold addCols
  rw [List.nodup_append]
  refine ⟨h, sortDedup_nodup _, ?_⟩
  intro a ha b hb
  rw [sortDedup_mem, List.mem_filter] at hb
  rintro rfl
  simp at hb
  exact hb.2 ha

theorem tableCols_prefix (init : List String) (groups : List (List Row)) : init <+: tableCols init groups := by
  unfold tableCols
  induction groups generalizing init with
  | nil => simp
  | cons g gs ih =>
    simp only [List.foldl_cons]
    exact (List.prefix_append init _).trans (ih (addCols init g))

theorem tableCols_nodup (init : List String) (groups : List (List Row)) (h : init.Nodup) : (tableCols init groups).Nodup := by
  unfold tableCols
  induction groups generalizing init with
  | nil => simpa
  | cons g gs ih => simp only [List.foldl_cons]; exact ih _ (addCols_nodup init g h)

theorem tableCols_mem (init : List String) (groups : List (List Row)) (c : String) :
    c ∈ tableCols init groups ↔ c ∈ init ∨ ∃ g ∈ groups, ∃ r ∈ g, c ∈ rowKeys r := by
  unfold tableCols
  induction groups generalizing init with
  | nil => simp
  | cons g gs ih =>
    simp only [List.foldl_cons, ih, addCols_mem, List.mem_cons]
    constructor
    · rintro ((h | h) | ⟨g', hg', h⟩)
      · exact Or.inl h
      · exact Or.inr ⟨g, Or.inl rfl, h⟩
      · exact Or.inr ⟨g', Or.inr hg', h⟩
    · rintro (h | ⟨g', (rfl | hg'), h⟩)
      · exact Or.inl (Or.inl h)
      · exact Or.inl (Or.inr h)
      · exact Or.inr ⟨g', hg', h⟩

theorem rowKeys_subset_tableCols (init : List String) (groups : List (List Row)) {r : Row} (hr : r ∈ groups.flatten)
    {k : String} (hk : k ∈ rowKeys r) : k ∈ tableCols init groups := by
  obtain ⟨g, hg, hrg⟩ := List.mem_flatten.mp hr
  exact (tableCols_mem init groups k).mpr (Or.inr ⟨g, hg, r, hrg, hk⟩)

/-! ### `Result.__init__`: `full_name` -/

theorem cellAt_map (cols : List String) (f : String → Option Val) (c : String) :
    cellAt cols (cols.map f) c = if c ∈ cols then f c else none := by
  unfold cellAt
  rw [lookup_zip_map]
  by_cases h : c ∈ cols
  · rw [if_pos h, if_pos h]
    cases f c <;> rfl
  · rw [if_neg h, if_neg h]

theorem lrnNames_padTable (init : List String) (groups : List (List Row)) :
    lrnNames (padTable init groups)
      = groups.flatten.map (fun r => fullNameOf (padTable init groups).columns (fun c => r.lookup c)) := by
  simp only [lrnNames, padTable, List.map_map]
  apply List.map_congr_left
  intro r hr
  simp only [Function.comp]
  congr 1
  funext c
  rw [cellAt_map]
  split
  · rfl
  · rename_i hc
    -- a row has no value under a name that is no column
    exact (lookup_not_mem c r fun hk => hc (rowKeys_subset_tableCols init groups hr hk)).symm

theorem nameParams_mem (cols : List String) (get : String → Option Val) (hget : ∀ c v, get c = some v → c ∈ cols) (k : String) (v : Val) :
    (k, v) ∈ nameParams cols get ↔ (k ≠ "" ∧ k ≠ "family" ∧ k ≠ "learner_id" ∧ get k = some v) := by
  simp only [nameParams, List.mem_filterMap]
  constructor
  · rintro ⟨c, hc, h⟩
    split at h
    · cases h
    · rename_i hne
      simp only [not_or] at hne
      cases hg : get c with
      | none => simp [hg] at h
      | some w =>
        simp only [hg, Option.map_some, Option.some.injEq, Prod.mk.injEq] at h
        obtain ⟨rfl, rfl⟩ := h
        exact ⟨hne.1, hne.2.1, hne.2.2, hg⟩
  · rintro ⟨h1, h2, h3, hg⟩
    refine ⟨k, hget k v hg, ?_⟩
    simp [h1, h2, h3, hg]

theorem nameParams_sublist (cols : List String) (get : String → Option Val) :
    ((nameParams cols get).map (·.1)).Sublist cols := by
  unfold nameParams
  induction cols with
  | nil => simp
  | cons c cs ih =>
    simp only [List.filterMap_cons]
    split
    · exact ih.cons _
    · rename_i b hb
      split at hb
      · cases hb
      · cases hg : get c with
        | none => simp [hg] at hb
        | some w =>
          simp only [hg, Option.map_some, Option.some.injEq] at hb
          subst hb
          simpa using ih.cons_cons c

/-! ### record shapes (tag → shape) of encoder and reader as tables -/

theorem line_roundtrip_model (rnd : Rat → Rat) (fixed : Bool) (tx : Tx) :
    (encodeLine modelEncShapes rnd fixed tx).bind (decodeLine modelResShapes) = some (encodeTx rnd fixed tx) := by
  cases tx <;> rfl

theorem lines_roundtrip (enc : EncTable) (res : ResTable) (rnd : Rat → Rat) (fixed : Bool)
    (h : ∀ tx, (encodeLine enc rnd fixed tx).bind (decodeLine res) = some (encodeTx rnd fixed tx)) (txs : List Tx) :
    (encodeLines enc rnd fixed txs).bind (decodeLines res) = some (txs.map (encodeTx rnd fixed)) := by
  induction txs with
  | nil => rfl
  | cons tx txs ih =>
    have h1 := h tx
    simp only [encodeLines]
    cases he : encodeLine enc rnd fixed tx with
    | none => simp [he] at h1
    | some l =>
      cases hes : encodeLines enc rnd fixed txs with
      | none => simp [hes] at ih
      | some ls =>
        simp only [he, hes, Option.bind_some] at h1 ih ⊢
        simp only [decodeLines, h1, ih, List.map_cons]

theorem viaTables_eq (rnd : Rat → Rat) (fe fr : Bool) (info : PyDict) (txs : List Tx) :
    viaTables rnd fe fr info txs = some (runNoFile rnd fe fr info txs) := by
  have h := lines_roundtrip _ _ rnd fe (line_roundtrip_model rnd fe) (.t0 info :: txs)
  unfold viaTables
  cases he : encodeLines modelEncShapes rnd fe (.t0 info :: txs) with
  | none => simp [he] at h
  | some ls =>
    simp only [he, Option.bind_some] at h
    simp only [h, runNoFile, encode]
    rfl

/-! ### logs that record the same id several times: records of different keys may be reordered -/

theorem sameKeyOrder_refl (a : List Rec) : SameKeyOrder a a := fun _ => rfl
theorem sameKeyOrder_symm {a b : List Rec} (h : SameKeyOrder a b) : SameKeyOrder b a := fun k => (h k).symm
theorem sameKeyOrder_trans {a b c : List Rec} (h1 : SameKeyOrder a b) (h2 : SameKeyOrder b c) : SameKeyOrder a c :=
  fun k => (h1 k).trans (h2 k)

theorem pullKey_sameKeyOrder (k : RecKey) (recs : List Rec) : SameKeyOrder recs (pullKey k recs) := by
  intro k'
  unfold pullKey
  rw [List.filter_append, List.filter_filter, List.filter_filter]
  by_cases h : k' = k
  · subst h
    have h1 : (recs.filter (fun r => decide (recKey r = k') && !decide (recKey r = k'))) = [] := by
      apply List.filter_eq_nil_iff.mpr; intro r _; simp
    rw [h1, List.append_nil]
    congr 1; funext r; simp
  · have h1 : (recs.filter (fun r => decide (recKey r = k') && decide (recKey r = k))) = [] := by
      apply List.filter_eq_nil_iff.mpr; intro r _
      by_cases hr : recKey r = k'
      · simp [hr, h]
      · simp [hr]
    rw [h1, List.nil_append]
    congr 1; funext r
    by_cases hr : recKey r = k'
    · simp [hr, h]
    · simp [hr]

theorem sameKeyOrder_swap (p q : List Rec) (r s : Rec) (h : recKey r ≠ recKey s) :
    SameKeyOrder (p ++ r :: s :: q) (p ++ s :: r :: q) := by
  intro k
  simp only [List.filter_append, List.filter_cons]
  by_cases hr : recKey r = k
  · have hs : ¬ recKey s = k := fun e => h (hr.trans e.symm)
    simp [hr, hs]
  · simp [hr]

theorem compsOf_filter (t : Tbl) (id : Int) (recs : List Rec) :
    (compsOf t recs).filter (fun ip => decide (ip.1 = id)) = compsOf t (recs.filter (fun r => decide (recKey r = .comp t id))) := by
  induction recs with
  | nil => rfl
  | cons r rs ih =>
    cases r with
    | comp t' id' p =>
      by_cases ht : t' = t
      · subst ht
        by_cases hi : id' = id
        · subst hi; simp [compsOf, recKey, ih]
        · simp [compsOf, recKey, ih, hi]
      · simp [compsOf, recKey, ih, ht]
    | _ => exact ih

theorem intersOf_filter (k : List Int) (recs : List Rec) :
    (keyed (intersOf recs)).filter (fun ic => decide (ic.1 = k))
      = keyed (intersOf (recs.filter (fun r => decide (recKey r = .inter k)))) := by
  induction recs with
  | nil => rfl
  | cons r rs ih =>
    cases r with
    | inter ids c n =>
      unfold keyed at ih ⊢
      by_cases hk : triKey ids = k <;> simp [intersOf, recKey, ih, hk]
    | _ => exact ih

theorem compRows_sameKeyOrder (t : Tbl) (a b : List Rec) (h : SameKeyOrder a b) : compRows t a = compRows t b := by
  rw [compRows_eq, compRows_eq]
  refine sortBy_accum_congr comparesKey_ltId _ _ _ fun id => ?_
  rw [compsOf_filter, compsOf_filter, h (.comp t id)]

theorem interRecs_sameKeyOrder (a b : List Rec) (h : SameKeyOrder a b) : interRecs a = interRecs b := by
  rw [interRecs_eq, interRecs_eq, lastWins_eq_accum, lastWins_eq_accum]
  refine sortBy_accum_congr comparesKey_ltTri _ _ _ fun k => ?_
  rw [intersOf_filter, intersOf_filter, h (.inter k)]

theorem lastExperiment_filter (recs : List Rec) :
    lastExperiment recs = lastExperiment (recs.filter (fun r => decide (recKey r = .experiment))) := by
  unfold lastExperiment
  generalize ([] : Row) = acc
  induction recs generalizing acc with
  | nil => rfl
  | cons r rs ih => cases r <;> exact ih _

theorem lastExperiment_sameKeyOrder (a b : List Rec) (h : SameKeyOrder a b) : lastExperiment a = lastExperiment b := by
  rw [lastExperiment_filter a, lastExperiment_filter b, h .experiment]

theorem collect_sameKeyOrder (fr : Bool) (a b : List Rec) (h : SameKeyOrder a b) : collect fr a = collect fr b := by
  have hc (t : Tbl) : compTable t a = compTable t b := by unfold compTable; rw [compRows_sameKeyOrder t a b h]
  rw [collect, collect, interRecs_sameKeyOrder a b h, lastExperiment_sameKeyOrder a b h, hc .E, hc .L, hc .V]

end Coba.C07
