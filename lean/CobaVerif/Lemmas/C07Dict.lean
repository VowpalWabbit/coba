/-
C07 — facts about the list functions of the model that do not mention the log: insertion-ordered dictionaries (`List.lookup`,
`upsert`, and the loop `accum` that fills one, of which `update`, `lastWins` and the reader's merges are instances) and the
insertion sorts (`sortBy` and the comparisons the model calls it with, `sortDedup`).
-/
import CobaVerif.Model.C07
import Mathlib.Data.List.Nodup
import Mathlib.Data.List.Perm.Basic
import Mathlib.Data.String.Basic
import Mathlib.Data.List.Lex

namespace Coba.C07

/-! ### generic list lemmas -/

theorem perm_of_cons_append {α β : Type} (F : List α → List β) (h0 : F [] = [])
    (hc : ∀ a l, F (a :: l) = F [a] ++ F l) {l l' : List α} (hp : l.Perm l') : (F l).Perm (F l') := by
  have e : ∀ l, F l = l.flatMap (fun a => F [a]) := by
    intro l
    induction l with
    | nil => exact h0
    | cons a l ih => rw [hc, ih, List.flatMap_cons]
  rw [e l, e l']
  exact hp.flatMap_right _

theorem flatten_groups {α β : Type} (f : α → List β) (l : List α) :
    ((l.map f).filter (fun g => !g.isEmpty)).flatten = l.flatMap f := by
  rw [List.flatten_filter_not_isEmpty, List.flatMap_def]

theorem filter_image_eq_singleton {α β} [DecidableEq β] (f : α → β) (l : List α) (hnd : l.Nodup) (k : α) (hk : k ∈ l)
    (hinj : ∀ a ∈ l, f a = f k → a = k) : l.filter (fun a => decide (f a = f k)) = [k] := by
  induction l with
  | nil => simp at hk
  | cons x xs ih =>
    rw [List.nodup_cons] at hnd
    by_cases hx : x = k
    · subst hx
      have : xs.filter (fun a => decide (f a = f x)) = [] := by
        rw [List.filter_eq_nil_iff]
        intro a ha
        simp only [decide_eq_true_eq]
        intro e
        exact hnd.1 (hinj a (by simp [ha]) e ▸ ha)
      simp [this]
    · have hk' : k ∈ xs := by
        rcases List.mem_cons.mp hk with rfl | h
        · exact absurd rfl hx
        · exact h
      have hfx : ¬ f x = f k := fun e => hx (hinj x (by simp) e)
      simp only [List.filter_cons, hfx, decide_false, Bool.false_eq_true, if_false]
      exact ih hnd.2 hk' (fun a ha => hinj a (by simp [ha]))

theorem nodupB_iff {α} [DecidableEq α] (l : List α) : nodupB l = true ↔ l.Nodup := by
  induction l with
  | nil => simp [nodupB]
  | cons x xs ih => simp [nodupB, ih]

/-! ### `List.lookup` -/
section
variable {α β : Type} [BEq α] [LawfulBEq α]

theorem lookup_cons_ite [DecidableEq α] (k k₁ : α) (v₁ : β) (l : List (α × β)) :
    ((k₁, v₁) :: l).lookup k = if k = k₁ then some v₁ else l.lookup k := by
  by_cases h : k = k₁
  · subst h; simp [List.lookup]
  · have hb : (k == k₁) = false := by simpa using h
    simp [List.lookup, hb, h]

theorem lookup_zip_map [DecidableEq α] (f : α → β) (l : List α) (c : α) :
    (l.zip (l.map f)).lookup c = if c ∈ l then some (f c) else none := by
  induction l with
  | nil => rfl
  | cons d ds ih =>
    rw [List.map_cons, List.zip_cons_cons, lookup_cons_ite, ih]
    by_cases h : c = d
    · rw [if_pos h, if_pos (h ▸ List.mem_cons_self ..), h]
    · rw [if_neg h]
      exact if_congr ⟨List.mem_cons_of_mem d, fun hm => (List.mem_cons.mp hm).resolve_left h⟩ rfl rfl

theorem lookup_not_mem (k : α) (l : List (α × β)) (h : k ∉ l.map (·.1)) : l.lookup k = none := by
  rw [List.lookup_eq_none_iff]
  intro p hp
  rw [bne_iff_ne]
  rintro rfl
  exact h (List.mem_map_of_mem hp)

theorem mem_of_lookup (k : α) (v : β) (l : List (α × β)) (h : l.lookup k = some v) : (k, v) ∈ l := by
  obtain ⟨l₁, l₂, rfl, _⟩ := List.lookup_eq_some_iff.mp h
  simp

theorem mem_iff_lookup (l : List (α × β)) (hn : (l.map (·.1)).Nodup) (p : α × β) : p ∈ l ↔ l.lookup p.1 = some p.2 := by
  refine ⟨fun hp => ?_, mem_of_lookup p.1 p.2 l⟩
  induction l with
  | nil => cases hp
  | cons q l ih =>
    rw [List.map_cons, List.nodup_cons] at hn
    rcases List.mem_cons.mp hp with rfl | hp
    · exact List.lookup_cons_self
    · have hne : (p.1 == q.1) = false := beq_false_of_ne fun e => hn.1 (e ▸ List.mem_map_of_mem hp)
      rw [List.lookup_cons, hne]
      exact ih hn.2 hp

theorem perm_of_lookup_eq (a b : List (α × β))
    (ha : (a.map (·.1)).Nodup) (hb : (b.map (·.1)).Nodup) (h : ∀ k, a.lookup k = b.lookup k) : a.Perm b := by
  rw [List.perm_ext_iff_of_nodup (List.Nodup.of_map _ ha) (List.Nodup.of_map _ hb)]
  intro p
  rw [mem_iff_lookup a ha p, mem_iff_lookup b hb p, h]
end

/-! ### `upsert` and `accum`: a Python dict filled by `d[k] = …` -/
section
variable {α β γ : Type} [DecidableEq α]

theorem upsert_not_mem (k : α) (v : β) (l : List (α × β)) (h : k ∉ l.map (·.1)) : upsert k v l = l ++ [(k, v)] := by
  induction l with
  | nil => simp [upsert]
  | cons kv l ih =>
    obtain ⟨k', v'⟩ := kv
    simp only [List.map_cons, List.mem_cons, not_or] at h
    have hne : ¬ k' = k := fun e => h.1 e.symm
    simp [upsert, hne, ih h.2]

theorem upsert_map (f : β → γ) (k : α) (v : β) (l : List (α × β)) :
    upsert k (f v) (l.map (fun p => (p.1, f p.2))) = (upsert k v l).map (fun p => (p.1, f p.2)) := by
  induction l with
  | nil => simp [upsert]
  | cons p l ih =>
    obtain ⟨k', v'⟩ := p
    by_cases h : k' = k <;> simp [upsert, h, ih]

theorem foldl_upsert_map (f : β → γ) (l acc : List (α × β)) :
    (l.map (fun p => (p.1, f p.2))).foldl (fun a kv => upsert kv.1 kv.2 a) (acc.map (fun p => (p.1, f p.2)))
      = (l.foldl (fun a kv => upsert kv.1 kv.2 a) acc).map (fun p => (p.1, f p.2)) := by
  induction l generalizing acc with
  | nil => simp
  | cons p l ih => simp only [List.map_cons, List.foldl_cons, upsert_map, ih]

theorem lastWins_map (f : β → γ) (l : List (α × β)) :
    lastWins (l.map (fun p => (p.1, f p.2))) = (lastWins l).map (fun p => (p.1, f p.2)) :=
  foldl_upsert_map f l []

theorem lookup_upsert [BEq α] [LawfulBEq α] (k k' : α) (v : β) (l : List (α × β)) :
    (upsert k v l).lookup k' = if k' = k then some v else l.lookup k' := by
  induction l with
  | nil => simp only [upsert, lookup_cons_ite, List.lookup_nil]
  | cons p l ih =>
    obtain ⟨k₁, v₁⟩ := p
    by_cases h1 : k₁ = k
    · subst h1
      simp only [upsert, if_true, lookup_cons_ite]
      by_cases h : k' = k₁ <;> simp only [h, if_true, if_false]
    · simp only [upsert, h1, if_false, lookup_cons_ite, ih]
      by_cases h : k' = k₁
      · rw [if_pos h, if_neg (fun e => h1 (h.symm.trans e)), if_pos h]
      · rw [if_neg h, if_neg h]

theorem upsert_keys (k : α) (v : β) (l : List (α × β)) (hk : k ∈ l.map (·.1)) : (upsert k v l).map (·.1) = l.map (·.1) := by
  induction l with
  | nil => simp at hk
  | cons p l ih =>
    obtain ⟨k₁, v₁⟩ := p
    by_cases h1 : k₁ = k
    · simp [upsert, h1]
    · have hk' : k ∈ l.map (·.1) := by
        rcases List.mem_cons.mp hk with hk | hk
        · exact absurd hk.symm h1
        · exact hk
      simp [upsert, h1, ih hk']

theorem upsert_keys_nodup (k : α) (v : β) (l : List (α × β)) (h : (l.map (·.1)).Nodup) : ((upsert k v l).map (·.1)).Nodup := by
  by_cases hk : k ∈ l.map (·.1)
  · rw [upsert_keys k v l hk]; exact h
  · rw [upsert_not_mem k v l hk, List.map_append]
    exact List.Nodup.append h (List.nodup_singleton _) (List.disjoint_singleton.mpr hk)

variable [BEq α]

/-- `for k, v in l: d[k] = f(d.get(k), v)` on an insertion-ordered dictionary `d`. -/
def accum (f : Option β → γ → β) (l : List (α × γ)) (d : List (α × β)) : List (α × β) :=
  l.foldl (fun d kv => upsert kv.1 (f (d.lookup kv.1) kv.2) d) d

theorem accum_cons (f : Option β → γ → β) (kv : α × γ) (l : List (α × γ)) (d : List (α × β)) :
    accum f (kv :: l) d = accum f l (upsert kv.1 (f (d.lookup kv.1) kv.2) d) := rfl

theorem accum_map {δ : Type} (f : Option β → γ → β) (g : δ → γ) (l : List (α × δ)) (d : List (α × β)) :
    accum f (l.map (fun kx => (kx.1, g kx.2))) d = accum (fun o x => f o (g x)) l d :=
  List.foldl_map ..

theorem accum_keys_nodup (f : Option β → γ → β) (l : List (α × γ)) (d : List (α × β)) (h : (d.map (·.1)).Nodup) :
    ((accum f l d).map (·.1)).Nodup := by
  induction l generalizing d with
  | nil => exact h
  | cons kv l ih => exact ih _ (upsert_keys_nodup _ _ d h)

theorem lastWins_eq_accum (l : List (α × β)) : lastWins l = accum (fun _ v => v) l [] := rfl

variable [LawfulBEq α]

theorem accum_lookup (f : Option β → γ → β) (l : List (α × γ)) (d : List (α × β)) (k : α) :
    (accum f l d).lookup k = (l.filter (fun kv => kv.1 = k)).foldl (fun o kv => some (f o kv.2)) (d.lookup k) := by
  induction l generalizing d with
  | nil => rfl
  | cons kv l ih =>
    rw [accum_cons, ih, lookup_upsert]
    by_cases h : kv.1 = k
    · rw [List.filter_cons, if_pos (decide_eq_true h), List.foldl_cons, if_pos h.symm, h]
    · rw [List.filter_cons, if_neg (fun e : k = kv.1 => h e.symm), if_neg (by rw [decide_eq_true_eq]; exact h)]

theorem accum_of_fresh (f : Option β → γ → β) (l : List (α × γ)) (hnd : (l.map (·.1)).Nodup) (d : List (α × β))
    (hd : ∀ kv ∈ l, kv.1 ∉ d.map (·.1)) : accum f l d = d ++ l.map (fun kv => (kv.1, f none kv.2)) := by
  induction l generalizing d with
  | nil => exact (List.append_nil d).symm
  | cons kv l ih =>
    rw [List.map_cons, List.nodup_cons] at hnd
    have hk := hd kv (List.mem_cons_self ..)
    rw [accum_cons, lookup_not_mem kv.1 d hk, upsert_not_mem _ _ d hk, ih hnd.2, List.append_assoc]
    · rfl
    · intro y hy
      rw [List.map_append, List.mem_append, not_or]
      exact ⟨hd y (List.mem_cons_of_mem _ hy),
        fun e => hnd.1 ((List.mem_singleton.mp e : y.1 = kv.1) ▸ List.mem_map_of_mem hy)⟩

theorem lastWins_lookup (l : List (α × β)) (k : α) : (lastWins l).lookup k = l.reverse.lookup k := by
  have e : ∀ o : Option β, (l.filter (fun kv => kv.1 = k)).foldl (fun _ kv => some kv.2) o = (l.reverse.lookup k).or o := by
    induction l with
    | nil => intro o; rfl
    | cons kv l ih =>
      intro o
      rw [List.reverse_cons, List.lookup_append, Option.or_assoc, List.filter_cons]
      by_cases h : kv.1 = k
      · rw [if_pos (decide_eq_true h), List.foldl_cons, ih, ← h, List.lookup_cons_self]; rfl
      · rw [if_neg (by rw [decide_eq_true_eq]; exact h), ih, List.lookup_cons, beq_false_of_ne (fun e : k = kv.1 => h e.symm)]; rfl
  rw [lastWins_eq_accum, accum_lookup, e]
  exact Option.or_none

omit [BEq α] [LawfulBEq α]

theorem lastWins_keys_nodup (l : List (α × β)) : ((lastWins l).map (·.1)).Nodup :=
  accum_keys_nodup (fun _ v => v) l [] List.nodup_nil

theorem mem_lastWins (l : List (α × β)) (p : α × β) (h : p ∈ lastWins l) : p ∈ l := by
  have := (mem_iff_lookup _ (lastWins_keys_nodup l) p).mp h
  rw [lastWins_lookup] at this
  exact List.mem_reverse.mp (mem_of_lookup _ _ _ this)

theorem lastWins_of_nodup (l : List (α × β)) (h : (l.map (·.1)).Nodup) : lastWins l = l :=
  (accum_of_fresh (fun _ v => v) l h [] (fun _ _ => List.not_mem_nil)).trans (List.map_id l)
end

theorem update_disjoint (d r : Row) (hr : (r.map (·.1)).Nodup) (hd : ∀ k ∈ r.map (·.1), k ∉ d.map (·.1)) : update d r = d ++ r :=
  (accum_of_fresh (fun _ v => v) r hr d (fun kv hkv => hd kv.1 (List.mem_map_of_mem hkv))).trans
    (congrArg (d ++ ·) (List.map_id r))

/-! ### `sortBy`: insertion sort by a comparison that reads a key -/
section
variable {α β : Type}

theorem insertBy_map (f : α → β) (lt : α → α → Bool) (lt' : β → β → Bool) (h : ∀ a b, lt' (f a) (f b) = lt a b) (x : α) (l : List α) :
    insertBy lt' (f x) (l.map f) = (insertBy lt x l).map f := by
  induction l with
  | nil => simp [insertBy]
  | cons y ys ih =>
    simp only [List.map_cons, insertBy, h]
    split <;> simp [ih]

theorem sortBy_map (f : α → β) (lt : α → α → Bool) (lt' : β → β → Bool) (h : ∀ a b, lt' (f a) (f b) = lt a b) (l : List α) :
    sortBy lt' (l.map f) = (sortBy lt l).map f := by
  induction l with
  | nil => simp [sortBy]
  | cons x xs ih =>
    simp only [sortBy, List.map_cons, List.foldr_cons] at ih ⊢
    rw [ih, insertBy_map f lt lt' h]

theorem insertBy_perm (lt : α → α → Bool) (x : α) (l : List α) : (insertBy lt x l).Perm (x :: l) := by
  induction l with
  | nil => simp [insertBy]
  | cons y ys ih =>
    simp only [insertBy]
    split
    · exact List.Perm.refl _
    · exact (List.Perm.cons y ih).trans (List.Perm.swap x y ys)

theorem sortBy_perm (lt : α → α → Bool) (l : List α) : (sortBy lt l).Perm l := by
  induction l with
  | nil => simp [sortBy]
  | cons x xs ih =>
    simp only [sortBy, List.foldr_cons] at ih ⊢
    exact (insertBy_perm lt x _).trans (List.Perm.cons x ih)

/-- Stated with `≤` on both sides so that a strict comparison (`ltId`, `ltTri`) and a non-strict one (`sortByStr`'s) both qualify. -/
def ComparesKey {κ : Type} [LinearOrder κ] (key : α → κ) (lt : α → α → Bool) : Prop :=
  ∀ a b, (lt a b = true → key a ≤ key b) ∧ (lt a b = false → key b ≤ key a)

theorem comparesKey_of_lt_iff {κ : Type} [LinearOrder κ] {key : α → κ} {lt : α → α → Bool}
    (h : ∀ a b, lt a b = true ↔ key a < key b) : ComparesKey key lt :=
  fun a b => ⟨fun hp => ((h a b).mp hp).le, fun hp => not_lt.mp fun hab => Bool.false_ne_true (hp ▸ (h a b).mpr hab)⟩

variable {κ : Type} [LinearOrder κ] {key : α → κ} {lt : α → α → Bool} (hlt : ComparesKey key lt)
include hlt

theorem insertBy_sorted (x : α) (l : List α) (h : l.Pairwise (fun a b => key a ≤ key b)) :
    (insertBy lt x l).Pairwise (fun a b => key a ≤ key b) := by
  induction l with
  | nil => simp [insertBy]
  | cons y ys ih =>
    rw [List.pairwise_cons] at h
    simp only [insertBy]
    split
    · rename_i hxy
      refine List.pairwise_cons.mpr ⟨?_, List.pairwise_cons.mpr h⟩
      intro b hb
      rcases List.mem_cons.mp hb with rfl | hb
      · exact (hlt x b).1 hxy
      · exact ((hlt x y).1 hxy).trans (h.1 b hb)
    · rename_i hxy
      refine List.pairwise_cons.mpr ⟨?_, ih h.2⟩
      intro b hb
      rcases List.mem_cons.mp ((insertBy_perm lt x ys).mem_iff.mp hb) with rfl | hb
      · exact (hlt b y).2 (Bool.not_eq_true _ ▸ hxy)
      · exact h.1 b hb

theorem sortBy_sorted (l : List α) : (sortBy lt l).Pairwise (fun a b => key a ≤ key b) := by
  induction l with
  | nil => simp [sortBy]
  | cons x xs ih =>
    simp only [sortBy, List.foldr_cons] at ih ⊢
    exact insertBy_sorted hlt x _ ih

theorem sortBy_eq_of_perm (l l' : List α) (hp : l.Perm l') (hnd : (l.map key).Nodup) : sortBy lt l = sortBy lt l' := by
  apply List.Perm.eq_of_pairwise (le := fun a b => key a ≤ key b)
  · intro a b ha hb h1 h2
    exact List.inj_on_of_nodup_map hnd ((sortBy_perm lt l).mem_iff.mp ha) (hp.mem_iff.mpr ((sortBy_perm lt l').mem_iff.mp hb))
      (le_antisymm h1 h2)
  · exact sortBy_sorted hlt l
  · exact sortBy_sorted hlt l'
  · exact ((sortBy_perm lt l).trans hp).trans (sortBy_perm lt l').symm
end

theorem sortBy_accum_congr {κ β γ : Type} [LinearOrder κ] [DecidableEq κ] [BEq κ] [LawfulBEq κ] {lt : κ × β → κ × β → Bool} (hlt : ComparesKey (·.1) lt)
    (f : Option β → γ → β) (l l' : List (κ × γ)) (h : ∀ k, l.filter (fun kv => kv.1 = k) = l'.filter (fun kv => kv.1 = k)) :
    sortBy lt (accum f l []) = sortBy lt (accum f l' []) := by
  have hn := fun l : List (κ × γ) => accum_keys_nodup f l [] List.nodup_nil
  refine sortBy_eq_of_perm hlt _ _ (perm_of_lookup_eq _ _ (hn l) (hn l') fun k => ?_) (hn l)
  rw [accum_lookup, accum_lookup, h k]

theorem ltIds_iff (a b : List Int) : ltIds a b = true ↔ a < b := by
  induction a generalizing b with
  | nil => cases b <;> simp [ltIds]
  | cons x xs ih =>
    cases b with
    | nil => simp [ltIds]
    | cons y ys =>
      rw [ltIds, List.cons_lt_cons_iff]
      rcases lt_trichotomy x y with h | rfl | h
      · rw [if_pos h]; exact iff_of_true rfl (Or.inl h)
      · rw [if_neg (lt_irrefl x), if_neg (lt_irrefl x), ih]
        exact ⟨fun h => Or.inr ⟨rfl, h⟩, fun h => h.elim (fun h => absurd h (lt_irrefl x)) (·.2)⟩
      · rw [if_neg h.asymm, if_pos h]
        exact iff_of_false Bool.false_ne_true (fun h' => h'.elim h.asymm (fun e => h.ne' e.1))

theorem comparesKey_ltTriP : ComparesKey (·.1) ltTriP := comparesKey_of_lt_iff fun a b => ltIds_iff a.1 b.1
theorem comparesKey_ltTri : ComparesKey (·.1) ltTri := comparesKey_of_lt_iff fun a b => ltIds_iff a.1 b.1
theorem comparesKey_ltIdP : ComparesKey (·.1) ltIdP := comparesKey_of_lt_iff fun _ _ => decide_eq_true_iff
theorem comparesKey_ltId : ComparesKey (·.1) ltId := comparesKey_of_lt_iff fun _ _ => decide_eq_true_iff

theorem sortByStr_eq_sortBy (l : List Key) : sortByStr l = sortBy (fun a b => !decide (b.pystr < a.pystr)) l := by
  have ins : ∀ (k : Key) (l : List Key), insertByStr k l = insertBy (fun a b => !decide (b.pystr < a.pystr)) k l := by
    intro k l
    induction l with
    | nil => rfl
    | cons t ts ih =>
      simp only [insertByStr, insertBy, ih]
      by_cases h : t.pystr < k.pystr <;> simp [h]
  induction l with
  | nil => rfl
  | cons x xs ih => simp only [sortByStr, sortBy, List.foldr_cons] at ih ⊢; rw [ih, ins]

theorem comparesKey_pystr : ComparesKey Key.pystr (fun a b => !decide (b.pystr < a.pystr)) :=
  fun a b => ⟨fun h => not_lt.mp (by simpa using h), fun h => le_of_lt (by simpa using h)⟩

theorem sortByStr_perm (l : List Key) : (sortByStr l).Perm l := sortByStr_eq_sortBy l ▸ sortBy_perm _ l

theorem sortByStr_sorted (l : List Key) : (sortByStr l).Pairwise (fun a b => a.pystr ≤ b.pystr) :=
  sortByStr_eq_sortBy l ▸ sortBy_sorted comparesKey_pystr l

/-! ### `sortDedup`, `dedupFirst` -/

theorem insertStr_mem (s : String) (l : List String) (t : String) : t ∈ insertStr s l ↔ t = s ∨ t ∈ l := by
  induction l with
  | nil => simp [insertStr]
  | cons y ys ih =>
    simp only [insertStr]
    split
    · simp
    · split
      · rename_i h; subst h; simp
      · simp only [List.mem_cons, ih]
        constructor
        · rintro (h | h | h) <;> simp [h]
        · rintro (h | h | h) <;> simp [h]

theorem insertStr_sorted (s : String) (l : List String) (h : l.Pairwise (· < ·)) : (insertStr s l).Pairwise (· < ·) := by
  induction l with
  | nil => simp [insertStr]
  | cons y ys ih =>
    simp only [insertStr]
    rw [List.pairwise_cons] at h
    split
    · rename_i hlt
      rw [List.pairwise_cons]
      refine ⟨?_, List.pairwise_cons.mpr h⟩
      intro b hb
      rcases List.mem_cons.mp hb with rfl | hb
      · exact hlt
      · exact lt_trans hlt (h.1 b hb)
    · split
      · exact List.pairwise_cons.mpr h
      · rename_i hnlt hne
        rw [List.pairwise_cons]
        refine ⟨?_, ih h.2⟩
        intro b hb
        rcases (insertStr_mem s ys b).mp hb with rfl | hb
        · exact lt_of_le_of_ne (not_lt.mp hnlt) (Ne.symm hne)
        · exact h.1 b hb

theorem sortDedup_mem (l : List String) (t : String) : t ∈ sortDedup l ↔ t ∈ l := by
  induction l with
  | nil => simp [sortDedup]
  | cons x xs ih =>
    simp only [sortDedup, List.foldr_cons] at ih ⊢
    rw [insertStr_mem, ih]
    simp

theorem sortDedup_sorted (l : List String) : (sortDedup l).Pairwise (· < ·) := by
  induction l with
  | nil => simp [sortDedup]
  | cons x xs ih =>
    simp only [sortDedup, List.foldr_cons] at ih ⊢
    exact insertStr_sorted x _ ih

theorem sortDedup_nodup (l : List String) : (sortDedup l).Nodup := (sortDedup_sorted l).imp ne_of_lt

theorem dedupFirst_nodup (l : List String) (h : l.Nodup) : dedupFirst l = l := by
  induction l with
  | nil => simp [dedupFirst]
  | cons x xs ih =>
    rw [List.nodup_cons] at h
    simp only [dedupFirst, ih h.2]
    congr 1
    rw [List.filter_eq_self]
    intro a ha
    simp only [bne_iff_ne, ne_eq]
    rintro rfl
    exact h.1 ha

end Coba.C07
