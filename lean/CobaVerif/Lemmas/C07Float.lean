/-
C07 — the arithmetic behind `fl` (nearest binary64) and `round5`: `pow2 e` is `2 ^ e`, `expo x` is the binary exponent of `x`
(the one `e` with `2^e ≤ |x| < 2^(e+1)`), `fl` rounds the significand scaled to 53 bits, `rhe` rounds to a neighbouring
integer, so an integer bound on `x` is a bound on `rhe x`.
-/
import CobaVerif.Model.C07
import Mathlib.Algebra.Order.Field.Rat
import Mathlib.Data.Rat.Floor
import Mathlib.Algebra.Order.Field.Power

namespace Coba.C07

/-! ### `pow2 e` is `2 ^ e` -/

theorem pow2_eq_zpow (e : Int) : pow2 e = (2 : Rat) ^ e := by
  unfold pow2
  split
  · rename_i h
    obtain ⟨n, rfl⟩ := Int.eq_ofNat_of_zero_le h
    rw [Int.toNat_natCast, Nat.cast_pow, zpow_natCast, Nat.cast_ofNat]
  · obtain ⟨n, hn⟩ : ∃ n : Nat, -e = (n : Int) := ⟨(-e).toNat, by omega⟩
    rw [hn, Int.toNat_natCast, Nat.cast_pow, Nat.cast_ofNat, one_div, ← zpow_natCast, ← zpow_neg, ← hn, neg_neg]

theorem pow2_pos (e : Int) : 0 < pow2 e := by rw [pow2_eq_zpow]; exact zpow_pos two_pos e

theorem pow2_add (a b : Int) : pow2 (a + b) = pow2 a * pow2 b := by
  simp only [pow2_eq_zpow]; exact zpow_add₀ two_ne_zero a b

theorem pow2_mul_eq {a b c : Int} (h : a + b = c) : pow2 a * pow2 b = pow2 c := h ▸ (pow2_add a b).symm

theorem pow2_zero : pow2 0 = 1 := rfl

theorem pow2_natCast (n : Nat) : pow2 (n : Int) = ((2 ^ n : Nat) : Rat) := by
  rw [pow2, if_pos (Int.natCast_nonneg n), Int.toNat_natCast]

theorem intCast_mul_pow2 (n : Int) (j : Nat) : (n : Rat) * pow2 (j : Int) = ((n * 2 ^ j : Int) : Rat) := by
  rw [pow2_natCast, Int.cast_mul, Int.cast_pow, Int.cast_ofNat, Nat.cast_pow, Nat.cast_ofNat]

theorem pow2_lt_pow2 {a b : Int} (h : a < b) : pow2 a < pow2 b := by
  simp only [pow2_eq_zpow]; exact zpow_lt_zpow_right₀ one_lt_two h

theorem pow2_le_pow2 {a b : Int} (h : a ≤ b) : pow2 a ≤ pow2 b := by
  simp only [pow2_eq_zpow]; exact zpow_le_zpow_right₀ one_le_two h

/-! ### `expo x` is the binary exponent of `x` -/

theorem absR_eq_abs (x : Rat) : absR x = |x| := by
  unfold absR
  split
  · rename_i h; rw [abs_of_neg h]
  · rename_i h; rw [abs_of_nonneg (not_lt.mp h)]

theorem natCast_log2_bounds (n : Nat) (hn : n ≠ 0) :
    pow2 (Nat.log2 n : Int) ≤ (n : Rat) ∧ (n : Rat) < pow2 ((Nat.log2 n : Int) + 1) := by
  constructor
  · rw [pow2_natCast]; exact Nat.cast_le.mpr (Nat.log2_self_le hn)
  · rw [← Nat.cast_succ, pow2_natCast]; exact Nat.cast_lt.mpr Nat.lt_log2_self

theorem div_exponent_bounds {N D : Rat} {a b : Int} (hD : 0 < D) (ha1 : pow2 a ≤ N) (ha2 : N < pow2 (a + 1))
    (hb1 : pow2 b ≤ D) (hb2 : D < pow2 (b + 1)) : pow2 (a - b - 1) < N / D ∧ N / D < pow2 (a - b + 1) := by
  constructor
  · rw [lt_div_iff₀ hD]
    calc pow2 (a - b - 1) * D < pow2 (a - b - 1) * pow2 (b + 1) := mul_lt_mul_of_pos_left hb2 (pow2_pos _)
      _ = pow2 a := by rw [← pow2_add, sub_sub, sub_add_cancel]
      _ ≤ N := ha1
  · rw [div_lt_iff₀ hD]
    calc N < pow2 (a + 1) := ha2
      _ = pow2 (a - b + 1) * pow2 b := by rw [← pow2_add, add_right_comm, sub_add_cancel]
      _ ≤ pow2 (a - b + 1) * D := mul_le_mul_of_nonneg_left hb1 (pow2_pos _).le

theorem abs_eq_natAbs_div_den (x : Rat) : |x| = (x.num.natAbs : Rat) / (x.den : Rat) := by
  conv_lhs => rw [← Rat.num_div_den x]
  rw [abs_div, Nat.abs_cast, ← Int.cast_abs, Int.abs_eq_natAbs, Int.cast_natCast]

theorem expo_spec (x : Rat) (hx : x ≠ 0) : pow2 (expo x) ≤ |x| ∧ |x| < pow2 (expo x + 1) := by
  obtain ⟨ha1, ha2⟩ := natCast_log2_bounds x.num.natAbs (by simpa using Rat.num_ne_zero.mpr hx)
  obtain ⟨hb1, hb2⟩ := natCast_log2_bounds x.den x.den_nz
  have hD : (0 : Rat) < x.den := Nat.cast_pos.mpr x.den_pos
  -- the guess `log2 |num| - log2 den` is the exponent or one above it; `expo` tests which
  obtain ⟨hlow, hup⟩ := div_exponent_bounds hD ha1 ha2 hb1 hb2
  rw [← abs_eq_natAbs_div_den] at hlow hup
  unfold expo
  simp only
  rw [absR_eq_abs]
  split
  · rename_i hc; exact ⟨hc, hup⟩
  · rename_i hc; exact ⟨hlow.le, by rw [sub_add_cancel]; exact not_le.mp hc⟩

theorem expo_unique (x : Rat) (e : Int) (h1 : pow2 e ≤ |x|) (h2 : |x| < pow2 (e + 1)) : expo x = e := by
  have hx : x ≠ 0 := by
    rintro rfl
    rw [abs_zero] at h1
    exact absurd h1 (not_le.mpr (pow2_pos e))
  obtain ⟨s1, s2⟩ := expo_spec x hx
  -- two dyadic intervals that share a point have the same exponent
  rcases lt_trichotomy (expo x) e with h | h | h
  · exact absurd (lt_of_lt_of_le s2 (pow2_le_pow2 (by omega : expo x + 1 ≤ e))) (not_lt.mpr h1)
  · exact h
  · exact absurd (lt_of_lt_of_le h2 (pow2_le_pow2 (by omega : e + 1 ≤ expo x))) (not_lt.mpr s1)

theorem abs_intCast_mul_pow2 (n t : Int) : |(n : Rat) * pow2 t| = (n.natAbs : Rat) * pow2 t := by
  rw [abs_mul, abs_of_pos (pow2_pos t), ← Int.cast_abs, Int.abs_eq_natAbs, Int.cast_natCast]

theorem expo_intCast_mul_pow2 (n t : Int) (hn : n ≠ 0) : expo ((n : Rat) * pow2 t) = (Nat.log2 n.natAbs : Int) + t := by
  obtain ⟨b1, b2⟩ := natCast_log2_bounds n.natAbs (Int.natAbs_ne_zero.mpr hn)
  apply expo_unique
  · rw [abs_intCast_mul_pow2, pow2_add]; exact mul_le_mul_of_nonneg_right b1 (pow2_pos t).le
  · rw [abs_intCast_mul_pow2, add_right_comm, pow2_add]; exact mul_lt_mul_of_pos_right b2 (pow2_pos t)

/-! ### `rhe`: round half to even -/

theorem rhe_intCast (m : Int) : rhe (m : Rat) = m := by
  unfold rhe
  simp

theorem rhe_mem (x : Rat) : rhe x = x.floor ∨ (rhe x = x.floor + 1 ∧ (x.floor : Rat) < x) := by
  unfold rhe
  simp only
  split
  · exact Or.inl rfl
  · rename_i h1
    have hpos : (x.floor : Rat) < x := sub_pos.mp (lt_of_lt_of_le one_half_pos (not_lt.mp h1))
    split
    · exact Or.inr ⟨rfl, hpos⟩
    · split
      · exact Or.inl rfl
      · exact Or.inr ⟨rfl, hpos⟩

theorem rhe_le_of_le (x : Rat) (n : Int) (h : x ≤ n) : rhe x ≤ n := by
  have hf : x.floor ≤ n := Int.cast_le.mp (le_trans (Rat.floor_le x) h)
  rcases rhe_mem x with h1 | ⟨h1, h2⟩
  · rw [h1]; exact hf
  · rw [h1]; exact Int.add_one_le_of_lt (Int.cast_lt.mp (lt_of_lt_of_le h2 h))

theorem le_rhe_of_le (x : Rat) (n : Int) (h : (n : Rat) ≤ x) : n ≤ rhe x := by
  have hf : n ≤ x.floor := Rat.le_floor_iff.mpr h
  rcases rhe_mem x with h1 | ⟨h1, _⟩ <;> rw [h1] <;> omega

theorem natAbs_rhe_le (x : Rat) (n : Nat) (h : |x| ≤ n) : (rhe x).natAbs ≤ n := by
  have h1 := rhe_le_of_le x n (le_trans (le_abs_self x) h)
  have h2 := le_rhe_of_le x (-(n : Int)) (by rw [Int.cast_neg, Int.cast_natCast]; exact neg_le.mp (le_trans (neg_le_abs x) h))
  omega

theorem le_natAbs_rhe (x : Rat) (n : Nat) (h : (n : Rat) ≤ |x|) : n ≤ (rhe x).natAbs := by
  rcases le_abs'.mp h with hn | hp
  · have := rhe_le_of_le x (-(n : Int)) (by rwa [Int.cast_neg, Int.cast_natCast])
    omega
  · have := le_rhe_of_le x n (by rwa [Int.cast_natCast])
    omega

/-! ### `fl`: the significand scaled to 53 bits, rounded -/

theorem significand_bounds (x : Rat) (hx : x ≠ 0) :
    pow2 52 ≤ |x * pow2 (52 - expo x)| ∧ |x * pow2 (52 - expo x)| < pow2 53 := by
  obtain ⟨s1, s2⟩ := expo_spec x hx
  rw [abs_mul, abs_of_pos (pow2_pos _), ← pow2_mul_eq (add_sub_cancel (expo x) 52),
    ← pow2_mul_eq (show expo x + 1 + (52 - expo x) = 53 by omega)]
  exact ⟨mul_le_mul_of_nonneg_right s1 (pow2_pos _).le, mul_lt_mul_of_pos_right s2 (pow2_pos _)⟩

theorem fl_eq (x : Rat) (hx : x ≠ 0) : fl x = (rhe (x * pow2 (52 - expo x)) : Rat) * pow2 (expo x - 52) := by
  rw [fl, if_neg hx, flCore, div_eq_iff (pow2_pos _).ne', mul_assoc, ← neg_sub 52 (expo x),
    mul_comm (pow2 (-(52 - expo x))), pow2_mul_eq (add_neg_cancel _), pow2_zero, mul_one]

theorem fl_of_intCast_significand (x : Rat) (hx : x ≠ 0) (m : Int) (hm : x * pow2 (52 - expo x) = m) : fl x = x := by
  rw [fl_eq x hx, hm, rhe_intCast, ← hm, mul_assoc, pow2_mul_eq (sub_add_sub_cancel 52 (expo x) 52), sub_self, pow2_zero, mul_one]

end Coba.C07
