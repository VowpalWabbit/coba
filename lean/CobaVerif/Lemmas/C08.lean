/-
C08 — the base system: sums over lists, the transition relation `Moves` and what a step can change, the termination measure,
the invariants that are inductive on their own (`MaxK`, `BInv`, `OutQ`, `InQ`, what a taken pill says of the loader, the event
rule, conservation of outputs), the invariant `Inv` built on them, what a finished call has delivered, and progress.
Core Lean only.
-/
import CobaVerif.Model.C08

namespace Coba.C08

/-! ### sums and lists -/

@[simp] theorem listSum_nil : listSum [] = 0 := rfl
@[simp] theorem listSum_cons (x : Nat) (xs : List Nat) : listSum (x :: xs) = x + listSum xs := rfl

@[simp] theorem listSum_append (a b : List Nat) : listSum (a ++ b) = listSum a + listSum b := by
  induction a with
  | nil => simp
  | cons x xs ih => simp [ih]; omega

def sumOver {α} (g : α → Nat) (l : List α) : Nat := listSum (l.map g)

@[simp] theorem sumOver_nil {α} (g : α → Nat) : sumOver g [] = 0 := rfl
@[simp] theorem sumOver_cons {α} (g : α → Nat) (x : α) (xs : List α) :
    sumOver g (x :: xs) = g x + sumOver g xs := rfl
@[simp] theorem sumOver_append {α} (g : α → Nat) (a b : List α) :
    sumOver g (a ++ b) = sumOver g a + sumOver g b := by
  simp [sumOver]

theorem sumOver_set {α} {l : List α} {i : Nat} {old : α} (h : l[i]? = some old) (x : α) (g : α → Nat) :
    sumOver g (l.set i x) + g old = sumOver g l + g x := by
  induction l generalizing i with
  | nil => simp at h
  | cons y ys ih =>
    cases i with
    | zero => simp at h; subst h; simp; omega
    | succ j =>
      simp at h
      have := ih h
      simp; omega

theorem sumOver_map {α β} (g : β → Nat) (f : α → β) (l : List α) :
    sumOver g (l.map f) = sumOver (fun x => g (f x)) l := by
  simp [sumOver, List.map_map, Function.comp_def]

theorem sumOver_replicate {α} (g : α → Nat) (n : Nat) (x : α) :
    sumOver g (List.replicate n x) = n * g x := by
  induction n with
  | zero => simp
  | succ k ih => simp [List.replicate_succ, ih, Nat.succ_mul]; omega

theorem sumOver_eq_zero {α} (g : α → Nat) (l : List α) :
    sumOver g l = 0 ↔ ∀ x ∈ l, g x = 0 := by
  induction l with
  | nil => simp
  | cons y ys ih => simp [ih]

theorem sumOver_eq_zero_of_all_eq {α} {g : α → Nat} {l : List α} {a : α} (h : ∀ x ∈ l, x = a) (ha : g a = 0) :
    sumOver g l = 0 :=
  (sumOver_eq_zero g l).2 fun x hx => by rw [h x hx]; exact ha

theorem sumOver_le_of_mem {α} (g : α → Nat) (l : List α) (x : α) (h : x ∈ l) : g x ≤ sumOver g l := by
  induction l with
  | nil => simp at h
  | cons y ys ih =>
    simp at h
    rcases h with h | h
    · subst h; simp
    · have := ih h; simp; omega

theorem sumOver_congr {α} (g g' : α → Nat) (l : List α) (h : ∀ x ∈ l, g x = g' x) :
    sumOver g l = sumOver g' l := by
  induction l with
  | nil => rfl
  | cons y ys ih =>
    simp
    rw [h y (by simp), ih (fun x hx => h x (by simp [hx]))]

theorem sumOver_mono {α} (g g' : α → Nat) (l : List α) (h : ∀ x, g x ≤ g' x) : sumOver g l ≤ sumOver g' l := by
  induction l with
  | nil => simp
  | cons y ys ih => have := h y; simp; omega

theorem mem_dropLast_of_tail {α} (x : α) (r : List α) (y : α) (h : y ∈ r.dropLast) : y ∈ (x :: r).dropLast := by
  cases r with
  | nil => simp at h
  | cons z zs => simp [List.dropLast] at h ⊢; right; exact h

/-! ### runs -/

/-- `runTrace`, `runTraceF`, `runTraceR`, `runTraceRF` are separate definitions of this one shape -/
theorem run_bounded_of {σ α : Type} (en : σ → α → Bool) (st : σ → α → σ) (m : σ → Nat) (run : σ → List α → Option σ)
    (hnil : ∀ s, run s [] = some s) (hcons : ∀ s a as, run s (a :: as) = if en s a then run (st s a) as else none)
    (hdec : ∀ s a, en s a = true → m (st s a) < m s) (tr : List α) :
    ∀ s s', run s tr = some s' → tr.length + m s' ≤ m s := by
  induction tr with
  | nil => intro s s' h; rw [hnil] at h; cases h; simp
  | cons a as ih =>
    intro s s' h
    rw [hcons] at h
    split at h
    · rename_i he
      have := ih _ _ h
      have := hdec s a he
      simp only [List.length_cons]; omega
    · cases h

theorem run_induct {σ α : Type} (en : σ → α → Bool) (st : σ → α → σ) (run : σ → List α → Option σ)
    (hnil : ∀ s, run s [] = some s) (hcons : ∀ s a as, run s (a :: as) = if en s a then run (st s a) as else none)
    (P : σ → Prop) (hstep : ∀ s a, P s → en s a = true → P (st s a)) (tr : List α) :
    ∀ s s', P s → run s tr = some s' → P s' := by
  induction tr with
  | nil => intro s s' hs h; rw [hnil] at h; cases h; exact hs
  | cons a as ih =>
    intro s s' hs h
    rw [hcons] at h
    split at h
    · rename_i he; exact ih _ _ (hstep s a hs he) h
    · cases h

/-! ### the transition relation

`Moves c s a s'`: the premises are what `enabled` asks for, the post-state is `step` written out as a record update; everything
below that speaks of a step is a case analysis of this relation. -/

/-- what a worker that has taken `k` elements becomes by taking one more: busy with an item, or poisoned by a pill -/
def afterTake (k : Nat) : Option ItemSpec → W
  | some x => .run (k + 1) x.outs x.err
  | none => .exited true none

inductive Moves (c : Cfg) (s : State) : Action → State → Prop
  | loadTake {x rest} : s.infl = none → s.stopped = false → s.todo = x :: rest → perrOf x = none →
      Moves c s .loadTake { s with todo := rest, infl := some x }
  | loadTakeErr {x rest e} : s.infl = none → s.stopped = false → s.todo = x :: rest → perrOf x = some e →
      Moves c s .loadTake { s with todo := [], dropIn := s.dropIn ++ s.todo, lexc := some e }
  | loadPut {x} : s.infl = some x → s.inq.length < cap c →
      Moves c s .loadPut { s with infl := none, inq := s.inq ++ [x] }
  | loadFinish : s.lphase = false → s.infl = none → (s.todo = [] ∨ s.stopped = true) →
      Moves c s .loadFinish { s with lphase := true, todo := List.replicate s.nprocs none, dropIn := s.dropIn ++ s.todo,
                                     excs := s.excs ++ s.lexc.toList }
  | wBegin {w} : s.ws[w]? = some .spawned → (w = 0 ∨ s.main ≠ .waitEvent) →
      Moves c s (.wBegin w) { s with ws := s.ws.set w (.run 0 [] none), event := true }
  | wGet {w k y rest} : s.ws[w]? = some (.run k [] none) → mayTake c k = true → s.inq = y :: rest →
      Moves c s (.wGet w) { s with inq := rest, ws := s.ws.set w (afterTake k y) }
  | wPut {w k o pend e} : s.ws[w]? = some (.run k (o :: pend) e) →
      Moves c s (.wPut w) { s with outq := s.outq ++ [some o], ws := s.ws.set w (.run k pend e) }
  | wRaise {w k e} : s.ws[w]? = some (.run k [] (some e)) →
      Moves c s (.wRaise w) { s with ws := s.ws.set w (.exited false (some e)) }
  | wRetire {w k} : s.ws[w]? = some (.run k [] none) → mayTake c k = false →
      Moves c s (.wRetire w) { s with ws := s.ws.set w (.exited false none) }
  | wRestart {w} : s.ws[w]? = some (.exited false none) → s.excs = [] →
      Moves c s (.wCallback w) { s with ws := s.ws.set w .spawned }
  | wDie {w p e} : s.ws[w]? = some (.exited p e) → (p = true ∨ s.excs ++ e.toList ≠ []) →
      Moves c s (.wCallback w) { s with excs := s.excs ++ e.toList, ws := s.ws.set w .dead, nprocs := s.nprocs - 1,
                                        outq := if s.nprocs - 1 == 0 then s.outq ++ [none] else s.outq }
  | mEvent : s.main = .waitEvent → s.event = true → Moves c s .mEvent { s with main := .consuming }
  | cGet {o rest} : s.main = .consuming → s.outq = some o :: rest →
      Moves c s .cGet { s with outq := rest, recv := s.recv ++ [o] }
  | cGetPill {rest} : s.main = .consuming → s.outq = none :: rest → Moves c s .cGet { s with outq := rest, main := .fin }
  | cAbandon : s.main = .consuming → Moves c s .cAbandon { s with main := .fin, abandoned := true }
  | drainIn {x rest} : s.main = .fin → s.inq = x :: rest → Moves c s .drainIn { s with inq := rest, dropIn := s.dropIn ++ [x] }
  | drainOut {x rest} : s.main = .fin → s.outq = x :: rest →
      Moves c s .drainOut { s with outq := rest, dropOut := s.dropOut ++ [x] }
  | mDone : s.main = .fin → Moves c s .mDone { s with main := .done }

theorem getElem?_of_beq_some {l : List W} {w : Nat} {x : W} (h : (l[w]? == some x) = true) : l[w]? = some x := by
  simpa using h

theorem Moves.of_enabled {c : Cfg} {s : State} {a : Action} (h : enabled c s a = true) : Moves c s a (step c s a) := by
  cases a with
  | loadTake =>
    simp only [enabled, Bool.and_eq_true, Bool.not_eq_true', Option.isNone_iff_eq_none] at h
    obtain ⟨⟨hi, hst⟩, hne⟩ := h
    cases ht : s.todo with
    | nil => simp [ht] at hne
    | cons x rest =>
      cases hp : perrOf x with
      | none => simpa only [step, ht, hp] using Moves.loadTake (c := c) hi hst ht hp
      | some e => simpa only [step, ht, hp] using Moves.loadTakeErr (c := c) hi hst ht hp
  | loadPut =>
    simp only [enabled, Bool.and_eq_true, decide_eq_true_eq] at h
    cases hi : s.infl with
    | none => simp [hi] at h
    | some x => simpa only [step, hi] using Moves.loadPut (c := c) hi h.2
  | loadFinish =>
    simp only [enabled, Bool.and_eq_true, Bool.or_eq_true, Bool.not_eq_true', Option.isNone_iff_eq_none, List.isEmpty_iff] at h
    exact .loadFinish h.1.1 h.1.2 h.2
  | wBegin w =>
    simp only [enabled, Bool.and_eq_true, Bool.or_eq_true, bne_iff_ne] at h
    exact .wBegin (getElem?_of_beq_some h.1) (h.2.imp (fun h0 => by simpa using h0) id)
  | wGet w =>
    simp only [enabled] at h
    split at h
    · rename_i k hw
      simp only [Bool.and_eq_true, Bool.not_eq_true'] at h
      cases hq : s.inq with
      | nil => simp [hq] at h
      | cons y rest => cases y <;> simpa only [step, hw, hq, afterTake] using Moves.wGet (c := c) hw h.1 hq
    · cases h
  | wPut w =>
    simp only [enabled] at h
    split at h
    · rename_i hw; simpa only [step, hw] using Moves.wPut (c := c) hw
    · cases h
  | wRaise w =>
    simp only [enabled] at h
    split at h
    · rename_i hw; simpa only [step, hw] using Moves.wRaise (c := c) hw
    · cases h
  | wRetire w =>
    simp only [enabled] at h
    split at h
    · rename_i hw; exact .wRetire hw (by simpa using h)
    · cases h
  | wCallback w =>
    simp only [enabled] at h
    split at h
    · rename_i p e hw
      by_cases hc : (!p && (s.excs ++ e.toList).isEmpty) = true
      · have hst : step c s (.wCallback w) = { s with excs := s.excs ++ e.toList, ws := s.ws.set w .spawned } := by
          simp only [step, hw]; rw [if_pos hc]
        simp only [Bool.and_eq_true, Bool.not_eq_true', List.isEmpty_iff, List.append_eq_nil_iff] at hc
        obtain ⟨hp, hex, he⟩ := hc
        have he' : e = none := by cases e <;> simp at he ⊢
        subst hp he'
        rw [hst]
        simpa using Moves.wRestart (c := c) hw hex
      · have hst : step c s (.wCallback w) =
            { s with excs := s.excs ++ e.toList, ws := s.ws.set w .dead, nprocs := s.nprocs - 1,
                     outq := if s.nprocs - 1 == 0 then s.outq ++ [none] else s.outq } := by
          simp only [step, hw]; rw [if_neg hc]
        rw [hst]
        refine .wDie hw ?_
        cases p with
        | true => left; rfl
        | false => right; intro hnil; apply hc; simp [hnil]
    · cases h
  | mEvent =>
    simp only [enabled, Bool.and_eq_true, beq_iff_eq] at h
    exact .mEvent h.1 h.2
  | cGet =>
    simp only [enabled, Bool.and_eq_true, beq_iff_eq] at h
    cases hq : s.outq with
    | nil => simp [hq] at h
    | cons x rest =>
      cases x with
      | some o => simpa only [step, hq] using Moves.cGet (c := c) h.1 hq
      | none => simpa only [step, hq] using Moves.cGetPill (c := c) h.1 hq
  | cAbandon => exact .cAbandon (by simpa [enabled] using h)
  | drainIn =>
    simp only [enabled, Bool.and_eq_true, beq_iff_eq] at h
    cases hq : s.inq with
    | nil => simp [hq] at h
    | cons x rest => simpa only [step, hq] using Moves.drainIn (c := c) h.1 hq
  | drainOut =>
    simp only [enabled, Bool.and_eq_true, beq_iff_eq] at h
    cases hq : s.outq with
    | nil => simp [hq] at h
    | cons x rest => simpa only [step, hq] using Moves.drainOut (c := c) h.1 hq
  | mDone => exact .mDone (by simpa [enabled] using h)

theorem Moves.sound {c : Cfg} {s s' : State} {a : Action} (h : Moves c s a s') : enabled c s a = true ∧ step c s a = s' := by
  cases h with
  | loadTake hi hst ht hp => exact ⟨by simp [enabled, hi, hst, ht], by simp only [step, ht, hp]⟩
  | loadTakeErr hi hst ht hp => exact ⟨by simp [enabled, hi, hst, ht], by simp only [step, ht, hp]⟩
  | loadPut hi hc => exact ⟨by simp [enabled, hi, hc], by simp only [step, hi]⟩
  | loadFinish hl hi h3 => exact ⟨by rcases h3 with h3 | h3 <;> simp [enabled, hl, hi, h3], rfl⟩
  | wBegin hw h0 => exact ⟨by rcases h0 with rfl | h0 <;> simp [enabled, *], rfl⟩
  | @wGet _ _ y _ hw hk hq => cases y <;> exact ⟨by simp [enabled, hw, hk, hq], by simp only [step, hw, hq, afterTake]⟩
  | wPut hw => exact ⟨by simp [enabled, hw], by simp only [step, hw]⟩
  | wRaise hw => exact ⟨by simp [enabled, hw], by simp only [step, hw]⟩
  | wRetire hw hk => exact ⟨by simp [enabled, hw, hk], rfl⟩
  | wRestart hw hex => exact ⟨by simp [enabled, hw], by simp [step, hw, hex]⟩
  | wDie hw hc =>
    refine ⟨by simp [enabled, hw], ?_⟩
    simp only [step, hw]
    rw [if_neg]
    rcases hc with rfl | hc
    · simp
    · simp only [Bool.and_eq_true, List.isEmpty_iff]; exact fun h => hc h.2
  | mEvent hm he => exact ⟨by simp [enabled, hm, he], rfl⟩
  | cGet hm hq => exact ⟨by simp [enabled, hm, hq], by simp only [step, hq]⟩
  | cGetPill hm hq => exact ⟨by simp [enabled, hm, hq], by simp only [step, hq]⟩
  | cAbandon hm => exact ⟨by simp [enabled, hm], rfl⟩
  | drainIn hm hq => exact ⟨by simp [enabled, hm, hq], by simp only [step, hq]⟩
  | drainOut hm hq => exact ⟨by simp [enabled, hm, hq], by simp only [step, hq]⟩
  | mDone hm => exact ⟨by simp [enabled, hm], rfl⟩

/-! ### what a step can change -/

theorem Moves.ws_len {c : Cfg} {s s' : State} {a : Action} (h : Moves c s a s') : s'.ws.length = s.ws.length := by
  cases h <;> first | rfl | exact List.length_set

theorem Moves.ws_frame {c : Cfg} {s s' : State} {a : Action} (h : Moves c s a s') {w : Nat} (hl : lin a ≠ some w) :
    s'.ws[w]? = s.ws[w]? := by
  cases h <;> first | rfl | exact List.getElem?_set_ne (fun e => hl (congrArg some e))

theorem Moves.lin_lt {c : Cfg} {s s' : State} {a : Action} (h : Moves c s a s') {w : Nat} (hl : lin a = some w) : w < s.ws.length := by
  cases h with
  | wBegin hw | wGet hw | wPut hw | wRaise hw | wRetire hw | wRestart hw | wDie hw =>
    cases hl; exact (List.getElem?_eq_some_iff.1 hw).1
  | _ => cases hl

theorem Moves.event_mono {c : Cfg} {s s' : State} {a : Action} (h : Moves c s a s') (he : s'.event = false) : s.event = false := by
  cases h <;> first | exact he | cases he

theorem Moves.phase_mono {c : Cfg} {s s' : State} {a : Action} (h : Moves c s a s') : phasePot s'.main ≤ phasePot s.main := by
  cases h with
  | mEvent hm | cGetPill hm | cAbandon hm | mDone hm => rw [hm]; simp [phasePot]
  | _ => exact Nat.le_refl _

theorem active_iff (s : State) : s.active = true ↔ 2 ≤ phasePot s.main := by
  cases hm : s.main <;> simp [State.active, hm, phasePot]

theorem stopped_eq (s : State) : s.stopped = !s.active := by
  cases hm : s.main <;> simp [State.stopped, State.active, hm]

theorem stopped_of_main {s s' : State} (h : s'.main = s.main) : s'.stopped = s.stopped := by
  simp [State.stopped, h]

theorem waitEvent_iff (s : State) : s.main = .waitEvent ↔ 3 ≤ phasePot s.main := by
  cases hm : s.main <;> simp [phasePot]

theorem Moves.active {c : Cfg} {s s' : State} {a : Action} (h : Moves c s a s') (ha : s'.active = true) : s.active = true := by
  rw [active_iff] at ha ⊢
  exact Nat.le_trans ha h.phase_mono

theorem Moves.not_waitEvent {c : Cfg} {s s' : State} {a : Action} (h : Moves c s a s') (hm : s.main ≠ .waitEvent) :
    s'.main ≠ .waitEvent := by
  rw [Ne, waitEvent_iff] at hm ⊢
  have := h.phase_mono
  omega

theorem Moves.outq_shape {c : Cfg} {s s' : State} {a : Action} (h : Moves c s a s') :
    s'.outq = s.outq ∨ (∃ x, s'.outq = s.outq ++ [x]) ∨ ((a = .cGet ∨ a = .drainOut) ∧ ∃ y, s.outq = y :: s'.outq) := by
  cases h with
  | wPut => exact Or.inr (Or.inl ⟨_, rfl⟩)
  | wDie =>
    -- the last process to go appends the pill
    by_cases hz : (s.nprocs - 1 == 0) = true
    · exact Or.inr (Or.inl ⟨none, if_pos hz⟩)
    · exact Or.inl (if_neg hz)
  | cGet _ hq | cGetPill _ hq => exact Or.inr (Or.inr ⟨Or.inl rfl, _, hq⟩)
  | drainOut _ hq => exact Or.inr (Or.inr ⟨Or.inr rfl, _, hq⟩)
  | _ => exact Or.inl rfl

theorem Moves.outq_len {c : Cfg} {s s' : State} {a : Action} (h : Moves c s a s') : s'.outq.length ≤ s.outq.length + 1 := by
  rcases h.outq_shape with h | ⟨x, h⟩ | ⟨_, y, h⟩
  · rw [h]; omega
  · rw [h]; simp
  · rw [h]; simp; omega

/-! ### the termination measure decreases -/

theorem mu_def (c : Cfg) (s : State) : mu c s =
    sumOver (fun x => elemCost x + 2) s.todo
  + (match s.infl with | some x => elemCost x + 1 | none => 0)
  + sumOver elemCost s.inq
  + s.outq.length
  + sumOver (wPot c) s.ws
  + (if s.lphase then 0 else 1 + 5 * s.nprocs)
  + phasePot s.main := rfl

theorem mu_ws {c : Cfg} {s : State} {w : Nat} {old : W} (hw : s.ws[w]? = some old) (x : W) :
    mu c { s with ws := s.ws.set w x } + wPot c old = mu c s + wPot c x := by
  have := sumOver_set hw x (wPot c)
  simp only [mu_def]; omega

theorem mu_set {c : Cfg} {s s' : State} {w : Nat} {old x : W} (hw : s.ws[w]? = some old) (hws : s'.ws = s.ws.set w x)
    (ht : s'.todo = s.todo) (hi : s'.infl = s.infl) (hl : s'.lphase = s.lphase) (hm : s'.main = s.main)
    (hn : s'.nprocs ≤ s.nprocs)
    (h : sumOver elemCost s'.inq + s'.outq.length + wPot c x < sumOver elemCost s.inq + s.outq.length + wPot c old) :
    mu c s' < mu c s := by
  have := sumOver_set hw x (wPot c)
  rw [mu_def, mu_def, hws, ht, hi, hl, hm]
  cases s.lphase <;> simp only [Bool.false_eq_true, if_true, if_false] <;> omega

/-- the element a worker takes pays for everything the worker will do with it -/
theorem wPot_afterTake (c : Cfg) (k : Nat) (y : Option ItemSpec) : wPot c (afterTake k y) < elemCost y := by
  cases y with
  | none => simp [afterTake, wPot, elemCost]
  | some x =>
    have hM : (if mayTake c (k + 1) = true then 0 else 3) ≤ 3 := by split <;> omega
    simp only [afterTake, wPot, elemCost]; omega

theorem Moves.mu_lt {c : Cfg} {s s' : State} {a : Action} (h : Moves c s a s') : mu c s' < mu c s := by
  cases h with
  | loadTake hi _ ht hp => simp only [mu_def, hi, ht]; simp; omega
  | loadTakeErr hi _ ht hp => simp only [mu_def, hi, ht]; simp; omega
  | loadPut hi _ => simp only [mu_def, hi]; simp; omega
  | loadFinish hl hi _ => simp only [mu_def, hl, hi, sumOver_replicate]; simp [elemCost]; omega
  | wBegin hw _ => exact mu_set hw rfl rfl rfl rfl rfl (Nat.le_refl _) (by simp [wPot, mayTake])
  | @wGet w k y rest hw hk hq =>
    have := wPot_afterTake c k y
    have h0 : wPot c (.run k [] none) = 0 := by simp [wPot, hk]
    exact mu_set hw rfl rfl rfl rfl rfl (Nat.le_refl _) (by simp only [hq, sumOver_cons, h0]; omega)
  | wPut hw => exact mu_set hw rfl rfl rfl rfl rfl (Nat.le_refl _) (by simp [wPot]; omega)
  | wRaise hw => exact mu_set hw rfl rfl rfl rfl rfl (Nat.le_refl _) (by simp [wPot]; omega)
  | wRetire hw hk => exact mu_set hw rfl rfl rfl rfl rfl (Nat.le_refl _) (by simp [wPot, hk])
  | wRestart hw _ => exact mu_set hw rfl rfl rfl rfl rfl (Nat.le_refl _) (by simp [wPot])
  | wDie hw _ =>
    -- the two units of an exited lineage pay for the pill
    exact mu_set hw rfl rfl rfl rfl rfl (Nat.sub_le _ _) (by simp only [wPot]; split <;> simp <;> omega)
  | mEvent hm _ => simp only [mu_def, hm]; simp [phasePot]
  | cGet hm hq => simp only [hq, mu_def, hm]; simp [phasePot]
  | cGetPill hm hq => simp only [hq, mu_def, hm]; simp [phasePot]; omega
  | cAbandon hm => simp only [mu_def, hm]; simp [phasePot]
  | @drainIn x rest _ hq =>
    simp only [hq, mu_def]; simp
    have : 0 < elemCost x := by cases x <;> simp [elemCost] <;> omega
    omega
  | drainOut _ hq => simp only [hq, mu_def]; simp
  | mDone hm => simp only [mu_def, hm]; simp [phasePot]

/-- with `_main_err` set the caller wakes up straight into `finally`: no dearer than waking up normally -/
theorem mu_skip_consuming (c : Cfg) (s : State) : mu c { s with main := .fin } ≤ mu c (step c s .mEvent) := by
  simp [mu_def, step, phasePot]

/-! ### what the invariants speak of: copies of an output or error, lineages that need a pill, the shape of the in-queue -/

def oCount (o : Nat) (q : List (Option Nat)) : Nat := sumOver (fun x => if x = some o then 1 else 0) q
def elemOuts : Option ItemSpec → List Nat
  | some x => x.outs
  | none => []
def elemErrs : Option ItemSpec → List Nat
  | some x => x.err.toList
  | none => []
def elemPerrs : Option ItemSpec → List Nat
  | some x => x.perr.toList
  | none => []
def wOuts : W → List Nat
  | .run _ p _ => p
  | _ => []
def wErrs : W → List Nat
  | .run _ _ e => e.toList
  | .exited _ e => e.toList
  | _ => []

/-- where the elements of the input side currently are -/
def inSide (s : State) : List (Option ItemSpec) := s.inq ++ s.infl.toList ++ s.todo ++ s.dropIn

/-- number of copies of output `o` anywhere in the system -/
def outTotal (o : Nat) (s : State) : Nat :=
  s.recv.count o + oCount o s.outq + oCount o s.dropOut
  + sumOver (fun w => (wOuts w).count o) s.ws + sumOver (fun x => (elemOuts x).count o) (inSide s)

/-- number of copies of error `e` anywhere in the system -/
def errTotal (e : Nat) (s : State) : Nat :=
  s.excs.count e + sumOver (fun w => (wErrs w).count e) s.ws + sumOver (fun x => (elemErrs x).count e) (inSide s)

def alive : W → Nat
  | .dead => 0
  | _ => 1
/-- lineages that still need a pill to finish -/
def needy : W → Nat
  | .dead => 0
  | .exited true _ => 0
  | _ => 1
def isPill : Option ItemSpec → Nat
  | none => 1
  | some _ => 0

/-- FIFO discipline of in_queue: nothing but pills behind a pill -/
def sortedQ : List (Option ItemSpec) → Prop
  | [] => True
  | some _ :: r => sortedQ r
  | none :: r => ∀ x ∈ r, x = none

theorem sortedQ_of_all_none (q : List (Option ItemSpec)) (h : ∀ x ∈ q, x = none) : sortedQ q := by
  cases q with
  | nil => trivial
  | cons y ys =>
    have hy := h y (by simp)
    subst hy
    simp only [sortedQ]
    intro z hz; exact h z (by simp [hz])

theorem sortedQ_tail {x} {r : List (Option ItemSpec)} (h : sortedQ (x :: r)) : sortedQ r := by
  cases x with
  | some _ => exact h
  | none => exact sortedQ_of_all_none r h

theorem sortedQ_append_none (q : List (Option ItemSpec)) (h : sortedQ q) : sortedQ (q ++ [none]) := by
  induction q with
  | nil => simp [sortedQ]
  | cons y ys ih =>
    cases y with
    | some _ => exact ih h
    | none =>
      simp only [sortedQ, List.cons_append] at h ⊢
      intro z hz
      simp at hz
      rcases hz with hz | hz
      · exact h z hz
      · exact hz

theorem sortedQ_append_some (q : List (Option ItemSpec)) (i : ItemSpec) (h : ∀ x ∈ q, x ≠ none) :
    sortedQ (q ++ [some i]) := by
  induction q with
  | nil => simp [sortedQ]
  | cons y ys ih =>
    cases y with
    | some _ => exact ih (fun x hx => h x (by simp [hx]))
    | none => exact absurd rfl (h none (by simp))

theorem alive_le_one (w : W) : alive w ≤ 1 := by
  cases w <;> simp [alive]

theorem needy_le_alive (w : W) : needy w ≤ alive w := by
  cases w with
  | exited p e => cases p <;> simp [needy, alive]
  | _ => simp [needy, alive]

theorem alive_eq_zero {w : W} : alive w = 0 ↔ w = .dead := by
  cases w <;> simp [alive]

theorem alive_afterTake (k : Nat) (y : Option ItemSpec) : alive (afterTake k y) = 1 := by
  cases y <;> rfl

theorem needy_afterTake (k : Nat) (y : Option ItemSpec) : needy (afterTake k y) + isPill y = 1 := by
  cases y <;> rfl

theorem wOuts_afterTake (k : Nat) (y : Option ItemSpec) : wOuts (afterTake k y) = elemOuts y := by
  cases y <;> rfl

theorem wErrs_afterTake (k : Nat) (y : Option ItemSpec) : wErrs (afterTake k y) = elemErrs y := by
  cases y <;> rfl

/-! ### rewriting one lineage, counting in the out-queue -/

theorem get_set {l : List W} {w : Nat} {old : W} (h : l[w]? = some old) (x : W) (w' : Nat) :
    (l.set w x)[w']? = if w' = w then some x else l[w']? := by
  have hlt : w < l.length := by
    rcases Nat.lt_or_ge w l.length with h' | h'
    · exact h'
    · rw [List.getElem?_eq_none h'] at h; simp at h
  rw [List.getElem?_set]
  by_cases hw : w = w'
  · subst hw; simp [hlt]
  · have : ¬ w' = w := fun h => hw h.symm
    simp [hw, this]

theorem oCount_append (o : Nat) (a b : List (Option Nat)) : oCount o (a ++ b) = oCount o a + oCount o b := by
  simp [oCount]

theorem oCount_nil (o : Nat) : oCount o [] = 0 := rfl

theorem oCount_cons_some (o o' : Nat) (q : List (Option Nat)) :
    oCount o (some o' :: q) = (if o' = o then 1 else 0) + oCount o q := by
  simp [oCount]

theorem oCount_cons_none (o : Nat) (q : List (Option Nat)) : oCount o (none :: q) = oCount o q := by
  simp [oCount]

theorem oCount_none (o : Nat) (q : List (Option Nat)) (h : ∀ x ∈ q, x = none) : oCount o q = 0 :=
  sumOver_eq_zero_of_all_eq h (by simp)

/-! ### invariants that are inductive on their own -/

def MaxK (c : Cfg) (s : State) : Prop := ∀ (w k : Nat) (p : List Nat) (e : Option Nat), s.ws[w]? = some (W.run k p e) → 0 < c.m → k ≤ c.m

theorem maxk_set (c : Cfg) (s : State) (w : Nat) (x : W) (h : MaxK c s)
    (hx : ∀ k p e, x = .run k p e → 0 < c.m → k ≤ c.m) (s' : State) (hs : s'.ws = s.ws.set w x) : MaxK c s' := by
  intro w' k p e hw hm
  rw [hs, List.getElem?_set] at hw
  split at hw
  · split at hw
    · exact hx k p e (by simpa using hw) hm
    · simp at hw
  · exact h w' k p e hw hm

theorem Moves.maxk {c : Cfg} {s s' : State} {a : Action} (h : Moves c s a s') (hI : MaxK c s) : MaxK c s' := by
  cases h with
  | wBegin => exact maxk_set c s _ _ hI (by intro k p e hx hm; cases hx; omega) _ rfl
  | @wGet _ _ y _ _ hk _ =>
    refine maxk_set c s _ _ hI ?_ _ rfl
    intro k' p e hx hm
    cases y <;> cases hx
    simp [mayTake] at hk; omega
  | wPut hw => exact maxk_set c s _ _ hI (by intro k' p e' hx hm; cases hx; exact hI _ _ _ _ hw hm) _ rfl
  | wRaise | wRetire | wRestart | wDie => exact maxk_set c s _ _ hI (by intro k p e hx; cases hx) _ rfl
  | _ => exact hI

theorem maxk_init (c : Cfg) : MaxK c (init c) := by
  intro w k p e hw
  simp only [init] at hw
  rw [List.getElem?_replicate] at hw
  split at hw <;> simp at hw

/-- lineage and pill accounting: all that `progress` needs, and the part of `Inv` a crashed worker does not break (`FInv.b`) -/
structure BInv (s : State) : Prop where
  np    : s.nprocs = sumOver alive s.ws
  lph1  : s.lphase = true → (∀ x ∈ s.todo, x = none) ∧ (∀ x, s.infl = some x → x = none)
  pills : s.active = true → s.lphase = true → sumOver needy s.ws ≤ sumOver isPill (s.inq ++ s.infl.toList ++ s.todo)
  q     : s.active = true → s.nprocs = 0 → none ∈ s.outq

theorem nprocs_zero_iff {s : State} (hI : BInv s) : s.nprocs = 0 ↔ ∀ w ∈ s.ws, w = .dead := by
  rw [hI.np, sumOver_eq_zero]
  simp only [alive_eq_zero]

theorem alive_pos_of_get {s : State} (hI : BInv s) {w : Nat} {x : W} (hw : s.ws[w]? = some x) (hx : x ≠ .dead) :
    0 < s.nprocs :=
  Nat.pos_of_ne_zero fun h0 => hx ((nprocs_zero_iff hI).1 h0 x (List.mem_of_getElem? hw))

theorem exists_alive {s : State} (hI : BInv s) (h : s.nprocs ≠ 0) :
    ∃ (w : Nat) (x : W), s.ws[w]? = some x ∧ x ≠ W.dead := by
  apply Classical.byContradiction
  intro hno
  refine h ((nprocs_zero_iff hI).2 fun x hx => ?_)
  obtain ⟨w, hw⟩ := List.mem_iff_getElem?.1 hx
  exact Classical.byContradiction fun hd => hno ⟨w, x, hw, hd⟩

theorem init_ws_zero (c : Cfg) (hn : 0 < c.n) : (init c).ws[0]? = some W.spawned := by
  simp only [init]
  cases hc : c.n with
  | zero => omega
  | succ k => simp [List.replicate_succ]

theorem binv_init (c : Cfg) (hn : 0 < c.n) : BInv (init c) := by
  refine ⟨?_, ?_, ?_, ?_⟩
  · simp [init, sumOver_replicate, alive]
  · intro h; simp [init] at h
  · intro _ h; simp [init] at h
  · intro _ h; simp [init] at h; omega

theorem BInv.lphase_of_perr {s : State} (hI : BInv s) {x : Option ItemSpec} {rest : List (Option ItemSpec)} {e : Nat}
    (ht : s.todo = x :: rest) (hp : perrOf x = some e) : s.lphase = false := by
  cases hl : s.lphase with
  | false => rfl
  | true => cases (hI.lph1 hl).1 x (ht ▸ List.mem_cons_self); cases hp

theorem binv_same (s s' : State) (hI : BInv s) (h1 : s'.nprocs = s.nprocs) (h2 : s'.ws = s.ws) (h3 : s'.lphase = s.lphase)
    (h4 : s'.todo = s.todo) (h5 : s'.infl = s.infl) (h6 : s'.inq = s.inq) (h7 : s'.active = true → s.active = true)
    (h8 : s'.active = true → none ∈ s.outq → none ∈ s'.outq) : BInv s' := by
  refine ⟨by rw [h1, h2]; exact hI.np, by rw [h3, h4, h5]; exact hI.lph1, ?_, ?_⟩
  · intro ha hl; rw [h2, h4, h5, h6]; exact hI.pills (h7 ha) (h3 ▸ hl)
  · intro ha hn; exact h8 ha (hI.q (h7 ha) (h1 ▸ hn))

theorem binv_inactive (s s' : State) (hI : BInv s) (h1 : s'.nprocs = s.nprocs) (h2 : s'.ws = s.ws) (h3 : s'.lphase = s.lphase)
    (h4 : s'.todo = s.todo) (h5 : s'.infl = s.infl) (h7 : s'.active = false) : BInv s' := by
  refine ⟨by rw [h1, h2]; exact hI.np, by rw [h3, h4, h5]; exact hI.lph1, ?_, ?_⟩
  · intro ha; rw [h7] at ha; simp at ha
  · intro ha; rw [h7] at ha; simp at ha

/-- a step that rewrites one lineage and (possibly) appends to the out-queue -/
theorem binv_ws (s s' : State) (w : Nat) (old x : W) (hI : BInv s) (hw : s.ws[w]? = some old)
    (h2 : s'.ws = s.ws.set w x) (h3 : s'.lphase = s.lphase)
    (h4 : s'.todo = s.todo) (h5 : s'.infl = s.infl) (h7 : s'.main = s.main)
    (hal : s'.nprocs + alive old = s.nprocs + alive x)
    (hpl : s'.active = true → s'.lphase = true →
      sumOver isPill s.inq + needy x ≤ sumOver isPill s'.inq + needy old)
    (h8 : none ∈ s.outq → none ∈ s'.outq) (h9 : s'.nprocs = 0 → alive old = 1 → alive x = 0 → none ∈ s'.outq) : BInv s' := by
  have ha := sumOver_set hw x alive
  have hn := sumOver_set hw x needy
  have hact : s'.active = s.active := by simp [State.active, h7]
  refine ⟨?_, by rw [h3, h4, h5]; exact hI.lph1, ?_, ?_⟩
  · rw [h2]; have := hI.np; omega
  · intro hA hl
    have h1 := hI.pills (hact ▸ hA) (h3 ▸ hl)
    have h2' := hpl hA hl
    rw [h2, h4, h5]
    simp only [sumOver_append] at h1 ⊢
    omega
  · intro hA h0
    have hnp := hI.np
    by_cases hs0 : s.nprocs = 0
    · exact h8 (hI.q (hact ▸ hA) hs0)
    · have := alive_le_one old
      apply h9 h0 <;> omega

theorem Moves.binv {c : Cfg} {s s' : State} {a : Action} (h : Moves c s a s') (hI : BInv s) : BInv s' := by
  cases h with
  | @loadTake x rest hi _ ht hp =>
    refine ⟨hI.np, ?_, ?_, hI.q⟩
    · intro hl; have := hI.lph1 hl; rw [ht] at this
      exact ⟨fun y hy => this.1 y (by simp [hy]), fun y hy => by simp at hy; subst hy; exact this.1 _ (by simp)⟩
    · intro ha hl; have := hI.pills ha hl; rw [ht, hi] at this; simp at this ⊢; omega
  | @loadTakeErr x rest e hi _ ht hp =>
    have hl : s.lphase = true → False := fun hl => nomatch (hI.lphase_of_perr ht hp).symm.trans hl
    exact ⟨hI.np, fun h => (hl h).elim, fun _ h => (hl h).elim, hI.q⟩
  | loadPut hi _ =>
    refine ⟨hI.np, ?_, ?_, hI.q⟩
    · intro hl; exact ⟨(hI.lph1 hl).1, by simp⟩
    · intro ha hl; have := hI.pills ha hl; rw [hi] at this; simp at this ⊢; omega
  | loadFinish _ hi _ =>
    refine ⟨hI.np, ?_, ?_, hI.q⟩
    · intro _; exact ⟨fun x hx => by simp at hx; exact hx.2, by simp [hi]⟩
    · intro _ _
      have h1 := sumOver_mono needy alive s.ws needy_le_alive
      have h2 := hI.np
      simp [hi, sumOver_replicate, isPill]; omega
  | wBegin hw _ | wRaise hw | wRetire hw _ | wRestart hw _ =>
    exact binv_ws s _ _ _ _ hI hw rfl rfl rfl rfl rfl (by simp [alive]) (by intro _ _; simp [needy]) (fun h => h) (by simp [alive])
  | wPut hw =>
    exact binv_ws s _ _ _ _ hI hw rfl rfl rfl rfl rfl (by simp [alive]) (by intro _ _; simp [needy]) (fun h => by simp [h])
      (by simp [alive])
  | @wGet _ k y _ hw _ hq =>
    -- an item leaves the lineage in need of a pill, a pill is the one it needed
    have := needy_afterTake k y
    have h1 : needy (.run k [] none) = 1 := rfl
    exact binv_ws s _ _ _ _ hI hw rfl rfl rfl rfl rfl (by rw [alive_afterTake]; rfl)
      (by intro _ _; simp only [hq, sumOver_cons, h1]; omega) (fun h => h) (by rw [alive_afterTake]; nofun)
  | wDie hw _ =>
    have hpos := alive_pos_of_get hI hw (by simp)
    refine binv_ws s _ _ _ .dead hI hw rfl rfl rfl rfl rfl (by simp [alive]; omega) (by intro _ _; simp [needy])
      (fun h => ?_) (fun h0 _ _ => ?_)
    · simp only []; split <;> simp [h]
    · simp only [] at h0 ⊢; simp [h0]
  | mEvent hm _ => exact binv_same s _ hI rfl rfl rfl rfl rfl rfl (fun _ => by simp [State.active, hm]) (fun _ h => h)
  | cGet _ hq => exact binv_same s _ hI rfl rfl rfl rfl rfl rfl (fun h => h) (fun _ h => by rw [hq] at h; simpa using h)
  | cGetPill | cAbandon | mDone => exact binv_inactive s _ hI rfl rfl rfl rfl rfl (by simp [State.active])
  | drainIn hm | drainOut hm => exact binv_inactive s _ hI rfl rfl rfl rfl rfl (by simp [State.active, hm])

/-- out-queue discipline: the pill is written once, last, by the last lineage to go -/
structure OutQ (s : State) : Prop where
  opill : none ∈ s.outq → s.nprocs = 0
  olast : ∀ x ∈ s.outq.dropLast, x ≠ none

theorem OutQ.same {s s' : State} (hO : OutQ s) (hq : s'.outq = s.outq) (hn : s'.nprocs ≤ s.nprocs) : OutQ s' :=
  ⟨fun h => Nat.le_zero.1 (hO.opill (hq ▸ h) ▸ hn), hq ▸ hO.olast⟩

theorem OutQ.tail {s s' : State} {x : Option Nat} (hO : OutQ s) (hq : s.outq = x :: s'.outq) (hn : s'.nprocs = s.nprocs) : OutQ s' :=
  ⟨fun h => hn ▸ hO.opill (hq ▸ List.mem_cons_of_mem _ h), fun y hy => hO.olast y (hq ▸ mem_dropLast_of_tail x _ y hy)⟩

theorem OutQ.push {s s' : State} {x : Option Nat} (hno : none ∉ s.outq) (hq : s'.outq = s.outq ++ [x]) (hn : x = none → s'.nprocs = 0) :
    OutQ s' := by
  refine ⟨fun h => ?_, fun y hy hyn => ?_⟩
  · rw [hq] at h
    rcases List.mem_append.1 h with h | h
    · exact absurd h hno
    · exact hn (List.mem_singleton.1 h).symm
  · rw [hq, List.dropLast_concat] at hy
    exact hno (hyn ▸ hy)

theorem Moves.outQ {c : Cfg} {s s' : State} {a : Action} (h : Moves c s a s') (hB : BInv s) (hO : OutQ s) : OutQ s' := by
  -- a lineage that still moves is alive, so no pill has been written yet
  have hnone : ∀ {w x}, s.ws[w]? = some x → x ≠ W.dead → none ∉ s.outq := fun hw hx hn =>
    Nat.ne_of_gt (alive_pos_of_get hB hw hx) (hO.opill hn)
  cases h with
  | wPut hw => exact .push (hnone hw nofun) rfl nofun
  | wDie hw _ =>
    by_cases hz : (s.nprocs - 1 == 0) = true
    · exact .push (hnone hw nofun) (if_pos hz) fun _ => beq_iff_eq.1 hz
    · exact hO.same (if_neg hz) (Nat.sub_le _ _)
  | cGet _ hq | cGetPill _ hq | drainOut _ hq => exact hO.tail hq rfl
  | _ => exact hO.same rfl (Nat.le_refl _)

/-- in-queue discipline: no pill before the loader's callback, nothing but pills behind a pill, nothing that cannot be pickled -/
structure InQ (s : State) : Prop where
  lph0   : s.lphase = false → (∀ x ∈ s.inq, x ≠ none) ∧ (∀ x ∈ s.todo, x ≠ none) ∧ s.infl ≠ some none
  sorted : sortedQ s.inq
  pick   : (∀ x ∈ s.inq, perrOf x = none) ∧ (∀ x, s.infl = some x → perrOf x = none)

theorem InQ.tail {s s' : State} {x : Option ItemSpec} (hQ : InQ s) (hq : s.inq = x :: s'.inq) (hl : s'.lphase = s.lphase)
    (ht : s'.todo = s.todo) (hi : s'.infl = s.infl) : InQ s' := by
  have sub : ∀ y ∈ s'.inq, y ∈ s.inq := fun y hy => hq ▸ List.mem_cons_of_mem _ hy
  refine ⟨fun h => ?_, sortedQ_tail (hq ▸ hQ.sorted), fun y hy => hQ.pick.1 y (sub y hy), hi ▸ hQ.pick.2⟩
  have := hQ.lph0 (hl ▸ h)
  exact ⟨fun y hy => this.1 y (sub y hy), ht ▸ this.2.1, hi ▸ this.2.2⟩

theorem Moves.inQ {c : Cfg} {s s' : State} {a : Action} (h : Moves c s a s') (hB : BInv s) (hQ : InQ s) : InQ s' := by
  cases h with
  | @loadTake x rest hi _ ht hp =>
    refine ⟨fun hl => ?_, hQ.sorted, hQ.pick.1, fun y hy => by cases hy; exact hp⟩
    have := hQ.lph0 hl
    rw [ht] at this
    exact ⟨this.1, fun y hy => this.2.1 y (List.mem_cons_of_mem _ hy), fun h => this.2.1 x List.mem_cons_self (Option.some.inj h)⟩
  | loadTakeErr hi _ _ _ => exact ⟨fun hl => ⟨(hQ.lph0 hl).1, by simp, by simp [hi]⟩, hQ.sorted, hQ.pick⟩
  | @loadPut x hi _ =>
    have mem : ∀ {P : Option ItemSpec → Prop}, (∀ y ∈ s.inq, P y) → P x → ∀ y ∈ s.inq ++ [x], P y := fun h hx y hy => by
      rcases List.mem_append.1 hy with hy | hy
      · exact h y hy
      · cases List.mem_singleton.1 hy; exact hx
    refine ⟨fun hl => ?_, ?_, mem hQ.pick.1 (hQ.pick.2 x hi), by simp⟩
    · have := hQ.lph0 hl
      exact ⟨mem this.1 fun hx => this.2.2 (hi.trans (congrArg some hx)), this.2.1, by simp⟩
    · -- before the callback an item goes behind items, after it a pill goes behind anything
      cases hl : s.lphase with
      | false =>
        have := hQ.lph0 hl
        cases x with
        | none => exact absurd hi this.2.2
        | some i => exact sortedQ_append_some _ _ this.1
      | true => cases (hB.lph1 hl).2 x hi; exact sortedQ_append_none _ hQ.sorted
  | loadFinish => exact ⟨fun h' => (nomatch h'), hQ.sorted, hQ.pick⟩
  | wGet _ _ hq | drainIn _ hq => exact hQ.tail hq rfl rfl rfl
  | _ => exact ⟨hQ.lph0, hQ.sorted, hQ.pick⟩

/-- the loader's callback has run and the in-queue holds nothing but pills -/
def Drained (s : State) : Prop := s.lphase = true ∧ ∀ x ∈ s.inq, x = none

theorem InQ.drained_of_pill {s : State} {rest : List (Option ItemSpec)} (hQ : InQ s) (hq : s.inq = none :: rest) : Drained s := by
  have hs := hQ.sorted
  rw [hq] at hs
  refine ⟨?_, fun x hx => ?_⟩
  · cases hl : s.lphase with
    | true => rfl
    | false => exact absurd rfl ((hQ.lph0 hl).1 none (hq ▸ List.mem_cons_self))
  · rw [hq] at hx
    rcases List.mem_cons.1 hx with rfl | hx
    · rfl
    · exact hs x hx

theorem Moves.drained {c : Cfg} {s s' : State} {a : Action} (h : Moves c s a s') (hB : BInv s) (hD : Drained s) : Drained s' := by
  cases h with
  | loadPut hi _ =>
    refine ⟨hD.1, fun y hy => ?_⟩
    rcases List.mem_append.1 hy with hy | hy
    · exact hD.2 y hy
    · cases List.mem_singleton.1 hy; exact (hB.lph1 hD.1).2 _ hi
  | loadFinish => exact ⟨rfl, hD.2⟩
  | wGet _ _ hq | drainIn _ hq => exact ⟨hD.1, fun y hy => hD.2 y (hq ▸ List.mem_cons_of_mem _ hy)⟩
  | _ => exact hD

/-- lineage `w` has taken a pill: it is poisoned, or dead with no error recorded (a lineage that is not poisoned dies of an error only) -/
def Pilled (s : State) (w : Nat) : Prop :=
  (∃ e, s.ws[w]? = some (W.exited true e)) ∨ (s.ws[w]? = some W.dead ∧ s.excs = [])

theorem pilled_set {s : State} {w : Nat} {old x : W} (hw : s.ws[w]? = some old) {s' : State} {w' : Nat} (h : Pilled s' w')
    (hws : s'.ws = s.ws.set w x) (hex : s'.excs = s.excs) (hx : needy x = 1) : Pilled s w' := by
  unfold Pilled at h ⊢
  rw [hws, hex, get_set hw] at h
  by_cases hww : w' = w
  · rw [if_pos hww] at h
    rcases h with ⟨e, h⟩ | ⟨h, _⟩ <;> cases h <;> cases hx
  · rwa [if_neg hww] at h

theorem Moves.pilled {c : Cfg} {s s' : State} {a : Action} (h : Moves c s a s') {w : Nat} (hp : Pilled s' w) :
    Pilled s w ∨ ∃ rest, s.inq = none :: rest := by
  cases h with
  | @wGet _ _ y _ hw _ hq =>
    cases y with
    | none => exact .inr ⟨_, hq⟩
    | some x => exact .inl (pilled_set hw hp rfl rfl rfl)
  | wBegin hw _ | wRaise hw | wRetire hw _ | wRestart hw _ | wPut hw => exact .inl (pilled_set hw hp rfl rfl rfl)
  | loadFinish => exact .inl (hp.imp_right fun h => ⟨h.1, (List.append_eq_nil_iff.1 h.2).1⟩)
  | @wDie w0 p e hw hc =>
    have hp' : (∃ e, (s.ws.set w0 .dead)[w]? = some (W.exited true e))
        ∨ ((s.ws.set w0 .dead)[w]? = some W.dead ∧ s.excs ++ e.toList = []) := hp
    rw [get_set hw] at hp'
    by_cases hww : w = w0
    · -- a lineage that is not poisoned dies of an error only, and then an error is recorded
      rw [if_pos hww] at hp'
      rcases hp' with ⟨_, h⟩ | ⟨_, h⟩
      · cases h
      · exact .inl (.inl ⟨e, hww ▸ (hc.resolve_right (absurd h)) ▸ hw⟩)
    · rw [if_neg hww] at hp'
      exact .inl (hp'.imp_right fun h => ⟨h.1, (List.append_eq_nil_iff.1 h.2).1⟩)
  | _ => exact .inl hp

/-- While the caller waits for the event, lineage 0 has not begun — or, with faults, it is in `crashed` and its callback is pending.
Every move keeps that, except the callback of a crashed lineage 0 (which sets the event). -/
theorem Moves.evF {c : Cfg} {s s' : State} {a : Action} (h : Moves c s a s') (crashed : List Nat)
    (hI : s.main = .waitEvent → s.event = false → s.ws[0]? = some W.spawned ∨ (0 ∈ crashed ∧ ∃ p e, s.ws[0]? = some (W.exited p e)))
    (hcb : 0 ∈ crashed → a ≠ .wCallback 0) (hm : s'.main = .waitEvent) (hev : s'.event = false) :
    s'.ws[0]? = some W.spawned ∨ (0 ∈ crashed ∧ ∃ p e, s'.ws[0]? = some (W.exited p e)) := by
  have h0 := hI (Classical.byContradiction fun hne => h.not_waitEvent hne hm) (h.event_mono hev)
  by_cases hl : lin a = some 0
  · -- lineage 0 is `spawned` or has exited: its own step would be `wBegin`, which sets the event, or its callback
    exfalso
    cases h with
    | wBegin => cases hev
    | wGet hw | wPut hw | wRaise hw | wRetire hw =>
      cases hl; rw [hw] at h0; rcases h0 with h0 | ⟨_, _, _, h0⟩ <;> cases h0
    | wRestart hw | wDie hw =>
      cases hl
      rcases h0 with h0 | ⟨hc, _⟩
      · rw [hw] at h0; cases h0
      · exact hcb hc rfl
    | _ => cases hl
  · rw [h.ws_frame hl]; exact h0

theorem Moves.ev {c : Cfg} {s s' : State} {a : Action} (h : Moves c s a s')
    (hI : s.main = .waitEvent → s.event = false → s.ws[0]? = some W.spawned) (hm : s'.main = .waitEvent) (hev : s'.event = false) :
    s'.ws[0]? = some W.spawned :=
  (h.evF [] (fun hm he => .inl (hI hm he)) nofun hm hev).resolve_right fun h => nomatch h.1

theorem outTotal_init (c : Cfg) (o : Nat) : outTotal o (init c) = sumOver (fun x => x.outs.count o) c.items := by
  simp [outTotal, init, inSide, oCount, sumOver_replicate, wOuts, sumOver_map, elemOuts]

theorem outTotal_event (o : Nat) (s : State) (ev : Bool) : outTotal o { s with event := ev } = outTotal o s := rfl
theorem outTotal_main (o : Nat) (s : State) (m : Phase) : outTotal o { s with main := m } = outTotal o s := rfl

theorem wOuts_set {l : List W} {w : Nat} {old : W} (hw : l[w]? = some old) (x : W) (h : wOuts x = wOuts old) (o : Nat) :
    sumOver (fun w => (wOuts w).count o) (l.set w x) = sumOver (fun w => (wOuts w).count o) l := by
  have := sumOver_set hw x (fun w => (wOuts w).count o)
  simp only [h] at this
  omega

/-- how many elements a step hands from the in-queue to a worker -/
def nTaken : Action → Nat
  | .wGet _ => 1
  | _ => 0

/-- The input side only passes its elements along (loader → in-queue → dropped, or → a worker); the pills the loader's
callback adds weigh nothing. -/
theorem Moves.inSide_sum {c : Cfg} {s s' : State} {a : Action} (h : Moves c s a s') (g : Option ItemSpec → Nat) (hg : g none = 0) :
    sumOver g (inSide s') + sumOver g (s.inq.take (nTaken a)) = sumOver g (inSide s) := by
  cases h with
  | loadTake hi _ ht _ | loadTakeErr hi _ ht _ =>
    simp only [inSide, nTaken, hi, ht, Option.toList, List.take_zero, sumOver_append, sumOver_cons, sumOver_nil]; omega
  | loadPut hi _ => simp only [inSide, nTaken, hi, Option.toList, List.take_zero, sumOver_append, sumOver_cons, sumOver_nil]; omega
  | loadFinish _ hi _ =>
    simp only [inSide, nTaken, hi, Option.toList, List.take_zero, sumOver_append, sumOver_nil, sumOver_replicate, hg]; omega
  | wGet _ _ hq =>
    simp only [inSide, nTaken, hq, List.take_succ_cons, List.take_zero, sumOver_append, sumOver_cons, sumOver_nil]; omega
  | drainIn _ hq => simp only [inSide, nTaken, hq, List.take_zero, sumOver_append, sumOver_cons, sumOver_nil]; omega
  | _ => rfl

theorem Moves.inSide_eq {c : Cfg} {s s' : State} {a : Action} (h : Moves c s a s') (ha : nTaken a = 0) (g : Option ItemSpec → Nat)
    (hg : g none = 0) : sumOver g (inSide s') = sumOver g (inSide s) := by
  have := h.inSide_sum g hg
  rwa [ha, List.take_zero, sumOver_nil, Nat.add_zero] at this

theorem Moves.outTotal_eq {c : Cfg} {s s' : State} {a : Action} (h : Moves c s a s') (o : Nat) : outTotal o s' = outTotal o s := by
  have hin := h.inSide_sum (fun x => (elemOuts x).count o) rfl
  cases h with
  | loadTake | loadTakeErr | loadPut | loadFinish | drainIn =>
    simp only [nTaken, List.take_zero, sumOver_nil, Nat.add_zero] at hin
    simp only [outTotal, hin]
  | wBegin hw _ | wRaise hw | wRetire hw _ | wRestart hw _ => simp only [outTotal, inSide]; rw [wOuts_set hw _ ?_]; rfl
  | @wGet w k y rest hw _ hq =>
    have := sumOver_set hw (afterTake k y) (fun w => (wOuts w).count o)
    have h0 : wOuts (.run k [] none) = [] := rfl
    simp only [hq, outTotal, inSide, h0, wOuts_afterTake, List.count_nil, List.cons_append, sumOver_cons] at this ⊢; omega
  | @wPut w k o' pend e hw =>
    have := sumOver_set hw (.run k pend e) (fun w => (wOuts w).count o)
    simp only [outTotal, inSide, wOuts, oCount_append, oCount_cons_some, oCount_nil, List.count_cons, beq_iff_eq] at this ⊢
    omega
  | wDie hw _ =>
    have hq : oCount o (if (s.nprocs - 1 == 0) = true then s.outq ++ [none] else s.outq) = oCount o s.outq := by
      split
      · rw [oCount_append, oCount_cons_none, oCount_nil]; rfl
      · rfl
    simp only [outTotal, inSide, wOuts_set hw .dead rfl, hq]
  | cGet _ hq =>
    simp only [hq, outTotal, inSide, oCount_cons_some, List.count_append, List.count_cons, beq_iff_eq, List.count_nil]; omega
  | cGetPill _ hq => simp only [hq, outTotal, inSide, oCount_cons_none]
  | @drainOut x rest _ hq =>
    cases x <;> simp only [hq, outTotal, inSide, oCount_append, oCount_cons_some, oCount_cons_none, oCount_nil] <;> omega
  | mEvent | cAbandon | mDone => rfl

theorem elemPerrs_eq (x : Option ItemSpec) : elemPerrs x = (perrOf x).toList := by
  cases x <;> rfl

theorem elemPerrs_of_perrOf_none (x : Option ItemSpec) (h : perrOf x = none) : elemPerrs x = [] := by
  rw [elemPerrs_eq, h]; rfl

/-- an element that cannot be pickled never reaches the in-queue, so what the workers take carries no pickling error -/
theorem Moves.perr_eq {c : Cfg} {s s' : State} {a : Action} (h : Moves c s a s') (hpick : ∀ x ∈ s.inq, perrOf x = none) (e : Nat) :
    sumOver (fun x => (elemPerrs x).count e) (inSide s') = sumOver (fun x => (elemPerrs x).count e) (inSide s) := by
  have := h.inSide_sum (fun x => (elemPerrs x).count e) rfl
  have h0 : sumOver (fun x => (elemPerrs x).count e) (s.inq.take (nTaken a)) = 0 :=
    (sumOver_eq_zero _ _).2 fun x hx => by rw [elemPerrs_of_perrOf_none x (hpick x (List.mem_of_mem_take hx))]; rfl
  omega

/-! ### the invariant `Inv`, and that it is inductive -/

/-- The invariant of the base system, flat: the fields of `BInv`, `InQ`, `OutQ`, `MaxK` and `Inv.Rest`, the event rule,
conservation of outputs and of pickling errors, and `pois`; `Inv.of_parts` puts it together from these. -/
structure Inv (c : Cfg) (s : State) : Prop where
  npos   : 0 < c.n
  len    : s.ws.length = c.n
  np     : s.nprocs = sumOver alive s.ws
  ev     : s.main = .waitEvent → s.event = false → s.ws[0]? = some W.spawned
  outC   : ∀ o, outTotal o s = sumOver (fun x => x.outs.count o) c.items
  errC   : ∀ e, errTotal e s = sumOver (fun x => x.err.toList.count e) c.items
             + (if s.lphase then s.lexc.toList.count e else 0)
  lph0   : s.lphase = false → (∀ x ∈ s.inq, x ≠ none) ∧ (∀ x ∈ s.todo, x ≠ none) ∧ s.infl ≠ some none
  lph1   : s.lphase = true → (∀ x ∈ s.todo, x = none) ∧ (∀ x, s.infl = some x → x = none)
  sorted : sortedQ s.inq
  pois   : ∀ w : Nat, (∃ e, s.ws[w]? = some (W.exited true e)) ∨ (s.ws[w]? = some W.dead ∧ s.excs = []) →
             s.lphase = true ∧ ∀ x ∈ s.inq, x = none
  pills  : s.active = true → s.lphase = true →
             sumOver needy s.ws ≤ sumOver isPill (s.inq ++ s.infl.toList ++ s.todo)
  opill  : none ∈ s.outq → s.nprocs = 0
  olast  : ∀ x ∈ s.outq.dropLast, x ≠ none
  q      : s.active = true → s.nprocs = 0 → none ∈ s.outq
  fin    : s.active = false → s.abandoned = false →
             s.nprocs = 0 ∧ (s.excs = [] →
               (∀ o, s.recv.count o = sumOver (fun x => x.outs.count o) c.items) ∧ ∀ x ∈ c.items, x.err = none ∧ x.perr = none)
  maxk   : 0 < c.m → ∀ (w : Nat) k p e, s.ws[w]? = some (W.run k p e) → k ≤ c.m
  aband  : s.abandoned = true → s.active = false
  drops  : s.active = true → (s.lexc = none → s.dropIn = []) ∧ s.dropOut = []
  perrC  : ∀ e, sumOver (fun x => (elemPerrs x).count e) (inSide s)
             = sumOver (fun x => x.perr.toList.count e) c.items
  pick   : (∀ x ∈ s.inq, perrOf x = none) ∧ (∀ x, s.infl = some x → perrOf x = none)
  lexcIn : s.lphase = true → ∀ e, s.lexc = some e → e ∈ s.excs
  lexc0  : s.lphase = false → ∀ e, s.lexc = some e → s.todo = []
  lexcOk : ∀ e, s.lexc = some e → 0 < sumOver (fun x => x.perr.toList.count e) c.items

theorem Inv.toBInv {c : Cfg} {s : State} (hI : Inv c s) : BInv s := ⟨hI.np, hI.lph1, hI.pills, hI.q⟩

theorem Inv.toMaxK {c : Cfg} {s : State} (hI : Inv c s) : MaxK c s := fun w k p e hw hm => hI.maxk hm w k p e hw

theorem Inv.toInQ {c : Cfg} {s : State} (hI : Inv c s) : InQ s := { hI with }

theorem Inv.toOutQ {c : Cfg} {s : State} (hI : Inv c s) : OutQ s := { hI with }

/-- The fields of `Inv` that are not invariants in their own right.  A case of `Inv.moves` writes `{ hI.rest with f := … }` for
the fields `f` its step touches; the others are those of the state before, up to unfolding the record update. -/
structure Inv.Rest (c : Cfg) (s : State) : Prop where
  errC   : ∀ e, errTotal e s = sumOver (fun x => x.err.toList.count e) c.items
             + (if s.lphase then s.lexc.toList.count e else 0)
  fin    : s.active = false → s.abandoned = false →
             s.nprocs = 0 ∧ (s.excs = [] →
               (∀ o, s.recv.count o = sumOver (fun x => x.outs.count o) c.items) ∧ ∀ x ∈ c.items, x.err = none ∧ x.perr = none)
  aband  : s.abandoned = true → s.active = false
  drops  : s.active = true → (s.lexc = none → s.dropIn = []) ∧ s.dropOut = []
  lexcIn : s.lphase = true → ∀ e, s.lexc = some e → e ∈ s.excs
  lexc0  : s.lphase = false → ∀ e, s.lexc = some e → s.todo = []
  lexcOk : ∀ e, s.lexc = some e → 0 < sumOver (fun x => x.perr.toList.count e) c.items

theorem Inv.rest {c : Cfg} {s : State} (hI : Inv c s) : Inv.Rest c s := { hI with }

/-- the field `pois` of `Inv` is `Pilled s w → Drained s` with both unfolded -/
theorem Inv.of_parts {c : Cfg} {s : State} (npos : 0 < c.n) (len : s.ws.length = c.n) (hB : BInv s) (hK : MaxK c s) (hQ : InQ s)
    (hO : OutQ s) (ev : s.main = .waitEvent → s.event = false → s.ws[0]? = some W.spawned)
    (outC : ∀ o, outTotal o s = sumOver (fun x => x.outs.count o) c.items)
    (perrC : ∀ e, sumOver (fun x => (elemPerrs x).count e) (inSide s) = sumOver (fun x => x.perr.toList.count e) c.items)
    (pois : ∀ w, Pilled s w → Drained s) (r : Inv.Rest c s) : Inv c s :=
  { r, hB, hQ, hO with npos, len, ev, outC, perrC, pois, maxk := fun hm w k p e hw => hK w k p e hw hm }

theorem Inv.of_rest {c : Cfg} {s s' : State} {a : Action} (hI : Inv c s) (h : Moves c s a s') (r : Inv.Rest c s') : Inv c s' :=
  .of_parts hI.npos (h.ws_len.trans hI.len) (h.binv hI.toBInv) (h.maxk hI.toMaxK) (h.inQ hI.toBInv hI.toInQ)
    (h.outQ hI.toBInv hI.toOutQ) (h.ev hI.ev) (fun o => (h.outTotal_eq o).trans (hI.outC o))
    (fun e => (h.perr_eq hI.pick.1 e).trans (hI.perrC e))
    (fun w hp => h.drained hI.toBInv ((h.pilled hp).elim (hI.pois w) fun ⟨_, hq⟩ => hI.toInQ.drained_of_pill hq)) r

theorem errC_set {c : Cfg} {s s' : State} (hI : Inv c s) {w : Nat} {old x : W} (hw : s.ws[w]? = some old)
    (hws : s'.ws = s.ws.set w x) (hl : s'.lphase = s.lphase) (hlx : s'.lexc = s.lexc)
    (h : ∀ e, s'.excs.count e + (wErrs x).count e + sumOver (fun y => (elemErrs y).count e) (inSide s')
            = s.excs.count e + (wErrs old).count e + sumOver (fun y => (elemErrs y).count e) (inSide s)) (e : Nat) :
    errTotal e s' = sumOver (fun x => x.err.toList.count e) c.items + (if s'.lphase then s'.lexc.toList.count e else 0) := by
  have h1 := hI.errC e
  have h2 : sumOver (fun w => (wErrs w).count e) (s.ws.set w x) + (wErrs old).count e
      = sumOver (fun w => (wErrs w).count e) s.ws + (wErrs x).count e := sumOver_set hw x _
  have h3 := h e
  simp only [errTotal] at h1 ⊢
  rw [hws, hl, hlx]
  omega

theorem count_allOuts (c : Cfg) (o : Nat) : (allOuts c).count o = sumOver (fun x => x.outs.count o) c.items := by
  unfold allOuts
  induction c.items with
  | nil => simp
  | cons y ys ih => simp [List.flatMap_cons, List.count_append, ih]

theorem count_filterMap (f : ItemSpec → Option Nat) (items : List ItemSpec) (e : Nat) :
    (items.filterMap f).count e = sumOver (fun x => (f x).toList.count e) items := by
  induction items with
  | nil => rfl
  | cons y ys ih => cases hy : f y <;> simp [hy, ih, List.count_cons, Nat.add_comm]

theorem count_allErrs (c : Cfg) (e : Nat) : (allErrs c).count e =
    sumOver (fun x => x.err.toList.count e) c.items + sumOver (fun x => x.perr.toList.count e) c.items := by
  simp only [allErrs, List.count_append, count_filterMap]

theorem allErrs_nil_iff (c : Cfg) : allErrs c = [] ↔ ∀ x ∈ c.items, x.err = none ∧ x.perr = none := by
  simp only [allErrs, List.append_eq_nil_iff, List.filterMap_eq_nil_iff]
  exact ⟨fun h x hx => ⟨h.1 x hx, h.2 x hx⟩, fun h => ⟨fun x hx => (h x hx).1, fun x hx => (h x hx).2⟩⟩

/-- The pill is the last thing a call puts on the out-queue: every lineage is dead, and if nothing was recorded the loader has
finished too, so everything that is conserved sits in `recv`. -/
theorem Inv.delivered {c : Cfg} {s : State} (hI : Inv c s) (hact : s.active = true) (h0 : s.nprocs = 0) (hq : s.outq = [none])
    (hex : s.excs = []) :
    (∀ o, s.recv.count o = sumOver (fun x => x.outs.count o) c.items) ∧ ∀ x ∈ c.items, x.err = none ∧ x.perr = none := by
  have hdead := (nprocs_zero_iff hI.toBInv).1 h0
  have hlen := hI.len
  have hnp := hI.npos
  have h0w : s.ws[0]? = some .dead := by
    cases hws : s.ws with
    | nil => rw [hws] at hlen; simp at hlen; omega
    | cons w0 wr =>
      have := hdead w0 (by rw [hws]; simp)
      subst this; simp
  have hp := hI.pois 0 (Or.inr ⟨h0w, hex⟩)
  have hl1 := hI.lph1 hp.1
  have hlx : s.lexc = none := by
    cases hlx : s.lexc with
    | none => rfl
    | some e1 =>
      have := hI.lexcIn hp.1 e1 hlx
      rw [hex] at this; simp at this
  have hd0 := hI.drops hact
  have hd : s.dropIn = [] ∧ s.dropOut = [] := ⟨hd0.1 hlx, hd0.2⟩
  have hwo : ∀ o', sumOver (fun w => (wOuts w).count o') s.ws = 0 := fun _ => sumOver_eq_zero_of_all_eq hdead rfl
  have hwe : ∀ e, sumOver (fun w => (wErrs w).count e) s.ws = 0 := fun _ => sumOver_eq_zero_of_all_eq hdead rfl
  have hin : ∀ x ∈ inSide s, x = none := by
    intro x hx
    simp only [inSide, hd.1, List.append_nil, List.mem_append] at hx
    rcases hx with (hx | hx) | hx
    · exact hp.2 x hx
    · cases hi : s.infl with
      | none => rw [hi] at hx; simp at hx
      | some y =>
        rw [hi] at hx; simp at hx; subst hx
        exact hl1.2 _ hi
    · exact hl1.1 x hx
  have hio : ∀ o', sumOver (fun x => (elemOuts x).count o') (inSide s) = 0 := fun _ => sumOver_eq_zero_of_all_eq hin rfl
  have hie : ∀ e, sumOver (fun x => (elemErrs x).count e) (inSide s) = 0 := fun _ => sumOver_eq_zero_of_all_eq hin rfl
  constructor
  · intro o'
    have := hI.outC o'
    simp only [outTotal, hq, hd.2, hwo, hio, oCount] at this
    simp at this
    exact this
  · refine (allErrs_nil_iff c).1 (List.eq_nil_iff_forall_not_mem.2 fun e he => ?_)
    have h1 := hI.errC e
    have h2 := hI.perrC e
    have := List.count_pos_iff.2 he
    rw [count_allErrs] at this
    rw [sumOver_eq_zero_of_all_eq hin rfl] at h2
    simp only [errTotal, hwe, hie, hex, hlx] at h1
    simp at h1; omega

theorem Inv.moves {c : Cfg} {s s' : State} {a : Action} (hI : Inv c s) (h : Moves c s a s') : Inv c s' := by
  have hm := h
  cases h with
  | loadTake hi _ ht hp =>
    refine hI.of_rest hm { hI.rest with
      errC := fun e => by rw [errTotal, hm.inSide_eq rfl _ rfl]; exact hI.errC e, lexc0 := fun hl e he => ?_ }
    have := hI.lexc0 hl e he
    rw [ht] at this; cases this
  | @loadTakeErr x rest e0 hi hst ht hp =>
    have hact : s.active = true := by simpa [stopped_eq] using hst
    have hl := hI.toBInv.lphase_of_perr ht hp
    refine hI.of_rest hm { hI.rest with errC := ?_, drops := ?_, lexcIn := ?_, lexc0 := ?_, lexcOk := ?_ }
    · intro e
      have := hI.errC e
      rw [errTotal, hm.inSide_eq rfl _ rfl]
      simp only [hl, Bool.false_eq_true, if_false] at this ⊢
      exact this
    · intro _
      refine ⟨by simp, (hI.drops hact).2⟩
    · intro hl'; rw [hl] at hl'; simp at hl'
    · intro _ _ _; rfl
    · intro e he
      simp at he; subst he
      have := hI.perrC e0
      have h2 := sumOver_le_of_mem (fun x => (elemPerrs x).count e0) (inSide s) x (by simp [inSide, ht])
      have h3 : (elemPerrs x).count e0 = 1 := by rw [elemPerrs_eq, hp]; simp
      simp only [h3] at h2
      omega
  | loadPut =>
    exact hI.of_rest hm { hI.rest with errC := fun e => by rw [errTotal, hm.inSide_eq rfl _ rfl]; exact hI.errC e }
  | loadFinish hl hi h3 =>
    refine hI.of_rest hm { hI.rest with errC := ?_, fin := ?_, drops := ?_, lexcIn := ?_, lexc0 := ?_ }
    · intro e
      have := hI.errC e
      rw [errTotal, hm.inSide_eq rfl _ rfl]
      simp only [errTotal, hl, List.count_append, Bool.false_eq_true, if_false, if_true] at this ⊢
      omega
    · intro ha hab
      have := hI.fin ha hab
      refine ⟨this.1, ?_⟩
      intro hex
      simp at hex
      exact this.2 hex.1
    · intro ha
      have ha : s.active = true := ha
      have hd := hI.drops ha
      rcases h3 with h3 | h3
      · refine ⟨?_, hd.2⟩
        intro hlx; simp [hd.1 hlx, h3]
      · rw [stopped_eq, ha] at h3; cases h3
    · intro _ e he
      have he : s.lexc = some e := he
      simp [he]
    · intro h'; simp at h'
  | wBegin hw _ | wRaise hw | wRetire hw _ | wRestart hw _ | wPut hw =>
    exact hI.of_rest hm { hI.rest with errC := errC_set hI hw rfl rfl rfl fun _ => rfl }
  | @wGet w k y rest hw hk hq =>
    refine hI.of_rest hm { hI.rest with errC := errC_set hI hw rfl rfl rfl fun e' => ?_ }
    have := hm.inSide_sum (fun y => (elemErrs y).count e') rfl
    simp only [nTaken, hq, List.take_succ_cons, List.take_zero, sumOver_cons, sumOver_nil] at this
    have h0 : (wErrs (.run k [] none)).count e' = 0 := rfl
    show s.excs.count e' + _ + _ = _
    rw [wErrs_afterTake]
    omega
  | @wDie w p e hw hc' =>
    have hpos := alive_pos_of_get hI.toBInv hw (by simp)
    refine hI.of_rest hm { hI.rest with errC := errC_set hI hw rfl rfl rfl fun e' => ?_, fin := ?_, lexcIn := ?_ }
    · show (s.excs ++ e.toList).count e' + _ + sumOver _ (inSide s) = _
      simp only [wErrs, List.count_append, List.count_nil]; omega
    · intro ha hab
      have := (hI.fin ha hab).1
      omega
    · intro hl e' he'
      have := hI.lexcIn hl e' he'
      simp [this]
  | mEvent hmw _ =>
    have hact : s.active = true := by simp [State.active, hmw]
    refine hI.of_rest hm { hI.rest with fin := ?_, aband := ?_, drops := ?_ }
    · intro h'; simp [State.active] at h'
    · intro ha; have := hI.aband ha; rw [hact] at this; simp at this
    · intro _; exact hI.drops hact
  | cGet hmc _ =>
    refine hI.of_rest hm { hI.rest with fin := fun h' => ?_ }
    have h' : s.active = false := h'
    simp [State.active, hmc] at h'
  | @cGetPill rest hmc hq =>
    have hact : s.active = true := by simp [State.active, hmc]
    have h0 : s.nprocs = 0 := hI.opill (by rw [hq]; simp)
    have hrest : rest = [] := by
      cases rest with
      | nil => rfl
      | cons z zs =>
        have := hI.olast none (by rw [hq]; simp [List.dropLast])
        exact absurd rfl this
    refine hI.of_rest hm { hI.rest with fin := ?_, aband := ?_, drops := ?_ }
    · exact fun _ _ => ⟨h0, hI.delivered hact h0 (by rw [hq, hrest])⟩
    · intro hab
      simp [State.active]
    · intro h'; simp [State.active] at h'
  | cAbandon =>
    refine hI.of_rest hm { hI.rest with fin := ?_, aband := ?_, drops := ?_ }
    · intro _ h'; simp at h'
    · intro _; simp [State.active]
    · intro h'; simp [State.active] at h'
  | @drainIn x rest hmf hq =>
    refine hI.of_rest hm { hI.rest with
      errC := fun e => by rw [errTotal, hm.inSide_eq rfl _ rfl]; exact hI.errC e, drops := fun h' => ?_ }
    have h' : s.active = true := h'
    simp [State.active, hmf] at h'
  | drainOut hmf _ =>
    refine hI.of_rest hm { hI.rest with drops := fun h' => ?_ }
    have h' : s.active = true := h'
    simp [State.active, hmf] at h'
  | mDone hmf =>
    have hact : s.active = false := by simp [State.active, hmf]
    refine hI.of_rest hm { hI.rest with fin := ?_, aband := ?_, drops := ?_ }
    · intro _ ha; exact hI.fin hact ha
    · intro _; simp [State.active]
    · intro h'; simp [State.active] at h'

/-! ### consequences -/

/-- `k` = copies held outside the base state -/
theorem recv_count_le {c : Cfg} {s : State} {o k : Nat} (h : outTotal o s + k = sumOver (fun x => x.outs.count o) c.items) :
    s.recv.count o + k ≤ (allOuts c).count o := by
  rw [count_allOuts, ← h]; simp only [outTotal]; omega

theorem excs_sub {c : Cfg} {s : State} (hI : Inv c s) : ∀ e ∈ s.excs, e ∈ allErrs c := by
  intro e he
  have hc : 0 < s.excs.count e := List.count_pos_iff.2 he
  have := hI.errC e
  rw [← List.count_pos_iff, count_allErrs]
  simp only [errTotal] at this
  -- an item raises `e`, or the loader's callback recorded it: then an item fails to pickle with `e`
  cases hx : s.lexc with
  | none => simp [hx] at this; omega
  | some e1 =>
    by_cases h1 : e1 = e
    · have := hI.lexcOk e (h1 ▸ hx); omega
    · simp [hx, h1] at this; omega

theorem outcome_ok {s : State} {outs : List Nat} (h : outcome s = .ok outs) :
    s.abandoned = false ∧ s.excs = [] ∧ s.recv = outs := by
  cases hab : s.abandoned <;> cases hex : s.excs <;> simp [outcome, hab, hex] at h ⊢
  exact h

theorem outcome_raised {s : State} {e : Nat} {outs : List Nat} (h : outcome s = .raised e outs) :
    s.abandoned = false ∧ ∃ es, s.excs = e :: es := by
  cases hab : s.abandoned <;> cases hex : s.excs <;> simp [outcome, hab, hex] at h ⊢
  exact h.1

theorem outcome_of_done {c : Cfg} {s : State} (hI : Inv c s) (hd : s.main = .done) (hab : s.abandoned = false) :
    (outcome s = .ok s.recv ∧ s.recv.Perm (allOuts c) ∧ allErrs c = []) ∨ ∃ e, outcome s = .raised e s.recv ∧ e ∈ allErrs c := by
  cases hex : s.excs with
  | nil =>
    have := (hI.fin (by simp [State.active, hd]) hab).2 hex
    refine .inl ⟨by simp [outcome, hab, hex], List.perm_iff_count.2 fun o => ?_, (allErrs_nil_iff c).2 this.2⟩
    rw [count_allOuts]; exact this.1 o
  | cons e es => exact .inr ⟨e, by simp [outcome, hab, hex], excs_sub hI e (hex ▸ List.mem_cons_self)⟩

theorem Moves.of_lineage (c : Cfg) {s : State} {w : Nat} {x : W} (hw : s.ws[w]? = some x) (hs : w = 0 ∨ s.main ≠ .waitEvent) :
    (∃ a s', lin a = some w ∧ Moves c s a s') ∨ x = .dead ∨ ∃ k, x = .run k [] none ∧ s.inq = [] := by
  cases x with
  | spawned => exact .inl ⟨_, _, rfl, .wBegin hw hs⟩
  | dead => exact .inr (.inl rfl)
  | exited p e =>
    by_cases hc : p = false ∧ e = none ∧ s.excs = []
    · obtain ⟨rfl, rfl, hex⟩ := hc; exact .inl ⟨_, _, rfl, .wRestart hw hex⟩
    · refine .inl ⟨.wCallback w, _, rfl, .wDie hw ?_⟩
      cases p with
      | true => exact .inl rfl
      | false => exact .inr fun h => hc ⟨rfl, by cases e <;> simp_all, (List.append_eq_nil_iff.1 h).1⟩
  | run k pend e =>
    cases pend with
    | cons o rest => exact .inl ⟨_, _, rfl, .wPut hw⟩
    | nil =>
      cases e with
      | some e => exact .inl ⟨_, _, rfl, .wRaise hw⟩
      | none =>
        cases hk : mayTake c k with
        | false => exact .inl ⟨_, _, rfl, .wRetire hw hk⟩
        | true =>
          cases hq : s.inq with
          | nil => exact .inr (.inr ⟨k, rfl, rfl⟩)
          | cons y ys => exact .inl ⟨_, _, rfl, .wGet hw hk hq⟩

/-- The event rule `h0` has the form of `Moves.evF`: with crashes lineage 0 may have died before the event (`crashed := []` is
`Inv.ev`).  The last two conjuncts are what a layer over the base system needs in order to lift the step: after the loop it is
`mDone` (the fault layer starts no process then); outside the loop, unless lineage 0 has crashed, it is the caller's own or the
start of lineage 0, which the key layer never holds back. -/
theorem progress (c : Cfg) (hn : 0 < c.n) {s : State} (crashed : List Nat) (hB : BInv s)
    (h0 : s.main = .waitEvent → s.event = false →
      s.ws[0]? = some .spawned ∨ (0 ∈ crashed ∧ ∃ p e, s.ws[0]? = some (.exited p e)))
    (hnd : s.main ≠ .done) :
    ∃ a s', a ≠ .cAbandon ∧ Moves c s a s' ∧ (s.active = false → a = .mDone) ∧
      (s.main ≠ .consuming → 0 ∉ crashed → a = .mDone ∨ a = .mEvent ∨ a = .wBegin 0) := by
  cases hm : s.main with
  | done => exact absurd hm hnd
  | fin => exact ⟨.mDone, _, nofun, .mDone hm, fun _ => rfl, fun _ _ => .inl rfl⟩
  | waitEvent =>
    have nofin : ∀ {a : Action}, s.active = false → a = .mDone := fun h => by simp [State.active, hm] at h
    cases he : s.event with
    | true => exact ⟨.mEvent, _, nofun, .mEvent hm he, nofin, fun _ _ => .inr (.inl rfl)⟩
    | false =>
      rcases h0 hm he with hw | ⟨hc, p, e, hw⟩
      · exact ⟨.wBegin 0, _, nofun, .wBegin hw (.inl rfl), nofin, fun _ _ => .inr (.inr rfl)⟩
      · rcases Moves.of_lineage c hw (.inl rfl) with ⟨a, s', hl, hmv⟩ | h | ⟨k, h, _⟩
        · exact ⟨a, s', fun h => (by rw [h] at hl; cases hl), hmv, nofin, fun _ h => absurd hc h⟩
        · cases h
        · cases h
  | consuming =>
    have hact : s.active = true := by simp [State.active, hm]
    suffices h : ∃ a s', a ≠ .cAbandon ∧ Moves c s a s' by
      obtain ⟨a, s', hne, hmv⟩ := h
      exact ⟨a, s', hne, hmv, fun h => (by rw [hact] at h; cases h), fun h => absurd rfl h⟩
    cases hq : s.outq with
    | cons y ys =>
      cases y with
      | some o => exact ⟨.cGet, _, nofun, .cGet hm hq⟩
      | none => exact ⟨.cGet, _, nofun, .cGetPill hm hq⟩
    | nil =>
      have hnp : s.nprocs ≠ 0 := fun h => by have := hB.q hact h; rw [hq] at this; cases this
      obtain ⟨w, x, hw, hxd⟩ := exists_alive hB hnp
      rcases Moves.of_lineage c hw (.inr (by rw [hm]; nofun)) with ⟨a, s', hl, hmv⟩ | h | ⟨k, hx, hinq⟩
      · exact ⟨a, s', fun h => (by rw [h] at hl; cases hl), hmv⟩
      · exact absurd h hxd
      · cases hi : s.infl with
        | some y => exact ⟨.loadPut, _, nofun, .loadPut hi (by rw [hinq]; exact Nat.mul_pos (by decide) hn)⟩
        | none =>
          have hst : s.stopped = false := by rw [stopped_eq, hact]; rfl
          cases ht : s.todo with
          | cons y ys =>
            cases hp : perrOf y with
            | none => exact ⟨.loadTake, _, nofun, .loadTake hi hst ht hp⟩
            | some e => exact ⟨.loadTake, _, nofun, .loadTakeErr hi hst ht hp⟩
          | nil =>
            cases hl : s.lphase with
            | false => exact ⟨.loadFinish, _, nofun, .loadFinish hl hi (.inl ht)⟩
            | true =>
              -- the loader has nothing left to do, yet the parked lineage `x` still needs a pill that `pills` says is on its way
              have hp := hB.pills hact hl
              have h1 := sumOver_le_of_mem needy s.ws x (List.mem_of_getElem? hw)
              rw [hinq, hi, ht] at hp
              subst hx
              simp [needy] at h1 hp
              omega

/-- a state in which no step is possible is final, if every other state has a step -/
theorem done_of_stuck {α : Type} {en : α → Bool} {Q : α → Prop} {P : Prop} [Decidable P] (h : ¬P → ∃ a, Q a ∧ en a = true)
    (hs : ∀ a, Q a → en a = false) : P :=
  Decidable.byContradiction fun hn => by obtain ⟨a, hq, he⟩ := h hn; rw [hs a hq] at he; cases he

theorem reachable_of_run (c : Cfg) (s s' : State) (tr : List Action) (hs : Reachable c s)
    (h : runTrace c s tr = some s') : Reachable c s' :=
  run_induct (enabled c) (step c) (runTrace c) (fun _ => rfl) (fun _ _ _ => rfl) (Reachable c)
    (fun _ _ hs he => Reachable.step hs he) tr s s' hs h

/-! ### the CobaMultiprocessor wrapper -/

theorem wrapperInput_eq {α} (it : List α) : wrapperInput it = it := by
  cases it <;> rfl

end Coba.C08
