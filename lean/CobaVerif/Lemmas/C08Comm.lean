/-
C08 — independent steps commute (the table `indep`/`indep2` of the schedule enumeration is sound), and the caller's own
steps finish an abandoned call.
-/
import CobaVerif.Lemmas.C08

namespace Coba.C08

/-! ### commutation of independent steps -/

def Commutes (c : Cfg) (s : State) (a b : Action) : Prop :=
  enabled c (step c s a) b = true ∧ enabled c (step c s b) a = true ∧ step c (step c s a) b = step c (step c s b) a

theorem Commutes.symm {c s a b} (h : Commutes c s a b) : Commutes c s b a := ⟨h.2.1, h.1, h.2.2.symm⟩

/-- Both orders are possible and lead to the same state.  In the lemmas below each move is rebuilt after the other one from the
premises it had before: that these still hold, and that the two record updates commute, is the footprint argument, and the
type checker makes it by unfolding the updates. -/
def Diamond (c : Cfg) (s : State) (a b : Action) : Prop :=
  ∀ {sa sb}, Moves c s a sa → Moves c s b sb → ∃ t, Moves c sa b t ∧ Moves c sb a t

theorem Diamond.commutes {c : Cfg} {s : State} {a b : Action} (h : Diamond c s a b)
    (ha : enabled c s a = true) (hb : enabled c s b = true) : Commutes c s a b := by
  obtain ⟨t, hab, hba⟩ := h (Moves.of_enabled ha) (Moves.of_enabled hb)
  exact ⟨hab.sound.1, hba.sound.1, hab.sound.2.trans hba.sound.2.symm⟩

theorem Moves.cast {c : Cfg} {s t t' : State} {a : Action} (h : Moves c s a t) (e : t = t') : Moves c s a t' := e ▸ h

theorem diamond_of {c : Cfg} {sa sb t t' : State} {a b : Action} (h1 : Moves c sa b t) (h2 : Moves c sb a t') (e : t' = t) :
    ∃ t, Moves c sa b t ∧ Moves c sb a t := ⟨t, h1, h2.cast e⟩

/-- waking up does not stop the loader -/
theorem diamond_loadTake {c : Cfg} {s : State} {b : Action} (hb : indep1 .loadTake b = true) : Diamond c s .loadTake b := by
  intro sa sb ma mb
  cases ma with
  | loadTake hi hst ht hp =>
    cases mb with
    | wPut hw => exact ⟨_, .wPut hw, .loadTake hi hst ht hp⟩
    | wGet hw hk hq => exact ⟨_, .wGet hw hk hq, .loadTake hi hst ht hp⟩
    | wRestart hw hex => exact ⟨_, .wRestart hw hex, .loadTake hi hst ht hp⟩
    | wDie hw hd => exact ⟨_, .wDie hw hd, .loadTake hi hst ht hp⟩
    | mEvent hm he => exact ⟨_, .mEvent hm he, .loadTake hi rfl ht hp⟩
    | _ => cases hb
  | loadTakeErr hi hst ht hp =>
    cases mb with
    | wPut hw => exact ⟨_, .wPut hw, .loadTakeErr hi hst ht hp⟩
    | wGet hw hk hq => exact ⟨_, .wGet hw hk hq, .loadTakeErr hi hst ht hp⟩
    | wRestart hw hex => exact ⟨_, .wRestart hw hex, .loadTakeErr hi hst ht hp⟩
    | wDie hw hd => exact ⟨_, .wDie hw hd, .loadTakeErr hi hst ht hp⟩
    | mEvent hm he => exact ⟨_, .mEvent hm he, .loadTakeErr hi rfl ht hp⟩
    | _ => cases hb

theorem diamond_loadPut {c : Cfg} {s : State} {b : Action} (hb : indep1 .loadPut b = true) : Diamond c s .loadPut b := by
  intro sa sb ma mb
  cases ma with | loadPut hi hc =>
  cases mb with
  | wPut hw => exact ⟨_, .wPut hw, .loadPut hi hc⟩
  | wRestart hw hex => exact ⟨_, .wRestart hw hex, .loadPut hi hc⟩
  | wDie hw hd => exact ⟨_, .wDie hw hd, .loadPut hi hc⟩
  | cGet hm hq => exact ⟨_, .cGet hm hq, .loadPut hi hc⟩
  | cGetPill hm hq => exact ⟨_, .cGetPill hm hq, .loadPut hi hc⟩
  | mEvent hm he => exact ⟨_, .mEvent hm he, .loadPut hi hc⟩
  | _ => cases hb

theorem diamond_wGet {c : Cfg} {s : State} {w : Nat} {b : Action} (hb : indep1 (.wGet w) b = true) : Diamond c s (.wGet w) b := by
  intro sa sb ma mb
  have ne : ∀ {w'}, (w != w') = true → w ≠ w' := fun h => by simpa using h
  have h1 : ∀ {w' y z}, w ≠ w' → s.ws[w']? = some z → (s.ws.set w y)[w']? = some z := fun hne h => (List.getElem?_set_ne hne).trans h
  have h2 : ∀ {w' y z}, w ≠ w' → s.ws[w]? = some z → (s.ws.set w' y)[w]? = some z :=
    fun hne h => (List.getElem?_set_ne (Ne.symm hne)).trans h
  cases ma with | wGet hw hk hq =>
  cases mb with
  | wPut hw' =>
    exact diamond_of (.wPut (h1 (ne hb) hw')) (.wGet (h2 (ne hb) hw) hk hq) (by simp only [List.set_comm _ _ (Ne.symm (ne hb))])
  | wRestart hw' hex =>
    exact diamond_of (.wRestart (h1 (ne hb) hw') hex) (.wGet (h2 (ne hb) hw) hk hq)
      (by simp only [List.set_comm _ _ (Ne.symm (ne hb))])
  | wDie hw' hd =>
    exact diamond_of (.wDie (h1 (ne hb) hw') hd) (.wGet (h2 (ne hb) hw) hk hq) (by simp only [List.set_comm _ _ (Ne.symm (ne hb))])
  | cGet hm ho => exact ⟨_, .cGet hm ho, .wGet hw hk hq⟩
  | cGetPill hm ho => exact ⟨_, .cGetPill hm ho, .wGet hw hk hq⟩
  | mEvent hm he => exact ⟨_, .mEvent hm he, .wGet hw hk hq⟩
  | _ => cases hb

theorem diamond_wPut {c : Cfg} {s : State} {w : Nat} {b : Action} (hb : indep1 (.wPut w) b = true) : Diamond c s (.wPut w) b := by
  intro sa sb ma mb
  cases ma with | wPut hw =>
  cases mb with
  | mEvent hm he => exact ⟨_, .mEvent hm he, .wPut hw⟩
  | _ => cases hb

/-- what `wBegin`, `wRaise`, `wRetire` do: replace the state of lineage `w`, possibly set the event -/
def localStep (w : Nat) (x : W) (ev : Bool) (s : State) : State := { s with ws := s.ws.set w x, event := ev || s.event }

theorem Moves.localStep {c : Cfg} {s t : State} {b : Action} (h : Moves c s b t) {w : Nat} (hl : lin b ≠ some w) (x : W) (ev : Bool) :
    Moves c (localStep w x ev s) b (localStep w x ev t) := by
  have ne : ∀ {w'}, lin b = some w' → w ≠ w' := fun e h => hl (e.trans (congrArg some h.symm))
  have get : ∀ {w' y}, w ≠ w' → s.ws[w']? = some y → (C08.localStep w x ev s).ws[w']? = some y :=
    fun hne hw' => (List.getElem?_set_ne hne).trans hw'
  cases h with
  | loadTake hi hst ht hp => exact .loadTake hi hst ht hp
  | loadTakeErr hi hst ht hp => exact .loadTakeErr hi hst ht hp
  | loadPut hi hc => exact .loadPut hi hc
  | loadFinish hlp hi h3 => exact .loadFinish hlp hi h3
  | wBegin hw' h0 =>
    exact (Moves.wBegin (get (ne rfl) hw') h0).cast (by simp only [C08.localStep, List.set_comm _ _ (ne rfl), Bool.or_true])
  | wGet hw' hk hq => exact (Moves.wGet (get (ne rfl) hw') hk hq).cast (by simp only [C08.localStep, List.set_comm _ _ (ne rfl)])
  | wPut hw' => exact (Moves.wPut (get (ne rfl) hw')).cast (by simp only [C08.localStep, List.set_comm _ _ (ne rfl)])
  | wRaise hw' => exact (Moves.wRaise (get (ne rfl) hw')).cast (by simp only [C08.localStep, List.set_comm _ _ (ne rfl)])
  | wRetire hw' hk => exact (Moves.wRetire (get (ne rfl) hw') hk).cast (by simp only [C08.localStep, List.set_comm _ _ (ne rfl)])
  | wRestart hw' hex => exact (Moves.wRestart (get (ne rfl) hw') hex).cast (by simp only [C08.localStep, List.set_comm _ _ (ne rfl)])
  | wDie hw' hd => exact (Moves.wDie (get (ne rfl) hw') hd).cast (by simp only [C08.localStep, List.set_comm _ _ (ne rfl)]; rfl)
  | mEvent hm he => exact .mEvent hm (by simp [C08.localStep, he])
  | cGet hm hq => exact .cGet hm hq
  | cGetPill hm hq => exact .cGetPill hm hq
  | cAbandon hm => exact .cAbandon hm
  | drainIn hm hq => exact .drainIn hm hq
  | drainOut hm hq => exact .drainOut hm hq
  | mDone hm => exact .mDone hm

theorem diamond_local {c : Cfg} {s : State} {a b : Action} {w : Nat} (hloc : isLocal a = true) (hw : lin a = some w)
    (hl : lin b ≠ some w) : Diamond c s a b := by
  intro sa sb ma mb
  have hf := mb.ws_frame hl
  cases ma with
  | wBegin hw0 h0 =>
    cases hw
    exact ⟨_, mb.localStep hl (.run 0 [] none) true, .wBegin (hf.trans hw0) (h0.imp id mb.not_waitEvent)⟩
  | wRaise hw0 =>
    cases hw
    exact ⟨_, mb.localStep hl _ false, .wRaise (hf.trans hw0)⟩
  | wRetire hw0 hk =>
    cases hw
    exact ⟨_, mb.localStep hl _ false, .wRetire (hf.trans hw0) hk⟩
  | _ => cases hloc

theorem step_comm1 (c : Cfg) (s : State) (a b : Action) (hi : indep1 a b = true)
    (ha : enabled c s a = true) (hb : enabled c s b = true) : Commutes c s a b := by
  refine Diamond.commutes ?_ ha hb
  cases a with
  | wBegin w | wRaise w | wRetire w => exact diamond_local rfl rfl (by simpa [indep1, isLocal, lin] using hi)
  | loadTake => exact diamond_loadTake hi
  | loadPut => exact diamond_loadPut hi
  | wGet w => exact diamond_wGet hi
  | wPut w => exact diamond_wPut hi
  | _ => cases hi

def commCfg : Cfg := { n := 2, m := 1, items := [{ id := 0, outs := [1], err := none }, { id := 1, outs := [2], err := none }] }
/-- lineage 0 has taken item 0 and has its output to put, item 1 is in the loader's hand, both queues are empty, the caller consumes -/
def commState : State := (runTrace commCfg (init commCfg) [.wBegin 0, .mEvent, .wBegin 1, .loadTake, .loadPut, .loadTake, .wGet 0]).getD (init commCfg)

theorem step_comm_example' :
    indep (.wPut 0) .loadPut = true ∧ enabled commCfg commState (.wPut 0) = true ∧ enabled commCfg commState .loadPut = true
      ∧ indep (.wPut 0) .cGet = false := by decide

/-! ### the two further pairs of `indep2`: a put and a get at the two ends of one queue -/

/-- the caller takes the head, the worker appends at the end: the queue is not empty -/
theorem diamond_wPut_cGet (c : Cfg) (s : State) (w : Nat) : Diamond c s (.wPut w) .cGet := by
  intro sa sb ma mb
  cases ma with | @wPut _ _ o _ _ hw =>
  cases mb with
  | cGet hm hq => exact ⟨_, .cGet hm (congrArg (· ++ [some o]) hq), .wPut hw⟩
  | cGetPill hm hq => exact ⟨_, .cGetPill hm (congrArg (· ++ [some o]) hq), .wPut hw⟩

/-- the worker takes the head, the loader appends at the end: the queue is neither empty nor full -/
theorem diamond_loadPut_wGet (c : Cfg) (s : State) (w : Nat) : Diamond c s .loadPut (.wGet w) := by
  intro sa sb ma mb
  cases ma with | @loadPut x hi hc =>
  cases mb with | wGet hw hk hq =>
  exact ⟨_, .wGet hw hk (congrArg (· ++ [x]) hq), .loadPut hi (Nat.lt_of_succ_lt (by rwa [hq] at hc))⟩

theorem step_comm_extra (c : Cfg) (s : State) (a b : Action) (h : indepExtra1 a b = true)
    (ha : enabled c s a = true) (hb : enabled c s b = true) : Commutes c s a b := by
  refine Diamond.commutes ?_ ha hb
  unfold indepExtra1 at h
  split at h
  · exact diamond_wPut_cGet c s _
  · exact diamond_loadPut_wGet c s _
  · cases h

theorem indep2_example' :
    indep2 (.wPut 0) .cGet = true ∧ indep (.wPut 0) .cGet = false ∧ indep2 .loadPut (.wGet 1) = true ∧ indep2 (.wGet 0) (.wGet 1) = false
      ∧ indep2 (.wPut 0) (.wPut 1) = false := by decide

/-! ### abandon: the caller's own steps finish the call -/

theorem Moves.run_cons {c : Cfg} {s s' : State} {a : Action} (h : Moves c s a s') (as : List Action) :
    runTrace c s (a :: as) = runTrace c s' as := by
  obtain ⟨he, rfl⟩ := h.sound
  exact if_pos he

theorem drainIn_all (c : Cfg) (q : List (Option ItemSpec)) (s : State) (hq : s.inq = q) (hm : s.main = .fin) (rest : List Action) :
    runTrace c s (List.replicate q.length .drainIn ++ rest) =
      runTrace c { s with inq := [], dropIn := s.dropIn ++ q } rest := by
  induction q generalizing s with
  | nil =>
    have : { s with inq := [], dropIn := s.dropIn } = s := by cases s; simp_all
    simp [this]
  | cons x xs ih =>
    rw [List.length_cons, List.replicate_succ, List.cons_append, (Moves.drainIn hm hq).run_cons,
      ih { s with inq := xs, dropIn := s.dropIn ++ [x] } rfl hm]
    simp only [List.append_assoc, List.singleton_append]

theorem drainOut_all (c : Cfg) (q : List (Option Nat)) (s : State) (hq : s.outq = q) (hm : s.main = .fin) (rest : List Action) :
    runTrace c s (List.replicate q.length .drainOut ++ rest) =
      runTrace c { s with outq := [], dropOut := s.dropOut ++ q } rest := by
  induction q generalizing s with
  | nil =>
    have : { s with outq := [], dropOut := s.dropOut } = s := by cases s; simp_all
    simp [this]
  | cons x xs ih =>
    rw [List.length_cons, List.replicate_succ, List.cons_append, (Moves.drainOut hm hq).run_cons,
      ih { s with outq := xs, dropOut := s.dropOut ++ [x] } rfl hm]
    simp only [List.append_assoc, List.singleton_append]

end Coba.C08
