/-
C08 — the layers over the base system: worker processes that die (`stepF`), `read_wait` keys (`stepR`), both together
(`stepRF`).  Every layer is handled the same way: the forms a step can take over the base
step, then its invariant; that the measures decrease is proved in Props from those forms.  Which base steps a layer holds back
is said by `enF_lift` and `enR_lift`: the fault layer never holds back the step `progress` finds, the key layer may (a callback,
while the caller consumes), and `keys_keep_progress` then finds another.  The closed runs that Props shows as `example`s are
evaluated here, each after what it is a witness of.
-/
import CobaVerif.Lemmas.C08

namespace Coba.C08

/-! ### the fault layer: what a step of `stepF` does to the base state and to the budget, which base steps it allows -/

theorem enF_base {c : Cfg} {s : FState} {a : Action} (h : enabledF c s (.base a) = true) : enabled c s.b a = true := by
  cases a <;> simp only [enabledF, Bool.and_eq_true] at h <;> first | exact h | exact h.1

/-- the base step on `b`; or the callback of a crashed lineage (exit code ≠ 0), which also sets `_main_err` and the event; or the
caller waking up with `_main_err` set, which goes straight to `finally` -/
theorem stepF_base_cases (c : Cfg) (s : FState) (a : Action) :
    ((∀ w, a = .wCallback w → s.crashed.contains w = false) ∧ stepF c s (.base a) = { s with b := step c s.b a })
    ∨ (∃ w, a = .wCallback w ∧ s.crashed.contains w = true ∧
        stepF c s (.base a) = { s with b := { step c s.b a with event := true }, mainErr := true, crashed := s.crashed.erase w })
    ∨ (a = .mEvent ∧ stepF c s (.base a) = { s with b := { s.b with main := .fin }, skipped := true }) := by
  cases a with
  | wCallback w =>
    by_cases hc : s.crashed.contains w = true
    · exact Or.inr (Or.inl ⟨w, rfl, hc, by simp only [stepF]; rw [if_pos hc]⟩)
    · exact Or.inl ⟨fun w' h => by cases h; simpa using hc, by simp only [stepF]; rw [if_neg hc]⟩
  | mEvent =>
    by_cases hm : s.mainErr = true
    · exact Or.inr (Or.inr ⟨rfl, by simp only [stepF]; rw [if_pos hm]⟩)
    · exact Or.inl ⟨(fun _ h => nomatch h), by simp only [stepF]; rw [if_neg hm]⟩
  | _ => exact Or.inl ⟨(fun _ h => nomatch h), rfl⟩

theorem stepF_base_ws (c : Cfg) (s : FState) (a : Action) : (stepF c s (.base a)).b.ws = (step c s.b a).ws := by
  rcases stepF_base_cases c s a with ⟨_, h⟩ | ⟨w, _, _, h⟩ | ⟨rfl, h⟩ <;> rw [h] <;> rfl

theorem stepF_base_budget (c : Cfg) (s : FState) (a : Action) : (stepF c s (.base a)).budget = s.budget := by
  rcases stepF_base_cases c s a with ⟨_, h⟩ | ⟨w, _, _, h⟩ | ⟨_, h⟩ <;> rw [h]

theorem stepF_base_eq {c : Cfg} {s : FState} (h2 : s.mainErr = false) (h3 : s.crashed = []) (a : Action) :
    stepF c s (.base a) = { s with b := step c s.b a } := by
  cases a <;> simp [stepF, h2, h3]

/-- `old` is `spawned` or `run`; the step has the same normal form for both -/
theorem en_wCrash {c : Cfg} {s : FState} {w : Nat} (he : enabledF c s (.wCrash w) = true) :
    0 < s.budget ∧ ∃ old, s.b.ws[w]? = some old ∧ old ≠ .dead ∧
      stepF c s (.wCrash w) =
        { s with b := { s.b with ws := s.b.ws.set w (.exited true none) }, crashed := w :: s.crashed, budget := s.budget - 1,
                 lostOuts := s.lostOuts ++ wOuts old, lostErrs := s.lostErrs ++ wErrs old } := by
  simp only [enabledF, Bool.and_eq_true, decide_eq_true_eq] at he
  obtain ⟨hpos, hw⟩ := he
  refine ⟨hpos, ?_⟩
  cases hws : s.b.ws[w]? with
  | none => simp [hws] at hw
  | some x =>
    cases x with
    | spawned => exact ⟨_, rfl, by simp, by simp [stepF, hws, wOuts, wErrs]⟩
    | run k p e => exact ⟨_, rfl, by simp, by simp [stepF, hws, wOuts, wErrs]⟩
    | _ => simp [hws] at hw

theorem stepF_crash_budget {c : Cfg} {s : FState} {w : Nat} (he : enabledF c s (.wCrash w) = true) :
    (stepF c s (.wCrash w)).budget + 1 = s.budget := by
  obtain ⟨hpos, _, _, _, e⟩ := en_wCrash he
  rw [e]
  exact Nat.sub_add_cancel hpos

theorem budget_le (c : Cfg) (f : Nat) (s : FState) (hr : ReachableF c f s) : s.budget ≤ f := by
  induction hr with
  | init => exact Nat.le_refl _
  | @step s' a _ he ih =>
    cases a with
    | wCrash w => have := stepF_crash_budget he; omega
    | base a => rw [stepF_base_budget]; exact ih

theorem reachableF_no_crash (c : Cfg) (f : Nat) (s : FState) (hr : ReachableF c f s) (hb : s.budget = f) :
    Reachable c s.b ∧ s.mainErr = false ∧ s.crashed = [] ∧ s.skipped = false := by
  induction hr with
  | init => exact ⟨Reachable.init, rfl, rfl, rfl⟩
  | @step s' a hr' he ih =>
    cases a with
    | wCrash w =>
      have := stepF_crash_budget he
      have := budget_le c f s' hr'
      exfalso; omega
    | base a =>
      rw [stepF_base_budget] at hb
      obtain ⟨h1, h2, h3, h4⟩ := ih hb
      rw [stepF_base_eq h2 h3]
      exact ⟨Reachable.step h1 (enF_base he), h2, h3, h4⟩

theorem ws_len_stepF (c : Cfg) (s : FState) (a : ActionF) (he : enabledF c s a = true) :
    (stepF c s a).b.ws.length = s.b.ws.length := by
  cases a with
  | wCrash w => simp only [stepF]; split <;> simp
  | base a => rw [stepF_base_ws]; exact (Moves.of_enabled (enF_base he)).ws_len

theorem maxk_stepF (c : Cfg) (s : FState) (a : ActionF) (h : MaxK c s.b) (he : enabledF c s a = true) : MaxK c (stepF c s a).b := by
  cases a with
  | base a =>
    intro w k p e hw hm
    rw [stepF_base_ws] at hw
    exact (Moves.of_enabled (enF_base he)).maxk h w k p e hw hm
  | wCrash w =>
    obtain ⟨_, _, _, _, e⟩ := en_wCrash he
    rw [e]
    exact maxk_set c s.b w (.exited true none) h (by intro k p e hx; cases hx) _ rfl

theorem maxk_reachableF (c : Cfg) (f : Nat) (s : FState) (hr : ReachableF c f s) : MaxK c s.b := by
  induction hr with
  | init => exact maxk_init c
  | step _ he ih => exact maxk_stepF c _ _ ih he

/-- the fault layer holds back a base step in one situation only: after the caller has seen `_main_err` no further process is started -/
theorem enF_lift {c : Cfg} {s : FState} {a : Action} (h : enabled c s.b a = true) (hs : s.skipped = false ∨ a = .mDone) :
    enabledF c s (.base a) = true := by
  cases a with
  | wBegin w =>
    rcases hs with hs | hs
    · simp only [enabled, Bool.and_eq_true] at h
      simp only [enabledF, enabled, startedF, h.1, h.2, hs]; rfl
    · cases hs
  | _ => exact h

theorem reachableF_of_run (c : Cfg) (f : Nat) (s s' : FState) (tr : List ActionF) (hs : ReachableF c f s)
    (h : runTraceF c s tr = some s') : ReachableF c f s' :=
  run_induct (enabledF c) (stepF c) (runTraceF c) (fun _ => rfl) (fun _ _ _ => rfl) (ReachableF c f)
    (fun _ _ hs he => ReachableF.step hs he) tr s s' hs h

theorem ws_len_reachableF (c : Cfg) (f : Nat) (s : FState) (hr : ReachableF c f s) : s.b.ws.length = c.n := by
  induction hr with
  | init => simp [initF, init]
  | step _ he ih => rw [ws_len_stepF _ _ _ he]; exact ih

theorem mem_codeActions (c : Cfg) (s : State) (a : Action) (hlen : s.ws.length = c.n) (ha : a ≠ .cAbandon)
    (he : enabled c s a = true) : a ∈ codeActions c := by
  have lt : ∀ {w : Nat}, lin a = some w → w < c.n := fun hl => hlen ▸ (Moves.of_enabled he).lin_lt hl
  have mem : ∀ (w : Nat) (b : Action), w < c.n → b ∈ [Action.wBegin w, .wGet w, .wPut w, .wRaise w, .wRetire w, .wCallback w] →
      b ∈ codeActions c :=
    fun w b hw hb => List.mem_append_right _ (List.mem_flatMap.2 ⟨w, List.mem_range.2 hw, hb⟩)
  cases a with
  | cAbandon => exact absurd rfl ha
  | wBegin w | wGet w | wPut w | wRaise w | wRetire w | wCallback w => exact mem w _ (lt rfl) (by simp)
  | _ => exact List.mem_append_left _ (by decide)

/-! ### the invariant of the fault layer -/

/-- what deadlock-freedom and "nothing twice" need, WITHOUT conservation of errors (which a crash breaks) -/
structure FInv (c : Cfg) (s : FState) : Prop where
  b     : BInv s.b
  evF   : s.b.main = .waitEvent → s.b.event = false →
            s.b.ws[0]? = some W.spawned ∨ (0 ∈ s.crashed ∧ ∃ p e, s.b.ws[0]? = some (W.exited p e))
  skip  : s.skipped = true → s.b.active = false
  outF  : ∀ o, outTotal o s.b + s.lostOuts.count o = sumOver (fun x => x.outs.count o) c.items

theorem finv_init (c : Cfg) (hn : 0 < c.n) (f : Nat) : FInv c (initF c f) := by
  refine ⟨binv_init c hn, ?_, by simp [initF], ?_⟩
  · exact fun _ _ => Or.inl (init_ws_zero c hn)
  · exact fun o => outTotal_init c o

theorem finv_crash {c : Cfg} {s s' : FState} {w : Nat} {old : W} (hI : FInv c s) (hold : s.b.ws[w]? = some old)
    (hnd : old ≠ .dead) (hb : s'.b = { s.b with ws := s.b.ws.set w (.exited true none) }) (hcr : s'.crashed = w :: s.crashed)
    (hsk : s'.skipped = s.skipped) (hlo : s'.lostOuts = s.lostOuts ++ wOuts old) : FInv c s' := by
  have hbinv : BInv s'.b := by
    rw [hb]
    refine binv_ws s.b _ w old (.exited true none) hI.b hold rfl rfl rfl rfl rfl ?_ ?_ (fun h => h) ?_
    · cases old <;> simp [alive] at hnd ⊢
    · intro _ _; exact Nat.le_add_right _ _
    · intro _ _ h; simp [alive] at h
  refine ⟨hbinv, ?_, ?_, ?_⟩
  · rw [hb, hcr]
    intro hm hev
    have h0 := hI.evF hm hev
    by_cases hw0 : w = 0
    · subst hw0; right
      refine ⟨by simp, true, none, ?_⟩
      rw [get_set hold]; simp
    · have hne : ¬ (0 = w) := fun h => hw0 h.symm
      rw [get_set hold, if_neg hne]
      rcases h0 with h0 | ⟨h1, h2⟩
      · left; exact h0
      · right; exact ⟨List.mem_cons_of_mem _ h1, h2⟩
  · rw [hsk, hb]; exact hI.skip
  · intro o
    have := hI.outF o
    have h2 := sumOver_set hold (.exited true none) (fun w => (wOuts w).count o)
    rw [hb, hlo, List.count_append]
    simp only [outTotal, inSide, wOuts, List.count_nil] at h2 this ⊢
    omega

theorem finv_step (c : Cfg) (s : FState) (a : ActionF) (hI : FInv c s) (he : enabledF c s a = true) : FInv c (stepF c s a) := by
  cases a with
  | wCrash w =>
    obtain ⟨_, old, hws, hnd, e⟩ := en_wCrash he
    rw [e]
    exact finv_crash hI hws hnd rfl rfl rfl rfl
  | base a =>
    have hen := enF_base he
    have hmv := Moves.of_enabled hen
    have hb := hmv.binv hI.b
    have hout : ∀ o, outTotal o (step c s.b a) + s.lostOuts.count o = sumOver (fun x => x.outs.count o) c.items := by
      intro o; rw [hmv.outTotal_eq o]; exact hI.outF o
    have hskip : s.skipped = true → (step c s.b a).active = false := by
      intro hs
      cases h2 : (step c s.b a).active with
      | false => rfl
      | true => have h1 := hI.skip hs; rw [hmv.active h2] at h1; cases h1
    rcases stepF_base_cases c s a with ⟨hnc, e⟩ | ⟨w, rfl, hc, e⟩ | ⟨rfl, e⟩ <;> rw [e]
    · refine ⟨hb, hmv.evF s.crashed hI.evF fun h0 e => ?_, hskip, hout⟩
      have := hnc 0 e
      simp [h0] at this
    · exact ⟨binv_same _ _ hb rfl rfl rfl rfl rfl rfl (fun h => h) (fun _ h => h), fun _ hev => by simp at hev, hskip, hout⟩
    · exact ⟨binv_inactive s.b _ hI.b rfl rfl rfl rfl rfl (by simp [State.active]), fun hm => by simp at hm,
        fun _ => by simp [State.active], hI.outF⟩

theorem finv_reachable (c : Cfg) (hn : 0 < c.n) (f : Nat) (s : FState) (hr : ReachableF c f s) : FInv c s := by
  induction hr with
  | init => exact finv_init c hn f
  | step _ he ih => exact finv_step c _ _ ih he

/-! ### the key layer (`read_wait=True`) -/

theorem enR_base {c : Cfg} {s : RState} {a : Action} (h : enabledR c s (.base a) = true) : enabled c s.b a = true := by
  cases a <;> simp only [enabledR, Bool.and_eq_true] at h <;> first | exact h | exact h.1 | exact h.1.1

theorem isKeyHead_iff {q : List ROut} : isKeyHead q = true ↔ ∃ w rest, q = .key w :: rest := by
  cases q with
  | nil => simp [isKeyHead]
  | cons r rest => cases r <;> simp [isKeyHead]

theorem en_cKey {c : Cfg} {s : RState} (h : enabledR c s .cKey = true) :
    s.b.main = .consuming ∧ ∃ w rest, s.routq = .key w :: rest := by
  simp only [enabledR, Bool.and_eq_true] at h
  exact ⟨by simpa using h.1, isKeyHead_iff.1 h.2⟩

theorem en_drainKey {c : Cfg} {s : RState} (h : enabledR c s .drainKey = true) :
    s.b.main = .fin ∧ ∃ w rest, s.routq = .key w :: rest := by
  simp only [enabledR, Bool.and_eq_true] at h
  exact ⟨by simpa using h.1, isKeyHead_iff.1 h.2⟩

theorem syncOut_same (q : List (Option Nat)) (r : List ROut) : syncOut q q r = r := by
  simp [syncOut]

theorem syncOut_push (q : List (Option Nat)) (x : Option Nat) (r : List ROut) : syncOut q (q ++ [x]) r = r ++ [ROut.lift x] := by
  unfold syncOut; rw [if_neg (by simp)]; simp

theorem syncOut_pop (y : Option Nat) (q : List (Option Nat)) (r : List ROut) : syncOut (y :: q) q r = r.drop 1 := by
  simp [syncOut]

theorem syncOut_len (old new : List (Option Nat)) (r : List ROut) (h : new.length ≤ old.length + 1) :
    (syncOut old new r).length ≤ r.length + 1 := by
  simp only [syncOut]
  split
  · simp; omega
  · simp; omega

theorem stepR_mEvent (c : Cfg) (rw : Bool) (s : RState) : stepR c rw s (.base .mEvent) = { s with b := step c s.b .mEvent } := by
  cases rw <;> simp [stepR, syncOut_same, lineEnds, step]

theorem stepR_b (c : Cfg) (rw : Bool) (s : RState) (a : ActionR) :
    (stepR c rw s a).b = (match a with | .base b => step c s.b b | _ => s.b) := by
  cases a <;> simp [stepR]
  split <;> rfl

theorem outTotal_stepR (c : Cfg) (rw : Bool) (s : RState) (a : ActionR) (o : Nat) (h : enabledR c s a = true) :
    outTotal o (stepR c rw s a).b = outTotal o s.b := by
  rw [stepR_b]
  cases a with
  | base b => exact (Moves.of_enabled (enR_base h)).outTotal_eq o
  | _ => rfl

/-- the key layer disables a base step in two situations only: the caller does not take a key for a value, and a process that still
has to write its key or waits for the caller has not exited -/
theorem enR_lift {c : Cfg} {s : RState} {a : Action} (h : enabled c s.b a = true)
    (hk : a = .cGet ∨ a = .drainOut → isKeyHead s.routq = false)
    (hcb : ∀ w, a = .wCallback w → s.keyPending.contains w = false ∧ s.keyWait.contains w = false) :
    enabledR c s (.base a) = true := by
  cases a with
  | wCallback w => simp only [enabledR, h, (hcb w rfl).1, (hcb w rfl).2]; rfl
  | cGet => simp [enabledR, h, hk (.inl rfl)]
  | drainOut => simp [enabledR, h, hk (.inr rfl)]
  | _ => exact h

/-! ### the invariant of the key layer -/

/-- the base out-queue is the real one without the keys, and a process that waits has its key in the queue while the caller reads it:
so the caller, which can always take the head, will release it -/
def RInv (s : RState) : Prop :=
  s.b.outq = s.routq.filterMap ROut.proj ∧ (s.b.active = true → ∀ w ∈ s.keyWait, ROut.key w ∈ s.routq)

theorem proj_lift (x : Option Nat) : ROut.proj (ROut.lift x) = some x := by cases x <;> rfl

theorem rinv_init (c : Cfg) : RInv (initR c) := by
  refine ⟨by simp [initR, init], ?_⟩
  intro _ w hw; simp [initR] at hw

theorem rinv_step (c : Cfg) (rw : Bool) (s : RState) (a : ActionR) (hI : RInv s) (he : enabledR c s a = true) : RInv (stepR c rw s a) := by
  obtain ⟨h1, h2⟩ := hI
  cases a with
  | base a =>
    have hmv := Moves.of_enabled (enR_base he)
    have hhead : (a = .cGet ∨ a = .drainOut) → isKeyHead s.routq = false := by
      rintro (rfl | rfl) <;> simp only [enabledR, Bool.and_eq_true] at he <;> simpa using he.2
    simp only [stepR, RInv]
    rcases hmv.outq_shape with hs | ⟨x, hs⟩ | ⟨hcd, y, hs⟩
    · rw [hs, syncOut_same]
      exact ⟨h1, fun hact => h2 (hmv.active hact)⟩
    · rw [hs, syncOut_push]
      refine ⟨by simp [h1, proj_lift], fun hact w hw => ?_⟩
      have := h2 (hmv.active hact) w hw
      simp [this]
    · have hk := hhead hcd
      cases hq : s.routq with
      | nil => rw [hq] at h1; simp [hs] at h1
      | cons r rest =>
        rw [hs, syncOut_pop, List.drop_one, List.tail_cons]
        cases r with
        | key w => simp [hq, isKeyHead] at hk
        | _ =>
          rw [hq, hs] at h1; simp [ROut.proj] at h1
          refine ⟨h1.2, fun hact w hw => ?_⟩
          have := h2 (hmv.active hact) w hw
          rw [hq] at this; simpa using this
  | wKey w =>
    simp only [stepR, RInv]
    refine ⟨by simp [h1, ROut.proj], fun hact w' hw' => ?_⟩
    simp at hw'
    rcases hw' with rfl | hw'
    · simp
    · have := h2 hact w' hw'; simp [this]
  | cKey =>
    obtain ⟨_, w, rest, hq⟩ := en_cKey he
    simp only [stepR, hq, RInv]
    refine ⟨by rw [h1, hq]; rfl, fun hact w' hw' => ?_⟩
    simp at hw'
    have := h2 hact w' hw'.1
    rw [hq] at this
    simp at this
    rcases this with rfl | h
    · exact absurd rfl hw'.2
    · exact h
  | drainKey =>
    obtain ⟨hm, w, rest, hq⟩ := en_drainKey he
    simp only [stepR, hq, RInv]
    refine ⟨by rw [h1, hq]; rfl, fun hact => ?_⟩
    simp [State.active, hm] at hact

/-- Where the base system has a step, the layer has one: the step itself, unless it is a callback held back; then the process can
write its key, or its key is in the out-queue behind a value or the pill, which the caller can take. -/
theorem keys_keep_progress {c : Cfg} {s : RState} {a : Action} (hR : RInv s) (hm : s.b.main = .consuming) (hne : a ≠ .cAbandon)
    (hen : enabled c s.b a = true) : ∃ a', a' ≠ ActionR.base .cAbandon ∧ enabledR c s a' = true := by
  obtain ⟨h1, h2⟩ := hR
  cases hk : isKeyHead s.routq with
  | true => exact ⟨.cKey, by simp, by simp [enabledR, hm, hk]⟩
  | false =>
    by_cases hw : ∃ w, a = .wCallback w
    · obtain ⟨w, rfl⟩ := hw
      cases hp : s.keyPending.contains w with
      | true => exact ⟨.wKey w, by simp, by simpa [enabledR] using hp⟩
      | false =>
        cases hwt : s.keyWait.contains w with
        | false => exact ⟨.base (.wCallback w), by simp, enR_lift hen (fun _ => hk) (fun w' h => by cases h; exact ⟨hp, hwt⟩)⟩
        | true =>
          have hmem : ROut.key w ∈ s.routq := h2 (by simp [State.active, hm]) w (by simpa using hwt)
          refine ⟨.base .cGet, by simp, enR_lift ?_ (fun _ => hk) nofun⟩
          cases hq : s.routq with
          | nil => rw [hq] at hmem; cases hmem
          | cons r rest =>
            rw [hq] at h1
            cases r with
            | key w' => simp [hq, isKeyHead] at hk
            | val o => exact (Moves.cGet hm h1).sound.1
            | pill => exact (Moves.cGetPill hm h1).sound.1
    · exact ⟨.base a, fun h => hne (ActionR.base.inj h), enR_lift hen (fun _ => hk) (fun w h => absurd ⟨w, h⟩ hw)⟩

/-! ### closed witnesses for the key layer -/

def rwCfg : Cfg := { n := 1, m := 1, items := [{ id := 0, outs := [1], err := none }] }
def rwTrace1 : List ActionR :=
  [.base (.wBegin 0), .base .mEvent, .base .loadTake, .base .loadPut, .base (.wGet 0), .base (.wPut 0), .base (.wRetire 0), .wKey 0]
def rwTrace2 : List ActionR :=
  [.base .cGet, .cKey, .base (.wCallback 0), .base .loadFinish, .base .loadTake, .base .loadPut, .base (.wBegin 0), .base (.wGet 0), .wKey 0, .cKey,
   .base (.wCallback 0), .base .cGet, .base .mDone]

theorem readwait_example' :
    (runTraceR rwCfg true (initR rwCfg) rwTrace1).map (fun s => (s.routq, s.keyWait, enabledR rwCfg s (.base (.wCallback 0)), enabled rwCfg s.b (.wCallback 0)))
      = some ([ROut.val 1, ROut.key 0], [0], false, true)
    ∧ (runTraceR rwCfg true (initR rwCfg) (rwTrace1 ++ rwTrace2)).map (fun s => (s.b.main, outcome s.b, s.routq, s.keyPending, s.keyWait))
      = some (Phase.done, Outcome.ok [1], [], [], []) := by decide

/-! ### a process dies while it waits for the caller (`stepRF`) -/

theorem enRF_r {c : Cfg} {s : RFState} {a : ActionR} (h : enabledRF c s (.r a) = true) : enabledR c s.r a = true := by
  cases a with
  | base b => cases b <;> simp only [enabledRF, Bool.and_eq_true] at h <;> first | exact h | exact h.1
  | _ => exact h

/-- as `stepF_base_cases`, over the key layer; only `.r` is compared, which has no `_main_err` -/
theorem stepRF_r_cases (c : Cfg) (rw : Bool) (s : RFState) (a : ActionR) :
    (stepRF c rw s (.r a)).r = stepR c rw s.r a
    ∨ (stepRF c rw s (.r a)).r = { stepR c rw s.r a with b := { (stepR c rw s.r a).b with event := true } }
    ∨ (a = .base .mEvent ∧ (stepRF c rw s (.r a)).r = { s.r with b := { s.r.b with main := .fin } }) := by
  cases a with
  | base b =>
    cases b with
    | wCallback w =>
      by_cases hc : s.crashedK.contains w = true
      · right; left; simp only [stepRF]; rw [if_pos hc]
      · left; simp only [stepRF]; rw [if_neg hc]
    | mEvent =>
      by_cases hm : s.mainErr = true
      · right; right; refine ⟨rfl, ?_⟩; simp only [stepRF]; rw [if_pos hm]
      · left; simp only [stepRF]; rw [if_neg hm]
    | _ => exact Or.inl rfl
  | _ => exact Or.inl rfl

theorem en_wCrashKey {c : Cfg} {s : RFState} {w : Nat} (rw : Bool) (h : enabledRF c s (.wCrashKey w) = true) :
    0 < s.budget ∧ w ∈ s.r.keyWait ∧ ∃ p e, s.r.b.ws[w]? = some (.exited p e) ∧
      stepRF c rw s (.wCrashKey w) =
        { s with r := { s.r with b := { s.r.b with ws := s.r.b.ws.set w (.exited true e) }, keyWait := s.r.keyWait.filter (· != w) },
                 crashedK := w :: s.crashedK, budget := s.budget - 1 } := by
  simp only [enabledRF, Bool.and_eq_true, decide_eq_true_eq] at h
  obtain ⟨⟨hpos, hk⟩, hw⟩ := h
  refine ⟨hpos, by simpa using hk, ?_⟩
  cases hws : s.r.b.ws[w]? with
  | none => simp [hws] at hw
  | some x =>
    cases x with
    | exited p e => exact ⟨p, e, rfl, by simp only [stepRF, hws]⟩
    | _ => simp [hws] at hw

/-- a process that waits for the caller holds no output, so its death loses none -/
theorem outTotal_stepRF (c : Cfg) (rw : Bool) (s : RFState) (a : ActionRF) (o : Nat) (h : enabledRF c s a = true) :
    outTotal o (stepRF c rw s a).r.b = outTotal o s.r.b := by
  cases a with
  | wCrashKey w =>
    obtain ⟨_, _, p, e, hws, est⟩ := en_wCrashKey rw h
    rw [est]
    simp only [outTotal, inSide, wOuts_set hws (.exited true e) rfl]
  | r a =>
    have hgen := outTotal_stepR c rw s.r a o (enRF_r h)
    rcases stepRF_r_cases c rw s a with e | e | ⟨rfl, e⟩ <;> rw [e]
    · exact hgen
    · exact hgen
    · rfl

def rfTrace : List ActionRF :=
  rwTrace1.map .r ++ [.wCrashKey 0, .r (.base (.wCallback 0)), .r (.base .cGet), .r .cKey, .r (.base .cGet), .r (.base .mDone)]

theorem crash_keywait_example' :
    (runTraceRF rwCfg true (initRF rwCfg 1) (rfTrace.take (rwTrace1.length + 1))).map
        (fun s => (s.mainErr, s.r.keyWait, s.crashedK, enabledRF rwCfg s (.r (.base (.wCallback 0))))) = some (false, [], [0], true)
    ∧ (runTraceRF rwCfg true (initRF rwCfg 1) rfTrace).map (fun s => (s.mainErr, s.r.keyWait, s.r.b.nprocs, s.r.routq)) = some (true, [], 0, [])
    ∧ (runTraceRF rwCfg true (initRF rwCfg 1) rfTrace).map (fun s => (s.r.b.main, outcome s.r.b, s.budget)) = some (Phase.done, Outcome.ok [1], 0) := by decide

/-! ### the read_wait protocol as the program `workerProgram` -/

theorem rwPc_eq_one {s : RState} {w : Nat} : rwPc s w = 1 ↔ s.keyPending.contains w = true := by
  unfold rwPc
  cases s.keyPending.contains w <;> cases s.keyWait.contains w <;> decide

theorem rwPc_ne_zero {s : RState} {w : Nat} : rwPc s w ≠ 0 ↔ s.keyPending.contains w = true ∨ s.keyWait.contains w = true := by
  unfold rwPc
  cases s.keyPending.contains w <;> cases s.keyWait.contains w <;> decide

theorem readwait_program_example' :
    (workerProgram true).map RWOp.code = [0, 1, 2] ∧ (workerProgram false).map RWOp.code = [0]
    ∧ rwPc { b := init rwCfg, routq := [], keyPending := [0], keyWait := [] } 0 = 1
    ∧ rwPc (stepR rwCfg true { b := init rwCfg, routq := [], keyPending := [0], keyWait := [] } (.wKey 0)) 0 = 2 := by decide

/-! ### two calls alive at the same time on one object: the product system -/

theorem overlapping_calls_example' :
    (runTrace2 exOv exOv (init exOv, init exOv) exOvTrace).map (fun s => (outcome s.1, outcome s.2)) = some (.ok [1], .ok [1]) := by decide

end Coba.C08
