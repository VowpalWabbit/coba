/-
Lemmas for C09, the single filters: Shuffle, Take, Slice, Reservoir, Sort, Where, Riffle.  For each model function its
specification, the fact that it commutes with `List.map` (it never looks inside an interaction), and whether it keeps
order (`Sublist`) or content (`Perm`, `Subperm`).
-/
import CobaVerif.Model.C09
import CobaVerif.Lemmas.C05
import Mathlib.Data.List.Basic
import Mathlib.Data.List.Perm.Basic
import Mathlib.Data.List.Perm.Subperm
import Mathlib.Data.List.Nodup
import Mathlib.Data.List.Sort
import Mathlib.Data.List.InsertIdx
import Mathlib.Algebra.Order.Field.Rat

namespace Coba.C09
open Coba

/-! ## Facts about lists that the library does not state -/

theorem set_subperm {α} (res : List α) (slot : Nat) (y : α) : (res.set slot y).Subperm (y :: res) := by
  induction res generalizing slot with
  | nil => simp
  | cons x xs ih =>
    cases slot with
    | zero =>
      simp only [List.set_cons_zero]
      exact (List.Sublist.cons_cons y (List.sublist_cons_self x xs)).subperm
    | succ n =>
      simp only [List.set_cons_succ]
      have h1 : (x :: xs.set n y).Subperm (x :: y :: xs) := (List.subperm_cons x).2 (ih n)
      exact h1.trans (List.Perm.swap y x xs).subperm

theorem subperm_nodup {α} {l₁ l₂ : List α} (h : l₁.Subperm l₂) (hn : l₂.Nodup) : l₁.Nodup := by
  obtain ⟨l, hp, hs⟩ := h
  exact hp.nodup_iff.1 (hn.sublist hs)

/-! ## Shuffle: a permutation that depends on the seed state and the length only -/

theorem pShuffle_perm {α} (s : Nat) (xs : List α) : (pShuffle s xs).Perm xs := C05.shuffle_perm' s xs

theorem eShuffle_perm {α} (isLogged : α → Bool) (sP sL : Nat) (xs : List α) :
    (eShuffle isLogged sP sL xs).Perm xs := by
  cases xs with
  | nil => simp [eShuffle]
  | cons x xs => exact pShuffle_perm _ _

theorem pShuffle_map {α β} (f : α → β) (s : Nat) (xs : List α) :
    pShuffle s (xs.map f) = (pShuffle s xs).map f := by
  simp [pShuffle, C05.shuffle_map]

theorem eShuffle_map {α β} (f : α → β) (isLogged : β → Bool) (sP sL : Nat) (xs : List α) :
    eShuffle isLogged sP sL (xs.map f) = (eShuffle (isLogged ∘ f) sP sL xs).map f := by
  cases xs with
  | nil => rfl
  | cons x xs =>
    simp only [List.map_cons, eShuffle, Function.comp]
    rw [← List.map_cons, pShuffle_map]

/-! ## Take -/

theorem take_eq_spec {α} (c : Option Nat) (strict : Bool) (xs : List α) : take c strict xs = takeSpec c strict xs := by
  cases c with
  | none => rfl
  | some n =>
    have h : (min n xs.length < n) = (xs.length < n) := propext ⟨fun h => by omega, fun h => by omega⟩
    simp only [take, takeSpec, List.length_take, h]

theorem take_map {α β} (f : α → β) (c : Option Nat) (strict : Bool) (xs : List α) :
    take c strict (xs.map f) = (take c strict xs).map f := by
  cases c with
  | none => rfl
  | some n =>
    simp only [take, List.length_take, List.length_map, ← List.map_take]
    split <;> simp

theorem take_sublist {α} (c : Option Nat) (strict : Bool) (xs : List α) : (take c strict xs).Sublist xs := by
  rw [take_eq_spec]
  cases c with
  | none => exact List.Sublist.refl _
  | some n =>
    simp only [takeSpec]
    split
    · exact List.nil_sublist _
    · exact List.take_sublist _ _

/-! ## Slice: `every` (what the code does) against `pick` (selection by index) -/

theorem pick_cons_true {α} (p : Nat → Bool) (i : Nat) (x : α) (xs : List α) (h : p i = true) :
    pick p i (x :: xs) = x :: pick p (i+1) xs := by simp [pick, h]

theorem pick_cons_false {α} (p : Nat → Bool) (i : Nat) (x : α) (xs : List α) (h : p i = false) :
    pick p i (x :: xs) = pick p (i+1) xs := by simp [pick, h]

theorem pick_congr {α} (p q : Nat → Bool) (i0 : Nat) (xs : List α)
    (h : ∀ i, i0 ≤ i → p i = q i) : pick p i0 xs = pick q i0 xs := by
  induction xs generalizing i0 with
  | nil => rfl
  | cons x xs ih =>
    simp only [pick]
    rw [h i0 (Nat.le_refl _), ih (i0+1) (fun i hi => h i (by omega))]

theorem pick_false {α} (p : Nat → Bool) (i0 : Nat) (xs : List α)
    (h : ∀ i, i0 ≤ i → p i = false) : pick p i0 xs = [] := by
  induction xs generalizing i0 with
  | nil => rfl
  | cons x xs ih =>
    simp only [pick]
    rw [h i0 (Nat.le_refl _), ih (i0+1) (fun i hi => h i (by omega))]
    simp

-- The bound is a variable `m` with `m = i0 + n`, here and below, so that the induction hypothesis applies at `i0 + 1`
-- without rearranging the sum inside the predicate.
theorem pick_take {α} (q : Nat → Bool) (i0 n m : Nat) (hm : m = i0 + n) (xs : List α) :
    pick q i0 (xs.take n) = pick (fun i => q i && decide (i < m)) i0 xs := by
  induction xs generalizing i0 n with
  | nil => rw [List.take_nil]; rfl
  | cons x xs ih =>
    cases n with
    | zero =>
      rw [List.take_zero]
      exact (pick_false _ i0 _ fun i hi => by rw [decide_eq_false (by omega), Bool.and_false]).symm
    | succ n =>
      rw [List.take_succ_cons, pick, pick, ih (i0 + 1) n (by omega), decide_eq_true (by omega : i0 < m), Bool.and_true]

theorem pick_drop {α} (q : Nat → Bool) (i0 n m : Nat) (hm : m = i0 + n) (xs : List α) :
    pick q m (xs.drop n) = pick (fun i => q i && decide (m ≤ i)) i0 xs := by
  induction xs generalizing i0 n with
  | nil => rw [List.drop_nil]; rfl
  | cons x xs ih =>
    cases n with
    | zero =>
      subst hm
      exact pick_congr _ _ _ _ fun i hi => by rw [decide_eq_true hi, Bool.and_true]
    | succ n =>
      rw [List.drop_succ_cons, ih (i0 + 1) n (by omega), pick_cons_false _ i0 _ _ (by rw [decide_eq_false (by omega), Bool.and_false])]

theorem every_eq_pick {α} (step : Nat) (hstep : 0 < step) (xs : List α) (k i0 m : Nat) (hm : m = i0 + k) :
    every step xs k = pick (fun i => decide (m ≤ i) && decide ((i - m) % step = 0)) i0 xs := by
  induction xs generalizing k i0 m with
  | nil => rfl
  | cons x xs ih =>
    cases k with
    | zero =>
      have h0 : (decide (i0 ≤ i0) && decide ((i0 - i0) % step = 0)) = true := by
        rw [Nat.sub_self, Nat.zero_mod, decide_eq_true (Nat.le_refl _)]; rfl
      rw [hm, Nat.add_zero, every, pick_cons_true _ _ _ _ h0, ih (step - 1) (i0 + 1) (i0 + step) (by omega)]
      congr 1
      apply pick_congr
      intro i hi
      -- an index `≥ i0 + 1` is on the grid from `i0` iff it is on the grid from `i0 + step`
      rw [decide_eq_true (Nat.le_of_succ_le hi), Bool.true_and]
      by_cases hle : i0 + step ≤ i
      · rw [decide_eq_true hle, Bool.true_and, ← Nat.sub_sub, ← Nat.mod_eq_sub_mod (Nat.le_sub_of_add_le' hle)]
      · rw [decide_eq_false hle, Bool.false_and, Nat.mod_eq_of_lt (by omega), decide_eq_false (by omega)]
    | succ k =>
      rw [every, pick_cons_false _ _ _ _ (by rw [decide_eq_false (by omega), Bool.false_and]), ih k (i0 + 1) m (by omega)]

theorem every_map {α β} (f : α → β) (step : Nat) (xs : List α) (k : Nat) :
    every step (xs.map f) k = (every step xs k).map f := by
  induction xs generalizing k with
  | nil => simp [every]
  | cons x xs ih =>
    cases k with
    | zero => simp [every, ih]
    | succ k => simp [every, ih]

theorem slice_map {α β} (f : α → β) (start stop : Option Nat) (step : Nat) (xs : List α) :
    slice start stop step (xs.map f) = (slice start stop step xs).map f := by
  unfold slice
  cases stop with
  | none => simp only [← List.map_drop, every_map]
  | some st => simp only [← List.map_take, ← List.map_drop, every_map]

theorem every_sublist {α} (step : Nat) (l : List α) (k : Nat) : (every step l k).Sublist l := by
  induction l generalizing k with
  | nil => simp [every]
  | cons x xs ih =>
    cases k with
    | zero => simp only [every]; exact (ih _).cons_cons x
    | succ k => simp only [every]; exact (ih k).cons x

theorem slice_sublist {α} (a b : Option Nat) (st : Nat) (xs : List α) : (slice a b st xs).Sublist xs := by
  unfold slice
  refine (every_sublist _ _ _).trans ((List.drop_sublist _ _).trans ?_)
  cases b with
  | none => exact List.Sublist.refl _
  | some n => exact List.take_sublist _ _

/-! ## Reservoir: the loop invariant, naturality, when the loop returns -/

theorem resLoop_spec {α} (steps : List Step) (rest res out : List α)
    (h : resLoop steps rest res = .ok out) : out.length = res.length ∧ out.Subperm (res ++ rest) := by
  induction steps generalizing rest res with
  | nil => simp [resLoop] at h
  | cons st steps ih =>
    cases st with
    | raise e => simp [resLoop] at h
    | skip S slot =>
      simp only [resLoop] at h
      split at h
      · injection h with h; subst h
        exact ⟨rfl, (List.sublist_append_left _ _).subperm⟩
      · rename_i y rest' hdrop
        split at h
        · obtain ⟨hl, hs⟩ := ih rest' (res.set slot y) h
          refine ⟨by simpa using hl, ?_⟩
          have h1 : (res.set slot y ++ rest').Subperm ((y :: res) ++ rest') :=
            (List.subperm_append_right rest').2 (set_subperm res slot y)
          have h2 : ((y :: res) ++ rest').Perm (res ++ (y :: rest')) := List.perm_middle.symm
          have h3 : (res ++ (y :: rest')).Sublist (res ++ rest) := by
            rw [← hdrop]
            exact List.Sublist.append_left (List.drop_sublist S rest) res
          exact hs.trans (h1.trans (h2.subperm.trans h3.subperm))
        · simp at h

theorem reservoir_short {α} (n : Nat) (strict : Bool) (s : Nat) (steps : List Step) (xs : List α)
    (h : xs.length < n + 1) :
    reservoir (some (n + 1)) strict s steps xs = .ok (if strict then [] else pShuffle s xs) := by
  simp only [reservoir]
  rw [if_pos (by rw [List.length_take]; omega), List.take_of_length_le (Nat.le_of_lt h)]
  rfl

theorem reservoir_long {α} (n : Nat) (strict : Bool) (s : Nat) (steps : List Step) (xs : List α)
    (h : n + 1 ≤ xs.length) :
    reservoir (some (n + 1)) strict s steps xs = resLoop steps (xs.drop (n + 1)) (pShuffle s (xs.take (n + 1))) := by
  simp only [reservoir]
  rw [if_neg (by rw [List.length_take]; omega)]
  rfl

theorem reservoir_spec {α} (count : Option Nat) (strict : Bool) (s : Nat) (steps : List Step)
    (xs out : List α) (h : reservoir count strict s steps xs = .ok out) :
    out.Subperm xs ∧
    out.length = reservoirSize count strict xs.length := by
  rcases count with _ | _ | n
  · cases h
    exact ⟨(pShuffle_perm s xs).subperm, (pShuffle_perm s xs).length_eq⟩
  · cases h
    exact ⟨List.nil_subperm, by cases strict <;> rfl⟩
  · show _ ∧ _ = (if strict && decide (xs.length < n + 1) then 0 else min (n + 1) xs.length)
    rcases Nat.lt_or_ge xs.length (n + 1) with hlt | hge
    · rw [reservoir_short n strict s steps xs hlt] at h
      cases h
      rw [decide_eq_true hlt, Bool.and_true]
      cases strict
      · exact ⟨(pShuffle_perm s xs).subperm, (pShuffle_perm s xs).length_eq.trans (Nat.min_eq_right (Nat.le_of_lt hlt)).symm⟩
      · exact ⟨List.nil_subperm, rfl⟩
    · rw [reservoir_long n strict s steps xs hge] at h
      obtain ⟨hl, hs⟩ := resLoop_spec _ _ _ _ h
      have hp := pShuffle_perm s (xs.take (n + 1))
      have hall := (hp.append_right (xs.drop (n + 1))).subperm
      rw [List.take_append_drop] at hall
      refine ⟨hs.trans hall, ?_⟩
      rw [hl, hp.length_eq, List.length_take, decide_eq_false (Nat.not_lt.2 hge), Bool.and_false]
      rfl

theorem resLoop_map {α β} (f : α → β) (steps : List Step) (rest res : List α) :
    resLoop steps (rest.map f) (res.map f) = (resLoop steps rest res).map (List.map f) := by
  induction steps generalizing rest res with
  | nil => rfl
  | cons st steps ih =>
    cases st with
    | raise e => rfl
    | skip S slot =>
      simp only [resLoop, ← List.map_drop]
      cases h : rest.drop S with
      | nil => simp [Except.map]
      | cons y rest' =>
        simp only [List.map_cons, List.length_map]
        split
        · rw [← List.map_set, ih]
        · rfl

theorem reservoir_map {α β} (f : α → β) (count : Option Nat) (strict : Bool) (s : Nat) (steps : List Step)
    (xs : List α) :
    reservoir count strict s steps (xs.map f) = (reservoir count strict s steps xs).map (List.map f) := by
  rcases count with _ | _ | n
  · exact congrArg Except.ok (pShuffle_map f s xs)
  · rfl
  · rcases Nat.lt_or_ge xs.length (n + 1) with hlt | hge
    · rw [reservoir_short _ _ _ _ _ hlt, reservoir_short _ _ _ _ _ (by rwa [List.length_map]), pShuffle_map]
      cases strict <;> rfl
    · rw [reservoir_long _ _ _ _ _ hge, reservoir_long _ _ _ _ _ (by rwa [List.length_map]), ← List.map_take, ← List.map_drop,
        pShuffle_map, resLoop_map]

theorem resLoop_ok_iff {α} (steps : List Step) (rest res : List α) :
    (∃ out, resLoop steps rest res = .ok out) ↔ resLoopOk steps rest.length res.length = true := by
  induction steps generalizing rest res with
  | nil => exact ⟨fun ⟨_, h⟩ => (nomatch h), fun h => (nomatch h)⟩
  | cons st steps ih =>
    cases st with
    | raise e => exact ⟨fun ⟨_, h⟩ => (nomatch h), fun h => (nomatch h)⟩
    | skip S slot =>
      rw [resLoop, resLoopOk]
      cases hd : rest.drop S with
      | nil =>
        rw [if_pos (List.drop_eq_nil_iff.1 hd)]
        exact ⟨fun _ => rfl, fun _ => ⟨res, rfl⟩⟩
      | cons y rest' =>
        have hlen : rest'.length + 1 = rest.length - S := by rw [← List.length_drop, hd]; rfl
        rw [if_neg (by omega : ¬ rest.length ≤ S)]
        by_cases hs : slot < res.length
        · simp only [if_pos hs, decide_eq_true hs, Bool.true_and]
          rw [ih, List.length_set, show rest.length - S - 1 = rest'.length by omega]
        · simp only [if_neg hs, decide_eq_false hs, Bool.false_and]
          exact ⟨fun ⟨_, h⟩ => (nomatch h), fun h => (nomatch h)⟩

theorem reservoir_ok_iff {α} (count : Option Nat) (strict : Bool) (s : Nat) (steps : List Step) (xs : List α) :
    (∃ out, reservoir count strict s steps xs = .ok out) ↔ reservoirOk count steps xs.length = true := by
  rcases count with _ | _ | n
  · exact ⟨fun _ => rfl, fun _ => ⟨_, rfl⟩⟩
  · exact ⟨fun _ => rfl, fun _ => ⟨_, rfl⟩⟩
  · show _ ↔ (if xs.length < n + 1 then true else resLoopOk steps (xs.length - (n + 1)) (n + 1)) = true
    rcases Nat.lt_or_ge xs.length (n + 1) with h | h
    · rw [reservoir_short _ _ _ _ _ h, if_pos h]
      exact ⟨fun _ => rfl, fun _ => ⟨_, rfl⟩⟩
    · rw [reservoir_long _ _ _ _ _ h, if_neg (Nat.not_lt.2 h), resLoop_ok_iff, (pShuffle_perm s _).length_eq, List.length_take,
        List.length_drop, Nat.min_eq_left h]

theorem resLoopOk_of_okFor (steps : List Step) (nRest nRes : Nat)
    (hs : ∀ st ∈ steps, st.okFor nRes = true) (hl : nRest < steps.length) : resLoopOk steps nRest nRes = true := by
  induction steps generalizing nRest with
  | nil => exact absurd hl (Nat.not_lt_zero _)
  | cons st steps ih =>
    cases st with
    | raise e => exact nomatch hs _ List.mem_cons_self
    | skip S slot =>
      rw [resLoopOk]
      split
      · rfl
      · rw [ih _ (fun st h => hs st (List.mem_cons_of_mem _ h)) (by rw [List.length_cons] at hl; omega), Bool.and_true]
        exact hs _ List.mem_cons_self

theorem reservoirOk_of_okFor (count : Option Nat) (steps : List Step) (N : Nat)
    (hs : ∀ n, count = some n → ∀ st ∈ steps, st.okFor n = true) (hl : N < steps.length) :
    reservoirOk count steps N = true := by
  rcases count with _ | _ | n
  · rfl
  · rfl
  · show (if N < n + 1 then true else resLoopOk steps (N - (n + 1)) (n + 1)) = true
    split
    · rfl
    · exact resLoopOk_of_okFor _ _ _ (hs _ rfl) (by omega)

/-! ### the steps computed by the float formulas -/

theorem unif_lt_one (k : Nat) (hM : k < C05.M) : (k : Rat) / (C05.M : Rat) < 1 :=
  (div_lt_one C05.MQ_pos).2 (by exact_mod_cast hM)

theorem floatSteps_ok {R} (ops : FloatOps R) (U : R → Prop) (laws : FloatLaws ops U) (count : Nat) (hc : 0 < count)
    (W : R) (hW : W = ops.one ∨ U W) (ts : List (Nat × Nat × Nat))
    (hts : ∀ t ∈ ts, t.1 < C05.M ∧ t.2.1 < C05.M ∧ t.2.2 < C05.M) :
    (∀ st ∈ floatSteps ops count W ts, st.okFor count = true) ∧
    (floatSteps ops count W ts).length = (ts.filter guardOk).length := by
  induction ts generalizing W with
  | nil => simp [floatSteps]
  | cons t ts ih =>
    obtain ⟨k1, k2, k3⟩ := t
    have ht := hts (k1, k2, k3) (by simp)
    have hts' : ∀ t ∈ ts, t.1 < C05.M ∧ t.2.1 < C05.M ∧ t.2.2 < C05.M := fun t h => hts t (by simp [h])
    simp only [floatSteps]
    by_cases hg : guardOk (k1, k2, k3) = true
    · simp only [hg, ↓reduceIte, List.filter_cons_of_pos]
      have hk : k1 ≠ 0 ∧ k2 ≠ 0 := by simpa [guardOk] using hg
      have hr1 : U (ops.ofUnif k1) := laws.unif k1 (Nat.pos_of_ne_zero hk.1) ht.1
      have hr2 : U (ops.ofUnif k2) := laws.unif k2 (Nat.pos_of_ne_zero hk.2) ht.2.1
      have hp : U (ops.pw (ops.ofUnif k1) (ops.inv count)) := laws.pw_unit _ _ hr1 hc
      have hW' : U (ops.mul W (ops.pw (ops.ofUnif k1) (ops.inv count))) := by
        rcases hW with rfl | hW
        · exact laws.mul_one _ hp
        · exact laws.mul_unit _ _ hW hp
      have hbase := laws.oneMinus_unit _ hW'
      have hstep : floatStep ops count W k1 k2 k3 =
          (ops.mul W (ops.pw (ops.ofUnif k1) (ops.inv count)),
           .skip (ops.quotFloor (ops.lg (ops.ofUnif k2)) (ops.lg (ops.oneMinus (ops.mul W (ops.pw (ops.ofUnif k1) (ops.inv count))))))
                 (ops.slot (ops.ofUnif k3) count)) := by
        simp [floatStep, laws.pos_unit _ hr2, laws.pos_unit _ hbase, laws.lg_ne_zero _ hbase]
      simp only [hstep]
      obtain ⟨h1, h2⟩ := ih _ (Or.inr hW') hts'
      constructor
      · intro st hst
        rcases List.mem_cons.1 hst with rfl | hst
        · simpa [Step.okFor] using laws.slot_lt k3 count ht.2.2 hc
        · exact h1 st hst
      · simp [h2]
    · have hg' : guardOk (k1, k2, k3) = false := by simpa using hg
      simp only [hg', Bool.false_eq_true, ↓reduceIte]
      rw [List.filter_cons_of_neg (by simp [hg'])]
      exact ih W hW hts'

theorem triples_lt (s n : Nat) : ∀ t ∈ triples s n, t.1 < C05.M ∧ t.2.1 < C05.M ∧ t.2.2 < C05.M := by
  induction n generalizing s with
  | zero => simp [triples]
  | succ n ih =>
    intro t ht
    simp only [triples, List.mem_cons] at ht
    rcases ht with rfl | ht
    · exact ⟨C05.next_lt _, C05.next_lt _, C05.next_lt _⟩
    · exact ih _ t ht

theorem reservoirState_map {α β} (f : α → β) (count : Option Nat) (s : Nat) (xs : List α) :
    reservoirState count s (xs.map f) = reservoirState count s xs := by
  cases count with
  | none => simp [reservoirState, C05.shuffle_map]
  | some n => simp [reservoirState, ← List.map_take, C05.shuffle_map]

theorem reservoirF_map {R α β} (f : α → β) (ops : FloatOps R) (count : Option Nat) (strict : Bool) (s nT : Nat)
    (xs : List α) :
    reservoirF ops count strict s nT (xs.map f) = (reservoirF ops count strict s nT xs).map (List.map f) := by
  simp only [reservoirF, reservoirState_map, reservoir_map]

/-! ## Sort: `isort` is the library's insertion sort; the key order is a total preorder -/

theorem insertBy_eq {α} (le : α → α → Bool) (a : α) (l : List α) :
    insertBy le a l = List.orderedInsert (fun a b => le a b = true) a l := by
  induction l with
  | nil => rfl
  | cons b l ih => simp [insertBy, List.orderedInsert, ih]

theorem isort_eq {α} (le : α → α → Bool) (l : List α) :
    isort le l = List.insertionSort (fun a b => le a b = true) l := by
  induction l with
  | nil => rfl
  | cons a l ih => simp [isort, insertBy_eq, ih]

theorem sortBy_spec {α K} (le : K → K → Bool) (key : α → K)
    (htot : ∀ a b, le a b = true ∨ le b a = true)
    (htr : ∀ a b c, le a b = true → le b c = true → le a c = true) (xs : List α) :
    (sortBy le key xs).Perm xs ∧
    (sortBy le key xs).Pairwise (fun a b => le (key a) (key b) = true) ∧
    (∀ a b, le (key a) (key b) = true → [a, b].Sublist xs → [a, b].Sublist (sortBy le key xs)) := by
  unfold sortBy
  rw [isort_eq]
  have : Std.Total (fun a b : α => le (key a) (key b) = true) := ⟨fun a b => htot _ _⟩
  have : IsTrans α (fun a b : α => le (key a) (key b) = true) := ⟨fun a b c => htr _ _ _⟩
  refine ⟨List.perm_insertionSort _ _, List.pairwise_insertionSort _ _, ?_⟩
  intro a b hab hs
  exact List.pair_sublist_insertionSort hab hs

/-- equal-key classes keep their input order (the usual statement of stability) -/
theorem sortBy_stable_class {α K} (le : K → K → Bool) (key : α → K)
    (xs : List α) (p : α → Bool)
    (hp : ∀ a b, p a = true → p b = true → le (key a) (key b) = true) :
    (sortBy le key xs).filter p = xs.filter p := by
  unfold sortBy
  rw [isort_eq]
  have hpw : (xs.filter p).Pairwise (fun a b => le (key a) (key b) = true) := by
    rw [List.pairwise_iff_forall_sublist]
    intro a b hab
    have ha : a ∈ xs.filter p := hab.subset (by simp)
    have hb : b ∈ xs.filter p := hab.subset (by simp)
    exact hp a b (List.mem_filter.1 ha).2 (List.mem_filter.1 hb).2
  have hsub : (xs.filter p).Sublist (List.insertionSort (fun a b => le (key a) (key b) = true) xs) :=
    List.sublist_insertionSort hpw List.filter_sublist
  have hsub2 : (xs.filter p).Sublist ((List.insertionSort (fun a b => le (key a) (key b) = true) xs).filter p) := by
    have := hsub.filter p
    simpa using this
  have hlen : ((List.insertionSort (fun a b => le (key a) (key b) = true) xs).filter p).length = (xs.filter p).length :=
    ((List.perm_insertionSort _ xs).filter p).length_eq
  exact (hsub2.eq_of_length hlen.symm).symm

theorem sortBy_map {α β K} (f : α → β) (le : K → K → Bool) (key : β → K) (xs : List α) :
    sortBy le key (xs.map f) = (sortBy le (key ∘ f) xs).map f := by
  unfold sortBy
  rw [isort_eq, isort_eq]
  symm
  apply List.map_insertionSort
  intro a _ b _
  simp

theorem isort_all_le {α} (le : α → α → Bool) (h : ∀ a b, le a b = true) (l : List α) : isort le l = l := by
  induction l with
  | nil => rfl
  | cons a l ih =>
    simp only [isort, ih]
    cases l with
    | nil => rfl
    | cons b l => simp [insertBy, h]

/-- A strict weak order given as a Boolean `<`: the two laws that make `¬ (b < a)` a total preorder, and that `lexLt`
hands on from the elements to the sequences (`keyLe` is reached from `decide (· < ·)` this way, without ever speaking of
equality of keys). -/
structure StrictWeak {β} (lt : β → β → Bool) : Prop where
  asymm : ∀ a b, lt a b = true → lt b a = false
  negTrans : ∀ a b c, lt a c = true → lt a b = true ∨ lt b c = true

theorem StrictWeak.irrefl {β} {lt : β → β → Bool} (h : StrictWeak lt) (a : β) : lt a a = false := by
  cases hh : lt a a with
  | false => rfl
  | true => have := h.asymm a a hh; rw [hh] at this; exact this

theorem StrictWeak.not_lt_trans {β} {lt : β → β → Bool} (h : StrictWeak lt) {a b c : β}
    (hab : lt a b = false) (hbc : lt b c = false) : lt a c = false := by
  cases hac : lt a c with
  | false => rfl
  | true => rcases h.negTrans a b c hac with h' | h' <;> simp [hab, hbc] at h'

theorem lexLt_asymm {β} {lt : β → β → Bool} (h : StrictWeak lt) :
    ∀ a b : List β, lexLt lt a b = true → lexLt lt b a = false := by
  intro a
  induction a with
  | nil => intro b; cases b <;> simp [lexLt]
  | cons x as ih =>
    intro b
    cases b with
    | nil => simp [lexLt]
    | cons y bs =>
      simp only [lexLt]
      cases hxy : lt x y with
      | true => simp [h.asymm x y hxy]
      | false =>
        cases hyx : lt y x with
        | true => simp
        | false => simpa using ih bs

theorem lexLt_negTrans {β} {lt : β → β → Bool} (h : StrictWeak lt) :
    ∀ a b c : List β, lexLt lt a c = true → lexLt lt a b = true ∨ lexLt lt b c = true := by
  intro a
  induction a with
  | nil =>
    intro b c hac
    cases c with
    | nil => simp [lexLt] at hac
    | cons z cs => cases b with
      | nil => right; simp [lexLt]
      | cons y bs => left; simp [lexLt]
  | cons x as ih =>
    intro b c hac
    cases c with
    | nil => simp [lexLt] at hac
    | cons z cs =>
      cases b with
      | nil => right; simp [lexLt]
      | cons y bs =>
        simp only [lexLt] at hac ⊢
        cases hxy : lt x y with
        | true => left; rfl
        | false =>
          cases hyz : lt y z with
          | true => right; rfl
          | false =>
            -- neither `x < y` nor `y < z`, so not `x < z`; then not `z < x` either, and no two heads are comparable
            rw [h.not_lt_trans hxy hyz] at hac
            cases hzx : lt z x with
            | true => rw [hzx] at hac; exact absurd hac (by simp)
            | false =>
              rw [hzx] at hac
              rw [h.not_lt_trans hyz hzx, h.not_lt_trans hzx hxy]
              exact ih bs cs hac

theorem lexLt_strictWeak {β} {lt : β → β → Bool} (h : StrictWeak lt) : StrictWeak (lexLt lt) :=
  ⟨lexLt_asymm h, lexLt_negTrans h⟩

theorem decideLt_strictWeak {β} [LinearOrder β] : StrictWeak (fun x y : β => decide (x < y)) :=
  ⟨fun _ _ h => decide_eq_false (lt_asymm (of_decide_eq_true h)),
   fun a b _ h => (lt_or_ge a b).elim (fun hab => .inl (decide_eq_true hab))
     (fun hba => .inr (decide_eq_true (lt_of_le_of_lt hba (of_decide_eq_true h))))⟩

theorem valLt_strictWeak : StrictWeak Val.lt := by
  have hn : StrictWeak (fun x y : Rat => decide (x < y)) := decideLt_strictWeak
  have hs : StrictWeak (lexLt (fun x y : Nat => decide (x < y))) := lexLt_strictWeak decideLt_strictWeak
  constructor
  · intro a b h
    cases a <;> cases b
    case num.num => exact hn.asymm _ _ h
    case num.str => rfl
    case str.num => exact nomatch h
    case str.str => exact hs.asymm _ _ h
  · -- a number is below every string
    intro a b c h
    cases a <;> cases b <;> cases c
    case num.num.num => exact hn.negTrans _ _ _ h
    case num.num.str => exact .inr rfl
    case num.str.num => exact .inl rfl
    case num.str.str => exact .inl rfl
    case str.num.num => exact nomatch h
    case str.num.str => exact .inr rfl
    case str.str.num => exact nomatch h
    case str.str.str => exact hs.negTrans _ _ _ h

theorem keyLt_strictWeak : StrictWeak keyLt := lexLt_strictWeak valLt_strictWeak

theorem keyLe_total (a b : Key) : keyLe a b = true ∨ keyLe b a = true := by
  unfold keyLe
  cases h : keyLt b a with
  | false => left; rfl
  | true => right; simp [keyLt_strictWeak.asymm b a h]

theorem keyLe_refl (a : Key) : keyLe a a = true := (keyLe_total a a).elim id id

theorem keyLe_trans (a b c : Key) (h1 : keyLe a b = true) (h2 : keyLe b c = true) : keyLe a c = true := by
  simp only [keyLe, Bool.not_eq_true'] at h1 h2 ⊢
  exact keyLt_strictWeak.not_lt_trans h2 h1

theorem decorate_ok {α} (keyOf : α → Except Err Key) (kf : α → Key) (l : List α)
    (hk : ∀ a ∈ l, keyOf a = .ok (kf a)) : decorate keyOf l = .ok (l.map (fun a => (kf a, a))) := by
  induction l with
  | nil => rfl
  | cons a l ih =>
    simp only [decorate, hk a (by simp), ih (fun b hb => hk b (by simp [hb])), List.map_cons]

theorem decorate_ok_inv {α} (keyOf : α → Except Err Key) (l : List α) (r : List (Key × α))
    (h : decorate keyOf l = .ok r) : ∀ a ∈ l, ∃ k, keyOf a = .ok k := by
  induction l generalizing r with
  | nil => simp
  | cons a l ih =>
    simp only [decorate] at h
    split at h
    · simp at h
    · rename_i k hk
      split at h
      · simp at h
      · rename_i r' hr'
        intro b hb
        rcases List.mem_cons.1 hb with rfl | hb
        · exact ⟨k, hk⟩
        · exact ih r' hr' b hb

theorem decorate_map {α β} (f : α → β) (keyOf : β → Except Err Key) (xs : List α) :
    decorate keyOf (xs.map f) = (decorate (keyOf ∘ f) xs).map (List.map (fun p => (p.1, f p.2))) := by
  induction xs with
  | nil => rfl
  | cons a l ih =>
    simp only [List.map_cons, decorate, Function.comp, ih]
    cases keyOf (f a) with
    | error e => rfl
    | ok k =>
      cases decorate (keyOf ∘ f) l with
      | error e => rfl
      | ok r => rfl

theorem sortF_eq_sortBy {α} (hasCtx : α → Bool) (ctx : α → Ctx) (keys : List Val) (kf : α → Key)
    (x : α) (xs : List α) (hc : hasCtx x = true)
    (hk : ∀ a ∈ x :: xs, sortKey keys (ctx x).isSparse (ctx a) = .ok (kf a)) :
    sortF hasCtx ctx keys (x :: xs) = .ok (sortBy keyLe kf (x :: xs)) := by
  rw [sortF, hc, Bool.not_true, if_neg Bool.false_ne_true, decorate_ok _ kf _ hk]
  show Except.ok ((sortBy keyLe (·.1) ((x :: xs).map fun a => (kf a, a))).map (·.2)) = _
  rw [sortBy_map, List.map_map]
  exact congrArg _ (List.map_id _)

/-- `decorate` stops at the first missing key, so a `Sort` that returns is `sortBy` along a total key function. -/
theorem sortF_ok_inv {α} (hasCtx : α → Bool) (ctx : α → Ctx) (keys : List Val) (x : α) (xs out : List α)
    (hc : hasCtx x = true) (h : sortF hasCtx ctx keys (x :: xs) = .ok out) :
    ∃ kf : α → Key, (∀ a ∈ x :: xs, sortKey keys (ctx x).isSparse (ctx a) = .ok (kf a)) ∧
      out = sortBy keyLe kf (x :: xs) := by
  have hex : ∀ a ∈ x :: xs, ∃ k, sortKey keys (ctx x).isSparse (ctx a) = .ok k := by
    simp only [sortF, hc, Bool.not_true, Bool.false_eq_true, ↓reduceIte] at h
    split at h
    · exact nomatch h
    · rename_i kxs hd
      exact decorate_ok_inv _ _ _ hd
  let kf : α → Key := fun a => match sortKey keys (ctx x).isSparse (ctx a) with | .ok k => k | .error _ => []
  have hk : ∀ a ∈ x :: xs, sortKey keys (ctx x).isSparse (ctx a) = .ok (kf a) := by
    intro a ha
    obtain ⟨k, hk⟩ := hex a ha
    simp only [kf, hk]
  refine ⟨kf, hk, ?_⟩
  rw [sortF_eq_sortBy hasCtx ctx keys kf x xs hc hk] at h
  exact (Except.ok.inj h).symm

theorem sortF_perm {α} (hasCtx : α → Bool) (ctx : α → Ctx) (keys : List Val) (xs out : List α)
    (h : sortF hasCtx ctx keys xs = .ok out) : out.Perm xs := by
  cases xs with
  | nil => cases h; exact List.Perm.refl _
  | cons x xs =>
    cases hc : hasCtx x with
    | false =>
      rw [sortF, hc] at h
      cases h; exact List.Perm.refl _
    | true =>
      obtain ⟨kf, _, rfl⟩ := sortF_ok_inv hasCtx ctx keys x xs out hc h
      exact (sortBy_spec keyLe kf keyLe_total keyLe_trans (x :: xs)).1

theorem sortF_map {α β} (f : α → β) (hasCtx : β → Bool) (ctx : β → Ctx) (keys : List Val) (xs : List α) :
    sortF hasCtx ctx keys (xs.map f) = (sortF (hasCtx ∘ f) (ctx ∘ f) keys xs).map (List.map f) := by
  cases xs with
  | nil => rfl
  | cons x xs =>
    simp only [List.map_cons, sortF, Function.comp]
    split
    · rfl
    · rw [← List.map_cons, decorate_map]
      have hd : ((fun a => sortKey keys (ctx (f x)).isSparse (ctx a)) ∘ f) = (fun a => sortKey keys (ctx (f x)).isSparse (ctx (f a))) := rfl
      rw [hd]
      cases decorate (fun a => sortKey keys (ctx (f x)).isSparse (ctx (f a))) (x :: xs) with
      | error e => rfl
      | ok kxs =>
        simp only [Except.map]
        have := sortBy_map (fun (p : Key × α) => (p.1, f p.2)) keyLe (fun (p : Key × β) => p.1) kxs
        rw [this]
        simp only [List.map_map]
        rfl

/-! ## Where -/

theorem inMinMax_iff (v : Nat) (mn mx : Option Nat) :
    inMinMax v mn mx = true ↔ (∀ m, mn = some m → m ≤ v) ∧ (∀ m, mx = some m → v ≤ m) := by
  cases mn <;> cases mx <;> simp [inMinMax]

/-- Looking at only `p` of `N` interactions decides the bounds exactly as soon as `p` exceeds the upper
bound (`p` items present prove "too many") or, without an upper bound, reaches the lower one. -/
theorem inMinMax_min_peek (p N : Nat) (mn mx : Option Nat) (hmx : ∀ m, mx = some m → m < p)
    (hmn : mx = none → ∀ m, mn = some m → m ≤ p) :
    inMinMax (min p N) mn mx = inMinMax N mn mx := by
  rcases Nat.le_total N p with h | h
  · rw [Nat.min_eq_right h]
  · -- more than `p` interactions: an upper bound fails on both sides, a lone lower bound holds on both
    rw [Nat.min_eq_left h, Bool.eq_iff_iff, inMinMax_iff, inMinMax_iff]
    cases mx with
    | some b =>
      have := hmx b rfl
      constructor <;> rintro ⟨-, h2⟩ <;> have := h2 b rfl <;> omega
    | none =>
      exact ⟨fun ⟨h1, _⟩ => ⟨fun m hm => (h1 m hm).trans h, nofun⟩, fun _ => ⟨hmn rfl, nofun⟩⟩

theorem peek_inMinMax (mn mx : Option Nat) (n : Nat) :
    inMinMax (min (peekCount (mn, mx)) (n + 1)) mn mx = inMinMax (n + 1) mn mx := by
  apply inMinMax_min_peek
  · intro m h; subst h; simp only [peekCount]; omega
  · intro h m hm; subst h hm; simp only [peekCount]; omega

theorem whereF_eq_spec' {α} (fetLen : α → Nat) (nAct : α → Nat) (nInt nActB nFet : Range) (xs : List α) :
    whereF fetLen nAct nInt nActB nFet xs = whereSpec fetLen nAct nInt nActB nFet xs := by
  cases xs with
  | nil => rfl
  | cons x xs =>
    obtain ⟨mn, mx⟩ := nInt
    obtain ⟨amn, amx⟩ := nActB
    simp only [whereF, whereSpec, List.length_take, List.length_cons]
    rw [peek_inMinMax mn mx xs.length]
    have hfilter : (x :: xs).filter (fun a => (amn.isNone && amx.isNone) || inMinMax (nAct a) amn amx)
        = (x :: xs).filter (fun a => inMinMax (nAct a) amn amx) := by
      congr 1
      funext a
      cases amn <;> cases amx <;> rfl
    rw [hfilter]
    cases inMinMax (xs.length + 1) mn mx <;> cases inMinMax (fetLen x) nFet.1 nFet.2 <;> simp

theorem whereF_map' {α β} (f : α → β) (fetLen nAct : β → Nat) (nInt nActB nFet : Range) (xs : List α) :
    whereF fetLen nAct nInt nActB nFet (xs.map f)
      = (whereF (fetLen ∘ f) (nAct ∘ f) nInt nActB nFet xs).map f := by
  cases xs with
  | nil => rfl
  | cons x xs =>
    simp only [List.map_cons, whereF, List.length_take, List.length_cons, List.length_map, Function.comp]
    split
    · rfl
    · split
      · rfl
      · rw [← List.map_cons, List.filter_map]
        rfl

theorem whereF_sublist {α} (fetLen nAct : α → Nat) (ni na nf : Range) (xs : List α) :
    (whereF fetLen nAct ni na nf xs).Sublist xs := by
  rw [whereF_eq_spec']
  cases xs with
  | nil => exact List.Sublist.refl _
  | cons x xs =>
    simp only [whereSpec]
    split
    · exact List.filter_sublist
    · exact List.nil_sublist _

/-! ## Riffle -/

theorem popInsert_perm {α} (idx : Nat) (l : List α) : (popInsert idx l).Perm l := by
  unfold popInsert
  cases h : l.getLast? with
  | none => exact List.Perm.refl _
  | some z =>
    have h1 : l.dropLast ++ [z] = l := List.dropLast_append_getLast? z (by simp [h])
    have h2 := (List.perm_append_singleton z l.dropLast).symm
    rw [h1] at h2
    exact (List.perm_insertIdx z l.dropLast (Nat.min_le_right _ _)).trans h2

theorem riffleLoop_perm {α} (spacing k i s : Nat) (l : List α) : (riffleLoop spacing k i s l).Perm l := by
  induction k generalizing i s l with
  | zero => exact List.Perm.refl _
  | succ k ih =>
    simp only [riffleLoop]
    exact (ih _ _ _).trans (popInsert_perm _ _)

theorem popInsert_map {α β} (f : α → β) (idx : Nat) (l : List α) :
    popInsert idx (l.map f) = (popInsert idx l).map f := by
  unfold popInsert
  rw [List.getLast?_map]
  cases l.getLast? with
  | none => rfl
  | some z => simp only [Option.map_some, List.map_insertIdx, List.map_dropLast, List.length_map, List.length_dropLast]

theorem riffleLoop_map {α β} (f : α → β) (spacing k i s : Nat) (l : List α) :
    riffleLoop spacing k i s (l.map f) = (riffleLoop spacing k i s l).map f := by
  induction k generalizing i s l with
  | zero => rfl
  | succ k ih => simp only [riffleLoop, popInsert_map, ih]

theorem riffle_map {α β} (f : α → β) (spacing s : Nat) (xs : List α) :
    riffle spacing s (xs.map f) = (riffle spacing s xs).map f := by
  simp [riffle, riffleLoop_map]

end Coba.C09

