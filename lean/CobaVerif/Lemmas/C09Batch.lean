/-
Lemmas for C09, Batch / Unbatch / BatchSafe: chunking, the transposition of a batch of records with one key list and
back, the two equations of `batchSafe`, `Unbatch` on fully batched interactions.
-/
import CobaVerif.Model.C09
import Mathlib.Data.List.Basic
import Mathlib.Data.List.Nodup

namespace Coba.C09
open Coba

/-! ## `Batch._batched`: consecutive chunks -/

theorem chunkGo_eq {α} (k n : Nat) (xs cur : List α) (hn : cur.length + (n + 1) = k) (hne : cur ++ xs ≠ []) :
    chunkGo k xs cur = (cur ++ xs.take (n + 1)) :: chunks k (xs.drop (n + 1)) := by
  induction xs generalizing cur n with
  | nil =>
    cases cur with
    | nil => exact absurd rfl hne
    | cons c cs => rw [chunkGo, if_neg (by simp), List.take_nil, List.append_nil]; rfl
  | cons x xs ih =>
    have hl : (cur ++ [x]).length = cur.length + 1 := by rw [List.length_append, List.length_singleton]
    rw [chunkGo, List.take_succ_cons, List.drop_succ_cons]
    cases n with
    | zero => rw [if_pos (by omega), List.take_zero, List.drop_zero]; rfl
    | succ n => rw [if_neg (by omega), ih n (cur ++ [x]) (by omega) (by simp), List.append_assoc, List.singleton_append]

theorem chunks_eq {α} (k : Nat) (hk : 0 < k) (xs : List α) (hne : xs ≠ []) :
    chunks k xs = xs.take k :: chunks k (xs.drop k) := by
  obtain ⟨n, rfl⟩ : ∃ n, k = n + 1 := ⟨k - 1, by omega⟩
  exact chunkGo_eq (n + 1) n xs [] (Nat.zero_add _) hne

theorem chunks_induction {α} (k : Nat) (hk : 0 < k) {P : List α → List (List α) → Prop} (nil : P [] [])
    (step : ∀ xs, xs ≠ [] → P (xs.drop k) (chunks k (xs.drop k)) → P xs (xs.take k :: chunks k (xs.drop k))) (xs : List α) :
    P xs (chunks k xs) :=
  match xs with
  | [] => nil
  | x :: xs => by
    rw [chunks_eq k hk _ (List.cons_ne_nil _ _)]
    exact step _ (List.cons_ne_nil _ _) (chunks_induction k hk nil step _)
termination_by xs.length
decreasing_by rw [List.length_drop, List.length_cons]; omega

theorem chunks_flatten {α} (k : Nat) (hk : 0 < k) (xs : List α) : (chunks k xs).flatten = xs :=
  chunks_induction k hk (P := fun xs cs => cs.flatten = xs) rfl
    (fun xs _ ih => by rw [List.flatten_cons, ih, List.take_append_drop]) xs

theorem chunks_length_bounds {α} (k : Nat) (hk : 0 < k) (xs : List α) : ∀ b ∈ chunks k xs, 0 < b.length ∧ b.length ≤ k :=
  chunks_induction k hk (P := fun _ cs => ∀ b ∈ cs, 0 < b.length ∧ b.length ≤ k) (fun _ h => nomatch h)
    (fun xs hne ih b hb => by
      rcases List.mem_cons.1 hb with rfl | hb
      · rw [List.length_take]
        exact ⟨Nat.lt_min.2 ⟨hk, List.length_pos_of_ne_nil hne⟩, Nat.min_le_left _ _⟩
      · exact ih b hb) xs

/-! ## Transposing a batch of records and back -/

/-- The records `rs` with the column `(k, vs)` put in front, row by row: the step of `unbatchCols`. -/
def consCol {V} (k : String) (vs : List V) (rs : List (Rec V)) : List (Rec V) :=
  List.zipWith (fun v r => (k, v) :: r) vs rs

theorem unbatchCols_cons {V} (k : String) (vs : List V) (cols : List (String × List V)) (n : Nat) :
    unbatchCols ((k, vs) :: cols) n = consCol k vs (unbatchCols cols n) := rfl

theorem length_consCol {V} (k : String) (vs : List V) (rs : List (Rec V)) :
    (consCol k vs rs).length = min vs.length rs.length := List.length_zipWith

theorem exists_consCol_of_keys {V} (k : String) (ks : List String) (b : List (Rec V))
    (h : ∀ r ∈ b, r.map (·.1) = k :: ks) :
    ∃ vs rs, vs.length = rs.length ∧ b = consCol k vs rs ∧ ∀ r ∈ rs, r.map (·.1) = ks := by
  induction b with
  | nil => exact ⟨[], [], rfl, rfl, by simp⟩
  | cons r b ih =>
    obtain ⟨vs, rs, hl, hb, hr⟩ := ih (fun r hr => h r (by simp [hr]))
    have hr0 := h r (by simp)
    cases r with
    | nil => simp at hr0
    | cons p r' =>
      obtain ⟨k', v⟩ := p
      simp only [List.map_cons, List.cons.injEq] at hr0
      obtain ⟨hk, hr'⟩ := hr0
      subst hk
      refine ⟨v :: vs, r' :: rs, by simp [hl], by simp [consCol, hb], ?_⟩
      intro r hr2
      rcases List.mem_cons.1 hr2 with rfl | hr2
      · exact hr'
      · exact hr r hr2

theorem column_consCol_same {V} (k : String) (vs : List V) (rs : List (Rec V)) (hl : vs.length = rs.length) :
    column k (consCol k vs rs) = .ok vs := by
  induction vs generalizing rs with
  | nil => cases rs <;> simp_all [consCol, column]
  | cons v vs ih =>
    cases rs with
    | nil => simp at hl
    | cons r rs =>
      have := ih rs (by simpa using hl)
      simp only [consCol] at this
      simp [consCol, column, lookupKey, this]

theorem column_consCol_other {V} (k k' : String) (hne : k ≠ k') (vs : List V) (rs : List (Rec V))
    (hl : vs.length = rs.length) : column k' (consCol k vs rs) = column k' rs := by
  induction vs generalizing rs with
  | nil => cases rs <;> simp_all [consCol, column]
  | cons v vs ih =>
    cases rs with
    | nil => simp at hl
    | cons r rs =>
      have := ih rs (by simpa using hl)
      simp only [consCol] at this
      simp [consCol, column, lookupKey, hne, this]

theorem batchCols_consCol {V} (k : String) (ks : List String) (hk : k ∉ ks) (vs : List V) (rs : List (Rec V))
    (hl : vs.length = rs.length) : batchCols ks (consCol k vs rs) = batchCols ks rs := by
  induction ks with
  | nil => rfl
  | cons k' ks ih =>
    have hne : k ≠ k' := fun h => hk (by simp [h])
    simp only [batchCols, column_consCol_other k k' hne vs rs hl, ih (fun h => hk (by simp [h]))]

theorem unbatchCols_length {V} (cols : List (String × List V)) (n : Nat)
    (h : ∀ c ∈ cols, c.2.length = n) : (unbatchCols cols n).length = n := by
  induction cols with
  | nil => simp [unbatchCols]
  | cons c cols ih =>
    obtain ⟨k, vs⟩ := c
    have hv : vs.length = n := h (k, vs) List.mem_cons_self
    rw [unbatchCols_cons, length_consCol, ih (fun c hc => h c (List.mem_cons_of_mem _ hc)), hv, Nat.min_self]

theorem transpose_id {V} (ks : List String) (hnd : ks.Nodup) (b : List (Rec V))
    (h : ∀ r ∈ b, r.map (·.1) = ks) :
    ∃ cols, batchCols ks b = .ok cols ∧ unbatchCols cols b.length = b ∧
      (∀ c ∈ cols, c.2.length = b.length) ∧ cols.map (·.1) = ks := by
  induction ks generalizing b with
  | nil =>
    refine ⟨[], rfl, ?_, by simp, rfl⟩
    simp only [unbatchCols]
    apply List.ext_getElem
    · simp
    · intro i h1 h2
      have := h b[i] (List.getElem_mem h2)
      simp at this
      simp [this]
  | cons k ks ih =>
    obtain ⟨hk, hnd'⟩ := List.nodup_cons.1 hnd
    obtain ⟨vs, rs, hl, hb, hr⟩ := exists_consCol_of_keys k ks b h
    obtain ⟨cols, hc, hu, hlen, hkeys⟩ := ih hnd' rs hr
    have hbl : b.length = rs.length := by rw [hb, length_consCol, hl, Nat.min_self]
    refine ⟨(k, vs) :: cols, ?_, ?_, ?_, by simp [hkeys]⟩
    · rw [hb]
      simp only [batchCols, column_consCol_same k vs rs hl, batchCols_consCol k ks hk vs rs hl, hc]
    · rw [unbatchCols_cons, hbl, hu]
      exact hb.symm
    · intro c hc'
      rcases List.mem_cons.1 hc' with rfl | hc'
      · simp [hl, hbl]
      · rw [hbl]; exact hlen c hc'

theorem unbatchOne_batch {V} (ks : List String) (hne : ks ≠ []) (hnd : ks.Nodup) (b : List (Rec V))
    (h : ∀ r ∈ b, r.map (·.1) = ks) :
    ∃ cols, batchCols ks b = .ok cols ∧ unbatchOne (.batch cols) = b ∧ firstBatchSize (.batch cols) = b.length := by
  obtain ⟨cols, hc, hu, hlen, hkeys⟩ := transpose_id ks hnd b h
  refine ⟨cols, hc, ?_⟩
  cases cols with
  | nil => simp at hkeys; exact absurd hkeys hne
  | cons c cols =>
    obtain ⟨k, vs⟩ := c
    have : vs.length = b.length := by simpa using hlen (k, vs) (by simp)
    refine ⟨?_, this⟩
    simp only [unbatchOne, this]
    exact hu

theorem batchAll_unbatch {V} (ks : List String) (hne : ks ≠ []) (hnd : ks.Nodup) (bs : List (List (Rec V)))
    (h : ∀ b ∈ bs, ∀ r ∈ b, r.map (·.1) = ks) :
    ∃ cs, batchAll ks bs = .ok cs ∧ (cs.map Batched.batch).flatMap unbatchOne = bs.flatten ∧
      (cs.map Batched.batch).map firstBatchSize = bs.map List.length := by
  induction bs with
  | nil => exact ⟨[], rfl, rfl, rfl⟩
  | cons b bs ih =>
    obtain ⟨cs, hcs, hfl, hsz⟩ := ih (fun b hb => h b (by simp [hb]))
    obtain ⟨cols, hc, hu, hs⟩ := unbatchOne_batch ks hne hnd b (h b (by simp))
    refine ⟨cols :: cs, by simp [batchAll, hc, hcs], ?_, ?_⟩
    · simp only [List.map_cons, List.flatMap_cons, List.flatten_cons, hu, hfl]
    · simp only [List.map_cons, hs, hsz]

theorem unbatchF_plain {V} (xs : List (Rec V)) : unbatchF (xs.map Batched.plain) = xs := by
  cases xs with
  | nil => rfl
  | cons x xs =>
    simp only [List.map_cons, unbatchF]
    congr 1
    induction xs with
    | nil => rfl
    | cons y ys ih => simp [List.flatMap_cons, ih]

theorem unbatchF_batches {V} (cs : List (List (String × List V))) :
    unbatchF (cs.map Batched.batch) = (cs.map Batched.batch).flatMap unbatchOne := by
  cases cs with
  | nil => rfl
  | cons c cs => simp [unbatchF]

theorem batchF_uniform {V} (size : Nat) (hs : size ≠ 0) (ks : List String) (hne : ks ≠ []) (xs : List (Rec V))
    (hu : uniformKeys ks xs) :
    ∃ bs, batchF size xs = .ok bs ∧ unbatchF bs = xs ∧ bs.map firstBatchSize = (chunks size xs).map List.length := by
  obtain ⟨hnd, hk⟩ := hu
  cases xs with
  | nil => exact ⟨[], rfl, rfl, rfl⟩
  | cons x xs =>
    have hmem : ∀ b ∈ chunks size (x :: xs), ∀ r ∈ b, r.map (·.1) = ks := by
      intro b hb r hr
      apply hk
      rw [← chunks_flatten size (Nat.pos_of_ne_zero hs) (x :: xs)]
      exact List.mem_flatten.2 ⟨b, hb, hr⟩
    obtain ⟨cs, hcs, hfl, hsz⟩ := batchAll_unbatch ks hne hnd _ hmem
    refine ⟨cs.map .batch, ?_, by rw [unbatchF_batches, hfl, chunks_flatten size (Nat.pos_of_ne_zero hs)], hsz⟩
    rw [batchF, if_neg hs, hk x List.mem_cons_self, hcs]

theorem batchF_first {V} (size : Nat) (hs : 0 < size) (ks : List String) (hne : ks ≠ []) (recs : List (Rec V))
    (hr : recs ≠ []) (hu : uniformKeys ks recs) (bs : List (Batched V)) (hb : batchF size recs = .ok bs) :
    ∃ first rest, bs = first :: rest ∧ firstBatchSize first = min size recs.length ∧ unbatchF bs = recs := by
  obtain ⟨bs', hb', hub, hsz⟩ := batchF_uniform size (Nat.ne_of_gt hs) ks hne recs hu
  obtain rfl : bs' = bs := Except.ok.inj (hb'.symm.trans hb)
  rw [chunks_eq size hs recs hr, List.map_cons, List.length_take] at hsz
  cases bs' with
  | nil => exact nomatch hsz
  | cons first rest' =>
    rw [List.map_cons] at hsz
    exact ⟨first, rest', rfl, (List.cons.inj hsz).1, hub⟩

/-! ## BatchSafe: its two equations -/

theorem batchSafe_nil' {V} (G : List (Batched V) → Except Err (List (Batched V))) : batchSafe G [] = .ok [] := rfl

theorem batchSafe_of_size_zero {V} (G : List (Batched V) → Except Err (List (Batched V)))
    (first : Batched V) (rest : List (Batched V)) (h : firstBatchSize first = 0) :
    batchSafe G (first :: rest) = G (first :: rest) := by
  simp only [batchSafe, h, if_true]

theorem batchSafe_of_size_pos {V} (G : List (Batched V) → Except Err (List (Batched V)))
    (first : Batched V) (rest : List (Batched V)) (h : firstBatchSize first ≠ 0) :
    batchSafe G (first :: rest) = (match G ((unbatchF (first :: rest)).map .plain) with
      | .error e => .error e
      | .ok ys => batchF (firstBatchSize first) (unbatchF ys)) := by
  simp only [batchSafe, h, if_false]
  cases G ((unbatchF (first :: rest)).map .plain) <;> rfl

theorem batchSafe_agrees {V} (G : List (Batched V) → Except Err (List (Batched V)))
    (F : List (Rec V) → Except Err (List (Rec V))) (hG : agreesOnPlain G F)
    (first : Batched V) (rest : List (Batched V)) (h : firstBatchSize first ≠ 0) :
    batchSafe G (first :: rest) = (match F (unbatchF (first :: rest)) with
      | .error e => .error e
      | .ok ys => batchF (firstBatchSize first) ys) := by
  rw [batchSafe_of_size_pos G first rest h, hG]
  cases F (unbatchF (first :: rest)) with
  | error e => rfl
  | ok ys => exact congrArg (batchF (firstBatchSize first)) (unbatchF_plain ys)

theorem batchSafe_batched {V} (G : List (Batched V) → Except Err (List (Batched V)))
    (F : List (Rec V) → Except Err (List (Rec V))) (hG : agreesOnPlain G F)
    (size : Nat) (hs : 0 < size) (ks : List String) (hne : ks ≠ []) (recs : List (Rec V))
    (hr : recs ≠ []) (hu : uniformKeys ks recs) (bs : List (Batched V)) (hb : batchF size recs = .ok bs) :
    batchSafe G bs = (match F recs with
      | .error e => .error e
      | .ok ys => batchF (min size recs.length) ys) := by
  obtain ⟨first, rest, rfl, hsz, hub⟩ := batchF_first size hs ks hne recs hr hu bs hb
  have hpos : firstBatchSize first ≠ 0 := by
    have : 0 < recs.length := List.length_pos_of_ne_nil hr
    omega
  rw [batchSafe_agrees G F hG first rest hpos, hsz, hub]

theorem liftF_plain {V} (F : List (Rec V) → Except Err (List (Rec V))) (recs : List (Rec V)) :
    liftF F (recs.map .plain) = (match F recs with | .error e => .error e | .ok ys => .ok (ys.map .plain)) := by
  simp only [liftF, unbatchF_plain]
  cases F recs <;> rfl

theorem liftF_agrees {V} (F : List (Rec V) → Except Err (List (Rec V))) : agreesOnPlain (liftF F) F :=
  fun recs => liftF_plain F recs

/-! ## Unbatch on fully batched interactions -/

theorem rowsOf_wf (r : CRec) (n : Nat) (h : wfBatch r n) : rowsOf r n = rowsSpec r n := by
  unfold rowsOf rowsSpec
  apply List.map_congr_left
  intro i hi
  have hi' : i < n := List.mem_range.1 hi
  induction r with
  | nil => rfl
  | cons kv r ih =>
    obtain ⟨vs, hv, hl⟩ := h kv (by simp)
    have ih' := ih (fun kv' h' => h kv' (by simp [h']))
    obtain ⟨v, hv'⟩ : ∃ v, vs[i]? = some v := ⟨vs[i]'(by omega), List.getElem?_eq_getElem (by omega)⟩
    have hhead : cellAt kv.2 i = Cell.val v := by rw [hv]; simp [cellAt, hv']
    rw [List.map_cons, hhead, ih', List.filterMap_cons]
    simp [hv, hv']

theorem mem_of_lookupCell {k : String} {r : CRec} {c : Cell} (h : lookupCell k r = some c) : (k, c) ∈ r := by
  induction r with
  | nil => cases h
  | cons kv r ih =>
    obtain ⟨k', v⟩ := kv
    simp only [lookupCell] at h
    split at h
    · next hk => cases h; exact hk ▸ List.mem_cons_self
    · exact List.mem_cons_of_mem _ (ih h)

theorem unbatchRec_wf (bk : String) (r : CRec) (n : Nat) (h : wfBatch r n) (c : Cell) (hk : lookupCell bk r = some c) :
    unbatchRec bk r = .ok (rowsSpec r n) := by
  obtain ⟨vs, rfl, hl⟩ := h _ (mem_of_lookupCell hk)
  simp only [unbatchRec, hk, cellLen, hl]
  rw [rowsOf_wf r n h]

theorem unbatchAll_wf (bk : String) (rs : List CRec) (size : CRec → Nat)
    (h : ∀ r ∈ rs, wfBatch r (size r) ∧ ∃ c, lookupCell bk r = some c) :
    unbatchAll bk rs = .ok (rs.flatMap (fun r => rowsSpec r (size r))) := by
  induction rs with
  | nil => rfl
  | cons r rs ih =>
    obtain ⟨hw, c, hc⟩ := h r (by simp)
    simp only [unbatchAll, unbatchRec_wf bk r (size r) hw c hc, ih (fun r' h' => h r' (by simp [h'])), List.flatMap_cons]

end Coba.C09
