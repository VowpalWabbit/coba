/-
Lemmas for C09, filters put together: reads of one or several `Cache` objects, collections of environments, the
interpreters of the extracted `shuffle` / `chunk` / pipeline programs, and pipelines of filters (`chainF`, `Pipe`, `FOp`).
-/
import CobaVerif.Lemmas.C09

namespace Coba.C09
open Coba

/-! ## Cache: a read keeps the invariant and delivers the items -/

theorem cacheRead_spec {α} (nSlice : Nat) (items : List α) (st : Option (CacheSt α)) (k : Option Nat)
    (h : cacheInv items st) :
    cacheInv items (cacheRead nSlice items st k).1 ∧ (cacheRead nSlice items st k).2 = readSpec items k := by
  rcases k with _ | _ | k
  · rcases st with _ | ⟨cache, _ | rest⟩
    · exact ⟨rfl, rfl⟩
    · exact ⟨h, h⟩
    · exact ⟨h, h⟩
  · exact ⟨h, rfl⟩
  · -- `k + 1` items consumed: however many slices are fetched, the cache and what is left still make up the items
    rcases st with _ | ⟨cache, _ | rest⟩
    · exact ⟨List.take_append_drop _ _, rfl⟩
    · exact ⟨h, congrArg (List.take (k + 1)) h⟩
    · refine ⟨?_, congrArg (List.take (k + 1)) h⟩
      show (cache ++ List.take _ rest) ++ List.drop _ rest = items
      rw [List.append_assoc, List.take_append_drop]
      exact h

theorem cacheRun_spec {α} (nSlice : Nat) (items : List α) (st : Option (CacheSt α)) (h : cacheInv items st)
    (reads : List (Option Nat)) : cacheRun nSlice items st reads = reads.map (readSpec items) := by
  induction reads generalizing st with
  | nil => rfl
  | cons k ks ih =>
    obtain ⟨h1, h2⟩ := cacheRead_spec nSlice items st k h
    simp only [cacheRun, List.map_cons, h2, ih _ h1]

theorem cachedRun_spec {α β} (nSlice : Nat) (items : List α) (st : Option (CacheSt α)) (h : cacheInv items st)
    (reads : List (Option Nat × (List α → β))) :
    cachedRun nSlice items st reads = reads.map (fun r => r.2 (readSpec items r.1)) := by
  induction reads generalizing st with
  | nil => rfl
  | cons r rs ih =>
    obtain ⟨h1, h2⟩ := cacheRead_spec nSlice items st r.1 h
    simp only [cachedRun, cachedRead, List.map_cons, h2, ih _ h1]

theorem multiCachedRun_spec {α β} (nSlice : Nat) (envs : Nat → List α) (st : Nat → Option (CacheSt α))
    (h : ∀ e, cacheInv (envs e) (st e)) (reads : List (Nat × Option Nat × (List α → β))) :
    multiCachedRun nSlice envs st reads = reads.map (fun r => r.2.2 (readSpec (envs r.1) r.2.1)) := by
  induction reads generalizing st with
  | nil => rfl
  | cons r rs ih =>
    obtain ⟨h1, h2⟩ := cacheRead_spec nSlice (envs r.1) (st r.1) r.2.1 (h r.1)
    simp only [multiCachedRun, cachedRead, List.map_cons, h2]
    congr 1
    apply ih
    intro e
    by_cases he : e = r.1
    · subst he; simpa using h1
    · simpa [he] using h e

theorem branchSpec_eq_read {α} (envs : Nat → List α) (r : BranchRead α) :
    branchSpec envs r = consume r.k (r.F (readSpec (envs r.env) (pullNeed r.pull r.k))) := by
  unfold branchSpec
  rcases r.pull with _ | _ | _
  · rfl
  · rcases r.k with _ | _ | k <;> rfl
  · rfl

/-! ## Collections: every environment behind its own filter object -/

theorem runColl_pointwise {σ E β} (f : Filt σ E β) (envs : Nat → E) (st : Nat → σ)
    (h : List (Nat × Option Nat)) (k : Nat) :
    ((runColl f envs st h).filter (·.1 = k)).map (·.2)
      = runAlone f (envs k) (st k) ((h.filter (·.1 = k)).map (·.2)) := by
  induction h generalizing st with
  | nil => simp [runColl, runAlone]
  | cons p h ih =>
    obtain ⟨j, c⟩ := p
    simp only [runColl]
    by_cases hjk : j = k
    · subst hjk
      simp [runAlone, ih]
    · have : (fun i => if i = j then (f.read (st j) (envs j) c).1 else st i) k = st k := by
        simp [Ne.symm hjk]
      simp [hjk, ih, this]

theorem runAlone_cacheFilt {α} (nSlice : Nat) (items : List α) (st : Option (CacheSt α)) (reads : List (Option Nat)) :
    runAlone (cacheFilt nSlice) items st reads = cacheRun nSlice items st reads := by
  induction reads generalizing st with
  | nil => rfl
  | cons c cs ih => exact congrArg (_ :: ·) (ih _)

theorem runAlone_stateless {E α} (F : E → Except Err (List α)) (env : E) (reads : List (Option Nat)) :
    runAlone (statelessFilt F) env () reads = reads.map (fun c => ((statelessFilt F).read () env c).2) := by
  induction reads with
  | nil => rfl
  | cons c cs ih => simp only [runAlone, List.map_cons]; congr 1

theorem productMembers_succ (n nF : Nat) :
    productMembers (n+1) nF = productMembers n nF ++ (List.range nF).map (fun j => (n, j)) := by
  simp [productMembers, List.range_succ, List.flatMap_append]

theorem productMembers_length (nE nF : Nat) : (productMembers nE nF).length = nE * nF := by
  induction nE with
  | zero => simp [productMembers]
  | succ n ih => rw [productMembers_succ, List.length_append, ih]; simp [Nat.succ_mul]

/-! ## The interpreters: `runShuffle`, one statement form at a time (`rest` is whatever follows), and `runChunk`

The right-hand sides match on the value of the test / expression instead of using `Option.bind`: rewriting with
`Option.bind_some` is by `rfl`, and checking that `rfl` makes the kernel run the interpreter on the remaining program. -/

/-- An equation with `False`, for `simp` to rewrite the end test `if prog = shuffleTail` of `runShuffle` with: `rest` being a
variable, the test is not decided by evaluation; the first line settles it, and `shuffleTail` need not be unfolded and compared
string by string. -/
theorem cons_ne_shuffleTail (d : Nat) (k a b : String) (rest : List PLine) (h : ¬ (k = "assign" ∧ a = "shuffled")) :
    ((d, k, a, b) :: rest = shuffleTail) = False := by
  simp only [shuffleTail, List.cons.injEq, Prod.mk.injEq, eq_iff_iff, iff_false]
  exact fun h' => h ⟨h'.1.2.1, h'.1.2.2.1⟩

theorem runShuffle_tail (c : ShuffleCall) (fuel : Nat) (vs : List Nat) :
    runShuffle c (fuel+1) shuffleTail (some (.row vs)) = some vs :=
  if_pos rfl

theorem runShuffle_flat (c : ShuffleCall) (fuel d : Nat) (rest : List PLine) (seeds : Option PVal) :
    runShuffle c (fuel+1) ((d, "assign", "flat", "lambda a: next(pipes.Flatten().filter([a]))") :: rest) seeds
      = runShuffle c fuel rest seeds := by
  simp only [runShuffle, cons_ne_shuffleTail d "assign" "flat" _ rest (by simp), ↓reduceIte]

theorem runShuffle_seeds (c : ShuffleCall) (fuel d : Nat) (e : String) (rest : List PLine) (seeds : Option PVal) :
    runShuffle c (fuel+1) ((d, "assign", "seeds", e) :: rest) seeds
      = (match evalExpr c seeds e with | some v => runShuffle c fuel rest (some v) | none => none) := by
  simp only [runShuffle, cons_ne_shuffleTail d "assign" "seeds" e rest (by simp), ↓reduceIte, String.reduceEq]
  cases evalExpr c seeds e <;> rfl

/-- The interpreter ends a block at the next line of the `if`'s depth, hence the line `(d, l₃)` after the branches. -/
theorem runShuffle_if_else (c : ShuffleCall) (fuel d : Nat) (a b x y : String) (l₁ l₂ l₃ : String × String × String)
    (rest : List PLine) (seeds : Option PVal) :
    runShuffle c (fuel+1) ((d, "if", a, b) :: (d+1, l₁) :: (d, "else", x, y) :: (d+1, l₂) :: (d, l₃) :: rest) seeds
      = (match evalTest c seeds a with
          | some true => runShuffle c fuel ((d+1, l₁) :: (d, l₃) :: rest) seeds
          | some false => runShuffle c fuel ((d+1, l₂) :: (d, l₃) :: rest) seeds
          | none => none) := by
  obtain ⟨k₁, a₁, b₁⟩ := l₁
  obtain ⟨k₂, a₂, b₂⟩ := l₂
  obtain ⟨k₃, a₃, b₃⟩ := l₃
  simp only [runShuffle, cons_ne_shuffleTail d "if" a b _ (by simp), ↓reduceIte, String.reduceEq,
    List.takeWhile_cons, List.dropWhile_cons, Nat.lt_succ_self, Nat.lt_irrefl, decide_true, decide_false, and_self,
    Bool.false_eq_true, List.cons_append, List.nil_append]
  rcases evalTest c seeds a with _ | _ | _ <;> rfl

theorem runShuffle_if (c : ShuffleCall) (fuel d : Nat) (a b k₃ : String) (l₁ : String × String × String) (l₃ : String × String)
    (rest : List PLine) (seeds : Option PVal) (hk : k₃ ≠ "else") :
    runShuffle c (fuel+1) ((d, "if", a, b) :: (d+1, l₁) :: (d, k₃, l₃) :: rest) seeds
      = (match evalTest c seeds a with
          | some true => runShuffle c fuel ((d+1, l₁) :: (d, k₃, l₃) :: rest) seeds
          | some false => runShuffle c fuel ((d, k₃, l₃) :: rest) seeds
          | none => none) := by
  obtain ⟨k₁, a₁, b₁⟩ := l₁
  obtain ⟨a₃, b₃⟩ := l₃
  simp only [runShuffle, cons_ne_shuffleTail d "if" a b _ (by simp), ↓reduceIte, String.reduceEq,
    List.takeWhile_cons, List.dropWhile_cons, Nat.lt_succ_self, Nat.lt_irrefl, decide_true, decide_false, hk, and_false,
    Bool.false_eq_true, List.cons_append, List.nil_append]
  rcases evalTest c seeds a with _ | _ | _ <;> rfl

/-- The runs keep `shuffleTail` folded, for `runShuffle_tail` to end them, and `simp` does not see a `(d, k₃, l₃) :: rest` in a
folded constant. -/
theorem runShuffle_if_last (c : ShuffleCall) (fuel : Nat) (a b : String) (l₁ : String × String × String)
    (seeds : Option PVal) :
    runShuffle c (fuel+1) ((0, "if", a, b) :: (1, l₁) :: shuffleTail) seeds
      = (match evalTest c seeds a with
          | some true => runShuffle c fuel ((1, l₁) :: shuffleTail) seeds
          | some false => runShuffle c fuel shuffleTail seeds
          | none => none) :=
  runShuffle_if c fuel 0 a b _ l₁ _ _ seeds (by simp)

theorem runShuffle_model (c : ShuffleCall) : runShuffle c 20 shuffleProgram none = some (shuffleSeeds c) := by
  simp only [shuffleProgram, List.cons_append, List.nil_append]
  -- both branches of the emptiness test are run; what is left is `match some b with …` against `if b then … else …`
  rcases c with k | v | row | row <;>
  simp only [evalTest.eq_def, evalExpr.eq_def, String.reduceEq, ↓reduceIte, runShuffle_flat, runShuffle_seeds,
    runShuffle_if, runShuffle_if_else, runShuffle_if_last, runShuffle_tail, shuffleSeeds, ne_eq, not_false_eq_true]
  · have h : (List.range k).isEmpty = decide (k = 0) := by cases k <;> simp
    rw [h]
    by_cases hk : k = 0 <;> simp [hk]
  · cases (flatRow row).isEmpty <;> rfl
  · cases (flatRow row).isEmpty <;> rfl

theorem runChunk_model (cache : Bool) : runChunk cache chunkProgram = some (chunkFilters cache) := by
  simp [runChunk, chunkProgram, chunkFilters]

/-! ## Pipelines: `chainF`, nested joins, what every filter kind preserves -/

theorem chainF_append {α : Type} (fs gs : List (List α → Except Err (List α))) (xs : List α) :
    chainF (fs ++ gs) xs = (match chainF fs xs with | .ok ys => chainF gs ys | .error e => .error e) := by
  induction fs generalizing xs with
  | nil => rfl
  | cons f fs ih =>
    simp only [List.cons_append, chainF]
    cases f xs with
    | ok ys => exact ih ys
    | error e => rfl

mutual
theorem pipe_flat_eq_run' {α : Type} : ∀ (p : Pipe α) (xs : List α), chainF p.filters xs = p.run xs
  | .one f, xs => by
    simp only [Pipe.filters, Pipe.run, chainF]
    cases f xs <;> rfl
  | .joined ps, xs => by
    simp only [Pipe.filters, Pipe.run]
    exact pipe_flatL_eq_runL' ps xs
theorem pipe_flatL_eq_runL' {α : Type} : ∀ (ps : List (Pipe α)) (xs : List α), chainF (Pipe.filtersL ps) xs = Pipe.runL ps xs
  | [], xs => by simp [Pipe.filtersL, Pipe.runL, chainF]
  | p :: ps, xs => by
    simp only [Pipe.filtersL, Pipe.runL, chainF_append, pipe_flat_eq_run' p xs]
    cases p.run xs with
    | ok ys => exact pipe_flatL_eq_runL' ps ys
    | error e => rfl
end

theorem chainF_rel {α : Type} (Rel : List α → List α → Prop) (hrefl : ∀ l, Rel l l)
    (htrans : ∀ a b c, Rel a b → Rel b c → Rel a c)
    (fs : List (List α → Except Err (List α))) (hf : ∀ f ∈ fs, ∀ a b, f a = .ok b → Rel b a)
    (xs ys : List α) (h : chainF fs xs = .ok ys) : Rel ys xs := by
  induction fs generalizing xs with
  | nil => simp [chainF] at h; subst h; exact hrefl _
  | cons f fs ih =>
    simp only [chainF] at h
    cases hfx : f xs with
    | error e => rw [hfx] at h; simp at h
    | ok zs =>
      rw [hfx] at h
      exact htrans _ _ _ (ih (fun g hg => hf g (List.mem_cons_of_mem _ hg)) zs h) (hf f List.mem_cons_self xs zs hfx)

theorem pipeline_rel {R α : Type} (ops : FloatOps R) (A : Acc α) (nT : Nat) (Rel : List α → List α → Prop)
    (hrefl : ∀ l, Rel l l) (htrans : ∀ a b c, Rel a b → Rel b c → Rel a c) (fs : List FOp)
    (hf : ∀ op ∈ fs, ∀ a b, op.run ops A nT a = .ok b → Rel b a)
    (xs ys : List α) (h : pipeline ops A nT fs xs = .ok ys) : Rel ys xs := by
  refine chainF_rel Rel hrefl htrans _ ?_ xs ys h
  intro f hf' a b hab
  obtain ⟨op, hop, rfl⟩ := List.mem_map.1 hf'
  exact hf op hop a b hab

theorem fop_selecting_sublist {R α : Type} (ops : FloatOps R) (A : Acc α) (nT : Nat) (op : FOp)
    (hs : op.selecting = true) (xs ys : List α) (h : op.run ops A nT xs = .ok ys) : ys.Sublist xs := by
  cases op with
  | take c st => cases h; exact take_sublist _ _ _
  | slice a b st => cases h; exact slice_sublist _ _ _ _
  | whereOp ni na nf => cases h; exact whereF_sublist _ _ _ _ _ _
  | identity => cases h; exact List.Sublist.refl _
  | pshuffle | eshuffle | riffle | sort | reservoir => exact nomatch hs

theorem fop_ordering_perm {R α : Type} (ops : FloatOps R) (A : Acc α) (nT : Nat) (op : FOp)
    (hs : op.ordering = true) (xs ys : List α) (h : op.run ops A nT xs = .ok ys) : ys.Perm xs := by
  cases op with
  | pshuffle sd => cases h; exact pShuffle_perm _ xs
  | eshuffle sd lsd => cases h; exact eShuffle_perm _ _ _ xs
  | riffle sp sd => cases h; exact riffleLoop_perm _ _ _ _ _
  | sort keys => exact sortF_perm _ _ _ _ _ h
  | identity => cases h; exact List.Perm.refl _
  | take | slice | whereOp | reservoir => exact nomatch hs

theorem fop_subperm {R α : Type} (ops : FloatOps R) (A : Acc α) (nT : Nat) (op : FOp)
    (xs ys : List α) (h : op.run ops A nT xs = .ok ys) : ys.Subperm xs :=
  match op, h with
  | .take .., h | .slice .., h | .whereOp .., h | .identity, h =>
    (fop_selecting_sublist ops A nT _ rfl xs ys h).subperm
  | .pshuffle .., h | .eshuffle .., h | .riffle .., h | .sort .., h =>
    (fop_ordering_perm ops A nT _ rfl xs ys h).subperm
  | .reservoir .., h => (reservoir_spec _ _ _ _ _ _ h).1

theorem fop_map {R α β : Type} (ops : FloatOps R) (A : Acc β) (f : α → β) (nT : Nat) (op : FOp) (xs : List α) :
    op.run ops A nT (xs.map f) =
      (op.run ops ⟨A.isLogged ∘ f, A.hasCtx ∘ f, A.ctx ∘ f, A.nAct ∘ f⟩ nT xs).map (List.map f) := by
  cases op <;> simp only [FOp.run, Except.map, List.length_map]
  case take => rw [take_map]
  case slice => rw [slice_map]
  case pshuffle => simp only [shuffleSeeded, pShuffle_map]
  case eshuffle => simp only [eShuffleSeeded, eShuffle_map]
  case riffle => simp only [riffleSeeded, riffle_map]
  case sort => rw [sortF_map]; rfl
  case whereOp => rw [whereF_map']; rfl
  case reservoir => rw [reservoirF_map]; rfl
  case identity => rfl

/-! ### the interpreter of the pipeline-running method bodies on the model's programs -/

theorem runPipeProgram_filter_model' {α : Type} (fs : List (List α → Except Err (List α))) (input : List α) :
    runPipeProgram fs input filtersFilterProgram [("items", .ok input)] = some (chainF fs input) := by
  simp [runPipeProgram, filtersFilterProgram, loopFilters, List.lookup]

theorem runPipeProgram_read_model' {α : Type} (fs : List (List α → Except Err (List α))) (input : List α) :
    runPipeProgram fs input sourceReadProgram [] = some (chainF fs input) := by
  simp [runPipeProgram, sourceReadProgram, loopFilters, List.lookup]

end Coba.C09
