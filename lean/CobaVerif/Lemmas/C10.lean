/-
C10 — what "aligned" rests on: action sets (`Distinct`), structural identity, the observable of a reward object,
the re-keying policies, one plan / one filter / a chain, and the filters that convert values (Sparsify, Densify).
-/
import CobaVerif.Model.C10
namespace Coba.C10

/-! ### generic facts about lists and `mapM'` -/

theorem map_ok_injective : ∀ {a b : List Rat}, a.map (Except.ok (ε := Err)) = b.map Except.ok → a = b :=
  (List.map_inj_right fun _ _ => Except.ok.inj).mp

theorem getElem?_of_map_eq {α β} {f : α → Except Err β} : ∀ {xs : List α} {ys : List β}, xs.map f = ys.map Except.ok →
    ∀ (i : Nat) (y : β), ys[i]? = some y → ∃ x, xs[i]? = some x ∧ f x = .ok y := by
  intro xs ys h i y hy
  have := congrArg (·[i]?) h
  simp only [List.getElem?_map, hy, Option.map_some] at this
  exact Option.map_eq_some_iff.mp this

theorem list_split_at {α} (xs : List α) (n : Nat) (a : α) (h : xs[n]? = some a) :
    xs = xs.take n ++ a :: xs.drop (n + 1) := by
  obtain ⟨hn, rfl⟩ := List.getElem?_eq_some_iff.mp h
  rw [← List.drop_eq_getElem_cons hn, List.take_append_drop]

theorem mapM'_ok {α β} (f : α → Except Err β) (xs : List α) : ∀ (ys : List β),
    mapM' f xs = .ok ys → xs.map f = ys.map Except.ok := by
  fun_induction mapM' f xs with
  | case1 => intro ys h; cases h; rfl
  | case2 | case3 => intro ys h; cases h
  | case4 a as b hb bs hbs ih => intro ys h; cases h; rw [List.map_cons, hb, ih bs hbs]; rfl

theorem mapM'_length {α β} (f : α → Except Err β) (xs : List α) (ys : List β) (h : mapM' f xs = .ok ys) :
    ys.length = xs.length := by
  have := congrArg List.length (mapM'_ok f xs ys h)
  simpa using this.symm

/-! ### action sets and `index` -/

/-- the shape `distinctB` and `pairwiseNeB` share -/
theorem all_pairs_iff (as : List Val) (P : Nat → Nat → Val → Val → Bool) :
    ((List.range as.length).all fun i => (List.range as.length).all fun j =>
       match as[i]?, as[j]? with
       | some a, some b => P i j a b
       | _, _ => true) = true ↔
    ∀ i j a b, as[i]? = some a → as[j]? = some b → P i j a b = true := by
  simp only [List.all_eq_true, List.mem_range]
  constructor
  · intro h i j a b hi hj
    have := h i (List.getElem?_eq_some_iff.mp hi).1 j (List.getElem?_eq_some_iff.mp hj).1
    simpa only [hi, hj] using this
  · intro h i hi j hj
    simp only [List.getElem?_eq_getElem hi, List.getElem?_eq_getElem hj]
    exact h i j _ _ (List.getElem?_eq_getElem hi) (List.getElem?_eq_getElem hj)

theorem distinctB_iff (as : List Val) : distinctB as = true ↔ Distinct as := by
  refine (all_pairs_iff as fun i j a b => pyEq a b == (i == j)).trans ?_
  simp only [beq_iff_eq, Distinct]

theorem distinct_map {f : Val → Val} {as : List Val} (hp : ∀ a ∈ as, ∀ b ∈ as, pyEq (f a) (f b) = pyEq a b) (hd : Distinct as) :
    Distinct (as.map f) := by
  intro i j a' b' hi hj
  rw [List.getElem?_map, Option.map_eq_some_iff] at hi hj
  obtain ⟨a, hia, rfl⟩ := hi
  obtain ⟨b, hjb, rfl⟩ := hj
  rw [hp a (List.mem_of_getElem? hia) b (List.mem_of_getElem? hjb)]
  exact hd i j a b hia hjb

/-- `indexOfFrom` (`list.index`) and `levelIndex` are written out by hand, with these two equations -/
theorem eq_findIdx?_of_eqns {α} (p : α → Bool) (g : List α → Nat → Option Nat) (h0 : ∀ i, g [] i = none)
    (h1 : ∀ x xs i, g (x :: xs) i = if p x then some i else g xs (i + 1)) :
    ∀ (xs : List α) (off : Nat), g xs off = (xs.findIdx? p).map (· + off)
  | [], off => h0 off
  | x :: xs, off => by
    rw [h1, List.findIdx?_cons, eq_findIdx?_of_eqns p g h0 h1 xs (off + 1)]
    cases p x
    · simp only [Bool.false_eq_true, if_false, Option.map_map]
      congr 1; funext i; simp only [Function.comp]; omega
    · simp

theorem indexOfFrom_eq_findIdx? (a : Val) (xs : List Val) (off : Nat) :
    indexOfFrom a xs off = (xs.findIdx? (pyEq · a)).map (· + off) :=
  eq_findIdx?_of_eqns _ (indexOfFrom a) (fun _ => rfl) (fun _ _ _ => rfl) xs off

theorem indexOf_eq_findIdx? (as : List Val) (a : Val) : indexOf as a = as.findIdx? (pyEq · a) := by
  rw [indexOf, indexOfFrom_eq_findIdx?]; simp

theorem indexOf_of_distinct {as : List Val} (hd : Distinct as) {i : Nat} {a : Val} (h : as[i]? = some a) :
    indexOf as a = some i := by
  obtain ⟨hi, rfl⟩ := List.getElem?_eq_some_iff.mp h
  rw [indexOf_eq_findIdx?, List.findIdx?_eq_some_iff_getElem]
  refine ⟨hi, ?_, fun j hji => ?_⟩
  · simpa using hd i i _ _ h h
  · have := hd j i _ _ (List.getElem?_eq_getElem (Nat.lt_trans hji hi)) h
    simp [this, Nat.ne_of_lt hji]

theorem indexOf_lt {as : List Val} {a : Val} {k : Nat} (h : indexOf as a = some k) : k < as.length := by
  rw [indexOf_eq_findIdx?, List.findIdx?_eq_some_iff_getElem] at h
  exact h.1

/-! ### structural identity -/

-- `termination_by structural` names the argument the recursion is on: both arguments of each theorem qualify, and
-- left to itself Lean tries the combinations over all four theorems before it finds this one.
-- With a constructor as first argument, `unfold Val.same` leaves the definition's own match on the second argument, and
-- `split` gives its two arms (the same constructor, or `false`) where `cases b` would give eight.
mutual
theorem Val.same_sound : ∀ (a b : Val), Val.same a b = true → a = b
  | .none, b, h => by
    unfold Val.same at h
    split at h
    · rfl
    · cases h
  | .num a, b, h | .str a, b, h => by
    unfold Val.same at h
    split at h
    · rw [eq_of_beq h]
    · cases h
  | .cat a la, b, h => by
    unfold Val.same at h
    split at h
    · rw [Bool.and_eq_true] at h
      rw [eq_of_beq h.1, eq_of_beq h.2]
    · cases h
  | .list xs, b, h | .tuple xs, b, h => by
    unfold Val.same at h
    split at h
    · rw [Val.sameL_sound _ _ h]
    · cases h
  | .dict kvs, b, h => by
    unfold Val.same at h
    split at h
    · rw [Val.sameD_sound _ _ h]
    · cases h
  | .lazy kvs n, b, h => by
    unfold Val.same at h
    split at h
    · rw [Bool.and_eq_true] at h
      rw [eq_of_beq h.1, Val.sameZ_sound _ _ h.2]
    · cases h
termination_by structural x => x
theorem Val.sameL_sound : ∀ (xs ys : List Val), Val.sameL xs ys = true → xs = ys
  | [], ys, h => by cases ys <;> simp_all [Val.sameL]
  | x :: xs, ys, h => by
    cases ys with
    | nil => simp [Val.sameL] at h
    | cons y ys =>
      simp [Val.sameL] at h
      rw [Val.same_sound x y h.1, Val.sameL_sound xs ys h.2]
termination_by structural x => x
theorem Val.sameD_sound : ∀ (xs ys : List (String × Val)), Val.sameD xs ys = true → xs = ys
  | [], ys, h => by cases ys <;> simp_all [Val.sameD]
  | (k, x) :: xs, ys, h => by
    cases ys with
    | nil => simp [Val.sameD] at h
    | cons p ys =>
      obtain ⟨k', y⟩ := p
      simp [Val.sameD] at h
      rw [h.1.1, Val.same_sound x y h.1.2, Val.sameD_sound xs ys h.2]
termination_by structural x => x
theorem Val.sameZ_sound : ∀ (xs ys : List (Nat × Val)), Val.sameZ xs ys = true → xs = ys
  | [], ys, h => by cases ys <;> simp_all [Val.sameZ]
  | (k, x) :: xs, ys, h => by
    cases ys with
    | nil => simp [Val.sameZ] at h
    | cons p ys =>
      obtain ⟨k', y⟩ := p
      simp [Val.sameZ] at h
      rw [h.1.1, Val.same_sound x y h.1.2, Val.sameZ_sound xs ys h.2]
termination_by structural x => x
end

mutual
theorem Val.same_refl : ∀ (a : Val), Val.same a a = true
  | .none => by simp [Val.same]
  | .num a => by simp [Val.same]
  | .str a => by simp [Val.same]
  | .cat a la => by simp [Val.same]
  | .list xs => by simp [Val.same, Val.sameL_refl xs]
  | .tuple xs => by simp [Val.same, Val.sameL_refl xs]
  | .dict kvs => by simp [Val.same, Val.sameD_refl kvs]
  | .lazy kvs n => by simp [Val.same, Val.sameZ_refl kvs]
termination_by structural x => x
theorem Val.sameL_refl : ∀ (xs : List Val), Val.sameL xs xs = true
  | [] => by simp [Val.sameL]
  | x :: xs => by simp [Val.sameL, Val.same_refl x, Val.sameL_refl xs]
termination_by structural x => x
theorem Val.sameD_refl : ∀ (xs : List (String × Val)), Val.sameD xs xs = true
  | [] => by simp [Val.sameD]
  | (k, x) :: xs => by simp [Val.sameD, Val.same_refl x, Val.sameD_refl xs]
termination_by structural x => x
theorem Val.sameZ_refl : ∀ (xs : List (Nat × Val)), Val.sameZ xs xs = true
  | [] => by simp [Val.sameZ]
  | (k, x) :: xs => by simp [Val.sameZ, Val.same_refl x, Val.sameZ_refl xs]
termination_by structural x => x
end

/-! ### DiscreteReward look-up -/

theorem callRew_discrete_of_distinct {as : List Val} {rs : List Rat} (d : Rat) (hd : Distinct as)
    {i : Nat} {a : Val} {x : Rat} (h : as[i]? = some a) (hx : rs[i]? = some x) :
    callRew (.discrete as rs d false) a = .ok x := by
  simp [callRew, indexOf_of_distinct hd h, hx]

theorem obsOf_discrete {as : List Val} {rs : List Rat} (d : Rat) (hd : Distinct as) (hl : as.length = rs.length) :
    obsOf (.discrete as rs d false) as = rs.map Except.ok := by
  show as.map (callRew (.discrete as rs d false)) = rs.map Except.ok
  apply List.ext_getElem (by simp [hl])
  intro i h1 h2
  simp only [List.length_map] at h1 h2
  simp only [List.getElem_map]
  exact callRew_discrete_of_distinct d hd (List.getElem?_eq_getElem h1) (List.getElem?_eq_getElem h2)

/-! ### the observable -/

theorem obsEq_iff (a b : List (Except Err Rat)) :
    obsEq a b = true ↔ ∃ rs : List Rat, a = rs.map Except.ok ∧ b = rs.map Except.ok := by
  constructor
  · intro h
    fun_induction obsEq a b with
    | case1 => exact ⟨[], rfl, rfl⟩
    | case2 p xs q ys ih =>
      simp only [Bool.and_eq_true, beq_iff_eq] at h
      obtain ⟨rs, h1, h2⟩ := ih h.2
      exact ⟨p :: rs, by rw [h1]; rfl, by rw [h2, h.1]; rfl⟩
    | case3 => cases h
  · rintro ⟨rs, rfl, rfl⟩
    induction rs with
    | nil => rfl
    | cons r rs ih => simp only [List.map_cons, obsEq, beq_self_eq_true, ih, Bool.and_self]

theorem obsEq_ok_self (rs : List Rat) : obsEq (rs.map Except.ok) (rs.map Except.ok) = true :=
  (obsEq_iff _ _).mpr ⟨rs, rfl, rfl⟩

theorem obsEq_map_ok (a b : List Rat) : obsEq (a.map Except.ok) (b.map Except.ok) = true → a = b := by
  intro h
  obtain ⟨rs, h1, h2⟩ := (obsEq_iff _ _).mp h
  rw [map_ok_injective h1, map_ok_injective h2]

theorem obsEq_trans {a b c : List (Except Err Rat)} (h1 : obsEq a b = true) (h2 : obsEq b c = true) :
    obsEq a c = true := by
  obtain ⟨r1, ha, hb⟩ := (obsEq_iff _ _).mp h1
  obtain ⟨r2, hb', hc⟩ := (obsEq_iff _ _).mp h2
  have : r1 = r2 := map_ok_injective (by rw [← hb, hb'])
  subst this
  exact (obsEq_iff _ _).mpr ⟨r1, ha, hc⟩

theorem optObsEq_trans {a b c : Option (List (Except Err Rat))} (h1 : optObsEq a b = true) (h2 : optObsEq b c = true) :
    optObsEq a c = true := by
  cases a <;> cases b <;> cases c <;> simp_all [optObsEq]
  exact obsEq_trans h1 h2

theorem obsOf_callable (r : Rew) (h : r.isCallable = true) (acts : List Val) :
    obsOf r acts = acts.map (callRew r) := by
  cases r <;> simp_all [obsOf, Rew.isCallable]

/-- `DiscreteReward(new, rs)` after the length check every re-keying makes -/
theorem discrete_ok {new : List Val} {rs : List Rat} {n : Nat} {r' : Rew} (hn : rs.length = n) (hd : Distinct new)
    (h : (if n == new.length then Except.ok (Rew.discrete new rs 0 false) else .error Err.cobaException) = .ok r') :
    obsOf r' new = rs.map Except.ok := by
  split at h
  · rename_i hl
    cases h
    exact obsOf_discrete 0 hd (by rw [hn]; exact (eq_of_beq hl).symm)
  · cases h

/-- `DiscreteReward(new, g([r(a) for a in old]))`: how a reward function is carried over to new actions — by every filter that re-keys
(`genericRew`, `g` the identity) and by Cycle (`g` the rotation) -/
def rekeyVals (g : List Rat → List Rat) (r : Rew) (old new : List Val) : Except Err Rew :=
  match mapM' (callRew r) old with
  | .error e => .error e
  | .ok vals => if vals.length == new.length then .ok (.discrete new (g vals) 0 false) else .error .cobaException

theorem genericRew_eq_rekeyVals {r : Rew} (hc : r.isCallable = true) (old new : List Val) :
    genericRew r old new = rekeyVals id r old new := by
  cases r with
  | seq _ _ => cases hc
  | _ => rfl

theorem rekey_rotate_eq_rekeyVals {r : Rew} (hc : r.isCallable = true) (n : Nat) (acts : List Val) :
    rekey (.rotate n) r acts acts = rekeyVals (rotList n) r acts acts := by
  cases r with
  | seq _ _ => cases hc
  | _ => rfl

theorem rotList_map {α β} (f : α → β) (n : Nat) (l : List α) : (rotList n l).map f = rotList n (l.map f) := by
  unfold rotList
  split <;> simp [List.map_drop, List.map_take]

theorem rotList_length {α} (n : Nat) (l : List α) : (rotList n l).length = l.length := by
  unfold rotList
  split
  · rfl
  · rw [List.length_append, Nat.add_comm, ← List.length_append, List.take_append_drop]

theorem rekeyVals_spec {g : List Rat → List Rat} {r r' : Rew} {old new : List Val} (hg : ∀ l, (g l).length = l.length)
    (hc : r.isCallable = true) (hd : Distinct new) (h : rekeyVals g r old new = .ok r') :
    ∃ vals : List Rat, obsOf r old = vals.map Except.ok ∧ obsOf r' new = (g vals).map Except.ok := by
  unfold rekeyVals at h
  split at h
  · cases h
  · rename_i vals hm
    exact ⟨vals, by rw [obsOf_callable _ hc, mapM'_ok _ _ _ hm], discrete_ok (hg vals) hd h⟩

theorem genericRew_aligned {r r' : Rew} {old new : List Val} (h : genericRew r old new = .ok r')
    (hd : Distinct new) : obsEq (obsOf r old) (obsOf r' new) = true := by
  cases hc : r.isCallable with
  | false =>
    cases r with
    | seq _ _ => cases h
    | _ => cases hc
  | true =>
    obtain ⟨vals, h1, h2⟩ := rekeyVals_spec (fun _ => rfl) hc hd ((genericRew_eq_rekeyVals hc old new).symm.trans h)
    rw [h1, h2]
    exact obsEq_ok_self vals

/-! ### every re-keying policy keeps the observable -/

theorem binary_remap_aligned {am : Val} {v : Rat} {old new : List Val} {r' : Rew} {fd : Bool}
    (h : rekey (.reprStyle fd) (.binary am v) old new = .ok r')
    (hdo : Distinct old) (hdn : Distinct new) (hl : old.length = new.length) (hm : am ∈ old) :
    obsEq (obsOf (.binary am v) old) (obsOf r' new) = true := by
  obtain ⟨k, hk⟩ := List.getElem?_of_mem hm
  have hidx := indexOf_of_distinct hdo hk
  simp only [rekey, hidx] at h
  cases hn : new[k]? with
  | none => simp [hn] at h
  | some a' =>
    simp only [hn] at h
    cases h
    have e : ∀ (b : Val) (acts : List Val), obsOf (.binary b v) acts = (acts.map fun a => if pyEq b a then v else 0).map Except.ok :=
      fun b acts => by simp [obsOf, callRew, List.map_map, Function.comp_def]
    have e3 : (old.map fun a => if pyEq am a then v else 0) = (new.map fun a => if pyEq a' a then v else 0) := by
      apply List.ext_getElem (by simp [hl])
      intro i h1 h2
      simp only [List.length_map] at h1 h2
      simp only [List.getElem_map]
      have ho := hdo k i am old[i] hk (List.getElem?_eq_getElem h1)
      have hn' := hdn k i a' new[i] hn (List.getElem?_eq_getElem h2)
      rw [ho, hn']
    rw [e am old, e a' new, e3]
    exact obsEq_ok_self _

theorem obsOf_seq (b : Bool) (rs : List Rat) (acts : List Val) : obsOf (.seq b rs) acts = rs.map Except.ok := rfl

theorem rekey_aligned {p : Policy} {r r' : Rew} {old new : List Val}
    (hh : targetHypB p (some r) old new = true) (hl : old.length = new.length)
    (h : rekey p r old new = .ok r') : obsEq (obsOf r old) (obsOf r' new) = true := by
  cases p with
  | keep =>
    simp only [rekey] at h
    cases h
    simpa [targetHypB] using hh
  | generic =>
    simp only [targetHypB] at hh
    exact genericRew_aligned (by simpa [rekey] using h) ((distinctB_iff _).mp hh)
  | rotate n => simp [targetHypB] at hh
  | toList =>
    cases r <;> simp [rekey] at h
    subst h
    simp only [obsOf_seq]
    exact obsEq_ok_self _
  | wrapSeq =>
    simp only [targetHypB] at hh
    have hd := (distinctB_iff _).mp hh
    cases r with
    | seq b rs =>
      rw [obsOf_seq, discrete_ok rfl hd h]
      exact obsEq_ok_self _
    | _ => simp [rekey] at h
  | reprStyle fd =>
    cases r with
    | binary am v =>
      simp only [targetHypB, Bool.and_eq_true, List.any_eq_true] at hh
      obtain ⟨⟨hn, ho⟩, a, ha, hs⟩ := hh
      have : a = am := Val.same_sound _ _ hs
      subst this
      exact binary_remap_aligned h ((distinctB_iff _).mp ho) ((distinctB_iff _).mp hn) hl ha
    | discrete as rs d isD =>
      simp only [targetHypB, Bool.and_eq_true, Bool.or_eq_true] at hh
      obtain ⟨hn, hfd⟩ := hh
      have hd := (distinctB_iff _).mp hn
      cases fd with
      | true => exact genericRew_aligned (by simpa [rekey] using h) hd
      | false =>
        rw [discrete_ok rfl hd h]
        simpa using hfd
    | seq b rs =>
      simp [rekey, genericRew] at h
    | _ =>
      simp only [targetHypB] at hh
      exact genericRew_aligned (by simpa [rekey] using h) ((distinctB_iff _).mp hh)

/-! ### the logged action -/

theorem logged_index_kept {old new : List Val} {a a' : Val} {k : Nat}
    (hh : loggedHypB old new (some a) (some a') = true) (hk : indexOf old a = some k) :
    indexOf new a' = some k := by
  simp only [loggedHypB, hk, Bool.and_eq_true] at hh
  obtain ⟨hd, hb⟩ := hh
  cases hn : new[k]? with
  | none => simp [hn] at hb
  | some b =>
    simp only [hn] at hb
    have : b = a' := Val.same_sound _ _ hb
    subst this
    exact indexOf_of_distinct ((distinctB_iff _).mp hd) hn

theorem mapMember_spec {o n : List Val} {a b : Val} {k : Nat} (fallback : Option Val) (hk : indexOf o a = some k) (hb : n[k]? = some b) :
    mapMember (some o) (some n) (some a) fallback = some b := by
  simp [mapMember, hk, hb]

/-! ### one plan -/

/-- the observable of an optional reward object on the action list `acts`: `obsRewards`, `obsFeedbacks` with the interaction taken apart
(`obsRewards_eq`, `obsFeedbacks_eq`), so that old and new actions, rewards and feedbacks go through one lemma -/
def obsWith (r : Option Rew) (acts : List Val) : Option (List (Except Err Rat)) :=
  match r with
  | some r => some (obsOf r acts)
  | none => none

theorem optObsEq_obsWith_some (r r' : Rew) (o n : List Val) :
    optObsEq (obsWith (some r) o) (obsWith (some r') n) = obsEq (obsOf r o) (obsOf r' n) := rfl

theorem optObsEq_obsWith_none (o n : List Val) : optObsEq (obsWith none o) (obsWith none n) = true := rfl

theorem rekeyOpt_ok {p : Policy} {r r' : Option Rew} {o n : List Val} (h : rekeyOpt p r (some o) (some n) = .ok r') :
    (p = .keep ∧ r' = r) ∨ ∃ r0 r2, r = some r0 ∧ rekey p r0 o n = .ok r2 ∧ r' = some r2 := by
  cases p with
  | keep => exact .inl ⟨rfl, by simpa [rekeyOpt] using h.symm⟩
  | _ =>
    cases r with
    | none => simp [rekeyOpt] at h
    | some r0 =>
      simp only [rekeyOpt] at h
      split at h
      · cases h; exact .inr ⟨r0, _, rfl, by assumption, rfl⟩
      · cases h

theorem rekeyOpt_aligned {p : Policy} {r r' : Option Rew} {o n : List Val}
    (hh : targetHypB p r o n = true) (hl : o.length = n.length)
    (h : rekeyOpt p r (some o) (some n) = .ok r') : optObsEq (obsWith r o) (obsWith r' n) = true := by
  rcases rekeyOpt_ok h with ⟨rfl, rfl⟩ | ⟨r0, r2, rfl, hr, rfl⟩
  · cases r' with
    | none => exact optObsEq_obsWith_none o n
    | some r => rw [optObsEq_obsWith_some]; simpa [targetHypB] using hh
  · rw [optObsEq_obsWith_some]; exact rekey_aligned hh hl hr

theorem obsField_eq {get : Inter → Option Rew} {g : Inter → Option (List (Except Err Rat))}
    (hg : ∀ I, g I = match get I, I.actions with | some r, some as => some (obsOf r as) | _, _ => none) (I : Inter) :
    g I = I.actions.bind (obsWith (get I)) := by
  rw [hg]
  cases get I <;> cases I.actions <;> rfl

theorem obsRewards_eq (I : Inter) : obsRewards I = I.actions.bind (obsWith I.rewards) := obsField_eq (fun _ => rfl) I
theorem obsFeedbacks_eq (I : Inter) : obsFeedbacks I = I.actions.bind (obsWith I.feedbacks) := obsField_eq (fun _ => rfl) I

theorem applyPlan_ok {I J : Inter} {p : Plan} (h : applyPlan I p = .ok J) :
    ∃ r' f', rekeyOpt p.polR I.rewards I.actions p.actions = .ok r' ∧ rekeyOpt p.polF I.feedbacks I.actions p.actions = .ok f' ∧
      J = { I with context := p.context, actions := p.actions, action := p.action, rewards := r', feedbacks := f' } := by
  unfold applyPlan at h
  split at h
  · cases h
  · rename_i r' hr
    split at h
    · cases h
    · rename_i f' hf
      cases h
      exact ⟨r', f', hr, hf, rfl⟩

theorem alignedB_iff {I J : Inter} : alignedB I J = true ↔
    optObsEq (obsRewards I) (obsRewards J) = true ∧ optObsEq (obsFeedbacks I) (obsFeedbacks J) = true ∧
    (∀ k, loggedIndex I = some (some k) → loggedIndex J = some (some k)) ∧ I.reward = J.reward ∧ I.probability = J.probability := by
  simp only [alignedB, Bool.and_eq_true, and_assoc]
  rcases loggedIndex I with _ | _ | k <;> simp

theorem applyPlan_aligned {I J : Inter} {p : Plan} (hh : planHypB I p = true) (h : applyPlan I p = .ok J) :
    alignedB I J = true := by
  obtain ⟨r', f', hr, hf, rfl⟩ := applyPlan_ok h
  unfold planHypB at hh
  rw [alignedB_iff, obsRewards_eq, obsFeedbacks_eq, obsRewards_eq, obsFeedbacks_eq]
  cases ho : I.actions with
  | none =>
    cases hn : p.actions with
    | some n => simp [ho, hn] at hh
    | none => exact ⟨rfl, rfl, fun k hk => by simp [loggedIndex, ho] at hk, rfl, rfl⟩
  | some o =>
    cases hn : p.actions with
    | none => simp [ho, hn] at hh
    | some n =>
      simp only [ho, hn, Bool.and_eq_true, beq_iff_eq] at hh
      obtain ⟨⟨⟨hl, hR⟩, hF⟩, hL⟩ := hh
      rw [ho, hn] at hr hf
      refine ⟨rekeyOpt_aligned hR hl hr, rekeyOpt_aligned hF hl hf, fun k hk => ?_, rfl, rfl⟩
      simp only [loggedIndex, ho] at hk ⊢
      cases ha : I.action with
      | none => simp [ha] at hk
      | some a =>
        simp only [ha, Option.some.injEq] at hk
        cases ha' : p.action with
        | none => simp [ha, ha', loggedHypB] at hL
        | some a' =>
          rw [ha, ha'] at hL
          simp [logged_index_kept hL hk]

/-! ### composition -/

theorem alignedB_trans {I J K : Inter} (h1 : alignedB I J = true) (h2 : alignedB J K = true) : alignedB I K = true := by
  obtain ⟨r1, f1, l1, w1, p1⟩ := alignedB_iff.mp h1
  obtain ⟨r2, f2, l2, w2, p2⟩ := alignedB_iff.mp h2
  exact alignedB_iff.mpr ⟨optObsEq_trans r1 r2, optObsEq_trans f1 f2, fun k hk => l2 k (l1 k hk), w1.trans w2, p1.trans p2⟩

theorem optObsEq_refl_of_left {a b : Option (List (Except Err Rat))} (h : optObsEq a b = true) : optObsEq a a = true := by
  cases a <;> cases b <;> simp_all [optObsEq]
  obtain ⟨rs, h1, _⟩ := (obsEq_iff _ _).mp h
  exact (obsEq_iff _ _).mpr ⟨rs, h1, h1⟩

theorem optObsEq_refl_of_right {a b : Option (List (Except Err Rat))} (h : optObsEq a b = true) : optObsEq b b = true := by
  cases a <;> cases b <;> simp_all [optObsEq]
  obtain ⟨rs, _, h2⟩ := (obsEq_iff _ _).mp h
  exact (obsEq_iff _ _).mpr ⟨rs, h2, h2⟩

theorem alignedB_refl_right {I J : Inter} (h : alignedB I J = true) : alignedB J J = true := by
  obtain ⟨r1, f1, -⟩ := alignedB_iff.mp h
  exact alignedB_iff.mpr ⟨optObsEq_refl_of_right r1, optObsEq_refl_of_right f1, fun _ hk => hk, rfl, rfl⟩

theorem alignedStreamB_refl_right {s t : List Inter} (h : alignedStreamB s t = true) : alignedStreamB t t = true := by
  fun_induction alignedStreamB s t with
  | case1 => rfl
  | case2 i is j js ih =>
    simp only [alignedStreamB, Bool.and_eq_true] at h ⊢
    exact ⟨alignedB_refl_right h.1, ih h.2⟩
  | case3 => cases h

theorem alignedStreamB_trans {s t u : List Inter} (h1 : alignedStreamB s t = true) (h2 : alignedStreamB t u = true) :
    alignedStreamB s u = true := by
  fun_induction alignedStreamB s t generalizing u with
  | case1 => exact h2
  | case2 i is j js ih =>
    cases u with
    | nil => cases h2
    | cons k ks =>
      simp only [alignedStreamB, Bool.and_eq_true] at h1 h2 ⊢
      exact ⟨alignedB_trans h1.1 h2.1, ih h1.2 h2.2⟩
  | case3 => cases h1

theorem applyPlans_aligned {s : List Inter} {ps : List Plan} : ∀ {s' : List Inter},
    plansHypB s ps = true → applyPlans s ps = .ok s' → alignedStreamB s s' = true := by
  fun_induction applyPlans s ps with
  | case1 => intro s' _ h; cases h; rfl
  | case2 | case3 | case5 => intro s' _ h; cases h
  | case4 i is p ps j hj js hjs ih =>
    intro s' hh h
    cases h
    simp only [plansHypB, Bool.and_eq_true] at hh
    simp only [alignedStreamB, Bool.and_eq_true]
    exact ⟨applyPlan_aligned hh.1 hj, ih hh.2 hjs⟩

theorem runPrim_ok {cfg : Cfg} {st : Step} {s s' : List Inter} (h : runPrim cfg st s = .ok s') :
    ∃ ps, plansOf cfg st s = .ok ps ∧ applyPlans s ps = .ok s' := by
  unfold runPrim at h
  split at h
  · cases h
  · rename_i ps hp
    exact ⟨ps, hp, h⟩

/-- `alignedStreamB s s` asks no more than that the stream's own reward functions evaluate on its own actions -/
theorem runPrims_aligned (cfg : Cfg) (sts : List Step) {s : List Inter} : ∀ {s' : List Inter},
    primsHypB cfg sts s = true → runPrims cfg sts s = .ok s' → alignedStreamB s s = true → alignedStreamB s s' = true := by
  fun_induction runPrims cfg sts s with
  | case1 s => intro s' _ h hs; cases h; exact hs
  | case2 => intro s' _ h; cases h
  | case3 st rest s s1 h1 ih =>
    intro s' hh h hs
    obtain ⟨ps, hp, ha⟩ := runPrim_ok h1
    simp only [primsHypB, hp, ha, Bool.and_eq_true] at hh
    have h1 := applyPlans_aligned hh.1 ha
    exact alignedStreamB_trans h1 (ih hh.2 h (alignedStreamB_refl_right h1))

theorem runPrim_aligned (cfg : Cfg) (st : Step) {s s' : List Inter}
    (hh : primsHypB cfg [st] s = true) (h : runPrim cfg st s = .ok s') (hs : alignedStreamB s s = true) :
    alignedStreamB s s' = true := by
  refine runPrims_aligned cfg [st] hh ?_ hs
  simp [runPrims, h]

/-! ### what the end-to-end theorems share -/

theorem planHypB_none {I : Inter} {p : Plan} (ho : I.actions = none) (hn : p.actions = none)
    (hR : p.polR = .keep) (hF : p.polF = .keep) : planHypB I p = true := by
  simp [planHypB, ho, hn, hR, hF]

theorem planHypB_some {I : Inter} {p : Plan} {o n : List Val} (ho : I.actions = some o) (hn : p.actions = some n)
    (hl : o.length = n.length) (hR : targetHypB p.polR I.rewards o n = true)
    (hF : targetHypB p.polF I.feedbacks o n = true) (hL : loggedHypB o n I.action p.action = true) :
    planHypB I p = true := by
  simp only [planHypB, ho, hn, hl, hR, hF, hL, beq_self_eq_true, Bool.and_self]

theorem obsEq_of_not_callable {r : Rew} (h : r.isCallable = false) (o o' : List Val) :
    obsEq (obsOf r o) (obsOf r o') = true := by
  cases r with
  | seq b rs => exact obsEq_ok_self rs
  | _ => simp [Rew.isCallable] at h

theorem obsEq_kept {r : Rew} {o o' : List Val} (hself : obsEq (obsOf r o) (obsOf r o) = true)
    (h : r.isCallable = true → o' = o) : obsEq (obsOf r o) (obsOf r o') = true := by
  cases hc : r.isCallable with
  | false => exact obsEq_of_not_callable hc _ _
  | true => rw [h hc]; exact hself

theorem alignedB_self_obs {I : Inter} {as : List Val} (h : alignedB I I = true) (has : I.actions = some as) :
    (∀ r, I.rewards = some r → obsEq (obsOf r as) (obsOf r as) = true) ∧
    (∀ r, I.feedbacks = some r → obsEq (obsOf r as) (obsOf r as) = true) := by
  obtain ⟨r, f, -⟩ := alignedB_iff.mp h
  rw [obsRewards_eq, has, Option.bind_some] at r
  rw [obsFeedbacks_eq, has, Option.bind_some] at f
  exact ⟨fun r0 hr => by rwa [hr, optObsEq_obsWith_some] at r, fun r0 hr => by rwa [hr, optObsEq_obsWith_some] at f⟩

/-- `if … then p else .keep` with `p` a policy that builds a DiscreteReward over the new actions: `.generic` (Flatten, Sparsify, Densify and,
for feedbacks, Noise) or `.wrapSeq` (Finalize) -/
theorem targetHypB_discrete_or_keep {p : Policy} (hp : p = .generic ∨ p = .wrapSeq) {b : Bool} {r : Option Rew} {o o' : List Val}
    (hd : distinctB o' = true) (hkeep : b = false → ∀ r0, r = some r0 → obsEq (obsOf r0 o) (obsOf r0 o') = true) :
    targetHypB (if b then p else .keep) r o o' = true := by
  cases r with
  | none => rfl
  | some r0 =>
    cases b with
    | true => rcases hp with rfl | rfl <;> simpa [targetHypB] using hd
    | false => simpa [targetHypB] using hkeep rfl r0 rfl

theorem loggedHypB_of_member {o n : List Val} {a a' : Val} (hd : distinctB n = true)
    (h : ∀ k, indexOf o a = some k → n[k]? = some a') : loggedHypB o n (some a) (some a') = true := by
  cases hk : indexOf o a with
  | none => simp only [loggedHypB, hk]
  | some k => simp only [loggedHypB, hk, hd, h k hk, Val.same_refl, Bool.and_self]

theorem plansHypB_map (f : Inter → Plan) : ∀ (l : List Inter), (∀ I ∈ l, planHypB I (f I) = true) → plansHypB l (l.map f) = true
  | [], _ => rfl
  | I :: l, h => by
    simp only [List.map_cons, plansHypB, Bool.and_eq_true]
    exact ⟨h I (by simp), plansHypB_map f l (fun J hJ => h J (by simp [hJ]))⟩

theorem alignedStreamB_self_mem : ∀ {s : List Inter}, alignedStreamB s s = true → ∀ I ∈ s, alignedB I I = true
  | [], _, I, h => by cases h
  | J :: s, hs, I, h => by
    simp only [alignedStreamB, Bool.and_eq_true] at hs
    cases h with
    | head => exact hs.1
    | tail _ h' => exact alignedStreamB_self_mem hs.2 I h'

/-! ### plans that touch nothing but the context; what `applyPlans` does at one position -/

/-- what a filter decides when its `action` flag is off: the plan hands the interaction's actions, logged action and reward objects on as they are -/
def keepsNonContext (I : Inter) (p : Plan) : Prop :=
  p.actions = I.actions ∧ p.action = I.action ∧ p.polR = .keep ∧ p.polF = .keep

theorem applyPlans_map_keeps (f : Inter → Plan) (hf : ∀ I, keepsNonContext I (f I)) (s : List Inter) (ps : List Plan) :
    ∀ (s' : List Inter), ps = s.map f → applyPlans s ps = .ok s' → s'.map nonContext = s.map nonContext := by
  fun_induction applyPlans s ps with
  | case1 => intro s' _ h; cases h; rfl
  | case2 | case3 | case5 => intro s' _ h; cases h
  | case4 i is p ps j hj js hjs ih =>
    intro s' hps h
    cases h
    cases hps
    obtain ⟨ha, hb, hr, hp⟩ := hf i
    simp only [applyPlan, hr, hp, rekeyOpt] at hj
    cases hj
    simp only [List.map_cons, ih js rfl hjs, nonContext, ha, hb]

theorem applyPlans_local (s : List Inter) (ps : List Plan) : ∀ (s' : List Inter), applyPlans s ps = .ok s' →
    ∀ (k : Nat) (I : Inter), s[k]? = some I → ∃ p J, ps[k]? = some p ∧ s'[k]? = some J ∧ applyPlan I p = .ok J := by
  fun_induction applyPlans s ps with
  | case1 => intro s' _ k I hk; cases hk
  | case2 | case3 | case5 => intro s' h; cases h
  | case4 i is p ps j hj js hjs ih =>
    intro s' h k I hk
    cases h
    cases k with
    | zero => cases hk; exact ⟨p, j, rfl, rfl, hj⟩
    | succ k => exact ih js hjs k I hk

/-! ### filters that convert values: Sparsify, Densify -/

/-- The plan of a filter that puts the context through `gc` and every action, with the logged one, through `ga`; the reward
functions are re-keyed when `changed` (some action was converted), else kept. -/
def convPlan (gc ga : Val → Val) (changed rC fC : Bool) (I : Inter) : Plan :=
  { context := gc I.context, actions := I.actions.map (·.map ga), action := I.action.map ga,
    polR := if changed && rC then .generic else .keep, polF := if changed && fC then .generic else .keep }

theorem makeSparse_id (h : String) (v : Val) (hv : sparseConverts v = false) : makeSparse h v = v := by
  cases v <;> simp_all [sparseConverts, makeSparse]

theorem sparsifyPlans_eq (cfg : Cfg) (c a : Bool) (s : List Inter) :
    sparsifyPlans cfg c a s = .ok (s.map fun I => convPlan (if c then makeSparse "context" else id) (if a then makeSparse "action" else id)
      (cfg.fixRekey && a && (match I.actions with | some as => as.any sparseConverts | none => false))
      (firstCallable (·.rewards) s) (firstCallable (·.feedbacks) s) I) := by
  refine congrArg (fun f => Except.ok (s.map f)) (funext fun I => ?_)
  show Plan.mk _ _ _ _ _ = Plan.mk _ _ _ _ _
  congr 1
  · cases c <;> rfl
  · cases a <;> simp
  · cases a <;> simp

theorem sparsify_headers_used (cfg : Cfg) (c a : Bool) (I : Inter) :
    sparsifyPlans cfg c a [I] = .ok [
      { context := if c then makeSparse (sparsifyHeaders.getD 0 "") I.context else I.context,
        actions := if a then I.actions.map (·.map (makeSparse (sparsifyHeaders.getD 1 ""))) else I.actions,
        action := if a then I.action.map (makeSparse (sparsifyHeaders.getD 2 "")) else I.action,
        polR := if (cfg.fixRekey && a && (match I.actions with | some as => as.any sparseConverts | none => false)) && firstCallable (·.rewards) [I] then .generic else .keep,
        polF := if (cfg.fixRekey && a && (match I.actions with | some as => as.any sparseConverts | none => false)) && firstCallable (·.feedbacks) [I] then .generic else .keep }] := rfl

theorem convPlan_keeps (gc : Val → Val) {ga : Val → Val} {changed : Bool} (rC fC : Bool) (I : Inter) (hga : ga = id)
    (hch : changed = false) : keepsNonContext I (convPlan gc ga changed rC fC I) :=
  ⟨by simp [convPlan, hga], by simp [convPlan, hga], by simp [convPlan, hch], by simp [convPlan, hch]⟩

theorem map_id_of_any_false {g : Val → Val} {conv : Val → Bool} (hg : ∀ v, conv v = false → g v = v) :
    ∀ as : List Val, as.any conv = false → as.map g = as
  | [], _ => rfl
  | a :: as, h => by
    rw [List.any_cons, Bool.or_eq_false_iff] at h
    rw [List.map_cons, hg a h.1, map_id_of_any_false hg as h.2]

theorem convPlan_hyp (gc : Val → Val) {ga : Val → Val} {changed rC fC : Bool} {I : Inter} (hself : alignedB I I = true)
    (hR : ∀ r, I.rewards = some r → r.isCallable = true → rC = true)
    (hF : ∀ r, I.feedbacks = some r → r.isCallable = true → fC = true)
    (hch : changed = false → ∀ as, I.actions = some as → as.map ga = as) (hnone : I.actions = none → changed = false)
    (hinj : ∀ as, I.actions = some as → Distinct (as.map ga))
    (hlog : ∀ a0 as k, I.action = some a0 → I.actions = some as → indexOf as a0 = some k → as[k]? = some a0) :
    planHypB I (convPlan gc ga changed rC fC I) = true := by
  cases ho : I.actions with
  | none => exact planHypB_none ho (by simp [convPlan, ho]) (by simp [convPlan, hnone ho]) (by simp [convPlan, hnone ho])
  | some o =>
    have hd := (distinctB_iff _).mpr (hinj o ho)
    obtain ⟨sR, sF⟩ := alignedB_self_obs hself ho
    -- a function that is kept: a plain sequence, or (the stream's first being a function too) nothing was converted
    have target : ∀ (xC : Bool) (r : Option Rew), (∀ r0, r = some r0 → r0.isCallable = true → xC = true) →
        (∀ r0, r = some r0 → obsEq (obsOf r0 o) (obsOf r0 o) = true) →
        targetHypB (if changed && xC then .generic else .keep) r o (o.map ga) = true := by
      intro xC r hx hobs
      refine targetHypB_discrete_or_keep (.inl rfl) hd fun hb r0 hr => obsEq_kept (hobs r0 hr) fun hc => ?_
      rw [hx r0 hr hc, Bool.and_true] at hb
      exact hch hb o ho
    refine planHypB_some (n := o.map ga) ho (by simp [convPlan, ho]) (by simp) (target rC _ hR sR) (target fC _ hF sF) ?_
    show loggedHypB o (o.map ga) I.action (I.action.map ga) = true
    cases ha : I.action with
    | none => rfl
    | some a0 =>
      refine loggedHypB_of_member hd fun k hk => ?_
      rw [List.getElem?_map, hlog a0 o k ha ho hk]; rfl

end Coba.C10
