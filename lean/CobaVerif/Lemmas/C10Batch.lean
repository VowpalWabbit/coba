/-
C10 — batching: the sizes `Batch` cuts a stream into; what `runStep` does to the stream at Batch and, wrapped in BatchSafe,
at every other step; `Batch.Callable` and the column of i-th actions of a batch.
-/
import CobaVerif.Model.C10
namespace Coba.C10

theorem chunkSizes_spec (k : Nat) (hk : 0 < k) (fuel len : Nat) : len ≤ fuel →
    (chunkSizes k fuel len).sum = len ∧ ∀ x ∈ chunkSizes k fuel len, 0 < x ∧ x ≤ k := by
  fun_induction chunkSizes k fuel len with
  | case1 len => intro h; exact ⟨(Nat.le_zero.mp h).symm, nofun⟩
  | case2 => intro _; exact ⟨rfl, nofun⟩
  | case3 fuel len hpos hle =>
    intro _
    exact ⟨by simp, fun x hx => by rw [List.mem_singleton.mp hx]; exact ⟨Nat.pos_of_ne_zero hpos, hle⟩⟩
  | case4 fuel len hpos hgt ih =>
    intro h
    obtain ⟨ih1, ih2⟩ := ih (by omega)
    refine ⟨by rw [List.sum_cons, ih1]; omega, fun x hx => ?_⟩
    rcases List.mem_cons.mp hx with rfl | hx
    · exact ⟨hk, Nat.le_refl _⟩
    · exact ih2 x hx

theorem runStep_batch_stream {cfg : Cfg} {n : Option Nat} {S S1 : State} (h : runStep cfg (.batch n) S = .ok S1) :
    S1.stream = S.stream := by
  simp only [runStep] at h
  cases n with
  | none => cases h; rfl
  | some k =>
    cases k with
    | zero => cases h; rfl
    | succ k =>
      simp only at h
      cases hsz : S.sizes with
      | some _ => simp [hsz] at h
      | none =>
        simp only [hsz] at h
        split at h <;> (cases h; rfl)

/-- every other step is wrapped in BatchSafe -/
theorem runStep_batchsafe (cfg : Cfg) (st : Step) (S : State) (hb : ∀ n, st ≠ .batch n) (hu : st ≠ .unbatch) :
    runStep cfg st S = (match runPrims cfg (expandStep st) S.stream with
      | .error e => .error e
      | .ok s' => .ok { stream := s', sizes := match S.sizes with
                                       | some (k :: _) => some (chunkSizes k s'.length s'.length)
                                       | other => other }) := by
  cases st with
  | batch n => exact absurd rfl (hb n)
  | unbatch => exact absurd rfl hu
  | _ => rfl

theorem runStep_prims {cfg : Cfg} {st : Step} {S S' : State} (h : runStep cfg st S = .ok S')
    (hb : ∀ n, st ≠ .batch n) (hu : st ≠ .unbatch) : runPrims cfg (expandStep st) S.stream = .ok S'.stream := by
  rw [runStep_batchsafe cfg st S hb hu] at h
  cases hr : runPrims cfg (expandStep st) S.stream with
  | error e => simp [hr] at h
  | ok s' =>
    simp only [hr] at h
    cases h
    rfl

theorem runChain_cons_ok {cfg : Cfg} {st : Step} {rest : List Step} {S S' : State} (h : runChain cfg (st :: rest) S = .ok S') :
    ∃ S1, runStep cfg st S = .ok S1 ∧ runChain cfg rest S1 = .ok S' := by
  rw [runChain] at h
  split at h
  · cases h
  · exact ⟨_, by assumption, h⟩

/-- `Batch.Callable` is `map(lambda f,a: f(a), self, args)` -/
theorem batchCall_eq_zipWith : ∀ (fs : List Rew) (as : List Val), batchCall fs as = List.zipWith callRew fs as
  | [], _ => rfl
  | _ :: _, [] => rfl
  | f :: fs, a :: as => by rw [batchCall, List.zipWith_cons_cons, batchCall_eq_zipWith fs as]

theorem column_getElem? (i : Nat) (actss : List (List Val)) : ∀ (col : List Val), column i actss = some col →
    ∀ (k : Nat) (as : List Val), actss[k]? = some as → ∃ a, as[i]? = some a ∧ col[k]? = some a := by
  fun_induction column i actss with
  | case1 => intro col _ k as hk; cases hk
  | case2 as0 rest a0 col' hc ha ih =>
    intro col h k as hk
    cases h
    cases k with
    | zero => cases hk; exact ⟨a0, ha, rfl⟩
    | succ k => exact ih col' hc k as hk
  | case3 => intro col h; cases h

end Coba.C10
