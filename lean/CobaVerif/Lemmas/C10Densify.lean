/-
C10 — the `Densify` object: the key table it carries from one `filter()` call to the next; a stage of `_make_dense` asks the
table for keys and, the table only growing, builds "value at slot(key)" for the slots of the table it ends with, so that the
plans of a run are a map over the stream; distinct slots give distinct rows; the plans meet the plan hypotheses; what one
object answers after a history of calls.
-/
import CobaVerif.Lemmas.C10
import CobaVerif.Lemmas.C10PyEq
namespace Coba.C10

/-! ### asking the table for a key -/

theorem denseIndex_ok (m : DMethod) (st st' : DState) (k : String) (i : Nat) (h : denseIndex m st k = .ok (st', i)) :
    assocGet k (tableOf m st') = some i ∧ ∃ ext, st'.table = st.table ++ ext := by
  cases m with
  | hashing tbl =>
    simp only [denseIndex] at h
    cases hg : assocGet k tbl with
    | none => simp [hg] at h
    | some j => simp [hg] at h; exact ⟨by simp [tableOf, hg, h.2], [], by simp [h.1]⟩
  | lookup p =>
    simp only [denseIndex] at h
    cases hg : assocGet k st.table with
    | some j => simp [hg] at h; exact ⟨by simp [tableOf, ← h.1, hg, h.2], [], by simp [h.1]⟩
    | none =>
      simp only [hg] at h
      cases hf : st.fresh with
      | nil => simp [hf] at h
      | cons j rest =>
        simp [hf] at h
        exact ⟨by simp [tableOf, ← h.1, assocGet_append_none k _ _ hg, assocGet, h.2], [(k, j)], by rw [← h.1]⟩

theorem primeKeys_mono (m : DMethod) : ∀ (ks : List String) (st st' : DState), primeKeys m st ks = .ok st' →
    ∃ ext, st'.table = st.table ++ ext
  | [], st, st', h => by simp [primeKeys] at h; exact ⟨[], by simp [h]⟩
  | k :: ks, st, st', h => by
    simp only [primeKeys] at h
    cases hd : denseIndex m st k with
    | error e => simp [hd] at h
    | ok r =>
      obtain ⟨st1, i⟩ := r
      simp only [hd] at h
      obtain ⟨e1, h1⟩ := (denseIndex_ok m st st1 k i hd).2
      obtain ⟨e2, h2⟩ := primeKeys_mono m ks st1 st' h
      exact ⟨e1 ++ e2, by rw [h2, h1, List.append_assoc]⟩

theorem primeKeys_append (m : DMethod) : ∀ (a b : List String) (st : DState),
    primeKeys m st (a ++ b) = (match primeKeys m st a with | .ok st' => primeKeys m st' b | .error e => .error e)
  | [], b, st => by simp [primeKeys]
  | k :: a, b, st => by
    simp only [List.cons_append, primeKeys]
    cases denseIndex m st k with
    | error e => rfl
    | ok r => exact primeKeys_append m a b r.1

/-! ### a stage of `_make_dense` -/

/-- `T'` gives every key that has a slot in `T` the same slot: the table after it has grown, or any other that agrees with it -/
def TableLe (T T' : List (String × Nat)) : Prop := ∀ k i, assocGet k T = some i → assocGet k T' = some i

theorem TableLe.refl (T : List (String × Nat)) : TableLe T T := fun _ _ h => h

theorem tableOf_mono (m : DMethod) (ks : List String) (st st' : DState) (h : primeKeys m st ks = .ok st') :
    TableLe (tableOf m st) (tableOf m st') := by
  intro k i hk
  cases m with
  | hashing t => exact hk
  | lookup p =>
    obtain ⟨ext, he⟩ := primeKeys_mono (.lookup p) ks st st' h
    simp only [tableOf] at hk ⊢
    rw [he]; exact assocGet_append_left k i _ ext hk

/-- A stage of `_make_dense`, run from the state `st` to `st'`: it asks the table for `keys`, in this order, and — a key keeps its
slot while the table grows — what it builds is told (`P`) by any table that knows the slots of the one it ends with. -/
structure Stage (m : DMethod) (st st' : DState) (keys : List String) (P : List (String × Nat) → Prop) : Prop where
  asked : primeKeys m st keys = .ok st'
  built : ∀ T, TableLe (tableOf m st') T → P T

theorem Stage.pure (m : DMethod) (st : DState) {P : List (String × Nat) → Prop} (h : ∀ T, P T) : Stage m st st [] P :=
  ⟨rfl, fun T _ => h T⟩

theorem Stage.append {m : DMethod} {st st1 st2 : DState} {k1 k2 : List String} {P1 P2 Q : List (String × Nat) → Prop}
    (h1 : Stage m st st1 k1 P1) (h2 : Stage m st1 st2 k2 P2) (hQ : ∀ T, P1 T → P2 T → Q T) : Stage m st st2 (k1 ++ k2) Q := by
  refine ⟨by rw [primeKeys_append, h1.asked]; exact h2.asked, fun T hT => hQ T (h1.built T fun k i hk => ?_) (h2.built T hT)⟩
  exact hT k i (tableOf_mono m k2 st1 st2 h2.asked k i hk)

theorem Stage.index {m : DMethod} {st st' : DState} {k : String} {i : Nat} (h : denseIndex m st k = .ok (st', i)) :
    Stage m st st' [k] (fun T => slotFn T k = i) := by
  refine ⟨by simp only [primeKeys, h], fun T hT => ?_⟩
  simp only [slotFn, hT k i (denseIndex_ok m st st' k i h).1, Option.getD_some]

theorem denseEntries_stage (m : DMethod) (st : DState) (d : List (String × Val)) (acc : List (Nat × Val)) :
    ∀ (st' : DState) (out : List (Nat × Val)), denseEntries m st d acc = .ok (st', out) →
    Stage m st st' (d.map (·.1)) (fun T => out = entsAcc (slotFn T) d acc) := by
  fun_induction denseEntries m st d acc with
  | case1 st acc => intro st' out h; cases h; exact Stage.pure m st fun _ => rfl
  | case2 => intro st' out h; cases h
  | case3 st k v rest acc st1 i hd ih =>
    intro st' out h
    refine (Stage.index hd).append (ih st' out h) fun T e1 e2 => ?_
    rw [e2, entsAcc, e1]

theorem makeDense_stage {m : DMethod} {n : Nat} {st st' : DState} {v v' : Val} (h : makeDense m n st v = .ok (st', v')) :
    Stage m st st' (keysOfVal v) (fun T => v' = denseOf T n v) := by
  cases v with
  | dict d =>
    simp only [makeDense] at h
    split at h
    · cases h
    · rename_i st1 ents he
      cases h
      have hs := denseEntries_stage m st d [] st' ents he
      exact ⟨hs.asked, fun T hT => by rw [hs.built T hT]; rfl⟩
  | _ => cases h; exact Stage.pure m st fun _ => rfl

theorem makeDenseList_stage {m : DMethod} {n : Nat} {st : DState} {vs : List Val} : ∀ {st' : DState} {vs' : List Val},
    makeDenseList m n st vs = .ok (st', vs') → Stage m st st' (keysOfVals vs) (fun T => vs' = vs.map (denseOf T n)) := by
  fun_induction makeDenseList m n st vs with
  | case1 st => intro st' vs' h; cases h; exact Stage.pure m st fun _ => rfl
  | case2 | case3 => intro st' vs' h; cases h
  | case4 st v vs st1 v1 h1 st2 vs2 h2 ih =>
    intro st' vs' h
    cases h
    exact (makeDense_stage h1).append (ih h2) fun T e1 e2 => by rw [e1, e2]; rfl

/-! ### distinct slots give distinct rows -/

theorem natSet_of_not_mem (j : Nat) (v : Val) : ∀ (acc : List (Nat × Val)), j ∉ acc.map (·.1) → natSet j v acc = acc ++ [(j, v)]
  | [], _ => rfl
  | (k', v') :: r, h => by
    rw [List.map_cons, List.mem_cons, not_or] at h
    rw [natSet, if_neg (by simpa using Ne.symm h.1), natSet_of_not_mem j v r h.2]; rfl

theorem entsAcc_of_nodup (slot : String → Nat) : ∀ (d : List (String × Val)) (acc : List (Nat × Val)),
    (acc.map (·.1) ++ d.map (slot ·.1)).Nodup → entsAcc slot d acc = acc ++ d.map fun p => (slot p.1, p.2)
  | [], acc, _ => by simp [entsAcc]
  | (k, v) :: r, acc, h => by
    have hk : slot k ∉ acc.map (·.1) := fun hm => (List.nodup_append.mp h).2.2 _ hm _ (List.mem_cons_self ..) rfl
    rw [entsAcc, natSet_of_not_mem _ _ _ hk, entsAcc_of_nodup slot r _ (by simpa [List.append_assoc] using h)]
    simp

theorem entsAcc_slotRow (slot : String → Nat) (d : List (String × Val)) (hu : uniqKeys (d.map (·.1)) = true)
    (hinj : ∀ k ∈ d.map (·.1), ∀ k' ∈ d.map (·.1), slot k = slot k' → k = k') :
    entsAcc slot d [] = (d.map fun p => (slot p.1, p.2)) ∧ natKeysUniq ((d.map fun p => (slot p.1, p.2)).map (·.1)) = true := by
  have hnd : (d.map (slot ·.1)).Nodup :=
    List.pairwise_map.mpr ((List.pairwise_map.mp ((uniqKeys_iff_nodup _).mp hu)).imp_of_mem fun ha hb hne e =>
      hne (hinj _ (List.mem_map_of_mem ha) _ (List.mem_map_of_mem hb) e))
  exact ⟨by simpa using entsAcc_of_nodup slot d [] (by simpa using hnd), by rw [List.map_map]; exact (natKeysUniq_iff_nodup _).mpr hnd⟩

theorem entsAcc_lazyWf (slot : String → Nat) (n : Nat) (d : List (String × Val)) (hu : uniqKeys (d.map (·.1)) = true)
    (hinj : ∀ k ∈ d.map (·.1), ∀ k' ∈ d.map (·.1), slot k = slot k' → k = k')
    (hw : wfNoLazyD d = true) (hlt : ∀ k ∈ d.map (·.1), slot k < n) : lazyWf (entsAcc slot d []) n = true := by
  obtain ⟨e, hk⟩ := entsAcc_slotRow slot d hu hinj
  rw [e, lazyWf, hk, Bool.true_and, List.all_eq_true]
  intro p hp
  obtain ⟨⟨k, v⟩, hm, rfl⟩ := List.mem_map.mp hp
  simp only [Bool.and_eq_true, decide_eq_true_eq]
  exact ⟨hlt k (List.mem_map_of_mem (f := (·.1)) hm), wfNoLazyD_mem d hw k v hm⟩

theorem slotsInjB_spec {T : List (String × Nat)} {keys : List String} {n : Nat} (h : slotsInjB T keys n = true) :
    (∀ k ∈ keys, slotFn T k < n) ∧ (∀ k ∈ keys, ∀ k' ∈ keys, slotFn T k = slotFn T k' → k = k') := by
  simp only [slotsInjB, Bool.and_eq_true, List.all_eq_true, Bool.or_eq_true, beq_iff_eq, bne_iff_ne, ne_eq] at h
  refine ⟨fun k hk => ?_, fun k hk k' hk' e => ?_⟩
  · have := h.1 k hk
    cases hg : assocGet k T with
    | none => simp [hg] at this
    | some i => simp only [hg, decide_eq_true_eq] at this; simpa [slotFn, hg] using this
  · rcases h.2 k hk k' hk' with e' | e'
    · exact e'
    · exact absurd e e'

theorem noZeroD_mem {d : List (String × Val)} (h : noZeroD d = true) {k : String} {v : Val} (hm : (k, v) ∈ d) : isZero v = false := by
  simp only [noZeroD, List.all_eq_true, Bool.not_eq_true'] at h
  exact h (k, v) hm

theorem lazyAt_entsAcc_mem (slot : String → Nat) (d : List (String × Val)) (hu : uniqKeys (d.map (·.1)) = true)
    (hinj : ∀ k ∈ d.map (·.1), ∀ k' ∈ d.map (·.1), slot k = slot k' → k = k') {k : String} {v : Val} (hm : (k, v) ∈ d) :
    lazyAt (entsAcc slot d []) (slot k) = v := by
  obtain ⟨e, hk⟩ := entsAcc_slotRow slot d hu hinj
  rw [e, lazyAt, lookupN_of_uniq _ hk (slot k) v (List.mem_map_of_mem (f := fun p => (slot p.1, p.2)) hm)]; rfl

theorem lazyAt_entsAcc_other (slot : String → Nat) (d : List (String × Val)) (hu : uniqKeys (d.map (·.1)) = true)
    (hinj : ∀ k ∈ d.map (·.1), ∀ k' ∈ d.map (·.1), slot k = slot k' → k = k') (i : Nat) (h : ∀ k ∈ d.map (·.1), slot k ≠ i) :
    lazyAt (entsAcc slot d []) i = .num 0 := by
  have : lookupN i (d.map fun p => (slot p.1, p.2)) = none := by
    rw [lookupN_eq_lookup, List.lookup_eq_none_iff]
    intro p hp
    obtain ⟨q, hq, rfl⟩ := List.mem_map.mp hp
    exact bne_iff_ne.mpr (Ne.symm (h q.1 (List.mem_map_of_mem (f := (·.1)) hq)))
  rw [(entsAcc_slotRow slot d hu hinj).1, lazyAt, this]; rfl

theorem densify_rows_pyEq (slot : String → Nat) (n : Nat) (d1 d2 : List (String × Val))
    (w1 : sparseRowWf d1 = true) (w2 : sparseRowWf d2 = true)
    (hlt : ∀ k ∈ d1.map (·.1) ++ d2.map (·.1), slot k < n)
    (hinj : ∀ k ∈ d1.map (·.1) ++ d2.map (·.1), ∀ k' ∈ d1.map (·.1) ++ d2.map (·.1), slot k = slot k' → k = k') :
    pyEq (.lazy (entsAcc slot d1 []) n) (.lazy (entsAcc slot d2 []) n) = pyEq (.dict d1) (.dict d2) := by
  simp only [sparseRowWf, Bool.and_eq_true] at w1 w2
  obtain ⟨⟨u1, wf1⟩, nz1⟩ := w1
  obtain ⟨⟨u2, wf2⟩, nz2⟩ := w2
  have inj1 : ∀ k ∈ d1.map (·.1), ∀ k' ∈ d1.map (·.1), slot k = slot k' → k = k' :=
    fun k hk k' hk' e => hinj k (List.mem_append_left _ hk) k' (List.mem_append_left _ hk') e
  have inj2 : ∀ k ∈ d2.map (·.1), ∀ k' ∈ d2.map (·.1), slot k = slot k' → k = k' :=
    fun k hk k' hk' e => hinj k (List.mem_append_right _ hk) k' (List.mem_append_right _ hk') e
  have lw1 : lazyWf (entsAcc slot d1 []) n = true :=
    entsAcc_lazyWf slot n d1 u1 inj1 wf1 (fun k hk => hlt k (List.mem_append_left _ hk))
  rw [Bool.eq_iff_iff, pyEq_lazy_lazy_iff _ _ n n lw1]
  simp only [pyEq, Bool.and_eq_true, beq_iff_eq, true_and]
  constructor
  · intro h
    have fwd : ∀ k v, (k, v) ∈ d1 → ∃ w, lookupS k d2 = some w ∧ pyEq v w = true := by
      intro k v hm
      have hk : k ∈ d1.map (·.1) := List.mem_map_of_mem (f := (·.1)) hm
      have hi := h (slot k) (hlt k (List.mem_append_left _ hk))
      rw [lazyAt_entsAcc_mem slot d1 u1 inj1 hm] at hi
      by_cases hk2 : k ∈ d2.map (·.1)
      · obtain ⟨⟨k', w⟩, hmw, hk'⟩ := List.mem_map.mp hk2
        simp only at hk'; subst hk'
        rw [lazyAt_entsAcc_mem slot d2 u2 inj2 hmw] at hi
        exact ⟨w, lookupS_of_uniq d2 u2 k' w hmw, hi⟩
      · -- a key `d2` lacks meets an implicit zero there, and a sparse row stores no zero
        rw [lazyAt_entsAcc_other slot d2 u2 inj2 (slot k) (fun k' hk' e => hk2 (by
          have := hinj k' (List.mem_append_right _ hk') k (List.mem_append_left _ hk) e
          exact this ▸ hk'))] at hi
        rw [pyEq_zero_num v (wfNoLazyD_mem d1 wf1 k v hm), noZeroD_mem nz1 hm] at hi
        cases hi
    have sub12 : ∀ k ∈ d1.map (·.1), k ∈ d2.map (·.1) := keys_subset_of_lookupS fwd
    have sub21 : ∀ k ∈ d2.map (·.1), k ∈ d1.map (·.1) := by
      intro k hk
      obtain ⟨⟨k', w⟩, hmw, hk'⟩ := List.mem_map.mp hk
      simp only at hk'; subst hk'
      apply Classical.byContradiction
      intro hn
      have hi := h (slot k') (hlt k' (List.mem_append_right _ hk))
      rw [lazyAt_entsAcc_mem slot d2 u2 inj2 hmw, lazyAt_entsAcc_other slot d1 u1 inj1 (slot k') (fun k hk1 e => hn (by
          have := hinj k (List.mem_append_left _ hk1) k' (List.mem_append_right _ hk) e
          exact this ▸ hk1)), pyEq_num_zero, noZeroD_mem nz2 hmw] at hi
      cases hi
    refine ⟨?_, (pyEqD_iff d1 d2).mpr fwd⟩
    have a := uniq_subset_length _ _ u1 sub12
    have b := uniq_subset_length _ _ u2 sub21
    simp only [List.length_map] at a b
    omega
  · rintro ⟨hlen, hD⟩ i hi
    have sub12 : ∀ k ∈ d1.map (·.1), k ∈ d2.map (·.1) := keys_subset_of_lookupS ((pyEqD_iff d1 d2).mp hD)
    have sub21 := uniq_subset_eq_length_superset _ _ u1 sub12 (by simpa using hlen)
    by_cases hex : ∃ k ∈ d1.map (·.1), slot k = i
    · obtain ⟨k, hk, rfl⟩ := hex
      obtain ⟨⟨k', v⟩, hmv, hk'⟩ := List.mem_map.mp hk
      simp only at hk'; subst hk'
      obtain ⟨w, hw, hvw⟩ := (pyEqD_iff d1 d2).mp hD k' v hmv
      rw [lazyAt_entsAcc_mem slot d1 u1 inj1 hmv, lazyAt_entsAcc_mem slot d2 u2 inj2 (lookupS_mem d2 k' w hw)]
      exact hvw
    · have h1 : ∀ k ∈ d1.map (·.1), slot k ≠ i := fun k hk e => hex ⟨k, hk, e⟩
      have h2 : ∀ k ∈ d2.map (·.1), slot k ≠ i := fun k hk e => hex ⟨k, sub21 k hk, e⟩
      rw [lazyAt_entsAcc_other slot d1 u1 inj1 i h1, lazyAt_entsAcc_other slot d2 u2 inj2 i h2]
      simp [pyEq]

theorem keysOfVals_mem : ∀ (as : List Val) (d : List (String × Val)), .dict d ∈ as → ∀ k ∈ d.map (·.1), k ∈ keysOfVals as
  | a :: as, d, h, k, hk => by
    rw [keysOfVals, List.mem_append]
    rcases List.mem_cons.mp h with rfl | h
    · exact .inl hk
    · exact .inr (keysOfVals_mem as d h k hk)

theorem denseOf_map_distinct (T : List (String × Nat)) (n : Nat) (as : List Val) (hrows : sparseRowsB as = true)
    (hslots : slotsInjB T (keysOfVals as) n = true) (hd : Distinct as) : Distinct (as.map (denseOf T n)) := by
  obtain ⟨hlt, hinj⟩ := slotsInjB_spec hslots
  simp only [sparseRowsB, List.all_eq_true] at hrows
  refine distinct_map (fun a ha b hb => ?_) hd
  have ra := hrows a ha
  have rb := hrows b hb
  cases a with
  | dict d1 =>
    cases b with
    | dict d2 =>
      have hsub : ∀ k ∈ d1.map (·.1) ++ d2.map (·.1), k ∈ keysOfVals as := fun k hk =>
        (List.mem_append.mp hk).elim (keysOfVals_mem as d1 ha k) (keysOfVals_mem as d2 hb k)
      exact densify_rows_pyEq (slotFn T) n d1 d2 ra rb (fun k hk => hlt k (hsub k hk))
        (fun k hk k' hk' e => hinj k (hsub k hk) k' (hsub k' hk') e)
    | _ => cases rb
  | _ => cases ra

/-! ### a run, one interaction after the other: its plans are a map over the stream -/

theorem keysAsked_cons (c a : Bool) (I : Inter) (rest : List Inter) :
    keysAsked c a (I :: rest) = (if c then keysOfVal I.context else []) ++ (if a then (I.actions.map keysOfVals).getD [] else [])
      ++ (if a then (I.action.map keysOfVal).getD [] else []) ++ keysAsked c a rest := by
  conv => lhs; unfold keysAsked
  cases a <;> cases I.actions <;> cases I.action <;> rfl

/-- the plan `Densify` decides for one interaction once its table is `T` -/
def densifyPlanAt (cfg : Cfg) (T : List (String × Nat)) (n : Nat) (c a rC fC : Bool) (I : Inter) : Plan :=
  convPlan (if c then denseOf T n else id) (if a then denseOf T n else id)
    (cfg.fixRekey && a && (match I.actions with | some as => as.any isDict | none => false)) rC fC I

theorem densifyPlanAt_keeps (cfg : Cfg) (T : List (String × Nat)) (n : Nat) (c rC fC : Bool) (I : Inter) :
    keepsNonContext I (densifyPlanAt cfg T n c false rC fC I) :=
  convPlan_keeps _ rC fC I (if_neg Bool.false_ne_true) (by simp)

theorem densifyRun_stage (cfg : Cfg) (m : DMethod) (n : Nat) (c a rC fC : Bool) (s : List Inter) (st : DState) :
    ∀ (ps : List Plan) (st' : DState), densifyRun cfg m n c a rC fC st s = .ok (ps, st') →
    Stage m st st' (keysAsked c a s) (fun T => ps = s.map (densifyPlanAt cfg T n c a rC fC)) := by
  fun_induction densifyRun cfg m n c a rC fC st s with
  | case1 st => intro ps st' h; cases h; exact Stage.pure m st fun _ => rfl
  | case2 | case3 | case4 | case5 => intro ps st' h; cases h
  | case6 st I rest st1 ctx h1 st2 acts h2 st3 act h3 changed ps' stEnd h4 p ih =>
    intro ps st' h
    cases h
    have s1 : Stage m st st1 (if c then keysOfVal I.context else []) (fun T => ctx = (if c then denseOf T n else id) I.context) := by
      cases c with
      | true => exact makeDense_stage h1
      | false => cases h1; exact Stage.pure m st fun _ => rfl
    have s2 : Stage m st1 st2 (if a then (I.actions.map keysOfVals).getD [] else [])
        (fun T => acts = I.actions.map (·.map (if a then denseOf T n else id))) := by
      cases a with
      | false => cases h2; exact Stage.pure m st1 fun _ => by simp
      | true =>
        cases hx : I.actions with
        | none => rw [hx] at h2; cases h2; exact Stage.pure m st1 fun _ => rfl
        | some as =>
          rw [hx] at h2
          simp only at h2
          split at h2
          · rename_i s2 as' hl
            cases h2
            exact ⟨(makeDenseList_stage hl).asked, fun T hT => by rw [(makeDenseList_stage hl).built T hT]; rfl⟩
          · cases h2
    have s3 : Stage m st2 st3 (if a then (I.action.map keysOfVal).getD [] else [])
        (fun T => act = I.action.map (if a then denseOf T n else id)) := by
      cases a with
      | false => cases h3; exact Stage.pure m st2 fun _ => by simp
      | true =>
        cases hx : I.action with
        | none => rw [hx] at h3; cases h3; exact Stage.pure m st2 fun _ => rfl
        | some x =>
          rw [hx] at h3
          simp only at h3
          split at h3
          · rename_i s3 x' hl
            cases h3
            exact ⟨(makeDense_stage hl).asked, fun T hT => by rw [(makeDense_stage hl).built T hT]; rfl⟩
          · cases h3
    rw [keysAsked_cons]
    refine ((s1.append s2 fun T e1 e2 => And.intro e1 e2).append s3 fun T e12 e3 => And.intro e12 e3).append
      (ih ps' stEnd h4) fun T e123 e4 => ?_
    rw [e4, List.map_cons]
    refine congrArg (· :: _) ?_
    show Plan.mk ctx acts act _ _ = _
    rw [e123.1.1, e123.1.2, e123.2]; rfl

/-- the state `densifyPlans` lets a `Densify` object start a call in: the fresh table, asked first for the keys that earlier calls of a
look-up object handed out -/
def densifyStart (m : DMethod) (n : Nat) : Except Err DState :=
  match m with
  | .lookup prior => primeKeys (.lookup []) (initDState n) prior
  | _ => .ok (initDState n)

theorem densifyStart_lookup (p : List String) (n : Nat) :
    densifyStart (.lookup p) n = primeKeys (.lookup []) (initDState n) p := rfl

theorem densifyPlans_ok {cfg : Cfg} {m : DMethod} {n : Nat} {c a : Bool} {s : List Inter} {ps : List Plan}
    (h : densifyPlans cfg m n c a s = .ok ps) :
    ∃ st1 stEnd, densifyStart m n = .ok st1 ∧
      densifyRun cfg (normMethod m) n c a (firstCallable (·.rewards) s) (firstCallable (·.feedbacks) s) st1 s = .ok (ps, stEnd) := by
  simp only [densifyPlans] at h
  split at h
  · cases h
  · rename_i st1 hprime
    split at h
    · rename_i ps0 stEnd hgo
      cases h
      exact ⟨st1, stEnd, hprime, hgo⟩
    · cases h

theorem densifyTable_spec (m : DMethod) (n : Nat) (c a : Bool) (s : List Inter) (st1 stEnd : DState)
    (hprime : densifyStart m n = .ok st1)
    (hst : primeKeys (normMethod m) st1 (keysAsked c a s) = .ok stEnd) :
    tableOf (normMethod m) stEnd = densifyTable m n c a s := by
  cases m with
  | hashing t => simp [normMethod, tableOf, densifyTable]
  | lookup prior =>
    have hst' : primeKeys (.lookup []) st1 (keysAsked c a s) = .ok stEnd := hst
    rw [densifyStart_lookup] at hprime
    simp [normMethod, tableOf, densifyTable, primeKeys_append, hprime, hst']

theorem densifyPlans_eq_map {cfg : Cfg} {m : DMethod} {n : Nat} {c a : Bool} {s : List Inter} {ps : List Plan}
    (h : densifyPlans cfg m n c a s = .ok ps) :
    ps = s.map (densifyPlanAt cfg (densifyTable m n c a s) n c a (firstCallable (·.rewards) s) (firstCallable (·.feedbacks) s)) := by
  obtain ⟨st1, stEnd, hprime, hgo⟩ := densifyPlans_ok h
  have hst := densifyRun_stage _ _ _ _ _ _ _ s st1 ps stEnd hgo
  exact hst.built _ (densifyTable_spec m n c a s st1 stEnd hprime hst.asked ▸ TableLe.refl _)

/-! ### Densify(action=True) on sparse actions: each plan meets the plan hypotheses -/

theorem denseOf_of_not_dict (T : List (String × Nat)) (n : Nat) (v : Val) (h : isDict v = false) : denseOf T n v = v := by
  cases v <;> first | rfl | cases h

theorem densify_plan_hyp (T : List (String × Nat)) (n : Nat) (c rC fC : Bool) (I : Inter)
    (hself : alignedB I I = true) (hI : densifyInterHypB T n rC fC I = true) :
    planHypB I (densifyPlanAt Cfg.fixed T n c true rC fC I) = true := by
  simp only [densifyInterHypB, Bool.and_eq_true] at hI
  obtain ⟨⟨hRc, hFc⟩, hA⟩ := hI
  refine convPlan_hyp _ hself (fun r hr hc => by simpa [hr, hc] using hRc) (fun r hr hc => by simpa [hr, hc] using hFc)
    (fun hb as has => ?_) (fun h => by simp [h]) (fun as has => ?_) (fun a0 as k ha has hk => ?_)
  · exact map_id_of_any_false (denseOf_of_not_dict T n) as (by simpa [Cfg.fixed, has] using hb)
  · simp only [has, Bool.and_eq_true] at hA
    exact denseOf_map_distinct T n as hA.1.1.1 hA.1.2 ((distinctB_iff _).mp hA.1.1.2)
  · simp only [has, ha, hk, Bool.and_eq_true] at hA
    cases hb : as[k]? with
    | none => simp [hb] at hA
    | some b =>
      simp only [hb] at hA
      rw [Val.same_sound b a0 hA.2]

/-! ### once the table is given, a look-up method's `prior` is not read -/

theorem denseIndex_lookup_irrel (p q : List String) (st : DState) (k : String) :
    denseIndex (.lookup p) st k = denseIndex (.lookup q) st k := by simp [denseIndex]

theorem primeKeys_lookup_irrel (p q : List String) : ∀ (ks : List String) (st : DState),
    primeKeys (.lookup p) st ks = primeKeys (.lookup q) st ks
  | [], st => rfl
  | k :: ks, st => by
    simp only [primeKeys, denseIndex_lookup_irrel p q st k]
    cases denseIndex (.lookup q) st k with
    | error e => rfl
    | ok r => exact primeKeys_lookup_irrel p q ks r.1

/-! ### one `Densify(lookup)` object over several calls -/

theorem runPrimObj_stateless (cfg : Cfg) (st : Step) (T : DState) (s : List Inter) (hne : ∀ n p c a, st ≠ .densify n (.lookup p) c a) :
    runPrimObj cfg st T s = (match runPrim cfg st s with | .ok s' => .ok (s', T) | .error e => .error e) := by
  cases st with
  | densify n m c a =>
    cases m with
    | lookup p => exact absurd rfl (hne n p c a)
    | hashing tbl => rfl
  | _ => rfl

theorem runPrimObj_densify_state {cfg : Cfg} {n : Nat} {q : List String} {c a : Bool} {T T1 : DState} {A A' : List Inter}
    (h : runPrimObj cfg (.densify n (.lookup q) c a) T A = .ok (A', T1)) :
    primeKeys (.lookup []) T (keysAsked c a A) = .ok T1 := by
  simp only [runPrimObj] at h
  split at h
  · cases h
  · rename_i ps T' hda
    split at h
    · cases h
      exact (densifyRun_stage cfg (.lookup []) n c a _ _ A T ps T1 hda).asked
    · cases h

/-- an object whose table was asked for the keys `p` answers as a fresh `Densify(lookup)` whose `prior` is `p` -/
theorem runPrimObj_eq_runPrim (cfg : Cfg) (n : Nat) (p q : List String) (c a : Bool) {T : DState} (B : List Inter)
    (hT : primeKeys (.lookup []) (initDState n) p = .ok T) :
    (match runPrimObj cfg (.densify n (.lookup q) c a) T B with
      | .ok (b, _) => Except.ok b
      | .error e => .error e) = runPrim cfg (.densify n (.lookup p) c a) B := by
  simp only [runPrimObj, runPrim, plansOf, densifyPlans, hT, normMethod]
  cases densifyRun cfg (.lookup []) n c a (firstCallable (·.rewards) B) (firstCallable (·.feedbacks) B) T B with
  | error e => rfl
  | ok r =>
    obtain ⟨ps, T2⟩ := r
    simp only
    cases applyPlans B ps <;> rfl

/-- `q`, the `prior` the object was built with, does not enter: only the table `T` does -/
theorem runObjAfter_densify (cfg : Cfg) (n : Nat) (q : List String) (c a : Bool) (B : List Inter) :
    ∀ (hist : List (List Inter)) (p : List String) (T : DState), primeKeys (.lookup []) (initDState n) p = .ok T →
    (∃ T', runObjHistory cfg (.densify n (.lookup q) c a) T hist = .ok T') →
    runObjAfter cfg (.densify n (.lookup q) c a) T hist B = runPrim cfg (.densify n (.lookup (p ++ historyKeys c a hist)) c a) B
  | [], p, T, hT, _ => by
    simp only [runObjAfter, runObjHistory, historyKeys, List.append_nil]
    exact runPrimObj_eq_runPrim cfg n p q c a B hT
  | A :: rest, p, T, hT, ⟨T', hH⟩ => by
    simp only [runObjHistory] at hH
    cases hA : runPrimObj cfg (.densify n (.lookup q) c a) T A with
    | error e => simp [hA] at hH
    | ok r =>
      obtain ⟨A', T1⟩ := r
      simp only [hA] at hH
      have hprime : primeKeys (.lookup []) (initDState n) (p ++ keysAsked c a A) = .ok T1 := by
        rw [primeKeys_append, hT]
        exact runPrimObj_densify_state hA
      simp only [historyKeys, ← List.append_assoc]
      rw [← runObjAfter_densify cfg n q c a B rest (p ++ keysAsked c a A) T1 hprime ⟨T', hH⟩]
      simp only [runObjAfter, runObjHistory, hA]

end Coba.C10
