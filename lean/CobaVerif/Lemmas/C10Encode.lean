/-
C10 — encodings that keep an action set a set: one-hot / string encodings of categoricals, `Repr` on dense rows,
`Flatten`, affine `Noise`; and the plans `Noise` decides.
-/
import CobaVerif.Lemmas.C10
import CobaVerif.Lemmas.C10PyEq
namespace Coba.C10

theorem mapM'_distinct {f : Val → Except Err Val} {rows enc : List Val} (h : mapM' f rows = .ok enc)
    (hp : ∀ a b a' b', a ∈ rows → b ∈ rows → f a = .ok a' → f b = .ok b' → pyEq a' b' = pyEq a b)
    (hd : Distinct rows) : Distinct enc := by
  have hmap := mapM'_ok _ _ _ h
  intro i j a b hi hj
  obtain ⟨x, hx, hfx⟩ := getElem?_of_map_eq hmap i a hi
  obtain ⟨y, hy, hfy⟩ := getElem?_of_map_eq hmap j b hj
  rw [hp x y a b (List.mem_of_getElem? hx) (List.mem_of_getElem? hy) hfx hfy]
  exact hd i j _ _ hx hy

/-! ### one-hot and string encodings of categoricals are injective -/

theorem levelIndex_eq_findIdx? (s : String) (ls : List String) (off : Nat) :
    levelIndex s ls off = (ls.findIdx? (· == s)).map (· + off) :=
  eq_findIdx?_of_eqns _ (levelIndex s) (fun _ => rfl) (fun _ _ _ => rfl) ls off

theorem levelIndex_get {s : String} {ls : List String} {i : Nat} (h : levelIndex s ls 0 = some i) : ls[i]? = some s := by
  rw [levelIndex_eq_findIdx?, Option.map_eq_some_iff] at h
  obtain ⟨j, hj, rfl⟩ := h
  obtain ⟨hlt, hp, -⟩ := List.findIdx?_eq_some_iff_getElem.mp hj
  rw [Nat.add_zero, List.getElem?_eq_getElem hlt, eq_of_beq hp]

theorem levelIndex_injective {s t : String} {ls : List String} {i : Nat}
    (hs : levelIndex s ls 0 = some i) (ht : levelIndex t ls 0 = some i) : s = t :=
  Option.some.inj ((levelIndex_get hs).symm.trans (levelIndex_get ht))

theorem pyEqL_map (f g : Nat → Val) : ∀ xs : List Nat,
    pyEqL (xs.map f) (xs.map g) = xs.all (fun k => pyEq (f k) (g k))
  | [] => by simp [pyEqL]
  | x :: xs => by simp [pyEqL, pyEqL_map f g xs]

theorem pyEqL_onehotVec (n : Nat) (i j : Nat) (hi : i < n) :
    pyEqL (onehotVec i n) (onehotVec j n) = (i == j) := by
  unfold onehotVec
  rw [pyEqL_map]
  by_cases h : i = j
  · subst h
    simp [pyEq]
  · have : (i == j) = false := by simp [h]
    rw [this, List.all_eq_false]
    refine ⟨i, List.mem_range.mpr hi, ?_⟩
    have hji : (i == j) = false := by simp [h]
    simp [pyEq, hji]

theorem encodeValue_onehot {m : Mode} (hm : m ≠ .string) {s : String} {ls : List String} {a : Val}
    (ha : encodeValue m (.cat s ls) = .ok a) :
    ∃ i, levelIndex s ls 0 = some i ∧ a = .tuple (onehotVec i ls.length) := by
  cases m with
  | string => exact absurd rfl hm
  | _ =>
    simp only [encodeValue, onehotOf] at ha
    cases hi : levelIndex s ls 0 with
    | none => simp [hi] at ha
    | some i => simp [hi] at ha; exact ⟨i, rfl, ha.symm⟩

theorem encodeValue_pyEq {m : Mode} {s t : String} {ls : List String} {a b : Val}
    (ha : encodeValue m (.cat s ls) = .ok a) (hb : encodeValue m (.cat t ls) = .ok b) :
    pyEq a b = pyEq (.cat s ls) (.cat t ls) := by
  by_cases hm : m = .string
  · subst hm
    simp [encodeValue, strOf] at ha hb
    subst ha; subst hb
    simp [pyEq]
  · obtain ⟨i, hi, rfl⟩ := encodeValue_onehot hm ha
    obtain ⟨j, hj, rfl⟩ := encodeValue_onehot hm hb
    simp only [pyEq, pyEqL_onehotVec ls.length i j (List.getElem?_eq_some_iff.mp (levelIndex_get hi)).1]
    by_cases hst : s = t
    · subst hst
      rw [hi] at hj
      cases hj
      simp
    · have hij : i ≠ j := by
        intro e
        subst e
        exact hst (levelIndex_injective hi hj)
      rw [beq_eq_false_iff_ne.mpr hij, beq_eq_false_iff_ne.mpr hst]

theorem onehotVec_length (i n : Nat) : (onehotVec i n).length = n := by simp [onehotVec]

/-! ### `Repr` on dense rows -/

/-- the cell is replaced by its scalar encoding (`encodeValue`), spliced in flat under `onehot` -/
theorem encodeAt_list_cat {m : Mode} {xs : List Val} {n : Nat} {s : String} {l : List String} {e : Val}
    (hx : xs[n]? = some (.cat s l)) (h : encodeAt m (.list xs) (.i n) = .ok e) :
    ∃ v cell, encodeValue m (.cat s l) = .ok v ∧ (if m = .onehot then v = .tuple cell else cell = [v]) ∧
      e = .list (xs.take n ++ cell ++ xs.drop (n + 1)) := by
  have hn : n < xs.length := (List.getElem?_eq_some_iff.mp hx).1
  cases m with
  | string =>
    simp only [encodeAt, getItem, hx, strOf, setItem, hn, if_true] at h
    cases h
    exact ⟨.str s, [.str s], rfl, by simp, by simp [List.set_eq_take_append_cons_drop, hn]⟩
  | onehotTuple =>
    simp only [encodeAt, getItem, hx, onehotOf] at h
    cases hi : levelIndex s l 0 with
    | none => simp [hi] at h
    | some i =>
      simp only [hi, setItem, hn, if_true] at h
      cases h
      exact ⟨.tuple (onehotVec i l.length), [.tuple (onehotVec i l.length)], by simp [encodeValue, onehotOf, hi], by simp,
        by simp [List.set_eq_take_append_cons_drop, hn]⟩
  | onehot =>
    simp only [encodeAt, hx, onehotOf] at h
    cases hi : levelIndex s l 0 with
    | none => simp [hi] at h
    | some i =>
      simp only [hi] at h
      cases h
      exact ⟨.tuple (onehotVec i l.length), onehotVec i l.length, by simp [encodeValue, onehotOf, hi], by simp, rfl⟩

theorem sameCatAt_iff (xs ys : List Val) (n : Nat) :
    sameCatAt xs ys n = true ↔ ∃ s t l, xs[n]? = some (Val.cat s l) ∧ ys[n]? = some (Val.cat t l) := by
  unfold sameCatAt
  split
  · rename_i s l1 t l2 hx hy
    rw [beq_iff_eq]
    constructor
    · rintro rfl
      exact ⟨s, t, l1, hx, hy⟩
    · rintro ⟨s', t', l, h1, h2⟩
      rw [hx] at h1
      rw [hy] at h2
      cases h1
      cases h2
      rfl
  · rename_i hne
    refine ⟨fun h => Bool.noConfusion h, fun ⟨s, t, l, h1, h2⟩ => (hne _ _ _ _ h1 h2).elim⟩

theorem sameCatAt_eucl {fs xs ys : List Val} {n : Nat} (h1 : sameCatAt fs xs n = true) (h2 : sameCatAt fs ys n = true) :
    sameCatAt xs ys n = true := by
  obtain ⟨_, s, l, hf, hx⟩ := (sameCatAt_iff _ _ _).mp h1
  obtain ⟨_, t, l', hf', hy⟩ := (sameCatAt_iff _ _ _).mp h2
  rw [hf] at hf'; cases hf'
  exact (sameCatAt_iff _ _ _).mpr ⟨s, t, l, hx, hy⟩

theorem encodeAt_dense_pyEq (m : Mode) (xs ys : List Val) (n : Nat) (e1 e2 : Val)
    (hl : xs.length = ys.length) (hc : sameCatAt xs ys n = true)
    (h1 : encodeAt m (.list xs) (.i n) = .ok e1) (h2 : encodeAt m (.list ys) (.i n) = .ok e2) :
    ∃ xs' ys', e1 = .list xs' ∧ e2 = .list ys' ∧ xs'.length = ys'.length ∧ pyEqL xs' ys' = pyEqL xs ys ∧
      (∀ j, j < n → xs'[j]? = xs[j]? ∧ ys'[j]? = ys[j]?) := by
  obtain ⟨s, t, l, hx, hy⟩ := (sameCatAt_iff xs ys n).mp hc
  obtain ⟨v1, c1, hv1, hc1, rfl⟩ := encodeAt_list_cat hx h1
  obtain ⟨v2, c2, hv2, hc2, rfl⟩ := encodeAt_list_cat hy h2
  -- the two cells compare as the two categoricals, because the scalar encodings do
  have hcell : pyEqL c1 c2 = pyEq (.cat s l) (.cat t l) ∧ c1.length = c2.length := by
    rw [← encodeValue_pyEq hv1 hv2]
    by_cases hm : m = .onehot
    · subst hm
      simp only [if_true] at hc1 hc2
      obtain ⟨i, -, e1⟩ := encodeValue_onehot (by decide) hv1
      obtain ⟨j, -, e2⟩ := encodeValue_onehot (by decide) hv2
      obtain rfl : c1 = onehotVec i l.length := Val.tuple.inj (hc1.symm.trans e1)
      obtain rfl : c2 = onehotVec j l.length := Val.tuple.inj (hc2.symm.trans e2)
      subst e1; subst e2
      simp only [pyEq, onehotVec_length, and_self]
    · simp only [hm, if_false] at hc1 hc2
      subst hc1; subst hc2
      simp [pyEqL]
  have ltk : (xs.take n).length = (ys.take n).length := by simp [hl]
  refine ⟨_, _, rfl, rfl, by simp [hl, hcell.2], ?_, fun j hj => ?_⟩
  · rw [pyEqL_append _ _ _ _ (by simp [hl, hcell.2]), pyEqL_append _ _ _ _ ltk, hcell.1]
    conv => rhs; rw [list_split_at xs n _ hx, list_split_at ys n _ hy, pyEqL_append _ _ _ _ ltk, pyEqL_cons]
    rw [Bool.and_assoc]
  · have hnx : n < xs.length := (List.getElem?_eq_some_iff.mp hx).1
    have hjx : j < (xs.take n).length := by simp; omega
    have hjy : j < (ys.take n).length := by simp; omega
    simp [List.append_assoc, List.getElem?_append_left hjx, List.getElem?_append_left hjy, hj]

theorem sameCatAt_preserved {xs ys xs' ys' : List Val} {n n' : Nat} (hlt : n' < n)
    (h : ∀ j, j < n → xs'[j]? = xs[j]? ∧ ys'[j]? = ys[j]?) (hc : sameCatAt xs ys n' = true) :
    sameCatAt xs' ys' n' = true := by
  unfold sameCatAt at *
  rw [(h n' hlt).1, (h n' hlt).2]; exact hc

theorem descending_cons {a : Nat} {r : List Nat} (h : descending (a :: r) = true) :
    descending r = true ∧ ∀ b ∈ r, b < a := by
  induction r generalizing a with
  | nil => simp [descending]
  | cons b r ih =>
    simp only [descending, Bool.and_eq_true, decide_eq_true_eq] at h
    refine ⟨h.2, ?_⟩
    intro c hc
    cases hc with
    | head => exact h.1
    | tail _ hc' => exact Nat.lt_trans ((ih h.2).2 c hc') h.1

theorem encodeKeys_dense_pyEq (m : Mode) : ∀ (ns : List Nat) (xs ys : List Val) (e1 e2 : Val),
    descending ns = true → xs.length = ys.length → (∀ n ∈ ns, sameCatAt xs ys n = true) →
    encodeKeys m (.list xs) (ns.map CK.i) = .ok e1 → encodeKeys m (.list ys) (ns.map CK.i) = .ok e2 →
    ∃ xs' ys', e1 = .list xs' ∧ e2 = .list ys' ∧ pyEqL xs' ys' = pyEqL xs ys
  | [], xs, ys, e1, e2, _, _, _, h1, h2 => by
    simp [encodeKeys] at h1 h2
    exact ⟨xs, ys, h1.symm, h2.symm, rfl⟩
  | n :: ns, xs, ys, e1, e2, hd, hl, hc, h1, h2 => by
    simp only [List.map_cons, encodeKeys] at h1 h2
    cases ha : encodeAt m (.list xs) (.i n) with
    | error e => simp [ha] at h1
    | ok a =>
      cases hb : encodeAt m (.list ys) (.i n) with
      | error e => simp [hb] at h2
      | ok b =>
        simp only [ha, hb] at h1 h2
        obtain ⟨xs1, ys1, rfl, rfl, hl1, heq, hpres⟩ := encodeAt_dense_pyEq m xs ys n a b hl (hc n (by simp)) ha hb
        -- encoding the cell at `n` leaves the cells below `n` where they were: hence the keys in descending order
        obtain ⟨hd', hlt⟩ := descending_cons hd
        obtain ⟨xs', ys', r1, r2, heq'⟩ := encodeKeys_dense_pyEq m ns xs1 ys1 e1 e2 hd' hl1
          (fun n' hn' => sameCatAt_preserved (hlt n' hn') hpres (hc n' (by simp [hn']))) h1 h2
        exact ⟨xs', ys', r1, r2, heq'.trans heq⟩

theorem catset_flat_keys (m : Mode) (o : Val) (ns : List Nat) :
    catset m o (.l (ns.map CK.i)) = encodeKeys m o (ns.map CK.i) := by
  match ns with
  | [] => simp [catset]
  | [a] => simp [catset]
  | [a, b] => simp [catset]
  | a :: b :: c :: r => simp [catset]

theorem sameDenseCatShape_inv {ns : List Nat} {first r : Val} (h : sameDenseCatShape ns first r = true) :
    ∃ k fs xs, first = seqVal k fs ∧ r = seqVal k xs ∧ fs.length = xs.length ∧ ns.all (sameCatAt fs xs) = true := by
  unfold sameDenseCatShape at h
  split at h
  · rw [Bool.and_eq_true, beq_iff_eq] at h
    exact ⟨true, _, _, rfl, rfl, h⟩
  · rw [Bool.and_eq_true, beq_iff_eq] at h
    exact ⟨false, _, _, rfl, rfl, h⟩
  · cases h

theorem isCK_i_of_ckNats {c : CK} {r : List CK} {ns : List Nat} (h : ckNats (c :: r) = some ns) : isCK_i c = true := by
  cases c <;> simp [ckNats, isCK_i] at h ⊢

theorem ckNats_map : ∀ (cks : List CK) (ns : List Nat), ckNats cks = some ns → cks = ns.map CK.i
  | [], ns, h => by simp [ckNats] at h; subst h; rfl
  | .i n :: r, ns, h => by
    simp only [ckNats, Option.map_eq_some_iff] at h
    obtain ⟨ns', h', rfl⟩ := h
    simp [ckNats_map r ns' h']
  | .s _ :: r, ns, h => by simp [ckNats] at h
  | .l _ :: r, ns, h => by simp [ckNats] at h

theorem denseCatShapeB_inv {first : Val} {rest : List Val} (h : denseCatShapeB (first :: rest) = true) :
    ∃ n ns, catkey first = (n :: ns).map CK.i ∧ descending (n :: ns) = true ∧
      ∀ r ∈ first :: rest, sameDenseCatShape (n :: ns) first r = true := by
  simp only [denseCatShapeB] at h
  cases hk : ckNats (catkey first) with
  | none => simp [hk] at h
  | some ns =>
    cases ns with
    | nil => simp [hk] at h
    | cons n ns =>
      simp only [hk, Bool.and_eq_true] at h
      exact ⟨n, ns, ckNats_map _ _ hk, h.1, List.all_eq_true.mp h.2⟩

theorem encodeRows_seq (m : Mode) (k : Bool) (fs rest : List Val) (n : Nat) (ns : List Nat) (hk : catkey (seqVal k fs) = (n :: ns).map CK.i) :
    encodeRows (some m) (seqVal k fs :: rest) =
      mapM' (fun row => catset m (prepRow row) (.l ((n :: ns).map CK.i))) (seqVal k fs :: rest) := by
  simp only [encodeRows, isCollection_seqVal, if_true, hk, List.map_cons, isCK_i]

/-! ### `Flatten` -/

/-- the condition `sameNestShape` puts on a flagged cell -/
def sameCell (x y : Val) : Bool :=
  match x, y with
  | .tuple a, .tuple b => a.length == b.length
  | .list a, .list b => a.length == b.length
  | _, _ => false

theorem sameNestShape_cons (f : Bool) (fs : List Bool) (x y : Val) (xs ys : List Val) :
    sameNestShape (f :: fs) (x :: xs) (y :: ys) = ((if f then sameCell x y else true) && sameNestShape fs xs ys) := rfl

theorem sameCell_inv {x y : Val} (h : sameCell x y = true) : ∃ k a b, x = seqVal k a ∧ y = seqVal k b ∧ a.length = b.length := by
  unfold sameCell at h
  split at h
  · exact ⟨false, _, _, rfl, rfl, eq_of_beq h⟩
  · exact ⟨true, _, _, rfl, rfl, eq_of_beq h⟩
  · cases h

theorem sameCell_seqVal (k : Bool) (a b : List Val) : sameCell (seqVal k a) (seqVal k b) = (a.length == b.length) := by cases k <;> rfl

/-- every row is compared with the first one: two rows of its shape have one shape -/
theorem sameCell_eucl {a x y : Val} (h1 : sameCell a x = true) (h2 : sameCell a y = true) : sameCell x y = true := by
  obtain ⟨k, u, v, rfl, rfl, h⟩ := sameCell_inv h1
  obtain ⟨k', u', w, e, rfl, h'⟩ := sameCell_inv h2
  obtain ⟨rfl, rfl⟩ := seqVal_inj e
  rw [sameCell_seqVal, beq_iff_eq]
  exact h.symm.trans h'

theorem sameNestShape_eucl (flags : List Bool) (fs xs ys : List Val) :
    sameNestShape flags fs xs = true → sameNestShape flags fs ys = true → xs.length = fs.length → ys.length = fs.length →
    sameNestShape flags xs ys = true := by
  induction flags generalizing fs xs ys with
  | nil => intros; simp [sameNestShape]
  | cons f flags ih =>
    intro h1 h2 hx hy
    match fs, xs, ys, hx, hy with
    | [], [], [], _, _ => rfl
    | a :: fs, x :: xs, y :: ys, hx, hy =>
      rw [sameNestShape_cons, Bool.and_eq_true] at h1 h2 ⊢
      refine ⟨?_, ih fs xs ys h1.2 h2.2 (Nat.succ.inj hx) (Nat.succ.inj hy)⟩
      cases f with
      | false => rfl
      | true => exact sameCell_eucl h1.1 h2.1

theorem flattenShapeB_inv {first : Val} {rest : List Val} (h : flattenShapeB (first :: rest) = true) :
    ∃ k fs, first = seqVal k fs ∧ ∀ r ∈ first :: rest, ∃ xs, r = seqVal k xs ∧ xs.length = fs.length ∧
      sameNestShape (fs.map isFlattable) fs xs = true := by
  unfold flattenShapeB at h
  dsimp only at h
  split at h
  · rename_i fs
    refine ⟨true, fs, rfl, fun r hr => ?_⟩
    have := List.all_eq_true.mp h r hr
    split at this
    · rw [Bool.and_eq_true, beq_iff_eq] at this; exact ⟨_, rfl, this⟩
    · cases this
  · rename_i fs
    refine ⟨false, fs, rfl, fun r hr => ?_⟩
    have := List.all_eq_true.mp h r hr
    split at this
    · rw [Bool.and_eq_true, beq_iff_eq] at this; exact ⟨_, rfl, this⟩
    · cases this
  · cases h

/-- what `pipes.Flatten` does to one row of a stream whose first row is of kind `k` and has the flagged cells `flags` -/
def flattenRow (flags : List Bool) (k : Bool) (row : Val) : Except Err Val :=
  match iterItems row with
  | .error e => .error e
  | .ok items => match flatterList flags items with
    | .error e => .error e
    | .ok out => .ok (seqVal k out)

theorem flattenRows_seq (k : Bool) (fs rest : List Val) :
    flattenRows (seqVal k fs :: rest) = if !(fs.map isFlattable).any id then .ok (seqVal k fs :: rest)
      else mapM' (flattenRow (fs.map isFlattable) k) (seqVal k fs :: rest) := by
  cases k <;> rfl

theorem flattenRow_seq_ok {flags : List Bool} {k k' : Bool} {xs : List Val} {e : Val} (h : flattenRow flags k (seqVal k' xs) = .ok e) :
    ∃ o, flatterList flags xs = .ok o ∧ e = seqVal k o := by
  simp only [flattenRow, iterItems_seqVal] at h
  split at h
  · cases h
  · cases h; exact ⟨_, by assumption, rfl⟩

/-! ### `Noise` on numbers -/

theorem affine_injective (m b x y : Rat) (hm : m ≠ 0) : (x * m + b == y * m + b) = (x == y) := by
  by_cases h : x = y
  · subst h; simp
  · have : x * m + b ≠ y * m + b := by
      intro e
      have e1 := Rat.add_right_cancel b e
      have e2 : x * m / m = y * m / m := by rw [e1]
      rw [Rat.mul_div_cancel hm, Rat.mul_div_cancel hm] at e2
      exact h e2
    rw [beq_eq_false_iff_ne.mpr h, beq_eq_false_iff_ne.mpr this]

theorem noisesList_length (ns : Option NoiseSpec) (orc : List Rat) (as : List Val) : ∀ (o : List Rat) (as' : List Val),
    noisesList ns orc as = .ok (o, as') → as'.length = as.length := by
  fun_induction noisesList ns orc as with
  | case1 => intro o as' h; cases h; rfl
  | case2 | case3 => intro o as' h; cases h
  | case4 orc v vs orc1 v1 h1 orc2 vs2 h2 ih => intro o as' h; cases h; rw [List.length_cons, ih orc2 vs2 h2]; rfl

theorem noisesList_affine_nums (m b : Rat) : ∀ (orc : List Rat) (xs : List Rat),
    noisesList (some (.affine m b)) orc (xs.map Val.num) = .ok (orc, xs.map fun x => Val.num (x * m + b))
  | orc, [] => by simp [noisesList]
  | orc, x :: xs => by
    simp [noisesList, noises, denseItems, noise1, noisesList_affine_nums m b orc xs]

theorem distinct_nums_map (f : Rat → Rat) (hf : ∀ x y, (f x == f y) = (x == y)) (xs : List Rat)
    (hd : Distinct (xs.map Val.num)) : Distinct (xs.map fun x => Val.num (f x)) := by
  have := distinct_map (f := fun v => match v with | .num x => .num (f x) | v => v) (fun a ha b hb => ?_) hd
  · rwa [List.map_map] at this
  · obtain ⟨x, -, rfl⟩ := List.mem_map.mp ha
    obtain ⟨y, -, rfl⟩ := List.mem_map.mp hb
    simp only [pyEq, hf]

theorem noisesList_none : ∀ (orc : List Rat) (as : List Val), noisesList none orc as = .ok (orc, as)
  | orc, [] => by simp [noisesList]
  | orc, a :: as => by simp [noisesList, noises, noisesList_none orc as]

theorem nums_of_all_isNum : ∀ (as : List Val), as.all isNum = true → ∃ xs : List Rat, as = xs.map Val.num
  | [], _ => ⟨[], rfl⟩
  | a :: as, h => by
    simp only [List.all_cons, Bool.and_eq_true] at h
    obtain ⟨h1, h2⟩ := h
    obtain ⟨xs, rfl⟩ := nums_of_all_isNum as h2
    cases a with
    | num x => exact ⟨x :: xs, rfl⟩
    | _ => cases h1

/-! ### the plans of Noise -/

/-- the plan `Noise` decides for one interaction, given its noisy context and actions -/
def noisePlan (cfg : Cfg) (rC fC : Bool) (I : Inter) (ctx : Val) (acts : Option (List Val)) : Plan :=
  { context := ctx, actions := acts,
    action := if cfg.fixNoiseLogged then mapMember I.actions acts I.action I.action else I.action,
    polR := match I.rewards with
      | some _ => if rC then Policy.generic else Policy.toList
      | none => Policy.keep,
    polF := if cfg.fixNoiseFeedbacks && fC && I.actions.isSome && I.feedbacks.isSome then Policy.generic else Policy.keep }

theorem noisePlan_actions (cfg : Cfg) (rC fC : Bool) (I : Inter) (ctx : Val) (acts : Option (List Val)) :
    (noisePlan cfg rC fC I ctx acts).actions = acts := rfl

theorem noisePlans_go_cons {cfg : Cfg} {nc na : Option NoiseSpec} {rC fC : Bool} {orc : List Rat} {I : Inter} {rest : List Inter}
    {ps : List Plan} (h : noisePlans.go cfg nc na rC fC orc (I :: rest) = .ok ps) :
    ∃ ctx orc1 orc2 acts ps', (I.actions = none → acts = none) ∧
      (∀ o, I.actions = some o → ∃ n, noisesList na orc1 o = .ok (orc2, n) ∧ acts = some n) ∧
      noisePlans.go cfg nc na rC fC orc2 rest = .ok ps' ∧ ps = noisePlan cfg rC fC I ctx acts :: ps' := by
  rw [noisePlans.go] at h
  cases h1 : noises nc orc I.context with
  | error e => rw [h1] at h; cases h
  | ok x =>
    obtain ⟨orc1, ctx⟩ := x
    rw [h1] at h
    simp only at h
    split at h
    · cases h
    · rename_i orc2 acts h2
      split at h
      · cases h
      · rename_i ps' h3
        cases h
        refine ⟨ctx, orc1, orc2, acts, ps', fun hn => ?_, fun o ho => ?_, h3, rfl⟩
        · rw [hn] at h2; cases h2; rfl
        · rw [ho] at h2
          simp only at h2
          split at h2
          · rename_i n hn; cases h2; exact ⟨n, hn, rfl⟩
          · cases h2

theorem noise_plan_hyp (rC fC : Bool) (I : Inter) (ctx : Val) (acts : Option (List Val))
    (hhom : ∀ r, I.feedbacks = some r → r.isCallable = true → fC = true)
    (hact : I.actions = none → I.rewards = none) (hnone : I.actions = none → acts = none)
    (hsome : ∀ o, I.actions = some o → ∃ n, acts = some n ∧ n.length = o.length ∧ Distinct n) :
    planHypB I (noisePlan Cfg.fixed rC fC I ctx acts) = true := by
  cases hacts : I.actions with
  | none =>
    exact planHypB_none hacts (hnone hacts) (by simp [noisePlan, hact hacts]) (by simp [noisePlan, hacts])
  | some o =>
    obtain ⟨n, rfl, hlen, hdn⟩ := hsome o hacts
    have hd := (distinctB_iff _).mpr hdn
    refine planHypB_some hacts rfl hlen.symm ?_ ?_ ?_
    · cases hr : I.rewards with
      | none => rfl
      | some r => cases rC <;> simp [noisePlan, hr, targetHypB, hd]
    · refine targetHypB_discrete_or_keep (.inl rfl) hd (fun hb f hf => obsEq_of_not_callable ?_ _ _)
      cases hcal : f.isCallable with
      | false => rfl
      | true => simp [Cfg.fixed, hacts, hf, hhom f hf hcal] at hb
    · cases ha : I.action with
      | none => simp [noisePlan, Cfg.fixed, mapMember, ha, loggedHypB]
      | some a =>
        cases hk : indexOf o a with
        | none => simp [noisePlan, Cfg.fixed, mapMember, hacts, ha, hk, loggedHypB]
        | some k =>
          have hkl : k < n.length := by rw [hlen]; exact indexOf_lt hk
          have hb : n[k]? = some n[k] := List.getElem?_eq_getElem hkl
          have : (noisePlan Cfg.fixed rC fC I ctx (some n)).action = some n[k] := by
            simp only [noisePlan, Cfg.fixed, if_true, hacts, ha, mapMember_spec (some a) hk hb]
          rw [this]
          exact loggedHypB_of_member hd (fun k' hk' => by rw [hk] at hk'; cases hk'; exact hb)

theorem noise_go_actions (cfg : Cfg) (nc na : Option NoiseSpec) (rC fC : Bool) (s : List Inter) :
    ∀ (orc : List Rat) (ps : List Plan), noisePlans.go cfg nc na rC fC orc s = .ok ps →
    ∀ p ∈ ps, ∀ as', p.actions = some as' → ∃ I ∈ s, ∃ as o o', I.actions = some as ∧ noisesList na o as = .ok (o', as') := by
  induction s with
  | nil => intro orc ps h p hp; cases h; cases hp
  | cons I rest ih =>
    intro orc ps h p hp as' hpa
    obtain ⟨ctx, orc1, orc2, acts, ps', hnone, hsome, h3, rfl⟩ := noisePlans_go_cons h
    rcases List.mem_cons.mp hp with rfl | hp'
    · rw [noisePlan_actions] at hpa
      cases hacts : I.actions with
      | none => rw [hnone hacts] at hpa; cases hpa
      | some o =>
        obtain ⟨n, hn, rfl⟩ := hsome o hacts
        cases hpa
        exact ⟨I, List.mem_cons_self .., o, orc1, orc2, hacts, hn⟩
    · obtain ⟨J, hJ, r⟩ := ih orc2 ps' h3 p hp' as' hpa
      exact ⟨J, List.mem_cons_of_mem _ hJ, r⟩

end Coba.C10
