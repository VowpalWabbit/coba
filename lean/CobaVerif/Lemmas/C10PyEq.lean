/-
C10 — Python's `==` on the value universe: reflexive, symmetric and transitive on values without SparseDense rows
(dicts by pigeonhole on unique keys), and on well-formed SparseDense rows the element-wise comparison.
First the association lists under dicts, SparseDense rows and Densify's table, read as `List.lookup`.
-/
import CobaVerif.Model.C10
namespace Coba.C10

/-! ### association lists (`lookupS`, `lookupN`, `assocGet`) are `List.lookup`; unique keys are `Nodup` -/

theorem lookup_mem {κ β} [BEq κ] [LawfulBEq κ] {l : List (κ × β)} {k : κ} {w : β} (h : l.lookup k = some w) : (k, w) ∈ l := by
  obtain ⟨l₁, l₂, rfl, -⟩ := List.lookup_eq_some_iff.mp h
  exact List.mem_append_right _ (List.mem_cons_self ..)

theorem lookup_of_nodup {κ β} [BEq κ] [LawfulBEq κ] : ∀ {l : List (κ × β)}, (l.map (·.1)).Nodup →
    ∀ {k : κ} {v : β}, (k, v) ∈ l → l.lookup k = some v
  | (k0, v0) :: r, hu, k, v, h => by
    rw [List.map_cons, List.nodup_cons] at hu
    rw [List.lookup_cons]
    cases h with
    | head => rw [beq_self_eq_true]
    | tail _ h' =>
      have hne : (k == k0) = false := beq_eq_false_iff_ne.mpr fun e => hu.1 (e ▸ List.mem_map_of_mem (f := (·.1)) h')
      rw [hne]
      exact lookup_of_nodup hu.2 h'

/-- the model writes its association lists out by hand, one copy per key and value type (`lookupS`, `lookupN`, `assocGet`) -/
theorem eq_lookup_of_eqns {κ β} [BEq κ] [LawfulBEq κ] (g : κ → List (κ × β) → Option β) (h0 : ∀ k, g k [] = none)
    (h1 : ∀ k k' v r, g k ((k', v) :: r) = if k' == k then some v else g k r) : ∀ (k : κ) (l : List (κ × β)), g k l = l.lookup k
  | k, [] => h0 k
  | k, (k', v) :: r => by
    rw [h1, List.lookup_cons, BEq.comm, eq_lookup_of_eqns g h0 h1 k r]
    cases k == k' <;> rfl

theorem lookupS_eq_lookup (k : String) (l : List (String × Val)) : lookupS k l = l.lookup k :=
  eq_lookup_of_eqns lookupS (fun _ => rfl) (fun _ _ _ _ => rfl) k l

theorem lookupN_eq_lookup (k : Nat) (l : List (Nat × Val)) : lookupN k l = l.lookup k :=
  eq_lookup_of_eqns lookupN (fun _ => rfl) (fun _ _ _ _ => rfl) k l

theorem assocGet_eq_lookup (k : String) (l : List (String × Nat)) : assocGet k l = l.lookup k :=
  eq_lookup_of_eqns assocGet (fun _ => rfl) (fun _ _ _ _ => rfl) k l

theorem assocGet_append_left (k : String) (i : Nat) (t ext : List (String × Nat)) (h : assocGet k t = some i) :
    assocGet k (t ++ ext) = some i := by
  rw [assocGet_eq_lookup] at h ⊢
  rw [List.lookup_append, h]
  rfl

theorem assocGet_append_none (k : String) (t ext : List (String × Nat)) (h : assocGet k t = none) :
    assocGet k (t ++ ext) = assocGet k ext := by
  rw [assocGet_eq_lookup] at h
  rw [assocGet_eq_lookup, assocGet_eq_lookup, List.lookup_append, h]
  rfl

/-- likewise `uniqKeys`, `natKeysUniq` -/
theorem eq_nodup_of_eqns {κ} [BEq κ] [LawfulBEq κ] (u : List κ → Bool) (h0 : u [] = true)
    (h1 : ∀ k ks, u (k :: ks) = (!ks.contains k && u ks)) : ∀ l : List κ, u l = true ↔ l.Nodup
  | [] => by simp [h0]
  | k :: ks => by simp [h1, eq_nodup_of_eqns u h0 h1 ks]

theorem uniqKeys_iff_nodup (l : List String) : uniqKeys l = true ↔ l.Nodup := eq_nodup_of_eqns uniqKeys rfl (fun _ _ => rfl) l
theorem natKeysUniq_iff_nodup (l : List Nat) : natKeysUniq l = true ↔ l.Nodup := eq_nodup_of_eqns natKeysUniq rfl (fun _ _ => rfl) l

/-- likewise `wfNoLazyL`, `wfNoLazyD`, `pyEqD`, `pyEqZ` -/
theorem eq_all_of_eqns {α} (p : α → Bool) (g : List α → Bool) (h0 : g [] = true) (h1 : ∀ x xs, g (x :: xs) = (p x && g xs)) :
    ∀ xs, g xs = xs.all p
  | [] => h0
  | x :: xs => by rw [h1, List.all_cons, eq_all_of_eqns p g h0 h1 xs]

theorem lookupS_of_uniq (kvs : List (String × Val)) (hu : uniqKeys (kvs.map (·.1)) = true) (k : String) (v : Val)
    (h : (k, v) ∈ kvs) : lookupS k kvs = some v :=
  (lookupS_eq_lookup k kvs).trans (lookup_of_nodup ((uniqKeys_iff_nodup _).mp hu) h)

theorem lookupS_mem (d : List (String × Val)) (k : String) (w : Val) (h : lookupS k d = some w) : (k, w) ∈ d :=
  lookup_mem ((lookupS_eq_lookup k d).symm.trans h)

theorem lookupN_of_uniq (kvs : List (Nat × Val)) (hu : natKeysUniq (kvs.map (·.1)) = true) (k : Nat) (v : Val)
    (h : (k, v) ∈ kvs) : lookupN k kvs = some v :=
  (lookupN_eq_lookup k kvs).trans (lookup_of_nodup ((natKeysUniq_iff_nodup _).mp hu) h)

theorem lookupN_mem (d : List (Nat × Val)) (k : Nat) (w : Val) (h : lookupN k d = some w) : (k, w) ∈ d :=
  lookup_mem ((lookupN_eq_lookup k d).symm.trans h)

/-! ### equations of the list comparison -/

theorem pyEqL_nil_left (ys : List Val) : pyEqL [] ys = ys.isEmpty := by simp [pyEqL]
theorem pyEqL_cons (x : Val) (xs : List Val) (y : Val) (ys : List Val) :
    pyEqL (x :: xs) (y :: ys) = (pyEq x y && pyEqL xs ys) := by simp [pyEqL]
theorem pyEqL_cons_nil (x : Val) (xs : List Val) : pyEqL (x :: xs) [] = false := by simp [pyEqL]

theorem pyEqL_append : ∀ (a a' b b' : List Val), a.length = a'.length →
    pyEqL (a ++ b) (a' ++ b') = (pyEqL a a' && pyEqL b b')
  | [], a', b, b', h => by
    cases a' with
    | nil => simp [pyEqL]
    | cons _ _ => simp at h
  | x :: a, a', b, b', h => by
    cases a' with
    | nil => simp at h
    | cons y a' =>
      simp only [List.cons_append, pyEqL_cons, pyEqL_append a a' b b' (by simpa using h), Bool.and_assoc]

theorem pyEqL_length_ne : ∀ (a b : List Val), a.length ≠ b.length → pyEqL a b = false
  | [], b, h => by cases b <;> simp_all [pyEqL]
  | x :: a, b, h => by
    cases b with
    | nil => simp [pyEqL]
    | cons y b => simp [pyEqL_cons, pyEqL_length_ne a b (by simpa using h)]

/-! ### lists and tuples -/

/-- A Python list (`true`) or tuple (`false`) with the items `xs`: the shape predicates of Flatten and Repr hand out rows in this
form, so that no proof branches on the kind. -/
def seqVal (isList : Bool) (xs : List Val) : Val := if isList then .list xs else .tuple xs

theorem pyEq_seqVal (k : Bool) (a b : List Val) : pyEq (seqVal k a) (seqVal k b) = pyEqL a b := by
  cases k <;> simp [seqVal, pyEq]

theorem iterItems_seqVal (k : Bool) (a : List Val) : iterItems (seqVal k a) = .ok a := by cases k <;> rfl

theorem prepRow_seqVal (k : Bool) (a : List Val) : prepRow (seqVal k a) = .list a := by cases k <;> rfl

theorem isCollection_seqVal (k : Bool) (a : List Val) : isCollection (seqVal k a) = true := by cases k <;> rfl

theorem seqVal_inj {k k' : Bool} {a a' : List Val} (h : seqVal k a = seqVal k' a') : k = k' ∧ a = a' := by
  cases k <;> cases k' <;> cases h <;> exact ⟨rfl, rfl⟩

/-! ### reflexive on values without SparseDense rows -/

-- `termination_by structural` and `unfold pyEq at h; split at h` in the mutual blocks of this file: as for `Val.same_sound`
-- (`Lemmas/C10.lean`).
mutual
theorem pyEq_refl_wf : ∀ (a : Val), wfNoLazy a = true → pyEq a a = true
  | .none, _ => by simp [pyEq]
  | .num q, _ => by simp [pyEq]
  | .str s, _ => by simp [pyEq]
  | .cat s l, _ => by simp [pyEq]
  | .list xs, h => by simp only [wfNoLazy] at h; simp [pyEq, pyEqL_refl_wf xs h]
  | .tuple xs, h => by simp only [wfNoLazy] at h; simp [pyEq, pyEqL_refl_wf xs h]
  | .dict kvs, h => by
    simp only [wfNoLazy, Bool.and_eq_true] at h
    simp [pyEq, pyEqD_refl_wf kvs kvs h.2 (fun k v hm => lookupS_of_uniq kvs h.1 k v hm)]
  | .lazy _ _, h => by simp [wfNoLazy] at h
termination_by structural x => x
theorem pyEqL_refl_wf : ∀ (xs : List Val), wfNoLazyL xs = true → pyEqL xs xs = true
  | [], _ => by simp [pyEqL]
  | x :: xs, h => by
    simp only [wfNoLazyL, Bool.and_eq_true] at h
    simp [pyEqL_cons, pyEq_refl_wf x h.1, pyEqL_refl_wf xs h.2]
termination_by structural x => x
theorem pyEqD_refl_wf : ∀ (r d : List (String × Val)), wfNoLazyD r = true →
    (∀ k v, (k, v) ∈ r → lookupS k d = some v) → pyEqD r d = true
  | [], d, _, _ => by simp [pyEqD]
  | (k, v) :: r, d, h, hl => by
    simp only [wfNoLazyD, Bool.and_eq_true] at h
    simp [pyEqD, hl k v (by simp), pyEq_refl_wf v h.1, pyEqD_refl_wf r d h.2 (fun k' v' hm => hl k' v' (by simp [hm]))]
termination_by structural x => x
end

/-! ### an equivalence on values without SparseDense rows

One induction gives `a == b → a == c → b == c`; with reflexivity that is symmetry and transitivity. `dict.__eq__` only walks the left
operand: unique keys and equal lengths (pigeonhole) make up for it. -/

/-- the test `pyEqD` and `pyEqZ` make for one entry: the other side has a value there, and it is equal -/
def eqSome (v : Val) (o : Option Val) : Bool := match o with | some w => pyEq v w | none => false

theorem eqSome_iff {v : Val} {o : Option Val} : eqSome v o = true ↔ ∃ w, o = some w ∧ pyEq v w = true := by
  cases o <;> simp [eqSome]

theorem pyEqD_eq_all (d e : List (String × Val)) : pyEqD d e = d.all fun p => eqSome p.2 (lookupS p.1 e) :=
  eq_all_of_eqns _ (pyEqD · e) (by simp [pyEqD]) (fun ⟨k, _⟩ _ => by simp only [pyEqD, eqSome]; cases lookupS k e <;> rfl) d

theorem pyEqD_iff (d e : List (String × Val)) :
    pyEqD d e = true ↔ ∀ k w, (k, w) ∈ d → ∃ u, lookupS k e = some u ∧ pyEq w u = true := by
  rw [pyEqD_eq_all, List.all_eq_true]
  exact ⟨fun h k w hm => eqSome_iff.mp (h (k, w) hm), fun h p hm => eqSome_iff.mpr (h p.1 p.2 hm)⟩

theorem wfNoLazyL_mem (l : List Val) (h : wfNoLazyL l = true) : ∀ x ∈ l, wfNoLazy x = true := by
  rwa [eq_all_of_eqns wfNoLazy wfNoLazyL (by simp [wfNoLazyL]) (fun _ _ => by simp [wfNoLazyL]), List.all_eq_true] at h

theorem wfNoLazyD_mem (d : List (String × Val)) (h : wfNoLazyD d = true) (k : String) (w : Val) (hm : (k, w) ∈ d) : wfNoLazy w = true := by
  rw [eq_all_of_eqns (fun p => wfNoLazy p.2) wfNoLazyD (by simp [wfNoLazyD]) (fun _ _ => by simp [wfNoLazyD]), List.all_eq_true] at h
  exact h (k, w) hm

/-- `Categorical` is a `str` subclass: it compares as its string -/
theorem pyEq_cat_eq_str (s : String) (l : List String) (x : Val) : pyEq (.cat s l) x = pyEq (.str s) x := by
  cases x <;> simp only [pyEq]

theorem pyEq_str_eucl {s : String} {b c : Val} (hb : wfNoLazy b = true) (h1 : pyEq (.str s) b = true)
    (h2 : pyEq (.str s) c = true) : pyEq b c = true := by
  unfold pyEq at h1
  split at h1
  · rw [← eq_of_beq h1]
    exact h2
  · rw [← eq_of_beq h1, pyEq_cat_eq_str]
    exact h2
  · cases hb
  · cases h1

theorem uniq_subset_length (l1 l2 : List String) (hu : uniqKeys l1 = true) (hs : ∀ k ∈ l1, k ∈ l2) : l1.length ≤ l2.length :=
  ((uniqKeys_iff_nodup l1).mp hu).length_le_of_subset hs

/-- pigeonhole -/
theorem uniq_subset_eq_length_superset (l1 l2 : List String) (hu : uniqKeys l1 = true) (hs : ∀ k ∈ l1, k ∈ l2)
    (hl : l1.length = l2.length) : ∀ k ∈ l2, k ∈ l1 := by
  intro k hk
  apply Classical.byContradiction
  intro hn
  have hsub : ∀ k' ∈ l1, k' ∈ l2.erase k := by
    intro k' hk'
    have hne : k' ≠ k := fun e => hn (e ▸ hk')
    exact (List.mem_erase_of_ne hne).mpr (hs k' hk')
  have := uniq_subset_length l1 (l2.erase k) hu hsub
  have hl2 := List.length_erase_of_mem hk
  have hpos : 0 < l2.length := List.length_pos_of_mem hk
  omega

theorem keys_subset_of_lookupS {d e : List (String × Val)} {P : Val → Val → Prop}
    (h : ∀ k w, (k, w) ∈ d → ∃ u, lookupS k e = some u ∧ P w u) : ∀ k ∈ d.map (·.1), k ∈ e.map (·.1) := by
  intro k hk
  obtain ⟨⟨k0, w⟩, hm, rfl⟩ := List.mem_map.mp hk
  obtain ⟨u, hu, _⟩ := h k0 w hm
  exact List.mem_map_of_mem (f := (·.1)) (lookupS_mem e k0 u hu)

theorem dict_eucl_core (kvs d e : List (String × Val)) (hu1 : uniqKeys (kvs.map (·.1)) = true) (hu2 : uniqKeys (d.map (·.1)) = true)
    (hlen : kvs.length = d.length) (h1 : pyEqD kvs d = true) (h2 : pyEqD kvs e = true)
    (key : ∀ k v w u, (k, v) ∈ kvs → (k, w) ∈ d → (k, u) ∈ e → pyEq v w = true → pyEq v u = true → pyEq w u = true) :
    pyEqD d e = true := by
  refine (pyEqD_iff _ _).mpr ?_
  intro k w hm
  -- every key of `d` is one of `kvs`: the keys of `kvs` are among those of `d`, and there are as many
  have hk : k ∈ kvs.map (·.1) :=
    uniq_subset_eq_length_superset _ _ hu1 (keys_subset_of_lookupS ((pyEqD_iff kvs d).mp h1)) (by simpa using hlen) k
      (List.mem_map_of_mem (f := (·.1)) hm)
  obtain ⟨⟨k1, v⟩, hmv, rfl⟩ := List.mem_map.mp hk
  obtain ⟨w', hw', hvw⟩ := (pyEqD_iff kvs d).mp h1 k1 v hmv
  rw [lookupS_of_uniq d hu2 k1 w hm] at hw'
  cases hw'
  obtain ⟨u, hu, hvu⟩ := (pyEqD_iff kvs e).mp h2 k1 v hmv
  exact ⟨u, hu, key k1 v w u hmv hm (lookupS_mem e k1 u hu) hvw hvu⟩

mutual
theorem pyEq_eucl : ∀ (a b c : Val), wfNoLazy a = true → wfNoLazy b = true → wfNoLazy c = true →
    pyEq a b = true → pyEq a c = true → pyEq b c = true
  | .none, b, c, _, _, _, h1, h2 => by
    unfold pyEq at h1
    split at h1
    · exact h2
    · cases h1
  | .num q, b, c, _, _, _, h1, h2 => by
    unfold pyEq at h1
    split at h1
    · rw [← eq_of_beq h1]
      exact h2
    · cases h1
  | .str s, b, c, _, hb, _, h1, h2 => pyEq_str_eucl hb h1 h2
  | .cat s l, b, c, _, hb, _, h1, h2 => by
    rw [pyEq_cat_eq_str] at h1 h2
    exact pyEq_str_eucl hb h1 h2
  | .list xs, b, c, ha, hb, hc, h1, h2 | .tuple xs, b, c, ha, hb, hc, h1, h2 => by
    unfold pyEq at h1
    split at h1
    · unfold pyEq at h2
      split at h2
      · unfold pyEq
        exact pyEqL_eucl xs _ _ ha hb hc h1 h2
      · cases hc
      · cases h2
    · cases hb
    · cases h1
  | .dict kvs, b, c, ha, hb, hc, h1, h2 => by
    unfold pyEq at h1
    split at h1
    · unfold pyEq at h2
      split at h2
      · unfold pyEq
        simp only [wfNoLazy, Bool.and_eq_true] at ha hb hc
        simp only [Bool.and_eq_true, beq_iff_eq] at h1 h2 ⊢
        exact ⟨h1.1.symm.trans h2.1, dict_eucl_core kvs _ _ ha.1 hb.1 h1.1 h1.2 h2.2 (pyEqD_eucl kvs _ _ ha.2 hb.2 hc.2)⟩
      · cases hc
      · cases h2
    · cases hb
    · cases h1
  | .lazy _ _, _, _, ha, _, _, _, _ => by simp [wfNoLazy] at ha
termination_by structural x => x
theorem pyEqL_eucl : ∀ (xs ys zs : List Val), wfNoLazyL xs = true → wfNoLazyL ys = true → wfNoLazyL zs = true →
    pyEqL xs ys = true → pyEqL xs zs = true → pyEqL ys zs = true
  | [], ys, zs, _, _, _, h1, h2 => by
    cases ys with
    | nil => exact h2
    | cons y ys => simp [pyEqL] at h1
  | x :: xs, ys, zs, ha, hb, hc, h1, h2 => by
    cases ys with
    | nil => simp [pyEqL] at h1
    | cons y ys =>
      cases zs with
      | nil => simp [pyEqL] at h2
      | cons z zs =>
        simp only [wfNoLazyL, Bool.and_eq_true] at ha hb hc
        simp only [pyEqL_cons, Bool.and_eq_true] at h1 h2 ⊢
        exact ⟨pyEq_eucl x y z ha.1 hb.1 hc.1 h1.1 h2.1, pyEqL_eucl xs ys zs ha.2 hb.2 hc.2 h1.2 h2.2⟩
termination_by structural x => x
theorem pyEqD_eucl : ∀ (r d e : List (String × Val)), wfNoLazyD r = true → wfNoLazyD d = true → wfNoLazyD e = true →
    ∀ k v w u, (k, v) ∈ r → (k, w) ∈ d → (k, u) ∈ e → pyEq v w = true → pyEq v u = true → pyEq w u = true
  | [], _, _, _, _, _, _, _, _, _, hm, _, _, _, _ => by cases hm
  | (k0, v0) :: r, d, e, ha, hb, hc, k, v, w, u, hm, hd, he, h1, h2 => by
    simp only [wfNoLazyD, Bool.and_eq_true] at ha
    rcases List.mem_cons.mp hm with heq | hm'
    · cases heq
      exact pyEq_eucl v0 w u ha.1 (wfNoLazyD_mem d hb k0 w hd) (wfNoLazyD_mem e hc k0 u he) h1 h2
    · exact pyEqD_eucl r d e ha.2 hb hc k v w u hm' hd he h1 h2
termination_by structural x => x
end

theorem pyEq_symm_imp : ∀ (a b : Val), wfNoLazy a = true → wfNoLazy b = true → pyEq a b = true → pyEq b a = true :=
  fun a b ha hb h => pyEq_eucl a b a ha hb ha h (pyEq_refl_wf a ha)

theorem pyEqL_symm_imp : ∀ (xs ys : List Val), wfNoLazyL xs = true → wfNoLazyL ys = true → pyEqL xs ys = true → pyEqL ys xs = true :=
  fun xs ys hx hy h => pyEqL_eucl xs ys xs hx hy hx h (pyEqL_refl_wf xs hx)

theorem pyEqD_symm_imp : ∀ (r d : List (String × Val)), wfNoLazyD r = true → wfNoLazyD d = true →
    ∀ k v w, (k, v) ∈ r → (k, w) ∈ d → pyEq v w = true → pyEq w v = true :=
  fun r d hr hd k v w hv hw h => pyEq_symm_imp v w (wfNoLazyD_mem r hr k v hv) (wfNoLazyD_mem d hd k w hw) h

theorem pyEq_symm_wf' (a b : Val) (ha : wfNoLazy a = true) (hb : wfNoLazy b = true) : pyEq a b = pyEq b a := by
  cases h1 : pyEq a b with
  | true => exact (pyEq_symm_imp a b ha hb h1).symm
  | false =>
    cases h2 : pyEq b a with
    | false => rfl
    | true => rw [pyEq_symm_imp b a hb ha h2] at h1; cases h1

theorem pyEq_trans_wf : ∀ (a b c : Val), wfNoLazy a = true → wfNoLazy b = true → wfNoLazy c = true →
    pyEq a b = true → pyEq b c = true → pyEq a c = true :=
  fun a b c ha hb hc h1 h2 => pyEq_eucl b a c hb ha hc (pyEq_symm_imp a b ha hb h1) h2

theorem pyEqL_trans_wf : ∀ (xs ys zs : List Val), wfNoLazyL xs = true → wfNoLazyL ys = true → wfNoLazyL zs = true →
    pyEqL xs ys = true → pyEqL ys zs = true → pyEqL xs zs = true :=
  fun xs ys zs hx hy hz h1 h2 => pyEqL_eucl ys xs zs hy hx hz (pyEqL_symm_imp xs ys hx hy h1) h2

theorem pyEqD_trans_wf : ∀ (r d e : List (String × Val)), wfNoLazyD r = true → wfNoLazyD d = true → wfNoLazyD e = true →
    pyEqD r d = true → pyEqD d e = true → pyEqD r e = true := by
  intro r d e hr hd he h1 h2
  refine (pyEqD_iff r e).mpr fun k v hm => ?_
  obtain ⟨w, hw, hvw⟩ := (pyEqD_iff r d).mp h1 k v hm
  have hmw := lookupS_mem d k w hw
  obtain ⟨u, hu, hwu⟩ := (pyEqD_iff d e).mp h2 k w hmw
  exact ⟨u, hu, pyEq_trans_wf v w u (wfNoLazyD_mem r hr k v hm) (wfNoLazyD_mem d hd k w hmw)
    (wfNoLazyD_mem e he k u (lookupS_mem e k u hu)) hvw hwu⟩

/-! ### the dense fragment (no dict, no SparseDense inside) is part of the lazy-free one -/

mutual
theorem wfNoLazy_of_denseOnly : ∀ (a : Val), denseOnly a = true → wfNoLazy a = true
  | .none, _ => by simp only [wfNoLazy]
  | .num _, _ => by simp only [wfNoLazy]
  | .str _, _ => by simp only [wfNoLazy]
  | .cat _ _, _ => by simp only [wfNoLazy]
  | .list xs, h | .tuple xs, h => by
    simp only [denseOnly] at h
    simp only [wfNoLazy, wfNoLazyL_of_denseOnlyL xs h]
  | .dict _, h => by simp [denseOnly] at h
  | .lazy _ _, h => by simp [denseOnly] at h
termination_by structural x => x
theorem wfNoLazyL_of_denseOnlyL : ∀ (xs : List Val), denseOnlyL xs = true → wfNoLazyL xs = true
  | [], _ => by simp only [wfNoLazyL]
  | x :: xs, h => by
    simp only [denseOnlyL, Bool.and_eq_true] at h
    simp only [wfNoLazyL, wfNoLazy_of_denseOnly x h.1, wfNoLazyL_of_denseOnlyL xs h.2, Bool.and_self]
termination_by structural x => x
end

theorem pyEq_refl_dense : ∀ (a : Val), denseOnly a = true → pyEq a a = true :=
  fun a h => pyEq_refl_wf a (wfNoLazy_of_denseOnly a h)

theorem pyEqL_refl_dense : ∀ (xs : List Val), denseOnlyL xs = true → pyEqL xs xs = true :=
  fun xs h => pyEqL_refl_wf xs (wfNoLazyL_of_denseOnlyL xs h)

theorem pyEqL_symm_dense : ∀ (xs ys : List Val), denseOnlyL xs = true → denseOnlyL ys = true → pyEqL xs ys = pyEqL ys xs :=
  fun xs ys hx hy => by
    have h := pyEq_symm_wf' (.list xs) (.list ys) (by simp only [wfNoLazy, wfNoLazyL_of_denseOnlyL xs hx])
      (by simp only [wfNoLazy, wfNoLazyL_of_denseOnlyL ys hy])
    simpa only [pyEq] using h

/-! ### SparseDense rows: `==` is the element-wise comparison -/

theorem pyEq_num_zero (y : Val) : pyEq (.num 0) y = isZero y := by
  cases y <;> simp [pyEq, isZero, BEq.comm (a := (0 : Rat))]

theorem pyEq_zero_num (x : Val) (hx : wfNoLazy x = true) : pyEq x (.num 0) = isZero x :=
  (pyEq_symm_wf' x (.num 0) hx rfl).trans (pyEq_num_zero x)

theorem forall_getElem?_cons {α} (P : Nat → α → Prop) (i : Nat) (a : α) (xs : List α) :
    (∀ j x, (a :: xs)[j]? = some x → P (i + j) x) ↔ P i a ∧ ∀ j x, xs[j]? = some x → P (i + 1 + j) x := by
  constructor
  · intro h
    refine ⟨h 0 a rfl, fun j x hj => ?_⟩
    rw [Nat.add_right_comm, Nat.add_assoc]
    exact h (j + 1) x hj
  · rintro ⟨h0, h⟩ j x hj
    cases j with
    | zero => cases hj; exact h0
    | succ j =>
      rw [← Nat.add_assoc, Nat.add_right_comm]
      exact h j x hj

theorem pyEqIdx_iff : ∀ (xs : List Val) (i : Nat) (kvs : List (Nat × Val)),
    pyEqIdx xs i kvs = true ↔ ∀ j x, xs[j]? = some x → pyEq x (lazyAt kvs (i + j)) = true
  | [], i, kvs => by simp [pyEqIdx]
  | x :: xs, i, kvs => by
    simp only [pyEqIdx, Bool.and_eq_true, pyEqIdx_iff xs (i + 1) kvs]
    exact (forall_getElem?_cons (fun k x => pyEq x (lazyAt kvs k) = true) i x xs).symm

theorem pyEqZ_iff (kvs : List (Nat × Val)) (ys : List Val) :
    pyEqZ kvs ys = true ↔ ∀ k v, (k, v) ∈ kvs → ∃ w, ys[k]? = some w ∧ pyEq v w = true := by
  rw [eq_all_of_eqns (fun p => eqSome p.2 ys[p.1]?) (pyEqZ · ys) (by simp [pyEqZ])
    (fun ⟨k, _⟩ _ => by simp only [pyEqZ, eqSome]; cases ys[k]? <;> rfl), List.all_eq_true]
  exact ⟨fun h k v hm => eqSome_iff.mp (h (k, v) hm), fun h p hm => eqSome_iff.mpr (h p.1 p.2 hm)⟩

theorem zerosMatch_iff : ∀ (kvs : List (Nat × Val)) (i : Nat) (ys : List Val),
    zerosMatch kvs i ys = true ↔ ∀ j y, ys[j]? = some y → ((lookupN (i + j) kvs).isSome = true ∨ isZero y = true)
  | kvs, i, [] => by simp [zerosMatch]
  | kvs, i, y :: ys => by
    simp only [zerosMatch, Bool.and_eq_true, Bool.or_eq_true, zerosMatch_iff kvs (i + 1) ys]
    exact (forall_getElem?_cons (fun k y => (lookupN k kvs).isSome = true ∨ isZero y = true) i y ys).symm

theorem lazyWf_mem {kvs : List (Nat × Val)} {n : Nat} (h : lazyWf kvs n = true) {k : Nat} {v : Val} (hm : (k, v) ∈ kvs) :
    k < n ∧ wfNoLazy v = true ∧ lookupN k kvs = some v := by
  simp only [lazyWf, Bool.and_eq_true, List.all_eq_true, decide_eq_true_eq] at h
  exact ⟨(h.2 _ hm).1, (h.2 _ hm).2, lookupN_of_uniq kvs h.1 k v hm⟩

theorem lazyAt_wf {kvs : List (Nat × Val)} {n : Nat} (h : lazyWf kvs n = true) (i : Nat) : wfNoLazy (lazyAt kvs i) = true := by
  unfold lazyAt
  cases hl : lookupN i kvs with
  | none => simp [wfNoLazy]
  | some v => simpa using (lazyWf_mem h (lookupN_mem kvs i v hl)).2.1

/-- `SparseDense == sequence` checks the stored values, then that the rest of the sequence is zero -/
theorem lazy_eq_seq_iff (kvs : List (Nat × Val)) (n : Nat) (ys : List Val) (hw : lazyWf kvs n = true) (hl : ys.length = n) :
    (pyEqZ kvs ys && zerosMatch kvs 0 ys) = true ↔ ∀ i y, ys[i]? = some y → pyEq (lazyAt kvs i) y = true := by
  simp only [Bool.and_eq_true, pyEqZ_iff, zerosMatch_iff, Nat.zero_add]
  constructor
  · rintro ⟨hz, h0⟩ i y hy
    unfold lazyAt
    cases hk : lookupN i kvs with
    | some v =>
      obtain ⟨w, hw', hvw⟩ := hz i v (lookupN_mem kvs i v hk)
      rw [hy] at hw'; cases hw'; simpa using hvw
    | none =>
      rcases h0 i y hy with h | h
      · simp [hk] at h
      · simpa [pyEq_num_zero] using h
  · intro h
    refine ⟨fun k v hm => ?_, fun j y hy => ?_⟩
    · obtain ⟨hlt, _, hlk⟩ := lazyWf_mem hw hm
      have hlt' : k < ys.length := by omega
      refine ⟨ys[k], by simp [hlt'], ?_⟩
      have := h k ys[k] (by simp [hlt'])
      simpa [lazyAt, hlk] using this
    · cases hk : lookupN j kvs with
      | some v => simp
      | none =>
        right
        have := h j y hy
        simpa [lazyAt, hk, pyEq_num_zero] using this

theorem expand_getElem? (kvs : List (Nat × Val)) (n i : Nat) : (expand kvs n)[i]? = if i < n then some (lazyAt kvs i) else none := by
  unfold expand
  by_cases h : i < n <;> simp [h]

theorem expand_length (kvs : List (Nat × Val)) (n : Nat) : (expand kvs n).length = n := by simp [expand]

/-- `SparseDense == list/tuple` in both operand orders -/
theorem pyEq_symm_lazy_seq (kvs : List (Nat × Val)) (n : Nat) (xs : List Val) (hw : lazyWf kvs n = true) (hx : wfNoLazyL xs = true) :
    (xs.length == n && pyEqIdx xs 0 kvs) = (xs.length == n && pyEqZ kvs xs && zerosMatch kvs 0 xs) := by
  by_cases hl : xs.length = n
  · have hmem : ∀ (i : Nat) (x : Val), xs[i]? = some x → wfNoLazy x = true :=
      fun i x hi => wfNoLazyL_mem xs hx x (List.mem_of_getElem? hi)
    have e1 : (xs.length == n) = true := by simpa using hl
    rw [e1, Bool.true_and, Bool.and_assoc, Bool.true_and]
    rw [Bool.eq_iff_iff, pyEqIdx_iff, lazy_eq_seq_iff kvs n xs hw hl]
    simp only [Nat.zero_add]
    constructor
    · intro h i y hy
      rw [pyEq_symm_wf' _ _ (lazyAt_wf hw i) (hmem i y hy)]; exact h i y hy
    · intro h i y hy
      rw [pyEq_symm_wf' _ _ (hmem i y hy) (lazyAt_wf hw i)]; exact h i y hy
  · have e1 : (xs.length == n) = false := by simpa using hl
    simp [e1]

theorem pyEq_lazy_lazy_iff (k1 k2 : List (Nat × Val)) (n1 n2 : Nat) (h1 : lazyWf k1 n1 = true) :
    pyEq (.lazy k1 n1) (.lazy k2 n2) = true ↔ n2 = n1 ∧ ∀ i, i < n1 → pyEq (lazyAt k1 i) (lazyAt k2 i) = true := by
  simp only [pyEq, denseItems, expand_length, Bool.and_eq_true, beq_iff_eq, Bool.and_assoc]
  constructor
  · rintro ⟨hn, h⟩
    subst hn
    have := (lazy_eq_seq_iff k1 n2 (expand k2 n2) h1 (expand_length _ _)).mp (by simpa using h)
    refine ⟨rfl, fun i hi => this i _ (by simp [expand_getElem?, hi])⟩
  · rintro ⟨hn, h⟩
    subst hn
    refine ⟨rfl, ?_⟩
    have := (lazy_eq_seq_iff k1 n2 (expand k2 n2) h1 (expand_length _ _)).mpr (by
      intro i y hy
      rw [expand_getElem?] at hy
      by_cases hi : i < n2
      · simp only [hi, if_true, Option.some.injEq] at hy; subst hy; exact h i hi
      · simp [hi] at hy)
    simpa using this

theorem wfRow_cases {a : Val} (h : wfRow a = true) :
    (∃ k n, a = .lazy k n ∧ lazyWf k n = true) ∨ wfNoLazy a = true := by
  cases a with
  | lazy k n => exact .inl ⟨k, n, rfl, h⟩
  | _ => exact .inr h

theorem pyEq_lazy_comm (k : List (Nat × Val)) (n : Nat) (x : Val) (hk : lazyWf k n = true) (hx : wfNoLazy x = true) :
    pyEq (.lazy k n) x = pyEq x (.lazy k n) := by
  cases x with
  | list xs | tuple xs =>
    simp only [wfNoLazy] at hx
    simp only [pyEq, denseItems, pyEq_symm_lazy_seq k n xs hk hx]
  | lazy _ _ => simp [wfNoLazy] at hx
  | _ => simp [pyEq, denseItems]

end Coba.C10
