/-
C11 — `Impute`: the imputation is the documented statistic of the non-missing window values (`getImp_sound`,
`getImp_isSome_iff`), the cell formulas of the dense and sparse application loops, the indicator keys, and the sparse
default-zero completion of a window column.
-/
import CobaVerif.Lemmas.C11
import Mathlib.Data.List.Induction

namespace Coba.C11

/-! ### the imputation statistic -/

/-- the non-missing (neither `None` nor `nan`) values of a column -/
abbrev present (w : List Val) : List Val := w.filter (fun v => !v.isMiss)

theorem getImp_sound {st : Stat} {w : List Val} {m : Val} (h : getImp st w = some m) :
    ImpStat st (present w) m := by
  cases st with
  | mode => exact mode_isMode h
  | mean =>
    simp only [getImp] at h
    split at h
    · simp only [Option.map_eq_some_iff] at h
      obtain ⟨q, hq, rfl⟩ := h
      obtain ⟨h1, h2⟩ := mean_sound hq
      exact ⟨h1, by rw [h2]⟩
    · simp at h
  | median =>
    simp only [getImp] at h
    split at h
    · simp only [Option.map_eq_some_iff] at h
      obtain ⟨q, hq, rfl⟩ := h
      exact ⟨q, median_isMedian hq, rfl⟩
    · simp at h

theorem nums_ne_nil {vs : List Val} (hne : vs ≠ []) (hall : vs.all Val.isNum = true) : nums vs ≠ [] := by
  cases vs with
  | nil => exact absurd rfl hne
  | cons a l =>
    cases a with
    | num q => simp [nums, Val.num?]
    | nan => simp [Val.isNum] at hall
    | nil => simp [Val.isNum] at hall
    | str s => simp [Val.isNum] at hall

theorem getImp_isSome {st : Stat} {w : List Val} (h : Imputable st w) : ∃ m, getImp st w = some m := by
  obtain ⟨hne, hall⟩ := h
  cases st with
  | mode => exact mode_isSome hne
  | mean =>
    simp only at hall
    obtain ⟨q, hq⟩ := mean_isSome (nums_ne_nil hne hall)
    exact ⟨.num q, by simp [getImp, hall, hq]⟩
  | median =>
    simp only at hall
    obtain ⟨q, hq⟩ := median_isSome (nums_ne_nil hne hall)
    exact ⟨.num q, by simp [getImp, hall, hq]⟩

theorem getImp_imputable {st : Stat} {w : List Val} {m : Val} (h : getImp st w = some m) : Imputable st w := by
  unfold getImp at h
  refine ⟨fun he => ?_, ?_⟩
  · -- the statistic of no data is `none`
    simp only [he] at h
    cases st <;> simp [mode, modeAux, nums, mean, median_nil] at h
  · cases st with
    | mode => trivial
    | _ =>
      by_contra hall
      simp only [hall] at h
      cases h

theorem getImp_isSome_iff (st : Stat) (w : List Val) : (getImp st w).isSome = true ↔ Imputable st w := by
  constructor
  · intro h
    obtain ⟨m, hm⟩ := Option.isSome_iff_exists.1 h
    exact getImp_imputable hm
  · intro h
    obtain ⟨m, hm⟩ := getImp_isSome h
    rw [hm]; rfl

theorem imputeCell_nonmiss (imp : Option Val) (v : Val) (h : v.isMiss = false) : imputeCell imp v = v := by
  cases imp <;> simp [imputeCell, h]

theorem imputeCell_miss_some (x v : Val) (h : v.isMiss = true) : imputeCell (some x) v = x := by
  simp [imputeCell, h]

theorem imputeCell_spec {st : Stat} {w : List Val} (himp : Imputable st w) {v : Val} (hmiss : v.isMiss = true) :
    ImpStat st (present w) (imputeCell (getImp st w) v) := by
  obtain ⟨m, hm⟩ := getImp_isSome himp
  rw [hm, imputeCell_miss_some m v hmiss]
  exact getImp_sound hm

/-! ### dense contexts -/

theorem imputeDense_rows (st : Stat) (ind : Bool) (u : Option Nat) (rows : List (List Val)) (first : List Val)
    (hfirst : rows.head? = some first) :
    imputeDense st ind u rows = rows.map (imputeDenseRow st ind first (window u rows)) := by
  obtain ⟨rest, rfl⟩ := List.head?_eq_some_iff.1 hfirst
  rfl

theorem imputeDenseRow_cell (st : Stat) (ind : Bool) (first : List Val) (win : List (List Val)) (row : List Val)
    (k : Nat) (v : Val) (hv : row[k]? = some v) :
    (imputeDenseRow st ind first win row)[k]? = some (imputeCell (denseImp st first win k) v) := by
  have hk : k < row.length := (List.getElem?_eq_some_iff.1 hv).1
  unfold imputeDenseRow
  rw [List.getElem?_append_left (by rwa [List.length_mapIdx]), List.getElem?_mapIdx, hv]
  rfl

theorem imputeDense_cell (st : Stat) (ind : Bool) (u : Option Nat) (rows : List (List Val)) (first : List Val)
    (i k : Nat) (v : Val) (hfirst : rows.head? = some first) (hv : denseCell rows i k = some v) :
    denseCell (imputeDense st ind u rows) i k = some (imputeCell (denseImp st first (window u rows) k) v) := by
  obtain ⟨row, hr, hv⟩ := Option.bind_eq_some_iff.1 hv
  rw [imputeDense_rows st ind u rows first hfirst, denseCell_map, hr]
  exact imputeDenseRow_cell st ind first _ row k v hv

theorem imputeDenseRow_length (st : Stat) (ind : Bool) (first : List Val) (win : List (List Val)) (row : List Val) :
    (imputeDenseRow st ind first win row).length = row.length + (denseBins ind first win).length := by
  simp [imputeDenseRow]

theorem imputeDenseRow_bit (st : Stat) (ind : Bool) (first : List Val) (win : List (List Val)) (row : List Val)
    (j k : Nat) (hj : (denseBins ind first win)[j]? = some k) :
    (imputeDenseRow st ind first win row)[row.length + j]? = some (bit (missAt row[k]?)) := by
  unfold imputeDenseRow
  rw [List.getElem?_append_right (by rw [List.length_mapIdx]; exact Nat.le_add_right _ _), List.length_mapIdx,
    Nat.add_sub_cancel_left, List.getElem?_map, hj]
  rfl

theorem mem_denseBins (ind : Bool) (first : List Val) (win : List (List Val)) (k : Nat) :
    k ∈ denseBins ind first win ↔ (ind = true ∧ k < first.length ∧ (col k win).any Val.isMiss = true) := by
  unfold denseBins
  cases ind with
  | false => simp
  | true => simp [List.mem_filter]

/-- unless `using = 0` the first context lies in the window, so a string in its cell `k` would be among the non-missing
window values of column `k` -/
theorem potDense_of_numeric_window (first : List Val) (rows : List (List Val)) (u : Option Nat) (k : Nat)
    (hfirst : rows.head? = some first) (hu : u ≠ some 0) (hk : k < first.length)
    (hall : (present (col k (window u rows))).all Val.isNum = true) : potDense first k = true := by
  obtain ⟨rest, rfl⟩ := List.head?_eq_some_iff.1 hfirst
  obtain ⟨tl, htl⟩ := window_cons u first rest hu
  have hget : first[k]? = some first[k] := List.getElem?_eq_getElem hk
  rw [htl, col, List.filterMap_cons, hget] at hall
  unfold potDense
  rw [hget]
  cases hv : first[k] with
  | str s =>
    rw [hv, present, List.filter_cons_of_pos (by rfl), List.all_cons] at hall
    exact absurd hall Bool.false_ne_true
  | num q => rfl
  | nan => rfl
  | nil => rfl

theorem impDense_of_imputable (st : Stat) (first : List Val) (rows : List (List Val)) (u : Option Nat) (k : Nat)
    (hfirst : rows.head? = some first) (hu : u ≠ some 0) (hk : k < first.length)
    (himp : Imputable st (col k (window u rows))) : impDense st first k = true := by
  cases st with
  | mode => simpa [impDense] using hk
  | mean => exact potDense_of_numeric_window first rows u k hfirst hu hk himp.2
  | median => exact potDense_of_numeric_window first rows u k hfirst hu hk himp.2

/-! ### sparse contexts -/

theorem imputeSparse_rows (st : Stat) (ind : Bool) (u : Option Nat) (rows : List SCtx) (first : SCtx)
    (hfirst : rows.head? = some first) :
    imputeSparse st ind u rows = rows.map (imputeSparseRow st ind first (window u rows)) := by
  obtain ⟨rest, rfl⟩ := List.head?_eq_some_iff.1 hfirst
  rfl

theorem lookup_upsert (c : SCtx) (k k' : String) (v : Val) :
    (upsert c k' v).lookup k = if k == k' then some v else c.lookup k := by
  induction c with
  | nil =>
    simp only [upsert, List.lookup]
    cases h : k == k' <;> simp
  | cons kv rest ih =>
    obtain ⟨a, b⟩ := kv
    simp only [upsert]
    by_cases hak : (a == k') = true
    · have e1 : a = k' := by simpa using hak
      subst e1
      simp only [beq_self_eq_true, if_true, List.lookup]
      cases h : k == a <;> simp
    · simp only [hak, Bool.false_eq_true, if_false, List.lookup]
      cases h : k == a with
      | true =>
        have e1 : k = a := by simpa using h
        subst e1
        have : (k == k') = false := by simpa using hak
        simp [this]
      | false => simpa using ih

theorem lookup_foldl_upsert (nm : String → String) (bins : List String) (g : String → Val) (c : SCtx) (k : String)
    (hfresh : ∀ b ∈ bins, nm b ≠ k) :
    (bins.foldl (fun acc b => upsert acc (nm b) (g b)) c).lookup k = c.lookup k := by
  induction bins generalizing c with
  | nil => rfl
  | cons b rest ih =>
    rw [List.foldl_cons, ih _ (fun b' hb' => hfresh b' (List.mem_cons_of_mem _ hb')), lookup_upsert,
      if_neg (fun h => hfresh b List.mem_cons_self (beq_iff_eq.1 h).symm)]

theorem lookup_foldl_upsert_mem (nm : String → String) (hnm : Function.Injective nm) (bins : List String) (g : String → Val)
    (c : SCtx) (b : String) (hb : b ∈ bins) :
    (bins.foldl (fun acc b => upsert acc (nm b) (g b)) c).lookup (nm b) = some (g b) := by
  induction bins using List.reverseRecOn with
  | nil => cases hb
  | append_singleton init last ih =>
    rw [List.foldl_append, List.foldl_cons, List.foldl_nil, lookup_upsert]
    by_cases h : (nm b == nm last) = true
    · rw [if_pos h, hnm (beq_iff_eq.1 h)]
    · rw [if_neg h]
      rcases List.mem_append.1 hb with h1 | h1
      · exact ih h1
      · rw [List.mem_singleton.1 h1, beq_self_eq_true] at h
        exact absurd rfl h

theorem imputeSparseRow_cell (st : Stat) (ind : Bool) (first : SCtx) (win : List SCtx) (c : SCtx)
    (k : String) (v : Val) (hv : c.lookup k = some v)
    (hfresh : ∀ b ∈ sparseBins ind win, b ++ "_is_missing" ≠ k) :
    (imputeSparseRow st ind first win c).lookup k = some (imputeCell (sparseImp st first win k) v) := by
  unfold imputeSparseRow
  rw [lookup_foldl_upsert (· ++ "_is_missing") _ _ _ _ hfresh]
  rw [lookup_map_val (g := fun k v => imputeCell (sparseImp st first win k) v) c k, hv]
  rfl

theorem imputeSparse_cell (st : Stat) (ind : Bool) (u : Option Nat) (rows : List SCtx) (first : SCtx)
    (i : Nat) (k : String) (v : Val) (hfirst : rows.head? = some first) (hv : sparseCell rows i k = some v)
    (hfresh : ∀ b ∈ sparseBins ind (window u rows), b ++ "_is_missing" ≠ k) :
    sparseCell (imputeSparse st ind u rows) i k = some (imputeCell (sparseImp st first (window u rows) k) v) := by
  obtain ⟨c, hr, hv⟩ := Option.bind_eq_some_iff.1 hv
  rw [imputeSparse_rows st ind u rows first hfirst, sparseCell_map, hr]
  exact imputeSparseRow_cell st ind first _ c k v hv hfresh

/-! ### sparse indicator keys -/

theorem hasKey_iff (k : String) (c : SCtx) : hasKey k c = true ↔ k ∈ c.map Prod.fst := by
  rw [hasKey, List.lookup_isSome_iff, List.mem_map]
  exact ⟨fun ⟨p, hp, hk⟩ => ⟨p, hp, (beq_iff_eq.1 hk).symm⟩, fun ⟨p, hp, hk⟩ => ⟨p, hp, beq_iff_eq.2 hk.symm⟩⟩

theorem mem_foldl_keys (k : String) (c : SCtx) (acc : List String) :
    k ∈ c.foldl (fun a kv => if a.contains kv.1 then a else kv.1 :: a) acc ↔ k ∈ acc ∨ k ∈ c.map Prod.fst := by
  induction c generalizing acc with
  | nil => simp
  | cons kv c ih =>
    simp only [List.foldl_cons, List.map_cons, List.mem_cons]
    rw [ih]
    by_cases hc : acc.contains kv.1 = true
    · have hmem : kv.1 ∈ acc := by simpa using hc
      simp only [hc, if_true]
      exact ⟨Or.imp_right Or.inr, fun h => h.elim Or.inl (fun h => h.elim (fun e => Or.inl (e ▸ hmem)) Or.inr)⟩
    · simp only [hc, Bool.false_eq_true, if_false, List.mem_cons]
      exact or_assoc.trans or_left_comm

theorem mem_seenKeys (k : String) (cs : List SCtx) (acc : List String) :
    k ∈ seenKeys cs acc ↔ k ∈ acc ∨ cs.any (hasKey k) = true := by
  induction cs generalizing acc with
  | nil => simp [seenKeys]
  | cons c cs ih =>
    simp only [seenKeys, List.any_cons, Bool.or_eq_true]
    rw [ih, mem_foldl_keys, hasKey_iff, or_assoc]

theorem mem_sparseBins (ind : Bool) (win : List SCtx) (k : String) :
    k ∈ sparseBins ind win ↔
      (ind = true ∧ win.any (hasKey k) = true ∧ (win.filterMap (fun c => c.lookup k)).any Val.isMiss = true) := by
  unfold sparseBins
  cases ind with
  | false => simp
  | true =>
    simp only [if_true, List.mem_filter, mem_seenKeys, List.not_mem_nil, false_or, true_and]

/-! ### lists of statistics -/

theorem envImpute_nil' (ind : Bool) (u : Option Nat) (c : Ctxs) : envImpute [] ind u c = c := rfl

theorem envImpute_cons' (st : Stat) (stats : List Stat) (ind : Bool) (u : Option Nat) (c : Ctxs) :
    envImpute (st :: stats) ind u c = envImpute stats ind u (imputeCtxs st ind u c) := rfl

/-! ### the sparse default-zero completion -/

theorem sparseCol_perm (k : String) (win : List SCtx) : (sparseCol k win).Perm (win.map (getD0 k)) := by
  have : getD0 k = fun c => (c.lookup k).getD (.num 0) := funext fun c => by rw [getD0]; cases c.lookup k <;> rfl
  rw [this]
  exact filterMap_append_replicate_perm _ _ win

theorem perm_present {a b : List Val} (h : a.Perm b) : (present a).Perm (present b) := h.filter _

theorem perm_nums {a b : List Val} (h : a.Perm b) : (nums a).Perm (nums b) := h.filterMap _

theorem impStat_perm {st : Stat} {a b : List Val} (h : a.Perm b) {m : Val} (hm : ImpStat st a m) : ImpStat st b m := by
  cases st with
  | mode => exact isMode_perm h hm
  | mean =>
    obtain ⟨h1, h2⟩ := hm
    have hp := perm_nums h
    refine ⟨fun hb => h1 (by rw [hb] at hp; exact hp.eq_nil), ?_⟩
    rw [h2, sumL_eq_sum, sumL_eq_sum, hp.sum_eq, hp.length_eq]
  | median =>
    obtain ⟨q, hq, rfl⟩ := hm
    exact ⟨q, isMedian_perm (perm_nums h) hq, rfl⟩

end Coba.C11
