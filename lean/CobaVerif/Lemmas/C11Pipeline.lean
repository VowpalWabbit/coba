/-
C11 — filter objects, collections of environments and generators: each machine of the model that threads the
bookkeeping state (`_times`, suspended frames) simulates a stateless function of the configuration.
-/
import CobaVerif.Model.C11

namespace Coba.C11

/-! ### generic list lemmas -/

/-- A generator that has yielded `k` rows is suspended on the frame `rows.drop k`, a cursor at `k` reads `rows[k]?`. -/
theorem drop_nil_or_cons {α : Type} (rows : List α) (k : Nat) :
    (rows[k]? = none ∧ rows.drop k = []) ∨ ∃ r, rows[k]? = some r ∧ rows.drop k = r :: rows.drop (k + 1) := by
  cases h : rows[k]? with
  | none => exact .inl ⟨rfl, List.drop_eq_nil_iff.2 (List.getElem?_eq_none_iff.1 h)⟩
  | some r =>
    obtain ⟨hlt, rfl⟩ := List.getElem?_eq_some_iff.1 h
    exact .inr ⟨_, rfl, List.drop_eq_getElem_cons hlt⟩

theorem set_same {α : Type} (l : List α) (g : Nat) (a : α) (h : l[g]? = some a) : l.set g a = l := by
  obtain ⟨hlt, rfl⟩ := List.getElem?_eq_some_iff.1 h
  exact List.set_getElem_self hlt

/-! ### filter objects keep no fitted state -/

theorem Obj.call_cfg {κ α β : Type} (f : κ → α → β) (o : Obj κ) (dt : List Nat) (x : α) :
    (o.call f dt x).1.cfg = o.cfg ∧ (o.call f dt x).2 = f o.cfg x := ⟨rfl, rfl⟩

theorem Obj.run_spec {κ α β : Type} (f : κ → α → β) (o : Obj κ) (calls : List (List Nat × α)) :
    (Obj.run f o calls).1.cfg = o.cfg ∧ (Obj.run f o calls).2 = calls.map (fun c => f o.cfg c.2) := by
  induction calls generalizing o with
  | nil => exact ⟨rfl, rfl⟩
  | cons c rest ih =>
    obtain ⟨dt, x⟩ := c
    simp only [Obj.run, List.map_cons]
    obtain ⟨h1, h2⟩ := ih (o.call f dt x).1
    exact ⟨h1, by rw [h2]; rfl⟩

theorem pipe_error {κ : Type} (f : κ → Ctxs → Except Err Ctxs) (cfgs : List κ) (e : Err) :
    pipe f cfgs (.error e) = .error e := by
  induction cfgs with
  | nil => rfl
  | cons k ks ih => simpa [pipe, List.foldl_cons, Except.bind] using ih

theorem pipeRun_spec {κ : Type} (f : κ → Ctxs → Except Err Ctxs) (dt : List Nat) (os : List (Obj κ))
    (r : Except Err Ctxs) :
    (pipeRun f dt os r).1.map (·.cfg) = os.map (·.cfg) ∧ (pipeRun f dt os r).2 = pipe f (os.map (·.cfg)) r := by
  induction os generalizing r with
  | nil => exact ⟨rfl, rfl⟩
  | cons o os ih =>
    cases r with
    | error e => exact ⟨rfl, (pipe_error f _ e).symm⟩
    | ok c =>
      simp only [pipeRun, List.map_cons]
      obtain ⟨h1, h2⟩ := ih (o.call f dt c).2
      refine ⟨by rw [h1]; rfl, ?_⟩
      rw [h2]
      simp [pipe, List.foldl_cons, Obj.call, Except.bind]

theorem Coll.read_spec {κ : Type} (f : κ → Ctxs → Except Err Ctxs) (c : Coll κ) (dt : List Nat) (i : Nat) :
    (c.read f dt i).1.srcs = c.srcs ∧ (c.read f dt i).1.objs.map (·.cfg) = c.objs.map (·.cfg) ∧
    (c.read f dt i).2 = (c.srcs[i]?).map (fun src => pipe f (c.objs.map (·.cfg)) (.ok src)) := by
  unfold Coll.read
  cases h : c.srcs[i]? with
  | none => exact ⟨rfl, rfl, rfl⟩
  | some src =>
    obtain ⟨h1, h2⟩ := pipeRun_spec f dt c.objs (.ok src)
    exact ⟨rfl, h1, by simp [h2]⟩

/-! ### generators -/

/-- one-step simulation; `hc`, `hg` say that the generator state is the cursor list `cs` made concrete -/
theorem GenSt.step_cur {κ : Type} (f : κ → Ctxs → Except Err Ctxs) (srcs : List Ctxs) (s : GenSt κ) (cs : List Cur)
    (dt : List Nat) (op : GenOp) (cfgs : List κ) (hc : s.objs.map (·.cfg) = cfgs)
    (hg : s.gens = cs.map (Cur.conc (pipeRows f cfgs))) :
    (s.step f srcs dt op).2 = (curStep (pipeRows f cfgs) srcs cs op).2 ∧
    (s.step f srcs dt op).1.objs.map (·.cfg) = cfgs ∧
    (s.step f srcs dt op).1.gens = (curStep (pipeRows f cfgs) srcs cs op).1.map (Cur.conc (pipeRows f cfgs)) := by
  cases op with
  | openG i =>
    simp only [GenSt.step, curStep]
    cases srcs[i]? with
    | none => exact ⟨rfl, hc, hg⟩
    | some src => exact ⟨rfl, hc, by simp [hg, Cur.conc]⟩
  | close g =>
    simp only [GenSt.step, curStep, hg, List.getElem?_map]
    cases cs[g]? with
    | none => exact ⟨rfl, hc, by simp [hg]⟩
    | some c => exact ⟨rfl, hc, by simp [List.map_set, Cur.conc]⟩
  | next g =>
    simp only [GenSt.step, curStep, hg, List.getElem?_map]
    cases hcg : cs[g]? with
    | none => exact ⟨rfl, hc, by simp [hg]⟩
    | some c =>
      obtain ⟨src, pos⟩ := c
      cases pos with
      | none => simp [Cur.conc, hc, hg]
      | some k =>
        cases k with
        | zero =>
          obtain ⟨h1, h2⟩ := pipeRun_spec f dt s.objs (.ok src)
          simp only [Option.map_some, Cur.conc, pipeRows]
          rw [h2, hc]
          cases hp : pipe f cfgs (.ok src) with
          | error e => simp [Except.map, List.map_set, Cur.conc, h1, hc]
          | ok c =>
            simp only [Except.map]
            cases hr : c.rowList with
            | nil => simp [List.map_set, Cur.conc, h1, hc]
            | cons r rest => simp [List.map_set, Cur.conc, h1, hc, pipeRows, hp, Except.map, hr]
        | succ k =>
          simp only [Option.map_some, Cur.conc]
          cases hF : pipeRows f cfgs src with
          | error e =>
            have hd : (List.map (Cur.conc (pipeRows f cfgs)) cs)[g]? = some Gen.done := by
              simp [List.getElem?_map, hcg, Cur.conc, hF]
            simp [Cur.conc, hc, hg, set_same _ _ _ hd]
          | ok rows =>
            simp only []
            obtain ⟨hk, hd⟩ | ⟨r, hk, hd⟩ := drop_nil_or_cons rows (k + 1)
            · simp [hk, hd, List.map_set, Cur.conc, hc]
            · simp [hk, hd, List.map_set, Cur.conc, hc, hF]

/-! ### the cursor machine -/

theorem curStep_footprint (F : Ctxs → Except Err (List Row)) (srcs : List Ctxs) (cs : List Cur) (op : GenOp) :
    (curStep F srcs cs op).1 = cs ∨ (∃ c, (curStep F srcs cs op).1 = cs ++ [c]) ∨
    ∃ g c, (op = .next g ∨ op = .close g) ∧ (curStep F srcs cs op).1 = cs.set g c := by
  cases op with
  | openG i =>
    simp only [curStep]
    cases srcs[i]? with
    | none => exact Or.inl rfl
    | some src => exact Or.inr (Or.inl ⟨_, rfl⟩)
  | close g =>
    simp only [curStep]
    cases cs[g]? with
    | none => exact Or.inl rfl
    | some c => exact Or.inr (Or.inr ⟨g, _, Or.inr rfl, rfl⟩)
  | next g =>
    simp only [curStep]
    cases cs[g]? with
    | none => exact Or.inl rfl
    | some c =>
      obtain ⟨src, pos⟩ := c
      cases pos with
      | none => exact Or.inl rfl
      | some k =>
        dsimp only
        cases F src with
        | error e => exact Or.inr (Or.inr ⟨g, _, Or.inl rfl, rfl⟩)
        | ok rows =>
          dsimp only
          cases rows[k]? with
          | none => exact Or.inr (Or.inr ⟨g, _, Or.inl rfl, rfl⟩)
          | some r => exact Or.inr (Or.inr ⟨g, _, Or.inl rfl, rfl⟩)

end Coba.C11
