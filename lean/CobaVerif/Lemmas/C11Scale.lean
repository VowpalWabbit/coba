/-
C11 — `Scale`: the fitted parameters are the documented statistics (`fit_sound`, `fit_isSome`), which exception the fit
raises (`fitE_error_iff`), `std` inside ℚ, the cell formulas of the dense and sparse application loops, scalar and sparse
contexts as dense ones (one-feature rows, `embed`), rectangular data against ragged rows, and `ScaleCfg.tuple`, the
form in which `defaults_match_source` (Props) compares configurations.
-/
import CobaVerif.Lemmas.C11

namespace Coba.C11

/-! ### the fitted parameters -/

theorem shiftValue_sound {sh : Shift} {xs : List Rat} {s : Rat} (h : shiftValue sh xs = some s) :
    ShiftStat sh xs s := by
  cases sh with
  | num a => simp only [shiftValue, Option.some.injEq] at h; exact h.symm
  | min =>
    simp only [shiftValue, Option.map_eq_some_iff] at h
    obtain ⟨m, hm, rfl⟩ := h
    exact ⟨m, minL_isMin hm, rfl⟩
  | mean =>
    simp only [shiftValue, Option.map_eq_some_iff] at h
    obtain ⟨m, hm, rfl⟩ := h
    obtain ⟨h1, h2⟩ := mean_sound hm
    exact ⟨h1, by rw [h2]⟩
  | median =>
    simp only [shiftValue, Option.map_eq_some_iff] at h
    obtain ⟨m, hm, rfl⟩ := h
    exact ⟨m, median_isMedian hm, rfl⟩

theorem shiftValue_isSome (sh : Shift) (xs : List Rat)
    (h : match sh with | .num _ => True | _ => xs ≠ []) : ∃ s, shiftValue sh xs = some s := by
  cases sh with
  | num a => exact ⟨a, rfl⟩
  | min => obtain ⟨m, hm⟩ := minL_isSome h; exact ⟨-m, by simp [shiftValue, hm]⟩
  | mean => obtain ⟨m, hm⟩ := mean_isSome h; exact ⟨-m, by simp [shiftValue, hm]⟩
  | median => obtain ⟨m, hm⟩ := median_isSome h; exact ⟨-m, by simp [shiftValue, hm]⟩

theorem scaleValue_sound {sd : List Rat → Rat} {sc : Scl} {xs : List Rat} {s f : Rat}
    (h : scaleValue sd sc xs s = some f) : ScaleStat sd sc xs s f := by
  simp only [scaleValue, Option.map_eq_some_iff] at h
  obtain ⟨nd, hnd, rfl⟩ := h
  cases sc with
  | num b =>
    simp only [scaleNumDen, Option.some.injEq] at hnd
    subst hnd
    refine ⟨1, rfl, ?_⟩
    simp only [guardDiv]
    norm_num
  | minmax =>
    simp only [scaleNumDen] at hnd
    split at hnd
    · rename_i mx mn hmx hmn
      simp only [Option.some.injEq] at hnd
      subst hnd
      exact ⟨mx - mn, ⟨mn, mx, minL_isMin hmn, maxL_isMax hmx, rfl⟩, (mul_one _).symm⟩
    · simp at hnd
  | std =>
    simp only [scaleNumDen] at hnd
    split at hnd
    · simp at hnd
    · rename_i hl
      simp only [Option.some.injEq] at hnd
      subst hnd
      exact ⟨sd xs, ⟨by omega, rfl⟩, (mul_one _).symm⟩
  | iqr =>
    simp only [scaleNumDen, Option.map_eq_some_iff] at hnd
    obtain ⟨d, hd, rfl⟩ := hnd
    exact ⟨d, iqr_sound hd, (mul_one _).symm⟩
  | maxabs =>
    simp only [scaleNumDen, Option.map_eq_some_iff] at hnd
    obtain ⟨d, hd, rfl⟩ := hnd
    exact ⟨d, maxL_isMax hd, (mul_one _).symm⟩

theorem scaleValue_isSome (sd : List Rat → Rat) (sc : Scl) (xs : List Rat) (s : Rat)
    (h : match sc with | .num _ => True | .iqr => True | .std => 2 ≤ xs.length | _ => xs ≠ []) :
    ∃ f, scaleValue sd sc xs s = some f := by
  cases sc with
  | num b => exact ⟨guardDiv (b, 1), by simp [scaleValue, scaleNumDen]⟩
  | minmax =>
    obtain ⟨mx, hmx⟩ := maxL_isSome h
    obtain ⟨mn, hmn⟩ := minL_isSome h
    exact ⟨guardDiv (1, mx - mn), by simp [scaleValue, scaleNumDen, hmx, hmn]⟩
  | std =>
    have : ¬ xs.length < 2 := by simpa using h
    exact ⟨guardDiv (1, sd xs), by simp [scaleValue, scaleNumDen, this]⟩
  | iqr =>
    obtain ⟨d, hd⟩ := iqr_isSome xs
    exact ⟨guardDiv (1, d), by simp [scaleValue, scaleNumDen, hd]⟩
  | maxabs =>
    have : xs.map (fun v => absR (v + s)) ≠ [] := by simpa using h
    obtain ⟨d, hd⟩ := maxL_isSome this
    exact ⟨guardDiv (1, d), by simp [scaleValue, scaleNumDen, hd]⟩

theorem nums_length_le_presentCount (w : List Val) : (nums w).length ≤ presentCount w := by
  -- a number is not missing, so the numbers of `w` are those of its non-missing values
  have h : nums w = nums (w.filter (fun v => !v.isMiss)) := by
    unfold nums
    rw [List.filterMap_filter]
    congr 1
    funext v
    cases v <;> rfl
  rw [h]
  exact List.length_filterMap_le _ _

theorem fit_str_iff (sd : List Rat → Rat) (cfg : Cfg) (w : List Val) (h : w.any Val.isStr = true) (s f : Rat) :
    fit sd cfg w = some (s, f) ↔
      ∃ a, cfg.shift = .num a ∧ s = a ∧
        ((∃ b, cfg.scale = .num b ∧ f = b) ∨ (cfg.scale = .iqr ∧ presentCount w ≤ 1 ∧ f = 1)) := by
  unfold fit
  simp only [h, if_true]
  constructor
  · intro hf
    split at hf
    · rename_i a b hsh hsc
      simp only [Option.some.injEq, Prod.mk.injEq] at hf
      exact ⟨a, hsh, hf.1.symm, Or.inl ⟨b, hsc, hf.2.symm⟩⟩
    · rename_i a hsh hsc
      split at hf
      · rename_i hc
        simp only [Option.some.injEq, Prod.mk.injEq] at hf
        exact ⟨a, hsh, hf.1.symm, Or.inr ⟨hsc, hc, hf.2.symm⟩⟩
      · simp at hf
    · simp at hf
  · rintro ⟨a, hsh, rfl, hb | ⟨hsc, hc, rfl⟩⟩
    · obtain ⟨b, hsc, rfl⟩ := hb
      rw [hsh, hsc]
    · rw [hsh, hsc]
      simp [hc]

theorem fit_nostr_iff (sd : List Rat → Rat) (cfg : Cfg) (w : List Val) (h : w.any Val.isStr = false) (s f : Rat) :
    fit sd cfg w = some (s, f) ↔ shiftValue cfg.shift (nums w) = some s ∧ scaleValue sd cfg.scale (nums w) s = some f := by
  rw [fit, if_neg (by rw [h]; exact Bool.false_ne_true)]
  cases shiftValue cfg.shift (nums w) with
  | none => exact iff_of_false (fun h' => nomatch h') (fun h' => nomatch h'.1)
  | some s' =>
    dsimp only
    cases hf : scaleValue sd cfg.scale (nums w) s' with
    | none =>
      refine iff_of_false (fun h' => nomatch h') (fun ⟨h1, h2⟩ => ?_)
      cases h1
      rw [hf] at h2
      cases h2
    | some f' =>
      dsimp only
      constructor
      · intro h'
        cases h'
        exact ⟨rfl, hf⟩
      · rintro ⟨h1, h2⟩
        cases h1
        rw [hf] at h2
        cases h2
        rfl

theorem fit_sound {sd : List Rat → Rat} {cfg : Cfg} {w : List Val} {s f : Rat}
    (h : fit sd cfg w = some (s, f)) :
    ShiftStat cfg.shift (nums w) s ∧ ScaleStat sd cfg.scale (nums w) s f := by
  by_cases hstr : w.any Val.isStr = true
  · -- nothing looked at the values: the given numbers, and `iqr` of at most one value is 0
    obtain ⟨a, hsh, rfl, ⟨b, hsc, rfl⟩ | ⟨hsc, hc, rfl⟩⟩ := (fit_str_iff sd cfg w hstr s f).1 h
    · rw [hsh, hsc]
      exact ⟨rfl, 1, rfl, by norm_num⟩
    · rw [hsh, hsc]
      exact ⟨rfl, 0, Or.inl ⟨le_trans (nums_length_le_presentCount w) hc, rfl⟩, by norm_num⟩
  · obtain ⟨hs, hf⟩ := (fit_nostr_iff sd cfg w (Bool.eq_false_iff.2 hstr) s f).1 h
    exact ⟨shiftValue_sound hs, scaleValue_sound hf⟩

theorem fit_isSome (sd : List Rat → Rat) (cfg : Cfg) (w : List Val)
    (hstr : w.any Val.isStr = false) (hdef : StatsDefined cfg w) :
    ∃ s f, fit sd cfg w = some (s, f) := by
  obtain ⟨h1, h2⟩ := hdef
  obtain ⟨s, hs⟩ := shiftValue_isSome cfg.shift (nums w) h1
  obtain ⟨f, hf⟩ := scaleValue_isSome sd cfg.scale (nums w) s h2
  exact ⟨s, f, (fit_nostr_iff sd cfg w hstr s f).2 ⟨hs, hf⟩⟩

/-! ### `std`: the reciprocal square root of the sample variance -/

theorem scaleStat_std_iff (sd : List Rat → Rat) (xs : List Rat) (s f : Rat) :
    ScaleStat sd .std xs s f ↔ 2 ≤ xs.length ∧ f = if sd xs < 1 / 1000000 then 1 else 1 / sd xs := by
  constructor
  · rintro ⟨d, ⟨hl, rfl⟩, rfl⟩
    exact ⟨hl, mul_one _⟩
  · rintro ⟨hl, rfl⟩
    exact ⟨sd xs, ⟨hl, rfl⟩, (mul_one _).symm⟩

theorem std_scale_exact (sd : List Rat → Rat) (xs : List Rat) (s f : Rat) (hx : SqrtExact sd xs)
    (h : ScaleStat sd .std xs s f) : ScaleStatQ .std xs s f := by
  obtain ⟨hl, rfl⟩ := (scaleStat_std_iff sd xs s f).1 h
  exact ⟨hl, guard_isInvSqrt hx.1 hx.2⟩

theorem scaleStat_to_Q {sd : List Rat → Rat} {sc : Scl} {xs : List Rat} {s f : Rat}
    (h : ScaleStat sd sc xs s f) (hx : sc = .std → SqrtExact sd xs) : ScaleStatQ sc xs s f := by
  cases sc with
  | std => exact std_scale_exact sd xs s f (hx rfl) h
  | num b => exact h
  | minmax => exact h
  | iqr => exact h
  | maxabs => exact h

/-! ### which exception the fit raises -/

theorem shiftValueE_toOption (sh : Shift) (xs : List Rat) :
    shiftValue sh xs = (match shiftValueE sh xs with | .ok s => some s | .error _ => none) := by
  cases sh <;> simp only [shiftValue, shiftValueE]
  · cases minL xs <;> rfl
  · cases mean xs <;> rfl
  · cases median xs <;> rfl

theorem scaleValueE_toOption (sd : List Rat → Rat) (sc : Scl) (xs : List Rat) (s : Rat) :
    scaleValue sd sc xs s = (match scaleValueE sd sc xs s with | .ok f => some f | .error _ => none) := by
  cases sc <;> simp only [scaleValue, scaleNumDen, scaleValueE]
  · rfl
  · cases maxL xs <;> cases minL xs <;> rfl
  · split <;> rfl
  · cases iqr xs <;> rfl
  · cases maxL (xs.map (fun v => absR (v + s))) <;> rfl

theorem fitE_str (sd : List Rat → Rat) (cfg : Cfg) (w : List Val) (h : w.any Val.isStr = true) :
    fitE sd cfg w = (match fit sd cfg w with | some p => .ok p | none => .error .typeError) := by
  unfold fit fitE
  rw [if_pos h, if_pos h]
  cases cfg.shift with
  | num a =>
    cases cfg.scale with
    | iqr => dsimp only; split <;> rfl
    | _ => rfl
  | _ => rfl

theorem fit_eq_fitE (sd : List Rat → Rat) (cfg : Cfg) (w : List Val) :
    fit sd cfg w = (match fitE sd cfg w with | .ok p => some p | .error _ => none) := by
  by_cases h : w.any Val.isStr = true
  · rw [fitE_str sd cfg w h]
    cases fit sd cfg w <;> rfl
  · unfold fit fitE
    rw [if_neg h, if_neg h, shiftValueE_toOption]
    cases hs : shiftValueE cfg.shift (nums w) with
    | error e => rfl
    | ok s =>
      simp only []
      rw [scaleValueE_toOption]
      cases scaleValueE sd cfg.scale (nums w) s <;> rfl

theorem shiftValueE_cons (sh : Shift) (x : Rat) (t : List Rat) : ∃ s, shiftValueE sh (x :: t) = .ok s := by
  cases sh with
  | num a => exact ⟨a, rfl⟩
  | min => exact ⟨_, rfl⟩
  | mean => exact ⟨_, rfl⟩
  | median =>
    obtain ⟨m, hm⟩ := median_isSome (xs := x :: t) (by simp)
    exact ⟨-m, by simp [shiftValueE, hm]⟩

theorem scaleValueE_cons (sd : List Rat → Rat) (sc : Scl) (x : Rat) (t : List Rat) (s : Rat) :
    (sc = .std ∧ t = [] ∧ scaleValueE sd sc (x :: t) s = .error .statisticsError) ∨
    (¬ (sc = .std ∧ t = []) ∧ ∃ f, scaleValueE sd sc (x :: t) s = .ok f) := by
  cases sc with
  | num b => exact Or.inr ⟨by simp, _, rfl⟩
  | minmax => exact Or.inr ⟨by simp, _, rfl⟩
  | std =>
    cases t with
    | nil => exact Or.inl ⟨rfl, rfl, by simp [scaleValueE]⟩
    | cons y t' => exact Or.inr ⟨by simp, guardDiv (1, sd (x :: y :: t')), by simp [scaleValueE]⟩
  | iqr =>
    obtain ⟨d, hd⟩ := iqr_isSome (x :: t)
    exact Or.inr ⟨by simp, guardDiv (1, d), by simp [scaleValueE, hd]⟩
  | maxabs => exact Or.inr ⟨by simp, by simp [scaleValueE, maxL]⟩

/-- `_shift_value` fails only on no data: `min()` with `ValueError`, `fmean`/`median` with `StatisticsError` -/
theorem shiftValueE_error_iff (sh : Shift) (xs : List Rat) (e : FitErr) :
    shiftValueE sh xs = .error e ↔
      xs = [] ∧ ((sh = .min ∧ e = .valueError) ∨ ((sh = .mean ∨ sh = .median) ∧ e = .statisticsError)) := by
  cases xs with
  | nil => cases sh <;> simp [shiftValueE, minL, mean, median_nil, eq_comm]
  | cons x t =>
    obtain ⟨s, hs⟩ := shiftValueE_cons sh x t
    simp [hs]

theorem shiftValueE_isOk_iff (sh : Shift) (xs : List Rat) :
    (∃ s, shiftValueE sh xs = .ok s) ↔ (∃ a, sh = .num a) ∨ xs ≠ [] := by
  cases xs with
  | nil => cases sh <;> simp [shiftValueE, minL, mean, median_nil]
  | cons x t => simpa using shiftValueE_cons sh x t

/-- `_scale_value` fails on no data under `minmax`/`maxabs` (`max()` of an empty list) and on fewer than two values
under `std` (`stdev`); `iqr` never fails -/
theorem scaleValueE_error_iff (sd : List Rat → Rat) (sc : Scl) (xs : List Rat) (s : Rat) (e : FitErr) :
    scaleValueE sd sc xs s = .error e ↔
      (xs = [] ∧ (sc = .minmax ∨ sc = .maxabs) ∧ e = .valueError) ∨
      (sc = .std ∧ xs.length < 2 ∧ e = .statisticsError) := by
  cases xs with
  | nil => cases sc <;> simp [scaleValueE, minL, maxL, iqr, eq_comm]
  | cons x t =>
    rcases scaleValueE_cons sd sc x t s with ⟨h1, h2, h⟩ | ⟨hne, f, h⟩
    · subst h1 h2
      rw [h]
      constructor
      · intro h'
        cases h'
        exact Or.inr ⟨rfl, by simp, rfl⟩
      · rintro (⟨h', _⟩ | ⟨_, _, rfl⟩)
        · cases h'
        · rfl
    · rw [h]
      constructor
      · intro h'
        cases h'
      · rintro (⟨h', _⟩ | ⟨a, b, _⟩)
        · cases h'
        · refine absurd ⟨a, ?_⟩ hne
          cases t with
          | nil => rfl
          | cons y t' => exact absurd b (by simp)

theorem fitE_error_iff_nostr (sd : List Rat → Rat) (cfg : Cfg) (w : List Val) (h : w.any Val.isStr = false) (e : FitErr) :
    fitE sd cfg w = .error e ↔
      shiftValueE cfg.shift (nums w) = .error e ∨
        ∃ s, shiftValueE cfg.shift (nums w) = .ok s ∧ scaleValueE sd cfg.scale (nums w) s = .error e := by
  unfold fitE
  rw [if_neg (by simp [h])]
  cases shiftValueE cfg.shift (nums w) with
  | error e' => simp
  | ok s =>
    dsimp only
    cases hsc : scaleValueE sd cfg.scale (nums w) s <;> simp [hsc]

theorem fit_str_eq_none_iff (sd : List Rat → Rat) (cfg : Cfg) (w : List Val) (h : w.any Val.isStr = true) :
    fit sd cfg w = none ↔ TypeErrCond cfg w := by
  rw [Option.eq_none_iff_forall_ne_some]
  constructor
  · refine fun hn => ⟨h, fun ⟨a, hsh, hsc⟩ => ?_⟩
    rcases hsc with ⟨b, hb⟩ | ⟨hi, hc⟩
    · exact hn (a, b) ((fit_str_iff sd cfg w h a b).2 ⟨a, hsh, rfl, Or.inl ⟨b, hb, rfl⟩⟩)
    · exact hn (a, 1) ((fit_str_iff sd cfg w h a 1).2 ⟨a, hsh, rfl, Or.inr ⟨hi, hc, rfl⟩⟩)
  · rintro ⟨_, hn⟩ ⟨s, f⟩ hf
    obtain ⟨a, hsh, _, hsc⟩ := (fit_str_iff sd cfg w h s f).1 hf
    exact hn ⟨a, hsh, hsc.imp (fun ⟨b, hb, _⟩ => ⟨b, hb⟩) (fun ⟨hi, hc, _⟩ => ⟨hi, hc⟩)⟩

theorem fitE_error_iff_str (sd : List Rat → Rat) (cfg : Cfg) (w : List Val) (h : w.any Val.isStr = true) (e : FitErr) :
    fitE sd cfg w = .error e ↔ e = .typeError ∧ TypeErrCond cfg w := by
  rw [fitE_str sd cfg w h, ← fit_str_eq_none_iff sd cfg w h]
  cases fit sd cfg w with
  | some p => exact iff_of_false nofun (fun hc => nomatch hc.2)
  | none => exact ⟨fun he => ⟨(Except.error.inj he).symm, rfl⟩, fun hc => hc.1 ▸ rfl⟩

/-- `IndexError` has no disjunct: it never arises -/
theorem fitE_error_iff (sd : List Rat → Rat) (cfg : Cfg) (w : List Val) (e : FitErr) :
    fitE sd cfg w = .error e ↔
      (e = .typeError ∧ TypeErrCond cfg w) ∨ (e = .valueError ∧ ValueErrCond cfg w) ∨
        (e = .statisticsError ∧ StatErrCond cfg w) := by
  by_cases hstr : w.any Val.isStr = true
  · rw [fitE_error_iff_str sd cfg w hstr]
    simp only [ValueErrCond, StatErrCond, hstr, Bool.true_eq_false, false_and, and_false, or_false]
  · have hstr' : w.any Val.isStr = false := by simpa using hstr
    rw [fitE_error_iff_nostr sd cfg w hstr']
    simp only [shiftValueE_error_iff, scaleValueE_error_iff, exists_and_right, shiftValueE_isOk_iff]
    -- per class both sides are the same disjunction once the impossible classes are struck out, except for `ValueError`
    cases e <;>
      simp only [TypeErrCond, ValueErrCond, StatErrCond, hstr', reduceCtorEq, Bool.false_eq_true, and_false, false_and,
        or_false, false_or, and_true, true_and, or_self]
    -- `ValueError` comes from the shift (`min`) or, the shift being a number, from `max()` in the scale: no data either way
    by_cases hn : nums w = [] <;> simp [hn]

/-! ### cells -/

theorem applyVal_nonnum (p : Rat × Rat) (v : Val) (h : v.isNum = false) : applyVal p v = v := by
  cases v <;> simp_all [applyVal, Val.isNum]

theorem applyOpt_nonnum (p : Option (Rat × Rat)) (v : Val) (h : v.isNum = false) : applyOpt p v = v := by
  cases p with
  | none => rfl
  | some p => exact applyVal_nonnum p v h

theorem applyOpt_spec (sd : List Rat → Rat) (cfg : Cfg) (w : List Val) (v : Val)
    (hstr : w.any Val.isStr = false) (hdef : StatsDefined cfg w) :
    ScaleCellSpec sd cfg w v (applyOpt (fit sd cfg w) v) := by
  obtain ⟨s, f, hfit⟩ := fit_isSome sd cfg w hstr hdef
  obtain ⟨h1, h2⟩ := fit_sound hfit
  rw [hfit]
  cases v with
  | num x => exact ⟨s, f, h1, h2, rfl⟩
  | nan => rfl
  | nil => rfl
  | str t => rfl

theorem scaleScalar_cell (sd : List Rat → Rat) (cfg : Cfg) (rows : List Val) (i : Nat) :
    (scaleScalar sd cfg rows)[i]? = (rows[i]?).map (applyOpt (fit sd cfg (window cfg.usingN rows))) :=
  List.getElem?_map

theorem scaleDense_rows (sd : List Rat → Rat) (cfg : Cfg) (rows : List (List Val)) (first : List Val)
    (hfirst : rows.head? = some first) :
    scaleDense sd cfg rows = rows.map (denseRow sd cfg first (window cfg.usingN rows)) := by
  obtain ⟨rest, rfl⟩ := List.head?_eq_some_iff.1 hfirst
  rfl

theorem denseRow_length (sd : List Rat → Rat) (cfg : Cfg) (first : List Val) (win : List (List Val)) (row : List Val) :
    (denseRow sd cfg first win row).length = row.length := List.length_mapIdx

theorem scaleDense_cell (sd : List Rat → Rat) (cfg : Cfg) (rows : List (List Val)) (first : List Val)
    (hfirst : rows.head? = some first) (i k : Nat) :
    denseCell (scaleDense sd cfg rows) i k =
      (denseCell rows i k).map (applyOpt (if potDense first k then fit sd cfg (col k (window cfg.usingN rows)) else none)) := by
  rw [scaleDense_rows sd cfg rows first hfirst, denseCell_map, denseCell]
  cases rows[i]? with
  | none => rfl
  | some row => exact List.getElem?_mapIdx

theorem scaleDense_using_none' (sd : List Rat → Rat) (cfg : Cfg) (first : List Val) (rows : List (List Val))
    (hf : rows.head? = some first) (hu : cfg.usingN = none) :
    scaleDense sd cfg rows = rows.map (denseRow sd cfg first rows) := by
  rw [scaleDense_rows sd cfg rows first hf, hu]
  rfl

theorem scaleSparse_ok (sd : List Rat → Rat) (cfg : Cfg) (rows : List SCtx) (first : SCtx)
    (hfirst : rows.head? = some first) (h0 : cfg.shift = .num 0) :
    scaleSparse sd cfg rows = .ok (rows.map (sparseRow sd cfg first (window cfg.usingN rows))) := by
  obtain ⟨rest, rfl⟩ := List.head?_eq_some_iff.1 hfirst
  simp [scaleSparse, h0]

theorem scaleSparse_cell (sd : List Rat → Rat) (cfg : Cfg) (rows : List SCtx) (first : SCtx)
    (hfirst : rows.head? = some first) (h0 : cfg.shift = .num 0) (i : Nat) (k : String) :
    ∃ out, scaleSparse sd cfg rows = .ok out ∧
      sparseCell out i k = (sparseCell rows i k).map
        (applyOpt (if potSparse first k
          then fit sd cfg ((window cfg.usingN rows).map (getD0 k)) else none)) := by
  refine ⟨_, scaleSparse_ok sd cfg rows first hfirst h0, ?_⟩
  rw [sparseCell_map, sparseCell]
  cases rows[i]? with
  | none => rfl
  | some c =>
    exact lookup_map_val (g := fun k v => applyOpt (if potSparse first k
          then fit sd cfg ((window cfg.usingN rows).map (getD0 k)) else none) v) c k

/-! ### which columns are scaled -/

theorem numOrNil_eq_not_isStr (v : Val) : v.numOrNil = !v.isStr := by cases v <;> rfl

theorem potDense_iff (first : List Val) (k : Nat) : potDense first k = true ↔ ∃ v, first[k]? = some v ∧ v.isStr = false := by
  unfold potDense
  cases first[k]? with
  | none => simp
  | some v => simp [numOrNil_eq_not_isStr]

theorem potSparse_iff (first : SCtx) (k : String) : potSparse first k = true ↔ ∀ v, first.lookup k = some v → v.isStr = false := by
  unfold potSparse
  cases first.lookup k with
  | none => simp
  | some v => simp

/-! ### scalar contexts, sparse contexts and their dense embeddings -/

theorem col_zero_singletons (ws : List Val) : col 0 (ws.map (fun v => [v])) = ws := by
  induction ws with
  | nil => rfl
  | cons a l ih => exact congrArg (a :: ·) ih

theorem denseRow_singleton (sd : List Rat → Rat) (cfg : Cfg) (v0 : Val) (win : List (List Val)) (v : Val) :
    denseRow sd cfg [v0] win [v] = [applyOpt (if potDense [v0] 0 then fit sd cfg (col 0 win) else none) v] := by
  simp [denseRow]

theorem scaleDense_singletons (sd : List Rat → Rat) (cfg : Cfg) (v0 : Val) (rest : List Val) :
    scaleDense sd cfg ((v0 :: rest).map (fun v => [v])) =
      ((v0 :: rest).map (applyOpt (if potDense [v0] 0 then fit sd cfg (window cfg.usingN (v0 :: rest)) else none))).map
        (fun v => [v]) := by
  have hwin : window cfg.usingN ((v0 :: rest).map (fun v => [v])) = _ := window_map _ _ _
  show List.map (denseRow sd cfg [v0] (window cfg.usingN ((v0 :: rest).map fun v => [v]))) ((v0 :: rest).map fun v => [v]) = _
  rw [hwin, List.map_map, List.map_map]
  refine List.map_congr_left (fun v _ => ?_)
  simp only [Function.comp_apply, denseRow_singleton, col_zero_singletons]

theorem embed_get (keys : List String) (j : Nat) (k : String) (hk : keys[j]? = some k) (c : SCtx) :
    (embed keys c)[j]? = some (getD0 k c) := by
  simp [embed, List.getElem?_map, hk]

theorem col_embed (keys : List String) (j : Nat) (k : String) (hk : keys[j]? = some k) (ws : List SCtx) :
    col j (ws.map (embed keys)) = ws.map (getD0 k) := by
  induction ws with
  | nil => rfl
  | cons c l ih =>
    simp only [col, List.map_cons, List.filterMap_cons, embed_get keys j k hk c] at ih ⊢
    rw [ih]

theorem potDense_embed (keys : List String) (j : Nat) (k : String) (hk : keys[j]? = some k) (first : SCtx) :
    potDense (embed keys first) j = potSparse first k := by
  rw [potDense, embed_get keys j k hk first, potSparse, getD0]
  cases first.lookup k with
  | none => rfl
  | some x => exact numOrNil_eq_not_isStr x

theorem denseCell_embed (keys : List String) (j : Nat) (k : String) (hk : keys[j]? = some k) (rows : List SCtx) (i : Nat)
    (v : Val) (hv : sparseCell rows i k = some v) : denseCell (rows.map (embed keys)) i j = some v := by
  obtain ⟨c, hr, hv⟩ := Option.bind_eq_some_iff.1 hv
  rw [denseCell_map, hr, Option.bind_some, embed_get keys j k hk c, getD0, hv]

/-! ### ragged dense rows; the translator tie -/

theorem rect_length {first : List Val} {rest : List (List Val)} (h : Rect (first :: rest) = true) :
    ∀ r ∈ first :: rest, r.length = first.length := by
  intro r hr
  rcases List.mem_cons.1 hr with rfl | hr
  · rfl
  · simp [Rect] at h
    exact h r hr

theorem lt_length_of_mem_potKeys {first : List Val} {k : Nat} (h : k ∈ potKeys first) : k < first.length := by
  simp [potKeys] at h
  exact h.1

/-- a row as long as the first context has every potential key: `itemgetter(k)` cannot raise on it -/
theorem no_short_row {first r : List Val} (hr : r.length = first.length) (ks : List Nat) (hks : ∀ k ∈ ks, k ∈ potKeys first) :
    ks.any (fun k => decide (r.length ≤ k)) = false := by
  rw [List.any_eq_false]
  intro k hk
  have := lt_length_of_mem_potKeys (hks k hk)
  rw [decide_eq_true_eq]
  omega

/-- a `Scale` configuration as a tuple with decidable equality -/
def ScaleCfg.tuple (k : ScaleCfg) : Shift × Scl × Option Nat × String := (k.cfg.shift, k.cfg.scale, k.cfg.usingN, k.target)

end Coba.C11
