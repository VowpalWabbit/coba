/-
C12, delivery and disk framing: the UTF-8 automaton (cutting the input does not matter; encode/decode round trip), the line
splitter and the repaired and the current `DelimSource` loop, the byte pipeline, and `DiskSink` / `DiskSource` framing
with histories of writes and reads.
-/
import CobaVerif.Lemmas.C12Lists

namespace Coba.C12

/-! ## UTF-8 decoding is a run of one automaton: cutting the input does not matter -/

theorem decodeFrom_append (s : U8) (a b : List Nat) :
    decodeFrom s (a ++ b) =
      match decodeFrom s a with
      | .error e => .error e
      | .ok (s1, t1) => match decodeFrom s1 b with
        | .error e => .error e
        | .ok (s2, t2) => .ok (s2, t1 ++ t2) := by
  induction a generalizing s with
  | nil =>
    simp only [List.nil_append, decodeFrom]
    cases decodeFrom s b with
    | error e => rfl
    | ok r => rfl
  | cons x a ih =>
    simp only [List.cons_append, decodeFrom]
    cases h : u8step s x with
    | error e => rfl
    | ok r =>
      obtain ⟨s1, o⟩ := r
      simp only [ih]
      cases decodeFrom s1 a with
      | error e => rfl
      | ok r2 =>
        obtain ⟨s2, t⟩ := r2
        simp only
        cases decodeFrom s2 b with
        | error e => rfl
        | ok r3 =>
          cases o <;> simp

/-- `decodeAll` started in any state of the automaton, so that it can be cut at a chunk boundary -/
def decodeFin (s : U8) (bs : List Nat) : Except Err Text :=
  match decodeFrom s bs with
  | .error e => .error e
  | .ok r => finish r

theorem decodeAll_eq (bs) : decodeAll bs = decodeFin U8.init bs := rfl

theorem decodeFin_append (s : U8) (a b : List Nat) :
    decodeFin s (a ++ b) =
      match decodeFrom s a with
      | .error e => .error e
      | .ok (s1, t1) => match decodeFin s1 b with
        | .error e => .error e
        | .ok t2 => .ok (t1 ++ t2) := by
  unfold decodeFin
  rw [decodeFrom_append]
  cases decodeFrom s a with
  | error e => rfl
  | ok r =>
    obtain ⟨s1, t1⟩ := r
    dsimp only
    cases decodeFrom s1 b with
    | error e => rfl
    | ok r2 =>
      dsimp only [finish]
      split <;> rfl

theorem decodeChunksFix_flatten (s : U8) (cs : List (List Nat)) :
    (match decodeChunksFix s cs with | .error e => Except.error e | .ok ts => .ok ts.flatten) = decodeFin s cs.flatten := by
  induction cs generalizing s with
  | nil =>
    simp only [decodeChunksFix, List.flatten_nil, decodeFin, decodeFrom, finish]
    by_cases h : s.need = 0
    · rw [if_pos h, if_pos h]; rfl
    · rw [if_neg h, if_neg h]
  | cons c cs ih =>
    simp only [decodeChunksFix, List.flatten_cons, decodeFin_append]
    cases decodeFrom s c with
    | error e => rfl
    | ok r =>
      obtain ⟨s1, t⟩ := r
      dsimp only
      rw [← ih s1]
      cases decodeChunksFix s1 cs <;> rfl

/-! ## chunks that decode strictly one by one decode incrementally to the same texts -/

theorem u8step_need0 (s : U8) (b : Nat) (h : s.need = 0) : u8step s b = u8step U8.init b := by
  unfold u8step
  rw [if_pos h]
  exact (if_pos rfl).symm

theorem decodeChunksFix_need0 (s : U8) (h : s.need = 0) (cs : List (List Nat)) :
    decodeChunksFix s cs = decodeChunksFix U8.init cs := by
  induction cs with
  | nil => rw [decodeChunksFix, if_pos h]; rfl
  | cons c cs ih =>
    cases c with
    | nil => simp only [decodeChunksFix, decodeFrom, ih]
    | cons b bs => simp only [decodeChunksFix, decodeFrom, u8step_need0 s b h]

theorem decodeChunksCur_fix (cs : List (List Nat)) (ts : List Text) (h : decodeChunksCur cs = .ok ts) :
    decodeChunksFix U8.init cs = .ok ts := by
  induction cs generalizing ts with
  | nil => cases h; rfl
  | cons c cs ih =>
    simp only [decodeChunksCur, decodeAll] at h
    rw [decodeChunksFix]
    cases h1 : decodeFrom U8.init c with
    | error e => rw [h1] at h; cases h
    | ok r =>
      obtain ⟨s1, t⟩ := r
      rw [h1] at h
      simp only [finish] at h ⊢
      by_cases hn : s1.need = 0
      · -- the chunk decoded strictly: the incremental decoder goes on as from the initial state
        rw [if_pos hn] at h
        rw [decodeChunksFix_need0 s1 hn]
        cases h2 : decodeChunksCur cs with
        | error e => rw [h2] at h; cases h
        | ok ts' => rw [h2] at h; cases h; rw [ih ts' h2]
      · rw [if_neg hn] at h; cases h

/-! ## UTF-8 encode/decode round trip -/

/-- The lead-byte table.  The first continuation byte is restricted after E0 and F0 (overlong forms), ED (surrogates)
and F4 (above U+10FFFF). -/
theorem u8step_lead2 : ∀ k, k < 32 → 2 ≤ k → u8step U8.init (0xC0 + k) = .ok (⟨1, k, 0x80, 0xBF⟩, none) := by decide

theorem u8step_lead3 : ∀ k, k < 16 →
    u8step U8.init (0xE0 + k) = .ok (⟨2, k, if k = 0 then 0xA0 else 0x80, if k = 13 then 0x9F else 0xBF⟩, none) := by
  decide

theorem u8step_lead4 : ∀ k, k < 5 →
    u8step U8.init (0xF0 + k) = .ok (⟨3, k, if k = 0 then 0x90 else 0x80, if k = 4 then 0x8F else 0xBF⟩, none) := by
  decide

theorem u8step_ascii (s : U8) (b : Nat) (h0 : s.need = 0) (hb : b < 0x80) : u8step s b = .ok (U8.init, some b) := by
  unfold u8step; rw [if_pos h0, if_pos hb]

theorem u8step_cont (s : U8) (x n : Nat) (h0 : s.need = n + 1) (hlo : s.lo ≤ 0x80 + x) (hhi : 0x80 + x ≤ s.hi) :
    u8step s (0x80 + x) = .ok (if n = 0 then (U8.init, some (s.acc * 64 + x)) else (⟨n, s.acc * 64 + x, 0x80, 0xBF⟩, none)) := by
  unfold u8step
  rw [if_neg (by rw [h0]; exact Nat.succ_ne_zero n), if_pos ⟨hlo, hhi⟩, Nat.add_sub_cancel_left]
  by_cases hn : n = 0
  · rw [if_pos (by rw [h0, hn]), if_pos hn]
  · rw [if_neg (by rw [h0]; exact fun h => hn (Nat.succ.inj h)), if_neg hn, h0]; rfl

theorem decodeFrom_open (s s1 : U8) (b : Nat) (rest : List Nat) (h : u8step s b = .ok (s1, none)) :
    decodeFrom s (b :: rest) = decodeFrom s1 rest := by
  simp only [decodeFrom, h]
  cases decodeFrom s1 rest <;> rfl

theorem decodeFrom_close (s : U8) (b c : Nat) (rest : List Nat) (h : u8step s b = .ok (U8.init, some c)) :
    decodeFrom s (b :: rest) =
      match decodeFrom U8.init rest with
      | .error e => .error e
      | .ok (s2, t) => .ok (s2, c :: t) := by
  simp only [decodeFrom, h]
  cases decodeFrom U8.init rest <;> rfl

theorem decodeFrom_cont_more (n a lo hi x : Nat) (rest : List Nat) (hlo : lo ≤ 0x80 + x) (hhi : 0x80 + x ≤ hi) :
    decodeFrom ⟨n + 2, a, lo, hi⟩ ((0x80 + x) :: rest) = decodeFrom ⟨n + 1, a * 64 + x, 0x80, 0xBF⟩ rest :=
  decodeFrom_open _ _ _ _ ((u8step_cont ⟨n + 2, a, lo, hi⟩ x (n + 1) rfl hlo hhi).trans (by rw [if_neg (Nat.succ_ne_zero n)]))

theorem decodeFrom_cont_last (a lo hi x : Nat) (rest : List Nat) (hlo : lo ≤ 0x80 + x) (hhi : 0x80 + x ≤ hi) :
    decodeFrom ⟨1, a, lo, hi⟩ ((0x80 + x) :: rest) =
      match decodeFrom U8.init rest with
      | .error e => .error e
      | .ok (s2, t) => .ok (s2, (a * 64 + x) :: t) :=
  decodeFrom_close _ _ _ _ ((u8step_cont ⟨1, a, lo, hi⟩ x 0 rfl hlo hhi).trans (by rw [if_pos rfl]))

theorem digits64 (c n : Nat) : c / (n * 64) * 64 + c / n % 64 = c / n := by
  rw [← Nat.div_div_eq_div_mul, Nat.div_add_mod']

theorem digits64_3 (c : Nat) : (c / 4096 * 64 + c / 64 % 64) * 64 + c % 64 = c := by
  rw [show c / 4096 * 64 + c / 64 % 64 = c / 64 from digits64 c 64, Nat.div_add_mod']

theorem digits64_4 (c : Nat) : ((c / 262144 * 64 + c / 4096 % 64) * 64 + c / 64 % 64) * 64 + c % 64 = c := by
  rw [show c / 262144 * 64 + c / 4096 % 64 = c / 4096 from digits64 c 4096, digits64_3]

theorem cont_le (x : Nat) : 0x80 + x % 64 ≤ 0xBF :=
  Nat.add_le_add_left (Nat.le_of_lt_succ (Nat.mod_lt x (by decide))) 0x80

/-- `a`: the bits of the lead byte, `q = a * 64 + b`: the digits above the remaining bytes.  The lower bound on `q` matters
after the lead byte with `a = 0` (no overlong form), the upper bound after the one with `a = k` (no surrogate, nothing above
U+10FFFF). -/
theorem cont_range (a b q k m m' : Nat) (e : a * 64 + b = q) (hb : b < 64) (hlo : m ≤ q)
    (hhi : a = k → q < k * 64 + (m' + 1)) :
    (if a = 0 then 0x80 + m else 0x80) ≤ 0x80 + b ∧ 0x80 + b ≤ (if a = k then 0x80 + m' else 0xBF) := by
  subst e
  constructor
  · by_cases h : a = 0
    · rw [if_pos h]; subst h; rw [Nat.zero_mul, Nat.zero_add] at hlo; exact Nat.add_le_add_left hlo _
    · rw [if_neg h]; exact Nat.le_add_right _ _
  · by_cases h : a = k
    · rw [if_pos h]; have := hhi h; subst h
      exact Nat.add_le_add_left (Nat.le_of_lt_succ (Nat.lt_of_add_lt_add_left this)) _
    · rw [if_neg h]; exact Nat.add_le_add_left (Nat.le_of_lt_succ hb) 0x80

theorem lead3_range (c : Nat) (h2 : ¬ c < 0x800) (h3 : ¬ (0xD800 ≤ c ∧ c ≤ 0xDFFF)) :
    (if c / 4096 = 0 then 0xA0 else 0x80) ≤ 0x80 + c / 64 % 64 ∧
      0x80 + c / 64 % 64 ≤ (if c / 4096 = 13 then 0x9F else 0xBF) :=
  cont_range (c / 4096) (c / 64 % 64) (c / 64) 13 32 31 (digits64 c 64) (Nat.mod_lt _ (by decide))
    ((Nat.le_div_iff_mul_le (by decide)).mpr (Nat.le_of_not_lt h2)) fun h13 => by
      have h1 : c < 14 * 4096 := (Nat.div_lt_iff_lt_mul (by decide)).mp (by rw [h13]; decide)
      exact Nat.div_lt_of_lt_mul (Nat.lt_of_not_le fun h => h3 ⟨h, Nat.le_of_lt_succ h1⟩)

theorem lead4_range (c : Nat) (h4 : ¬ c < 0x10000) (h5 : c < 0x110000) :
    (if c / 262144 = 0 then 0x90 else 0x80) ≤ 0x80 + c / 4096 % 64 ∧
      0x80 + c / 4096 % 64 ≤ (if c / 262144 = 4 then 0x8F else 0xBF) :=
  cont_range (c / 262144) (c / 4096 % 64) (c / 4096) 4 16 15 (digits64 c 4096) (Nat.mod_lt _ (by decide))
    ((Nat.le_div_iff_mul_le (by decide)).mpr (Nat.le_of_not_lt h4)) fun _ => Nat.div_lt_of_lt_mul h5

theorem decode_encodeCP (c : Nat) (bs rest : List Nat) (h : encodeCP c = .ok bs) :
    decodeFrom U8.init (bs ++ rest) =
      match decodeFrom U8.init rest with
      | .error e => .error e
      | .ok (s, t) => .ok (s, c :: t) := by
  unfold encodeCP at h
  by_cases h1 : c < 0x80
  · rw [if_pos h1] at h; cases h
    exact decodeFrom_close _ _ _ _ (u8step_ascii _ _ rfl h1)
  rw [if_neg h1] at h
  by_cases h2 : c < 0x800
  · rw [if_pos h2] at h; cases h
    rw [List.cons_append, List.cons_append, List.nil_append,
      decodeFrom_open _ _ _ _ (u8step_lead2 (c / 64) (Nat.div_lt_of_lt_mul h2) ((Nat.le_div_iff_mul_le (by decide)).mpr (Nat.le_of_not_lt h1))),
      decodeFrom_cont_last _ _ _ _ _ (Nat.le_add_right _ _) (cont_le _), Nat.div_add_mod']
  rw [if_neg h2] at h
  by_cases h3 : 0xD800 ≤ c ∧ c ≤ 0xDFFF
  · rw [if_pos h3] at h; cases h
  rw [if_neg h3] at h
  by_cases h4 : c < 0x10000
  · rw [if_pos h4] at h; cases h
    rw [List.cons_append, List.cons_append, List.cons_append, List.nil_append,
      decodeFrom_open _ _ _ _ (u8step_lead3 (c / 4096) (Nat.div_lt_of_lt_mul h4)),
      decodeFrom_cont_more _ _ _ _ _ _ (lead3_range c h2 h3).1 (lead3_range c h2 h3).2,
      decodeFrom_cont_last _ _ _ _ _ (Nat.le_add_right _ _) (cont_le _), digits64_3]
  rw [if_neg h4] at h
  by_cases h5 : c < 0x110000
  · rw [if_pos h5] at h; cases h
    rw [List.cons_append, List.cons_append, List.cons_append, List.cons_append, List.nil_append,
      decodeFrom_open _ _ _ _ (u8step_lead4 (c / 262144) (Nat.div_lt_of_lt_mul (Nat.lt_trans h5 (by decide)))),
      decodeFrom_cont_more _ _ _ _ _ _ (lead4_range c h4 h5).1 (lead4_range c h4 h5).2,
      decodeFrom_cont_more _ _ _ _ _ _ (Nat.le_add_right _ _) (cont_le _),
      decodeFrom_cont_last _ _ _ _ _ (Nat.le_add_right _ _) (cont_le _), digits64_4]
  · rw [if_neg h5] at h; cases h

theorem decode_encode (t : Text) (bs rest : List Nat) (h : encode t = .ok bs) :
    decodeFrom U8.init (bs ++ rest) =
      match decodeFrom U8.init rest with
      | .error e => .error e
      | .ok (s, t') => .ok (s, t ++ t') := by
  induction t generalizing bs with
  | nil =>
    simp [encode] at h; subst h
    simp only [List.nil_append]
    cases decodeFrom U8.init rest <;> rfl
  | cons c t ih =>
    simp only [encode] at h
    cases h1 : encodeCP c with
    | error e => simp [h1] at h
    | ok b1 =>
      simp only [h1] at h
      cases h2 : encode t with
      | error e => simp [h2] at h
      | ok b2 =>
        simp only [h2] at h
        cases h
        rw [List.append_assoc, decode_encodeCP c b1 (b2 ++ rest) h1, ih b2 h2]
        cases decodeFrom U8.init rest <;> rfl

theorem decodeAll_encode (t : Text) (bs : List Nat) (h : encode t = .ok bs) : decodeAll bs = .ok t := by
  have := decode_encode t bs [] h
  simp only [List.append_nil, decodeFrom] at this
  unfold decodeAll
  rw [this]
  rfl

theorem encodeCP_ok (c : Nat) (h : isScalar c = true) : ∃ bs, encodeCP c = .ok bs := by
  unfold isScalar at h
  simp only [Bool.and_eq_true, Bool.or_eq_true, decide_eq_true_eq] at h
  let P (r : Except Err (List Nat)) : Prop := ∃ bs, r = .ok bs
  unfold encodeCP
  -- `iteInduction` with the motive written out: `split` on this chain of `if`s is slow to check
  refine iteInduction (motive := P) (fun _ => ⟨_, rfl⟩) fun _ => iteInduction (motive := P) (fun _ => ⟨_, rfl⟩) fun _ =>
    iteInduction (motive := P) (fun h3 => ?_) fun _ => iteInduction (motive := P) (fun _ => ⟨_, rfl⟩) fun _ =>
    iteInduction (motive := P) (fun _ => ⟨_, rfl⟩) fun h5 => ?_
  · exfalso; omega
  · exfalso; omega

theorem encode_ok (t : Text) (h : ∀ c ∈ t, isScalar c = true) : ∃ bs, encode t = .ok bs := by
  induction t with
  | nil => exact ⟨[], rfl⟩
  | cons c t ih =>
    obtain ⟨b1, h1⟩ := encodeCP_ok c (h c (by simp))
    obtain ⟨b2, h2⟩ := ih (fun d hd => h d (by simp [hd]))
    exact ⟨b1 ++ b2, by simp [encode, h1, h2]⟩

theorem encode_append (a b : Text) (x y : List Nat) (ha : encode a = .ok x) (hb : encode b = .ok y) :
    encode (a ++ b) = .ok (x ++ y) := by
  induction a generalizing x with
  | nil => simp [encode] at ha; subst ha; simpa using hb
  | cons c a ih =>
    simp only [encode] at ha
    cases h1 : encodeCP c with
    | error e => simp [h1] at ha
    | ok b1 =>
      simp only [h1] at ha
      cases h2 : encode a with
      | error e => simp [h2] at ha
      | ok b2 =>
        simp only [h2] at ha
        cases ha
        simp [encode, h1, ih b2 h2]

/-! ## the line splitter and the repaired `DelimSource` loop -/

theorem lsRun_append (s : LS) (a b : Text) :
    lsRun s (a ++ b) = ((lsRun (lsRun s a).1 b).1, (lsRun s a).2 ++ (lsRun (lsRun s a).1 b).2) := by
  induction a generalizing s with
  | nil => simp [lsRun]
  | cons c a ih => simp [lsRun, ih, List.append_assoc]

theorem prependFirst_nil (l : List Text) : prependFirst [] l = l := by
  cases l <;> simp [prependFirst]

theorem prependFirst_prependFirst (a b : Text) (l : List Text) :
    prependFirst a (prependFirst b l) = prependFirst (a ++ b) l := by
  cases l <;> simp [prependFirst]

theorem prependFirst_eq_nil (a : Text) (l : List Text) : prependFirst a l = [] ↔ l = [] := by
  cases l <;> simp [prependFirst]

theorem lsRun_cur (cur : Text) (text : Text) :
    lsRun ⟨cur, false⟩ text =
      (if (lsRun ⟨[], false⟩ text).2 = [] then ⟨cur ++ (lsRun ⟨[], false⟩ text).1.cur, (lsRun ⟨[], false⟩ text).1.cr⟩
       else (lsRun ⟨[], false⟩ text).1,
       prependFirst cur (lsRun ⟨[], false⟩ text).2) := by
  induction text generalizing cur with
  | nil => simp [lsRun, prependFirst]
  | cons c t ih =>
    by_cases hb : isBreak c = true
    · simp [lsRun, lsStep, hb, prependFirst]
    · have hb' : isBreak c = false := by simpa using hb
      simp only [lsRun, lsStep, hb', Bool.false_and, Bool.false_eq_true, if_false, List.nil_append]
      rw [ih (cur ++ [c]), ih [c]]
      by_cases he : (lsRun ⟨[], false⟩ t).2 = []
      · simp [he, prependFirst]
      · simp [he, prependFirst_eq_nil, prependFirst_prependFirst]

theorem lsRun_cr_lf (cur : Text) (t : Text) : lsRun ⟨cur, true⟩ (LF :: t) = lsRun ⟨cur, false⟩ t := by
  simp [lsRun, lsStep]

theorem lsRun_cr_other (cur : Text) (c : Nat) (t : Text) (h : (c == LF) = false) :
    lsRun ⟨cur, true⟩ (c :: t) = lsRun ⟨cur, false⟩ (c :: t) := by
  simp [lsRun, lsStep, h]

/-- a splitter state reached by `lsStep`: after a `\r` the current line is empty -/
def LS.wf (s : LS) : Prop := s.cr = true → s.cur = []

theorem lsStep_wf (s : LS) (c : Nat) : (lsStep s c).1.wf := by
  unfold lsStep LS.wf
  split
  · simp
  · split
    · simp
    · simp

theorem lastIs_cons_cons (a b : Nat) (t : Text) (p : Nat → Bool) : lastIs (a :: b :: t) p = lastIs (b :: t) p := by
  simp [lastIs, List.getLast?_cons_cons]

theorem lastIs_single (a : Nat) (p : Nat → Bool) : lastIs [a] p = p a := by
  simp [lastIs]

theorem isBreak_LF : isBreak LF = true := by decide
theorem isBreak_CR : isBreak CR = true := by decide

theorem lastIs_CR_of_not_break (t : Text) (h : lastIs t isBreak = false) : lastIs t (· == CR) = false := by
  unfold lastIs at h ⊢
  revert h
  cases t.getLast? with
  | none => exact fun _ => rfl
  | some c =>
    intro h
    cases hc : (c == CR) with
    | false => exact hc
    | true => rw [eq_of_beq hc] at h; exact absurd h (by decide)

theorem lsRun_last (s : LS) (text : Text) (hs : s.wf) (hne : text ≠ []) :
    ((lsRun s text).1.cur = [] ↔ lastIs text isBreak = true) ∧
    (lsRun s text).1.cr = lastIs text (· == CR) := by
  induction text generalizing s with
  | nil => exact absurd rfl hne
  | cons c t ih =>
    cases t with
    | nil =>
      simp only [lsRun, lastIs_single]
      unfold lsStep
      by_cases h1 : (s.cr && c == LF) = true
      · simp only [h1, if_true]
        have hc : c = LF := by simp at h1; exact h1.2
        have hcr : s.cr = true := by simp at h1; exact h1.1
        subst hc
        simp [hs hcr, isBreak_LF]; decide
      · simp only [h1]
        by_cases hb : isBreak c = true
        · simp [hb]
        · have hb' : isBreak c = false := by simpa using hb
          have : (c == CR) = false := by
            cases hcc : (c == CR) with
            | false => rfl
            | true =>
              have : c = CR := by simpa using hcc
              subst this; simp [isBreak_CR] at hb'
          simp [hb', this]
    | cons d t' =>
      simp only [lsRun, lastIs_cons_cons]
      have := ih (lsStep s c).1 (lsStep_wf s c) (by simp)
      simpa [lsRun] using this

theorem lsRun_no_out (s : LS) (text : Text) (hcr : s.cr = false) (h : (lsRun s text).2 = []) :
    (lsRun s text).1 = ⟨s.cur ++ text, false⟩ := by
  induction text generalizing s with
  | nil => cases s; simp_all [lsRun]
  | cons c t ih =>
    simp only [lsRun] at h ⊢
    unfold lsStep at h ⊢
    simp only [hcr, Bool.false_and, Bool.false_eq_true, if_false] at h ⊢
    by_cases hb : isBreak c = true
    · simp [hb] at h
    · have hb' : isBreak c = false := by simpa using hb
      simp only [hb', Bool.false_eq_true, if_false, List.nil_append] at h ⊢
      rw [ih ⟨s.cur ++ [c], false⟩ rfl h]
      simp

theorem splitlines_eq (t : Text) : splitlines t = (lsRun ⟨[], false⟩ t).2 ++ lsFlush (lsRun ⟨[], false⟩ t).1 := rfl

/-- The state of the repaired loop that stands for a state of the line splitter: the unfinished line, unless empty, is
pending.  (So `pending` is never `''`, which is what lets the current loop's `if pending:` agree with the repaired one.) -/
def DS.ofLS (s : LS) : DS := ⟨if s.cur = [] then none else some s.cur, s.cr⟩

theorem applyPending_ofLS (s : LS) (l : List Text) : applyPending (DS.ofLS s).pending l = prependFirst s.cur l := by
  unfold DS.ofLS
  by_cases h : s.cur = []
  · rw [if_pos h, h, prependFirst_nil]; rfl
  · rw [if_neg h]; rfl

theorem pending_ofLS_ne_nil (s : LS) (q : Text) (hq : (DS.ofLS s).pending = some q) : q ≠ [] := by
  unfold DS.ofLS at hq
  dsimp only at hq
  split at hq
  · cases hq
  · rename_i h; cases hq; exact h

/-- the body of the loop on a text that does not start inside a `\r\n`, against the splitter started with `cur` -/
theorem delimFix_closed (cur : Text) (text : Text) (hne : text ≠ []) :
    (if lastIs text isBreak then ((⟨none, lastIs text (· == CR)⟩ : DS), prependFirst cur (splitlines text))
      else (⟨(prependFirst cur (splitlines text)).getLast?, false⟩, (prependFirst cur (splitlines text)).dropLast)) =
    (DS.ofLS (lsRun ⟨cur, false⟩ text).1, (lsRun ⟨cur, false⟩ text).2) := by
  have hlast := lsRun_last ⟨[], false⟩ text (fun h => nomatch h) hne
  have hno := lsRun_no_out ⟨[], false⟩ text rfl
  rw [lsRun_cur cur text, splitlines_eq]
  generalize lsRun ⟨[], false⟩ text = r0 at *
  obtain ⟨⟨c0, cr0⟩, out0⟩ := r0
  dsimp only at hlast hno ⊢
  by_cases hb : lastIs text isBreak = true
  · -- the text ends in a boundary: nothing is left unfinished, and at least one line came out
    have hcur : c0 = [] := hlast.1.2 hb
    have hout : out0 ≠ [] := fun h => hne (by have := hno h; rw [hcur] at this; exact (LS.mk.inj this).1.symm)
    subst hcur
    rw [if_pos hb, if_neg hout, ← hlast.2]
    simp [lsFlush, DS.ofLS]
  · -- otherwise the last of `splitlines` is the unfinished line
    have hcur : c0 ≠ [] := fun h => hb (hlast.1.1 h)
    have hcr : cr0 = false := hlast.2.trans (lastIs_CR_of_not_break text (by simpa using hb))
    subst hcr
    rw [if_neg hb]
    cases out0 with
    | nil => simp [lsFlush, hcur, prependFirst, DS.ofLS]
    | cons l ls => simp [lsFlush, hcur, prependFirst, DS.ofLS, getLast?_cons_concat, dropLast_cons_concat]

@[simp] theorem skipLf_false (t : Text) : skipLf false t = t := by cases t <;> rfl
@[simp] theorem skipLf_true_lf (t : Text) : skipLf true (LF :: t) = t := by simp [skipLf]
theorem skipLf_true_other (c : Nat) (t : Text) (h : (c == LF) = false) : skipLf true (c :: t) = c :: t := by
  simp [skipLf, h]

theorem delimFixStep_of (d : DS) (t : Text) (hne : t ≠ []) (hs : skipLf d.afterCr t = t) :
    delimFixStep d t =
      if lastIs t isBreak then (⟨none, lastIs t (· == CR)⟩, applyPending d.pending (splitlines t))
      else (⟨(applyPending d.pending (splitlines t)).getLast?, false⟩, (applyPending d.pending (splitlines t)).dropLast) := by
  unfold delimFixStep
  simp only [hs, if_neg hne]

/-- loop and splitter use "the previous character was `\r`" in the same way: to pass over a line feed -/
theorem delimFixStep_skip (d : DS) (t : Text) :
    delimFixStep d t = delimFixStep ⟨d.pending, false⟩ (skipLf d.afterCr t) := by
  unfold delimFixStep
  simp only [skipLf_false]

theorem lsRun_skip (cur : Text) (cr : Bool) (t : Text) (ht : t ≠ []) :
    lsRun ⟨cur, cr⟩ t = lsRun ⟨cur, false⟩ (skipLf cr t) := by
  cases cr with
  | false => rw [skipLf_false]
  | true =>
    cases t with
    | nil => exact absurd rfl ht
    | cons c t =>
      by_cases hc : (c == LF) = true
      · rw [eq_of_beq hc, lsRun_cr_lf, skipLf_true_lf]
      · have hc' : (c == LF) = false := by simpa using hc
        rw [lsRun_cr_other cur c t hc', skipLf_true_other c t hc']

theorem delimFixStep_sim (s : LS) (t : Text) (ht : t ≠ []) :
    delimFixStep (DS.ofLS s) t = (DS.ofLS (lsRun s t).1, (lsRun s t).2) := by
  obtain ⟨cur, cr⟩ := s
  rw [delimFixStep_skip, lsRun_skip cur cr t ht]
  show delimFixStep ⟨(DS.ofLS ⟨cur, false⟩).pending, false⟩ (skipLf cr t) = _
  generalize skipLf cr t = u
  by_cases hu : u = []
  · subst hu; rfl
  · rw [delimFixStep_of _ _ hu (skipLf_false u), applyPending_ofLS]
    exact delimFix_closed cur u hu

theorem delimFixGo_eq (s : LS) (chunks : List Text) :
    delimFixGo (DS.ofLS s) chunks = (lsRun s chunks.flatten).2 ++ lsFlush (lsRun s chunks.flatten).1 := by
  induction chunks generalizing s with
  | nil =>
    simp only [delimFixGo, List.flatten_nil, lsRun, List.nil_append, lsFlush, DS.ofLS]
    by_cases h : s.cur = [] <;> simp [h]
  | cons t ts ih =>
    rw [delimFixGo, List.flatten_cons]
    by_cases ht : t = []
    · rw [if_pos ht, ht, List.nil_append]; exact ih s
    · rw [if_neg ht, lsRun_append]
      dsimp only
      rw [delimFixStep_sim s t ht, ih, List.append_assoc]

theorem delimFix_eq (chunks : List Text) : delimFix chunks = splitlines chunks.flatten :=
  delimFixGo_eq ⟨[], false⟩ chunks

/-! ## the current `DelimSource` loop is right on good cuts -/

theorem skipLf_eq (ac : Bool) (t : Text) (h1 : (ac && t.head? == some LF) = false) : skipLf ac t = t := by
  cases ac with
  | false => rfl
  | true =>
    cases t with
    | nil => rfl
    | cons c t' =>
      simp only [List.head?_cons, Bool.true_and] at h1
      have : (c == LF) = false := by
        cases hc : (c == LF) with
        | false => rfl
        | true => have : c = LF := by simpa using hc
                  subst this; simp at h1
      simp [skipLf, this]

theorem lastIs_congr (t : Text) (p q : Nat → Bool) (h : ∀ c, t.getLast? = some c → p c = q c) : lastIs t p = lastIs t q := by
  unfold lastIs
  cases hg : t.getLast? with
  | none => rfl
  | some c => exact h c hg

theorem isBreak_crlf (c : Nat) (h : (isBreak c && !(c == CR || c == LF)) = false) : isBreak c = (c == CR || c == LF) := by
  cases hc : (c == CR || c == LF) with
  | false => rw [hc] at h; simpa using h
  | true =>
    rcases Bool.or_eq_true_iff.mp hc with h' | h' <;> rw [eq_of_beq h'] <;> rfl

/-- `hp`: the loop never stores an empty string in `pending` -/
theorem delimCurStep_of (p : Option Text) (t : Text) (hp : ∀ q, p = some q → q ≠ []) :
    delimCurStep p t =
      if lastIs t (fun c => c == CR || c == LF) then (none, applyPending p (splitlines t))
      else ((applyPending p (splitlines t)).getLast?, (applyPending p (splitlines t)).dropLast) := by
  cases p with
  | none => rfl
  | some q =>
    cases q with
    | nil => exact absurd rfl (hp [] rfl)
    | cons a q => rfl

theorem delimCurStep_eq (s : LS) (t : Text) (hne : t ≠ [])
    (h1 : (s.cr && t.head? == some LF) = false)
    (h2 : lastIs t (fun c => isBreak c && !(c == CR || c == LF)) = false) :
    delimCurStep (DS.ofLS s).pending t = ((delimFixStep (DS.ofLS s) t).1.pending, (delimFixStep (DS.ofLS s) t).2) := by
  have hbr : lastIs t isBreak = lastIs t (fun c => c == CR || c == LF) := by
    refine lastIs_congr t _ _ fun c hc => isBreak_crlf c ?_
    unfold lastIs at h2; rw [hc] at h2; exact h2
  rw [delimFixStep_of _ t hne (skipLf_eq _ t h1), delimCurStep_of _ t (pending_ofLS_ne_nil s), hbr]
  cases lastIs t (fun c => c == CR || c == LF) <;> rfl

theorem goodCuts_step (ac : Bool) (t : Text) (ts : List Text) (hne : t ≠ []) (h : goodCutsGo ac (t :: ts) = true) :
    (ac && t.head? == some LF) = false ∧ lastIs t (fun c => isBreak c && !(c == CR || c == LF)) = false ∧
    goodCutsGo (lastIs t (· == CR)) ts = true := by
  simp only [goodCutsGo, hne, if_false, Bool.and_eq_true, Bool.not_eq_true'] at h
  exact ⟨h.1.1, h.1.2, h.2⟩

theorem delimFixStep_afterCr (d : DS) (t : Text) (hne : t ≠ [])
    (h1 : (d.afterCr && t.head? == some LF) = false) :
    (delimFixStep d t).1.afterCr = lastIs t (· == CR) := by
  rw [delimFixStep_of d t hne (skipLf_eq d.afterCr t h1)]
  cases hb : lastIs t isBreak
  · exact (lastIs_CR_of_not_break t hb).symm
  · rfl

theorem delimCurGo_eq (s : LS) (ts : List Text) (hg : goodCutsGo s.cr ts = true) :
    delimCurGo (DS.ofLS s).pending ts = delimFixGo (DS.ofLS s) ts := by
  induction ts generalizing s with
  | nil => rfl
  | cons t ts ih =>
    by_cases hne : t = []
    · subst hne
      simp only [delimCurGo, delimFixGo, if_true]
      exact ih s (by simpa [goodCutsGo] using hg)
    · obtain ⟨g1, g2, g3⟩ := goodCuts_step s.cr t ts hne hg
      simp only [delimCurGo, delimFixGo, hne, if_false]
      rw [delimCurStep_eq s t hne g1 g2]
      dsimp only
      have hcr := delimFixStep_afterCr (DS.ofLS s) t hne g1
      rw [delimFixStep_sim s t hne] at hcr ⊢
      rw [ih (lsRun s t).1 (by rw [show (lsRun s t).1.cr = _ from hcr]; exact g3)]

theorem delimCur_eq_of_good (ts : List Text) (hg : goodCuts ts = true) : delimCur ts = splitlines ts.flatten := by
  rw [← delimFix_eq]
  exact delimCurGo_eq ⟨[], false⟩ ts hg

/-! ## the byte pipeline -/

theorem decompChunks_flatten {σ} (D : Decomp σ) (h : D.Lawful) (s : σ) (cs : List (List Nat)) :
    (decompChunks D s cs).flatten = (D.step s cs.flatten).2 := by
  induction cs generalizing s with
  | nil => simp [decompChunks, h.1]
  | cons c cs ih => simp [decompChunks, h.2, ih]

theorem chunksOf_go_flatten (size : Nat) (hs : 0 < size) (fuel : Nat) (bs : List Nat) (h : bs.length ≤ fuel) :
    (chunksOf.go size fuel bs).flatten = bs := by
  induction fuel generalizing bs with
  | zero =>
    have : bs = [] := by cases bs <;> simp_all
    subst this; simp [chunksOf.go]
  | succ n ih =>
    simp only [chunksOf.go]
    by_cases hb : bs = []
    · simp [hb]
    · simp only [hb, if_false, List.flatten_cons]
      rw [ih (bs.drop size) (by
        rw [List.length_drop]
        exact Nat.le_of_lt_succ (Nat.lt_of_lt_of_le (Nat.sub_lt (List.length_pos_iff.mpr hb) hs) h))]
      exact List.take_append_drop size bs

theorem chunksOf_flatten (size : Nat) (bs : List Nat) : (chunksOf size bs).flatten = bs := by
  unfold chunksOf
  by_cases hs : size = 0
  · simp [hs]
  · simp only [hs, if_false]
    exact chunksOf_go_flatten size (Nat.pos_of_ne_zero hs) _ bs (Nat.le_refl _)

/-! ## DiskSink / DiskSource framing -/

/-- the text of the file `DiskSink` leaves for these lines, whatever the batches: each line with a `\n` after it -/
def frame (ls : List Text) : Text := (ls.map (· ++ [LF])).flatten

theorem frame_cons (l : Text) (ls : List Text) : frame (l :: ls) = l ++ LF :: frame ls := by simp [frame]

theorem isScalar_LF : isScalar LF = true := by decide

theorem encodeLines_ok (ls : List Text) (h : ∀ l ∈ ls, ∀ c ∈ l, isScalar c = true) :
    ∃ bs, encodeLines ls = .ok bs ∧ encode (frame ls) = .ok bs := by
  induction ls with
  | nil => exact ⟨[], rfl, rfl⟩
  | cons l ls ih =>
    obtain ⟨b2, h2, h3⟩ := ih (fun l' hl' => h l' (by simp [hl']))
    obtain ⟨b1, h1⟩ := encode_ok (l ++ [LF]) (by
      intro c hc
      simp only [List.mem_append, List.mem_singleton] at hc
      rcases hc with hc | hc
      · exact h l (by simp) c hc
      · subst hc; exact isScalar_LF)
    refine ⟨b1 ++ b2, by simp [encodeLines, h1, h2], ?_⟩
    rw [frame_cons, ← List.singleton_append, ← List.append_assoc]
    exact encode_append _ _ _ _ h1 h3

theorem batches_go_flatten (n : Nat) (hn : 0 < n) (fuel : Nat) (ls : List Text) (h : ls.length < fuel) :
    (batches.go n fuel ls).flatten = ls := by
  induction fuel generalizing ls with
  | zero => exact absurd h (Nat.not_lt_zero _)
  | succ k ih =>
    simp only [batches.go]
    by_cases hb : (ls.take n).length = n
    · simp only [hb, if_true, List.flatten_cons]
      -- a full batch was taken: `n ≤ ls.length`, so the rest is shorter by `n > 0`
      have hle : n ≤ ls.length := by rw [List.length_take] at hb; exact hb ▸ Nat.min_le_right n ls.length
      rw [ih (ls.drop n) (by
        rw [List.length_drop]
        exact Nat.lt_of_lt_of_le (Nat.sub_lt (Nat.lt_of_lt_of_le hn hle) hn) (Nat.le_of_lt_succ h))]
      exact List.take_append_drop n ls
    · simp only [hb, if_false, List.flatten_cons, List.flatten_nil, List.append_nil]
      rw [List.length_take] at hb
      exact List.take_of_length_le (Nat.le_of_lt (Nat.lt_of_not_le fun hle => hb (Nat.min_eq_left hle)))

theorem batches_flatten (b : Option Nat) (ls : List Text) : (batches b ls).flatten = ls := by
  unfold batches
  cases b with
  | none => simp
  | some n =>
    cases n with
    | zero => simp
    | succ m => exact batches_go_flatten (m + 1) (by omega) _ ls (by omega)

theorem frame_append (a b : List Text) : frame (a ++ b) = frame a ++ frame b := by
  simp [frame]

theorem diskWriteParts_go_ok (bs : List (List Text)) (h : ∀ b ∈ bs, ∀ l ∈ b, ∀ c ∈ l, isScalar c = true) :
    ∃ parts bytes, diskWriteParts.go bs = .ok parts ∧ encode (frame bs.flatten) = .ok bytes ∧ parts.flatten = bytes := by
  induction bs with
  | nil => exact ⟨[], [], rfl, rfl, rfl⟩
  | cons b bs ih =>
    obtain ⟨parts, bytes, h1, h2, h3⟩ := ih (fun b' hb' => h b' (by simp [hb']))
    obtain ⟨x, hx, hx2⟩ := encodeLines_ok b (h b (by simp))
    refine ⟨x :: parts, x ++ bytes, by simp [diskWriteParts.go, hx, h1], ?_, by simp [h3]⟩
    simp only [List.flatten_cons, frame_append]
    exact encode_append _ _ _ _ hx2 h2

theorem universalNlGo_noCr (t : Text) (h : ∀ c ∈ t, c ≠ CR) : universalNlGo false t = t := by
  induction t with
  | nil => rfl
  | cons c t ih =>
    have hc : (c == CR) = false := by simpa using h c (by simp)
    simp [universalNlGo, hc, ih (fun d hd => h d (by simp [hd]))]

theorem readlinesGo_line (cur l : Text) (rest : Text) (h : ∀ c ∈ l, c ≠ LF) :
    readlinesGo cur (l ++ LF :: rest) = (cur ++ l ++ [LF]) :: readlinesGo [] rest := by
  rw [acc_run readlinesGo (· ≠ LF) (fun cur c t hc => by rw [readlinesGo, if_neg (by simpa using hc)]) l h, readlinesGo,
    if_pos (beq_self_eq_true LF)]

theorem readlines_frame (ls : List Text) (h : ∀ l ∈ ls, ∀ c ∈ l, c ≠ LF) :
    readlinesGo [] (frame ls) = ls.map (· ++ [LF]) := by
  induction ls with
  | nil => simp [frame, readlinesGo]
  | cons l ls ih =>
    rw [frame_cons, readlinesGo_line [] l _ (h l (by simp)), ih (fun l' hl' => h l' (by simp [hl']))]
    rfl

theorem rstripNl_line (l : Text) (h : noNl l = true) : rstripNl (l ++ [LF]) = l :=
  rtrim_append _ l [LF] (by decide) fun c hc => by
    have := List.all_eq_true.mp h c (List.mem_of_getLast? hc)
    simpa using this

theorem noNl_ne (l : Text) (h : noNl l = true) : (∀ c ∈ l, c ≠ CR) ∧ (∀ c ∈ l, c ≠ LF) := by
  unfold noNl at h
  have := List.all_eq_true.mp h
  constructor <;> intro c hc <;> have := this c hc <;> simp at this <;> intro heq <;> subst heq <;> simp [CR, LF] at this

/-! ## histories of DiskSink / DiskSource operations -/

deriving instance DecidableEq for DiskOut

theorem storeGet_append {α : Type} (s : Store α) (p : Nat) (xs : List α) (q : Nat) :
    storeGet (storeAppend s p xs) q = if p = q then some ((storeGet s p).getD [] ++ xs) else storeGet s q := by
  induction s with
  | nil =>
    by_cases h : p = q <;> simp [storeAppend, storeGet, h]
  | cons e r ih =>
    obtain ⟨a, x⟩ := e
    by_cases ha : a = p
    · subst ha
      by_cases h : a = q <;> simp [storeAppend, storeGet, h]
    · by_cases h : p = q
      · subst h
        simp [storeAppend, storeGet, ha, ih]
      · by_cases haq : a = q
        · subst haq
          simp [storeAppend, storeGet, ha, h]
        · simp [storeAppend, storeGet, ha, h, haq, ih]

theorem diskRead_frame (lines : List Text) (bytes : List Nat) (h2 : encode (frame lines) = .ok bytes)
    (hn : ∀ l ∈ lines, noNl l = true) : diskRead bytes = .ok lines := by
  unfold diskRead
  rw [decodeAll_encode _ _ h2]
  simp only
  have hcr : ∀ c ∈ frame lines, c ≠ CR := by
    intro c hc
    simp only [frame, List.mem_flatten, List.mem_map] at hc
    obtain ⟨l', ⟨l, hl, rfl⟩, hc⟩ := hc
    simp only [List.mem_append, List.mem_singleton] at hc
    rcases hc with hc | hc
    · exact (noNl_ne l (hn l hl)).1 c hc
    · subst hc; decide
  unfold universalNl
  rw [universalNlGo_noCr _ hcr, readlines_frame lines (fun l hl => (noNl_ne l (hn l hl)).2)]
  rw [List.map_map]
  congr 1
  have : ∀ l ∈ lines, (rstripNl ∘ fun x => x ++ [LF]) l = id l := by
    intro l hl; simp [rstripNl_line l (hn l hl)]
  rw [List.map_congr_left this]; simp

theorem diskWriteParts_frame (batch : Option Nat) (lines : List Text)
    (hs : ∀ l ∈ lines, ∀ c ∈ l, isScalar c = true) :
    ∃ parts, diskWriteParts batch lines = .ok parts ∧ encode (frame lines) = .ok parts.flatten := by
  obtain ⟨parts, bytes, h1, h2, h3⟩ := diskWriteParts_go_ok (batches batch lines) (by
    intro b hb l hl
    have : l ∈ (batches batch lines).flatten := List.mem_flatten.mpr ⟨b, hb, hl⟩
    rw [batches_flatten] at this
    exact hs l this)
  rw [batches_flatten] at h2
  exact ⟨parts, h1, by rw [h3]; exact h2⟩

/-- the file of a path holds the encoding of the framed lines written to it so far -/
def DiskRel : Option (List (List Nat)) → Option (List Text) → Prop
  | none, none => True
  | some parts, some ls => encode (frame ls) = .ok parts.flatten ∧ ∀ l ∈ ls, noNl l = true
  | _, _ => False

/-- the model's files against the specification's lines, path by path -/
def DiskInv (fs : Store (List Nat)) (st : Store Text) : Prop := ∀ p, DiskRel (storeGet fs p) (storeGet st p)

theorem diskOpOk_write (ls : List Text) (h : (ls.all (fun l => noNl l && l.all isScalar)) = true) :
    (∀ l ∈ ls, ∀ c ∈ l, isScalar c = true) ∧ (∀ l ∈ ls, noNl l = true) := by
  have := List.all_eq_true.mp h
  constructor
  · intro l hl c hc
    have h1 := this l hl
    simp only [Bool.and_eq_true] at h1
    exact List.all_eq_true.mp h1.2 c hc
  · intro l hl
    have h1 := this l hl
    simp only [Bool.and_eq_true] at h1
    exact h1.1

theorem diskInv_get (fs : Store (List Nat)) (st : Store Text) (hinv : DiskInv fs st) (p : Nat) :
    (storeGet fs p = none ∧ storeGet st p = none) ∨
      ∃ parts ls, storeGet fs p = some parts ∧ storeGet st p = some ls ∧
        encode (frame ls) = .ok parts.flatten ∧ ∀ l ∈ ls, noNl l = true := by
  have hp := hinv p
  cases hf : storeGet fs p with
  | none =>
    cases hs : storeGet st p with
    | none => exact .inl ⟨rfl, rfl⟩
    | some l0 => rw [hf, hs] at hp; exact hp.elim
  | some p0 =>
    cases hs : storeGet st p with
    | none => rw [hf, hs] at hp; exact hp.elim
    | some l0 => rw [hf, hs] at hp; exact .inr ⟨p0, l0, rfl, rfl, hp.1, hp.2⟩

theorem diskInv_write (fs : Store (List Nat)) (st : Store Text) (hinv : DiskInv fs st) (p : Nat) (ls : List Text)
    (parts : List (List Nat)) (henc : encode (frame ls) = .ok parts.flatten) (hn : ∀ l ∈ ls, noNl l = true) :
    DiskInv (storeAppend fs p parts) (storeAppend st p ls) := by
  intro q
  rw [storeGet_append, storeGet_append]
  by_cases h : p = q
  · simp only [h, if_true]
    rcases diskInv_get fs st hinv q with ⟨hf, hs⟩ | ⟨p0, l0, hf, hs, h1, h2⟩
    · rw [hf, hs]
      simpa [DiskRel] using ⟨henc, hn⟩
    · rw [hf, hs]
      refine ⟨?_, ?_⟩
      · simp only [Option.getD_some, frame_append, List.flatten_append]
        exact encode_append _ _ _ _ h1 henc
      · intro l hl
        simp only [Option.getD_some, List.mem_append] at hl
        rcases hl with hl | hl
        · exact h2 l hl
        · exact hn l hl
  · simp only [h, if_false]
    exact hinv q

theorem disk_history (rd : List (List Nat) → List Nat) (hrd : ∀ parts, rd parts = parts.flatten)
    (ops : List DiskOp) (hok : ∀ op ∈ ops, diskOpOk op = true)
    (fs : Store (List Nat)) (st : Store Text) (hinv : DiskInv fs st) :
    diskRun rd fs ops = .ok (diskSpecRun st ops) := by
  induction ops generalizing fs st with
  | nil => rfl
  | cons op ops ih =>
    have hrest : ∀ o ∈ ops, diskOpOk o = true := fun o ho => hok o (List.mem_cons_of_mem _ ho)
    cases op with
    | write p b ls =>
      have hw : diskOpOk (DiskOp.write p b ls) = true := hok _ List.mem_cons_self
      obtain ⟨hs, hn⟩ := diskOpOk_write ls hw
      obtain ⟨parts, h1, h2⟩ := diskWriteParts_frame b ls hs
      simp only [diskRun, diskStep, h1, diskSpecRun]
      rw [ih hrest _ _ (diskInv_write fs st hinv p ls parts h2 hn)]
    | read p =>
      rcases diskInv_get fs st hinv p with ⟨hf, hs⟩ | ⟨p0, l0, hf, hs, h1, h2⟩
      · simp only [diskRun, diskStep, diskSpecRun, hf, hs, ih hrest fs st hinv]
      · simp only [diskRun, diskStep, diskSpecRun, hf, hs, ih hrest fs st hinv, hrd, diskRead_frame l0 _ h1 h2]
    | readk p k =>
      rcases diskInv_get fs st hinv p with ⟨hf, hs⟩ | ⟨p0, l0, hf, hs, h1, h2⟩
      · simp only [diskRun, diskStep, diskSpecRun, hf, hs, ih hrest fs st hinv]
      · simp only [diskRun, diskStep, diskSpecRun, hf, hs, ih hrest fs st hinv, hrd, diskRead_frame l0 _ h1 h2, Except.map]

theorem diskInv_empty : DiskInv [] [] := fun _ => trivial

end Coba.C12
