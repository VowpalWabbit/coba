/-
C12, whole ARFF files: respellings that do not change what is read, sparse rows, dense and sparse tables as written,
and the missing flags.
-/
import CobaVerif.Lemmas.C12ArffLine
import CobaVerif.Lemmas.C12ArffHeader
import CobaVerif.Lemmas.C12Numerals

namespace Coba.C12

/-! ## respellings -/

theorem arffNormalize_blank (a c : List Text) (b : Text) (hb : strip b = []) :
    arffNormalize (a ++ b :: c) = arffNormalize (a ++ c) := by
  simp [arffNormalize, hb]

theorem arffNormalize_ws (a c : List Text) (l s : Text) (hs : ∀ x ∈ s, isPySpace x = true) :
    arffNormalize (a ++ (l ++ s) :: c) = arffNormalize (a ++ l :: c) := by
  simp [arffNormalize, strip_append_ws l s hs]

/-- the part of `arffReadN` after the header/data split -/
def arffReadParts (attrLines data0 : List Text) : Except Err ArffResult :=
  let data := data0.dropWhile (fun l => l.head? = some PCT)
  match data with
  | [] => .ok .empty
  | first :: _ =>
    let isDense := !(first.head? = some LBRACE) || !(first.getLast? = some RBRACE)
    match arffAttrs isDense [] attrLines with
    | .error e => .error e
    | .ok [] => .error .valueError
    | .ok attrs =>
      let names := attrs.map (·.1)
      let encs := attrs.map (·.2)
      if isDense then
        match denseRows encs attrLines.length ALRF.init data with
        | .error e => .error e
        | .ok rows => .ok (.dense names rows)
      else
        match sparseRows names encs attrLines.length data with
        | .error e => .error e
        | .ok rows => .ok (.sparse names rows)

theorem arffReadN_parts (ls : List Text) :
    arffReadN ls = arffReadParts ((ls.takeWhile (fun l => lowerAscii l ≠ kwData)).filter (fun l => lowerAscii (l.take 5) = kwAttr))
      ((ls.dropWhile (fun l => lowerAscii l ≠ kwData)).drop 1) := rfl

theorem arffReadN_head (pre post : List Text) (hpre : ∀ l ∈ pre, lowerAscii l ≠ kwData) :
    arffReadN (pre ++ post) =
      arffReadParts (pre.filter (fun l => lowerAscii (l.take 5) = kwAttr) ++
          (post.takeWhile (fun l => lowerAscii l ≠ kwData)).filter (fun l => lowerAscii (l.take 5) = kwAttr))
        ((post.dropWhile (fun l => lowerAscii l ≠ kwData)).drop 1) := by
  have hp : ∀ l ∈ pre, (fun l => decide (lowerAscii l ≠ kwData)) l = true := fun l hl => by simpa using hpre l hl
  rw [arffReadN_parts, List.takeWhile_append_of_pos hp, List.dropWhile_append_of_pos hp, List.filter_append]

theorem arffReadN_snoc (pre post : List Text) (j : Text) (hpre : ∀ l ∈ pre, lowerAscii l ≠ kwData) (hj : lowerAscii j ≠ kwData) :
    arffReadN (pre ++ j :: post) =
      arffReadParts ((pre ++ [j]).filter (fun l => lowerAscii (l.take 5) = kwAttr) ++
          (post.takeWhile (fun l => lowerAscii l ≠ kwData)).filter (fun l => lowerAscii (l.take 5) = kwAttr))
        ((post.dropWhile (fun l => lowerAscii l ≠ kwData)).drop 1) := by
  rw [← arffReadN_head (pre ++ [j]) post (List.forall_mem_append.mpr ⟨hpre, List.forall_mem_singleton.mpr hj⟩),
    List.append_assoc, List.singleton_append]

theorem arffReadN_split (pre post : List Text) (kw : Text) (hpre : ∀ l ∈ pre, lowerAscii l ≠ kwData)
    (hkw : lowerAscii kw = kwData) :
    arffReadN (pre ++ kw :: post) = arffReadParts (pre.filter (fun l => lowerAscii (l.take 5) = kwAttr)) post := by
  have hk : ¬ (fun l => decide (lowerAscii l ≠ kwData)) kw = true := by simpa using hkw
  rw [arffReadN_head pre _ hpre, List.takeWhile_cons_of_neg (p := fun l => decide (lowerAscii l ≠ kwData)) hk,
    List.dropWhile_cons_of_neg (p := fun l => decide (lowerAscii l ≠ kwData)) hk, List.filter_nil, List.append_nil]
  rfl

theorem denseRows_comment (encs : List Enc) (n : Nat) (s : ALRF) (a b : List Text) (c : Text) (hc : c.head? = some PCT) :
    denseRows encs n s (a ++ c :: b) = denseRows encs n s (a ++ b) := by
  induction a generalizing s with
  | nil => simp [denseRows, hc]
  | cons x a ih => simp only [List.cons_append, denseRows, ih]

theorem sparseRows_comment (names : List Text) (encs : List Enc) (n : Nat) (a b : List Text) (c : Text) (hc : c.head? = some PCT) :
    sparseRows names encs n (a ++ c :: b) = sparseRows names encs n (a ++ b) := by
  induction a with
  | nil => simp [sparseRows, hc]
  | cons x a ih => simp only [List.cons_append, sparseRows, ih]

theorem arffReadParts_comment (attrLines a b : List Text) (c : Text) (hc : c.head? = some PCT) :
    arffReadParts attrLines (a ++ c :: b) = arffReadParts attrLines (a ++ b) := by
  unfold arffReadParts
  rw [List.dropWhile_append, List.dropWhile_append (ys := b)]
  cases h : a.dropWhile (fun l => decide (l.head? = some PCT)) with
  | nil =>
    -- every line of `a` is a comment, and so is `c`
    rw [List.isEmpty_nil, if_pos rfl, if_pos rfl, List.dropWhile_cons_of_pos (by simpa using hc)]
  | cons x a2 =>
    rw [List.isEmpty_cons, if_neg (by decide), if_neg (by decide)]
    dsimp only [List.cons_append]
    cases arffAttrs (!decide (x.head? = some LBRACE) || !decide (x.getLast? = some RBRACE)) [] attrLines with
    | error e => rfl
    | ok attrs =>
      cases attrs with
      | nil => rfl
      | cons at1 ats =>
        dsimp only
        rw [← List.cons_append, denseRows_comment _ _ _ (x :: a2) b c hc, sparseRows_comment _ _ _ (x :: a2) b c hc]
        rfl

theorem lowerAscii_head (t : Text) : (lowerAscii t).head? = t.head?.map (fun c => if 65 ≤ c ∧ c ≤ 90 then c + 32 else c) := by
  cases t <;> simp [lowerAscii]

theorem lowerAscii_take (t : Text) (k : Nat) : lowerAscii (t.take k) = (lowerAscii t).take k := by
  simp [lowerAscii, List.map_take]

theorem attrLine_facts (a : Text) (h : lowerAscii (a.take 10) = kwAttribute) :
    lowerAscii (a.take 5) = kwAttr ∧ lowerAscii a ≠ kwData := by
  constructor
  · have : (a.take 10).take 5 = a.take 5 := by simp [List.take_take]
    rw [← this, lowerAscii_take, h]; rfl
  · intro hd
    have h10 : (lowerAscii (a.take 10)).length = 10 := by rw [h]; rfl
    rw [lowerAscii_length, List.length_take] at h10
    have : (lowerAscii a).length = 5 := by rw [hd]; rfl
    rw [lowerAscii_length] at this
    omega

theorem arffAttrs_congr (isDense : Bool) (seen : List Text) (x y : List Text) (a1 a2 : Text)
    (h1 : lowerAscii (a1.take 10) = kwAttribute) (h2 : lowerAscii (a2.take 10) = kwAttribute) (hr : a1.drop 11 = a2.drop 11) :
    arffAttrs isDense seen (x ++ a1 :: y) = arffAttrs isDense seen (x ++ a2 :: y) := by
  induction x generalizing seen with
  | nil => simp only [List.nil_append, arffAttrs, h1, h2, hr]
  | cons l x ih => simp only [List.cons_append, arffAttrs, ih]

theorem arffReadParts_attr (x y : List Text) (a1 a2 : Text) (data : List Text)
    (h1 : lowerAscii (a1.take 10) = kwAttribute) (h2 : lowerAscii (a2.take 10) = kwAttribute) (hr : a1.drop 11 = a2.drop 11) :
    arffReadParts (x ++ a1 :: y) data = arffReadParts (x ++ a2 :: y) data := by
  unfold arffReadParts
  simp only [List.length_append, List.length_cons, arffAttrs_congr _ [] x y a1 a2 h1 h2 hr]

/-! ## sparse rows -/

/-- what `sparseTokOk` asks of a value -/
structure SparseTokOk (t : Text) : Prop where
  ne : t ≠ []
  chars : ∀ c ∈ t, isPySpace c = false ∧ c ≠ COMMA

theorem sparseTokOk_parts (t : Text) (h : sparseTokOk t = true) : SparseTokOk t := by
  unfold sparseTokOk at h
  simp only [Bool.and_eq_true, decide_eq_true_eq] at h
  refine ⟨h.1, fun c hc => ?_⟩
  have := List.all_eq_true.mp h.2 c hc
  simpa using this

theorem sparseSplitGo_tok (cur tok rest : Text) (h : ∀ c ∈ tok, isPySpace c = false ∧ c ≠ COMMA) :
    sparseSplitGo cur 0 (tok ++ rest) = sparseSplitGo (cur ++ tok) 0 rest :=
  acc_run (sparseSplitGo · 0) (fun c => isPySpace c = false ∧ c ≠ COMMA)
    (fun cur c t hc => by rw [sparseSplitGo, if_neg (by rw [hc.1]; exact Bool.false_ne_true), if_neg hc.2, if_pos rfl]) tok h cur rest

theorem sparseSplitGo_tok_start (st : Nat) (tok rest : Text) (hne : tok ≠ [])
    (h : ∀ c ∈ tok, isPySpace c = false ∧ c ≠ COMMA) :
    sparseSplitGo [] st (tok ++ rest) = sparseSplitGo tok 0 rest := by
  cases tok with
  | nil => exact absurd rfl hne
  | cons c tok =>
    have hc := h c (by simp)
    simp only [List.cons_append, sparseSplitGo, hc.1, hc.2, Bool.false_eq_true, if_false, List.nil_append, ite_self]
    rw [sparseSplitGo_tok [c] tok rest (fun d hd => h d (by simp [hd]))]
    simp

theorem sparseSplitGo_blanks (st : Nat) (hst : st ≠ 0) (ws rest : Text) (h : ∀ c ∈ ws, isPySpace c = true) :
    sparseSplitGo [] st (ws ++ rest) = sparseSplitGo [] st rest := by
  induction ws with
  | nil => rfl
  | cons c ws ih =>
    rw [List.cons_append, sparseSplitGo, if_pos (h c List.mem_cons_self), if_neg hst]
    exact ih fun d hd => h d (List.mem_cons_of_mem _ hd)

/-- index, value, index, value, …: the tokens `sparseSplit` is to find in a written row -/
def flatItems (r : List (Text × Text)) : List Text := r.flatMap (fun p => [p.1, p.2])

theorem sparseSplit_items (pad : Nat) (st : Nat) (d v : Text) (r : List (Text × Text))
    (hok : ∀ p ∈ (d, v) :: r, p.1 ≠ [] ∧ p.1.all isDigit = true ∧ sparseTokOk p.2 = true) :
    sparseSplitGo [] st (sparseWriteItems pad ((d, v) :: r)) = flatItems ((d, v) :: r) := by
  show _ = d :: v :: flatItems r
  have hsp : isPySpace 32 = true := by decide
  induction r generalizing d v st with
  | nil =>
    obtain ⟨hd1, hd2, hv⟩ := hok (d, v) (by simp)
    have hvt := sparseTokOk_parts v hv
    simp only [sparseWriteItems, sparseSplitGo_tok_start st d _ hd1 (isDigit_tok d hd2), sparseSplitGo, hsp, if_true]
    have := sparseSplitGo_tok_start 1 v [] hvt.ne hvt.chars
    simp only [List.append_nil] at this
    rw [this]
    simp [sparseSplitGo, flatItems]
  | cons y r ih =>
    obtain ⟨hd1, hd2, hv⟩ := hok (d, v) (by simp)
    have hvt := sparseTokOk_parts v hv
    obtain ⟨y1, y2⟩ := y
    have hcm : isPySpace COMMA = false := by decide
    simp only [sparseWriteItems]
    simp only [List.append_assoc, List.cons_append]
    rw [sparseSplitGo_tok_start st d _ hd1 (isDigit_tok d hd2)]
    simp only [sparseSplitGo, hsp, if_true]
    rw [sparseSplitGo_tok_start 1 v _ hvt.ne hvt.chars]
    simp only [sparseSplitGo, hcm, Bool.false_eq_true, if_false, if_true]
    rw [sparseSplitGo_blanks 2 (by decide) _ _ (forall_mem_replicate (by decide) pad),
      ih 2 y1 y2 (fun p hp => hok p (by simp at hp ⊢; right; exact hp))]
    simp [flatItems]

theorem evens_flat (d v : Text) (rest : List (Text × Text)) :
    evens (d :: v :: flatItems rest) = d :: evens (flatItems rest) ∧ odds (d :: v :: flatItems rest) = v :: odds (flatItems rest) := by
  constructor <;> rfl

theorem evens_odds_flat (r : List (Text × Text)) : evens (flatItems r) = r.map (·.1) ∧ odds (flatItems r) = r.map (·.2) := by
  induction r with
  | nil => exact ⟨rfl, rfl⟩
  | cons p r ih =>
    have e : flatItems (p :: r) = p.1 :: p.2 :: flatItems r := by simp [flatItems]
    rw [e, (evens_flat p.1 p.2 r).1, (evens_flat p.1 p.2 r).2, ih.1, ih.2]
    exact ⟨rfl, rfl⟩

theorem parseKeys_digits (ds : List Text) (h : ∀ d ∈ ds, d ≠ [] ∧ d.all isDigit = true) :
    parseKeys ds = .ok (ds.map digitsVal) := by
  rw [← parseKeysG_parseInt]
  exact parseKeysG_map _ _ ds fun d hd => parseInt_digits d (h d hd).1 (h d hd).2

theorem dictOf_nodup (l : List (Int × Text)) (h : (l.map (·.1)).Nodup) : dictOf l = l := by
  induction l with
  | nil => rfl
  | cons p l ih =>
    obtain ⟨k, v⟩ := p
    simp only [List.map_cons, List.nodup_cons] at h
    simp only [dictOf, ih h.2]
    have : l.find? (fun x => decide (x.1 = k)) = none := by
      rw [List.find?_eq_none]
      intro x hx hk
      simp only [decide_eq_true_eq] at hk
      exact h.1 (by rw [← hk]; exact List.mem_map_of_mem hx)
    simp [this]

theorem sparseWriteItems_ends (pad : Nat) (items : List (Text × Text)) (hne : items ≠ [])
    (hd : ∀ p ∈ items, p.1 ≠ []) (hv : ∀ p ∈ items, p.2 ≠ []) :
    (∃ p ∈ items, ∃ c, p.1.head? = some c ∧ (sparseWriteItems pad items).head? = some c) ∧
      ∃ p ∈ items, ∃ c, p.2.getLast? = some c ∧ (sparseWriteItems pad items).getLast? = some c := by
  rw [sparseWriteItems_eq]
  constructor
  · match items, hne with
    | p :: r, _ =>
      cases hp : p.1 with
      | nil => exact absurd hp (hd p List.mem_cons_self)
      | cons c t => exact ⟨p, List.mem_cons_self, c, by rw [hp]; rfl, intercalate_head? (by show (p.1 ++ _).head? = _; rw [hp]; rfl)⟩
  · obtain ⟨p, hl⟩ := exists_getLast? hne
    have hp := List.mem_of_getLast? hl
    obtain ⟨c, hc⟩ := exists_getLast? (hv p hp)
    refine ⟨p, hp, c, hc, ?_⟩
    rw [intercalate_getLast? (l := p.1 ++ 32 :: p.2) (by rw [List.getLast?_map, hl]; rfl) (by simp)]
    exact getLast?_append_some _ _ _ (by
      cases h2 : p.2 with
      | nil => exact absurd h2 (hv p hp)
      | cons a t => rw [List.getLast?_cons_cons, ← h2]; exact hc)

/-- what `sparseRowOk` asks of one item `(index, value)` of a row with `n` columns -/
structure SparseItemOk (n : Nat) (p : Text × Text) : Prop where
  idx_ne : p.1 ≠ []
  idx_digits : p.1.all isDigit = true
  val_tok : sparseTokOk p.2 = true
  val_last : ∀ c, p.2.getLast? = some c → c ≠ RBRACE ∧ c ≠ LBRACE
  idx_lt : digitsVal p.1 < (n : Int)

theorem sparseRowOk_parts (n : Nat) (items : List (Text × Text)) (h : sparseRowOk n items = true) :
    (∀ p ∈ items, SparseItemOk n p) ∧ (items.map (fun p => digitsVal p.1)).Nodup := by
  unfold sparseRowOk at h
  simp only [Bool.and_eq_true, decide_eq_true_eq] at h
  refine ⟨fun p hp => ?_, h.2⟩
  have := List.all_eq_true.mp h.1 p hp
  simp only [Bool.and_eq_true, decide_eq_true_eq] at this
  refine ⟨this.1.1.1.1, this.1.1.1.2, this.1.1.2, ?_, this.2⟩
  intro c hc
  have h4 := this.1.2
  rw [hc] at h4
  simpa using h4

theorem stripBraces_written (inner : Text) (h1 : ∀ c, inner.head? = some c → (c == RBRACE || c == 32 || c == LBRACE) = false)
    (h2 : ∀ c, inner.getLast? = some c → (c == RBRACE || c == 32 || c == LBRACE) = false) :
    stripBraces (LBRACE :: (inner ++ [RBRACE])) = inner :=
  trim_wrap _ [LBRACE] inner [RBRACE] (by decide) (by decide) h1 h2

theorem digitsVal_nonneg (d : Text) : 0 ≤ digitsVal d := by unfold digitsVal; exact Int.natCast_nonneg _

theorem sparseTokens_written (n pad : Nat) (items : List (Text × Text)) (hne : items ≠ []) (h : sparseRowOk n items = true) :
    sparseSplit (stripBraces (sparseWriteRow pad items)) = flatItems items := by
  obtain ⟨hall, _⟩ := sparseRowOk_parts n items h
  obtain ⟨⟨p1, hp1, c1, hc1, hh⟩, p2, hp2, c2, hc2, hl⟩ := sparseWriteItems_ends pad items hne
    (fun p hp => (hall p hp).idx_ne) (fun p hp => (sparseTokOk_parts p.2 (hall p hp).val_tok).ne)
  have hhead : ∀ c, (sparseWriteItems pad items).head? = some c → (c == RBRACE || c == 32 || c == LBRACE) = false := by
    intro c hc
    rw [hh] at hc; cases hc
    have := List.all_eq_true.mp (hall p1 hp1).idx_digits c1 (List.mem_of_mem_head? hc1)
    unfold isDigit at this
    simp only [Bool.and_eq_true, decide_eq_true_eq] at this
    -- a digit lies between `0` and `9`, the blank below and the braces above
    simp only [Bool.or_eq_false_iff, beq_eq_false_iff_ne, RBRACE, LBRACE]
    exact ⟨⟨Nat.ne_of_lt (Nat.lt_of_le_of_lt this.2 (by decide)), Nat.ne_of_gt (Nat.lt_of_lt_of_le (by decide) this.1)⟩,
      Nat.ne_of_lt (Nat.lt_of_le_of_lt this.2 (by decide))⟩
  have hlast : ∀ c, (sparseWriteItems pad items).getLast? = some c → (c == RBRACE || c == 32 || c == LBRACE) = false := by
    intro c hc
    rw [hl] at hc; cases hc
    have hp' := hall p2 hp2
    have hb := hp'.val_last c2 hc2
    have hws := ((sparseTokOk_parts p2.2 hp'.val_tok).chars c2 (List.mem_of_getLast? hc2)).1
    have h32 : c2 ≠ 32 := by intro e; subst e; simp [isPySpace] at hws
    simp [hb.1, hb.2, h32]
  unfold sparseWriteRow sparseSplit
  rw [stripBraces_written _ hhead hlast]
  match items, hne with
  | (d, v) :: r, _ =>
    exact sparseSplit_items pad 0 d v r (fun p hp => ⟨(hall p hp).idx_ne, (hall p hp).idx_digits, (hall p hp).val_tok⟩)

theorem arffSparseLine_written (n pad : Nat) (items : List (Text × Text)) (h : sparseRowOk n items = true) :
    arffSparseLine n (sparseWriteRow pad items) = .ok (items.map (fun p => (digitsVal p.1, p.2))) := by
  obtain ⟨hall, hnd⟩ := sparseRowOk_parts n items h
  unfold arffSparseLine
  by_cases hne : items = []
  · subst hne
    have e : stripBraces (sparseWriteRow pad []) = [] := by
      show stripBraces [LBRACE, RBRACE] = []
      decide
    rw [e]
    rfl
  · have hne' : ¬ (flatItems items = [[]]) := by
      match items, hne with
      | (d, v) :: r, _ => exact fun e => by cases e
    have hz : (List.map digitsVal (items.map (·.1))).zip (items.map (·.2)) = items.map (fun p => (digitsVal p.1, p.2)) := by
      rw [List.map_map]; exact List.zip_map'
    have hrange : (items.map (fun p => (digitsVal p.1, p.2))).any (fun p => decide (p.1 < 0) || decide ((n : Int) ≤ p.1)) = false := by
      rw [List.any_eq_false]
      intro x hx
      obtain ⟨p, hp, rfl⟩ := List.mem_map.mp hx
      simp only [Bool.or_eq_true, decide_eq_true_eq, not_or]
      exact ⟨Int.not_lt.mpr (digitsVal_nonneg p.1), Int.not_le.mpr (hall p hp).idx_lt⟩
    have hd : dictOf (items.map (fun p => (digitsVal p.1, p.2))) = items.map (fun p => (digitsVal p.1, p.2)) :=
      dictOf_nodup _ (by rw [List.map_map]; exact hnd)
    rw [sparseTokens_written n pad items hne h]
    simp only [hne', if_false, (evens_odds_flat items).1, (evens_odds_flat items).2, parseKeys_digits _ (fun x hx => by
      obtain ⟨p, hp, rfl⟩ := List.mem_map.mp hx
      exact ⟨(hall p hp).idx_ne, (hall p hp).idx_digits⟩), hz, hd, hrange, Bool.false_eq_true]

/-! ## whole dense files -/

/-! ### cells that fit their column -/

theorem isFloatLit_qm : isFloatLit [QM] = false := by decide

/-- the cells `cellWOk` allows in a column -/
inductive CellFits : Enc → Bool × CellW → Prop
  | num (b t) : isFloatLit t = true → t.contains QM = false → CellFits .numeric (b, .num t)
  | str (b s) : s.contains QM = false → CellFits .str (b, .str s)
  | cat (b lv s) : lv.contains s = true → s.contains QM = false → CellFits (.nominal lv) (b, .cat s)
  | missing (e) : (∀ lv, e = .nominal lv → lv.contains [QM] = false) → CellFits e (false, .missing)

theorem cellWOk_fits (e : Enc) (x : Bool × CellW) (h : cellWOk e x = true) : CellFits e x := by
  obtain ⟨b, c⟩ := x
  cases e <;> cases c <;> simp only [cellWOk, Bool.and_eq_true, Bool.not_eq_true', Bool.false_eq_true] at h
  · exact h ▸ .missing _ nofun
  · exact .num b _ h.1 h.2
  · exact h ▸ .missing _ nofun
  · exact .str b _ h
  · exact h.1 ▸ .missing _ fun lv e => by cases e; exact h.2
  · exact .cat b _ _ h.1 h.2

theorem encodeCell_written (e : Enc) (x : Bool × CellW) (h : cellWOk e x = true) :
    encodeCell e x.2.text = .ok (x.2.out e) := by
  cases cellWOk_fits e x h with
  | num b t h1 _ => simp only [encodeCell, CellW.text, CellW.out, h1, if_true]
  | str b s h1 =>
    have hne : ¬ (s = [QM]) := fun e => by rw [e] at h1; revert h1; decide
    simp only [encodeCell, CellW.text, CellW.out, hne, if_false]
  | cat b lv s h1 _ => simp only [encodeCell, CellW.text, CellW.out, h1, if_true]
  | missing e hlv =>
    cases e with
    | numeric => simp [encodeCell, CellW.text, CellW.out, isFloatLit_qm]
    | str => simp [encodeCell, CellW.text, CellW.out]
    | nominal lv => simp only [encodeCell, CellW.text, CellW.out, hlv lv rfl, Bool.false_eq_true, if_false, true_or, if_true]

theorem rowCellsOk_ind {motive : List Enc → List (Bool × CellW) → Prop} (nil : motive [] [])
    (cons : ∀ e es x xs, cellWOk e x = true → motive es xs → motive (e :: es) (x :: xs)) :
    ∀ encs row, rowCellsOk encs row = true → motive encs row
  | [], [], _ => nil
  | e :: es, x :: xs, h => by
    rw [rowCellsOk, Bool.and_eq_true] at h
    exact cons e es x xs h.1 (rowCellsOk_ind nil cons es xs h.2)
  | [], _ :: _, h => by cases h
  | _ :: _, [], h => by cases h

theorem rowCellsOk_length (encs : List Enc) (row : List (Bool × CellW)) (h : rowCellsOk encs row = true) : row.length = encs.length :=
  rowCellsOk_ind (motive := fun encs row => row.length = encs.length) rfl (fun _ _ _ _ _ ih => congrArg Nat.succ ih) encs row h

theorem rowCellsOk_mem (encs : List Enc) (row : List (Bool × CellW)) (h : rowCellsOk encs row = true) :
    ∀ x ∈ row, ∃ e, cellWOk e x = true := by
  refine rowCellsOk_ind (motive := fun _ row => ∀ x ∈ row, ∃ e, cellWOk e x = true)
    (fun _ hx => absurd hx List.not_mem_nil) ?_ encs row h
  intro e es x xs hx ih y hy
  rcases List.mem_cons.mp hy with rfl | hy
  · exact ⟨e, hx⟩
  · exact ih y hy

theorem encodeRow_written (encs : List Enc) (row : List (Bool × CellW)) (h : rowCellsOk encs row = true) :
    encodeRow encs (row.map (·.2.text)) = .ok (rowOut encs row) := by
  refine rowCellsOk_ind (motive := fun encs row => encodeRow encs (row.map (·.2.text)) = .ok (rowOut encs row)) rfl ?_ encs row h
  intro e es x xs hx ih
  simp only [List.map_cons, encodeRow, encodeCell_written e x hx, ih, rowOut]

/-- `?` is how a missing cell is written, and no other cell contains it -/
structure MissingMark (x : Bool × CellW) : Prop where
  missing : x.2.isMissing = true → denseTok x = (false, [QM])
  present : x.2.isMissing = false → x.2.text.contains QM = false

theorem cellWOk_facts (e : Enc) (x : Bool × CellW) (h : cellWOk e x = true) : MissingMark x := by
  cases cellWOk_fits e x h with
  | num b t _ h2 => exact ⟨nofun, fun _ => h2⟩
  | str b s h2 => exact ⟨nofun, fun _ => h2⟩
  | cat b lv s _ h2 => exact ⟨nofun, fun _ => h2⟩
  | missing e _ => exact ⟨fun _ => rfl, nofun⟩

/-! ### `startsWith`, `hasSub`, `endsWith` -/

theorem startsWith_iff {p t : Text} : startsWith p t = true ↔ p <+: t := by
  unfold startsWith
  rw [beq_iff_eq, List.prefix_iff_eq_take]
  exact eq_comm

theorem hasSub_iff {p t : Text} : hasSub p t = true ↔ p <:+: t := by
  induction t with
  | nil => rw [hasSub, List.isEmpty_iff, List.infix_nil]
  | cons c t ih => rw [hasSub, Bool.or_eq_true, startsWith_iff, ih, List.infix_cons_iff]

theorem endsWith_iff {p t : Text} : endsWith p t = true ↔ p <:+ t := by
  unfold endsWith
  rw [startsWith_iff, List.reverse_prefix]

/-! ### the dense missing flag -/

theorem compact_append (a b : Text) : compact (a ++ b) = compact a ++ compact b := by simp [compact]

theorem compact_spaces (k : Nat) : compact (List.replicate k 32) = [] :=
  List.filter_eq_nil_iff.mpr (forall_mem_replicate (by decide) k)

theorem missing_split (q : Nat) (also : Nat → Bool) (pad : Nat) (toks : List (Bool × Text)) (h : (false, [QM]) ∈ toks) :
    ∃ P S, arffWriteRow q also pad toks = P ++ QM :: S ∧ (P = [] ∨ ∃ P', P = P' ++ COMMA :: List.replicate pad 32) ∧
      (S = [] ∨ ∃ S', S = COMMA :: S') := by
  have htok : arffWriteTok q also (false, [QM]) = [QM] := arffWriteTok_bare q also (by decide)
  obtain ⟨P, S, he, hP, hS⟩ := intercalate_split (S := COMMA :: List.replicate pad 32)
    (List.mem_map_of_mem (f := arffWriteTok q also) h)
  rw [htok] at he
  exact ⟨P, S, by rw [arffWriteRow_eq, he, List.append_assoc]; rfl, hP, hS.imp_right fun ⟨Q', h⟩ => ⟨_, h⟩⟩

theorem denseMissing_true (line P S : Text) (he : line = P ++ QM :: S)
    (hP : P = [] ∨ ∃ P' k, P = P' ++ COMMA :: List.replicate k 32) (hS : S = [] ∨ ∃ S', S = COMMA :: S') :
    denseMissing line = true := by
  have hcont : line.contains QM = true := by
    rw [he, List.contains_iff_mem]
    exact List.mem_append_right _ List.mem_cons_self
  have hcomma : ∀ X, compact (COMMA :: X) = COMMA :: compact X := fun X => List.filter_cons_of_pos (by decide)
  have hc : compact line = compact P ++ QM :: compact S := by
    rw [he, compact_append, show compact (QM :: S) = QM :: compact S from List.filter_cons_of_pos (by decide)]
  -- the four shapes of `P`, `S` are the four tests on the compacted line
  have hD : ((compact line = [QM] ∨ (compact line).take 2 = [QM, COMMA]) ∨ hasSub [COMMA, QM, COMMA] (compact line) = true) ∨
      endsWith [COMMA, QM] (compact line) = true := by
    rw [hc]
    rcases hP with hP | ⟨P', k, hP⟩ <;> rcases hS with hS | ⟨S', hS⟩ <;> subst hP <;> subst hS
    · exact .inl (.inl (.inl rfl))
    · rw [hcomma]
      exact .inl (.inl (.inr rfl))
    · rw [compact_append, hcomma, compact_spaces, List.append_assoc]
      exact .inr (endsWith_iff.mpr (List.suffix_append _ _))
    · rw [compact_append, hcomma, compact_spaces, hcomma, List.append_assoc]
      exact .inl (.inr (hasSub_iff.mpr (List.infix_append' _ _ _)))
  unfold denseMissing
  rw [hcont, Bool.not_true, if_neg Bool.false_ne_true]
  by_cases h1 : line.take 2 = [QM, COMMA]
  · rw [if_pos h1]
  rw [if_neg h1]
  by_cases h2 : endsWith [COMMA, QM] line = true
  · rw [if_pos h2]
  rw [if_neg h2]
  simpa only [Bool.or_eq_true, decide_eq_true_eq] using hD

theorem denseMissing_written (q : Nat) (hq : q = SQ ∨ q = DQ) (also : Nat → Bool) (pad : Nat) (encs : List Enc) (row : List (Bool × CellW))
    (hc : rowCellsOk encs row = true) :
    denseMissing (denseRowLine q also pad row) = row.any (·.2.isMissing) := by
  have hmem := rowCellsOk_mem encs row hc
  cases hany : row.any (·.2.isMissing) with
  | true =>
    obtain ⟨x, hx, hxm⟩ := List.any_eq_true.mp hany
    obtain ⟨e, he⟩ := hmem x hx
    have htok : (false, [QM]) ∈ row.map denseTok := by
      rw [← (cellWOk_facts e x he).missing hxm]; exact List.mem_map_of_mem hx
    obtain ⟨P, S, hl, hP, hS⟩ := missing_split q also pad _ htok
    exact denseMissing_true _ P S hl (by
      rcases hP with h | ⟨P', h⟩
      · exact Or.inl h
      · exact Or.inr ⟨P', pad, h⟩) hS
  | false =>
    have hno : (denseRowLine q also pad row).contains QM = false := by
      cases hcq : (denseRowLine q also pad row).contains QM with
      | false => rfl
      | true =>
        exfalso
        simp only [List.contains_iff_mem] at hcq
        rcases arffWriteRow_mem q also pad _ QM hcq with h | h | h | h | h
        · revert h; decide
        · revert h; decide
        · revert h; decide
        · rcases hq with hq | hq <;> rw [hq] at h <;> exact absurd h.1 (by decide)
        · obtain ⟨t, ht, hqm⟩ := h
          simp only [List.mem_map] at ht
          obtain ⟨x, hx, rfl⟩ := ht
          obtain ⟨e, he⟩ := hmem x hx
          have hm : x.2.isMissing = false := by
            have := List.any_eq_false.mp hany x hx
            simpa using this
          have := (cellWOk_facts e x he).present hm
          have hc2 : x.2.text.contains QM = true := by simpa [denseTok] using hqm
          rw [this] at hc2; cases hc2
    unfold denseMissing
    simp only [hno, Bool.not_false, if_true]

theorem denseRows_written (q : Nat) (hq : q = SQ ∨ q = DQ) (also : Nat → Bool) (encs : List Enc)
    (rows : List (Nat × List (Bool × CellW))) (hrows : ∀ r ∈ rows, denseRowWOk q also r.1 encs r.2 = true)
    (s : ALR) (hs : ALR.Inv q s) :
    denseRows encs encs.length (toF s) (rows.map (fun r => denseRowLine q also r.1 r.2)) =
      .ok (rows.map fun r => ⟨rowOut encs r.2, r.2.any (·.2.isMissing)⟩) := by
  induction rows generalizing s with
  | nil => rfl
  | cons r rs ih =>
    have hr := hrows r List.mem_cons_self
    simp only [denseRowWOk, Bool.and_eq_true, bne_iff_ne, ne_eq] at hr
    obtain ⟨⟨hcells, hrow⟩, hpct⟩ := hr
    obtain ⟨s', hstep, hs'⟩ := arffLineStep_written q hq also r.1 (r.2.map denseTok) hrow s hs
    rw [List.length_map, rowCellsOk_length encs r.2 hcells] at hstep
    have hfull : arffLineStepF encs.length (toF s) (denseRowLine q also r.1 r.2) = .ok (toF s', (r.2.map denseTok).map (·.2)) :=
      arffLineStep_full _ _ _ _ _ hstep
    have henc := encodeRow_written encs r.2 hcells
    rw [show r.2.map (·.2.text) = (r.2.map denseTok).map (·.2) by rw [List.map_map]; rfl] at henc
    simp only [List.map_cons, denseRows, hpct, if_false, hfull, henc,
      ih (fun r' hr' => hrows r' (List.mem_cons_of_mem _ hr')) s' hs', denseMissing_written q hq also r.1 encs r.2 hcells]

/-! ## whole sparse files -/

theorem sparseItems_written (names : List Text) (encs : List Enc) (row : List (Text × CellW)) (tail : List (Int × Text))
    (T : List (Text × Cell))
    (hrow : ∀ x ∈ row, ∀ e, encs[(digitsVal x.1).toNat]? = some e → cellWOk e (false, x.2) = true)
    (ht : sparseItems names encs tail = .ok T) :
    sparseItems names encs (row.map (fun x => (digitsVal x.1, x.2.text)) ++ tail) =
      .ok (row.filterMap (sparseItemOut names encs) ++ T) := by
  induction row with
  | nil => simpa using ht
  | cons x row ih =>
    have ih' := ih (fun y hy => hrow y (by simp [hy]))
    simp only [List.map_cons, List.cons_append, sparseItems, nthD, List.filterMap_cons, sparseItemOut]
    cases hn : names[(digitsVal x.1).toNat]? with
    | none => simp [ih']
    | some nm =>
      cases he : encs[(digitsVal x.1).toNat]? with
      | none => simp [ih']
      | some e =>
        have := encodeCell_written e (false, x.2) (hrow x (by simp) e he)
        simp only at this
        simp [this, ih']

/-- the predicate inside `notSparse` -/
def nspP (encs : List Enc) (i : Nat) : Bool :=
  match nthD encs i with
  | some .numeric => false
  | some .str => true
  | some (.nominal lv) => lv.contains ZERO
  | none => false

theorem notSparse_eq (encs : List Enc) : notSparse encs = (List.range encs.length).filter (nspP encs) := rfl

theorem contains_map_fst (raw : List (Int × Text)) (i : Int) :
    (raw.map (·.1)).contains i = raw.any (fun p => decide (p.1 = i)) := by
  induction raw with
  | nil => rfl
  | cons p r ih =>
    rw [List.map_cons, List.contains_cons, List.any_cons, ih]
    by_cases h : p.1 = i
    · simp [h]
    · have hb : (i == p.1) = false := by simpa using (fun e => h e.symm : ¬ i = p.1)
      simp [h, hb]

theorem sparseItems_nat (names : List Text) (encs : List Enc) (i : Nat) (v : Text) (rest : List (Int × Text)) :
    sparseItems names encs (((i : Int), v) :: rest) =
      match names[i]?, encs[i]? with
      | some nm, some e => (match encodeCell e v with
        | .error er => .error er
        | .ok c => match sparseItems names encs rest with | .error er => .error er | .ok r => .ok ((nm, c) :: r))
      | _, _ => sparseItems names encs rest := by
  rw [sparseItems]
  simp only [nthD, Int.toNat_natCast]
  cases names[i]? <;> cases encs[i]? <;> rfl

theorem sparseDefault_step (names : List Text) (encs : List Enc) (raw : List (Int × Text)) (i : Nat)
    (rest : List (Int × Text)) (R : List (Text × Cell)) (hR : sparseItems names encs rest = .ok R) :
    sparseItems names encs
        ((if (nspP encs i && !(raw.any (fun p => p.1 = (i : Int)))) = true then [((i : Int), ZERO)] else []) ++ rest) =
      .ok ((sparseDefaultAt names encs (raw.map (·.1)) i).toList ++ R) := by
  unfold sparseDefaultAt nspP nthD
  rw [contains_map_fst]
  cases hq : raw.any (fun p => decide (p.1 = (i : Int))) with
  | true => rw [Bool.not_true, Bool.and_false, if_neg Bool.false_ne_true, if_pos rfl]; exact hR
  | false =>
    rw [Bool.not_false, Bool.and_true, if_neg Bool.false_ne_true]
    cases he : encs[i]? with
    | none => cases names[i]? <;> exact hR
    | some e =>
      cases hn : names[i]? with
      | none =>
        have : ∀ b : Bool, sparseItems names encs ((if b = true then [((i : Int), ZERO)] else []) ++ rest) = .ok R := fun b => by
          cases b
          · exact hR
          · rw [if_pos rfl, List.singleton_append, sparseItems_nat, hn]; exact hR
        exact this _
      | some nm =>
        cases e with
        | numeric => exact hR
        | str =>
          rw [if_pos rfl, List.singleton_append, sparseItems_nat, hn, he]
          simp only [hR]
          rfl
        | nominal lv =>
          simp only [sparseDefaultCell]
          by_cases hm : lv.contains ZERO = true
          · rw [if_pos hm, if_pos hm, List.singleton_append, sparseItems_nat, hn, he]
            simp only [encodeCell, hm, if_true, hR]
            rfl
          · rw [if_neg hm, if_neg hm]; exact hR

theorem sparseItems_defaults (names : List Text) (encs : List Enc) (raw : List (Int × Text)) (l : List Nat) :
    sparseItems names encs ((((l.filter (nspP encs)).filter
        (fun (i : Nat) => !(raw.any (fun p => p.1 = (i : Int))))).map (fun (i : Nat) => ((i : Int), ZERO))))
      = .ok (l.filterMap (sparseDefaultAt names encs (raw.map (·.1)))) := by
  rw [List.filter_filter]
  induction l with
  | nil => rfl
  | cons i l ih =>
    have := sparseDefault_step names encs raw i _ _ ih
    rw [List.filter_cons, List.filterMap_cons]
    rw [Bool.and_comm] at this
    split <;> rename_i hk
    · rw [if_pos hk] at this
      rw [List.map_cons]
      exact this.trans (by cases sparseDefaultAt names encs (raw.map (·.1)) i <;> rfl)
    · rw [if_neg hk] at this
      exact this.trans (by cases sparseDefaultAt names encs (raw.map (·.1)) i <;> rfl)

/-! ### the sparse missing flag -/

theorem sparseWriteItems_mem (pad : Nat) (items : List (Text × Text)) (c : Nat) (h : c ∈ sparseWriteItems pad items) :
    c = 32 ∨ c = COMMA ∨ ∃ p ∈ items, c ∈ p.1 ∨ c ∈ p.2 := by
  rw [sparseWriteItems_eq] at h
  rcases mem_intercalate h with h | ⟨t, ht, hc⟩
  · exact (mem_comma_pad h).elim (fun h => .inr (.inl h)) .inl
  · obtain ⟨p, hp, rfl⟩ := List.mem_map.mp ht
    rcases List.mem_append.mp hc with h | h
    · exact .inr (.inr ⟨p, hp, .inl h⟩)
    · exact (List.mem_cons.mp h).elim .inl fun h => .inr (.inr ⟨p, hp, .inr h⟩)

theorem sparse_missing_split (pad : Nat) (items : List (Text × Text)) (d : Text) (h : (d, [QM]) ∈ items) :
    ∃ P S, sparseWriteItems pad items = P ++ 32 :: QM :: S ∧ (S = [] ∨ ∃ S', S = COMMA :: S') := by
  obtain ⟨P, S, he, _, hS⟩ := intercalate_split (S := COMMA :: List.replicate pad 32)
    (List.mem_map_of_mem (f := fun p : Text × Text => p.1 ++ 32 :: p.2) h)
  exact ⟨P ++ d, S, by rw [sparseWriteItems_eq, he]; simp only [List.append_assoc, List.cons_append, List.nil_append],
    hS.imp_right fun ⟨Q', h⟩ => ⟨_, h⟩⟩

theorem sparseRowWOk_parts (n : Nat) (encs : List Enc) (row : List (Text × CellW)) (h : sparseRowWOk n encs row = true) :
    sparseRowOk n (row.map sparseTok) = true ∧
    ∀ x ∈ row, ∃ e, encs[(digitsVal x.1).toNat]? = some e ∧ cellWOk e (false, x.2) = true := by
  unfold sparseRowWOk at h
  simp only [Bool.and_eq_true] at h
  refine ⟨h.1, fun x hx => ?_⟩
  have := List.all_eq_true.mp h.2 x hx
  cases he : encs[(digitsVal x.1).toNat]? with
  | none => rw [he] at this; cases this
  | some e => rw [he] at this; exact ⟨e, rfl, this⟩

theorem sparseMissing_true (P S : Text) (hS : S = [] ∨ ∃ S', S = COMMA :: S') :
    sparseMissing (LBRACE :: (P ++ 32 :: QM :: S ++ [RBRACE])) = true := by
  unfold sparseMissing
  rcases hS with rfl | ⟨S', rfl⟩
  · rw [show LBRACE :: (P ++ [32, QM] ++ [RBRACE]) = (LBRACE :: P) ++ [32, QM, RBRACE] by simp]
    exact Bool.or_eq_true_iff.mpr (.inr (endsWith_iff.mpr (List.suffix_append _ _)))
  · rw [show LBRACE :: (P ++ 32 :: QM :: COMMA :: S' ++ [RBRACE]) = (LBRACE :: P) ++ ([32, QM, COMMA] ++ (S' ++ [RBRACE])) by simp]
    exact Bool.or_eq_true_iff.mpr (.inl (hasSub_iff.mpr (List.infix_append' _ _ _)))

theorem sparseMissing_false (line : Text) (h : ¬ QM ∈ line) : sparseMissing line = false := by
  unfold sparseMissing
  rw [Bool.or_eq_false_iff]
  constructor
  · cases hh : hasSub [32, QM, COMMA] line with
    | false => rfl
    | true => exact absurd ((hasSub_iff.mp hh).subset (List.mem_cons_of_mem _ List.mem_cons_self)) h
  · cases hh : endsWith [32, QM, RBRACE] line with
    | false => rfl
    | true => exact absurd ((endsWith_iff.mp hh).subset (List.mem_cons_of_mem _ List.mem_cons_self)) h

theorem sparseMissing_written (pad n : Nat) (encs : List Enc) (row : List (Text × CellW)) (h : sparseRowWOk n encs row = true) :
    sparseMissing (sparseRowLine pad row) = row.any (·.2.isMissing) := by
  obtain ⟨hok, hcells⟩ := sparseRowWOk_parts n encs row h
  obtain ⟨hall, _⟩ := sparseRowOk_parts n _ hok
  cases hany : row.any (·.2.isMissing) with
  | true =>
    obtain ⟨x, hx, hxm⟩ := List.any_eq_true.mp hany
    have hxt : sparseTok x = (x.1, [QM]) := by
      obtain ⟨d, c⟩ := x
      cases c <;> simp [CellW.isMissing] at hxm
      rfl
    obtain ⟨P, S, he, hS⟩ := sparse_missing_split pad _ x.1 (hxt ▸ List.mem_map_of_mem (f := sparseTok) hx)
    unfold sparseRowLine sparseWriteRow
    rw [he]
    exact sparseMissing_true P S hS
  | false =>
    refine sparseMissing_false _ fun hq => ?_
    unfold sparseRowLine sparseWriteRow at hq
    simp only [List.mem_cons, List.mem_append] at hq
    rcases hq with hq | hq | hq
    · revert hq; decide
    · rcases sparseWriteItems_mem pad _ QM hq with h1 | h1 | ⟨p, hp, h1⟩
      · revert h1; decide
      · revert h1; decide
      · obtain ⟨x, hx, rfl⟩ := List.mem_map.mp hp
        rcases h1 with h1 | h1
        · have := List.all_eq_true.mp (hall (sparseTok x) (List.mem_map_of_mem hx)).idx_digits QM h1
          revert this; decide
        · obtain ⟨e, _, hce⟩ := hcells x hx
          have hm : x.2.isMissing = false := by simpa using List.any_eq_false.mp hany x hx
          have hf := (cellWOk_facts e (false, x.2) hce).present hm
          have hc2 : x.2.text.contains QM = true := by simpa [sparseTok] using h1
          simp only at hf
          rw [hf] at hc2; cases hc2
    · revert hq; decide

/-! ### rows -/

theorem sparseRowLine_shape (pad : Nat) (row : List (Text × CellW)) :
    (sparseRowLine pad row).head? = some LBRACE ∧ (sparseRowLine pad row).getLast? = some RBRACE := by
  unfold sparseRowLine sparseWriteRow
  refine ⟨rfl, ?_⟩
  rw [← List.cons_append]
  exact getLast?_append_some _ _ _ rfl

theorem sparseRows_written (names : List Text) (encs : List Enc) (n : Nat) (rows : List (Nat × List (Text × CellW)))
    (hrows : ∀ r ∈ rows, sparseRowWOk n encs r.2 = true) :
    sparseRows names encs n (rows.map (fun r => sparseRowLine r.1 r.2)) =
      .ok (rows.map fun r => ⟨sparseRowOut names encs r.2, r.2.any (·.2.isMissing)⟩) := by
  induction rows with
  | nil => rfl
  | cons r rows ih =>
    have hr := hrows r (by simp)
    obtain ⟨hok, hcells⟩ := sparseRowWOk_parts n encs r.2 hr
    have hpct : ¬ (sparseRowLine r.1 r.2).head? = some PCT := by
      rw [(sparseRowLine_shape r.1 r.2).1]; decide
    have hline : arffSparseLine n (sparseRowLine r.1 r.2) = .ok (r.2.map (fun x => (digitsVal x.1, x.2.text))) := by
      unfold sparseRowLine
      rw [arffSparseLine_written n r.1 _ hok, List.map_map]
      rfl
    have hdef := sparseItems_defaults names encs (r.2.map (fun x => (digitsVal x.1, x.2.text))) (List.range encs.length)
    have hfst : (r.2.map (fun x => (digitsVal x.1, x.2.text))).map (·.1) = r.2.map (fun x => digitsVal x.1) := by
      simp [List.map_map, Function.comp_def]
    rw [hfst] at hdef
    have hitems := sparseItems_written names encs r.2 _ _ (fun x hx e he => by
      obtain ⟨e', he', hc⟩ := hcells x hx
      rw [he] at he'; cases he'; exact hc) hdef
    simp only [List.map_cons, sparseRows, hpct, if_false, hline, notSparse_eq]
    rw [hitems, ih (fun x hx => hrows x (by simp [hx])), sparseMissing_written r.1 n encs r.2 hr]
    rfl

/-! ## a written file, dense or sparse: the header, then the rows -/

theorem notBraced_eq (line : Text) :
    notBraced line = (!(line.head? = some LBRACE) || !(line.getLast? = some RBRACE)) := by
  rw [Bool.eq_iff_iff]
  simp [notBraced]

theorem attrW_line_facts (isDense : Bool) (q : Nat) (also : Nat → Bool) (a : AttrW) (h : a.ok isDense = true) :
    lowerAscii ((a.line q also).take 5) = kwAttr ∧ lowerAscii (a.line q also) ≠ kwData := by
  simp only [AttrW.ok, Bool.and_eq_true, beq_iff_eq] at h
  exact attrLine_facts _ (by rw [(attrW_line_cut q also a h.1.1.1.1).1]; exact h.1.1.1.1)

theorem arffReadN_written (isDense : Bool) (q : Nat) (also : Nat → Bool) (attrs : List AttrW) (dkw : Text) (data : List Text)
    (hok : ∀ a ∈ attrs, a.ok isDense = true) (hdkw : lowerAscii dkw = kwData) :
    arffReadN (attrs.map (·.line q also) ++ dkw :: data) = arffReadParts (attrs.map (·.line q also)) data := by
  have hf : (attrs.map (·.line q also)).filter (fun l => decide (lowerAscii (l.take 5) = kwAttr)) = attrs.map (·.line q also) := by
    rw [List.filter_eq_self]
    intro l hl
    obtain ⟨a, ha, rfl⟩ := List.mem_map.mp hl
    simpa using (attrW_line_facts isDense q also a (hok a ha)).1
  rw [arffReadN_split _ _ dkw (fun l hl => by
    obtain ⟨a, ha, rfl⟩ := List.mem_map.mp hl
    exact (attrW_line_facts isDense q also a (hok a ha)).2) hdkw, hf]

theorem arffReadParts_written (isDense : Bool) (q : Nat) (hq : q = SQ ∨ q = DQ) (also : Nat → Bool) (attrs : List AttrW)
    (hattrs : attrs ≠ []) (hok : ∀ a ∈ attrs, a.ok isDense = true) (hnd : (attrs.map (·.name.2)).Nodup)
    (first : Text) (rest : List Text) (hpct : first.head? ≠ some PCT)
    (hshape : (!(first.head? = some LBRACE) || !(first.getLast? = some RBRACE)) = isDense) :
    arffReadParts (attrs.map (·.line q also)) (first :: rest) =
      if isDense then
        (denseRows (attrs.map (·.typ.enc isDense)) attrs.length ALRF.init (first :: rest)).map (.dense (attrs.map (·.name.2)))
      else
        (sparseRows (attrs.map (·.name.2)) (attrs.map (·.typ.enc isDense)) attrs.length (first :: rest)).map
          (.sparse (attrs.map (·.name.2))) := by
  unfold arffReadParts
  rw [List.dropWhile_cons_of_neg (by simpa using hpct)]
  simp only
  rw [hshape, arffAttrs_written isDense q hq also attrs [] hok hnd (fun _ _ => List.not_mem_nil)]
  cases attrs with
  | nil => exact absurd rfl hattrs
  | cons a0 as =>
    simp only [List.map_cons, List.map_map, List.length_cons, List.length_map, Function.comp_def]
    cases isDense
    · simp only [Bool.false_eq_true, if_false]
      cases sparseRows _ _ _ _ <;> rfl
    · simp only [if_true]
      cases denseRows _ _ _ _ <;> rfl

end Coba.C12
