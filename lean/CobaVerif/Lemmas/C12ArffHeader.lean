/-
C12, the ARFF attribute header: `ArffAttrReader._split` (its loop, the comma and the white-space pattern) on names,
types and nominal level lists as a Weka / OpenML-style writer emits them.
-/
import CobaVerif.Lemmas.C12Writers

namespace Coba.C12

/-! ## quoted tokens, `settle`, the split loop -/

section esc
variable (q : Nat) (also : Nat → Bool)

theorem hdrEscape_filter (v : Text) (h : v.contains BS = false) : (hdrEscape q also v).filter (· != BS) = v := by
  have hv : ∀ a ∈ v, a ≠ BS := fun a ha e => by rw [List.contains_iff_mem.mpr (e ▸ ha)] at h; cases h
  rw [hdrEscape_eq, List.filter_flatMap, List.flatMap_def, List.map_congr_left (g := fun a => [a]) fun a ha => by
    have := hv a ha
    split <;> simp [this], ← List.flatMap_def, List.flatMap_singleton']

theorem findSome?_some {α} (l : List α) : l.findSome? some = l.head? := by cases l <;> rfl

theorem hdrEscape_last (v : Text) : (hdrEscape q also v).getLast? = v.getLast? := by
  rw [hdrEscape_eq, List.getLast?_flatMap, show (fun a => (if a = q ∨ also a = true then [BS, a] else [a]).getLast?) = some from
    funext fun a => by split <;> rfl, findSome?_some, List.head?_reverse]

theorem hdrEscape_head (v : Text) (c : Nat) (h : (hdrEscape q also v).head? = some c) : c = BS ∨ v.head? = some c := by
  rw [hdrEscape_eq, List.head?_flatMap] at h
  cases v with
  | nil => cases h
  | cons a t =>
    rw [List.findSome?_cons] at h
    by_cases ha : a = q ∨ also a = true
    · rw [if_pos ha] at h; exact .inl (Option.some.inj h).symm
    · rw [if_neg ha] at h; exact .inr h

theorem hdrEscape_q_pre (hq : q ≠ BS) (v a b : Text) (h : hdrEscape q also v = a ++ q :: b) : a.getLast? = some BS := by
  induction v generalizing a with
  | nil => simp [hdrEscape] at h
  | cons c t ih =>
    simp only [hdrEscape] at h
    split at h
    · match a, h with
      | [], h => simp at h; exact absurd h.1.symm hq
      | [x], h => simp at h; simp [h.1]
      | x :: y :: a', h =>
        simp only [List.cons_append, List.cons.injEq] at h
        have := ih a' h.2.2
        have hne : a' ≠ [] := by intro e; subst e; simp at this
        cases a' with
        | nil => exact absurd rfl hne
        | cons z a'' => simpa [List.getLast?_cons_cons] using this
    · rename_i hc
      match a, h with
      | [], h => simp at h; exact absurd (Or.inl h.1) hc
      | x :: a', h =>
        simp only [List.cons_append, List.cons.injEq] at h
        have := ih a' h.2
        cases a' with
        | nil => simp at this
        | cons z a'' => simpa [List.getLast?_cons_cons] using this

end esc

/-- the quoted branch of `hdrWriteTok`: what `settle` has to recognise as complete, and no proper prefix of it -/
def qTok (q : Nat) (also : Nat → Bool) (v : Text) : Text := q :: (hdrEscape q also v ++ [q])

theorem quoteCh_not_space_bs_comma (q : Nat) (hq : q = SQ ∨ q = DQ) : isPySpace q = false ∧ q ≠ BS ∧ q ≠ COMMA := by
  rcases hq with h | h <;> subst h <;> decide

theorem settle_qTok (q : Nat) (hq : q = SQ ∨ q = DQ) (also : Nat → Bool) (v : Text) (hv : v.contains BS = false) :
    settle (qTok q also v) = .done v := by
  obtain ⟨hq1, hq2, _⟩ := quoteCh_not_space_bs_comma q hq
  have hr : rstrip (qTok q also v) = qTok q also v := by
    apply rstrip_id
    intro c hc
    unfold qTok at hc
    rw [getLast?_cons_concat] at hc
    cases hc; exact hq1
  unfold settle
  rw [hr]
  unfold qTok
  simp only [List.head?_cons, getLast?_cons_concat, dropLast_cons_concat, ne_eq, not_true_eq_false, if_false, List.tail_cons,
    List.dropLast_concat, List.length_cons, List.length_append, List.length_nil]
  have hlen : ¬ ((hdrEscape q also v).length + (0 + 1) + 1 < 2) := by omega
  have hbs : ¬ ((q :: hdrEscape q also v).getLast? = some BS) := by
    cases hE : hdrEscape q also v with
    | nil => simp; exact hq2
    | cons a t =>
      rw [List.getLast?_cons_cons, ← hE, hdrEscape_last]
      intro hl
      have : BS ∈ v := List.mem_of_getLast? hl
      have : v.contains BS = true := by simpa using this
      rw [hv] at this; cases this
  simp only [hlen, hbs, if_false, hdrEscape_filter q also v hv]

theorem qTok_inner_quote (q : Nat) (hq2 : q ≠ BS) (also : Nat → Bool) (v r1 rest : Text) (h : qTok q also v = q :: (r1 ++ q :: rest))
    (hrest : rest ≠ []) : r1.getLast? = some BS := by
  unfold qTok at h
  obtain ⟨c', hc1, hc2⟩ := append_singleton_split _ _ _ _ (List.cons.inj h).2 (List.cons_ne_nil q rest)
  cases c' with
  | nil => exact absurd (List.cons.inj hc1).2 hrest
  | cons z b =>
    rw [← (List.cons.inj hc1).1] at hc2
    exact hdrEscape_q_pre q also hq2 v r1 b hc2

theorem settle_prefix_more (q : Nat) (hq : q = SQ ∨ q = DQ) (also : Nat → Bool) (v : Text)
    (x : Nat) (pre2 suf : Text) (hT : qTok q also v = q :: x :: pre2 ++ suf) (hsuf : suf ≠ []) (hx : isPySpace x = false) :
    settle (q :: x :: pre2) = .more := by
  obtain ⟨_, hq2, _⟩ := quoteCh_not_space_bs_comma q hq
  have hr : rstrip (q :: x :: pre2) = q :: x :: rstrip pre2 := rstrip_keep [q] x pre2 hx
  obtain ⟨w, hw, _, _⟩ := rstrip_spec (q :: x :: pre2)
  unfold settle
  rw [hr] at hw ⊢
  rw [hw] at hT
  generalize rstrip pre2 = r2 at hT ⊢
  simp only [List.head?_cons]
  obtain ⟨l, hl⟩ := exists_getLast? (List.cons_ne_nil q (x :: r2))
  rw [hl]
  simp only
  by_cases hlq : l = q
  · -- the stripped prefix is `q :: r1 ++ [q]`; that last quote lies inside the escaped text, so a backslash stands before it
    subst hlq
    obtain ⟨r0, hr0⟩ := List.getLast?_eq_some_iff.mp hl
    cases r0 with
    | nil => cases hr0
    | cons a r1 =>
      obtain ⟨rfl, -⟩ := List.cons.inj hr0
      rw [hr0] at hT ⊢
      have hBS := qTok_inner_quote l hq2 also v r1 (w ++ suf) (by rw [hT]; simp) (by simp [hsuf])
      rw [if_neg (fun h => h rfl), List.dropLast_concat, if_neg (by simp), if_pos (by
        cases r1 with
        | nil => cases hBS
        | cons z r1' => rw [List.getLast?_cons_cons]; exact hBS)]
  · rw [if_pos hlq]

theorem splitLoop_acc (P : Pat) (n : Option Nat) (c : Nat) (item p : Text) (ps : List Text) :
    splitLoop P n c (some item) (p :: ps) =
      match settle (item ++ p) with
      | .more => splitLoop P n c (some (item ++ p)) ps
      | .indexError => .error .indexError
      | .done v => (match splitLoop P n c none ps with | .error e => .error e | .ok r => .ok (v :: r)) := by
  rw [splitLoop]
  rfl

theorem splitLoop_none (P : Pat) (n : Option Nat) (count : Nat) (p : Text) (ps : List Text) :
    splitLoop P n count none (p :: ps) =
      (if lstrip p = [] ∨ P.matchStart (lstrip p) = true then splitLoop P n count none ps
       else if n = some (count + 1) then .ok [strip (lstrip p ++ ps.flatten)]
       else if (match lstrip p with | c :: _ => isQuoteCh c | [] => false) then
         match settle (lstrip p) with
         | .more => splitLoop P n (count + 1) (some (lstrip p)) ps
         | .indexError => .error .indexError
         | .done v => (match splitLoop P n (count + 1) none ps with | .error e => .error e | .ok r => .ok (v :: r))
       else
         match splitLoop P n (count + 1) none ps with
         | .error e => .error e
         | .ok r => .ok (strip (lstrip p) :: r)) := by
  rw [splitLoop]
  rfl

theorem splitLoop_skip_empty (P : Pat) (n : Option Nat) (c : Nat) (es R : List Text) (h : es.flatten = []) :
    splitLoop P n c none (es ++ R) = splitLoop P n c none R := by
  induction es with
  | nil => rfl
  | cons e es ih =>
    obtain ⟨he, hes⟩ := List.append_eq_nil_iff.mp (by rwa [List.flatten_cons] at h)
    rw [he, List.cons_append, splitLoop_none, if_pos (.inl rfl)]
    exact ih hes

/-- A quoted token that is being glued together: while text of it is still to come the item does not settle (its closing
quote is not yet there, and a quote met earlier is escaped); with the last of the text it settles as `v`.  How the text
is cut into pieces does not matter. -/
theorem splitLoop_quoted (P : Pat) (n : Option Nat) (c : Nat) (q : Nat) (hq : q = SQ ∨ q = DQ) (also : Nat → Bool) (v : Text)
    (hv : v.contains BS = false) (e0 : Nat) (he0 : isPySpace e0 = false) (tl R : List Text) (pre : Text)
    (hflat : q :: e0 :: pre ++ tl.flatten = qTok q also v) (hne : tl.flatten ≠ []) :
    splitLoop P n c (some (q :: e0 :: pre)) (tl ++ R) =
      match splitLoop P n c none R with | .error e => .error e | .ok r => .ok (v :: r) := by
  induction tl generalizing pre with
  | nil => exact absurd rfl hne
  | cons p ps ih =>
    rw [List.flatten_cons, ← List.append_assoc] at hflat
    rw [List.cons_append, splitLoop_acc]
    by_cases hps : ps.flatten = []
    · rw [hps, List.append_nil] at hflat
      rw [hflat, settle_qTok q hq also v hv]
      simp only
      rw [splitLoop_skip_empty P n c ps R hps]
    · rw [show q :: e0 :: pre ++ p = q :: e0 :: (pre ++ p) from rfl,
        settle_prefix_more q hq also v e0 (pre ++ p) ps.flatten hflat.symm hps he0]
      exact ih (pre ++ p) hflat hps

/-- the left side is the quoted branch of `_split` entered with `item = hd` -/
theorem splitLoop_token (P : Pat) (n : Option Nat) (c : Nat) (q : Nat) (hq : q = SQ ∨ q = DQ) (also : Nat → Bool) (v : Text)
    (hv : v.contains BS = false) (hd : Text) (tl R : List Text)
    (hflat : hd ++ tl.flatten = qTok q also v)
    (hhd : tl.flatten ≠ [] → ∃ e0 hd2, hd = q :: e0 :: hd2 ∧ isPySpace e0 = false) :
    (match settle hd with
      | .more => splitLoop P n c (some hd) (tl ++ R)
      | .indexError => .error .indexError
      | .done v' => (match splitLoop P n c none (tl ++ R) with | .error e => .error e | .ok r => .ok (v' :: r))) =
    (match splitLoop P n c none R with | .error e => .error e | .ok r => .ok (v :: r)) := by
  by_cases htl : tl.flatten = []
  · rw [htl, List.append_nil] at hflat
    rw [hflat, settle_qTok q hq also v hv]
    simp only
    rw [splitLoop_skip_empty P n c tl R htl]
  · obtain ⟨e0, hd2, rfl, he0⟩ := hhd htl
    rw [settle_prefix_more q hq also v e0 hd2 tl.flatten hflat.symm htl he0]
    exact splitLoop_quoted P n c q hq also v hv e0 he0 tl R hd2 hflat htl

/-! ### the two patterns: cutting a line into pieces -/

theorem splitCommaGo_free (cur a rest : Text) (h : ∀ c ∈ a, c ≠ COMMA) :
    splitCommaGo cur (a ++ rest) = splitCommaGo (cur ++ a) rest :=
  acc_run splitCommaGo (· ≠ COMMA) (fun cur c t hc => by rw [splitCommaGo, if_neg hc]) a h cur rest

theorem splitCommaGo_cur (cur t : Text) :
    splitCommaGo cur t = match splitCommaGo [] t with | hd :: tl => (cur ++ hd) :: tl | [] => [cur] := by
  induction t generalizing cur with
  | nil => simp [splitCommaGo]
  | cons c t ih =>
    by_cases hc : c = COMMA
    · simp [splitCommaGo, hc]
    · simp only [splitCommaGo, hc, if_false, List.nil_append]
      rw [ih (cur ++ [c]), ih [c]]
      cases splitCommaGo [] t <;> simp

theorem splitCommaGo_ne_nil (cur t : Text) : splitCommaGo cur t ≠ [] := by
  rw [splitCommaGo_cur]
  split <;> exact List.cons_ne_nil _ _

theorem splitCommaGo_comma (cur a b : Text) :
    splitCommaGo cur (a ++ COMMA :: b) = splitCommaGo cur a ++ [COMMA] :: splitCommaGo [] b := by
  induction a generalizing cur with
  | nil => simp [splitCommaGo]
  | cons c a ih =>
    by_cases hc : c = COMMA
    · simp [splitCommaGo, hc, ih]
    · simp [splitCommaGo, hc, ih]

theorem splitCommaGo_flatten (cur t : Text) : (splitCommaGo cur t).flatten = cur ++ t := by
  induction t generalizing cur with
  | nil => simp [splitCommaGo]
  | cons c t ih =>
    by_cases hc : c = COMMA
    · simp [splitCommaGo, hc, ih]
    · simp [splitCommaGo, hc, ih]

theorem splitCommaGo_snoc (cur t : Text) (z : Nat) (hz : z ≠ COMMA) :
    ∃ ps l, splitCommaGo cur (t ++ [z]) = ps ++ [l ++ [z]] := by
  induction t generalizing cur with
  | nil => exact ⟨[], cur, by simp [splitCommaGo, hz]⟩
  | cons c t ih =>
    by_cases hc : c = COMMA
    · obtain ⟨ps, l, h⟩ := ih []
      exact ⟨cur :: [COMMA] :: ps, l, by simp [splitCommaGo, hc, h]⟩
    · obtain ⟨ps, l, h⟩ := ih (cur ++ [c])
      exact ⟨ps, l, by simp [splitCommaGo, hc, h]⟩

theorem splitWsGo_cons (cur : Text) (iw : Bool) (c : Nat) (t : Text) :
    splitWsGo cur iw (c :: t) =
      if isPySpace c = iw then splitWsGo (cur ++ [c]) iw t else cur :: splitWsGo [c] (isPySpace c) t := by
  rw [splitWsGo]
  cases isPySpace c <;> cases iw <;> rfl

theorem splitWsGo_free (cur a rest : Text) (h : ∀ c ∈ a, isPySpace c = false) :
    splitWsGo cur false (a ++ rest) = splitWsGo (cur ++ a) false rest :=
  acc_run (splitWsGo · false) (isPySpace · = false)
    (fun cur c t hc => by rw [splitWsGo, if_neg (by rw [hc]; exact Bool.false_ne_true), if_neg Bool.false_ne_true]) a h cur rest

theorem splitWsGo_wsrun (cur w rest : Text) (h : ∀ c ∈ w, isPySpace c = true) :
    splitWsGo cur true (w ++ rest) = splitWsGo (cur ++ w) true rest :=
  acc_run (splitWsGo · true) (isPySpace · = true) (fun cur c t hc => by rw [splitWsGo, if_pos hc, if_pos rfl]) w h cur rest

theorem splitWsGo_cur (cur : Text) (iw : Bool) (t : Text) :
    splitWsGo cur iw t = match splitWsGo [] iw t with | hd :: tl => (cur ++ hd) :: tl | [] => [cur] := by
  cases t with
  | nil => simp [splitWsGo]
  | cons c t =>
    rw [splitWsGo_cons, splitWsGo_cons []]
    by_cases h : isPySpace c = iw
    · rw [if_pos h, if_pos h, splitWsGo_cur (cur ++ [c]), splitWsGo_cur ([] ++ [c])]
      cases splitWsGo [] iw t <;> simp
    · rw [if_neg h, if_neg h]
      exact congrArg (· :: _) (List.append_nil cur).symm

theorem splitWsGo_ne_nil (cur : Text) (iw : Bool) (t : Text) : splitWsGo cur iw t ≠ [] := by
  rw [splitWsGo_cur]
  split <;> exact List.cons_ne_nil _ _

theorem splitWsGo_flatten (cur : Text) (iw : Bool) (t : Text) : (splitWsGo cur iw t).flatten = cur ++ t := by
  induction t generalizing cur iw with
  | nil => simp [splitWsGo]
  | cons c t ih =>
    rw [splitWsGo_cons]
    by_cases h : isPySpace c = iw
    · rw [if_pos h, ih, List.append_assoc]; rfl
    · rw [if_neg h, List.flatten_cons, ih]; rfl

theorem splitWsGo_then_ws (cur : Text) (iw : Bool) (a : Text) (z w0 : Nat) (rest : Text)
    (hz : isPySpace z = false) (hw : isPySpace w0 = true) :
    splitWsGo cur iw (a ++ z :: w0 :: rest) = splitWsGo cur iw (a ++ [z]) ++ splitWsGo [w0] true rest := by
  induction a generalizing cur iw with
  | nil => cases iw <;> simp [splitWsGo, hz, hw]
  | cons c a ih =>
    rw [List.cons_append, List.cons_append, splitWsGo_cons, splitWsGo_cons cur iw c]
    by_cases h : isPySpace c = iw
    · rw [if_pos h, if_pos h, ih]
    · rw [if_neg h, if_neg h, ih, List.cons_append]

theorem splitWsGo_snoc (cur : Text) (iw : Bool) (t : Text) (z : Nat) (hz : isPySpace z = false) :
    ∃ ps l, splitWsGo cur iw (t ++ [z]) = ps ++ [l ++ [z]] := by
  induction t generalizing cur iw with
  | nil =>
    cases iw
    · exact ⟨[], cur, by simp [splitWsGo, hz]⟩
    · exact ⟨[cur], [], by simp [splitWsGo, hz]⟩
  | cons c t ih =>
    rw [List.cons_append, splitWsGo_cons]
    by_cases h : isPySpace c = iw
    · rw [if_pos h]; exact ih _ _
    · rw [if_neg h]
      obtain ⟨ps, l, h'⟩ := ih [c] (isPySpace c)
      exact ⟨cur :: ps, l, by rw [h']; rfl⟩

/-- the characters a pattern cuts at -/
def Pat.sep : Pat → Nat → Bool
  | .ws => isPySpace
  | .comma => (· == COMMA)

/-- the cutter of a pattern with its accumulator -/
def Pat.go : Pat → Text → Text → List Text
  | .ws, cur, t => splitWsGo cur false t
  | .comma, cur, t => splitCommaGo cur t

theorem Pat.pieces_eq (P : Pat) (t : Text) : P.pieces t = P.go [] t := by cases P <;> rfl

theorem Pat.matchStart_cons (P : Pat) (c : Nat) (t : Text) : P.matchStart (c :: t) = P.sep c := by cases P <;> rfl

theorem Pat.sep_not_bs_quote (P : Pat) (c : Nat) (h : P.sep c = true) : c ≠ BS ∧ c ≠ SQ ∧ c ≠ DQ := by
  cases P
  · refine ⟨?_, ?_, ?_⟩ <;> (intro e; subst e; revert h; decide)
  · rw [eq_of_beq h]; decide

theorem Pat.go_nil (P : Pat) (cur : Text) : P.go cur [] = [cur] := by cases P <;> rfl

theorem Pat.go_free (P : Pat) (cur a rest : Text) (h : ∀ c ∈ a, P.sep c = false) :
    P.go cur (a ++ rest) = P.go (cur ++ a) rest := by
  cases P
  · exact splitWsGo_free cur a rest h
  · exact splitCommaGo_free cur a rest fun c hc => by simpa [Pat.sep] using h c hc

theorem Pat.go_cur (P : Pat) (cur t : Text) :
    P.go cur t = match P.go [] t with | hd :: tl => (cur ++ hd) :: tl | [] => [cur] := by
  cases P
  · exact splitWsGo_cur cur false t
  · exact splitCommaGo_cur cur t

theorem Pat.go_flatten (P : Pat) (cur t : Text) : (P.go cur t).flatten = cur ++ t := by
  cases P
  · exact splitWsGo_flatten cur false t
  · exact splitCommaGo_flatten cur t

theorem Pat.go_ne_nil (P : Pat) (cur t : Text) : P.go cur t ≠ [] := by
  cases P
  · exact splitWsGo_ne_nil cur false t
  · exact splitCommaGo_ne_nil cur t

/-! ### one written token through the loop -/

theorem Pat.sep_q (P : Pat) (q : Nat) (hq : q = SQ ∨ q = DQ) : P.sep q = false := by
  cases h : P.sep q with
  | false => rfl
  | true => exact absurd hq (not_or.mpr (P.sep_not_bs_quote q h).2)

/-- The pieces of a quoted token behind blanks: the first holds the blanks, the quote and, unless the text is empty, its first
character (neither the quote nor that character is a separator); the others make up the rest. -/
theorem quoted_pieces (P : Pat) (q : Nat) (hq : q = SQ ∨ q = DQ) (also : Nat → Bool) (v : Text)
    (hhead : ∀ c, v.head? = some c → isPySpace c = false ∧ P.sep c = false)
    (lead : Text) (hl : ∀ c ∈ lead, P.sep c = false) :
    ∃ hd tl, P.go [] (lead ++ qTok q also v) = (lead ++ q :: hd) :: tl ∧ q :: hd ++ tl.flatten = qTok q also v ∧
      (tl.flatten ≠ [] → ∃ e0 hd2, hd = e0 :: hd2 ∧ isPySpace e0 = false) := by
  have hqs := P.sep_q q hq
  have hfree : ∀ y, P.sep y = false → ∀ c ∈ lead ++ [q, y], P.sep c = false := fun y hy c hc =>
    (List.mem_append.mp hc).elim (hl c) fun h => by
      rcases List.mem_cons.mp h with rfl | h
      · exact hqs
      · rw [List.mem_singleton.mp h]; exact hy
  unfold qTok
  cases hE : hdrEscape q also v with
  | nil =>
    refine ⟨[q], [], ?_, rfl, fun h => absurd rfl h⟩
    have := P.go_free [] (lead ++ [q, q]) [] (hfree q hqs)
    rwa [List.append_nil, P.go_nil] at this
  | cons e0 E' =>
    have he0 : isPySpace e0 = false ∧ P.sep e0 = false := by
      rcases hdrEscape_head q also v e0 (by rw [hE]; rfl) with h | h
      · subst h; cases P <;> decide
      · exact hhead e0 h
    cases hp : P.go [] (E' ++ [q]) with
    | nil => exact absurd hp (P.go_ne_nil _ _)
    | cons h1 t1 =>
      refine ⟨e0 :: h1, t1, ?_, ?_, fun _ => ⟨e0, h1, rfl, he0.1⟩⟩
      · have := P.go_free [] (lead ++ [q, e0]) (E' ++ [q]) (hfree e0 he0.2)
        rw [P.go_cur ([] ++ (lead ++ [q, e0])), hp] at this
        simpa using this
      · have := P.go_flatten [] (E' ++ [q])
        rw [hp] at this
        simpa using this

/-- the pattern a name (white space) or a nominal level (comma) is cut with -/
def Pat.of (isLevel : Bool) : Pat := if isLevel then .comma else .ws

theorem hdrTokOk_parts (isLevel : Bool) (x : Bool × Text) (h : hdrTokOk isLevel x = true) :
    (x.1 = true → x.2.contains BS = false ∧
      ∀ c, x.2.head? = some c → isPySpace c = false ∧ (Pat.of isLevel).sep c = false) ∧
    (x.1 = false → (∃ a t, x.2 = a :: t ∧ isQuoteCh a = false ∧ isPySpace a = false) ∧
      (∀ c, x.2.getLast? = some c → isPySpace c = false) ∧ ∀ c ∈ x.2, (Pat.of isLevel).sep c = false) := by
  unfold hdrTokOk at h
  refine ⟨fun h1 => ?_, fun h1 => ?_⟩
  · rw [if_pos h1] at h
    unfold quotedOk at h
    simp only [Bool.and_eq_true, Bool.not_eq_true'] at h
    refine ⟨h.1, fun c hc => ?_⟩
    cases hv : x.2 with
    | nil => rw [hv] at hc; cases hc
    | cons a t =>
      rw [hv] at hc h
      cases hc
      have := h.2
      simp only [Bool.and_eq_true, Bool.not_eq_true', Bool.and_eq_false_iff, beq_eq_false_iff_ne] at this
      refine ⟨this.1, ?_⟩
      cases isLevel
      · exact this.1
      · rcases this.2 with h' | h'
        · cases h'
        · simpa [Pat.of, Pat.sep] using h'
  · rw [if_neg (by rw [h1]; exact Bool.false_ne_true)] at h
    unfold bareTokOk at h
    simp only [Bool.and_eq_true, decide_eq_true_eq] at h
    obtain ⟨⟨⟨hne, hhd⟩, hlast⟩, hin⟩ := h
    refine ⟨?_, fun c hc => by rw [hc] at hlast; simpa using hlast, fun c hc => ?_⟩
    · cases hv : x.2 with
      | nil => exact absurd hv hne
      | cons a t => rw [hv] at hhd; exact ⟨a, t, rfl, by simpa using hhd⟩
    · cases isLevel
      · have : ∀ c ∈ x.2, isPySpace c = false := by simpa using hin
        exact this c hc
      · have hnc : ¬ COMMA ∈ x.2 := by simpa using hin
        simpa [Pat.of, Pat.sep] using (fun e => hnc (e ▸ hc) : c ≠ COMMA)

theorem splitLoop_hdrTok (isLevel : Bool) (n : Option Nat) (count : Nat) (hn : n ≠ some (count + 1))
    (q : Nat) (hq : q = SQ ∨ q = DQ) (also : Nat → Bool) (x : Bool × Text) (hx : hdrTokOk isLevel x = true)
    (lead : Text) (hl : ∀ c ∈ lead, isPySpace c = true ∧ (Pat.of isLevel).sep c = false) (R : List Text) :
    splitLoop (Pat.of isLevel) n count none ((Pat.of isLevel).go [] (lead ++ hdrWriteTok q also x) ++ R) =
      match splitLoop (Pat.of isLevel) n (count + 1) none R with | .error e => .error e | .ok r => .ok (x.2 :: r) := by
  obtain ⟨hquo, hbare⟩ := hdrTokOk_parts isLevel x hx
  generalize Pat.of isLevel = P at *
  have hls : ∀ t : Text, (∀ c, t.head? = some c → isPySpace c = false) → lstrip (lead ++ t) = t :=
    fun t ht => lstrip_lead lead t (fun c hc => (hl c hc).1) ht
  unfold hdrWriteTok
  by_cases h1 : x.1 = true
  · obtain ⟨hv, hhead⟩ := hquo h1
    obtain ⟨hq1, _, _⟩ := quoteCh_not_space_bs_comma q hq
    obtain ⟨hd, tl, hsplit, hflat, hhd⟩ := quoted_pieces P q hq also x.2 hhead lead fun c hc => (hl c hc).2
    have hqc : isQuoteCh q = true := by rcases hq with h | h <;> subst h <;> decide
    rw [if_pos h1, show q :: (hdrEscape q also x.2 ++ [q]) = qTok q also x.2 from rfl, hsplit, List.cons_append, splitLoop_none,
      hls (q :: hd) (fun c hc => by cases hc; exact hq1), P.matchStart_cons, P.sep_q q hq,
      if_neg (by simp), if_neg hn]
    simp only [hqc, if_true]
    exact splitLoop_token P n (count + 1) q hq also x.2 hv (q :: hd) tl R hflat fun h => by
      obtain ⟨e0, hd2, rfl, he0⟩ := hhd h
      exact ⟨e0, hd2, rfl, he0⟩
  · obtain ⟨⟨a, t, hv, hqa, hsa⟩, hlast, hin⟩ := hbare (by simpa using h1)
    have hsplit : P.go [] (lead ++ x.2) = [lead ++ x.2] := by
      have := P.go_free [] (lead ++ x.2) [] fun c hc => (List.mem_append.mp hc).elim (fun h => (hl c h).2) (hin c)
      rwa [List.append_nil, P.go_nil] at this
    have hst : strip x.2 = x.2 := strip_id _ (fun c hc => by rw [hv] at hc; cases hc; exact hsa) hlast
    rw [if_neg h1, hsplit, List.cons_append, List.nil_append, splitLoop_none,
      hls x.2 (fun c hc => by rw [hv] at hc; cases hc; exact hsa), hst]
    rw [hv] at hin ⊢
    rw [P.matchStart_cons, hin a List.mem_cons_self, if_neg (by simp), if_neg hn]
    simp only [hqa, Bool.false_eq_true, if_false]

/-! ### nominal levels: `_split(encoding[1:-1], r_comma)` -/

theorem ws_ne_comma (c : Nat) (h : isPySpace c = true) : c ≠ COMMA := by
  intro e; subst e; revert h; decide

theorem hdr_level_tok (q : Nat) (hq : q = SQ ∨ q = DQ) (also : Nat → Bool) (x : Bool × Text) (hx : hdrTokOk true x = true)
    (lead : Text) (hl : ∀ c ∈ lead, isPySpace c = true) (count : Nat) (R : List Text) :
    splitLoop .comma none count none (splitCommaGo [] (lead ++ hdrWriteTok q also x) ++ R) =
      match splitLoop .comma none (count + 1) none R with | .error e => .error e | .ok r => .ok (x.2 :: r) :=
  splitLoop_hdrTok true none count nofun q hq also x hx lead
    (fun c hc => ⟨hl c hc, by simpa [Pat.of, Pat.sep] using ws_ne_comma c (hl c hc)⟩) R

theorem splitLoop_levels (q : Nat) (hq : q = SQ ∨ q = DQ) (also : Nat → Bool) (pad : Nat) (levels : List (Bool × Text))
    (hne : levels ≠ []) (hok : ∀ x ∈ levels, hdrTokOk true x = true)
    (lead : Text) (hl : ∀ c ∈ lead, isPySpace c = true) (count : Nat) :
    splitLoop .comma none count none (splitCommaGo [] (lead ++ hdrWriteLevels q also pad levels)) = .ok (levels.map (·.2)) := by
  induction levels generalizing lead count with
  | nil => exact absurd rfl hne
  | cons x xs ih =>
    cases xs with
    | nil =>
      have := hdr_level_tok q hq also x (hok x (by simp)) lead hl count []
      simp only [List.append_nil] at this
      simp only [hdrWriteLevels, this, splitLoop]
      simp
    | cons y ys =>
      simp only [hdrWriteLevels]
      rw [← List.append_assoc, splitCommaGo_comma]
      rw [hdr_level_tok q hq also x (hok x (by simp)) lead hl count]
      rw [splitLoop_none]
      have h1 : lstrip [COMMA] = [COMMA] := by decide
      have h2 : Pat.matchStart .comma [COMMA] = true := by decide
      simp only [h1, h2, or_true, if_true]
      rw [ih (by simp) (fun z hz => hok z (by simp at hz ⊢; right; exact hz)) (List.replicate pad 32)
        (forall_mem_replicate (by decide) pad)]
      simp

theorem arffSplit_levels (q : Nat) (hq : q = SQ ∨ q = DQ) (also : Nat → Bool) (pad : Nat) (levels : List (Bool × Text))
    (hne : levels ≠ []) (hok : ∀ x ∈ levels, hdrTokOk true x = true) :
    arffSplit .comma none (hdrWriteLevels q also pad levels) = .ok (levels.map (·.2)) := by
  have := splitLoop_levels q hq also pad levels hne hok [] (by simp) 0
  simpa [arffSplit, Pat.pieces, splitComma] using this

theorem dedup_nodup (vs : List Text) (h : vs.Nodup) : dedup vs = vs := by
  induction vs with
  | nil => rfl
  | cons a vs ih =>
    simp only [List.nodup_cons] at h
    have : vs.contains a = false := contains_eq_false_of_not_mem h.1
    simp [dedup, h.1, ih h.2]

theorem catLevels_nodup (vs : List Text) (hne : vs ≠ []) (h : vs.Nodup) : catLevels vs = .ok vs := by
  simp [catLevels, hne, dedup_nodup vs h]

theorem encoder_brace_kw (t : Text) :
    kwNumeric.contains (lowerAscii (LBRACE :: t)) = false ∧ kwString.any (fun k => startsWith k (lowerAscii (LBRACE :: t))) = false := by
  constructor
  · simp [kwNumeric, lowerAscii, LBRACE]
  · simp [kwString, startsWith, lowerAscii, LBRACE]

theorem arffEncoder_nominal (isDense : Bool) (q : Nat) (hq : q = SQ ∨ q = DQ) (also : Nat → Bool) (pad : Nat)
    (levels : List (Bool × Text)) (hne : levels ≠ []) (hok : ∀ x ∈ levels, hdrTokOk true x = true)
    (hnd : (if isDense then levels.map (·.2) else ZERO :: levels.map (·.2)).Nodup) :
    arffEncoder isDense (LBRACE :: (hdrWriteLevels q also pad levels ++ [RBRACE])) =
      .ok (.nominal (if isDense then levels.map (·.2) else ZERO :: levels.map (·.2))) := by
  obtain ⟨k1, k2⟩ := encoder_brace_kw (hdrWriteLevels q also pad levels ++ [RBRACE])
  unfold arffEncoder
  simp only [k1, k2, Bool.false_eq_true, if_false, List.head?_cons, if_true, List.tail_cons, List.dropLast_concat]
  rw [arffSplit_levels q hq also pad levels hne hok]
  simp only
  rw [catLevels_nodup _ (by cases isDense <;> simp [hne]) hnd]

/-! ### an attribute line: `_split(line[11:], r_space, n=2)` -/

/-- With the white-space pattern, the item that reaches `n` is the rest of the line however it is cut into pieces: no piece
that begins with white space holds anything else. -/
theorem splitLoop_ws_last (count : Nat) (ps : List Text) :
    splitLoop .ws (some (count + 1)) count none ps = if lstrip ps.flatten = [] then .ok [] else .ok [strip ps.flatten] := by
  induction ps with
  | nil => rfl
  | cons p ps ih =>
    rw [splitLoop_none, List.flatten_cons, lstrip_append, strip_eq (p ++ ps.flatten), lstrip_append]
    cases hp : lstrip p with
    | nil => rw [if_pos (.inl rfl), ih, strip_eq]; rfl
    | cons a t =>
      have ha : isPySpace a = false := dropWhile_head_not _ _ _ _ hp
      have hm : ¬ ((a :: t) = [] ∨ Pat.matchStart .ws (a :: t) = true) := by simp [Pat.matchStart, ha]
      have hl : lstrip (a :: t ++ ps.flatten) = a :: t ++ ps.flatten :=
        dropWhile_head_false _ _ fun c hc => by cases hc; exact ha
      rw [if_neg hm, if_pos rfl, strip_eq, hl]
      rfl

theorem hdrWriteTok_last (q : Nat) (hq : q = SQ ∨ q = DQ) (also : Nat → Bool) (x : Bool × Text) (hx : hdrTokOk false x = true) :
    ∃ a z, hdrWriteTok q also x = a ++ [z] ∧ isPySpace z = false := by
  unfold hdrWriteTok
  by_cases h1 : x.1 = true
  · rw [if_pos h1]
    exact ⟨q :: hdrEscape q also x.2, q, rfl, (quoteCh_not_space_bs_comma q hq).1⟩
  · rw [if_neg h1]
    obtain ⟨⟨a, t, hv, _⟩, hlast, _⟩ := (hdrTokOk_parts false x hx).2 (by simpa using h1)
    obtain ⟨r, hr⟩ := List.getLast?_eq_some_iff.mp (List.getLast?_eq_some_getLast (l := x.2) (by rw [hv]; exact List.cons_ne_nil _ _))
    exact ⟨r, _, hr, hlast _ (List.getLast?_eq_some_iff.mpr ⟨r, hr⟩)⟩

theorem arffSplit_attr (q : Nat) (hq : q = SQ ∨ q = DQ) (also : Nat → Bool) (name : Bool × Text) (hn : hdrTokOk false name = true)
    (gap typ : Text) (hg : gap ≠ []) (hW : ∀ c ∈ gap, isPySpace c = true) (ht : typ ≠ []) (hst : strip typ = typ) :
    arffSplit .ws (some 2) (hdrWriteTok q also name ++ gap ++ typ) = .ok [name.2, typ] := by
  obtain ⟨a, z, htok, hz⟩ := hdrWriteTok_last q hq also name hn
  have ht0 : ∀ c, typ.head? = some c → isPySpace c = false := by rw [← hst]; exact strip_head typ
  cases gap with
  | nil => exact absurd rfl hg
  | cons w0 W =>
    have hw0 := hW w0 List.mem_cons_self
    -- the pieces of the name, then those of the gap and the type, which only matter through their concatenation
    have hcut : Pat.ws.go [] (hdrWriteTok q also name ++ w0 :: W ++ typ) =
        Pat.ws.go [] ([] ++ hdrWriteTok q also name) ++ splitWsGo [w0] true (W ++ typ) := by
      rw [htok, List.nil_append, List.append_assoc, List.append_assoc, List.singleton_append, List.cons_append]
      exact splitWsGo_then_ws [] false a z w0 _ hz hw0
    have hrest : (splitWsGo [w0] true (W ++ typ)).flatten = (w0 :: W) ++ typ := splitWsGo_flatten _ _ _
    have hl : lstrip ((w0 :: W) ++ typ) = typ := lstrip_lead _ typ hW ht0
    have htk := splitLoop_hdrTok false (some 2) 0 (by decide) q hq also name hn [] nofun (splitWsGo [w0] true (W ++ typ))
    rw [show Pat.of false = Pat.ws from rfl] at htk
    unfold arffSplit
    rw [Pat.pieces_eq, hcut, htk, splitLoop_ws_last 1, hrest, hl, if_neg ht, strip_eq, hl]
    have : rstrip typ = typ := by
      rw [strip_eq, show lstrip typ = typ from dropWhile_head_false _ _ ht0] at hst
      exact hst
    rw [this]

theorem typeW_facts (isDense : Bool) (q : Nat) (hq : q = SQ ∨ q = DQ) (also : Nat → Bool) (t : TypeW) (h : t.ok isDense = true) :
    t.text q also ≠ [] ∧ strip (t.text q also) = t.text q also ∧ arffEncoder isDense (t.text q also) = .ok (t.enc isDense) := by
  cases t with
  | numeric w =>
    simp only [TypeW.ok, Bool.and_eq_true, beq_iff_eq] at h
    refine ⟨?_, h.2, ?_⟩
    · intro e; simp only [TypeW.text] at e; rw [e] at h; revert h; decide
    · simp only [TypeW.text, TypeW.enc, arffEncoder, h.1, if_true]
  | string w =>
    simp only [TypeW.ok, Bool.and_eq_true, beq_iff_eq, Bool.not_eq_true', bne_iff_ne, ne_eq] at h
    obtain ⟨⟨⟨h1, h2⟩, h3⟩, h4⟩ := h
    refine ⟨?_, h3, ?_⟩
    · intro e; simp only [TypeW.text] at e; rw [e] at h2; revert h2; decide
    · simp only [TypeW.text, TypeW.enc, arffEncoder, h1, Bool.false_eq_true, if_false, h2, if_true]
  | nominal pad levels =>
    simp only [TypeW.ok, Bool.and_eq_true, decide_eq_true_eq] at h
    obtain ⟨⟨h1, h2⟩, h3⟩ := h
    refine ⟨by simp [TypeW.text], ?_, ?_⟩
    · apply strip_id
      · intro c hc; simp [TypeW.text] at hc; subst hc; decide
      · intro c hc
        simp only [TypeW.text] at hc
        rw [getLast?_cons_concat] at hc
        cases hc; decide
    · simp only [TypeW.text, TypeW.enc]
      exact arffEncoder_nominal isDense q hq also pad levels h1 (fun x hx => List.all_eq_true.mp h2 x hx) h3

/-- the keyword has ten characters, one separator follows: where `ArffAttrReader` cuts an attribute line -/
theorem attrW_line_cut (q : Nat) (also : Nat → Bool) (a : AttrW) (hkw : lowerAscii a.kw = kwAttribute) :
    (a.line q also).take 10 = a.kw ∧ (a.line q also).drop 11 = hdrWriteTok q also a.name ++ a.gap ++ a.typ.text q also := by
  have hlen : a.kw.length = 10 := by
    have := congrArg List.length hkw
    rw [lowerAscii_length] at this
    rw [this]; rfl
  unfold AttrW.line
  refine ⟨by rw [List.take_append_of_le_length (by omega), List.take_of_length_le (by omega)], ?_⟩
  rw [show (11 : Nat) = a.kw.length + 1 by omega, List.drop_append]
  simp

theorem arffAttrs_written (isDense : Bool) (q : Nat) (hq : q = SQ ∨ q = DQ) (also : Nat → Bool) (attrs : List AttrW) (seen : List Text)
    (hok : ∀ a ∈ attrs, a.ok isDense = true) (hnd : (attrs.map (·.name.2)).Nodup) (hseen : ∀ a ∈ attrs, a.name.2 ∉ seen) :
    arffAttrs isDense seen (attrs.map (·.line q also)) = .ok (attrs.map (fun a => (a.name.2, a.typ.enc isDense))) := by
  induction attrs generalizing seen with
  | nil => rfl
  | cons a as ih =>
    have ha := hok a (by simp)
    simp only [AttrW.ok, Bool.and_eq_true, beq_iff_eq, decide_eq_true_eq] at ha
    obtain ⟨⟨⟨⟨hkw, hname⟩, hg1⟩, hg2⟩, htyp⟩ := ha
    obtain ⟨ht1, ht2, ht3⟩ := typeW_facts isDense q hq also a.typ htyp
    obtain ⟨htake, hdrop⟩ := attrW_line_cut q also a hkw
    have hsplit := arffSplit_attr q hq also a.name hname a.gap (a.typ.text q also) hg1
      (fun c hc => List.all_eq_true.mp hg2 c hc) ht1 ht2
    have hns : seen.contains a.name.2 = false := contains_eq_false_of_not_mem (hseen a (by simp))
    simp only [List.map_cons, arffAttrs, htake, hkw, if_true, hdrop, hsplit, hns, Bool.false_eq_true, if_false, ht3]
    simp only [List.map_cons, List.nodup_cons] at hnd
    rw [ih (a.name.2 :: seen) (fun b hb => hok b (by simp [hb])) hnd.2 (by
      intro b hb
      simp only [List.mem_cons, not_or]
      refine ⟨?_, hseen b (by simp [hb])⟩
      intro e
      exact hnd.1 (by rw [← e]; exact List.mem_map_of_mem hb))]

end Coba.C12
