/-
C12, one dense ARFF data line: the csv fast path of `ArffLineReader` on written rows, that path inside the complete line
reader (`toF`: the simple-path model `arffLineStep` is the complete reader `arffLineStepF` off its fallback), and the fallback
parser `_dense_advanced` on pieces that do not start with a quote character, hence on plain rows, where it agrees with the
fast path, and with its delimiter still undecided.
-/
import CobaVerif.Lemmas.C12Csv

namespace Coba.C12

/-! ## dense data lines through the csv fast path -/

section arff
variable (qc : Option Nat)

/-- the effective quote character is one of the two quote characters -/
def QeOk (qc : Option Nat) : Prop := qc.getD DQ = SQ ∨ qc.getD DQ = DQ

theorem arffDialect_ok (h : QeOk qc) : (arffDialect COMMA qc).Ok (qc.getD DQ) := by
  have e : ∀ x, (x = SQ ∨ x = DQ) → isNl x = false ∧ x ≠ COMMA ∧ some BS ≠ some x := by
    intro x hx; rcases hx with rfl | rfl <;> decide
  exact ⟨rfl, (e _ h).1, (e _ h).2.1, (e _ h).2.2, (by decide : isNl COMMA = false), (by decide : some BS ≠ some COMMA),
    fun _ => (by decide : COMMA ≠ 32)⟩

theorem arff_inQuoted_esc (acc : Text) (fs : List Text) :
    csvChar (arffDialect COMMA qc) ⟨.inQuoted, acc, fs⟩ (some BS) = .ok ⟨.escInQuoted, acc, fs⟩ := by
  simp [csvChar, arffDialect, goto]

theorem arff_escInQuoted_char (acc : Text) (fs : List Text) (c : Nat) :
    csvChar (arffDialect COMMA qc) ⟨.escInQuoted, acc, fs⟩ (some c) = .ok ⟨.inQuoted, acc ++ [c], fs⟩ := by
  simp [csvChar, addChar]

theorem arffFeed_spaces (fs : List Text) (k : Nat) (rest : Text) (h : QeOk qc) :
    csvFeed (arffDialect COMMA qc) ⟨.startField, [], fs⟩ (List.replicate k 32 ++ rest) =
      csvFeed (arffDialect COMMA qc) ⟨.startField, [], fs⟩ rest :=
  csvFeed_blanks (arffDialect_ok qc h) fs rfl (by rcases h with h | h <;> rw [h] <;> decide) (by decide : some BS ≠ some 32) k rest

theorem arffFeed_quoted (h : QeOk qc) (also : Nat → Bool) (c : Nat) (acc : Text) (fs : List Text) (rest : Text) :
    csvFeed (arffDialect COMMA qc) ⟨.inQuoted, acc, fs⟩
        ((if c = qc.getD DQ ∨ c = BS ∨ also c = true then [BS, c] else [c]) ++ rest) =
      csvFeed (arffDialect COMMA qc) ⟨.inQuoted, acc ++ [c], fs⟩ rest := by
  by_cases hc : c = qc.getD DQ ∨ c = BS ∨ also c = true
  · rw [if_pos hc, List.cons_append, csvFeed_cons _ (arff_inQuoted_esc qc acc fs), List.cons_append, csvFeed_cons _ (arff_escInQuoted_char qc acc fs c)]
    rfl
  · rw [if_neg hc, List.cons_append, csvFeed_cons _ (csv_inQuoted_char (arffDialect_ok qc h) acc fs c (fun e => hc (.inl e))
      fun e => hc (.inr (.inl (Option.some.inj e).symm)))]
    rfl

/-- a character that may stand in a value written bare -/
structure BareCh (c : Nat) : Prop where
  nl : isNl c = false
  comma : c ≠ COMMA
  sq : c ≠ SQ
  dq : c ≠ DQ
  bs : c ≠ BS

/-- what `bareOk` asks of a value -/
structure BareOk (v : Text) : Prop where
  chars : ∀ c ∈ v, BareCh c
  head : ∀ c t, v = c :: t → c ≠ 32

theorem bareOk_parts (v : Text) (h : bareOk v = true) : BareOk v := by
  unfold bareOk at h
  simp only [Bool.and_eq_true] at h
  constructor
  · intro c hc
    have := List.all_eq_true.mp h.1 c hc
    simp only [Bool.not_eq_true', Bool.or_eq_false_iff, beq_eq_false_iff_ne] at this
    exact ⟨this.2, this.1.1.1.1, this.1.1.1.2, this.1.1.2, this.1.2⟩
  · intro c t hv
    subst hv
    simpa using h.2

/-- the writer puts the value between quote characters: it was asked to, or the value cannot stand bare -/
def tokQuoted (x : Bool × Text) : Bool := x.1 || !bareOk x.2

theorem tokQuoted_false_iff {x : Bool × Text} : tokQuoted x = false ↔ x.1 = false ∧ bareOk x.2 = true := by
  rw [tokQuoted, Bool.or_eq_false_iff, Bool.not_eq_false']

theorem arffWriteTok_quoted (q : Nat) (also : Nat → Bool) {x : Bool × Text} (h : tokQuoted x = true) :
    arffWriteTok q also x = q :: (arffEscape q also x.2 ++ [q]) := if_pos h

theorem arffWriteTok_bare (q : Nat) (also : Nat → Bool) {x : Bool × Text} (h : tokQuoted x = false) :
    arffWriteTok q also x = x.2 := if_neg (Bool.eq_false_iff.mp h)

theorem arffWriteTok_reads (h : QeOk qc) (also : Nat → Bool) (x : Bool × Text) :
    ReadsField (arffDialect COMMA qc) (arffWriteTok (qc.getD DQ) also x) x.2 := by
  have hd := arffDialect_ok qc h
  by_cases hq : tokQuoted x = true
  · rw [arffWriteTok_quoted _ also hq, arffEscape_eq]
    exact readsField_quoted hd _ (arffFeed_quoted qc h also) x.2
  · rw [arffWriteTok_bare _ also (Bool.eq_false_iff.mpr hq)]
    have hb := bareOk_parts x.2 (tokQuoted_false_iff.mp (Bool.eq_false_iff.mpr hq)).2
    refine readsField_bare hd x.2
      (fun c hc => ⟨(hb.chars c hc).nl, (hb.chars c hc).comma, fun e => (hb.chars c hc).bs (Option.some.inj e).symm⟩) fun c hc => ?_
    obtain ⟨t, ht⟩ : ∃ t, x.2 = c :: t := by
      cases hx : x.2 with
      | nil => rw [hx] at hc; cases hc
      | cons a t => rw [hx] at hc; cases hc; exact ⟨t, rfl⟩
    have hm := hb.chars c (by rw [ht]; exact List.mem_cons_self)
    refine ⟨?_, fun _ => hb.head c t ht⟩
    rcases h with h | h <;> rw [h]
    · exact hm.sq
    · exact hm.dq

end arff

theorem arffEscape_mem (q : Nat) (also : Nat → Bool) (v : Text) (c : Nat) (h : c ∈ arffEscape q also v) : c = BS ∨ c ∈ v :=
  mem_escaped (arffEscape_eq q also v ▸ h)

theorem arffWriteTok_mem (q : Nat) (also : Nat → Bool) (x : Bool × Text) (c : Nat) (h : c ∈ arffWriteTok q also x) :
    (c = q ∧ tokQuoted x = true) ∨ c = BS ∨ c ∈ x.2 := by
  by_cases hq : tokQuoted x = true
  · rw [arffWriteTok_quoted q also hq] at h
    simp only [List.mem_cons, List.mem_append, List.not_mem_nil, or_false] at h
    rcases h with h | h | h
    · left; exact ⟨h, hq⟩
    · rcases arffEscape_mem _ _ _ _ h with h | h
      · right; left; exact h
      · right; right; exact h
    · left; exact ⟨h, hq⟩
  · rw [arffWriteTok_bare q also (Bool.eq_false_iff.mpr hq)] at h
    right; right; exact h

theorem arffWriteRow_mem (q : Nat) (also : Nat → Bool) (pad : Nat) (row : List (Bool × Text)) (c : Nat)
    (h : c ∈ arffWriteRow q also pad row) :
    c = COMMA ∨ c = 32 ∨ c = BS ∨ (c = q ∧ ∃ x ∈ row, tokQuoted x = true) ∨ ∃ x ∈ row, c ∈ x.2 := by
  rw [arffWriteRow_eq] at h
  rcases mem_intercalate h with h | ⟨t, ht, hc⟩
  · exact (mem_comma_pad h).elim .inl fun h => .inr (.inl h)
  · obtain ⟨x, hx, rfl⟩ := List.mem_map.mp ht
    rcases arffWriteTok_mem q also x c hc with h | h | h
    · exact .inr (.inr (.inr (.inl ⟨h.1, x, hx, h.2⟩)))
    · exact .inr (.inr (.inl h))
    · exact .inr (.inr (.inr (.inr ⟨x, hx, h⟩)))

/-- what `arffRowOk` asks of a row written with the quote character `q` -/
structure ArffRowOk (q : Nat) (row : List (Bool × Text)) : Prop where
  ne : row ≠ []
  noNl : ∀ x ∈ row, ∀ c ∈ x.2, isNl c = false
  quote : ∀ x ∈ row, ∀ c ∈ x.2, c = SQ ∨ c = DQ → c = q
  lone : ∀ x, row = [x] → x.2 ≠ [] ∨ x.1 = true

section
variable (q : Nat)

theorem arffRowOk_parts (row : List (Bool × Text)) (h : arffRowOk q row = true) : ArffRowOk q row := by
  unfold arffRowOk at h
  simp only [Bool.and_eq_true, decide_eq_true_eq] at h
  have hch : ∀ x ∈ row, ∀ c ∈ x.2, isNl c = false ∧ (c = SQ ∨ c = DQ → c = q) := by
    intro x hx c hc
    have := List.all_eq_true.mp (List.all_eq_true.mp h.1.2 x hx) c hc
    simp only [Bool.and_eq_true, ne_eq, Bool.and_eq_false_iff,
      Bool.or_eq_false_iff, beq_eq_false_iff_ne, Bool.not_eq_eq_eq_not, Bool.not_true, bne_eq_false_iff_eq] at this
    refine ⟨this.1, ?_⟩
    intro hc2
    rcases this.2 with h' | h'
    · rcases hc2 with h2 | h2
      · exact absurd h2 h'.1
      · exact absurd h2 h'.2
    · exact h'
  refine ⟨h.1.1, fun x hx c hc => (hch x hx c hc).1, fun x hx c hc => (hch x hx c hc).2, fun x hr => ?_⟩
  subst hr
  simpa using h.2

theorem line_quotes (also : Nat → Bool) (pad : Nat) (row : List (Bool × Text))
    (h : arffRowOk q row = true) (c : Nat) (hc : c = SQ ∨ c = DQ) :
    (arffWriteRow q also pad row).contains c = (decide (c = q) && row.any tokQuoted) := by
  have hr := arffRowOk_parts q row h
  have hcne : c ≠ COMMA ∧ c ≠ 32 ∧ c ≠ BS := by rcases hc with h | h <;> subst h <;> decide
  apply Bool.eq_iff_iff.mpr
  simp only [List.contains_iff_mem, Bool.and_eq_true, decide_eq_true_eq, List.any_eq_true]
  constructor
  · intro hm
    rcases arffWriteRow_mem q also pad row c hm with h | h | h | h | h
    · exact absurd h hcne.1
    · exact absurd h hcne.2.1
    · exact absurd h hcne.2.2
    · exact h
    · -- a quote character inside a value is the file's, and the value is not bare
      obtain ⟨x, hx, hcx⟩ := h
      refine ⟨hr.quote x hx c hcx hc, x, hx, ?_⟩
      cases hxq : tokQuoted x with
      | true => rfl
      | false =>
        have := (bareOk_parts x.2 (tokQuoted_false_iff.mp hxq).2).chars c hcx
        exact absurd hc (not_or.mpr ⟨this.sq, this.dq⟩)
  · intro ⟨hcq, x, hx, hxq⟩
    rw [arffWriteRow_eq, hcq]
    apply subset_intercalate (List.mem_map_of_mem hx)
    rw [arffWriteTok_quoted q also hxq]
    exact List.mem_cons_self
end

theorem arffWriteRow_unquoted (q q' : Nat) (also : Nat → Bool) (pad : Nat) (row : List (Bool × Text))
    (h : row.any tokQuoted = false) : arffWriteRow q also pad row = arffWriteRow q' also pad row := by
  rw [arffWriteRow_eq, arffWriteRow_eq]
  congr 1
  refine List.map_congr_left fun x hx => ?_
  have := Bool.eq_false_iff.mpr (List.any_eq_false.mp h x hx)
  rw [arffWriteTok_bare q also this, arffWriteTok_bare q' also this]

theorem simpleQuote_written (q : Nat) (hq : q = SQ ∨ q = DQ) (qc : Option Nat) (hqc : qc = none ∨ qc = some q)
    (line : Text) (hasQ : Bool) (h : ∀ c, c = SQ ∨ c = DQ → line.contains c = (decide (c = q) && hasQ)) :
    simpleQuote qc line = some (if hasQ then some q else qc) := by
  unfold simpleQuote
  rw [h DQ (.inr rfl), h SQ (.inl rfl)]
  rcases hq with rfl | rfl <;> rcases hqc with rfl | rfl <;> cases hasQ <;> decide

theorem arffWriteRow_noNl (q : Nat) (hq : q = SQ ∨ q = DQ) (also : Nat → Bool) (pad : Nat) (row : List (Bool × Text))
    (h : arffRowOk q row = true) : ∀ c ∈ arffWriteRow q also pad row, isNl c = false := by
  intro c hc
  rcases arffWriteRow_mem q also pad row c hc with h' | h' | h' | h' | h'
  · subst h'; decide
  · subst h'; decide
  · subst h'; decide
  · rw [h'.1]; rcases hq with h' | h' <;> subst h' <;> decide
  · obtain ⟨x, hx, hcx⟩ := h'
    exact (arffRowOk_parts q row h).noNl x hx c hcx

/-- a lone empty value is written quoted -/
theorem arffWriteRow_ne_nil (q : Nat) (also : Nat → Bool) (pad : Nat) (row : List (Bool × Text))
    (h : arffRowOk q row = true) : arffWriteRow q also pad row ≠ [] := by
  have hr := arffRowOk_parts q row h
  rw [arffWriteRow_eq]
  exact intercalate_ne_nil _ row (List.cons_ne_nil _ _) hr.ne fun x hx => quotedOrBare_ne_nil (List.cons_ne_nil _ _) (hr.lone x hx)

theorem csvFirst_written (q : Nat) (hq : q = SQ ∨ q = DQ) (also : Nat → Bool) (pad : Nat) (row : List (Bool × Text))
    (h : arffRowOk q row = true) (qc : Option Nat) (hqc : qc = none ∨ qc = some q)
    (hquoted : row.any tokQuoted = true → qc = some q) :
    csvFirst (arffDialect COMMA qc) (arffWriteRow q also pad row) = .ok (row.map (·.2)) := by
  have hqe : QeOk qc := by
    unfold QeOk
    rcases hqc with h' | h' <;> subst h'
    · right; rfl
    · simpa using hq
  have hline : arffWriteRow q also pad row = arffWriteRow (qc.getD DQ) also pad row := by
    cases hany : row.any tokQuoted with
    | true => rw [hquoted hany]; rfl
    | false => exact arffWriteRow_unquoted q _ also pad row hany
  have hrow : csvLine (arffDialect COMMA qc) CsvR.reset (arffWriteRow q also pad row) = .ok ⟨.startRecord, [], row.map (·.2)⟩ := by
    rw [csvLine_reset _ (arffWriteRow_ne_nil q also pad row h) (arffWriteRow_noNl q hq also pad row h), hline, arffWriteRow_eq]
    exact csvLine_fields (d := arffDialect COMMA qc) _ (·.2) _ (fun fs rest => arffFeed_spaces qc fs pad rest hqe) row
      (arffRowOk_parts q row h).ne (fun x _ => arffWriteTok_reads qc hqe also x) []
  unfold csvFirst
  simp only [csvRecords, hrow]
  simp [CsvR.reset]

/-- a reader that has so far seen only written lines of quote style `q`: fresh, or started on the comma with no quote
character settled yet or with `q` -/
def ALR.Inv (q : Nat) (s : ALR) : Prop :=
  s = ALR.init ∨ (s.started = true ∧ s.delim = COMMA ∧ (s.qc = none ∨ s.qc = some q))

theorem arffSimple_written (q : Nat) (hq : q = SQ ∨ q = DQ) (also : Nat → Bool) (pad : Nat) (row : List (Bool × Text))
    (h : arffRowOk q row = true) (s : ALR) (hd : s.delim = COMMA) (hqc : s.qc = none ∨ s.qc = some q) :
    arffSimple row.length s (arffWriteRow q also pad row) =
      .ok ({ s with qc := if row.any tokQuoted then some q else s.qc }, row.map (·.2)) := by
  unfold arffSimple
  rw [simpleQuote_written q hq s.qc hqc _ _ (line_quotes q also pad row h), hd]
  simp only
  rw [csvFirst_written q hq also pad row h _ (by
        cases row.any tokQuoted <;> simp [hqc]) (by
        intro ha; simp [ha])]
  simp

theorem arffFirst_written (q : Nat) (hq : q = SQ ∨ q = DQ) (also : Nat → Bool) (pad : Nat) (row : List (Bool × Text))
    (h : arffRowOk q row = true) :
    arffFirst row.length (arffWriteRow q also pad row) =
      .ok (⟨true, false, if row.any tokQuoted then some q else none, COMMA⟩, row.map (·.2)) := by
  have hl := line_quotes q also pad row h
  have hqc0 : (if (arffWriteRow q also pad row).contains DQ then some DQ else if (arffWriteRow q also pad row).contains SQ then some SQ else none)
      = (if row.any tokQuoted then some q else none) := by
    rw [hl DQ (.inr rfl), hl SQ (.inl rfl)]
    rcases hq with rfl | rfl <;> cases row.any tokQuoted <;> rfl
  have hboth : ((arffWriteRow q also pad row).contains DQ && (arffWriteRow q also pad row).contains SQ) = false := by
    rw [hl DQ (.inr rfl), hl SQ (.inl rfl)]
    rcases hq with rfl | rfl <;> cases row.any tokQuoted <;> rfl
  unfold arffFirst
  simp only [hboth, Bool.false_eq_true, if_false, hqc0]
  have hq2 : (if row.any tokQuoted then some q else (none : Option Nat)) = none ∨ (if row.any tokQuoted then some q else (none : Option Nat)) = some q := by
    cases row.any tokQuoted <;> simp
  rw [csvFirst_written q hq also pad row h _ hq2 (by intro ha; simp [ha])]
  simp only [List.length_map, if_true]
  have := arffSimple_written q hq also pad row h ⟨true, false, if row.any tokQuoted then some q else none, COMMA⟩ rfl hq2
  rw [this]
  cases row.any tokQuoted <;> simp

theorem arffLineStep_written (q : Nat) (hq : q = SQ ∨ q = DQ) (also : Nat → Bool) (pad : Nat) (row : List (Bool × Text))
    (h : arffRowOk q row = true) (s : ALR) (hs : ALR.Inv q s) :
    ∃ s', arffLineStep row.length s (arffWriteRow q also pad row) = .ok (s', row.map (·.2)) ∧ ALR.Inv q s' := by
  unfold arffLineStep
  rcases hs with rfl | ⟨hst, hd, hqc⟩
  · exact ⟨_, arffFirst_written q hq also pad row h, .inr ⟨rfl, rfl, by cases row.any tokQuoted <;> simp⟩⟩
  · rw [if_pos hst]
    exact ⟨_, arffSimple_written q hq also pad row h s hd hqc, .inr ⟨hst, hd, by cases row.any tokQuoted <;> simp [hqc]⟩⟩

theorem arffLines_written (q : Nat) (hq : q = SQ ∨ q = DQ) (also : Nat → Bool) (n : Nat)
    (rows : List (Nat × List (Bool × Text))) (hok : ∀ r ∈ rows, arffRowOk q r.2 = true ∧ r.2.length = n)
    (s : ALR) (hs : ALR.Inv q s) :
    arffLines n s (rows.map (fun r => arffWriteRow q also r.1 r.2)) = .ok (rows.map (·.2.map (·.2))) := by
  induction rows generalizing s with
  | nil => rfl
  | cons r rs ih =>
    obtain ⟨hr, hlen⟩ := hok r List.mem_cons_self
    obtain ⟨s', hstep, hs'⟩ := arffLineStep_written q hq also r.1 r.2 hr s hs
    rw [hlen] at hstep
    simp only [List.map_cons, arffLines, hstep, ih (fun r' hr' => hok r' (List.mem_cons_of_mem _ hr')) s' hs']

/-! ## the csv fast path inside the complete line reader -/

/-- the state of the complete line reader that stands for a state of the fast-path model: never in fallback mode -/
def toF (s : ALR) : ALRF := ⟨s.started, false, s.qc, s.delim, none⟩

theorem toF_init : toF ALR.init = ALRF.init := rfl

theorem arffSimple_full (n : Nat) (s : ALR) (line : Text) (s' : ALR) (r : List Text)
    (h : arffSimple n s line = .ok (s', r)) : arffSimpleF n (toF s) line = .ok (toF s', r) := by
  unfold arffSimple at h
  unfold arffSimpleF
  simp only [toF]
  cases hq : simpleQuote s.qc line with
  | none => rw [hq] at h; cases h
  | some qc1 =>
    rw [hq] at h
    simp only at h ⊢
    cases hc : csvFirst (arffDialect s.delim qc1) line with
    | error e => rw [hc] at h; cases h
    | ok rr =>
      rw [hc] at h
      simp only at h ⊢
      by_cases hl : rr.length = n
      · simp only [hl, if_true] at h ⊢
        cases h
        rfl
      · simp [hl] at h

theorem arffLineStep_full (n : Nat) (s : ALR) (line : Text) (s' : ALR) (r : List Text)
    (h : arffLineStep n s line = .ok (s', r)) : arffLineStepF n (toF s) line = .ok (toF s', r) := by
  obtain ⟨st, adv, qc0, dl⟩ := s
  unfold arffLineStep at h
  unfold arffLineStepF
  simp only [toF, Bool.false_eq_true, if_false] at h ⊢
  cases st with
  | true =>
    simp only [if_true] at h ⊢
    exact arffSimple_full n ⟨true, adv, qc0, dl⟩ line s' r h
  | false =>
    simp only [Bool.false_eq_true, if_false] at h ⊢
    unfold arffFirst at h
    unfold arffFirstF
    by_cases hb : (line.contains DQ && line.contains SQ) = true
    · simp only [hb, if_true] at h; cases h
    · simp only [hb, Bool.false_eq_true, if_false] at h ⊢
      cases hc : csvFirst (arffDialect COMMA (if line.contains DQ = true then some DQ else if line.contains SQ = true then some SQ else none)) line with
      | error e => rw [hc] at h; cases h
      | ok rr =>
        rw [hc] at h
        simp only at h ⊢
        by_cases hl : rr.length = n
        · simp only [hl, if_true] at h ⊢
          exact arffSimple_full n ⟨true, false, _, COMMA⟩ line s' r h
        · simp only [hl, if_false] at h ⊢
          cases hc2 : csvFirst (arffDialect TAB (if line.contains DQ = true then some DQ else if line.contains SQ = true then some SQ else none)) line with
          | error e => rw [hc2] at h; cases h
          | ok r2 =>
            rw [hc2] at h
            simp only at h ⊢
            by_cases hl2 : r2.length = n
            · simp only [hl2, if_true] at h ⊢
              exact arffSimple_full n ⟨true, false, _, TAB⟩ line s' r h
            · simp only [hl2, if_false] at h; cases h

/-! ## the fallback loop on pieces that do not start with a quote character -/

theorem advLoop_unquoted (ps : List Text) (h : ps.all pieceUnquoted = true) : advLoop none ps = advUnquoted ps := by
  induction ps with
  | nil => simp [advLoop, advUnquoted]
  | cons p ps ih =>
    simp only [List.all_cons, Bool.and_eq_true] at h
    have ih' := ih h.2
    have hp := h.1
    unfold pieceUnquoted at hp
    simp only [advLoop]
    cases hl : lstrip p with
    | nil => simp [advUnquoted, hl]
    | cons c rest =>
      rw [hl] at hp
      have hq : isQuoteCh c = false := by simpa using hp
      simp only [hq, Bool.false_eq_true, if_false, ih']
      unfold advUnquoted
      by_cases hall : ps.all (fun p => lstrip p != []) = true
      · simp [hall, hl, advClean]
      · simp [hall, hl]

theorem advUnquoted_ok_iff (ps vs : List Text) :
    advUnquoted ps = .ok vs ↔ (∀ p ∈ ps, lstrip p ≠ []) ∧ ps.map advClean = vs := by
  unfold advUnquoted
  by_cases h : (ps.all fun p => lstrip p != []) = true
  · rw [if_pos h]
    exact ⟨fun e => ⟨fun p hp => by simpa using List.all_eq_true.mp h p hp, Except.ok.inj e⟩, fun e => congrArg _ e.2⟩
  · rw [if_neg h]
    exact ⟨(fun e => nomatch e), fun e => absurd (List.all_eq_true.mpr fun p hp => by simpa using e.1 p hp) h⟩

/-- what `innerTok` asks of a value -/
structure InnerTok (v : Text) : Prop where
  head : ∃ c t, v = c :: t ∧ isPySpace c = false ∧ isQuoteCh c = false
  comma : ∀ c ∈ v, c ≠ COMMA
  bs : ∀ c ∈ v, c ≠ BS

theorem innerTok_parts (v : Text) (h : innerTok v = true) : InnerTok v := by
  unfold innerTok at h
  simp only [Bool.and_eq_true] at h
  obtain ⟨hh, ha⟩ := h
  have hch : ∀ c ∈ v, c ≠ COMMA ∧ c ≠ BS := fun c hc => by
    have := List.all_eq_true.mp ha c hc
    simp only [Bool.not_eq_true', Bool.or_eq_false_iff, beq_eq_false_iff_ne] at this
    exact this
  refine ⟨?_, fun c hc => (hch c hc).1, fun c hc => (hch c hc).2⟩
  cases v with
  | nil => simp at hh
  | cons c t =>
    simp only [Bool.and_eq_true, Bool.not_eq_true'] at hh
    exact ⟨c, t, rfl, hh.1, hh.2⟩

theorem innerTok_piece (p v : Text) (hp : lstrip p = v) (h : innerTok v = true) :
    advClean p = v ∧ pieceUnquoted p = true ∧ lstrip p ≠ [] := by
  have hv := innerTok_parts v h
  obtain ⟨c, t, rfl, _, hq⟩ := hv.head
  unfold advClean pieceUnquoted
  rw [hp]
  exact ⟨List.filter_eq_self.mpr fun x hx => by simpa using hv.bs x hx, by simp [hq], List.cons_ne_nil _ _⟩

theorem innerTok_lstrip (v : Text) (h : innerTok v = true) : lstrip v = v := by
  obtain ⟨c, t, rfl, hs, _⟩ := (innerTok_parts v h).head
  simp [lstrip, List.dropWhile, hs]

theorem innerTok_unquoted (v : Text) (h : innerTok v = true) : pieceUnquoted v = true :=
  (innerTok_piece v v (innerTok_lstrip v h) h).2.1

/-- pieces `blanks ++ value`, as a comma-separated row with a pad after each comma splits into -/
theorem advUnquoted_lead (items : List (Text × Text))
    (h : ∀ it ∈ items, (∀ c ∈ it.1, isPySpace c = true) ∧ innerTok it.2 = true) :
    (items.map fun it => it.1 ++ it.2).all pieceUnquoted = true ∧
      advUnquoted (items.map fun it => it.1 ++ it.2) = .ok (items.map (·.2)) := by
  have hf : ∀ it ∈ items, advClean (it.1 ++ it.2) = it.2 ∧ pieceUnquoted (it.1 ++ it.2) = true ∧
      lstrip (it.1 ++ it.2) ≠ [] := fun it hit => by
    obtain ⟨c, t, e, hs, _⟩ := (innerTok_parts it.2 (h it hit).2).head
    exact innerTok_piece _ _ (lstrip_lead it.1 it.2 (h it hit).1 fun x hx => by rw [e] at hx; cases hx; exact hs) (h it hit).2
  refine ⟨List.all_eq_true.mpr (List.forall_mem_map.mpr fun it hit => (hf it hit).2.1),
    (advUnquoted_ok_iff _ _).mpr ⟨List.forall_mem_map.mpr fun it hit => (hf it hit).2.2, ?_⟩⟩
  rw [List.map_map]
  exact List.map_congr_left fun it hit => (hf it hit).1

theorem advUnquoted_inner (vs : List Text) (h : ∀ v ∈ vs, innerTok v = true) : advUnquoted vs = .ok vs := by
  have hf := fun v hv => innerTok_piece v v (innerTok_lstrip v (h v hv)) (h v hv)
  exact (advUnquoted_ok_iff vs vs).mpr
    ⟨fun v hv => (hf v hv).2.2, (List.map_congr_left fun v hv => (hf v hv).1).trans (List.map_id _)⟩

/-! ## plain lines: fast path = fallback parser -/

/-- what `plainTok` asks of a value -/
structure PlainTok (v : Text) : Prop where
  head : ∃ c t, v = c :: t ∧ isPySpace c = false
  chars : ∀ c ∈ v, BareCh c
  bare : bareOk v = true

theorem plainTok_parts (v : Text) (h : plainTok v = true) : PlainTok v := by
  unfold plainTok at h
  simp only [Bool.and_eq_true] at h
  obtain ⟨hb, hh⟩ := h
  refine ⟨?_, (bareOk_parts v hb).chars, hb⟩
  cases v with
  | nil => simp at hh
  | cons c t => exact ⟨c, t, rfl, by simpa using hh⟩

theorem plainTok_inner (v : Text) (h : plainTok v = true) : innerTok v = true := by
  have hv := plainTok_parts v h
  obtain ⟨c, t, rfl, hs⟩ := hv.head
  have hc := hv.chars c List.mem_cons_self
  unfold innerTok
  rw [Bool.and_eq_true, List.all_eq_true]
  exact ⟨by simp [hs, isQuoteCh, hc.sq, hc.dq], fun x hx => by simp [(hv.chars x hx).comma, (hv.chars x hx).bs]⟩

theorem plainTok_write (q : Nat) (also : Nat → Bool) (v : Text) (h : plainTok v = true) : arffWriteTok q also (false, v) = v :=
  arffWriteTok_bare _ _ (tokQuoted_false_iff.mpr ⟨rfl, (plainTok_parts v h).bare⟩)

theorem plainRow_split (pad : Nat) (vs : List Text) (hne : vs ≠ []) (h : ∀ v ∈ vs, plainTok v = true) :
    advLoop none (splitOn COMMA (plainRowLine pad vs)) = .ok vs := by
  cases vs with
  | nil => exact absurd rfl hne
  | cons v0 r =>
    have hw : ((v0 :: r).map fun v => (false, v)).map (arffWriteTok SQ fun _ => false) = v0 :: r := by
      rw [List.map_map]
      exact (List.map_congr_left fun v hv => plainTok_write _ _ v (h v hv)).trans (List.map_id _)
    unfold splitOn plainRowLine
    rw [arffWriteRow_eq, hw, splitOnGo_join COMMA _ (forall_mem_replicate (by decide) pad) [] v0 r
      fun v hv c hc => ((plainTok_parts v (h v hv)).chars c hc).comma]
    have := advUnquoted_lead (([], v0) :: r.map (fun v => (List.replicate pad 32, v))) (by
      intro it hit
      simp only [List.mem_cons, List.mem_map] at hit
      rcases hit with rfl | ⟨v, hv, rfl⟩
      · exact ⟨nofun, plainTok_inner v0 (h v0 List.mem_cons_self)⟩
      · exact ⟨forall_mem_replicate (by decide) pad, plainTok_inner v (h v (List.mem_cons_of_mem _ hv))⟩)
    simp only [List.map_cons, List.map_map, Function.comp_def] at this
    rw [advLoop_unquoted _ this.1, this.2]
    simp

theorem plainRow_arffRowOk (q : Nat) (vs : List Text) (hne : vs ≠ []) (h : ∀ v ∈ vs, plainTok v = true) :
    arffRowOk q (vs.map (fun v => (false, v))) = true := by
  unfold arffRowOk
  simp only [Bool.and_eq_true]
  refine ⟨⟨by simpa using hne, ?_⟩, ?_⟩
  · rw [List.all_eq_true]
    intro x hx
    simp only [List.mem_map] at hx
    obtain ⟨v, hv, rfl⟩ := hx
    rw [List.all_eq_true]
    intro c hc
    have := (plainTok_parts v (h v hv)).chars c hc
    simp [this.nl, this.dq, this.sq]
  · cases vs with
    | nil => rfl
    | cons v r =>
      cases r with
      | nil =>
        obtain ⟨c, t, hct, _⟩ := (plainTok_parts v (h v (by simp))).head
        simp [hct]
      | cons y ys => rfl

theorem arffAdvanced_undecided_ok (n : Nat) (s : ALRF) (line : Text) (vs : List Text) (hs : s.fallback = none)
    (h : (splitOn (fallbackDelim line) line).all pieceUnquoted = true) :
    (arffAdvanced n s line).map (·.2) = .ok vs ↔ advUnquoted (splitOn (fallbackDelim line) line) = .ok vs ∧ vs.length = n := by
  unfold arffAdvanced
  simp only [hs]
  rw [show (if (splitOn COMMA line).length > (splitOn TAB line).length then COMMA else TAB) = fallbackDelim line from rfl,
    advLoop_unquoted _ h]
  cases advUnquoted (splitOn (fallbackDelim line) line) with
  | error e => exact ⟨(fun e => nomatch e), fun e => nomatch e.1⟩
  | ok parsed =>
    dsimp only
    by_cases hl : parsed.length = n
    · rw [if_pos hl]; exact ⟨fun e => (by cases e; exact ⟨rfl, hl⟩), fun e => (by cases e.1; rfl)⟩
    · rw [if_neg hl]; exact ⟨(fun e => nomatch e), fun e => (by cases e.1; exact absurd e.2 hl)⟩

end Coba.C12
