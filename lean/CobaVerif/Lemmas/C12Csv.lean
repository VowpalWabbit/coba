/-
C12, `csv.reader`: the automaton under any dialect (what a written field is read as, a line of such fields), the output of an
RFC 4180 writer under the excel dialect and `CsvReader`; `LibsvmReader` / `ManikReader` on written rows; the labelled
pipeline `CsvReader | LabelRows`.
-/
import CobaVerif.Lemmas.C12Writers

namespace Coba.C12

/-! ## csv.reader under a dialect -/

/-- what the proofs use of a dialect with quote character `q` -/
structure Dialect.Ok (d : Dialect) (q : Nat) : Prop where
  quote : d.quote = some q
  q_nl : isNl q = false
  q_delim : q ≠ d.delim
  q_esc : d.esc ≠ some q
  delim_nl : isNl d.delim = false
  delim_esc : d.esc ≠ some d.delim
  delim_sp : d.skipInit = true → d.delim ≠ 32

/-- a character that is copied into the buffer of an unquoted field -/
def Dialect.plain (d : Dialect) (c : Nat) : Prop := isNl c = false ∧ c ≠ d.delim ∧ d.esc ≠ some c

/-- the state after the closing quote of a field -/
def Dialect.closed (d : Dialect) : CsvSt := if d.doublequote then .quoteInQuoted else .inField

section dialect
variable {d : Dialect}

theorem csvFeed_cons {r r1 : CsvR} {c : Nat} (t : Text) (h : csvChar d r (some c) = .ok r1) :
    csvFeed d r (c :: t) = csvFeed d r1 t := by rw [csvFeed, h]

theorem csvFeed_append (d : Dialect) (r : CsvR) (a b : Text) :
    csvFeed d r (a ++ b) = match csvFeed d r a with | .error e => .error e | .ok r1 => csvFeed d r1 b := by
  induction a generalizing r with
  | nil => simp [csvFeed]
  | cons c a ih =>
    simp only [List.cons_append, csvFeed]
    cases csvChar d r (some c) with
    | error e => rfl
    | ok r1 => exact ih r1

theorem csv_startRecord_eq (d : Dialect) (a : Text) (fs : List Text) (c : Nat) (h : isNl c = false) :
    csvChar d ⟨.startRecord, a, fs⟩ (some c) = csvChar d ⟨.startField, a, fs⟩ (some c) := by
  simp [csvChar, h, csvStartField, saveField, addChar, goto]

theorem csvLine_reset (l : Text) (hne : l ≠ []) (h : ∀ c ∈ l, isNl c = false) :
    csvLine d CsvR.reset l = csvLine d ⟨.startField, [], []⟩ l := by
  cases l with
  | nil => exact absurd rfl hne
  | cons c t => simp only [csvLine, csvFeed, CsvR.reset, csv_startRecord_eq _ _ _ c (h c List.mem_cons_self)]

theorem csv_inField_eol (acc : Text) (fs : List Text) :
    csvChar d ⟨.inField, acc, fs⟩ none = .ok ⟨.startRecord, [], fs ++ [acc]⟩ := rfl

theorem csv_startField_eol (fs : List Text) :
    csvChar d ⟨.startField, [], fs⟩ none = .ok ⟨.startRecord, [], fs ++ [[]]⟩ := rfl

theorem csv_closed_eol (acc : Text) (fs : List Text) :
    csvChar d ⟨d.closed, acc, fs⟩ none = .ok ⟨.startRecord, [], fs ++ [acc]⟩ := by
  unfold Dialect.closed
  cases d.doublequote <;> rfl

theorem csv_inField_char (acc : Text) (fs : List Text) (c : Nat) (h : d.plain c) :
    csvChar d ⟨.inField, acc, fs⟩ (some c) = .ok ⟨.inField, acc ++ [c], fs⟩ := by
  simp [csvChar, csvInField, h.1, h.2.1, h.2.2, addChar]

theorem csvFeed_plain (f acc : Text) (fs : List Text) (rest : Text) (h : ∀ c ∈ f, d.plain c) :
    csvFeed d ⟨.inField, acc, fs⟩ (f ++ rest) = csvFeed d ⟨.inField, acc ++ f, fs⟩ rest :=
  acc_run (fun acc t => csvFeed d ⟨.inField, acc, fs⟩ t) d.plain
    (fun acc c t hc => csvFeed_cons t (csv_inField_char acc fs c hc)) f h acc rest

/-- `e`: what the writer puts for a character inside quotes -/
theorem csvFeed_escaped (e : Nat → Text)
    (he : ∀ c acc fs rest, csvFeed d ⟨.inQuoted, acc, fs⟩ (e c ++ rest) = csvFeed d ⟨.inQuoted, acc ++ [c], fs⟩ rest)
    (v acc : Text) (fs : List Text) (rest : Text) :
    csvFeed d ⟨.inQuoted, acc, fs⟩ (v.flatMap e ++ rest) = csvFeed d ⟨.inQuoted, acc ++ v, fs⟩ rest := by
  induction v generalizing acc with
  | nil => rw [List.flatMap_nil, List.append_nil]; rfl
  | cons c v ih => rw [List.flatMap_cons, List.append_assoc, he, ih, List.append_assoc]; rfl

/-- The text `w`, met at the start of a field, is read as the field `v` whatever follows: it is consumed into a state that the
delimiter and the end of the line both close with `v` as the field's content (so a row needs no case analysis on what
follows a field). -/
def ReadsField (d : Dialect) (w v : Text) : Prop :=
  ∀ fs rest, ∃ r, csvFeed d ⟨.startField, [], fs⟩ (w ++ rest) = csvFeed d r rest ∧
    csvChar d r (some d.delim) = .ok ⟨.startField, [], fs ++ [v]⟩ ∧ csvChar d r none = .ok ⟨.startRecord, [], fs ++ [v]⟩

theorem csvLine_fields {α} (w v : α → Text) (pad : Text)
    (hpad : ∀ fs rest, csvFeed d ⟨.startField, [], fs⟩ (pad ++ rest) = csvFeed d ⟨.startField, [], fs⟩ rest)
    (row : List α) (hne : row ≠ []) (h : ∀ x ∈ row, ReadsField d (w x) (v x)) (fs : List Text) :
    csvLine d ⟨.startField, [], fs⟩ ((d.delim :: pad).intercalate (row.map w)) = .ok ⟨.startRecord, [], fs ++ row.map v⟩ := by
  induction row generalizing fs with
  | nil => exact absurd rfl hne
  | cons x xs ih =>
    cases xs with
    | nil =>
      obtain ⟨r, h1, _, h3⟩ := h x List.mem_cons_self fs []
      rw [List.append_nil] at h1
      rw [List.map_cons, List.map_nil, List.intercalate_singleton, csvLine, h1]
      exact h3
    | cons y ys =>
      obtain ⟨r, h1, h2, _⟩ := h x List.mem_cons_self fs ((d.delim :: pad) ++ (d.delim :: pad).intercalate (w y :: ys.map w))
      rw [List.map_cons, List.map_cons, List.intercalate_cons_cons, List.append_assoc, csvLine, h1, List.cons_append,
        csvFeed_cons _ h2, hpad]
      exact (ih (List.cons_ne_nil _ _) (fun z hz => h z (List.mem_cons_of_mem _ hz)) (fs ++ [v x])).trans
        (by rw [List.append_assoc]; rfl)

variable {q : Nat} (hd : d.Ok q)
include hd

theorem csv_inField_delim (acc : Text) (fs : List Text) :
    csvChar d ⟨.inField, acc, fs⟩ (some d.delim) = .ok ⟨.startField, [], fs ++ [acc]⟩ := by
  simp [csvChar, csvInField, hd.delim_nl, hd.delim_esc, saveField]

theorem csv_startField_char (fs : List Text) (c : Nat) (h : d.plain c) (hq : c ≠ q) (hsp : d.skipInit = true → c ≠ 32) :
    csvChar d ⟨.startField, [], fs⟩ (some c) = .ok ⟨.inField, [c], fs⟩ := by
  have h1 : ¬ (q = c) := fun e => hq e.symm
  have h2 : ¬ (c = 32 ∧ d.skipInit = true) := fun e => hsp e.2 e.1
  simp [csvChar, csvStartField, h.1, h.2.1, h.2.2, hd.quote, h1, h2, addChar]

theorem csv_startField_delim (fs : List Text) :
    csvChar d ⟨.startField, [], fs⟩ (some d.delim) = .ok ⟨.startField, [], fs ++ [[]]⟩ := by
  have h2 : ¬ (d.delim = 32 ∧ d.skipInit = true) := fun e => hd.delim_sp e.2 e.1
  simp [csvChar, csvStartField, hd.delim_nl, hd.delim_esc, hd.quote, hd.q_delim, h2, saveField]

theorem csv_startField_blank (fs : List Text) (hs : d.skipInit = true) (hq : q ≠ 32) (he : d.esc ≠ some 32) :
    csvChar d ⟨.startField, [], fs⟩ (some 32) = .ok ⟨.startField, [], fs⟩ := by
  have h2 : isNl 32 = false := by decide
  simp [csvChar, csvStartField, h2, hd.quote, hq, he, hs, goto]

theorem csvFeed_blanks (fs : List Text) (hs : d.skipInit = true) (hq : q ≠ 32) (he : d.esc ≠ some 32) (k : Nat) (rest : Text) :
    csvFeed d ⟨.startField, [], fs⟩ (List.replicate k 32 ++ rest) = csvFeed d ⟨.startField, [], fs⟩ rest := by
  induction k with
  | zero => rfl
  | succ k ih => rw [List.replicate_succ, List.cons_append, csvFeed_cons _ (csv_startField_blank hd fs hs hq he)]; exact ih

theorem csv_startField_quote (fs : List Text) : csvChar d ⟨.startField, [], fs⟩ (some q) = .ok ⟨.inQuoted, [], fs⟩ := by
  simp [csvChar, csvStartField, hd.q_nl, hd.quote, goto]

theorem csv_inQuoted_char (acc : Text) (fs : List Text) (c : Nat) (h1 : c ≠ q) (h2 : d.esc ≠ some c) :
    csvChar d ⟨.inQuoted, acc, fs⟩ (some c) = .ok ⟨.inQuoted, acc ++ [c], fs⟩ := by
  have : ¬ (q = c) := fun e => h1 e.symm
  simp [csvChar, hd.quote, this, h2, addChar]

theorem csv_inQuoted_quote (acc : Text) (fs : List Text) :
    csvChar d ⟨.inQuoted, acc, fs⟩ (some q) = .ok ⟨d.closed, acc, fs⟩ := by
  simp [csvChar, hd.quote, hd.q_esc, goto, Dialect.closed]

theorem csv_qiq_quote (acc : Text) (fs : List Text) :
    csvChar d ⟨.quoteInQuoted, acc, fs⟩ (some q) = .ok ⟨.inQuoted, acc ++ [q], fs⟩ := by
  simp [csvChar, hd.quote, addChar]

theorem csv_closed_delim (acc : Text) (fs : List Text) :
    csvChar d ⟨d.closed, acc, fs⟩ (some d.delim) = .ok ⟨.startField, [], fs ++ [acc]⟩ := by
  unfold Dialect.closed
  cases d.doublequote
  · exact csv_inField_delim hd acc fs
  · simp [csvChar, hd.quote, hd.q_delim, saveField]

theorem readsField_quoted (e : Nat → Text)
    (he : ∀ c acc fs rest, csvFeed d ⟨.inQuoted, acc, fs⟩ (e c ++ rest) = csvFeed d ⟨.inQuoted, acc ++ [c], fs⟩ rest) (v : Text) :
    ReadsField d (q :: (v.flatMap e ++ [q])) v := by
  intro fs rest
  refine ⟨⟨d.closed, v, fs⟩, ?_, csv_closed_delim hd _ _, csv_closed_eol _ _⟩
  rw [List.cons_append, List.append_assoc, csvFeed_cons _ (csv_startField_quote hd fs), csvFeed_escaped e he, List.singleton_append,
    csvFeed_cons _ (csv_inQuoted_quote hd _ fs)]
  rfl

theorem readsField_bare (v : Text) (h : ∀ c ∈ v, d.plain c)
    (h0 : ∀ c, v.head? = some c → c ≠ q ∧ (d.skipInit = true → c ≠ 32)) : ReadsField d v v := by
  intro fs rest
  cases v with
  | nil => exact ⟨⟨.startField, [], fs⟩, rfl, csv_startField_delim hd fs, csv_startField_eol fs⟩
  | cons c f =>
    refine ⟨⟨.inField, c :: f, fs⟩, ?_, csv_inField_delim hd _ _, csv_inField_eol _ _⟩
    rw [List.cons_append, csvFeed_cons _ (csv_startField_char hd fs c (h c List.mem_cons_self) (h0 c rfl).1 (h0 c rfl).2)]
    exact csvFeed_plain f [c] fs rest fun x hx => h x (List.mem_cons_of_mem _ hx)

end dialect

/-! ## RFC 4180 output under the excel dialect -/

section csv
variable (delim : Nat)

theorem isNl_DQ : isNl DQ = false := by decide

theorem excel_ok (hd1 : delim ≠ DQ) (hd2 : isNl delim = false) : (excel delim).Ok DQ :=
  ⟨rfl, isNl_DQ, fun e => hd1 e.symm, nofun, hd2, nofun, nofun⟩

theorem csvFeed_quoted (hd1 : delim ≠ DQ) (hd2 : isNl delim = false) (c : Nat) (acc : Text) (fs : List Text) (rest : Text) :
    csvFeed (excel delim) ⟨.inQuoted, acc, fs⟩ ((if c = DQ then [DQ, c] else [c]) ++ rest) =
      csvFeed (excel delim) ⟨.inQuoted, acc ++ [c], fs⟩ rest := by
  have hd := excel_ok delim hd1 hd2
  by_cases hc : c = DQ
  · subst hc
    rw [if_pos rfl, List.cons_append, csvFeed_cons _ (csv_inQuoted_quote hd acc fs), show (excel delim).closed = .quoteInQuoted from rfl,
      List.cons_append, csvFeed_cons _ (csv_qiq_quote hd acc fs)]
    rfl
  · rw [if_neg hc, List.cons_append, csvFeed_cons _ (csv_inQuoted_char hd acc fs c hc nofun)]
    rfl

theorem not_mustQuote (f : Text) (h : mustQuote delim f = false) :
    ∀ c ∈ f, isNl c = false ∧ c ≠ delim ∧ c ≠ DQ := by
  intro c hc
  unfold mustQuote at h
  have := (List.any_eq_false.mp h) c hc
  simp only [Bool.or_eq_true, beq_iff_eq, not_or] at this
  exact ⟨by simpa using this.2, this.1.1, this.1.2⟩

theorem csvWriteField_reads (hd1 : delim ≠ DQ) (hd2 : isNl delim = false) (x : Bool × Text) :
    ReadsField (excel delim) (csvWriteField delim x) x.2 := by
  have hd := excel_ok delim hd1 hd2
  unfold csvWriteField
  by_cases hq : (x.1 || mustQuote delim x.2) = true
  · rw [if_pos hq]
    rw [csvEscape_eq]
    exact readsField_quoted hd _ (csvFeed_quoted delim hd1 hd2) x.2
  · rw [if_neg hq]
    have hall := not_mustQuote delim x.2 (Bool.or_eq_false_iff.mp (by simpa using hq)).2
    exact readsField_bare hd x.2 (fun c hc => ⟨(hall c hc).1, (hall c hc).2.1, nofun⟩)
      (fun c hc => ⟨(hall c (List.mem_of_mem_head? hc)).2.2, nofun⟩)

theorem csvEscape_mem (f : Text) (c : Nat) (h : c ∈ csvEscape f) : c ∈ f ∨ c = DQ :=
  (mem_escaped (csvEscape_eq f ▸ h)).symm

theorem csvWriteField_noNl (x : Bool × Text) (h : x.2.all (fun c => !isNl c) = true) :
    ∀ c ∈ csvWriteField delim x, isNl c = false := by
  intro c hc
  have hx : ∀ c ∈ x.2, isNl c = false := fun c hc => by simpa using List.all_eq_true.mp h c hc
  unfold csvWriteField at hc
  split at hc
  · simp only [List.mem_cons, List.mem_append, List.not_mem_nil, or_false] at hc
    rcases hc with hc | hc | hc
    · subst hc; exact isNl_DQ
    · rcases csvEscape_mem _ _ hc with h' | h'
      · exact hx c h'
      · subst h'; exact isNl_DQ
    · subst hc; exact isNl_DQ
  · exact hx c hc

theorem csvWriteRow_noNl (row : List (Bool × Text)) (h : row.all (fun x => x.2.all (fun c => !isNl c)) = true)
    (hd2 : isNl delim = false) : ∀ c ∈ csvWriteRow delim row, isNl c = false := by
  intro c hc
  rw [csvWriteRow_eq] at hc
  rcases mem_intercalate hc with hc | ⟨t, ht, hc⟩
  · rw [List.mem_singleton.mp hc]; exact hd2
  · obtain ⟨x, hx, rfl⟩ := List.mem_map.mp ht
    exact csvWriteField_noNl delim x (List.all_eq_true.mp h x hx) c hc

/-- what `csvRowOk` asks of a row -/
structure CsvRowOk (row : List (Bool × Text)) : Prop where
  ne : row ≠ []
  noNl : row.all (fun x => x.2.all (fun c => !isNl c)) = true
  lone : ∀ x, row = [x] → x.2 ≠ [] ∨ x.1 = true

theorem csvRowOk_parts (row : List (Bool × Text)) (h : csvRowOk row = true) : CsvRowOk row := by
  unfold csvRowOk at h
  simp only [Bool.and_eq_true, decide_eq_true_eq] at h
  exact ⟨h.1.1, h.1.2, fun x hr => by subst hr; simpa using h.2⟩

/-- a lone empty field is written quoted -/
theorem csvWriteRow_ne_nil (row : List (Bool × Text)) (hok : csvRowOk row = true) : csvWriteRow delim row ≠ [] := by
  have hr := csvRowOk_parts row hok
  rw [csvWriteRow_eq]
  exact intercalate_ne_nil _ row (List.cons_ne_nil _ _) hr.ne fun x hx => quotedOrBare_ne_nil (List.cons_ne_nil _ _) (hr.lone x hx)

theorem csvLine_row_reset (row : List (Bool × Text)) (hok : csvRowOk row = true)
    (hd1 : delim ≠ DQ) (hd2 : isNl delim = false) :
    csvLine (excel delim) CsvR.reset (csvWriteRow delim row) = .ok ⟨.startRecord, [], row.map (·.2)⟩ := by
  have hr := csvRowOk_parts row hok
  rw [csvLine_reset _ (csvWriteRow_ne_nil delim row hok) (csvWriteRow_noNl delim row hr.noNl hd2), csvWriteRow_eq]
  exact csvLine_fields (d := excel delim) _ (·.2) [] (fun _ _ => rfl) row hr.ne (fun x _ => csvWriteField_reads delim hd1 hd2 x) []

theorem csvRecords_rows (rows : List (List (Bool × Text))) (hok : ∀ r ∈ rows, csvRowOk r = true)
    (hd1 : delim ≠ DQ) (hd2 : isNl delim = false) :
    csvRecords (excel delim) CsvR.reset (rows.map (csvWriteRow delim)) = .ok (rows.map (·.map (·.2))) := by
  induction rows with
  | nil => simp [csvRecords, CsvR.reset]
  | cons r rs ih =>
    simp only [List.map_cons, csvRecords, csvLine_row_reset delim r (hok r (by simp)) hd1 hd2, if_true]
    rw [ih (fun r' hr' => hok r' (by simp [hr']))]

/-! ## CsvReader on written tables -/

theorem rstripNl_id (t : Text) (h : ∀ c, t.getLast? = some c → isNl c = false) : rstripNl t = t :=
  rtrim_id _ t fun c hc => by simpa [isNl, CR, LF, Bool.or_comm] using h c hc

theorem csv_lines_kept (f : Text → Text) (rows : List (List (Bool × Text)))
    (hf : ∀ r ∈ rows, f (csvWriteRow delim r) = csvWriteRow delim r) (hok : ∀ r ∈ rows, csvRowOk r = true) :
    ((rows.map (csvWriteRow delim)).map f).filter (· ≠ []) = rows.map (csvWriteRow delim) := by
  rw [List.map_map, List.map_congr_left (f := f ∘ csvWriteRow delim) (g := csvWriteRow delim) hf, List.filter_eq_self]
  intro l hl
  obtain ⟨r, hr, rfl⟩ := List.mem_map.mp hl
  simpa using csvWriteRow_ne_nil delim r (hok r hr)

theorem csv_lines_rstripNl (rows : List (List (Bool × Text))) (hok : ∀ r ∈ rows, csvRowOk r = true)
    (hd2 : isNl delim = false) :
    ((rows.map (csvWriteRow delim)).map rstripNl).filter (· ≠ []) = rows.map (csvWriteRow delim) :=
  csv_lines_kept delim rstripNl rows (fun r hr => rstripNl_id _ fun c hc =>
    csvWriteRow_noNl delim r (csvRowOk_parts r (hok r hr)).noNl hd2 c (List.mem_of_getLast? hc)) hok

theorem csvReaderFix_table (hd1 : delim ≠ DQ) (hd2 : isNl delim = false)
    (hdr : Option (List (Bool × Text))) (rows : List (List (Bool × Text)))
    (hok : ∀ r ∈ hdr.toList ++ rows, csvRowOk r = true) :
    csvReaderFix (excel delim) hdr.isSome ((hdr.toList ++ rows).map (csvWriteRow delim)) =
      .ok (hdr.map (·.map (·.2)), rows.map (·.map (·.2))) := by
  unfold csvReaderFix
  rw [csv_lines_rstripNl delim _ hok hd2, csvRecords_rows delim _ hok hd1 hd2]
  cases hdr with
  | none => cases rows <;> rfl
  | some h => rfl

end csv

/-! ## LibSVM -/

/-- the token `k:v`, so that a written row is its label group and its items joined by blanks -/
def svmItem (kv : Text × Text) : Text := kv.1 ++ COLON :: kv.2

theorem svmWrite_eq_join (a : Text) (fs : List (Text × Text)) :
    a ++ svmWriteFeats fs = joinWith SP (a :: fs.map svmItem) := by
  induction fs generalizing a with
  | nil => simp [svmWriteFeats, joinWith]
  | cons kv fs ih =>
    obtain ⟨k, v⟩ := kv
    simp only [svmWriteFeats, List.map_cons, joinWith]
    have := ih (k ++ COLON :: v)
    simp only [svmItem] at this ⊢
    rw [← this]
    simp

theorem svmFeats_items (fs : List (Text × Text))
    (h : ∀ kv ∈ fs, (∀ c ∈ kv.1, c ≠ COLON) ∧ (∀ c ∈ kv.2, c ≠ COLON)) :
    svmFeats (fs.map svmItem) = .ok fs := by
  induction fs with
  | nil => rfl
  | cons kv fs ih =>
    obtain ⟨k, v⟩ := kv
    have hk := h (k, v) (by simp)
    have : splitOn COLON (svmItem (k, v)) = [k, v] := by
      have := splitOn_join COLON [k, v] (by simp) (by
        intro t ht c hc
        simp only [List.mem_cons, List.not_mem_nil, or_false] at ht
        rcases ht with rfl | rfl
        · exact hk.1 c hc
        · exact hk.2 c hc)
      simpa [joinWith, svmItem] using this
    simp only [List.map_cons, svmFeats, this]
    rw [ih (fun kv hkv => h kv (by simp [hkv]))]

theorem tokenOk_parts (bad : List Nat) (t : Text) (h : tokenOk bad t = true) :
    ∀ c ∈ t, isPySpace c = false ∧ c ∉ bad := by
  intro c hc
  have := List.all_eq_true.mp h c hc
  simpa using this

theorem isPySpace_SP : isPySpace SP = true := by decide
theorem isPySpace_COLON : isPySpace COLON = false := by decide
theorem isPySpace_COMMA : isPySpace COMMA = false := by decide

theorem joinWith_mem (sep : Nat) (toks : List Text) (c : Nat) (h : c ∈ joinWith sep toks) :
    c = sep ∨ ∃ t ∈ toks, c ∈ t := by
  rw [joinWith_eq] at h
  exact (mem_intercalate h).imp_left List.mem_singleton.mp

theorem svmItem_last (kv : Text × Text) (c : Nat) (h : (svmItem kv).getLast? = some c) : c = COLON ∨ c ∈ kv.2 := by
  unfold svmItem at h
  rw [List.getLast?_append] at h
  obtain ⟨z, hl⟩ := exists_getLast? (List.cons_ne_nil COLON kv.2)
  rw [hl] at h
  cases h
  exact List.mem_cons.mp (List.mem_of_getLast? hl)

theorem svmRowOk_parts (r : SvmRow) (h : svmRowOk r = true) :
    r.labels ≠ [] ∧ joinWith COMMA r.labels ≠ [] ∧
    (∀ t ∈ r.labels, ∀ c ∈ t, isPySpace c = false ∧ c ≠ COMMA ∧ c ≠ COLON) ∧
    ∀ kv ∈ r.feats, (∀ c ∈ kv.1, isPySpace c = false ∧ c ≠ COLON) ∧ (∀ c ∈ kv.2, isPySpace c = false ∧ c ≠ COLON) := by
  unfold svmRowOk at h
  simp only [Bool.and_eq_true, decide_eq_true_eq] at h
  obtain ⟨⟨⟨hl1, hl2⟩, hlab⟩, hfe⟩ := h
  refine ⟨hl1, hl2, fun t ht c hc => ?_, fun kv hkv => ?_⟩
  · have := tokenOk_parts _ t (List.all_eq_true.mp hlab t ht) c hc
    simp only [List.mem_cons, List.not_mem_nil, or_false, not_or] at this
    exact ⟨this.1, this.2.1, this.2.2⟩
  · have := List.all_eq_true.mp hfe kv hkv
    simp only [Bool.and_eq_true] at this
    constructor
    · intro c hc
      have := tokenOk_parts _ _ this.1 c hc
      simpa using this
    · intro c hc
      have := tokenOk_parts _ _ this.2 c hc
      simpa using this

theorem svmLine_write (r : SvmRow) (hok : svmRowOk r = true) : svmLine (svmWriteRow r) = .ok (some r) := by
  obtain ⟨hl1, hl2, hlabc, hfec⟩ := svmRowOk_parts r hok
  have hlabmem : ∀ c ∈ joinWith COMMA r.labels, isPySpace c = false ∧ c ≠ COLON := by
    intro c hc
    rcases joinWith_mem _ _ _ hc with h | ⟨t, ht, hc'⟩
    · subst h; exact ⟨isPySpace_COMMA, by decide⟩
    · exact ⟨(hlabc t ht c hc').1, (hlabc t ht c hc').2.2⟩
  have hsp : ∀ c, isPySpace c = false → c ≠ SP := by
    intro c hc heq; subst heq; simp [isPySpace_SP] at hc
  have hstrip : strip (svmWriteRow r) = svmWriteRow r := by
    apply strip_id
    · intro c hc
      unfold svmWriteRow at hc
      cases hj : joinWith COMMA r.labels with
      | nil => exact absurd hj hl2
      | cons a t =>
        rw [hj] at hc
        simp at hc; subst hc
        exact (hlabmem a (by rw [hj]; simp)).1
    · intro c hc
      unfold svmWriteRow at hc
      obtain ⟨l, hl⟩ := exists_getLast? (List.cons_ne_nil (joinWith COMMA r.labels) (r.feats.map svmItem))
      -- the last token is the label group or an item `k:v`; neither is empty
      rcases List.mem_cons.mp (List.mem_of_getLast? hl) with rfl | hm
      · rw [svmWrite_eq_join, joinWith_eq, intercalate_getLast? hl hl2] at hc
        exact (hlabmem c (List.mem_of_getLast? hc)).1
      · obtain ⟨kv, hkv, rfl⟩ := List.mem_map.mp hm
        rw [svmWrite_eq_join, joinWith_eq, intercalate_getLast? hl (by simp [svmItem])] at hc
        rcases svmItem_last kv c hc with rfl | hv
        · exact isPySpace_COLON
        · exact ((hfec kv hkv).2 c hv).1
  unfold svmLine
  rw [hstrip]
  unfold svmWriteRow
  rw [svmWrite_eq_join, splitOn_join SP _ (by simp) (by
    intro t ht c hc
    simp only [List.mem_cons, List.mem_map] at ht
    rcases ht with rfl | ⟨kv, hkv, rfl⟩
    · exact hsp c (hlabmem c hc).1
    · simp only [svmItem, List.mem_append, List.mem_cons] at hc
      rcases hc with hc | hc | hc
      · exact hsp c ((hfec kv hkv).1 c hc).1
      · subst hc; decide
      · exact hsp c ((hfec kv hkv).2 c hc).1)]
  have hcol : ¬ (joinWith COMMA r.labels = [] ∨ COLON ∈ joinWith COMMA r.labels) := by
    intro h
    rcases h with h | h
    · exact hl2 h
    · exact (hlabmem COLON h).2 rfl
  simp only [hcol, if_false]
  rw [svmFeats_items r.feats (fun kv hkv => ⟨fun c hc => ((hfec kv hkv).1 c hc).2, fun c hc => ((hfec kv hkv).2 c hc).2⟩)]
  simp only
  rw [splitOn_join COMMA r.labels hl1 (fun t ht c hc => (hlabc t ht c hc).2.1)]

theorem svmWriteRow_ne (r : SvmRow) (hok : svmRowOk r = true) : svmWriteRow r ≠ [] := by
  intro h
  unfold svmWriteRow at h
  simp at h
  exact (svmRowOk_parts r hok).2.1 h.1

/-! ## the labelled CSV pipeline -/

theorem labelDense_ok (j : Nat) (row : List Text) (h : j < row.length) :
    labelDense (j : Int) row = some (labelSplit j row) := by
  unfold labelDense labelSplit
  have : ¬ ((j : Int) < 0) := by omega
  simp [this, List.getD, h]

theorem labelDenseAll_ok (j n : Nat) (hj : j < n) (rows : List (List Text)) (hw : ∀ r ∈ rows, r.length = n) :
    labelDenseAll (j : Int) rows = some (rows.map (labelSplit j)) := by
  induction rows with
  | nil => rfl
  | cons r rs ih =>
    have h1 := labelDense_ok j r (by rw [hw r (by simp)]; exact hj)
    have h2 := ih (fun r' hr' => hw r' (by simp [hr']))
    simp [labelDenseAll, h1, h2]

theorem headerIndexGo_lt (name : Text) (hs : List Text) (i : Nat) (acc : Option Nat) (j : Nat)
    (hacc : ∀ a, acc = some a → a < i) (h : headerIndexGo name i acc hs = some j) : j < i + hs.length := by
  induction hs generalizing i acc with
  | nil =>
    simp only [headerIndexGo] at h
    have := hacc j h
    simpa using this
  | cons x xs ih =>
    simp only [headerIndexGo] at h
    have := ih (i + 1) _ (by
      intro a ha
      by_cases hx : x = name
      · simp [hx] at ha; omega
      · simp [hx] at ha; have := hacc a ha; omega) h
    simp only [List.length_cons]; omega

theorem headerIndex_lt (hdr : List Text) (name : Text) (j : Nat) (h : headerIndex hdr name = some j) : j < hdr.length := by
  have := headerIndexGo_lt name hdr 0 none j (by intro a ha; cases ha) h
  simpa using this

theorem labelIndex_col (hdr : Option (List Text)) (n : Nat) (ref : LabelRef) (j : Nat)
    (hh : ∀ h, hdr = some h → h.length = n) (hc : labelCol hdr n ref = some j) :
    labelIndex hdr n ref = some (j : Int) ∧ j < n := by
  cases ref with
  | idx i =>
    simp only [labelCol] at hc
    simp only [labelIndex]
    by_cases h1 : 0 ≤ i ∧ i < n
    · rw [if_pos h1] at hc
      cases hc
      rw [if_neg (Int.not_lt.mpr h1.1), Int.toNat_of_nonneg h1.1]
      exact ⟨rfl, (Int.toNat_lt h1.1).mpr h1.2⟩
    · rw [if_neg h1] at hc
      by_cases h2 : i < 0 ∧ -(n : Int) ≤ i
      · rw [if_pos h2] at hc
        cases hc
        have h0 : 0 ≤ i + n := by omega
        rw [if_pos h2.1, Int.toNat_of_nonneg h0]
        exact ⟨rfl, (Int.toNat_lt h0).mpr (by omega)⟩
      · rw [if_neg h2] at hc; cases hc
  | name t =>
    cases hdr with
    | none => simp [labelCol] at hc
    | some h =>
      simp only [labelCol] at hc
      have hlt := headerIndex_lt h t j hc
      rw [hh h rfl] at hlt
      simp only [labelIndex, hc, Option.map_some, if_neg (Int.not_lt.mpr (Int.natCast_nonneg j))]
      exact ⟨trivial, hlt⟩

theorem labelRows_ok (hdr : Option (List Text)) (n : Nat) (ref : LabelRef) (j : Nat)
    (hh : ∀ h, hdr = some h → h.length = n) (hc : labelCol hdr n ref = some j)
    (rows : List (List Text)) (hw : ∀ r ∈ rows, r.length = n) :
    labelRows hdr ref rows = some (rows.map (labelSplit j)) := by
  cases rows with
  | nil => rfl
  | cons first rest =>
    obtain ⟨h1, h2⟩ := labelIndex_col hdr n ref j hh hc
    simp only [labelRows, hw first (by simp), h1]
    exact labelDenseAll_ok j n h2 _ hw

end Coba.C12
