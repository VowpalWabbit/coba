/-
C12, the base of the island's lemma modules: decidable equality of `Except` results, facts about lists (`getLast?`, `dropWhile`,
a scanner's run over a stretch of characters) and about the trimming functions `strip` / `lstrip` / `rstrip`, each a `dropWhile`
at one end or at both.
-/
import CobaVerif.Model.C12

namespace Coba.C12

/-! ## decidable equality of results, for the `decide` proofs of the property theorems -/

instance instDecEqExcept {ε α} [DecidableEq ε] [DecidableEq α] : DecidableEq (Except ε α) := fun a b =>
  match a, b with
  | .ok x, .ok y => if h : x = y then isTrue (by rw [h]) else isFalse (by intro h'; cases h'; exact h rfl)
  | .error x, .error y => if h : x = y then isTrue (by rw [h]) else isFalse (by intro h'; cases h'; exact h rfl)
  | .ok _, .error _ => isFalse (by intro h; cases h)
  | .error _, .ok _ => isFalse (by intro h; cases h)

/-! ## lists, `strip`, `lstrip`, `rstrip` -/

theorem getLast?_cons_concat {α} (a : α) (l : List α) (x : α) : (a :: (l ++ [x])).getLast? = some x := by
  rw [← List.cons_append, List.getLast?_concat]

theorem dropLast_cons_concat {α} (a : α) (l : List α) (x : α) : (a :: (l ++ [x])).dropLast = a :: l := by
  rw [← List.cons_append, List.dropLast_concat]

theorem getLast?_append_some {α} (a b : List α) (c : α) (h : b.getLast? = some c) : (a ++ b).getLast? = some c := by
  rw [List.getLast?_append, h]; rfl

theorem exists_getLast? {α} {l : List α} (h : l ≠ []) : ∃ x, l.getLast? = some x := ⟨_, List.getLast?_eq_some_getLast h⟩

theorem contains_eq_false_of_not_mem {α} [BEq α] [LawfulBEq α] {l : List α} {a : α} (h : a ∉ l) : l.contains a = false :=
  Bool.eq_false_iff.mpr fun hc => h (List.contains_iff_mem.mp hc)

theorem append_singleton_split {α} (X Y c : List α) (z : α) (h : X ++ [z] = Y ++ c) (hc : c ≠ []) :
    ∃ c', c = c' ++ [z] ∧ X = Y ++ c' := by
  have h1 := congrArg List.reverse h
  simp only [List.reverse_append, List.reverse_cons, List.reverse_nil, List.nil_append, List.singleton_append] at h1
  cases hr : c.reverse with
  | nil => simp at hr; exact absurd hr hc
  | cons w cr =>
    rw [hr] at h1
    simp only [List.cons_append, List.cons.injEq] at h1
    refine ⟨cr.reverse, ?_, ?_⟩
    · have := congrArg List.reverse hr
      simp only [List.reverse_reverse, List.reverse_cons] at this
      rw [this, h1.1]
    · have := congrArg List.reverse h1.2
      simpa using this

theorem dropWhile_head_false {α} (p : α → Bool) (l : List α) (h : ∀ a, l.head? = some a → p a = false) :
    l.dropWhile p = l := by
  cases l with
  | nil => rfl
  | cons a l => simp [List.dropWhile, h a rfl]

theorem dropWhile_head_not {α} (p : α → Bool) (l : List α) (a : α) (r : List α) (h : l.dropWhile p = a :: r) : p a = false := by
  have := List.head?_dropWhile_not p l
  rw [h] at this
  exact this

theorem dropWhile_all {α} (p : α → Bool) (s : List α) (h : ∀ c ∈ s, p c = true) : s.dropWhile p = [] := by
  induction s with
  | nil => rfl
  | cons a s ih => simp [List.dropWhile, h a (by simp), ih (fun c hc => h c (by simp [hc]))]

theorem dropWhile_congr_mem {α} (p q : α → Bool) (l : List α) (h : ∀ c ∈ l, p c = q c) : l.dropWhile p = l.dropWhile q := by
  induction l with
  | nil => rfl
  | cons a l ih =>
    have ha := h a (by simp)
    simp only [List.dropWhile, ha]
    cases q a
    · rfl
    · exact ih (fun c hc => h c (by simp [hc]))

theorem acc_run {R} (go : Text → Text → R) (p : Nat → Prop) (h : ∀ cur c t, p c → go cur (c :: t) = go (cur ++ [c]) t)
    (w : Text) (hw : ∀ c ∈ w, p c) (cur rest : Text) : go cur (w ++ rest) = go (cur ++ w) rest := by
  induction w generalizing cur with
  | nil => rw [List.append_nil]; rfl
  | cons c w ih =>
    rw [List.cons_append, h cur c _ (hw c List.mem_cons_self), ih (fun x hx => hw x (List.mem_cons_of_mem _ hx)),
      List.append_assoc]
    rfl

/-- `strip`, `rstrip`, `rstripNl`, `stripBraces` are the same trimming with different predicates -/
theorem rtrim_id {α} (p : α → Bool) (t : List α) (h : ∀ c, t.getLast? = some c → p c = false) :
    (t.reverse.dropWhile p).reverse = t := by
  rw [dropWhile_head_false p _ fun a ha => h a (by rwa [List.head?_reverse] at ha), List.reverse_reverse]

theorem trim_id {α} (p : α → Bool) (t : List α) (h1 : ∀ c, t.head? = some c → p c = false)
    (h2 : ∀ c, t.getLast? = some c → p c = false) : ((t.dropWhile p).reverse.dropWhile p).reverse = t := by
  rw [dropWhile_head_false p t h1, rtrim_id p t h2]

theorem rtrim_subset {α} (p : α → Bool) (t : List α) : (t.reverse.dropWhile p).reverse ⊆ t :=
  fun _ hc => List.mem_reverse.mp ((List.dropWhile_sublist _).subset (List.mem_reverse.mp hc))

theorem trim_subset {α} (p : α → Bool) (t : List α) : ((t.dropWhile p).reverse.dropWhile p).reverse ⊆ t :=
  fun _ hc => (List.dropWhile_sublist _).subset (rtrim_subset p _ hc)

theorem rtrim_append {α} (p : α → Bool) (t b : List α) (hb : ∀ c ∈ b, p c = true) (h : ∀ c, t.getLast? = some c → p c = false) :
    ((t ++ b).reverse.dropWhile p).reverse = t := by
  rw [List.reverse_append, List.dropWhile_append_of_pos fun c hc => hb c (List.mem_reverse.mp hc)]
  exact rtrim_id p t h

theorem trim_wrap {α} (p : α → Bool) (a t b : List α) (ha : ∀ c ∈ a, p c = true) (hb : ∀ c ∈ b, p c = true)
    (h1 : ∀ c, t.head? = some c → p c = false) (h2 : ∀ c, t.getLast? = some c → p c = false) :
    (((a ++ (t ++ b)).dropWhile p).reverse.dropWhile p).reverse = t := by
  rw [List.dropWhile_append_of_pos ha]
  cases t with
  | nil => rw [List.nil_append, dropWhile_all p b hb]; rfl
  | cons c t' =>
    rw [dropWhile_head_false p (c :: t' ++ b) fun x hx => h1 x hx]
    exact rtrim_append p _ b hb h2

theorem strip_id (t : Text) (h1 : ∀ c, t.head? = some c → isPySpace c = false)
    (h2 : ∀ c, t.getLast? = some c → isPySpace c = false) : strip t = t := trim_id isPySpace t h1 h2

theorem rstrip_spec (t : Text) : ∃ w, t = rstrip t ++ w ∧ (∀ c ∈ w, isPySpace c = true) ∧
    (∀ c, (rstrip t).getLast? = some c → isPySpace c = false) := by
  unfold rstrip
  refine ⟨(t.reverse.takeWhile isPySpace).reverse, ?_, ?_, ?_⟩
  · have := List.takeWhile_append_dropWhile (p := isPySpace) (l := t.reverse)
    have h2 := congrArg List.reverse this
    simp only [List.reverse_append, List.reverse_reverse] at h2
    exact h2.symm
  · intro c hc
    simp only [List.mem_reverse] at hc
    exact List.all_eq_true.mp List.all_takeWhile c hc
  · intro c hc
    rw [List.getLast?_reverse] at hc
    cases hd : t.reverse.dropWhile isPySpace with
    | nil => rw [hd] at hc; simp at hc
    | cons a r =>
      rw [hd] at hc
      simp at hc
      rw [← hc]
      exact dropWhile_head_not isPySpace t.reverse a r hd

theorem rstrip_id (t : Text) (h : ∀ c, t.getLast? = some c → isPySpace c = false) : rstrip t = t := rtrim_id isPySpace t h

theorem rstrip_keep (pre : Text) (x : Nat) (post : Text) (hx : isPySpace x = false) :
    rstrip (pre ++ x :: post) = pre ++ x :: rstrip post := by
  unfold rstrip
  rw [List.reverse_append, List.reverse_cons, List.append_assoc, List.dropWhile_append]
  cases h : List.dropWhile isPySpace post.reverse with
  | nil =>
    rw [List.isEmpty_nil, if_pos rfl, List.singleton_append, List.dropWhile_cons_of_neg (by rw [hx]; exact Bool.false_ne_true)]
    simp
  | cons a l => rw [List.isEmpty_cons, if_neg Bool.false_ne_true]; simp

theorem rstrip_append_ws (t w : Text) (hw : ∀ c ∈ w, isPySpace c = true) : rstrip (t ++ w) = rstrip t := by
  unfold rstrip
  rw [List.reverse_append, List.dropWhile_append_of_pos (p := isPySpace) (l₁ := w.reverse) (fun x hx => hw x (by simpa using hx))]

theorem lstrip_lead (lead t : Text) (hl : ∀ c ∈ lead, isPySpace c = true) (ht : ∀ c, t.head? = some c → isPySpace c = false) :
    lstrip (lead ++ t) = t := by
  unfold lstrip
  rw [List.dropWhile_append_of_pos hl, dropWhile_head_false isPySpace t ht]

theorem strip_eq (t : Text) : strip t = rstrip (lstrip t) := rfl

theorem lstrip_append (p X : Text) : lstrip (p ++ X) = if lstrip p = [] then lstrip X else lstrip p ++ X := by
  unfold lstrip
  rw [List.dropWhile_append]
  cases List.dropWhile isPySpace p <;> rfl

theorem strip_append_ws (l s : Text) (hs : ∀ c ∈ s, isPySpace c = true) : strip (l ++ s) = strip l := by
  rw [strip_eq, strip_eq, lstrip_append]
  by_cases h : lstrip l = []
  · rw [if_pos h, h, lstrip, dropWhile_all isPySpace s hs]
  · rw [if_neg h, rstrip_append_ws _ s hs]

theorem strip_head (t : Text) : ∀ c, (strip t).head? = some c → isPySpace c = false := by
  rw [strip_eq t]
  obtain ⟨w, hX, _, _⟩ := rstrip_spec (lstrip t)
  intro c hc
  cases hR : rstrip (lstrip t) with
  | nil => rw [hR] at hc; simp at hc
  | cons a r =>
    rw [hR] at hc hX
    simp at hc
    subst hc
    exact dropWhile_head_not isPySpace t a (r ++ w) (by unfold lstrip at hX; rw [hX]; rfl)

theorem strip_idem (t : Text) : strip (strip t) = strip t := by
  have hhead := strip_head t
  rw [strip_eq t] at hhead ⊢
  obtain ⟨_, _, _, hlast⟩ := rstrip_spec (lstrip t)
  rw [strip_eq (rstrip (lstrip t))]
  have : lstrip (rstrip (lstrip t)) = rstrip (lstrip t) := by
    unfold lstrip
    exact dropWhile_head_false isPySpace _ hhead
  rw [this, rstrip_id _ hlast]

theorem strip_subset (t : Text) : strip t ⊆ t := trim_subset isPySpace t

theorem lstrip_subset (t : Text) : lstrip t ⊆ t := (List.dropWhile_sublist _).subset

theorem mem_lstrip_of_not_space (p : Text) (c : Nat) (hc : c ∈ p) (hs : isPySpace c = false) : c ∈ lstrip p := by
  rw [← List.takeWhile_append_dropWhile (p := isPySpace) (l := p)] at hc
  exact (List.mem_append.mp hc).resolve_left fun h => by rw [List.all_eq_true.mp List.all_takeWhile c h] at hs; cases hs

theorem rstrip_subset (t : Text) : rstrip t ⊆ t := by
  exact rtrim_subset isPySpace t

theorem lowerAscii_length (t : Text) : (lowerAscii t).length = t.length := by simp [lowerAscii]

end Coba.C12
