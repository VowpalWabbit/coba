/-
C12, `int()` / `float()`: decimal tokens, CPython's readings (`parseIntPy`, `isFloatLitPy`) against `parseInt` / `isFloatLit`,
and the fact that every token the ARFF reader hands to its numeral functions consists of characters of the file (so the
reader depends on them only there); LibSVM rows with the conversions inside the model.
-/
import CobaVerif.Lemmas.C12Writers

namespace Coba.C12

/-! ## decimal tokens -/

theorem digit_table : ∀ k, k < 10 →
    isPySpace (48 + k) = false ∧ 48 + k ≠ COMMA ∧ 48 + k ≠ 45 ∧ 48 + k ≠ 43 ∧ numClean (48 + k) = true := by decide

/-- what a decimal digit is not: white space, a comma, a sign, an underscore or one of `\x1c`–`\x1f` -/
structure DigitCh (c : Nat) : Prop where
  space : isPySpace c = false
  comma : c ≠ COMMA
  minus : c ≠ 45
  plus : c ≠ 43
  clean : numClean c = true

theorem isDigit_char (c : Nat) (h : isDigit c = true) : DigitCh c := by
  unfold isDigit at h
  simp only [Bool.and_eq_true, decide_eq_true_eq] at h
  have := digit_table (c - 48) (Nat.sub_lt_left_of_lt_add h.1 (Nat.lt_succ_of_le h.2))
  rw [Nat.add_sub_cancel' h.1] at this
  exact ⟨this.1, this.2.1, this.2.2.1, this.2.2.2.1, this.2.2.2.2⟩

theorem isDigit_tok (d : Text) (h : d.all isDigit = true) : ∀ c ∈ d, isPySpace c = false ∧ c ≠ COMMA :=
  fun c hc => ⟨(isDigit_char c (List.all_eq_true.mp h c hc)).space, (isDigit_char c (List.all_eq_true.mp h c hc)).comma⟩

theorem parseInt_digits (d : Text) (hne : d ≠ []) (h : d.all isDigit = true) : parseInt d = some (digitsVal d) := by
  have htok := isDigit_tok d h
  have hs : strip d = d := strip_id d
    (fun c hc => (htok c (List.mem_of_mem_head? hc)).1) (fun c hc => (htok c (List.mem_of_getLast? hc)).1)
  unfold parseInt
  rw [hs]
  cases d with
  | nil => exact absurd rfl hne
  | cons c t =>
    have hc := isDigit_char c (List.all_eq_true.mp h c (by simp))
    have e1 : ¬ ((c :: t).head? = some 45) := by simpa using hc.minus
    have e2 : ¬ ((c :: t).head? = some 43) := by simpa using hc.plus
    simp only [e1, e2, or_self, if_false]
    simp [h, digitsVal]

/-! ## CPython's numerals: the enlarged functions are conservative -/

theorem stripNum_eq_strip (t : Text) (h : noFs t = true) : stripNum t = strip t := by
  have hp : ∀ c ∈ t, isNumSpace c = isPySpace c := by
    intro c hc
    have := List.all_eq_true.mp h c hc
    unfold isNumSpace
    rw [this, Bool.and_true]
  unfold stripNum strip
  rw [dropWhile_congr_mem isNumSpace isPySpace t hp]
  rw [dropWhile_congr_mem isNumSpace isPySpace (t.dropWhile isPySpace).reverse (by
    intro c hc
    exact hp c ((List.dropWhile_sublist _).subset (List.mem_reverse.mp hc)))]

theorem dropUsGo_none (b : Bool) (t : Text) (h : ¬ US ∈ t) : dropUsGo b t = some t := by
  induction t generalizing b with
  | nil => rfl
  | cons c t ih =>
    have hc : c ≠ US := fun e => h (by simp [e])
    simp only [dropUsGo, hc, if_false, ih _ (fun hm => h (List.mem_cons_of_mem _ hm)), Option.map_some]

theorem parseInt_strip (t : Text) : parseInt (strip t) = parseInt t := by
  unfold parseInt
  rw [strip_idem]

theorem isFloatLit_strip (t : Text) : isFloatLit (strip t) = isFloatLit t := by
  unfold isFloatLit
  rw [strip_idem]

theorem numerals_conservative' (tok : Text) (hu : ¬ US ∈ tok) (hf : noFs tok = true) :
    parseIntPy tok = parseInt tok ∧ isFloatLitPy tok = isFloatLit tok := by
  have hu' : ¬ US ∈ strip tok := fun hm => hu (strip_subset tok hm)
  unfold parseIntPy isFloatLitPy dropUs
  rw [stripNum_eq_strip tok hf, dropUsGo_none false _ hu']
  simp only [strip_idem, if_true, parseInt_strip, isFloatLit_strip, beq_self_eq_true, Bool.true_and, and_self]

/-! ## the ARFF reader over a pair of numeral functions -/

theorem parseKeysG_parseInt (ks : List Text) : parseKeysG parseInt ks = parseKeys ks := by
  induction ks with
  | nil => rfl
  | cons k ks ih => simp only [parseKeysG, parseKeys, ih]

theorem arffSparseLineG_parseInt (n : Nat) (line : Text) : arffSparseLineG parseInt n line = arffSparseLine n line := by
  simp only [arffSparseLineG, arffSparseLine, parseKeysG_parseInt]

theorem encodeCellG_isFloatLit (e : Enc) (v : Text) : encodeCellG isFloatLit e v = encodeCell e v := by
  cases e <;> rfl

theorem encodeRowG_isFloatLit (es : List Enc) (vs : List Text) : encodeRowG isFloatLit es vs = encodeRow es vs := by
  induction es generalizing vs with
  | nil => cases vs <;> rfl
  | cons e es ih =>
    cases vs with
    | nil => rfl
    | cons v vs => simp only [encodeRowG, encodeRow, encodeCellG_isFloatLit, ih]

theorem denseRowsG_isFloatLit (encs : List Enc) (n : Nat) (s : ALRF) (ls : List Text) :
    denseRowsG isFloatLit encs n s ls = denseRows encs n s ls := by
  induction ls generalizing s with
  | nil => rfl
  | cons l ls ih => simp only [denseRowsG, denseRows, encodeRowG_isFloatLit, ih]

theorem sparseItemsG_isFloatLit (names : List Text) (encs : List Enc) (l : List (Int × Text)) :
    sparseItemsG isFloatLit names encs l = sparseItems names encs l := by
  induction l with
  | nil => rfl
  | cons p l ih => obtain ⟨k, v⟩ := p; simp only [sparseItemsG, sparseItems, encodeCellG_isFloatLit, ih]

theorem sparseRowsG_parseInt_isFloatLit (names : List Text) (encs : List Enc) (n : Nat) (ls : List Text) :
    sparseRowsG parseInt isFloatLit names encs n ls = sparseRows names encs n ls := by
  induction ls with
  | nil => rfl
  | cons l ls ih => simp only [sparseRowsG, sparseRows, arffSparseLineG_parseInt, sparseItemsG_isFloatLit, ih]

/-! ### characters of the tokens come from the lines -/

/-- every character is neither `_` nor `\x1c`–`\x1f` -/
def Clean (t : Text) : Prop := ∀ c ∈ t, numClean c = true

theorem Clean_iff (t : Text) : t.all numClean = true ↔ Clean t := by simp [Clean, List.all_eq_true]

theorem Clean_nil : Clean [] := by intro c hc; cases hc

theorem Clean_subset {a b : Text} (h : a ⊆ b) (hb : Clean b) : Clean a := fun c hc => hb c (h hc)

theorem Clean_append {a b : Text} (ha : Clean a) (hb : Clean b) : Clean (a ++ b) := by
  intro c hc; rcases List.mem_append.mp hc with h | h
  · exact ha c h
  · exact hb c h

theorem Clean_cons {c : Nat} {a : Text} (hc : numClean c = true) (ha : Clean a) : Clean (c :: a) := by
  intro x hx; rcases List.mem_cons.mp hx with rfl | h
  · exact hc
  · exact ha x h

theorem Clean_tail {c : Nat} {a : Text} (h : Clean (c :: a)) : Clean a := fun x hx => h x (List.mem_cons_of_mem _ hx)

theorem stripBraces_subset (t : Text) : stripBraces t ⊆ t := trim_subset _ t

theorem splitOnGo_clean (sep : Nat) (cur t : Text) (hc : Clean cur) (ht : Clean t) : ∀ v ∈ splitOnGo sep cur t, Clean v :=
  fun _ hv => Clean_subset (intercalate_splitOnGo sep cur t ▸ subset_intercalate hv) (Clean_append hc ht)

/-- motive form: `P` holds of the result of a step once it holds of everything a step can return -/
theorem sparseSplitGo_cons_cases (cur : Text) (st c : Nat) (t : Text) (P : List Text → Prop)
    (hgo : ∀ cur' st', cur' = [] ∨ cur' = cur ++ [c] ∨ cur' = [c] → P (sparseSplitGo cur' st' t))
    (hemit : ∀ x st', x = cur ∨ x = [] → P (x :: sparseSplitGo [] st' t)) :
    P (sparseSplitGo cur st (c :: t)) := by
  rw [sparseSplitGo]
  exact iteInduction (motive := P)
    (fun _ => iteInduction (motive := P) (fun _ => hemit _ _ (.inl rfl)) fun _ => hgo _ _ (.inl rfl))
    fun _ => iteInduction (motive := P)
      (fun _ => iteInduction (motive := P) (fun _ => hemit _ _ (.inl rfl)) fun _ =>
        iteInduction (motive := P) (fun _ => hgo _ _ (.inl rfl)) fun _ => hemit _ _ (.inr rfl))
      fun _ => iteInduction (motive := P) (fun _ => hgo _ _ (.inr (.inl rfl))) fun _ => hgo _ _ (.inr (.inr rfl))

theorem sparseSplitGo_clean (cur : Text) (st : Nat) (t : Text) (hc : Clean cur) (ht : Clean t) :
    ∀ v ∈ sparseSplitGo cur st t, Clean v := by
  induction t generalizing cur st with
  | nil =>
    intro v hv
    simp only [sparseSplitGo] at hv
    split at hv <;> simp only [List.mem_singleton] at hv <;> subst hv
    · exact hc
    · exact Clean_nil
  | cons c t ih =>
    have hcc : Clean [c] := Clean_cons (ht c (by simp)) Clean_nil
    refine sparseSplitGo_cons_cases cur st c t (fun r => ∀ v ∈ r, Clean v) ?_ ?_
    · intro cur' st' h
      refine ih cur' st' ?_ (Clean_tail ht)
      rcases h with rfl | rfl | rfl
      · exact Clean_nil
      · exact Clean_append hc hcc
      · exact hcc
    · intro x st' h v hv
      rcases List.mem_cons.mp hv with rfl | hv
      · rcases h with rfl | rfl
        · exact hc
        · exact Clean_nil
      · exact ih [] st' Clean_nil (Clean_tail ht) v hv

/-! ### the csv machine adds only characters of the line (and `\n` after an escape character) -/

/-- the field buffer and the saved fields of a reader state hold only clean characters -/
def CleanRec (r : CsvR) : Prop := Clean r.field ∧ ∀ f ∈ r.fields, Clean f

theorem CleanRec_reset : CleanRec CsvR.reset := ⟨Clean_nil, by intro f hf; cases hf⟩

theorem CleanRec_saveField {r : CsvR} (h : CleanRec r) (st : CsvSt) : CleanRec (saveField r st) := by
  refine ⟨Clean_nil, ?_⟩
  intro f hf
  simp only [saveField, List.mem_append, List.mem_singleton] at hf
  rcases hf with hf | rfl
  · exact h.2 f hf
  · exact h.1

theorem CleanRec_addChar {r : CsvR} (h : CleanRec r) {c : Nat} (hc : numClean c = true) (st : CsvSt) : CleanRec (addChar r c st) :=
  ⟨Clean_append h.1 (Clean_cons hc Clean_nil), h.2⟩

theorem csvStartField_cases (d : Dialect) (r : CsvR) (c : Option Nat) (P : CsvR → Prop)
    (hsave : ∀ st, P (saveField r st)) (hgoto : ∀ st, P (goto r st)) (hadd : ∀ st, P (addChar r (c.getD 10) st)) :
    P (csvStartField d r c) := by
  cases c with
  | none => exact hsave _
  | some ch =>
    unfold csvStartField
    exact iteInduction (motive := P) (fun _ => hsave _) fun _ => iteInduction (motive := P) (fun _ => hgoto _) fun _ =>
      iteInduction (motive := P) (fun _ => hgoto _) fun _ => iteInduction (motive := P) (fun _ => hgoto _) fun _ =>
      iteInduction (motive := P) (fun _ => hsave _) fun _ => hadd _

theorem csvInField_cases (d : Dialect) (r : CsvR) (c : Option Nat) (P : CsvR → Prop)
    (hsave : ∀ st, P (saveField r st)) (hgoto : ∀ st, P (goto r st)) (hadd : ∀ st, P (addChar r (c.getD 10) st)) :
    P (csvInField d r c) := by
  cases c with
  | none => exact hsave _
  | some ch =>
    unfold csvInField
    exact iteInduction (motive := P) (fun _ => hsave _) fun _ => iteInduction (motive := P) (fun _ => hgoto _) fun _ =>
      iteInduction (motive := P) (fun _ => hsave _) fun _ => hadd _

theorem csvChar_cases (d : Dialect) (r : CsvR) (c : Option Nat) (P : Except Err CsvR → Prop)
    (herr : ∀ e, P (.error e)) (hsame : P (.ok r)) (hsave : ∀ st, P (.ok (saveField r st)))
    (hgoto : ∀ st, P (.ok (goto r st))) (hadd : ∀ st, P (.ok (addChar r (c.getD 10) st))) : P (csvChar d r c) := by
  have hsf := csvStartField_cases d r c (fun x => P (.ok x)) hsave hgoto hadd
  have hif := csvInField_cases d r c (fun x => P (.ok x)) hsave hgoto hadd
  unfold csvChar
  cases r.st <;> dsimp only
  · cases c with
    | none => exact hsame
    | some ch => exact iteInduction (motive := P) (fun _ => hgoto _) fun _ => hsf
  · exact hsf
  · cases c with
    | none => exact hadd _
    | some ch => exact iteInduction (motive := P) (fun _ => hadd _) fun _ => hadd _
  · exact hif
  · cases c with
    | none => exact hsame
    | some ch =>
      exact iteInduction (motive := P) (fun _ => hgoto _) fun _ => iteInduction (motive := P) (fun _ => hgoto _) fun _ => hadd _
  · exact hadd _
  · cases c with
    | none => exact hsave _
    | some ch =>
      exact iteInduction (motive := P) (fun _ => hadd _) fun _ => iteInduction (motive := P) (fun _ => hsave _) fun _ =>
        iteInduction (motive := P) (fun _ => hsave _) fun _ => hadd _
  · cases c with
    | none => exact hgoto _
    | some ch => exact iteInduction (motive := P) (fun _ => hsame) fun _ => herr _
  · cases c with
    | none => exact hsame
    | some ch => exact hif

theorem csvChar_clean (d : Dialect) (r : CsvR) (c : Option Nat) (hr : CleanRec r)
    (hc : ∀ ch, c = some ch → numClean ch = true) (r1 : CsvR) (h : csvChar d r c = .ok r1) : CleanRec r1 := by
  have hgd : numClean (c.getD 10) = true := by
    cases c with
    | none => decide
    | some ch => exact hc ch rfl
  revert h
  refine csvChar_cases d r c (fun x => x = .ok r1 → CleanRec r1) ?_ ?_ ?_ ?_ ?_
  · intro e h; cases h
  · intro h; cases h; exact hr
  · intro st h; cases h; exact CleanRec_saveField hr _
  · intro st h; cases h; exact hr
  · intro st h; cases h; exact CleanRec_addChar hr hgd _

theorem csvFeed_clean (d : Dialect) (r : CsvR) (t : Text) (hr : CleanRec r) (ht : Clean t) (r1 : CsvR)
    (h : csvFeed d r t = .ok r1) : CleanRec r1 := by
  induction t generalizing r with
  | nil => simp only [csvFeed] at h; cases h; exact hr
  | cons c t ih =>
    simp only [csvFeed] at h
    split at h
    · cases h
    · rename_i r2 h2
      exact ih r2 (csvChar_clean d r (some c) hr (by intro ch hch; cases hch; exact ht c (by simp)) r2 h2) (Clean_tail ht) h

theorem csvLine_clean (d : Dialect) (r : CsvR) (l : Text) (hr : CleanRec r) (hl : Clean l) (r1 : CsvR)
    (h : csvLine d r l = .ok r1) : CleanRec r1 := by
  simp only [csvLine] at h
  split at h
  · cases h
  · rename_i r2 h2
    exact csvChar_clean d r2 none (csvFeed_clean d r l hr hl r2 h2) (by intro ch hch; cases hch) r1 h

theorem csvRecords_clean (d : Dialect) (r : CsvR) (ls : List Text) (hr : CleanRec r) (hl : ∀ l ∈ ls, Clean l)
    (rs : List (List Text)) (h : csvRecords d r ls = .ok rs) : ∀ rec ∈ rs, ∀ f ∈ rec, Clean f := by
  induction ls generalizing r rs with
  | nil =>
    simp only [csvRecords] at h
    split at h <;> cases h
    · intro rec hrec f hf
      simp only [List.mem_singleton] at hrec; subst hrec
      rcases List.mem_append.mp hf with hf | hf
      · exact hr.2 f hf
      · simp only [List.mem_singleton] at hf; exact hf ▸ hr.1
    · intro rec hrec; cases hrec
  | cons l ls ih =>
    simp only [csvRecords] at h
    split at h
    · cases h
    · rename_i r1 h1
      have hr1 := csvLine_clean d r l hr (hl l (by simp)) r1 h1
      have hls : ∀ l ∈ ls, Clean l := fun x hx => hl x (by simp [hx])
      split at h
      · split at h
        · cases h
        · rename_i rs' h'
          cases h
          intro rec hrec
          rcases List.mem_cons.mp hrec with rfl | hrec
          · exact hr1.2
          · exact ih CsvR.reset CleanRec_reset hls rs' h' rec hrec
      · exact ih r1 hr1 hls rs h

theorem csvFirst_clean (d : Dialect) (line : Text) (hl : Clean line) (r : List Text)
    (h : csvFirst d line = .ok r) : ∀ f ∈ r, Clean f := by
  simp only [csvFirst] at h
  split at h
  · cases h
  · cases h
  · rename_i r0 rest h0
    cases h
    exact csvRecords_clean d CsvR.reset [line] CleanRec_reset (by intro l hl'; simp only [List.mem_singleton] at hl'; exact hl' ▸ hl) _ h0 r (by simp)

/-! ### the fallback parser and the complete dense line reader -/

theorem advLoop_cons_cases (acc : Option Text) (p : Text) (ps : List Text) :
    let item := acc.elim (lstrip p) (· ++ COMMA :: p)
    (∃ e, advLoop acc (p :: ps) = .error e) ∨ advLoop acc (p :: ps) = advLoop (some item) ps ∨
      ∃ v, v ⊆ item ∧ advLoop acc (p :: ps) = (advLoop none ps).map (v :: ·) := by
  intro item
  let P (r : Except Err (List Text)) : Prop :=
    (∃ e, r = .error e) ∨ r = advLoop (some item) ps ∨ ∃ v, v ⊆ item ∧ r = (advLoop none ps).map (v :: ·)
  have hemit : ∀ v, v ⊆ item →
      P (match advLoop none ps with | .error e => .error e | .ok rest => .ok (v :: rest)) := fun v hv =>
    .inr (.inr ⟨v, hv, by cases advLoop none ps <;> rfl⟩)
  have hquoted := hemit (((strip item).tail.dropLast).filter (· != BS))
    fun _ hc => strip_subset _ ((List.tail_sublist _).subset ((List.dropLast_sublist _).subset (List.filter_sublist.subset hc)))
  show P _
  cases acc with
  | some a =>
    rw [advLoop]
    exact iteInduction (motive := P) (fun _ => .inr (.inl rfl)) fun _ => iteInduction (motive := P)
      (fun _ => .inl ⟨_, rfl⟩) fun _ => iteInduction (motive := P) (fun _ => .inr (.inl rfl)) fun _ => hquoted
  | none =>
    rw [advLoop]
    cases hi : lstrip p with
    | nil => exact .inl ⟨_, rfl⟩
    | cons c rest =>
      have e : item = c :: rest := hi
      dsimp only
      rw [← e]
      exact iteInduction (motive := P)
        (fun _ => iteInduction (motive := P) (fun _ => .inr (.inl rfl)) fun _ => iteInduction (motive := P)
          (fun _ => .inl ⟨_, rfl⟩) fun _ => iteInduction (motive := P) (fun _ => .inr (.inl rfl)) fun _ => hquoted)
        fun _ => hemit _ List.filter_sublist.subset

theorem advLoop_clean (acc : Option Text) (ps : List Text) (ha : ∀ a, acc = some a → Clean a) (hp : ∀ p ∈ ps, Clean p)
    (out : List Text) (h : advLoop acc ps = .ok out) : ∀ v ∈ out, Clean v := by
  induction ps generalizing acc out with
  | nil =>
    cases acc with
    | none => simp only [advLoop] at h; cases h; intro v hv; cases hv
    | some a => simp only [advLoop] at h; cases h
  | cons p ps ih =>
    have hps : ∀ q ∈ ps, Clean q := fun q hq => hp q (List.mem_cons_of_mem _ hq)
    have hpp : Clean p := hp p List.mem_cons_self
    have hitem : Clean (acc.elim (lstrip p) (· ++ COMMA :: p)) := by
      cases acc with
      | none => exact Clean_subset (lstrip_subset p) hpp
      | some a => exact Clean_append (ha a rfl) (Clean_cons (by decide) hpp)
    rcases advLoop_cons_cases acc p ps with ⟨e, he⟩ | he | ⟨v, hv, he⟩
    · rw [he] at h; cases h
    · rw [he] at h
      exact ih _ (fun a ha' => by cases ha'; exact hitem) hps out h
    · rw [he] at h
      cases hr : advLoop none ps with
      | error e => rw [hr] at h; cases h
      | ok rest =>
        rw [hr] at h; cases h
        intro w hw
        rcases List.mem_cons.mp hw with rfl | hw
        · exact Clean_subset hv hitem
        · exact ih none (fun a ha' => by cases ha') hps rest hr w hw

theorem arffAdvanced_clean (n : Nat) (s : ALRF) (line : Text) (hl : Clean line) (s1 : ALRF) (raw : List Text)
    (h : arffAdvanced n s line = .ok (s1, raw)) : ∀ v ∈ raw, Clean v := by
  simp only [arffAdvanced] at h
  split at h
  · cases h
  · rename_i parsed hp
    split at h
    · cases h
      exact advLoop_clean none _ (by intro a ha; cases ha) (splitOnGo_clean _ [] line Clean_nil hl) _ hp
    · cases h

theorem arffSimpleF_clean (n : Nat) (s : ALRF) (line : Text) (hl : Clean line) (s1 : ALRF) (raw : List Text)
    (h : arffSimpleF n s line = .ok (s1, raw)) : ∀ v ∈ raw, Clean v := by
  simp only [arffSimpleF] at h
  split at h
  · exact arffAdvanced_clean n s line hl s1 raw h
  · split at h
    · cases h
    · rename_i r hr
      split at h
      · cases h; exact csvFirst_clean _ line hl _ hr
      · cases h

theorem arffFirstF_cases (n : Nat) (line : Text) (P : Except Err (ALRF × List Text) → Prop)
    (herr : ∀ e, P (.error e)) (hadv : ∀ s, P (arffAdvanced n s line)) (hsim : ∀ s, P (arffSimpleF n s line)) :
    P (arffFirstF n line) := by
  unfold arffFirstF
  extract_lets hasDq hasSq both qc
  cases csvFirst (arffDialect COMMA qc) line with
  | error e => exact herr e
  | ok r =>
    refine iteInduction (motive := P) (fun _ => iteInduction (motive := P) (fun _ => hadv _) (fun _ => hsim _)) (fun _ => ?_)
    cases csvFirst (arffDialect TAB qc) line with
    | error e => exact herr e
    | ok r2 =>
      exact iteInduction (motive := P) (fun _ => iteInduction (motive := P) (fun _ => hadv _) (fun _ => hsim _)) (fun _ => hadv _)

theorem arffFirstF_clean (n : Nat) (line : Text) (hl : Clean line) (s1 : ALRF) (raw : List Text)
    (h : arffFirstF n line = .ok (s1, raw)) : ∀ v ∈ raw, Clean v := by
  revert h
  refine arffFirstF_cases n line (fun r => r = .ok (s1, raw) → ∀ v ∈ raw, Clean v) (fun e h => by cases h)
    (fun s h => arffAdvanced_clean n s line hl s1 raw h) (fun s h => arffSimpleF_clean n s line hl s1 raw h)

theorem arffLineStepF_clean (n : Nat) (s : ALRF) (line : Text) (hl : Clean line) (s1 : ALRF) (raw : List Text)
    (h : arffLineStepF n s line = .ok (s1, raw)) : ∀ v ∈ raw, Clean v := by
  simp only [arffLineStepF] at h
  repeat' split at h
  · exact arffAdvanced_clean n s line hl s1 raw h
  · exact arffSimpleF_clean n s line hl s1 raw h
  · exact arffFirstF_clean n line hl s1 raw h

/-! ### the reader depends on the numeral functions only through tokens made of the lines' characters -/

theorem encodeCellG_congr (fl fl' : Text → Bool) (e : Enc) (v : Text) (h : fl v = fl' v) :
    encodeCellG fl e v = encodeCellG fl' e v := by
  cases e <;> simp only [encodeCellG, h]

theorem encodeRowG_congr (fl fl' : Text → Bool) (hfl : ∀ t, Clean t → fl t = fl' t) (es : List Enc) (vs : List Text)
    (hv : ∀ v ∈ vs, Clean v) : encodeRowG fl es vs = encodeRowG fl' es vs := by
  induction es generalizing vs with
  | nil => cases vs <;> rfl
  | cons e es ih =>
    cases vs with
    | nil => rfl
    | cons v vs =>
      simp only [encodeRowG, encodeCellG_congr fl fl' e v (hfl v (hv v (by simp))),
        ih vs (fun x hx => hv x (by simp [hx]))]

theorem denseRowsG_congr (fl fl' : Text → Bool) (hfl : ∀ t, Clean t → fl t = fl' t) (encs : List Enc) (n : Nat)
    (s : ALRF) (ls : List Text) (hl : ∀ l ∈ ls, Clean l) :
    denseRowsG fl encs n s ls = denseRowsG fl' encs n s ls := by
  induction ls generalizing s with
  | nil => rfl
  | cons l ls ih =>
    have hls : ∀ x ∈ ls, Clean x := fun x hx => hl x (by simp [hx])
    simp only [denseRowsG]
    split
    · exact ih s hls
    · cases hstep : arffLineStepF n s l with
      | error e => rfl
      | ok p =>
        obtain ⟨s1, raw⟩ := p
        have hraw := arffLineStepF_clean n s l (hl l (by simp)) s1 raw hstep
        simp only [encodeRowG_congr fl fl' hfl encs raw hraw, ih s1 hls]

theorem parseKeysG_congr (pi pi' : Text → Option Int) (hpi : ∀ t, Clean t → pi t = pi' t) (ks : List Text)
    (hk : ∀ k ∈ ks, Clean k) : parseKeysG pi ks = parseKeysG pi' ks := by
  induction ks with
  | nil => rfl
  | cons k ks ih =>
    simp only [parseKeysG, hpi k (hk k (by simp)), ih (fun x hx => hk x (by simp [hx]))]

theorem evens_odds_subset : ∀ l : List Text, evens l ⊆ l ∧ odds l ⊆ l
  | [] => ⟨List.Subset.refl _, List.Subset.refl _⟩
  | [_] => ⟨List.Subset.refl _, List.nil_subset _⟩
  | x :: y :: r =>
    have ih := evens_odds_subset r
    ⟨List.cons_subset_cons x (ih.1.trans (List.subset_cons_self y r)),
      (List.cons_subset_cons y ih.2).trans (List.subset_cons_self x _)⟩

theorem dictOf_vals (l : List (Int × Text)) : ∀ p ∈ dictOf l, p.2 ∈ l.map (·.2) := by
  induction l with
  | nil => intro p hp; cases hp
  | cons kv r ih =>
    obtain ⟨k, v⟩ := kv
    intro p hp
    simp only [dictOf] at hp
    split at hp
    · rename_i kv' hfind
      rcases List.mem_cons.mp hp with rfl | hp
      · have := ih kv' (List.mem_of_find?_eq_some hfind)
        simp only [List.map_cons, List.mem_cons]; exact Or.inr this
      · have := ih p (List.filter_sublist.subset hp)
        simp only [List.map_cons, List.mem_cons]; exact Or.inr this
    · rcases List.mem_cons.mp hp with rfl | hp
      · simp
      · have := ih p hp
        simp only [List.map_cons, List.mem_cons]; exact Or.inr this

theorem sparseTokens_clean (line : Text) (hl : Clean line) : ∀ v ∈ sparseSplit (stripBraces line), Clean v :=
  sparseSplitGo_clean [] 0 _ Clean_nil (Clean_subset (stripBraces_subset line) hl)

theorem arffSparseLineG_congr (pi pi' : Text → Option Int) (hpi : ∀ t, Clean t → pi t = pi' t) (n : Nat) (line : Text)
    (hl : Clean line) : arffSparseLineG pi n line = arffSparseLineG pi' n line := by
  simp only [arffSparseLineG, parseKeysG_congr pi pi' hpi _ (fun k hk => sparseTokens_clean line hl k ((evens_odds_subset _).1 hk))]

theorem arffSparseLineG_clean (pi : Text → Option Int) (n : Nat) (line : Text) (hl : Clean line)
    (raw : List (Int × Text)) (h : arffSparseLineG pi n line = .ok raw) : ∀ p ∈ raw, Clean p.2 := by
  simp only [arffSparseLineG] at h
  split at h
  · cases h; intro p hp; cases hp
  · split at h
    · cases h
    · rename_i keys hkeys
      split at h
      · cases h
      · cases h
        intro p hp
        have h1 := dictOf_vals _ p hp
        obtain ⟨q, hq, hq2⟩ := List.mem_map.mp h1
        have h2 : q.2 ∈ odds (sparseSplit (stripBraces line)) := (List.of_mem_zip (a := q.1) (b := q.2) hq).2
        rw [← hq2]
        exact sparseTokens_clean line hl _ ((evens_odds_subset _).2 h2)

theorem sparseItemsG_congr (fl fl' : Text → Bool) (hfl : ∀ t, Clean t → fl t = fl' t) (names : List Text) (encs : List Enc)
    (l : List (Int × Text)) (hv : ∀ p ∈ l, Clean p.2) :
    sparseItemsG fl names encs l = sparseItemsG fl' names encs l := by
  induction l with
  | nil => rfl
  | cons p l ih =>
    obtain ⟨k, v⟩ := p
    have ih' := ih (fun x hx => hv x (by simp [hx]))
    have hvv : fl v = fl' v := hfl v (hv (k, v) (by simp))
    simp only [sparseItemsG, ih']
    split
    · rw [encodeCellG_congr fl fl' _ v hvv]
    · rfl

theorem sparseRowsG_congr (pi pi' : Text → Option Int) (fl fl' : Text → Bool) (hpi : ∀ t, Clean t → pi t = pi' t)
    (hfl : ∀ t, Clean t → fl t = fl' t) (names : List Text) (encs : List Enc) (n : Nat) (ls : List Text)
    (hl : ∀ l ∈ ls, Clean l) : sparseRowsG pi fl names encs n ls = sparseRowsG pi' fl' names encs n ls := by
  induction ls with
  | nil => rfl
  | cons l ls ih =>
    have ih' := ih (fun x hx => hl x (by simp [hx]))
    have hcl : Clean l := hl l (by simp)
    simp only [sparseRowsG, ih', ← arffSparseLineG_congr pi pi' hpi n l hcl]
    split
    · rfl
    · cases hline : arffSparseLineG pi n l with
      | error e => rfl
      | ok raw =>
        have hraw := arffSparseLineG_clean pi n l hcl raw hline
        have hz : Clean ZERO := by intro c hc; simp only [ZERO, List.mem_singleton] at hc; subst hc; decide
        simp only
        rw [sparseItemsG_congr fl fl' hfl names encs _ (by
          intro p hp
          rcases List.mem_append.mp hp with hp | hp
          · exact hraw p hp
          · obtain ⟨i, _, rfl⟩ := List.mem_map.mp hp
            exact hz)]

theorem arffReadNG_congr (pi pi' : Text → Option Int) (fl fl' : Text → Bool) (hpi : ∀ t, Clean t → pi t = pi' t)
    (hfl : ∀ t, Clean t → fl t = fl' t) (ls : List Text) (hl : ∀ l ∈ ls, Clean l) :
    arffReadNG pi fl ls = arffReadNG pi' fl' ls := by
  have hdata : ∀ l ∈ (((ls.dropWhile (fun l => lowerAscii l ≠ kwData)).drop 1).dropWhile (fun l => l.head? = some PCT)), Clean l := by
    intro l hm
    exact hl l ((List.dropWhile_sublist _).subset ((List.drop_sublist _ _).subset ((List.dropWhile_sublist _).subset hm)))
  simp only [arffReadNG]
  split
  · rfl
  · rename_i first rest hd
    have e1 := fun encs n s => denseRowsG_congr fl fl' hfl encs n s _ hdata
    have e2 := fun names encs n => sparseRowsG_congr pi pi' fl fl' hpi hfl names encs n _ hdata
    simp only [e1, e2]

theorem arffNormalize_clean (lines : List Text) (h : ∀ l ∈ lines, Clean l) : ∀ l ∈ arffNormalize lines, Clean l := by
  intro l hm
  unfold arffNormalize at hm
  have h1 := List.filter_sublist.subset hm
  obtain ⟨l0, hl0, rfl⟩ := List.mem_map.mp h1
  exact Clean_subset (strip_subset l0) (h l0 hl0)

theorem numClean_tok (t : Text) (h : t.all numClean = true) : ¬ US ∈ t ∧ noFs t = true := by
  have hc := (Clean_iff t).mp h
  constructor
  · intro hm
    have := hc US hm
    revert this; decide
  · unfold noFs
    rw [List.all_eq_true]
    intro c hm
    have := hc c hm
    unfold numClean at this
    simp only [Bool.and_eq_true] at this
    exact this.2

/-! ## LibSVM / Manik with CPython's numerals -/

theorem parseIntPy_digits (d : Text) (hne : d ≠ []) (h : d.all isDigit = true) : parseIntPy d = some (digitsVal d) := by
  obtain ⟨hu, hf⟩ := numClean_tok d
    (List.all_eq_true.mpr fun c hc => (isDigit_char c (List.all_eq_true.mp h c hc)).clean)
  rw [(numerals_conservative' d hu hf).1, parseInt_digits d hne h]

theorem parseKeysG_map (pi : Text → Option Int) (f : Text → Int) (ks : List Text) (h : ∀ k ∈ ks, pi k = some (f k)) :
    parseKeysG pi ks = .ok (ks.map f) := by
  induction ks with
  | nil => rfl
  | cons k ks ih =>
    simp only [parseKeysG, h k List.mem_cons_self, ih (fun x hx => h x (List.mem_cons_of_mem _ hx)), List.map_cons]

theorem parseKeysG_digits (ks : List Text) (h : ∀ k ∈ ks, k ≠ [] ∧ k.all isDigit = true) :
    parseKeysG parseIntPy ks = .ok (ks.map digitsVal) :=
  parseKeysG_map _ _ ks fun k hk => parseIntPy_digits k (h k hk).1 (h k hk).2

theorem svmRowPy_written (r : SvmRow) (h : svmNumOk r = true) : svmRowPy r = .ok (svmRowOutPy r) := by
  unfold svmNumOk at h
  have hall := List.all_eq_true.mp h
  have hk : ∀ k ∈ r.feats.map (·.1), k ≠ [] ∧ k.all isDigit = true := by
    intro k hk
    obtain ⟨kv, hkv, rfl⟩ := List.mem_map.mp hk
    have := hall kv hkv
    simp only [Bool.and_eq_true, decide_eq_true_eq] at this
    exact ⟨this.1.1, this.1.2⟩
  have hv : r.feats.all (fun kv => isFloatLitPy kv.2) = true := by
    rw [List.all_eq_true]
    intro kv hkv
    have := hall kv hkv
    simp only [Bool.and_eq_true] at this
    exact this.2
  unfold svmRowPy svmRowOutPy
  rw [parseKeysG_digits _ hk]
  simp only [hv, if_true]
  congr 2
  rw [List.map_map, List.zip_map']
  rfl

theorem svmRowsPy_written (rows : List SvmRow) (h : ∀ r ∈ rows, svmNumOk r = true) :
    svmRowsPy rows = .ok (rows.map svmRowOutPy) := by
  induction rows with
  | nil => rfl
  | cons r rows ih =>
    simp only [svmRowsPy, svmRowPy_written r (h r (by simp)), ih (fun x hx => h x (by simp [hx])), List.map_cons]

end Coba.C12
