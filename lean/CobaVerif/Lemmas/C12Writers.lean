/-
C12, the row writers.  `csvWriteRow`, `arffWriteRow`, `sparseWriteItems` and `joinWith` are each defined by their own
recursion (`[]`, `[x]`, `x :: y :: xs`), and all are the intercalation of the written tokens with a separator.
What the round trips need to know about a written line (which characters occur, how it begins and ends, where a given token
stands) is proved here once, about `List.intercalate`; and `splitOn` is its inverse, in both directions.  The three escaping
functions (`csvEscape`, `arffEscape`, `hdrEscape`) are each a `flatMap` that puts a mark before some characters.
-/
import CobaVerif.Lemmas.C12Lists

namespace Coba.C12

theorem joined_eq {α} (W : List α → Text) (f : α → Text) (S : Text) (h0 : W [] = []) (h1 : ∀ x, W [x] = f x)
    (h2 : ∀ x y ys, W (x :: y :: ys) = f x ++ S ++ W (y :: ys)) : ∀ l, W l = S.intercalate (l.map f)
  | [] => h0
  | [x] => by rw [h1, List.map_cons, List.map_nil, List.intercalate_singleton]
  | x :: y :: ys => by rw [h2, joined_eq W f S h0 h1 h2 (y :: ys)]; simp only [List.map_cons, List.intercalate_cons_cons]

theorem csvWriteRow_eq (delim : Nat) (row : List (Bool × Text)) :
    csvWriteRow delim row = [delim].intercalate (row.map (csvWriteField delim)) :=
  joined_eq _ _ _ rfl (fun _ => rfl) (fun _ _ _ => by simp [csvWriteRow]) row

theorem joinWith_eq (sep : Nat) (xs : List Text) : joinWith sep xs = [sep].intercalate xs := by
  have := joined_eq (joinWith sep) id [sep] rfl (fun _ => rfl) (fun _ _ _ => by simp [joinWith]) xs
  rwa [List.map_id] at this

theorem arffWriteRow_eq (q : Nat) (also : Nat → Bool) (pad : Nat) (row : List (Bool × Text)) :
    arffWriteRow q also pad row = (COMMA :: List.replicate pad 32).intercalate (row.map (arffWriteTok q also)) :=
  joined_eq _ _ _ rfl (fun _ => rfl) (fun _ _ _ => by simp [arffWriteRow]) row

theorem sparseWriteItems_eq (pad : Nat) (items : List (Text × Text)) :
    sparseWriteItems pad items = (COMMA :: List.replicate pad 32).intercalate (items.map (fun p => p.1 ++ 32 :: p.2)) :=
  joined_eq _ _ _ rfl (fun _ => rfl) (fun _ _ _ => by simp [sparseWriteItems]) items

theorem mem_comma_pad {pad c : Nat} (h : c ∈ COMMA :: List.replicate pad 32) : c = COMMA ∨ c = 32 :=
  (List.mem_cons.mp h).imp_right fun h => (List.mem_replicate.mp h).2

theorem forall_mem_replicate {α} {p : α → Prop} {a : α} (h : p a) (k : Nat) : ∀ c ∈ List.replicate k a, p c :=
  fun _ hc => (List.mem_replicate.mp hc).2 ▸ h

variable {S : Text} {xs : List Text}

theorem mem_intercalate {c : Nat} (h : c ∈ S.intercalate xs) : c ∈ S ∨ ∃ x ∈ xs, c ∈ x := by
  induction xs with
  | nil => cases h
  | cons x xs ih =>
    cases xs with
    | nil => exact .inr ⟨x, List.mem_cons_self, by rwa [List.intercalate_singleton] at h⟩
    | cons y ys =>
      rw [List.intercalate_cons_cons, List.mem_append, List.mem_append] at h
      rcases h with (h | h) | h
      · exact .inr ⟨x, List.mem_cons_self, h⟩
      · exact .inl h
      · exact (ih h).imp_right fun ⟨z, hz, hc⟩ => ⟨z, List.mem_cons_of_mem _ hz, hc⟩

theorem intercalate_split {x0 : Text} (h : x0 ∈ xs) :
    ∃ P Q, S.intercalate xs = P ++ x0 ++ Q ∧ (P = [] ∨ ∃ P', P = P' ++ S) ∧ (Q = [] ∨ ∃ Q', Q = S ++ Q') := by
  induction xs with
  | nil => cases h
  | cons x xs ih =>
    cases xs with
    | nil =>
      rw [List.mem_singleton] at h
      subst h
      exact ⟨[], [], by rw [List.intercalate_singleton, List.nil_append, List.append_nil], .inl rfl, .inl rfl⟩
    | cons y ys =>
      rw [List.intercalate_cons_cons]
      rcases List.mem_cons.mp h with hx | hm
      · subst hx
        exact ⟨[], _, by rw [List.nil_append, List.append_assoc], .inl rfl, .inr ⟨_, rfl⟩⟩
      · obtain ⟨P1, Q1, he, hP, hQ⟩ := ih hm
        refine ⟨x ++ S ++ P1, Q1, by rw [he]; simp only [List.append_assoc], ?_, hQ⟩
        rcases hP with rfl | ⟨P', rfl⟩
        · exact .inr ⟨x, by rw [List.append_nil]⟩
        · exact .inr ⟨x ++ S ++ P', by simp only [List.append_assoc]⟩

theorem subset_intercalate {x0 : Text} (h : x0 ∈ xs) : x0 ⊆ S.intercalate xs := by
  obtain ⟨P, Q, he, _⟩ := intercalate_split (S := S) h
  intro c hc
  rw [he]
  exact List.mem_append_left _ (List.mem_append_right _ hc)

theorem intercalate_head? {x : Text} {c : Nat} (hc : x.head? = some c) : (S.intercalate (x :: xs)).head? = some c := by
  cases xs with
  | nil => rwa [List.intercalate_singleton]
  | cons y ys => rw [List.intercalate_cons_cons, List.append_assoc, List.head?_append, hc]; rfl

theorem intercalate_getLast? {l : Text} (hl : xs.getLast? = some l) (hne : l ≠ []) :
    (S.intercalate xs).getLast? = l.getLast? := by
  induction xs with
  | nil => cases hl
  | cons x xs ih =>
    cases xs with
    | nil => rw [List.intercalate_singleton]; cases hl; rfl
    | cons y ys =>
      have := ih (by rwa [List.getLast?_cons_cons] at hl)
      obtain ⟨c, hc⟩ := exists_getLast? hne
      rw [List.intercalate_cons_cons, hc]
      exact getLast?_append_some _ _ _ (this.trans hc)

theorem intercalate_ne_nil {α} (f : α → Text) (row : List α) (hS : S ≠ []) (hne : row ≠ []) (h1 : ∀ x, row = [x] → f x ≠ []) :
    S.intercalate (row.map f) ≠ [] := by
  match row, hne with
  | [x], _ => rw [List.map_cons, List.map_nil, List.intercalate_singleton]; exact h1 x rfl
  | x :: y :: ys, _ =>
    rw [List.map_cons, List.map_cons, List.intercalate_cons_cons]
    exact fun h => hS (List.append_eq_nil_iff.mp (List.append_eq_nil_iff.mp h).1).2

/-- written quoted (`w`) when asked to (`b`) or when it must be (`m`), else bare (`v`) -/
theorem quotedOrBare_ne_nil {b m : Bool} {w v : Text} (hw : w ≠ []) (h : v ≠ [] ∨ b = true) :
    (if (b || m) = true then w else v) ≠ [] := by
  rcases h with h | h
  · split
    · exact hw
    · exact h
  · rw [h, Bool.true_or, if_pos rfl]; exact hw

theorem intercalate_cons_of_ne_nil {x : Text} (h : xs ≠ []) : S.intercalate (x :: xs) = x ++ S ++ S.intercalate xs := by
  cases xs with
  | nil => exact absurd rfl h
  | cons y ys => exact List.intercalate_cons_cons

/-! ## the escapes -/

theorem escaped_eq (E : Text → Text) (e : Nat → Text) (h0 : E [] = []) (h1 : ∀ c t, E (c :: t) = e c ++ E t) :
    ∀ v, E v = v.flatMap e
  | [] => h0
  | c :: t => by rw [h1, escaped_eq E e h0 h1 t, List.flatMap_cons]

theorem csvEscape_eq (v : Text) : csvEscape v = v.flatMap fun c => if c = DQ then [DQ, c] else [c] :=
  escaped_eq _ _ rfl (fun c t => by rw [csvEscape]; split <;> rename_i h <;> simp [h]) v

theorem arffEscape_eq (q : Nat) (also : Nat → Bool) (v : Text) :
    arffEscape q also v = v.flatMap fun c => if c = q ∨ c = BS ∨ also c = true then [BS, c] else [c] :=
  escaped_eq _ _ rfl (fun c t => by rw [arffEscape]; split <;> rfl) v

theorem hdrEscape_eq (q : Nat) (also : Nat → Bool) (v : Text) :
    hdrEscape q also v = v.flatMap fun c => if c = q ∨ also c = true then [BS, c] else [c] :=
  escaped_eq _ _ rfl (fun c t => by rw [hdrEscape]; split <;> rfl) v

theorem mem_escaped {m : Nat} {p : Nat → Prop} [DecidablePred p] {v : Text} {c : Nat}
    (h : c ∈ v.flatMap fun a => if p a then [m, a] else [a]) : c = m ∨ c ∈ v := by
  obtain ⟨a, ha, hc⟩ := List.mem_flatMap.mp h
  split at hc
  · rcases List.mem_cons.mp hc with h | h
    · exact .inl h
    · exact .inr (List.mem_singleton.mp h ▸ ha)
  · exact .inr (List.mem_singleton.mp hc ▸ ha)

/-! ## `splitOn` -/

theorem splitOnGo_tok (sep : Nat) (cur tok rest : Text) (h : ∀ c ∈ tok, c ≠ sep) :
    splitOnGo sep cur (tok ++ rest) = splitOnGo sep (cur ++ tok) rest :=
  acc_run (splitOnGo sep) (· ≠ sep) (fun cur c t hc => by rw [splitOnGo, if_neg hc]) tok h cur rest

/-- `P`: a pad after each separator; it stays in front of the piece -/
theorem splitOnGo_join (sep : Nat) (P : Text) (hP : ∀ c ∈ P, c ≠ sep) (cur x : Text) (xs : List Text)
    (h : ∀ t ∈ x :: xs, ∀ c ∈ t, c ≠ sep) :
    splitOnGo sep cur ((sep :: P).intercalate (x :: xs)) = (cur ++ x) :: xs.map (P ++ ·) := by
  induction xs generalizing cur x with
  | nil =>
    have := splitOnGo_tok sep cur x [] (h x List.mem_cons_self)
    rw [List.append_nil] at this
    rw [List.intercalate_singleton, this]
    rfl
  | cons y ys ih =>
    rw [List.intercalate_cons_cons, List.append_assoc, splitOnGo_tok sep cur x _ (h x List.mem_cons_self), List.cons_append,
      splitOnGo, if_pos rfl, splitOnGo_tok sep [] P _ hP,
      ih _ y (fun t ht => h t (List.mem_cons_of_mem _ ht))]
    rfl

theorem splitOn_join (sep : Nat) (toks : List Text) (hne : toks ≠ []) (h : ∀ t ∈ toks, ∀ c ∈ t, c ≠ sep) :
    splitOn sep (joinWith sep toks) = toks := by
  cases toks with
  | nil => exact absurd rfl hne
  | cons x xs =>
    rw [joinWith_eq, splitOn, splitOnGo_join sep [] nofun [] x xs h]
    simp

theorem splitOn_no_sep (sep : Nat) (t : Text) (h : ¬ sep ∈ t) : splitOn sep t = [t] := by
  have := splitOnGo_tok sep [] t [] (fun c hc hcs => h (hcs ▸ hc))
  simpa [splitOn, splitOnGo] using this

theorem splitOnGo_length (sep : Nat) (cur t : Text) : (splitOnGo sep cur t).length = t.count sep + 1 := by
  induction t generalizing cur with
  | nil => rfl
  | cons a t ih =>
    rw [splitOnGo]
    by_cases ha : a = sep
    · rw [if_pos ha, List.length_cons, ih, ha, List.count_cons_self]
    · rw [if_neg ha, ih, List.count_cons_of_ne ha]

theorem intercalate_splitOnGo (sep : Nat) (cur t : Text) : [sep].intercalate (splitOnGo sep cur t) = cur ++ t := by
  induction t generalizing cur with
  | nil => rw [splitOnGo, List.intercalate_singleton, List.append_nil]
  | cons a t ih =>
    rw [splitOnGo]
    by_cases ha : a = sep
    · rw [if_pos ha, intercalate_cons_of_ne_nil (List.ne_nil_of_length_pos (by rw [splitOnGo_length]; exact Nat.succ_pos _)), ih, ha,
        List.nil_append, List.append_assoc]
      rfl
    · rw [if_neg ha, ih, List.append_assoc]; rfl

theorem mem_splitOnGo_piece (sep : Nat) (cur t : Text) (c : Nat) (hc : c ∈ cur ++ t) (hne : c ≠ sep) :
    ∃ p ∈ splitOnGo sep cur t, c ∈ p := by
  rw [← intercalate_splitOnGo sep] at hc
  exact (mem_intercalate hc).resolve_left fun h => hne (List.mem_singleton.mp h)

end Coba.C12
