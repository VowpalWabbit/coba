import CobaVerif.Lemmas.C13Maps

/-!
C13, what does not depend on the eager side: the load-once cell is invisible (`touch`), copies inside access histories,
wrapper chains, iteration element by element.
-/

namespace Coba.C13

/-! ## the load-once cell is the only state: observations do not depend on it -/

theorem touch_headers (r : DRow) : r.touch.headers = r.headers := by
  induction r with
  | lazy c e h m => cases h <;> rfl
  | keep r a b c d e ih => cases e <;> simp only [DRow.touch, DRow.headers, ih]
  | _ => simp only [DRow.touch, DRow.headers, *]

theorem touch_missing (r : DRow) : r.touch.missing = r.missing := by
  induction r <;> simp only [DRow.touch, DRow.missing, *]

theorem touch_len (r : DRow) : r.touch.len = r.len := by
  induction r <;> simp only [DRow.touch, DRow.len, cell_get_touch, *]

theorem touch_getPos (r : DRow) (i : Nat) : r.touch.getPos i = r.getPos i := by
  induction r generalizing i <;> simp only [DRow.touch, DRow.getPos, cell_get_touch, *]

theorem touch_getName (r : DRow) (s : String) : r.touch.getName s = r.getName s := by
  induction r with
  | plain v => rfl
  | lazy c e h m =>
    cases h with
    | none => rfl
    | some h =>
      have hp : ∀ i, (DRow.lazy c.touch e (some h) m).getPos i = (DRow.lazy c e (some h) m).getPos i := fun i => touch_getPos (.lazy c e (some h) m) i
      simp only [DRow.touch, DRow.getName, hp]
  | head r h ih => simp only [DRow.touch, DRow.getName, touch_getPos]
  | encode r es ih =>
    have hp : ∀ i, (DRow.encode r.touch es).getPos i = (DRow.encode r es).getPos i := fun i => touch_getPos (.encode r es) i
    simp only [DRow.touch, DRow.getName, touch_headers, hp]
  | keep r a b c d e ih => simp only [DRow.touch, DRow.getName, touch_getPos]
  | label r i t ih => simpa only [DRow.touch, DRow.getName] using ih
  | dropOne r ind ih =>
    have hh := touch_headers (.dropOne r ind)
    simp only [DRow.touch] at hh
    have hp : ∀ i, (DRow.dropOne r.touch ind).getPos i = (DRow.dropOne r ind).getPos i := fun i => touch_getPos (.dropOne r ind) i
    simp only [DRow.touch, DRow.getName, hh, hp]

theorem touch_iter (r : DRow) : r.touch.iter = r.iter := by
  induction r <;> simp only [DRow.touch, DRow.iter, cell_get_touch, *]

theorem touch_stream (r : DRow) : r.touch.stream = r.stream := by
  induction r <;> simp only [DRow.touch, DRow.stream, cell_get_touch, *]

theorem touch_labelOf (r : DRow) : r.touch.labelOf = r.labelOf.map (fun p => (p.1.touch, p.2)) := by
  induction r <;> simp only [DRow.touch, DRow.labelOf, Option.map_none, Option.map_some, *]

theorem touch_obsD (r : DRow) (a : Acc) : obsD r.touch a = obsD r a := by
  induction a generalizing r with
  | pos i => simp only [obsD, touch_getPos]
  | name k => cases k <;> simp [obsD, DRow.get, touch_getPos, touch_getName]
  | iter => simp only [obsD, touch_iter]
  | copy => simp only [obsD, touch_iter]
  | len => simp only [obsD, touch_len]
  | headers => simp only [obsD, touch_headers]
  | keys => rfl
  | items => rfl
  | eq o => cases o <;> simp [obsD, DRow.eqList, touch_len, touch_iter]
  | label =>
    simp only [obsD, DRow.labelVal, touch_labelOf]
    cases r.labelOf with
    | none => rfl
    | some p => simp only [Option.map_some, touch_getPos]
  | tipe =>
    simp only [obsD, DRow.tipe, touch_labelOf]
    cases r.labelOf <;> rfl
  | feats s ih =>
    simp only [obsD, DRow.feats, touch_labelOf]
    cases r.labelOf with
    | none => rfl
    | some p => exact ih (.dropOne p.1 p.2.1)
  | clone s ih => simpa only [obsD] using ih r

/-! ### sparse -/

theorem touchS_missing (r : SRow) : r.touch.missing = r.missing := by
  induction r <;> simp only [SRow.touch, SRow.missing, *]

theorem touchS_keys (r : SRow) : r.touch.keys = r.keys := by
  induction r <;> simp only [SRow.touch, SRow.keys, cell_get_touch, *]

theorem touchS_len (r : SRow) : r.touch.len = r.len := by
  induction r with
  | plain d => rfl
  | lazy c e n f i m => simp only [SRow.touch, SRow.len, cell_get_touch]
  | head r f i ih => exact ih
  | encode r e n ih =>
    have := touchS_keys (.encode r e n)
    simp only [SRow.touch] at this
    simp only [SRow.touch, SRow.len, this]
  | drop r ds ih =>
    have := touchS_keys (.drop r ds)
    simp only [SRow.touch] at this
    simp only [SRow.touch, SRow.len, this]
  | label r k t ih =>
    have := touchS_keys (.label r k t)
    simp only [SRow.touch] at this
    simp only [SRow.touch, SRow.len, this]

theorem touchS_get (r : SRow) (k : Key) : r.touch.get k = r.get k := by
  induction r generalizing k <;> simp only [SRow.touch, SRow.get, cell_get_touch, *]

theorem touchS_items (r : SRow) : r.touch.items = r.items := by
  induction r <;> simp only [SRow.touch, SRow.items, cell_get_touch, *]

theorem touchS_labelOf (r : SRow) : r.touch.labelOf = r.labelOf.map (fun p => (p.1.touch, p.2)) := by
  induction r <;> simp only [SRow.touch, SRow.labelOf, Option.map_none, Option.map_some, *]

theorem touch_obsS (r : SRow) (a : Acc) : obsS r.touch a = obsS r a := by
  induction a generalizing r with
  | pos i => rfl
  | name k => simp only [obsS, touchS_get]
  | iter => simp only [obsS, touchS_keys]
  | keys => simp only [obsS, touchS_keys]
  | items => simp only [obsS, touchS_items]
  | copy => simp only [obsS, touchS_items]
  | len => simp only [obsS, touchS_len]
  | headers => rfl
  | eq o => cases o <;> simp [obsS, SRow.eqDict, touchS_items]
  | label =>
    simp only [obsS, SRow.labelVal, touchS_labelOf]
    cases r.labelOf with
    | none => rfl
    | some p =>
      have := touchS_get (.label p.1 p.2.1 p.2.2) p.2.1
      simp only [SRow.touch] at this
      simp only [Option.map_some, this]
  | tipe =>
    simp only [obsS, SRow.tipe, touchS_labelOf]
    cases r.labelOf <;> rfl
  | feats s ih =>
    simp only [obsS, SRow.feats, touchS_labelOf]
    cases r.labelOf with
    | none => rfl
    | some p => exact ih (.drop p.1 [p.2.1])
  | clone s ih => simpa only [obsS] using ih r

/-! ## copies of rows inside access histories -/

/-- `G`: how an observation function looks at `feats` through itself; lazy and eager side differ only in `G` -/
theorem obs_strip {ρ} (obs : ρ → Acc → Obs) (G : ρ → (ρ → Obs) → Obs) (hclone : ∀ r s, obs r (.clone s) = obs r s)
    (hfeats : ∀ r s, obs r (.feats s) = G r (fun f => obs f s)) (r : ρ) (a : Acc) : obs r a = obs r a.strip := by
  induction a generalizing r with
  | feats s ih => rw [Acc.strip, hfeats, hfeats]; exact congrArg (G r) (funext fun f => ih f)
  | clone s ih => rw [Acc.strip, hclone]; exact ih r
  | _ => rfl

theorem obsD_strip (r : DRow) (a : Acc) : obsD r a = obsD r a.strip :=
  obs_strip obsD (fun r k => match r.feats with | .ok f => k f | .error _ => .err) (fun _ _ => rfl) (fun _ _ => rfl) r a

theorem obsS_strip (r : SRow) (a : Acc) : obsS r a = obsS r a.strip :=
  obs_strip obsS (fun r k => match r.feats with | .ok f => k f | .error _ => .err) (fun _ _ => rfl) (fun _ _ => rfl) r a

theorem eagerObsD_strip (e : EagerD) (a : Acc) : eagerObsD e a = eagerObsD e a.strip :=
  obs_strip eagerObsD (fun e k => match e.feats with | some f => k f | none => .undef) (fun _ _ => rfl) (fun _ _ => rfl) e a

theorem eagerObsS_strip (e : EagerS) (a : Acc) : eagerObsS e a = eagerObsS e a.strip :=
  obs_strip eagerObsS (fun e k => match e.feats with | some f => k f | none => .undef) (fun _ _ => rfl) (fun _ _ => rfl) e a

/-! ## wrapper chains -/

/-- every wrapping view other than LabelDense passes `feats` / `label` / `tipe` on to the row below (`__getattr__`) -/
theorem wrapD_labelOf' (ws : List DWrap) : ∀ (r : DRow), (∀ w ∈ ws, ∀ i t, w ≠ .label i t) → (wrapD ws r).labelOf = r.labelOf := by
  intro r h
  refine foldl_forward DRow.labelOf _ ws (fun w hw r => ?_) r
  cases w with
  | label i t => exact absurd rfl (h _ hw i t)
  | _ => rfl

/-! ## iteration element by element -/

theorem compressS_map_ok : ∀ (xs : List Val) (sel : List Bool), compressS (xs.map .ok) sel = (compress xs sel).map .ok
  | [], sel => by cases sel <;> rfl
  | x :: xs, [] => rfl
  | x :: xs, b :: bs => by
    cases b
    · exact compressS_map_ok xs bs
    · exact congrArg (Except.ok x :: ·) (compressS_map_ok xs bs)

theorem dropOneS_map_ok (xs : List Val) (ind : Nat) :
    dropOneS (xs.map .ok) ind = (xs.take ind ++ xs.drop (ind + 1)).map .ok := by
  unfold dropOneS
  rw [← List.map_take, ← List.map_drop]
  cases h : xs.drop ind with
  | nil =>
    have : xs.drop (ind + 1) = [] := by
      have := List.drop_eq_nil_iff.mp h
      exact List.drop_eq_nil_iff.mpr (by omega)
    simp only [List.map_take, List.map_nil, List.append_nil, this]
  | cons y t =>
    have : xs.drop (ind + 1) = t := by
      rw [← List.drop_drop, h]; rfl
    simp only [List.map_take, List.map_cons, this, List.map_append]

theorem zipWith_bind_map_ok : ∀ (es : List Enc) (ys : List Val),
    List.zipWith (fun e x => bindRes e.apply x) es (ys.map .ok) = List.zipWith Enc.apply es ys
  | [], _ => by simp only [List.zipWith_nil_left]
  | _ :: _, [] => by simp only [List.map_nil, List.zipWith_nil_right]
  | e :: es, y :: ys => by
    have ih := zipWith_bind_map_ok es ys
    simp only [List.map_cons, List.zipWith_cons_cons, ih]
    rfl

theorem stream_of_iter (r : DRow) : ∀ xs, r.iter = .ok xs → r.stream = xs.map .ok := by
  induction r with
  | plain v => intro xs h; simp only [DRow.iter, Except.ok.injEq] at h; subst h; rfl
  | lazy c enc hdr m =>
    intro xs h
    match enc with
    | none => simp only [DRow.iter, Except.ok.injEq] at h; subst h; rfl
    | some [] => simp only [DRow.iter, Except.ok.injEq] at h; subst h; rfl
    | some (e :: es) =>
      simp only [DRow.iter] at h
      simp only [DRow.stream]
      exact sequence_ok h
  | head r h ih => intro xs hx; exact ih xs (by simpa only [DRow.iter] using hx)
  | encode r es ih =>
    intro xs hx
    simp only [DRow.iter] at hx
    cases hi : r.iter with
    | error e => simp only [hi, reduceCtorEq] at hx
    | ok ys =>
      simp only [hi] at hx
      simp only [DRow.stream, ih ys hi, zipWith_bind_map_ok]
      exact sequence_ok hx
  | keep r a b sel d e ih =>
    intro xs hx
    simp only [DRow.iter] at hx
    cases hi : r.iter with
    | error e => simp only [hi, reduceCtorEq] at hx
    | ok ys =>
      simp only [hi, Except.ok.injEq] at hx
      subst hx
      simp only [DRow.stream, ih ys hi, compressS_map_ok]
  | label r i t ih => intro xs hx; exact ih xs (by simpa only [DRow.iter] using hx)
  | dropOne r ind ih =>
    intro xs hx
    simp only [DRow.iter] at hx
    cases hi : r.iter with
    | error e => simp only [hi, reduceCtorEq] at hx
    | ok ys =>
      simp only [hi, Except.ok.injEq] at hx
      subst hx
      simp only [DRow.stream, ih ys hi, dropOneS_map_ok]

theorem pull_map_ok : ∀ (n : Nat) (xs : List Val), pull n (xs.map .ok) = (xs.take n, none)
  | 0, xs => rfl
  | n + 1, [] => rfl
  | n + 1, x :: xs => by simp only [List.map_cons, pull, pull_map_ok n xs, List.take_succ_cons]

theorem pull_prefix : ∀ (m n : Nat) (s : List (Res Val)), m ≤ n →
    (pull m s).1 = (pull n s).1.take m ∧ ((pull m s).2 = none ∨ (pull m s).2 = (pull n s).2)
  | 0, n, s, _ => ⟨rfl, Or.inl rfl⟩
  | m + 1, 0, s, h => absurd h (Nat.not_succ_le_zero m)
  | m + 1, n + 1, [], _ => ⟨rfl, Or.inl rfl⟩
  | m + 1, n + 1, .error e :: t, _ => ⟨rfl, Or.inr rfl⟩
  | m + 1, n + 1, .ok x :: t, h => by
    have := pull_prefix m n t (Nat.le_of_succ_le_succ h)
    exact ⟨by simp only [pull, List.take_succ_cons, this.1], this.2⟩

theorem takeN_of_iter_ok (r : DRow) (xs : List Val) (h : r.iter = .ok xs) (n : Nat) : r.takeN n = (xs.take n, none) := by
  simp only [DRow.takeN, stream_of_iter r xs h, pull_map_ok]

theorem whole_iteration_of_stream' (r : DRow) (xs : List Val) (h : r.iter = .ok xs) :
    r.takeN r.stream.length = (xs, none) := by
  have hs := stream_of_iter r xs h
  rw [takeN_of_iter_ok r xs h, hs]; simp only [List.length_map, List.take_length]

theorem pull_ok_append_error : ∀ (xs : List Val) (e : Err) (t : List (Res Val)) (n : Nat), xs.length < n →
    pull n (xs.map .ok ++ .error e :: t) = (xs, some e)
  | [], e, t, n + 1, _ => rfl
  | [], e, t, 0, h => absurd h (Nat.lt_irrefl 0)
  | x :: xs, e, t, 0, h => absurd h (Nat.not_lt_zero _)
  | x :: xs, e, t, n + 1, h => by
    have ih := pull_ok_append_error xs e t n (Nat.lt_of_succ_lt_succ h)
    simp only [List.map_cons, List.cons_append, pull, ih]

/-- DropOne's second `islice` skips by evaluating: a failing element at or before the dropped position still ends the iteration -/
theorem dropOneS_first_error : ∀ (xs : List Val) (e : Err) (t : List (Res Val)) (ind : Nat), xs.length ≤ ind →
    ∃ t', dropOneS (xs.map .ok ++ .error e :: t) ind = xs.map .ok ++ .error e :: t'
  | [], _, _, 0, _ => ⟨[], rfl⟩
  | [], _, t, k + 1, _ => ⟨dropOneS t k, rfl⟩
  | _ :: _, _, _, 0, h => absurd h (Nat.not_succ_le_zero _)
  | x :: xs, e, t, k + 1, h =>
    let ⟨t', ht⟩ := dropOneS_first_error xs e t k (Nat.le_of_succ_le_succ h)
    ⟨t', congrArg (Except.ok x :: ·) ht⟩

end Coba.C13
