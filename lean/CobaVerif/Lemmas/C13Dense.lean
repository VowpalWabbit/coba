import CobaVerif.Lemmas.C13Maps

/-!
C13, dense rows: the refinement relation `RefD` between a lazy row object and an eager list, one lemma per view class,
per stage, for the pipeline and the base rows; what follows from `RefD` for observations and exception classes;
the concrete pipelines the property theorems name; the first row of a table.
-/

namespace Coba.C13

/-! ## what the filters read of a row: `headers`, `len` -/

theorem headers_error (r : DRow) (e : Err) (h : r.headers = .error e) : e = .attrError := by
  induction r generalizing e with
  | plain v => cases h; rfl
  | lazy c en hd m => cases hd <;> cases h; rfl
  | head r hd ih => cases h
  | encode r es ih => exact ih e h
  | keep r a b c d hd ih =>
    cases hd with
    | none => exact ih e h
    | some x => cases h
  | label r i t ih => exact ih e h
  | dropOne r i ih =>
    rw [DRow.headers] at h
    cases hr : r.headers with
    | error e' => rw [hr] at h; cases h; exact ih _ hr
    | ok x => rw [hr] at h; cases h

theorem encsOf_eq (m : List (Key × Enc)) (r : DRow) :
    encsOf m r = (List.range r.len).map (fun i => encFor m (r.headers.toOption.bind (posName · i)) i) := by
  unfold encsOf; cases r.headers <;> rfl

theorem length_encsOf (m : List (Key × Enc)) (r : DRow) : (encsOf m r).length = r.len := by
  rw [encsOf_eq, List.length_map, List.length_range]

theorem dropArgsOf_eq (r : DRow) (cols : List Key) : dropArgsOf r cols = makeDropArgs r.headers.toOption r.len cols := by
  unfold dropArgsOf; cases r.headers <;> rfl

/-! ## the refinement relation -/

/-- well-formed eager dense row: the header map has distinct names and distinct, existing columns; the label column exists -/
structure WFD (e : EagerD) : Prop where
  hdr : ∀ h, e.hdr = some h → hdrWF h e.cells.length = true
  lab : ∀ i t, e.lab = some (i, t) → i < e.cells.length

/-- the lazy row `r` is indistinguishable from the eager row `e` (label part apart) -/
structure RefD (r : DRow) (e : EagerD) : Prop where
  iter : r.iter = .ok e.cells
  len : r.len = e.cells.length
  pos : ∀ i, r.getPos i = idx e.cells i
  hdr : r.headers.toOption = e.hdr
  name : ∀ s v, e.byName s = some v → r.getName s = .ok v
  miss : r.missing.toOption = e.miss

theorem colOf_via_hdr {e : EagerD} {hd : Res Hdr} (hh : hd.toOption = e.hdr) {s : String} {i : Nat}
    (hc : e.colOf s = some i) : ∃ h, hd = .ok h ∧ dget h s = some i := by
  unfold EagerD.colOf at hc
  cases hn : e.hdr with
  | none => rw [hn] at hc; cases hc
  | some h => rw [hn] at hc hh; exact ⟨h, toOption_eq_some hh, hc⟩

theorem byName_via_hdr {e : EagerD} {hd : Res Hdr} (hh : hd.toOption = e.hdr) {s : String} {v : Val}
    (hb : e.byName s = some v) : ∃ h i, hd = .ok h ∧ dget h s = some i ∧ e.cells[i]? = some v := by
  unfold EagerD.byName at hb
  cases hc : e.colOf s with
  | none => rw [hc] at hb; cases hb
  | some i =>
    rw [hc] at hb
    obtain ⟨h, hok, hdg⟩ := colOf_via_hdr hh hc
    exact ⟨h, i, hok, hdg, hb⟩

theorem RefD.get {r : DRow} {e : EagerD} (h : RefD r e) (k : Key) (v : Val) (hk : e.get k = some v) : r.get k = .ok v := by
  cases k with
  | pos i => exact (h.pos i).trans (idx_of_some hk)
  | name s => exact h.name s v hk

/-- LazyDense, HeadDense, EncodeDense and DropOne resolve a name in their own `headers` and then go by position, so `RefD.name`
follows from `pos` and `hdr` (KeepDense resolves names in the map it was built with, LabelDense hands the name down) -/
theorem name_of_pos_hdr {r : DRow} {e : EagerD} (hpos : ∀ i, r.getPos i = idx e.cells i) (hhdr : r.headers.toOption = e.hdr)
    (hname : ∀ h s i, r.headers = .ok h → dget h s = some i → r.getName s = r.getPos i)
    (s : String) (v : Val) (hb : e.byName s = some v) : r.getName s = .ok v := by
  obtain ⟨h, i, hh, hdg, hci⟩ := byName_via_hdr hhdr hb
  rw [hname h s i hh hdg, hpos i]; exact idx_of_some hci

theorem refD_plain (v : List Val) (lab) : RefD (.plain v) ⟨v, none, lab, none⟩ where
  iter := rfl
  len := rfl
  pos := fun _ => rfl
  hdr := rfl
  name := fun _ _ h => nomatch h
  miss := rfl

theorem lazy_headers (c : Cell (List Val)) (enc : Option (List Enc)) (hd : Option Hdr) (m : Bool) :
    (DRow.lazy c enc hd m).headers.toOption = hd := by cases hd <;> rfl

theorem lazy_getName (c : Cell (List Val)) (enc : Option (List Enc)) (hd : Option Hdr) (m : Bool) (h : Hdr) (s : String) (i : Nat)
    (hh : (DRow.lazy c enc hd m).headers = .ok h) (hdg : dget h s = some i) :
    (DRow.lazy c enc hd m).getName s = (DRow.lazy c enc hd m).getPos i := by
  cases hd with
  | none => cases hh
  | some nn => cases hh; simp only [DRow.getName, hdg]

theorem refD_lazy_enc (c : Cell (List Val)) (es : List Enc) (v cells : List Val) (hd : Option Hdr) (m : Bool) (lab)
    (hc : c.get = v) (hl : es.length = v.length) (hs : sequence (List.zipWith lazyApply es v) = .ok cells) :
    RefD (.lazy c (some es) hd m) ⟨cells, hd, lab, some m⟩ := by
  obtain ⟨hlen, hcell⟩ := sequence_zipWith_spec hl hs
  have hpos : ∀ i, (DRow.lazy c (some es) hd m).getPos i = idx cells i := by
    intro i
    cases hx : v[i]? with
    | none => simp only [DRow.getPos, hc, idx_of_none hx, idx_of_none ((hcell i).2 hx).2]
    | some x =>
      obtain ⟨e, cc, he, hcc, hf⟩ := (hcell i).1 x hx
      cases es with
      | nil => cases he
      | cons e0 et => simp only [DRow.getPos, hc, idx_of_some hx, he, hf, idx_of_some hcc]
  have hhdr := lazy_headers c (some es) hd m
  refine ⟨?_, ?_, hpos, hhdr, name_of_pos_hdr hpos hhdr (lazy_getName c (some es) hd m), rfl⟩
  · cases es with
    | nil => cases v with
      | nil => cases hs; simp only [DRow.iter, hc]
      | cons _ _ => cases hl
    | cons e0 et => simp only [DRow.iter, hc, hs]
  · simp only [DRow.len, hc, hlen]

theorem refD_lazy_plain (c : Cell (List Val)) (enc : Option (List Enc)) (v : List Val) (hd : Option Hdr) (m : Bool) (lab)
    (hc : c.get = v) (he : enc = none ∨ enc = some []) :
    RefD (.lazy c enc hd m) ⟨v, hd, lab, some m⟩ := by
  have hpos : ∀ i, (DRow.lazy c enc hd m).getPos i = idx v i := by
    intro i
    rcases he with rfl | rfl <;> simp only [DRow.getPos, hc] <;> cases idx v i <;> rfl
  have hhdr := lazy_headers c enc hd m
  refine ⟨?_, ?_, hpos, hhdr, name_of_pos_hdr hpos hhdr (lazy_getName c enc hd m), rfl⟩
  · rcases he with rfl | rfl <;> simp only [DRow.iter, hc]
  · simp only [DRow.len, hc]

theorem refD_head {r : DRow} {e : EagerD} (h : RefD r e) (hd : Hdr) :
    RefD (.head r hd) { e with hdr := some hd } where
  iter := h.iter
  len := h.len
  pos := h.pos
  hdr := rfl
  name := name_of_pos_hdr (r := .head r hd) h.pos rfl fun h' s i hh hdg => by
    cases hh; simp only [DRow.getName, hdg, DRow.getPos]
  miss := h.miss

theorem refD_label {r : DRow} {e : EagerD} (h : RefD r e) (i : Nat) (t : Option String) (lab) :
    RefD (.label r i t) { e with lab := lab } where
  iter := h.iter
  len := h.len
  pos := h.pos
  hdr := h.hdr
  name := h.name
  miss := h.miss

theorem refD_encode {r : DRow} {e : EagerD} (h : RefD r e) (es : List Enc) (cells : List Val)
    (hl : es.length = e.cells.length) (hs : sequence (List.zipWith Enc.apply es e.cells) = .ok cells) :
    RefD (.encode r es) { e with cells := cells } := by
  obtain ⟨hlen, hcell⟩ := sequence_zipWith_spec hl hs
  have hpos : ∀ i, (DRow.encode r es).getPos i = idx cells i := by
    intro i
    cases hx : e.cells[i]? with
    | none => simp only [DRow.getPos, idx_of_none ((hcell i).2 hx).1, idx_of_none ((hcell i).2 hx).2]
    | some x =>
      obtain ⟨en, cc, he, hcc, hf⟩ := (hcell i).1 x hx
      simp only [DRow.getPos, h.pos i, idx_of_some he, idx_of_some hx, hf, idx_of_some hcc]
  refine ⟨?_, ?_, hpos, h.hdr, name_of_pos_hdr hpos h.hdr fun hd s i hh hdg => ?_, h.miss⟩
  · simp only [DRow.iter, h.iter, hs]
  · simp only [DRow.len, hl, hlen]
  · rw [DRow.headers] at hh; simp only [DRow.getName, hh, hdg]

theorem refD_dropOne {r : DRow} {e : EagerD} (h : RefD r e) (ind : Nat) (hi : ind < e.cells.length) :
    RefD (.dropOne r ind) ⟨e.cells.eraseIdx ind, e.hdr.map (DRow.shiftHdr ind), none, e.miss⟩ := by
  have hpos : ∀ i, (DRow.dropOne r ind).getPos i = idx (e.cells.eraseIdx ind) i := by
    intro i
    simp only [DRow.getPos, h.pos, idx, List.getElem?_eraseIdx]
    by_cases hlt : i < ind
    · rw [if_neg (Nat.not_le.2 hlt), if_pos hlt]
    · rw [if_pos (Nat.not_lt.1 hlt), if_neg hlt]
  have hhdr : (DRow.dropOne r ind).headers.toOption = e.hdr.map (DRow.shiftHdr ind) := by
    rw [← h.hdr, DRow.headers]
    cases r.headers <;> rfl
  refine ⟨?_, ?_, hpos, hhdr, name_of_pos_hdr hpos hhdr fun hd s i hh hdg => ?_, h.miss⟩
  · simp only [DRow.iter, h.iter, List.eraseIdx_eq_take_drop_succ]
  · simp only [DRow.len, h.len, List.length_eraseIdx, if_pos hi]
  · simp only [DRow.getName, hh, hdg]

/-! ### DropRows: `make_drop_row_args` and KeepDense -/

theorem keptIdx_isSome {e : EagerD} {cols : List Key} {i : Nat} (h : i ∈ keptIdx e cols) : (e.cells[i]?).isSome := by
  rw [List.getElem?_eq_getElem (List.mem_range.1 (List.mem_filter.1 h).1)]; rfl

theorem nameAt_eq {e : EagerD} (hw : WFD e) (i : Nat) : e.nameAt i = e.hdr.bind (posName · i) := by
  unfold EagerD.nameAt
  cases hn : e.hdr with
  | none => rfl
  | some hd => exact (posName_eq_nameOf hd ((hdrWF_iff hd _).1 (hw.hdr hd hn)).2.1 i).symm

theorem makeDropArgs_eager {e : EagerD} (hw : WFD e) (cols : List Key) :
    makeDropArgs e.hdr e.cells.length cols =
      (keptIdx e cols, e.hdr.getD [], (List.range e.cells.length).map (fun i => keepCol cols i (e.nameAt i)),
        (keptIdx e cols).length,
        e.hdr.bind (fun h => if h.isEmpty then none else some (extHdr (keptIdx e cols) h))) := by
  have hk : keptIdx e cols = compress (List.range e.cells.length)
      ((List.range e.cells.length).map (fun i => keepCol cols i (e.nameAt i))) := by rw [compress_map_self]; rfl
  rw [hk]
  simp only [nameAt_eq hw]
  cases e.hdr <;> rfl

/-- `make_drop_row_args` gives KeepDense no `headers` when the header map below is empty; `headers` then forwards to that map -/
theorem keep_headers_eager {r : DRow} {e : EagerD} (h : RefD r e) (idxs : List Nat) (names : Hdr) (sel : List Bool) (n : Nat) :
    (DRow.keep r idxs names sel n (e.hdr.bind (fun h => if h.isEmpty then none else some (extHdr idxs h)))).headers.toOption
      = e.hdr.map (extHdr idxs) := by
  have hh := h.hdr
  cases hn : e.hdr with
  | none => rw [hn] at hh; exact hh
  | some hd =>
    rw [hn] at hh
    cases hd with
    | nil => exact hh
    | cons p t => rfl

theorem refD_keep {r : DRow} {e : EagerD} (h : RefD r e) (hw : WFD e) (cols : List Key) (names : Hdr) (sel : List Bool)
    (hdr : Option Hdr) (lab)
    (hsel : sel = (List.range e.cells.length).map (fun i => keepCol cols i (e.nameAt i)))
    (hnames : ∀ hd, e.hdr = some hd → names = hd)
    (hhdr : (DRow.keep r (keptIdx e cols) names sel (keptIdx e cols).length hdr).headers.toOption
        = e.hdr.map (extHdr (keptIdx e cols))) :
    RefD (.keep r (keptIdx e cols) names sel (keptIdx e cols).length hdr)
      ⟨(keptIdx e cols).filterMap (fun i => e.cells[i]?), e.hdr.map (extHdr (keptIdx e cols)), lab, e.miss⟩ := by
  have hin : ∀ i ∈ keptIdx e cols, (e.cells[i]?).isSome := fun i hi => keptIdx_isSome hi
  have hget := getElem?_filterMap_of_isSome (fun i => e.cells[i]?) (keptIdx e cols) hin
  have hpos : ∀ i, (DRow.keep r (keptIdx e cols) names sel (keptIdx e cols).length hdr).getPos i
      = idx ((keptIdx e cols).filterMap (fun i => e.cells[i]?)) i := by
    intro i
    simp only [DRow.getPos, idx, hget i]
    cases hk : (keptIdx e cols)[i]? with
    | none => rfl
    | some j => simp only [h.pos j, idx, Option.bind_some]
  refine ⟨?_, ?_, hpos, hhdr, ?_, h.miss⟩
  · simp only [DRow.iter, h.iter, hsel]
    rw [compress_range_map]; rfl
  · exact (length_filterMap_of_isSome (fun i => e.cells[i]?) _ hin).symm
  · intro s v hb
    simp only [EagerD.byName, EagerD.colOf] at hb
    cases hn : e.hdr with
    | none => rw [hn] at hb; cases hb
    | some hd =>
      simp only [hn, Option.map] at hb
      rw [dget_extHdr _ hd ((hdrWF_iff hd _).1 (hw.hdr hd hn)).1 s] at hb
      cases hj : dget hd s with
      | none => rw [hj] at hb; cases hb
      | some j =>
        rw [hj] at hb
        cases hk : posOf (keptIdx e cols) j with
        | none => simp only [hk, Option.bind] at hb; cases hb
        | some k =>
          simp only [hk, Option.bind, hget k, posOf_some_getElem? hk] at hb
          simp only [DRow.getName, hnames hd hn, hj, h.pos j]
          exact idx_of_some hb

theorem wfD_keep {e : EagerD} (hw : WFD e) (cols : List Key) (lab : Option (Nat × Option String))
    (hlab : ∀ i t, lab = some (i, t) → i < (keptIdx e cols).length) :
    WFD ⟨(keptIdx e cols).filterMap (fun i => e.cells[i]?), e.hdr.map (extHdr (keptIdx e cols)), lab, e.miss⟩ := by
  have hlen := length_filterMap_of_isSome (fun i => e.cells[i]?) (keptIdx e cols) (fun i hi => keptIdx_isSome hi)
  constructor
  · intro h' hh'
    cases hn : e.hdr with
    | none => rw [hn] at hh'; cases hh'
    | some hd =>
      rw [hn] at hh'; cases hh'
      obtain ⟨hnn, hpn, _⟩ := (hdrWF_iff hd _).1 (hw.hdr hd hn)
      exact hlen ▸ extHdr_wf _ hd hnn hpn
  · intro i t hl
    exact hlen ▸ hlab i t hl

/-! ### the stages -/

theorem wfD_cells {e : EagerD} (hw : WFD e) {cells : List Val} (hlen : cells.length = e.cells.length) :
    WFD { e with cells := cells } :=
  ⟨fun hd hn => by show hdrWF hd cells.length = true; rw [hlen]; exact hw.hdr hd hn,
   fun i t hl => by show i < cells.length; rw [hlen]; exact hw.lab i t hl⟩

theorem encodeD_refines {r : DRow} {e : EagerD} (h : RefD r e) (hw : WFD e) (es : List Enc) (hl : es.length = e.cells.length) :
    Refines (fun r' e' => RefD r' e' ∧ WFD e') (.ok (some (.encode r es)))
      (match sequence (List.zipWith Enc.apply es e.cells) with
       | .ok cells => .ok (some { e with cells := cells })
       | .error er => .error er) := by
  cases hs : sequence (List.zipWith Enc.apply es e.cells) with
  | error er => exact .error
  | ok cells => exact .ok_some rfl ⟨refD_encode h es cells hl hs, wfD_cells hw (sequence_zipWith_length hl hs)⟩

theorem evalPredD_of_eager {r : DRow} {e : EagerD} (h : RefD r e) (pred : Option Pred) (b : Bool)
    (hp : evalPredE pred e.miss e.get = .ok b) : evalPredD pred r = .ok b := by
  obtain ⟨rfl, rfl⟩ | ⟨m, rfl, hm, rfl⟩ | ⟨k, v, x, rfl, hg, rfl⟩ := evalPredE_ok hp
  · rfl
  · simp only [evalPredD, toOption_eq_some (h.miss.trans hm)]
  · simp only [evalPredD, h.get k x hg]

theorem dropD_refines {r : DRow} {e : EagerD} (h : RefD r e) (hw : WFD e) (cols : List Key) (pred : Option Pred) :
    Refines (fun r' e' => RefD r' e' ∧ WFD e') (applyD (.drop cols pred) r) (eagerStageD (.drop cols pred) e) := by
  simp only [eagerStageD, applyD]
  cases hp : evalPredE pred e.miss e.get with
  | error er => exact .error
  | ok b =>
    rw [evalPredD_of_eager h pred b hp]
    cases b with
    | false => exact .ok_none
    | true =>
      dsimp only
      by_cases hc : cols.isEmpty = true
      · rw [if_pos hc, if_pos hc]
        exact .ok_some rfl ⟨h, hw⟩
      · rw [if_neg hc, if_neg hc, dropArgsOf_eq, h.hdr, h.len, makeDropArgs_eager hw]
        have hkeep := fun lab => refD_keep h hw cols (e.hdr.getD []) _ _ lab rfl (fun hd hn => by rw [hn]; rfl)
          (keep_headers_eager h _ _ _ _)
        cases hel : e.lab with
        | none => exact .ok_some rfl ⟨hkeep none, wfD_keep hw cols none (fun _ _ hl => nomatch hl)⟩
        | some it =>
          obtain ⟨i0, t0⟩ := it
          dsimp only
          cases hpo : posOf (keptIdx e cols) i0 with
          | none => exact .error
          | some j => exact .ok_some rfl ⟨hkeep _, wfD_keep hw cols _ (fun i t hl => by cases hl; exact posOf_lt hpo)⟩

theorem labelD_refines {r : DRow} {e : EagerD} (h : RefD r e) (k : Key) (t : Option String) :
    Refines (fun r' e' => ∃ i, i < e.cells.length ∧ e' = { e with lab := some (i, t) } ∧ r' = .label r i t)
      (applyD (.label k t) r) (eagerStageD (.label k t) e) := by
  cases k with
  | pos i =>
    simp only [eagerStageD]
    split
    · rename_i hi; exact .ok_some rfl ⟨i, hi, rfl, rfl⟩
    · exact .error
  | name s =>
    simp only [eagerStageD]
    cases hc : e.colOf s with
    | none => exact .error
    | some i =>
      obtain ⟨hd, hh, hdg⟩ := colOf_via_hdr h.hdr hc
      dsimp only
      split
      · rename_i hi; exact .ok_some (by simp only [applyD, hh, hdg]) ⟨i, hi, rfl, rfl⟩
      · exact .error

theorem stageD_refines (st : Stage) {r : DRow} {e : EagerD} (h : RefD r e) (hw : WFD e) :
    Refines (fun r' e' => RefD r' e' ∧ WFD e') (applyD st r) (eagerStageD st e) := by
  cases st with
  | headNames ns =>
    simp only [eagerStageD, applyD]
    split
    · rename_i hok
      exact .ok_some rfl ⟨refD_head h (zipNames ns), ⟨fun h' hh' => Option.some.inj hh' ▸ hok, hw.lab⟩⟩
    · exact .error
  | headMap m =>
    simp only [eagerStageD, applyD]
    split
    · rename_i hok
      exact .ok_some rfl ⟨refD_head h (m.filterMap hdrEntry), ⟨fun h' hh' => Option.some.inj hh' ▸ hok.2, hw.lab⟩⟩
    · exact .error
  | encodeSeq es =>
    simp only [eagerStageD, applyD]
    split
    · rename_i hl; exact encodeD_refines h hw es hl
    · exact .error
  | encodeMap m =>
    have hencs : encsOf m r = (List.range e.cells.length).map (fun i => encFor m (e.nameAt i) i) := by
      rw [encsOf_eq, h.len, h.hdr]; simp only [nameAt_eq hw]
    simp only [eagerStageD, applyD, hencs, ← zipWith_range_map Enc.apply (fun i => encFor m (e.nameAt i) i) e.cells]
    exact encodeD_refines h hw _ (by rw [List.length_map, List.length_range])
  | drop cols pred => exact dropD_refines h hw cols pred
  | label k t =>
    refine (labelD_refines h k t).mono fun r' e' _ ⟨i, hi, he', hr'⟩ => ?_
    subst he' hr'
    exact ⟨refD_label h i t _, ⟨hw.hdr, fun i' t' hl => by cases hl; exact hi⟩⟩
  | enccat t =>
    cases t with
    | none => exact .ok_some rfl ⟨h, hw⟩
    | some m =>
      simp only [eagerStageD, applyD, h.iter]
      cases hcat : hasCat e.cells with
      | true => exact .ok_some rfl ⟨refD_plain _ _, ⟨fun _ hn => (nomatch hn), fun _ _ hl => nomatch hl⟩⟩
      | false => exact .ok_some rfl ⟨h, hw⟩

/-! ### the pipeline and the base rows -/

theorem buildD_eq_pipe : buildD = pipe applyD :=
  eq_pipe (fun _ => rfl) fun s rest a => by rw [buildD]; rcases applyD s a with _ | _ | _ <;> rfl

theorem eagerD_eq_pipe : eagerD = pipe eagerStageD :=
  eq_pipe (fun _ => rfl) fun s rest a => by rw [eagerD]; rcases eagerStageD s a with _ | _ | _ <;> rfl

theorem buildD_refines (stages : List Stage) {r : DRow} {e : EagerD} (h : RefD r e) (hw : WFD e) :
    Refines (fun r' e' => RefD r' e' ∧ WFD e') (buildD stages r) (eagerD stages e) := by
  rw [buildD_eq_pipe, eagerD_eq_pipe]
  exact pipe_refines (fun _ r e => RefD r e ∧ WFD e) (fun st _ _ _ h => stageD_refines st h.1 h.2) stages [] r e ⟨h, hw⟩

theorem hdrOK_wf {hdr : Option (List String)} {n : Nat} (h : hdrOK hdr n = true) :
    ∀ hd, hdr.map zipNames = some hd → hdrWF hd n = true := by
  intro hd hh
  cases hdr with
  | none => simp at hh
  | some ns => simp at hh; subst hh; simpa only [hdrOK] using h

theorem baseD_refines (b : DBase) (e : EagerD) (hb : eagerBaseD b = .ok e) : RefD (baseD b) e ∧ WFD e := by
  cases b with
  | plain v => cases hb; exact ⟨refD_plain v none, ⟨fun _ hn => (nomatch hn), fun _ _ hl => nomatch hl⟩⟩
  | lazy v loader enc hdr miss =>
    simp only [eagerBaseD] at hb
    split at hb
    · rename_i hok
      have hwf := hdrOK_wf hok
      split at hb
      · cases hb
        exact ⟨refD_lazy_plain _ none v (hdr.map zipNames) miss none (mkCell_get _ _) (Or.inl rfl), ⟨hwf, fun _ _ hl => nomatch hl⟩⟩
      · cases hb
        exact ⟨refD_lazy_plain _ (some []) v (hdr.map zipNames) miss none (mkCell_get _ _) (Or.inr rfl), ⟨hwf, fun _ _ hl => nomatch hl⟩⟩
      · rename_i es _
        split at hb
        · rename_i hl
          cases hs : sequence (List.zipWith lazyApply es v) with
          | error er => rw [hs] at hb; cases hb
          | ok cells =>
            rw [hs] at hb; cases hb
            exact ⟨refD_lazy_enc _ es v cells (hdr.map zipNames) miss none (mkCell_get _ _) hl hs,
              ⟨fun hd hn => by show hdrWF hd cells.length = true; rw [sequence_zipWith_length hl hs]; exact hwf hd hn,
               fun _ _ hl => nomatch hl⟩⟩
        · cases hb
    · cases hb
  | arff cols raw miss =>
    simp only [eagerBaseD] at hb
    split at hb
    · rename_i hok
      have hl : (cols.map (Col.enc false)).length = raw.length := by rw [List.length_map, hok.1]
      cases hs : sequence (List.zipWith lazyApply (cols.map (Col.enc false)) raw) with
      | error er => rw [hs] at hb; cases hb
      | ok cells =>
        rw [hs] at hb; cases hb
        exact ⟨refD_lazy_enc (.pending raw) _ raw cells (some (zipNames (cols.map fun c : Col => c.name))) miss none rfl hl hs,
          ⟨fun hd hn => by cases hn; show hdrWF _ cells.length = true; rw [sequence_zipWith_length hl hs]; exact hok.2,
           fun _ _ hl => nomatch hl⟩⟩
    · cases hb

theorem dense_refines (b : DBase) (stages : List Stage) (e0 : EagerD) (hb : eagerBaseD b = .ok e0) :
    Refines (fun r e => RefD r e ∧ WFD e) (buildD stages (baseD b)) (eagerD stages e0) := by
  obtain ⟨h, hw⟩ := baseD_refines b e0 hb
  exact buildD_refines stages h hw

theorem dense_ref (b : DBase) (stages : List Stage) (e0 e : EagerD) (r : DRow)
    (hb : eagerBaseD b = .ok e0) (he : eagerD stages e0 = .ok (some e))
    (hr : buildD stages (baseD b) = .ok (some r)) : RefD r e := by
  obtain ⟨r', hr', href, _⟩ := (dense_refines b stages e0 hb).of_some he
  rw [hr] at hr'; cases hr'; exact href

/-! ### what follows from `RefD` -/

theorem eqList_of_ref {r : DRow} {e : EagerD} (h : RefD r e) (o : List Val) :
    r.eqList o = (e.cells.length == o.length && (List.zipWith pyEq e.cells o).all id) := by
  simp only [DRow.eqList, h.len, h.iter]
  by_cases hl : e.cells.length = o.length
  · rw [if_pos hl, beq_iff_eq.2 hl, Bool.true_and]
  · rw [if_neg hl, beq_false_of_ne hl, Bool.false_and]

/-- `eagerObsD` is defined (`≠ .undef`) where the eager row fixes the outcome: a value, or "must raise" for a position beyond
the end or a missing header map -/
theorem obsD_of_ref {r : DRow} {e : EagerD} (h : RefD r e) (a : Acc)
    (hna : match a with | .label => False | .tipe => False | .feats _ => False | .clone _ => False | _ => True)
    (hdef : eagerObsD e a ≠ .undef) : obsD r a = eagerObsD e a := by
  cases a with
  | pos i =>
    simp only [obsD, eagerObsD, h.pos i, idx]
    cases e.cells[i]? <;> rfl
  | name k =>
    simp only [obsD, eagerObsD] at hdef ⊢
    cases hg : e.get k with
    | none => rw [hg] at hdef; exact absurd rfl hdef
    | some v => rw [h.get k v hg]; rfl
  | iter => simp only [obsD, eagerObsD, h.iter, ofRes]
  | copy => simp only [obsD, eagerObsD, h.iter, ofRes]
  | len => simp only [obsD, eagerObsD, h.len]
  | headers =>
    simp only [obsD, eagerObsD]
    have := h.hdr
    cases hn : e.hdr with
    | none => rw [hn] at this; obtain ⟨er, her⟩ := toOption_eq_none this; rw [her]; rfl
    | some hd => rw [hn] at this; rw [toOption_eq_some this]; rfl
  | eq o =>
    cases o with
    | list l => simp only [obsD, eagerObsD, eqList_of_ref h]
    | dict d => exact absurd rfl hdef
  | keys => exact absurd rfl hdef
  | items => exact absurd rfl hdef
  | label => exact absurd hna id
  | tipe => exact absurd hna id
  | feats s => exact absurd hna id
  | clone s => exact absurd hna id

theorem errD_of_ref {r : DRow} {e : EagerD} (h : RefD r e) (a : Acc) (ha : a.listAccess = true) :
    errD r a = eagerErrD e a := by
  induction a with
  | pos i => simp only [errD, eagerErrD, h.pos i, errOf_idx]
  | iter => simp only [errD, eagerErrD, h.iter, errOf]
  | copy => simp only [errD, eagerErrD, h.iter, errOf]
  | len => rfl
  | eq o => rfl
  | clone sub ih => exact ih ha
  | _ => exact nomatch ha

theorem labelD_last {r0 : DRow} {e0 : EagerD} (h : RefD r0 e0) (k : Key) (t : Option String) (e : EagerD)
    (he : eagerStageD (.label k t) e0 = .ok (some e)) :
    ∃ r f ef v, applyD (.label k t) r0 = .ok (some r) ∧ RefD r e ∧
      r.feats = .ok f ∧ e.feats = some ef ∧ RefD f ef ∧
      r.labelVal = .ok v ∧ e.labelVal = some v ∧ r.tipe = .ok t ∧ e.lab.map (·.2) = some t := by
  obtain ⟨_, happ, i, hi, rfl, rfl⟩ := (labelD_refines h k t).of_some he
  obtain ⟨v, hv⟩ : ∃ v, e0.cells[i]? = some v := ⟨_, List.getElem?_eq_getElem hi⟩
  refine ⟨_, _, _, v, happ, refD_label h i t _, rfl, rfl, refD_dropOne h i hi, ?_, ?_, rfl, rfl⟩
  · simp only [DRow.labelVal, DRow.labelOf, h.pos i]; exact idx_of_some hv
  · simp only [EagerD.labelVal, hv]

theorem buildD_label_last (stages : List Stage) (k : Key) (t : Option String) {r0 : DRow} {e0 : EagerD} (h : RefD r0 e0)
    (hw : WFD e0) (e : EagerD) (he : eagerD (stages ++ [.label k t]) e0 = .ok (some e)) :
    ∃ r f ef v, buildD (stages ++ [.label k t]) r0 = .ok (some r) ∧
      r.feats = .ok f ∧ e.feats = some ef ∧ RefD f ef ∧
      r.labelVal = .ok v ∧ e.labelVal = some v ∧ r.tipe = .ok t ∧ e.lab.map (·.2) = some t := by
  obtain ⟨r1, e1, ⟨href, _⟩, h2, hlast⟩ := pipe_refines_snoc buildD_eq_pipe eagerD_eq_pipe (buildD_refines stages h hw) he
  obtain ⟨r, f, ef, v, happ, _, hrest⟩ := labelD_last href k t e h2
  exact ⟨r, f, ef, v, hlast r happ, hrest⟩

/-! ### concrete pipelines the property theorems and their examples speak of -/

/-- the hypothesis "LabelRows last" of `feats_label_partial` is necessary: `EncodeRows` after `LabelRows` -/
def cexBase : DBase := .plain [.int 1, .int 2, .int 3]
def cexStages : List Stage := [.label (.pos 1) (some "c"), .encodeSeq [.inc, .inc, .inc]]

def exBase : DBase := .lazy [.str "1", .str "2", .str "3"] true none none false
def exStages : List Stage :=
  [.headNames ["a", "b", "c"], .encodeSeq [.toInt, .toInt, .toInt], .drop [.name "b"] none, .label (.name "c") (some "r")]
def exStagesMap : List Stage :=
  [.headMap [("z", .pos 2), ("x", .pos 0)], .encodeMap [(.name "z", .toInt)], .drop [.name "x"] none]

/-! ## the first row of a table -/

theorem mem_catIdx_iff (vs : List Val) (v : Val) (i : Nat) (h : (v, i) ∈ vs.zipIdx) : i ∈ catIdx vs ↔ isCat v = true := by
  have hv : vs[i]? = some v := List.mem_zipIdx_iff_getElem?.1 h
  simp only [catIdx, List.mem_map, List.mem_filter]
  constructor
  · rintro ⟨⟨v', j⟩, ⟨hp, hc⟩, rfl⟩
    have := List.mem_zipIdx_iff_getElem?.1 hp
    rw [hv] at this; cases this; exact hc
  · intro hc; exact ⟨(v, i), ⟨h, hc⟩, rfl⟩

theorem encodeCatCell_not_cat (m : CatMode) (v : Val) (h : isCat v = false) : encodeCatCell m v = [v] := by
  cases v <;> simp_all [isCat, encodeCatCell]

theorem catEncodeAt_self (m : CatMode) (vs : List Val) : catEncodeAt m (catIdx vs) vs = .ok (catEncodeList m vs) := by
  have hall : (catIdx vs).all (fun k => k < vs.length) = true := by
    simp only [List.all_eq_true, catIdx, List.mem_map, List.mem_filter, decide_eq_true_eq]
    rintro k ⟨⟨v, j⟩, ⟨hp, _⟩, rfl⟩
    exact (List.getElem?_eq_some_iff.1 (List.mem_zipIdx_iff_getElem?.1 hp)).1
  have hparts : vs.zipIdx.map (fun p => if (catIdx vs).contains p.2 then encodeCell m p.1 else .ok [p.1])
      = (vs.zipIdx.map (fun p => encodeCatCell m p.1)).map .ok := by
    rw [List.map_map]
    apply List.map_congr_left
    intro p hp
    obtain ⟨v, i⟩ := p
    have hm := mem_catIdx_iff vs v i hp
    simp only [Function.comp]
    by_cases hc : isCat v = true
    · have : (catIdx vs).contains i = true := by
        rw [List.contains_iff_mem]; exact hm.2 hc
      simp only [this, if_true, encodeCell, hc]
    · have hc' : isCat v = false := by simpa using hc
      have : (catIdx vs).contains i = false := by
        cases hcc : (catIdx vs).contains i with
        | false => rfl
        | true => exact absurd (hm.1 (List.contains_iff_mem.1 hcc)) hc
      simp only [this, Bool.false_eq_true, if_false, encodeCatCell_not_cat m v hc']
  have hfl : (vs.zipIdx.map (fun p => encodeCatCell m p.1)).flatten = vs.flatMap (encodeCatCell m) := by
    have : vs.zipIdx.map (fun p => encodeCatCell m p.1) = vs.map (encodeCatCell m) := by
      conv => rhs; rw [← List.zipIdx_map_fst 0 vs, List.map_map]
      rfl
    rw [this, List.flatMap_def]
  simp only [catEncodeAt, hall, if_true, hparts, sequence_map_ok, catEncodeList, hfl]

theorem catIdx_isEmpty (vs : List Val) : (catIdx vs).isEmpty = !hasCat vs := by
  rw [catIdx, isEmpty_map_filter, hasCat]
  conv => rhs; rw [← List.zipIdx_map_fst 0 vs, List.any_map]
  rfl

theorem applyD1_eq (st : Stage) (f r : DRow) (h : sameShape f r = true) : applyD1 st f r = applyD st r := by
  simp only [sameShape, Bool.and_eq_true, beq_iff_eq] at h
  obtain ⟨⟨hlen, hhdr⟩, hit⟩ := h
  -- `headers` can only fail with AttributeError, so two failing `headers` are equal
  have heq : f.headers = r.headers := by
    cases hf : f.headers with
    | error e1 =>
      cases hr : r.headers with
      | error e2 => rw [headers_error f e1 hf, headers_error r e2 hr]
      | ok _ => rw [hf, hr] at hhdr; cases hhdr
    | ok a =>
      cases hr : r.headers with
      | error _ => rw [hf, hr] at hhdr; cases hhdr
      | ok b => rw [hf, hr] at hhdr; rw [eq_of_beq hhdr]
  cases st with
  | encodeMap m => simp only [applyD1, applyD, encsOf, hlen, heq]
  | drop cols pred => simp only [applyD1, applyD, dropArgsOf, hlen, heq]
  | label k t =>
    cases k with
    | pos i => rfl
    | name s => simp only [applyD1, applyD, heq]
  | enccat t =>
    cases t with
    | none => rfl
    | some m =>
      simp only [applyD1, applyD]
      cases hf : f.iter with
      | error e => rw [hf] at hit; cases hit
      | ok fv =>
        cases hr : r.iter with
        | error e => rw [hf, hr] at hit; cases hit
        | ok vs =>
          rw [hf, hr] at hit
          simp only [eq_of_beq hit, catIdx_isEmpty, catEncodeAt_self]
          cases hasCat vs <;> rfl
  | _ => rfl

theorem stageTable1_eq (st : Stage) (rows : List DRow)
    (h : (match rows with | [] => true | f :: _ => rows.all (sameShape f)) = true) :
    stageTable1 st rows = stageTable0 st rows := by
  cases rows with
  | nil => rfl
  | cons f t => exact collect_mapMRes_first (applyD1_eq st) h

theorem runStages1_eq (stages : List Stage) (rows : List DRow) (h : uniformRun stages rows = true) :
    runStages1 stages rows = runStages0 stages rows := by
  induction stages generalizing rows with
  | nil => rfl
  | cons st rest ih =>
    simp only [uniformRun, Bool.and_eq_true] at h
    have h1 := stageTable1_eq st rows h.1
    simp only [runStages1, runStages0, ← h1]
    cases hs : stageTable1 st rows with
    | error e => rfl
    | ok rows' =>
      have := h.2
      simp only [hs] at this
      exact ih rows' this

theorem runStages0_eq_runRows : runStages0 = runRows applyD := by
  funext stages rows
  induction stages generalizing rows with
  | nil => rfl
  | cons st rest ih =>
    simp only [runStages0, runRows, stageTable0, ih]
    cases collect (mapMRes (applyD st) rows) <;> rfl

end Coba.C13
