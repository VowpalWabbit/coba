import CobaVerif.Model.C13

/-!
C13: facts about the model's containers that know nothing of rows: the load-once cell, results and their sequencing,
pipelines of stages (`pipe`, the recursion all four pipelines share; `Refines`, what a lazy step owes the eager one;
`pipe_refines`, the one induction over the stage list), `compress`, `posOf`, association lists as finite maps, key sets,
header maps, the row predicate of the eager DropRows.
-/

namespace Coba.C13

/-! ## lists and options -/

theorem foldl_forward {α β γ} (f : α → γ) (g : α → β → α) (l : List β) (h : ∀ b ∈ l, ∀ a, f (g a b) = f a) (a : α) :
    f (l.foldl g a) = f a := by
  induction l generalizing a with
  | nil => rfl
  | cons b t ih => rw [List.foldl_cons, ih (fun c hc => h c (List.mem_cons_of_mem _ hc)), h b (List.mem_cons_self ..)]

theorem getElem?_filterMap_of_isSome {α β} (f : α → Option β) (l : List α) (h : ∀ a ∈ l, (f a).isSome) (k : Nat) :
    (l.filterMap f)[k]? = l[k]?.bind f := by
  induction l generalizing k with
  | nil => rfl
  | cons a l ih =>
    obtain ⟨b, hb⟩ := Option.isSome_iff_exists.1 (h a (List.mem_cons_self ..))
    rw [List.filterMap_cons_some hb]
    cases k with
    | zero => simp only [List.getElem?_cons_zero, Option.bind_some, hb]
    | succ k => simp only [List.getElem?_cons_succ]; exact ih (fun c hc => h c (List.mem_cons_of_mem _ hc)) k

theorem length_filterMap_of_isSome {α β} (f : α → Option β) (l : List α) (h : ∀ a ∈ l, (f a).isSome) :
    (l.filterMap f).length = l.length := by
  induction l with
  | nil => rfl
  | cons a l ih =>
    obtain ⟨b, hb⟩ := Option.isSome_iff_exists.1 (h a (List.mem_cons_self ..))
    rw [List.filterMap_cons_some hb, List.length_cons, List.length_cons, ih (fun c hc => h c (List.mem_cons_of_mem _ hc))]

theorem isEmpty_map_filter {α β} (l : List α) (p : α → Bool) (f : α → β) : ((l.filter p).map f).isEmpty = !l.any p := by
  induction l with
  | nil => rfl
  | cons a t ih =>
    rw [List.filter_cons, List.any_cons]
    cases p a with
    | true => rfl
    | false => exact ih

theorem zipWith_range'_map {α β γ} (f : α → β → γ) (g : Nat → α) (xs : List β) (k : Nat) :
    List.zipWith f ((List.range' k xs.length).map g) xs = (xs.zipIdx k).map (fun p => f (g p.2) p.1) := by
  induction xs generalizing k with
  | nil => rfl
  | cons x t ih => simp only [List.length_cons, List.range'_succ, List.map_cons, List.zipWith_cons_cons, ih (k + 1), List.zipIdx_cons]

theorem zipWith_range_map {α β γ} (f : α → β → γ) (g : Nat → α) (xs : List β) :
    List.zipWith f ((List.range xs.length).map g) xs = xs.zipIdx.map (fun p => f (g p.2) p.1) := by
  rw [List.range_eq_range']; exact zipWith_range'_map f g xs 0

/-! ## the load-once cell -/

theorem cell_get_touch {α} (c : Cell α) : c.touch.get = c.get := by
  cases c <;> rfl

theorem mkCell_get {α} (b : Bool) (v : α) : (mkCell b v).get = v := by
  cases b <;> rfl

/-! ## results: `toOption`, `idx`, `sequence`, `mapMRes` -/

theorem toOption_eq_some {α} {x : Res α} {a : α} (h : x.toOption = some a) : x = .ok a := by
  cases x <;> simp [Except.toOption] at h; subst h; rfl

theorem toOption_eq_none {α} {x : Res α} (h : x.toOption = none) : ∃ e, x = .error e := by
  cases x with
  | error e => exact ⟨e, rfl⟩
  | ok a => simp only [Except.toOption, reduceCtorEq] at h

theorem idx_ok_iff {α} (l : List α) (i : Nat) (x : α) : idx l i = .ok x ↔ l[i]? = some x := by
  unfold idx; cases h : l[i]? <;> simp

theorem idx_of_some {α} {l : List α} {i : Nat} {x : α} (h : l[i]? = some x) : idx l i = .ok x := by
  unfold idx; rw [h]

theorem idx_of_none {α} {l : List α} {i : Nat} (h : l[i]? = none) : idx l i = .error .indexError := by
  unfold idx; rw [h]

theorem errOf_idx {α} (l : List α) (i : Nat) : errOf (idx l i) = if i < l.length then none else some .indexError := by
  unfold idx
  by_cases h : i < l.length
  · rw [List.getElem?_eq_getElem h, if_pos h]; rfl
  · rw [List.getElem?_eq_none (Nat.not_lt.1 h), if_neg h]; rfl

theorem sequence_map_ok {α} (xs : List α) : sequence (xs.map (Except.ok (ε := Err))) = .ok xs := by
  induction xs with
  | nil => rfl
  | cons x t ih => simp only [List.map_cons, sequence, ih]

theorem sequence_ok {α} {rs : List (Res α)} {xs : List α} (h : sequence rs = .ok xs) : rs = xs.map .ok := by
  induction rs generalizing xs with
  | nil => simp only [sequence, Except.ok.injEq, List.nil_eq] at h; subst h; rfl
  | cons r t ih =>
    cases r with
    | error e => simp only [sequence, reduceCtorEq] at h
    | ok x =>
      simp only [sequence] at h
      cases ht : sequence t with
      | error e => rw [ht] at h; simp at h
      | ok ys =>
        rw [ht] at h
        simp only [Except.ok.injEq] at h
        subst h
        rw [ih ht]; rfl

theorem sequence_length {α} {rs : List (Res α)} {xs : List α} (h : sequence rs = .ok xs) : xs.length = rs.length := by
  rw [sequence_ok h]; simp only [List.length_map]

theorem zipWith_getElem?_of_map_ok {α β} {f : α → β → Res β} {es : List α} {v cells : List β}
    (h : List.zipWith f es v = cells.map .ok) (i : Nat) (e : α) (x : β) (he : es[i]? = some e) (hx : v[i]? = some x) :
    ∃ c, cells[i]? = some c ∧ f e x = .ok c := by
  have := congrArg (fun l => l[i]?) h
  simp only [List.getElem?_zipWith, he, hx, List.getElem?_map] at this
  cases hc : cells[i]? with
  | none => rw [hc] at this; simp at this
  | some c => rw [hc] at this; simp at this; exact ⟨c, rfl, this⟩

theorem sequence_zipWith_length {α β} {f : α → β → Res β} {es : List α} {v cells : List β}
    (hl : es.length = v.length) (hs : sequence (List.zipWith f es v) = .ok cells) : cells.length = v.length := by
  rw [sequence_length hs, List.length_zipWith, hl, Nat.min_self]

theorem sequence_zipWith_spec {α β} {f : α → β → Res β} {es : List α} {v cells : List β}
    (hl : es.length = v.length) (hs : sequence (List.zipWith f es v) = .ok cells) :
    cells.length = v.length ∧
    ∀ i : Nat, (∀ x, v[i]? = some x → ∃ e c, es[i]? = some e ∧ cells[i]? = some c ∧ f e x = .ok c) ∧
      (v[i]? = none → es[i]? = none ∧ cells[i]? = none) := by
  have hlen := sequence_zipWith_length hl hs
  refine ⟨hlen, fun i => ⟨fun x hx => ?_, fun hx => ?_⟩⟩
  · have hi := (List.getElem?_eq_some_iff.1 hx).1
    obtain ⟨en, he⟩ : ∃ en, es[i]? = some en := ⟨_, List.getElem?_eq_getElem (Nat.lt_of_lt_of_eq hi hl.symm)⟩
    obtain ⟨c, hc, hf⟩ := zipWith_getElem?_of_map_ok (sequence_ok hs) i _ _ he hx
    exact ⟨_, c, he, hc, hf⟩
  · rw [List.getElem?_eq_none_iff] at hx
    exact ⟨List.getElem?_eq_none_iff.2 (by rw [hl]; exact hx), List.getElem?_eq_none_iff.2 (by rw [hlen]; exact hx)⟩

theorem mapMRes_eq_sequence {α β} (f : α → Res β) (l : List α) : mapMRes f l = sequence (l.map f) := by
  induction l with
  | nil => rfl
  | cons a t ih =>
    simp only [mapMRes, List.map_cons, ih]
    cases f a <;> rfl

theorem mapMRes_ok {α β} {f : α → Res β} {l : List α} {ys : List β} (h : mapMRes f l = .ok ys) :
    l.map f = ys.map .ok := sequence_ok (mapMRes_eq_sequence f l ▸ h)

theorem mapMRes_of_map {α β} {f : α → Res β} {l : List α} {ys : List β} (h : l.map f = ys.map .ok) :
    mapMRes f l = .ok ys := by
  rw [mapMRes_eq_sequence, h, sequence_map_ok]

theorem mapMRes_cons_ok {α β} {f : α → Res β} {a : α} {t : List α} {b : β} {bs : List β}
    (h1 : f a = .ok b) (h2 : mapMRes f t = .ok bs) : mapMRes f (a :: t) = .ok (b :: bs) := by
  simp only [mapMRes, h1, h2]

theorem mapMRes_congr {α β} {f g : α → Res β} {l : List α} (h : ∀ a ∈ l, f a = g a) : mapMRes f l = mapMRes g l := by
  rw [mapMRes_eq_sequence, mapMRes_eq_sequence, List.map_congr_left h]

theorem mapMRes_total {α β} {f : α → Res β} {l : List α} (h : ∀ a ∈ l, ∃ b, f a = .ok b) : ∃ ys, mapMRes f l = .ok ys := by
  induction l with
  | nil => exact ⟨[], rfl⟩
  | cons a t ih =>
    obtain ⟨b, hb⟩ := h a (List.mem_cons_self ..)
    obtain ⟨bs, hbs⟩ := ih fun c hc => h c (List.mem_cons_of_mem _ hc)
    exact ⟨b :: bs, mapMRes_cons_ok hb hbs⟩

theorem mapMRes_eq_ok_iff {α β} {f : α → Res β} {g : α → β} {P : α → Prop}
    (hP : ∀ a, P a → f a = .ok (g a)) (hN : ∀ a b, f a = .ok b → P a) {l : List α} {ys : List β} :
    mapMRes f l = .ok ys ↔ (∀ a ∈ l, P a) ∧ ys = l.map g := by
  constructor
  · intro h
    have hm := mapMRes_ok h
    have hall : ∀ a ∈ l, P a := fun a ha => by
      obtain ⟨b, _, hb⟩ := List.mem_map.1 (hm ▸ List.mem_map_of_mem (f := f) ha)
      exact hN a b hb.symm
    refine ⟨hall, ?_⟩
    rw [List.map_congr_left fun a ha => hP a (hall a ha)] at hm
    exact ((List.map_inj_right fun _ _ => Except.ok.inj).1 ((List.map_map ..).trans hm)).symm
  · rintro ⟨hall, rfl⟩
    exact mapMRes_of_map (by rw [List.map_map]; exact List.map_congr_left fun a ha => hP a (hall a ha))

theorem mapMRes_append {α β} (f : α → Res β) (a b : List α) :
    mapMRes f (a ++ b) = match mapMRes f a with
      | .error e => .error e
      | .ok xs => match mapMRes f b with | .error e => .error e | .ok ys => .ok (xs ++ ys) := by
  induction a with
  | nil => simp only [List.nil_append, mapMRes]; cases mapMRes f b <;> rfl
  | cons x t ih =>
    simp only [List.cons_append, mapMRes, ih]
    cases f x with
    | error e => rfl
    | ok y =>
      cases mapMRes f t with
      | error e => rfl
      | ok xs => cases mapMRes f b <;> rfl

/-! ## pipelines of stages -/

/-- the recursion shared by `buildD`, `buildS`, `eagerD`, `eagerS`; `.ok none`: a stage dropped the row -/
def pipe {σ α} (step : σ → α → Res (Option α)) : List σ → α → Res (Option α)
  | [], a => .ok (some a)
  | s :: rest, a =>
    match step s a with
    | .error e => .error e
    | .ok none => .ok none
    | .ok (some a') => pipe step rest a'

theorem eq_pipe {σ α} {step : σ → α → Res (Option α)} {f : List σ → α → Res (Option α)} (h0 : ∀ a, f [] a = .ok (some a))
    (h1 : ∀ s rest a, f (s :: rest) a =
      match step s a with
      | .error e => .error e
      | .ok none => .ok none
      | .ok (some a') => f rest a') : f = pipe step := by
  funext stages a
  induction stages generalizing a with
  | nil => exact h0 a
  | cons s rest ih =>
    rw [h1, pipe]
    cases step s a with
    | error e => rfl
    | ok o => cases o with
      | none => rfl
      | some a' => exact ih a'

theorem pipe_append {σ α} (step : σ → α → Res (Option α)) (s1 s2 : List σ) (a : α) :
    pipe step (s1 ++ s2) a = (match pipe step s1 a with
      | .ok (some a1) => pipe step s2 a1
      | .ok none => .ok none
      | .error er => .error er) := by
  induction s1 generalizing a with
  | nil => rfl
  | cons st rest ih =>
    simp only [List.cons_append, pipe]
    cases step st a with
    | error er => rfl
    | ok o => cases o with
      | none => rfl
      | some a1 => exact ih a1

theorem pipe_singleton {σ α} (step : σ → α → Res (Option α)) (s : σ) (a : α) : pipe step [s] a = step s a := by
  simp only [pipe]
  cases step s a with
  | error er => rfl
  | ok o => cases o <;> rfl

theorem pipe_snoc_some {σ α} {step : σ → α → Res (Option α)} {ss : List σ} {s : σ} {a b : α} :
    pipe step (ss ++ [s]) a = .ok (some b) ↔ ∃ a1, pipe step ss a = .ok (some a1) ∧ step s a1 = .ok (some b) := by
  rw [pipe_append]
  constructor
  · intro h
    cases h1 : pipe step ss a with
    | error er => rw [h1] at h; cases h
    | ok o =>
      cases o with
      | none => rw [h1] at h; cases h
      | some a1 => rw [h1] at h; exact ⟨a1, rfl, (pipe_singleton step s a1).symm.trans h⟩
  · rintro ⟨a1, h1, h2⟩
    rw [h1]
    exact (pipe_singleton step s a1).trans h2

/-- what a lazy step `y` owes the eager step `x`; nothing where the eager step is undefined -/
def Refines {ρ ε} (R : ρ → ε → Prop) (y : Res (Option ρ)) : Res (Option ε) → Prop
  | .ok (some e') => ∃ r', y = .ok (some r') ∧ R r' e'
  | .ok none => y = .ok none
  | .error _ => True

theorem Refines.error {ρ ε} {R : ρ → ε → Prop} {y : Res (Option ρ)} {er : Err} : Refines R y (.error er) :=
  trivial

theorem Refines.ok_none {ρ ε} {R : ρ → ε → Prop} : Refines R (.ok none) (.ok none) :=
  rfl

theorem Refines.ok_some {ρ ε} {R : ρ → ε → Prop} {y : Res (Option ρ)} {r' : ρ} {e' : ε} (hy : y = .ok (some r')) (h : R r' e') :
    Refines R y (.ok (some e')) :=
  ⟨r', hy, h⟩

theorem Refines.of_some {ρ ε} {R : ρ → ε → Prop} {y : Res (Option ρ)} {x : Res (Option ε)} (h : Refines R y x) {e' : ε}
    (hx : x = .ok (some e')) : ∃ r', y = .ok (some r') ∧ R r' e' := by
  rw [hx] at h; exact h

theorem Refines.of_none {ρ ε} {R : ρ → ε → Prop} {y : Res (Option ρ)} {x : Res (Option ε)} (h : Refines R y x)
    (hx : x = .ok none) : y = .ok none := by
  rw [hx] at h; exact h

theorem Refines.mono {ρ ε} {R R' : ρ → ε → Prop} {y : Res (Option ρ)} {x : Res (Option ε)} (h : Refines R y x)
    (hR : ∀ r' e', y = .ok (some r') → R r' e' → R' r' e') : Refines R' y x := by
  cases x with
  | error er => exact .error
  | ok o =>
    cases o with
    | none => rw [h.of_none rfl]; exact .ok_none
    | some e' => obtain ⟨r', hr', hr⟩ := h.of_some rfl; exact .ok_some hr' (hR r' e' hr' hr)

/-- the relation is indexed by the stages still to come, because `leakSafe` is; `s2`: those that come after the pipeline `s1` -/
theorem pipe_refines {σ ρ ε} {stepL : σ → ρ → Res (Option ρ)} {stepE : σ → ε → Res (Option ε)} (R : List σ → ρ → ε → Prop)
    (hstep : ∀ s rest r e, R (s :: rest) r e → Refines (R rest) (stepL s r) (stepE s e))
    (s1 s2 : List σ) (r : ρ) (e : ε) (h : R (s1 ++ s2) r e) : Refines (R s2) (pipe stepL s1 r) (pipe stepE s1 e) := by
  induction s1 generalizing r e with
  | nil => exact .ok_some rfl h
  | cons st rest ih =>
    have hs := hstep st (rest ++ s2) r e h
    simp only [pipe]
    cases hx : stepE st e with
    | error er => exact .error
    | ok o =>
      cases o with
      | none => rw [hs.of_none hx]; exact .ok_none
      | some e1 =>
        obtain ⟨r1, hr1, hR⟩ := hs.of_some hx
        rw [hr1]
        exact ih r1 e1 hR

/-- `f`, `g`: the two pipelines under their own names, `buildD` and `eagerD`, `buildS` and `eagerS` -/
theorem pipe_refines_snoc {σ ρ ε} {stepL : σ → ρ → Res (Option ρ)} {stepE : σ → ε → Res (Option ε)}
    {f : List σ → ρ → Res (Option ρ)} {g : List σ → ε → Res (Option ε)} (hf : f = pipe stepL) (hg : g = pipe stepE)
    {R : ρ → ε → Prop} {ss : List σ} {s : σ} {r : ρ} {e e' : ε} (h : Refines R (f ss r) (g ss e))
    (he : g (ss ++ [s]) e = .ok (some e')) :
    ∃ r1 e1, R r1 e1 ∧ stepE s e1 = .ok (some e') ∧ ∀ r', stepL s r1 = .ok (some r') → f (ss ++ [s]) r = .ok (some r') := by
  subst hf hg
  obtain ⟨e1, h1, h2⟩ := pipe_snoc_some.1 he
  obtain ⟨r1, hr1, hR⟩ := h.of_some h1
  exact ⟨r1, e1, hR, h2, fun r' hr' => pipe_snoc_some.2 ⟨r1, hr1, hr'⟩⟩

/-- the recursion shared by `runStages0` and `runStagesS0` -/
def runRows {σ α} (step : σ → α → Res (Option α)) : List σ → List α → Res (List α)
  | [], rows => .ok rows
  | s :: rest, rows =>
    match collect (mapMRes (step s) rows) with
    | .ok rows' => runRows step rest rows'
    | .error e => .error e

theorem mapMRes_pipe_cons {σ α} (step : σ → α → Res (Option α)) (st : σ) (rest : List σ) (rows : List α) (os1 os2 : List (Option α))
    (h1 : mapMRes (step st) rows = .ok os1) (h2 : mapMRes (pipe step rest) (os1.filterMap id) = .ok os2) :
    ∃ os, mapMRes (pipe step (st :: rest)) rows = .ok os ∧ os.filterMap id = os2.filterMap id := by
  induction rows generalizing os1 os2 with
  | nil =>
    cases h1; cases h2; exact ⟨[], rfl, rfl⟩
  | cons r t iht =>
    simp only [mapMRes] at h1
    cases ha : step st r with
    | error e => rw [ha] at h1; cases h1
    | ok o =>
      cases ht : mapMRes (step st) t with
      | error e => rw [ha, ht] at h1; cases h1
      | ok ot =>
        rw [ha, ht] at h1; cases h1
        cases o with
        | none =>
          obtain ⟨os, hos, ho⟩ := iht ot os2 ht h2
          exact ⟨none :: os, mapMRes_cons_ok (by simp only [pipe, ha]) hos, ho⟩
        | some r1 =>
          simp only [List.filterMap_cons, id, mapMRes] at h2
          cases hb : pipe step rest r1 with
          | error e => rw [hb] at h2; cases h2
          | ok o1 =>
            cases ht2 : mapMRes (pipe step rest) (ot.filterMap id) with
            | error e => rw [hb, ht2] at h2; cases h2
            | ok o2 =>
              rw [hb, ht2] at h2; cases h2
              obtain ⟨os, hos, ho⟩ := iht ot o2 ht ht2
              refine ⟨o1 :: os, mapMRes_cons_ok (by simp only [pipe, ha, hb]) hos, ?_⟩
              cases o1 <;> simp only [List.filterMap_cons, id, ho]

theorem runRows_rows {σ α} (step : σ → α → Res (Option α)) (stages : List σ) (rows out : List α)
    (h : runRows step stages rows = .ok out) :
    ∃ os, mapMRes (pipe step stages) rows = .ok os ∧ out = os.filterMap id := by
  induction stages generalizing rows out with
  | nil =>
    cases h
    exact ⟨rows.map some, mapMRes_of_map (by simp only [List.map_map]; rfl), by simp only [List.filterMap_map, Function.id_comp, List.filterMap_some]⟩
  | cons st rest ih =>
    simp only [runRows] at h
    cases hs : mapMRes (step st) rows with
    | error e => rw [hs] at h; cases h
    | ok os1 =>
      rw [hs] at h
      obtain ⟨os2, hos2, hout⟩ := ih _ out h
      obtain ⟨os, hos, ho⟩ := mapMRes_pipe_cons step st rest rows os1 os2 hs hos2
      exact ⟨os, hos, by rw [hout, ho]⟩

theorem collect_mapMRes_first {α} {step1 : α → α → Res (Option α)} {step : α → Res (Option α)} {same : α → α → Bool}
    (hstep : ∀ f r, same f r = true → step1 f r = step r) {f : α} {t : List α} (h : (f :: t).all (same f) = true) :
    collect (mapMRes (step1 f) (f :: t)) = collect (mapMRes step (f :: t)) :=
  congrArg collect (mapMRes_congr fun r hr => hstep f r (List.all_eq_true.1 h r hr))

/-! ## `compress`, `posOf` -/

theorem compress_map_self {α} (l : List α) (p : α → Bool) : compress l (l.map p) = l.filter p := by
  induction l with
  | nil => rfl
  | cons x t ih => simp only [List.map_cons, compress, ih, List.filter_cons]

theorem compress_sublist {α} (l : List α) (bs : List Bool) : (compress l bs).Sublist l := by
  induction l generalizing bs with
  | nil => cases bs <;> simp [compress]
  | cons x t ih =>
    cases bs with
    | nil => simp only [compress, List.nil_sublist, List.Sublist.cons]
    | cons b bt =>
      simp only [compress]
      split
      · exact (ih bt).cons_cons x
      · exact (ih bt).cons x

theorem compress_range_map {α} (xs : List α) (p : Nat → Bool) :
    compress xs ((List.range xs.length).map p) = ((List.range xs.length).filter p).filterMap (fun i => xs[i]?) := by
  induction xs generalizing p with
  | nil => rfl
  | cons x t ih =>
    rw [List.length_cons, List.range_succ_eq_map, List.map_cons, List.map_map, List.filter_cons, List.filter_map]
    cases p 0 with
    | true =>
      simp only [compress, if_true, List.filterMap_cons, List.getElem?_cons_zero, List.filterMap_map, ih (p ∘ Nat.succ)]
      rfl
    | false =>
      simp only [compress, Bool.false_eq_true, if_false, List.filterMap_map, ih (p ∘ Nat.succ)]
      rfl

theorem posOf_eq_idxOf? {α} [DecidableEq α] (l : List α) (a : α) : posOf l a = l.idxOf? a := by
  induction l with
  | nil => rfl
  | cons x t ih =>
    rw [posOf, List.idxOf?_cons, ih]
    by_cases h : x = a
    · rw [if_pos h, if_pos (beq_iff_eq.2 h)]
    · rw [if_neg h, if_neg fun hb => h (beq_iff_eq.1 hb)]

theorem posOf_lt {α} [DecidableEq α] {l : List α} {a : α} {k : Nat} (h : posOf l a = some k) : k < l.length := by
  rw [posOf_eq_idxOf?, List.idxOf?_eq_some_iff] at h
  exact h.1

theorem posOf_some_getElem? {α} [DecidableEq α] {l : List α} {a : α} {k : Nat} (h : posOf l a = some k) : l[k]? = some a := by
  rw [posOf_eq_idxOf?, List.idxOf?_eq_some_iff] at h
  obtain ⟨hk, hka, _⟩ := h
  rw [List.getElem?_eq_getElem hk, hka]

theorem posOf_of_nodup {α} [DecidableEq α] {l : List α} {a : α} {k : Nat} (hn : l.Nodup) (h : l[k]? = some a) : posOf l a = some k := by
  obtain ⟨hk, hka⟩ := List.getElem?_eq_some_iff.1 h
  rw [posOf_eq_idxOf?, List.idxOf?_eq_some_iff]
  exact ⟨hk, hka, fun j hj hja => Nat.ne_of_lt hj ((List.getElem_inj hn).1 (hja.trans hka.symm))⟩

theorem posOf_none_of_not_mem {α} [DecidableEq α] {l : List α} {a : α} (h : a ∉ l) : posOf l a = none := by
  rw [posOf_eq_idxOf?, List.idxOf?_eq_none_iff]; exact h

theorem posOf_append_of_not_mem {α} [DecidableEq α] {pre l : List α} {a : α} (h : a ∉ pre) :
    posOf (pre ++ l) a = (posOf l a).map (· + pre.length) := by
  simp only [posOf_eq_idxOf?, List.idxOf?, List.findIdx?_append]
  rw [show List.findIdx? (· == a) pre = none from List.idxOf?_eq_none_iff.2 h]; rfl

theorem dget_zipIdx (ns : List String) (k : Nat) (s : String) :
    dget (ns.zipIdx k) s = (posOf ns s).map (· + k) := by
  induction ns generalizing k with
  | nil => rfl
  | cons x t ih =>
    simp only [List.zipIdx_cons, dget, posOf]
    split
    · simp only [Option.map_some, Nat.zero_add]
    · rw [ih (k + 1)]; cases posOf t s <;> simp; omega

theorem dget_zipNames (ns : List String) (s : String) : dget (zipNames ns) s = posOf ns s := by
  simp only [zipNames, dget_zipIdx, Nat.add_zero, Option.map_id_fun', id_eq]

/-! ## association lists as finite maps -/

section fm
variable {κ ν : Type} [DecidableEq κ]

theorem dget_eq_find? (d : List (κ × ν)) (k : κ) : dget d k = (d.find? (fun p => p.1 == k)).map (·.2) := by
  induction d with
  | nil => rfl
  | cons p t ih =>
    rw [dget, List.find?_cons, ih]
    by_cases h : p.1 = k
    · rw [if_pos h, beq_iff_eq.2 h]; rfl
    · rw [if_neg h, beq_false_of_ne h]

theorem dget_append (a b : List (κ × ν)) (k : κ) :
    dget (a ++ b) k = match dget a k with | some v => some v | none => dget b k := by
  simp only [dget_eq_find?, List.find?_append]
  cases a.find? (fun p => p.1 == k) <;> rfl

theorem dget_isSome_iff_mem (d : List (κ × ν)) (k : κ) : (dget d k).isSome ↔ k ∈ d.map (·.1) := by
  simp only [dget_eq_find?, Option.isSome_map, List.find?_isSome, beq_iff_eq, List.mem_map]

theorem dget_none_iff_not_mem (d : List (κ × ν)) (k : κ) : dget d k = none ↔ k ∉ d.map (·.1) := by
  rw [← dget_isSome_iff_mem]; cases dget d k <;> simp

theorem dget_some_mem {d : List (κ × ν)} {k : κ} {v : ν} (h : dget d k = some v) : (k, v) ∈ d := by
  rw [dget_eq_find?, Option.map_eq_some_iff] at h
  obtain ⟨p, hp, rfl⟩ := h
  exact beq_iff_eq.1 (List.find?_some (p := fun p : κ × ν => p.1 == k) hp) ▸ List.mem_of_find?_eq_some hp

theorem dget_of_mem_nodup {d : List (κ × ν)} {k : κ} {v : ν} (hn : (d.map (·.1)).Nodup) (h : (k, v) ∈ d) : dget d k = some v := by
  induction d with
  | nil => simp at h
  | cons p t ih =>
    obtain ⟨x, y⟩ := p
    simp only [List.map_cons, List.nodup_cons] at hn
    simp only [List.mem_cons, Prod.mk.injEq] at h
    simp only [dget]
    rcases h with ⟨rfl, rfl⟩ | h
    · simp only [↓reduceIte]
    · have : x ≠ k := by
        intro hx; subst hx
        exact hn.1 (List.mem_map.2 ⟨(x, v), h, rfl⟩)
      simp only [this, ↓reduceIte, ih hn.2 h]

theorem dget_filter_key (d : List (κ × ν)) (q : κ → Bool) (k : κ) :
    dget (d.filter (fun p => q p.1)) k = if q k then dget d k else none := by
  induction d with
  | nil => simp only [List.filter_nil, dget, ite_self]
  | cons p t ih =>
    obtain ⟨x, y⟩ := p
    simp only [List.filter_cons]
    by_cases hq : q x = true
    · simp only [hq, if_true, dget]
      by_cases hx : x = k
      · subst hx; simp only [↓reduceIte, hq]
      · simp only [hx, ↓reduceIte, ih]
    · simp only [hq, dget]
      by_cases hx : x = k
      · subst hx; simp only [Bool.false_eq_true, ↓reduceIte, ih, hq]
      · simp only [Bool.false_eq_true, ↓reduceIte, ih, hx]

theorem dset_of_not_mem (d : List (κ × ν)) (k : κ) (v : ν) (h : k ∉ d.map (·.1)) : dset d k v = d ++ [(k, v)] := by
  induction d with
  | nil => rfl
  | cons q u ih =>
    rw [List.map_cons, List.mem_cons, not_or] at h
    simp only [dset, if_neg (Ne.symm h.1), ih h.2, List.cons_append]

theorem dget_dset_ne (d : List (κ × ν)) (k k' : κ) (v : ν) (h : k' ≠ k) : dget (dset d k v) k' = dget d k' := by
  induction d with
  | nil => exact if_neg (Ne.symm h)
  | cons p t ih =>
    obtain ⟨a, b⟩ := p
    by_cases hak : a = k
    · have hne : a ≠ k' := fun e => h (e.symm.trans hak)
      simp only [dset, if_pos hak, dget, if_neg hne]
    · simp only [dset, if_neg hak, dget, ih]

theorem keys_dset (d : List (κ × ν)) (k : κ) (v : ν) :
    (dset d k v).map (·.1) = if k ∈ d.map (·.1) then d.map (·.1) else d.map (·.1) ++ [k] := by
  by_cases h : k ∈ d.map (·.1)
  · rw [if_pos h]
    induction d with
    | nil => cases h
    | cons p t ih =>
      by_cases hp : p.1 = k
      · simp only [dset, if_pos hp, List.map_cons]
      · simp only [dset, if_neg hp, List.map_cons, ih ((List.mem_cons.1 h).resolve_left (Ne.symm hp))]
  · rw [if_neg h, dset_of_not_mem d k v h, List.map_append]; rfl

theorem nodup_dset {d : List (κ × ν)} (k : κ) (v : ν) (h : (d.map (·.1)).Nodup) : ((dset d k v).map (·.1)).Nodup := by
  rw [keys_dset]
  split
  · exact h
  · rename_i hk
    refine List.nodup_append.2 ⟨h, List.nodup_cons.2 ⟨List.not_mem_nil, List.nodup_nil⟩, fun a ha b hb hab => hk ?_⟩
    rw [← List.mem_singleton.1 hb, ← hab]; exact ha

theorem foldl_dset_append (acc its : List (κ × ν))
    (h : (its.map (·.1)).Nodup) (hd : ∀ k ∈ its.map (·.1), k ∉ acc.map (·.1)) :
    its.foldl (fun d p => dset d p.1 p.2) acc = acc ++ its := by
  induction its generalizing acc with
  | nil => exact (List.append_nil _).symm
  | cons p t ih =>
    rw [List.map_cons, List.nodup_cons] at h
    rw [List.foldl_cons, dset_of_not_mem acc p.1 p.2 (hd _ (List.mem_cons_self ..)), ih _ h.2, List.append_assoc]; rfl
    intro k hk
    rw [List.map_append, List.mem_append, not_or]
    exact ⟨hd k (List.mem_cons_of_mem _ hk), fun hkx => h.1 ((show k = p.1 from List.mem_singleton.1 hkx) ▸ hk)⟩

end fm

theorem foldl_dset_swap {κ ν : Type} [DecidableEq ν] (l : List (κ × ν)) (h : (l.map (·.2)).Nodup) :
    l.foldl (fun d p => dset d p.2 p.1) [] = l.map (fun p => (p.2, p.1)) := by
  have := foldl_dset_append ([] : List (ν × κ)) (l.map (fun p => (p.2, p.1)))
    (by simpa only [List.map_map, Function.comp_def] using h) (fun _ _ => List.not_mem_nil)
  rwa [List.foldl_map, List.nil_append] at this

theorem nodup_filter_keys {d : Dict} (q : Key → Bool) (hn : (d.map (·.1)).Nodup) :
    ((d.filter (fun p => q p.1)).map (·.1)).Nodup := by
  have : ((d.filter (fun p => q p.1)).map (·.1)).Sublist (d.map (·.1)) := (List.filter_sublist).map _
  exact this.nodup hn

theorem nodup_ddel {d : Dict} (k : Key) (h : (d.map (·.1)).Nodup) : ((ddel d k).map (·.1)).Nodup :=
  nodup_filter_keys (fun x => decide (x ≠ k)) h

theorem dget_ddel_ne (d : Dict) (k k' : Key) (h : k' ≠ k) : dget (ddel d k) k' = dget d k' :=
  (dget_filter_key d (fun x => decide (x ≠ k)) k').trans (if_pos (decide_eq_true h))

theorem nodup_flatSet (d : Dict) (k : Key) (hs : List Int) (h : (d.map (·.1)).Nodup) : ((flatSet d k hs).map (·.1)).Nodup := by
  simp only [flatSet]
  generalize (hs.zipIdx.drop 1) = l
  induction l generalizing d with
  | nil => exact h
  | cons p t ih => exact ih _ (nodup_dset _ _ h)

theorem dget_flatSet_ne (d : Dict) (k k' : Key) (hs : List Int) (h : k' ∉ genNames k hs) :
    dget (flatSet d k hs) k' = dget d k' := by
  simp only [flatSet, genNames] at *
  generalize (hs.zipIdx.drop 1) = l at h
  induction l generalizing d with
  | nil => rfl
  | cons p t ih =>
    simp only [List.map_cons, List.mem_cons, not_or] at h
    simp only [List.foldl_cons]
    rw [ih _ h.2, dget_dset_ne _ _ _ _ h.1]

/-! ## key sets: `distinct`, `dedup`, `kdiff`, `kunion` -/

theorem distinct_iff {α} [DecidableEq α] (l : List α) : distinct l = true ↔ l.Nodup := by simp only [distinct, decide_eq_true_eq]

theorem mem_dedup {α} [DecidableEq α] (l : List α) (a : α) : a ∈ dedup l ↔ a ∈ l := by
  induction l with
  | nil => simp only [dedup, List.not_mem_nil]
  | cons x t ih =>
    simp only [dedup]
    split
    · rename_i hx
      rw [ih]; constructor
      · exact fun h => List.mem_cons_of_mem _ h
      · intro h; rcases List.mem_cons.1 h with rfl | h
        · exact hx
        · exact h
    · simp only [List.mem_cons, ih]

theorem nodup_dedup {α} [DecidableEq α] (l : List α) : (dedup l).Nodup := by
  induction l with
  | nil => simp only [dedup, List.nodup_nil]
  | cons x t ih =>
    simp only [dedup]
    split
    · exact ih
    · rename_i hx
      exact List.nodup_cons.2 ⟨by rwa [mem_dedup], ih⟩

theorem mem_kdiff (b a : List Key) (k : Key) : k ∈ kdiff b a ↔ k ∈ b ∧ k ∉ a := by
  simp only [kdiff, List.contains_eq_mem, mem_dedup, List.mem_filter, Bool.not_eq_eq_eq_not, Bool.not_true, decide_eq_false_iff_not]

theorem nodup_kdiff (b a : List Key) : (kdiff b a).Nodup := nodup_dedup _

theorem kdiff_nil (a : List Key) : kdiff [] a = [] := rfl

theorem kunion_nil (a : List Key) : kunion a [] = a := by simp only [kunion, kdiff_nil, List.append_nil]

theorem mem_kunion (a b : List Key) (k : Key) : k ∈ kunion a b ↔ k ∈ a ∨ k ∈ b := by
  simp only [kunion, List.mem_append, mem_kdiff]
  by_cases h : k ∈ a <;> simp [h]

theorem nodup_kunion (a b : List Key) (ha : a.Nodup) : (kunion a b).Nodup := by
  simp only [kunion]
  rw [List.nodup_append]
  refine ⟨ha, nodup_kdiff _ _, ?_⟩
  intro x hx y hy hxy
  subst hxy
  exact ((mem_kdiff _ _ _).1 hy).2 hx

theorem kdiff_congr (b a a' : List Key) (h : ∀ k, k ∈ a ↔ k ∈ a') : kdiff b a = kdiff b a' := by
  simp only [kdiff]
  congr 1
  apply List.filter_congr
  intro k _
  have := h k
  by_cases hk : k ∈ a
  · simp only [List.contains_eq_mem, hk, decide_true, Bool.not_true, this.1 hk]
  · have hk' : k ∉ a' := fun h' => hk (this.2 h')
    simp only [List.contains_eq_mem, hk, decide_false, Bool.not_false, hk']

theorem kunion_perm {a a' : List Key} (h : a.Perm a') (b : List Key) : (kunion a b).Perm (kunion a' b) := by
  unfold kunion
  rw [kdiff_congr b a a' fun _ => h.mem_iff]
  exact h.append_right _

/-! ## header maps (name → column, any order, possibly partial) -/

theorem hdrWF_iff (h : Hdr) (n : Nat) :
    hdrWF h n = true ↔ (h.map (·.1)).Nodup ∧ (h.map (·.2)).Nodup ∧ ∀ p ∈ h, p.2 < n := by
  simp only [hdrWF, Bool.and_eq_true, decide_eq_true_eq, List.all_eq_true, Prod.forall, and_assoc]

theorem dget_swap_nameOf (h : Hdr) (i : Nat) : dget (h.map (fun p => (p.2, p.1))) i = nameOf h i := by
  rw [dget_eq_find?, List.find?_map, Option.map_map]; rfl

theorem posName_eq_nameOf (h : Hdr) (hn : (h.map (·.2)).Nodup) (i : Nat) : posName h i = nameOf h i := by
  rw [posName, posNames, foldl_dset_swap h hn, dget_swap_nameOf]

theorem extHdr_names_sublist (idxs : List Nat) (h : Hdr) : ((extHdr idxs h).map (·.1)).Sublist (h.map (·.1)) := by
  induction h with
  | nil => simp only [extHdr, List.filterMap_nil, List.map_nil, List.Sublist.refl]
  | cons p t ih =>
    simp only [extHdr, List.filterMap_cons] at ih ⊢
    cases hp : posOf idxs p.2 with
    | none => simp only [Option.map_none]; exact ih.cons _
    | some j => simp only [Option.map_some, List.map_cons]; exact ih.cons_cons _

theorem mem_extHdr {idxs : List Nat} {h : Hdr} {q : String × Nat} (hq : q ∈ extHdr idxs h) :
    ∃ b, (q.1, b) ∈ h ∧ posOf idxs b = some q.2 := by
  simp only [extHdr, List.mem_filterMap] at hq
  obtain ⟨p, hp, hpe⟩ := hq
  cases hpo : posOf idxs p.2 with
  | none => simp only [hpo, Option.map_none, reduceCtorEq] at hpe
  | some j => simp only [hpo, Option.map_some, Option.some.injEq] at hpe; subst hpe; exact ⟨p.2, hp, hpo⟩

theorem dget_extHdr (idxs : List Nat) (h : Hdr) (hn : (h.map (·.1)).Nodup) (s : String) :
    dget (extHdr idxs h) s = (dget h s).bind (posOf idxs) := by
  induction h with
  | nil => rfl
  | cons p t ih =>
    obtain ⟨a, b⟩ := p
    simp only [List.map_cons, List.nodup_cons] at hn
    have ih' := ih hn.2
    simp only [extHdr, List.filterMap_cons] at ih' ⊢
    by_cases ha : a = s
    · subst ha
      simp only [dget, if_true, Option.bind]
      cases hp : posOf idxs b with
      | some j => simp only [Option.map_some, dget, ↓reduceIte]
      | none =>
        simp only [Option.map_none]
        rw [dget_none_iff_not_mem]
        intro hm
        exact hn.1 ((extHdr_names_sublist idxs t).subset hm)
    · simp only [dget, ha, if_false]
      cases hp : posOf idxs b with
      | some j => simp only [Option.map_some, dget, ha, if_false]; exact ih'
      | none => simp only [Option.map_none]; exact ih'

theorem extHdr_wf (idxs : List Nat) (h : Hdr) (hn : (h.map (·.1)).Nodup) (hp : (h.map (·.2)).Nodup) :
    hdrWF (extHdr idxs h) idxs.length = true := by
  rw [hdrWF_iff]
  refine ⟨(extHdr_names_sublist idxs h).nodup hn, ?_, ?_⟩
  · induction h with
    | nil => simp only [extHdr, List.filterMap_nil, List.map_nil, List.nodup_nil]
    | cons p t ih =>
      simp only [List.map_cons, List.nodup_cons] at hn hp
      have iht := ih hn.2 hp.2
      simp only [extHdr, List.filterMap_cons] at iht ⊢
      cases hpo : posOf idxs p.2 with
      | none => simpa using iht
      | some j =>
        simp only [Option.map_some, List.map_cons, List.nodup_cons]
        refine ⟨?_, iht⟩
        intro hm
        obtain ⟨q, hq, hqe⟩ := List.mem_map.1 hm
        obtain ⟨b, hb, hbo⟩ := mem_extHdr (idxs := idxs) (h := t) hq
        rw [hqe] at hbo
        have e1 := posOf_some_getElem? hpo
        have e2 := posOf_some_getElem? hbo
        rw [e1] at e2
        have : p.2 = b := Option.some.inj e2
        exact hp.1 (List.mem_map.2 ⟨(q.1, b), hb, this.symm⟩)
  · intro q hq
    obtain ⟨b, _, hbo⟩ := mem_extHdr hq
    exact posOf_lt hbo

/-! ## the row predicate of the eager DropRows -/

theorem evalPredE_ok {pred : Option Pred} {miss : Option Bool} {get : Key → Option Val} {b : Bool}
    (hp : evalPredE pred miss get = .ok b) :
    pred = none ∧ b = true ∨ (∃ m, pred = some .missing ∧ miss = some m ∧ b = !m) ∨
      ∃ k v x, pred = some (.cellEq k v) ∧ get k = some x ∧ b = !(pyEq x v) := by
  cases pred with
  | none => cases hp; exact Or.inl ⟨rfl, rfl⟩
  | some p =>
    cases p with
    | missing =>
      cases miss with
      | none => cases hp
      | some m => cases hp; exact Or.inr (Or.inl ⟨m, rfl, rfl, rfl⟩)
    | cellEq k v =>
      simp only [evalPredE] at hp
      cases hg : get k with
      | none => rw [hg] at hp; cases hp
      | some x => rw [hg] at hp; cases hp; exact Or.inr (Or.inr ⟨k, v, x, rfl, hg, rfl⟩)

end Coba.C13
