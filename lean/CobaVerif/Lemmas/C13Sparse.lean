import CobaVerif.Lemmas.C13Maps

/-!
C13, sparse rows: the refinement relation `RefS` between a lazy dict row and an eager dict, one lemma per view class,
per stage, for the pipeline (under `leakSafe`) and the base rows; observations; the concrete pipelines the property
theorems name; the first dict of a table.
-/

namespace Coba.C13

/-! ## the refinement relation -/

/-- `d[k]` of a plain dict: an absent key raises KeyError -/
def optRes (o : Option Val) : Res Val :=
  match o with
  | some v => .ok v
  | none => .error .keyError

/-- well-formed eager sparse row: a dict (distinct keys); the label entry exists -/
structure WFS (e : EagerS) : Prop where
  nodup : (e.d.map (·.1)).Nodup
  lab : ∀ k t, e.lab = some (k, t) → (dget e.d k).isSome

/-- the lazy sparse row `r` is indistinguishable from the eager dict `e.d` (label part apart).
`r.leak` are the hidden raw keys a header-mapped LazySparse base additionally answers to: by-key access is
exact for every other key.  `items()` is the eager dict in the model's order (the code's order of the
"not sparse" extras is a set order; observations compare dicts as finite maps).
`leakPos`, `leakInv`, `leakAll`: so the key LabelRows translates a label to is never hidden (`labelKey_not_leak`). -/
structure RefS (r : SRow) (e : EagerS) : Prop where
  get : ∀ k, k ∉ r.leak → r.get k = optRes (dget e.d k)
  items : r.items = .ok e.d
  keys : ∃ ks, r.keys = .ok ks ∧ ks.Nodup ∧ ∀ k, k ∈ ks ↔ (dget e.d k).isSome
  len : r.len = .ok e.d.length
  miss : r.missing.toOption = e.miss
  inv : r.invOf = e.inv
  leakPos : ∀ k ∈ r.leak, ∃ i, k = .pos i
  leakInv : ∀ k ∈ r.leak, ∃ n, dget e.inv k = some (.name n)
  leakAll : ∀ k, (dget e.inv k).isSome → r.leak ≠ [] → k ∈ r.leak

/-- the form in which `RefS.keys` and `RefS.len` pass through the views; `keys_len_of_perm` leads back -/
theorem RefS.keysPerm {r : SRow} {e : EagerS} (h : RefS r e) (hw : WFS e) : ∃ ks, r.keys = .ok ks ∧ ks.Perm (e.d.map (·.1)) := by
  obtain ⟨ks, hks, hknd, hkm⟩ := h.keys
  exact ⟨ks, hks, (List.perm_ext_iff_of_nodup hknd hw.nodup).2 fun k => by rw [hkm k, dget_isSome_iff_mem]⟩

theorem keys_len_of_perm {r : SRow} {ks ks' : List Key} {d : Dict} (hk : r.keys = .ok ks) (hl : r.len = .ok ks.length)
    (hn : (d.map (·.1)).Nodup) (hd : d.map (·.1) = ks') (hp : ks.Perm ks') :
    (∃ ks, r.keys = .ok ks ∧ ks.Nodup ∧ ∀ k, k ∈ ks ↔ (dget d k).isSome) ∧ r.len = .ok d.length := by
  subst hd
  exact ⟨⟨ks, hk, hp.nodup_iff.2 hn, fun k => by rw [hp.mem_iff, dget_isSome_iff_mem]⟩, by rw [hl, hp.length_eq, List.length_map]⟩

theorem toDict_of_nodup (its : Dict) (h : (its.map (·.1)).Nodup) : SRow.toDict its = its := by
  have := foldl_dset_append ([] : Dict) its h (by simp)
  simpa only [SRow.toDict, List.nil_append] using this

theorem refS_plain (d : Dict) (hn : (d.map (·.1)).Nodup) (lab) : RefS (.plain d) ⟨d, lab, none, []⟩ where
  get := by intro k _; simp only [SRow.get, optRes]; cases dget d k <;> rfl
  items := rfl
  keys := ⟨d.map (·.1), rfl, hn, fun k => (dget_isSome_iff_mem d k).symm⟩
  len := rfl
  miss := rfl
  inv := rfl
  leakPos := fun _ hk => nomatch hk
  leakInv := fun _ hk => nomatch hk
  leakAll := fun _ hk => nomatch hk

theorem refS_drop {r : SRow} {e : EagerS} (h : RefS r e) (hw : WFS e) (ds : List Key) (lab) :
    RefS (.drop r ds) ⟨e.d.filter (fun p => !ds.contains p.1), lab, e.miss, e.inv⟩ := by
  obtain ⟨ks, hks, hp⟩ := h.keysPerm hw
  obtain ⟨hK, hL⟩ := keys_len_of_perm (r := .drop r ds) (ks := ks.filter fun k => !ds.contains k) (by simp only [SRow.keys, hks])
    (by simp only [SRow.len, SRow.keys, hks]) (nodup_filter_keys (fun k => !ds.contains k) hw.nodup)
    (List.filter_map (f := fun p : Key × Val => p.1) (p := fun k => !ds.contains k)).symm (hp.filter _)
  refine ⟨fun k hk => ?_, by simp only [SRow.items, h.items, List.contains_eq_mem], hK, hL, h.miss, h.inv, h.leakPos, h.leakInv, h.leakAll⟩
  simp only [SRow.get, dget_filter_key e.d (fun k => !ds.contains k) k]
  by_cases hc : k ∈ ds
  · simp only [List.contains_eq_mem, hc, decide_true, ↓reduceIte, optRes, Bool.not_true, Bool.false_eq_true]
  · simp only [List.contains_eq_mem, hc, decide_false, Bool.false_eq_true, ↓reduceIte, h.get k hk, Bool.not_false]

theorem wfS_drop {e : EagerS} (hw : WFS e) (cols : List Key) (lab : Option (Key × Option String))
    (hl : ∀ k t, lab = some (k, t) → e.lab = some (k, t) ∧ cols.contains k = false) :
    WFS ⟨e.d.filter (fun p => !cols.contains p.1), lab, e.miss, e.inv⟩ := by
  refine ⟨nodup_filter_keys (fun k => !cols.contains k) hw.nodup, fun k t hlk => ?_⟩
  obtain ⟨h1, h2⟩ := hl k t hlk
  rw [dget_filter_key e.d (fun k => !cols.contains k) k, h2]
  exact hw.lab k t h1

/-- the eager dict after LabelRows: the label entry is made explicit (an absent label is 0) -/
def labelDict (d : Dict) (key : Key) : Dict := if (d.map (·.1)).contains key then d else d ++ [(key, .int 0)]

theorem dget_labelDict (d : Dict) (key k : Key) :
    dget (labelDict d key) k = match dget d k with | some v => some v | none => if k = key then some (.int 0) else none := by
  unfold labelDict
  by_cases hc : (d.map (·.1)).contains key = true
  · rw [if_pos hc]
    cases hd : dget d k with
    | some v => rfl
    | none =>
      have hk : k ∉ d.map (·.1) := (dget_none_iff_not_mem d k).1 hd
      have hkey : key ∈ d.map (·.1) := List.contains_iff_mem.1 hc
      have : k ≠ key := fun h => hk (h ▸ hkey)
      simp only [this, ↓reduceIte]
  · rw [if_neg hc, dget_append]
    cases hd : dget d k with
    | some v => rfl
    | none =>
      by_cases hk : k = key
      · subst hk; simp only [dget, ↓reduceIte]
      · have : ¬ key = k := fun h => hk h.symm
        simp only [dget, this, ↓reduceIte, hk]

theorem keys_labelDict (d : Dict) (key : Key) : (labelDict d key).map (·.1) = kunion (d.map (·.1)) [key] := by
  unfold labelDict kunion kdiff
  by_cases hc : (d.map (·.1)).contains key = true
  · rw [if_pos hc, List.filter_cons_of_neg (by rw [hc]; exact Bool.false_ne_true)]; exact (List.append_nil _).symm
  · rw [if_neg hc, List.filter_cons_of_pos (by rw [Bool.not_eq_true] at hc; rw [hc]; rfl)]; exact List.map_append

theorem nodup_labelDict {d : Dict} (key : Key) (hn : (d.map (·.1)).Nodup) : ((labelDict d key).map (·.1)).Nodup :=
  keys_labelDict d key ▸ nodup_kunion _ _ hn

theorem labelDict_filter_ne (d : Dict) (k : Key) :
    (labelDict d k).filter (fun p => decide (p.1 ≠ k)) = d.filter (fun p => !([k] : List Key).contains p.1) := by
  have hc : ∀ p : Key × Val, decide (p.1 ≠ k) = !([k] : List Key).contains p.1 := by
    intro p; by_cases h : p.1 = k <;> simp [h]
  unfold labelDict
  split
  · exact List.filter_congr (fun p _ => hc p)
  · rw [List.filter_append]
    simp only [List.filter_cons, List.filter_nil]
    simp only [ne_eq, decide_not, not_true_eq_false, decide_false, Bool.false_eq_true, ↓reduceIte, List.append_nil, List.contains_eq_mem, List.mem_cons, List.not_mem_nil, or_false]

theorem refS_label {r : SRow} {e : EagerS} (h : RefS r e) (hw : WFS e) (key : Key) (t : Option String) (lab) :
    RefS (.label r key t) ⟨labelDict e.d key, lab, e.miss, e.inv⟩ := by
  obtain ⟨ks, hks, hp⟩ := h.keysPerm hw
  obtain ⟨hK, hL⟩ := keys_len_of_perm (r := .label r key t) (by simp only [SRow.keys, hks]) (by simp only [SRow.len, SRow.keys, hks])
    (nodup_labelDict key hw.nodup) (keys_labelDict e.d key) (kunion_perm hp [key])
  refine ⟨fun k hk => ?_, ?_, hK, hL, h.miss, h.inv, h.leakPos, h.leakInv, h.leakAll⟩
  · simp only [SRow.get, h.get k hk, dget_labelDict]
    cases hd : dget e.d k with
    | some v => rfl
    | none => by_cases hk : k = key <;> simp [optRes, hk]
  · simp only [SRow.items, h.items, labelDict]
    split <;> rfl

theorem wfS_label {e : EagerS} (hw : WFS e) (key : Key) (t : Option String) :
    WFS ⟨labelDict e.d key, some (key, t), e.miss, e.inv⟩ := by
  refine ⟨nodup_labelDict key hw.nodup, fun k' t' hl => ?_⟩
  cases hl
  show (dget (labelDict e.d key) key).isSome = true
  rw [dget_labelDict]
  cases dget e.d key with
  | some v => rfl
  | none => dsimp only; rw [if_pos rfl]; rfl

theorem applyEntry_spec {f : Key → Val → Res Val} {d t : Dict} (h : mapMRes (applyEntry f) d = .ok t) :
    t.map (·.1) = d.map (·.1) ∧
    ∀ k, optRes (dget t k) = match dget d k with | some v => f k v | none => .error .keyError := by
  induction d generalizing t with
  | nil => cases h; exact ⟨rfl, fun _ => rfl⟩
  | cons p rest ih =>
    obtain ⟨x, y⟩ := p
    simp only [mapMRes, applyEntry] at h
    cases hf : f x y with
    | error er => rw [hf] at h; cases h
    | ok v' =>
      cases hr : mapMRes (applyEntry f) rest with
      | error er => rw [hf, hr] at h; cases h
      | ok t' =>
        rw [hf, hr] at h; cases h
        obtain ⟨h1, h2⟩ := ih hr
        refine ⟨congrArg (x :: ·) h1, fun k => ?_⟩
        simp only [dget]
        by_cases hx : x = k
        · subst hx; rw [if_pos rfl, if_pos rfl]; exact hf.symm
        · rw [if_neg hx, if_neg hx]; exact h2 k

theorem applyEntry_total {f : Key → Val → Res Val} {d : Dict} (h : ∀ p ∈ d, ∃ v', f p.1 p.2 = .ok v') :
    ∃ t, mapMRes (applyEntry f) d = .ok t :=
  mapMRes_total fun p hp => let ⟨v', hv⟩ := h p hp; ⟨(p.1, v'), by rw [applyEntry, hv]⟩

theorem applyEntry_zero (g : Key → Val → Res Val) (ks : List Key) :
    mapMRes (applyEntry g) (ks.map (fun k => (k, Val.str "0"))) = mapMRes (zeroEntry g) ks := by
  induction ks with
  | nil => rfl
  | cons k t ih => simp only [List.map_cons, mapMRes, applyEntry, zeroEntry, ih]

theorem dget_map_pair (ks : List Key) (v : Val) (k : Key) : dget (ks.map (fun k => (k, v))) k = if k ∈ ks then some v else none := by
  induction ks with
  | nil => rfl
  | cons x t ih =>
    simp only [List.map_cons, dget, List.mem_cons, ih]
    by_cases hx : x = k
    · rw [if_pos hx, if_pos (Or.inl hx.symm)]
    · rw [if_neg hx]
      by_cases hm : k ∈ t
      · rw [if_pos hm, if_pos (Or.inr hm)]
      · rw [if_neg hm, if_neg (fun h => h.elim (fun e => hx e.symm) hm)]

/-- the dict with its absent "not sparse" columns written out as `"0"`: LazySparse encodes this list entry by entry, EncodeSparse and
the eager `encodeDictN` do the same in two parts -/
def padZero (nsp : List Key) (d : Dict) : Dict := d ++ (kdiff nsp (d.map (·.1))).map (fun k => (k, Val.str "0"))

theorem keys_padZero (nsp : List Key) (d : Dict) : (padZero nsp d).map (·.1) = kunion (d.map (·.1)) nsp := by
  rw [padZero, List.map_append, List.map_map, kunion]
  exact congrArg _ (List.map_id _)

theorem dget_padZero (nsp : List Key) (d : Dict) (k : Key) :
    dget (padZero nsp d) k = match dget d k with
      | some v => some v
      | none => if nsp.contains k then some (.str "0") else none := by
  rw [padZero, dget_append, dget_map_pair]
  cases hd : dget d k with
  | some v => rfl
  | none =>
    have hk : k ∉ d.map (·.1) := (dget_none_iff_not_mem d k).1 hd
    by_cases hm : k ∈ nsp
    · exact (if_pos ((mem_kdiff _ _ _).2 ⟨hm, hk⟩)).trans (if_pos (List.contains_iff_mem.2 hm)).symm
    · exact (if_neg fun hc => hm ((mem_kdiff _ _ _).1 hc).1).trans (if_neg fun hc => hm (List.contains_iff_mem.1 hc)).symm

theorem zeroEntry_congr {g g' : Key → Val → Res Val} {ks : List Key} (h : ∀ k ∈ ks, g k (.str "0") = g' k (.str "0")) :
    mapMRes (zeroEntry g) ks = mapMRes (zeroEntry g') ks := by
  induction ks with
  | nil => rfl
  | cons x rest ih =>
    simp only [mapMRes, zeroEntry, h x (by simp), ih (fun k hk => h k (by simp only [List.mem_cons, hk, or_true]))]

theorem mem_nspOf {enc : List (Key × Enc)} {k : Key} (h : k ∈ nspOf enc) : ∃ e, dget enc k = some e := by
  simp only [nspOf, List.mem_map, List.mem_filter] at h
  obtain ⟨p, ⟨hp, _⟩, rfl⟩ := h
  have : p.1 ∈ enc.map (·.1) := List.mem_map.2 ⟨p, hp, rfl⟩
  have := (dget_isSome_iff_mem enc p.1).2 this
  cases hd : dget enc p.1 with
  | none => rw [hd] at this; cases this
  | some e => exact ⟨e, rfl⟩

theorem encZero_eq {enc : List (Key × Enc)} {k : Key} (h : k ∈ nspOf enc) (v : Val) :
    encZero enc k v = (encOf enc k).apply v := by
  obtain ⟨e, he⟩ := mem_nspOf h
  simp only [encZero, he, encOf, Option.getD_some]

theorem encodeDictN_eq (enc : List (Key × Enc)) (nsp : List Key) (app : Enc → Val → Res Val) (d : Dict) :
    encodeDictN enc nsp app d = mapMRes (applyEntry fun k v => app (encOf enc k) v) (padZero nsp d) := by
  rw [encodeDictN, padZero, mapMRes_append, applyEntry_zero]
  cases mapMRes (applyEntry fun k v => app (encOf enc k) v) d with
  | error e => rfl
  | ok t1 => cases mapMRes (zeroEntry fun k v => app (encOf enc k) v) (kdiff nsp (d.map (·.1))) <;> rfl

theorem encodeDictN_spec {enc : List (Key × Enc)} {nsp : List Key} {app : Enc → Val → Res Val} {d d' : Dict}
    (h : encodeDictN enc nsp app d = .ok d') :
    d'.map (·.1) = kunion (d.map (·.1)) nsp ∧
    ∀ k, optRes (dget d' k) = match dget d k with
      | some v => app (encOf enc k) v
      | none => if nsp.contains k then app (encOf enc k) (.str "0") else .error .keyError := by
  rw [encodeDictN_eq] at h
  obtain ⟨h1, h2⟩ := applyEntry_spec h
  refine ⟨h1.trans (keys_padZero nsp d), fun k => ?_⟩
  rw [h2 k, dget_padZero]
  cases dget d k with
  | some v => rfl
  | none => cases nsp.contains k <;> rfl

theorem refS_encode {r : SRow} {e : EagerS} (h : RefS r e) (hw : WFS e) (enc : List (Key × Enc)) (d' : Dict)
    (hd : encodeDictE enc Enc.apply e.d = .ok d') :
    RefS (.encode r enc (nspOf enc)) { e with d := d' } ∧ WFS { e with d := d' } := by
  obtain ⟨ks, hks, hp⟩ := h.keysPerm hw
  obtain ⟨hdk, hdg⟩ := encodeDictN_spec hd
  have hdn : (d'.map (·.1)).Nodup := hdk ▸ nodup_kunion _ _ hw.nodup
  obtain ⟨hK, hL⟩ := keys_len_of_perm (r := .encode r enc (nspOf enc)) (by simp only [SRow.keys, hks])
    (by simp only [SRow.len, SRow.keys, hks]) hdn hdk (kunion_perm hp (nspOf enc))
  refine ⟨⟨fun k hk => ?_, ?_, hK, hL, h.miss, h.inv, h.leakPos, h.leakInv, h.leakAll⟩, ⟨hdn, fun k t hl => ?_⟩⟩
  · simp only [SRow.get, h.get k hk, hdg k]
    cases dget e.d k <;> rfl
  · simp only [SRow.items, h.items]
    rw [zeroEntry_congr fun k hk => encZero_eq ((mem_kdiff _ _ _).1 hk).1 _]
    exact hd
  · rw [dget_isSome_iff_mem, hdk, mem_kunion, ← dget_isSome_iff_mem]
    exact Or.inl (hw.lab k t hl)

/-! ### renaming keys through a bijective header map -/

/-- a header map read the other way round; the model's `swapMap` builds the same list when no value occurs twice -/
def swapList (m : KMap) : KMap := m.map (fun p => (p.2, p.1))

theorem swapList_swapList (m : KMap) : swapList (swapList m) = m := by
  simp only [swapList, List.map_map, Function.comp_def, List.map_id_fun', id_eq]

theorem swapMap_eq_swapList (fwd : KMap) (h : (fwd.map (·.2)).Nodup) : swapMap fwd = swapList fwd := foldl_dset_swap fwd h

/-- a header map raw key → name that names each of its keys once and uses no name twice -/
structure Bij (inv : KMap) : Prop where
  keys : (inv.map (·.1)).Nodup
  vals : (inv.map (·.2)).Nodup

theorem bij_of_distinct {inv : KMap} (h : (distinct (inv.map (·.1)) && distinct (inv.map (·.2))) = true) : Bij inv := by
  simp only [Bool.and_eq_true, distinct_iff] at h
  exact ⟨h.1, h.2⟩

theorem Bij.swap {inv : KMap} (hb : Bij inv) : Bij (swapList inv) :=
  ⟨by simpa only [swapList, List.map_map, Function.comp_def] using hb.vals,
   by simpa only [swapList, List.map_map, Function.comp_def] using hb.keys⟩

theorem Bij.fwd_iff {inv : KMap} (hb : Bij inv) (n k : Key) : dget (swapList inv) n = some k ↔ dget inv k = some n := by
  constructor
  · intro h
    have := dget_some_mem h
    simp only [swapList, List.mem_map] at this
    obtain ⟨p, hp, hpe⟩ := this
    obtain ⟨x, y⟩ := p
    simp only [Prod.mk.injEq] at hpe
    obtain ⟨rfl, rfl⟩ := hpe
    exact dget_of_mem_nodup hb.keys hp
  · intro h
    have := dget_some_mem h
    exact dget_of_mem_nodup hb.swap.keys (List.mem_map.2 ⟨(k, n), this, rfl⟩)

theorem Bij.inj {inv : KMap} (hb : Bij inv) {a b n : Key} (ha : dget inv a = some n) (hb' : dget inv b = some n) : a = b :=
  Option.some.inj (((hb.fwd_iff n a).2 ha).symm.trans ((hb.fwd_iff n b).2 hb'))

/-- the key under which header map `inv` shows raw key `k` (LazySparse leaves an unnamed key as it is, `renameE` fails on it) -/
def ren (inv : KMap) (k : Key) : Key := (dget inv k).getD k

theorem ren_of_some {inv : KMap} {k n : Key} (h : dget inv k = some n) : ren inv k = n := by rw [ren, h]; rfl

theorem renameE_eq_ok {inv : KMap} {d d' : Dict} :
    renameE inv d = .ok d' ↔ (∀ p ∈ d, (dget inv p.1).isSome) ∧ d' = d.map (fun p => (ren inv p.1, p.2)) :=
  mapMRes_eq_ok_iff (f := renameEntry inv) (P := fun p => (dget inv p.1).isSome = true)
    (fun p hp => by obtain ⟨n, hn⟩ := Option.isSome_iff_exists.1 hp; simp only [renameEntry, ren, hn, Option.getD_some])
    (fun p b hb => by
      unfold renameEntry at hb
      cases hd : dget inv p.1 with
      | none => rw [hd] at hb; cases hb
      | some n => rfl)

theorem renameKeys_eq_ok {inv : KMap} {ks ks' : List Key} :
    mapMRes (renameKey inv) ks = .ok ks' ↔ (∀ k ∈ ks, (dget inv k).isSome) ∧ ks' = ks.map (ren inv) :=
  mapMRes_eq_ok_iff (f := renameKey inv) (P := fun k => (dget inv k).isSome = true)
    (fun k hk => by obtain ⟨n, hn⟩ := Option.isSome_iff_exists.1 hk; simp only [renameKey, ren, hn, Option.getD_some])
    (fun k b hb => by
      unfold renameKey at hb
      cases hd : dget inv k with
      | none => rw [hd] at hb; cases hb
      | some n => rfl)

theorem renameE_total {inv : KMap} {d : Dict} (h : ∀ k ∈ d.map (·.1), ∃ n, dget inv k = some n) :
    ∃ d', renameE inv d = .ok d' :=
  ⟨_, renameE_eq_ok.2 ⟨fun p hp => by obtain ⟨n, hn⟩ := h p.1 (List.mem_map_of_mem hp); rw [hn]; rfl, rfl⟩⟩

theorem Bij.nodup_map_ren {inv : KMap} (hb : Bij inv) {l : List Key} (hdom : ∀ k ∈ l, (dget inv k).isSome) (hn : l.Nodup) :
    (l.map (ren inv)).Nodup := by
  induction l with
  | nil => exact List.nodup_nil
  | cons x t ih =>
    rw [List.nodup_cons] at hn
    rw [List.map_cons, List.nodup_cons]
    refine ⟨fun hm => ?_, ih (fun k hk => hdom k (List.mem_cons_of_mem _ hk)) hn.2⟩
    obtain ⟨y, hy, hxy⟩ := List.mem_map.1 hm
    obtain ⟨n, hx⟩ := Option.isSome_iff_exists.1 (hdom x (List.mem_cons_self ..))
    obtain ⟨m, hy'⟩ := Option.isSome_iff_exists.1 (hdom y (List.mem_cons_of_mem _ hy))
    rw [ren_of_some hx, ren_of_some hy'] at hxy
    exact hn.1 (hb.inj hx (hxy ▸ hy') ▸ hy)

theorem Bij.dget_renameE {inv : KMap} (hb : Bij inv) {d d' : Dict} (h : renameE inv d = .ok d') (n : Key) :
    dget d' n = match dget (swapList inv) n with | some k => dget d k | none => none := by
  obtain ⟨hdom, rfl⟩ := renameE_eq_ok.1 h
  clear h
  induction d with
  | nil => cases dget (swapList inv) n <;> rfl
  | cons p t ih =>
    obtain ⟨nx, hx⟩ := Option.isSome_iff_exists.1 (hdom p (List.mem_cons_self ..))
    rw [List.map_cons, dget, ren_of_some hx, ih fun q hq => hdom q (List.mem_cons_of_mem _ hq)]
    by_cases hn : nx = n
    · subst hn; rw [if_pos rfl, (hb.fwd_iff nx p.1).2 hx]; simp only [dget, if_true]
    · rw [if_neg hn]
      cases hf : dget (swapList inv) n with
      | none => rfl
      | some k =>
        have : p.1 ≠ k := fun hpk => hn (Option.some.inj (hx.symm.trans (hpk ▸ (hb.fwd_iff n k).1 hf)))
        simp only [dget, if_neg this]

theorem Bij.swapMap_swapList {inv : KMap} (hb : Bij inv) : swapMap (swapList inv) = inv := by
  rw [swapMap_eq_swapList _ hb.swap.vals, swapList_swapList]

theorem refS_head {r : SRow} {e : EagerS} (h : RefS r e) (hw : WFS e) (inv : KMap) (hb : Bij inv) (d' : Dict)
    (hd : renameE inv e.d = .ok d') (lab) (hfree : ∀ p ∈ inv, p.1 ∉ r.leak) :
    RefS (.head r (swapList inv) (swapMap (swapList inv))) ⟨d', lab, e.miss, inv⟩ ∧ (d'.map (·.1)).Nodup := by
  obtain ⟨ks, hks, hp⟩ := h.keysPerm hw
  have hinv := hb.swapMap_swapList
  have hdg := hb.dget_renameE hd
  obtain ⟨hdom, rfl⟩ := renameE_eq_ok.1 hd
  have hdomk : ∀ k ∈ e.d.map (·.1), (dget inv k).isSome := fun k hk => by
    obtain ⟨p, hp, rfl⟩ := List.mem_map.1 hk; exact hdom p hp
  have hkeys : (e.d.map (fun p => (ren inv p.1, p.2))).map (·.1) = (e.d.map (·.1)).map (ren inv) := by
    simp only [List.map_map, Function.comp_def]
  have hdn := hkeys ▸ hb.nodup_map_ren hdomk hw.nodup
  obtain ⟨hK, hL⟩ := keys_len_of_perm (r := .head r (swapList inv) (swapMap (swapList inv))) (ks := ks.map (ren inv))
    (by simp only [SRow.keys, hks, hinv]; exact renameKeys_eq_ok.2 ⟨fun k hk => hdomk k (hp.mem_iff.1 hk), rfl⟩)
    (by simp only [SRow.len, h.len, List.length_map, hp.length_eq]) hdn hkeys (hp.map _)
  refine ⟨⟨fun n _ => ?_, ?_, hK, hL, h.miss, hinv, (fun _ hk => nomatch hk), (fun _ hk => nomatch hk), fun _ _ hne => absurd rfl hne⟩, hdn⟩
  · simp only [SRow.get, hdg n]
    cases hf : dget (swapList inv) n with
    | none => rfl
    | some k => exact h.get k (hfree (k, n) (dget_some_mem ((hb.fwd_iff n k).1 hf)))
  · simp only [SRow.items, h.items, hinv]; exact hd

/-! ### LazySparse -/

theorem lazyDictE_spec {enc : List (Key × Enc)} {nsp : List Key} {raw d1 : Dict}
    (hnsp : enc.isEmpty = true → nsp = []) (h : lazyDictE enc nsp raw = .ok d1) :
    d1.map (·.1) = kunion (raw.map (·.1)) nsp ∧ ∀ k, optRes (dget d1 k) = lazyValue enc raw nsp k := by
  simp only [lazyDictE] at h
  by_cases hem : enc.isEmpty = true
  · rw [if_pos hem] at h
    cases h
    rw [hnsp hem]
    refine ⟨(kunion_nil _).symm, fun k => ?_⟩
    simp only [lazyValue, hem, if_true]
    cases dget raw k <;> rfl
  · rw [if_neg hem] at h
    obtain ⟨hdk, hdg⟩ := encodeDictN_spec h
    refine ⟨hdk, fun k => ?_⟩
    simp only [lazyValue, hem, hdg k]
    cases dget raw k with
    | some v => rfl
    | none => cases nsp.contains k <;> rfl

theorem items_lazy (c : Cell Dict) (enc : List (Key × Enc)) (nsp : List Key) (fwd inv : KMap) (m : Bool) :
    (SRow.lazy c enc nsp fwd inv m).items = match lazyDictE enc nsp c.get with
      | .ok d => .ok (if inv.isEmpty then d else d.map fun p => (ren inv p.1, p.2))
      | .error e => .error e := by
  rw [SRow.items, lazyDictE]
  by_cases hem : enc.isEmpty = true
  · simp only [if_pos hem]
    cases inv.isEmpty <;> rfl
  · simp only [if_neg hem, encodeDictN_eq, padZero]
    cases mapMRes (applyEntry fun k v => lazyApply (encOf enc k) v) (c.get ++ (kdiff nsp (c.get.map (·.1))).map fun k => (k, Val.str "0")) with
    | error e => rfl
    | ok its => cases inv.isEmpty <;> simp only [Bool.false_eq_true, if_false, if_true, List.map_id', ren]

theorem refS_lazy_nohdr (c : Cell Dict) (raw : Dict) (enc : List (Key × Enc)) (nsp : List Key) (miss : Bool) (d1 : Dict) (lab)
    (hc : c.get = raw) (hn : (raw.map (·.1)).Nodup) (hnsp : enc.isEmpty = true → nsp = [])
    (h1 : lazyDictE enc nsp raw = .ok d1) :
    RefS (.lazy c enc nsp [] [] miss) ⟨d1, lab, some miss, []⟩ ∧ (d1.map (·.1)).Nodup := by
  obtain ⟨hkeys, hget⟩ := lazyDictE_spec hnsp h1
  have hdn : (d1.map (·.1)).Nodup := hkeys ▸ nodup_kunion _ _ hn
  obtain ⟨hK, hL⟩ := keys_len_of_perm (r := .lazy c enc nsp [] [] miss) (ks := kunion (raw.map (·.1)) nsp)
    (by simp only [SRow.keys, List.isEmpty_nil, ↓reduceIte, hc]) (by simp only [SRow.len, hc]) hdn hkeys (.refl _)
  refine ⟨⟨?_, ?_, hK, hL, rfl, rfl, ?_, ?_, ?_⟩, hdn⟩
  · intro k _
    simp only [SRow.get, hc, dget, Option.getD]
    rw [hget k]
  · simp only [items_lazy, hc, h1, List.isEmpty_nil, if_true]
  · exact fun _ hk => nomatch hk
  · exact fun _ hk => nomatch hk
  · exact fun _ hk => nomatch hk

/-- `hshape`: the header maps as ArffReader and `LazySparse(…, headers)` build them, position ↦ name -/
theorem refS_lazy_hdr (c : Cell Dict) (raw : Dict) (enc : List (Key × Enc)) (nsp : List Key) (inv : KMap) (miss : Bool)
    (d1 d2 : Dict) (lab)
    (hc : c.get = raw) (hn : (raw.map (·.1)).Nodup) (hnsp : enc.isEmpty = true → nsp = [])
    (h1 : lazyDictE enc nsp raw = .ok d1) (hb : Bij inv) (hne : inv.isEmpty = false)
    (h2 : renameE inv d1 = .ok d2) (hshape : ∀ p ∈ inv, ∃ i n, p = (Key.pos i, Key.name n)) :
    RefS (.lazy c enc nsp (swapList inv) inv miss) ⟨d2, lab, some miss, inv⟩ ∧ (d2.map (·.1)).Nodup := by
  -- `H`: HeadSparse over the header-less LazySparse refines the same dict; the two rows differ only on the raw keys of `inv`
  obtain ⟨hin, hdn1⟩ := refS_lazy_nohdr c raw enc nsp miss d1 none hc hn hnsp h1
  have hw1 : WFS ⟨d1, none, some miss, []⟩ := ⟨hdn1, by simp⟩
  obtain ⟨H, hdn2⟩ := refS_head hin hw1 inv hb d2 h2 lab (by intro p _; simp only [SRow.leak, List.isEmpty_nil, ↓reduceIte, List.not_mem_nil, not_false_eq_true])
  obtain ⟨hkeys1, hget1⟩ := lazyDictE_spec hnsp h1
  obtain ⟨hdom, hd2⟩ := renameE_eq_ok.1 h2
  have hinv := hb.swapMap_swapList
  have hfne : (swapList inv).isEmpty = false := by
    cases inv with
    | nil => simp at hne
    | cons p t => simp only [swapList, List.map_cons, List.isEmpty_cons]
  have hleak : (SRow.lazy c enc nsp (swapList inv) inv miss).leak = inv.map (·.1) := by simp only [SRow.leak, hfne, Bool.false_eq_true, ↓reduceIte]
  refine ⟨⟨?_, ?_, ?_, ?_, rfl, rfl, ?_, ?_, ?_⟩, hdn2⟩
  · intro k hk
    rw [hleak] at hk
    have hH := H.get k (by simp only [SRow.leak, List.not_mem_nil, not_false_eq_true])
    simp only [SRow.get] at hH ⊢
    cases hf : dget (swapList inv) k with
    | some k' =>
      simp only [hf, dget, Option.getD, hc] at hH ⊢
      exact hH
    | none =>
      simp only [hf, Option.getD] at hH ⊢
      rw [hc, ← hget1 k, ← hH]
      have : dget d1 k = none := by
        rw [dget_none_iff_not_mem]
        intro hm
        obtain ⟨p, hp, rfl⟩ := List.mem_map.1 hm
        exact hk ((dget_isSome_iff_mem inv _).1 (hdom p hp))
      rw [this]; rfl
  · simp only [items_lazy, hc, h1, hne, Bool.false_eq_true, if_false]
    exact congrArg Except.ok hd2.symm
  · have hk := H.keys
    rw [hinv] at hk
    simp only [SRow.keys, List.isEmpty_nil, if_true] at hk
    simp only [SRow.keys, hne, Bool.false_eq_true, if_false]
    exact hk
  · exact H.len
  · intro k hk
    rw [hleak] at hk
    obtain ⟨p, hp, rfl⟩ := List.mem_map.1 hk
    obtain ⟨i, n, rfl⟩ := hshape p hp
    exact ⟨i, rfl⟩
  · intro k hk
    rw [hleak] at hk
    obtain ⟨p, hp, rfl⟩ := List.mem_map.1 hk
    obtain ⟨i, n, rfl⟩ := hshape p hp
    exact ⟨n, dget_of_mem_nodup hb.keys hp⟩
  · intro k hs _
    rw [hleak]
    exact (dget_isSome_iff_mem inv k).1 hs

/-! ### the base rows -/

theorem nodup_zipIdx_pos {α} (es : List α) (k : Nat) : ((es.zipIdx k).map (fun p => Key.pos p.2)).Nodup := by
  have h : ((es.zipIdx k).map Prod.snd).Nodup := by
    rw [List.zipIdx_map_snd]
    exact List.nodup_range'
  have := List.Pairwise.map (S := (· ≠ ·)) Key.pos (fun _ _ hab he => hab (Key.pos.inj he)) h
  rwa [List.map_map] at this

/-- the header maps LazySparse gets from a list of column names -/
def invOfNames (ns : List String) : KMap := ns.zipIdx.map (fun p => (Key.pos p.2, Key.name p.1))
def fwdOfNames (ns : List String) : KMap := ns.zipIdx.map (fun p => (Key.name p.1, Key.pos p.2))

theorem fwdOfNames_eq_swapList (ns : List String) : fwdOfNames ns = swapList (invOfNames ns) := by
  simp only [fwdOfNames, swapList, invOfNames, List.map_map, Function.comp_def]

theorem nodup_zipIdx_name (ns : List String) (k : Nat) (h : ns.Nodup) : ((ns.zipIdx k).map (fun p => Key.name p.1)).Nodup := by
  rw [← List.zipIdx_map_fst k ns] at h
  have := List.Pairwise.map (S := (· ≠ ·)) Key.name (fun _ _ hab he => hab (Key.name.inj he)) h
  rwa [List.map_map] at this

theorem bij_invOfNames (ns : List String) (h : ns.Nodup) : Bij (invOfNames ns) := by
  constructor
  · simpa only [invOfNames, List.map_map, Function.comp_def] using nodup_zipIdx_pos ns 0
  · simpa only [invOfNames, List.map_map, Function.comp_def] using nodup_zipIdx_name ns 0 h

theorem shape_invOfNames (ns : List String) : ∀ p ∈ invOfNames ns, ∃ i n, p = (Key.pos i, Key.name n) := by
  intro p hp
  simp only [invOfNames, List.mem_map] at hp
  obtain ⟨q, _, rfl⟩ := hp
  exact ⟨q.2, q.1, rfl⟩

theorem renameE_nil {d d' : Dict} (h : renameE [] d = .ok d') : d = [] ∧ d' = [] := by
  cases d with
  | nil => simp only [renameE, mapMRes, Except.ok.injEq, List.nil_eq] at h; exact ⟨rfl, h⟩
  | cons p t => simp only [renameE, mapMRes, renameEntry, dget, reduceCtorEq] at h

theorem refS_lazy_names (c : Cell Dict) (raw : Dict) (enc : List (Key × Enc)) (nsp : List Key) (ns : List String) (miss : Bool)
    (d1 d2 : Dict) (hc : c.get = raw) (hn : (raw.map (·.1)).Nodup) (hnsp : enc.isEmpty = true → nsp = [])
    (h1 : lazyDictE enc nsp raw = .ok d1) (hns : ns.Nodup) (h2 : renameE (invOfNames ns) d1 = .ok d2) :
    RefS (.lazy c enc nsp (fwdOfNames ns) (invOfNames ns) miss) ⟨d2, none, some miss, invOfNames ns⟩ ∧ (d2.map (·.1)).Nodup := by
  cases ns with
  | nil =>
    have hi : invOfNames [] = [] := rfl
    have hf : fwdOfNames [] = [] := rfl
    rw [hi] at h2 ⊢
    rw [hf]
    obtain ⟨rfl, rfl⟩ := renameE_nil h2
    exact refS_lazy_nohdr c raw enc nsp miss [] none hc hn hnsp h1
  | cons x t =>
    rw [fwdOfNames_eq_swapList]
    exact refS_lazy_hdr c raw enc nsp (invOfNames (x :: t)) miss d1 d2 none hc hn hnsp h1 (bij_invOfNames _ hns)
      (by simp only [invOfNames, List.zipIdx_cons, Nat.zero_add, List.map_cons, List.isEmpty_cons]) h2 (shape_invOfNames _)

theorem zipIdx_map_name {α} (g : Nat → String → α) (cols : List Col) (k : Nat) :
    (cols.zipIdx k).map (fun p => g p.2 p.1.name) = ((cols.map (·.name)).zipIdx k).map (fun p => g p.2 p.1) := by
  rw [List.zipIdx_map, List.map_map]; rfl

theorem nspOf_nil_of_empty (enc : List (Key × Enc)) (h : enc.isEmpty = true) : nspOf enc = [] := by
  cases enc with
  | nil => rfl
  | cons p t => simp at h

theorem baseS_refines (b : SBase) (e : EagerS) (hb : eagerBaseS b = .ok e) : RefS (baseS b) e ∧ WFS e := by
  cases b with
  | plain d =>
    simp only [eagerBaseS] at hb
    split at hb
    · rename_i hok
      cases hb
      have hn := (distinct_iff _).1 hok
      exact ⟨refS_plain d hn none, hn, fun _ _ hl => nomatch hl⟩
    · cases hb
  | lazy d loader enc hdr miss =>
    simp only [eagerBaseS] at hb
    split at hb
    · rename_i hok
      simp only [Bool.and_eq_true, distinct_iff] at hok
      cases h1 : lazyDictE enc [] d with
      | error er => rw [h1] at hb; cases hb
      | ok d1 =>
        rw [h1] at hb
        cases hdr with
        | none =>
          cases hb
          obtain ⟨href, hdn⟩ := refS_lazy_nohdr (mkCell loader d) d enc [] miss d1 none (mkCell_get _ _) hok.1 (fun _ => rfl) h1
          exact ⟨href, hdn, fun _ _ hl => nomatch hl⟩
        | some ns =>
          dsimp only at hb
          split at hb
          · rename_i hns
            cases h2 : renameE (ns.zipIdx.map (fun p => (Key.pos p.2, Key.name p.1))) d1 with
            | error er => rw [h2] at hb; cases hb
            | ok d2 =>
              rw [h2] at hb; cases hb
              obtain ⟨href, hdn⟩ := refS_lazy_names (mkCell loader d) d enc [] ns miss d1 d2 (mkCell_get _ _) hok.1 (fun _ => rfl) h1
                ((distinct_iff _).1 hns) h2
              exact ⟨href, hdn, fun _ _ hl => nomatch hl⟩
          · cases hb
    · cases hb
  | arff cols raw miss =>
    simp only [eagerBaseS] at hb
    split at hb
    · rename_i hok
      simp only [Bool.and_eq_true, distinct_iff] at hok
      cases h1 : lazyDictE (cols.zipIdx.map (fun p => (Key.pos p.2, Col.enc true p.1))) (nspOf (cols.zipIdx.map (fun p => (Key.pos p.2, Col.enc true p.1)))) raw with
      | error er => rw [h1] at hb; cases hb
      | ok d1 =>
        rw [h1] at hb
        dsimp only at hb
        rw [zipIdx_map_name (fun i n => (Key.pos i, Key.name n))] at hb
        cases h2 : renameE (((cols.map (·.name)).zipIdx).map (fun p => (Key.pos p.2, Key.name p.1))) d1 with
        | error er => rw [h2] at hb; cases hb
        | ok d2 =>
          rw [h2] at hb; cases hb
          obtain ⟨href, hdn⟩ := refS_lazy_names (.pending raw) raw _ _ (cols.map (fun (c : Col) => c.name)) miss d1 d2 rfl hok.1 (nspOf_nil_of_empty _) h1 hok.2 h2
          refine ⟨?_, hdn, fun _ _ hl => nomatch hl⟩
          simp only [baseS, zipIdx_map_name (fun i n => (Key.pos i, Key.name n)), zipIdx_map_name (fun i n => (Key.name n, Key.pos i))]
          exact href
    · cases hb

/-! ### EncodeCatRows on a dict keeps the keys distinct -/

theorem nodup_catEncodeDict (m : CatMode) (d : Dict) (h : (d.map (·.1)).Nodup) : ((catEncodeDict m d).map (·.1)).Nodup := by
  simp only [catEncodeDict]
  have : ∀ (l o : Dict), (o.map (·.1)).Nodup → ((l.foldl (catStep m) o).map (·.1)).Nodup := by
    intro l
    induction l with
    | nil => intro o ho; exact ho
    | cons p t ih =>
      intro o ho
      simp only [List.foldl_cons]
      apply ih
      simp only [catStep]
      split
      · cases m
        · exact nodup_flatSet _ _ _ (nodup_ddel _ ho)
        · exact nodup_dset _ _ ho
        · exact nodup_dset _ _ ho
      · exact ho
  exact this d d h

/-! ### the stages -/

/-- the row predicate of DropRows reads no hidden raw key of `r` -/
def predSafe (pred : Option Pred) (r : SRow) : Prop :=
  match pred with
  | some (.cellEq k _) => k ∉ r.leak
  | _ => True

theorem evalPredS_of_eager {r : SRow} {e : EagerS} (h : RefS r e) (pred : Option Pred) (b : Bool)
    (hp : evalPredE pred e.miss (dget e.d) = .ok b)
    (hfree : predSafe pred r) : evalPredS pred r = .ok b := by
  obtain ⟨rfl, rfl⟩ | ⟨m, rfl, hm, rfl⟩ | ⟨k, v, x, rfl, hg, rfl⟩ := evalPredE_ok hp
  · rfl
  · simp only [evalPredS, toOption_eq_some (h.miss.trans hm)]
  · simp only [evalPredS, h.get k hfree, hg, optRes]

theorem not_leak_of_name {r : SRow} {e : EagerS} (h : RefS r e) {k : Key} (hk : isName k = true) : k ∉ r.leak := by
  intro hm
  obtain ⟨i, rfl⟩ := h.leakPos k hm
  simp only [isName, Bool.false_eq_true] at hk

theorem labelKey_not_leak {r : SRow} {e : EagerS} (h : RefS r e) (k : Key) : labelKey e.inv k ∉ r.leak := by
  cases k with
  | name s => exact not_leak_of_name h rfl
  | pos i =>
    simp only [labelKey]
    by_cases hl : Key.pos i ∈ r.leak
    · obtain ⟨n, hn⟩ := h.leakInv _ hl
      simp only [hn, Option.getD]
      exact not_leak_of_name h rfl
    · cases hd : dget e.inv (.pos i) with
      | none => simpa only [Option.getD] using hl
      | some x =>
        by_cases hne : r.leak = []
        · simp only [hne, Option.getD_some, List.not_mem_nil, not_false_eq_true]
        · exact absurd (h.leakAll _ (by simp only [hd, Option.isSome_some]) hne) hl

/-- what `leakSafe` demands of one stage, in terms of the row it is applied to -/
def stageSafe (st : Stage) (r : SRow) : Prop :=
  match st with
  | .headNames ns => ∀ q ∈ ns.zipIdx, Key.pos q.2 ∉ r.leak
  | .headMap m => ∀ q ∈ m, q.2 ∉ r.leak
  | .drop _ pred => predSafe pred r
  | _ => True

theorem headS_refines {r : SRow} {e : EagerS} (h : RefS r e) (hw : WFS e) (inv : KMap) (hfree : ∀ p ∈ inv, p.1 ∉ r.leak) :
    Refines (fun r' e' => RefS r' e' ∧ WFS e') (.ok (some (.head r (swapList inv) (swapMap (swapList inv))))) (eagerHeadS inv e) := by
  simp only [eagerHeadS]
  split
  · rename_i hok
    have hb := bij_of_distinct hok
    cases hd : renameE inv e.d with
    | error er => exact .error
    | ok d' =>
      have hdg := hb.dget_renameE hd
      cases hel : e.lab with
      | none =>
        obtain ⟨href, hdn⟩ := refS_head h hw inv hb d' hd none hfree
        exact .ok_some rfl ⟨href, hdn, fun _ _ hl => nomatch hl⟩
      | some kt =>
        obtain ⟨k0, t0⟩ := kt
        dsimp only
        cases hi : dget inv k0 with
        | none => exact .error
        | some n =>
          obtain ⟨href, hdn⟩ := refS_head h hw inv hb d' hd (some (n, t0)) hfree
          refine .ok_some rfl ⟨href, hdn, fun k t hl => ?_⟩
          cases hl
          rw [hdg, (hb.fwd_iff _ k0).2 hi]
          exact hw.lab k0 _ hel
  · exact .error

theorem encodeS_refines {r : SRow} {e : EagerS} (h : RefS r e) (hw : WFS e) (enc : List (Key × Enc)) :
    Refines (fun r' e' => RefS r' e' ∧ WFS e') (.ok (some (.encode r enc (nspOf enc))))
      (match encodeDictE enc Enc.apply e.d with
       | .ok d' => .ok (some { e with d := d' })
       | .error er => .error er) := by
  cases hd : encodeDictE enc Enc.apply e.d with
  | error er => exact .error
  | ok d' => exact .ok_some rfl (refS_encode h hw enc d' hd)

theorem dropS_refines {r : SRow} {e : EagerS} (h : RefS r e) (hw : WFS e) (cols : List Key) (pred : Option Pred)
    (hsafe : predSafe pred r) :
    Refines (fun r' e' => RefS r' e' ∧ WFS e') (applyS (.drop cols pred) r) (eagerStageS (.drop cols pred) e) := by
  simp only [eagerStageS, applyS]
  cases hp : evalPredE pred e.miss (dget e.d) with
  | error er => exact .error
  | ok b =>
    rw [evalPredS_of_eager h pred b hp hsafe]
    cases b with
    | false => exact .ok_none
    | true =>
      dsimp only
      by_cases hc : cols.isEmpty = true
      · rw [if_pos hc, if_pos hc]
        exact .ok_some rfl ⟨h, hw⟩
      · rw [if_neg hc, if_neg hc]
        cases hel : e.lab with
        | none => exact .ok_some rfl ⟨refS_drop h hw cols _, wfS_drop hw cols _ (fun _ _ hl => nomatch hl)⟩
        | some kt =>
          obtain ⟨k, t⟩ := kt
          dsimp only
          cases hck : cols.contains k with
          | true => rw [if_pos rfl]; exact .error
          | false =>
            rw [if_neg Bool.false_ne_true]
            exact .ok_some rfl ⟨refS_drop h hw cols _, wfS_drop hw cols _ (fun k' t' hl => by cases hl; exact ⟨hel, hck⟩)⟩

theorem stageS_refines (st : Stage) {r : SRow} {e : EagerS} (h : RefS r e) (hw : WFS e) (hsafe : stageSafe st r) :
    Refines (fun r' e' => RefS r' e' ∧ WFS e') (applyS st r) (eagerStageS st e) := by
  cases st with
  | headNames ns =>
    have := headS_refines h hw (invOfNames ns) (fun p hp => by
      obtain ⟨q, hq, rfl⟩ := List.mem_map.1 hp; exact hsafe q hq)
    rw [← fwdOfNames_eq_swapList] at this
    exact this
  | headMap m =>
    have := headS_refines h hw (m.map (fun p : String × Key => (p.2, Key.name p.1))) (fun p hp => by
      obtain ⟨q, hq, rfl⟩ := List.mem_map.1 hp; exact hsafe q hq)
    have hsw : swapList (m.map (fun p => (p.2, Key.name p.1))) = m.map (fun p => (Key.name p.1, p.2)) := by
      simp only [swapList, List.map_map, Function.comp_def]
    rw [hsw] at this
    exact this
  | encodeSeq es => exact encodeS_refines h hw _
  | encodeMap m =>
    simp only [eagerStageS, applyS]
    split
    · exact encodeS_refines h hw m
    · exact .error
  | drop cols pred => exact dropS_refines h hw cols pred hsafe
  | label k t =>
    simp only [eagerStageS, applyS, h.inv]
    exact .ok_some rfl ⟨refS_label h hw (labelKey e.inv k) t _, wfS_label hw (labelKey e.inv k) t⟩
  | enccat t =>
    cases t with
    | none => exact .ok_some rfl ⟨h, hw⟩
    | some m =>
      simp only [eagerStageS, applyS, h.items, toDict_of_nodup e.d hw.nodup]
      cases hcat : hasCatD e.d with
      | true =>
        have hn := nodup_catEncodeDict m e.d hw.nodup
        exact .ok_some rfl ⟨refS_plain _ hn none, hn, fun _ _ hl => nomatch hl⟩
      | false => exact .ok_some rfl ⟨h, hw⟩

/-! ### `leakSafe` and the pipeline -/

theorem leakSafe_false (stages : List Stage) : leakSafe false stages = true := by
  induction stages with
  | nil => rfl
  | cons st rest ih =>
    cases st with
    | drop cols pred =>
      cases pred with
      | none => simpa only [leakSafe] using ih
      | some p => cases p <;> simpa [leakSafe] using ih
    | _ => simpa [leakSafe] using ih

theorem stageSafe_of_leakSafe {st : Stage} {rest : List Stage} {r : SRow} {e : EagerS} (h : RefS r e)
    (hs : leakSafe (!r.leak.isEmpty) (st :: rest) = true) : stageSafe st r := by
  have hnil : (!r.leak.isEmpty) = false → ∀ k, k ∉ r.leak := by
    intro hl k
    cases hr : r.leak with
    | nil => exact List.not_mem_nil
    | cons a t => rw [hr] at hl; cases hl
  cases st with
  | headNames ns =>
    simp only [leakSafe, Bool.and_eq_true, Bool.not_eq_true'] at hs
    exact fun q _ => hnil hs.1 _
  | headMap m =>
    simp only [leakSafe, Bool.and_eq_true, Bool.or_eq_true, Bool.not_eq_true', List.all_eq_true] at hs
    intro q hq
    rcases hs.1 with h1 | h1
    · exact hnil h1 _
    · exact not_leak_of_name h (h1 q hq)
  | drop cols pred =>
    cases pred with
    | none => trivial
    | some p =>
      cases p with
      | missing => trivial
      | cellEq k v =>
        simp only [leakSafe, Bool.and_eq_true, Bool.or_eq_true, Bool.not_eq_true'] at hs
        rcases hs.1 with h1 | h1
        · exact hnil h1 _
        · exact not_leak_of_name h h1
  | _ => trivial

/-- HeadRows and an effective EncodeCatRows build a row without hidden keys; every other stage passes them on, and `leakSafe`
then carries over to the remaining stages with the same flag -/
theorem leak_applyS {st : Stage} {r r1 : SRow} (happ : applyS st r = .ok (some r1)) :
    r1.leak = [] ∨ (r1.leak = r.leak ∧ ∀ l rest, leakSafe l (st :: rest) = true → leakSafe l rest = true) := by
  cases st with
  | headNames ns => cases happ; exact Or.inl rfl
  | headMap m => cases happ; exact Or.inl rfl
  | encodeSeq es => cases happ; exact Or.inr ⟨rfl, fun _ _ h => h⟩
  | encodeMap m => cases happ; exact Or.inr ⟨rfl, fun _ _ h => h⟩
  | label k t => cases happ; exact Or.inr ⟨rfl, fun _ _ h => h⟩
  | drop cols pred =>
    refine Or.inr ⟨?_, fun l rest h => ?_⟩
    · simp only [applyS] at happ
      cases hp : evalPredS pred r with
      | error er => rw [hp] at happ; cases happ
      | ok b =>
        rw [hp] at happ
        cases b with
        | false => cases happ
        | true => dsimp only at happ; split at happ <;> cases happ <;> rfl
    · cases pred with
      | none => exact h
      | some p =>
        cases p with
        | missing => exact h
        | cellEq k v => simp only [leakSafe, Bool.and_eq_true] at h; exact h.2
  | enccat t =>
    cases t with
    | none => cases happ; exact Or.inr ⟨rfl, fun _ _ h => h⟩
    | some m =>
      simp only [applyS] at happ
      cases hi : r.items with
      | error er => rw [hi] at happ; cases happ
      | ok its =>
        rw [hi] at happ
        dsimp only at happ
        split at happ <;> cases happ
        · exact Or.inl rfl
        · exact Or.inr ⟨rfl, fun _ _ h => h⟩

theorem leakSafe_next {st : Stage} {rest : List Stage} {r r1 : SRow} (happ : applyS st r = .ok (some r1))
    (hs : leakSafe (!r.leak.isEmpty) (st :: rest) = true) : leakSafe (!r1.leak.isEmpty) rest = true := by
  rcases leak_applyS happ with h0 | ⟨h1, h2⟩
  · rw [h0]; exact leakSafe_false rest
  · rw [h1]; exact h2 _ _ hs

theorem buildS_eq_pipe : buildS = pipe applyS :=
  eq_pipe (fun _ => rfl) fun s rest a => by rw [buildS]; rcases applyS s a with _ | _ | _ <;> rfl

theorem eagerS_eq_pipe : eagerS = pipe eagerStageS :=
  eq_pipe (fun _ => rfl) fun s rest a => by rw [eagerS]; rcases eagerStageS s a with _ | _ | _ <;> rfl

/-- the pipeline `s1` with `s2` still to come: `leakSafe` for the rest comes out with the row -/
theorem buildS_refines_append (s1 s2 : List Stage) {r : SRow} {e : EagerS} (h : RefS r e) (hw : WFS e)
    (hs : leakSafe (!r.leak.isEmpty) (s1 ++ s2) = true) :
    Refines (fun r' e' => RefS r' e' ∧ WFS e' ∧ leakSafe (!r'.leak.isEmpty) s2 = true) (buildS s1 r) (eagerS s1 e) := by
  rw [buildS_eq_pipe, eagerS_eq_pipe]
  exact pipe_refines (stepL := applyS) (stepE := eagerStageS)
    (fun rest r e => RefS r e ∧ WFS e ∧ leakSafe (!r.leak.isEmpty) rest = true)
    (fun st rest r e h => (stageS_refines st h.1 h.2.1 (stageSafe_of_leakSafe h.1 h.2.2)).mono
      fun r' e' hr' h' => ⟨h'.1, h'.2, leakSafe_next hr' h.2.2⟩)
    s1 s2 r e ⟨h, hw, hs⟩

theorem buildS_refines (stages : List Stage) {r : SRow} {e : EagerS} (h : RefS r e) (hw : WFS e)
    (hs : leakSafe (!r.leak.isEmpty) stages = true) :
    Refines (fun r' e' => RefS r' e' ∧ WFS e') (buildS stages r) (eagerS stages e) :=
  (buildS_refines_append stages [] h hw (by rw [List.append_nil]; exact hs)).mono fun r' e' _ h' => ⟨h'.1, h'.2.1⟩

theorem sparse_refines (b : SBase) (stages : List Stage) (hs : leakSafe (!(baseS b).leak.isEmpty) stages = true) (e0 : EagerS)
    (he0 : eagerBaseS b = .ok e0) :
    Refines (fun r e => RefS r e ∧ WFS e) (buildS stages (baseS b)) (eagerS stages e0) := by
  obtain ⟨h, hw⟩ := baseS_refines b e0 he0
  exact buildS_refines stages h hw hs

theorem sparse_ref (b : SBase) (stages : List Stage) (hs : leakSafe (!(baseS b).leak.isEmpty) stages = true) (e0 e : EagerS) (r : SRow)
    (he0 : eagerBaseS b = .ok e0) (he : eagerS stages e0 = .ok (some e))
    (hr : buildS stages (baseS b) = .ok (some r)) : RefS r e := by
  obtain ⟨r', hr', href, _⟩ := (sparse_refines b stages hs e0 he0).of_some he
  rw [hr] at hr'; cases hr'; exact href

theorem sparse_wf (b : SBase) (stages : List Stage) (hs : leakSafe (!(baseS b).leak.isEmpty) stages = true) (e0 e : EagerS)
    (he0 : eagerBaseS b = .ok e0) (he : eagerS stages e0 = .ok (some e)) : WFS e :=
  let ⟨_, _, _, hw⟩ := (sparse_refines b stages hs e0 he0).of_some he; hw

/-! ### what follows from `RefS` -/

/-- two observations agree: key sets as sets, dicts as finite maps, everything else literally -/
def Obs.agree : Obs → Obs → Prop
  | .keys a, .keys b => a.Nodup ∧ ∀ k, k ∈ a ↔ k ∈ b
  | .dict a, .dict b => (a.map (·.1)).Nodup ∧ ∀ k, dget a k = dget b k
  | .val a, .val b => a = b
  | .nat a, .nat b => a = b
  | .bool a, .bool b => a = b
  | .ostr a, .ostr b => a = b
  | .err, .err => True
  | _, _ => False

theorem obsS_of_ref {r : SRow} {e : EagerS} (h : RefS r e) (hw : WFS e) (a : Acc)
    (hna : match a with | .label => False | .tipe => False | .feats _ => False | .clone _ => False | .name k => k ∉ r.leak | _ => True)
    (hdef : eagerObsS e a ≠ .undef) : (obsS r a).agree (eagerObsS e a) := by
  obtain ⟨ks, hks, hknd, hkm⟩ := h.keys
  cases a with
  | pos i => exact absurd rfl hdef
  | name k =>
    simp only [obsS, eagerObsS, h.get k hna] at hdef ⊢
    cases hg : dget e.d k with
    | none => rw [hg] at hdef; exact absurd rfl hdef
    | some v => exact rfl
  | iter =>
    simp only [obsS, eagerObsS, hks, ofRes, Obs.agree]
    exact ⟨hknd, fun k => by rw [hkm k, dget_isSome_iff_mem]⟩
  | keys =>
    simp only [obsS, eagerObsS, hks, ofRes, Obs.agree]
    exact ⟨hknd, fun k => by rw [hkm k, dget_isSome_iff_mem]⟩
  | items =>
    simp only [obsS, eagerObsS, h.items, ofRes, Obs.agree]
    exact ⟨hw.nodup, fun _ => trivial⟩
  | copy =>
    simp only [obsS, eagerObsS, h.items, ofRes, Obs.agree, toDict_of_nodup e.d hw.nodup]
    exact ⟨hw.nodup, fun _ => trivial⟩
  | len => simp only [obsS, eagerObsS, h.len, ofRes, Obs.agree]
  | headers => exact absurd rfl hdef
  | eq o =>
    cases o with
    | list l => exact absurd rfl hdef
    | dict d => simp only [obsS, eagerObsS, SRow.eqDict, h.items, toDict_of_nodup e.d hw.nodup, Obs.agree]
  | label => exact absurd hna id
  | tipe => exact absurd hna id
  | feats s => exact absurd hna id
  | clone s => exact absurd hna id

theorem errS_of_ref {r : SRow} {e : EagerS} (h : RefS r e) (a : Acc) (ha : a.dictAccess (· ∉ r.leak)) :
    errS r a = eagerErrS e a := by
  induction a with
  | name k =>
    simp only [errS, eagerErrS, h.get k ha]
    cases dget e.d k <;> rfl
  | iter => obtain ⟨ks, hks, _⟩ := h.keys; simp only [errS, eagerErrS, hks, errOf]
  | keys => obtain ⟨ks, hks, _⟩ := h.keys; simp only [errS, eagerErrS, hks, errOf]
  | items => simp only [errS, eagerErrS, h.items, errOf]
  | copy => simp only [errS, eagerErrS, h.items, errOf]
  | len => simp only [errS, eagerErrS, h.len, errOf]
  | eq o => rfl
  | clone sub ih => exact ih ha
  | _ => exact ha.elim

theorem labelS_last {r0 : SRow} {e0 : EagerS} (h : RefS r0 e0) (hw : WFS e0) (k : Key) (t : Option String) (e : EagerS)
    (he : eagerStageS (.label k t) e0 = .ok (some e)) :
    ∃ r f ef v, applyS (.label k t) r0 = .ok (some r) ∧ RefS r e ∧
      r.feats = .ok f ∧ e.feats = some ef ∧ RefS f ef ∧
      r.labelVal = .ok v ∧ e.labelVal = some v ∧ r.tipe = .ok t ∧ e.lab.map (·.2) = some t := by
  simp only [eagerStageS] at he
  simp only [Except.ok.injEq, Option.some.injEq] at he
  subst he
  have hk : labelKey r0.invOf k = labelKey e0.inv k := by rw [h.inv]
  have hnl : labelKey e0.inv k ∉ r0.leak := labelKey_not_leak h k
  generalize labelKey e0.inv k = k' at hk hnl
  have href := refS_label h hw k' t (some (k', t))
  have hlv : ∃ v, dget (labelDict e0.d k') k' = some v := by
    rw [dget_labelDict]
    cases dget e0.d k' with
    | some v => exact ⟨v, rfl⟩
    | none => exact ⟨.int 0, by simp⟩
  obtain ⟨v, hv⟩ := hlv
  have hdrop := refS_drop h hw [k'] none
  refine ⟨.label r0 k' t, .drop r0 [k'], _, v, by simp only [applyS, hk], ?_, rfl, rfl, ?_, ?_, ?_, rfl, rfl⟩
  · exact href
  · have := labelDict_filter_ne e0.d k'
    simp only [labelDict] at this
    rw [this]
    exact hdrop
  · simp only [SRow.labelVal, SRow.labelOf]
    have := href.get k' hnl
    simp only [labelDict] at this hv
    rw [this, hv]; rfl
  · simp only [EagerS.labelVal]
    exact hv

theorem buildS_label_last (stages : List Stage) (k : Key) (t : Option String) {r0 : SRow} {e0 : EagerS} (h : RefS r0 e0)
    (hw : WFS e0) (hs : leakSafe (!r0.leak.isEmpty) (stages ++ [.label k t]) = true)
    (e : EagerS) (he : eagerS (stages ++ [.label k t]) e0 = .ok (some e)) :
    ∃ r f ef v, buildS (stages ++ [.label k t]) r0 = .ok (some r) ∧
      r.feats = .ok f ∧ e.feats = some ef ∧ RefS f ef ∧
      r.labelVal = .ok v ∧ e.labelVal = some v ∧ r.tipe = .ok t ∧ e.lab.map (·.2) = some t := by
  obtain ⟨r1, e1, ⟨href, hwf, _⟩, h2, hlast⟩ :=
    pipe_refines_snoc buildS_eq_pipe eagerS_eq_pipe (buildS_refines_append stages [.label k t] h hw hs) he
  obtain ⟨r, f, ef, v, happ, _, hrest⟩ := labelS_last href hwf k t e h2
  exact ⟨r, f, ef, v, hlast r happ, hrest⟩

/-! ### concrete pipelines the property theorems and their examples speak of -/

/-- "LabelRows last" is necessary for dict rows too: `EncodeRows` after `LabelRows` -/
def cexBaseS : SBase := .plain [(.pos 0, .int 1), (.pos 1, .int 2)]
def cexStagesS : List Stage := [.label (.pos 1) (some "c"), .encodeMap [(.pos 0, .inc), (.pos 1, .inc)]]

/-- a header-mapped LazySparse row (as ArffReader builds them) also answers to its raw integer keys:
by-key statements are about the keys outside `SRow.leak` -/
def cexLeakBase : SBase := .lazy [(.pos 0, .int 7)] false [] (some ["a"]) false

def exBaseS : SBase := .lazy [(.name "a", .str "1"), (.name "b", .str "2")] true [] none false
def exStagesS : List Stage :=
  [.encodeMap [(.name "a", .toInt), (.name "c", .toStr)], .drop [.name "b"] none, .label (.name "y") (some "c")]

def exArffS : SBase := .arff [⟨"a", .num⟩, ⟨"b", .cat ["p", "q"]⟩] [(.pos 0, .str "3")] false
def exArffStages : List Stage := [.enccat (some .onehotTuple), .label (.name "b") (some "c")]

/-- the sparse base is a dict or a LazySparse without header map -/
def simpleBase : SBase → Prop
  | .plain _ => True
  | .lazy _ _ _ hdr _ => hdr = none
  | .arff _ _ _ => False

theorem simpleBase_leak (b : SBase) (h : simpleBase b) : (baseS b).leak = [] := by
  cases b with
  | plain d => rfl
  | lazy d loader enc hdr miss => simp only [simpleBase] at h; subst h; rfl
  | arff cols raw miss => exact absurd h id

/-! ## the first dict of a sparse table -/

theorem catKeysD_cons_cat (k : Key) (s : String) (lv : List String) (t : Dict) :
    catKeysD ((k, Val.cat s lv) :: t) = k :: catKeysD t := by
  simp only [catKeysD, isCat, List.filter_cons_of_pos, List.map_cons]

theorem catKeysD_cons_not (p : Key × Val) (t : Dict) (h : isCat p.2 = false) : catKeysD (p :: t) = catKeysD t := by
  simp only [catKeysD, h, Bool.false_eq_true, not_false_eq_true, List.filter_cons_of_neg]

theorem catStep_not_cat (m : CatMode) (o : Dict) (p : Key × Val) (h : isCat p.2 = false) : catStep m o p = o := by
  obtain ⟨k, v⟩ := p
  cases v <;> simp_all [catStep, isCat]

theorem encodeAtKey_cat (m : CatMode) (o : Dict) (k : Key) (s : String) (lv : List String)
    (h : dget o k = some (Val.cat s lv)) : encodeAtKey m o k = .ok (catStep m o (k, Val.cat s lv)) := by
  cases m <;> simp only [encodeAtKey, h, catStep, Enc.apply]

/-- `l`: the entries still to visit, `o`: the dict so far, which still holds them (`hget`) because no generated name `k_i` is
a key yet to come (`hc`) -/
theorem catEncodeAtD_fold (m : CatMode) (l o : Dict)
    (hget : ∀ p ∈ l, dget o p.1 = some p.2) (hn : (l.map (·.1)).Nodup)
    (hc : ∀ p ∈ l, ∀ s lv, p.2 = Val.cat s lv → ∀ q ∈ l, q.1 ∉ genNames p.1 (onehotOf s lv)) :
    catEncodeAtD m (catKeysD l) o = .ok (l.foldl (catStep m) o) := by
  induction l generalizing o with
  | nil => rfl
  | cons p t ih =>
    obtain ⟨k, v⟩ := p
    simp only [List.map_cons, List.nodup_cons] at hn
    have hc' : ∀ p ∈ t, ∀ s lv, p.2 = Val.cat s lv → ∀ q ∈ t, q.1 ∉ genNames p.1 (onehotOf s lv) :=
      fun p hp s lv e q hq => hc p (List.mem_cons_of_mem _ hp) s lv e q (List.mem_cons_of_mem _ hq)
    by_cases hcat : isCat v = true
    · cases v with
      | cat s lv =>
        rw [catKeysD_cons_cat]
        simp only [catEncodeAtD, List.foldl_cons]
        rw [encodeAtKey_cat m o k s lv (hget (k, _) (by simp))]
        apply ih _ _ hn.2 hc'
        intro q hq
        have hne : q.1 ≠ k := by
          intro e
          exact hn.1 (e ▸ List.mem_map_of_mem (f := (·.1)) hq)
        have hg : q.1 ∉ genNames k (onehotOf s lv) := hc (k, _) (by simp) s lv rfl q (List.mem_cons_of_mem _ hq)
        have hq0 := hget q (List.mem_cons_of_mem _ hq)
        cases m
        · simp only [catStep]; rw [dget_flatSet_ne _ _ _ _ hg, dget_ddel_ne _ _ _ hne]; exact hq0
        · simp only [catStep]; rw [dget_dset_ne _ _ _ _ hne]; exact hq0
        · simp only [catStep]; rw [dget_dset_ne _ _ _ _ hne]; exact hq0
      | _ => simp [isCat] at hcat
    · have hcat' : isCat v = false := by simpa using hcat
      rw [catKeysD_cons_not (k, v) t hcat']
      simp only [List.foldl_cons, catStep_not_cat m o (k, v) hcat']
      exact ih o (fun q hq => hget q (List.mem_cons_of_mem _ hq)) hn.2 hc'

theorem catEncodeAtD_self (m : CatMode) (d : Dict) (hn : (d.map (·.1)).Nodup) (hc : noClash d = true) :
    catEncodeAtD m (catKeysD d) d = .ok (catEncodeDict m d) := by
  apply catEncodeAtD_fold m d d (fun p hp => dget_of_mem_nodup hn hp) hn
  intro p hp s lv e q hq hmem
  simp only [noClash, List.all_eq_true] at hc
  have h1 := hc p hp
  rw [e] at h1
  simp only [List.all_eq_true] at h1
  have h2 := h1 _ hmem
  simp only [Bool.not_eq_true', List.contains_eq_mem, decide_eq_false_iff_not] at h2
  exact h2 (List.mem_map_of_mem (f := (·.1)) hq)

theorem catKeysD_isEmpty (d : Dict) : (catKeysD d).isEmpty = !hasCatD d := by
  rw [catKeysD, isEmpty_map_filter, hasCatD]
  congr 2

theorem applyS1_eq (st : Stage) (f r : SRow) (h : sameShapeS f r = true) : applyS1 st f r = applyS st r := by
  simp only [sameShapeS, Bool.and_eq_true] at h
  obtain ⟨hinv, hit⟩ := h
  have hinv' : f.invOf = r.invOf := by simpa using hinv
  cases st with
  | headNames ns => rfl
  | headMap m => rfl
  | encodeSeq es => rfl
  | encodeMap m => rfl
  | drop cols pred => rfl
  | label k t => simp only [applyS1, applyS, hinv']
  | enccat t =>
    cases t with
    | none => rfl
    | some m =>
      simp only [applyS1, applyS]
      cases hf : f.items with
      | error e => rw [hf] at hit; cases hit
      | ok fits =>
        cases hr : r.items with
        | error e => rw [hf, hr] at hit; cases hit
        | ok its =>
          simp only [hf, hr, Bool.and_eq_true, decide_eq_true_eq] at hit ⊢
          obtain ⟨⟨hk, hn⟩, hc⟩ := hit
          have hk' : catKeysD (SRow.toDict fits) = catKeysD (SRow.toDict its) := by simpa using hk
          rw [hk', catKeysD_isEmpty, catEncodeAtD_self m _ hn hc]
          cases hasCatD (SRow.toDict its) <;> simp

theorem stageTableS1_eq (st : Stage) (rows : List SRow)
    (h : (match rows with | [] => true | f :: _ => rows.all (sameShapeS f)) = true) :
    stageTableS1 st rows = stageTableS0 st rows := by
  cases rows with
  | nil => rfl
  | cons f t => exact collect_mapMRes_first (applyS1_eq st) h

theorem runStagesS1_eq (stages : List Stage) (rows : List SRow) (h : uniformRunS stages rows = true) :
    runStagesS1 stages rows = runStagesS0 stages rows := by
  induction stages generalizing rows with
  | nil => rfl
  | cons st rest ih =>
    simp only [uniformRunS, Bool.and_eq_true] at h
    have h1 := stageTableS1_eq st rows h.1
    simp only [runStagesS1, runStagesS0, ← h1]
    cases hs : stageTableS1 st rows with
    | error e => rfl
    | ok rows' =>
      have := h.2
      simp only [hs] at this
      exact ih rows' this

theorem runStagesS0_eq_runRows : runStagesS0 = runRows applyS := by
  funext stages rows
  induction stages generalizing rows with
  | nil => rfl
  | cons st rest ih =>
    simp only [runStagesS0, runRows, stageTableS0, ih]
    cases collect (mapMRes (applyS st) rows) <;> rfl

end Coba.C13
