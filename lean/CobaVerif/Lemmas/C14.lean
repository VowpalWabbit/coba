/-
Facts about the definitions of `Model/C14.lean` that do not depend on the readers: Python's order on label atoms and
`sorted(set(·))`, the row-by-row traversals, `read` branch by branch and its dispatch table, the reward functions,
`LabelRows` (splitting a dense row at the label column is `eraseIdx`; what a feature row still answers to a header
name, also as the lazy `DropOne` row of the C13 model; which column a header name stands for), and the predicates the
property statements are phrased with (`MeetsStatement`, `DenseSplit`, `SparseFileRoundTrip`).
-/
import CobaVerif.Model.C14
import CobaVerif.Lemmas.C13Dense
import Mathlib.Data.String.Basic
import Mathlib.Algebra.Order.Field.Rat
import Mathlib.Data.Finset.Card
import Mathlib.Data.List.Nodup

namespace Coba.C14

/-! ### lists; a traversal that succeeds -/

theorem map_eq_map_ok_get {α β ε : Type} {f : α → Except ε β} {l : List α} {d : List β}
    (h : l.map f = d.map Except.ok) {i : Nat} {a : α} (ha : l[i]? = some a) : ∃ b, d[i]? = some b ∧ f a = .ok b := by
  have hi := congrArg (·[i]?) h
  simp only [List.getElem?_map, ha, Option.map_some] at hi
  cases hd : d[i]? with
  | none => rw [hd] at hi; cases hi
  | some b => rw [hd] at hi; exact ⟨b, rfl, Option.some.inj hi⟩

theorem eq_map_of_map_eq_map_ok {α β ε : Type} {f : α → Except ε β} {fD : α → β} (hD : ∀ a b, f a = .ok b → fD a = b)
    {l : List α} {d : List β} (h : l.map f = d.map Except.ok) : d = l.map fD ∧ ∀ a ∈ l, f a = .ok (fD a) := by
  have hall : ∀ a ∈ l, f a = .ok (fD a) := fun a ha => by
    obtain ⟨b, _, hb⟩ := List.mem_map.mp (h ▸ List.mem_map_of_mem ha : f a ∈ d.map Except.ok)
    rw [← hb, hD a b hb.symm]
  refine ⟨List.map_injective_iff.mpr (fun _ _ => Except.ok.inj) (?_ : d.map (Except.ok (ε := ε)) = _), hall⟩
  rw [← h, List.map_map]
  exact List.map_congr_left hall

theorem getElem?_map_some {α β : Type} {f : α → β} {l : List α} {i : Nat} {a : α} {b : β}
    (ha : l[i]? = some a) (hb : (l.map f)[i]? = some b) : b = f a := by
  rw [List.getElem?_map, ha] at hb
  exact (Option.some.inj hb).symm

/-- `delistAll`, `labelKeys`, `splitDenseAll` are written out row by row in the model; each is this traversal.
Stated with `Except.bind`: a `match` here would be another matcher than the model's and not unify with it. -/
theorem traverse_ok {α β ε : Type} {f : α → Except ε β} {g : List α → Except ε (List β)} (h0 : g [] = .ok [])
    (hc : ∀ a l, g (a :: l) = (f a).bind fun b => (g l).bind fun r => .ok (b :: r)) :
    ∀ {l : List α} {d : List β}, g l = .ok d → l.map f = d.map Except.ok
  | [], d, h => by
    rw [h0] at h
    cases h
    rfl
  | a :: l, d, h => by
    rw [hc] at h
    cases hf : f a with
    | error e => rw [hf] at h; cases h
    | ok b =>
      cases hg : g l with
      | error e => rw [hf, hg] at h; cases h
      | ok r =>
        rw [hf, hg] at h
        cases h
        rw [List.map_cons, List.map_cons, hf, traverse_ok h0 hc hg]

theorem traverse_total {α β ε : Type} {f : α → Except ε β} {g : List α → Except ε (List β)} (h0 : g [] = .ok [])
    (hc : ∀ a l, g (a :: l) = (f a).bind fun b => (g l).bind fun r => .ok (b :: r)) :
    ∀ {l : List α}, (∀ a ∈ l, ∃ b, f a = .ok b) → ∃ d, g l = .ok d
  | [], _ => ⟨[], h0⟩
  | a :: l, h => by
    obtain ⟨b, hb⟩ := h a List.mem_cons_self
    obtain ⟨r, hr⟩ := traverse_total h0 hc fun a' ha' => h a' (List.mem_cons_of_mem _ ha')
    exact ⟨b :: r, by rw [hc, hb, hr]; rfl⟩

/-! ### Python's `<` on atoms of one kind is a strict total order -/

theorem Val.lt_str {a b : String} : Val.lt (.str a) (.str b) = true ↔ a < b := by
  simp only [Val.lt, decide_eq_true_eq]

theorem Val.lt_num {a b : Rat} : Val.lt (.num a) (.num b) = true ↔ a < b := by
  simp only [Val.lt, decide_eq_true_eq]

theorem Val.lt_str_num {a : String} {b : Rat} : Val.lt (.str a) (.num b) = false := rfl
theorem Val.lt_num_str {a : Rat} {b : String} : Val.lt (.num a) (.str b) = false := rfl

/-- Primed, like `Val.lt_irrefl'`: under the name `Val.lt_trans` the proof's `lt_trans` would resolve to the theorem itself. -/
theorem Val.lt_trans' {a b c : Val} (h1 : Val.lt a b = true) (h2 : Val.lt b c = true) :
    Val.lt a c = true := by
  cases a with
  | str a =>
    cases b with
    | str b =>
      cases c with
      | str c => exact Val.lt_str.mpr (lt_trans (Val.lt_str.mp h1) (Val.lt_str.mp h2))
      | num c => rw [Val.lt_str_num] at h2; cases h2
    | num b => rw [Val.lt_str_num] at h1; cases h1
  | num a =>
    cases b with
    | str b => rw [Val.lt_num_str] at h1; cases h1
    | num b =>
      cases c with
      | str c => rw [Val.lt_num_str] at h2; cases h2
      | num c => exact Val.lt_num.mpr (lt_trans (Val.lt_num.mp h1) (Val.lt_num.mp h2))

theorem Val.lt_irrefl' (a : Val) : Val.lt a a = false := by
  cases a with
  | str a => exact Bool.eq_false_iff.mpr (fun h => lt_irrefl a (Val.lt_str.mp h))
  | num a => exact Bool.eq_false_iff.mpr (fun h => lt_irrefl a (Val.lt_num.mp h))

theorem Val.lt_tri {a b : Val} (hk : Val.sameKind a b = true) (hne : a ≠ b) (hn : Val.lt a b = false) :
    Val.lt b a = true := by
  cases a with
  | str a =>
    cases b with
    | str b =>
      have h1 : ¬ a < b := fun h => by rw [Val.lt_str.mpr h] at hn; cases hn
      exact Val.lt_str.mpr (lt_of_le_of_ne (not_lt.mp h1) fun h => hne (by rw [h]))
    | num b => cases hk
  | num a =>
    cases b with
    | str b => cases hk
    | num b =>
      have h1 : ¬ a < b := fun h => by rw [Val.lt_num.mpr h] at hn; cases hn
      exact Val.lt_num.mpr (lt_of_le_of_ne (not_lt.mp h1) fun h => hne (by rw [h]))

theorem Val.sameKind_iff {a b : Val} : Val.sameKind a b = true ↔ a.isNum = b.isNum := by
  cases a <;> cases b <;> simp [Val.sameKind, Val.isNum]

theorem homogeneous_pairs {l : List Val} (h : homogeneous l = true) :
    ∀ a ∈ l, ∀ b ∈ l, Val.sameKind a b = true := by
  cases l with
  | nil => intro a ha; cases ha
  | cons v vs =>
    have hv : ∀ y ∈ v :: vs, v.isNum = y.isNum := by
      intro y hy
      rcases List.mem_cons.mp hy with rfl | hy
      · rfl
      · simp only [homogeneous, List.all_eq_true] at h
        exact Val.sameKind_iff.mp (h y hy)
    intro a ha b hb
    rw [Val.sameKind_iff, ← hv a ha, ← hv b hb]

/-! ### `sorted(set(l))` -/

theorem insertSD_cons (x y : Val) (ys : List Val) :
    insertSD x (y :: ys) = if x = y then y :: ys else if Val.lt x y then x :: y :: ys else y :: insertSD x ys := rfl

theorem mem_insertSD {x v : Val} {l : List Val} : v ∈ insertSD x l ↔ v = x ∨ v ∈ l := by
  induction l with
  | nil => simp only [insertSD, List.mem_singleton, List.not_mem_nil, or_false]
  | cons y ys ih =>
    rw [insertSD_cons]
    split
    · rename_i h
      rw [h, List.mem_cons]
      exact ⟨Or.inr, fun h' => h'.elim Or.inl id⟩
    · split
      · exact List.mem_cons
      · rw [List.mem_cons, ih, List.mem_cons]
        exact or_left_comm

theorem insertSD_sorted {x : Val} {l : List Val} (hs : Sorted l)
    (hk : ∀ y ∈ l, Val.sameKind x y = true) : Sorted (insertSD x l) := by
  induction l with
  | nil => exact List.pairwise_singleton _ _
  | cons y ys ih =>
    have hs' := List.pairwise_cons.mp hs
    rw [insertSD_cons]
    split
    · exact hs
    · rename_i hne
      split
      · rename_i hlt
        refine List.pairwise_cons.mpr ⟨fun z hz => ?_, hs⟩
        rcases List.mem_cons.mp hz with rfl | hz
        · exact hlt
        · exact Val.lt_trans' hlt (hs'.1 z hz)
      · rename_i hnlt
        refine List.pairwise_cons.mpr ⟨fun z hz => ?_, ih hs'.2 fun z hz => hk z (List.mem_cons_of_mem _ hz)⟩
        rcases mem_insertSD.mp hz with rfl | hz
        · exact Val.lt_tri (hk y List.mem_cons_self) hne (Bool.eq_false_iff.mpr hnlt)
        · exact hs'.1 z hz

theorem sortDedup_cons (x : Val) (l : List Val) : sortDedup (x :: l) = insertSD x (sortDedup l) := rfl

theorem mem_sortDedup {v : Val} {l : List Val} : v ∈ sortDedup l ↔ v ∈ l := by
  induction l with
  | nil => exact Iff.rfl
  | cons x xs ih => rw [sortDedup_cons, mem_insertSD, ih, List.mem_cons]

theorem sortDedup_sorted {l : List Val} (hk : ∀ a ∈ l, ∀ b ∈ l, Val.sameKind a b = true) :
    Sorted (sortDedup l) := by
  induction l with
  | nil => exact List.Pairwise.nil
  | cons x xs ih =>
    rw [sortDedup_cons]
    refine insertSD_sorted (ih fun a ha b hb => hk a (List.mem_cons_of_mem _ ha) b (List.mem_cons_of_mem _ hb)) ?_
    intro y hy
    exact hk x List.mem_cons_self y (List.mem_cons_of_mem _ (mem_sortDedup.mp hy))

theorem sortedSet_ok {l acts : List Val} (h : sortedSet l = .ok acts) :
    Sorted acts ∧ ∀ v, v ∈ acts ↔ v ∈ l := by
  unfold sortedSet at h
  split at h
  · rename_i hh
    cases h
    exact ⟨sortDedup_sorted (homogeneous_pairs hh), fun v => mem_sortDedup⟩
  · cases h

theorem sortedSet_of_homogeneous {l : List Val} (h : homogeneous l = true) :
    sortedSet l = .ok (sortDedup l) := if_pos h

theorem Sorted.nodup {l : List Val} (h : Sorted l) : l.Nodup := by
  unfold Sorted at h
  refine List.Pairwise.imp ?_ h
  intro a b hab heq
  subst heq
  rw [Val.lt_irrefl'] at hab
  cases hab

theorem Sorted.ext {l₁ l₂ : List Val} (h₁ : Sorted l₁) (h₂ : Sorted l₂) (hm : ∀ v, v ∈ l₁ ↔ v ∈ l₂) :
    l₁ = l₂ := by
  refine List.Perm.eq_of_pairwise (fun a b _ _ hab hba => ?_) h₁ h₂ ((List.perm_ext_iff_of_nodup h₁.nodup h₂.nodup).mpr hm)
  -- no two atoms are below each other
  have := Val.lt_trans' hab hba
  rw [Val.lt_irrefl'] at this
  cases this

/-! ### `delistAll`, `labelKeys`, `flattenM` -/

/-- `delist` made total (arbitrary where `delist` fails): with it a successful `delistAll` or `labelKeys` is a `map`
over the rows, and "the labels of the data" are `rows.map fun r => delistD r.2` in both classification branches -/
def delistD (l : Label) : Val :=
  match delist l with
  | .ok v => v
  | .error _ => .num 0

theorem delistD_of_ok {l : Label} {v : Val} (h : delist l = .ok v) : delistD l = v := by
  unfold delistD
  rw [h]

theorem mem_map_delistD {χ : Type} {rows : List (χ × Label)} (hall : ∀ r ∈ rows, delist r.2 = .ok (delistD r.2)) {v : Val} :
    v ∈ rows.map (fun r => delistD r.2) ↔ ∃ r ∈ rows, delist r.2 = .ok v := by
  rw [List.mem_map]
  constructor
  · rintro ⟨r, hr, rfl⟩
    exact ⟨r, hr, hall r hr⟩
  · rintro ⟨r, hr, e⟩
    exact ⟨r, hr, delistD_of_ok e⟩

/-- one step of `delistAll` -/
def delistRow {χ : Type} (r : χ × Label) : Except Err (χ × Val) :=
  match delist r.2 with
  | .error e => .error e
  | .ok v => .ok (r.1, v)

theorem delistRow_ok {χ : Type} {r : χ × Label} {p : χ × Val} :
    delistRow r = .ok p ↔ p.1 = r.1 ∧ delist r.2 = .ok p.2 := by
  unfold delistRow
  obtain ⟨x, w⟩ := p
  cases delist r.2 with
  | error e => exact ⟨fun h => (by cases h), fun h => (by cases h.2)⟩
  | ok v => exact ⟨fun h => (by cases h; exact ⟨rfl, rfl⟩), fun h => (by cases h.1; cases h.2; rfl)⟩

theorem delistAll_cons {χ : Type} (r : χ × Label) (rest : List (χ × Label)) :
    delistAll (r :: rest) = (delistRow r).bind fun p => (delistAll rest).bind fun d => .ok (p :: d) := by
  obtain ⟨x, l⟩ := r
  simp only [delistAll, delistRow]
  cases delist l with
  | error e => rfl
  | ok v => cases delistAll rest <;> rfl

theorem delistAll_ok {χ : Type} {rows : List (χ × Label)} {d : List (χ × Val)} (h : delistAll rows = .ok d) :
    d = rows.map (fun r => (r.1, delistD r.2)) ∧ ∀ r ∈ rows, delist r.2 = .ok (delistD r.2) := by
  obtain ⟨hd, hall⟩ := eq_map_of_map_eq_map_ok (fD := fun r : χ × Label => (r.1, delistD r.2))
    (fun r p e => Prod.ext (delistRow_ok.mp e).1.symm (delistD_of_ok (delistRow_ok.mp e).2))
    (traverse_ok (g := delistAll) rfl delistAll_cons h)
  exact ⟨hd, fun r hr => (delistRow_ok.mp (hall r hr)).2⟩

theorem delistAll_total {χ : Type} (rows : List (χ × Label)) (h : ∀ r ∈ rows, r.2 ≠ .list []) :
    ∃ d, delistAll rows = .ok d := by
  refine traverse_total (g := delistAll) rfl delistAll_cons fun r hr => ?_
  obtain ⟨x, l⟩ := r
  rcases l with v | ⟨s, L⟩ | (_ | ⟨v, vs⟩)
  · exact ⟨(x, v), rfl⟩
  · exact ⟨(x, .str s), rfl⟩
  · exact absurd rfl (h _ hr)
  · exact ⟨(x, v), rfl⟩

theorem labelKeys_cons {χ : Type} (r : χ × Label) (rest : List (χ × Label)) :
    labelKeys (r :: rest) = (labelKey r.2).bind fun v => (labelKeys rest).bind fun ks => .ok (v :: ks) := by
  obtain ⟨x, l⟩ := r
  simp only [labelKeys]
  cases labelKey l with
  | error e => rfl
  | ok v => cases labelKeys rest <;> rfl

theorem delist_of_labelKey {l : Label} {v : Val} (h : labelKey l = .ok v) : delist l = .ok v := by
  cases l with
  | atom a => exact h
  | cat s L => exact h
  | list vs => cases h

theorem labelKeys_ok {χ : Type} {rows : List (χ × Label)} {keys : List Val} (h : labelKeys rows = .ok keys) :
    keys = rows.map (fun r => delistD r.2) ∧ ∀ r ∈ rows, labelKey r.2 = .ok (delistD r.2) :=
  eq_map_of_map_eq_map_ok (f := fun r : χ × Label => labelKey r.2) (fun _ _ e => delistD_of_ok (delist_of_labelKey e))
    (traverse_ok (g := labelKeys) rfl labelKeys_cons h)

theorem labelKey_of_not_list {l : Label} (h : ∀ vs, l ≠ .list vs) : ∃ v, labelKey l = .ok v := by
  cases l with
  | atom v => exact ⟨v, rfl⟩
  | cat s L => exact ⟨.str s, rfl⟩
  | list vs => exact absurd rfl (h vs)

theorem labelKeys_total {χ : Type} (rows : List (χ × Label)) (h : ∀ r ∈ rows, ∀ vs, r.2 ≠ .list vs) :
    ∃ keys, labelKeys rows = .ok keys :=
  traverse_total (f := fun r : χ × Label => labelKey r.2) (g := labelKeys) rfl labelKeys_cons fun r hr =>
    labelKey_of_not_list (h r hr)

/-- the members of a label set (`[]` for a label that is no list): `flattenM` made total -/
def Label.members : Label → List Val
  | .list vs => vs
  | _ => []

theorem flattenM_ok {ls : List Label} {all : List Val} (h : flattenM ls = .ok all) :
    all = (ls.map Label.members).flatten ∧ ∀ l ∈ ls, l = .list l.members := by
  induction ls generalizing all with
  | nil => cases h; exact ⟨rfl, fun _ hl => by cases hl⟩
  | cons l rest ih =>
    cases l with
    | atom a => cases h
    | cat s L => cases h
    | list vs =>
      simp only [flattenM] at h
      split at h
      · cases h
      · rename_i r hr
        cases h
        obtain ⟨rfl, h2⟩ := ih hr
        exact ⟨rfl, List.forall_mem_cons.mpr ⟨rfl, h2⟩⟩

theorem mem_flatten_members {χ : Type} {rows : List (χ × Label)} (hall : ∀ r ∈ rows, r.2 = .list r.2.members) {v : Val} :
    v ∈ (rows.map fun r => r.2.members).flatten ↔ ∃ r ∈ rows, ∃ vs, r.2 = .list vs ∧ v ∈ vs := by
  rw [List.mem_flatten]
  constructor
  · rintro ⟨vs, hvs, hv⟩
    obtain ⟨r, hr, rfl⟩ := List.mem_map.mp hvs
    exact ⟨r, hr, _, hall r hr, hv⟩
  · rintro ⟨r, hr, vs, e, hv⟩
    exact ⟨vs, List.mem_map.mpr ⟨r, hr, by rw [e]; rfl⟩, hv⟩

/-! ### the `Categorical` branch's action list -/

theorem mem_catActions {levels : List String} {keys : List Val} {v : Val} :
    v ∈ catActions levels keys ↔ (∃ l ∈ levels, v = .str l) ∧ v ∈ keys := by
  simp only [catActions, List.mem_map, List.mem_filter, List.contains_iff_mem]
  constructor
  · rintro ⟨l, ⟨hl, hk⟩, rfl⟩
    exact ⟨⟨l, hl, rfl⟩, hk⟩
  · rintro ⟨⟨l, hl, rfl⟩, hk⟩
    exact ⟨l, ⟨hl, hk⟩, rfl⟩

theorem catActions_sublist (levels : List String) (keys : List Val) :
    (catActions levels keys).Sublist (levels.map Val.str) :=
  List.Sublist.map _ List.filter_sublist

theorem catActions_congr {levels : List String} {k₁ k₂ : List Val} (h : ∀ v, v ∈ k₁ ↔ v ∈ k₂) :
    catActions levels k₁ = catActions levels k₂ :=
  congrArg (List.map Val.str) (List.filter_congr fun l _ => by
    rw [Bool.eq_iff_iff, List.contains_iff_mem, List.contains_iff_mem, h])

/-! ### `read`, branch by branch -/

theorem typeOf_none {χ : Type} {given : Option LType} {rows : List (χ × Label)}
    (h : typeOf given rows = none) : rows = [] := by
  cases rows with
  | nil => rfl
  | cons r rest => cases h

theorem typeOf_some {χ : Type} {given : Option LType} {rows : List (χ × Label)} {t : LType}
    (h : typeOf given rows = some t) : ∃ x first rest, rows = (x, first) :: rest ∧ inferType given first = t := by
  cases rows with
  | nil => cases h
  | cons r rest => exact ⟨r.1, r.2, rest, rfl, Option.some.inj h⟩

theorem read_r_inv {χ : Type} {given : Option LType} {rows : List (χ × Label)} {ints : List (Interaction χ)}
    (h : read given rows = .ok ints) (ht : typeOf given rows = some .r) :
    ints = rows.map fun r => ⟨r.1, [], .l1 r.2⟩ := by
  obtain ⟨x, first, rest, rfl, hf⟩ := typeOf_some ht
  simp only [read, hf, Except.ok.injEq] at h
  exact h.symm

theorem read_cat_inv {χ : Type} {given : Option LType} {rows : List (χ × Label)} {ints : List (Interaction χ)}
    {levels : List String}
    (h : read given rows = .ok ints) (ht : typeOf given rows = some .c) (hl : firstLevels rows = some levels) :
    (∀ r ∈ rows, labelKey r.2 = .ok (delistD r.2)) ∧
      ints = rows.map fun r => ⟨r.1, catActions levels (rows.map fun r => delistD r.2), .binary r.2⟩ := by
  obtain ⟨x, first, rest, rfl, hf⟩ := typeOf_some ht
  cases first with
  | atom v => cases hl
  | list vs => cases hl
  | cat s L =>
    cases hl
    simp only [read, hf] at h
    split at h
    · cases h
    · rename_i keys hk
      cases h
      obtain ⟨rfl, hall⟩ := labelKeys_ok hk
      exact ⟨hall, rfl⟩

theorem read_plain_inv {χ : Type} {given : Option LType} {rows : List (χ × Label)} {ints : List (Interaction χ)}
    (h : read given rows = .ok ints) (ht : typeOf given rows = some .c) (hl : firstLevels rows = none) :
    ∃ acts, (∀ r ∈ rows, delist r.2 = .ok (delistD r.2)) ∧ sortedSet (rows.map fun r => delistD r.2) = .ok acts ∧
      ints = rows.map fun r => ⟨r.1, acts, .binary (.atom (delistD r.2))⟩ := by
  obtain ⟨x, first, rest, rfl, hf⟩ := typeOf_some ht
  cases first with
  | cat s L => cases hl
  | atom _ | list _ =>
    simp only [read, hf] at h
    split at h
    · cases h
    · rename_i d hd
      obtain ⟨rfl, hall⟩ := delistAll_ok hd
      rw [List.map_map] at h
      split at h
      · cases h
      · rename_i acts ha
        cases h
        exact ⟨acts, hall, ha, List.map_map⟩

theorem read_m_inv {χ : Type} {given : Option LType} {rows : List (χ × Label)} {ints : List (Interaction χ)}
    (h : read given rows = .ok ints) (ht : typeOf given rows = some .m) :
    ∃ acts, (∀ r ∈ rows, r.2 = .list r.2.members) ∧ sortedSet (rows.map fun r => r.2.members).flatten = .ok acts ∧
      ints = rows.map fun r => ⟨r.1, acts, .hamming r.2⟩ := by
  obtain ⟨x, first, rest, rfl, hf⟩ := typeOf_some ht
  simp only [read, hf] at h
  split at h
  · cases h
  · rename_i all hall
    obtain ⟨rfl, hm⟩ := flattenM_ok hall
    rw [List.map_map] at h
    split at h
    · cases h
    · rename_i acts ha
      cases h
      exact ⟨acts, fun r hr => hm r.2 (List.mem_map_of_mem hr), ha, rfl⟩

theorem read_rowwise {χ : Type} {given : Option LType} {rows : List (χ × Label)} {ints : List (Interaction χ)}
    (h : read given rows = .ok ints) :
    ∃ (acts : List Val) (mk : Label → Reward), ints = rows.map (fun r => ⟨r.1, acts, mk r.2⟩) ∧
      ∀ t, typeOf given rows = some t → ∀ l, (mk l).className = rewardClassOf t := by
  rcases ht : typeOf given rows with _ | t
  · cases typeOf_none ht
    cases h
    exact ⟨[], .l1, rfl, fun t e => by cases e⟩
  · simp only [Option.some.injEq, forall_eq']
    cases t with
    | r => exact ⟨[], .l1, read_r_inv h ht, fun _ => rfl⟩
    | m =>
      obtain ⟨acts, _, _, hi⟩ := read_m_inv h ht
      exact ⟨acts, .hamming, hi, fun _ => rfl⟩
    | c =>
      rcases hl : firstLevels rows with _ | L
      · obtain ⟨acts, _, _, hi⟩ := read_plain_inv h ht hl
        exact ⟨acts, fun l => .binary (.atom (delistD l)), hi, fun _ => rfl⟩
      · exact ⟨_, .binary, (read_cat_inv h ht hl).2, fun _ => rfl⟩

/-! ### `read`'s dispatch as data -/

theorem parseLType_mem {lit : String} {t : LType} (h : parseLType lit = some t) : lit ∈ labelTypeLiterals := by
  unfold parseLType at h
  split at h
  iterate 6 decide
  cases h

theorem dispatch_row_mem (lit : String) (t : LType) (cat : Bool) (h : parseLType lit = some t) :
    (lit, cat, rewardCtorOf t cat, actionsKindOf t cat) ∈ dispatchTable := by
  refine List.mem_flatMap.mpr ⟨lit, parseLType_mem h, List.mem_filterMap.mpr ⟨cat, ?_, ?_⟩⟩
  · cases cat <;> decide
  · rw [h]; rfl

/-! ### the reward functions -/

theorem binary_eval_one {y : Label} {v : Val} (hy : labelKey y = .ok v) (a : Val) :
    (Reward.binary y).eval (.one a) = .ok (if a = v then 1 else 0) := by
  cases y with
  | list vs => cases hy
  | cat s L =>
    cases hy
    simp only [Reward.eval, labelEqAction, beq_iff_eq]
  | atom w =>
    cases hy
    -- `labelEqAction` asks `label == action` for an atom, `action == label` for a Categorical
    simp only [Reward.eval, labelEqAction, beq_iff_eq, @eq_comm _ v a]

theorem negAbsDiff_eq (a y : Rat) : negAbsDiff a y = -|a - y| := by
  unfold negAbsDiff
  split
  · rename_i h; rw [abs_of_neg h, neg_neg]
  · rename_i h; rw [abs_of_nonneg (not_lt.mp h)]

theorem filter_mem_toFinset {α : Type} [DecidableEq α] (ys as : List α) :
    (as.filter (fun a => ys.contains a)).toFinset = as.toFinset ∩ ys.toFinset := by
  ext v; simp

theorem filter_not_mem_toFinset {α : Type} [DecidableEq α] (ys as : List α) :
    (as.filter (fun a => !ys.contains a)).toFinset = as.toFinset \ ys.toFinset := by
  ext v; simp

theorem nUnion_eq (ys as : List Val) :
    nUnion ys as = ys.length + (as.filter (fun a => !ys.contains a)).length := by
  have := List.length_eq_length_filter_add (l := as) (fun a => ys.contains a)
  unfold nUnion nIntersect
  omega

theorem nIntersect_card {ys as : List Val} (ha : as.Nodup) :
    nIntersect ys as = (as.toFinset ∩ ys.toFinset).card := by
  rw [← filter_mem_toFinset, List.toFinset_card_of_nodup (ha.filter _)]
  rfl

theorem length_filter_not_mem {α : Type} [DecidableEq α] {ys as : List α} (ha : as.Nodup) :
    (as.filter (fun a => !ys.contains a)).length = (as.toFinset \ ys.toFinset).card := by
  rw [← filter_not_mem_toFinset, List.toFinset_card_of_nodup (ha.filter _)]

theorem nUnion_card {ys as : List Val} (hy : ys.Nodup) (ha : as.Nodup) :
    nUnion ys as = (as.toFinset ∪ ys.toFinset).card := by
  rw [nUnion_eq, ← Finset.card_sdiff_add_card, length_filter_not_mem ha, List.toFinset_card_of_nodup hy, Nat.add_comm]

theorem card_union_ne_zero {α : Type} [DecidableEq α] {ys as : List α} (hne : ys ≠ [] ∨ as ≠ []) :
    (as.toFinset ∪ ys.toFinset).card ≠ 0 := by
  rw [Finset.card_ne_zero]
  rcases hne with h | h
  · obtain ⟨v, hv⟩ := List.exists_mem_of_ne_nil ys h
    exact ⟨v, Finset.mem_union_right _ (List.mem_toFinset.mpr hv)⟩
  · obtain ⟨v, hv⟩ := List.exists_mem_of_ne_nil as h
    exact ⟨v, Finset.mem_union_left _ (List.mem_toFinset.mpr hv)⟩

theorem hammingValue_jaccard {ys as : List Val} (hy : ys.Nodup) (ha : as.Nodup) (hne : ys ≠ [] ∨ as ≠ []) :
    hammingValue ys as =
      .ok (((as.toFinset ∩ ys.toFinset).card : Rat) / ((as.toFinset ∪ ys.toFinset).card : Rat)) := by
  unfold hammingValue
  rw [nUnion_card hy ha, nIntersect_card ha, if_neg (card_union_ne_zero hne)]

/-! ### `LabelDense` / `DropOne` -/

theorem eraseIdx_insert {α : Type} : ∀ {i : Nat} {l : List α} {a : α}, l[i]? = some a →
    l = (l.eraseIdx i).take i ++ a :: (l.eraseIdx i).drop i
  | _, [], _, h => by cases h
  | 0, b :: l, a, h => by cases h; rfl
  | i + 1, b :: l, a, h => congrArg (b :: ·) (eraseIdx_insert (i := i) (l := l) h)

theorem getElem?_eraseIdx_of_ne {α : Type} (l : List α) {i k : Nat} (hk : k ≠ i) :
    (l.eraseIdx i)[if k < i then k else k - 1]? = l[k]? := by
  by_cases hki : k < i
  · rw [if_pos hki, List.getElem?_eraseIdx_of_lt hki]
  · have hik : i < k := lt_of_le_of_ne (Nat.le_of_not_lt hki) (Ne.symm hk)
    rw [if_neg hki, List.getElem?_eraseIdx_of_ge (Nat.le_sub_one_of_lt hik), Nat.sub_add_cancel (Nat.zero_lt_of_lt hik)]

theorem not_mem_eraseIdx {α : Type} {l : List α} {i : Nat} {a : α} (hn : l.Nodup) (ha : l[i]? = some a) :
    a ∉ l.eraseIdx i := by
  intro hm
  obtain ⟨k, hk, hka⟩ := List.mem_eraseIdx_iff_getElem?.mp hm
  exact hk ((List.getElem?_inj (List.getElem?_eq_some_iff.mp hka).1 hn).mp (hka.trans ha.symm))

theorem splitDense_ok {γ : Type} {i : Nat} {row feats : List γ} {l : γ} :
    splitDense i row = .ok (feats, l) ↔ row[i]? = some l ∧ feats = row.eraseIdx i := by
  unfold splitDense
  rw [← List.eraseIdx_eq_take_drop_succ]
  cases row[i]? with
  | none => exact ⟨fun h => (by cases h), fun h => (by cases h.1)⟩
  | some l' => exact ⟨fun h => (by cases h; exact ⟨rfl, rfl⟩), fun h => (by cases h.1; rw [h.2])⟩

theorem featureHeaders_eq {η : Type} (i : Nat) (hdr : List η) : featureHeaders i hdr = hdr.eraseIdx i :=
  (List.eraseIdx_eq_take_drop_succ hdr i).symm

theorem splitDenseAll_cons {γ : Type} (i : Nat) (row : List γ) (rest : List (List γ)) :
    splitDenseAll i (row :: rest) =
      (splitDense i row).bind fun p => (splitDenseAll i rest).bind fun r => .ok (p :: r) := by
  simp only [splitDenseAll]
  cases splitDense i row with
  | error e => rfl
  | ok p => cases splitDenseAll i rest <;> rfl

theorem splitDenseAll_spec {γ : Type} {i : Nat} {rows : List (List γ)} {prs : List (List γ × γ)}
    (h : splitDenseAll i rows = .ok prs) :
    prs.length = rows.length ∧
    ∀ (k : Nat) (row : List γ) (p : List γ × γ), rows[k]? = some row → prs[k]? = some p →
      row = p.1.take i ++ p.2 :: p.1.drop i := by
  have hm : rows.map (splitDense i) = prs.map Except.ok :=
    traverse_ok (g := splitDenseAll i) rfl (splitDenseAll_cons i) h
  refine ⟨by simpa only [List.length_map] using (congrArg List.length hm).symm, fun k row p hk hp => ?_⟩
  obtain ⟨b, hb, hs⟩ := map_eq_map_ok_get hm hk
  cases hp.symm.trans hb
  obtain ⟨hl, hf⟩ := splitDense_ok.mp hs
  rw [hf]
  exact eraseIdx_insert hl

theorem lookupNamed_eq {η γ : Type} [DecidableEq η] (name : η) (hs : List η) (vs : List γ) :
    lookupNamed name hs vs =
      match C13.posOf hs name with
      | none => .error .keyError
      | some j => match vs[j]? with | some v => .ok v | none => .error .indexError := by
  induction hs generalizing vs with
  | nil => rfl
  | cons a as ih =>
    simp only [lookupNamed, C13.posOf]
    by_cases e : a = name
    · rw [if_pos e, if_pos e]; cases vs <;> rfl
    · rw [if_neg e, if_neg e, ih]
      cases C13.posOf as name with
      | none => rfl
      | some j => cases vs <;> rfl

theorem lookupNamed_not_mem {η γ : Type} [DecidableEq η] (name : η) (hs : List η) (vs : List γ) (h : name ∉ hs) :
    lookupNamed name hs vs = .error .keyError := by
  rw [lookupNamed_eq, C13.posOf_none_of_not_mem h]

theorem lookupNamed_get {η γ : Type} [DecidableEq η] (name : η) (hs : List η) (vs : List γ) (hn : hs.Nodup)
    (j : Nat) (v : γ) (hj : hs[j]? = some name) (hv : vs[j]? = some v) : lookupNamed name hs vs = .ok v := by
  rw [lookupNamed_eq, C13.posOf_of_nodup hn hj]
  simp only [hv]

/-! ### the lazy context object (C13 model) -/

theorem refD_lazyRow (hdr : Option (List String)) (vals : List C13.Val) :
    C13.RefD (lazyRow hdr vals) { cells := vals, hdr := hdr.map C13.zipNames, lab := none, miss := none } := by
  cases hdr with
  | none => exact C13.refD_plain vals none
  | some ns => exact C13.refD_head (C13.refD_plain vals none) (C13.zipNames ns)

theorem shiftHdr_zipNames (i : Nat) (ns : List String) :
    C13.DRow.shiftHdr i (C13.zipNames ns) = C13.zipNames (ns.eraseIdx i) := by
  unfold C13.DRow.shiftHdr C13.zipNames
  induction ns generalizing i with
  | nil => rfl
  | cons a ns ih =>
    rw [List.zipIdx_cons', List.filterMap_cons, List.filterMap_map]
    cases i with
    | zero =>
      -- column 0 goes, every later column moves up by one
      exact (List.filterMap_congr fun p _ => rfl).trans List.filterMap_some
    | succ i =>
      rw [List.eraseIdx_cons_succ, List.zipIdx_cons', ← ih i, List.map_filterMap]
      refine congrArg ((a, 0) :: ·) (List.filterMap_congr fun p _ => ?_)
      simp only [Function.comp_apply, Prod.map_fst, Prod.map_snd, id, Nat.add_right_cancel_iff, Nat.add_lt_add_iff_right,
        Nat.add_sub_cancel]
      by_cases h : p.2 = i
      · rw [if_pos h, if_pos h]; rfl
      · rw [if_neg h, if_neg h, Option.map_some, Prod.map_apply]
        by_cases h' : p.2 < i
        · rw [if_pos h', if_pos h']; rfl
        · rw [if_neg h', if_neg h', Nat.sub_add_cancel (Nat.zero_lt_of_lt (Nat.lt_of_le_of_ne (Nat.le_of_not_lt h') (Ne.symm h)))]
          rfl

theorem lazyContext_getName (ns : List String) (vals : List C13.Val) (i : Nat) (s : String) :
    (lazyContext (some ns) vals i).getName s =
      match C13.posOf (ns.eraseIdx i) s with
      | some j => (lazyContext (some ns) vals i).getPos j
      | none => .error .keyError := by
  rw [← C13.dget_zipNames, ← shiftHdr_zipNames]
  rfl

/-! ### `HeadRows`: which column a header name stands for -/

theorem getElem?_concat_eq_some {α : Type} {l : List α} {a x : α} {j : Nat} :
    (l ++ [a])[j]? = some x ↔ l[j]? = some x ∨ (j = l.length ∧ a = x) := by
  rcases Nat.lt_trichotomy j l.length with hj | rfl | hj
  · rw [List.getElem?_append_left hj]
    exact ⟨Or.inl, fun h => h.resolve_right fun c => Nat.ne_of_lt hj c.1⟩
  · rw [List.getElem?_concat_length, List.getElem?_eq_none (Nat.le_refl _), Option.some.injEq]
    exact ⟨fun h => Or.inr ⟨rfl, h⟩, fun h => h.elim (fun c => by cases c) (·.2)⟩
  · rw [List.getElem?_eq_none (by rw [List.length_append, List.length_singleton]; exact hj),
      List.getElem?_eq_none (Nat.le_of_lt hj)]
    exact ⟨fun c => (by cases c), fun h => h.elim (fun c => by cases c) fun c => absurd c.1 (Nat.ne_of_gt hj)⟩

/-- `dict(zip(headers, count()))`: a later column of the same name overwrites an earlier one -/
theorem headerIndex_concat (h : List C12.Text) (a nm : C12.Text) :
    headerIndex (h ++ [a]) nm = if a = nm then some h.length else headerIndex h nm := by
  unfold headerIndex
  rw [List.reverse_append, List.reverse_singleton, List.singleton_append, List.idxOf?_cons, List.length_append,
    List.length_singleton]
  by_cases e : a = nm
  · rw [if_pos (beq_iff_eq.mpr e), if_pos e]; rfl
  · rw [if_neg (fun c => e (beq_iff_eq.mp c)), if_neg e]
    cases h.reverse.idxOf? nm with
    | none => rfl
    | some j =>
      show some (h.length + 1 - 1 - (j + 1)) = some (h.length - 1 - j)
      rw [Nat.add_sub_cancel, Nat.sub_sub, Nat.add_comm]

/-! ### the predicates the property statements are phrased with -/

/-- the statement of C14 for the examples `exs` (features, label) a simulation is built from and the
interactions `ints` it yields: contexts, common action list, and per label type the action set and
the reward of every action -/
def MeetsStatement {χ : Type} (given : Option LType) (exs : List (χ × Label)) (ints : List (Interaction χ)) : Prop :=
  ints.map (·.context) = exs.map (·.1) ∧
  (∃ acts, ∀ x ∈ ints, x.actions = acts) ∧
  (typeOf given exs = some .c → firstLevels exs = none →
    (∀ x ∈ ints, Sorted x.actions ∧ ∀ v, v ∈ x.actions ↔ ∃ r ∈ exs, delist r.2 = .ok v) ∧
    ∀ (i : Nat) (r : χ × Label) (x : Interaction χ), exs[i]? = some r → ints[i]? = some x →
      ∃ v, delist r.2 = .ok v ∧ v ∈ x.actions ∧ ∀ a, x.reward.eval (.one a) = .ok (if a = v then 1 else 0)) ∧
  (∀ levels, typeOf given exs = some .c → firstLevels exs = some levels →
    (∀ x ∈ ints, x.actions.Sublist (levels.map Val.str) ∧
      ∀ v, v ∈ x.actions ↔ (∃ l ∈ levels, v = .str l) ∧ ∃ r ∈ exs, delist r.2 = .ok v) ∧
    ∀ (i : Nat) (r : χ × Label) (x : Interaction χ), exs[i]? = some r → ints[i]? = some x → (∀ vs, r.2 ≠ .list vs) →
      ∃ v, delist r.2 = .ok v ∧ ∀ a, x.reward.eval (.one a) = .ok (if a = v then 1 else 0)) ∧
  (typeOf given exs = some .r →
    ∀ (i : Nat) (r : χ × Label) (x : Interaction χ), exs[i]? = some r → ints[i]? = some x →
      x.actions = [] ∧ ∀ y, r.2 = .atom (.num y) → ∀ a, x.reward.eval (.one (.num a)) = .ok (-|a - y|)) ∧
  (typeOf given exs = some .m →
    (∀ x ∈ ints, Sorted x.actions ∧ ∀ v, v ∈ x.actions ↔ ∃ r ∈ exs, ∃ vs, r.2 = .list vs ∧ v ∈ vs) ∧
    ∀ (i : Nat) (r : χ × Label) (x : Interaction χ), exs[i]? = some r → ints[i]? = some x →
      ∀ ys, r.2 = .list ys → ys.Nodup → ∀ a : Action, a.asList.Nodup → (ys ≠ [] ∨ a.asList ≠ []) →
        x.reward.eval a =
          .ok (((a.asList.toFinset ∩ ys.toFinset).card : Rat) / ((a.asList.toFinset ∪ ys.toFinset).card : Rat)))

/-- `exs` are the rows of `table` split at the label column `ind` (resolved against the first row) -/
def DenseSplit (ind : Int) (table : List (List Label)) (exs : List (List Label × Label)) : Prop :=
  exs.length = table.length ∧
  ∀ first, table.head? = some first → ∃ i, normIdx ind first.length = some i ∧
    ∀ (k : Nat) (row : List Label) (p : List Label × Label), table[k]? = some row → exs[k]? = some p →
      row = p.1.take i ++ p.2 :: p.1.drop i

theorem simDense_split {given : Option LType} {take : Option (List Nat)} {ind : Int} {rows : List (List Label)}
    {ints : List (Interaction (List Label))} (h : simDense given take ind rows = .ok ints) :
    ∃ exs, DenseSplit ind (applyTake take rows) exs ∧ read given exs = .ok ints := by
  unfold simDense at h
  cases hr : applyTake take rows with
  | nil =>
    rw [hr] at h
    cases h
    exact ⟨[], ⟨rfl, fun first hf => by cases hf⟩, rfl⟩
  | cons first rest =>
    rw [hr] at h
    simp only at h
    split at h
    · cases h
    · rename_i i hi
      split at h
      · cases h
      · rename_i prs hprs
        obtain ⟨hlen, hsp⟩ := splitDenseAll_spec hprs
        exact ⟨prs, ⟨hlen, fun _ hf => Option.some.inj hf ▸ ⟨i, hi, hsp⟩⟩, h⟩

/-- the round trip of the whole-file reader on a *sparse* file, as a named hypothesis; `sparse_file_roundtrip` proves it for
every whole sparse file of the canonical writer -/
def SparseFileRoundTrip (lines : List C12.Text) (names : List C12.Text) (srows : List C12.SparseRow) : Prop :=
  C12.arffRead lines = .ok (.sparse names srows)

end Coba.C14
