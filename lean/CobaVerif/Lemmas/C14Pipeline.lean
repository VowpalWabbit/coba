/-
The pipelines of the C14 model over the readers (C12) and the reservoir (C09): a simulation over the text a canonical
writer produces is the rest of its pipeline (`Reservoir`, `LabelRows`, `read`) over the rows the writer was given.
Each lemma substitutes the reader's round trip once; the property theorems add what `read` guarantees.
Also the sparse demo file.
-/
import CobaVerif.Lemmas.C14
import CobaVerif.Props.C09
import CobaVerif.Props.C12

namespace Coba.C14

theorem sampleRows_spec {ρ : Type} (k : Nat) (steps : List C09.Step) (rows s : List ρ)
    (h : sampleRows k steps rows = .ok s) :
    C09.reservoir (some k) false (C05.normInt 1) steps rows = .ok s ∧ s.Subperm rows ∧ s.length = min k rows.length := by
  unfold sampleRows at h
  split at h
  · rename_i s' hres
    cases h
    -- `C09.reservoirSize (some k) false n` unfolds to `min k n`
    exact ⟨hres, C09.reservoir_sub _ _ _ _ _ _ hres, C09.reservoir_size _ _ _ _ _ _ hres⟩
  · cases h

theorem sampleOpt_spec {ρ : Type} (k : Nat) (steps : List C09.Step) (rows s : List ρ)
    (h : sampleOpt (some (k, steps)) rows = .ok s) :
    C09.reservoir (some k) false (C05.normInt 1) steps rows = .ok s ∧ s.Subperm rows ∧ s.length = min k rows.length :=
  sampleRows_spec k steps rows s h

theorem csvSimT_written (delim : Nat) (hd1 : delim ≠ C12.DQ) (hd2 : C12.isNl delim = false) (hasHeader : Bool)
    (rows : List (List (Bool × C12.Text))) (hok : ∀ r ∈ rows, C12.csvRowOk r = true)
    (lc : LabelCol) (given : Option LType) (res : Option (Nat × List C09.Step)) :
    csvSimT delim hasHeader lc given res (rows.map (C12.csvWriteRow delim)) =
      csvTail (if hasHeader then (rows.map (·.map (·.2))).head? else none) lc given res
        ((rows.map (·.map (·.2))).drop (if hasHeader then 1 else 0)) := by
  unfold csvSimT
  rw [C12.csv_roundtrip delim hd1 hd2 hasHeader rows hok]
  cases rows.map (·.map (·.2)) <;> cases hasHeader <;> rfl

/-! ### ARFF -/

theorem arffDenseSim_written (q : Nat) (hq : q = C12.SQ ∨ q = C12.DQ) (also : Nat → Bool)
    (attrs : List C12.AttrW) (hattr : ∀ a ∈ attrs, a.ok true = true) (hnd : (attrs.map (·.name.2)).Nodup)
    (rows : List (Nat × List (Bool × C12.Text)))
    (hrows : ∀ r ∈ rows, C12.arffRowOk q r.2 = true ∧ r.2.length = attrs.length)
    (ind : Int) (given : Option LType) (ints : List (Interaction (List Label)))
    (h : arffDenseSim (.index ind) given (attrs.map (·.line q also))
          (rows.map (fun r => C12.arffWriteRow q also r.1 r.2)) = .ok ints) :
    ∃ cells table, encodeRows (attrs.map (·.typ.enc true)) (rows.map (·.2.map (·.2))) = .ok cells ∧
      rowsLabels cells = .ok table ∧ simDense given none ind table = .ok ints := by
  unfold arffDenseSim at h
  rw [C12.arff_header_roundtrip true q hq also attrs hattr hnd] at h
  simp only [List.length_map, List.map_map] at h
  rw [C12.arff_dense_roundtrip_partial q hq also attrs.length rows hrows] at h
  simp only at h
  split at h
  · cases h
  · rename_i cells hc
    split at h
    · cases h
    · rename_i table ht
      exact ⟨cells, table, hc, ht, h⟩

/-- the rows C12's `arff_sparse_table_roundtrip` says the reader returns for a written sparse file -/
def sparseWritten (attrs : List C12.AttrW) (rows : List (Nat × List (C12.Text × C12.CellW))) : List C12.SparseRow :=
  rows.map fun r => ⟨C12.sparseRowOut (attrs.map (·.name.2)) (attrs.map (·.typ.enc false)) r.2, r.2.any (·.2.isMissing)⟩

/-- likewise for a written dense file (`arff_dense_table_roundtrip`) -/
def denseWritten (attrs : List C12.AttrW) (rows : List (Nat × List (Bool × C12.CellW))) : List C12.DenseRow :=
  rows.map fun r => ⟨C12.rowOut (attrs.map (·.typ.enc true)) r.2, r.2.any (·.2.isMissing)⟩

theorem dense_file_roundtrip (q : Nat) (hq : q = C12.SQ ∨ q = C12.DQ) (also : Nat → Bool) (attrs : List C12.AttrW) (dkw : C12.Text)
    (rows : List (Nat × List (Bool × C12.CellW)))
    (hattrs : attrs ≠ []) (hok : ∀ a ∈ attrs, a.ok true = true) (hnd : (attrs.map (·.name.2)).Nodup)
    (hdkw : C12.lowerAscii dkw = C12.kwData) (hne : rows ≠ [])
    (hrows : ∀ r ∈ rows, C12.denseRowWOk q also r.1 (attrs.map (·.typ.enc true)) r.2 = true)
    (hfirst : ∀ r, rows.head? = some r → C12.notBraced (C12.denseRowLine q also r.1 r.2) = true)
    (lines : List C12.Text)
    (hnorm : C12.arffNormalize lines = attrs.map (·.line q also) ++ dkw :: rows.map (fun r => C12.denseRowLine q also r.1 r.2)) :
    C12.arffRead lines = .ok (.dense (attrs.map (·.name.2)) (denseWritten attrs rows)) := by
  unfold C12.arffRead denseWritten
  rw [hnorm, C12.arff_dense_table_roundtrip q hq also attrs dkw rows hattrs hok hnd hdkw hne hrows hfirst]

theorem arffFileSim_dense_inv {lines names : List C12.Text} {drows : List C12.DenseRow}
    (hrt : C12.arffRead lines = .ok (.dense names drows))
    (lc : LabelCol) (given : Option LType) (res : Option (Nat × List C09.Step)) (ints : List (Interaction (List Label)))
    (h : arffFileSim lc given res lines = .dense (.ok ints)) :
    ∃ sample table, sampleOpt res drows = .ok sample ∧ rowsLabels (sample.map (·.cells)) = .ok table ∧
      denseByCol (some names) lc given table = .ok ints := by
  unfold arffFileSim at h
  rw [hrt] at h
  simp only [ArffOut.dense.injEq] at h
  split at h
  · cases h
  · rename_i s hs
    split at h
    · cases h
    · rename_i table ht
      exact ⟨s, table, hs, ht, h⟩

theorem arffFileSim_sparse_inv {lines names : List C12.Text} {srows : List C12.SparseRow}
    (hrt : SparseFileRoundTrip lines names srows)
    (lc : LabelCol) (given : Option LType) (res : Option (Nat × List C09.Step))
    (ints : List (Interaction (List (Val × Label))))
    (h : arffFileSim lc given res lines = .sparse (.ok ints)) :
    ∃ sample table, sampleOpt res srows = .ok sample ∧ sparseTable (sample.map (·.items)) = .ok table ∧
      read given (table.map (splitSparse (sparseKey names lc) (Label.atom (.num 0)))) = .ok ints := by
  unfold arffFileSim at h
  rw [hrt] at h
  simp only [ArffOut.sparse.injEq] at h
  split at h
  · cases h
  · rename_i s hs
    split at h
    · cases h
    · rename_i table ht
      exact ⟨s, table, hs, ht, h⟩

/-! ### a sparse demo file -/

def sparseDemo : List C12.Text :=
  ["@attribute a numeric", "@attribute y {x,z}", "@data", "{0 2,1 z}", "{1 x}"].map (fun s => s.toList.map Char.toNat)

def a2t (s : String) : C12.Text := s.toList.map Char.toNat

/-- `sparseDemo` as the writer's data (`demo_written`) -/
def demoAttrs : List C12.AttrW :=
  [⟨a2t "@attribute", 32, (false, a2t "a"), [32], .numeric (a2t "numeric")⟩,
   ⟨a2t "@attribute", 32, (false, a2t "y"), [32], .nominal 0 [(false, a2t "x"), (false, a2t "z")]⟩]

def demoRows : List (Nat × List (C12.Text × C12.CellW)) :=
  [(0, [(a2t "0", .num (a2t "2")), (a2t "1", .cat (a2t "z"))]), (0, [(a2t "1", .cat (a2t "x"))])]

theorem demo_written :
    demoAttrs.map (·.line C12.SQ (fun _ => false)) ++ a2t "@data" :: demoRows.map (fun r => C12.sparseRowLine r.1 r.2) = sparseDemo := by
  decide +kernel

theorem demo_hyps :
    demoAttrs ≠ [] ∧ (∀ a ∈ demoAttrs, a.ok false = true) ∧ (demoAttrs.map (·.name.2)).Nodup ∧
    C12.lowerAscii (a2t "@data") = C12.kwData ∧ demoRows ≠ [] ∧
    (∀ r ∈ demoRows, C12.sparseRowWOk demoAttrs.length (demoAttrs.map (·.typ.enc false)) r.2 = true) ∧
    C12.arffNormalize sparseDemo = sparseDemo := by
  decide +kernel

theorem sparseDemo_read :
    SparseFileRoundTrip sparseDemo (demoAttrs.map (·.name.2)) (sparseWritten demoAttrs demoRows) := by
  obtain ⟨h1, h2, h3, h4, h5, h6, h7⟩ := demo_hyps
  unfold SparseFileRoundTrip C12.arffRead sparseWritten
  rw [h7, ← demo_written, C12.arff_sparse_table_roundtrip C12.SQ (Or.inl rfl) (fun _ => false) demoAttrs (a2t "@data") demoRows
    h1 h2 h3 h4 h5 h6]

theorem sparseDemo_roundtrip : ∃ names srows, SparseFileRoundTrip sparseDemo names srows :=
  ⟨_, _, sparseDemo_read⟩

/-- the action lists a sparse whole-file simulation offers (`none` when the file is not sparse or the read fails) -/
def sparseActions (lc : LabelCol) (given : Option LType) (lines : List C12.Text) : Option (List (List Val)) :=
  match arffFileSim lc given none lines with
  | .sparse (.ok ints) => some (ints.map (·.actions))
  | _ => none

theorem sparseDemo_actions :
    sparseActions (.name [121]) none sparseDemo = some [[.str "x", .str "z"], [.str "x", .str "z"]] := by
  unfold sparseActions arffFileSim
  rw [show C12.arffRead sparseDemo = _ from sparseDemo_read]
  decide +kernel

end Coba.C14
