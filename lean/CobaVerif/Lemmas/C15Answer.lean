/-
C15: one row's answer: what `firstRowOK` asks of it format by format, its shape in every format (`renderSingle` as a pair or
as one field), what `first_row` and `pred_format` make of it, and `_parse_pred`'s unbatched branch on it.
-/
import CobaVerif.Lemmas.C15PredFormat

namespace Coba.C15
open PyVal

/-! ### what `firstRowOK` asks -/

section
variable {fx : Fixes} {sp : Spec} {ans : Answer} {as : List PyVal}

theorem firstRowOK_pick (h : firstRowOK fx sp ans as = true) : ans.pick < as.length := by
  simp only [firstRowOK, Bool.and_eq_true, decide_eq_true_eq] at h
  exact h.1.1

theorem firstRowOK_ne (h : firstRowOK fx sp ans as = true) : as ≠ [] :=
  fun e => by have := firstRowOK_pick h; rw [e] at this; cases this

theorem firstRowOK_notLrn (h : firstRowOK fx sp ans as = true) : ∀ a ∈ as, isLrn a = false := by
  simp only [firstRowOK, Bool.and_eq_true] at h
  intro a ha
  have := List.all_eq_true.mp h.1.2 a ha
  simpa using this

/-- what `firstRowOK` asks of an answer that is the action `a` itself -/
structure ActionOK (fx : Fixes) (kw : Bool) (as : List PyVal) (a : PyVal) : Prop where
  last : kw = false → lastIsDict a = false
  noHint : isHint a = false
  first : ∀ x y, a.items = some [x, y] → as.any (fun b => pyIs x b) = false
  long : fx.short = true ∨ longEnough a = true

/-- what `firstRowOK` asks of an answer that is the PMF -/
structure PmfOK (fx : Fixes) (as pmf : List PyVal) : Prop where
  valid : validPmf pmf as = true
  first : ∀ x y, pmf = [x, y] → as.any (fun b => pyIs x b) = false
  long : fx.short = true ∨ 2 ≤ pmf.length

theorem firstRowOK_A (h : firstRowOK fx sp ans as = true) (hA : sp.fmt = .A) : ActionOK fx sp.kw as (ans.action as) := by
  simp only [firstRowOK, hA, Bool.and_eq_true, Bool.or_eq_true, Bool.not_eq_true'] at h
  obtain ⟨_, ⟨⟨hl, hh⟩, h2⟩, hs⟩ := h
  exact ⟨fun hk => by simpa [hk] using hl, hh, fun x y hxy => by simp only [hxy] at h2; simpa using h2, hs⟩

theorem firstRowOK_AP (h : firstRowOK fx sp ans as = true) (hAP : sp.fmt = .AP) : ans.p.isDict = false := by
  simp only [firstRowOK, hAP, Bool.and_eq_true, Bool.not_eq_true'] at h
  exact h.2

theorem firstRowOK_PM (h : firstRowOK fx sp ans as = true) (hPM : sp.fmt = .PM) : PmfOK fx as ans.pmf := by
  simp only [firstRowOK, hPM, Bool.and_eq_true, Bool.or_eq_true, decide_eq_true_eq] at h
  obtain ⟨_, ⟨hv, h2⟩, hs⟩ := h
  exact ⟨hv, fun x y hxy => by simp only [hxy] at h2; simpa using h2, hs⟩

theorem firstRowOK_dPM (h : firstRowOK fx sp ans as = true) (hd : sp.fmt = .dPM) : ans.pmf.length = as.length := by
  simp only [firstRowOK, hd, Bool.and_eq_true, beq_iff_eq] at h
  exact h.2

end

/-! ### one row's answer -/

theorem isDict_of_num {x : PyVal} {q : Rat} (h : x.num = some q) : x.isDict = false := by
  cases x <;> simp_all [PyVal.num, PyVal.isDict]

@[simp] theorem lastIsDict_mkSeq_snoc (t : Bool) (xs : List PyVal) (x : PyVal) :
    lastIsDict (mkSeq t (xs ++ [x])) = x.isDict := by simp [lastIsDict]

theorem lastIsDict_pmf (t : Bool) (pmf as : List PyVal) (hv : validPmf pmf as = true) :
    lastIsDict (mkSeq t pmf) = false := by
  rcases List.eq_nil_or_concat pmf with rfl | ⟨xs, x, rfl⟩
  · cases t <;> simp [lastIsDict, mkSeq, getLast]
  · obtain ⟨q, hx, _⟩ := validPmf_entry hv (x := x) (by simp)
    simp [isDict_of_num hx]

/-- `v` says what the row answered with `ans` says, for a format of kind `k`: all `pred_format` and `_parse_pred` ask of a value once
kwargs and hint are off -/
def Holds (k : Kind) (ans : Answer) (as : List PyVal) (v : PyVal) : Prop :=
  match k with
  | .AX => v = ans.action as
  | .AP => v.items = some [ans.action as, ans.p]
  | .PM => v.items = some ans.pmf

/-- what a row says, as the learner writes it under a hint or as the only field of its answer -/
def payload (sp : Spec) (ans : Answer) (as : List PyVal) : PyVal :=
  match sp.fmt.kind with
  | .AX => ans.action as
  | .AP => mkSeq sp.tup [ans.action as, ans.p]
  | .PM => mkPmf sp.pmfTup ans.pmf

theorem holds_payload (sp : Spec) (ans : Answer) (as : List PyVal) : Holds sp.fmt.kind ans as (payload sp ans as) := by
  unfold Holds payload; cases sp.fmt.kind <;> simp [mkPmf]

/-- the one field of a row's answer in every format but the un-hinted (action, prob) -/
def field (sp : Spec) (ans : Answer) (as : List PyVal) : PyVal :=
  if sp.fmt.hinted then .dict (.lrn 0) [sp.fmt.hint] [payload sp ans as] else payload sp ans as

theorem ne_AP_of_hinted {sp : Spec} (h : sp.fmt.hinted = true) : sp.fmt ≠ .AP := by
  intro e; rw [e] at h; cases h

theorem core_pair {sp : Spec} (h : sp.fmt = .AP) (ans : Answer) (as : List PyVal) : core sp ans as = [ans.action as, ans.p] := by
  simp only [core, h, Answer.action]

theorem core_one {sp : Spec} (h : sp.fmt ≠ .AP) (ans : Answer) (as : List PyVal) : core sp ans as = [field sp ans as] := by
  obtain ⟨fmt, kw, lay, tup, ptup⟩ := sp
  cases fmt <;> first | exact absurd rfl h | rfl

theorem renderSingle_pair {sp : Spec} (h : sp.fmt = .AP) (ans : Answer) (as : List PyVal) :
    renderSingle sp ans as = mkSeq sp.tup ([ans.action as, ans.p] ++ if sp.kw then [kwDict ans] else []) := by
  unfold renderSingle; rw [core_pair h]; cases sp.kw <;> rfl

theorem renderSingle_one {sp : Spec} (h : sp.fmt ≠ .AP) (ans : Answer) (as : List PyVal) :
    renderSingle sp ans as = if sp.kw then mkSeq sp.tup [field sp ans as, kwDict ans] else field sp ans as := by
  unfold renderSingle; rw [core_one h]; cases sp.kw <;> rfl

theorem pfmt_pair {sp : Spec} (h : sp.fmt = .AP) : sp.pfmt = ⟨.AP, false⟩ := by simp only [Spec.pfmt, h, Fmt.kind, Fmt.hinted]

theorem lastIsDict_renderSingle (fx : Fixes) (sp : Spec) (ans : Answer) (as : List PyVal)
    (h : firstRowOK fx sp ans as = true) : lastIsDict (renderSingle sp ans as) = sp.kw := by
  by_cases hp : sp.fmt = .AP
  · rw [renderSingle_pair hp]
    cases hk : sp.kw
    · exact (lastIsDict_mkSeq_snoc sp.tup [ans.action as] ans.p).trans (firstRowOK_AP h hp)
    · exact lastIsDict_mkSeq_snoc sp.tup [ans.action as, ans.p] (kwDict ans)
  · rw [renderSingle_one hp]
    cases hk : sp.kw
    · -- the field itself: a hint dict has no last item
      obtain ⟨fmt, kw, lay, tup, ptup⟩ := sp
      simp only at hk; subst hk
      cases fmt
      case AP => exact absurd rfl hp
      case A => exact (firstRowOK_A h rfl).last rfl
      case PM => exact lastIsDict_pmf ptup ans.pmf as (firstRowOK_PM h rfl).valid
      all_goals rfl
    · exact lastIsDict_mkSeq_snoc sp.tup [field sp ans as] (kwDict ans)

/-- what `first_row` extracts from one row's answer: the answer without its kwargs (of a pair, the slice in front of them) -/
def rowStd (sp : Spec) (ans : Answer) (as : List PyVal) : PyVal :=
  if sp.fmt = .AP then (if sp.kw then seqTmp sp.tup [ans.action as, ans.p] else mkSeq sp.tup [ans.action as, ans.p])
  else field sp ans as

theorem holds_rowStd (sp : Spec) (ans : Answer) (as : List PyVal) (hun : sp.fmt.hinted = false) :
    Holds sp.fmt.kind ans as (rowStd sp ans as) := by
  unfold rowStd
  by_cases h : sp.fmt = .AP
  · rw [if_pos h, h]; cases sp.kw <;> simp [Holds, Fmt.kind]
  · rw [if_neg h, field, hun]; exact holds_payload sp ans as

theorem firstValue_rowStd (sp : Spec) (ans : Answer) (as : List PyVal) (hh : sp.fmt.hinted = true) :
    firstValue (rowStd sp ans as) = .ok (payload sp ans as) := by
  rw [rowStd, if_neg (ne_AP_of_hinted hh), field, hh]; rfl

/-- `pred[0] if len(pred) == 2 else pred[:-1]` on an answer that ends in kwargs -/
theorem firstRow_not_kw (t : Bool) (xs : List PyVal) (kwd : PyVal) :
    firstRow (mkSeq t (xs ++ [kwd])) .not true = .ok (match xs with | [x] => x | _ => seqTmp t xs) := by
  simp only [firstRow, reduceCtorEq, ↓reduceIte, lenE_mkSeq, bind, Except.bind, pure, Except.pure, List.length_append,
    List.length_cons, List.length_nil]
  rcases xs with _ | ⟨x, _ | ⟨y, r⟩⟩
  · exact dropLast_mkSeq t [] kwd
  · exact getIdx_mkSeq_zero t x [kwd]
  · rw [if_neg (by simp)]; exact dropLast_mkSeq t _ kwd

theorem firstRow_not_renderSingle (sp : Spec) (ans : Answer) (as : List PyVal) :
    firstRow (renderSingle sp ans as) .not sp.kw = .ok (rowStd sp ans as) := by
  unfold rowStd
  by_cases h : sp.fmt = .AP
  · rw [renderSingle_pair h, if_pos h]
    cases sp.kw
    · rfl
    · exact firstRow_not_kw sp.tup [ans.action as, ans.p] (kwDict ans)
  · rw [renderSingle_one h, if_neg h]
    cases sp.kw
    · rfl
    · exact firstRow_not_kw sp.tup [field sp ans as] (kwDict ans)

theorem predFormat_holds (fx : Fixes) (sp : Spec) (ans : Answer) (as : List PyVal) (v : PyVal)
    (h : firstRowOK fx sp ans as = true) (hun : sp.fmt.hinted = false) (hv : Holds sp.fmt.kind ans as v)
    (hfresh : sp.fmt = .PM → freshSeq v = true) :
    predFormat fx v (some as) = .ok sp.pfmt := by
  have hact := any_pyIs_action as ans.pick (firstRowOK_pick h)
  obtain ⟨fmt, kw, lay, tup, ptup⟩ := sp
  cases fmt <;> simp only [Fmt.hinted, reduceCtorEq] at hun <;> simp only [Holds, Fmt.kind] at hv
  case A =>
    subst hv
    have ok := firstRowOK_A h rfl
    exact predFormat_A fx (ans.action as) as hact ok.noHint ok.first ok.long
  case AP => exact predFormat_AP fx v _ _ as hv hact
  case PM =>
    have ok := firstRowOK_PM h rfl
    exact predFormat_PM fx v ans.pmf as hv (hfresh rfl) (firstRowOK_ne h) (firstRowOK_notLrn h) ok.valid ok.first ok.long

theorem predFormat_hint (fx : Fixes) (sp : Spec) (ans : Answer) (as : List PyVal) (r : Ref) (v : PyVal)
    (h : firstRowOK fx sp ans as = true) (hh : sp.fmt.hinted = true) (hv : Holds sp.fmt.kind ans as v) :
    predFormat fx (.dict r [sp.fmt.hint] [v]) (some as) = .ok sp.pfmt := by
  obtain ⟨fmt, kw, lay, tup, ptup⟩ := sp
  cases fmt <;> simp only [Fmt.hinted, reduceCtorEq] at hh <;> simp only [Holds, Fmt.kind] at hv
  case dA => exact predFormat_dA fx r v as
  case dAP => exact predFormat_dAP fx r v _ _ as hv
  case dPM => exact predFormat_dPM fx r v ans.pmf as hv (firstRowOK_ne h) (firstRowOK_dPM h rfl)

theorem predFormat_rowStd (fx : Fixes) (sp : Spec) (ans : Answer) (as : List PyVal)
    (h : firstRowOK fx sp ans as = true) :
    predFormat fx (rowStd sp ans as) (some as) = .ok sp.pfmt := by
  cases hh : sp.fmt.hinted
  · refine predFormat_holds fx sp ans as _ h hh (holds_rowStd sp ans as hh) fun e => ?_
    simp [rowStd, field, payload, e, Fmt.hinted, Fmt.kind, mkPmf]
  · rw [rowStd, if_neg (ne_AP_of_hinted hh), field, if_pos hh]
    exact predFormat_hint fx sp ans as (.lrn 0) _ h hh (holds_payload sp ans as)

/-- `_parse_pred`'s unbatched branch once the kwargs are set aside -/
def parseStd (f : PFmt) (s : Nat) (as : List PyVal) (pred kwargs : PyVal) : Except Err (Result × Nat) := do
  let pred ← (if f.star then firstValue pred else pure pred)
  match f.kind with
  | .PM => do
    let (s', a, p) ← choicew s as pred
    pure (⟨a, p, kwargs⟩, s')
  | .AP => do
    let xs ← (match pred with
      | .tuple _ xs | .list _ xs => pure xs
      | .str .. => itemsE pred
      | .dict .. => .error .key
      | _ => .error .type)
    match xs.take 2 with
    | [a, p] => pure (⟨a, p, kwargs⟩, s)
    | _ => .error .value
  | .AX => pure (⟨pred, .none, kwargs⟩, s)

theorem parseNot_nokw {st : State} (h : st.hasKw = false) (f : PFmt) (as : List PyVal) (pred : PyVal) :
    parseNot st f as pred = parseStd f st.rng as pred emptyKw := by
  unfold parseNot; rw [h]; rfl

/-- a two-item answer is unwrapped to its first item (a longer one stays whole: `pred[:2]` drops the kwargs later) -/
theorem parseNot_kw {st : State} (h : st.hasKw = true) (f : PFmt) (as : List PyVal) (t : Bool) (xs : List PyVal) (kwd : PyVal) :
    parseNot st f as (mkSeq t (xs ++ [kwd])) =
      parseStd f st.rng as (match xs with | [x] => x | _ => mkSeq t (xs ++ [kwd])) kwd := by
  unfold parseNot
  rw [h]
  simp only [↓reduceIte, getLast_mkSeq, lenE_mkSeq, bind, Except.bind, List.length_append, List.length_cons, List.length_nil]
  rcases xs with _ | ⟨x, _ | ⟨y, r⟩⟩
  · rfl
  · simp only [List.length_cons, List.length_nil, ↓reduceIte, List.cons_append, List.nil_append, getIdx_mkSeq_zero]; rfl
  · rw [if_neg (by simp)]; rfl

theorem parseStd_pair (s : Nat) (as : List PyVal) (v kwd a p : PyVal) (rest : List PyVal) (hv : v.items = some (a :: p :: rest)) :
    parseStd ⟨.AP, false⟩ s as v kwd = .ok (⟨a, p, kwd⟩, s) := by
  cases v <;> simp only [PyVal.items, Option.some.injEq, reduceCtorEq] at hv <;> subst hv <;> rfl

theorem parseStd_one {sp : Spec} (h : sp.fmt ≠ .AP) (s : Nat) (ans : Answer) (as : List PyVal) :
    parseStd sp.pfmt s as (field sp ans as) (if sp.kw then kwDict ans else emptyKw) = wantSingle sp s ans as := by
  obtain ⟨fmt, kw, lay, tup, ptup⟩ := sp
  cases fmt
  case AP => exact absurd rfl h
  case PM | dPM =>
    simp only [parseStd, wantSingle, Spec.pfmt, Fmt.kind, Fmt.hinted, field, payload, firstValue, bind, Except.bind, pure,
      Except.pure, ↓reduceIte, Bool.false_eq_true]
    cases choicew s as (mkPmf ptup ans.pmf) <;> rfl
  case dAP => cases tup <;> rfl
  all_goals rfl

theorem parseNot_renderSingle (sp : Spec) (ans : Answer) (as : List PyVal) (st : State) (hkw : st.hasKw = sp.kw) :
    parseNot st sp.pfmt as (renderSingle sp ans as) = wantSingle sp st.rng ans as := by
  by_cases h : sp.fmt = .AP
  · rw [renderSingle_pair h, pfmt_pair h]
    have hw : wantSingle sp st.rng ans as = .ok (⟨ans.action as, ans.p, if sp.kw then kwDict ans else emptyKw⟩, st.rng) := by
      simp only [wantSingle, h, Fmt.kind]
    rw [hw]
    cases hk : sp.kw <;> rw [hk] at hkw
    · rw [parseNot_nokw hkw]; exact parseStd_pair _ _ _ _ _ _ [] (by simp)
    · rw [if_pos rfl, parseNot_kw hkw]; exact parseStd_pair _ _ _ _ _ _ [kwDict ans] (by simp)
  · rw [renderSingle_one h, ← parseStd_one h]
    cases hk : sp.kw <;> rw [hk] at hkw
    · exact parseNot_nokw hkw _ _ _
    · exact parseNot_kw hkw _ _ _ [field sp ans as] _

end Coba.C15
