/-
C15: what row-major and column-major batches share: the recognisers on a sequence and on a dict, the rows of a batch with their
answers (`Rows`), the kwargs table, and the last step of `_parse_pred` on a batch (`finishRows_spec`).
-/
import CobaVerif.Lemmas.C15Answer
import CobaVerif.Lemmas.C15Core

namespace Coba.C15
open PyVal

/-! ### the recognisers on a sequence

`raise_if_not_valid_out`, `batch_order`, `has_kwargs` treat tuples and lists alike and look at the number of items, the first item
`x`, the last item `l` and whether all items are dicts.  Row-major answers (a sequence of answers) and column-major answers (a
sequence of columns) are read through the same statements. -/

theorem keysEq_dict_dict (r r' : Ref) (ks ks' : List String) (vs vs' : List PyVal) :
    keysEq (.dict r ks vs) (.dict r' ks' vs') = .ok (keysSame (.dict r ks vs) (.dict r' ks' vs')) := rfl

theorem keysEq_dicts (a b : PyVal) (ha : a.isDict = true) (hb : b.isDict = true) : keysEq a b = .ok (keysSame a b) := by
  cases a <;> simp [PyVal.isDict] at ha
  cases b <;> simp [PyVal.isDict] at hb
  simp [keysEq, keysSame]

theorem allDicts_of_items {v : PyVal} {xs : List PyVal} (h : v.items = some xs) : allDicts v = .ok (xs.all PyVal.isDict) := by
  cases v <;> simp only [PyVal.items, Option.some.injEq, reduceCtorEq] at h <;> subst h <;> rfl

/-- a sequence with first item `x` and last item `l` is not read as `[{hint: column}, kwargs]`: that reading is for dicts throughout
with other keys in the last than in the first (and, repaired, a hint in the first) -/
def NotColKw (fx : Fixes) (xs : List PyVal) (x l : PyVal) : Prop :=
  xs.all PyVal.isDict = true → keysSame x l = true ∨ (fx.rowdict = true ∧ isHint x = false)

theorem validOut_seq (fx : Fixes) {v x l : PyVal} {xs : List PyVal} (n : Nat)
    (hv : v.items = some xs) (hx : xs.head? = some x) (hl : xs.getLast? = some l) (hd : NotColKw fx xs x l) :
    validOut fx v n = (n == xs.length || n == x.len) := by
  cases xs with
  | nil => simp at hx
  | cons y ys =>
    simp only [List.head?_cons, Option.some.injEq] at hx
    subst hx
    have key : validOut fx (.list .tmp (y :: ys)) n = (n == (y :: ys).length || n == y.len) := by
      simp only [validOut, hl]
      by_cases hall : (y :: ys).all PyVal.isDict = true
      · have hy : y.isDict = true := List.all_eq_true.mp hall y (by simp)
        have hld : l.isDict = true := List.all_eq_true.mp hall l (List.mem_of_getLast? hl)
        rw [if_pos hall, keysEq_dicts y l hy hld]
        rcases hd hall with h | ⟨h1, h2⟩
        · simp only [h, lenOr0]
        · cases hks : keysSame y l <;> simp only [h1, h2, lenOr0, Bool.not_false, Bool.and_self, ↓reduceIte]
      · rw [if_neg hall]; rfl
    cases v <;> simp only [PyVal.items, Option.some.injEq, reduceCtorEq] at hv <;> subst hv <;> exact key

theorem validOut_seq_hint (fx : Fixes) {v l w : PyVal} {r : Ref} {ks : List String} {ws xs : List PyVal} (n : Nat)
    (hv : v.items = some xs) (hx : xs.head? = some (.dict r ks (w :: ws))) (hl : xs.getLast? = some l)
    (hall : xs.all PyVal.isDict = true) (hks : keysSame (.dict r ks (w :: ws)) l = false)
    (hh : isHint (.dict r ks (w :: ws)) = true) : validOut fx v n = (n == w.len) := by
  obtain ⟨ys, rfl⟩ := List.head?_eq_some_iff.mp hx
  have hld : l.isDict = true := List.all_eq_true.mp hall l (List.mem_of_getLast? hl)
  have key : validOut fx (.list .tmp (.dict r ks (w :: ws) :: ys)) n = (n == w.len) := by
    simp only [validOut, hl, if_pos hall, keysEq_dicts (.dict r ks (w :: ws)) l rfl hld, hks, hh, Bool.not_true, Bool.and_false,
      Bool.false_eq_true, ↓reduceIte, lenOr0]
  cases v <;> simp only [PyVal.items, Option.some.injEq, reduceCtorEq] at hv <;> subst hv <;> exact key

theorem batchOrderPre_seq (fx : Fixes) {v x l : PyVal} {xs : List PyVal} (cs : List PyVal) (rows : List (List PyVal))
    (hv : v.items = some xs) (hx : xs.head? = some x) (hl : xs.getLast? = some l) :
    batchOrderPre fx v (.batch cs rows) 1 =
      if xs.all PyVal.isDict && (!keysSame x l && xs.length == 2 && (!fx.rowdict || isHint x)) then .ok (some .col)
      else if xs.all PyVal.isDict && keysSame x l then .ok (some .row)
      else if !x.hasLen then .ok (some .row)
      else if xs.length = x.len then .ok Option.none
      else .ok (some (if xs.length = rows.length then .row else .col)) := by
  have h0 : getIdx v 0 = .ok x := by
    obtain ⟨ys, rfl⟩ := List.head?_eq_some_iff.mp hx
    exact getIdx_zero_of_items hv
  have h1 := getLast_of_items hv hl
  have h12 : ¬ (1 : Nat) = 2 := by decide
  unfold batchOrderPre
  simp only [allDicts_of_items hv, isDict_of_items hv, len_of_items hv, lenE, hasLen_of_items hv, h0, h1, h12, bind, Except.bind, pure,
    Except.pure, Bool.false_or, ↓reduceIte]
  cases hall : xs.all PyVal.isDict
  · cases hxl : x.hasLen <;> simp only [Bool.false_eq_true, ↓reduceIte, Bool.false_and, Bool.not_false, Bool.not_true]
  · have hxd : x.isDict = true := List.all_eq_true.mp hall x (List.mem_of_head? hx)
    have hld : l.isDict = true := List.all_eq_true.mp hall l (List.mem_of_getLast? hl)
    have hxl : x.hasLen = true := by cases x <;> first | rfl | cases hxd
    simp only [↓reduceIte, keysEq_dicts x l hxd hld, Bool.true_and, hxl]

theorem hasKwargs_col {v l : PyVal} {xs : List PyVal} (hv : v.items = some xs) (hl : xs.getLast? = some l) :
    hasKwargs v .col = l.isDict := by
  simp only [hasKwargs, getLast_of_items hv hl]

/-! … and on a dict (a column-major answer that is one mapping from names to columns) -/

theorem validOut_dict (fx : Fixes) (r : Ref) (ks : List String) (v : PyVal) (vs : List PyVal) (n : Nat) :
    validOut fx (.dict r ks (v :: vs)) n = (n == v.len) := rfl

theorem batchOrder_dict (fx : Fixes) (probe : Except Err PyVal) (r : Ref) (k : String) (ks : List String) (vs cs : List PyVal)
    (rows : List (List PyVal)) : batchOrder fx probe (.dict r (k :: ks) vs) (.batch cs rows) 1 = .ok .col := by
  simp [batchOrder, batchOrderPre, allDicts, iter, PyVal.isDict, bind, Except.bind, pure, Except.pure]

theorem hasKwargs_dict (r : Ref) (ks : List String) (vs : List PyVal) : hasKwargs (.dict r ks vs) .col = false := rfl

theorem firstRow_col_dict (r : Ref) (ks : List String) (vs : List PyVal) :
    firstRow (.dict r ks vs) .col false = (firstOfEach vs).map (fun vs' => .dict .tmp ks vs') := by
  simp only [firstRow, Bool.false_eq_true, ↓reduceIte, Bool.false_and, pure, Except.pure, bind, Except.bind]
  cases firstOfEach vs <;> rfl

theorem firstRow_col_kw_dict {v d : PyVal} (h0 : getIdx v 0 = .ok d) (hd : d.isDict = true) :
    firstRow v .col true = firstRow d .col false := by
  cases d <;> first | (cases hd; done) | simp only [firstRow, h0, PyVal.isDict, bind, Except.bind, pure, Except.pure, ↓reduceIte,
    Bool.and_self, Bool.false_eq_true]

/-! ### what batches share -/

abbrev Rows := List (Answer × List PyVal)

/-- the items of a row-major answer: each row's answer as the unbatched call would give it -/
def renders (sp : Spec) (R : Rows) : List PyVal := R.map (fun r => renderSingle sp r.1 r.2)

theorem choicewRows_length (s : Nat) (rows : List (List PyVal)) (ps : List PyVal) (s' : Nat) (A P : List PyVal)
    (h : choicewRows s rows ps = .ok (s', A, P)) (hl : rows.length = ps.length) :
    A.length = rows.length ∧ P.length = rows.length := by
  induction rows generalizing s s' ps A P with
  | nil => cases ps <;> simp [choicewRows, pure, Except.pure] at h <;> obtain ⟨_, rfl, rfl⟩ := h <;> simp
  | cons r rows ih =>
    cases ps with
    | nil => simp at hl
    | cons p ps =>
      simp only [choicewRows, bind, Except.bind] at h
      cases h1 : choicew s r p with
      | error e => simp [h1] at h
      | ok t =>
        obtain ⟨s1, a, w⟩ := t
        simp only [h1] at h
        cases h2 : choicewRows s1 rows ps with
        | error e => simp [h2] at h
        | ok t2 =>
          obtain ⟨s2, A2, P2⟩ := t2
          simp only [h2, pure, Except.pure, Except.ok.injEq, Prod.mk.injEq] at h
          obtain ⟨_, rfl, rfl⟩ := h
          obtain ⟨i1, i2⟩ := ih (s := s1) (s' := s2) (ps := ps) (A := A2) (P := P2) h2 (by simpa using hl)
          simp [i1, i2]

theorem choicewRows_ne (s : Nat) (rows : List (List PyVal)) (ps : List PyVal) (s' : Nat) (A P : List PyVal)
    (h : choicewRows s rows ps = .ok (s', A, P)) (hl : rows.length = ps.length) (hr : rows ≠ []) : A.isEmpty = false := by
  have hA := (choicewRows_length s rows ps s' A P h hl).1
  cases A with
  | nil => exact absurd (List.length_eq_zero_iff.mp hA.symm) hr
  | cons _ _ => rfl

theorem zipWithAns_snd (pol : Policy) (cs : List PyVal) (rows : List (List PyVal)) (h : cs.length = rows.length) :
    (zipWithAns pol cs rows).map (·.2) = rows := by
  induction cs generalizing rows with
  | nil => cases rows with | nil => rfl | cons _ _ => cases h
  | cons c cs ih =>
    cases rows with
    | nil => cases h
    | cons a as => rw [zipWithAns, List.map_cons, ih as (Nat.succ.inj h)]

theorem zipWithAns_length (pol : Policy) (cs : List PyVal) (rows : List (List PyVal)) (h : cs.length = rows.length) :
    (zipWithAns pol cs rows).length = rows.length := by
  have := congrArg List.length (zipWithAns_snd pol cs rows h)
  simpa using this

theorem zipWithAns_head (pol : Policy) (c : PyVal) (cs : List PyVal) (a : List PyVal) (rows : List (List PyVal)) :
    zipWithAns pol (c :: cs) (a :: rows) = (pol c a, a) :: zipWithAns pol cs rows := rfl

theorem deliversN_to_delivers (x : Except Err (Result × Nat)) (w : Except Err (BatchView × Nat)) (f : Nat → State)
    (h : DeliversN x w) : Delivers (liftSt f x) w f := by
  cases w with
  | error e =>
    simp only [DeliversN] at h
    subst h
    simp [Delivers, liftSt]
  | ok v =>
    obtain ⟨v, s'⟩ := v
    simp only [DeliversN] at h
    obtain ⟨r, hr, hv⟩ := h
    subst hr
    exact ⟨r, rfl, hv⟩

/-! ### the kwargs and the last step of a batch -/

/-- the kwargs of a batch under the first row's keys, one list per key: as `_parse_pred` builds them from row-major answers
(`ref = .tmp`), or as a column-major learner gives them (`ref = .lrn 0`: `kwCols`) -/
def kwTable (ref : Ref) (R : Rows) : PyVal :=
  match R with
  | [] => .dict ref [] []
  | (a0, _) :: _ =>
    .dict ref a0.kwKeys (a0.kwKeys.map (fun k => PyVal.list ref (R.map (fun r => (lookupKey k r.1.kwKeys r.1.kwVals).getD .none))))

theorem kwTable_lrn (R : Rows) : kwTable (.lrn 0) R = kwCols R := by
  cases R with
  | nil => rfl
  | cons r R => obtain ⟨a0, as0⟩ := r; rfl

/-- the kwargs a batched `predict` returns -/
def kwVal (ref : Ref) (sp : Spec) (R : Rows) : PyVal := if sp.kw then kwTable ref R else .dict .tmp [] []

theorem kwVal_view (ref : Ref) (sp : Spec) (R : Rows) (a p : PyVal) (A P : List PyVal)
    (ha : a.items = some A) (hp : p.items = some P) :
    (Result.mk a p (kwVal ref sp R)).view = some ⟨A, P, (wantKw sp R).1, (wantKw sp R).2⟩ := by
  unfold kwVal wantKw
  cases hk : sp.kw
  · simp [Result.view, ha, hp, allItems]
  · cases R with
    | nil => simp [Result.view, ha, hp, allItems, kwTable]
    | cons r R' =>
      obtain ⟨a0, as0⟩ := r
      have := allItems_lists (a0.kwKeys.map (fun k => ((a0, as0) :: R').map (fun r => (lookupKey k r.1.kwKeys r.1.kwVals).getD .none))) ref
      simp only [List.map_map] at this
      simp [Result.view, ha, hp, kwTable]
      exact this

theorem finishRows_spec (sp : Spec) (s : Nat) (R : Rows) (hne : R ≠ []) (ref : Ref) (f : Answer × List PyVal → PyVal) (bodyV : PyVal)
    (hf : ∀ r, Holds sp.fmt.kind r.1 r.2 (f r)) (hb : bodyV.items = some (R.map f)) :
    DeliversN (finishRows s sp.fmt.kind (R.map (·.2)) (R.map f) bodyV (kwVal ref sp R)) (wantBatch sp s R) := by
  have hkw := kwVal_view ref sp R
  unfold wantBatch
  cases hk : sp.fmt.kind <;> rw [hk] at hf <;> simp only [Holds] at hf
  case AX =>
    have hin : R.map f = R.map (fun r => r.1.action r.2) := List.map_congr_left (fun r _ => hf r)
    rw [hin] at hb ⊢
    refine ⟨_, rfl, ?_⟩
    rw [hkw bodyV (noneList _) _ _ hb (items_noneList _), List.length_map, ← List.map_const']
  case AP =>
    have h1 : mapE itemsE (R.map f) = .ok (R.map (fun r => [r.1.action r.2, r.1.p])) :=
      mapE_map_ok _ _ _ R (fun r _ => iter_of_items _ _ (hf r))
    have h2 := zipStar_pairs (fun r : Answer × List PyVal => r.1.action r.2) (fun r => r.1.p) R hne
    simp only [finishRows, DeliversN, unzipPairs, h1, h2, bind, Except.bind, pure, Except.pure]
    exact ⟨_, rfl, hkw _ _ _ _ rfl rfl⟩
  case PM =>
    -- `choicew` looks at the items of a PMF only
    simp only [finishRows, bind, Except.bind]
    rw [← choicewRows_items f (fun r => mkPmf sp.pmfTup r.1.pmf) (fun r => r.1.pmf) hf (fun _ => items_mkSeq _ _) R]
    cases hc : choicewRows s (R.map (·.2)) (R.map f) with
    | error e => rfl
    | ok v =>
      obtain ⟨s', A, P⟩ := v
      have := choicewRows_ne _ _ _ _ _ _ hc (by simp) (by simpa using hne)
      simp only [this, Bool.false_eq_true, ↓reduceIte, DeliversN, pure, Except.pure]
      exact ⟨_, rfl, hkw _ _ _ _ rfl rfl⟩

end Coba.C15
