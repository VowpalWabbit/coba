/-
C15: column-major batch answers: the table of the rows' fields and its columns, `_parse_pred`'s column branch, what `first_row`
collects from the columns, and the first-call detection.
-/
import CobaVerif.Lemmas.C15Batch

namespace Coba.C15
open PyVal

/-- one row of the table an un-hinted column-major learner transposes -/
def fieldsOf (sp : Spec) (ans : Answer) (as : List PyVal) : List PyVal :=
  match sp.fmt.kind with
  | .AX => [ans.action as]
  | .AP => [ans.action as, ans.p]
  | .PM => ans.pmf

/-- that table: the fields of every row of a batch -/
def table (sp : Spec) (R : Rows) : List (List PyVal) := R.map (fun r => fieldsOf sp r.1 r.2)

/-- the columns of an un-hinted column-major answer (without the kwargs column) -/
def colsOf (sp : Spec) (R : Rows) : List PyVal := (zipStar (table sp R)).map (fun c => PyVal.list (.lrn 0) c)

theorem renderCol_unhinted (sp : Spec) (R : Rows) (hun : sp.fmt.hinted = false) :
    renderCol sp R = mkSeq sp.tup (colsOf sp R ++ (if sp.kw then [kwCols R] else [])) := by
  obtain ⟨fmt, kw, lay, tup, ptup⟩ := sp
  cases fmt <;> simp only [Fmt.hinted, reduceCtorEq] at hun <;> cases kw <;>
    simp only [Bool.false_eq_true, ↓reduceIte, List.append_nil] <;> rfl

/-- the hinted column-major answer -/
def hintDict (sp : Spec) (R : Rows) : PyVal :=
  .dict (.lrn 0) [sp.fmt.hint] [.list (.lrn 0) (R.map (fun r => payload sp r.1 r.2))]

theorem renderCol_hinted (sp : Spec) (R : Rows) (hh : sp.fmt.hinted = true) :
    renderCol sp R = if sp.kw then mkSeq sp.tup ([hintDict sp R] ++ [kwCols R]) else hintDict sp R := by
  obtain ⟨fmt, kw, lay, tup, ptup⟩ := sp
  cases fmt <;> simp only [Fmt.hinted, reduceCtorEq] at hh <;> cases kw <;>
    simp only [renderCol, hintDict, core, Fmt.hinted, Fmt.hint, Fmt.kind, payload, Answer.action, mkPmf, List.map_map, Function.comp_def,
      Bool.false_eq_true, ↓reduceIte, List.getD_cons_zero, List.cons_append, List.nil_append]

theorem colsOf_A (sp : Spec) (R : Rows) (hne : R ≠ []) (hf : sp.fmt = .A) :
    colsOf sp R = [.list (.lrn 0) (R.map (fun r => r.1.action r.2))] := by
  simp only [colsOf, table, fieldsOf, hf, Fmt.kind, zipStar_singles _ R hne, List.map_cons, List.map_nil]

theorem colsOf_AP (sp : Spec) (R : Rows) (hne : R ≠ []) (hf : sp.fmt = .AP) :
    colsOf sp R = [.list (.lrn 0) (R.map (fun r => r.1.action r.2)), .list (.lrn 0) (R.map (fun r => r.1.p))] := by
  simp only [colsOf, table, fieldsOf, hf, Fmt.kind, zipStar_pairs _ _ R hne, List.map_cons, List.map_nil]

/-- `_parse_pred`'s column branch once the kwargs are set aside -/
def parseColStd (fx : Fixes) (f : PFmt) (s : Nat) (rows : List (List PyVal)) (pred kwargs : PyVal) : Except Err (Result × Nat) := do
  let pred ← (if f.star then do
      let d ← (if fx.col && !pred.isDict then getIdx pred 0 else pure pred)
      firstValue d
    else if fx.col && f.kind = .PM then do
      let cols ← itemsE pred
      let cs ← mapE itemsE cols
      pure (.list .tmp ((zipStar cs).map (fun r => PyVal.tuple .tmp r)))
    else if fx.col && f.kind = .AX then getIdx pred 0
    else pure pred)
  match f.kind with
  | .PM => do
    let body ← itemsE pred
    let (s', A, P) ← choicewRows s rows body
    if A.isEmpty then .error .value else pure (⟨.list .tmp A, .list .tmp P, kwargs⟩, s')
  | .AX => do
    let n ← lenE pred
    pure (⟨pred, noneList n, kwargs⟩, s)
  | .AP =>
    if f.star then do
      let body ← itemsE pred
      let (A, P) ← unzipPairs body
      pure (⟨A, P, kwargs⟩, s)
    else do
      let xs ← itemsE pred
      match xs with
      | [A, P] => pure (⟨A, P, kwargs⟩, s)
      | _ => .error .value

theorem parseCol_nokw (fx : Fixes) {st : State} (h : st.hasKw = false) (f : PFmt) (rows : List (List PyVal)) (pred : PyVal) :
    parseCol fx st f rows pred = parseColStd fx f st.rng rows pred emptyKw := by
  unfold parseCol; rw [h]; rfl

theorem parseCol_kw (fx : Fixes) {st : State} (h : st.hasKw = true) (f : PFmt) (rows : List (List PyVal)) (t : Bool) (xs : List PyVal)
    (kwd : PyVal) : parseCol fx st f rows (mkSeq t (xs ++ [kwd])) = parseColStd fx f st.rng rows (seqTmp t xs) kwd := by
  unfold parseCol; rw [h]
  simp only [↓reduceIte, getLast_mkSeq, dropLast_mkSeq, bind, Except.bind]
  rfl

section
variable {fx : Fixes} (s : Nat) (rows : List (List PyVal)) {pred : PyVal} (kwd : PyVal)

/-- `hd`: the repaired `_parse_pred` first takes the hint dict out of the slice in front of the kwargs -/
theorem parseColStd_star {f : PFmt} (hs : f.star = true) {d col : PyVal} {body : List PyVal}
    (hd : (if fx.col && !pred.isDict then getIdx pred 0 else pure pred) = .ok d) (hc : firstValue d = .ok col)
    (hb : col.items = some body) : parseColStd fx f s rows pred kwd = finishRows s f.kind rows body col kwd := by
  obtain ⟨k, _⟩ := f
  subst hs
  simp only [pure, Except.pure] at hd
  cases k <;>
    simp only [parseColStd, finishRows, hd, hc, itemsE, iter_of_items _ _ hb, lenE_of_items hb, ↓reduceIte, bind, Except.bind, pure,
      Except.pure]

theorem parseColStd_A (hc : fx.col = true) {col : PyVal} {cols body : List PyVal} (hp : pred.items = some (col :: cols))
    (hb : col.items = some body) : parseColStd fx ⟨.AX, false⟩ s rows pred kwd = finishRows s .AX rows body col kwd := by
  simp only [parseColStd, finishRows, hc, getIdx_zero_of_items hp, lenE_of_items hb, Bool.false_eq_true, ↓reduceIte, Bool.true_and,
    reduceCtorEq, decide_false, decide_true, bind, Except.bind, pure, Except.pure]

theorem parseColStd_PM (hc : fx.col = true) {cols : List PyVal} {cs : List (List PyVal)} (hp : pred.items = some cols)
    (hcs : mapE itemsE cols = .ok cs) :
    parseColStd fx ⟨.PM, false⟩ s rows pred kwd =
      finishRows s .PM rows ((zipStar cs).map (fun r => PyVal.tuple .tmp r)) (.list .tmp ((zipStar cs).map (fun r => PyVal.tuple .tmp r))) kwd := by
  simp only [parseColStd, finishRows, hc, itemsE, iter_of_items _ _ hp, hcs, iter_list, Bool.false_eq_true, ↓reduceIte, Bool.true_and,
    decide_true, bind, Except.bind, pure, Except.pure]

theorem parseColStd_AP {A P : PyVal} (hp : pred.items = some [A, P]) :
    parseColStd fx ⟨.AP, false⟩ s rows pred kwd = .ok (⟨A, P, kwd⟩, s) := by
  simp only [parseColStd, itemsE, iter_of_items _ _ hp, Bool.false_eq_true, ↓reduceIte, reduceCtorEq, decide_false, Bool.and_false,
    bind, Except.bind, pure, Except.pure]

end

theorem parseCol_seq (fx : Fixes) (sp : Spec) (st : State) (hkw : st.hasKw = sp.kw) (f : PFmt) (R : Rows) (cols : List PyVal) :
    ∃ pred : PyVal, pred.items = some cols ∧
      parseCol fx st f (R.map (·.2)) (mkSeq sp.tup (cols ++ if sp.kw then [kwCols R] else [])) =
        parseColStd fx f st.rng (R.map (·.2)) pred (kwVal (.lrn 0) sp R) := by
  cases hk : sp.kw <;> rw [hk] at hkw <;> simp only [kwVal, hk, Bool.false_eq_true, ↓reduceIte, List.append_nil]
  · exact ⟨_, items_mkSeq sp.tup cols, parseCol_nokw fx hkw ..⟩
  · exact ⟨_, items_seqTmp sp.tup cols, by rw [kwTable_lrn]; exact parseCol_kw fx hkw ..⟩

theorem parseCol_A (fx : Fixes) (sp : Spec) (st : State) (hkw : st.hasKw = sp.kw) (R : Rows) (hne : R ≠ [])
    (hf : sp.fmt = .A) (hok : fx.col = true) :
    DeliversN (parseCol fx st sp.pfmt (R.map (·.2)) (renderCol sp R)) (wantBatch sp st.rng R) := by
  obtain ⟨pred, hp, hparse⟩ := parseCol_seq fx sp st hkw sp.pfmt R (colsOf sp R)
  rw [renderCol_unhinted sp R (by rw [hf]; rfl), hparse, show sp.pfmt = ⟨.AX, false⟩ by rw [Spec.pfmt, hf]; rfl,
    parseColStd_A _ _ _ hok (hp.trans (by rw [colsOf_A sp R hne hf])) rfl]
  have fin := finishRows_spec sp st.rng R hne (.lrn 0) (fun r => r.1.action r.2) (.list (.lrn 0) _) (fun _ => by rw [hf]; rfl) rfl
  rwa [hf] at fin

theorem parseCol_AP (fx : Fixes) (sp : Spec) (st : State) (hkw : st.hasKw = sp.kw) (R : Rows) (hne : R ≠ [])
    (hf : sp.fmt = .AP) :
    DeliversN (parseCol fx st sp.pfmt (R.map (·.2)) (renderCol sp R)) (wantBatch sp st.rng R) := by
  obtain ⟨pred, hp, hparse⟩ := parseCol_seq fx sp st hkw sp.pfmt R (colsOf sp R)
  rw [renderCol_unhinted sp R (by rw [hf]; rfl), hparse, pfmt_pair hf,
    parseColStd_AP _ _ _ (hp.trans (by rw [colsOf_AP sp R hne hf]))]
  simp only [wantBatch, hf, Fmt.kind, DeliversN]
  exact ⟨_, rfl, kwVal_view (.lrn 0) sp R _ _ _ _ rfl rfl⟩

theorem parseCol_hinted (fx : Fixes) (sp : Spec) (st : State) (hkw : st.hasKw = sp.kw) (R : Rows) (hne : R ≠ [])
    (hh : sp.fmt.hinted = true) (hok : fx.col = true ∨ sp.kw = false) :
    DeliversN (parseCol fx st sp.pfmt (R.map (·.2)) (renderCol sp R)) (wantBatch sp st.rng R) := by
  have fin := finishRows_spec sp st.rng R hne (.lrn 0) _ (.list (.lrn 0) _) (fun r => holds_payload sp r.1 r.2) rfl
  rw [renderCol_hinted sp R hh]
  cases hk : sp.kw <;> rw [hk] at hkw <;> simp only [kwVal, hk, Bool.false_eq_true, ↓reduceIte] at fin ⊢
  · rwa [parseCol_nokw fx hkw,
      parseColStd_star (d := hintDict sp R) _ _ _ hh (by simp [hintDict, PyVal.isDict, pure, Except.pure]) rfl rfl]
  · -- `[{hint: column}, kwargs]`: only the repaired `_parse_pred` takes the dict out of the slice in front of the kwargs
    have hc : fx.col = true := hok.resolve_right (by rw [hk]; nofun)
    rw [kwTable_lrn] at fin
    rwa [parseCol_kw fx hkw, parseColStd_star (d := hintDict sp R) _ _ _ hh (by simp [hc]) rfl rfl]

theorem table_rect (sp : Spec) (a0 : Answer) (as0 : List PyVal) (R' : Rows) (hun : sp.fmt.hinted = false)
    (ht : pmfTable sp ((a0, as0) :: R') = true) :
    0 < ncols sp a0 ∧ ∀ r ∈ (a0, as0) :: R', (fieldsOf sp r.1 r.2).length = ncols sp a0 := by
  obtain ⟨fmt, kw, lay, tup, ptup⟩ := sp
  cases fmt <;> simp only [Fmt.hinted, reduceCtorEq] at hun
  case A => exact ⟨Nat.one_pos, fun _ _ => rfl⟩
  case AP => exact ⟨Nat.two_pos, fun _ _ => rfl⟩
  case PM =>
    simp only [pmfTable, bne_self_eq_false, Bool.false_or, Bool.and_eq_true, decide_eq_true_eq, List.all_eq_true, beq_iff_eq] at ht
    exact ⟨ht.1, ht.2⟩

theorem mapE_items_lists (cs : List (List PyVal)) (r : Ref) :
    mapE itemsE (cs.map (fun c => PyVal.list r c)) = .ok cs := by
  have := mapE_map_ok itemsE (fun c => PyVal.list r c) id cs (by intro c _; simp [itemsE, iter])
  simpa using this

theorem parseCol_PM (fx : Fixes) (sp : Spec) (st : State) (hkw : st.hasKw = sp.kw) (R : Rows) (hne : R ≠ [])
    (hf : sp.fmt = .PM) (hok : fx.col = true) (ht : pmfTable sp R = true) :
    DeliversN (parseCol fx st sp.pfmt (R.map (·.2)) (renderCol sp R)) (wantBatch sp st.rng R) := by
  have htab : table sp R = R.map (fun r => r.1.pmf) := by simp only [table, fieldsOf, hf, Fmt.kind]
  -- the columns are the transposed table of PMFs, and `_parse_pred` transposes them back
  have hinv : zipStar (zipStar (R.map (fun r => r.1.pmf))) = R.map (fun r => r.1.pmf) := by
    obtain ⟨⟨a0, as0⟩, R', rfl⟩ := List.exists_cons_of_ne_nil hne
    obtain ⟨hK, hrect⟩ := table_rect sp a0 as0 R' (by rw [hf]; rfl) ht
    rw [← htab]
    exact zipStar_zipStar _ hK _ _ (List.cons_ne_nil _ _) hrect
  obtain ⟨pred, hp, hparse⟩ := parseCol_seq fx sp st hkw sp.pfmt R (colsOf sp R)
  rw [renderCol_unhinted sp R (by rw [hf]; rfl), hparse, show sp.pfmt = ⟨.PM, false⟩ by rw [Spec.pfmt, hf]; rfl,
    parseColStd_PM _ _ _ hok hp (mapE_items_lists _ (.lrn 0)), htab, hinv, List.map_map]
  have fin := finishRows_spec sp st.rng R hne (.lrn 0) (fun r => PyVal.tuple .tmp r.1.pmf) (.list .tmp _) (fun _ => by rw [hf]; rfl) rfl
  rwa [hf] at fin

theorem parseCol_cols (fx : Fixes) (sp : Spec) (st : State) (hkw : st.hasKw = sp.kw) (R : Rows) (hne : R ≠ [])
    (hok : colParseOK fx sp = true) (ht : pmfTable sp R = true) :
    DeliversN (parseCol fx st sp.pfmt (R.map (·.2)) (renderCol sp R)) (wantBatch sp st.rng R) := by
  simp only [colParseOK, Bool.or_eq_true, Bool.and_eq_true, beq_iff_eq, Bool.not_eq_true'] at hok
  -- un-hinted columns other than (action, prob) are only understood by the repaired `_parse_pred`
  have hcol : sp.fmt ≠ .AP → sp.fmt.hinted = false → fx.col = true := by
    intro hAP hun
    rcases hok with (h | h) | h
    · exact h
    · exact absurd h hAP
    · rw [hun] at h; cases h.1
  cases hf : sp.fmt
  case AP => exact parseCol_AP fx sp st hkw R hne hf
  case A => exact parseCol_A fx sp st hkw R hne hf (hcol (by rw [hf]; simp) (by rw [hf]; rfl))
  case PM => exact parseCol_PM fx sp st hkw R hne hf (hcol (by rw [hf]; simp) (by rw [hf]; rfl)) ht
  all_goals
    have hh : sp.fmt.hinted = true := by rw [hf]; rfl
    have hok' : fx.col = true ∨ sp.kw = false := by
      rcases hok with (h | h) | h
      · exact Or.inl h
      · rw [hf] at h; cases h
      · exact Or.inr h.2
    exact parseCol_hinted fx sp st hkw R hne hh hok'

/-- what the first call's detection needs of the columns of a table with `K ≥ 1` entries in every row -/
theorem cols_shape {α} {K : Nat} (hK : 0 < K) (f : α → List PyVal) (r : α) (M : List α) (hrect : ∀ x ∈ r :: M, (f x).length = K)
    {ref : Ref} {cols : List PyVal} (hcols : cols = (zipStar ((r :: M).map f)).map (fun c => PyVal.list ref c)) :
    (∃ c0 rest, cols = .list ref c0 :: rest ∧ c0.length = M.length + 1) ∧ cols.length = K ∧ firstOfEach cols = .ok (f r) ∧
    ∀ c ∈ cols, c.isDict = false := by
  subst hcols
  rw [zipStar_map K f (r :: M) (List.cons_ne_nil _ _) hrect, List.map_map]
  refine ⟨?_, by rw [List.length_map, List.length_range], ?_, ?_⟩
  · obtain ⟨K', rfl⟩ := Nat.exists_eq_succ_of_ne_zero (Nat.ne_of_gt hK)
    rw [List.range_succ_eq_map]
    exact ⟨_, _, rfl, by rw [List.length_map]; rfl⟩
  · rw [firstOfEach_map _ (fun j => (f r).getD j .none) _ (fun j _ => rfl), ← hrect r (List.mem_cons_self ..), range_map_getD]
  · intro c hc; obtain ⟨x, _, rfl⟩ := List.mem_map.mp hc; rfl

theorem not_allDicts_of_head {xs c0 : List PyVal} {ref : Ref} (hx : xs.head? = some (.list ref c0)) :
    xs.all PyVal.isDict = false := by
  rw [Bool.eq_false_iff]
  intro h
  exact absurd (List.all_eq_true.mp h _ (List.mem_of_head? hx)) (by simp [PyVal.isDict])

theorem validOut_cols (fx : Fixes) {v : PyVal} {xs c0 : List PyVal} {ref : Ref} (hv : v.items = some xs)
    (hx : xs.head? = some (.list ref c0)) : validOut fx v c0.length = true := by
  obtain ⟨l, hl⟩ : ∃ l, xs.getLast? = some l := ⟨_, List.getLast?_eq_some_getLast (by rintro rfl; cases hx)⟩
  rw [validOut_seq fx _ hv hx hl (fun h => by rw [not_allDicts_of_head hx] at h; cases h)]
  simp [PyVal.len]

/-- with as many columns as rows `batch_order` makes its one-row test call; the `n` columns of the answer mean 'col' unless `n = 1` -/
theorem batchOrder_cols (fx : Fixes) {v : PyVal} {xs c0 : List PyVal} {ref : Ref} (cs : List PyVal) (rows : List (List PyVal))
    (probe : Except Err PyVal) (pp : PyVal) (n : Nat) (hv : v.items = some xs) (hx : xs.head? = some (.list ref c0))
    (hn : c0.length = rows.length)
    (hprobe : xs.length = rows.length → probe = .ok pp ∧ lenE pp = .ok n ∧ n ≠ 1) :
    batchOrder fx probe v (.batch cs rows) 1 = .ok .col := by
  obtain ⟨l, hl⟩ : ∃ l, xs.getLast? = some l := ⟨_, List.getLast?_eq_some_getLast (by rintro rfl; cases hx)⟩
  have hpre := batchOrderPre_seq fx cs rows hv hx hl
  simp only [not_allDicts_of_head hx, Bool.false_and, Bool.false_eq_true, ↓reduceIte, PyVal.hasLen, Bool.not_true, PyVal.len,
    hn] at hpre
  unfold batchOrder
  by_cases hsq : xs.length = rows.length
  · obtain ⟨h1, h2, h3⟩ := hprobe hsq
    rw [if_pos hsq] at hpre
    simp only [bind, Except.bind, hpre, h1, h2, pure, Except.pure, if_neg h3]
  · rw [if_neg hsq, if_neg hsq] at hpre
    simp only [bind, Except.bind, hpre, pure, Except.pure]

/-- `row[0] if len(row)==1 else row` -/
def stdOfFields (fields : List PyVal) : PyVal :=
  match fields with
  | [x] => x
  | row => .list .tmp row

theorem firstRow_cols (t kw : Bool) (x : PyVal) (rest : List PyVal) (kwd : PyVal) (fields : List PyVal)
    (hxd : x.isDict = false) (hf : firstOfEach (x :: rest) = .ok fields) :
    firstRow (mkSeq t ((x :: rest) ++ (if kw then [kwd] else []))) .col kw = .ok (stdOfFields fields) := by
  have hfin : (match fields with | [x] => (pure x : Except Err PyVal) | x => pure (PyVal.list .tmp fields)) = .ok (stdOfFields fields) := by
    unfold stdOfFields; split <;> rfl
  cases kw
  · cases t <;>
      simp only [firstRow, mkSeq, Bool.false_eq_true, ↓reduceIte, List.append_nil, pure, Except.pure, bind, Except.bind, Bool.false_and,
        iter, hf] <;>
      exact hfin
  · have hdl : (x :: (rest ++ [kwd])).dropLast = x :: rest := by
      have := List.dropLast_concat (l₁ := x :: rest) (b := kwd)
      simpa using this
    cases t <;>
      simp only [firstRow, mkSeq, ↓reduceIte, pure, Except.pure, bind, Except.bind, List.cons_append, getIdx, List.getElem?_cons_zero,
        hxd, Bool.and_false, Bool.false_eq_true, dropLast, iter, hdl, hf] <;>
      exact hfin

/-- what `first_row` makes of the first entries of the columns -/
def colStd (sp : Spec) (a0 : Answer) (as0 : List PyVal) : PyVal := stdOfFields (fieldsOf sp a0 as0)

theorem holds_colStd (sp : Spec) (a0 : Answer) (as0 : List PyVal) (hun : sp.fmt.hinted = false)
    (hK : sp.fmt = .PM → 2 ≤ a0.pmf.length) : Holds sp.fmt.kind a0 as0 (colStd sp a0 as0) ∧ (sp.fmt = .PM → freshSeq (colStd sp a0 as0) = true) := by
  obtain ⟨fmt, kw, lay, tup, ptup⟩ := sp
  cases fmt <;> simp only [Fmt.hinted, reduceCtorEq] at hun
  case A => exact ⟨rfl, nofun⟩
  case AP => exact ⟨rfl, nofun⟩
  case PM =>
    have hstd : colStd ⟨.PM, kw, lay, tup, ptup⟩ a0 as0 = .list .tmp a0.pmf := by
      have hK := hK rfl
      simp only [colStd, fieldsOf, Fmt.kind, stdOfFields]
      rcases hpm : a0.pmf with _ | ⟨x, _ | ⟨y, r⟩⟩
      · simp [hpm] at hK
      · simp [hpm] at hK
      · rfl
    rw [hstd]; exact ⟨rfl, fun _ => rfl⟩

theorem kwCols_isDict (R : Rows) : (kwCols R).isDict = true := by
  cases R with
  | nil => rfl
  | cons r R => rfl

theorem detect_cols (fx : Fixes) (sp : Spec) (pol : Policy) (st1 : State) (c0 : PyVal) (cs' : List PyVal) (as0 : List PyVal)
    (rows' : List (List PyVal)) (R' : Rows)
    (hlay : sp.layout = .col) (hun : sp.fmt.hinted = false)
    (hl : st1.layout = Option.none)
    (hRl : R'.length = rows'.length)
    (hf : firstRowOK fx sp (pol c0 as0) as0 = true)
    (hc : colFirstOK sp (pol c0 as0) (rows'.length + 1) = true)
    (ht : pmfTable sp ((pol c0 as0, as0) :: R') = true) :
    validOut fx (renderCol sp ((pol c0 as0, as0) :: R')) (rows'.length + 1) = true ∧
    detect fx (scripted sp pol) st1 (.batch (c0 :: cs') (as0 :: rows')) (renderCol sp ((pol c0 as0, as0) :: R')) 1 =
      .ok { st1 with layout := some .col, hasKw := sp.kw, fmt := some sp.pfmt } := by
  set a0 := pol c0 as0 with ha0
  obtain ⟨hK0, hrect⟩ := table_rect sp a0 as0 R' hun ht
  obtain ⟨⟨col0, rest, hcols, hc0⟩, hncols, hfirst, hnd⟩ :=
    cols_shape hK0 (fun r : Answer × List PyVal => fieldsOf sp r.1 r.2) (a0, as0) R' hrect (ref := .lrn 0) (cols := colsOf sp _) rfl
  have hncols1 := (cols_shape hK0 (fun r : Answer × List PyVal => fieldsOf sp r.1 r.2) (a0, as0) []
    (fun r hr => hrect r (List.mem_cons.mpr (.inl (List.mem_singleton.mp hr)))) (ref := .lrn 0) (cols := colsOf sp _) rfl).2.1
  simp only [colFirstOK, hun, Bool.false_eq_true, ↓reduceIte, Bool.and_eq_true, Bool.or_eq_true, bne_iff_ne, ne_eq,
    decide_eq_true_eq, Bool.not_eq_true', Bool.and_eq_false_iff, beq_eq_false_iff_ne] at hc
  obtain ⟨hcK, hshape⟩ := hc
  have hK : sp.fmt = .PM → 2 ≤ a0.pmf.length := by
    intro h; rcases hcK with h' | h'
    · exact absurd h h'
    · exact h'
  -- the answer is a sequence: the columns, then the kwargs; the answer to the one-row test call has as many items
  have hP := renderCol_unhinted sp ((a0, as0) :: R') hun
  have hP1 := renderCol_unhinted sp [(a0, as0)] hun
  have hlenP : ∀ X : Rows, (colsOf sp ((a0, as0) :: X)).length = ncols sp a0 →
      (colsOf sp ((a0, as0) :: X) ++ if sp.kw then [kwCols ((a0, as0) :: X)] else []).length = ncols sp a0 + if sp.kw then 1 else 0 := by
    intro X hX; rw [List.length_append, hX]; cases sp.kw <;> rfl
  have hhead : (colsOf sp ((a0, as0) :: R') ++ if sp.kw then [kwCols ((a0, as0) :: R')] else []).head? = some (.list (.lrn 0) col0) := by
    rw [hcols]; rfl
  have hbo : batchOrder fx
      (do let a1 ← firstOf (.batch (c0 :: cs') (as0 :: rows')); let r ← safeCall fx (scripted sp pol) (some 1) a1; pure r.1)
      (renderCol sp ((a0, as0) :: R')) (.batch (c0 :: cs') (as0 :: rows')) 1 = .ok .col := by
    rw [hP]
    refine batchOrder_cols fx (c0 :: cs') (as0 :: rows') _ (renderCol sp [(a0, as0)]) (ncols sp a0 + if sp.kw then 1 else 0)
      (items_mkSeq _ _) hhead (by simp [hc0, hRl]) ?_
    intro hsq
    have hprobe : scripted sp pol (.batch [c0] [as0]) = .ok (renderCol sp [(a0, as0)]) := by
      simp [scripted, hlay, zipWithAns, ha0]
    refine ⟨by simp only [firstOf, safeCall, hprobe, bind, Except.bind, pure, Except.pure],
      by rw [hP1, lenE_mkSeq, hlenP [] hncols1], ?_⟩
    -- one column for one row is what `colFirstOK` excludes
    intro h1
    rw [hlenP R' hncols, h1, List.length_cons] at hsq
    rcases hshape with h | h
    · exact h h1
    · exact h hsq.symm
  have hk : hasKwargs (renderCol sp ((a0, as0) :: R')) .col = sp.kw := by
    rw [hP]
    cases hkw : sp.kw
    · obtain ⟨l, hl⟩ : ∃ l, (colsOf sp ((a0, as0) :: R')).getLast? = some l :=
        ⟨_, List.getLast?_eq_some_getLast (by rw [hcols]; simp)⟩
      rw [hasKwargs_col (items_mkSeq _ _) (by simpa using hl)]
      exact hnd l (List.mem_of_getLast? hl)
    · rw [hasKwargs_col (l := kwCols ((a0, as0) :: R')) (items_mkSeq _ _) (by simp), kwCols_isDict]
  have hfr : firstRow (renderCol sp ((a0, as0) :: R')) .col sp.kw = .ok (colStd sp a0 as0) := by
    rw [hP, hcols]
    rw [hcols] at hfirst
    exact firstRow_cols sp.tup sp.kw _ rest _ _ rfl hfirst
  refine ⟨?_, detect_of fx (scripted sp pol) st1 _ _ 1 .col sp.kw _ as0 _ hl (.inr ⟨_, _, rfl⟩) hbo hk hfr
    (predFormat_holds fx sp a0 as0 _ hf hun (holds_colStd sp a0 as0 hun hK).1 (holds_colStd sp a0 as0 hun hK).2)⟩
  have := validOut_cols fx (items_mkSeq sp.tup _) hhead
  rwa [hc0, hRl, ← hP] at this

theorem hint_isHint (f : Fmt) (hh : f.hinted = true) (r : Ref) (vs : List PyVal) :
    isHint (.dict r [f.hint] vs) = true := by
  cases f <;> simp [Fmt.hinted] at hh <;> simp [isHint, Fmt.hint]

theorem keysSame_hint_kw (h : String) (vs : List PyVal) (ks : List String) (vs' : List PyVal) (r r' : Ref)
    (hn : ks.contains h = false) : keysSame (.dict r [h] vs) (.dict r' ks vs') = false := by
  simp only [keysSame, List.all_cons, hn, Bool.false_and]

theorem hinted_col_facts (fx : Fixes) (sp : Spec) (a0 : Answer) (as0 : List PyVal) (R' : Rows) (cs : List PyVal) (rows : List (List PyVal))
    (probe : Except Err PyVal)
    (hh : sp.fmt.hinted = true) (hc : colFirstOK sp a0 (R'.length + 1) = true) :
    validOut fx (renderCol sp ((a0, as0) :: R')) (R'.length + 1) = true ∧
    batchOrder fx probe (renderCol sp ((a0, as0) :: R')) (.batch cs rows) 1 = .ok .col ∧
    hasKwargs (renderCol sp ((a0, as0) :: R')) .col = sp.kw ∧
    firstRow (renderCol sp ((a0, as0) :: R')) .col sp.kw = .ok (.dict .tmp [sp.fmt.hint] [payload sp a0 as0]) := by
  rw [renderCol_hinted sp _ hh]
  simp only [colFirstOK, hh, ↓reduceIte, Bool.or_eq_true, Bool.not_eq_true'] at hc
  have hfr : firstRow (hintDict sp ((a0, as0) :: R')) .col false = .ok (.dict .tmp [sp.fmt.hint] [payload sp a0 as0]) :=
    firstRow_col_dict ..
  cases hk : sp.kw
  · simp only [Bool.false_eq_true, ↓reduceIte]
    exact ⟨by rw [hintDict, validOut_dict, PyVal.len, List.length_map, List.length_cons, beq_self_eq_true],
      batchOrder_dict .., hasKwargs_dict .., hfr⟩
  · -- `[{hint: column}, kwargs]`: two dicts, the first with the hint as its only key, which the second has not
    obtain ⟨kvs, hkv⟩ : ∃ vs, kwCols ((a0, as0) :: R') = .dict (.lrn 0) a0.kwKeys vs := ⟨_, rfl⟩
    have hnk : a0.kwKeys.contains sp.fmt.hint = false := by
      rcases hc with h | h
      · rw [hk] at h; cases h
      · exact h
    have hH : ∀ vs, isHint (.dict (.lrn 0) [sp.fmt.hint] vs) = true := fun vs => hint_isHint sp.fmt hh (.lrn 0) vs
    have hks : ∀ vs, keysSame (.dict (.lrn 0) [sp.fmt.hint] vs) (.dict (.lrn 0) a0.kwKeys kvs) = false :=
      fun vs => keysSame_hint_kw sp.fmt.hint vs a0.kwKeys kvs (.lrn 0) (.lrn 0) hnk
    have hv := items_mkSeq sp.tup ([hintDict sp ((a0, as0) :: R')] ++ [kwCols ((a0, as0) :: R')])
    simp only [↓reduceIte]
    refine ⟨?_, ?_, hasKwargs_col hv rfl, ?_⟩
    · rw [validOut_seq_hint fx _ hv rfl rfl (by rw [hkv]; rfl) (by rw [hkv]; exact hks _) (hH _)]
      simp [PyVal.len]
    · unfold batchOrder
      rw [batchOrderPre_seq fx cs rows hv rfl rfl, hkv]
      simp [hintDict, PyVal.isDict, hks, hH, bind, Except.bind, pure, Except.pure]
    · exact (firstRow_col_kw_dict (getIdx_mkSeq_zero sp.tup _ [_]) rfl).trans hfr

theorem predictCore_col (fx : Fixes) (sp : Spec) (pol : Policy) (st : State) (cs : List PyVal) (rows : List (List PyVal))
    (r0 : Answer × List PyVal) (R' : Rows) (hR : zipWithAns pol cs rows = r0 :: R')
    (hlay : sp.layout = .col) (hinv : Inv sp true st) (hlen : cs.length = rows.length)
    (hok : colParseOK fx sp = true) (ht : pmfTable sp (r0 :: R') = true)
    (hfirst : st.layout = Option.none → firstRowOK fx sp r0.1 r0.2 = true ∧ colFirstOK sp r0.1 (R'.length + 1) = true) :
    Delivers (predictCore fx (scripted sp pol) st (.batch cs rows)) (wantBatch sp st.rng (r0 :: R')) (stAfter sp true st) := by
  have hsnd := zipWithAns_snd pol cs rows hlen
  have hLbatch : scripted sp pol (.batch cs rows) = .ok (renderCol sp (r0 :: R')) := by simp [scripted, hlay, hR]
  have hstA : ∀ s, stAfter sp true st s = { st with rng := s, method := some 1, layout := some BLayout.col, hasKw := sp.kw, fmt := some sp.pfmt } := by
    intro s; simp [stAfter, hlay]
  rw [predictCore_parts fx (scripted sp pol) sp true st _ (renderCol sp (r0 :: R')) 1 .col hinv hstA ?_
    (by simp only [safeCall, hLbatch, bind, Except.bind, pure, Except.pure])]
  · have := parseCol_cols fx sp { st with hasKw := sp.kw } rfl (r0 :: R') (List.cons_ne_nil _ _) hok ht
    rw [← hR, hsnd, hR] at this
    exact deliversN_to_delivers _ _ _ this
  · intro hl
    obtain ⟨hf, hc⟩ := hfirst hl
    obtain ⟨c0, cs', rfl⟩ : ∃ c0 cs', cs = c0 :: cs' := by
      cases cs with | nil => cases rows <;> cases hR | cons c0 cs' => exact ⟨_, _, rfl⟩
    obtain ⟨as0, rows', rfl⟩ : ∃ as0 rows', rows = as0 :: rows' := by
      cases rows with | nil => cases hR | cons a r => exact ⟨_, _, rfl⟩
    cases hR
    have hlen' : cs'.length = rows'.length := by simpa using hlen
    have hR'len := zipWithAns_length pol cs' rows' hlen'
    have hvd : validOut fx (renderCol sp ((pol c0 as0, as0) :: zipWithAns pol cs' rows')) (rows'.length + 1) = true ∧
        detect fx (scripted sp pol) { st with method := some 1 } (.batch (c0 :: cs') (as0 :: rows'))
            (renderCol sp ((pol c0 as0, as0) :: zipWithAns pol cs' rows')) 1 =
          .ok { st with method := some 1, layout := some .col, hasKw := sp.kw, fmt := some sp.pfmt } := by
      rw [hR'len] at hc
      cases hh : sp.fmt.hinted
      · exact detect_cols fx sp pol { st with method := some 1 } c0 cs' as0 rows' _ hlay hh hl hR'len hf hc ht
      · obtain ⟨h1, h2, h3, h4⟩ := hinted_col_facts fx sp (pol c0 as0) as0 (zipWithAns pol cs' rows') (c0 :: cs') (as0 :: rows')
          (do let a1 ← firstOf (.batch (c0 :: cs') (as0 :: rows')); let r ← safeCall fx (scripted sp pol) (some 1) a1; pure r.1)
          hh (by rw [hR'len]; exact hc)
        exact ⟨by rw [← hR'len]; exact h1,
          detect_of fx (scripted sp pol) _ _ _ 1 .col sp.kw _ as0 _ hl (.inr ⟨_, _, rfl⟩) h2 h3 h4
            (predFormat_hint fx sp (pol c0 as0) as0 .tmp _ hf hh (holds_payload sp _ as0))⟩
    exact ⟨by simp only [safeCall, hLbatch, List.length_cons, hlen', hvd.1, ↓reduceIte], hvd.2⟩

end Coba.C15
