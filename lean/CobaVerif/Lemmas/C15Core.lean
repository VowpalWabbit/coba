/-
C15: `predict`'s core under the memo: the invariant across `prepare` and a call, the first call's detection from its parts,
`_parse_pred` by memoised layout and kind of call (`parseAs`), and the core assembled from them (`predictCore_parts`).
-/
import CobaVerif.Model.C15

namespace Coba.C15
open PyVal

theorem inv_after {sp : Spec} {b : Bool} {st : State} (h : st = stAfter sp b st st.rng) :
    st.method = some (if b && sp.layout == .single then 2 else 1) ∧
    st.layout = some (if !b then .not else if sp.layout == .col then .col else .row) ∧
    st.hasKw = sp.kw ∧ st.fmt = some sp.pfmt := by
  refine ⟨?_, ?_, ?_, ?_⟩ <;> (rw [h]; simp [stAfter])

/-- `st'` is `st` up to the action cache (`prev`, `safe`): what `prepare` leaves of a state -/
structure SameButCache (st' st : State) : Prop where
  rng : st'.rng = st.rng
  method : st'.method = st.method
  layout : st'.layout = st.layout
  hasKw : st'.hasKw = st.hasKw
  fmt : st'.fmt = st.fmt

theorem prepare_frame (fx : Fixes) (st : State) (arg : Arg) : SameButCache (prepare fx st arg).1 st := by
  unfold prepare
  simp only
  split <;> (try split) <;> exact ⟨rfl, rfl, rfl, rfl, rfl⟩

theorem inv_prepare (fx : Fixes) (sp : Spec) (b : Bool) (st : State) (arg : Arg) (h : Inv sp b st) :
    Inv sp b (prepare fx st arg).1 := by
  have hp := prepare_frame fx st arg
  rcases h with ⟨hm, hl⟩ | hst
  · exact Or.inl ⟨hp.method.trans hm, hp.layout.trans hl⟩
  · right
    obtain ⟨g1, g2, g3, g4⟩ := inv_after hst
    obtain ⟨h1, h2, h3, h4, h5⟩ := hp
    generalize (prepare fx st arg).1 = st1 at *
    cases st1
    simp only at h1 h2 h3 h4 h5
    subst h1 h2 h3 h4 h5
    simp [stAfter, g1, g2, g3, g4]

theorem inv_stAfter (sp : Spec) (b : Bool) (st : State) (s : Nat) : Inv sp b (stAfter sp b st s) := by
  right; simp [stAfter]

theorem detect_of (fx : Fixes) (L : Learner) (st : State) (sarg : Arg) (pred : PyVal) (m : Nat) (lay : BLayout) (kw : Bool)
    (fr : PyVal) (as : List PyVal) (f : PFmt) (hl : st.layout = Option.none)
    (ha : (∃ c, sarg = .single c as) ∨ ∃ cs rows, sarg = .batch cs (as :: rows))
    (hbo : batchOrder fx (do let a1 ← firstOf sarg; let r ← safeCall fx L (some m) a1; pure r.1) pred sarg m = .ok lay)
    (hk : hasKwargs pred lay = kw) (hfr : firstRow pred lay kw = .ok fr) (hpf : predFormat fx fr (some as) = .ok f) :
    detect fx L st sarg pred m = .ok { st with layout := some lay, hasKw := kw, fmt := some f } := by
  unfold detect
  simp only [bind, Except.bind, pure, Except.pure] at hbo
  rcases ha with ⟨c, rfl⟩ | ⟨cs, rows, rfl⟩ <;> simp only [hl, bind, Except.bind, pure, Except.pure, hbo, hk, hfr, hpf]

/-- the result of a parse with the wrapper's state rebuilt by `f` from the generator state the parse returns -/
def liftSt (f : Nat → State) (x : Except Err (Result × Nat)) : Except Err (Result × State) :=
  match x with
  | .ok v => .ok (v.1, f v.2)
  | .error e => .error e

/-- `_parse_pred` by memoised layout and kind of call (a wrapper switched between batched and unbatched calls keeps the
layout of its first call) -/
def parseAs (fx : Fixes) (st : State) (f : PFmt) : BLayout → Arg → PyVal → Except Err (Result × Nat)
  | .not, .single _ as, pred => parseNot st f as pred
  | .row, .batch _ rows, pred => parseRow st f rows pred
  | .col, .batch _ rows, pred => parseCol fx st f rows pred
  | .not, .batch _ rows, pred => parseNot st f (rows.map (fun r => PyVal.list .tmp r)) pred
  | .row, .single _ _, pred => parseRow st f [] pred
  | .col, .single _ _, pred => parseCol fx st f [] pred

theorem parse_eq (fx : Fixes) (st : State) (sarg : Arg) (pred : PyVal) :
    parse fx st sarg pred =
      match st.decided? with
      | some d => liftSt (fun s => { st with rng := s }) (parseAs fx st d.f d.lay sarg pred)
      | Option.none => .error .other := by
  unfold parse State.decided?
  split
  · rename_i lay f _ _
    cases lay <;> cases sarg <;> simp only [parseAs, bind, Except.bind] <;> split <;> (rename_i h; rw [h]; rfl)
  · rfl

theorem decided?_of (st : State) (d : Decided) (hd : st.decidedAs d) : st.decided? = some d := by
  obtain ⟨h1, h2, h3⟩ := hd
  cases d
  simp_all [State.decided?]

theorem decidedAs_of (st : State) (d : Decided) (h : st.decided? = some d) : st.decidedAs d := by
  unfold State.decided? at h
  split at h
  · rename_i hl hf; cases h; exact ⟨hl, rfl, hf⟩
  · cases h

theorem parse_decided (fx : Fixes) (st : State) (sarg : Arg) (pred : PyVal) (lay : BLayout) (f : PFmt)
    (hl : st.layout = some lay) (hf : st.fmt = some f) :
    parse fx st sarg pred = liftSt (fun s => { st with rng := s }) (parseAs fx st f lay sarg pred) := by
  rw [parse_eq, decided?_of st ⟨lay, st.hasKw, f⟩ ⟨hl, rfl, hf⟩]

theorem parseNot_frame (st st' : State) (f : PFmt) (as : List PyVal) (p : PyVal) (h1 : st'.rng = st.rng) (h2 : st'.hasKw = st.hasKw) :
    parseNot st' f as p = parseNot st f as p := by
  unfold parseNot; rw [h1, h2]

theorem parseRow_frame (st st' : State) (f : PFmt) (rows : List (List PyVal)) (p : PyVal) (h1 : st'.rng = st.rng) (h2 : st'.hasKw = st.hasKw) :
    parseRow st' f rows p = parseRow st f rows p := by
  unfold parseRow; rw [h1, h2]

theorem parseCol_frame (fx : Fixes) (st st' : State) (f : PFmt) (rows : List (List PyVal)) (p : PyVal) (h1 : st'.rng = st.rng)
    (h2 : st'.hasKw = st.hasKw) : parseCol fx st' f rows p = parseCol fx st f rows p := by
  unfold parseCol; rw [h1, h2]

theorem parseAs_frame (fx : Fixes) (st st' : State) (f : PFmt) (lay : BLayout) (sarg : Arg) (p : PyVal) (h1 : st'.rng = st.rng)
    (h2 : st'.hasKw = st.hasKw) : parseAs fx st' f lay sarg p = parseAs fx st f lay sarg p := by
  cases lay <;> cases sarg <;>
    first | exact parseNot_frame st st' f _ p h1 h2 | exact parseRow_frame st st' f _ p h1 h2 | exact parseCol_frame fx st st' f _ p h1 h2

/-- `predict`'s core from its parts: how `_safe_call` comes by the answer `pred` in call style `m` (first call, and with the
style memoised) and what the first call detects; then the answer is parsed under that memo. -/
theorem predictCore_parts (fx : Fixes) (L : Learner) (sp : Spec) (b : Bool) (st : State) (sarg : Arg) (pred : PyVal) (m : Nat)
    (lay : BLayout) (hinv : Inv sp b st)
    (hstA : ∀ s, stAfter sp b st s =
      { st with rng := s, method := some m, layout := some lay, hasKw := sp.kw, fmt := some sp.pfmt })
    (hfirst : st.layout = Option.none → safeCall fx L Option.none sarg = .ok (pred, m) ∧
      detect fx L { st with method := some m } sarg pred m =
        .ok { st with method := some m, layout := some lay, hasKw := sp.kw, fmt := some sp.pfmt })
    (hlater : safeCall fx L (some m) sarg = .ok (pred, m)) :
    predictCore fx L st sarg = liftSt (stAfter sp b st) (parseAs fx { st with hasKw := sp.kw } sp.pfmt lay sarg pred) := by
  rw [funext hstA]
  rcases hinv with ⟨hm, hl⟩ | hst
  · obtain ⟨hcall, hdet⟩ := hfirst hl
    simp only [predictCore, hm, hcall, bind, Except.bind, hdet]
    rw [parse_decided fx _ sarg pred lay sp.pfmt rfl rfl]
    exact congrArg (liftSt _) (parseAs_frame fx _ _ _ _ _ _ rfl rfl)
  · have hst' := hst.trans (hstA st.rng)
    obtain ⟨rng, method, layout, hasKw, fmt, prev, safe⟩ := st
    simp only [State.mk.injEq, true_and, and_true] at hst'
    obtain ⟨rfl, rfl, rfl, rfl⟩ := hst'
    simp only [predictCore, hlater, bind, Except.bind, detect, pure, Except.pure]
    rw [parse_decided fx _ sarg pred lay sp.pfmt rfl rfl]

end Coba.C15
