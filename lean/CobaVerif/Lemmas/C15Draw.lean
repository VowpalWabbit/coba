/-
C15: a draw from a valid PMF is C05's `choicew` on its entries as rationals.
-/
import CobaVerif.Lemmas.C15PredFormat
import CobaVerif.Lemmas.C05

namespace Coba.C15
open PyVal

theorem toRats_of_nums (pmf : List PyVal) :
    (∀ x ∈ pmf, ∃ q, x.num = some q) → ∃ qs, toRats pmf = some qs ∧ sumNums pmf = some qs.sum ∧ qs.length = pmf.length ∧
      ∀ (i : Nat) (x : PyVal), pmf[i]? = some x → ∃ q, x.num = some q ∧ qs[i]? = some q := by
  induction pmf with
  | nil => intro _; exact ⟨[], rfl, rfl, rfl, by intro i x h; simp at h⟩
  | cons x xs ih =>
    intro h
    obtain ⟨q, hq⟩ := h x (by simp)
    obtain ⟨qs, h1, h2, h3, h4⟩ := ih (fun y hy => h y (by simp [hy]))
    refine ⟨q :: qs, by simp [toRats, hq, h1], by simp [sumNums, hq, h2], by simp [h3], ?_⟩
    intro i y hy
    cases i with
    | zero => simp at hy; subst hy; exact ⟨q, hq, rfl⟩
    | succ i => simp at hy; simpa using h4 i y hy

theorem pmf_draw_c05 (s : Nat) (as pmf : List PyVal) (v : PyVal) (hv : v.items = some pmf) (hp : validPmf pmf as = true) :
    ∃ (qs : List Rat) (i : Nat) (a p : PyVal) (q : Rat), toRats pmf = some qs ∧
      Coba.C05.choicew s as.length (some qs) = .ok (Coba.C05.next s, i, q) ∧
      choicew s as v = .ok (Coba.C05.next s, a, p) ∧ as[i]? = some a ∧ pmf[i]? = some p ∧ p.num = some q ∧ 0 < q := by
  have hlen := validPmf_length hp
  obtain ⟨qs, h1, h2, h3, h4⟩ := toRats_of_nums pmf fun x hx => (validPmf_entry hp hx).imp fun _ h => h.1
  have hs1 : 0 < qs.sum := validPmf_sum_pos hp h2
  have hnn' : ∀ w ∈ qs, 0 ≤ w := by
    intro w hw
    obtain ⟨i, hi, hiw⟩ := List.getElem_of_mem hw
    have hi' : i < pmf.length := by rw [← h3]; exact hi
    obtain ⟨q, hq1, hq2⟩ := h4 i pmf[i] (List.getElem?_eq_getElem hi')
    have : q = w := by
      rw [List.getElem?_eq_getElem hi] at hq2; simpa [hiw] using hq2.symm
    subst this
    obtain ⟨q', hq', h0⟩ := validPmf_entry hp (List.getElem_mem hi')
    rw [hq1] at hq'; cases hq'; exact h0
  have hpos : 0 < Coba.C05.sum qs := by rw [Coba.C05.sum_eq]; exact hs1
  obtain ⟨i, w, hc, hw, hwpos⟩ := Coba.C05.choicew_weight' s as.length qs (by rw [h3, hlen]) hnn' hpos
  have hi : i < qs.length := by
    by_contra hcon
    have : qs[i]? = Option.none := by simp at hcon; simp [hcon]
    rw [this] at hw; cases hw
  have hip : i < pmf.length := by rw [← h3]; exact hi
  have hia : i < as.length := by rw [← hlen]; exact hip
  obtain ⟨q, hq1, hq2⟩ := h4 i pmf[i] (List.getElem?_eq_getElem hip)
  have hqw : q = w := by rw [hw] at hq2; simpa using hq2.symm
  refine ⟨qs, i, as[i], pmf[i], q, h1, by rw [hqw]; exact hc, ?_, List.getElem?_eq_getElem hia, List.getElem?_eq_getElem hip, hq1,
    by rw [hqw]; exact hwpos⟩
  have hne : ¬ (pmf ≠ [] ∧ pmf.length ≠ as.length) := by intro h; exact h.2 hlen
  cases v <;> simp [PyVal.items] at hv <;> subst hv <;>
    simp [choicew, PyVal.items, hne, h1, hc, List.getElem?_eq_getElem hia, List.getElem?_eq_getElem hip]

end Coba.C15
