/-
C15: Python `==` and `is` on the value domain: the float copies compare like the actions they replace, `==` is an
equivalence on scalars nested in tuples and lists, nan objects as tokens, and the action cache when the caller reuses one
list object.
-/
import CobaVerif.Lemmas.C15Values
import Mathlib.Tactic.Linarith
import Mathlib.Tactic.NormNum
import Mathlib.Algebra.Order.Field.Rat

namespace Coba.C15
open PyVal

/-! ### numbers compare by value -/

theorem pyEq_num_iff {x : PyVal} {a : Rat} (hx : x.num = some a) (y : PyVal) : pyEq x y = true ↔ y.num = some a := by
  cases x <;> simp only [PyVal.num, Option.some.injEq, reduceCtorEq] at hx <;> subst hx <;>
    cases hy : y.num <;> simp only [pyEq, hy, beq_iff_eq, Option.some.injEq, reduceCtorEq, Bool.false_eq_true] <;> exact eq_comm

theorem num_of_pyEq {x y : PyVal} {b : Rat} (hy : y.num = some b) (h : pyEq x y = true) : x.num = some b := by
  cases hx : x.num with
  | some a => rw [(pyEq_num_iff hx y).mp h] at hy; exact hy ▸ rfl
  | none =>
    cases y <;> simp only [PyVal.num, reduceCtorEq] at hy <;> cases x <;> simp [pyEq, PyVal.num] at h hx

theorem pyEq_symm_num {x : PyVal} {a : Rat} (hx : x.num = some a) (y : PyVal) : pyEq x y = pyEq y x := by
  rw [Bool.eq_iff_iff, pyEq_num_iff hx]
  exact ⟨fun hy => by rw [pyEq_num_iff hy, hx], fun h => num_of_pyEq hx h⟩

/-! ### float copies under `==` -/

theorem num_makeSafe (k : Nat) (x : PyVal) : (makeSafe k x).num = x.num := by
  cases x with
  | bool b => cases b <;> simp [makeSafe, PyVal.num]
  | int i => by_cases h : i = 0 ∨ i = 1 <;> simp [makeSafe, h, PyVal.num]
  | _ => rfl

theorem pyEq_makeSafe_left' (k : Nat) (x y : PyVal) : pyEq (makeSafe k x) y = pyEq x y := by
  cases hx : x.num with
  | some a => rw [Bool.eq_iff_iff, pyEq_num_iff ((num_makeSafe k x).trans hx), pyEq_num_iff hx]
  | none => cases x <;> first | rfl | cases hx

theorem pyEqList_forall₂ : ∀ (xs ys : List PyVal), pyEqList xs ys = true ↔ List.Forall₂ (fun x y => pyEq x y = true) xs ys := by
  intro xs
  induction xs with
  | nil => intro ys; cases ys <;> simp [pyEqList]
  | cons x xs ih =>
    intro ys
    cases ys with
    | nil => simp [pyEqList]
    | cons y ys => simp [pyEqList, ih ys]

theorem safeRow_left (r : Nat) (as : List PyVal) :
    List.Forall₂ (fun s a => ∀ y, pyEq s y = pyEq a y) (safeRow r as) as := by
  unfold safeRow
  split
  · apply mapIdxFrom_forall₂; intro k x y; exact pyEq_makeSafe_left' _ x y
  · exact List.forall₂_same.mpr (fun a _ y => rfl)

/-! ### `==` on nested tuples / lists -/

/-- values built from scalars with tuples and lists only (no dict inside) -/
def seqVal : PyVal → Bool
  | .tuple _ xs => seqVals xs
  | .list _ xs => seqVals xs
  | .dict .. => false
  | _ => true
where seqVals : List PyVal → Bool
  | [] => true
  | x :: xs => seqVal x && seqVals xs

/-- a value up to Python's `==`: who made an object is forgotten, a number is its value -/
def canon : PyVal → PyVal
  | .none => .none
  | .bool b => .flt .tmp (if b then 1 else 0)
  | .int i => .flt .tmp i
  | .flt _ q => .flt .tmp q
  | .str _ s => .str .tmp s
  | .tuple _ xs => .tuple .tmp (canons xs)
  | .list _ xs => .list .tmp (canons xs)
  | .dict r ks vs => .dict r ks vs
where canons : List PyVal → List PyVal
  | [] => []
  | x :: xs => canon x :: canons xs

theorem canon_eq_flt {y : PyVal} {a : Rat} : canon y = .flt .tmp a ↔ y.num = some a := by
  cases y <;> simp [canon, PyVal.num]

mutual
theorem pyEq_iff_canon (x y : PyVal) (hx : seqVal x = true) (hy : seqVal y = true) : pyEq x y = true ↔ canon x = canon y := by
  cases hnx : x.num with
  | some a =>
    rw [pyEq_num_iff hnx, canon_eq_flt.mpr hnx]
    exact ⟨fun h => (canon_eq_flt.mpr h).symm, fun h => canon_eq_flt.mp h.symm⟩
  | none =>
    cases x <;> simp only [PyVal.num, reduceCtorEq] at hnx
    case none => cases y <;> simp [pyEq, canon]
    case str r s => cases y <;> simp [pyEq, canon]
    case tuple r xs =>
      cases y <;> try (simp [pyEq, canon]; done)
      rename_i r' ys
      simp only [pyEq, canon, PyVal.tuple.injEq, true_and]
      exact pyEqList_iff_canons xs ys (by simpa [seqVal] using hx) (by simpa [seqVal] using hy)
    case list r xs =>
      cases y <;> try (simp [pyEq, canon]; done)
      rename_i r' ys
      simp only [pyEq, canon, PyVal.list.injEq, true_and]
      exact pyEqList_iff_canons xs ys (by simpa [seqVal] using hx) (by simpa [seqVal] using hy)
    case dict => simp [seqVal] at hx
theorem pyEqList_iff_canons (xs ys : List PyVal) (hx : seqVal.seqVals xs = true) (hy : seqVal.seqVals ys = true) :
    pyEqList xs ys = true ↔ canon.canons xs = canon.canons ys := by
  cases xs <;> cases ys <;> try (simp [pyEqList, canon.canons]; done)
  case cons.cons x xs y ys =>
    simp only [seqVal.seqVals, Bool.and_eq_true] at hx hy
    simp only [pyEqList, Bool.and_eq_true, canon.canons, List.cons.injEq]
    rw [pyEq_iff_canon x y hx.1 hy.1, pyEqList_iff_canons xs ys hx.2 hy.2]
end

theorem pyEq_refl_seq : ∀ x : PyVal, seqVal x = true → pyEq x x = true :=
  fun x h => (pyEq_iff_canon x x h h).mpr rfl

theorem pyEqList_refl_seq : ∀ xs : List PyVal, seqVal.seqVals xs = true → pyEqList xs xs = true :=
  fun xs h => (pyEqList_iff_canons xs xs h h).mpr rfl

theorem pyEq_symm_seq (x y : PyVal) (hx : seqVal x = true) (hy : seqVal y = true) : pyEq x y = pyEq y x := by
  rw [Bool.eq_iff_iff, pyEq_iff_canon x y hx hy, pyEq_iff_canon y x hy hx]; exact eq_comm

theorem pyEqList_symm_seq (xs ys : List PyVal) (hx : seqVal.seqVals xs = true) (hy : seqVal.seqVals ys = true) :
    pyEqList xs ys = pyEqList ys xs := by
  rw [Bool.eq_iff_iff, pyEqList_iff_canons xs ys hx hy, pyEqList_iff_canons ys xs hy hx]; exact eq_comm

theorem pyEq_trans_seq (x y z : PyVal) (hx : seqVal x = true) (hy : seqVal y = true) (hz : seqVal z = true)
    (h1 : pyEq x y = true) (h2 : pyEq y z = true) : pyEq x z = true :=
  (pyEq_iff_canon x z hx hz).mpr (((pyEq_iff_canon x y hx hy).mp h1).trans ((pyEq_iff_canon y z hy hz).mp h2))

theorem pyEqList_trans_seq (xs ys zs : List PyVal) (hx : seqVal.seqVals xs = true) (hy : seqVal.seqVals ys = true)
    (hz : seqVal.seqVals zs = true) (h1 : pyEqList xs ys = true) (h2 : pyEqList ys zs = true) : pyEqList xs zs = true :=
  (pyEqList_iff_canons xs zs hx hz).mpr
    (((pyEqList_iff_canons xs ys hx hy).mp h1).trans ((pyEqList_iff_canons ys zs hy hz).mp h2))

theorem seqVal_of_isScalar {x : PyVal} (h : isScalar x = true) : seqVal x = true := by
  cases x <;> first | rfl | cases h

/-! ### nan -/

/-- reading a code back -/
def Ref.ofCode (c : Nat) : Ref :=
  match c % 4 with
  | 0 => .ext (c / 4) | 1 => .safe (c / 4) | 2 => .lrn (c / 4) | _ => .tmp

theorem Ref.ofCode_code (r : Ref) : Ref.ofCode r.code = r := by
  cases r <;> simp [Ref.code, Ref.ofCode, Nat.mul_add_div]

theorem Ref.code_inj {r r' : Ref} (h : r.code = r'.code) : r = r' := by
  rw [← Ref.ofCode_code r, h, Ref.ofCode_code]

theorem nanVal_inj {j k : Nat} (h : nanVal j = nanVal k) : j = k := by
  unfold nanVal at h
  have : (j : Rat) = (k : Rat) := by linarith
  exact_mod_cast this

theorem nanVal_lt (k : Nat) : nanVal k < nanBound := by
  unfold nanVal
  have : (0 : Rat) ≤ (k : Rat) := Nat.cast_nonneg k
  linarith

theorem isNanVal_nanVal (k : Nat) : isNanVal (nanVal k) = true := by
  simp [isNanVal, nanVal_lt]

theorem nanBound_neg : nanBound < 0 := by unfold nanBound; norm_num

theorem pyEq_mkNan (r r' : Ref) : pyEq (mkNan r) (mkNan r') = decide (r = r') := by
  simp only [mkNan, pyEq, PyVal.num]
  by_cases h : r = r'
  · subst h; simp
  · have : ¬ nanVal r.code = nanVal r'.code := fun e => h (Ref.code_inj (nanVal_inj e))
    simp [h, this]

theorem pyIs_mkNan (r r' : Ref) : pyIs (mkNan r) (mkNan r') = decide (r = r') := by
  by_cases h : r = r' <;> simp [mkNan, pyIs, h]

theorem pyEq_mkNan_val (r : Ref) (v : PyVal) (h : v.nanFree = true) :
    pyEq (mkNan r) v = false ∧ pyEq v (mkNan r) = false := by
  -- a nan token is a number: it equals exactly the numbers of its own value, and `v` is not one
  have hn : v.num ≠ some (nanVal r.code) := by
    intro e; simp [PyVal.nanFree, e, isNanVal_nanVal] at h
  have h1 : pyEq (mkNan r) v = false :=
    Bool.eq_false_iff.mpr fun e => hn ((pyEq_num_iff (x := mkNan r) rfl v).mp e)
  exact ⟨h1, (pyEq_symm_num (x := mkNan r) rfl v) ▸ h1⟩

theorem pyIs_mkNan_val (r : Ref) (v : PyVal) (h : objDistinct r v = true) :
    pyIs (mkNan r) v = false ∧ pyIs v (mkNan r) = false := by
  cases v with
  | flt r' q =>
    have e : ¬ r = r' := by simpa [objDistinct] using h
    have e' : ¬ r' = r := fun x => e x.symm
    simp [mkNan, pyIs, e, e']
  | _ => simp [mkNan, pyIs]

/-- the side condition of the encoding: numbers lie outside the token range and are other objects than the nan objects -/
def encOK : NVal → NVal → Bool
  | .nan r, .val v => v.nanFree && objDistinct r v
  | .val v, .nan r => v.nanFree && objDistinct r v
  | _, _ => true

theorem ofPy_mkNan (r : Ref) : NVal.ofPy (mkNan r) = .nan r := by
  simp [NVal.ofPy, mkNan, isNanVal_nanVal]

/-! ### the caller's list object -/

theorem prepareRef_other (fx : Fixes) (a : AState) (c : OCall) (h : a.prevOid ≠ some c.oid) :
    (prepareRef fx a c).2 = (prepare fx a.st c.arg).2 ∧ (prepareRef fx a c).1.st = (prepare fx a.st c.arg).1 := by
  unfold prepareRef
  rw [if_neg h]
  constructor
  · rfl
  · dsimp only
    split
    · rfl
    · split <;> rfl

theorem prepareRef_prevOid (fx : Fixes) (a : AState) (c : OCall) :
    (prepareRef fx a c).1.prevOid = a.prevOid ∨ (prepareRef fx a c).1.prevOid = some c.oid := by
  unfold prepareRef
  by_cases h : a.prevOid = some c.oid
  · rw [if_pos h]; left; rfl
  · rw [if_neg h]
    dsimp only
    split
    · right; rfl
    · split
      · right; rfl
      · left; rfl

theorem fresh_never_kept (fx : Fixes) (cs : List OCall) : ∀ (a : AState) (seen : List Nat),
    (∀ o, a.prevOid = some o → o ∈ seen) → freshObjects seen cs = true → neverKept fx a cs = true := by
  induction cs with
  | nil => intro a seen _ _; rfl
  | cons c cs ih =>
    intro a seen hs h
    simp only [freshObjects, Bool.and_eq_true, Bool.not_eq_true', List.contains_eq_mem, decide_eq_false_iff_not] at h
    obtain ⟨h1, h2⟩ := h
    simp only [neverKept, Bool.and_eq_true, bne_iff_ne, ne_eq]
    refine ⟨fun e => h1 (hs _ e), ih _ (c.oid :: seen) ?_ h2⟩
    intro o ho
    rcases prepareRef_prevOid fx a c with e | e
    · rw [e] at ho; exact List.mem_cons_of_mem _ (hs _ ho)
    · rw [e] at ho; cases ho; exact List.mem_cons_self ..

end Coba.C15
