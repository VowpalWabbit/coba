/-
C15: `learn` and the kwargs it hands back, the side conditions of a whole history, what a call on a wrapper with a
decided format can change, and two wrappers around one learner.
-/
import CobaVerif.Lemmas.C15Batch

namespace Coba.C15
open PyVal

/-! ### learn on sequence-valued kwargs columns -/

theorem mapE_getIdx_cols (vs : List PyVal) (cols : List (List PyVal)) (i : Nat) (h : allItems vs = some cols)
    (hi : ∀ c ∈ cols, i < c.length) : mapE (fun v => getIdx v i) vs = .ok (cols.map (fun c => c.getD i .none)) := by
  induction vs generalizing cols with
  | nil => simp [allItems] at h; subst h; simp [mapE, pure, Except.pure]
  | cons v vs ih =>
    cases hv : v.items with
    | none => simp [allItems, hv] at h
    | some c =>
      cases hr : allItems vs with
      | none => simp [allItems, hv, hr] at h
      | some cs =>
        simp [allItems, hv, hr] at h
        subst h
        have h1 := getIdx_of_items v c i hv (hi c (by simp))
        have h2 := ih cs hr (fun c' hc' => hi c' (by simp [hc']))
        simp [mapE, h1, h2, bind, Except.bind, pure, Except.pure]

theorem learnRows_nil (i : Nat) (A R P : List PyVal) (ks : List String) (vs : List PyVal) :
    learnRows i [] A R P ks vs = .ok [] := by
  unfold learnRows; rfl

theorem learnRows_cons (i : Nat) (c a r p : PyVal) (cs A R P : List PyVal) (ks : List String) (vs : List PyVal) :
    learnRows i (c :: cs) (a :: A) (r :: R) (p :: P) ks vs =
      (mapE (fun v => getIdx v i) vs).bind fun kv =>
        (learnRows (i + 1) cs A R P ks vs).bind fun rest => .ok (⟨c, a, r, p, ks, kv⟩ :: rest) := by
  rw [learnRows]; rfl

theorem learnRows_cols (ks : List String) (vs : List PyVal) (cols : List (List PyVal)) (hv : allItems vs = some cols) :
    ∀ (i : Nat) (cs A R P : List PyVal), (∀ c ∈ cols, i + cs.length ≤ c.length) → A.length = cs.length → R.length = cs.length →
      P.length = cs.length →
      ∃ calls, learnRows i cs A R P ks vs = .ok calls ∧ calls.length = cs.length ∧
        ∀ (j : Nat) (call : LearnCall), calls[j]? = some call →
          call.kwKeys = ks ∧ call.kwVals = cols.map (fun c => c.getD (i + j) .none) ∧
          cs[j]? = some call.ctx ∧ A[j]? = some call.action ∧ R[j]? = some call.reward ∧ P[j]? = some call.prob := by
  intro i cs
  induction cs generalizing i with
  | nil =>
    intro A R P _ _ _ _
    exact ⟨[], learnRows_nil .., rfl, fun j c h => by simp at h⟩
  | cons c cs ih =>
    intro A R P hc hA hR hP
    obtain ⟨a, A, rfl⟩ := List.exists_cons_of_length_eq_add_one hA
    obtain ⟨r, R, rfl⟩ := List.exists_cons_of_length_eq_add_one hR
    obtain ⟨p, P, rfl⟩ := List.exists_cons_of_length_eq_add_one hP
    have hkv := mapE_getIdx_cols vs cols i hv fun col hcol => by
      have := hc col hcol; simp only [List.length_cons] at this; omega
    obtain ⟨calls, h1, h2, h3⟩ := ih (i + 1) A R P
      (fun col hcol => by have := hc col hcol; simp only [List.length_cons] at this; omega)
      (Nat.succ.inj hA) (Nat.succ.inj hR) (Nat.succ.inj hP)
    refine ⟨_, by rw [learnRows_cons, hkv, h1]; rfl, by simp only [List.length_cons, h2], ?_⟩
    rintro (_ | j) call hj
    · cases hj; exact ⟨rfl, rfl, rfl, rfl, rfl, rfl⟩
    · obtain ⟨g1, g2, g3⟩ := h3 j call hj
      exact ⟨g1, by rw [g2, Nat.add_right_comm, Nat.add_assoc], g3⟩

theorem view_inv (r : Result) (v : BatchView) (h : r.view = some v) :
    r.a.items = some v.A ∧ r.p.items = some v.P ∧ ∃ ref vs, r.kw = .dict ref v.keys vs ∧ allItems vs = some v.cols := by
  unfold Result.view at h
  split at h
  · rename_i A P ref ks vs ha hp hk
    obtain ⟨cols, hc, rfl⟩ := Option.map_eq_some_iff.mp h
    exact ⟨ha, hp, ref, vs, hk, hc⟩
  · cases h

theorem wantBatch_lengths (sp : Spec) (s : Nat) (R : Rows) (v : BatchView) (s' : Nat) (h : wantBatch sp s R = .ok (v, s')) :
    v.A.length = R.length ∧ v.P.length = R.length ∧ ∀ c ∈ v.cols, c.length = R.length := by
  have hcols : ∀ c ∈ (wantKw sp R).2, c.length = R.length := by
    intro c hc
    unfold wantKw at hc
    split at hc
    · cases R with
      | nil => simp at hc
      | cons r R' =>
        simp only [List.mem_map] at hc
        obtain ⟨k, _, rfl⟩ := hc
        simp
    · simp at hc
  unfold wantBatch at h
  cases hk : sp.fmt.kind <;> simp only [hk] at h
  · simp only [Except.ok.injEq, Prod.mk.injEq] at h; obtain ⟨rfl, _⟩ := h; exact ⟨by simp, by simp, hcols⟩
  · simp only [Except.ok.injEq, Prod.mk.injEq] at h; obtain ⟨rfl, _⟩ := h; exact ⟨by simp, by simp, hcols⟩
  · cases hc : choicewRows s (R.map (·.2)) (R.map (fun r => mkPmf sp.pmfTup r.1.pmf)) with
    | error e => simp [hc] at h
    | ok t =>
      obtain ⟨s1, A, P⟩ := t
      simp only [hc, Except.ok.injEq, Prod.mk.injEq] at h
      obtain ⟨rfl, _⟩ := h
      obtain ⟨i1, i2⟩ := choicewRows_length _ _ _ _ _ _ hc (by simp)
      exact ⟨by simpa using i1, by simpa using i2, hcols⟩

theorem learn_meets (batchable : Bool) (cs : List PyVal) (rows : List (List PyVal)) (rw : PyVal) (r : Result) (v : BatchView)
    (Rw : List PyVal) (hv : r.view = some v) (hrw : rw.items = some Rw) (hR : Rw.length = cs.length) (hne : cs ≠ [])
    (hA : v.A.length = cs.length) (hP : v.P.length = cs.length) (hc : ∀ c ∈ v.cols, c.length = cs.length) :
    ∃ lc, learn batchable (.batch cs rows) r rw = .ok lc ∧ LearnMeets batchable cs rw r v lc := by
  obtain ⟨ha, hp, ref, vs, hk, hcols⟩ := view_inv r v hv
  cases batchable
  · have h1 := iter_of_items _ _ ha
    have h2 := iter_of_items _ _ hp
    have h3 := iter_of_items _ _ hrw
    obtain ⟨calls, g1, g2, g3⟩ := learnRows_cols v.keys vs v.cols hcols 0 cs v.A Rw v.P
      (by intro c hcm; rw [hc c hcm]; omega) hA hR hP
    have hne' : calls.isEmpty = false := by
      cases calls with
      | nil => simp at g2; exact absurd g2.symm (by simpa using hne)
      | cons _ _ => rfl
    refine ⟨calls, by simp [learn, hk, itemsE, h1, h2, h3, g1, hne', bind, Except.bind, pure, Except.pure], ?_⟩
    simp only [LearnMeets, Bool.false_eq_true, ↓reduceIte]
    refine ⟨g2, ?_⟩
    intro j call hj
    obtain ⟨k1, k2, k3, k4, k5, k6⟩ := g3 j call hj
    exact ⟨k3, k4, k6, ⟨Rw, hrw, k5⟩, k1, by simpa using k2⟩
  · refine ⟨[⟨.list .tmp cs, r.a, rw, r.p, v.keys, vs⟩], by simp [learn, hk, pure, Except.pure], ?_⟩
    simp only [LearnMeets, ↓reduceIte]
    exact ⟨ref, vs, hk, hcols, rfl⟩

theorem map_bind_except {α β γ : Type} (f : β → γ) (x : Except Err α) (g : α → Except Err β) :
    Except.map f (x >>= g) = x >>= fun a => Except.map f (g a) := by
  cases x <;> rfl

/-- forgetting the memo a per-row learn ends with -/
theorem map_fst_ite {α β : Type} (c : Prop) [Decidable c] (e : Err) (a : α) (b : β) :
    Except.map Prod.fst (if c then (.error e : Except Err (α × β)) else pure (a, b)) = if c then .error e else pure a := by
  split <;> rfl

/-! ### the side conditions of a history -/

/-- the part of the state the side conditions of a history depend on -/
def StEq (st st' : State) : Prop := st.prev = st'.prev ∧ st.safe = st'.safe ∧ st.layout.isSome = st'.layout.isSome

theorem prepare_congr (fx : Fixes) (st st' : State) (a : Arg) (h : StEq st st') :
    (prepare fx st a).2 = (prepare fx st' a).2 ∧ StEq (prepare fx st a).1 (prepare fx st' a).1 := by
  obtain ⟨h1, h2, h3⟩ := h
  unfold prepare StEq
  simp only [h1]
  cases hp : st'.prev with
  | none => simp [h3]
  | some p =>
    simp only
    by_cases hc : (!pyEq p.toPy (argActs a).toPy) = true
    · simp [hc, h3]
    · simp [hc, h1, h2, h3, hp]

theorem histOK_congr (fx : Fixes) (sp : Spec) (pol : Policy) (b : Bool) (h : List (Arg × PyVal)) :
    ∀ st st', StEq st st' → histOK fx sp pol b st h = histOK fx sp pol b st' h := by
  induction h with
  | nil => intro _ _ _; rfl
  | cons x h ih =>
    intro st st' heq
    obtain ⟨a, rw⟩ := x
    obtain ⟨e1, e2⟩ := prepare_congr fx st st' a heq
    have e3 : StEq { (prepare fx st a).1 with layout := some BLayout.not } { (prepare fx st' a).1 with layout := some BLayout.not } :=
      ⟨e2.1, e2.2.1, rfl⟩
    simp only [histOK, e1, ih _ _ e3, Unambiguous, e2.2.2]

theorem wantSingle_kw (sp : Spec) (s : Nat) (ans : Answer) (gs : List PyVal) (r : Result) (s' : Nat)
    (h : wantSingle sp s ans gs = .ok (r, s')) : r.kw = if sp.kw then kwDict ans else emptyKw := by
  unfold wantSingle at h
  cases hk : sp.fmt.kind <;> simp only [hk] at h
  · simp only [Except.ok.injEq, Prod.mk.injEq] at h; rw [← h.1]
  · simp only [Except.ok.injEq, Prod.mk.injEq] at h; rw [← h.1]
  · cases hc : choicew s gs (mkPmf sp.pmfTup ans.pmf) with
    | error e => simp [hc] at h
    | ok t => obtain ⟨s1, a, p⟩ := t; simp only [hc, Except.ok.injEq, Prod.mk.injEq] at h; rw [← h.1]

theorem withActs_single (c : PyVal) (as : List PyVal) (X : Acts) : ∃ gs, withActs (.single c as) X = .single c gs := by
  cases X <;> exact ⟨_, rfl⟩

theorem withActs_batch (cs : List PyVal) (rows : List (List PyVal)) (X : Acts) : ∃ g, withActs (.batch cs rows) X = .batch cs g := by
  cases X <;> exact ⟨_, rfl⟩

theorem prepare_shape (fx : Fixes) (st : State) (a : Arg) :
    (∀ c gs, (prepare fx st a).2 = .single c gs → ∃ as, a = .single c as) ∧
    (∀ cs grows, (prepare fx st a).2 = .batch cs grows → ∃ rows, a = .batch cs rows) := by
  cases a with
  | single c as =>
    have : ∃ gs, (prepare fx st (.single c as)).2 = .single c gs := by
      unfold prepare; simp only; exact withActs_single c as _
    obtain ⟨g, hg⟩ := this
    constructor
    · intro c' gs h; rw [hg] at h; cases h; exact ⟨as, rfl⟩
    · intro cs grows h; rw [hg] at h; cases h
  | batch cs rows =>
    have : ∃ g, (prepare fx st (.batch cs rows)).2 = .batch cs g := by
      unfold prepare; simp only; exact withActs_batch cs rows _
    obtain ⟨g, hg⟩ := this
    constructor
    · intro c' gs h; rw [hg] at h; cases h
    · intro cs' grows h; rw [hg] at h; cases h; exact ⟨rows, rfl⟩

theorem stEq_after (sp : Spec) (b : Bool) (st1 : State) (s : Nat) :
    StEq (stAfter sp b st1 s) { st1 with layout := some BLayout.not } := ⟨rfl, rfl, rfl⟩

/-! ### the format is decided once -/

theorem parse_state (fx : Fixes) (st : State) (sarg : Arg) (pred : PyVal) (r : Result) (st' : State)
    (h : parse fx st sarg pred = .ok (r, st')) : ∃ d s, st.decided? = some d ∧ st' = { st with rng := s } := by
  rw [parse_eq] at h
  cases hd : st.decided? with
  | none => rw [hd] at h; cases h
  | some d =>
    rw [hd] at h
    simp only [liftSt] at h
    split at h
    · rename_i v _; cases h; exact ⟨d, v.2, rfl, rfl⟩
    · cases h

theorem parse_frame (fx : Fixes) (st : State) (sarg : Arg) (pred : PyVal) :
    parse fx st sarg pred = (parse fx st.core sarg pred).map (fun p => (p.1, p.2.withCache st)) := by
  have e : st.core.decided? = st.decided? := rfl
  rw [parse_eq, parse_eq, e]
  cases st.decided? with
  | none => rfl
  | some d =>
    simp only
    rw [parseAs_frame fx st st.core d.f d.lay sarg pred rfl rfl]
    cases parseAs fx st d.f d.lay sarg pred <;> rfl

theorem detect_decided (fx : Fixes) (L : Learner) (st : State) (sarg : Arg) (pred : PyVal) (m : Nat) (h : st.layout.isSome = true) :
    detect fx L st sarg pred m = .ok st := by
  unfold detect
  cases hl : st.layout with
  | none => simp [hl] at h
  | some lay => rfl

theorem predictCore_keeps_decided (fx : Fixes) (L : Learner) (st : State) (sarg : Arg) (d : Decided) (r : Result) (st' : State)
    (hd : st.decidedAs d) (h : predictCore fx L st sarg = .ok (r, st')) : st'.decidedAs d := by
  obtain ⟨hl, hk, hf⟩ := hd
  unfold predictCore at h
  simp only [bind, Except.bind] at h
  split at h
  · cases h
  · rename_i v _
    obtain ⟨pred, m⟩ := v
    simp only at h
    have hdet : detect fx L { st with method := some m } sarg pred m = .ok { st with method := some m } :=
      detect_decided fx L _ sarg pred m (by simp [hl])
    rw [hdet] at h
    simp only at h
    obtain ⟨_, s, _, hs⟩ := parse_state fx _ _ _ _ _ h
    subst hs
    exact ⟨hl, hk, hf⟩

theorem predict_decides (fx : Fixes) (L : Learner) (st : State) (arg : Arg) (r : Result) (st' : State)
    (h : predict fx L st arg = .ok (r, st')) : ∃ d, st'.decidedAs d := by
  unfold predict at h
  simp only at h
  unfold predictCore at h
  simp only [bind, Except.bind] at h
  split at h
  · cases h
  · split at h
    · cases h
    · rename_i st2 _
      obtain ⟨d, s, hd, hs⟩ := parse_state fx _ _ _ _ _ h
      subst hs
      exact ⟨d, decidedAs_of st2 d hd⟩

/-! ### two wrappers around one learner -/

theorem runTwo_filter (fx : Fixes) (L : Learner) (h : List (Bool × Arg)) : ∀ (s0 s1 : State) (w : Bool),
    ((runTwo fx L s0 s1 h).filter (fun x => x.1 == w)).map (·.2) =
      runOne fx L (if w then s1 else s0) ((h.filter (fun x => x.1 == w)).map (·.2)) := by
  induction h with
  | nil => intro _ _ _; rfl
  | cons x h ih =>
    intro s0 s1 w
    obtain ⟨v, a⟩ := x
    -- the call is made on wrapper `v`: its result is kept exactly when `v = w`; the other wrapper's state is untouched
    cases v <;> cases w <;> simp only [runTwo, Bool.false_eq_true, ↓reduceIte] <;>
      cases hp : predict fx L _ a <;>
      simp only [List.filter_cons, beq_iff_eq, Bool.false_eq_true, Bool.true_eq_false, ↓reduceIte, List.map_cons, runOne, hp, ih]

end Coba.C15
