/-
C15: `pred_format` in its parts (the dict-hinted readings, the test for (action, prob), the legacy unwrapping, the final
classification), what it returns on each documented form of answer, and what each block of its decision tree computes.
-/
import CobaVerif.Lemmas.C15Values
import Mathlib.Tactic.Linarith

namespace Coba.C15
open PyVal

/-! ### the parts of `pred_format` -/

/-- the last lines of `pred_format`: `item` is one of the actions, looks like a PMF over them, or `==` one of them -/
def classify (item : PyVal) (acts : List PyVal) : Except Err PFmt :=
  if acts.any (fun a => pyIs item a) then .ok ⟨.AX, false⟩
  else if possiblePmf item acts then .ok ⟨.PM, false⟩
  else if possibleAction item acts then .ok ⟨.AX, false⟩
  else .error .coba

theorem classify_ne_AP (item : PyVal) (acts : List PyVal) : classify item acts ≠ .ok ⟨.AP, false⟩ := by
  unfold classify; split_ifs <;> simp

theorem classify_action {a : PyVal} {as : List PyVal} (ha : as.any (fun x => pyIs a x) = true) : classify a as = .ok ⟨.AX, false⟩ := by
  simp only [classify, ha, if_true]

theorem classify_pmf {v : PyVal} {as : List PyVal} (hid : as.any (fun a => pyIs v a) = false) (hp : possiblePmf v as = true) :
    classify v as = .ok ⟨.PM, false⟩ := by
  simp only [classify, hid, hp, if_true, Bool.false_eq_true, if_false]

/-- the dict-hinted readings of `pred_format`; `none`: the answer carries no hint -/
def hintedFormat (v : PyVal) (acts : List PyVal) : Option (Except Err PFmt) :=
  if v.isDict then
    if hasKey "pmf" v then some (do
      let pmf ← getKey "pmf" v
      if acts.isEmpty then .error .coba
      else if !pmf.hasLen || pmf.len != acts.length then .error .coba
      else pure ⟨.PM, true⟩)
    else if hasKey "action" v then some (pure ⟨.AX, true⟩)
    else if hasKey "action_prob" v then some (do
      let ap ← getKey "action_prob" v
      if !ap.hasLen || ap.len != 2 then .error .coba else pure ⟨.AP, true⟩)
    else Option.none
  else Option.none

/-- is the answer (action, prob)? -/
def twoItem (fx : Fixes) (v : PyVal) (acts : List PyVal) : Except Err Bool :=
  if !v.hasLen || v.isStr || (fx.short && v.isDict) then pure false
  else if (if fx.short then v.len != 2 else v.len > 2) then pure false
  else if v.len = 2 then do
    if acts.isEmpty then .error .coba
    else do
      let x ← getIdx v 0
      pure (acts.any (fun a => pyIs x a))
  else pure false

/-- legacy: an answer with a length of 0 or 1 is taken to be `[pmf]` / `[action]` already -/
def unwrapped (fx : Fixes) (v : PyVal) : Bool := !fx.short && v.hasLen && !v.isStr && v.len < 2

theorem predFormat_parts (fx : Fixes) (v : PyVal) (actions : Option (List PyVal)) :
    predFormat fx v actions =
      (match hintedFormat v (actions.getD []) with
       | some r => r
       | Option.none => do
         let two ← twoItem fx v (actions.getD [])
         if two then pure ⟨.AP, false⟩
         else if unwrapped fx v && v.len = 2 then pure ⟨.AP, false⟩
         else if (actions.getD []).isEmpty then pure ⟨.AX, false⟩
         else do
           let item ← (if unwrapped fx v then getIdx v 0 else pure v)
           classify item (actions.getD [])) := rfl

theorem isHint_eq (v : PyVal) : isHint v = (hasKey "action" v || hasKey "action_prob" v || hasKey "pmf" v) := by
  cases v <;> rfl

theorem hintedFormat_none {v : PyVal} (h : isHint v = false) (acts : List PyVal) : hintedFormat v acts = Option.none := by
  simp only [isHint_eq, Bool.or_eq_false_iff] at h
  simp only [hintedFormat, h.1.1, h.1.2, h.2, Bool.false_eq_true, ↓reduceIte, ite_self]

theorem isHint_of_notDict {v : PyVal} (h : v.isDict = false) : isHint v = false := by
  cases v <;> first | rfl | cases h

theorem twoItem_pair (fx : Fixes) {v x y : PyVal} {as : List PyVal} (hv : v.items = some [x, y]) (hne : as ≠ []) :
    twoItem fx v as = .ok (as.any (fun a => pyIs x a)) := by
  have hemp : as.isEmpty = false := by cases as <;> simp_all
  unfold twoItem
  cases fx.short <;> simp [isDict_of_items hv, hasLen_of_items hv, isStr_of_items hv, len_of_items hv, getIdx_zero_of_items hv, hemp,
    bind, Except.bind, pure, Except.pure]

theorem twoItem_ne2 (fx : Fixes) {v : PyVal} (h : v.len ≠ 2) (acts : List PyVal) : twoItem fx v acts = .ok false := by
  unfold twoItem
  rw [if_neg h, ite_self, ite_self]; rfl

theorem twoItem_true {fx : Fixes} {v : PyVal} {acts : List PyVal} (h : twoItem fx v acts = .ok true) : v.len = 2 := by
  by_contra h2
  rw [twoItem_ne2 fx h2] at h
  cases h

theorem twoItem_scalar (fx : Fixes) {v : PyVal} (h : (!v.hasLen || v.isStr || fx.short && v.isDict) = true) (acts : List PyVal) :
    twoItem fx v acts = .ok false := by
  unfold twoItem; rw [if_pos h]; rfl

theorem unwrapped_eq_false (fx : Fixes) {v : PyVal} (h : fx.short = true ∨ 2 ≤ v.len ∨ (!v.hasLen || v.isStr) = true) :
    unwrapped fx v = false := by
  unfold unwrapped
  rcases h with h | h | h
  · simp [h]
  · have : ¬ v.len < 2 := Nat.not_lt.mpr h
    simp [this]
  · rcases (Bool.or_eq_true _ _).mp h with h | h <;> simp_all

theorem predFormat_unhinted (fx : Fixes) {v : PyVal} {as : List PyVal} {two : Bool} (hh : isHint v = false) (hne : as ≠ [])
    (h2 : twoItem fx v as = .ok two) (hu : unwrapped fx v = false) :
    predFormat fx v (some as) = if two then .ok ⟨.AP, false⟩ else classify v as := by
  have hemp : as.isEmpty = false := by cases as <;> simp_all
  rw [predFormat_parts]
  simp only [Option.getD_some, hintedFormat_none hh, h2, hu, hemp, bind, Except.bind, pure, Except.pure, Bool.false_and,
    Bool.false_eq_true, ↓reduceIte]

theorem predFormat_two (fx : Fixes) {v x y : PyVal} {as : List PyVal} (hv : v.items = some [x, y]) (hne : as ≠ []) :
    predFormat fx v (some as) = if as.any (fun a => pyIs x a) then .ok ⟨.AP, false⟩ else classify v as :=
  predFormat_unhinted fx (isHint_of_notDict (isDict_of_items hv)) hne (twoItem_pair fx hv hne)
    (unwrapped_eq_false fx (.inr (.inl (by rw [len_of_items hv]; exact Nat.le_refl 2))))

theorem predFormat_seq (fx : Fixes) {v : PyVal} {xs as : List PyVal} (hv : v.items = some xs) (hne : as ≠ [])
    (h2 : xs.length ≠ 2) (hlong : fx.short = true ∨ 2 ≤ xs.length) : predFormat fx v (some as) = classify v as := by
  rw [← len_of_items hv] at h2 hlong
  exact predFormat_unhinted fx (isHint_of_notDict (isDict_of_items hv)) hne (twoItem_ne2 fx h2 as)
    (unwrapped_eq_false fx (hlong.imp_right .inl))

theorem predFormat_atom (fx : Fixes) {v : PyVal} {as : List PyVal} (hv : (!v.hasLen || v.isStr) = true) (hne : as ≠ []) :
    predFormat fx v (some as) = classify v as := by
  have hd : v.isDict = false := by cases v <;> simp_all [PyVal.hasLen, PyVal.isStr, PyVal.isDict]
  exact predFormat_unhinted fx (isHint_of_notDict hd) hne (twoItem_scalar fx (by rw [hv]; rfl) as)
    (unwrapped_eq_false fx (.inr (.inr hv)))

theorem predFormat_dict (fx : Fixes) {v : PyVal} {as : List PyVal} (hd : v.isDict = true) (hh : isHint v = false) (hne : as ≠ [])
    (hlong : fx.short = true ∨ 2 < v.len) : predFormat fx v (some as) = classify v as := by
  refine predFormat_unhinted fx (two := false) hh hne ?_ (unwrapped_eq_false fx (hlong.imp_right fun h => .inl (Nat.le_of_lt h)))
  rcases hlong with hs | hl
  · exact twoItem_scalar fx (by rw [hs, hd]; simp) as
  · exact twoItem_ne2 fx (Nat.ne_of_gt hl) as

theorem validPmf_length {pmf as : List PyVal} (h : validPmf pmf as = true) : pmf.length = as.length := by
  simp only [validPmf, Bool.and_eq_true, beq_iff_eq] at h; exact h.1.1

theorem validPmf_sum_pos {pmf as : List PyVal} {s : Rat} (h : validPmf pmf as = true) (hs : sumNums pmf = some s) : 0 < s := by
  simp only [validPmf, Bool.and_eq_true, hs, decide_eq_true_eq] at h
  have := h.1.2.2
  linarith

theorem validPmf_entry {pmf as : List PyVal} (h : validPmf pmf as = true) {x : PyVal} (hx : x ∈ pmf) :
    ∃ q, x.num = some q ∧ 0 ≤ q := by
  simp only [validPmf, Bool.and_eq_true] at h
  have := List.all_eq_true.mp h.2 x hx
  cases hq : x.num with
  | none => simp [hq] at this
  | some q => exact ⟨q, rfl, by simpa [hq] using this⟩

theorem possiblePmf_items (v : PyVal) (pmf as : List PyVal) (hv : v.items = some pmf) (h : validPmf pmf as = true) :
    possiblePmf v as = true := by
  simp only [validPmf, Bool.and_eq_true, beq_iff_eq] at h
  obtain ⟨⟨h1, h2⟩, h3⟩ := h
  cases hs : sumNums pmf with
  | none => simp [hs] at h2
  | some s =>
    simp only [hs] at h2
    simp only [possiblePmf, hv, h1, hs, h2, beq_self_eq_true, Bool.true_and]
    exact h3

/-! ### `pred_format` recognises each documented format -/

theorem predFormat_dA (fx : Fixes) (r : Ref) (a : PyVal) (as : List PyVal) :
    predFormat fx (.dict r ["action"] [a]) (some as) = .ok ⟨.AX, true⟩ := by
  simp [predFormat, PyVal.isDict, hasKey, pure, Except.pure]

theorem predFormat_dAP (fx : Fixes) (r : Ref) (v a p : PyVal) (as : List PyVal) (hv : v.items = some [a, p]) :
    predFormat fx (.dict r ["action_prob"] [v]) (some as) = .ok ⟨.AP, true⟩ := by
  simp [predFormat, PyVal.isDict, hasKey, getKey, lookupKey, hasLen_of_items hv, len_of_items hv, bind, Except.bind, pure, Except.pure]

theorem predFormat_dPM (fx : Fixes) (r : Ref) (v : PyVal) (pmf : List PyVal) (as : List PyVal) (hv : v.items = some pmf)
    (hK : as ≠ []) (hl : pmf.length = as.length) :
    predFormat fx (.dict r ["pmf"] [v]) (some as) = .ok ⟨.PM, true⟩ := by
  have hemp : as.isEmpty = false := by cases as <;> simp_all
  simp [predFormat, PyVal.isDict, hasKey, getKey, lookupKey, hasLen_of_items hv, len_of_items hv, hl, hemp, bind, Except.bind, pure,
    Except.pure]

theorem predFormat_AP (fx : Fixes) (v : PyVal) (a p : PyVal) (as : List PyVal)
    (hv : v.items = some [a, p]) (ha : as.any (fun x => pyIs a x) = true) :
    predFormat fx v (some as) = .ok ⟨.AP, false⟩ := by
  have hne : as ≠ [] := by intro h; simp [h] at ha
  rw [predFormat_two fx hv hne, if_pos ha]

theorem predFormat_PM (fx : Fixes) (v : PyVal) (pmf as : List PyVal) (hi : v.items = some pmf) (hf : freshSeq v = true)
    (hne : as ≠ []) (hlrn : ∀ a ∈ as, isLrn a = false) (hv : validPmf pmf as = true)
    (hfresh : ∀ x y, pmf = [x, y] → as.any (fun a => pyIs x a) = false)
    (hshort : fx.short = true ∨ 2 ≤ pmf.length) :
    predFormat fx v (some as) = .ok ⟨.PM, false⟩ := by
  have hc := classify_pmf (any_pyIs_freshSeq v as hf hlrn) (possiblePmf_items v pmf as hi hv)
  by_cases h2 : pmf.length = 2
  · obtain ⟨x, y, rfl⟩ := List.length_eq_two.mp h2
    rw [predFormat_two fx hi hne, hfresh x y rfl, hc]; rfl
  · rw [predFormat_seq fx hi hne h2 hshort, hc]

theorem predFormat_A (fx : Fixes) (a : PyVal) (as : List PyVal)
    (ha : as.any (fun x => pyIs a x) = true)
    (hhint : isHint a = false)
    (htwo : ∀ x y, a.items = some [x, y] → as.any (fun b => pyIs x b) = false)
    (hshort : fx.short = true ∨ longEnough a = true) :
    predFormat fx a (some as) = .ok ⟨.AX, false⟩ := by
  have hne : as ≠ [] := by intro h; simp [h] at ha
  have hc := classify_action ha
  have seq : ∀ xs, a.items = some xs → (fx.short = true ∨ 2 ≤ xs.length) → predFormat fx a (some as) = .ok ⟨.AX, false⟩ := by
    intro xs hi hl
    by_cases h2 : xs.length = 2
    · obtain ⟨x, y, rfl⟩ := List.length_eq_two.mp h2
      rw [predFormat_two fx hi hne, htwo x y hi, hc]; rfl
    · rw [predFormat_seq fx hi hne h2 hl, hc]
  cases a with
  | tuple r xs => exact seq xs rfl (by simpa [longEnough] using hshort)
  | list r xs => exact seq xs rfl (by simpa [longEnough] using hshort)
  | dict r ks vs => rw [predFormat_dict fx rfl hhint hne (by simpa [longEnough, PyVal.len] using hshort), hc]
  | _ => rw [predFormat_atom fx rfl hne, hc]

/-! ### `pred_format`'s decision tree

The body of the source is three blocks: the dict-hinted returns, the decision whether `std_pred` is wrapped (it is not exactly when
it is taken for (action, prob)), and the chain of returns that classifies `std_pred[0]`.  Each computes one part of `predFormat`
(`predFormat_parts`). -/

theorem pfExec_hinted (sp : PyVal) (acts : List PyVal) :
    pfExec sp acts (.ite .isDict [.ite .hasPmf [.bind "pmf", .ite .noActions [.raise] [], .ite .pmfLenBad [.raise] [], .ret .PM true] [],
        .ite .hasAction [.ret .AX true] [], .ite .hasAP [.bind "action_prob", .ite .apLenBad [.raise] [], .ret .AP true] []] []) false =
      (match hintedFormat sp acts with | some r => .done r | Option.none => .cont false) := by
  unfold hintedFormat
  cases hd : sp.isDict
  · simp [pfExec, pfExecL, pfEval, hd]
  · cases hp : hasKey "pmf" sp
    · cases ha : hasKey "action" sp
      · cases hap : hasKey "action_prob" sp
        · simp [pfExec, pfExecL, pfEval, *]
        · cases hg : getKey "action_prob" sp with
          | error e => simp [pfExec, pfExecL, pfEval, bind, Except.bind, *]
          | ok v => cases hb : (!v.hasLen || v.len != 2) <;> simp [pfExec, pfExecL, pfEval, bind, Except.bind, pure, Except.pure, *]
      · simp [pfExec, pfExecL, pfEval, pure, Except.pure, *]
    · cases hg : getKey "pmf" sp with
      | error e => simp [pfExec, pfExecL, pfEval, bind, Except.bind, *]
      | ok v =>
        cases he : acts.isEmpty <;> cases hb : (!v.hasLen || v.len != acts.length) <;>
          simp [pfExec, pfExecL, pfEval, bind, Except.bind, pure, Except.pure, *]

theorem pfExec_wrap (sp : PyVal) (acts : List PyVal) :
    pfExec sp acts (.ite .scalarLike [.wrap] [.ite .lenNe2 [.wrap] [.ite .noActions [.raise] [.ite .itemIsAction [.skip] [.wrap]]]]) false =
      (match twoItem Fixes.all sp acts with | .ok two => .cont (!two) | .error e => .done (.error e)) := by
  unfold twoItem
  cases hs : (!sp.hasLen || sp.isStr || sp.isDict)
  · cases hl : (sp.len != 2)
    · have h2 : sp.len = 2 := by simpa using hl
      cases he : acts.isEmpty
      · cases hg : getIdx sp 0 with
        | error e => simp [pfExec, pfExecL, pfEval, pfItem, Fixes.all, bind, Except.bind, *]
        | ok x => cases hx : acts.any (fun a => pyIs x a) <;> simp [pfExec, pfExecL, pfEval, pfItem, Fixes.all, bind, Except.bind, pure, Except.pure, *]
      · simp [pfExec, pfExecL, pfEval, Fixes.all, *]
    · simp [pfExec, pfExecL, pfEval, Fixes.all, pure, Except.pure, *]
  · simp [pfExec, pfExecL, pfEval, Fixes.all, pure, Except.pure, *]

theorem pfExecL_tail (sp : PyVal) (acts : List PyVal) (w : Bool) :
    pfExecL sp acts [.ite .lenEq2 [.ret .AP false] [], .ite .actionsEmpty [.ret .AX false] [], .ite .itemIsAction [.ret .AX false] [],
        .ite .possPmf [.ret .PM false] [], .ite .possAct [.ret .AX false] [], .raise] w =
      .done (if (if w then false else sp.len == 2) then .ok ⟨.AP, false⟩ else if acts.isEmpty then .ok ⟨.AX, false⟩
        else (pfItem sp w).bind (classify · acts)) := by
  unfold classify
  generalize hb : (if w then false else sp.len == 2) = b
  cases b
  · cases he : acts.isEmpty
    · cases hi : pfItem sp w with
      | error e => simp [pfExec, pfExecL, pfEval, bind, Except.bind, *]
      | ok x =>
        cases h1 : acts.any (fun a => pyIs x a)
        · cases h3 : possiblePmf x acts
          · cases h4 : possibleAction x acts <;> simp [pfExec, pfExecL, pfEval, bind, Except.bind, pure, Except.pure, *]
          · simp [pfExec, pfExecL, pfEval, bind, Except.bind, pure, Except.pure, *]
        · simp [pfExec, pfExecL, pfEval, bind, Except.bind, pure, Except.pure, *]
    · simp [pfExec, pfExecL, pfEval, *]
  · simp [pfExec, pfExecL, pfEval, *]

end Coba.C15
