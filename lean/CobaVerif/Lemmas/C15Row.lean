/-
C15: row-major batch answers (a list with one answer per row) and the per-row fallback for learners that raise on a batch.
-/
import CobaVerif.Lemmas.C15Batch

namespace Coba.C15
open PyVal

theorem sameKeys_row {a0 : Answer} {as0 : List PyVal} {R' : Rows} (hs : sameKeys ((a0, as0) :: R') = true)
    {r : Answer × List PyVal} (hr : r ∈ (a0, as0) :: R') :
    r.1.kwVals.length = r.1.kwKeys.length ∧ (∀ k ∈ a0.kwKeys, k ∈ r.1.kwKeys) ∧ ∀ k ∈ r.1.kwKeys, k ∈ a0.kwKeys := by
  simp only [sameKeys, List.all_eq_true, Bool.and_eq_true, beq_iff_eq, List.contains_iff_mem] at hs
  obtain ⟨⟨h1, h2⟩, h3⟩ := hs r hr
  exact ⟨h1, h2, h3⟩

theorem getKey_kwDict (k : String) (ans : Answer) (hl : ans.kwVals.length = ans.kwKeys.length) (hk : k ∈ ans.kwKeys) :
    getKey k (kwDict ans) = .ok ((lookupKey k ans.kwKeys ans.kwVals).getD .none) := by
  obtain ⟨v, hv⟩ := lookupKey_isSome k ans.kwKeys ans.kwVals hl hk
  simp [getKey, kwDict, hv]

theorem kwColumns_kwDicts (a0 : Answer) (as0 : List PyVal) (R' : Rows) (hs : sameKeys ((a0, as0) :: R') = true) :
    kwColumns (((a0, as0) :: R').map (fun r => kwDict r.1)) = .ok (kwTable .tmp ((a0, as0) :: R')) := by
  simp only [kwColumns, List.map_cons, kwDict, bind, Except.bind]
  have : mapE (fun k => do
        let col ← mapE (getKey k) (PyVal.dict (.lrn 0) a0.kwKeys a0.kwVals :: R'.map (fun r => PyVal.dict (.lrn 0) r.1.kwKeys r.1.kwVals))
        pure (PyVal.list .tmp col)) a0.kwKeys
      = .ok (a0.kwKeys.map (fun k => PyVal.list .tmp (((a0, as0) :: R').map (fun r => (lookupKey k r.1.kwKeys r.1.kwVals).getD .none)))) := by
    apply mapE_ok
    intro k hk
    have hcol : mapE (getKey k) (((a0, as0) :: R').map (fun r => kwDict r.1))
        = .ok (((a0, as0) :: R').map (fun r => (lookupKey k r.1.kwKeys r.1.kwVals).getD .none)) := by
      apply mapE_map_ok
      intro r hr
      obtain ⟨hl, hsub, _⟩ := sameKeys_row hs hr
      exact getKey_kwDict k r.1 hl (hsub k hk)
    simp only [List.map_cons, kwDict] at hcol
    simp [hcol, bind, Except.bind, pure, Except.pure]
  simp only [bind, Except.bind, pure, Except.pure] at this ⊢
  rw [this]
  simp [kwTable]

theorem getLast_renderSingle_kw (sp : Spec) (ans : Answer) (as : List PyVal) (hk : sp.kw = true) :
    getLast (renderSingle sp ans as) = .ok (kwDict ans) := by
  by_cases h : sp.fmt = .AP
  · rw [renderSingle_pair h, hk]; exact getLast_mkSeq sp.tup _ _
  · rw [renderSingle_one h, hk]; exact getLast_mkSeq sp.tup [field sp ans as] _

theorem rowBody_renderSingle_kw (sp : Spec) (ans : Answer) (as : List PyVal) (hk : sp.kw = true) :
    rowBody (renderSingle sp ans as) = .ok (rowStd sp ans as) := by
  have := firstRow_not_renderSingle sp ans as
  rw [hk] at this
  exact this

theorem renderSingle_nokw (sp : Spec) (ans : Answer) (as : List PyVal) (hk : sp.kw = false) :
    renderSingle sp ans as = rowStd sp ans as := by
  have := firstRow_not_renderSingle sp ans as
  rw [hk] at this
  exact Except.ok.inj this

theorem kwColumns_empty {α} (R : List α) (hne : R ≠ []) :
    kwColumns (R.map (fun _ => PyVal.dict .tmp [] [])) = .ok (.dict .tmp [] []) := by
  cases R with
  | nil => exact absurd rfl hne
  | cons r R => simp [kwColumns, mapE, pure, Except.pure, bind, Except.bind]

theorem parseRow_kwargs_kw (sp : Spec) (R : Rows) (hne : R ≠ []) (hk : sp.kw = true) (hs : sameKeys R = true) :
    (mapE (fun p => getLast p) (renders sp R)).bind kwColumns = .ok (kwVal .tmp sp R) := by
  have h1 : mapE (fun p => getLast p) (renders sp R) = .ok (R.map (fun r => kwDict r.1)) :=
    mapE_map_ok _ _ _ R (fun r _ => getLast_renderSingle_kw sp r.1 r.2 hk)
  cases R with
  | nil => exact absurd rfl hne
  | cons r R' =>
    obtain ⟨a0, as0⟩ := r
    rw [h1]
    simp only [Except.bind, kwColumns_kwDicts a0 as0 R' hs, kwVal, hk, ↓reduceIte]

theorem parseRow_kwargs_nokw (sp : Spec) (R : Rows) (hne : R ≠ []) (hk : sp.kw = false) :
    kwColumns ((renders sp R).map (fun _ => PyVal.dict .tmp [] [])) = .ok (kwVal .tmp sp R) := by
  have := kwColumns_empty R hne
  simpa [renders, kwVal, hk, Function.comp_def] using this

theorem parseRow_rows (sp : Spec) (st : State) (hkw : st.hasKw = sp.kw) (ref : Ref)
    (R : Rows) (hne : R ≠ []) (hs : sp.kw = true → sameKeys R = true) :
    DeliversN (parseRow st sp.pfmt (R.map (·.2)) (.list ref (renders sp R))) (wantBatch sp st.rng R) := by
  have key : ∀ (body : List PyVal) (bodyV : PyVal), body = R.map (fun r => rowStd sp r.1 r.2) → bodyV.items = some body →
      DeliversN
        (Except.bind (if sp.pfmt.star then (do let b ← mapE firstValue body; pure (b, PyVal.list .tmp b)) else (pure (body, bodyV) : Except Err (List PyVal × PyVal)))
          (fun (x : List PyVal × PyVal) => finishRows st.rng sp.pfmt.kind (R.map (·.2)) x.1 x.2 (kwVal .tmp sp R)))
        (wantBatch sp st.rng R) := by
    intro body bodyV hb hv
    subst hb
    cases hh : sp.fmt.hinted
    · simp only [Spec.pfmt, hh, Bool.false_eq_true, ↓reduceIte, pure, Except.pure, Except.bind]
      exact finishRows_spec sp st.rng R hne .tmp _ bodyV (fun r => holds_rowStd sp r.1 r.2 hh) hv
    · have h1 : mapE firstValue (R.map (fun r => rowStd sp r.1 r.2)) = .ok (R.map (fun r => payload sp r.1 r.2)) :=
        mapE_map_ok _ _ _ R (fun r _ => firstValue_rowStd sp r.1 r.2 hh)
      simp only [Spec.pfmt, hh, ↓reduceIte, h1, bind, Except.bind, pure, Except.pure]
      exact finishRows_spec sp st.rng R hne .tmp _ (.list .tmp _) (fun r => holds_payload sp r.1 r.2) rfl
  cases hk : sp.kw
  · have h1 := parseRow_kwargs_nokw sp R hne hk
    have h2 : renders sp R = R.map (fun r => rowStd sp r.1 r.2) := by simp [renders, renderSingle_nokw sp _ _ hk]
    have := key (renders sp R) (.list ref (renders sp R)) h2 (by simp [PyVal.items])
    unfold parseRow
    simp only [itemsE, iter, hkw, hk, Bool.false_eq_true, ↓reduceIte, bind, Except.bind, pure, Except.pure, h1] at this ⊢
    exact this
  · have h1 := parseRow_kwargs_kw sp R hne hk (hs hk)
    have h2 : mapE rowBody (renders sp R) = .ok (R.map (fun r => rowStd sp r.1 r.2)) :=
      mapE_map_ok _ _ _ R (fun r _ => rowBody_renderSingle_kw sp r.1 r.2 hk)
    have := key _ (.list .tmp (R.map (fun r => rowStd sp r.1 r.2))) rfl (by simp [PyVal.items])
    simp only [Except.bind] at h1
    cases h3 : mapE (fun p => getLast p) (renders sp R) with
    | error e => simp [h3] at h1
    | ok kws =>
      simp only [h3] at h1
      unfold parseRow
      simp only [itemsE, iter, hkw, hk, ↓reduceIte, bind, Except.bind, pure, Except.pure, h1, h2, h3] at this ⊢
      exact this

theorem isDict_renderSingle (sp : Spec) (ans : Answer) (as : List PyVal) :
    (renderSingle sp ans as).isDict =
      (!sp.kw && (sp.fmt.hinted || (sp.fmt == .A && (ans.action as).isDict))) := by
  by_cases h : sp.fmt = .AP
  · rw [renderSingle_pair h, isDict_mkSeq, h]; cases sp.kw <;> rfl
  · rw [renderSingle_one h]
    cases sp.kw
    · obtain ⟨fmt, kw, lay, tup, ptup⟩ := sp
      cases fmt <;> first | exact absurd rfl h | simp [field, payload, Fmt.hinted, Fmt.kind, mkPmf]
    · exact isDict_mkSeq sp.tup _

theorem keysSame_hinted (sp : Spec) (a b : Answer) (as bs : List PyVal) (hk : sp.kw = false) (hh : sp.fmt.hinted = true) :
    keysSame (renderSingle sp a as) (renderSingle sp b bs) = true := by
  simp only [renderSingle_one (ne_AP_of_hinted hh), hk, field, hh, Bool.false_eq_true, ↓reduceIte, keysSame, List.all_cons,
    List.all_nil, List.contains_cons, BEq.rfl, Bool.true_or, Bool.and_self]

theorem batchOrder_rows (fx : Fixes) (ref : Ref) (xs : List PyVal) (x l : PyVal) (cs : List PyVal) (rows : List (List PyVal))
    (probe : Except Err PyVal) (pp : PyVal)
    (hx : xs.head? = some x) (hl : xs.getLast? = some l) (hn : rows.length = xs.length) (hd : NotColKw fx xs x l)
    (hprobe : probe = .ok pp) (hpl : lenE pp = .ok 1) :
    batchOrder fx probe (.list ref xs) (.batch cs rows) 1 = .ok .row := by
  -- dict rows are not read as `[{hint: column}, kwargs]`
  have hc : (xs.all PyVal.isDict && (!keysSame x l && xs.length == 2 && (!fx.rowdict || isHint x))) = false := by
    cases hall : xs.all PyVal.isDict
    · rfl
    · rcases hd hall with h | ⟨hr, hh⟩
      · rw [h]; rfl
      · rw [hr, hh]; simp
  -- so without the probe: 'row', or undecided (as many answers as the first answer has items)
  have hpre : batchOrderPre fx (.list ref xs) (.batch cs rows) 1 = .ok (some .row) ∨
      batchOrderPre fx (.list ref xs) (.batch cs rows) 1 = .ok Option.none := by
    rw [batchOrderPre_seq fx cs rows rfl hx hl, hc, hn]
    simp only [Bool.false_eq_true, ↓reduceIte]
    split_ifs <;> simp
  unfold batchOrder
  rcases hpre with h | h <;> simp only [h, hprobe, hpl, bind, Except.bind, pure, Except.pure, ↓reduceIte]

theorem perRow_scripted (sp : Spec) (pol : Policy) (cs : List PyVal) (rows : List (List PyVal)) :
    perRow (scripted sp pol) cs rows = .ok (renders sp (zipWithAns pol cs rows)) := by
  induction cs generalizing rows with
  | nil => cases rows <;> rfl
  | cons c cs ih =>
    cases rows with
    | nil => rfl
    | cons a as => rw [perRow, ih as]; rfl

theorem perRowArgs_unbatched : ∀ (cs : List PyVal) (rows : List (List PyVal)),
    (perRowArgs cs rows).filter (fun a => !isBatchArg a) = perRowArgs cs rows
  | [], _ => rfl
  | _ :: _, [] => rfl
  | _ :: cs, _ :: rows => congrArg (List.cons _) (perRowArgs_unbatched cs rows)

theorem detect_rows (fx : Fixes) (L : Learner) (sp : Spec) (st1 : State) (cs : List PyVal) (as0 : List PyVal) (rows' : List (List PyVal))
    (a0 : Answer) (R' : Rows) (ref : Ref) (m : Nat)
    (hl : st1.layout = Option.none)
    (hf : firstRowOK fx sp a0 as0 = true)
    (hbo : batchOrder fx (do let a1 ← firstOf (.batch cs (as0 :: rows')); let r ← safeCall fx L (some m) a1; pure r.1)
        (.list ref (renders sp ((a0, as0) :: R'))) (.batch cs (as0 :: rows')) m = .ok .row) :
    detect fx L st1 (.batch cs (as0 :: rows')) (.list ref (renders sp ((a0, as0) :: R'))) m =
      .ok { st1 with layout := some .row, hasKw := sp.kw, fmt := some sp.pfmt } :=
  -- on a list of answers `has_kwargs` and `first_row` look at the first answer, as they do on an unbatched call
  detect_of fx L st1 _ _ m .row sp.kw _ as0 _ hl (.inr ⟨cs, rows', rfl⟩) hbo (lastIsDict_renderSingle fx sp a0 as0 hf)
    (firstRow_not_renderSingle sp a0 as0) (predFormat_rowStd fx sp a0 as0 hf)

theorem notColKw_of_dictRowsOK (fx : Fixes) (sp : Spec) (a0 : Answer) (as0 : List PyVal) (R' : Rows) (l : Answer × List PyVal)
    (hl : ((a0, as0) :: R').getLast? = some l)
    (hf : firstRowOK fx sp a0 as0 = true) (hd : dictRowsOK fx sp ((a0, as0) :: R') = true) :
    NotColKw fx (renders sp ((a0, as0) :: R')) (renderSingle sp a0 as0) (renderSingle sp l.1 l.2) := by
  intro hall
  have h0 : (renderSingle sp a0 as0).isDict = true := by
    have := List.all_eq_true.mp hall (renderSingle sp a0 as0) (by simp [renders])
    exact this
  have hlm : l ∈ ((a0, as0) :: R') := List.mem_of_getLast? hl
  have h1 : (renderSingle sp l.1 l.2).isDict = true := by
    have := List.all_eq_true.mp hall (renderSingle sp l.1 l.2) (by simp only [renders, List.mem_map]; exact ⟨l, hlm, rfl⟩)
    exact this
  rw [isDict_renderSingle] at h0 h1
  simp only [Bool.and_eq_true, Bool.not_eq_true', Bool.or_eq_true, beq_iff_eq] at h0 h1
  obtain ⟨hk, h0⟩ := h0
  rcases h0 with hh | ⟨hA, hd0⟩
  · exact Or.inl (keysSame_hinted sp a0 l.1 as0 l.2 hk hh)
  · have hd1 : (l.1.action l.2).isDict = true := by
      rcases h1.2 with hh | ⟨_, h⟩
      · rw [hA] at hh; simp [Fmt.hinted] at hh
      · exact h
    have hr : ∀ (a : Answer) (as : List PyVal), renderSingle sp a as = a.action as := by
      intro a as
      simp only [renderSingle_one (sp := sp) (by rw [hA]; nofun), hk, field, payload, hA, Fmt.hinted, Fmt.kind,
        Bool.false_eq_true, ↓reduceIte]
    rw [hr, hr]
    simp only [dictRowsOK, hA, hk, Bool.or_eq_true, List.head?_cons, hl] at hd
    simp only [beq_self_eq_true, Bool.not_false, Bool.and_self, Bool.not_true, hd0, hd1] at hd
    simp only [Bool.false_eq_true, or_false, false_or] at hd
    rcases hd with hr | hks
    · exact Or.inr ⟨hr, (firstRowOK_A hf hA).noHint⟩
    · exact Or.inl hks

theorem batchOrder_m2 (fx : Fixes) (probe : Except Err PyVal) (pred : PyVal) (arg : Arg) :
    batchOrder fx probe pred arg 2 = .ok .row := by
  simp [batchOrder, batchOrderPre, bind, Except.bind, pure, Except.pure]

/-- A batch answer that reaches `_parse_pred` as a list of one answer per row: the learner's own (`ref = .lrn 0`, call style
`m = 1`) or collected by the per-row fallback (`ref = .tmp`, `m = 2`).  `hcall`: how `_safe_call` comes by it, on the first call
(once the list is a valid output) and with the style memoised; `hbo`: what `batch_order` says once dict rows are not taken
for `[{hint: column}, kwargs]`. -/
theorem predictCore_rows (fx : Fixes) (sp : Spec) (L : Learner) (st : State) (cs : List PyVal) (r0 : Answer × List PyVal) (R' : Rows)
    (ref : Ref) (m : Nat)
    (hstA : ∀ s, stAfter sp true st s =
      { st with rng := s, method := some m, layout := some BLayout.row, hasKw := sp.kw, fmt := some sp.pfmt })
    (hcall : ∀ mm, (mm = Option.none ∧ validOut fx (.list ref (renders sp (r0 :: R'))) cs.length = true) ∨ mm = some m →
      safeCall fx L mm (.batch cs ((r0 :: R').map (·.2))) = .ok (.list ref (renders sp (r0 :: R')), m))
    (hbo : ∀ l, (renders sp (r0 :: R')).getLast? = some l → NotColKw fx (renders sp (r0 :: R')) (renderSingle sp r0.1 r0.2) l →
      batchOrder fx (do let a1 ← firstOf (.batch cs ((r0 :: R').map (·.2))); let r ← safeCall fx L (some m) a1; pure r.1)
        (.list ref (renders sp (r0 :: R'))) (.batch cs ((r0 :: R').map (·.2))) m = .ok .row)
    (hinv : Inv sp true st) (hcs : cs.length = R'.length + 1)
    (hs : sp.kw = true → sameKeys (r0 :: R') = true)
    (hfirst : st.layout = Option.none → firstRowOK fx sp r0.1 r0.2 = true ∧ dictRowsOK fx sp (r0 :: R') = true) :
    Delivers (predictCore fx L st (.batch cs ((r0 :: R').map (·.2)))) (wantBatch sp st.rng (r0 :: R')) (stAfter sp true st) := by
  obtain ⟨a0, as0⟩ := r0
  simp only [List.map_cons] at hcall hbo hfirst ⊢
  rw [predictCore_parts fx L sp true st _ (.list ref (renders sp ((a0, as0) :: R'))) m .row hinv hstA ?_ (hcall _ (Or.inr rfl))]
  · exact deliversN_to_delivers _ _ _ (parseRow_rows sp { st with hasKw := sp.kw } rfl ref _ (List.cons_ne_nil _ _) hs)
  · intro hl
    obtain ⟨hf, hd⟩ := hfirst hl
    obtain ⟨l, hlast⟩ : ∃ l, ((a0, as0) :: R').getLast? = some l := ⟨_, List.getLast?_eq_some_getLast (List.cons_ne_nil _ _)⟩
    have hcond := notColKw_of_dictRowsOK fx sp a0 as0 R' l hlast hf hd
    have hlast' : (renders sp ((a0, as0) :: R')).getLast? = some (renderSingle sp l.1 l.2) := by
      rw [renders, List.getLast?_map, hlast]; rfl
    have hvalid : validOut fx (.list ref (renders sp ((a0, as0) :: R'))) cs.length = true := by
      rw [validOut_seq fx _ rfl rfl hlast' hcond, hcs]; simp [renders]
    exact ⟨hcall _ (Or.inl ⟨rfl, hvalid⟩),
      detect_rows fx L sp { st with method := some m } cs as0 _ a0 R' ref m hl hf (hbo _ hlast' hcond)⟩

theorem rows_of_zip {pol : Policy} {cs : List PyVal} {rows : List (List PyVal)} {r0 : Answer × List PyVal} {R' : Rows}
    (hR : zipWithAns pol cs rows = r0 :: R') (hlen : cs.length = rows.length) :
    rows = (r0 :: R').map (·.2) ∧ cs.length = R'.length + 1 := by
  have h1 := zipWithAns_snd pol cs rows hlen
  have h2 := zipWithAns_length pol cs rows hlen
  rw [hR] at h1 h2
  exact ⟨h1.symm, by rw [hlen, ← h2]; rfl⟩

theorem predictCore_rowMajor (fx : Fixes) (sp : Spec) (pol : Policy) (st : State) (cs : List PyVal) (rows : List (List PyVal))
    (r0 : Answer × List PyVal) (R' : Rows) (hR : zipWithAns pol cs rows = r0 :: R')
    (hlay : sp.layout = .row) (hinv : Inv sp true st) (hlen : cs.length = rows.length)
    (hs : sp.kw = true → sameKeys (r0 :: R') = true)
    (hfirst : st.layout = Option.none → firstRowOK fx sp r0.1 r0.2 = true ∧ dictRowsOK fx sp (r0 :: R') = true) :
    Delivers (predictCore fx (scripted sp pol) st (.batch cs rows)) (wantBatch sp st.rng (r0 :: R')) (stAfter sp true st) := by
  obtain ⟨hrows, hcs⟩ := rows_of_zip hR hlen
  have hL : ∀ cs rows, scripted sp pol (.batch cs rows) = .ok (.list (.lrn 0) (renders sp (zipWithAns pol cs rows))) := by
    intro cs rows; simp [scripted, hlay, renders]
  subst hrows
  refine predictCore_rows fx sp (scripted sp pol) st cs r0 R' (.lrn 0) 1 (by intro s; simp [stAfter, hlay]) ?_ ?_ hinv hcs hs hfirst
  · rintro mm (⟨rfl, hv⟩ | rfl)
    · simp only [safeCall, hL, hR, hv, ↓reduceIte]
    · simp only [safeCall, hL, hR, bind, Except.bind, pure, Except.pure]
  · -- the square case: the one-row test call is answered with one row
    intro l hl hd
    obtain ⟨c0, cs', rfl⟩ := List.exists_cons_of_length_eq_add_one hcs
    exact batchOrder_rows fx (.lrn 0) _ _ l _ _ _ (.list (.lrn 0) (renders sp (zipWithAns pol [c0] [r0.2]))) rfl hl
      (by simp [renders]) hd
      (by simp only [List.map_cons, firstOf, safeCall, hL, bind, Except.bind, pure, Except.pure])
      (by simp [lenE, PyVal.hasLen, PyVal.len, renders, zipWithAns])

theorem predictCore_perrow (fx : Fixes) (sp : Spec) (pol : Policy) (st : State) (cs : List PyVal) (rows : List (List PyVal))
    (r0 : Answer × List PyVal) (R' : Rows) (hR : zipWithAns pol cs rows = r0 :: R')
    (hlay : sp.layout = .single) (hinv : Inv sp true st) (hlen : cs.length = rows.length)
    (hs : sp.kw = true → sameKeys (r0 :: R') = true)
    (hfirst : st.layout = Option.none → firstRowOK fx sp r0.1 r0.2 = true ∧ dictRowsOK fx sp (r0 :: R') = true) :
    Delivers (predictCore fx (scripted sp pol) st (.batch cs rows)) (wantBatch sp st.rng (r0 :: R')) (stAfter sp true st) := by
  obtain ⟨hrows, hcs⟩ := rows_of_zip hR hlen
  have hL : scripted sp pol (.batch cs rows) = .error .learner := by simp [scripted, hlay]
  have hm2 : method2 (scripted sp pol) cs rows = .ok (.list .tmp (renders sp (r0 :: R'))) := by
    simp only [method2, perRow_scripted, hR, renders, List.map_cons, List.isEmpty_cons, bind, Except.bind, pure, Except.pure,
      Bool.false_eq_true, ↓reduceIte]
  subst hrows
  refine predictCore_rows fx sp (scripted sp pol) st cs r0 R' .tmp 2 (by intro s; simp [stAfter, hlay]) ?_
    (fun _ _ _ => batchOrder_m2 _ _ _ _) hinv hcs hs hfirst
  rintro mm (⟨rfl, hv⟩ | rfl)
  · simp only [safeCall, hL, hm2, hv, ↓reduceIte]
  · simp only [safeCall, hm2, bind, Except.bind, pure, Except.pure]

/-- the side conditions do not tell a row-major learner from one that raises on a batch (`callOK`, `firstCallOK`) -/
theorem predictCore_notCol (fx : Fixes) (sp : Spec) (pol : Policy) (st : State) (cs : List PyVal) (rows : List (List PyVal))
    (r0 : Answer × List PyVal) (R' : Rows) (hR : zipWithAns pol cs rows = r0 :: R')
    (hlay : sp.layout ≠ .col) (hinv : Inv sp true st) (hlen : cs.length = rows.length)
    (hs : sp.kw = true → sameKeys (r0 :: R') = true)
    (hfirst : st.layout = Option.none → firstRowOK fx sp r0.1 r0.2 = true ∧ dictRowsOK fx sp (r0 :: R') = true) :
    Delivers (predictCore fx (scripted sp pol) st (.batch cs rows)) (wantBatch sp st.rng (r0 :: R')) (stAfter sp true st) := by
  cases hl : sp.layout with
  | row => exact predictCore_rowMajor fx sp pol st cs rows r0 R' hR hl hinv hlen hs hfirst
  | single => exact predictCore_perrow fx sp pol st cs rows r0 R' hR hl hinv hlen hs hfirst
  | col => exact absurd hl hlay

end Coba.C15
