/-
C15: `SafeLearner.score` on the scripted learner and the substring tests of `has_score`; this module also brings in what the
translator reads from the current coba/safety.py (`Generated/C15Consts`, `Generated/C15PredFormat`).
-/
import CobaVerif.Lemmas.C15Batch
import CobaVerif.Generated.C15Consts
import CobaVerif.Generated.C15PredFormat

namespace Coba.C15
open PyVal

/-! ### `score` on the scripted learner -/

theorem scorePerRow_scripted (pol : Policy) (b t : Bool) : ∀ (cs : List PyVal) (rows : List (List PyVal)) (acts : List PyVal),
    scorePerRow (scriptedScore pol b t) cs rows acts = .ok (scoresOf pol cs rows acts) := by
  intro cs
  induction cs with
  | nil => intro rows acts; rfl
  | cons c cs ih =>
    intro rows acts
    cases rows with
    | nil => rfl
    | cons a rows =>
      cases acts with
      | nil => rfl
      | cons x acts => rw [scorePerRow, ih rows acts]; rfl

theorem scoresOf_length (pol : Policy) : ∀ (cs : List PyVal) (rows : List (List PyVal)) (acts : List PyVal),
    rows.length = cs.length → acts.length = cs.length → (scoresOf pol cs rows acts).length = cs.length := by
  intro cs
  induction cs with
  | nil => intro rows acts _ _; rfl
  | cons c cs ih =>
    intro rows acts h1 h2
    cases rows with
    | nil => cases h1
    | cons a rows =>
      cases acts with
      | nil => cases h2
      | cons x acts => rw [scoresOf, List.length_cons, ih rows acts (Nat.succ.inj h1) (Nat.succ.inj h2), List.length_cons]

theorem scoresOf_head (pol : Policy) (c : PyVal) (cs : List PyVal) (a : List PyVal) (rows : List (List PyVal)) (x : PyVal) (acts : List PyVal) :
    (scoresOf pol (c :: cs) (a :: rows) (x :: acts)).head? = some (scoreOf pol c a x) := rfl

theorem validOut_scores (fx : Fixes) (v : PyVal) (xs : List PyVal) (x : PyVal) (n : Nat) (hv : v.items = some xs)
    (hx : xs.head? = some x) (hd : x.isDict = false) (hn : n = xs.length) : validOut fx v n = true := by
  obtain ⟨l, hl⟩ : ∃ l, xs.getLast? = some l := ⟨_, List.getLast?_eq_some_getLast (by rintro rfl; cases hx)⟩
  rw [validOut_seq fx n hv hx hl fun h => ?_, hn, beq_self_eq_true]; rfl
  rw [List.all_eq_true.mp h x (List.mem_of_head? hx)] at hd; cases hd

/-- the memo `_method['score']` is unset or is the one a learner of this kind leads to -/
def ScoreInv (batchable : Bool) (m : Option Nat) : Prop := m = Option.none ∨ m = some (if batchable then 1 else 2)

/-! ### the substring test of `has_score`, and learners without a `score` of their own -/

theorem isPrefixL_append (p ys : List Char) : isPrefixL p (p ++ ys) = true := by
  induction p with
  | nil => cases ys <;> rfl
  | cons a p ih => simp [isPrefixL, ih]

theorem isInfixL_append (p xs ys : List Char) : isInfixL p (xs ++ (p ++ ys)) = true := by
  induction xs with
  | nil =>
    cases h : p ++ ys with
    | nil =>
      have : p = [] := by cases p <;> simp_all
      subst this; simp [isInfixL]
    | cons c cs =>
      have hp := isPrefixL_append p ys
      rw [h] at hp
      simp [isInfixL, hp]
  | cons x xs ih => simp [isInfixL, ih]

theorem strContains_mid (a sub b : String) : strContains (a ++ sub ++ b) sub = true := by
  simp [strContains, String.toList_append, List.append_assoc, isInfixL_append]

/-- … for a literal `s`: `h` is closed by `simp`, which joins the pieces -/
theorem strContains_split {s a sub b : String} (h : s = a ++ sub ++ b) : strContains s sub = true :=
  h ▸ strContains_mid a sub b

/-- A test on two literals runs on their characters (`rfl` for both hypotheses): the kernel reads a literal as `String.ofList`
of its characters, and `toList` of that is a theorem, where `toList` of the literal is a computation on its UTF-8 bytes. -/
theorem strContains_lit {s sub : String} {l m : List Char} (hs : s = String.ofList l) (hm : sub = String.ofList m) :
    strContains s sub = isInfixL m l := by
  subst hs hm; simp [strContains]

/-- CPython's AttributeError text mentions "score", whatever the class is called -/
theorem hasScore_absent (cls : String) : hasScore (probeOf (.absent cls)) = false := by
  have : strContains ("'" ++ cls ++ "' object has no attribute 'score'") "score" = true := by
    have := strContains_mid ("'" ++ cls ++ "' object has no attribute '") "score" "'"
    simpa [String.append_assoc] using this
  simp [probeOf, hasScore, this]

theorem hasScore_base : hasScore (probeOf .base) = false := by
  have : strContains "The `score` interface has not been implemented for this learner." "score" = true :=
    strContains_split (a := "The `") (b := "` interface has not been implemented for this learner.") (by simp)
  simp [probeOf, hasScore, this]

/-! ### the constants of `possible_pmf` as the translator reads them -/

theorem pmfTotal_cast : ((Generated.C15.pmfTotal : Nat) : Rat) = 1 := by simp [Generated.C15.pmfTotal]

theorem absTol_cast : ((Generated.C15.absTolNum : Nat) : Rat) / ((Generated.C15.absTolDen : Nat) : Rat) = 1 / 1000 := by
  simp [Generated.C15.absTolNum, Generated.C15.absTolDen]

end Coba.C15
