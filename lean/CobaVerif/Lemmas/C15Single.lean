/-
C15: the unbatched call: `predict`'s core on one row's answer.
-/
import CobaVerif.Lemmas.C15Answer
import CobaVerif.Lemmas.C15Core

namespace Coba.C15
open PyVal

theorem format_roundtrip_single' (fx : Fixes) (sp : Spec) (pol : Policy) (st : State) (c : PyVal) (as : List PyVal)
    (hinv : Inv sp false st)
    (hfirst : st.layout = Option.none → firstRowOK fx sp (pol c as) as = true) :
    predictCore fx (scripted sp pol) st (.single c as) =
      (wantSingle sp st.rng (pol c as) as).map (fun x => (x.1, stAfter sp false st x.2)) := by
  rw [predictCore_parts fx (scripted sp pol) sp false st (.single c as) (renderSingle sp (pol c as) as) 1 .not hinv
    (fun s => by simp [stAfter]) (fun hl => ⟨rfl, ?_⟩) rfl]
  · show liftSt _ (parseNot _ sp.pfmt as (renderSingle sp (pol c as) as)) = _
    rw [parseNot_renderSingle _ _ _ _ rfl]
    cases wantSingle sp st.rng (pol c as) as <;> rfl
  · have h := hfirst hl
    exact detect_of fx (scripted sp pol) { st with method := some 1 } (.single c as) _ 1 .not sp.kw _ as _ hl (.inl ⟨c, rfl⟩) rfl
      (lastIsDict_renderSingle fx sp _ as h) (firstRow_not_renderSingle sp _ as) (predFormat_rowStd fx sp _ as h)

end Coba.C15
