/-
C15: Python values as the model has them: lists of them, `is` on the objects a learner builds, tuples and lists through
their items (a draw from a PMF among them), lookup in a dict, `zip(*rows)` of a table as the list of its columns, and the float
copies `SafeLearner.predict` makes of 0/1 actions.
-/
import CobaVerif.Model.C15
import Mathlib.Data.List.Forall2

namespace Coba.C15
open PyVal

/-! ### generic facts about lists -/

theorem mapE_map_ok {α β γ} (f : β → Except Err γ) (g : α → β) (h : α → γ) (xs : List α)
    (hx : ∀ x ∈ xs, f (g x) = .ok (h x)) : mapE f (xs.map g) = .ok (xs.map h) := by
  induction xs with
  | nil => simp [mapE, pure, Except.pure]
  | cons x xs ih =>
    have h1 := hx x (by simp)
    have h2 := ih (fun y hy => hx y (by simp [hy]))
    simp [mapE, h1, h2, bind, Except.bind, pure, Except.pure]

theorem mapE_ok {α β} (f : α → Except Err β) (h : α → β) (xs : List α)
    (hx : ∀ x ∈ xs, f x = .ok (h x)) : mapE f xs = .ok (xs.map h) := by
  have := mapE_map_ok f id h xs (by simpa using hx)
  simpa using this

theorem mapIdxFrom_mem {α β} (f : Nat → α → β) (i : Nat) (xs : List α) (y : β) (h : y ∈ mapIdxFrom f i xs) :
    ∃ k x, x ∈ xs ∧ y = f k x := by
  induction xs generalizing i with
  | nil => simp [mapIdxFrom] at h
  | cons x xs ih =>
    simp only [mapIdxFrom, List.mem_cons] at h
    rcases h with rfl | h
    · exact ⟨i, x, by simp, rfl⟩
    · obtain ⟨k, x', hx, hy⟩ := ih (i + 1) h
      exact ⟨k, x', by simp [hx], hy⟩

theorem mapIdxFrom_forall₂ {α β} (f : Nat → α → β) (P : β → α → Prop) (hf : ∀ k x, P (f k x) x) (i : Nat) (xs : List α) :
    List.Forall₂ P (mapIdxFrom f i xs) xs := by
  induction xs generalizing i with
  | nil => exact List.Forall₂.nil
  | cons x xs ih => exact List.Forall₂.cons (hf i x) (ih (i + 1))

theorem forall₂_getElem? {α β} {P : α → β → Prop} {xs : List α} {ys : List β} (h : List.Forall₂ P xs ys) (i : Nat) (x : α)
    (hx : xs[i]? = some x) : ∃ y, ys[i]? = some y ∧ P x y := by
  induction h generalizing i with
  | nil => simp at hx
  | cons hxy _ ih =>
    cases i with
    | zero => cases hx; exact ⟨_, rfl, hxy⟩
    | succ i => exact ih i hx

/-! ### identity -/

theorem pyIs_refl (a : PyVal) : pyIs a a = true := by cases a <;> simp [pyIs]

theorem any_pyIs_action (as : List PyVal) (k : Nat) (h : k < as.length) :
    as.any (fun x => pyIs (as.getD k .none) x) = true := by
  rw [List.any_eq_true]
  refine ⟨as.getD k .none, ?_, pyIs_refl _⟩
  simp [List.getD_eq_getElem?_getD, List.getElem?_eq_getElem h]

/-- an object made while answering / parsing (tuple or list) is none of the offered objects -/
def freshSeq : PyVal → Bool
  | .tuple (.lrn _) _ | .list (.lrn _) _ | .tuple .tmp _ | .list .tmp _ => true
  | _ => false

theorem pyIs_freshSeq (v a : PyVal) (hv : freshSeq v = true) (h : isLrn a = false) : pyIs v a = false := by
  cases v <;> simp [freshSeq] at hv
  all_goals cases a <;> simp [pyIs]
  all_goals (rename_i r _ r' _; cases r <;> cases r' <;> simp_all [isLrn])

theorem any_pyIs_freshSeq (v : PyVal) (as : List PyVal) (hv : freshSeq v = true) (h : ∀ a ∈ as, isLrn a = false) :
    as.any (fun a => pyIs v a) = false := by
  rw [List.any_eq_false]; intro a ha; simp [pyIs_freshSeq v a hv (h a ha)]

@[simp] theorem freshSeq_mkSeq (t : Bool) (xs : List PyVal) : freshSeq (mkSeq t xs) = true := by
  cases t <;> simp [mkSeq, freshSeq]

/-! ### sequences: tuples and lists alike, through `items` -/

theorem isDict_of_items {v : PyVal} {xs : List PyVal} (h : v.items = some xs) : v.isDict = false := by
  cases v <;> first | rfl | cases h

theorem hasLen_of_items {v : PyVal} {xs : List PyVal} (h : v.items = some xs) : v.hasLen = true := by
  cases v <;> first | rfl | cases h

theorem isStr_of_items {v : PyVal} {xs : List PyVal} (h : v.items = some xs) : v.isStr = false := by
  cases v <;> first | rfl | cases h

theorem len_of_items {v : PyVal} {xs : List PyVal} (h : v.items = some xs) : v.len = xs.length := by
  cases v <;> cases h <;> rfl

theorem lenE_of_items {v : PyVal} {xs : List PyVal} (h : v.items = some xs) : lenE v = .ok xs.length := by
  rw [lenE, hasLen_of_items h, len_of_items h]; rfl

theorem iter_of_items (v : PyVal) (l : List PyVal) (h : v.items = some l) : iter v = .ok l := by
  cases v <;> simp [PyVal.items] at h <;> subst h <;> rfl

theorem getIdx_of_items (v : PyVal) (c : List PyVal) (i : Nat) (h : v.items = some c) (hi : i < c.length) :
    getIdx v i = .ok (c.getD i .none) := by
  have hc : c[i]? = some (c.getD i .none) := by rw [List.getD_eq_getElem?_getD, List.getElem?_eq_getElem hi]; rfl
  cases v <;> cases h <;> simp only [getIdx, hc]

theorem getIdx_zero_of_items {v x : PyVal} {xs : List PyVal} (h : v.items = some (x :: xs)) : getIdx v 0 = .ok x :=
  getIdx_of_items v (x :: xs) 0 h (Nat.zero_lt_succ _)

theorem getLast_of_items {v l : PyVal} {xs : List PyVal} (h : v.items = some xs) (hl : xs.getLast? = some l) :
    getLast v = .ok l := by
  cases v <;> simp only [PyVal.items, Option.some.injEq, reduceCtorEq] at h <;> subst h <;> simp only [getLast, hl]

@[simp] theorem items_mkSeq (t : Bool) (xs : List PyVal) : (mkSeq t xs).items = some xs := by
  cases t <;> rfl

@[simp] theorem getIdx_mkSeq_zero (t : Bool) (x : PyVal) (xs : List PyVal) : getIdx (mkSeq t (x :: xs)) 0 = .ok x :=
  getIdx_zero_of_items (items_mkSeq t (x :: xs))

@[simp] theorem getLast_mkSeq (t : Bool) (xs : List PyVal) (x : PyVal) : getLast (mkSeq t (xs ++ [x])) = .ok x :=
  getLast_of_items (items_mkSeq t _) (by simp)

@[simp] theorem len_mkSeq (t : Bool) (xs : List PyVal) : (mkSeq t xs).len = xs.length := len_of_items (items_mkSeq t xs)

@[simp] theorem hasLen_mkSeq (t : Bool) (xs : List PyVal) : (mkSeq t xs).hasLen = true := hasLen_of_items (items_mkSeq t xs)

@[simp] theorem isDict_mkSeq (t : Bool) (xs : List PyVal) : (mkSeq t xs).isDict = false := isDict_of_items (items_mkSeq t xs)

@[simp] theorem isStr_mkSeq (t : Bool) (xs : List PyVal) : (mkSeq t xs).isStr = false := isStr_of_items (items_mkSeq t xs)

@[simp] theorem iter_mkSeq (t : Bool) (xs : List PyVal) : iter (mkSeq t xs) = .ok xs := iter_of_items _ _ (items_mkSeq t xs)

@[simp] theorem lenE_mkSeq (t : Bool) (xs : List PyVal) : lenE (mkSeq t xs) = .ok xs.length := lenE_of_items (items_mkSeq t xs)

/-- the slice `v[:-1]` of a learner-built sequence (a new object) -/
def seqTmp (t : Bool) (xs : List PyVal) : PyVal := if t then .tuple .tmp xs else .list .tmp xs

@[simp] theorem dropLast_mkSeq (t : Bool) (xs : List PyVal) (x : PyVal) :
    dropLast (mkSeq t (xs ++ [x])) = .ok (seqTmp t xs) := by
  cases t <;> simp [mkSeq, dropLast, seqTmp]

@[simp] theorem items_seqTmp (t : Bool) (xs : List PyVal) : (seqTmp t xs).items = some xs := by
  cases t <;> rfl

@[simp] theorem iter_seqTmp (t : Bool) (xs : List PyVal) : iter (seqTmp t xs) = .ok xs := iter_of_items _ _ (items_seqTmp t xs)

@[simp] theorem getIdx_seqTmp_zero (t : Bool) (x : PyVal) (xs : List PyVal) : getIdx (seqTmp t (x :: xs)) 0 = .ok x :=
  getIdx_zero_of_items (items_seqTmp t (x :: xs))

@[simp] theorem isDict_seqTmp (t : Bool) (xs : List PyVal) : (seqTmp t xs).isDict = false := isDict_of_items (items_seqTmp t xs)

@[simp] theorem isDict_dict (r : Ref) (ks : List String) (vs : List PyVal) : (PyVal.dict r ks vs).isDict = true := rfl

@[simp] theorem iter_list (r : Ref) (xs : List PyVal) : iter (PyVal.list r xs) = .ok xs := rfl

@[simp] theorem lenE_list (r : Ref) (xs : List PyVal) : lenE (PyVal.list r xs) = .ok xs.length := rfl

@[simp] theorem hasLen_list (r : Ref) (xs : List PyVal) : (PyVal.list r xs).hasLen = true := rfl

theorem items_noneList (n : Nat) : (noneList n).items = some (List.replicate n .none) := by simp [noneList, PyVal.items]

theorem allItems_lists (cols : List (List PyVal)) (r : Ref) : allItems (cols.map (fun c => PyVal.list r c)) = some cols := by
  induction cols with
  | nil => simp [allItems]
  | cons c cs ih => simp [allItems, ih, PyVal.items]

/-! ### a PMF is drawn from through its items -/

theorem choicew_items (s : Nat) (as : List PyVal) (v w : PyVal) (xs : List PyVal)
    (hv : v.items = some xs) (hw : w.items = some xs) : choicew s as v = choicew s as w := by
  have key : ∀ u : PyVal, u.items = some xs → choicew s as u = choicew s as (.tuple .tmp xs) := by
    intro u hu
    cases u <;> simp only [PyVal.items, Option.some.injEq, reduceCtorEq] at hu <;> subst hu <;> rfl
  rw [key v hv, key w hw]

theorem choicewRows_items {α} (f g : α → PyVal) (xs : α → List PyVal) (hf : ∀ r, (f r).items = some (xs r))
    (hg : ∀ r, (g r).items = some (xs r)) (R : List α) (s : Nat) (rows : List (List PyVal)) :
    choicewRows s rows (R.map f) = choicewRows s rows (R.map g) := by
  induction R generalizing s rows with
  | nil => cases rows <;> rfl
  | cons r R ih =>
    cases rows with
    | nil => rfl
    | cons as rows =>
      simp only [List.map_cons, choicewRows, choicew_items s as _ _ _ (hf r) (hg r), bind, Except.bind]
      cases choicew s as (g r) with
      | error e => rfl
      | ok t => simp only [ih]

/-! ### lookup in a dict -/

theorem lookupKey_isSome (k : String) (ks : List String) (vs : List PyVal) (hl : vs.length = ks.length) (hk : k ∈ ks) :
    ∃ v, lookupKey k ks vs = some v := by
  induction ks generalizing vs with
  | nil => simp at hk
  | cons k' ks ih =>
    cases vs with
    | nil => simp at hl
    | cons v vs =>
      by_cases h : k = k'
      · exact ⟨v, by simp [lookupKey, h]⟩
      · have hk' : k ∈ ks := by simpa [h] using hk
        obtain ⟨w, hw⟩ := ih vs (by simpa using hl) hk'
        exact ⟨w, by simp [lookupKey, h, hw]⟩

theorem lookupKey_map (k : String) (ks : List String) (f : String → PyVal) :
    lookupKey k ks (ks.map f) = if k ∈ ks then some (f k) else Option.none := by
  induction ks with
  | nil => simp [lookupKey]
  | cons k' ks ih =>
    by_cases h : k = k'
    · subst h; simp [lookupKey]
    · simp [lookupKey, h, ih]

theorem lookupKey_none (k : String) (ks : List String) (vs : List PyVal) (h : k ∉ ks) : lookupKey k ks vs = Option.none := by
  induction ks generalizing vs with
  | nil => cases vs <;> simp [lookupKey]
  | cons k' ks ih =>
    cases vs with
    | nil => simp [lookupKey]
    | cons v vs =>
      have h1 : k ≠ k' := fun e => h (by simp [e])
      have h2 : k ∉ ks := fun e => h (by simp [e])
      simp [lookupKey, h1, ih vs h2]

/-! ### `zip(*rows)`: a table by columns -/

theorem range_map_getD {α} (l : List α) (d : α) : (List.range l.length).map (fun j => l.getD j d) = l :=
  List.ext_getElem (by rw [List.length_map, List.length_range]) fun i _ h2 => by
    rw [List.getElem_map, List.getElem_range, List.getD_eq_getElem?_getD, List.getElem?_eq_getElem h2]; rfl

theorem heads_tails_map {α} (f : α → List PyVal) (R : List α) (h : ∀ r ∈ R, f r ≠ []) :
    heads (R.map f) = some (R.map (fun r => (f r).getD 0 .none)) ∧ tails (R.map f) = R.map (fun r => (f r).tail) := by
  induction R with
  | nil => exact ⟨rfl, rfl⟩
  | cons r R ih =>
    obtain ⟨i1, i2⟩ := ih (fun x hx => h x (List.mem_cons_of_mem _ hx))
    have hr := h r (List.mem_cons_self ..)
    simp only [List.map_cons]
    cases hf : f r with
    | nil => exact absurd hf hr
    | cons x t => exact ⟨by rw [heads, i1]; rfl, by rw [tails, i2]; rfl⟩

theorem zipStarAux_map {α} (r0 : α) (R' : List α) : ∀ (k : Nat) (f : α → List PyVal), (∀ r ∈ r0 :: R', (f r).length = k) →
    zipStarAux k ((r0 :: R').map f) = (List.range k).map (fun j => (r0 :: R').map (fun r => (f r).getD j .none)) := by
  intro k
  induction k with
  | zero => intro f _; rfl
  | succ k ih =>
    intro f hk
    obtain ⟨h1, h2⟩ := heads_tails_map f (r0 :: R') (fun r hr e => by have := hk r hr; rw [e] at this; cases this)
    -- one step of the recursion, stated: `split` would take the `match` on the heads before the one on the rows
    have e : zipStarAux (k + 1) ((r0 :: R').map f) =
        match heads ((r0 :: R').map f) with
        | some h => h :: zipStarAux k (tails ((r0 :: R').map f))
        | Option.none => [] := rfl
    have ht : ∀ (l : List PyVal) (j : Nat), l.tail.getD j .none = l.getD (j + 1) .none := fun l j => by cases l <;> rfl
    rw [e, h1, h2, ih (fun r => (f r).tail) (fun r hr => by rw [List.length_tail, hk r hr]; rfl), List.range_succ_eq_map]
    simp only [List.map_cons, List.map_map, Function.comp_def, ht]

theorem zipStar_map {α} (k : Nat) (f : α → List PyVal) (R : List α) (hne : R ≠ []) (hk : ∀ r ∈ R, (f r).length = k) :
    zipStar (R.map f) = (List.range k).map (fun j => R.map (fun r => (f r).getD j .none)) := by
  obtain ⟨r, R', rfl⟩ := List.exists_cons_of_ne_nil hne
  rw [← zipStarAux_map r R' k f hk, ← hk r (List.mem_cons_self ..)]; rfl

theorem zipStar_singles {α} (f : α → PyVal) (xs : List α) (hne : xs ≠ []) :
    zipStar (xs.map (fun x => [f x])) = [xs.map f] :=
  zipStar_map 1 _ xs hne (fun _ _ => rfl)

theorem zipStar_pairs {α} (f g : α → PyVal) (xs : List α) (hne : xs ≠ []) :
    zipStar (xs.map (fun x => [f x, g x])) = [xs.map f, xs.map g] :=
  zipStar_map 2 _ xs hne (fun _ _ => rfl)

theorem zipStar_zipStar {α} (k : Nat) (hk0 : 0 < k) (f : α → List PyVal) (R : List α) (hne : R ≠ [])
    (hk : ∀ r ∈ R, (f r).length = k) : zipStar (zipStar (R.map f)) = R.map f := by
  rw [zipStar_map k f R hne hk,
    zipStar_map R.length _ (List.range k) (fun e => Nat.ne_of_gt hk0 (List.range_eq_nil.mp e)) (fun j _ => List.length_map ..)]
  refine List.ext_getElem (by rw [List.length_map, List.length_range, List.length_map]) fun i _ h2 => ?_
  have hi : i < R.length := by rwa [List.length_map] at h2
  simp only [List.getElem_map, List.getElem_range, List.getD_eq_getElem?_getD, List.getElem?_map, List.getElem?_eq_getElem hi,
    Option.map_some, Option.getD_some]
  rw [← hk R[i] (List.getElem_mem hi)]
  exact range_map_getD _ _

theorem firstOfEach_map {α} (g h : α → PyVal) (xs : List α) (hx : ∀ x ∈ xs, getIdx (g x) 0 = .ok (h x)) :
    firstOfEach (xs.map g) = .ok (xs.map h) := by
  induction xs with
  | nil => rfl
  | cons x xs ih =>
    simp only [List.map_cons, firstOfEach, hx x (List.mem_cons_self ..), ih (fun y hy => hx y (List.mem_cons_of_mem _ hy)), bind,
      Except.bind, pure, Except.pure]

/-! ### the float copies -/

theorem makeSafe_spec (k : Nat) (a : PyVal) :
    (makeSafe k a = a ∧ a ≠ .int 0 ∧ a ≠ .int 1 ∧ ∀ b, a ≠ .bool b) ∨
    (∃ q, makeSafe k a = .flt (.safe k) q ∧ a.num = some q ∧ pyEq (makeSafe k a) a = true) := by
  cases a with
  | bool b => right; cases b <;> exact ⟨_, rfl, rfl, by simp [makeSafe, pyEq, PyVal.num]⟩
  | int i =>
    by_cases h : i = 0 ∨ i = 1
    · right
      refine ⟨(i : Rat), by simp [makeSafe, h], rfl, ?_⟩
      simp [makeSafe, h, pyEq, PyVal.num]
    · left
      have h0 : i ≠ 0 := fun e => h (Or.inl e)
      have h1 : i ≠ 1 := fun e => h (Or.inr e)
      refine ⟨by simp [makeSafe, h], ?_, ?_, ?_⟩ <;> simp [h0, h1]
  | none | flt _ _ | str _ _ | tuple _ _ | list _ _ | dict _ _ _ => left; simp [makeSafe]

theorem safeRow_no01 (r : Nat) (as : List PyVal) :
    ∀ a ∈ safeRow r as, a ≠ .int 0 ∧ a ≠ .int 1 ∧ ∀ b, a ≠ .bool b := by
  intro a ha
  unfold safeRow at ha
  split at ha
  · obtain ⟨k, x, _, rfl⟩ := mapIdxFrom_mem _ _ _ _ ha
    rcases makeSafe_spec (r * 4096 + k) x with ⟨h1, h2⟩ | ⟨q, h1, _⟩
    · rw [h1]; exact h2
    · rw [h1]; simp
  · rename_i hno
    have hno' : as.any isZeroOne = false := by simpa using hno
    have hz : isZeroOne a = false := by
      have := List.any_eq_false.mp hno' a ha
      simpa using this
    refine ⟨?_, ?_, ?_⟩
    · rintro rfl; simp [isZeroOne, PyVal.num] at hz
    · rintro rfl; simp [isZeroOne, PyVal.num] at hz
    · rintro b rfl; cases b <;> simp [isZeroOne, PyVal.num] at hz

theorem safeRow_values (r : Nat) (as : List PyVal) :
    List.Forall₂ (fun s a => s = a ∨ pyEq s a = true) (safeRow r as) as := by
  unfold safeRow
  split
  · apply mapIdxFrom_forall₂
    intro k x
    rcases makeSafe_spec (r * 4096 + k) x with ⟨h1, _⟩ | ⟨q, _, _, h3⟩
    · exact Or.inl h1
    · exact Or.inr h3
  · exact List.forall₂_same.mpr (fun a _ => Or.inl rfl)

end Coba.C15
