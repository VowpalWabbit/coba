/-
C15: the learners, contexts, offered actions and observations that the concrete witnesses of Props (the `_counterexample`s and
the `example`s) are stated with.  Definitions only.
-/
import CobaVerif.Model.C15
import Mathlib.Data.List.Monad  -- `ctxs` turns `List.range n` into a `List Int` through the list monad

namespace Coba.C15
open PyVal

def errOf {α} : Except Err α → Option Err | .error e => some e | .ok _ => Option.none

/-- (number of actions, number of probabilities) a batched result holds -/
def lensOf (x : Except Err (Result × State)) : Option (Nat × Nat) :=
  match x with
  | .ok (r, _) => (match r.view with | some v => some (v.A.length, v.P.length) | Option.none => Option.none)
  | .error _ => Option.none

/-- numeric values of the returned actions and probabilities -/
def numsOf (x : Except Err (Result × State)) : Option (List (Option Rat) × List (Option Rat)) :=
  match x with
  | .ok (r, _) => (match r.view with | some v => some (v.A.map PyVal.num, v.P.map PyVal.num) | Option.none => Option.none)
  | .error _ => Option.none

def exStr (n : Nat) (s : String) : PyVal := .str (.ext n) s

def exD2 (j : Int) (n : Nat) : PyVal := .dict (.ext n) ["x", "y"] [.int j, .int 7]

def exSparse (k : String) (n : Nat) : PyVal := .dict (.ext n) [k] [.int 1]

/-- the learner of the witnesses: row i (context i) names action `pick i` / gives the one-hot PMF at `hot i` -/
def exPol (pick hot : Nat → Nat) (K : Nat) : Policy := fun c _ =>
  match c with
  | .int i => ⟨pick i.toNat, .flt (.lrn 1) (1/4), (List.range K).map (fun j => PyVal.int (if j = hot i.toNat then 1 else 0)), ["k"], [.int (5 + i)]⟩
  | _ => ⟨0, .none, [], [], []⟩

def ctxs (n : Nat) : List PyVal := (List.range n).map (fun i => PyVal.int i)

def mixActs : List PyVal := [exStr 1 "aa", exStr 2 "bb"]

/-- the caller's list object 1 holds [0,1,2], is refilled in place with [3,4] and passed again -/
def inplaceCalls : List OCall :=
  [⟨1, .single (.int 7) [.int 0, .int 1, .int 2]⟩, ⟨1, .single (.int 8) [.int 3, .int 4]⟩]

def offeredLists : List Arg → List (List PyVal)
  | [] => []
  | .single _ as :: r => as :: offeredLists r
  | .batch _ rows :: r => rows.flatten :: offeredLists r

end Coba.C15
