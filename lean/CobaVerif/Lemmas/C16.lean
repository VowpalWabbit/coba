/-
C16, the exact model: the pmfs of the plain learners (`epsPmfVals`, the two branches of `Ucb.pmf`, `uniformOn`) are
distributions; `predict` draws an offered position with its weight; the invariants `Kind.Inv`, `Ucb.Inv`, `Corral.Inv` are kept
by `learn`; Corral's mixture pmf, its log-barrier update (`omdDenoms` as a map over the zipped weights, rates and losses, the
loop invariant and termination of `bisect`), and the laws `Base.Laws` that carry all of this through nested compositions.
What the update and the η/ρ schedule need of the arithmetic is only that rounding keeps positive numbers positive: those facts
(`omdRawF_pos`, `etaRhoF_spec`) are about the float definitions for any such `fl`, and the exact ones are `fl` = identity.
-/
import CobaVerif.Model.C16
import CobaVerif.Lemmas.C05
import Mathlib.Tactic.Linarith
import Mathlib.Tactic.Positivity
import Mathlib.Tactic.FieldSimp
import Mathlib.Tactic.Ring
import Mathlib.Tactic.NormNum
import Mathlib.Algebra.Order.Field.Rat
import Mathlib.Data.List.Nodup
import Mathlib.Algebra.BigOperators.Group.List.Basic

namespace Coba.C16
open Coba.C05 (choicew next)

/-- a probability vector over `n` offered actions -/
def Valid (pmf : List Rat) (n : Nat) : Prop :=
  pmf.length = n ∧ (∀ p ∈ pmf, 0 ≤ p) ∧ pmf.sum = 1

/-- a weight vector `choicew` can draw from: right length, entries in [0,1], total ≥ 1 -/
def Drawable (pmf : List Rat) (n : Nat) : Prop :=
  pmf.length = n ∧ (∀ p ∈ pmf, 0 ≤ p ∧ p ≤ 1) ∧ 1 ≤ pmf.sum

theorem Valid.length_eq {pmf : List Rat} {n : Nat} (h : Valid pmf n) : pmf.length = n := h.1

theorem Valid.nonneg {pmf : List Rat} {n : Nat} (h : Valid pmf n) : ∀ p ∈ pmf, 0 ≤ p := h.2.1

theorem Valid.sum_eq {pmf : List Rat} {n : Nat} (h : Valid pmf n) : pmf.sum = 1 := h.2.2

theorem Valid.drawable {pmf : List Rat} {n : Nat} (h : Valid pmf n) : Drawable pmf n :=
  ⟨h.length_eq, fun p hp => ⟨h.nonneg p hp, h.sum_eq ▸ List.single_le_sum h.nonneg p hp⟩, h.sum_eq.ge⟩

theorem choicew_drawable (s n : Nat) (pmf : List Rat) (hd : Drawable pmf n) :
    ∃ i w, choicew s n (some pmf) = .ok (next s, i, w) ∧ i < n ∧ pmf[i]? = some w ∧ 0 < w := by
  obtain ⟨i, w, hc, hw, hwpos⟩ :=
    Coba.C05.choicew_weight' s n pmf hd.1 (fun p hp => (hd.2.1 p hp).1) (by rw [Coba.C05.sum_eq]; exact zero_lt_one.trans_le hd.2.2)
  exact ⟨i, w, hc, hd.1 ▸ (List.getElem?_eq_some_iff.mp hw).1, hw, hwpos⟩

theorem replicate_valid (n : Nat) (hn : n ≠ 0) : Valid (List.replicate n (1 / (n : Rat))) n := by
  have hq : (n : Rat) ≠ 0 := by exact_mod_cast hn
  refine ⟨by simp, ?_, ?_⟩
  · intro p hp
    rw [List.mem_replicate] at hp
    rw [hp.2]; positivity
  · rw [List.sum_replicate, nsmul_eq_mul]; field_simp

/-! ### lists: sums, three lists zipped -/

theorem ne_nil_of_length_eq {α β} {l : List α} {m : List β} (h : l.length = m.length) (hm : m ≠ []) : l ≠ [] :=
  fun hl => hm (List.length_eq_zero_iff.mp (by rw [← h, hl]; rfl))

theorem zip3_map_fst {α β γ} (as : List α) (bs : List β) (cs : List γ) (h1 : bs.length = as.length) (h2 : cs.length = as.length) :
    (as.zip (bs.zip cs)).map (fun t => t.1) = as :=
  List.map_fst_zip (by simp [h1, h2])

theorem mem_zip3 {α β γ} {as : List α} {bs : List β} {cs : List γ} {a : α} {b : β} {c : γ} (h : (a, b, c) ∈ as.zip (bs.zip cs)) :
    a ∈ as ∧ b ∈ bs ∧ c ∈ cs :=
  ⟨(List.of_mem_zip h).1, (List.of_mem_zip (List.of_mem_zip h).2).1, (List.of_mem_zip (List.of_mem_zip h).2).2⟩

theorem eq_map_zip3 {α β γ δ} (f : α → β → γ → δ) (g : List α → List β → List γ → List δ)
    (hc : ∀ a as b bs c cs, g (a :: as) (b :: bs) (c :: cs) = f a b c :: g as bs cs)
    (h1 : ∀ bs cs, g [] bs cs = []) (h2 : ∀ a as cs, g (a :: as) [] cs = []) (h3 : ∀ a as b bs, g (a :: as) (b :: bs) [] = [])
    (as : List α) (bs : List β) (cs : List γ) : g as bs cs = (as.zip (bs.zip cs)).map (fun t => f t.1 t.2.1 t.2.2) := by
  induction as generalizing bs cs with
  | nil => rw [h1]; rfl
  | cons a as ih =>
    rcases bs with _ | ⟨b, bs⟩
    · rw [h2]; rfl
    rcases cs with _ | ⟨c, cs⟩
    · rw [h3]; rfl
    · rw [hc, ih]; rfl

theorem sum_map_affine_ite {α} (l : List α) (P : α → Prop) [DecidablePred P] (a b c : Rat) :
    (l.map (fun x => a + (if P x then b else 0) * c)).sum = (l.length : Rat) * a + ((l.filter (fun x => decide (P x))).length : Rat) * (b * c) := by
  induction l with
  | nil => simp
  | cons x xs ih =>
    simp only [List.map_cons, List.sum_cons, ih, List.length_cons, List.filter_cons]
    by_cases h : P x
    · simp [h]; ring
    · simp [h]; ring

theorem sum_map_ite {α} (l : List α) (P : α → Prop) [DecidablePred P] (b : Rat) :
    (l.map (fun x => if P x then b else 0)).sum = ((l.filter (fun x => decide (P x))).length : Rat) * b := by
  have := sum_map_affine_ite l P 0 b 1
  simpa using this

theorem sum_map_div (xs : List Rat) (s : Rat) : (xs.map (fun x => x / s)).sum = xs.sum / s := by
  induction xs with
  | nil => simp
  | cons x xs ih => simp [ih, add_div]

theorem sum_map_affine (xs : List Rat) (a b : Rat) :
    (xs.map (fun x => a * x + b)).sum = a * xs.sum + (xs.length : Rat) * b := by
  induction xs with
  | nil => simp
  | cons x xs ih => simp [ih]; ring

theorem sum_nonneg_of_nonneg (xs : List Rat) (h : ∀ x ∈ xs, 0 ≤ x) : 0 ≤ xs.sum := List.sum_nonneg h

/-! ### max / min -/

theorem maxOf_mem_cons (m : Rat) (xs : List Rat) : maxOf m xs ∈ m :: xs := by
  induction xs generalizing m with
  | nil => exact List.mem_cons_self
  | cons x xs ih =>
    rw [maxOf]
    rcases List.mem_cons.mp (ih (if m < x then x else m)) with h | h
    · rw [h]; split <;> simp
    · exact List.mem_cons_of_mem _ (List.mem_cons_of_mem _ h)

theorem le_maxOf (m : Rat) (xs : List Rat) : ∀ x ∈ m :: xs, x ≤ maxOf m xs := by
  induction xs generalizing m with
  | nil => intro x hx; rw [List.mem_singleton.mp hx]; exact le_rfl
  | cons y ys ih =>
    have hm := ih (if m < y then y else m)
    have h0 := hm _ List.mem_cons_self
    intro x hx
    rw [maxOf]
    rcases List.mem_cons.mp hx with rfl | hx
    · exact le_trans (by split <;> [exact le_of_lt ‹_›; exact le_rfl]) h0
    rcases List.mem_cons.mp hx with rfl | hx
    · exact le_trans (by split <;> [exact le_rfl; exact not_lt.mp ‹_›]) h0
    · exact hm x (List.mem_cons_of_mem _ hx)

theorem minOf_eq_neg_maxOf (m : Rat) (xs : List Rat) : minOf m xs = -maxOf (-m) (xs.map Neg.neg) := by
  induction xs generalizing m with
  | nil => simp [minOf, maxOf]
  | cons x xs ih => simp only [minOf, List.map_cons, maxOf, ih, neg_lt_neg_iff, apply_ite (Neg.neg : Rat → Rat)]

theorem minOf_le (m : Rat) (xs : List Rat) : ∀ x ∈ m :: xs, minOf m xs ≤ x := by
  intro x hx
  rw [minOf_eq_neg_maxOf, neg_le]
  exact le_maxOf (-m) _ (-x) (List.mem_map_of_mem (f := Neg.neg) hx)

theorem minOf_le_maxOf (m : Rat) (xs : List Rat) : minOf m xs ≤ maxOf m xs :=
  le_trans (minOf_le m xs m List.mem_cons_self) (le_maxOf m xs m List.mem_cons_self)

theorem exists_eq_maxOf {α} (f : α → Rat) (a0 : α) (rest : List α) : ∃ b ∈ a0 :: rest, f b = maxOf (f a0) (rest.map f) :=
  List.mem_map.mp (maxOf_mem_cons (f a0) (rest.map f) : _ ∈ (a0 :: rest).map f)

theorem argmax_filter_ne_nil {α} (f : α → Rat) (a0 : α) (rest : List α) :
    (a0 :: rest).filter (fun a => decide (f a = maxOf (f a0) (rest.map f))) ≠ [] := by
  obtain ⟨b, hb, hbv⟩ := exists_eq_maxOf f a0 rest
  exact List.ne_nil_of_mem (List.mem_filter.mpr ⟨hb, decide_eq_true hbv⟩)

/-! ### BanditEpsilon -/

theorem epsPmfVals_cons (eps v : Rat) (vs : List Rat) :
    epsPmfVals eps (v :: vs) = (v :: vs).map (fun q => 1 / ((v :: vs).length : Rat) * eps +
      (if q = maxOf v vs then 1 / (((v :: vs).filter (fun q => decide (q = maxOf v vs))).length : Rat) else 0) * (1 - eps)) :=
  rfl

theorem epsPmfVals_valid (eps : Rat) (vals : List Rat) (h0 : 0 ≤ eps) (h1 : eps ≤ 1) (hne : vals ≠ []) :
    Valid (epsPmfVals eps vals) vals.length := by
  cases vals with
  | nil => exact absurd rfl hne
  | cons v vs =>
    -- the maximum is one of the values, so the greedy set is not empty
    have hk : (0 : Rat) < (((v :: vs).filter (fun q => decide (q = maxOf v vs))).length : Rat) :=
      Nat.cast_pos.mpr (List.length_pos_of_mem (List.mem_filter.mpr ⟨maxOf_mem_cons v vs, decide_eq_true rfl⟩))
    have hn : (0 : Rat) < ((v :: vs).length : Rat) := Nat.cast_pos.mpr (Nat.succ_pos _)
    rw [epsPmfVals_cons]
    refine ⟨List.length_map _, ?_, ?_⟩
    · intro p hp
      obtain ⟨x, _, rfl⟩ := List.mem_map.mp hp
      have : (0 : Rat) ≤ if x = maxOf v vs then 1 / (((v :: vs).filter (fun q => decide (q = maxOf v vs))).length : Rat) else 0 := by
        split
        exacts [(one_div_pos.mpr hk).le, le_rfl]
      exact add_nonneg (mul_nonneg (one_div_pos.mpr hn).le h0) (mul_nonneg this (sub_nonneg.mpr h1))
    · rw [sum_map_affine_ite (v :: vs) (fun q => q = maxOf v vs), ← mul_assoc, mul_one_div_cancel hn.ne', ← mul_assoc,
        mul_one_div_cancel hk.ne']
      ring

theorem Eps.pmf_valid (st : Eps) (actions : List Act) (h0 : 0 ≤ st.eps) (h1 : st.eps ≤ 1) (hne : actions ≠ []) :
    Valid (st.pmf actions) actions.length := by
  have := epsPmfVals_valid st.eps (actions.map st.q) h0 h1 (by simpa using hne)
  simpa [Eps.pmf] using this

/-! ### dict, `distinct` -/

theorem dget_dset_same {β} (d : List (Act × β)) (a : Act) (v : β) : dget (dset d a v) a = some v := by
  induction d with
  | nil => simp [dset, dget]
  | cons kv r ih =>
    obtain ⟨k, w⟩ := kv
    by_cases h : k = a
    · simp [dset, dget, h]
    · simp [dset, dget, h, ih]

theorem dget_dset_other {β} (d : List (Act × β)) (a b : Act) (v : β) (hb : b ≠ a) : dget (dset d a v) b = dget d b := by
  induction d with
  | nil => simp [dset, dget, Ne.symm hb]
  | cons kv r ih =>
    obtain ⟨k, w⟩ := kv
    by_cases h : k = a
    · subst h; simp [dset, dget, Ne.symm hb]
    · by_cases h2 : k = b
      · subst h2; simp [dset, dget, hb]
      · simp [dset, dget, h, h2, ih]

theorem distinct_of_nodup (l : List Act) (h : l.Nodup) : distinct l = l := by
  induction l with
  | nil => rfl
  | cons a l ih =>
    have ⟨h1, h2⟩ := List.nodup_cons.mp h
    simp [distinct, h1, ih h2]

theorem distinct_length_le (l : List Act) : (distinct l).length ≤ l.length := by
  induction l with
  | nil => simp [distinct]
  | cons a l ih =>
    by_cases h : a ∈ l
    · simp only [distinct, h, if_true, List.length_cons]; omega
    · simp only [distinct, h, if_false, List.length_cons]; omega

theorem distinct_ne_nil (l : List Act) (h : l ≠ []) : distinct l ≠ [] := by
  induction l with
  | nil => exact absurd rfl h
  | cons a l ih =>
    by_cases hm : a ∈ l
    · simp only [distinct, hm, if_true]
      exact ih (List.ne_nil_of_mem hm)
    · simp [distinct, hm]

/-! ### BanditUCB -/

theorem uniformOn_mem {S : List Act} {k : Nat} {actions : List Act} {p : Rat} (hp : p ∈ uniformOn S k actions) :
    p = 1 / (k : Rat) ∨ p = 0 := by
  obtain ⟨a, _, rfl⟩ := List.mem_map.mp hp
  split
  exacts [Or.inl rfl, Or.inr rfl]

theorem uniformOn_filter_sum (actions : List Act) (P : Act → Bool) (k : Nat) :
    (uniformOn (actions.filter P) k actions).sum = ((actions.filter P).length : Rat) * (1 / (k : Rat)) := by
  have hcongr : uniformOn (actions.filter P) k actions = actions.map (fun a => if P a = true then 1 / (k : Rat) else 0) :=
    List.map_congr_left (fun a ha => by simp [List.mem_filter, ha])
  have hfilter : actions.filter (fun x => decide (P x = true)) = actions.filter P := by
    congr 1; funext x; simp
  rw [hcongr, sum_map_ite actions (fun a => P a = true), hfilter]

theorem uniformOn_filter_valid (actions : List Act) (P : Act → Bool) (hS : actions.filter P ≠ []) :
    Valid (uniformOn (actions.filter P) (actions.filter P).length actions) actions.length := by
  have hk : (0 : Rat) < ((actions.filter P).length : Rat) := Nat.cast_pos.mpr (List.length_pos_iff.mpr hS)
  refine ⟨List.length_map _, fun p hp => ?_, ?_⟩
  · rcases uniformOn_mem hp with rfl | rfl
    exacts [(one_div_pos.mpr hk).le, le_rfl]
  · rw [uniformOn_filter_sum, mul_one_div_cancel hk.ne']

theorem uniformOn_filter_drawable (actions : List Act) (P : Act → Bool) (k : Nat) (hk1 : 1 ≤ k) (hk : k ≤ (actions.filter P).length) :
    Drawable (uniformOn (actions.filter P) k actions) actions.length := by
  have hq1 : (1 : Rat) ≤ (k : Rat) := Nat.one_le_cast.mpr hk1
  have hq0 := zero_lt_one.trans_le hq1
  refine ⟨List.length_map _, fun p hp => ?_, ?_⟩
  · rcases uniformOn_mem hp with rfl | rfl
    exacts [⟨(one_div_pos.mpr hq0).le, (div_le_one hq0).mpr hq1⟩, ⟨le_rfl, zero_le_one⟩]
  · rw [uniformOn_filter_sum, mul_one_div, le_div_iff₀ hq0, one_mul]
    exact Nat.cast_le.mpr hk

/-- what the dictionaries of a BanditUCBLearner satisfy after any history -/
def Ucb.Inv (st : Ucb) : Prop :=
  (∀ a, dhas st.m a = true → ∃ n, dget st.s a = some n ∧ n ≠ 0) ∧ ((∃ a, dhas st.m a = true) → st.t ≠ 0)

theorem Ucb.Inv.count_pos {st : Ucb} (h : st.Inv) (a : Act) (ha : dhas st.m a = true) : ∃ n, dget st.s a = some n ∧ n ≠ 0 := h.1 a ha

theorem Ucb.Inv.t_ne_zero {st : Ucb} (h : st.Inv) (ha : ∃ a, dhas st.m a = true) : st.t ≠ 0 := h.2 ha

theorem Ucb.inv_init : Ucb.Inv {} := by
  constructor
  · intro a h; simp [dhas, dget] at h
  · rintro ⟨a, h⟩; simp [dhas, dget] at h

theorem Ucb.pmf_of_never (val : Act → Rat) (st : Ucb) (actions : List Act)
    (h : actions.filter (fun a => !dhas st.m a) ≠ []) :
    st.pmf val actions = .ok (uniformOn (actions.filter (fun a => !dhas st.m a))
      (distinct (actions.filter (fun a => !dhas st.m a))).length actions) := by
  unfold Ucb.pmf
  exact if_pos h

/-- the invariant is what makes the lookups of the index succeed -/
theorem Ucb.pmf_of_observed (val : Act → Rat) (st : Ucb) (a0 : Act) (rest : List Act) (hinv : st.Inv)
    (hall : ∀ a ∈ a0 :: rest, dhas st.m a = true) :
    st.pmf val (a0 :: rest) = .ok (uniformOn ((a0 :: rest).filter (fun a => decide (val a = maxOf (val a0) (rest.map val))))
      ((a0 :: rest).filter (fun a => decide (val a = maxOf (val a0) (rest.map val)))).length (a0 :: rest)) := by
  have hnever : ¬ (a0 :: rest).filter (fun a => !dhas st.m a) ≠ [] := by
    rw [not_not, List.filter_eq_nil_iff]
    intro a ha
    simp [hall a ha]
  have h1 : (a0 :: rest).all (fun a => dhas st.s a) = true := by
    rw [List.all_eq_true]
    intro a ha
    obtain ⟨n, hn, _⟩ := hinv.count_pos a (hall a ha)
    simp [dhas, hn]
  have h2 : st.t ≠ 0 := hinv.t_ne_zero ⟨a0, hall a0 List.mem_cons_self⟩
  have h3 : (a0 :: rest).all (fun a => st.sPos a) = true := by
    rw [List.all_eq_true]
    intro a ha
    obtain ⟨n, hn, hn0⟩ := hinv.count_pos a (hall a ha)
    simp [Ucb.sPos, hn, hn0]
  unfold Ucb.pmf
  simp only [if_neg hnever, h1, h2, h3, Bool.not_true, Bool.false_eq_true, if_false]

theorem Ucb.observed_of_filter_nil (st : Ucb) (actions : List Act) (h : actions.filter (fun a => !dhas st.m a) = []) :
    ∀ a ∈ actions, dhas st.m a = true := by
  simpa [List.filter_eq_nil_iff] using h

theorem Ucb.pmf_drawable (val : Act → Rat) (st : Ucb) (actions : List Act) (hinv : st.Inv) (hne : actions ≠ []) :
    ∃ pmf, st.pmf val actions = .ok pmf ∧ Drawable pmf actions.length ∧
      (actions.Nodup ∨ (∀ a ∈ actions, dhas st.m a = true) → Valid pmf actions.length) := by
  by_cases hnever : actions.filter (fun a => !dhas st.m a) = []
  -- the arg-max set is counted with multiplicity, so equal members do no harm
  · obtain ⟨a0, rest, rfl⟩ := List.exists_cons_of_ne_nil hne
    have hv := uniformOn_filter_valid (a0 :: rest) _ (argmax_filter_ne_nil val a0 rest)
    exact ⟨_, Ucb.pmf_of_observed val st a0 rest hinv (Ucb.observed_of_filter_nil st _ hnever), hv.drawable, fun _ => hv⟩
  -- the never-observed actions are counted as a set: `1 ≤ k ≤` their number in the list, with equality when no member is repeated
  · refine ⟨_, Ucb.pmf_of_never val st actions hnever,
      uniformOn_filter_drawable actions _ _ (List.length_pos_iff.mpr (distinct_ne_nil _ hnever)) (distinct_length_le _), ?_⟩
    rintro (hnd | hall)
    · rw [distinct_of_nodup _ (hnd.filter _)]
      exact uniformOn_filter_valid actions _ hnever
    · exact absurd (List.filter_eq_nil_iff.mpr (fun a ha => by simp [hall a ha])) hnever

theorem Ucb.pmf_valid (val : Act → Rat) (st : Ucb) (actions : List Act) (hinv : st.Inv)
    (hne : actions ≠ []) (hnd : actions.Nodup) :
    ∃ pmf, st.pmf val actions = .ok pmf ∧ Valid pmf actions.length :=
  (Ucb.pmf_drawable val st actions hinv hne).imp (fun _ h => ⟨h.1, h.2.2 (Or.inl hnd)⟩)

theorem Ucb.Inv.set {st : Ucb} (hinv : st.Inv) (a : Act) (v : Rat) (n : Nat) (hn : n ≠ 0) :
    Ucb.Inv { t := st.t + 1, m := dset st.m a v, s := dset st.s a n } := by
  refine ⟨fun b hb => ?_, fun _ => Nat.succ_ne_zero _⟩
  by_cases hba : b = a
  · subst hba; exact ⟨n, dget_dset_same _ _ _, hn⟩
  · simp only [dhas, dget_dset_other _ _ _ _ hba] at hb ⊢
    exact hinv.count_pos b hb

theorem Ucb.learn_total (fl : Rat → Rat) (st : Ucb) (a : Act) (r : Rat) (hinv : st.Inv) :
    ∃ st', st.learn fl a r = .ok st' ∧ st'.Inv := by
  unfold Ucb.learn
  cases hm : dget st.m a with
  | none => exact ⟨_, rfl, hinv.set a r 1 one_ne_zero⟩
  | some mv =>
    obtain ⟨n, hn, hn0⟩ := hinv.count_pos a (by simp [dhas, hm])
    simp only [hn, hn0, if_false]
    exact ⟨_, rfl, hinv.set a _ (n + 1) (Nat.succ_ne_zero n)⟩

/-! ### `OnlineVariance` (Welford) -/

theorem Welford.update_inv (w : Welford) (v : Rat) (hc : 0 ≤ w.count) (hm : 0 ≤ w.m2)
    (hv : ∀ x, w.var = some x → 0 ≤ x) :
    0 ≤ (w.update (fun x => x) v).count ∧ 0 ≤ (w.update (fun x => x) v).m2 ∧
      ∀ x, (w.update (fun x => x) v).var = some x → 0 ≤ x := by
  have hc1 : 0 < w.count + 1 := add_pos_of_nonneg_of_pos hc one_pos
  -- the increment of `M2` is `δ²(1 - 1/(n+1))`
  have hinc : 0 ≤ (v - w.mean) * (v - (w.mean + (v - w.mean) / (w.count + 1))) := by
    have : v - (w.mean + (v - w.mean) / (w.count + 1)) = (v - w.mean) * (1 - 1 / (w.count + 1)) := by ring
    rw [this, ← mul_assoc]
    exact mul_nonneg (mul_self_nonneg _) (sub_nonneg.mpr ((div_le_one hc1).mpr (le_add_of_nonneg_left hc)))
  have hm2 : 0 ≤ w.m2 + (v - w.mean) * (v - (w.mean + (v - w.mean) / (w.count + 1))) := add_nonneg hm hinc
  refine ⟨hc1.le, hm2, ?_⟩
  intro x hx
  simp only [Welford.update] at hx
  split at hx
  · rename_i h1
    rw [← Option.some.inj hx]
    exact div_nonneg hm2 (by linarith only [h1])
  · exact hv x hx

theorem Welford.run_inv (vs : List Rat) : ∀ w : Welford, 0 ≤ w.count → 0 ≤ w.m2 → (∀ x, w.var = some x → 0 ≤ x) →
    0 ≤ (vs.foldl (Welford.update (fun x => x)) w).m2 ∧ ∀ x, (vs.foldl (Welford.update (fun x => x)) w).var = some x → 0 ≤ x := by
  induction vs with
  | nil => intro w _ hm hv; exact ⟨hm, hv⟩
  | cons v vs ih =>
    intro w hc hm hv
    obtain ⟨h1, h2, h3⟩ := Welford.update_inv w v hc hm hv
    exact ih _ h1 h2 h3

/-! ### the learner interface -/

/-- what the state of each kind of learner satisfies after any history: the hypothesis under which its pmf is a distribution, kept by `learn` -/
def Kind.Inv : Kind → Prop
  | .eps st => 0 ≤ st.eps ∧ st.eps ≤ 1
  | .ucb st => st.Inv
  | .fixed p => (∀ x ∈ p, 0 ≤ x) ∧ p.sum = 1
  | .random => True

/-- a FixedLearner is only ever offered as many actions as its pmf has entries -/
def Kind.arity : Kind → Option Nat
  | .fixed p => some p.length
  | _ => none

def Fits (ar : Option Nat) (n : Nat) : Prop := ∀ m, ar = some m → m = n

/-- a kind whose pmf counts the offered list by POSITIONS, so that equal members do no harm: everything but UCB, whose never-observed
branch divides by `len(set(...))` -/
def Kind.positional : Kind → Bool
  | .ucb _ => false
  | _ => true

theorem Kind.pmf_valid_positional (val : Act → Rat) (k : Kind) (actions : List Act) (hinv : k.Inv)
    (hne : actions ≠ []) (hpos : k.positional = true) (hfit : Fits k.arity actions.length) :
    ∃ pmf, k.pmf val actions = .ok pmf ∧ Valid pmf actions.length := by
  cases k with
  | eps st => exact ⟨_, rfl, Eps.pmf_valid st actions hinv.1 hinv.2 hne⟩
  | ucb st => cases hpos
  | fixed p => exact ⟨p, rfl, hfit p.length rfl, hinv.1, hinv.2⟩
  | random => exact ⟨_, rfl, replicate_valid _ (fun h => hne (List.length_eq_zero_iff.mp h))⟩

theorem Kind.pmf_drawable (val : Act → Rat) (k : Kind) (actions : List Act) (hinv : k.Inv)
    (hne : actions ≠ []) (hfit : Fits k.arity actions.length) :
    ∃ pmf, k.pmf val actions = .ok pmf ∧ Drawable pmf actions.length ∧
      (actions.Nodup ∨ k.positional = true → Valid pmf actions.length) := by
  cases k with
  | ucb st =>
    obtain ⟨pmf, hpmf, hd, hv⟩ := Ucb.pmf_drawable val st actions hinv hne
    exact ⟨pmf, hpmf, hd, fun h => hv (h.imp_right (fun h => nomatch h))⟩
  | _ =>
    obtain ⟨pmf, hpmf, hv⟩ := Kind.pmf_valid_positional val _ actions hinv hne rfl hfit
    exact ⟨pmf, hpmf, hv.drawable, fun _ => hv⟩

theorem Kind.pmf_valid (val : Act → Rat) (k : Kind) (actions : List Act) (hinv : k.Inv)
    (hne : actions ≠ []) (hnd : actions.Nodup) (hfit : Fits k.arity actions.length) :
    ∃ pmf, k.pmf val actions = .ok pmf ∧ Valid pmf actions.length :=
  (Kind.pmf_drawable val k actions hinv hne hfit).imp (fun _ h => ⟨h.1, h.2.2 (Or.inl hnd)⟩)

theorem Learner.predict_of_pmf (val : Act → Rat) (L : Learner) (actions : List Act) (pmf : List Rat) (hne : actions ≠ [])
    (hpmf : L.kind.pmf val actions = .ok pmf) (hd : Drawable pmf actions.length) :
    ∃ i p, L.predict val actions = .ok ({ L with rng := next L.rng }, i, p, pmf) ∧ i < actions.length ∧ pmf[i]? = some p ∧ 0 < p := by
  have hn : actions.length ≠ 0 := fun h => hne (List.length_eq_zero_iff.mp h)
  obtain ⟨i, w, hc, hi, hw, hwpos⟩ := choicew_drawable L.rng actions.length pmf hd
  cases hk : L.kind
  case random =>
    -- RandomLearner does not pass a pmf: the draw is uniform and the weight is `1/n` by construction
    obtain ⟨j, hcj, hj⟩ := Coba.C05.choice_uniform_mem' L.rng actions.length (Nat.pos_of_ne_zero hn)
    rw [hk] at hpmf
    obtain rfl := Except.ok.inj hpmf
    have hpos : (0 : Rat) < 1 / (actions.length : Rat) := by
      have : (0 : Rat) < (actions.length : Rat) := by exact_mod_cast Nat.pos_of_ne_zero hn
      positivity
    exact ⟨j, 1 / (actions.length : Rat), by simp [Learner.predict, hk, liftRng, choicew, hcj, hn], hj, by simp [hj], hpos⟩
  all_goals
    rw [hk] at hpmf
    exact ⟨i, w, by simp [Learner.predict, hk, hpmf, liftRng, hc], hi, hw, hwpos⟩

theorem Learner.predict_drawable (val : Act → Rat) (L : Learner) (actions : List Act) (hinv : L.kind.Inv)
    (hne : actions ≠ []) (hfit : Fits L.kind.arity actions.length) :
    ∃ i p pmf, L.predict val actions = .ok ({ L with rng := next L.rng }, i, p, pmf) ∧ L.kind.pmf val actions = .ok pmf ∧
      (actions.Nodup ∨ L.kind.positional = true → Valid pmf actions.length) ∧ i < actions.length ∧ pmf[i]? = some p ∧ 0 < p := by
  obtain ⟨pmf, hpmf, hd, hv⟩ := Kind.pmf_drawable val L.kind actions hinv hne hfit
  obtain ⟨i, p, hp, h⟩ := Learner.predict_of_pmf val L actions pmf hne hpmf hd
  exact ⟨i, p, pmf, hp, hpmf, hv, h⟩

theorem Learner.predict_ok (val : Act → Rat) (L : Learner) (actions : List Act) (hinv : L.kind.Inv)
    (hne : actions ≠ []) (hnd : actions.Nodup) (hfit : Fits L.kind.arity actions.length) :
    ∃ i p pmf, L.predict val actions = .ok ({ L with rng := next L.rng }, i, p, pmf) ∧
      L.kind.pmf val actions = .ok pmf ∧ Valid pmf actions.length ∧ i < actions.length ∧ pmf[i]? = some p ∧ 0 < p := by
  obtain ⟨i, p, pmf, hp, hpmf, hv, h⟩ := Learner.predict_drawable val L actions hinv hne hfit
  exact ⟨i, p, pmf, hp, hpmf, hv (Or.inl hnd), h⟩

theorem Learner.score_eq (val : Act → Rat) (L : Learner) (actions : List Act) (a : Act) (pmf : List Rat)
    (hpmf : L.kind.pmf val actions = .ok pmf) (hlen : pmf.length = actions.length) (ha : a ∈ actions) :
    ∃ p, L.score val actions a = .ok p ∧ pmf[actions.idxOf a]? = some p := by
  have hidx : actions.idxOf a < pmf.length := by rw [hlen]; exact List.idxOf_lt_length_of_mem ha
  have hsome : pmf[actions.idxOf a]? = some pmf[actions.idxOf a] := List.getElem?_eq_getElem hidx
  have hn : actions.length ≠ 0 := (List.length_pos_of_mem ha).ne'
  cases hk : L.kind
  case random =>
    rw [hk] at hpmf
    obtain rfl := Except.ok.inj hpmf
    refine ⟨1 / (actions.length : Rat), by simp [Learner.score, hk, hn], ?_⟩
    rw [hsome]; simp
  all_goals
    rw [hk] at hpmf
    exact ⟨pmf[actions.idxOf a], by simp [Learner.score, hk, hpmf, ha, hsome], hsome⟩

theorem Learner.learn_ok (fl : Rat → Rat) (L : Learner) (a : Act) (r : Rat) (hinv : L.kind.Inv) :
    ∃ L', L.learn fl a r = .ok L' ∧ L'.kind.Inv ∧ L'.kind.arity = L.kind.arity := by
  cases hk : L.kind with
  | eps st =>
    rw [hk] at hinv
    refine ⟨{ L with kind := .eps (st.learn fl a (misguide fl L.mis r)) }, by simp [Learner.learn, hk], ?_, by simp [Kind.arity]⟩
    simpa [Kind.Inv, Eps.learn] using hinv
  | ucb st =>
    rw [hk] at hinv
    obtain ⟨st', hs, hi⟩ := Ucb.learn_total fl st a (misguide fl L.mis r) hinv
    exact ⟨{ L with kind := .ucb st' }, by simp [Learner.learn, hk, hs], hi, by simp [Kind.arity]⟩
  | fixed p =>
    rw [hk] at hinv
    exact ⟨L, by simp [Learner.learn, hk], by rw [hk]; exact hinv, by rw [hk]⟩
  | random =>
    exact ⟨L, by simp [Learner.learn, hk], by rw [hk]; trivial, by rw [hk]⟩

/-! ### histories -/

/-- a call inside the property's quantifier: non-empty duplicate-free action set (of the size a
FixedLearner was built for); scores are asked for offered actions -/
def OpOk (ar : Option Nat) : Op → Prop
  | .predict actions => actions ≠ [] ∧ actions.Nodup ∧ Fits ar actions.length
  | .score actions a => actions ≠ [] ∧ actions.Nodup ∧ Fits ar actions.length ∧ a ∈ actions
  | .learn _ _ => True

/-- what the property demands of the answer to a call -/
def OutOk : Op → Out → Prop
  | .predict actions, .pred i p pmf => Valid pmf actions.length ∧ i < actions.length ∧ pmf[i]? = some p ∧ 0 < p
  | .score _ _, .score p => 0 ≤ p
  | .learn _ _, .learned => True
  | _, _ => False

theorem stepL_ok (fl : Rat → Rat) (val : Act → Rat) (L : Learner) (op : Op) (hinv : L.kind.Inv)
    (hop : OpOk L.kind.arity op) :
    ∃ L' o, stepL fl val L op = (L', o) ∧ OutOk op o ∧ (∀ e, o ≠ .err e) ∧ L'.kind.Inv ∧ L'.kind.arity = L.kind.arity := by
  cases op with
  | predict actions =>
    obtain ⟨hne, hnd, hfit⟩ := hop
    obtain ⟨i, p, pmf, hp, _, hv, hi, hpi, hpos⟩ := Learner.predict_ok val L actions hinv hne hnd hfit
    exact ⟨{ L with rng := next L.rng }, .pred i p pmf, by simp [stepL, hp], ⟨hv, hi, hpi, hpos⟩, by intro e; simp, hinv, rfl⟩
  | score actions a =>
    obtain ⟨hne, hnd, hfit, ha⟩ := hop
    obtain ⟨pmf, hpmf, hv⟩ := Kind.pmf_valid val L.kind actions hinv hne hnd hfit
    obtain ⟨p, hs, hp⟩ := Learner.score_eq val L actions a pmf hpmf hv.length_eq ha
    refine ⟨L, .score p, by simp [stepL, hs], ?_, by intro e; simp, hinv, rfl⟩
    exact hv.nonneg p (List.mem_of_getElem? hp)
  | learn a r =>
    obtain ⟨L', hl, hi, har⟩ := Learner.learn_ok fl L a r hinv
    exact ⟨L', .learned, by simp [stepL, hl], trivial, by intro e; simp, hi, har⟩

/-! ### Corral: the mixture pmf -/

theorem mixAt_nil_left (bs : List Act) (a : Act) : mixAt [] bs a = 0 := by
  cases bs <;> simp [mixAt]

theorem mixAt_nonneg (pbars : List Rat) (bacts : List Act) (a : Act) (h : ∀ p ∈ pbars, 0 ≤ p) :
    0 ≤ mixAt pbars bacts a := by
  induction pbars generalizing bacts with
  | nil => rw [mixAt_nil_left]
  | cons pb pbs ih =>
    cases bacts with
    | nil => exact le_rfl
    | cons b bs =>
      simp only [mixAt]
      have h1 : 0 ≤ pb := h pb (by simp)
      have h2 := ih bs (fun p hp => h p (by simp [hp]))
      split <;> linarith

theorem sum_ite_single (actions : List Act) (b : Act) (pb : Rat) (hnd : actions.Nodup) (hb : b ∈ actions) :
    (actions.map (fun a => if a = b then pb else 0)).sum = pb := by
  have h1 : (actions.filter (fun x => decide (x = b))).length = 1 := by
    rw [← List.countP_eq_length_filter]
    exact List.count_eq_one_of_mem hnd hb
  rw [sum_map_ite actions (fun a => a = b), h1, Nat.cast_one, one_mul]

theorem corralPmf_sum (pbars : List Rat) (bacts actions : List Act) (hnd : actions.Nodup)
    (hlen : bacts.length = pbars.length) (hb : ∀ b ∈ bacts, b ∈ actions) :
    (corralPmf pbars bacts actions).sum = pbars.sum := by
  unfold corralPmf
  induction pbars generalizing bacts with
  | nil =>
    have : (actions.map (mixAt [] bacts)) = actions.map (fun _ => (0 : Rat)) := by
      apply List.map_congr_left; intro a _; exact mixAt_nil_left bacts a
    rw [this]; simp
  | cons pb pbs ih =>
    cases bacts with
    | nil => simp at hlen
    | cons b bs =>
      have h1 : actions.map (mixAt (pb :: pbs) (b :: bs)) =
          actions.map (fun a => (if a = b then pb else 0) + mixAt pbs bs a) := by
        apply List.map_congr_left; intro a _; simp [mixAt]
      rw [h1, List.sum_map_add, sum_ite_single actions b pb hnd (hb b (by simp)),
        ih bs (by simpa using hlen) (fun x hx => hb x (by simp [hx]))]
      simp

theorem corralPmf_valid (pbars : List Rat) (bacts actions : List Act) (hnd : actions.Nodup)
    (hlen : bacts.length = pbars.length) (hb : ∀ b ∈ bacts, b ∈ actions)
    (hpos : ∀ p ∈ pbars, 0 ≤ p) (hsum : pbars.sum = 1) :
    Valid (corralPmf pbars bacts actions) actions.length := by
  refine ⟨by simp [corralPmf], ?_, by rw [corralPmf_sum pbars bacts actions hnd hlen hb, hsum]⟩
  intro p hp
  obtain ⟨a, _, rfl⟩ := List.mem_map.mp hp
  exact mixAt_nonneg pbars bacts a hpos

/-! ### Corral: the log-barrier update, the η/ρ schedule -/

section term
variable {K : Type*} [Field K] [LinearOrder K] [IsStrictOrderedRing K] {p e l x : K}

/-- one term `1 / (1/p + η(ℓ - λ))` of the update against the old weight `p`; over any ordered field, since the model needs it
over ℚ and the root argument over ℝ -/
theorem omdTerm_le_weight (hp : 0 < p) (he : 0 ≤ e) (hx : x ≤ l) : 1 / (1 / p + e * (l - x)) ≤ p :=
  (one_div_le_one_div_of_le (one_div_pos.mpr hp)
    (le_add_of_nonneg_right (mul_nonneg he (sub_nonneg.mpr hx)))).trans_eq (one_div_one_div p)

theorem weight_le_omdTerm (he : 0 ≤ e) (hx : l ≤ x) (hd : 0 < 1 / p + e * (l - x)) : p ≤ 1 / (1 / p + e * (l - x)) :=
  (one_div_one_div p).symm.trans_le (one_div_le_one_div_of_le hd
    (add_le_of_nonpos_right (mul_nonpos_of_nonneg_of_nonpos he (sub_nonpos.mpr hx))))

end term

/-- the denominators, one per base learner, with the `zip` semantics of the source's comprehension -/
theorem omdDenoms_eq_map (ps etas losses : List Rat) (lam : Rat) :
    omdDenoms ps etas losses lam = (ps.zip (etas.zip losses)).map (fun t => 1 / t.1 + t.2.1 * (t.2.2 - lam)) :=
  eq_map_zip3 (fun p e l => 1 / p + e * (l - lam)) (omdDenoms · · · lam) (fun _ _ _ _ _ _ => rfl) (fun _ _ => rfl) (fun _ _ _ => rfl)
    (fun _ _ _ _ => rfl) ps etas losses

theorem omdDenoms_pos_of_le (ps etas losses : List Rat) (lam : Rat) (hp : ∀ p ∈ ps, 0 < p)
    (he : ∀ e ∈ etas, 0 ≤ e) (hl : ∀ l ∈ losses, lam ≤ l) :
    ∀ d ∈ omdDenoms ps etas losses lam, 0 < d := by
  intro d hd
  rw [omdDenoms_eq_map] at hd
  obtain ⟨⟨p, e, l⟩, ht, rfl⟩ := List.mem_map.mp hd
  obtain ⟨hp', he', hl'⟩ := mem_zip3 ht
  exact add_pos_of_pos_of_nonneg (one_div_pos.mpr (hp p hp')) (mul_nonneg (he e he') (sub_nonneg.mpr (hl l hl')))

theorem omdRaw_eq_some_iff (ps etas losses : List Rat) (lam : Rat) (raw : List Rat) :
    omdRaw ps etas losses lam = some raw ↔
      (∀ d ∈ omdDenoms ps etas losses lam, 0 < d) ∧ (omdDenoms ps etas losses lam).map (fun d => 1 / d) = raw := by
  simp only [omdRaw, Option.ite_none_right_eq_some, List.all_eq_true, decide_eq_true_eq, Option.some.injEq]

theorem omdDenomsF_eq_map (fl : Rat → Rat) (ps etas losses : List Rat) (lam : Rat) :
    omdDenomsF fl ps etas losses lam =
      (ps.zip (etas.zip losses)).map (fun t => fl (fl (1 / t.1) + fl (t.2.1 * fl (t.2.2 - lam)))) :=
  eq_map_zip3 (fun p e l => fl (fl (1 / p) + fl (e * fl (l - lam)))) (omdDenomsF fl · · · lam) (fun _ _ _ _ _ _ => rfl) (fun _ _ => rfl)
    (fun _ _ _ => rfl) (fun _ _ _ _ => rfl) ps etas losses

theorem omdRawF_eq_some_iff (fl : Rat → Rat) (ps etas losses : List Rat) (lam : Rat) (raw : List Rat) :
    omdRawF fl ps etas losses lam = some raw ↔
      (∀ d ∈ omdDenomsF fl ps etas losses lam, 0 < d) ∧ (omdDenomsF fl ps etas losses lam).map (fun d => fl (1 / d)) = raw := by
  simp only [omdRawF, Option.ite_none_right_eq_some, List.all_eq_true, decide_eq_true_eq, Option.some.injEq]

theorem omdRaw_eq_omdRawF (ps etas losses : List Rat) (lam : Rat) :
    omdRaw ps etas losses lam = omdRawF (fun x => x) ps etas losses lam := by
  simp only [omdRaw, omdRawF, omdDenoms_eq_map, omdDenomsF_eq_map]

theorem omdRawF_pos {fl : Rat → Rat} (hfl : ∀ x, 0 < x → 0 < fl x) (ps etas losses : List Rat) (lam : Rat) (cur : List Rat)
    (h1 : etas.length = ps.length) (h2 : losses.length = ps.length) (hraw : omdRawF fl ps etas losses lam = some cur) :
    cur.length = ps.length ∧ ∀ x ∈ cur, 0 < x := by
  obtain ⟨hd, rfl⟩ := (omdRawF_eq_some_iff fl ps etas losses lam cur).mp hraw
  refine ⟨by simp [omdDenomsF_eq_map, h1, h2], List.forall_mem_map.mpr (fun d hdm => ?_)⟩
  exact hfl _ (one_div_pos.mpr (hd d hdm))

theorem omdRaw_pos (ps etas losses : List Rat) (lam : Rat) (raw : List Rat) (h1 : etas.length = ps.length) (h2 : losses.length = ps.length)
    (h : omdRaw ps etas losses lam = some raw) : raw.length = ps.length ∧ ∀ x ∈ raw, 0 < x :=
  omdRawF_pos (fun _ hx => hx) ps etas losses lam raw h1 h2 (omdRaw_eq_omdRawF ps etas losses lam ▸ h)

theorem normalise_valid (xs : List Rat) (hne : xs ≠ []) (hpos : ∀ x ∈ xs, 0 < x) :
    (normalise xs).length = xs.length ∧ (∀ x ∈ normalise xs, 0 < x) ∧ (normalise xs).sum = 1 := by
  have hs : 0 < xs.sum := List.sum_pos xs hpos hne
  refine ⟨by simp [normalise], ?_, ?_⟩
  · intro x hx
    obtain ⟨y, hy, rfl⟩ := List.mem_map.mp hx
    have := hpos y hy
    positivity
  · unfold normalise
    rw [sum_map_div]
    exact div_self (ne_of_gt hs)

theorem bisect_ind {F α} [DecidableEq F] (mid : F → F → F) (done : α → Bool) (probe : F → Option α) (tooBig : α → Bool)
    (P : Nat → F → F → α → Prop) (Q : (F × α) × Bool → Prop)
    (out : ∀ l r cur, P 0 l r cur → Q ((l, cur), false))
    (exit : ∀ n l r cur, P (n + 1) l r cur → Q ((l, cur), true))
    (left : ∀ n l r cur, P (n + 1) l r cur → mid l r ≠ l → mid l r ≠ r → P n l (mid l r) cur)
    (right : ∀ n l r cur xs, P (n + 1) l r cur → mid l r ≠ l → mid l r ≠ r → probe (mid l r) = some xs → P n (mid l r) r xs)
    (fuel : Nat) : ∀ (l r : F) (cur : α), P fuel l r cur → Q (bisect mid done probe tooBig fuel l r cur) := by
  induction fuel with
  | zero => exact out
  | succ n ih =>
    intro l r cur h
    rw [bisect]; dsimp only
    split
    · exact exit n l r cur h
    split
    · exact exit n l r cur h
    rename_i hx
    have hl : mid l r ≠ l := fun e => hx (Or.inl e)
    have hr : mid l r ≠ r := fun e => hx (Or.inr e)
    split
    · exact ih _ _ _ (left n l r cur h hl hr)
    · rename_i xs hxs
      split
      · exact ih _ _ _ (left n l r cur h hl hr)
      · exact ih _ _ _ (right n l r cur xs h hl hr hxs)

theorem bisect_probed {F α} [DecidableEq F] (mid : F → F → F) (done : α → Bool) (probe : F → Option α) (tooBig : α → Bool)
    (fuel : Nat) (l r : F) (cur : α) (h : probe l = some cur) :
    probe (bisect mid done probe tooBig fuel l r cur).1.1 = some (bisect mid done probe tooBig fuel l r cur).1.2 :=
  bisect_ind mid done probe tooBig (fun _ l _ cur => probe l = some cur) (fun res => probe res.1.1 = some res.1.2)
    (fun _ _ _ h => h) (fun _ _ _ _ h => h) (fun _ _ _ _ h _ _ => h) (fun _ _ _ _ _ _ _ _ hxs => hxs) fuel l r cur h

/-- `D` is the part of the carrier the search moves on (the doubles inside ℚ): only there is a rank available -/
theorem bisect_halts_on {F α} [LinearOrder F] (mid : F → F → F) (done : α → Bool) (probe : F → Option α) (tooBig : α → Bool)
    (D : F → Prop) (rank : F → Nat) (hrank : ∀ x y, D x → D y → x < y → rank x < rank y)
    (hmid : ∀ l r, D l → D r → l ≤ r → D (mid l r) ∧ l ≤ mid l r ∧ mid l r ≤ r) (fuel : Nat)
    (l r : F) (cur : α) (hl : D l) (hr : D r) (hlr : l ≤ r) (hfuel : rank r - rank l < fuel) :
    (bisect mid done probe tooBig fuel l r cur).2 = true := by
  -- a midpoint different from both ends lies strictly between them, so both halves have a smaller rank gap
  have key : ∀ n l r, D l ∧ D r ∧ l ≤ r ∧ rank r - rank l < n + 1 → mid l r ≠ l → mid l r ≠ r →
      (D l ∧ D (mid l r) ∧ l ≤ mid l r ∧ rank (mid l r) - rank l < n) ∧
        (D (mid l r) ∧ D r ∧ mid l r ≤ r ∧ rank r - rank (mid l r) < n) := by
    intro n l r ⟨hl, hr, hlr, hf⟩ h1 h2
    obtain ⟨hd, m1, m2⟩ := hmid l r hl hr hlr
    have rl := hrank _ _ hl hd (lt_of_le_of_ne m1 h1.symm)
    have rr := hrank _ _ hd hr (lt_of_le_of_ne m2 h2)
    exact ⟨⟨hl, hd, m1, by omega⟩, hd, hr, m2, by omega⟩
  exact bisect_ind mid done probe tooBig (fun n l r _ => D l ∧ D r ∧ l ≤ r ∧ rank r - rank l < n) (fun res => res.2 = true)
    (fun _ _ _ h => absurd h.2.2.2 (Nat.not_lt_zero _)) (fun _ _ _ _ _ => rfl)
    (fun n l r _ h h1 h2 => (key n l r h h1 h2).1) (fun n l r _ _ h h1 h2 _ => (key n l r h h1 h2).2) fuel l r cur ⟨hl, hr, hlr, hfuel⟩

theorem omdLambda_valid (ps etas losses : List Rat) (hp : ∀ p ∈ ps, 0 < p) (he : ∀ e ∈ etas, 0 ≤ e) :
    ∃ raw, omdRaw ps etas losses (omdLambda ps etas losses) = some raw := by
  unfold omdLambda
  cases losses with
  | nil => exact ⟨_, (omdRaw_eq_some_iff ps etas [] 0 _).mpr ⟨omdDenoms_pos_of_le ps etas [] 0 hp he (fun _ h => nomatch h), rfl⟩⟩
  | cons l0 ls =>
    have hlo := (omdRaw_eq_some_iff ps etas (l0 :: ls) _ _).mpr ⟨omdDenoms_pos_of_le ps etas (l0 :: ls) _ hp he (minOf_le l0 ls), rfl⟩
    simp only [hlo]
    exact ⟨_, bisect_probed _ _ _ _ searchFuel _ _ _ hlo⟩

theorem etaRhoF_spec (fl : Rat → Rat) (hfl : ∀ x, 0 < x → 0 < fl x) (beta : Rat) (hb : 0 < beta)
    (pbs es rhs : List Rat) (hes : ∀ e ∈ es, 0 < e) :
    (etaRhoF fl beta pbs es rhs).1.length = es.length ∧ (etaRhoF fl beta pbs es rhs).2.length = rhs.length ∧
      ∀ e ∈ (etaRhoF fl beta pbs es rhs).1, 0 < e := by
  induction pbs generalizing es rhs with
  | nil => exact ⟨rfl, rfl, hes⟩
  | cons pb pbs ih =>
    rcases es with _ | ⟨e, es⟩
    · exact ⟨rfl, rfl, hes⟩
    rcases rhs with _ | ⟨rh, rhs⟩
    · exact ⟨rfl, rfl, hes⟩
    obtain ⟨i1, i2, i3⟩ := ih es rhs (fun x hx => hes x (List.mem_cons_of_mem _ hx))
    have he := hes e List.mem_cons_self
    simp only [etaRhoF]
    split
    · exact ⟨by simp [i1], by simp [i2], List.forall_mem_cons.mpr ⟨hfl _ (mul_pos he hb), i3⟩⟩
    · exact ⟨by simp [i1], by simp [i2], List.forall_mem_cons.mpr ⟨he, i3⟩⟩

theorem etaRho_eq_etaRhoF (beta : Rat) (pbs es rhs : List Rat) :
    etaRho beta pbs es rhs = etaRhoF (fun x => x) beta pbs es rhs := by
  induction pbs generalizing es rhs with
  | nil => rfl
  | cons pb pbs ih =>
    rcases es with _ | ⟨e, es⟩
    · rfl
    rcases rhs with _ | ⟨rh, rhs⟩
    · rfl
    simp only [etaRho, etaRhoF, ih]

/-! ### Corral: the state invariant -/

/-- Corral's weights (raw and smoothed) are strictly positive distributions over its base
learners, the learning rates stay positive -/
structure Corral.Inv (c : Corral) : Prop where
  ne : c.ps ≠ []
  len_pbars : c.pbars.length = c.ps.length
  len_etas : c.etas.length = c.ps.length
  len_rhos : c.rhos.length = c.ps.length
  ps_pos : ∀ p ∈ c.ps, 0 < p
  ps_sum : c.ps.sum = 1
  pbars_pos : ∀ p ∈ c.pbars, 0 < p
  pbars_sum : c.pbars.sum = 1
  etas_pos : ∀ e ∈ c.etas, 0 < e
  gamma0 : 0 ≤ c.gamma
  gamma1 : c.gamma ≤ 1
  beta_pos : 0 < c.beta

theorem Corral.Inv.pmf_valid {c : Corral} (hinv : c.Inv) (actions bacts : List Act) (hnd : actions.Nodup)
    (hlen : bacts.length = c.ps.length) (hb : ∀ b ∈ bacts, b ∈ actions) :
    Valid (corralPmf c.pbars bacts actions) actions.length :=
  corralPmf_valid c.pbars bacts actions hnd (by rw [hlen, hinv.len_pbars]) hb
    (fun p hp => le_of_lt (hinv.pbars_pos p hp)) hinv.pbars_sum

theorem Corral.predict_ok (c : Corral) (actions bacts : List Act) (hinv : c.Inv)
    (hnd : actions.Nodup) (hlen : bacts.length = c.ps.length) (hb : ∀ b ∈ bacts, b ∈ actions) :
    ∃ i p, c.predict actions bacts = .ok ({ c with rng := next c.rng }, i, p, corralPmf c.pbars bacts actions) ∧
      Valid (corralPmf c.pbars bacts actions) actions.length ∧ i < actions.length ∧
      (corralPmf c.pbars bacts actions)[i]? = some p ∧ 0 < p := by
  have hv := hinv.pmf_valid actions bacts hnd hlen hb
  obtain ⟨i, w, hc, hi, hw, hwpos⟩ := choicew_drawable c.rng actions.length _ hv.drawable
  exact ⟨i, w, by simp [Corral.predict, liftRng, hc], hv, hi, hw, hwpos⟩

theorem smooth_entry_pos {gamma p m : Rat} (g0 : 0 ≤ gamma) (g1 : gamma ≤ 1) (hp : 0 < p) (hm : 0 < m) :
    0 < (1 - gamma) * p + gamma / m := by
  rcases g1.lt_or_eq with hlt | rfl
  · exact add_pos_of_pos_of_nonneg (mul_pos (sub_pos.mpr hlt) hp) (div_nonneg g0 hm.le)
  · rw [sub_self, zero_mul, zero_add]
    exact one_div_pos.mpr hm

theorem sum_map_smooth (ps : List Rat) (gamma : Rat) (hne : ps ≠ []) :
    (ps.map (fun p => (1 - gamma) * p + gamma / (ps.length : Rat))).sum = (1 - gamma) * ps.sum + gamma := by
  have hn : (ps.length : Rat) ≠ 0 := Nat.cast_ne_zero.mpr (fun h => hne (List.length_eq_zero_iff.mp h))
  rw [sum_map_affine, mul_div_cancel₀ _ hn]

theorem smooth_valid (ps : List Rat) (gamma : Rat) (M : Nat) (hM : ps.length = M) (hne : ps ≠ [])
    (hpos : ∀ p ∈ ps, 0 < p) (hsum : ps.sum = 1) (hg0 : 0 ≤ gamma) (hg1 : gamma ≤ 1) :
    (∀ q ∈ ps.map (fun q => (1 - gamma) * q + gamma * 1 / (M : Rat)), 0 < q) ∧
      (ps.map (fun q => (1 - gamma) * q + gamma * 1 / (M : Rat))).sum = 1 := by
  subst hM
  simp only [mul_one]
  refine ⟨List.forall_mem_map.mpr (fun p hp => ?_), by rw [sum_map_smooth ps gamma hne, hsum]; ring⟩
  exact smooth_entry_pos hg0 hg1 (hpos p hp) (Nat.cast_pos.mpr (List.length_pos_iff.mpr hne))

theorem Corral.learnWith_of_raw (c : Corral) (bacts : List Act) (a : Act) (r p lam : Rat) (raw : List Rat)
    (hr0 : 0 ≤ r) (hr1 : r ≤ 1) (hp : p ≠ 0) (hraw : omdRaw c.ps c.etas (corralLosses bacts a r p) lam = some raw) :
    c.learnWith bacts a r p lam =
      let pbars := (normalise raw).map (fun q => (1 - c.gamma) * q + c.gamma * 1 / (c.ps.length : Rat))
      .ok { c with ps := normalise raw, pbars := pbars,
                   etas := (etaRho c.beta pbars c.etas c.rhos).1, rhos := (etaRho c.beta pbars c.etas c.rhos).2 } := by
  simp [Corral.learnWith, hr0, hr1, hp, hraw]

theorem Corral.learnWith_ok (c : Corral) (bacts : List Act) (a : Act) (r p lam : Rat) (hinv : c.Inv)
    (hlen : bacts.length = c.ps.length) (hr0 : 0 ≤ r) (hr1 : r ≤ 1) (hp : p ≠ 0)
    (hlam : ∃ raw, omdRaw c.ps c.etas (corralLosses bacts a r p) lam = some raw) :
    ∃ c', c.learnWith bacts a r p lam = .ok c' ∧ c'.Inv ∧ c'.ps.length = c.ps.length := by
  obtain ⟨raw, hraw⟩ := hlam
  have hll : (corralLosses bacts a r p).length = c.ps.length := by simp [corralLosses, hlen]
  obtain ⟨hrl, hrpos⟩ := omdRaw_pos _ _ _ _ _ hinv.len_etas hll hraw
  have hrne : raw ≠ [] := ne_nil_of_length_eq hrl hinv.ne
  obtain ⟨nl, npos, nsum⟩ := normalise_valid raw hrne hrpos
  have nne : normalise raw ≠ [] := ne_nil_of_length_eq nl hrne
  obtain ⟨spos, ssum⟩ := smooth_valid (normalise raw) c.gamma c.ps.length (by rw [nl, hrl]) nne npos nsum hinv.gamma0 hinv.gamma1
  obtain ⟨e1, e2, e3⟩ := etaRhoF_spec (fun x => x) (fun _ h => h) c.beta hinv.beta_pos
    ((normalise raw).map (fun q => (1 - c.gamma) * q + c.gamma * 1 / (c.ps.length : Rat))) c.etas c.rhos hinv.etas_pos
  rw [← etaRho_eq_etaRhoF] at e1 e2 e3
  refine ⟨_, Corral.learnWith_of_raw c bacts a r p lam raw hr0 hr1 hp hraw, ?_, nl.trans hrl⟩
  exact {
    ne := nne
    len_pbars := List.length_map _
    len_etas := by rw [e1, hinv.len_etas, nl, hrl]
    len_rhos := by rw [e2, hinv.len_rhos, nl, hrl]
    ps_pos := npos
    ps_sum := nsum
    pbars_pos := spos
    pbars_sum := ssum
    etas_pos := e3
    gamma0 := hinv.gamma0
    gamma1 := hinv.gamma1
    beta_pos := hinv.beta_pos }

theorem Corral.learn_ok (c : Corral) (bacts : List Act) (a : Act) (r p : Rat) (hinv : c.Inv)
    (hlen : bacts.length = c.ps.length) (hr0 : 0 ≤ r) (hr1 : r ≤ 1) (hp : p ≠ 0) :
    ∃ c', c.learn bacts a r p = .ok c' ∧ c'.Inv ∧ c'.ps.length = c.ps.length := by
  unfold Corral.learn
  exact Corral.learnWith_ok c bacts a r p _ hinv hlen hr0 hr1 hp
    (omdLambda_valid c.ps c.etas _ hinv.ps_pos (fun e he => le_of_lt (hinv.etas_pos e he)))

/-! ### Corral: histories -/

/-- what the property demands of Corral's answer to a call -/
def OutOkC : COp → Out → Prop
  | .predict actions _, .pred i p pmf => Valid pmf actions.length ∧ i < actions.length ∧ pmf[i]? = some p ∧ 0 < p
  | .score _ _ _, .score p => 0 ≤ p
  | .learn _ _ _ _, .learned => True
  | _, _ => False

/-- a call inside the quantifier: duplicate-free action set, every base learner chose an offered
action (proved for the built-in base learners by `Learner.predict_ok`), reward in [0,1],
positive probability -/
def COpOk (M : Nat) : COp → Prop
  | .predict actions bacts => actions.Nodup ∧ bacts.length = M ∧ ∀ b ∈ bacts, b ∈ actions
  | .score actions bacts a => actions.Nodup ∧ bacts.length = M ∧ (∀ b ∈ bacts, b ∈ actions) ∧ a ∈ actions
  | .learn bacts _ r p => bacts.length = M ∧ 0 ≤ r ∧ r ≤ 1 ∧ 0 < p

theorem Corral.score_eq (c : Corral) (actions bacts : List Act) (a : Act) (ha : a ∈ actions) :
    ∃ p, c.score actions bacts a = .ok p ∧ (corralPmf c.pbars bacts actions)[actions.idxOf a]? = some p := by
  have hidx : actions.idxOf a < (corralPmf c.pbars bacts actions).length := by
    simp only [corralPmf, List.length_map]; exact List.idxOf_lt_length_of_mem ha
  exact ⟨_, by simp [Corral.score, ha, List.getElem?_eq_getElem hidx], List.getElem?_eq_getElem hidx⟩

theorem stepC_ok (c : Corral) (op : COp) (hinv : c.Inv) (hop : COpOk c.ps.length op) :
    ∃ c' o, stepC c op = (c', o) ∧ OutOkC op o ∧ c'.Inv ∧ c'.ps.length = c.ps.length := by
  cases op with
  | predict actions bacts =>
    obtain ⟨hnd, hlen, hb⟩ := hop
    obtain ⟨i, p, hp, hv, hi, hpi, hpos⟩ := Corral.predict_ok c actions bacts hinv hnd hlen hb
    exact ⟨{ c with rng := next c.rng }, .pred i p _, by simp [stepC, hp], ⟨hv, hi, hpi, hpos⟩,
      { hinv with }, rfl⟩
  | score actions bacts a =>
    obtain ⟨hnd, hlen, hb, ha⟩ := hop
    have hv := hinv.pmf_valid actions bacts hnd hlen hb
    obtain ⟨q, hs, hq⟩ := Corral.score_eq c actions bacts a ha
    exact ⟨c, .score q, by simp [stepC, hs], hv.nonneg q (List.mem_of_getElem? hq), hinv, rfl⟩
  | learn bacts a r p =>
    obtain ⟨hlen, hr0, hr1, hp⟩ := hop
    obtain ⟨c', hl, hi, hlen'⟩ := Corral.learn_ok c bacts a r p hinv hlen hr0 hr1 (ne_of_gt hp)
    exact ⟨c', .learned, by simp [stepC, hl], trivial, hi, hlen'⟩

/-! ### nested compositions -/

/-- what a base learner guarantees to the Corral above it -/
structure Base.Laws (B : Base) where
  inv : B.σ → Prop
  /-- it can be offered `n` actions (a FixedLearner anywhere below has `n` entries) -/
  fits : B.σ → Nat → Prop
  /-- it holds the kwargs of a prediction (a Corral below has predicted at least once) -/
  ready : B.σ → Prop
  /-- the feedback (action, reward, probability) is acceptable: every Corral at or below this learner
  is handed a reward in [0,1] and a non-zero probability — THE FORCED HYPOTHESIS of nesting -/
  accepts : B.σ → Act → Rat → Rat → Prop
  predict_ok : ∀ s actions, inv s → actions ≠ [] → actions.Nodup → fits s actions.length →
    ∃ s' a p, B.predict s actions = .ok (s', a, p) ∧ inv s' ∧ ready s' ∧ a ∈ actions ∧ 0 < p ∧ (∀ n, fits s n → fits s' n)
  learn_ok : ∀ s a r p, inv s → ready s → accepts s a r p →
    ∃ s', B.learn s a r p = .ok s' ∧ inv s' ∧ (∀ n, fits s n → fits s' n)

def leafLaws (fl : Rat → Rat) : (leafBase fl).Laws where
  inv := fun s => s.L.kind.Inv
  fits := fun s n => Fits s.L.kind.arity n
  ready := fun _ => True
  accepts := fun _ _ _ _ => True
  predict_ok := by
    intro s actions hinv hne hnd hfit
    obtain ⟨i, p, pmf, hp, _, _, hi, _, hpos⟩ := Learner.predict_ok (s.val s.k) s.L actions hinv hne hnd hfit
    refine ⟨{ s with L := { s.L with rng := next s.L.rng }, k := s.k + 1 }, actions[i], p, ?_, hinv, trivial,
      List.getElem_mem hi, hpos, fun n h => h⟩
    simp [leafBase, hp, List.getElem?_eq_getElem hi]
  learn_ok := by
    intro s a r p hinv _ _
    obtain ⟨L', hl, hi, har⟩ := Learner.learn_ok fl s.L a r hinv
    refine ⟨{ s with L := L' }, by simp [leafBase, hl], hi, ?_⟩
    intro n h; simpa [har] using h

/-- zip-wise acceptance of the feedback by the base learners -/
def allAccept {B : Base} (h : B.Laws) : List B.σ → List (Act × Rat × Rat) → Prop
  | s :: ss, (a, r, p) :: fs => h.accepts s a r p ∧ allAccept h ss fs
  | _, _ => True

theorem predictAll_ok {B : Base} (h : B.Laws) (actions : List Act) (hne : actions ≠ []) (hnd : actions.Nodup) :
    ∀ ss : List B.σ, (∀ s ∈ ss, h.inv s) → (∀ s ∈ ss, h.fits s actions.length) →
      ∃ ss' as ps, predictAll B ss actions = .ok (ss', as, ps) ∧ (∀ s ∈ ss', h.inv s) ∧ (∀ s ∈ ss', h.ready s) ∧
        ss'.length = ss.length ∧ as.length = ss.length ∧ ps.length = ss.length ∧ (∀ a ∈ as, a ∈ actions) ∧
        (∀ n, (∀ s ∈ ss, h.fits s n) → ∀ s ∈ ss', h.fits s n) := by
  intro ss
  induction ss with
  | nil => intro _ _; exact ⟨[], [], [], rfl, by simp, by simp, rfl, rfl, rfl, by simp, by simp⟩
  | cons s ss ih =>
    intro hinv hfit
    obtain ⟨hinv1, hinv2⟩ := List.forall_mem_cons.mp hinv
    obtain ⟨hfit1, hfit2⟩ := List.forall_mem_cons.mp hfit
    obtain ⟨s', a, p, hp, hi, hr, ha, _, hf⟩ := h.predict_ok s actions hinv1 hne hnd hfit1
    obtain ⟨ss', as, ps, hps, i1, i2, i3, i4, i5, i6, i7⟩ := ih hinv2 hfit2
    refine ⟨s' :: ss', a :: as, p :: ps, by simp [predictAll, hp, hps], List.forall_mem_cons.mpr ⟨hi, i1⟩,
      List.forall_mem_cons.mpr ⟨hr, i2⟩, by simp [i3], by simp [i4], by simp [i5], List.forall_mem_cons.mpr ⟨ha, i6⟩, ?_⟩
    intro n hn
    obtain ⟨hn1, hn2⟩ := List.forall_mem_cons.mp hn
    exact List.forall_mem_cons.mpr ⟨hf n hn1, i7 n hn2⟩

theorem learnAll_ok {B : Base} (h : B.Laws) : ∀ (ss : List B.σ) (fs : List (Act × Rat × Rat)),
    (∀ s ∈ ss, h.inv s) → (∀ s ∈ ss, h.ready s) → allAccept h ss fs →
      ∃ ss', learnAll B ss fs = .ok ss' ∧ (∀ s ∈ ss', h.inv s) ∧ ss'.length = ss.length ∧
        (∀ n, (∀ s ∈ ss, h.fits s n) → ∀ s ∈ ss', h.fits s n) := by
  intro ss
  induction ss with
  | nil => intro fs _ _ _; exact ⟨[], by cases fs <;> simp [learnAll], by simp, rfl, by simp⟩
  | cons s ss ih =>
    intro fs hinv hready hacc
    cases fs with
    | nil => exact ⟨s :: ss, by simp [learnAll], hinv, rfl, fun n hn => hn⟩
    | cons f fs =>
      obtain ⟨a, r, p⟩ := f
      obtain ⟨ha, hrest⟩ := hacc
      obtain ⟨hinv1, hinv2⟩ := List.forall_mem_cons.mp hinv
      obtain ⟨hready1, hready2⟩ := List.forall_mem_cons.mp hready
      obtain ⟨s', hl, hi, hf⟩ := h.learn_ok s a r p hinv1 hready1 ha
      obtain ⟨ss', hls, i1, i2, i3⟩ := ih fs hinv2 hready2 hrest
      refine ⟨s' :: ss', by simp [learnAll, hl, hls], List.forall_mem_cons.mpr ⟨hi, i1⟩, by simp [i2], ?_⟩
      intro n hn
      obtain ⟨hn1, hn2⟩ := List.forall_mem_cons.mp hn
      exact List.forall_mem_cons.mpr ⟨hf n hn1, i3 n hn2⟩

/-- **Corral over valid base learners is a valid base learner** -/
def corralLaws (fl : Rat → Rat) {B : Base} (h : B.Laws) : (corralOver fl B).Laws where
  inv := fun s => s.c.Inv ∧ s.bases.length = s.c.ps.length ∧ ∀ b ∈ s.bases, h.inv b
  fits := fun s n => ∀ b ∈ s.bases, h.fits b n
  ready := fun s => s.lastActs.length = s.c.ps.length ∧ ∀ b ∈ s.bases, h.ready b
  accepts := fun s a r p =>
    0 ≤ misguide fl s.mis r ∧ misguide fl s.mis r ≤ 1 ∧ p ≠ 0 ∧
      allAccept h s.bases (corralFeedback s.c.importance s.lastActs s.lastProbs a (misguide fl s.mis r) p)
  predict_ok := by
    intro s actions ⟨hc, hlen, hb⟩ hne hnd hfit
    obtain ⟨ss', as, ps, hps, i1, i2, i3, i4, _, i6, i7⟩ := predictAll_ok h actions hne hnd s.bases hb hfit
    obtain ⟨i, p, hp, _, hi, _, hpos⟩ := Corral.predict_ok s.c actions as hc hnd (by rw [i4, hlen]) i6
    refine ⟨{ s with c := { s.c with rng := next s.c.rng }, lastActs := as, lastProbs := ps, bases := ss' }, actions[i], p, ?_,
      ⟨{ hc with }, by simp [i3, hlen], i1⟩, ⟨by simp [i4, hlen], i2⟩, List.getElem_mem hi, hpos, fun n hn => i7 n hn⟩
    simp [corralOver, hps, hp, List.getElem?_eq_getElem hi]
  learn_ok := by
    intro s a r p ⟨hc, hlen, hb⟩ ⟨hla, hrb⟩ ⟨hr0, hr1, hp, hacc⟩
    obtain ⟨ss', hls, i1, i2, i3⟩ := learnAll_ok h s.bases _ hb hrb hacc
    obtain ⟨c', hcl, hci, hcl'⟩ := Corral.learn_ok s.c s.lastActs a (misguide fl s.mis r) p hc hla hr0 hr1 hp
    refine ⟨{ s with c := c', bases := ss' }, ?_, ⟨hci, by simp [i2, hlen, hcl'], i1⟩, fun n hn => i3 n hn⟩
    simp [corralOver, hr0, hr1, hp, hls, hcl]

def sumLaws {B1 B2 : Base} (h1 : B1.Laws) (h2 : B2.Laws) : (sumBase B1 B2).Laws where
  inv := fun s => match s with | .inl s => h1.inv s | .inr s => h2.inv s
  fits := fun s n => match s with | .inl s => h1.fits s n | .inr s => h2.fits s n
  ready := fun s => match s with | .inl s => h1.ready s | .inr s => h2.ready s
  accepts := fun s a r p => match s with | .inl s => h1.accepts s a r p | .inr s => h2.accepts s a r p
  predict_ok := by
    intro s actions hinv hne hnd hfit
    cases s with
    | inl s =>
      obtain ⟨s', a, p, hp, i1, i2, i3, i4, i5⟩ := h1.predict_ok s actions hinv hne hnd hfit
      exact ⟨.inl s', a, p, by simp [sumBase, hp], i1, i2, i3, i4, i5⟩
    | inr s =>
      obtain ⟨s', a, p, hp, i1, i2, i3, i4, i5⟩ := h2.predict_ok s actions hinv hne hnd hfit
      exact ⟨.inr s', a, p, by simp [sumBase, hp], i1, i2, i3, i4, i5⟩
  learn_ok := by
    intro s a r p hinv hready hacc
    cases s with
    | inl s =>
      obtain ⟨s', hl, i1, i2⟩ := h1.learn_ok s a r p hinv hready hacc
      exact ⟨.inl s', by simp [sumBase, hl], i1, i2⟩
    | inr s =>
      obtain ⟨s', hl, i1, i2⟩ := h2.learn_ok s a r p hinv hready hacc
      exact ⟨.inr s', by simp [sumBase, hl], i1, i2⟩

/-- the guarantees at every nesting depth -/
def towerLaws (fl : Rat → Rat) : (n : Nat) → (tower fl n).Laws
  | 0 => leafLaws fl
  | n + 1 => sumLaws (leafLaws fl) (corralLaws fl (towerLaws fl n))

theorem corralLaws_inv {fl : Rat → Rat} {B : Base} {h : B.Laws} {s : (corralOver fl B).σ} :
    (corralLaws fl h).inv s ↔ s.c.Inv ∧ s.bases.length = s.c.ps.length ∧ ∀ b ∈ s.bases, h.inv b := Iff.rfl

theorem corralLaws_ready {fl : Rat → Rat} {B : Base} {h : B.Laws} {s : (corralOver fl B).σ} :
    (corralLaws fl h).ready s ↔ s.lastActs.length = s.c.ps.length ∧ ∀ b ∈ s.bases, h.ready b := Iff.rfl

theorem corralLaws_accepts {fl : Rat → Rat} {B : Base} {h : B.Laws} {s : (corralOver fl B).σ} {a : Act} {r p : Rat} :
    (corralLaws fl h).accepts s a r p ↔ 0 ≤ misguide fl s.mis r ∧ misguide fl s.mis r ≤ 1 ∧ p ≠ 0 ∧
      allAccept h s.bases (corralFeedback s.c.importance s.lastActs s.lastProbs a (misguide fl s.mis r) p) := Iff.rfl

theorem towerLaws_succ_inr_inv {fl : Rat → Rat} {n : Nat} {s : CNode (tower fl n).σ} :
    (towerLaws fl (n + 1)).inv (Sum.inr s) ↔ (corralLaws fl (towerLaws fl n)).inv s := Iff.rfl

theorem towerLaws_succ_inr_ready {fl : Rat → Rat} {n : Nat} {s : CNode (tower fl n).σ} :
    (towerLaws fl (n + 1)).ready (Sum.inr s) ↔ (corralLaws fl (towerLaws fl n)).ready s := Iff.rfl

theorem towerLaws_succ_inr_accepts {fl : Rat → Rat} {n : Nat} {s : CNode (tower fl n).σ} {a : Act} {r p : Rat} :
    (towerLaws fl (n + 1)).accepts (Sum.inr s) a r p ↔ (corralLaws fl (towerLaws fl n)).accepts s a r p := Iff.rfl

end Coba.C16
