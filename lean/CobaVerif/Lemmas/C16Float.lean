/-
The learners in floating point.  `FlRel u fl` is the standard model (every operation rounded with relative error ≤ u);
`Near u m x y` says that `y` is the exact non-negative value `x` computed through at most `m` nested roundings, and
is closed under the operations of the source lines (`Near.fl`, `Near.mul`, `Near.add`, …), so the bound for a float
expression is read off its syntax tree.  With it: the pmfs of the plain learners entry by entry against the exact ones
(`List.Forall₂ (Near u m)`: `epsPmfValsF`, `uniformOnF`, `Kind.pmfF`; the sums follow by `Near.sum_forall₂`) and the pieces of
`CorralLearner.learn` (`pbarF`, `omdF`, `Corral.learnF`).
-/
import CobaVerif.Lemmas.C16

namespace Coba.C16

/-- the standard model of floating point: every operation result is rounded with relative error ≤ u -/
def FlRel (u : Rat) (fl : Rat → Rat) : Prop := ∀ x, |fl x - x| ≤ u * |x|

theorem FlRel.bounds {u : Rat} {fl : Rat → Rat} (h : FlRel u fl) (x : Rat) (hx : 0 ≤ x) :
    (1 - u) * x ≤ fl x ∧ fl x ≤ (1 + u) * x := by
  have := h x
  rw [abs_of_nonneg hx] at this
  have := abs_le.mp this
  constructor <;> linarith [this.1, this.2]

theorem FlRel.u_nonneg {u : Rat} {fl : Rat → Rat} (h : FlRel u fl) : 0 ≤ u := by
  have := h 1
  rw [abs_one, mul_one] at this
  exact le_trans (abs_nonneg _) this

theorem flRel_example : FlRel (1 / 2 ^ 53) (fun x => x * (1 + 1 / 2 ^ 53)) := by
  intro x
  have : x * (1 + 1 / 2 ^ 53) - x = (1 / 2 ^ 53) * x := by ring
  rw [this, abs_mul, abs_of_pos (by positivity : (0 : Rat) < 1 / 2 ^ 53)]

theorem flRel_id : FlRel 0 (fun x => x) := by
  intro x; simp

/-! ### values computed through `m` roundings -/

/-- `y` is the exact value `x ≥ 0` computed with at most `m` nested roundings: relative error within `(1 ± u)^m`.  The sign of `x`
travels with the bound, so that side conditions arise only at the leaves of an expression (`FlRel.near`) and at exact factors. -/
structure Near (u : Rat) (m : Nat) (x y : Rat) : Prop where
  nn : 0 ≤ x
  lo : (1 - u) ^ m * x ≤ y
  hi : y ≤ (1 + u) ^ m * x

section calculus
variable {u x y x' y' c : Rat} {m n : Nat}

theorem Near.refl (hx : 0 ≤ x) : Near u 0 x x := ⟨hx, by simp, by simp⟩

theorem FlRel.near {fl : Rat → Rat} (h : FlRel u fl) (hx : 0 ≤ x) : Near u 1 x (fl x) :=
  ⟨hx, by simpa only [pow_one] using (h.bounds x hx).1, by simpa only [pow_one] using (h.bounds x hx).2⟩

theorem Near.nonneg (hu : u ≤ 1) (hn : Near u m x y) : 0 ≤ y :=
  le_trans (mul_nonneg (pow_nonneg (sub_nonneg.mpr hu) m) hn.nn) hn.lo

theorem Near.pos (hu : u < 1) (hx : 0 < x) (hn : Near u m x y) : 0 < y :=
  lt_of_lt_of_le (mul_pos (pow_pos (sub_pos.mpr hu) m) hx) hn.lo

theorem FlRel.pos {fl : Rat → Rat} (h : FlRel u fl) (hu : u < 1) (x : Rat) (hx : 0 < x) : 0 < fl x :=
  (h.near hx.le).pos hu hx

theorem Near.fl {fl : Rat → Rat} (h : FlRel u fl) (hu : u ≤ 1) (hn : Near u m x y) : Near u (m + 1) x (fl y) := by
  obtain ⟨b1, b2⟩ := h.bounds y (hn.nonneg hu)
  have hu0 := h.u_nonneg
  refine ⟨hn.nn, ?_, ?_⟩
  · calc (1 - u) ^ (m + 1) * x = (1 - u) * ((1 - u) ^ m * x) := by rw [pow_succ', mul_assoc]
      _ ≤ (1 - u) * y := mul_le_mul_of_nonneg_left hn.lo (sub_nonneg.mpr hu)
      _ ≤ fl y := b1
  · calc fl y ≤ (1 + u) * y := b2
      _ ≤ (1 + u) * ((1 + u) ^ m * x) := mul_le_mul_of_nonneg_left hn.hi (by linarith)
      _ = (1 + u) ^ (m + 1) * x := by rw [pow_succ', mul_assoc]

theorem Near.mul (h0 : 0 ≤ u) (hu : u ≤ 1) (hn : Near u m x y) (hn' : Near u n x' y') : Near u (m + n) (x * x') (y * y') := by
  have l0 : 0 ≤ 1 - u := sub_nonneg.mpr hu
  refine ⟨mul_nonneg hn.nn hn'.nn, ?_, ?_⟩
  · calc (1 - u) ^ (m + n) * (x * x') = ((1 - u) ^ m * x) * ((1 - u) ^ n * x') := by rw [pow_add, mul_mul_mul_comm]
      _ ≤ y * y' := mul_le_mul hn.lo hn'.lo (mul_nonneg (pow_nonneg l0 n) hn'.nn) (hn.nonneg hu)
  · calc y * y' ≤ ((1 + u) ^ m * x) * ((1 + u) ^ n * x') :=
          mul_le_mul hn.hi hn'.hi (hn'.nonneg hu) (mul_nonneg (pow_nonneg (add_nonneg zero_le_one h0) m) hn.nn)
      _ = (1 + u) ^ (m + n) * (x * x') := by rw [pow_add, mul_mul_mul_comm]

theorem Near.mul_right (hc : 0 ≤ c) (hn : Near u m x y) : Near u m (x * c) (y * c) :=
  ⟨mul_nonneg hn.nn hc, by rw [← mul_assoc]; exact mul_le_mul_of_nonneg_right hn.lo hc,
    by rw [← mul_assoc]; exact mul_le_mul_of_nonneg_right hn.hi hc⟩

theorem Near.div_right (hc : 0 ≤ c) (hn : Near u m x y) : Near u m (x / c) (y / c) := by
  simpa only [div_eq_mul_inv] using hn.mul_right (inv_nonneg.mpr hc)

theorem Near.add (hn : Near u m x y) (hn' : Near u m x' y') : Near u m (x + x') (y + y') :=
  ⟨add_nonneg hn.nn hn'.nn, by rw [mul_add]; exact add_le_add hn.lo hn'.lo, by rw [mul_add]; exact add_le_add hn.hi hn'.hi⟩

theorem Near.mono (h0 : 0 ≤ u) (hu : u ≤ 1) (hmn : m ≤ n) (hn : Near u m x y) : Near u n x y :=
  ⟨hn.nn, le_trans (mul_le_mul_of_nonneg_right (pow_le_pow_of_le_one (sub_nonneg.mpr hu) (by linarith) hmn) hn.nn) hn.lo,
   le_trans hn.hi (mul_le_mul_of_nonneg_right (pow_le_pow_right₀ (by linarith) hmn) hn.nn)⟩

theorem Near.forall₂_map {α} (l : List α) (g gt : α → Rat) (h : ∀ a ∈ l, Near u m (g a) (gt a)) :
    List.Forall₂ (Near u m) (l.map g) (l.map gt) :=
  List.forall₂_map_left_iff.mpr (List.forall₂_map_right_iff.mpr (List.forall₂_same.mpr h))

theorem Near.sum_forall₂ {xs ys : List Rat} (h : List.Forall₂ (Near u m) xs ys) : Near u m xs.sum ys.sum := by
  induction h with
  | nil => exact ⟨le_rfl, by simp, by simp⟩
  | cons h _ ih => simpa only [List.sum_cons] using h.add ih

theorem Near.nonneg_forall₂ (hu : u ≤ 1) {xs ys : List Rat} (h : List.Forall₂ (Near u m) xs ys) : ∀ y ∈ ys, 0 ≤ y := by
  induction h with
  | nil => exact fun _ hy => nomatch hy
  | cons h _ ih => exact List.forall_mem_cons.mpr ⟨h.nonneg hu, ih⟩

theorem Near.of_one (h0 : 0 ≤ u) (hu : u ≤ 1) (hmn : m ≤ n) (hn : Near u m 1 y) : (1 - u) ^ n ≤ y ∧ y ≤ (1 + u) ^ n := by
  have := hn.mono h0 hu hmn
  exact ⟨by simpa only [mul_one] using this.lo, by simpa only [mul_one] using this.hi⟩

end calculus

/-! ### the pmfs of the plain learners -/

/-- one entry `a*ε + c*(1-ε)` of the epsilon-greedy pmf (`a = 1/n`, `c = [greedy]/k`) -/
theorem eps_entry_near {u : Rat} {fl : Rat → Rat} (h : FlRel u fl) (hu : u ≤ 1) (a c e : Rat) (ha : 0 ≤ a) (hc : 0 ≤ c)
    (h0 : 0 ≤ e) (h1 : e ≤ 1) : Near u 4 (a * e + c * (1 - e)) (fl (fl (fl a * e) + fl (fl c * fl (1 - e)))) := by
  have hu0 := h.u_nonneg
  have A : Near u 2 (a * e) (fl (fl a * e)) := ((h.near ha).mul_right h0).fl h hu
  have B : Near u 3 (c * (1 - e)) (fl (fl c * fl (1 - e))) := ((h.near hc).mul hu0 hu (h.near (sub_nonneg.mpr h1))).fl h hu
  exact ((A.mono hu0 hu (by norm_num)).add B).fl h hu

/-- `n`, `k`, `mx` are variables because with `epsPmfVals`' own length and filter terms in their place
elaboration unfolds those at every entry -/
theorem eps_entries_near {u : Rat} {fl : Rat → Rat} (h : FlRel u fl) (hu : u ≤ 1) (eps : Rat) (h0 : 0 ≤ eps) (h1 : eps ≤ 1)
    (n k : Nat) (mx : Rat) (l : List Rat) :
    List.Forall₂ (Near u 4) (l.map (fun q => 1 / (n : Rat) * eps + (if q = mx then 1 / (k : Rat) else 0) * (1 - eps)))
      (l.map (fun q => fl (fl (fl (1 / (n : Rat)) * eps) + fl (fl ((if q = mx then 1 else 0) / (k : Rat)) * fl (1 - eps))))) := by
  have ha : (0 : Rat) ≤ 1 / (n : Rat) := div_nonneg zero_le_one (Nat.cast_nonneg n)
  refine Near.forall₂_map l _ _ (fun q _ => ?_)
  have hc : (0 : Rat) ≤ (if q = mx then 1 else 0) / (k : Rat) :=
    div_nonneg (by split <;> norm_num) (Nat.cast_nonneg k)
  rw [ite_div, zero_div] at hc ⊢
  exact eps_entry_near h hu _ _ eps ha hc h0 h1

theorem epsPmfValsF_near {u : Rat} {fl : Rat → Rat} (h : FlRel u fl) (hu : u ≤ 1) (eps : Rat) (vals : List Rat)
    (h0 : 0 ≤ eps) (h1 : eps ≤ 1) : List.Forall₂ (Near u 4) (epsPmfVals eps vals) (epsPmfValsF fl eps vals) := by
  cases vals with
  | nil => exact .nil
  | cons v vs => exact eps_entries_near h hu eps h0 h1 _ _ _ _

theorem uniformOnF_near {u : Rat} {fl : Rat → Rat} (h : FlRel u fl) (S : List Act) (k : Nat) (actions : List Act) :
    List.Forall₂ (Near u 1) (uniformOn S k actions) (uniformOnF fl S k actions) := by
  refine Near.forall₂_map actions _ _ (fun a _ => ?_)
  have hc : (0 : Rat) ≤ (if a ∈ S then 1 else 0) / (k : Rat) := div_nonneg (by split <;> norm_num) (Nat.cast_nonneg _)
  rw [ite_div, zero_div] at hc ⊢
  exact h.near hc

/-- the float pmf of BanditUCB takes the branch the exact one takes -/
theorem Ucb.pmfF_of_pmf (fl : Rat → Rat) (val : Act → Rat) (st : Ucb) (actions : List Act) (pmf : List Rat)
    (hpmf : st.pmf val actions = .ok pmf) :
    ∃ S k, pmf = uniformOn S k actions ∧ st.pmfF fl val actions = uniformOnF fl S k actions := by
  unfold Ucb.pmf at hpmf
  unfold Ucb.pmfF
  by_cases hnever : actions.filter (fun a => !dhas st.m a) ≠ []
  · rw [if_pos hnever] at hpmf ⊢
    exact ⟨_, _, (Except.ok.inj hpmf).symm, rfl⟩
  · rw [if_neg hnever] at hpmf ⊢
    cases actions with
    | nil => cases hpmf
    | cons a0 rest =>
      simp only at hpmf ⊢
      split_ifs at hpmf
      exact ⟨_, _, (Except.ok.inj hpmf).symm, rfl⟩

theorem Kind.pmfF_near {u : Rat} {fl : Rat → Rat} (h : FlRel u fl) (hu : u ≤ 1) (val : Act → Rat) (k : Kind) (actions : List Act)
    (pmf : List Rat) (hinv : k.Inv) (hpmf : k.pmf val actions = .ok pmf) :
    List.Forall₂ (Near u 4) pmf (k.pmfF fl val actions) := by
  have hu0 := h.u_nonneg
  cases k with
  | eps st =>
    obtain rfl := Except.ok.inj hpmf
    exact epsPmfValsF_near h hu st.eps (actions.map st.q) hinv.1 hinv.2
  | fixed p =>
    obtain rfl := Except.ok.inj hpmf
    exact List.forall₂_same.mpr (fun x hx => (Near.refl (hinv.1 x hx)).mono hu0 hu (Nat.zero_le 4))
  | random =>
    obtain rfl := Except.ok.inj hpmf
    have hx : (0 : Rat) ≤ 1 / (actions.length : Rat) := by positivity
    have := Near.forall₂_map (List.replicate actions.length ()) (fun _ => 1 / (actions.length : Rat)) (fun _ => fl (1 / (actions.length : Rat)))
      (fun _ _ => (h.near hx).mono hu0 hu (by norm_num : 1 ≤ 4))
    rw [List.map_replicate, List.map_replicate] at this
    exact this
  | ucb st =>
    obtain ⟨S, k, rfl, hF⟩ := Ucb.pmfF_of_pmf fl val st actions pmf hpmf
    show List.Forall₂ (Near u 4) _ (st.pmfF fl val actions)
    rw [hF]
    exact (uniformOnF_near h S k actions).imp (fun _ _ hn => hn.mono hu0 hu (by norm_num))

theorem abs_sub_one_le_of_between {lo hi s δ : Rat} (h1 : lo ≤ s) (h2 : s ≤ hi) (hlo : 1 - δ ≤ lo) (hhi : hi ≤ 1 + δ) :
    |s - 1| ≤ δ :=
  abs_le.mpr ⟨by linarith, by linarith⟩

/-- binary64 (u = 2^-53), four roundings, against the property's 1e-4 -/
theorem double_tol : (1 : Rat) - 1 / 10000 ≤ (1 - 1 / 2 ^ 53) ^ 4 ∧ (1 + 1 / 2 ^ 53 : Rat) ^ 4 ≤ 1 + 1 / 10000 := by
  norm_num

/-! ### `CorralLearner.learn` in floats -/

theorem pbarF_near {u : Rat} {fl : Rat → Rat} (h : FlRel u fl) (hu : u ≤ 1) (gamma : Rat) (g0 : 0 ≤ gamma) (g1 : gamma ≤ 1)
    (M : Nat) (p : Rat) (hp : 0 ≤ p) : Near u 3 ((1 - gamma) * p + gamma / (M : Rat)) (pbarF fl gamma M p) := by
  unfold pbarF
  have A : Near u 2 ((1 - gamma) * p) (fl (fl (1 - gamma) * p)) := ((h.near (sub_nonneg.mpr g1)).mul_right hp).fl h hu
  have B : Near u 2 (gamma / (M : Rat)) (fl (fl (gamma * 1) / (M : Rat))) := by
    rw [mul_one]; exact ((h.near g0).div_right (Nat.cast_nonneg M)).fl h hu
  exact (A.add B).fl h hu

/-- what is assumed about CPython's compensated `sum` (`pySum`): relative accuracy τ on positive lists -/
def SumRel (τ : Rat) (fl : Rat → Rat) : Prop := ∀ xs : List Rat, (∀ x ∈ xs, 0 < x) → |pySum fl xs - xs.sum| ≤ τ * xs.sum

theorem pos_of_rel_err {total S τ : Rat} (hτ1 : τ < 1) (hS : 0 < S) (h : |total - S| ≤ τ * S) : 0 < total := by
  linarith only [(abs_le.mp h).1, mul_pos (sub_pos.mpr hτ1) hS]

theorem pySumAux_id (s : Rat) (xs : List Rat) : pySumAux (fun x => x) s 0 xs = s + xs.sum := by
  induction xs generalizing s with
  | nil => simp [pySumAux]
  | cons x xs ih =>
    have e1 : (0 : Rat) + (s - (s + x) + x) = 0 := by ring
    have e2 : (0 : Rat) + (x - (s + x) + s) = 0 := by ring
    simp only [pySumAux, e1, e2, ite_self, ih, List.sum_cons]
    ring

theorem sumRel_id : SumRel 0 (fun x => x) := by
  intro xs _
  simp [pySum, pySumAux_id]

/-- the invariant of the float-faithful Corral state -/
structure CorralF.Inv (c : Corral) : Prop where
  len : c.etas.length = c.ps.length
  ne : c.ps ≠ []
  ps_pos : ∀ p ∈ c.ps, 0 < p
  pbars_pos : ∀ p ∈ c.pbars, 0 < p
  etas_pos : ∀ e ∈ c.etas, 0 < e

/-- "in the simplex" for float weights: strictly positive, sums within the rounding of their construction -/
def SimplexF (u τ : Rat) (c : Corral) : Prop :=
  ((1 - u) / (1 + τ) ≤ c.ps.sum ∧ c.ps.sum ≤ (1 + u) / (1 - τ)) ∧
    ((1 - u) ^ 3 * ((1 - c.gamma) * c.ps.sum + c.gamma) ≤ c.pbars.sum ∧
      c.pbars.sum ≤ (1 + u) ^ 3 * ((1 - c.gamma) * c.ps.sum + c.gamma))

/-- `(1-γ)Σp + γ` is a convex combination of `Σp` and 1, so it is within `δ` of 1 when `Σp` is; the second sum pays `δ` twice -/
theorem SimplexF.tol {u τ δ : Rat} {c : Corral} (g0 : 0 ≤ c.gamma) (g1 : c.gamma ≤ 1) (hS : SimplexF u τ c)
    (hδ0 : 0 ≤ δ) (hδ1 : δ ≤ 1) (A : 1 - δ ≤ (1 - u) / (1 + τ)) (B : (1 + u) / (1 - τ) ≤ 1 + δ)
    (C : 1 - δ ≤ (1 - u) ^ 3) (D : (1 + u) ^ 3 ≤ 1 + δ) :
    |c.ps.sum - 1| ≤ δ ∧ |c.pbars.sum - 1| ≤ 2 * δ + δ ^ 2 := by
  obtain ⟨⟨a1, a2⟩, b1, b2⟩ := hS
  have hs1 : 1 - δ ≤ c.ps.sum := le_trans A a1
  have hs2 : c.ps.sum ≤ 1 + δ := le_trans a2 B
  have hg : 0 ≤ 1 - c.gamma := sub_nonneg.mpr g1
  have hgd := mul_nonneg g0 hδ0
  have hm1 : 1 - δ ≤ (1 - c.gamma) * c.ps.sum + c.gamma := by
    linarith only [mul_le_mul_of_nonneg_left hs1 hg, hgd]
  have hm2 : (1 - c.gamma) * c.ps.sum + c.gamma ≤ 1 + δ := by
    linarith only [mul_le_mul_of_nonneg_left hs2 hg, hgd]
  have hd : 0 ≤ 1 - δ := sub_nonneg.mpr hδ1
  have hm0 : 0 ≤ (1 - c.gamma) * c.ps.sum + c.gamma := le_trans hd hm1
  have k1 : (1 - δ) * (1 - δ) ≤ c.pbars.sum :=
    le_trans (le_trans (mul_le_mul_of_nonneg_left hm1 hd) (mul_le_mul_of_nonneg_right C hm0)) b1
  have k2 : c.pbars.sum ≤ (1 + δ) * (1 + δ) :=
    le_trans b2 (le_trans (mul_le_mul_of_nonneg_right D hm0) (mul_le_mul_of_nonneg_left hm2 (by linarith only [hδ0])))
  exact ⟨abs_sub_one_le_of_between hs1 hs2 le_rfl le_rfl,
    abs_sub_one_le_of_between k1 k2 (by linarith only [sq_nonneg δ]) (by linarith only [sq_nonneg δ])⟩

theorem omdF_cons_eq_some {fl : Rat → Rat} {fuel : Nat} {ps etas : List Rat} {l0 : Rat} {ls ws : List Rat} {h : Bool}
    (hres : omdF fl fuel ps etas (l0 :: ls) = some (ws, h)) :
    ∃ cur, omdRawF fl ps etas (l0 :: ls) (minOf l0 ls) = some cur ∧
      (ws, h) =
        let res := bisect (fun l r => fl (fl (l + r) / 2)) (fun cur => rounds1 (pySum fl cur)) (omdRawF fl ps etas (l0 :: ls))
          (fun xs => decide (1 < pySum fl xs)) fuel (minOf l0 ls) (maxOf l0 ls) cur
        (res.1.2.map (fun p => fl (p / pySum fl res.1.2)), res.2) := by
  unfold omdF at hres
  cases hlo : omdRawF fl ps etas (l0 :: ls) (minOf l0 ls) with
  | none => simp [hlo] at hres
  | some cur =>
    simp only [hlo] at hres
    exact ⟨cur, rfl, (Option.some.inj hres).symm⟩

theorem Corral.learnF_eq_ok {fl : Rat → Rat} {fuel : Nat} {c c' : Corral} {bacts : List Act} {a : Act} {r p : Rat} {hh : Bool}
    (hres : c.learnF fl fuel bacts a r p = .ok (c', hh)) :
    ∃ ws, omdF fl fuel c.ps c.etas (corralLossesF fl bacts a r p) = some (ws, hh) ∧
      c' = { c with ps := ws, pbars := smoothF fl c.gamma c.ps.length ws,
                    etas := (etaRhoF fl c.beta (smoothF fl c.gamma c.ps.length ws) c.etas c.rhos).1,
                    rhos := (etaRhoF fl c.beta (smoothF fl c.gamma c.ps.length ws) c.etas c.rhos).2 } := by
  simp only [Corral.learnF] at hres
  split at hres
  · cases hres
  split at hres
  · cases hres
  split at hres
  · cases hres
  rename_i ws halted homd
  simp only [Except.ok.injEq, Prod.mk.injEq] at hres
  obtain ⟨rfl, rfl⟩ := hres
  exact ⟨ws, homd, rfl⟩

end Coba.C16
