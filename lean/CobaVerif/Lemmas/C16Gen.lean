/-
C16: the acceptance predicate of nested compositions.  `allAccept` against the executable `allAcceptB`, off-policy feedback; `Base.Laws.Decides`
(an executable predicate decides `accepts`, and what it rejects makes `learn` raise) is to `acceptsB` what `Base.Laws` is to the learners:
`leafDecides`, `corralDecides` (a Corral node over ANY base learners with decided acceptance), `sumDecides` and `towerDecides` stand beside
`leafLaws`, `corralLaws`, `sumLaws` and `towerLaws`.  With the witness compositions of the `example`s.
-/
import CobaVerif.Lemmas.C16

namespace Coba.C16

/-! ### `allAccept` and `allAcceptB` speak about the zipped list -/

theorem allAccept_iff_zip {B : Base} (h : B.Laws) : ∀ (ss : List B.σ) (fs : List (Act × Rat × Rat)),
    allAccept h ss fs ↔ ∀ x ∈ ss.zip fs, h.accepts x.1 x.2.1 x.2.2.1 x.2.2.2
  | [], _ => iff_of_true trivial (by simp)
  | _ :: _, [] => iff_of_true trivial (by simp)
  | s :: ss, (a, r, p) :: fs => by
    rw [List.zip_cons_cons, List.forall_mem_cons]
    exact and_congr_right' (allAccept_iff_zip h ss fs)

theorem allAcceptB_eq_all {σ : Type} (acc : σ → Act → Rat → Rat → Bool) : ∀ (ss : List σ) (fs : List (Act × Rat × Rat)),
    allAcceptB acc ss fs = (ss.zip fs).all (fun x => acc x.1 x.2.1 x.2.2.1 x.2.2.2)
  | [], _ => by rw [List.zip_nil_left]; rfl
  | _ :: _, [] => rfl
  | s :: ss, (a, r, p) :: fs => congrArg (acc s a r p && ·) (allAcceptB_eq_all acc ss fs)

/-! ### `accepts` at the depth the property speaks about (Corral over plain learners) -/

theorem allAccept_leaf (fl : Rat → Rat) (ss : List (leafBase fl).σ) (fs : List (Act × Rat × Rat)) : allAccept (leafLaws fl) ss fs :=
  (allAccept_iff_zip _ ss fs).mpr (fun _ _ => trivial)

/-! ### `accepts` at every depth against the executable `acceptsB` -/

theorem allAccept_iff_B {B : Base} (h : B.Laws) (acc : B.σ → Act → Rat → Rat → Bool)
    (hacc : ∀ s a r p, h.accepts s a r p ↔ acc s a r p = true) (ss : List B.σ) (fs : List (Act × Rat × Rat)) :
    allAccept h ss fs ↔ allAcceptB acc ss fs = true := by
  rw [allAccept_iff_zip, allAcceptB_eq_all, List.all_eq_true]
  exact forall₂_congr (fun x _ => hacc _ _ _ _)

/-- `L.map (fun _ => (a, r, p))` is `corralFeedback` in off-policy mode -/
theorem allAccept_const {B : Base} (h : B.Laws) (a : Act) (r p : Rat) (ss : List B.σ) (L : List Act) (hL : L.length = ss.length) :
    allAccept h ss (L.map (fun _ => (a, r, p))) ↔ ∀ b ∈ ss, h.accepts b a r p := by
  rw [allAccept_iff_zip, List.zip_map_right, List.forall_mem_map]
  conv_rhs => rw [← List.map_fst_zip (l₂ := L) hL.ge, List.forall_mem_map]
  rfl

/-- a tower in which every Corral runs off-policy, carries no Misguided wrapper and has predicted (holds one base choice per base learner) -/
def offPolicyPlain (fl : Rat → Rat) : (n : Nat) → (tower fl n).σ → Prop
  | 0 => fun _ => True
  | n + 1 => fun (s : Leaf ⊕ CNode (tower fl n).σ) =>
    match s with
    | .inl _ => True
    | .inr s => s.c.importance = false ∧ s.mis = [] ∧ s.lastActs.length = s.bases.length ∧ ∀ b ∈ s.bases, offPolicyPlain fl n b

/-! ### the executable predicate decides `accepts`; feedback it rejects makes `learn` raise -/

/-- what Python raises for rejected feedback: the inner Corral's `assert`, or `/ probability` -/
def RejectErr (e : PErr) : Prop := e = .assertion ∨ e = .zeroDivision

/-- the executable twin of `Base.Laws.accepts`: `acc` decides it, and feedback it rejects makes `learn` raise (never return silently) -/
structure Base.Laws.Decides {B : Base} (h : B.Laws) (acc : B.σ → Act → Rat → Rat → Bool) : Prop where
  iff : ∀ s a r p, h.accepts s a r p ↔ acc s a r p = true
  raises : ∀ s a r p, h.inv s → h.ready s → acc s a r p = false → ∃ e, B.learn s a r p = .error e ∧ RejectErr e

theorem Base.Laws.Decides.learn_ok_iff {B : Base} {h : B.Laws} {acc : B.σ → Act → Rat → Rat → Bool} (d : h.Decides acc)
    (s : B.σ) (a : Act) (r p : Rat) (hinv : h.inv s) (hready : h.ready s) :
    (∃ s', B.learn s a r p = .ok s') ↔ acc s a r p = true := by
  constructor
  · rintro ⟨s', hs'⟩
    cases hb : acc s a r p with
    | true => rfl
    | false =>
      obtain ⟨e, he, _⟩ := d.raises s a r p hinv hready hb
      rw [hs'] at he; cases he
  · intro hb
    obtain ⟨s', hs', _⟩ := h.learn_ok s a r p hinv hready ((d.iff s a r p).mpr hb)
    exact ⟨s', hs'⟩

theorem learnAll_err_kind {B : Base} {h : B.Laws} {acc : B.σ → Act → Rat → Rat → Bool} (d : h.Decides acc) :
    ∀ (ss : List B.σ) (fs : List (Act × Rat × Rat)), (∀ s ∈ ss, h.inv s) → (∀ s ∈ ss, h.ready s) →
      allAcceptB acc ss fs = false → ∃ e, learnAll B ss fs = .error e ∧ RejectErr e := by
  intro ss
  induction ss with
  | nil => intro fs _ _ hf; simp [allAcceptB] at hf
  | cons s ss ih =>
    intro fs hinv hready hf
    cases fs with
    | nil => simp [allAcceptB] at hf
    | cons f fs =>
      obtain ⟨a, r, p⟩ := f
      obtain ⟨hinv1, hinv2⟩ := List.forall_mem_cons.mp hinv
      obtain ⟨hready1, hready2⟩ := List.forall_mem_cons.mp hready
      simp only [allAcceptB, Bool.and_eq_false_iff] at hf
      cases hb : acc s a r p with
      | false =>
        obtain ⟨e, he, hk⟩ := d.raises s a r p hinv1 hready1 hb
        exact ⟨e, by simp [learnAll, he], hk⟩
      | true =>
        obtain ⟨s', hl, _⟩ := h.learn_ok s a r p hinv1 hready1 ((d.iff s a r p).mpr hb)
        rcases hf with hf | hf
        · rw [hb] at hf; cases hf
        · obtain ⟨e, he, hk⟩ := ih fs hinv2 hready2 hf
          exact ⟨e, by simp [learnAll, hl, he], hk⟩

theorem corralOver_learn_guard (fl : Rat → Rat) (B : Base) (s : (corralOver fl B).σ) (a : Act) (r p : Rat)
    (h : ¬ (0 ≤ misguide fl s.mis r ∧ misguide fl s.mis r ≤ 1 ∧ p ≠ 0)) :
    ∃ e, (corralOver fl B).learn s a r p = .error e ∧ RejectErr e := by
  by_cases h01 : 0 ≤ misguide fl s.mis r ∧ misguide fl s.mis r ≤ 1
  · have hp : p = 0 := not_not.mp (fun hp => h ⟨h01.1, h01.2, hp⟩)
    exact ⟨.zeroDivision, by simp [corralOver, h01.1, h01.2, hp], Or.inr rfl⟩
  · exact ⟨.assertion, by simp only [corralOver, ← Bool.decide_and, decide_eq_false h01, Bool.not_false, if_true], Or.inl rfl⟩

theorem corralOver_learn_bases_err (fl : Rat → Rat) (B : Base) (s : (corralOver fl B).σ) (a : Act) (r p : Rat) (e : PErr)
    (h0 : 0 ≤ misguide fl s.mis r) (h1 : misguide fl s.mis r ≤ 1) (hp : p ≠ 0)
    (he : learnAll B s.bases (corralFeedback s.c.importance s.lastActs s.lastProbs a (misguide fl s.mis r) p) = .error e) :
    (corralOver fl B).learn s a r p = .error e := by
  simp [corralOver, h0, h1, hp, he]

theorem corralDecides (fl : Rat → Rat) {B : Base} {h : B.Laws} {acc : B.σ → Act → Rat → Rat → Bool} (d : h.Decides acc) :
    (corralLaws fl h).Decides (fun s a r p =>
      decide (0 ≤ misguide fl s.mis r) && decide (misguide fl s.mis r ≤ 1) && !decide (p = 0) &&
        allAcceptB acc s.bases (corralFeedback s.c.importance s.lastActs s.lastProbs a (misguide fl s.mis r) p)) := by
  refine ⟨fun s a r p => ?_, fun s a r p hinv hready hrej => ?_⟩
  · simp only [corralLaws_accepts, allAccept_iff_B h acc d.iff, Bool.and_eq_true, decide_eq_true_eq, Bool.not_eq_true', decide_eq_false_iff_not,
      and_assoc, ne_eq]
  · obtain ⟨_, _, hb⟩ := corralLaws_inv.mp hinv
    obtain ⟨_, hrb⟩ := corralLaws_ready.mp hready
    by_cases hg : 0 ≤ misguide fl s.mis r ∧ misguide fl s.mis r ≤ 1 ∧ p ≠ 0
    · have hall : allAcceptB acc s.bases (corralFeedback s.c.importance s.lastActs s.lastProbs a (misguide fl s.mis r) p) = false := by
        simpa only [hg.1, hg.2.1, hg.2.2, decide_true, decide_false, Bool.not_false, Bool.true_and] using hrej
      obtain ⟨e, he, hk⟩ := learnAll_err_kind d s.bases _ hb hrb hall
      exact ⟨e, corralOver_learn_bases_err fl _ s a r p e hg.1 hg.2.1 hg.2.2 he, hk⟩
    · exact corralOver_learn_guard fl _ s a r p hg

theorem leafDecides (fl : Rat → Rat) : (leafLaws fl).Decides (fun _ _ _ _ => true) :=
  ⟨fun _ _ _ _ => iff_of_true trivial rfl, fun _ _ _ _ _ _ h => nomatch h⟩

/-- `acc` is given by its two restrictions and not as a `match`, so that a function defined by a `match` of its own (`acceptsB`) fits by `rfl` -/
theorem sumDecides {B1 B2 : Base} {h1 : B1.Laws} {h2 : B2.Laws} {acc1 : B1.σ → Act → Rat → Rat → Bool} {acc2 : B2.σ → Act → Rat → Rat → Bool}
    (d1 : h1.Decides acc1) (d2 : h2.Decides acc2) {acc : B1.σ ⊕ B2.σ → Act → Rat → Rat → Bool}
    (hl : ∀ s, acc (.inl s) = acc1 s) (hr : ∀ s, acc (.inr s) = acc2 s) : (sumLaws h1 h2).Decides acc := by
  refine ⟨fun s a r p => ?_, fun s a r p hinv hready hrej => ?_⟩
  · cases s with
    | inl s => rw [hl]; exact d1.iff s a r p
    | inr s => rw [hr]; exact d2.iff s a r p
  · cases s with
    | inl s =>
      obtain ⟨e, he, hk⟩ := d1.raises s a r p hinv hready (hl s ▸ hrej)
      exact ⟨e, by simp [sumBase, he], hk⟩
    | inr s =>
      obtain ⟨e, he, hk⟩ := d2.raises s a r p hinv hready (hr s ▸ hrej)
      exact ⟨e, by simp [sumBase, he], hk⟩

theorem towerDecides (fl : Rat → Rat) : ∀ n, (towerLaws fl n).Decides (acceptsB fl n)
  | 0 => leafDecides fl
  | n + 1 => sumDecides (leafDecides fl) (corralDecides fl (towerDecides fl n)) (fun _ => rfl) (fun _ => rfl)

/-- witness compositions for the `example` beside `accepts_iff_acceptsB`: a Corral (importance / off-policy) over one importance Corral -/
def accCorral (imp : Bool) (ps : List Rat) : Corral :=
  { gamma := 0, beta := 1, importance := imp, ps := ps, pbars := ps, etas := ps, rhos := ps, rng := 0 }
def accInner : (tower (fun x => x) 1).σ := Sum.inr { c := accCorral true [], bases := [] }
def accTop (imp : Bool) : (tower (fun x => x) 2).σ :=
  Sum.inr { c := accCorral imp [1], lastActs := [0], lastProbs := [1], bases := [accInner] }

/-- witness for the non-vacuity `example` beside `rejected_feedback_raises`: an importance Corral over an importance Corral over a RandomLearner,
all having predicted; reward 1 at probability 1/2 reaches the inner Corral as 2 -/
def rejLeaf : Leaf := { L := { kind := .random, rng := 0 }, val := fun _ _ => 0 }
def rejInner : (tower (fun x => x) 1).σ := Sum.inr { c := accCorral true [1], lastActs := [0], lastProbs := [1], bases := [rejLeaf] }
def rejTop : (tower (fun x => x) 2).σ := Sum.inr { c := accCorral true [1], lastActs := [0], lastProbs := [1], bases := [rejInner] }

theorem accCorral_inv (imp : Bool) (ps : List Rat) (hne : ps ≠ []) (hpos : ∀ p ∈ ps, 0 < p) (hsum : ps.sum = 1) : (accCorral imp ps).Inv :=
  ⟨hne, rfl, rfl, rfl, hpos, hsum, hpos, hsum, hpos, le_rfl, zero_le_one, one_pos⟩

theorem rejTop_ok : (towerLaws (fun x => x) 2).inv rejTop ∧ (towerLaws (fun x => x) 2).ready rejTop ∧
    acceptsB (fun x => x) 2 rejTop 0 1 (1 / 2) = false := by
  -- each level is a Corral node over a single base: its `inv` / `ready` is the node's own part and that of the one base
  have hleaf : (towerLaws (fun x => x) 0).inv rejLeaf := trivial
  have hc : (accCorral true [1]).Inv := accCorral_inv true [1] (List.cons_ne_nil _ _) (by simp) (by simp)
  have hinner : (towerLaws (fun x => x) 1).inv rejInner :=
    towerLaws_succ_inr_inv.mpr (corralLaws_inv.mpr ⟨hc, rfl, List.forall_mem_singleton.mpr hleaf⟩)
  have rinner : (towerLaws (fun x => x) 1).ready rejInner :=
    towerLaws_succ_inr_ready.mpr (corralLaws_ready.mpr ⟨rfl, List.forall_mem_singleton.mpr trivial⟩)
  exact ⟨towerLaws_succ_inr_inv.mpr (corralLaws_inv.mpr ⟨hc, rfl, List.forall_mem_singleton.mpr hinner⟩),
    towerLaws_succ_inr_ready.mpr (corralLaws_ready.mpr ⟨rfl, List.forall_mem_singleton.mpr rinner⟩), by decide +kernel⟩

end Coba.C16
