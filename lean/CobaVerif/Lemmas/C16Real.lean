import CobaVerif.Lemmas.C16
import Mathlib.Topology.Algebra.Order.Field
import Mathlib.Topology.Order.IntermediateValue
import Mathlib.Topology.Algebra.Monoid
import Mathlib.Data.Real.Basic
import Mathlib.Topology.Instances.Real.Lemmas
import Mathlib.Data.Rat.BigOperators

/-!
The log-barrier update of Corral over the reals: the function
`f(λ) = Σ_i 1 / (1/p_i + η_i (ℓ_i - λ))` on the set where every denominator is positive
(`λ` left of every pole `ℓ_i + 1/(p_i η_i)`) is continuous and strictly increasing, is at most `Σ p`
at `min ℓ`, reaches at least 1 before the first pole, hence has exactly one root of `f = 1` there,
and that root lies in the bracket `[min ℓ, max ℓ]` the repaired search bisects.
-/
namespace Coba.C16
open Set

/-- a base learner's (weight, learning rate, loss) -/
abbrev Tri := ℝ × ℝ × ℝ

noncomputable def Tri.den (t : Tri) (x : ℝ) : ℝ := 1 / t.1 + t.2.1 * (t.2.2 - x)
noncomputable def Tri.pole (t : Tri) : ℝ := t.2.2 + 1 / (t.1 * t.2.1)

/-- `f` -/
noncomputable def barrier : List Tri → ℝ → ℝ
  | [], _ => 0
  | t :: T, x => 1 / t.den x + barrier T x

/-- the weight and the learning rate are positive: what `Corral.Inv` gives for every base learner -/
structure TriOk (t : Tri) : Prop where
  weight_pos : 0 < t.1
  rate_pos : 0 < t.2.1

theorem Tri.den_eq (t : Tri) (h : TriOk t) (x : ℝ) : t.den x = t.2.1 * (t.pole - x) := by
  have hp := h.weight_pos
  have he := h.rate_pos
  unfold Tri.den Tri.pole
  field_simp
  ring

theorem Tri.den_pos_iff (t : Tri) (h : TriOk t) (x : ℝ) : 0 < t.den x ↔ x < t.pole := by
  rw [t.den_eq h, mul_pos_iff_of_pos_left h.rate_pos, sub_pos]

/-- left of every pole -/
def Below (T : List Tri) (x : ℝ) : Prop := ∀ t ∈ T, x < t.pole

/-- every fact about `f` below is the fact about one term, summed -/
theorem barrier_eq_sum (T : List Tri) (x : ℝ) : barrier T x = (T.map (fun t => 1 / t.den x)).sum := by
  induction T with
  | nil => rfl
  | cons t T ih => simp only [barrier, ih, List.map_cons, List.sum_cons]

theorem Tri.inv_den_pos (t : Tri) (h : TriOk t) {x : ℝ} (hx : x < t.pole) : 0 < 1 / t.den x :=
  one_div_pos.mpr ((t.den_pos_iff h x).mpr hx)

theorem Tri.inv_den_strictMono (t : Tri) (h : TriOk t) {x y : ℝ} (hxy : x < y) (hy : y < t.pole) :
    1 / t.den x < 1 / t.den y :=
  one_div_lt_one_div_of_lt ((t.den_pos_iff h y).mpr hy)
    (add_lt_add_of_le_of_lt le_rfl (mul_lt_mul_of_pos_left (sub_lt_sub_left hxy _) h.rate_pos))

theorem Tri.one_le_inv_den (t : Tri) (h : TriOk t) {x : ℝ} (h1 : t.pole - 1 / t.2.1 ≤ x) (h2 : x < t.pole) : 1 ≤ 1 / t.den x := by
  have hden : t.den x ≤ 1 := by
    rw [t.den_eq h]
    calc t.2.1 * (t.pole - x) ≤ t.2.1 * (1 / t.2.1) := mul_le_mul_of_nonneg_left (by linarith only [h1]) h.rate_pos.le
      _ = 1 := mul_one_div_cancel h.rate_pos.ne'
  exact (one_le_div ((t.den_pos_iff h x).mpr h2)).mpr hden

theorem barrier_strictMono (T : List Tri) (hne : T ≠ []) (hT : ∀ t ∈ T, TriOk t) (x y : ℝ) (hxy : x < y)
    (hy : Below T y) : barrier T x < barrier T y := by
  rw [barrier_eq_sum, barrier_eq_sum]
  exact List.sum_lt_sum_of_ne_nil hne _ _ (fun t ht => Tri.inv_den_strictMono t (hT t ht) hxy (hy t ht))

theorem barrier_continuousOn (T : List Tri) (hT : ∀ t ∈ T, TriOk t) :
    ContinuousOn (barrier T) {x | Below T x} := by
  rw [funext (barrier_eq_sum T)]
  refine continuousOn_list_sum T (fun t ht => ContinuousOn.div continuousOn_const ?_ ?_)
  · unfold Tri.den; fun_prop
  · exact fun x hx => ne_of_gt ((t.den_pos_iff (hT t ht) x).mpr (hx t ht))

theorem barrier_le_sum (T : List Tri) (hT : ∀ t ∈ T, TriOk t) (x : ℝ) (hx : ∀ t ∈ T, x ≤ t.2.2) :
    barrier T x ≤ (T.map (fun t => t.1)).sum := by
  rw [barrier_eq_sum]
  exact List.sum_le_sum (fun t ht => omdTerm_le_weight (hT t ht).weight_pos (hT t ht).rate_pos.le (hx t ht))

theorem sum_le_barrier (T : List Tri) (hT : ∀ t ∈ T, TriOk t) (x : ℝ) (hx : ∀ t ∈ T, t.2.2 ≤ x) (hb : Below T x) :
    (T.map (fun t => t.1)).sum ≤ barrier T x := by
  rw [barrier_eq_sum]
  exact List.sum_le_sum (fun t ht =>
    weight_le_omdTerm (hT t ht).rate_pos.le (hx t ht) ((t.den_pos_iff (hT t ht) x).mpr (hb t ht)))

theorem barrier_ge_term (T : List Tri) (hT : ∀ t ∈ T, TriOk t) (x : ℝ) (hb : Below T x) (t : Tri) (ht : t ∈ T) :
    1 / t.den x ≤ barrier T x := by
  rw [barrier_eq_sum]
  refine List.single_le_sum (fun y hy => ?_) _ (List.mem_map_of_mem (f := fun t : Tri => 1 / t.den x) ht)
  obtain ⟨s, hs, rfl⟩ := List.mem_map.mp hy
  exact (Tri.inv_den_pos s (hT s hs) (hb s hs)).le

theorem exists_argmin (T : List Tri) (hne : T ≠ []) (f : Tri → ℝ) : ∃ m ∈ T, ∀ t ∈ T, f m ≤ f t := by
  cases h : List.argmin f T with
  | none => exact absurd (List.argmin_eq_none.mp h) hne
  | some m => exact ⟨m, List.argmin_mem h, fun t ht => List.le_of_mem_argmin ht h⟩

theorem Tri.loss_lt_pole (t : Tri) (h : TriOk t) : t.2.2 < t.pole :=
  lt_add_of_pos_right _ (one_div_pos.mpr (mul_pos h.weight_pos h.rate_pos))

/-- the intermediate value theorem between `min ℓ`, where `f ≤ Σp = 1`, and a point before the first pole where one term alone
is at least 1; uniqueness and `root ≤ max ℓ` (where `f ≥ Σp`) by strict monotonicity -/
theorem barrier_unique_root (T : List Tri) (hne : T ≠ []) (hT : ∀ t ∈ T, TriOk t)
    (hsum : (T.map (fun t => t.1)).sum = 1) :
    ∃ x, Below T x ∧ barrier T x = 1 ∧ (∀ y, Below T y → barrier T y = 1 → y = x) ∧
      (∃ m ∈ T, (∀ t ∈ T, m.2.2 ≤ t.2.2) ∧ m.2.2 ≤ x) ∧ (∃ M ∈ T, (∀ t ∈ T, t.2.2 ≤ M.2.2) ∧ x ≤ M.2.2) := by
  obtain ⟨tm, htm, hmin⟩ := exists_argmin T hne (fun t => t.2.2)
  obtain ⟨tM, htM, hmax⟩ := exists_argmin T hne (fun t => -t.2.2)
  obtain ⟨tP, htP, hpole⟩ := exists_argmin T hne (fun t => t.pole)
  simp only [neg_le_neg_iff] at hmax
  set lo := tm.2.2 with hlo
  have hokP := hT tP htP
  have hloP : lo < tP.pole := lt_of_le_of_lt (hmin tP htP) (tP.loss_lt_pole hokP)
  have below_of_lt : ∀ x, x < tP.pole → Below T x := fun x hx t ht => lt_of_lt_of_le hx (hpole t ht)
  have hblo : Below T lo := below_of_lt lo hloP
  have hflo : barrier T lo ≤ 1 := by rw [← hsum]; exact barrier_le_sum T hT lo hmin
  -- a point before the first pole where one term alone is at least 1
  set b := max lo (tP.pole - 1 / tP.2.1) with hb
  have hbP : b < tP.pole := max_lt hloP (sub_lt_self _ (one_div_pos.mpr hokP.rate_pos))
  have hbb : Below T b := below_of_lt b hbP
  have hfb : 1 ≤ barrier T b :=
    le_trans (tP.one_le_inv_den hokP (le_max_right _ _) hbP) (barrier_ge_term T hT b hbb tP htP)
  have hlob : lo ≤ b := le_max_left _ _
  have hcont : ContinuousOn (barrier T) (Icc lo b) :=
    (barrier_continuousOn T hT).mono (fun x hx => below_of_lt x (lt_of_le_of_lt hx.2 hbP))
  obtain ⟨x, hx, hfx⟩ := intermediate_value_Icc hlob hcont ⟨hflo, hfb⟩
  have hbx : Below T x := below_of_lt x (lt_of_le_of_lt hx.2 hbP)
  have huniq : ∀ y, Below T y → barrier T y = 1 → y = x := by
    intro y hy hfy
    rcases lt_trichotomy y x with h | h | h
    · have := barrier_strictMono T hne hT y x h hbx; linarith
    · exact h
    · have := barrier_strictMono T hne hT x y h hy; linarith
  refine ⟨x, hbx, hfx, huniq, ⟨tm, htm, hmin, hx.1⟩, ⟨tM, htM, hmax, ?_⟩⟩
  -- the root is not right of the largest loss
  by_contra hcon
  have hlt : tM.2.2 < x := not_le.mp hcon
  have hbM : Below T tM.2.2 := fun t ht => lt_trans hlt (hbx t ht)
  have h1 : 1 ≤ barrier T tM.2.2 := by rw [← hsum]; exact sum_le_barrier T hT _ hmax hbM
  have := barrier_strictMono T hne hT _ x hlt hbx
  linarith

/-! ### the tie to the rational model -/

/-- the model's three lists as real triples (stops at the shortest, like `zip`) -/
def tris : List Rat → List Rat → List Rat → List Tri
  | p :: ps, e :: es, l :: ls => ((p : ℝ), (e : ℝ), (l : ℝ)) :: tris ps es ls
  | _, _, _ => []

theorem tris_eq_map (ps etas losses : List Rat) :
    tris ps etas losses = (ps.zip (etas.zip losses)).map (fun t => ((t.1 : ℝ), (t.2.1 : ℝ), (t.2.2 : ℝ))) :=
  eq_map_zip3 (fun (p e l : Rat) => (((p : ℝ), (e : ℝ), (l : ℝ)) : Tri)) tris (fun _ _ _ _ _ _ => rfl) (fun _ _ => rfl) (fun _ _ _ => rfl)
    (fun _ _ _ _ => rfl) ps etas losses

theorem Tri.den_cast (p e l lam : Rat) :
    Tri.den ((p : ℝ), (e : ℝ), (l : ℝ)) (lam : ℝ) = ((1 / p + e * (l - lam) : Rat) : ℝ) := by
  simp only [Tri.den]; push_cast; rfl

theorem tris_length (ps etas losses : List Rat) (h1 : etas.length = ps.length) (h2 : losses.length = ps.length) :
    (tris ps etas losses).length = ps.length := by
  simp [tris_eq_map, h1, h2]

theorem tris_ok (ps etas losses : List Rat) (hp : ∀ p ∈ ps, 0 < p) (he : ∀ e ∈ etas, 0 < e) :
    ∀ t ∈ tris ps etas losses, TriOk t := by
  rw [tris_eq_map, List.forall_mem_map]
  rintro ⟨p, e, l⟩ ht
  obtain ⟨hp', he', _⟩ := mem_zip3 ht
  exact ⟨Rat.cast_pos.mpr (hp p hp'), Rat.cast_pos.mpr (he e he')⟩

theorem tris_sum (ps etas losses : List Rat) (h1 : etas.length = ps.length) (h2 : losses.length = ps.length) :
    ((tris ps etas losses).map (fun t => t.1)).sum = ((ps.sum : Rat) : ℝ) := by
  conv_rhs => rw [← zip3_map_fst ps etas losses h1 h2, Rat.cast_list_sum, List.map_map]
  rw [tris_eq_map, List.map_map]
  rfl

end Coba.C16
