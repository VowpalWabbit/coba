/-
C16: `SafeLearner` around one of this property's learners.  The learners of C16 answer an unbatched call with
`(offered object, probability)` (Corral: `(offered object, probability, {'info': …})`): C15's format `.AP`, described by `safeSpec`.
`Props/C16.lean` composes it with C15's model of `SafeLearner.predict` / `pred_format` / `_parse_pred` (Model/C15, imported, not
modified) and with the constants re-extracted from coba/safety.py and coba/learners/bandit.py.
-/
import CobaVerif.Lemmas.C15Single

namespace Coba.C16
open Coba.C15 Coba.C15.PyVal

/-- the C15 description of a C16 learner held inside a SafeLearner: format `(action, prob)`, with or without kwargs, unbatched -/
def safeSpec (kw : Bool) : Coba.C15.Spec := { fmt := .AP, kw := kw, layout := .single }

end Coba.C16
