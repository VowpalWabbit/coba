/-
What the loop of `Table.index` and `_calc_lohis` share: the rows as a list of blocks.  The code keeps the row numbers in one
list and the blocks as pairs of positions (lohis); here the invariant is about the list of blocks itself, and positions occur
only where the code is met: sorting every segment, cutting a sorted segment into its runs, and the lohis handed to `where`.
-/
import CobaVerif.Lemmas.C17

namespace Coba.C17

/-! ## blocks and their lohis -/

/-- the lohis of consecutive blocks, the first starting at `a` -/
def bounds : Nat → List (List Nat) → List (Nat × Nat)
  | _, [] => []
  | a, b :: bs => (a, a + b.length) :: bounds (a + b.length) bs

theorem segs_bounds : ∀ (bs : List (List Nat)) (a : Nat), Segs (bounds a bs) a (a + bs.flatten.length)
  | [], a => Segs.nil a
  | b :: bs, a => by
    have := segs_bounds bs (a + b.length)
    rw [List.flatten_cons, List.length_append, ← Nat.add_assoc]
    exact Segs.cons (Nat.le_add_right _ _) this

theorem bounds_append : ∀ (l1 l2 : List (List Nat)) (a : Nat),
    bounds a (l1 ++ l2) = bounds a l1 ++ bounds (a + l1.flatten.length) l2
  | [], _, _ => rfl
  | b :: l1, l2, a => by
    simp only [List.cons_append, bounds, bounds_append l1 l2, List.flatten_cons, List.length_append, Nat.add_assoc]

theorem bounds_congr : ∀ {bs bs' : List (List Nat)}, List.Forall₂ (fun b b' => b'.length = b.length) bs bs' →
    ∀ a, bounds a bs' = bounds a bs := by
  intro bs bs' h
  induction h with
  | nil => intro _; rfl
  | cons hb _ ih => intro a; simp only [bounds, hb, ih]

theorem bounds_ne : ∀ (bs : List (List Nat)) (a : Nat), (∀ b ∈ bs, b ≠ []) → ∀ p ∈ bounds a bs, p.1 < p.2
  | [], _, _, _, hp => nomatch hp
  | b :: bs, a, h, p, hp => by
    rcases List.mem_cons.mp hp with rfl | hp
    · exact Nat.lt_add_of_pos_right (List.length_pos_iff.mpr (h b (List.mem_cons_self ..)))
    · exact bounds_ne bs _ (fun c hc => h c (List.mem_cons_of_mem _ hc)) p hp

theorem bounds_single (N : Nat) : bounds 0 [List.range N] = [(0, N)] := by
  simp only [bounds, List.length_range, Nat.zero_add]

theorem forall2_mem_right {α β} {R : α → β → Prop} : ∀ {l1 : List α} {l2 : List β}, List.Forall₂ R l1 l2 →
    ∀ b ∈ l2, ∃ a ∈ l1, R a b := by
  intro l1 l2 h
  induction h with
  | nil => intro b hb; cases hb
  | @cons a a' l l' ha _ ih =>
    intro b hb
    rcases List.mem_cons.mp hb with rfl | hb
    · exact ⟨a, List.mem_cons_self .., ha⟩
    · obtain ⟨c, hc, hcb⟩ := ih b hb
      exact ⟨c, List.mem_cons_of_mem _ hc, hcb⟩

theorem forall2_pairwise {α β} {R : α → β → Prop} {P : α → α → Prop} {Q : β → β → Prop}
    (hPQ : ∀ a a' b b', R a a' → R b b' → P a b → Q a' b') :
    ∀ {l1 : List α} {l2 : List β}, List.Forall₂ R l1 l2 → l1.Pairwise P → l2.Pairwise Q := by
  intro l1 l2 h
  induction h with
  | nil => intro _; exact List.Pairwise.nil
  | @cons a a' l l' ha hl ih =>
    intro hp
    rw [List.pairwise_cons] at hp ⊢
    refine ⟨fun b' hb' => ?_, ih hp.2⟩
    obtain ⟨b, hb, hbb⟩ := forall2_mem_right hl b' hb'
    exact hPQ a a' b b' ha hbb (hp.1 b hb)

/-! ## `indexes[lo:hi] = sorted(indexes[lo:hi], key=…)` for every segment -/

theorem pySortedBy_ok (kf : Nat → Cell) (xs : List Nat) (h : allComparable (xs.map kf) = true) :
    pySortedBy kf xs = .ok (sortBy (ltBy kf) xs) := by
  simp only [pySortedBy, h, if_true]; rfl

/-- every block sorted as `sorted(…, key=kf)` sorts it -/
def sortBlocks (kf : Nat → Cell) (bs : List (List Nat)) : List (List Nat) := bs.map (sortBy (ltBy kf))

theorem bounds_sortBlocks (kf : Nat → Cell) (bs : List (List Nat)) (a : Nat) : bounds a (sortBlocks kf bs) = bounds a bs :=
  bounds_congr (List.forall₂_map_right_iff.mpr (List.forall₂_same.mpr fun b _ => sortBy_length _ b)) a

theorem sortBlocks_perm (kf : Nat → Cell) (bs : List (List Nat)) : (sortBlocks kf bs).flatten.Perm bs.flatten :=
  List.Perm.flatten_congr (List.forall₂_map_left_iff.mpr (List.forall₂_same.mpr fun b _ => sortBy_perm _ b))

/- `pre` and `post` frame the blocks: each induction over the blocks below hands the block it is done with to `pre`. -/
theorem sortSegments_blocks (kf : Nat → Cell) : ∀ (bs : List (List Nat)) (pre post : List Nat),
    (∀ b ∈ bs, allComparable (b.map kf) = true) →
    sortSegments kf (bounds pre.length bs) (pre ++ bs.flatten ++ post) = .ok (pre ++ (sortBlocks kf bs).flatten ++ post)
  | [], _, _, _ => rfl
  | b :: bs, pre, post, h => by
    have hseg : ((pre ++ (b :: bs).flatten ++ post).drop pre.length).take (pre.length + b.length - pre.length) = b := by
      rw [Nat.add_sub_cancel_left, List.flatten_cons, List.append_assoc, List.drop_left, List.append_assoc, List.take_left]
    have hdrop : (pre ++ (b :: bs).flatten ++ post).drop (pre.length + b.length) = bs.flatten ++ post := by
      rw [List.flatten_cons, ← List.append_assoc, List.append_assoc (pre ++ b), ← List.length_append, List.drop_left]
    have htake : (pre ++ (b :: bs).flatten ++ post).take pre.length = pre := by
      rw [List.append_assoc, List.take_left]
    have ih := sortSegments_blocks kf bs (pre ++ sortBy (ltBy kf) b) post (fun c hc => h c (List.mem_cons_of_mem _ hc))
    rw [List.length_append, sortBy_length] at ih
    simp only [bounds, sortSegments, hseg, pySortedBy_ok kf b (h b (List.mem_cons_self ..)), bind, Except.bind, htake, hdrop]
    rw [← List.append_assoc, ih]
    simp only [sortBlocks, List.map_cons, List.flatten_cons, List.append_assoc]

/-! ## `_sub_lohis`: the runs of equal keys of a sorted block -/

/-- `rs` cuts `b` into non-empty runs of one key, in increasing order of the keys -/
structure Runs (key : Nat → Key) (b : List Nat) (rs : List (List Nat)) : Prop where
  flat : rs.flatten = b
  ne : ∀ r ∈ rs, r ≠ []
  same : ∀ r ∈ rs, ∀ x ∈ r, ∀ y ∈ r, key x = key y
  inc : rs.Pairwise (fun r s => ∀ x ∈ r, ∀ y ∈ s, (key x).lt (key y) = true)

theorem cellAt_mid (kf : Nat → Cell) (pre b post : List Nat) (t : Nat) (ht : t < b.length) :
    cellAt ((pre ++ b ++ post).map kf) (pre.length + t) = kf b[t] := by
  have h1 : pre.length + t < (pre ++ b ++ post).length := by
    rw [List.length_append, List.length_append]
    exact Nat.lt_add_right _ (Nat.add_lt_add_left ht _)
  rw [cellAt_map kf _ _ h1, List.getElem_append_left (by rw [List.length_append]; exact Nat.add_lt_add_left ht _),
    List.getElem_append_right (Nat.le_add_right _ _)]
  simp only [Nat.add_sub_cancel_left]

theorem myBisectRight_block (cfg : Cfg) (s : Seq) (xs : List Cell) (hsh : s.Shows xs) (kf : Nat → Cell)
    (pre b post : List Nat) (hxs : xs = (pre ++ b ++ post).map kf) (hne : b ≠ [])
    (hs : SortedBy (ltBy kf) b) (v : Cell)
    (hc : ∀ x ∈ b, (kf x).key.comparable v.key = true) (hn : ∀ x ∈ b, (kf x).key ≠ .none) (hv : v.key ≠ .none) :
    ∃ r, r ≤ b.length ∧ myBisectRight cfg s v pre.length (pre.length + b.length) = .ok (pre.length + r) ∧
      (∀ y ∈ b.take r, v.key.lt (kf y).key = false) ∧ (∀ z ∈ b.drop r, v.key.lt (kf z).key = true) := by
  have hcell : ∀ t (ht : t < b.length), cellAt xs (pre.length + t) = kf b[t] := fun t ht => by
    rw [hxs, cellAt_mid kf pre b post t ht]
  have hxl : pre.length + b.length ≤ xs.length := by
    rw [hxs, List.length_map, List.length_append, List.length_append]; exact Nat.le_add_right _ _
  have hpos : ∀ i, pre.length ≤ i → i < pre.length + b.length → ∃ u, ∃ hu : u < b.length, i = pre.length + u ∧ cellAt xs i = kf b[u] := by
    intro i h1 h2
    obtain ⟨u, rfl⟩ := Nat.exists_eq_add_of_le h1
    have hu := Nat.lt_of_add_lt_add_left h2
    exact ⟨u, hu, rfl, hcell u hu⟩
  obtain ⟨nh, e, h1, h2, h3, h4⟩ := myBisectRight_spec cfg s xs hsh v pre.length (pre.length + b.length)
    (Nat.le_add_right _ _) hxl (Or.inr (Nat.lt_add_of_pos_right (List.length_pos_iff.mpr hne)))
    (by
      intro i j a c d
      obtain ⟨u, hu, rfl, eu⟩ := hpos i a (Nat.lt_trans c d)
      obtain ⟨w, hw, rfl, ew⟩ := hpos j (Nat.le_of_lt (Nat.lt_of_le_of_lt a c)) d
      rw [eu, ew]
      exact sortedBy_iff_getElem.mp hs u w hu hw (Nat.lt_of_add_lt_add_left c))
    (by
      intro i a c
      obtain ⟨u, hu, rfl, eu⟩ := hpos i a c
      rw [eu]; exact hc _ (List.getElem_mem _))
    (by
      intro i a c
      obtain ⟨u, hu, rfl, eu⟩ := hpos i a c
      rw [eu]; exact hn _ (List.getElem_mem _))
    hv
  obtain ⟨r, rfl⟩ := Nat.exists_eq_add_of_le h1
  have hrb : r ≤ b.length := Nat.le_of_add_le_add_left h2
  refine ⟨r, hrb, e, ?_, ?_⟩
  · intro y hy
    obtain ⟨t, ht, rfl⟩ := List.getElem_of_mem hy
    rw [List.length_take] at ht
    have htr : t < r := Nat.lt_of_lt_of_le ht (Nat.min_le_left _ _)
    have := h3 (pre.length + t) (Nat.le_add_right _ _) (Nat.add_lt_add_left htr _)
    rwa [hcell t (Nat.lt_of_lt_of_le htr hrb), ← List.getElem_take] at this
  · intro z hz
    obtain ⟨t, ht, rfl⟩ := List.getElem_of_mem hz
    rw [List.length_drop] at ht
    have htb : r + t < b.length := Nat.add_lt_of_lt_sub' ht
    have := h4 (pre.length + (r + t)) (by rw [← Nat.add_assoc]; exact Nat.le_add_right _ _) (Nat.add_lt_add_left htb _)
    rwa [hcell (r + t) htb, ← List.getElem_drop] at this

theorem subLohis_blocks (cfg : Cfg) (s : Seq) (xs : List Cell) (hsh : s.Shows xs) (kf : Nat → Cell) :
    ∀ (fuel : Nat) (b pre post : List Nat), xs = (pre ++ b ++ post).map kf → b.length ≤ fuel →
    SortedBy (ltBy kf) b →
    (∀ x ∈ b, ∀ y ∈ b, (kf x).key.comparable (kf y).key = true) → (∀ x ∈ b, (kf x).key ≠ .none) →
    ∃ rs, subLohis cfg s fuel pre.length (pre.length + b.length) = .ok (bounds pre.length rs) ∧
      Runs (fun x => (kf x).key) b rs := by
  intro fuel
  induction fuel with
  | zero =>
    intro b pre post _ hf _ _ _
    obtain rfl : b = [] := List.eq_nil_of_length_eq_zero (Nat.le_zero.mp hf)
    exact ⟨[], rfl, rfl, nofun, nofun, List.Pairwise.nil⟩
  | succ fuel ih =>
    intro b pre post hxs hf hs hc hn
    cases b with
    | nil => exact ⟨[], by simp only [subLohis, List.length_nil, Nat.add_zero, if_true, bounds], rfl, nofun, nofun, List.Pairwise.nil⟩
    | cons x b0 =>
      have hx0 : s.get pre.length = .ok (kf x) := by
        have := cellAt_mid kf pre (x :: b0) post 0 (Nat.succ_pos _)
        rw [← hxs, Nat.add_zero] at this
        rw [hsh.get pre.length (by rw [hxs, List.length_map, List.length_append, List.length_append, List.length_cons]; omega), this]
        rfl
      obtain ⟨r, hrb, e, hle, hgt⟩ := myBisectRight_block cfg s xs hsh kf pre (x :: b0) post hxs (List.cons_ne_nil _ _) hs (kf x)
        (fun y hy => hc y hy x (List.mem_cons_self ..)) hn (hn x (List.mem_cons_self ..))
      obtain ⟨r, rfl⟩ : ∃ r', r = r' + 1 := by
        cases r with
        | zero => have := hgt x (List.mem_cons_self ..); rw [Key.lt_irrefl] at this; cases this
        | succ r' => exact ⟨r', rfl⟩
      have hrun : ((x :: b0).take (r + 1)).length = r + 1 := by rw [List.length_take]; exact Nat.min_eq_left hrb
      -- the cells of the run are not smaller than the first (sorted) and not greater (the bisection)
      have hsame : ∀ y ∈ (x :: b0).take (r + 1), (kf y).key = (kf x).key := by
        intro y hy
        rcases List.mem_cons.mp (List.mem_of_mem_take hy) with rfl | hy0
        · rfl
        · exact (Key.lt_connected _ _ (hle y hy) ((sortedBy_cons.mp hs).1 y hy0)).symm
      obtain ⟨rs, e', hruns⟩ := ih ((x :: b0).drop (r + 1)) (pre ++ (x :: b0).take (r + 1)) post
        (by rw [hxs, List.append_assoc pre ((x :: b0).take (r + 1)), List.take_append_drop])
        (by rw [List.length_drop]; simp only [List.length_cons] at hf ⊢; omega) (hs.sublist (List.drop_sublist _ _))
        (fun y hy z hz => hc y (List.mem_of_mem_drop hy) z (List.mem_of_mem_drop hz))
        (fun y hy => hn y (List.mem_of_mem_drop hy))
      rw [List.length_append, hrun, List.length_drop, Nat.add_assoc, Nat.add_sub_cancel' hrb] at e'
      refine ⟨(x :: b0).take (r + 1) :: rs, ?_, ?_, ?_, ?_, ?_⟩
      · have hne : ¬ pre.length = pre.length + (x :: b0).length := by simp only [List.length_cons]; omega
        simp only [subLohis, hne, if_false, hx0, bind, Except.bind, e, e', pure, Except.pure, bounds, hrun]
      · rw [List.flatten_cons, hruns.flat, List.take_append_drop]
      · intro q hq
        rcases List.mem_cons.mp hq with rfl | hq
        · exact List.ne_nil_of_length_pos (by rw [hrun]; exact Nat.succ_pos _)
        · exact hruns.ne q hq
      · intro q hq y hy z hz
        rcases List.mem_cons.mp hq with rfl | hq
        · exact (hsame y hy).trans (hsame z hz).symm
        · exact hruns.same q hq y hy z hz
      · refine List.pairwise_cons.mpr ⟨fun q hq y hy z hz => ?_, hruns.inc⟩
        show (kf y).key.lt (kf z).key = true
        rw [hsame y hy]
        exact hgt z (hruns.flat ▸ List.mem_flatten.mpr ⟨q, hq, hz⟩)

theorem subLohisAll_blocks (cfg : Cfg) (s : Seq) (xs : List Cell) (hsh : s.Shows xs) (kf : Nat → Cell) :
    ∀ (bs : List (List Nat)) (pre post : List Nat), xs = (pre ++ bs.flatten ++ post).map kf →
    (∀ b ∈ bs, SortedBy (ltBy kf) b ∧
      (∀ x ∈ b, ∀ y ∈ b, (kf x).key.comparable (kf y).key = true) ∧ ∀ x ∈ b, (kf x).key ≠ .none) →
    ∃ rss, subLohisAll cfg s (bounds pre.length bs) = .ok (bounds pre.length rss.flatten) ∧
      List.Forall₂ (Runs (fun x => (kf x).key)) bs rss
  | [], _, _, _, _ => ⟨[], rfl, List.Forall₂.nil⟩
  | b :: bs, pre, post, hxs, h => by
    obtain ⟨hs, hc, hn⟩ := h b (List.mem_cons_self ..)
    obtain ⟨rs, e, hruns⟩ := subLohis_blocks cfg s xs hsh kf b.length b pre (bs.flatten ++ post)
      (by rw [hxs, List.flatten_cons, List.append_assoc, List.append_assoc, List.append_assoc]) (le_refl _) hs hc hn
    obtain ⟨rss, e', hf⟩ := subLohisAll_blocks cfg s xs hsh kf bs (pre ++ b) post
      (by rw [hxs, List.flatten_cons, List.append_assoc pre b]) (fun c hc => h c (List.mem_cons_of_mem _ hc))
    rw [List.length_append] at e'
    refine ⟨rs :: rss, ?_, List.Forall₂.cons hruns hf⟩
    simp only [bounds, subLohisAll, Nat.add_sub_cancel_left, e, e', bind, Except.bind, pure, Except.pure,
      List.flatten_cons, bounds_append, hruns.flat]

theorem flatten_flatten_of_runs {key : Nat → Key} : ∀ {bs : List (List Nat)} {rss : List (List (List Nat))},
    List.Forall₂ (Runs key) bs rss → rss.flatten.flatten = bs.flatten := by
  intro bs rss h
  induction h with
  | nil => rfl
  | cons hb _ ih => rw [List.flatten_cons, List.flatten_append, hb.flat, ih, List.flatten_cons]

/-! ## the lexicographic order on the processed columns -/

theorem lexLtK_agree (K : Nat → Nat → Key) : ∀ (ds : List Nat) (x y : Nat), (∀ d ∈ ds, K d x = K d y) →
    ∀ es, lexLtK K (ds ++ es) x y = lexLtK K es x y
  | [], _, _, _, _ => rfl
  | d :: ds, x, y, h, es => by
    simp only [List.cons_append, lexLtK, h d (by simp), Key.lt_irrefl]
    exact lexLtK_agree K ds x y (fun d' hd' => h d' (by simp [hd'])) es

theorem lexLtK_agree_false (K : Nat → Nat → Key) (ds : List Nat) (x y : Nat) (h : ∀ d ∈ ds, K d x = K d y) :
    lexLtK K ds x y = false := by
  have := lexLtK_agree K ds x y h []
  simpa [lexLtK] using this

theorem lexLtK_single (K : Nat → Nat → Key) (d x y : Nat) : lexLtK K [d] x y = (K d x).lt (K d y) := by
  simp only [lexLtK, ite_self]
  cases (K d x).lt (K d y) <;> rfl

theorem lexLtK_snoc_of_agree (K : Nat → Nat → Key) (done : List Nat) (k x y : Nat) (h : ∀ d ∈ done, K d x = K d y) :
    lexLtK K (done ++ [k]) x y = (K k x).lt (K k y) := by
  rw [lexLtK_agree K done x y h, lexLtK_single]

theorem lexLtK_append_of_lt (K : Nat → Nat → Key) : ∀ (ds es : List Nat) (x y : Nat), lexLtK K ds x y = true →
    lexLtK K (ds ++ es) x y = true
  | [], _, _, _, h => by simp [lexLtK] at h
  | d :: ds, es, x, y, h => by
    simp only [List.cons_append, lexLtK] at h ⊢
    split
    · rfl
    · rename_i h1
      simp only [h1] at h
      split
      · rename_i h2; simp [h2] at h
      · rename_i h2
        simp only [h2] at h
        exact lexLtK_append_of_lt K ds es x y h

theorem lexLtK_asymm (K : Nat → Nat → Key) : ∀ (ds : List Nat) (x y : Nat), lexLtK K ds x y = true → lexLtK K ds y x = false
  | [], _, _, h => by simp [lexLtK] at h
  | d :: ds, x, y, h => by
    simp only [lexLtK] at h ⊢
    by_cases h1 : (K d x).lt (K d y) = true
    · simp [Key.lt_asymm _ _ h1, h1]
    · simp only [h1] at h
      by_cases h2 : (K d y).lt (K d x) = true
      · simp [h2] at h
      · simp only [h2] at h
        simp only [h2, h1]
        exact lexLtK_asymm K ds x y h

theorem lexLtK_le_trans (K : Nat → Nat → Key) : ∀ (ds : List Nat) (a b c : Nat),
    lexLtK K ds b a = false → lexLtK K ds c b = false → lexLtK K ds c a = false
  | [], _, _, _, _, _ => rfl
  | d :: ds, a, b, c, h1, h2 => by
    simp only [lexLtK] at h1 h2 ⊢
    have hba : (K d b).lt (K d a) = false := by
      by_contra hc; simp only [Bool.not_eq_false] at hc; simp [hc] at h1
    have hcb : (K d c).lt (K d b) = false := by
      by_contra hc; simp only [Bool.not_eq_false] at hc; simp [hc] at h2
    have hca : (K d c).lt (K d a) = false := Key.le_trans _ _ _ hba hcb
    simp only [hca, Bool.false_eq_true, if_false]
    by_cases hac : (K d a).lt (K d c) = true
    · simp [hac]
    · simp only [hac]
      simp only [Bool.not_eq_true] at hac
      have eac : K d a = K d c := Key.lt_connected _ _ hac hca
      -- a = c in this column, and a ≤ b ≤ c, so all three agree
      have hab : (K d a).lt (K d b) = false := by
        rw [eac]; exact hcb
      have hbc : (K d b).lt (K d c) = false := by
        rw [← eac]; exact hba
      simp only [hba, hab, Bool.false_eq_true, if_false] at h1
      simp only [hcb, hbc, Bool.false_eq_true, if_false] at h2
      exact lexLtK_le_trans K ds a b c h1 h2


/-! ## the invariant on the list of blocks -/

/-- what holds between the stages of `Table.index` and between the levels of `_calc_lohis`: the rows of a block agree on
the keys of the processed columns `done` and stand in their original order; the rows of an earlier block are smaller on
`done` than those of a later one -/
structure BlockInv (K : Nat → Nat → Key) (done : List Nat) (bs : List (List Nat)) : Prop where
  agree : ∀ b ∈ bs, ∀ x ∈ b, ∀ y ∈ b, ∀ d ∈ done, K d x = K d y
  strict : bs.Pairwise (fun b c => ∀ x ∈ b, ∀ y ∈ c, lexLtK K done x y = true)
  stable : ∀ b ∈ bs, StrictInc b

theorem BlockInv.init (K : Nat → Nat → Key) (N : Nat) : BlockInv K [] [List.range N] :=
  ⟨fun _ _ _ _ _ _ _ hd => (nomatch hd), List.pairwise_singleton _ _, fun b hb => by
    rw [List.mem_singleton.mp hb, List.range_eq_range']; exact List.pairwise_lt_range'⟩

/-- `b'` is `b` sorted stably by `key` -/
structure SortedOf (key : Nat → Key) (b b' : List Nat) : Prop where
  perm : b'.Perm b
  ties : b'.Pairwise (TieOrd (fun x y => (key x).lt (key y)) (· < ·))

theorem SortedOf.sortedBy {kf : Nat → Cell} {b b' : List Nat} (h : SortedOf (fun x => (kf x).key) b b') :
    SortedBy (ltBy kf) b' :=
  h.ties.imp fun h => h.le

theorem sortBlocks_sortedOf (kf : Nat → Cell) {bs : List (List Nat)} (hst : ∀ b ∈ bs, StrictInc b) :
    List.Forall₂ (SortedOf (fun x => (kf x).key)) bs (sortBlocks kf bs) :=
  List.forall₂_map_right_iff.mpr (List.forall₂_same.mpr fun b hb =>
    ⟨sortBy_perm _ b, sortBy_stable (ltBy kf) (· < ·) (ltBy_swo kf) b (hst b hb)⟩)

/-- a stage: every block sorted by the next column `k`, then cut into its runs -/
theorem BlockInv.refine {K : Nat → Nat → Key} {done : List Nat} {bs bs' : List (List Nat)} (h : BlockInv K done bs)
    (k : Nat) {rss : List (List (List Nat))} (hs : List.Forall₂ (SortedOf (K k)) bs bs') (hr : List.Forall₂ (Runs (K k)) bs' rss) :
    BlockInv K (done ++ [k]) rss.flatten := by
  have hget : ∀ rs ∈ rss, ∃ b ∈ bs, ∃ b', SortedOf (K k) b b' ∧ Runs (K k) b' rs ∧ ∀ r ∈ rs, ∀ x ∈ r, x ∈ b := by
    intro rs hrs
    obtain ⟨b', hb', hrun⟩ := forall2_mem_right hr rs hrs
    obtain ⟨b, hb, hso⟩ := forall2_mem_right hs b' hb'
    exact ⟨b, hb, b', hso, hrun, fun r hr' x hx => hso.perm.mem_iff.mp (hrun.flat ▸ List.mem_flatten.mpr ⟨r, hr', hx⟩)⟩
  refine ⟨?_, ?_, ?_⟩
  · intro r hr' x hx y hy d hd
    obtain ⟨rs, hrs, hr'⟩ := List.mem_flatten.mp hr'
    obtain ⟨b, hb, b', _, hrun, hmem⟩ := hget rs hrs
    rcases List.mem_append.mp hd with hd | hd
    · exact h.agree b hb x (hmem r hr' x hx) y (hmem r hr' y hy) d hd
    · rw [List.mem_singleton.mp hd]
      exact hrun.same r hr' x hx y hy
  · rw [List.pairwise_flatten]
    constructor
    · intro rs hrs
      obtain ⟨b, hb, b', _, hrun, hmem⟩ := hget rs hrs
      refine hrun.inc.imp_of_mem fun {r s} hr' hs' hlt x hx y hy => ?_
      rw [lexLtK_snoc_of_agree K done k x y (h.agree b hb x (hmem r hr' x hx) y (hmem s hs' y hy))]
      exact hlt x hx y hy
    · have h' : bs'.Pairwise (fun b' c' => ∀ x ∈ b', ∀ y ∈ c', lexLtK K done x y = true) :=
        forall2_pairwise (fun b b' c c' hb hc hbc x hx y hy => hbc x (hb.perm.mem_iff.mp hx) y (hc.perm.mem_iff.mp hy)) hs h.strict
      refine forall2_pairwise (fun b' rs c' ss hb hc hbc r hr' s hs' x hx y hy => ?_) hr h'
      exact lexLtK_append_of_lt K done [k] x y
        (hbc x (hb.flat ▸ List.mem_flatten.mpr ⟨r, hr', hx⟩) y (hc.flat ▸ List.mem_flatten.mpr ⟨s, hs', hy⟩))
  · intro r hr'
    obtain ⟨rs, hrs, hr'⟩ := List.mem_flatten.mp hr'
    obtain ⟨b, _, b', hso, hrun, _⟩ := hget rs hrs
    -- a run is a piece of the sorted block, and its rows tie
    have hsub : r.Pairwise (TieOrd (fun x y => (K k x).lt (K k y)) (· < ·)) :=
      hso.ties.sublist (hrun.flat ▸ List.sublist_flatten_of_mem hr')
    refine hsub.imp_of_mem fun {x y} hx hy hxy => hxy.tie ?_
    show (K k x).lt (K k y) = false
    rw [hrun.same r hr' x hx y hy]; exact Key.lt_irrefl _

/-- the stage of the last column (no cut) -/
theorem BlockInv.final {K : Nat → Nat → Key} {done : List Nat} {bs bs' : List (List Nat)} (h : BlockInv K done bs)
    (k : Nat) (hs : List.Forall₂ (SortedOf (K k)) bs bs') :
    bs'.flatten.Pairwise (TieOrd (lexLtK K (done ++ [k])) (· < ·)) := by
  rw [List.pairwise_flatten]
  constructor
  · intro b' hb'
    obtain ⟨b, hb, hp, ht⟩ := forall2_mem_right hs b' hb'
    refine ht.imp_of_mem fun {x y} hx hy hxy => ?_
    have hag := h.agree b hb x (hp.mem_iff.mp hx) y (hp.mem_iff.mp hy)
    exact ⟨by rw [lexLtK_snoc_of_agree K done k y x fun d hd => (hag d hd).symm]; exact hxy.le,
      fun h => hxy.tie (by rwa [lexLtK_snoc_of_agree K done k x y hag] at h)⟩
  · refine forall2_pairwise (fun b b' c c' hb hc hbc x hx y hy => ?_) hs h.strict
    have h1 := lexLtK_append_of_lt K done [k] x y (hbc x (hb.perm.mem_iff.mp hx) y (hc.perm.mem_iff.mp hy))
    exact ⟨lexLtK_asymm K _ _ _ h1, fun h2 => absurd (h1.symm.trans h2) (by simp)⟩

/-! ## the same invariant in terms of lohis, as `_calc_lohis` hands them to `where` and `groupby` -/

/-- `perm` (the row numbers in their current order) is a permutation; inside a segment all rows agree on the keys of
the processed columns `done`; rows of different segments are strictly ordered by them -/
structure StageInv (K : Nat → Nat → Key) (N : Nat) (done : List Nat) (perm : List Nat) (lohis : List (Nat × Nat)) : Prop where
  isPerm : perm.Perm (List.range N)
  segs : Segs lohis 0 N
  agree : ∀ d ∈ done, ∀ p ∈ lohis, ∀ i j, p.1 ≤ i → i < p.2 → p.1 ≤ j → j < p.2 →
    K d (perm.getD i 0) = K d (perm.getD j 0)
  strict : ∀ p ∈ lohis, ∀ i j, i < p.2 → p.2 ≤ j → j < N →
    lexLtK K done (perm.getD i 0) (perm.getD j 0) = true

theorem getD_range (m i : Nat) (h : i < m) : (List.range m).getD i 0 = i := by
  simp [List.getD, h]

theorem flatten_cons_range' {b : List Nat} {bs : List (List Nat)} {a n : Nat} (h : (b :: bs).flatten = List.range' a n) :
    b = List.range' a b.length ∧ bs.flatten = List.range' (a + b.length) (n - b.length) ∧ b.length ≤ n := by
  have hl : b.length + bs.flatten.length = n := by
    have := congrArg List.length h
    rwa [List.flatten_cons, List.length_append, List.length_range'] at this
  have hsplit := List.range'_append (s := a) (m := b.length) (n := bs.flatten.length) (step := 1)
  rw [Nat.one_mul, hl, ← h, List.flatten_cons] at hsplit
  obtain ⟨e1, e2⟩ := List.append_inj hsplit List.length_range'
  refine ⟨e1.symm, ?_, Nat.le.intro hl⟩
  rw [← e2, ← hl, Nat.add_sub_cancel_left]

theorem bounds_range (R : List Nat → List Nat → Prop) : ∀ (bs : List (List Nat)) (a n : Nat), bs.flatten = List.range' a n →
    bs.Pairwise R → ∀ p ∈ bounds a bs,
      (∃ b ∈ bs, ∀ i, p.1 ≤ i → i < p.2 → i ∈ b) ∧
      (∀ i j, a ≤ i → i < p.2 → p.2 ≤ j → j < a + n → ∃ b ∈ bs, ∃ c ∈ bs, R b c ∧ i ∈ b ∧ j ∈ c)
  | [], _, _, _, _, _, hp => nomatch hp
  | b :: bs, a, n, hfl, hR, p, hp => by
    obtain ⟨hb, hrest, hbn⟩ := flatten_cons_range' hfl
    obtain ⟨hRb, hR'⟩ := List.pairwise_cons.mp hR
    have hinb : ∀ i, a ≤ i → i < a + b.length → i ∈ b := fun i h1 h2 => by
      rw [hb, List.mem_range'_1]; exact ⟨h1, h2⟩
    have hlater : ∀ j, a + b.length ≤ j → j < a + n → ∃ c ∈ bs, j ∈ c := fun j h1 h2 => by
      have : j ∈ bs.flatten := by rw [hrest, List.mem_range'_1]; exact ⟨h1, by omega⟩
      obtain ⟨c, hc, hjc⟩ := List.mem_flatten.mp this
      exact ⟨c, hc, hjc⟩
    rcases List.mem_cons.mp hp with rfl | hp
    · refine ⟨⟨b, List.mem_cons_self .., hinb⟩, fun i j h1 h2 h3 h4 => ?_⟩
      obtain ⟨c, hc, hjc⟩ := hlater j h3 h4
      exact ⟨b, List.mem_cons_self .., c, List.mem_cons_of_mem _ hc, hRb c hc, hinb i h1 h2, hjc⟩
    · obtain ⟨⟨c, hc, hmem⟩, hcut⟩ := bounds_range R bs (a + b.length) (n - b.length) hrest hR' p hp
      refine ⟨⟨c, List.mem_cons_of_mem _ hc, hmem⟩, fun i j h1 h2 h3 h4 => ?_⟩
      have hpb := (segs_bounds bs (a + b.length)).bounds p hp
      by_cases hi : i < a + b.length
      · obtain ⟨c', hc', hjc⟩ := hlater j (by omega) h4
        exact ⟨b, List.mem_cons_self .., c', List.mem_cons_of_mem _ hc', hRb c' hc', hinb i h1 hi, hjc⟩
      · obtain ⟨b1, hb1, c1, hc1, hr, hi1, hj1⟩ := hcut i j (by omega) h2 h3 (by omega)
        exact ⟨b1, List.mem_cons_of_mem _ hb1, c1, List.mem_cons_of_mem _ hc1, hr, hi1, hj1⟩

theorem StageInv.of_blocks {K : Nat → Nat → Key} {N : Nat} {done : List Nat} {bs : List (List Nat)}
    (h : BlockInv K done bs) (hfl : bs.flatten = List.range N) : StageInv K N done (List.range N) (bounds 0 bs) := by
  have hsegs : Segs (bounds 0 bs) 0 N := by
    have := segs_bounds bs 0
    rwa [hfl, List.length_range, Nat.zero_add] at this
  have hr := bounds_range (fun b c => ∀ x ∈ b, ∀ y ∈ c, lexLtK K done x y = true) bs 0 N
    (by rw [hfl, List.range_eq_range']) h.strict
  refine ⟨List.Perm.refl _, hsegs, ?_, ?_⟩
  · intro d hd p hp i j a b c e
    obtain ⟨blk, hblk, hmem⟩ := (hr p hp).1
    have hpN := (hsegs.bounds p hp).2.2
    rw [getD_range N i (Nat.lt_of_lt_of_le b hpN), getD_range N j (Nat.lt_of_lt_of_le e hpN)]
    exact h.agree blk hblk i (hmem i a b) j (hmem j c e) d hd
  · intro p hp i j a b c
    obtain ⟨b1, _, c1, _, hlt, hi, hj⟩ := (hr p hp).2 i j (Nat.zero_le _) a b (by rw [Nat.zero_add]; exact c)
    rw [getD_range N i (Nat.lt_of_lt_of_le a (Nat.le_trans b (Nat.le_of_lt c))), getD_range N j c]
    exact hlt i hi j hj

end Coba.C17
