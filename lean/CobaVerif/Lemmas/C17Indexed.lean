/-
Tables whose rows are in index order (`Indexed`): `index` establishes it, a view by an increasing selection keeps it, the stable
sort by the index columns leaves such rows alone; the decidable check.
-/
import CobaVerif.Lemmas.C17Index

namespace Coba.C17

/-- the rows the table shows are in non-decreasing lexicographic order of its index columns, and the
cells of every index column are stored, mutually comparable and not `None` -/
structure Indexed (t : Table) (N : Nat) : Prop where
  nodup : t.indexes.Nodup
  stored : ∀ d ∈ t.indexes, ∃ b, lookupCol t.data d = .ok b
  sorted : ∀ i j, i < j → j < t.m N → lexLtK (Kt t) t.indexes j i = false
  cmp : ∀ d ∈ t.indexes, ∀ x y, x < t.m N → y < t.m N → (Kt t d x).comparable (Kt t d y) = true
  nn : ∀ d ∈ t.indexes, ∀ x, x < t.m N → Kt t d x ≠ .none

theorem Indexed.next_le {t : Table} {N : Nat} (hix : Indexed t N) {done : List Nat} {k : Nat} {rest : List Nat}
    (hsplit : done ++ k :: rest = t.indexes) {x y : Nat} (hxy : x < y) (hy : y < t.m N)
    (hag : ∀ d ∈ done, Kt t d y = Kt t d x) : (Kt t k y).lt (Kt t k x) = false := by
  have hsrt := hix.sorted x y hxy hy
  rw [← hsplit, lexLtK_agree (Kt t) _ y x hag, lexLtK] at hsrt
  cases hh : (Kt t k y).lt (Kt t k x) with
  | false => rfl
  | true => rw [hh, if_pos rfl] at hsrt; cases hsrt

theorem indexed_nil (t : Table) (N : Nat) (h : t.indexes = []) : Indexed t N := by
  refine ⟨by rw [h]; exact List.nodup_nil, ?_, ?_, ?_, ?_⟩
  · intro d hd; rw [h] at hd; simp at hd
  · intro i j _ _; rw [h]; rfl
  · intro d hd; rw [h] at hd; simp at hd
  · intro d hd; rw [h] at hd; simp at hd

/-! ## established by `index`, kept by `where` -/

theorem lexLtK_congr (K K' : Nat → Nat → Key) : ∀ (ds : List Nat) (x y x' y' : Nat),
    (∀ d ∈ ds, K d x = K' d x' ∧ K d y = K' d y') → lexLtK K ds x y = lexLtK K' ds x' y'
  | [], _, _, _, _, _ => rfl
  | d :: ds, x, y, x', y', h => by
    obtain ⟨h1, h2⟩ := h d (by simp)
    simp only [lexLtK, h1, h2]
    rw [lexLtK_congr K K' ds x y x' y' (fun d' hd' => h d' (by simp [hd']))]

/-- `Indexed` speaks of a table only through the keys of the rows it shows -/
theorem Indexed.of_keys {t' : Table} {N' m' : Nat} {ds : List Nat} (K : Nat → Nat → Key) (f : Nat → Nat) (m : Nat)
    (hidx : t'.indexes = ds) (hm : t'.m N' = m') (hnd : ds.Nodup) (hst : ∀ d ∈ ds, ∃ b, lookupCol t'.data d = .ok b)
    (hK : ∀ d ∈ ds, ∀ k, k < m' → Kt t' d k = K d (f k)) (hf : ∀ k, k < m' → f k < m)
    (hsorted : ∀ i j, i < j → j < m' → lexLtK K ds (f j) (f i) = false)
    (hcmp : ∀ d ∈ ds, ∀ x y, x < m → y < m → (K d x).comparable (K d y) = true)
    (hnn : ∀ d ∈ ds, ∀ x, x < m → K d x ≠ .none) : Indexed t' N' := by
  subst hidx hm
  refine ⟨hnd, hst, fun i j hij hj => ?_, fun d hd x y hx hy => ?_, fun d hd x hx => ?_⟩
  · rw [lexLtK_congr _ K _ j i (f j) (f i) (fun d hd => ⟨hK d hd j hj, hK d hd i (Nat.lt_trans hij hj)⟩)]
    exact hsorted i j hij hj
  · rw [hK d hd x hx, hK d hd y hy]
    exact hcmp d hd _ _ (hf x hx) (hf y hy)
  · rw [hK d hd x hx]
    exact hnn d hd _ (hf x hx)

theorem IsView.indexed {t : Table} {N : Nat} {sel' : Sel} {selection : List Nat} (h : IsView t N sel' selection)
    (hok : t.OK N) (hix : Indexed t N) : Indexed { t with sel := sel' } N := by
  refine Indexed.of_keys (Kt t) (selection.getD · 0) (t.m N) rfl h.m_eq hix.nodup hix.stored ?_ (fun k hk => h.getD_lt hk) ?_
    hix.cmp hix.nn
  · intro d hd k hk
    obtain ⟨b, hb⟩ := hix.stored d hd
    exact congrArg Cell.key (h.cellAt_vcol hok hb k hk)
  · intro i j hij hj
    apply hix.sorted _ _ _ (h.getD_lt hj)
    have := List.pairwise_iff_getElem.mp h.inc i j (by omega) hj hij
    simpa [List.getD, List.getElem?_eq_getElem hj, List.getElem?_eq_getElem (show i < selection.length by omega)] using this

theorem IndexOut.indexed {cfg : Cfg} {t : Table} {N : Nat} {indx : List Nat} {t' : Table} {perm : List Nat}
    (h : IndexOut cfg t N indx t' perm) (hnd : (effIndex cfg t indx).Nodup)
    (hcols : ∀ d ∈ effIndex cfg t indx, IdxColOK t N d) : Indexed t' N := by
  have hperm := h.isPerm
  have hidx := h.indexes
  have hsel' := h.sel
  have hcolsp := h.cols
  have hsorted := h.stable
  refine Indexed.of_keys (K0 t) (perm.getD · 0) N hidx (Table.m_all hsel' _) hnd ?_ ?_ (fun k hk => perm_getD_lt hperm k hk)
    (fun i j hij hj => (hsorted.getD hij (by rw [hperm.length_eq, List.length_range]; exact hj)).le)
    (fun d hd => (hcols d hd).cmp) (fun d hd => (hcols d hd).nn)
  · intro d hd
    obtain ⟨b, hb, _⟩ := (hcols d hd).stored
    obtain ⟨b', hb', _⟩ := hcolsp d b hb
    exact ⟨b', hb'⟩
  · intro d hd i hi
    obtain ⟨b, hb, _⟩ := (hcols d hd).stored
    obtain ⟨b', hb', _, hk, _⟩ := hcolsp d b hb
    have e1 : t.base d = b := Table.base_eq hb
    have e2 : t'.base d = b' := Table.base_eq hb'
    simp only [Kt, K0, vcol_all t' hsel', e1, e2]
    exact hk i hi

theorem Indexed.indexS_rows {t : Table} {N : Nat} (hix : Indexed t N) (hsub : ∀ c ∈ t.indexes, c ∈ t.columns) :
    indexS (idxPositions t.columns t.indexes) ((List.range (t.m N)).map t.rowAt) = (List.range (t.m N)).map t.rowAt := by
  rw [indexS, sortBy_sorted_id]
  rw [sortedBy_iff_getElem]
  intro i j hi hj hij
  simp only [List.length_map, List.length_range] at hi hj
  simp only [List.getElem_map, List.getElem_range]
  rw [lexLt_rowAt t _ hsub i j]
  exact hix.sorted i j hij hj

/-! ## the check -/

theorem indexedB_iff {t : Table} {N : Nat} : indexedB t N = true ↔ Indexed t N := by
  simp only [indexedB, Bool.and_eq_true, decide_eq_true_eq, List.all_eq_true, isOk_iff, colCellsB_iff]
  simp only [allIn_iff, Nat.zero_le, true_imp_iff, Bool.or_eq_true, Bool.not_eq_true', decide_eq_false_iff_not]
  constructor
  · rintro ⟨⟨⟨h1, h2⟩, h3⟩, h4⟩
    exact ⟨h1, h2, fun i j hij hj => (h3 j hj i (Nat.lt_trans hij hj)).resolve_left (not_not_intro hij),
      fun d hd => (h4 d hd).2, fun d hd => (h4 d hd).1⟩
  · intro h
    exact ⟨⟨⟨h.nodup, h.stored⟩, fun j hj i _ => (Decidable.em (i < j)).elim (fun hij => Or.inr (h.sorted i j hij hj)) Or.inl⟩,
      fun d hd => ⟨h.nn d hd, h.cmp d hd⟩⟩

end Coba.C17
