/-
`Table.insert` in its three shapes against `insertS`, and the repaired `insert` that keeps an indexed table in
index order.
-/
import CobaVerif.Lemmas.C17Indexed

namespace Coba.C17

/-! ## appending to every stored list -/

theorem find_zipIdx (c : Nat) : ∀ (l : List Nat) (n : Nat), c ∈ l →
    (l.zipIdx n).find? (fun q => q.1 == c) = some (c, n + l.idxOf c)
  | [], _, h => by simp at h
  | d :: rest, n, h => by
    simp only [List.zipIdx_cons, List.find?_cons]
    by_cases hd : d = c
    · subst hd; simp
    · have h1 : (d == c) = false := by simpa using hd
      simp only [h1]
      have hmem : c ∈ rest := by
        simp at h; rcases h with h | h
        · exact absurd h.symm hd
        · exact h
      rw [find_zipIdx c rest (n + 1) hmem, List.idxOf_cons_ne _ hd]
      congr 2; omega

theorem map_getD_idxOf (l : List Nat) (r : List Cell) (hnd : l.Nodup) (hlen : r.length = l.length) :
    l.map (fun c => r.getD (l.idxOf c) .missing) = r := by
  apply List.ext_getElem
  · simp [hlen]
  · intro j h1 h2
    simp only [List.length_map] at h1
    simp only [List.getElem_map, hnd.idxOf_getElem j h1, List.getD, List.getElem?_eq_getElem h2, Option.getD_some]

theorem cellAt_map_rows (rows : List (List Cell)) (k j : Nat) (hj : j < rows.length) :
    cellAt (rows.map (fun row => row.getD k .missing)) j = (rows[j]).getD k .missing := by
  simp [cellAt, List.getD, List.getElem?_map, List.getElem?_eq_getElem hj]

/-- `insert` only appends: the list `t'` stores for a column of `t` begins with the list `t` stores -/
def PrefixOf (t t' : Table) : Prop :=
  ∀ c ∈ t.columns, ∃ b x, lookupCol t.data c = .ok b ∧ lookupCol t'.data c = .ok (b ++ x)

/-- a table `insert` accepts: well-formed, not a view, no stored list outside its columns; `N` rows (0 if it stores nothing) -/
structure InsertOK (t : Table) (N : Nat) : Prop where
  ok : t.OK N
  sel : t.sel = .all
  keys : ∀ p ∈ t.data, p.1 ∈ t.columns
  empty : t.data = [] → N = 0

theorem InsertOK.rows {t : Table} {N : Nat} (h : InsertOK t N) : t.rows = .ok ((List.range N).map t.rowAt) := by
  by_cases hc : t.columns = []
  · have hd : t.data = [] := by
      cases hdd : t.data with
      | nil => rfl
      | cons p r => have := h.keys p (by simp [hdd]); simp [hc] at this
    obtain rfl := h.empty hd
    simp only [Table.rows, hc, List.mapM_nil, bind, Except.bind, pure, Except.pure, minLen, List.range_zero, List.map_nil]
  · rw [h.ok.rows_eq hc, Table.m_all h.sel]

theorem InsertOK.rows_eq {t : Table} {N : Nat} (h : InsertOK t N) (R : List (List Cell)) (hR : t.rows = .ok R) :
    R = (List.range N).map t.rowAt :=
  Except.ok.inj (hR.symm.trans h.rows)

theorem InsertOK.len_eq {t : Table} {N : Nat} (h : InsertOK t N) : t.len = .ok N := by
  by_cases hd : t.data = []
  · have := h.empty hd
    subst this
    simp [Table.len, hd, h.sel]
  · have := h.ok.len_eq hd
    simpa [Table.m, h.sel, Sel.idx] using this

theorem InsertOK.tableN_eq {t : Table} {N : Nat} (h : InsertOK t N) : tableN t = N := by
  by_cases hd : t.data = []
  · simp [tableN, hd, h.empty hd]
  · exact h.ok.tableN_eq hd


/-- `t'` is `t` after rows were appended: it shows the columns `cols'` and the rows `rows'`, keeps the index columns, and owns
lists of `N'` cells that begin with the lists of `t` -/
structure Appended (t t' : Table) (N' : Nat) (cols' : List Nat) (rows' : List (List Cell)) : Prop where
  columns : t'.columns = cols'
  rows : t'.rows = .ok rows'
  indexes : t'.indexes = t.indexes
  ok : InsertOK t' N'
  pre : PrefixOf t t'

theorem Appended.cols_sub {t t' : Table} {N' : Nat} {cols' : List Nat} {rows' : List (List Cell)} (h : Appended t t' N' cols' rows') :
    ∀ c ∈ t.columns, c ∈ t'.columns := fun c hc =>
  let ⟨_, _, _, e⟩ := h.pre c hc
  h.ok.keys _ (lookupCol_mem e)

theorem rows_append_cols (cols : List Nat) (A B : Nat → List Cell) (N k : Nat) (hA : ∀ c ∈ cols, (A c).length = N) :
    (List.range (N + k)).map (fun i => cols.map (fun c => cellAt (A c ++ B c) i)) =
      (List.range N).map (fun i => cols.map (fun c => cellAt (A c) i)) ++
      (List.range k).map (fun i => cols.map (fun c => cellAt (B c) i)) := by
  rw [List.range_add, List.map_append, List.map_map]
  congr 1
  · refine List.map_congr_left fun i hi => List.map_congr_left fun c hc => ?_
    exact cellAt_append_left _ _ i (by rw [hA c hc]; exact List.mem_range.mp hi)
  · refine List.map_congr_left fun i _ => List.map_congr_left fun c hc => ?_
    show cellAt (A c ++ B c) (N + i) = _
    rw [cellAt_append_right _ _ _ (by rw [hA c hc]; exact Nat.le_add_right _ _), hA c hc, Nat.add_sub_cancel_left]

/-- what all three shapes of `insert` do to the stored lists: `t'` is `t` with the `k` cells `B c` appended to the list of
every column `c`, and with new columns `newCols` whose lists start with `Missing` for the old rows -/
structure Extends (t t' : Table) (N k : Nat) (newCols : List Nat) (B : Nat → List Cell) : Prop where
  columns : t'.columns = t.columns ++ newCols
  sel : t'.sel = .all
  indexes : t'.indexes = t.indexes
  old : ∀ c ∈ t.columns, ∃ b, lookupCol t.data c = .ok b ∧ lookupCol t'.data c = .ok (b ++ B c)
  fresh : ∀ c ∈ newCols, c ∉ t.columns ∧ lookupCol t'.data c = .ok (List.replicate N Cell.missing ++ B c)
  len : ∀ c ∈ t.columns ++ newCols, (B c).length = k
  keys : ∀ p ∈ t'.data, p.1 ∈ t.columns ++ newCols ∧ p.2.length = N + k

theorem Extends.spec {t t' : Table} {N k : Nat} {newCols : List Nat} {B : Nat → List Cell} (h : InsertOK t N)
    (he : Extends t t' N k newCols B) (hcne : t.columns ++ newCols ≠ []) (R : List (List Cell)) (hR : t.rows = .ok R) :
    Appended t t' (N + k) (t.columns ++ newCols) (R.map (fun r => r ++ newCols.map (fun _ => Cell.missing)) ++
      (List.range k).map (fun i => (t.columns ++ newCols).map (fun c => cellAt (B c) i))) := by
  have hcols' : ∀ c ∈ t.columns ++ newCols, ∃ b, lookupCol t'.data c = .ok b := by
    intro c hc
    rcases List.mem_append.mp hc with hc | hc
    · obtain ⟨b, _, e⟩ := he.old c hc; exact ⟨_, e⟩
    · exact ⟨_, (he.fresh c hc).2⟩
  have hok' : InsertOK t' (N + k) := by
    refine ⟨⟨fun p hp => (he.keys p hp).2, by rw [he.columns]; exact hcols', ?_⟩, he.sel, by rw [he.columns]; exact fun p hp => (he.keys p hp).1, ?_⟩
    · rw [he.sel]
      exact selOK_all _
    · -- no stored list afterwards: impossible, there is at least one column
      intro hd
      obtain ⟨c, hc⟩ := List.exists_mem_of_ne_nil _ hcne
      obtain ⟨b, hb⟩ := hcols' c hc
      have := lookupCol_mem hb
      rw [hd] at this
      cases this
  refine ⟨he.columns, ?_, he.indexes, hok', fun c hc => by obtain ⟨b, hb, hb'⟩ := he.old c hc; exact ⟨b, _, hb, hb'⟩⟩
  let A : Nat → List Cell := fun c => if c ∈ t.columns then t.vcol c else List.replicate N Cell.missing
  have hv : ∀ c ∈ t.columns ++ newCols, t'.vcol c = A c ++ B c ∧ (A c).length = N := by
    intro c hc
    rw [vcol_all t' he.sel]
    by_cases hcc : c ∈ t.columns
    · obtain ⟨b, hb, hb'⟩ := he.old c hcc
      simp only [A, hcc, if_true, vcol_all t h.sel, Table.base, hb, hb']
      exact ⟨trivial, h.ok.len _ (lookupCol_mem hb)⟩
    · have hcn : c ∈ newCols := (List.mem_append.mp hc).resolve_left hcc
      simp only [A, hcc, if_false, Table.base, (he.fresh c hcn).2, List.length_replicate]
      exact ⟨trivial, trivial⟩
  have hm' : t'.m (N + k) = N + k := Table.m_all he.sel _
  rw [hok'.ok.rows_eq (by rw [he.columns]; exact hcne), hm', h.rows_eq R hR]
  have hrow : ∀ i, t'.rowAt i = (t.columns ++ newCols).map (fun c => cellAt (A c ++ B c) i) := fun i => by
    rw [Table.rowAt, he.columns]
    exact List.map_congr_left fun c hc => by rw [(hv c hc).1]
  rw [List.map_congr_left (fun i _ => hrow i), rows_append_cols _ A B N k (fun c hc => (hv c hc).2), List.map_map]
  congr 2
  refine List.map_congr_left fun i _ => ?_
  show _ = t.rowAt i ++ _
  rw [Table.rowAt, List.map_append]
  congr 1
  · exact List.map_congr_left fun c hc => by simp only [A, hc, if_true]
  · exact List.map_congr_left fun c hc => by simp only [A, (he.fresh c hc).1, if_false, cellAt_replicate]


/-! ## `insert` of a sequence of rows -/

theorem insert_rows_spec' (cfg : Cfg) (t : Table) (N : Nat) (h : InsertOK t N) (hnd : t.columns.Nodup) (hcne : t.columns ≠ [])
    (r : List Cell) (rs : List (List Cell)) (hlen : ∀ x ∈ r :: rs, x.length = t.columns.length)
    (R : List (List Cell)) (hR : t.rows = .ok R) :
    ∃ t', t.insertRaw cfg (.rows (r :: rs)) = .ok t' ∧ Appended t t' (N + (r :: rs).length) t.columns (R ++ (r :: rs)) := by
  have h1 : ¬ (r.length ≠ t.columns.length) := by simpa using hlen r (by simp)
  have h2 : ¬ ((rs.all (fun r' => r'.length == t.columns.length)) = false) := by
    simp only [Bool.not_eq_false, List.all_eq_true, beq_iff_eq]
    exact fun x hx => hlen x (by simp [hx])
  let B : Nat → List Cell := fun c => (r :: rs).map (fun row => row.getD (t.columns.idxOf c) .missing)
  let f : Nat × List Cell → Nat × List Cell := fun p =>
    match t.columns.zipIdx.find? (fun c => c.1 == p.1) with
    | some c => (p.1, p.2 ++ (r :: rs).map (fun row => row.getD c.2 .missing))
    | Option.none => p
  have hf : ∀ p, p.1 ∈ t.columns → f p = (p.1, p.2 ++ B p.1) := by
    intro p hp
    simp only [f, find_zipIdx p.1 t.columns 0 hp, Nat.zero_add, B]
  have hrun : t.insertRaw cfg (.rows (r :: rs)) = .ok { t with data := t.data.map f } := by
    simp only [Table.insertRaw, h1, h2, if_false]
    rfl
  have he : Extends t { t with data := t.data.map f } N (r :: rs).length [] B := by
    refine ⟨(List.append_nil _).symm, h.sel, rfl, ?_, nofun, fun c _ => List.length_map _, ?_⟩
    · intro c hc
      obtain ⟨b, hb⟩ := h.ok.cols c hc
      refine ⟨b, hb, ?_⟩
      rw [lookupCol_map_key f (fun p => by simp only [f]; split <;> rfl), find_of_lookupCol hb]
      simp only [hf (c, b) hc]
    · intro p hp
      obtain ⟨q, hq, rfl⟩ := List.mem_map.mp hp
      rw [hf q (h.keys q hq), List.append_nil]
      exact ⟨h.keys q hq, by rw [List.length_append, h.ok.len q hq, List.length_map]⟩
  have ha := he.spec h (by rw [List.append_nil]; exact hcne) R hR
  refine ⟨_, hrun, { ha with columns := rfl, rows := ?_ }⟩
  rw [ha.rows, List.append_nil]
  congr 2
  · exact (List.map_congr_left fun r' _ => List.append_nil r').trans (List.map_id _)
  · refine List.ext_getElem (by simp) fun i h1 _ => ?_
    have hi : i < (r :: rs).length := by simpa using h1
    rw [List.getElem_map, List.getElem_range, ← map_getD_idxOf t.columns ((r :: rs)[i]) hnd (hlen _ (List.getElem_mem hi))]
    exact List.map_congr_left fun c _ => cellAt_map_rows (r :: rs) _ i hi


/-! ## `insert` of a column mapping / of dict rows -/

theorem mem_insertNatSorted (x y : Nat) : ∀ l : List Nat, y ∈ insertNatSorted x l ↔ y = x ∨ y ∈ l
  | [] => by simp [insertNatSorted]
  | z :: zs => by
    simp only [insertNatSorted]
    split
    · exact List.mem_cons
    · rw [List.mem_cons, mem_insertNatSorted x y zs, List.mem_cons, or_left_comm]

theorem mem_sortNat (y : Nat) : ∀ l : List Nat, y ∈ sortNat l ↔ y ∈ l
  | [] => by simp [sortNat]
  | x :: xs => by simp [sortNat, mem_insertNatSorted, mem_sortNat y xs]

theorem mem_dedupNat (y : Nat) : ∀ l : List Nat, y ∈ dedupNat l ↔ y ∈ l
  | [] => by simp [dedupNat]
  | x :: xs => by
    simp only [dedupNat, List.mem_cons, List.mem_filter, mem_dedupNat y xs]
    constructor
    · rintro (h | ⟨h, _⟩)
      · exact Or.inl h
      · exact Or.inr h
    · rintro (h | h)
      · exact Or.inl h
      · by_cases e : y = x
        · exact Or.inl e
        · right; refine ⟨h, ?_⟩; simp; exact fun e' => e e'.symm

def mapVal (cs : List (Nat × List Cell)) (c : Nat) : Option (List Cell) :=
  (cs.find? (fun q => q.1 == c)).map (·.2)

theorem mem_newColsOf (columns keys : List Nat) (c : Nat) : c ∈ newColsOf columns keys ↔ c ∈ keys ∧ c ∉ columns := by
  simp [newColsOf, mem_sortNat, List.mem_filter, mem_dedupNat]

theorem find_self (c : Nat) : ∀ l : List Nat, c ∈ l → l.find? (fun c' => c' == c) = some c
  | [], h => by simp at h
  | x :: xs, h => by
    by_cases hx : x = c
    · subst hx; simp
    · have : (x == c) = false := by simpa using hx
      simp only [List.find?_cons, this]
      exact find_self c xs (by simp at h; rcases h with e | e; exact absurd e.symm hx; exact e)

theorem mapValD_eq (cs : List (Nat × List Cell)) (c : Nat) :
    mapValD cs c = match cs.find? (fun q => q.1 == c) with | some q => q.2 | Option.none => [] := rfl

theorem insertCols_spec (t : Table) (N : Nat) (h : InsertOK t N) (cs : List (Nat × List Cell)) (padLen : Option Nat) (k : Nat)
    (hpad : padLenOf padLen cs = k) (hk : ∀ q ∈ cs, q.2.length = k)
    (hcne : t.columns ++ newColsOf t.columns (cs.map (·.1)) ≠ [])
    (R : List (List Cell)) (hR : t.rows = .ok R) :
    ∃ t', insertCols t cs padLen = .ok t' ∧
      Appended t t' (N + k) (insertColsS t.columns R cs k).1 (insertColsS t.columns R cs k).2 := by
  generalize hnc : newColsOf t.columns (cs.map (·.1)) = newCols at *
  have hnew : ∀ c, c ∈ newCols ↔ (∃ q ∈ cs, q.1 = c) ∧ c ∉ t.columns := by
    intro c; rw [← hnc, mem_newColsOf]; simp
  have hfind : ∀ c, (∃ q, cs.find? (fun q => q.1 == c) = some q ∧ q.2.length = k) ∨
      (cs.find? (fun q => q.1 == c) = Option.none ∧ ¬ ∃ q ∈ cs, q.1 = c) := by
    intro c
    cases hf : cs.find? (fun q => q.1 == c) with
    | some q => exact Or.inl ⟨q, rfl, hk q (List.mem_of_find?_eq_some hf)⟩
    | none => exact Or.inr ⟨rfl, fun ⟨q, hq, e⟩ => by have := List.find?_eq_none.mp hf q hq; simp [e] at this⟩
  let B : Nat → List Cell := fun c =>
    match cs.find? (fun q => q.1 == c) with | some q => q.2 | Option.none => List.replicate k Cell.missing
  have hBl : ∀ c, (B c).length = k := by
    intro c
    rcases hfind c with ⟨q, e, hl⟩ | ⟨e, _⟩
    · simp only [B, e, hl]
    · simp only [B, e, List.length_replicate]
  have hB : ∀ c i, cellAt (B c) i = cellAt (mapValD cs c) i := by
    intro c i
    rcases hfind c with ⟨q, e, _⟩ | ⟨e, _⟩ <;> simp only [B, mapValD_eq, e, cellAt_replicate, cellAt_nil]
  have hf1 : ∀ p, (extendOld t.columns cs k p).1 = p.1 := by
    intro p; simp only [extendOld]; split
    · split <;> rfl
    · rfl
  have hf2 : ∀ p, p.1 ∈ t.columns → extendOld t.columns cs k p = (p.1, p.2 ++ B p.1) := by
    intro p hp
    have hcon : t.columns.contains p.1 = true := by simpa using hp
    simp only [extendOld, hcon, if_true, B]
    cases cs.find? (fun q => q.1 == p.1) <;> rfl
  let fresh : List (Nat × List Cell) := newCols.map (fun c => (c, List.replicate N Cell.missing ++ mapValD cs c))
  let data2 := (t.data.map (extendOld t.columns cs k)).filter (fun p => !(newCols.contains p.1)) ++ fresh
  have hrun : insertCols t cs padLen = .ok { t with data := data2, columns := t.columns ++ newCols } := by
    simp only [insertCols, hnc, hpad]
    by_cases hne : newCols.isEmpty = true
    · have : newCols = [] := by simpa using hne
      simp only [hne, if_true]
      simp [data2, fresh, this]
    · simp only [hne, h.len_eq]
      rfl
  have he : Extends t { t with data := data2, columns := t.columns ++ newCols } N k newCols B := by
    refine ⟨rfl, h.sel, rfl, ?_, ?_, fun c _ => hBl c, ?_⟩
    · intro c hc
      obtain ⟨b, hb⟩ := h.ok.cols c hc
      have hkeep : (!(newCols.contains c)) = true := by simpa using fun hm => ((hnew c).mp hm).2 hc
      refine ⟨b, hb, ?_⟩
      rw [lookupCol_append, lookupCol_filter_key (fun x => !(newCols.contains x)), hkeep, if_pos rfl,
        lookupCol_map_key _ hf1, find_of_lookupCol hb]
      simp only [hf2 (c, b) hc]
    · intro c hc
      have hkeep : (!(newCols.contains c)) = false := by simpa using hc
      refine ⟨((hnew c).mp hc).2, ?_⟩
      rw [lookupCol_append, lookupCol_filter_key (fun x => !(newCols.contains x)), hkeep]
      have : fresh.find? (fun p => p.1 == c) = some (c, List.replicate N Cell.missing ++ mapValD cs c) := by
        simp only [fresh, List.find?_map]
        have hcomp : ((fun p : Nat × List Cell => p.1 == c) ∘ fun c' => (c', List.replicate N Cell.missing ++ mapValD cs c')) = (fun c' => c' == c) := by
          funext c'; rfl
        rw [hcomp, find_self c newCols hc]; rfl
      simp only [Bool.false_eq_true, if_false, lookupCol, this]
      obtain ⟨q, hq, e⟩ := ((hnew c).mp hc).1
      rcases hfind c with ⟨q', e', _⟩ | ⟨_, hno⟩
      · simp only [B, mapValD_eq, e']
      · exact absurd ⟨q, hq, e⟩ hno
    · intro p hp
      simp only [data2, List.mem_append, List.mem_filter, List.mem_map] at hp
      rcases hp with ⟨⟨q, hq, rfl⟩, _⟩ | hp
      · rw [hf2 q (h.keys q hq)]
        exact ⟨List.mem_append_left _ (h.keys q hq), by rw [List.length_append, h.ok.len q hq, hBl]⟩
      · simp only [fresh, List.mem_map] at hp
        obtain ⟨c, hc, rfl⟩ := hp
        obtain ⟨q, hq, e⟩ := ((hnew c).mp hc).1
        refine ⟨List.mem_append_right _ hc, ?_⟩
        rcases hfind c with ⟨q', e', hl⟩ | ⟨_, hno⟩
        · simp only [List.length_append, List.length_replicate, mapValD_eq, e', hl]
        · exact absurd ⟨q, hq, e⟩ hno
  have ha := he.spec h hcne R hR
  refine ⟨_, hrun, { ha with columns := by simp [insertColsS, hnc], rows := ?_ }⟩
  rw [ha.rows]
  simp only [insertColsS, hnc, hB]


theorem dedupNat_of_nodup : ∀ l : List Nat, l.Nodup → dedupNat l = l
  | [], _ => rfl
  | x :: xs, h => by
    rw [List.nodup_cons] at h
    simp only [dedupNat, dedupNat_of_nodup xs h.2]
    congr 1
    apply List.filter_eq_self.mpr
    intro y hy
    simp
    rintro rfl; exact h.1 hy

theorem nodup_dedupNat : ∀ l : List Nat, (dedupNat l).Nodup
  | [] => List.nodup_nil
  | x :: xs => by
    simp only [dedupNat]
    rw [List.nodup_cons]
    refine ⟨by simp [List.mem_filter], (nodup_dedupNat xs).filter _⟩

theorem dictsToCols_keys (ds : List (List (Nat × Cell))) :
    (dictsToCols ds).map (·.1) = dedupNat (ds.flatMap (fun d => d.map (·.1))) := by
  simp only [dictsToCols, List.map_map]
  have : ((fun x : Nat × List Cell => x.1) ∘ fun k => (k, ds.map (fun d => assocGet d k))) = id := by funext k; rfl
  rw [this, List.map_id]

theorem newColsOf_dedup (columns keys : List Nat) : newColsOf columns (dedupNat keys) = newColsOf columns keys := by
  simp [newColsOf, dedupNat_of_nodup _ (nodup_dedupNat keys)]

theorem assocGet_missing (d : List (Nat × Cell)) (c : Nat) (h : ∀ p ∈ d, p.1 ≠ c) : assocGet d c = Cell.missing := by
  simp only [assocGet]
  cases hf : d.find? (fun p => p.1 == c) with
  | none => rfl
  | some p => exact absurd (by simpa using List.find?_some hf) (h p (List.mem_of_find?_eq_some hf))

theorem mapValD_dicts (ds : List (List (Nat × Cell))) (c : Nat) (i : Nat) (hi : i < ds.length) :
    cellAt (mapValD (dictsToCols ds) c) i = assocGet ds[i] c := by
  simp only [mapValD, dictsToCols, List.find?_map]
  have hcomp : ((fun q : Nat × List Cell => q.1 == c) ∘ fun k => (k, ds.map (fun d => assocGet d k))) = (fun k => k == c) := by
    funext k; rfl
  rw [hcomp]
  by_cases hc : c ∈ dedupNat (ds.flatMap (fun d => d.map (·.1)))
  · rw [find_self c _ hc]
    simp [cellAt, List.getD, hi]
  · have hn : (dedupNat (ds.flatMap (fun d => d.map (·.1)))).find? (fun k => k == c) = Option.none := by
      rw [List.find?_eq_none]
      intro k hk hkc
      have : k = c := by simpa using hkc
      exact hc (this ▸ hk)
    simp only [hn, Option.map_none, cellAt_nil]
    symm
    apply assocGet_missing
    intro p hp hpc
    apply hc
    rw [mem_dedupNat, List.mem_flatMap]
    exact ⟨ds[i], List.getElem_mem hi, List.mem_map.mpr ⟨p, hp, hpc⟩⟩

theorem insert_mapping_rows' (cfg : Cfg) (t : Table) (N : Nat) (h : InsertOK t N) (q0 : Nat × List Cell) (cs : List (Nat × List Cell))
    (hk : ∀ q ∈ q0 :: cs, q.2.length = q0.2.length)
    (hcne : t.columns ++ newColsOf t.columns ((q0 :: cs).map (·.1)) ≠ [])
    (R : List (List Cell)) (hR : t.rows = .ok R) :
    ∃ t', t.insertRaw cfg (.cols (q0 :: cs)) = .ok t' ∧
      Appended t t' (N + q0.2.length) (insertColsS t.columns R (q0 :: cs) q0.2.length).1 (insertColsS t.columns R (q0 :: cs) q0.2.length).2 := by
  obtain ⟨t', e, ha⟩ := insertCols_spec t N h (q0 :: cs) Option.none q0.2.length (by cases q0; rfl) hk hcne R hR
  exact ⟨t', by simpa [Table.insertRaw] using e, ha⟩

theorem insertDictsS_eq_cols (columns : List Nat) (R : List (List Cell)) (ds : List (List (Nat × Cell))) :
    insertDictsS columns R ds = insertColsS columns R (dictsToCols ds) ds.length := by
  simp only [insertDictsS, insertColsS, dictsToCols_keys, newColsOf_dedup]
  congr 2
  refine List.ext_getElem (by simp) fun i h1 _ => ?_
  simp only [List.length_map] at h1
  simp only [List.getElem_map, List.getElem_range]
  exact List.map_congr_left fun c _ => (mapValD_dicts ds c i h1).symm

theorem insert_dicts_rows' (cfg : Cfg) (t : Table) (N : Nat) (h : InsertOK t N) (d0 : List (Nat × Cell)) (ds : List (List (Nat × Cell)))
    (hpad : cfg.dictLen = true ∨ dictsToCols (d0 :: ds) ≠ [])
    (hcne : t.columns ++ newColsOf t.columns ((d0 :: ds).flatMap (fun d => d.map (·.1))) ≠ [])
    (R : List (List Cell)) (hR : t.rows = .ok R) :
    ∃ t', t.insertRaw cfg (.dicts (d0 :: ds)) = .ok t' ∧
      Appended t t' (N + (d0 :: ds).length) (insertDictsS t.columns R (d0 :: ds)).1 (insertDictsS t.columns R (d0 :: ds)).2 := by
  rw [insertDictsS_eq_cols]
  obtain ⟨t', e, ha⟩ := insertCols_spec t N h (dictsToCols (d0 :: ds))
    (if cfg.dictLen then some (d0 :: ds).length else if (dictsToCols (d0 :: ds)).isEmpty then some 1 else Option.none)
    (d0 :: ds).length (by
      by_cases hd : cfg.dictLen = true
      · simp [hd, padLenOf]
      · have hne : dictsToCols (d0 :: ds) ≠ [] := by rcases hpad with h' | h'; exact absurd h' hd; exact h'
        have : (dictsToCols (d0 :: ds)).isEmpty = false := by cases hq : dictsToCols (d0 :: ds) <;> simp_all
        simp only [hd, this, Bool.false_eq_true, if_false]
        cases hq : dictsToCols (d0 :: ds) with
        | nil => exact absurd hq hne
        | cons q rest =>
          have hm : q ∈ dictsToCols (d0 :: ds) := by simp [hq]
          simp only [dictsToCols, List.mem_map] at hm
          obtain ⟨k, _, rfl⟩ := hm
          simp [padLenOf])
    (by
      intro q hq
      simp only [dictsToCols, List.mem_map] at hq
      obtain ⟨k, _, rfl⟩ := hq
      simp)
    (by rw [dictsToCols_keys, newColsOf_dedup]; exact hcne) R hR
  exact ⟨t', by simpa [Table.insertRaw] using e, ha⟩


/-! ## `insert` against `insertS`, with the decidable hypotheses -/

theorem insertRaw_empty (cfg : Cfg) (t : Table) (d : InsertData) (h : d.isEmpty = true) : t.insertRaw cfg d = .ok t := by
  cases d <;> rename_i l <;> cases l <;> simp_all [InsertData.isEmpty, Table.insertRaw]

theorem insert_eq_insertRaw (cfg : Cfg) (t t' : Table) (d : InsertData)
    (hni : cfg.resortInsert = false ∨ t.indexes = []) (e : t.insertRaw cfg d = .ok t') (hidx : t'.indexes = t.indexes) :
    t.insert cfg d = .ok t' := by
  have : (cfg.resortInsert && !d.isEmpty && !t'.indexes.isEmpty) = false := by
    rcases hni with h | h
    · simp [h]
    · simp [hidx, h]
  simp only [Table.insert, e, this]; rfl

theorem insertOKB_sound {t : Table} (h : insertOKB t = true) : InsertOK t (tableN t) := by
  simp only [insertOKB, Bool.and_eq_true, decide_eq_true_eq, List.all_eq_true] at h
  obtain ⟨⟨h1, h2⟩, h3⟩ := h
  refine ⟨tableOKB_sound h2, h1, fun p hp => by simpa using h3 p hp, fun hd => by simp [tableN, hd]⟩

theorem insertRaw_eq_spec' (cfg : Cfg) (t : Table) (d : InsertData) (hwf : insertRawWF cfg t d = true) :
    ∃ t' R, t.rows = .ok R ∧ t.insertRaw cfg d = .ok t' ∧
      Appended t t' (tableN t + d.size) (insertS t.columns R d).1 (insertS t.columns R d).2 := by
  simp only [insertRawWF, Bool.and_eq_true] at hwf
  obtain ⟨h0, hd⟩ := hwf
  have hok := insertOKB_sound h0
  obtain ⟨R, hR⟩ : ∃ R, t.rows = .ok R := ⟨_, hok.rows⟩
  cases d with
  | rows rs =>
    simp only [Bool.and_eq_true, Bool.not_eq_true', decide_eq_true_eq, List.all_eq_true, beq_iff_eq] at hd
    obtain ⟨⟨⟨h1, h2⟩, h3⟩, h4⟩ := hd
    cases rs with
    | nil => simp at h1
    | cons r rs =>
      have hcne : t.columns ≠ [] := by intro e; simp [e] at h2
      obtain ⟨t', a, ha⟩ := insert_rows_spec' cfg t (tableN t) hok h3 hcne r rs h4 R hR
      exact ⟨t', R, hR, a, ha⟩
  | cols cs =>
    cases cs with
    | nil => simp at hd
    | cons q0 cs =>
      simp only [Bool.and_eq_true, Bool.not_eq_true', List.all_eq_true, beq_iff_eq] at hd
      obtain ⟨h1, h2⟩ := hd
      have hcne : t.columns ++ newColsOf t.columns ((q0 :: cs).map (·.1)) ≠ [] := by
        intro e; rw [e] at h2; simp at h2
      obtain ⟨t', a, ha⟩ := insert_mapping_rows' cfg t (tableN t) hok q0 cs h1 hcne R hR
      exact ⟨t', R, hR, a, ha⟩
  | dicts ds =>
    simp only [Bool.and_eq_true, Bool.not_eq_true', Bool.or_eq_true] at hd
    obtain ⟨⟨h1, h2⟩, h3⟩ := hd
    cases ds with
    | nil => simp at h1
    | cons d0 ds =>
      have hcne : t.columns ++ newColsOf t.columns ((d0 :: ds).flatMap (fun d => d.map (·.1))) ≠ [] := by
        intro e; rw [e] at h3; simp at h3
      have hpad : cfg.dictLen = true ∨ dictsToCols (d0 :: ds) ≠ [] := by
        rcases h2 with h2 | h2
        · exact Or.inl h2
        · right; intro e; rw [e] at h2; simp at h2
      obtain ⟨t', a, ha⟩ := insert_dicts_rows' cfg t (tableN t) hok d0 ds hpad hcne R hR
      exact ⟨t', R, hR, a, ha⟩

/-! ## `insert` keeps an indexed table in index order (P13 repair) -/

theorem rowOrd_spec (f : Nat → List Cell) : ∀ (ds : List Nat) (i j : Nat),
    (∀ d ∈ ds, (cellAt (f d) i).key.comparable (cellAt (f d) j).key = true) →
    rowOrd (ds.map f) i j = (if lexLtK (fun d x => (cellAt (f d) x).key) ds j i then Ord3.gt else Ord3.le)
  | [], _, _, _ => rfl
  | d :: rest, i, j, h => by
    have hc := h d (by simp)
    have hc' : (cellAt (f d) j).key.comparable (cellAt (f d) i).key = true := by rw [Key.comparable_symm]; exact hc
    simp only [List.map_cons, rowOrd, pyLt, hc, hc', if_true, lexLtK]
    by_cases h1 : (cellAt (f d) i).key.lt (cellAt (f d) j).key = true
    · simp [h1, Key.lt_asymm _ _ h1]
    · simp only [Bool.not_eq_true] at h1
      simp only [h1]
      by_cases h2 : (cellAt (f d) j).key.lt (cellAt (f d) i).key = true
      · simp [h2]
      · simp only [Bool.not_eq_true] at h2
        simp only [h2, Bool.false_eq_true, if_false]
        exact rowOrd_spec f rest i j (fun d' hd' => h d' (by simp [hd']))

theorem tailOrd_spec (f : Nat → List Cell) (ds : List Nat) : ∀ (k m : Nat),
    (∀ x, m ≤ x → x ≤ m + k → ∀ y, m ≤ y → y ≤ m + k → ∀ d ∈ ds, (cellAt (f d) x).key.comparable (cellAt (f d) y).key = true) →
    (tailOrd (ds.map f) k (m + 1) = .le ∧ ∀ x, m ≤ x → x < m + k → lexLtK (fun d x => (cellAt (f d) x).key) ds (x + 1) x = false) ∨
    (tailOrd (ds.map f) k (m + 1) = .gt ∧ ∃ x, m ≤ x ∧ x < m + k ∧ lexLtK (fun d x => (cellAt (f d) x).key) ds (x + 1) x = true)
  | 0, m, _ => Or.inl ⟨rfl, fun x h1 h2 => absurd h2 (Nat.not_lt.mpr h1)⟩
  | k + 1, m, hc => by
    have hr := rowOrd_spec f ds m (m + 1) (fun d hd => hc m (le_refl _) (Nat.le_add_right _ _) (m + 1) (Nat.le_succ _) (by omega) d hd)
    simp only [tailOrd, Nat.add_sub_cancel, hr]
    cases hlt : lexLtK (fun d x => (cellAt (f d) x).key) ds (m + 1) m with
    | true => exact Or.inr ⟨rfl, m, le_refl _, Nat.lt_add_of_pos_right (Nat.succ_pos _), hlt⟩
    | false =>
      simp only [Bool.false_eq_true, if_false]
      rcases tailOrd_spec f ds k (m + 1) (fun x h1 h2 y h3 h4 d hd => hc x (by omega) (by omega) y (by omega) (by omega) d hd)
        with ⟨e, hall⟩ | ⟨e, x, h1, h2, h3⟩
      · refine Or.inl ⟨e, fun x h1 h2 => ?_⟩
        rcases Nat.eq_or_lt_of_le h1 with rfl | h1'
        · exact hlt
        · exact hall x h1' (by omega)
      · exact Or.inr ⟨e, x, by omega, by omega, h3⟩

theorem sorted_extend (K : Nat → Nat → Key) (ds : List Nat) (N M : Nat)
    (hold : ∀ i j, i < j → j < N → lexLtK K ds j i = false)
    (hadj : ∀ x, N ≤ x + 1 → x + 1 < M → lexLtK K ds (x + 1) x = false) :
    ∀ i j, i < j → j < M → lexLtK K ds j i = false := by
  intro i j
  induction j with
  | zero => intro h; exact absurd h (Nat.not_lt_zero _)
  | succ j ih =>
    intro hij hj
    by_cases hjN : j + 1 < N
    · exact hold i (j + 1) hij hjN
    · have hstep := hadj j (Nat.not_lt.mp hjN) hj
      rcases Nat.eq_or_lt_of_le (Nat.le_of_lt_succ hij) with rfl | hi
      · exact hstep
      · exact lexLtK_le_trans K ds i j (j + 1) (ih hi (Nat.lt_of_succ_lt hj)) hstep


theorem idxCellsOKB_sound {t : Table} {N : Nat} (h : idxCellsOKB t N = true) :
    (∀ d ∈ t.indexes, ∀ x y, x < t.m N → y < t.m N → (Kt t d x).comparable (Kt t d y) = true) ∧
    (∀ d ∈ t.indexes, ∀ x, x < t.m N → Kt t d x ≠ .none) := by
  simp only [idxCellsOKB, List.all_eq_true, colCellsB_iff] at h
  exact ⟨fun d hd => (h d hd).2, fun d hd => (h d hd).1⟩

theorem mem_insertS_cols (columns : List Nat) (R : List (List Cell)) (d : InsertData) (c : Nat) (hc : c ∈ columns) :
    c ∈ (insertS columns R d).1 := by
  cases d with
  | rows rs => exact hc
  | dicts ds =>
    simp only [insertS]
    split
    · exact hc
    · simp only [insertDictsS]; exact List.mem_append_left _ hc
  | cols cs =>
    cases cs with
    | nil => exact hc
    | cons q cs => simp only [insertS, insertColsS]; exact List.mem_append_left _ hc

theorem constFrom_keys {c : List Cell} {lo hi : Nat} (h : constFrom c lo hi = true) :
    ∀ x, lo ≤ x → x < hi → (cellAt c x).key = (cellAt c lo).key := by
  simp only [constFrom, Bool.and_eq_true, bne_iff_ne, ne_eq] at h
  obtain ⟨⟨⟨_, h1⟩, h2⟩, h3⟩ := h
  intro x hx1 hx2
  exact key_eq_of_pyEq ((allIn_iff _ _ _).mp h3 x hx1 hx2) h1 h2

theorem inIndexOrderOf_spec (f : Nat → List Cell) (ds : List Nat) (nOld n : Nat)
    (hcmp : ∀ x, x < n → ∀ y, y < n → ∀ d ∈ ds, (cellAt (f d) x).key.comparable (cellAt (f d) y).key = true) :
    (inIndexOrderOf (ds.map f) nOld n = .le ∧
      ∀ x, nOld ≤ x + 1 → x + 1 < n → lexLtK (fun d x => (cellAt (f d) x).key) ds (x + 1) x = false) ∨
    inIndexOrderOf (ds.map f) nOld n = .gt := by
  unfold inIndexOrderOf
  have hrow : ∀ p, p + 1 < n → rowOrd (ds.map f) p (p + 1) =
      if lexLtK (fun d x => (cellAt (f d) x).key) ds (p + 1) p then Ord3.gt else Ord3.le := fun p hp =>
    rowOrd_spec f ds p (p + 1) (fun d hd => hcmp _ (Nat.lt_of_succ_lt hp) _ hp d hd)
  split
  · exact Or.inr rfl
  · -- never `cannot`: the cells can be ordered
    rename_i heq
    split at heq
    · rename_i hc
      simp only [Bool.and_eq_true, decide_eq_true_eq] at hc
      obtain ⟨p, rfl⟩ := Nat.exists_eq_succ_of_ne_zero (Nat.pos_iff_ne_zero.mp hc.1)
      rw [Nat.succ_sub_one, hrow p hc.2] at heq
      split at heq <;> cases heq
    · cases heq
  rename_i heq
  have hbd : ∀ x, x + 1 = nOld → x + 1 < n → lexLtK (fun d x => (cellAt (f d) x).key) ds (x + 1) x = false := by
    rintro x rfl h2
    rw [if_pos (by simp [h2]), Nat.succ_sub_one, hrow x h2] at heq
    cases hl : lexLtK (fun d x => (cellAt (f d) x).key) ds (x + 1) x with
    | true => rw [hl] at heq; cases heq
    | false => rfl
  simp only [List.getLast?_map]
  cases hl : ds.getLast? with
  | none =>
    obtain rfl : ds = [] := List.getLast?_eq_none_iff.mp hl
    exact Or.inl ⟨rfl, fun _ _ _ => rfl⟩
  | some last =>
    simp only [Option.map_some, ← List.map_dropLast, List.all_map]
    have hsplit : ds.dropLast ++ [last] = ds := List.dropLast_append_getLast? last (by rw [hl]; rfl)
    by_cases hconst : (ds.dropLast.all ((fun c => constFrom c nOld n) ∘ f)) = true
    · simp only [hconst, if_true]
      simp only [List.all_eq_true, Function.comp] at hconst
      -- `sorted(last)` does not raise
      have hac : allComparable ((List.range' nOld (n - nOld)).map (cellAt (f last))) = true := by
        apply allComparable_of
        intro a ha b hb'
        simp only [List.mem_map, List.mem_range'_1] at ha hb'
        obtain ⟨x, hx, rfl⟩ := ha
        obtain ⟨y, hy, rfl⟩ := hb'
        exact hcmp x (by omega) y (by omega) last (by rw [← hsplit]; simp)
      simp only [sortedFrom, pySortedBy_ok _ _ hac]
      by_cases hid : sortBy (ltBy (cellAt (f last))) (List.range' nOld (n - nOld)) = List.range' nOld (n - nOld)
      · left
        simp only [hid, if_true, true_and]
        have hs := sortBy_sorted (ltBy (cellAt (f last))) (ltBy_swo (cellAt (f last))) (List.range' nOld (n - nOld))
        rw [hid, sortedBy_iff_getElem] at hs
        intro x h1 h2
        rcases Nat.eq_or_lt_of_le h1 with h1 | h1
        · exact hbd x h1.symm h2
        · -- both rows are new: rows `x`, `x + 1` are entries `k`, `k + 1` of the sorted range
          obtain ⟨k, rfl⟩ := Nat.exists_eq_add_of_le (Nat.le_of_lt_succ h1)
          rw [← hsplit, lexLtK_snoc_of_agree _ _ _ _ _ (fun d hd => by
            rw [constFrom_keys (hconst d hd) _ (by omega) h2, constFrom_keys (hconst d hd) (nOld + k) (Nat.le_add_right _ _) (by omega)])]
          have := hs k (k + 1) (by rw [List.length_range']; omega) (by rw [List.length_range']; omega) (Nat.lt_succ_self k)
          simpa only [List.getElem_range', Nat.one_mul, ltBy, Nat.add_assoc] using this
      · right
        simp [hid]
    · simp only [hconst]
      by_cases hk : n ≤ nOld
      · left
        rw [Nat.sub_eq_zero_of_le (Nat.le_succ_of_le hk)]
        exact ⟨by simp [tailOrd], fun x h1 h2 => absurd (Nat.lt_of_lt_of_le h2 hk) (Nat.not_lt.mpr h1)⟩
      · -- at least one new row: `n = nOld + 1 + j`, and `tailOrd` looks at the `j` rows behind the first new one
        obtain ⟨j, rfl⟩ : ∃ j, n = nOld + 1 + j := ⟨n - (nOld + 1), by omega⟩
        rw [Nat.add_sub_cancel_left]
        rcases tailOrd_spec f ds j nOld (fun x _ h2 y _ h4 => hcmp x (by omega) y (by omega)) with ⟨e, hall⟩ | ⟨e, _⟩
        · refine Or.inl ⟨by simpa using e, fun x h1 h2 => ?_⟩
          rcases Nat.eq_or_lt_of_le h1 with h1 | h1
          · exact hbd x h1.symm h2
          · exact hall x (Nat.le_of_lt_succ h1) (by omega)
        · right; simpa using e

/-- the second half of the repaired `insert`, for the table `t'` the rows were appended to -/
theorem keep_order (cfg : Cfg) {t t' : Table} {N N' : Nat} {cols' : List Nat} {R' : List (List Cell)}
    (hok : InsertOK t N) (hix : Indexed t N) (hne : t.indexes ≠ []) (hsub : ∀ c ∈ t.indexes, c ∈ t.columns)
    (ha : Appended t t' N' cols' R') (hcells : idxCellsOKB t' N' = true) :
    ∃ t'', (t'.inIndexOrder N = .le ∧ t'' = t' ∨
        t'.inIndexOrder N = .gt ∧ Table.index cfg { t' with indexes := [] } t'.indexes = .ok t'') ∧
      t''.columns = t'.columns ∧ t''.indexes = t.indexes ∧ InsertOK t'' N' ∧ Indexed t'' N' ∧
      ∃ R'', t''.rows = .ok R'' ∧
        R''.map (List.map Cell.key) = (indexS (idxPositions t'.columns t.indexes) R').map (List.map Cell.key) := by
  have hcols := ha.cols_sub
  have hR' := ha.rows
  have hidx := ha.indexes
  have hok' := ha.ok
  have hpre := ha.pre
  have hm : t.m N = N := Table.m_all hok.sel _
  have hm' : t'.m N' = N' := Table.m_all hok'.sel _
  obtain ⟨hcmp, hnn⟩ := idxCellsOKB_sound hcells
  rw [hm', hidx] at hcmp hnn
  have hKpre : ∀ d ∈ t.indexes, ∀ x, x < N → Kt t' d x = Kt t d x := by
    intro d hd x hx
    obtain ⟨b, y, e1, e2⟩ := hpre d (hsub d hd)
    have hbl : b.length = N := hok.ok.len _ (lookupCol_mem e1)
    simp only [Kt, vcol_all t hok.sel, vcol_all t' hok'.sel, Table.base, e1, e2]
    rw [cellAt_append_left b y x (by omega)]
  have hstored' : ∀ d ∈ t.indexes, ∃ b, lookupCol t'.data d = .ok b := by
    intro d hd
    obtain ⟨b, y, _, e2⟩ := hpre d (hsub d hd)
    exact ⟨_, e2⟩
  have hdne : t'.data ≠ [] := by
    obtain ⟨d, hd⟩ := List.exists_mem_of_ne_nil _ hne
    obtain ⟨b, hb⟩ := hstored' d hd
    exact List.ne_nil_of_mem (lookupCol_mem hb)
  have hlen' : t'.len = .ok N' := hok'.len_eq
  have hR'e := hok'.rows_eq R' hR'
  have hcne' : t'.columns ≠ [] := by
    obtain ⟨d, hd⟩ := List.exists_mem_of_ne_nil _ hne
    exact List.ne_nil_of_mem (hcols d (hsub d hd))
  have hio : t'.inIndexOrder N = inIndexOrderOf (t.indexes.map t'.vcol) N N' := by
    unfold Table.inIndexOrder
    rw [hlen', hidx]
    simp only
    congr 1
    apply List.map_congr_left
    intro c _
    rw [vcol_all t' hok'.sel]; rfl
  have hold : ∀ i j, i < j → j < N → lexLtK (Kt t') t.indexes j i = false := by
    intro i j hij hj
    rw [lexLtK_congr (Kt t') (Kt t) t.indexes j i j i (fun d hd => ⟨hKpre d hd j hj, hKpre d hd i (by omega)⟩)]
    have := hix.sorted i j hij (by rw [hm]; exact hj)
    exact this
  have hindexed_of_sorted : (∀ i j, i < j → j < N' → lexLtK (Kt t') t.indexes j i = false) → Indexed t' N' := fun hs =>
    Indexed.of_keys (Kt t') id N' hidx hm' hix.nodup hstored' (fun _ _ _ _ => rfl) (fun _ h => h) hs hcmp hnn
  rcases inIndexOrderOf_spec t'.vcol t.indexes N N' (fun x hx y hy d hd => hcmp d hd x y hx hy) with ⟨e, hall⟩ | e
  · have hs : ∀ i j, i < j → j < N' → lexLtK (Kt t') t.indexes j i = false :=
      sorted_extend (Kt t') t.indexes N N' hold hall
    have hix' := hindexed_of_sorted hs
    have hid := hix'.indexS_rows (fun c hc => hcols c (hsub c (hidx ▸ hc)))
    rw [hm', hidx] at hid
    exact ⟨t', Or.inl ⟨hio.trans e, rfl⟩, rfl, hidx, hok', hix', R', hR', by rw [hR'e, hid]⟩
  · -- out of order: sorted again by `index`
    have hok0 : Table.OK { t' with indexes := [] } N' := ⟨hok'.ok.len, hok'.ok.cols, hok'.ok.sel⟩
    have heff : effIndex cfg { t' with indexes := [] } t'.indexes = t.indexes := by
      rw [hidx]
      have hf : t.indexes.filter (fun c => t'.columns.contains c) = t.indexes := by
        apply List.filter_eq_self.mpr
        intro c hc; simpa using hcols c (hsub c hc)
      simp only [effIndex, hf]
      split
      · exact dedupNat_of_nodup _ hix.nodup
      · rfl
    have hidxne : t'.indexes ≠ [] := by rw [hidx]; exact hne
    have hicol : ∀ d ∈ effIndex cfg { t' with indexes := [] } t'.indexes, IdxColOK { t' with indexes := [] } N' d := by
      intro d hd
      rw [heff] at hd
      obtain ⟨b, hb⟩ := hstored' d hd
      have hK : Kt t' = K0 { t' with indexes := [] } := Kt_all t' hok'.sel
      exact ⟨⟨b, hb, hok'.ok.len _ (lookupCol_mem hb)⟩, fun x y hx hy => hK ▸ hcmp d hd x y hx hy, fun x hx => hK ▸ hnn d hd x hx⟩
    have hnd1 : (effIndex cfg { t' with indexes := [] } t'.indexes).Nodup := by rw [heff]; exact hix.nodup
    obtain ⟨t1, perm, hout⟩ := index_data_spec cfg { t' with indexes := [] } N' hok0 hok'.sel t'.indexes hidxne hdne
      hnd1 (by rw [heff]; exact fun h => hne h.symm) hicol
    obtain ⟨R0, R2, hR0, hR2, _, hr⟩ := hout.rows hok0 hok'.sel hcne'
      (fun d hd => by rw [heff] at hd; exact hcols d (hsub d hd))
    obtain rfl : R0 = R' := by
      have : Table.rows { t' with indexes := [] } = t'.rows := rfl
      rw [this, hR'] at hR0; exact (Except.ok.inj hR0).symm
    have hio1 : InsertOK t1 N' := by
      refine ⟨hout.ok, hout.sel, ?_, ?_⟩
      · intro p hp
        have : p.1 ∈ t1.data.map (·.1) := List.mem_map_of_mem hp
        rw [hout.keys, List.mem_map] at this
        obtain ⟨q, hq, hqe⟩ := this
        rw [hout.columns, ← hqe]
        exact hok'.keys q hq
      · intro h0
        exact absurd h0 (hout.data_ne hdne)
    refine ⟨t1, Or.inr ⟨hio.trans e, hout.run⟩, hout.columns, by rw [hout.indexes, heff], hio1, hout.indexed hnd1 hicol, R2, hR2, ?_⟩
    rw [hr.spec, heff]


theorem insertRawWF_nonempty {cfg : Cfg} {t : Table} {d : InsertData} (h : insertRawWF cfg t d = true) : d.isEmpty = false := by
  simp only [insertRawWF, Bool.and_eq_true] at h
  obtain ⟨_, h⟩ := h
  cases d with
  | rows rs => simp only [Bool.and_eq_true, Bool.not_eq_true'] at h; exact h.1.1.1
  | dicts ds => simp only [Bool.and_eq_true, Bool.not_eq_true'] at h; exact h.1.1
  | cols cs =>
    cases cs with
    | nil => simp at h
    | cons q r => rfl

/-- what `insert` does to a table showing the rows `R`: the table `t'` shows `R'`, which is `insertSpec` up to `==` -/
structure InsertOut (cfg : Cfg) (t : Table) (d : InsertData) (t' : Table) (R R' : List (List Cell)) : Prop where
  before : t.rows = .ok R
  run : t.insert cfg d = .ok t'
  columns : t'.columns = (insertSpec cfg t.columns t.indexes R d).1
  rows : t'.rows = .ok R'
  keys : R'.map (List.map Cell.key) = (insertSpec cfg t.columns t.indexes R d).2.map (List.map Cell.key)
  indexes : t'.indexes = t.indexes
  ok : InsertOK t' (tableN t + d.size)
  indexed : cfg.resortInsert = true → t.indexes ≠ [] → Indexed t' (tableN t + d.size)
  same : (cfg.resortInsert = false ∨ t.indexes = []) → R' = (insertS t.columns R d).2

theorem insert_eq_spec' (cfg : Cfg) (t : Table) (d : InsertData) (hwf : insertWF cfg t d = true) :
    ∃ t' R R', InsertOut cfg t d t' R R' := by
  simp only [insertWF, Bool.and_eq_true] at hwf
  obtain ⟨hraw, hrest⟩ := hwf
  have hne := insertRawWF_nonempty hraw
  obtain ⟨t', R, hR, e, ha⟩ := insertRaw_eq_spec' cfg t d hraw
  have hok : InsertOK t (tableN t) := by
    simp only [insertRawWF, Bool.and_eq_true] at hraw
    exact insertOKB_sound hraw.1
  by_cases hcond : (cfg.resortInsert && !d.isEmpty && !t'.indexes.isEmpty) = true
  · -- the repaired code looks at the new rows
    simp only [hne, Bool.not_false, Bool.and_true, Bool.and_eq_true, Bool.not_eq_true', ha.indexes] at hcond
    obtain ⟨hfix, hie⟩ := hcond
    have hine : t.indexes ≠ [] := by intro h; simp [h] at hie
    have hc2 : (cfg.resortInsert && !t.indexes.isEmpty) = true := by simp [hfix, hie]
    simp only [hc2, Bool.not_true, Bool.false_or, Bool.and_eq_true, List.all_eq_true] at hrest
    obtain ⟨⟨hsub, hixb⟩, hcells⟩ := hrest
    rw [e] at hcells
    simp only [ha.ok.tableN_eq] at hcells
    have hix := indexedB_iff.mp hixb
    have hsub' : ∀ c ∈ t.indexes, c ∈ t.columns := fun c hc => by simpa using hsub c hc
    obtain ⟨t'', e2, d1, d2, d3, d4, R'', d5, d6⟩ := keep_order cfg hok hix hine hsub' ha hcells
    have hspec : insertSpec cfg t.columns t.indexes R d =
        ((insertS t.columns R d).1, indexS (idxPositions (insertS t.columns R d).1 t.indexes) (insertS t.columns R d).2) := by
      simp [insertSpec, hfix, hne, hie]
    refine ⟨t'', R, R'',
      { before := hR, run := ?_, columns := ?_, rows := d5, keys := ?_, indexes := d2, ok := d3
        indexed := fun _ _ => d4, same := ?_ }⟩
    · simp only [Table.insert, e, hfix, hne, ha.indexes, hie, Bool.not_false, Bool.and_true, if_true, hok.len_eq]
      rcases e2 with ⟨e1, rfl⟩ | ⟨e1, e2⟩
      · rw [e1]
      · rw [ha.indexes] at e2
        simp only [e1, e2]
    · rw [hspec, d1, ha.columns]
    · rw [hspec, d6, ha.columns]
    · rintro (h | h)
      · rw [hfix] at h; exact absurd h (by simp)
      · exact absurd h hine
  · have hspec : insertSpec cfg t.columns t.indexes R d = insertS t.columns R d := by
      simp only [ha.indexes] at hcond
      simp only [insertSpec, hcond]; rfl
    refine ⟨t', R, _,
      { before := hR, run := ?_, columns := by rw [hspec, ha.columns], rows := ha.rows, keys := by rw [hspec]
        indexes := ha.indexes, ok := ha.ok, indexed := ?_, same := fun _ => rfl }⟩
    · simp only [Table.insert, e, hcond]; rfl
    · intro h1 h2
      exfalso; apply hcond
      simp only [h1, hne, ha.indexes]
      cases hh : t.indexes with
      | nil => exact absurd hh h2
      | cons _ _ => rfl


end Coba.C17
