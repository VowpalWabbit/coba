/-
On a table whose rows are in index order (`Indexed`): `_calc_lohis`, `groupby`, and `where` without sortedness hypotheses.
-/
import CobaVerif.Lemmas.C17Indexed

namespace Coba.C17

/-! ## `_calc_lohis` on a table whose rows are in index order -/

theorem sortedSeg_of_indexed (t : Table) (N : Nat) (hix : Indexed t N) (done : List Nat) (k : Nat) (rest : List Nat)
    (hsplit : done ++ k :: rest = t.indexes)
    (segs : List (Nat × Nat)) (hs : StageInv (Kt t) (t.m N) done (List.range (t.m N)) segs)
    (p : Nat × Nat) (hp : p ∈ segs) : SortedSeg (t.vcol k) p.1 p.2 := by
  intro i i' a c e
  have hb2 := (hs.segs.bounds p hp).2.2
  have hi' : i' < t.m N := Nat.lt_of_lt_of_le e hb2
  refine hix.next_le hsplit c hi' fun d hd => ?_
  have := hs.agree d hd p hp i' i (Nat.le_trans a (Nat.le_of_lt c)) e a (Nat.lt_trans c e)
  rwa [getD_range _ i (Nat.lt_trans c hi'), getD_range _ i' hi'] at this

theorem calcLohisAux_spec (cfg : Cfg) (t : Table) (N : Nat) (hok : t.OK N) (hix : Indexed t N) :
    ∀ (todo done : List Nat) (bs : List (List Nat)), done ++ todo = t.indexes → todo ≠ [] →
    BlockInv (Kt t) done bs → bs.flatten = List.range (t.m N) →
    ∃ levels, calcLohisAux cfg t todo (bounds 0 bs) = .ok levels ∧ levels.length = todo.length ∧
      (∀ j (hj : j < levels.length), StageInv (Kt t) (t.m N) (done ++ todo.take j) (List.range (t.m N)) (levels[j])) ∧
      (∀ j (hj : j < levels.length), 0 < j → ∀ p ∈ levels[j], p.1 < p.2) ∧ levels.head? = some (bounds 0 bs)
  | [], _, _, _, h, _, _ => absurd rfl h
  | [k], done, bs, _, _, hs, hfl => by
    refine ⟨[bounds 0 bs], rfl, rfl, ?_, ?_, rfl⟩
    · intro j hj
      obtain rfl : j = 0 := Nat.lt_one_iff.mp hj
      simpa using StageInv.of_blocks hs hfl
    · intro j hj hpos
      exact absurd hpos (by rw [Nat.lt_one_iff.mp hj]; exact Nat.lt_irrefl 0)
  | k :: k2 :: rest, done, bs, hsplit, _, hs, hfl => by
    have hk : k ∈ t.indexes := by rw [← hsplit]; simp
    obtain ⟨b, hb⟩ := hix.stored k hk
    obtain ⟨ecol, hshows⟩ := hok.col_shows hb
    have hlen : (t.vcol k).length = t.m N := hok.vcol_len hb
    have hlt : ∀ blk ∈ bs, ∀ x ∈ blk, x < t.m N := fun blk hblk x hx =>
      List.mem_range.mp (hfl ▸ List.mem_flatten.mpr ⟨blk, hblk, hx⟩)
    -- the table is in index order, so every block is sorted on column `k` already
    have hso : List.Forall₂ (SortedOf (Kt t k)) bs bs := List.forall₂_same.mpr fun blk hblk =>
      ⟨List.Perm.refl _, (hs.stable blk hblk).imp_of_mem fun {x y} hx hy hxy =>
        ⟨hix.next_le hsplit hxy (hlt blk hblk y hy) fun d hd => hs.agree blk hblk y hy x hx d hd, fun _ => hxy⟩⟩
    obtain ⟨rss, e, hruns⟩ := subLohisAll_blocks cfg _ (t.vcol k) hshows (cellAt (t.vcol k)) bs [] []
      (by rw [List.nil_append, List.append_nil, hfl, ← hlen, map_cellAt_range])
      (fun blk hblk => ⟨(List.forall₂_same.mp hso blk hblk).sortedBy,
        fun x hx y hy => hix.cmp k hk x y (hlt blk hblk x hx) (hlt blk hblk y hy),
        fun x hx => hix.nn k hk x (hlt blk hblk x hx)⟩)
    rw [List.length_nil] at e
    obtain ⟨more, e', hl, hlv, hnev, hhead⟩ := calcLohisAux_spec cfg t N hok hix (k2 :: rest) (done ++ [k]) rss.flatten
      (by rw [← hsplit]; simp) (by simp) (hs.refine k hso hruns) ((flatten_flatten_of_runs hruns).trans hfl)
    refine ⟨bounds 0 bs :: more, by simp only [calcLohisAux, ecol, e, e'], by simp [hl], ?_, ?_, rfl⟩
    · intro j hj
      cases j with
      | zero => simpa using StageInv.of_blocks hs hfl
      | succ j =>
        have := hlv j (by simpa using hj)
        simpa [List.append_assoc] using this
    · intro j hj hpos
      cases j with
      | zero => exact absurd hpos (Nat.lt_irrefl 0)
      | succ j =>
        simp only [List.getElem_cons_succ]
        cases j with
        | zero =>
          have hm0 : more[0]'(by simp at hj; omega) = bounds 0 rss.flatten := by
            cases more with
            | nil => simp at hl
            | cons x xs => simpa using hhead
          rw [hm0]
          refine bounds_ne _ 0 fun r hr => ?_
          obtain ⟨rs, hrs, hr⟩ := List.mem_flatten.mp hr
          obtain ⟨_, _, hrun⟩ := forall2_mem_right hruns rs hrs
          exact hrun.ne r hr
        | succ j => exact hnev (j + 1) (by simpa using hj) (by omega)

/-! ## lohis of an indexed table, `groupby` -/

theorem dictGet_zip {β} (idx : List Nat) (vals : List β) (hnd : idx.Nodup) (hl : vals.length = idx.length)
    (j : Nat) (hj : j < idx.length) : dictGet (idx.zip vals) idx[j] = .ok (vals[j]'(by omega)) := by
  unfold dictGet
  have hmem : (idx[j], vals[j]'(by omega)) ∈ (idx.zip vals).reverse := by
    rw [List.mem_reverse]
    have hz : j < (idx.zip vals).length := by simp [hl]; omega
    have := List.getElem_mem hz
    simpa [List.getElem_zip] using this
  cases hf : (idx.zip vals).reverse.find? (fun p => p.1 == idx[j]) with
  | none =>
    have := List.find?_eq_none.mp hf _ hmem
    simp at this
  | some p =>
    have h1 := List.find?_some hf
    have h2 := List.mem_of_find?_eq_some hf
    rw [List.mem_reverse] at h2
    obtain ⟨i, hi, rfl⟩ := List.getElem_of_mem h2
    simp only [List.getElem_zip, beq_iff_eq] at h1 ⊢
    have hi' : i < idx.length := by simp [hl] at hi; omega
    have : i = j := (hnd.getElem_inj_iff).mp h1
    subst this
    rfl

/-- the segments under the `j`-th index column of a table in index order: the runs of rows that agree on the earlier index
columns, none empty from the second column on, the whole table under the first -/
structure LevelSegs (t : Table) (N j : Nat) (segs : List (Nat × Nat)) : Prop where
  stage : StageInv (Kt t) (t.m N) (t.indexes.take j) (List.range (t.m N)) segs
  nonempty : 0 < j → ∀ p ∈ segs, p.1 < p.2
  first : j = 0 → segs = [(0, t.m N)]

/-- `lohis` are the lohis of a table in index order: under every index column its `LevelSegs` -/
structure LohisOf (t : Table) (N : Nat) (lohis : List (Nat × List (Nat × Nat))) : Prop where
  level : ∀ j (hj : j < t.indexes.length), ∃ segs, dictGet lohis t.indexes[j] = .ok segs ∧ LevelSegs t N j segs

theorem lohis_correct' (cfg : Cfg) (t : Table) (N : Nat) (hok : t.OK N) (hix : Indexed t N) (hne : t.indexes ≠ []) :
    ∃ lohis, t.calcLohis cfg = .ok lohis ∧ LohisOf t N lohis := by
  obtain ⟨k0, hk0⟩ := List.exists_mem_of_ne_nil _ hne
  obtain ⟨b, hb⟩ := hix.stored k0 hk0
  have hdne : t.data ≠ [] := List.ne_nil_of_mem (lookupCol_mem hb)
  have hlen := hok.len_eq hdne
  obtain ⟨levels, e, hl, hlv, hnev, hhead⟩ := calcLohisAux_spec cfg t N hok hix t.indexes [] [List.range (t.m N)] (by simp) hne
    (BlockInv.init (Kt t) (t.m N)) List.flatten_singleton
  rw [bounds_single] at e hhead
  refine ⟨t.indexes.zip levels, ?_, ?_⟩
  · unfold Table.calcLohis
    cases hidx : t.indexes with
    | nil => exact absurd hidx hne
    | cons k rest =>
      simp only [hlen, bind, Except.bind, pure, Except.pure]
      rw [hidx] at e
      simp only [e]
  · refine ⟨fun j hj => ?_⟩
    refine ⟨levels[j]'(by omega), dictGet_zip t.indexes levels hix.nodup hl j hj, ?_, hnev j (by omega), ?_⟩
    · simpa using hlv j (by omega)
    · intro hj0
      subst hj0
      cases levels with
      | nil => simp at hl; omega
      | cons x xs => simpa using hhead


theorem groupby_count_spec' (cfg : Cfg) (t : Table) (N : Nat) (hok : t.OK N) (hix : Indexed t N)
    (level : Nat) (hlev : level < t.indexes.length) :
    ∃ segs, StageInv (Kt t) (t.m N) (t.indexes.take level) (List.range (t.m N)) segs ∧
      (0 < level → ∀ p ∈ segs, p.1 < p.2) ∧
      t.groupby cfg level .count = .ok (segs.map (fun p =>
        GroupOut.cnt ((t.indexes.take level).map (fun d => cellAt (t.vcol d) p.1)) (p.2 - p.1))) := by
  have hne : t.indexes ≠ [] := fun e => by rw [e] at hlev; exact Nat.not_lt_zero _ hlev
  obtain ⟨lohis, el, hlo⟩ := lohis_correct' cfg t N hok hix hne
  obtain ⟨segs, eseg, hseg⟩ := hlo.level level hlev
  refine ⟨segs, hseg.stage, hseg.nonempty, ?_⟩
  let g : Nat → Seq := fun d => { base := t.base d, sel := t.sel }
  have hg : ∀ d ∈ t.indexes.take level, t.col d = .ok (g d) ∧ (g d).Shows (t.vcol d) := by
    intro d hd
    obtain ⟨b, hb⟩ := hix.stored d (List.mem_of_mem_take hd)
    have := hok.col_shows hb
    rwa [← (hok.base_len hb).1] at this
  have egrp : (t.indexes.take level).mapM t.col = .ok ((t.indexes.take level).map g) :=
    mapM_ok _ _ _ fun d hd => (hg d hd).1
  have hone : ∀ p ∈ segs, groupOne .count ((t.indexes.take level).map g) [] p =
      .ok (GroupOut.cnt ((t.indexes.take level).map (fun d => cellAt (t.vcol d) p.1)) (p.2 - p.1)) := by
    intro p hp
    have hkeys : ((t.indexes.take level).map g).mapM (fun s => s.get p.1) =
        .ok ((t.indexes.take level).map (fun d => cellAt (t.vcol d) p.1)) := by
      by_cases hl0 : level = 0
      · subst hl0; rfl
      · have hp1 : p.1 < t.m N := by
          have := hseg.nonempty (by omega) p hp
          have := (hseg.stage.segs.bounds p hp).2.2
          omega
        rw [mapM_ok _ (fun s => cellAt (viewOf s.base s.sel) p.1) _ (fun s hs' => by
          obtain ⟨d, hd, rfl⟩ := List.mem_map.mp hs'
          obtain ⟨b, hb⟩ := hix.stored d (List.mem_of_mem_take hd)
          exact (hg d hd).2.get p.1 (by rw [hok.vcol_len hb]; exact hp1)), List.map_map]
        rfl
    simp only [groupOne, hkeys]
  have hix2 : optGet t.indexes[level]? = .ok t.indexes[level] := by
    simp [optGet, List.getElem?_eq_getElem hlev]
  simp only [Table.groupby, el, egrp, hix2, eseg, selectCols]
  exact mapM_ok _ _ segs hone


/-! ## `where` on a table in index order: the sortedness hypotheses discharge themselves -/

/-- hypotheses on one keyword of a `where` on a table in index order: only the probes matter -/
structure KwOKIdx (cfg : Cfg) (t : Table) (m : Nat) (pos : Option Op) (kw : Nat × Arg) : Prop where
  incols : kw.1 ∈ t.columns
  notin : ∀ a, kw.2 = .dict .notin a → cfg.notinKey = true
  shape : ∀ op a, (condOf pos kw).test = .cmp op a → argShape op a = true
  /-- indexed column: probes not `None`, comparable with the cells and with each other, distinct for
  `in` (P8), not `Missing` under an order comparison; the table is not empty (P12) -/
  bis : kw.1 ∈ t.indexes → ∀ op a, (condOf pos kw).test = .cmp op a →
      (cfg.guardEmpty = true ∨ 0 < m) ∧ NoNone (probesOf a) ∧
      (∀ v ∈ probesOf a, ∀ i, i < m → (cellAt (t.vcol kw.1) i).key.comparable v.key = true) ∧
      allComparable (probesOf a) = true ∧
      (op = .isin → cfg.dedupIn = true ∨ (probesOf a).Pairwise (fun u v => u.key ≠ v.key)) ∧
      ((op = .lt ∨ op = .le ∨ op = .gt ∨ op = .ge) → ∀ v ∈ probesOf a, v.key ≠ .missing)
  scan : kw.1 ∉ t.indexes → ∀ op a, (condOf pos kw).test = .cmp op a → leGeOK cfg op a (t.vcol kw.1)

theorem kwOK_of_indexed (cfg : Cfg) (t : Table) (N : Nat) (hix : Indexed t N)
    (lohis : List (Nat × List (Nat × Nat))) (hlo : LohisOf t N lohis)
    (hvl : ∀ d ∈ t.indexes, (t.vcol d).length = t.m N)
    (pos : Option Op) (kw : Nat × Arg) (h : KwOKIdx cfg t (t.m N) pos kw) : KwOK cfg t lohis (t.m N) pos kw := by
  refine ⟨h.incols, h.notin, h.shape, ?_, h.scan⟩
  intro hidx op a hc
  obtain ⟨hne, hvn, hcmp, hall, hdup, hvm⟩ := h.bis hidx op a hc
  obtain ⟨j, hj, hjk⟩ := List.getElem_of_mem hidx
  obtain ⟨segs, e, hseg⟩ := hlo.level j hj
  rw [hjk] at e
  refine ⟨segs, e, hseg.stage.segs, ?_, hall, hdup, ?_⟩
  · intro p hp
    have hb2 := hseg.stage.segs.bounds p hp
    refine ⟨hb2.2.1, by rw [hvl kw.1 hidx]; exact hb2.2.2, ?_, ?_, ?_, ?_, hvn⟩
    · by_cases hj0 : 0 < j
      · exact Or.inr (hseg.nonempty hj0 p hp)
      · -- first index column: the only segment is the whole table
        have hj0' : j = 0 := by omega
        rcases hne with g | g
        · exact Or.inl g
        · right
          rw [hseg.first hj0'] at hp
          simp at hp
          subst hp
          exact g
    · rw [← hjk]
      exact sortedSeg_of_indexed t N hix _ _ _ (by rw [List.getElem_cons_drop, List.take_append_drop]) segs hseg.stage p hp
    · intro i a1 a2
      exact hix.nn kw.1 hidx i (by omega)
    · intro v hv i a1 a2
      exact hcmp v hv i (by omega)
  · intro i hi
    exact ⟨hix.nn kw.1 hidx i hi, fun v hv => hcmp v hv i hi, hvm⟩


theorem where_indexed_data' (cfg : Cfg) (t : Table) (N : Nat) (hok : t.OK N) (hix : Indexed t N) (pos : Option Op)
    (kws : List (Nat × Arg)) (hne : kws ≠ []) (hkw : ∀ kw ∈ kws, KwOKIdx cfg t (t.m N) pos kw) (hleak : NoLeak cfg kws)
    (R rs : List (List Cell)) (hR : t.rows = .ok R)
    (hspec : whereS { columns := t.columns, rows := R } (kws.map (condOf pos)) = .ok rs) :
    ∃ sel' selection, t.pwhere cfg Option.none pos kws = .ok { t with sel := sel' } ∧
      Table.rows { t with sel := sel' } = .ok rs ∧ IsView t N sel' selection := by
  have hvl : ∀ d ∈ t.indexes, (t.vcol d).length = t.m N := by
    intro d hd
    obtain ⟨b, hb⟩ := hix.stored d hd
    exact hok.vcol_len hb
  have hlo : ∃ lohis, t.calcLohis cfg = .ok lohis ∧ ∀ kw ∈ kws, KwOK cfg t lohis (t.m N) pos kw := by
    by_cases hie : t.indexes = []
    · refine ⟨[], by simp [Table.calcLohis, hie], ?_⟩
      intro kw hk
      have h := hkw kw hk
      exact ⟨h.incols, h.notin, h.shape, fun hidx => by rw [hie] at hidx; simp at hidx, h.scan⟩
    · obtain ⟨lohis, e, hl⟩ := lohis_correct' cfg t N hok hix hie
      exact ⟨lohis, e, fun kw hk => kwOK_of_indexed cfg t N hix lohis hl hvl pos kw (hkw kw hk)⟩
  obtain ⟨lohis, el, hk⟩ := hlo
  exact where_eq_spec_aux cfg t N hok pos kws hne lohis el hk hleak R rs hR hspec

end Coba.C17
