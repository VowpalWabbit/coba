/-
C18 — the filters of a Result. `where_fin`: the keep rule of `_group_p`, `_group_p`, `_global_n` and `_filter_fin`
against `whereFinS` (`Divides`: the step in which `_group_p`, `_global_n` and `filter_best` turn a decision per evaluation into
`_remove` and `where(id=keep)`); what `where_fin` and `where` return is a restriction of their input (`Restr`), hence again
well-formed (so calls chain); the length step before the pairing step and completeness of the pairing.
-/
import CobaVerif.Lemmas.C18Tables
import Mathlib.Data.List.Perm.Subperm

namespace Coba.C18

theorem length_filter_level (g : List Idx) (lv : Key) : (g.filter (fun i => i.l = lv)).length = (g.map (·.l)).count lv := by
  rw [List.count_eq_countP, List.countP_map, List.countP_eq_length_filter]
  congr 2
  funext i
  by_cases h : i.l = lv
  · simp [h]
  · simp [h]

theorem groupKeep_fixed_iff (levels : List Key) (hl : levels.Nodup) (g : List Idx)
    (hsub : ∀ i ∈ g, i.l ∈ levels) :
    groupKeep true levels.length g = true ↔ ∀ lv ∈ levels, (g.filter (fun i => i.l = lv)).length = 1 := by
  have hsub' : g.map (·.l) ⊆ levels := by
    intro x hx
    obtain ⟨i, hi, rfl⟩ := List.mem_map.mp hx
    exact hsub i hi
  simp only [groupKeep, if_true, Bool.and_eq_true, Bool.not_eq_true', decide_eq_false_iff_not, not_lt]
  constructor
  · rintro ⟨h1, h2⟩ lv hlv
    rw [length_filter_level]
    have hd : (dedup (g.map (·.l))).length ≤ (g.map (·.l)).length := (dedup_sublist _).length_le
    have hnd : (g.map (·.l)).Nodup := nodup_of_dedup_length _ (by simp only [List.length_map] at hd ⊢; omega)
    have hsp : (dedup (g.map (·.l))).Subperm levels :=
      (nodup_dedup _).subperm (fun x hx => hsub' ((mem_dedup x _).mp hx))
    have hperm := hsp.perm_of_length_le h2
    have hmem : lv ∈ g.map (·.l) := (mem_dedup lv _).mp (hperm.mem_iff.mpr hlv)
    exact List.count_eq_one_of_mem hnd hmem
  · intro h
    have hnd : (g.map (·.l)).Nodup := by
      rw [List.nodup_iff_count_le_one]
      intro a
      by_cases ha : a ∈ g.map (·.l)
      · have := h a (hsub' ha)
        rw [length_filter_level] at this
        omega
      · rw [List.count_eq_zero_of_not_mem ha]; omega
    have hsup : levels ⊆ g.map (·.l) := by
      intro lv hlv
      have := h lv hlv
      rw [length_filter_level] at this
      exact List.count_pos_iff.mp (by omega)
    have hperm : (g.map (·.l)).Perm levels :=
      (hnd.subperm hsub').antisymm (hl.subperm hsup)
    have hlen := hperm.length_eq
    rw [dedup_of_nodup _ hnd]
    simp only [List.length_map] at hlen ⊢
    omega

theorem groupKeep_legacy_iff (levels : List Key) (hl : levels.Nodup) (g : List Idx)
    (hsub : ∀ i ∈ g, i.l ∈ levels) (hnd : (g.map (·.l)).Nodup) :
    groupKeep false levels.length g = true ↔ ∀ lv ∈ levels, (g.filter (fun i => i.l = lv)).length = 1 := by
  rw [← groupKeep_fixed_iff levels hl g hsub]
  simp only [groupKeep, if_true, Bool.false_eq_true, if_false, Bool.and_eq_true, Bool.not_eq_true',
    decide_eq_false_iff_not, not_lt]
  rw [dedup_of_nodup _ hnd]
  simp only [List.length_map]

theorem mem_groups_flatten (ix : List Idx) (K : List Idx → Bool) (i : Idx) :
    i ∈ ((groupsOf ix).filter K).flatten ↔ i ∈ ix ∧ K (ix.filter (fun j => j.p = i.p)) = true := by
  simp only [groupsOf, List.mem_flatten, List.mem_filter, List.mem_map, mem_dedup]
  constructor
  · rintro ⟨g, ⟨⟨k, _, rfl⟩, hK⟩, hi⟩
    simp only [List.mem_filter, decide_eq_true_eq] at hi
    obtain ⟨hi1, hi2⟩ := hi
    subst hi2
    exact ⟨hi1, hK⟩
  · rintro ⟨hi, hK⟩
    exact ⟨_, ⟨⟨i.p, ⟨i, hi, rfl⟩, rfl⟩, hK⟩, by simp [hi]⟩

theorem sublist_of_mem_groupsOf {ix g : List Idx} (hg : g ∈ groupsOf ix) : g.Sublist ix := by
  obtain ⟨k, _, rfl⟩ := List.mem_map.mp hg
  exact List.filter_sublist

theorem groupsOf_flatten_perm (ix : List Idx) : (groupsOf ix).flatten.Perm ix := by
  have key : ∀ ks : List Key, ks.Nodup →
      ((ks.map (fun k => ix.filter (fun i => i.p = k))).flatten).Perm (ix.filter (fun i => decide (i.p ∈ ks))) := by
    intro ks
    induction ks with
    | nil => intro _; simp
    | cons k ks ih =>
      intro hnd
      obtain ⟨hk, hnd'⟩ := List.nodup_cons.mp hnd
      rw [List.map_cons, List.flatten_cons]
      -- the group of `k`, then the groups of the other keys: the two halves of a split by `·.p = k`
      refine ((ih hnd').append_left _).trans ?_
      refine (List.Perm.trans ?_ (List.filter_append_perm (fun i => decide (i.p = k)) _))
      rw [List.filter_filter, List.filter_filter]
      refine List.Perm.append (List.Perm.of_eq (List.filter_congr fun i _ => ?_)) (List.Perm.of_eq (List.filter_congr fun i _ => ?_))
      · by_cases h : i.p = k <;> simp [h]
      · by_cases h : i.p = k
        · subst h; simp [hk]
        · simp [h]
  refine (key _ (nodup_dedup _)).trans (List.Perm.of_eq ?_)
  rw [List.filter_eq_self]
  intro i hi
  exact decide_eq_true ((mem_dedup _ _).mpr (List.mem_map_of_mem hi))

theorem completeGroup_iff_levels (ix : List Idx) (k : Key) : completeGroup ix k = true ↔
    ∀ lv ∈ levelsOf ix, ((ix.filter (fun j => decide (j.p = k))).filter (fun j => decide (j.l = lv))).length = 1 := by
  simp only [completeGroup, List.all_eq_true, decide_eq_true_eq]

theorem completeGroup_iff_groupKeep (ix : List Idx) (k : Key) :
    completeGroup ix k = true ↔ groupKeep true (dedup (ix.map (·.l))).length (ix.filter (fun i => i.p = k)) = true := by
  rw [completeGroup_iff_levels, groupKeep_fixed_iff (dedup (ix.map (·.l))) (nodup_dedup _)]
  · rfl
  · intro i hi
    rw [mem_dedup]
    exact List.mem_map.mpr ⟨i, (List.mem_filter.mp hi).1, rfl⟩

theorem filterTable_eq (rows : List PRow) (keep : List Nat)
    (hsub : ∀ k ∈ keep, k ∈ rows.map (·.id)) :
    filterTable rows keep = rows.filter (fun p => keep.contains p.id) := by
  unfold filterTable
  split
  · rfl
  · rename_i hlen
    have hlen : (dedup keep).length = rows.length := by omega
    symm
    rw [List.filter_eq_self]
    intro p hp
    have hsp : (dedup keep).Subperm (rows.map (·.id)) :=
      (nodup_dedup keep).subperm (fun x hx => hsub x ((mem_dedup x keep).mp hx))
    have hperm := hsp.perm_of_length_le (by simp [hlen])
    have : p.id ∈ dedup keep := hperm.mem_iff.mpr (List.mem_map.mpr ⟨p, hp, rfl⟩)
    simpa using (mem_dedup _ _).mp this

theorem filterTable_kept (rows : List PRow) (keepT : List Triple) (f : Triple → Nat)
    (ints' : List IRow)
    (hsub : ∀ t ∈ keepT, ∃ p ∈ rows, p.id = f t)
    (hT : ∀ t, t ∈ keepT ↔ ∃ row ∈ ints', row.triple = t) :
    filterTable rows (keepT.map f) = rows.filter (fun p => (ints'.map (fun row => f row.triple)).contains p.id) := by
  rw [filterTable_eq rows _]
  · apply List.filter_congr
    intro p _
    rw [List.contains_eq_mem, List.contains_eq_mem]
    congr 1
    apply propext
    simp only [List.mem_map]
    constructor
    · rintro ⟨t, ht, hft⟩
      obtain ⟨row, hrow, rfl⟩ := (hT t).mp ht
      exact ⟨row, hrow, hft⟩
    · rintro ⟨row, hrow, hft⟩
      exact ⟨row.triple, (hT _).mpr ⟨row, hrow, rfl⟩, hft⟩
  · intro k hk
    obtain ⟨t, ht, rfl⟩ := List.mem_map.mp hk
    obtain ⟨p, hp, hpid⟩ := hsub t ht
    exact List.mem_map.mpr ⟨p, hp, hpid⟩

/-- `keep` and `drop` together list the evaluations of `r`, each once: how `_group_p`, `_global_n` and `filter_best` hand their
decision to `_remove` and to `where(id=keep)` -/
def Divides (r : Result) (keep drop : List Triple) : Prop := (keep ++ drop).Perm ((runs r.ints).map (·.1))

namespace Divides
variable {r : Result} {keep drop : List Triple}

theorem of_filter {α : Type} (xs : List α) (t : α → Triple) (K : α → Bool) (h : xs.map t = (runs r.ints).map (·.1)) :
    Divides r ((xs.filter K).map t) ((xs.filter (fun x => !K x)).map t) := by
  unfold Divides
  rw [← h, ← List.map_append]
  exact (List.filter_append_perm K xs).map t

theorem row_of_mem (h : Divides r keep drop) {u : Triple} (hu : u ∈ keep ++ drop) : ∃ row ∈ r.ints, row.triple = u :=
  (mem_runs_fst r.ints u).mp (h.mem_iff.mp hu)

theorem nodup (h : Divides r keep drop) (hs : SortedIds r.ints) : (keep ++ drop).Nodup :=
  h.nodup_iff.mpr (runs_nodup _ hs)

theorem not_drop_contains (h : Divides r keep drop) (hs : SortedIds r.ints) {row : IRow} (hrow : row ∈ r.ints) :
    (!drop.contains row.triple) = keep.contains row.triple := by
  have hdis := (List.nodup_append.mp (h.nodup hs)).2.2
  rw [Bool.eq_iff_iff, Bool.not_eq_true', List.contains_eq_mem, List.contains_eq_mem, decide_eq_false_iff_not, decide_eq_true_eq]
  rcases List.mem_append.mp (h.mem_iff.mpr (row_triple_mem_runs _ row hrow)) with hk | hd
  · exact ⟨fun _ => hk, fun _ hd => hdis _ hk _ hd rfl⟩
  · exact ⟨fun hn => absurd hd hn, fun hk => absurd rfl (hdis _ hk _ hd)⟩

theorem removeRows_drop (h : Divides r keep drop) (hs : SortedIds r.ints) (cut : Nat)
    (hcut : cut = 0 ∨ ∀ u ∈ drop, (r.ints.map IRow.triple).count u ≤ cut) :
    removeRows r.ints drop cut = .ok (r.ints.filter fun row => keep.contains row.triple) := by
  rw [removeRows_eq r.ints drop cut hs (h.nodup hs).of_append_right
    (fun u hu => List.mem_map.mpr (h.row_of_mem (List.mem_append_right _ hu))) hcut]
  exact congrArg Except.ok (List.filter_congr fun row hrow => h.not_drop_contains hs hrow)

theorem tables_eq (h : Divides r keep drop) (hrefs : RefsPresent r) (ints' : List IRow)
    (hT : ∀ u, u ∈ keep ↔ ∃ row ∈ ints', row.triple = u) :
    ({ envs := filterTable r.envs (keep.map (·.1)), lrns := filterTable r.lrns (keep.map (·.2.1)),
       evals := filterTable r.evals (keep.map (·.2.2)), ints := ints' } : Result) = restrictTables r ints' := by
  have href : ∀ u ∈ keep, (∃ p ∈ r.envs, p.id = u.1) ∧ (∃ p ∈ r.lrns, p.id = u.2.1) ∧ (∃ p ∈ r.evals, p.id = u.2.2) := by
    intro u hu
    obtain ⟨row, hrow, rfl⟩ := h.row_of_mem (List.mem_append_left _ hu)
    exact hrefs row hrow
  rw [filterTable_kept r.envs keep (·.1) ints' (fun u hu => (href u hu).1) hT,
    filterTable_kept r.lrns keep (·.2.1) ints' (fun u hu => (href u hu).2.1) hT,
    filterTable_kept r.evals keep (·.2.2) ints' (fun u hu => (href u hu).2.2) hT]
  rfl

theorem tables_filter_eq (h : Divides r keep drop) (hrefs : RefsPresent r) :
    ({ envs := filterTable r.envs (keep.map (·.1)), lrns := filterTable r.lrns (keep.map (·.2.1)),
       evals := filterTable r.evals (keep.map (·.2.2)), ints := r.ints.filter fun row => keep.contains row.triple } : Result) =
      restrictTables r (r.ints.filter fun row => keep.contains row.triple) := by
  refine h.tables_eq hrefs _ fun u => ⟨fun hu => ?_, ?_⟩
  · obtain ⟨row, hrow, hrt⟩ := h.row_of_mem (List.mem_append_left _ hu)
    exact ⟨row, List.mem_filter.mpr ⟨hrow, by rw [hrt, List.contains_eq_mem, decide_eq_true_eq]; exact hu⟩, hrt⟩
  · rintro ⟨row, hrow, rfl⟩
    have := (List.mem_filter.mp hrow).2
    rwa [List.contains_eq_mem, decide_eq_true_eq] at this

end Divides

/-- the id triples `_group_p` keeps (`to_keep`) and removes (`to_remove`) -/
def keptT (fixed : Bool) (ix : List Idx) : List Triple :=
  (((groupsOf ix).filter (fun g => groupKeep fixed (dedup (ix.map (·.l))).length g)).flatten).map (·.t)
def droppedT (fixed : Bool) (ix : List Idx) : List Triple :=
  (((groupsOf ix).filter (fun g => !groupKeep fixed (dedup (ix.map (·.l))).length g)).flatten).map (·.t)

theorem groupP_of_indexes (fixed : Bool) (r : Result) (lc pc : List Col) (ix : List Idx)
    (hix : mkIndexes r lc pc ((runs r.ints).map (·.1)) = .ok ix) :
    groupP fixed r lc pc = (removeRows r.ints (droppedT fixed ix) 0).map (fun ints =>
      { envs := filterTable r.envs ((keptT fixed ix).map (·.1)), lrns := filterTable r.lrns ((keptT fixed ix).map (·.2.1)),
        evals := filterTable r.evals ((keptT fixed ix).map (·.2.2)), ints := ints }) := by
  cases hrm : removeRows r.ints (droppedT fixed ix) 0 <;>
  · unfold droppedT at hrm
    simp only [groupP, hix, hrm, Except.map, keptT]

theorem groupP_of_indexes_error (fixed : Bool) (r : Result) (lc pc : List Col) (x : Err)
    (hix : mkIndexes r lc pc ((runs r.ints).map (·.1)) = .error x) : groupP fixed r lc pc = .error x := by
  simp only [groupP, hix]

theorem mem_keptT (fixed : Bool) (ix : List Idx) (t : Triple) : t ∈ keptT fixed ix ↔
    ∃ i ∈ ix, groupKeep fixed (dedup (ix.map (·.l))).length (ix.filter (fun j => j.p = i.p)) = true ∧ i.t = t := by
  simp only [keptT, List.mem_map, mem_groups_flatten, and_assoc]

theorem mem_keptTriplesS (ix : List Idx) (t : Triple) :
    t ∈ keptTriplesS ix ↔ ∃ i ∈ ix, completeGroup ix i.p = true ∧ i.t = t := by
  simp only [keptTriplesS, List.mem_map, List.mem_filter, and_assoc]

theorem keptT_legacy (ix : List Idx) (hnd : ∀ g ∈ groupsOf ix, (g.map (·.l)).Nodup) :
    keptT false ix = keptT true ix ∧ droppedT false ix = droppedT true ix := by
  have hk : ∀ g ∈ groupsOf ix,
      groupKeep false (dedup (ix.map (·.l))).length g = groupKeep true (dedup (ix.map (·.l))).length g := by
    intro g hg
    have hsub : ∀ i ∈ g, i.l ∈ dedup (ix.map (·.l)) := fun i hi =>
      (mem_dedup _ _).mpr (List.mem_map_of_mem ((sublist_of_mem_groupsOf hg).subset hi))
    rw [Bool.eq_iff_iff, groupKeep_legacy_iff _ (nodup_dedup _) g hsub (hnd g hg),
      groupKeep_fixed_iff _ (nodup_dedup _) g hsub]
  have hk' : ∀ g ∈ groupsOf ix,
      (!groupKeep false (dedup (ix.map (·.l))).length g) = (!groupKeep true (dedup (ix.map (·.l))).length g) :=
    fun g hg => by rw [hk g hg]
  unfold keptT droppedT
  rw [List.filter_congr hk, List.filter_congr hk']
  exact ⟨rfl, rfl⟩

theorem groupP_eq (r : Result) (lc pc : List Col) (ix : List Idx)
    (hs : SortedIds r.ints)
    (hix : mkIndexes r lc pc ((runs r.ints).map (·.1)) = .ok ix) :
    groupP true r lc pc = .ok (restrictTables r (groupPIntsS r.ints ix)) := by
  have hd : Divides r (keptT true ix) (droppedT true ix) := by
    unfold Divides keptT droppedT
    rw [← (mkIndexes_spec r lc pc _ ix hix).1, ← List.map_append, ← List.flatten_append]
    exact (((List.filter_append_perm _ (groupsOf ix)).flatten).trans (groupsOf_flatten_perm ix)).map _
  have hf : groupPIntsS r.ints ix = r.ints.filter fun row => (keptT true ix).contains row.triple :=
    List.filter_congr fun row _ => by
      rw [Bool.eq_iff_iff, List.contains_eq_mem, List.contains_eq_mem, decide_eq_true_eq, decide_eq_true_eq]
      simp only [mem_keptT, mem_keptTriplesS, completeGroup_iff_groupKeep]
  rw [groupP_of_indexes true r lc pc ix hix, hd.removeRows_drop hs 0 (Or.inl rfl), hf]
  exact congrArg Except.ok (hd.tables_filter_eq (refsPresent_of_indexes r lc pc ix hix))

theorem filter_idx_take_aux (g : List IRow) : ∀ (s m : Nat), g.map (·.idx) = List.range' s g.length →
    g.filter (fun row => decide (row.idx < s + m)) = g.take m := by
  induction g with
  | nil => intro s m _; simp
  | cons r rs ih =>
    intro s m h
    simp only [List.map_cons, List.length_cons, List.range'_succ, List.cons.injEq] at h
    obtain ⟨h1, h2⟩ := h
    cases m with
    | zero =>
      simp only [Nat.add_zero, List.take_zero, List.filter_eq_nil_iff, decide_eq_true_eq, not_lt]
      intro a ha
      rcases List.mem_cons.mp ha with rfl | ha
      · omega
      · have : a.idx ∈ rs.map (·.idx) := List.mem_map.mpr ⟨a, ha, rfl⟩
        rw [h2, List.mem_range'_1] at this
        omega
    | succ m =>
      have hr : decide (r.idx < s + (m + 1)) = true := by simp; omega
      rw [List.filter_cons, if_pos hr, List.take_succ_cons]
      congr 1
      have := ih (s + 1) m h2
      rw [← this]
      apply List.filter_congr
      intro a _
      congr 1
      apply propext
      omega

theorem filter_idx_take (g : List IRow) (m : Nat) (h : g.map (·.idx) = List.range' 1 g.length) :
    g.filter (fun row => decide (row.idx ≤ m)) = g.take m := by
  rw [← filter_idx_take_aux g 1 m h]
  apply List.filter_congr
  intro a _
  congr 1
  apply propext
  omega

theorem minOf_le (m : Nat) (xs : List Nat) : ∀ x ∈ m :: xs, minOf m xs ≤ x := by
  induction xs generalizing m with
  | nil => intro x hx; rw [List.mem_singleton.mp hx]; exact le_refl _
  | cons y ys ih =>
    intro x hx
    have hm := ih (if y < m then y else m)
    have h0 : (if y < m then y else m) ≤ m ∧ (if y < m then y else m) ≤ y := by split <;> omega
    rw [minOf]
    rcases List.mem_cons.mp hx with rfl | hx
    · exact (hm _ List.mem_cons_self).trans h0.1
    · rcases List.mem_cons.mp hx with rfl | hx
      · exact (hm _ List.mem_cons_self).trans h0.2
      · exact hm x (List.mem_cons_of_mem _ hx)

theorem le_minOf (k m : Nat) (xs : List Nat) (hm : k ≤ m) (hx : ∀ x ∈ xs, k ≤ x) : k ≤ minOf m xs := by
  induction xs generalizing m with
  | nil => simpa [minOf]
  | cons y ys ih =>
    simp only [minOf]
    split
    · exact ih y (hx y (by simp)) (fun x h => hx x (by simp [h]))
    · exact ih m hm (fun x h => hx x (by simp [h]))

theorem one_le_minOf_runs (ints : List IRow) (m : Nat) (ms : List Nat)
    (h : (runs ints).map (fun g => g.2.length) = m :: ms) : 1 ≤ minOf m ms := by
  have hpos : ∀ x ∈ m :: ms, 1 ≤ x := by
    intro x hx
    rw [← h] at hx
    obtain ⟨g, hg, rfl⟩ := List.mem_map.mp hx
    exact List.length_pos_iff.mpr (runs_spec ints g hg).1
  exact le_minOf 1 m ms (hpos m List.mem_cons_self) (fun x hx => hpos x (List.mem_cons_of_mem _ hx))

/-- the two row operations of `_global_n(n)`: `_remove` of the evaluations shorter than `n`, then `where(index ≤ n)` -/
theorem cut_rows (ints : List IRow) (n : Nat) (hw : IdxWF ints) (keep : List Triple)
    (hkeep : ∀ g ∈ runs ints, (g.1 ∈ keep ↔ ¬ g.2.length < n)) :
    (ints.filter (fun row => keep.contains row.triple)).filter (fun row => decide (row.idx ≤ n)) =
      globalNIntsS ints (.k n) := by
  have hspec := runs_spec ints
  unfold globalNIntsS
  simp only
  rw [List.filter_filter, filter_eq_flatMap_runs]
  apply List.flatMap_congr
  intro g hg
  rw [← List.filter_filter]
  by_cases hl : g.2.length < n
  · have h1 : g.2.filter (fun row => keep.contains row.triple) = [] := by
      rw [List.filter_eq_nil_iff]
      intro row hrow
      rw [(hspec g hg).2 row hrow, List.contains_eq_mem, decide_eq_true_eq]
      exact fun hc => (hkeep g hg).mp hc hl
    rw [if_pos hl, h1, List.filter_nil]
  · have h1 : g.2.filter (fun row => keep.contains row.triple) = g.2 := by
      rw [List.filter_eq_self]
      intro row hrow
      rw [(hspec g hg).2 row hrow, List.contains_eq_mem, decide_eq_true_eq]
      exact (hkeep g hg).mpr hl
    rw [if_neg hl, h1, filter_idx_take _ _ (hw g hg)]

theorem globalNIntsS_k_eq_pick (ints : List IRow) (n : Nat) :
    globalNIntsS ints (.k n) = pick ints (fun g => if g.2.length < n then 0 else n) := by
  refine List.flatMap_congr fun g _ => ?_
  dsimp only
  by_cases h : g.2.length < n
  · rw [if_pos h, if_pos h, List.take_zero]
  · rw [if_neg h, if_neg h]

theorem globalNIntsS_min_eq_pick (ints : List IRow) (m : Nat) (ms : List Nat)
    (h : (runs ints).map (fun g => g.2.length) = m :: ms) : globalNIntsS ints .min = pick ints (fun _ => minOf m ms) := by
  simp only [globalNIntsS, h, pick]

theorem globalNIntsS_pick (ints : List IRow) (n : NSpec) : ∃ k, globalNIntsS ints n = pick ints k := by
  cases n with
  | k n => exact ⟨_, globalNIntsS_k_eq_pick ints n⟩
  | min =>
    cases hlen : (runs ints).map (fun g => g.2.length) with
    | nil => exact ⟨_, by simp only [globalNIntsS, hlen]; exact (pick_all ints).symm⟩
    | cons m ms => exact ⟨_, globalNIntsS_min_eq_pick ints m ms hlen⟩

theorem mem_kept_runs (ints : List IRow) (n : Nat) (hn : 1 ≤ n) (t : Triple) :
    t ∈ ((runs ints).filter (fun g => !decide (g.2.length < n))).map (·.1) ↔
      ∃ row ∈ globalNIntsS ints (.k n), row.triple = t := by
  rw [globalNIntsS_k_eq_pick, triple_mem_pick, List.mem_map]
  refine exists_congr fun g => ?_
  rw [List.mem_filter, and_assoc]
  refine and_congr_right fun _ => and_congr_left' ?_
  by_cases hl : g.2.length < n
  · simp [hl]
  · simp only [hl, decide_false, Bool.not_false, if_false, true_iff]; omega

theorem globalN_k_eq (r : Result) (n : Nat) (hn : 1 ≤ n) (hs : SortedIds r.ints)
    (hw : IdxWF r.ints) (hrefs : RefsPresent r) (hall : AllReferenced r) :
    globalN r (.k n) = .ok (restrictTables r (globalNIntsS r.ints (.k n))) := by
  have hd : Divides r (((runs r.ints).filter (fun g => !decide (g.2.length < n))).map (·.1))
      (((runs r.ints).filter (fun g => decide (g.2.length < n))).map (·.1)) := by
    have := Divides.of_filter (r := r) (runs r.ints) (·.1) (fun g => !decide (g.2.length < n)) rfl
    simpa only [Bool.not_not] using this
  have hkeep : ∀ g ∈ runs r.ints,
      (g.1 ∈ ((runs r.ints).filter (fun g => !decide (g.2.length < n))).map (·.1) ↔ ¬ g.2.length < n) :=
    fun g hg => (fst_mem_filter_runs hs _ hg).trans (by rw [Bool.not_eq_true', decide_eq_false_iff_not])
  have hT := mem_kept_runs r.ints n hn
  have hcut : ∀ u ∈ ((runs r.ints).filter (fun g => decide (g.2.length < n))).map (·.1),
      (r.ints.map IRow.triple).count u ≤ n := by
    intro u hu
    obtain ⟨g, hg, rfl⟩ := List.mem_map.mp hu
    obtain ⟨hg, hk⟩ := List.mem_filter.mp hg
    have := count_triple_eq_run_length (runs r.ints) (runs_nodup r.ints hs) (fun g hg => (runs_spec r.ints g hg).2) g hg
    rw [runs_flatMap] at this
    rw [this]
    exact le_of_lt (of_decide_eq_true hk)
  unfold globalN
  simp only
  rw [hd.removeRows_drop hs n (Or.inr hcut)]
  simp only
  rw [cut_rows r.ints n hw _ hkeep]
  by_cases hemp : (((runs r.ints).filter (fun g => decide (g.2.length < n))).map (·.1)).isEmpty = true
  · simp only [hemp, Bool.not_true, filterTableIf, Bool.false_eq_true, if_false]
    -- nothing dropped: every evaluation keeps a row, so every parameter row is still referenced
    rw [restrict_eq_of_triples r hall]
    intro row hrow
    obtain ⟨g, hg, hgt⟩ := List.mem_map.mp (row_triple_mem_runs _ row hrow)
    refine (hT row.triple).mp (hgt ▸ (hkeep g hg).mpr fun hl => ?_)
    have : g.1 ∈ ((runs r.ints).filter (fun g => decide (g.2.length < n))).map (·.1) :=
      List.mem_map.mpr ⟨g, List.mem_filter.mpr ⟨hg, decide_eq_true hl⟩, rfl⟩
    rw [List.isEmpty_iff.mp hemp] at this
    cases this
  · have hne : (!(((runs r.ints).filter (fun g => decide (g.2.length < n))).map (·.1)).isEmpty) = true := by
      rw [Bool.not_eq_true']; exact Bool.eq_false_iff.mpr hemp
    simp only [hne, filterTableIf, if_true]
    exact congrArg Except.ok (hd.tables_eq hrefs _ hT)

theorem globalN_min_eq (r : Result) (hw : IdxWF r.ints) (hall : AllReferenced r) :
    globalN r .min = .ok (restrictTables r (globalNIntsS r.ints .min)) := by
  unfold globalN globalNIntsS
  simp only
  cases hlen : (runs r.ints).map (fun g => g.2.length) with
  | nil => simp only; rw [restrict_self r hall]
  | cons m ms =>
    simp only
    have hints : r.ints.filter (fun row => decide (row.idx ≤ minOf m ms)) =
        (runs r.ints).flatMap (fun g => g.2.take (minOf m ms)) := by
      rw [filter_eq_flatMap_runs]
      apply List.flatMap_congr
      intro g hg
      exact filter_idx_take _ _ (hw g hg)
    rw [hints, restrict_eq_of_triples r hall]
    intro row hrow
    obtain ⟨g, hg, hgt⟩ := List.mem_map.mp (row_triple_mem_runs _ row hrow)
    exact (triple_mem_pick r.ints (fun _ => minOf m ms) row.triple).mpr
      ⟨g, hg, Nat.one_le_iff_ne_zero.mp (one_le_minOf_runs r.ints m ms hlen), hgt⟩

theorem globalNIntsS_sublist (ints : List IRow) (n : NSpec) : (globalNIntsS ints n).Sublist ints := by
  obtain ⟨k, e⟩ := globalNIntsS_pick ints n
  exact e ▸ pick_sublist ints k

theorem globalN_eq (r : Result) (n : NSpec) (hn : n ≠ .k 0) (hs : SortedIds r.ints) (hw : IdxWF r.ints)
    (hrefs : RefsPresent r) (hall : AllReferenced r) :
    globalN r n = .ok (restrictTables r (globalNIntsS r.ints n)) := by
  cases n with
  | min => exact globalN_min_eq r hw hall
  | k n =>
    cases n with
    | zero => exact absurd rfl hn
    | succ n => exact globalN_k_eq r (n + 1) (Nat.succ_pos n) hs hw hrefs hall

theorem globalN_restrict (r : Result) (ints1 : List IRow) (hsub : ∀ row ∈ ints1, row ∈ r.ints) (hs1 : SortedIds ints1)
    (hw1 : IdxWF ints1) (hrefs : RefsPresent r) (n : NSpec) (hn : n ≠ .k 0) :
    globalN (restrictTables r ints1) n = .ok (restrictTables r (globalNIntsS ints1 n)) := by
  rw [globalN_eq _ n hn hs1 hw1 (restrict_refsPresent r ints1 hsub hrefs) (restrict_allReferenced r ints1)]
  exact congrArg Except.ok (restrict_restrict r _ _ fun _ h => (globalNIntsS_sublist _ _).subset h)

/-- the length step of `where_fin`, in the shape `filterFin` and `whereFinS` share: `n = None` and the falsy `n = 0` skip it -/
def lengthStep {α : Type} (n : Option NSpec) (skip : α) (f : NSpec → α) : α :=
  match n with
  | none => skip
  | some (.k 0) => skip
  | some n => f n

theorem lengthStep_cases (n : Option NSpec) :
    (∀ (α : Type) (skip : α) (f : NSpec → α), lengthStep n skip f = skip) ∨
      ∃ m, m ≠ .k 0 ∧ ∀ (α : Type) (skip : α) (f : NSpec → α), lengthStep n skip f = f m := by
  match n with
  | none => exact Or.inl fun _ _ _ => rfl
  | some (.k 0) => exact Or.inl fun _ _ _ => rfl
  | some .min => exact Or.inr ⟨.min, NSpec.noConfusion, fun _ _ _ => rfl⟩
  | some (.k (m + 1)) => exact Or.inr ⟨.k (m + 1), fun h => Nat.succ_ne_zero m (NSpec.k.inj h), fun _ _ _ => rfl⟩

theorem filterFin_none (fixed : Bool) (r : Result) (n : Option NSpec) :
    filterFin fixed r n none = lengthStep n (.ok r) (globalN r) := rfl

theorem filterFin_some (fixed : Bool) (r : Result) (n : Option NSpec) (lc pc : List Col) :
    filterFin fixed r n (some (lc, pc)) =
      match groupP fixed r lc pc with
      | .error x => .error x
      | .ok r1 => lengthStep n (.ok r1) (globalN r1) := rfl

theorem whereFinS_none (r : Result) (n : Option NSpec) :
    whereFinS r n none = .ok (restrictTables r (lengthStep n r.ints (globalNIntsS r.ints))) := by
  match n with
  | none | some (.k 0) | some .min | some (.k (m + 1)) => rfl

theorem whereFinS_some (r : Result) (n : Option NSpec) (lc pc : List Col) :
    whereFinS r n (some (lc, pc)) =
      match mkIndexes r lc pc ((runs r.ints).map (·.1)) with
      | .error x => .error x
      | .ok ix => .ok (restrictTables r (lengthStep n (groupPIntsS r.ints ix) (globalNIntsS (groupPIntsS r.ints ix)))) := by
  unfold whereFinS
  dsimp only
  cases mkIndexes r lc pc ((runs r.ints).map (·.1)) with
  | error x => rfl
  | ok ix =>
    match n with
    | none | some (.k 0) | some .min | some (.k (m + 1)) => rfl

theorem filterFin_eq_spec (r : Result) (n : Option NSpec) (lp : Option (List Col × List Col))
    (hs : SortedIds r.ints) (hw : IdxWF r.ints) (hrefs : RefsPresent r)
    (hall : lp = none → AllReferenced r) :
    filterFin true r n lp = whereFinS r n lp := by
  -- both start from `r` restricted to some of its rows (all of them when there is no pairing step)
  have tail : ∀ ints1 : List IRow, (∀ row ∈ ints1, row ∈ r.ints) → SortedIds ints1 → IdxWF ints1 →
      lengthStep n (.ok (restrictTables r ints1)) (globalN (restrictTables r ints1)) =
        .ok (restrictTables r (lengthStep n ints1 (globalNIntsS ints1))) := by
    intro ints1 hsub hs1 hw1
    rcases lengthStep_cases n with e | ⟨m, hm, e⟩
    · rw [e, e]
    · rw [e, e]; exact globalN_restrict r ints1 hsub hs1 hw1 hrefs m hm
  rcases lp with _ | ⟨lc, pc⟩
  · rw [filterFin_none, whereFinS_none, ← tail r.ints (fun _ h => h) hs hw, restrict_self r (hall rfl)]
  · rw [filterFin_some, whereFinS_some]
    cases hix : mkIndexes r lc pc ((runs r.ints).map (·.1)) with
    | error x => rw [groupP_of_indexes_error true r lc pc x hix]
    | ok ix =>
      rw [groupP_eq r lc pc ix hs hix]
      exact tail (groupPIntsS r.ints ix) (fun _ h => (List.mem_filter.mp h).1) (hs.filter _)
        (idxWF_filter (fun t => (keptTriplesS ix).contains t) r.ints hs hw)

namespace WF
variable {r : Result}

theorem sorted (h : WF r) : SortedIds r.ints := h.1

theorem uniqueIds (h : WF r) : UniqueIds r := h.2.1

theorem idxWF (h : WF r) : IdxWF r.ints := h.2.2.1

theorem refs (h : WF r) : RefsPresent r := h.2.2.2

end WF

theorem filterFin_eq_spec_of_wf (r : Result) (n : Option NSpec) (lp : Option (List Col × List Col)) (hwf : WF r)
    (hall : lp = none → AllReferenced r) : filterFin true r n lp = whereFinS r n lp :=
  filterFin_eq_spec r n lp hwf.sorted hwf.idxWF hwf.refs hall

/-- `r'` is `r` with some evaluations dropped or cut to their first rows, and the parameter rows restricted to the ones still
referenced: what `where_fin`, `where` and `where_best` return -/
def Restr (r r' : Result) : Prop := ∃ k, r' = restrictTables r (pick r.ints k)

theorem Restr.refl (r : Result) (hall : AllReferenced r) : Restr r r :=
  ⟨fun g => g.2.length, by rw [pick_all, restrict_self r hall]⟩

theorem Restr.trans {r r1 r2 : Result} (hs : SortedIds r.ints) (h1 : Restr r r1) (h2 : Restr r1 r2) : Restr r r2 := by
  obtain ⟨k1, rfl⟩ := h1
  obtain ⟨k2, rfl⟩ := h2
  refine ⟨fun g => min (k2 (g.1, g.2.take (k1 g))) (k1 g), ?_⟩
  show restrictTables (restrictTables r (pick r.ints k1)) (pick (pick r.ints k1) k2) = _
  rw [restrict_restrict r _ _ fun _ h => (pick_sublist _ k2).subset h, pick_pick _ _ _ hs]

theorem Restr.wf {r r' : Result} (h : Restr r r') (hwf : WF r) : WF r' ∧ AllReferenced r' := by
  obtain ⟨k, rfl⟩ := h
  exact ⟨⟨hwf.sorted.sublist (pick_sublist _ k), restrict_uniqueIds r _ hwf.uniqueIds, idxWF_pick _ k hwf.sorted hwf.idxWF,
    restrict_refsPresent r _ (fun _ h => (pick_sublist _ k).subset h) hwf.refs⟩, restrict_allReferenced r _⟩

theorem Restr.sublist {r r' : Result} (h : Restr r r') :
    r'.ints.Sublist r.ints ∧ r'.envs.Sublist r.envs ∧ r'.lrns.Sublist r.lrns ∧ r'.evals.Sublist r.evals := by
  obtain ⟨k, rfl⟩ := h
  exact ⟨pick_sublist _ k, List.filter_sublist, List.filter_sublist, List.filter_sublist⟩

theorem Restr.consistent {r r' : Result} (h : Restr r r') (hrefs : RefsPresent r) : Consistent r' := by
  obtain ⟨k, rfl⟩ := h
  exact ⟨restrict_refsPresent r _ (fun _ h => (pick_sublist _ k).subset h) hrefs, restrict_allReferenced r _⟩

theorem restr_filter (r : Result) (Q : Triple → Bool) :
    Restr r (restrictTables r (r.ints.filter fun row => Q row.triple)) :=
  ⟨_, by rw [filter_eq_pick]⟩

theorem whereFinS_restr (r r' : Result) (n : Option NSpec) (lp : Option (List Col × List Col)) (hs : SortedIds r.ints)
    (h : whereFinS r n lp = .ok r') : Restr r r' := by
  have key : ∀ ints1 : List IRow, (∃ k1, ints1 = pick r.ints k1) →
      Restr r (restrictTables r (lengthStep n ints1 (globalNIntsS ints1))) := by
    rintro ints1 ⟨k1, rfl⟩
    rcases lengthStep_cases n with e | ⟨m, _, e⟩ <;> rw [e]
    · exact ⟨k1, rfl⟩
    · obtain ⟨k2, e2⟩ := globalNIntsS_pick (pick r.ints k1) m
      exact ⟨_, by rw [e2, pick_pick _ _ _ hs]⟩
  rcases lp with _ | ⟨lc, pc⟩
  · rw [whereFinS_none] at h
    exact Except.ok.inj h ▸ key r.ints ⟨_, (pick_all _).symm⟩
  · rw [whereFinS_some] at h
    cases hix : mkIndexes r lc pc ((runs r.ints).map (·.1)) with
    | error x => rw [hix] at h; cases h
    | ok ix =>
      rw [hix] at h
      exact Except.ok.inj h ▸ key (groupPIntsS r.ints ix) ⟨_, filter_eq_pick r.ints fun t => (keptTriplesS ix).contains t⟩

theorem whereFinS_wf (r r' : Result) (n : Option NSpec) (lp : Option (List Col × List Col)) (hwf : WF r)
    (h : whereFinS r n lp = .ok r') : WF r' ∧ AllReferenced r' :=
  (whereFinS_restr r r' n lp hwf.sorted h).wf hwf

/-- "no remaining value changes": every row of every table of `r'` is a row of the same table of `r` -/
def RowsOf (r' r : Result) : Prop :=
  (∀ x ∈ r'.ints, x ∈ r.ints) ∧ (∀ p ∈ r'.envs, p ∈ r.envs) ∧ (∀ p ∈ r'.lrns, p ∈ r.lrns) ∧ (∀ p ∈ r'.evals, p ∈ r.evals)

theorem RowsOf.refl (r : Result) : RowsOf r r :=
  ⟨fun _ h => h, fun _ h => h, fun _ h => h, fun _ h => h⟩

theorem RowsOf.trans {r2 r1 r : Result} (h2 : RowsOf r2 r1) (h1 : RowsOf r1 r) : RowsOf r2 r :=
  ⟨fun x hx => h1.1 x (h2.1 x hx), fun x hx => h1.2.1 x (h2.2.1 x hx),
    fun x hx => h1.2.2.1 x (h2.2.2.1 x hx), fun x hx => h1.2.2.2 x (h2.2.2.2 x hx)⟩

theorem groupP_rows (fixed : Bool) (r r' : Result) (lc pc : List Col) (h : groupP fixed r lc pc = .ok r') : RowsOf r' r := by
  cases hix : mkIndexes r lc pc ((runs r.ints).map (·.1)) with
  | error x => rw [groupP_of_indexes_error fixed r lc pc x hix] at h; cases h
  | ok ix =>
    rw [groupP_of_indexes fixed r lc pc ix hix] at h
    cases hrm : removeRows r.ints (droppedT fixed ix) 0 with
    | error x => rw [hrm] at h; cases h
    | ok ints =>
      rw [hrm] at h
      obtain rfl : _ = r' := Except.ok.inj h
      -- the fields of the record are reduced first: unifying against the unreduced projections is slow
      unfold RowsOf
      dsimp only
      exact ⟨mem_removeRows _ _ _ _ hrm, mem_filterTable _ _, mem_filterTable _ _, mem_filterTable _ _⟩

theorem globalN_rows (r r' : Result) (n : NSpec) (h : globalN r n = .ok r') : RowsOf r' r := by
  unfold globalN at h
  cases n with
  | min =>
    simp only at h
    split at h
    · cases h; exact RowsOf.refl r
    · cases h
      exact ⟨fun x hx => (List.mem_filter.mp hx).1, fun x hx => hx, fun x hx => hx, fun x hx => hx⟩
  | k n =>
    simp only at h
    split at h
    · simp at h
    · rename_i ints hrm
      simp only [Except.ok.injEq] at h
      subst h
      have hft : ∀ (c : Bool) (rows : List PRow) (keep : List Nat), ∀ p ∈ filterTableIf c rows keep, p ∈ rows := by
        intro c rows keep p hp
        unfold filterTableIf at hp
        split at hp
        · exact mem_filterTable _ _ p hp
        · exact hp
      exact ⟨fun x hx => mem_removeRows _ _ _ _ hrm x (List.mem_filter.mp hx).1, hft _ _ _, hft _ _ _, hft _ _ _⟩

/-- `where` on one parameter table, then on the interaction rows that refer to the selected rows: of that table exactly the
rows still referred to are left; this is where unique ids are needed -/
theorem filter_selected (rows : List PRow) (hu : (rows.map (·.id)).Nodup) (M : PRow → Bool) (ints : List IRow)
    (col : IRow → Nat) (hall : ∀ p ∈ rows, ∃ row ∈ ints, col row = p.id) :
    rows.filter M = rows.filter (fun p =>
      ((ints.filter (fun row => ((rows.filter M).map (·.id)).contains (col row))).map col).contains p.id) := by
  apply List.filter_congr
  intro p hp
  rw [Bool.eq_iff_iff, mem_contains_map]
  constructor
  · intro hM
    obtain ⟨row, hrow, hc⟩ := hall p hp
    exact ⟨row, List.mem_filter.mpr ⟨hrow, (mem_contains_map _ _ _).mpr ⟨p, List.mem_filter.mpr ⟨hp, hM⟩, hc.symm⟩⟩, hc⟩
  · rintro ⟨row, hrow, hc⟩
    obtain ⟨q, hq, hqid⟩ := (mem_contains_map _ _ _).mp (List.mem_filter.mp hrow).2
    obtain ⟨hq1, hq2⟩ := List.mem_filter.mp hq
    rw [← List.inj_on_of_nodup_map hu hq1 hp (hqid.trans hc)]
    exact hq2

theorem whereTbl_restr (r : Result) (tb : Tbl) (j : Option Nat) (vals : List Int) (hu : UniqueIds r) (hall : AllReferenced r) :
    Restr r (whereTbl r tb j vals) := by
  have key : ∀ (Q : Triple → Bool) (r' : Result), r' = restrictTables r (r.ints.filter (fun row => Q row.triple)) →
      Restr r r' := fun Q r' h => h ▸ restr_filter r Q
  unfold whereTbl
  cases tb with
  | env =>
    simp only
    split
    · exact Restr.refl r hall
    · split
      · exact Restr.refl r hall
      · refine key (fun t => ((r.envs.filter (rowMatches j vals)).map (·.id)).contains t.1) _ ?_
        simp only [restrictTables]
        congr 1
        exact filter_selected r.envs hu.1 _ r.ints (·.e) hall.1
  | lrn =>
    simp only
    split
    · exact Restr.refl r hall
    · split
      · exact Restr.refl r hall
      · refine key (fun t => ((r.lrns.filter (rowMatches j vals)).map (·.id)).contains t.2.1) _ ?_
        simp only [restrictTables]
        congr 1
        exact filter_selected r.lrns hu.2.1 _ r.ints (·.l) hall.2.1
  | val =>
    simp only
    split
    · exact Restr.refl r hall
    · split
      · exact Restr.refl r hall
      · refine key (fun t => ((r.evals.filter (rowMatches j vals)).map (·.id)).contains t.2.2) _ ?_
        simp only [restrictTables]
        congr 1
        exact filter_selected r.evals hu.2.2 _ r.ints (·.v) hall.2.2

theorem whereTbl_wf (r : Result) (tb : Tbl) (j : Option Nat) (vals : List Int) (hwf : WF r) (hall : AllReferenced r) :
    WF (whereTbl r tb j vals) ∧ AllReferenced (whereTbl r tb j vals) :=
  (whereTbl_restr r tb j vals hwf.uniqueIds hall).wf hwf

theorem complete_after_filter (ix : List Idx) :
    ((ix.filter (fun i => completeGroup ix i.p)).all
      (fun i => completeGroup (ix.filter (fun i => completeGroup ix i.p)) i.p)) = true := by
  rw [List.all_eq_true]
  intro i hi
  rw [List.mem_filter] at hi
  obtain ⟨hi1, hc⟩ := hi
  have hgroup : (ix.filter (fun j => completeGroup ix j.p)).filter (fun j => decide (j.p = i.p)) =
      ix.filter (fun j => decide (j.p = i.p)) := by
    rw [List.filter_filter]
    apply List.filter_congr
    intro j _
    by_cases hj : j.p = i.p
    · simp [hj, hc]
    · simp [hj]
  have hc' := (completeGroup_iff_levels ix i.p).mp hc
  rw [completeGroup_iff_levels]
  intro lv hlv
  rw [hgroup]
  apply hc' lv
  simp only [levelsOf, mem_dedup, List.mem_map] at hlv ⊢
  obtain ⟨j, hj, hjl⟩ := hlv
  exact ⟨j, (List.mem_filter.mp hj).1, hjl⟩

theorem whereFinS_pairing_inv {r r' : Result} {lc pc : List Col} (h : whereFinS r none (some (lc, pc)) = .ok r') :
    ∃ ix, mkIndexes r lc pc ((runs r.ints).map (·.1)) = .ok ix ∧ r' = restrictTables r (groupPIntsS r.ints ix) := by
  rw [whereFinS_some] at h
  cases hix : mkIndexes r lc pc ((runs r.ints).map (·.1)) with
  | error x => rw [hix] at h; cases h
  | ok ix => rw [hix] at h; exact ⟨ix, rfl, (Except.ok.inj h).symm⟩

theorem whereFinS_pairingComplete (r r' : Result) (lc pc : List Col) (hs : SortedIds r.ints)
    (h : whereFinS r none (some (lc, pc)) = .ok r') : pairingComplete r' lc pc = .ok true := by
  obtain ⟨ix, hix, rfl⟩ := whereFinS_pairing_inv h
  have hinj : ∀ i ∈ ix, ∀ j ∈ ix, i.t = j.t → i = j :=
    List.inj_on_of_nodup_map (by rw [(mkIndexes_spec r lc pc _ ix hix).1]; exact runs_nodup _ hs)
  have hf : ix.filter (fun i => (keptTriplesS ix).contains i.t) = ix.filter (fun i => completeGroup ix i.p) := by
    apply List.filter_congr
    intro i hi
    rw [Bool.eq_iff_iff, List.contains_eq_mem, decide_eq_true_eq, mem_keptTriplesS]
    exact ⟨fun ⟨j, hj, hc, hjt⟩ => hinj j hj i hi hjt ▸ hc, fun hc => ⟨i, hi, hc, rfl⟩⟩
  unfold pairingComplete
  rw [show groupPIntsS r.ints ix = r.ints.filter (fun row => (keptTriplesS ix).contains row.triple) from rfl,
    mkIndexes_restrict r lc pc ix hs (fun t => (keptTriplesS ix).contains t) hix]
  simp only
  rw [hf, complete_after_filter]

/-- with `fixes/C18-length-drop-before-pairing.diff`, `where_fin(n=k,l,p)` is `where_fin(n=k)` followed by `where_fin(l,p)`;
`whereFinJ` composes the two specifications in the same way -/
theorem filterFinD_succ (r : Result) (m : Nat) (lp : Option (List Col × List Col)) :
    filterFinD r (some (.k (m + 1))) lp =
      match filterFin true r (some (.k (m + 1))) none with
      | .error x => .error x
      | .ok r1 => filterFin true r1 none lp := by
  have h0 : filterFin true r (some (.k (m + 1))) none = globalN r (.k (m + 1)) := rfl
  rw [h0]
  simp only [filterFinD]
  cases globalN r (.k (m + 1)) with
  | error x => rfl
  | ok r1 =>
    rcases lp with _ | ⟨lc, pc⟩
    · rfl
    · simp only [filterFin]
      cases groupP true r1 lc pc <;> rfl

theorem runs_globalN_k (ints : List IRow) (n : Nat) (hs : SortedIds ints) :
    ∀ g ∈ runs (globalNIntsS ints (.k n)), g.2.length = n := by
  rw [globalNIntsS_k_eq_pick, runs_pick _ _ hs]
  intro g' hg'
  obtain ⟨g, hg, rfl⟩ := List.mem_map.mp hg'
  have hk := of_decide_eq_true (List.mem_filter.mp hg).2
  by_cases hl : g.2.length < n
  · exact absurd (if_pos hl) hk
  · simp only [if_neg hl, List.length_take]; omega

/-- `whereFinJ` yields what the docstring of `where_fin` promises: "a Result where an `l` exists for every `p` and all `p`
have `n` interactions" -/
theorem whereFinJ_complete (r r' : Result) (m : Nat) (lc pc : List Col) (hwf : WF r)
    (h : whereFinJ r (some (.k (m + 1))) (some (lc, pc)) = .ok r') :
    pairingComplete r' lc pc = .ok true ∧ ∀ g ∈ runs r'.ints, g.2.length = m + 1 := by
  unfold whereFinJ at h
  simp only at h
  cases h1 : whereFinS r (some (.k (m + 1))) none with
  | error x => rw [h1] at h; simp at h
  | ok r1 =>
    rw [h1] at h
    simp only at h
    obtain ⟨hwf1, _⟩ := whereFinS_wf r r1 _ none hwf h1
    refine ⟨whereFinS_pairingComplete r1 r' lc pc hwf1.sorted h, ?_⟩
    have hr1 : r1.ints = globalNIntsS r.ints (.k (m + 1)) := by
      rw [whereFinS_none] at h1
      rw [← Except.ok.inj h1]
      rfl
    have hlen1 : ∀ g ∈ runs r1.ints, g.2.length = m + 1 := by
      rw [hr1]
      exact runs_globalN_k r.ints (m + 1) hwf.sorted
    -- the pairing step drops whole evaluations, so the lengths survive it
    obtain ⟨ix, _, rfl⟩ := whereFinS_pairing_inv h
    intro g hg
    simp only [restrictTables, groupPIntsS] at hg
    rw [runs_filter (fun t => (keptTriplesS ix).contains t) r1.ints hwf1.sorted] at hg
    exact hlen1 g (List.mem_filter.mp hg).1

end Coba.C18
