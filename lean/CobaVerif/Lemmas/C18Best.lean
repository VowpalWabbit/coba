/-
C18 — `where_best`: the loop of `filter_best` that keeps the best level seen so far (`pickBest`) against `bestLevelS`, the last
candidate of maximal score; `filterBestW` against `whereBestSW`; what `where_best` returns is a restriction of its input
(`Restr`), hence again well-formed.
-/
import CobaVerif.Lemmas.C18
import Mathlib.Algebra.Order.Field.Rat

namespace Coba.C18

/-- a `full_l` level of a cell as `levelScoresW` lists it: the level, the mean of its evaluations' means, their id triples -/
abbrev Cand := Key × Rat × List Triple

theorem bestLevelS_mem (cands : List Cand) (c : Cand) (h : bestLevelS cands = some c) :
    c ∈ cands ∧ ∀ c' ∈ cands, c'.2.1 ≤ c.2.1 := by
  unfold bestLevelS at h
  have := List.mem_of_getLast? h
  rw [List.mem_filter] at this
  refine ⟨this.1, ?_⟩
  have h2 := this.2
  simp only [isMaxScore, List.all_eq_true, decide_eq_true_eq] at h2
  exact h2

theorem bestLevelS_snoc (pre : List Cand) (cur c : Cand) (h : bestLevelS pre = some cur) :
    bestLevelS (pre ++ [c]) = if c.2.1 < cur.2.1 then some cur else some c := by
  obtain ⟨hmem, hmax⟩ := bestLevelS_mem pre cur h
  unfold bestLevelS at h ⊢
  rw [List.filter_append]
  -- below the best of `pre`, `c` is no maximum and the maxima of `pre` stay maxima; at or above it, `c` is the last maximum
  by_cases hlt : c.2.1 < cur.2.1
  · rw [if_pos hlt]
    have h1 : List.filter (isMaxScore (pre ++ [c])) [c] = [] := by
      rw [List.filter_eq_nil_iff]
      intro x hx
      simp only [List.mem_singleton] at hx
      subst hx
      simp only [isMaxScore, List.all_eq_true, decide_eq_true_eq, not_forall]
      exact ⟨cur, by simp [hmem], not_le.mpr hlt⟩
    have h2 : List.filter (isMaxScore (pre ++ [c])) pre = List.filter (isMaxScore pre) pre := by
      apply List.filter_congr
      intro x hx
      simp only [isMaxScore, List.all_append, List.all_cons, List.all_nil, Bool.and_true]
      by_cases hm : (pre.all fun c' => decide (c'.2.1 ≤ x.2.1)) = true
      · have hx2 : cur.2.1 ≤ x.2.1 := by
          simp only [List.all_eq_true, decide_eq_true_eq] at hm
          exact hm cur hmem
        have : c.2.1 ≤ x.2.1 := le_of_lt (lt_of_lt_of_le hlt hx2)
        simp [hm, this]
      · simp [hm]
    rw [h1, h2, List.append_nil]
    exact h
  · rw [if_neg hlt]
    have hle : cur.2.1 ≤ c.2.1 := not_lt.mp hlt
    have h1 : List.filter (isMaxScore (pre ++ [c])) [c] = [c] := by
      rw [List.filter_eq_self]
      intro x hx
      simp only [List.mem_singleton] at hx
      subst hx
      simp only [isMaxScore, List.all_eq_true, decide_eq_true_eq, List.mem_append, List.mem_singleton]
      rintro c' (hc' | rfl)
      · exact (hmax c' hc').trans hle
      · exact le_refl _
    rw [h1, List.getLast?_append]
    simp

theorem bestLevelS_single (c : Cand) : bestLevelS [c] = some c := by
  simp [bestLevelS, isMaxScore]

theorem bestLevelS_some (cands : List Cand) (h : cands ≠ []) : ∃ c, bestLevelS cands = some c := by
  induction cands using List.reverseRecOn with
  | nil => exact absurd rfl h
  | append_singleton pre c ih =>
    by_cases hp : pre = []
    · subst hp
      exact ⟨c, bestLevelS_single c⟩
    · obtain ⟨cur, hcur⟩ := ih hp
      rw [bestLevelS_snoc pre cur c hcur]
      split <;> exact ⟨_, rfl⟩

theorem bestLevelS_perm (cands cands' : List Cand) (h : cands.Perm cands') (hu : UniqueMax cands) :
    (bestLevelS cands).map (·.1) = (bestLevelS cands').map (·.1) := by
  by_cases hn : cands = []
  · subst hn
    rw [← h.nil_eq]
  · obtain ⟨c, h1⟩ := bestLevelS_some cands hn
    obtain ⟨c', h2⟩ := bestLevelS_some cands' (fun hc => hn (hc ▸ h).eq_nil)
    rw [h1, h2]
    have hc := bestLevelS_mem cands c h1
    have hc' := bestLevelS_mem cands' c' h2
    simp only [Option.map_some, Option.some.injEq]
    apply hu c hc.1 c' (h.mem_iff.mpr hc'.1)
    · simp only [isMaxScore, List.all_eq_true, decide_eq_true_eq]; exact hc.2
    · simp only [isMaxScore, h.all_eq, List.all_eq_true, decide_eq_true_eq]; exact hc'.2

theorem pickBest_fst (rest : List Cand) : ∀ (pre : List Cand) (cur : Cand) (d : List Triple),
    bestLevelS pre = some cur →
    (pickBest rest (some cur.2.1) cur.2.2 d).1 = ((bestLevelS (pre ++ rest)).map (·.2.2)).getD [] := by
  induction rest with
  | nil =>
    intro pre cur d h
    simp [pickBest, h]
  | cons c rest ih =>
    intro pre cur d h
    have hs := bestLevelS_snoc pre cur c h
    have happ : pre ++ c :: rest = (pre ++ [c]) ++ rest := by simp
    simp only [pickBest]
    by_cases hlt : c.2.1 < cur.2.1
    · rw [if_pos (by simpa using hlt), happ]
      rw [if_pos hlt] at hs
      exact ih (pre ++ [c]) cur _ hs
    · rw [if_neg (by simpa using hlt), happ]
      rw [if_neg hlt] at hs
      exact ih (pre ++ [c]) c _ hs

theorem pickBest_eq_spec (cands : List Cand) :
    (pickBest cands none [] []).1 = ((bestLevelS cands).map (·.2.2)).getD [] := by
  cases cands with
  | nil => simp [pickBest, bestLevelS]
  | cons c rest =>
    simp only [pickBest]
    have := pickBest_fst rest [c] c ([] ++ []) (bestLevelS_single c)
    simpa using this

theorem mkBest_triples (r : Result) (lc pc fc : List Col) (n : Option Nat) : ∀ (gs : List (Triple × List IRow)) (es : List BEnt),
    mkBest r lc pc fc n gs = .ok es → es.map (·.t) = gs.map (·.1) := by
  intro gs
  induction gs with
  | nil => intro es h; simp only [mkBest] at h; cases h; rfl
  | cons g gs ih =>
    intro es h
    rw [mkBest] at h
    split at h
    · split at h
      · split at h
        · rename_i rest hrest
          dsimp only at h
          split at h
          · cases h
          · cases h
            rw [List.map_cons, List.map_cons, ih rest hrest]
        · dsimp only at h
          split at h <;> cases h
      · cases h
    · cases h

theorem levelScoresW_mem (lv : List BEnt → List Key) (cell : List BEnt) (c : Cand) (h : c ∈ levelScoresW lv cell) :
    c.2.2 = (cell.filter (fun e => e.f = c.1)).map (·.t) := by
  simp only [levelScoresW, List.mem_map] at h
  obtain ⟨f, _, rfl⟩ := h
  rfl

theorem levelScoresW_perm (lv1 lv2 : List BEnt → List Key) (cell : List BEnt) (h : (lv1 cell).Perm (lv2 cell)) :
    (levelScoresW lv1 cell).Perm (levelScoresW lv2 cell) := by
  unfold levelScoresW
  exact h.map _

theorem pickBest_levelScoresW (lv : List BEnt → List Key) (es : List BEnt) (hnd : (es.map (·.t)).Nodup) (e : BEnt) (he : e ∈ es) :
    (pickBest (levelScoresW lv (cellOfEnt es e)) none [] []).1.contains e.t =
      decide ((bestLevelS (levelScoresW lv (cellOfEnt es e))).map (·.1) = some e.f) := by
  have hinj : ∀ a ∈ es, ∀ b ∈ es, a.t = b.t → a = b := List.inj_on_of_nodup_map hnd
  have hecell : e ∈ cellOfEnt es e := by simp [cellOfEnt, he]
  rw [pickBest_eq_spec]
  cases hb : bestLevelS (levelScoresW lv (cellOfEnt es e)) with
  | none => simp
  | some c =>
    have hc := (bestLevelS_mem _ c hb).1
    have hids := levelScoresW_mem lv _ c hc
    simp only [Option.map_some, Option.getD_some, Option.some.injEq]
    rw [hids, List.contains_eq_mem]
    congr 1
    apply propext
    constructor
    · intro hm
      obtain ⟨e', he', het⟩ := List.mem_map.mp hm
      rw [List.mem_filter] at he'
      have he'es : e' ∈ es := (List.mem_filter.mp he'.1).1
      have := hinj e' he'es e he het
      subst this
      have := he'.2
      simp only [decide_eq_true_eq] at this
      exact this.symm
    · intro hf
      exact List.mem_map.mpr ⟨e, List.mem_filter.mpr ⟨hecell, by simpa using hf.symm⟩, rfl⟩

theorem keptByBestW_eq (lv : List BEnt → List Key) (es : List BEnt) (hnd : (es.map (·.t)).Nodup) : keptByBestW lv es = keptByBestSW lv es := by
  unfold keptByBestW keptByBestSW
  congr 1
  apply List.filter_congr
  intro e he
  rw [pickBest_levelScoresW lv es hnd e he]

theorem filterBestW_eq_spec (lv : List BEnt → List Key) (r : Result) (lc pc : List Col) (n : Option Nat) (fl fp : List Col) (hwf : WF r) :
    filterBestW lv r lc pc n fl fp = whereBestSW lv r lc pc n fl fp := by
  unfold filterBestW whereBestSW
  rw [filterFin_eq_spec_of_wf r none (some (fl, fp)) hwf (by intro h; cases h)]
  cases hfin : whereFinS r none (some (fl, fp)) with
  | error x => rfl
  | ok fin =>
    simp only
    obtain ⟨⟨hs, hu, hw, hrefs⟩, hall⟩ := whereFinS_wf r fin none (some (fl, fp)) hwf hfin
    cases hes : mkBest fin lc pc fl n (runs fin.ints) with
    | error x => rfl
    | ok es =>
      simp only
      have hmap := mkBest_triples fin lc pc fl n _ es hes
      have hnd : (es.map (·.t)).Nodup := by rw [hmap]; exact runs_nodup _ hs
      have hd : Divides fin (keptByBestW lv es) (droppedByBestW lv es) := Divides.of_filter es (·.t) _ hmap
      rw [hd.removeRows_drop hs 0 (Or.inl rfl)]
      simp only
      rw [keptByBestW_eq lv es hnd] at hd ⊢
      exact congrArg Except.ok (hd.tables_filter_eq hrefs)

theorem whereBestSW_restr (lv : List BEnt → List Key) (r r' : Result) (lc pc : List Col) (n : Option Nat) (fl fp : List Col)
    (hs : SortedIds r.ints) (h : whereBestSW lv r lc pc n fl fp = .ok r') : Restr r r' := by
  unfold whereBestSW at h
  cases hfin : whereFinS r none (some (fl, fp)) with
  | error x => rw [hfin] at h; cases h
  | ok fin =>
    rw [hfin] at h
    simp only at h
    cases hes : mkBest fin lc pc fl n (runs fin.ints) with
    | error x => rw [hes] at h; cases h
    | ok es =>
      rw [hes] at h
      cases h
      exact (whereFinS_restr r fin none _ hs hfin).trans hs (restr_filter fin fun t => (keptByBestSW lv es).contains t)

theorem whereBestS_wf (r r' : Result) (lc pc : List Col) (n : Option Nat) (fl fp : List Col) (hwf : WF r)
    (h : whereBestS r lc pc n fl fp = .ok r') : WF r' ∧ AllReferenced r' :=
  (whereBestSW_restr sortLv r r' lc pc n fl fp hwf.sorted h).wf hwf

end Coba.C18
