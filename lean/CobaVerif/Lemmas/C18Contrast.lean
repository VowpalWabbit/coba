/-
C18 — `_grouped_ys` / `raw_learners` (dict of lists = grouping by key; `moving_average` = direct averages), `raw_contrast`
and what `plot_contrast` computes before drawing.
-/
import CobaVerif.Lemmas.C18MovingAverage
import CobaVerif.Lemmas.C18Tables

namespace Coba.C18

theorem insertG_map (ks : List (Key × Key)) (hnd : ks.Nodup) (F : Key × Key → List Rat) (k : Key × Key) (v : Rat) :
    insertG (ks.map (fun k' => (k', F k'))) k v =
      if k ∈ ks then ks.map (fun k' => (k', if k' = k then F k' ++ [v] else F k'))
      else ks.map (fun k' => (k', F k')) ++ [(k, [v])] := by
  induction ks with
  | nil => simp [insertG]
  | cons a as ih =>
    have hnd' := List.nodup_cons.mp hnd
    simp only [List.map_cons, insertG]
    by_cases ha : a = k
    · subst ha
      simp only [if_true, List.mem_cons, true_or]
      congr 1
      apply List.map_congr_left
      intro k' hk'
      have : ¬ k' = a := fun hc => hnd'.1 (hc ▸ hk')
      simp [this]
    · rw [if_neg ha, ih hnd'.2]
      have hka : ¬ k = a := fun hc => ha hc.symm
      by_cases hk : k ∈ as
      · simp [hk, ha]
      · simp [hk, hka]

theorem groupByKey_snoc (pre : List ((Key × Key) × Rat)) (k : Key × Key) (v : Rat) :
    insertG (groupByKey pre) k v = groupByKey (pre ++ [(k, v)]) := by
  unfold groupByKey
  rw [insertG_map _ (nodup_dedup _) (fun k' => (pre.filter (fun e => e.1 = k')).map (·.2))]
  simp only [List.map_append, List.map_cons, List.map_nil]
  rw [dedup_snoc]
  by_cases hk : k ∈ pre.map (·.1)
  · have hk' : k ∈ dedup (pre.map (·.1)) := (mem_dedup _ _).mpr hk
    rw [if_pos hk', if_pos hk]
    apply List.map_congr_left
    intro k' _
    congr 1
    by_cases hkk : k' = k
    · subst hkk
      simp [List.filter_append]
    · have : ¬ k = k' := fun hc => hkk hc.symm
      simp [List.filter_append, hkk, this]
  · have hk' : ¬ k ∈ dedup (pre.map (·.1)) := fun hc => hk ((mem_dedup _ _).mp hc)
    rw [if_neg hk', if_neg hk, List.map_append]
    congr 1
    · apply List.map_congr_left
      intro k' hk2
      have hne : ¬ k = k' := fun hc => hk' (hc ▸ hk2)
      simp [List.filter_append, hne]
    · have hnone : pre.filter (fun e => decide (e.1 = k)) = [] := by
        rw [List.filter_eq_nil_iff]
        intro e he
        simp only [decide_eq_true_eq]
        intro hc
        exact hk (List.mem_map.mpr ⟨e, he, hc⟩)
      simp [List.filter_append, hnone]

theorem insertAll_groupByKey (pre es : List ((Key × Key) × Rat)) :
    insertAll (groupByKey pre) es = groupByKey (pre ++ es) := by
  induction es generalizing pre with
  | nil => simp [insertAll]
  | cons e es ih =>
    obtain ⟨k, v⟩ := e
    simp only [insertAll]
    rw [groupByKey_snoc, ih]
    simp

theorem insertAll_nil (es : List ((Key × Key) × Rat)) : insertAll [] es = groupByKey es := by
  have := insertAll_groupByKey [] es
  simpa [groupByKey, dedup] using this

theorem meanL_ok (zs : List Rat) (h : zs ≠ []) : meanL zs = .ok (sumL zs / (zs.length : Rat)) := by
  unfold meanL divE
  have : (zs.length : Rat) ≠ 0 := by
    have : zs.length ≠ 0 := by simpa using h
    exact_mod_cast this
  rw [if_neg this]

theorem meanL_single (y : Rat) : meanL [y] = .ok y := by
  rw [meanL_ok [y] (List.cons_ne_nil _ _)]
  simp [sumL]

theorem finalValue_eq (ys : List Rat) (span : Option Nat) (hne : ys ≠ []) :
    finalValue ys span = directFinal ys span := by
  have hlen : 1 ≤ ys.length := by
    cases ys with
    | nil => exact absurd rfl hne
    | cons a as => simp
  have hwin : ∀ s, window (some s) (ys.length - 1) ys = ys.drop (ys.length - s) := by
    intro s
    simp only [window]
    have : ys.length - 1 + 1 = ys.length := by omega
    rw [this, List.take_length]
  unfold finalValue directFinal
  match span with
  | none => rfl
  | some 0 => rfl
  | some 1 =>
    simp only
    rw [hwin 1, List.drop_length_sub_one hne, meanL_single, List.getLast?_eq_some_getLast hne]
  | some (s + 2) =>
    simp only
    rw [hwin]

theorem evalEntries_eq (r : Result) (lc : List Col) (x : XSpec) (span : Option Nat) (g : Triple × List IRow)
    (hne : g.2 ≠ []) : evalEntries r lc x span g = evalEntriesS r lc x span g := by
  unfold evalEntries evalEntriesS
  have hys : g.2.map (fun row => toRat row.y) ≠ [] := by simpa using hne
  simp only [movingAverage_none_eq, finalValue_eq _ _ hys]
  rfl

theorem allEntries_eq (r : Result) (lc : List Col) (x : XSpec) (span : Option Nat) (gs : List (Triple × List IRow))
    (hne : ∀ g ∈ gs, g.2 ≠ []) : allEntries r lc x span gs = allEntriesS r lc x span gs := by
  induction gs with
  | nil => rfl
  | cons g gs ih =>
    simp only [allEntries, allEntriesS]
    rw [evalEntries_eq r lc x span g (hne g (by simp)), ih (fun g' hg' => hne g' (by simp [hg']))]

theorem sideVals_eq (r : Result) (sel : List (Tbl × Option Nat × Int)) (pc : List Col) (x : XSpec) (span : Option Nat) :
    sideVals allEntries r sel pc x span = sideVals allEntriesS r sel pc x span := by
  unfold sideVals
  rw [allEntries_eq (applySel r sel) pc x span _ (fun g hg => (runs_spec _ g hg).1)]

theorem sideValsAll_eq (r : Result) (pc : List Col) (x : XSpec) (span : Option Nat)
    (sels : List (List (Tbl × Option Nat × Int))) :
    sideValsAll allEntries r pc x span sels = sideValsAll allEntriesS r pc x span sels := by
  induction sels with
  | nil => rfl
  | cons sel sels ih => simp only [sideValsAll, sideVals_eq, ih]

theorem rawContrastWith_eq (r : Result) (sels1 sels2 : List (List (Tbl × Option Nat × Int))) (pc : List Col) (x : XSpec)
    (span : Option Nat) (strX : Bool) :
    rawContrastWith allEntries r sels1 sels2 pc x span strX = rawContrastWith allEntriesS r sels1 sels2 pc x span strX := by
  unfold rawContrastWith
  rw [sideValsAll_eq, sideValsAll_eq]

theorem insertS_not_mem (D : List ((Key × Key) × Rat)) (k : Key × Key) (v : Rat) (h : k ∉ D.map (·.1)) :
    insertS D k v = D ++ [(k, v)] := by
  induction D with
  | nil => rfl
  | cons a as ih =>
    obtain ⟨k', v'⟩ := a
    simp only [List.map_cons, List.mem_cons, not_or] at h
    simp only [insertS]
    rw [if_neg (fun hc => h.1 hc.symm), ih h.2]
    rfl

theorem lastWins_nodup (es : List ((Key × Key) × Rat)) : ∀ (D : List ((Key × Key) × Rat)),
    ((D ++ es).map (·.1)).Nodup → lastWins D es = D ++ es := by
  induction es with
  | nil => intro D _; simp [lastWins]
  | cons e es ih =>
    intro D h
    obtain ⟨k, v⟩ := e
    simp only [lastWins]
    have hk : k ∉ D.map (·.1) := by
      simp only [List.map_append, List.map_cons] at h
      have := (List.nodup_append.mp h).2.2
      intro hc
      exact this k hc k (by simp) rfl
    rw [insertS_not_mem D k v hk, ih (D ++ [(k, v)]) (by simpa using h)]
    simp

theorem groupPairs_mem (ps : List ((Key × Key) × (Rat × Rat))) (e : (Key × Key) × List (Rat × Rat))
    (he : e ∈ groupPairs ps) : e.1 ∈ ps.map (·.1) ∧ e.2 = (ps.filter (fun q => q.1 = e.1)).map (·.2) := by
  unfold groupPairs at he
  obtain ⟨k, hk, rfl⟩ := List.mem_map.mp he
  exact ⟨(mem_dedup k _).mp hk, rfl⟩

theorem groupPairs_spec (ps : List ((Key × Key) × (Rat × Rat))) (e : (Key × Key) × List (Rat × Rat))
    (he : e ∈ groupPairs ps) : e.2 ≠ [] ∧ ∀ q, q ∈ e.2 ↔ (e.1, q) ∈ ps := by
  obtain ⟨h1, h2⟩ := groupPairs_mem ps e he
  constructor
  · obtain ⟨a, ha, hk⟩ := List.mem_map.mp h1
    rw [h2]
    intro hc
    have : a.2 ∈ (ps.filter (fun q => q.1 = e.1)).map (·.2) :=
      List.mem_map.mpr ⟨a, List.mem_filter.mpr ⟨ha, by simpa using hk⟩, rfl⟩
    rw [hc] at this
    exact absurd this (by simp)
  · intro q
    rw [h2]
    constructor
    · intro hq
      obtain ⟨a, ha, rfl⟩ := List.mem_map.mp hq
      obtain ⟨ha1, ha2⟩ := List.mem_filter.mp ha
      have : a.1 = e.1 := by simpa using ha2
      rw [← this]
      exact ha1
    · intro hq
      exact List.mem_map.mpr ⟨(e.1, q), List.mem_filter.mpr ⟨hq, by simp⟩, rfl⟩

theorem groupPairs_keys_nodup (ps : List ((Key × Key) × (Rat × Rat))) : ((groupPairs ps).map (·.1)).Nodup := by
  unfold groupPairs
  rw [List.map_map]
  have : ((fun (e : (Key × Key) × List (Rat × Rat)) => e.1) ∘ fun k => (k, (ps.filter (fun e => e.1 = k)).map (·.2))) = id := by
    funext k; rfl
  rw [this, List.map_id]
  exact nodup_dedup _

theorem mem_zipWith_pair {α β γ} (f : α → β → γ) (a : List α) (b : List β) (e : γ) (h : e ∈ List.zipWith f a b) :
    ∃ u ∈ a, ∃ w ∈ b, e = f u w := by
  induction a generalizing b with
  | nil => simp at h
  | cons x xs ih =>
    cases b with
    | nil => simp at h
    | cons y ys =>
      simp only [List.zipWith_cons_cons, List.mem_cons] at h
      rcases h with rfl | h
      · exact ⟨x, by simp, y, by simp, rfl⟩
      · obtain ⟨u, hu, w, hw, he⟩ := ih ys h
        exact ⟨u, by simp [hu], w, by simp [hw], he⟩

theorem pairUp_paired (isIndex : Bool) (k : Key) (a b : List ((Key × Key) × Rat))
    (ha : ∀ u ∈ a, u.1.1 = k) (hb : ∀ w ∈ b, w.1.1 = k) (e : (Key × Key) × (Rat × Rat))
    (he : e ∈ pairUp isIndex a b) :
    ∃ u ∈ a, ∃ w ∈ b, u.1.1 = w.1.1 ∧ e.2 = (u.2, w.2) ∧
      e.1 = (if isIndex then (u.1.2, u.1.2) else (u.1.2, w.1.2)) := by
  unfold pairUp at he
  cases isIndex with
  | true =>
    simp only [if_true] at he
    obtain ⟨u, hu, w, hw, rfl⟩ := mem_zipWith_pair _ a b e he
    exact ⟨u, hu, w, hw, by rw [ha u hu, hb w hw], rfl, by simp⟩
  | false =>
    simp only [Bool.false_eq_true, if_false] at he
    obtain ⟨u, hu, he⟩ := List.mem_flatMap.mp he
    obtain ⟨w, hw, rfl⟩ := List.mem_map.mp he
    exact ⟨u, hu, w, hw, by rw [ha u hu, hb w hw], rfl, by simp⟩

theorem contrastPairs_paired (isIndex : Bool) (L1 L2 : List ((Key × Key) × Rat)) (e : (Key × Key) × (Rat × Rat))
    (he : e ∈ contrastPairs isIndex L1 L2) : PairedFrom isIndex L1 L2 e := by
  unfold contrastPairs at he
  obtain ⟨k, _, he⟩ := List.mem_flatMap.mp he
  obtain ⟨u, hu, w, hw, h⟩ := pairUp_paired isIndex k _ _
    (fun u hu => by simpa using (List.mem_filter.mp hu).2) (fun w hw => by simpa using (List.mem_filter.mp hw).2) e he
  exact ⟨u, (List.mem_filter.mp hu).1, w, (List.mem_filter.mp hw).1, h⟩

/-- for `x = 'index'` (`zip`) only `→` holds: positions beyond the shorter side are dropped -/
theorem mem_contrastPairs_product (L1 L2 : List ((Key × Key) × Rat)) (e : (Key × Key) × (Rat × Rat)) :
    e ∈ contrastPairs false L1 L2 ↔ PairedFrom false L1 L2 e := by
  refine ⟨contrastPairs_paired false L1 L2 e, ?_⟩
  rintro ⟨u, hu, w, hw, h, he2, he1⟩
  obtain rfl : e = ((u.1.2, w.1.2), (u.2, w.2)) := Prod.ext he1 he2
  unfold contrastPairs
  refine List.mem_flatMap.mpr ⟨u.1.1, ?_, ?_⟩
  · refine List.mem_filter.mpr ⟨(mem_dedup _ _).mpr (List.mem_map.mpr ⟨u, hu, rfl⟩), ?_⟩
    rw [List.contains_iff_mem, h]
    exact List.mem_map.mpr ⟨w, hw, rfl⟩
  · unfold pairUp
    rw [if_neg Bool.false_ne_true]
    exact List.mem_flatMap.mpr ⟨u, List.mem_filter.mpr ⟨hu, decide_eq_true rfl⟩,
      List.mem_map.mpr ⟨w, List.mem_filter.mpr ⟨hw, decide_eq_true h.symm⟩, rfl⟩⟩

theorem rawContrastWith_ok (vals) (r : Result) (sels1 sels2 : List (List (Tbl × Option Nat × Int))) (pc : List Col)
    (x : XSpec) (span : Option Nat) (strX : Bool) (raw : List ((Key × Key) × List (Rat × Rat)))
    (h : rawContrastWith vals r sels1 sels2 pc x span strX = .ok raw) :
    ∃ L1 L2, sideValsAll vals r pc x span sels1 = .ok L1 ∧ sideValsAll vals r pc x span sels2 = .ok L2 ∧
      raw = groupPairs (contrastPairs (x = .index) L1 L2) := by
  unfold rawContrastWith at h
  by_cases c1 : (sels1.any fun s => sels2.contains s) = true
  · rw [if_pos c1] at h; cases h
  rw [if_neg c1] at h
  by_cases c2 : r.ints.isEmpty = true
  · rw [if_pos c2] at h; cases h
  rw [if_neg c2] at h
  rcases h1 : sideValsAll vals r pc x span sels1 with e | L1
  · rw [h1] at h; cases h
  rcases h2 : sideValsAll vals r pc x span sels2 with e | L2
  · rw [h1, h2] at h; cases h
  rw [h1, h2] at h
  refine ⟨L1, L2, rfl, rfl, ?_⟩
  dsimp only at h
  split at h
  · cases h
  · split at h
    · cases h
    · exact (Except.ok.inj h).symm

theorem contrastPointsFrom_none (mode : CMode) (every : Nat) (raw : List ((Key × Key) × List (Rat × Rat)))
    (h : ∀ e ∈ raw, e.2 ≠ []) (i : Nat) :
    contrastPointsFrom mode none every i raw = .ok (raw.map (meanPoint mode)) := by
  induction raw generalizing i with
  | nil => rfl
  | cons e rest ih =>
    obtain ⟨x, ps⟩ := e
    have hps : ps ≠ [] := h (x, ps) (by simp)
    have hm : (ps.map (contrastOf mode)) ≠ [] := by simpa using hps
    simp only [contrastPointsFrom, calcCi, meanL_ok _ hm, ih (fun e he => h e (by simp [he])) (i + 1)]
    simp [meanPoint]

/-- an entry without pairs makes the mean raise (`StatisticsError` in coba, `zeroDivision` in the model's `meanL`) — it cannot
occur in a `raw_contrast` table -/
theorem contrastPointsFrom_empty (mode : CMode) (every i : Nat) (x : Key × Key) (rest : List ((Key × Key) × List (Rat × Rat))) :
    contrastPointsFrom mode none every i ((x, []) :: rest) = .error .zeroDivision := by
  simp [contrastPointsFrom, calcCi, meanL, divE]

theorem mem_insertX (e q) (l : List ((Key × Key) × List (Rat × Rat))) : q ∈ insertX e l ↔ q = e ∨ q ∈ l :=
  mem_insertStep insertX (fun q e => klt q.1.1 e.1.1) (fun _ => rfl) (fun _ _ _ => rfl) e q l

theorem mem_sortX (q) (l : List ((Key × Key) × List (Rat × Rat))) : q ∈ sortX l ↔ q ∈ l :=
  mem_insertionSort insertX sortX (fun e q l => mem_insertX e q l) rfl (fun _ _ => rfl) q l

theorem mem_orderRaw (xord) (raw : List ((Key × Key) × List (Rat × Rat))) (q) (h : q ∈ orderRaw xord raw) : q ∈ raw := by
  unfold orderRaw at h
  cases xord with
  | none => exact (mem_sortX q raw).mp h
  | some o =>
    simp only at h
    obtain ⟨k, _, hk⟩ := List.mem_filterMap.mp h
    exact List.mem_of_find?_eq_some hk

theorem insertY_cons (p q : CPoint) (qs : List CPoint) :
    insertY p (q :: qs) = if (!decide (p.y ≤ q.y)) = true then q :: insertY p qs else p :: q :: qs := by
  simp only [insertY, Bool.not_eq_true', decide_eq_false_iff_not, ite_not]

theorem mem_insertY (p q : CPoint) (l : List CPoint) : q ∈ insertY p l ↔ q = p ∨ q ∈ l :=
  mem_insertStep insertY (fun q p => !decide (p.y ≤ q.y)) (fun _ => rfl) insertY_cons p q l

theorem mem_sortY (q : CPoint) (l : List CPoint) : q ∈ sortY l ↔ q ∈ l :=
  mem_insertionSort insertY sortY (fun p q l => mem_insertY p q l) rfl (fun _ _ => rfl) q l

theorem sortY_sorted (l : List CPoint) : (sortY l).Pairwise (fun a b => a.y ≤ b.y) := by
  induction l with
  | nil => exact List.Pairwise.nil
  | cons p ps ih =>
    refine pairwise_insertStep insertY (fun q p => !decide (p.y ≤ q.y)) (fun _ => rfl) insertY_cons p _ ih
      (fun q _ hb => ?_) (fun q _ hb => ?_) (fun _ _ _ _ => le_trans)
    · rw [Bool.not_eq_true', decide_eq_false_iff_not] at hb; exact le_of_lt (not_le.mp hb)
    · rw [Bool.not_eq_false', decide_eq_true_eq] at hb; exact hb

end Coba.C18
