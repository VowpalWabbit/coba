/-
C18 — `moving_average` against the textbook definition: prefix sums of the shifted difference telescope to window
sums, the exponential branch is a left fold; sums of dyadic inputs stay dyadic (why the harness may compare floats exactly);
the arithmetic behind `int(n*0.05) = n // 20` (`mul_c05_bounds`).
-/
import CobaVerif.Model.C18
import Mathlib.Tactic.Linarith
import Mathlib.Tactic.Ring
import Mathlib.Algebra.BigOperators.Group.List.Basic

namespace Coba.C18

theorem sumL_eq_sum (l : List Rat) : sumL l = l.sum := by
  induction l with
  | nil => rfl
  | cons x xs ih => simp [sumL, ih]

theorem sumL_append (a b : List Rat) : sumL (a ++ b) = sumL a + sumL b := by
  simp [sumL_eq_sum]

theorem sumL_replicate_zero (k : Nat) : sumL (List.replicate k 0) = 0 := by
  simp [sumL_eq_sum]

theorem sumL_replicate_one (k : Nat) : sumL (List.replicate k 1) = (k : Rat) := by
  simp [sumL_eq_sum]

theorem sumL_take_succ (xs : List Rat) (k : Nat) (h : k < xs.length) :
    sumL (xs.take (k + 1)) = sumL (xs.take k) + xs[k] := by
  simp only [sumL_eq_sum]
  exact List.sum_take_succ xs k h

theorem sumL_take_ones (n i : Nat) (h : i < n) : sumL ((List.replicate n (1 : Rat)).take (i + 1)) = ((i + 1 : Nat) : Rat) := by
  rw [List.take_replicate, sumL_replicate_one]
  congr 1
  omega

theorem foldl_add (a : Rat) (l : List Rat) : l.foldl (fun a v => a + v) a = a + sumL l := by
  induction l generalizing a with
  | nil => simp [sumL]
  | cons x xs ih => simp [sumL, ih]; ring

theorem divAll_map {α} (l : List α) (g1 g2 : α → Rat) :
    divAll (l.map g1) (l.map g2) = sequenceE (l.map (fun i => divE (g1 i) (g2 i))) := by
  induction l with
  | nil => simp [divAll, sequenceE]
  | cons x xs ih =>
    simp only [List.map_cons, divAll, divE]
    by_cases h : g2 x = 0
    · simp [h, sequenceE]
    · simp only [h, if_false, sequenceE, ih, divE]

theorem sequenceE_congr {α} (l : List α) (f g : α → Except Err Rat) (h : ∀ i ∈ l, f i = g i) :
    sequenceE (l.map f) = sequenceE (l.map g) := by
  rw [List.map_congr_left h]

theorem sequenceE_ok {α} (l : List α) (f : α → Except Err Rat) (g : α → Rat) (h : ∀ i ∈ l, f i = .ok (g i)) :
    sequenceE (l.map f) = .ok (l.map g) := by
  induction l with
  | nil => simp [sequenceE]
  | cons x xs ih =>
    simp only [List.map_cons]
    rw [h x (by simp)]
    simp only [sequenceE]
    rw [ih (fun i hi => h i (by simp [hi]))]

theorem sequenceE_ok_inv {α} (l : List α) (f : α → Except Err Rat) (g : α → Rat)
    (h : ∀ i ∈ l, ∀ y, f i = .ok y → y = g i) : ∀ out, sequenceE (l.map f) = .ok out → out = l.map g := by
  induction l with
  | nil => intro out ho; exact (Except.ok.inj ho).symm
  | cons x xs ih =>
    intro out ho
    rw [List.map_cons] at ho
    rcases hx : f x with e | y
    · rw [hx, sequenceE] at ho; cases ho
    · rcases hs : sequenceE (xs.map f) with e | r
      · rw [hx, sequenceE, hs] at ho; cases ho
      · rw [hx, sequenceE, hs] at ho
        obtain rfl := Except.ok.inj ho
        rw [List.map_cons, ← h x List.mem_cons_self y hx, ← ih (fun i hi => h i (List.mem_cons_of_mem _ hi)) r hs]

theorem map_getD_range (vs : List Rat) : (List.range vs.length).map (fun i => vs.getD i 0) = vs := by
  apply List.ext_getElem (by simp)
  intro i h1 h2
  simp at h1
  simp [h1]

/-- entry `t` of `accumulateWith f xs` (`accumulateWith_eq`) -/
def scanAt (f : Rat → Rat → Rat) (xs : List Rat) (t : Nat) : Rat :=
  match xs.take (t + 1) with
  | [] => 0
  | v :: r => r.foldl f v

theorem accFrom_eq (f : Rat → Rat → Rat) (a : Rat) (vs : List Rat) :
    accFrom f a vs = (List.range vs.length).map (fun t => (vs.take (t + 1)).foldl f a) := by
  induction vs generalizing a with
  | nil => simp [accFrom]
  | cons v vs ih =>
    simp only [accFrom, List.length_cons, List.range_succ_eq_map, List.map_cons, List.map_map]
    rw [ih]
    simp [Function.comp_def]

theorem accumulateWith_eq (f : Rat → Rat → Rat) (xs : List Rat) :
    accumulateWith f xs = (List.range xs.length).map (scanAt f xs) := by
  cases xs with
  | nil => simp [accumulateWith]
  | cons v vs =>
    simp only [accumulateWith, accFrom_eq, List.length_cons, List.range_succ_eq_map, List.map_cons, List.map_map]
    simp [scanAt, Function.comp_def]

theorem scanAt_add (xs : List Rat) (t : Nat) : scanAt (fun a v => a + v) xs t = sumL (xs.take (t + 1)) := by
  unfold scanAt
  cases h : xs.take (t + 1) with
  | nil => simp [sumL]
  | cons v r => simp [foldl_add, sumL]

/-- the unweighted branches are the weighted ones with every weight 1 -/
theorem countFrom1_eq (n : Nat) : countFrom1 n = accumulate (List.replicate n 1) := by
  unfold accumulate countFrom1
  rw [accumulateWith_eq, List.length_replicate]
  refine List.map_congr_left fun i hi => ?_
  rw [scanAt_add, sumL_take_ones _ _ (List.mem_range.mp hi)]

theorem length_subShift (s : Nat) (xs : List Rat) : (subShift s xs).length = xs.length := by
  simp [subShift]

theorem getElem_subShift (s : Nat) (xs : List Rat) (k : Nat) (h : k < xs.length) :
    (subShift s xs)[k]'(by simpa [length_subShift] using h) = xs[k] - (if h' : k < s then 0 else xs[k - s]'(by omega)) := by
  simp only [subShift, List.getElem_zipWith]
  congr 1
  by_cases h' : k < s
  · simp [h', List.getElem_append_left]
  · have hs : s ≤ k := by omega
    rw [List.getElem_append_right (by simpa using hs)]
    simp [h']

theorem sumL_take_subShift (s : Nat) (xs : List Rat) (k : Nat) (h : k ≤ xs.length) :
    sumL ((subShift s xs).take k) = sumL (xs.take k) - sumL (xs.take (k - s)) := by
  induction k with
  | zero => simp only [List.take_zero, Nat.zero_sub, sumL, sub_zero]
  | succ k ih =>
    have hk : k < xs.length := h
    rw [sumL_take_succ _ k ((length_subShift s xs).symm ▸ hk), ih (le_of_lt hk), getElem_subShift s xs k hk,
      sumL_take_succ xs k hk]
    by_cases h' : k < s
    · rw [dif_pos h', Nat.sub_eq_zero_of_le (le_of_lt h'), Nat.sub_eq_zero_of_le h', List.take_zero, sumL]
      ring
    · rw [dif_neg h', Nat.succ_sub (not_lt.mp h'), sumL_take_succ xs (k - s) (lt_of_le_of_lt (Nat.sub_le k s) hk)]
      ring

theorem sumL_window_some (s i : Nat) (xs : List Rat) :
    sumL (window (some s) i xs) = sumL (xs.take (i + 1)) - sumL (xs.take (i + 1 - s)) := by
  simp only [window]
  have := List.take_append_drop (i + 1 - s) (xs.take (i + 1))
  have h2 : sumL (xs.take (i + 1)) = sumL ((xs.take (i + 1)).take (i + 1 - s)) + sumL ((xs.take (i + 1)).drop (i + 1 - s)) := by
    rw [← sumL_append, this]
  rw [h2, List.take_take]
  have : min (i + 1 - s) (i + 1) = i + 1 - s := by omega
  rw [this]; ring

theorem window_one (i : Nat) (xs : List Rat) (h : i < xs.length) : window (some 1) i xs = [xs[i]] := by
  simp only [window, Nat.add_sub_cancel]
  rw [List.drop_take]
  simp only [Nat.add_sub_cancel_left]
  rw [List.drop_eq_getElem_cons h, List.take_succ_cons, List.take_zero]

theorem window_ge (s i : Nat) (xs : List Rat) (h : i < s) : window (some s) i xs = window none i xs := by
  have : i + 1 - s = 0 := by omega
  simp [window, this]

theorem mem_window (span : Option Nat) (i : Nat) (xs : List Rat) : ∀ x ∈ window span i xs, x ∈ xs := by
  intro x hx
  cases span with
  | none => exact List.mem_of_mem_take hx
  | some s => exact List.mem_of_mem_take (List.mem_of_mem_drop hx)

theorem length_window_le (span : Option Nat) (i : Nat) (xs : List Rat) : (window span i xs).length ≤ xs.length := by
  cases span with
  | none => exact (List.take_sublist _ _).length_le
  | some s => exact ((List.drop_sublist _ _).trans (List.take_sublist _ _)).length_le

theorem mulAll_ones (vs : List Rat) : mulAll vs (List.replicate vs.length 1) = vs := by
  induction vs with
  | nil => simp [mulAll]
  | cons v vs ih =>
    simp only [mulAll, List.length_cons, List.replicate_succ, List.zipWith_cons_cons, mul_one] at ih ⊢
    rw [ih]

theorem length_mulAll (vs ws : List Rat) (h : ws.length = vs.length) : (mulAll vs ws).length = vs.length := by
  simp [mulAll, h]

theorem getElem_mulAll (vs ws : List Rat) (i : Nat) (h1 : i < vs.length) (h2 : i < ws.length) :
    (mulAll vs ws)[i]'(by simp [mulAll]; omega) = vs[i] * ws[i] := by
  simp [mulAll]

theorem wmeanAt_one (vs ws : List Rat) (hl : ws.length = vs.length) (i : Nat) (hi : i < vs.length) :
    wmeanAt vs ws (some 1) i = divE (vs[i]'hi * ws[i]'(hl ▸ hi)) (ws[i]'(hl ▸ hi)) := by
  rw [wmeanAt, window_one i _ (by rw [length_mulAll vs ws hl]; exact hi), window_one i ws (hl ▸ hi),
    getElem_mulAll vs ws i hi (hl ▸ hi)]
  simp only [sumL, add_zero]

theorem wmeanAt_ones (vs : List Rat) (sp : Option Nat) :
    wmeanAt vs (List.replicate vs.length 1) sp =
      fun i => divE (sumL (window sp i vs)) (sumL (window sp i (List.replicate vs.length 1))) := by
  funext i
  simp only [wmeanAt, mulAll_ones]

theorem wmeanAt_fun (vs ws : List Rat) (sp : Option Nat) :
    wmeanAt vs ws sp = fun i => divE (sumL (window sp i (mulAll vs ws))) (sumL (window sp i ws)) := by
  funext i; rfl

theorem divAll_accumulate (A B : List Rat) (h : A.length = B.length) :
    divAll (accumulate A) (accumulate B) =
      sequenceE ((List.range A.length).map (fun i => divE (sumL (A.take (i + 1))) (sumL (B.take (i + 1))))) := by
  unfold accumulate
  rw [accumulateWith_eq, accumulateWith_eq, ← h, divAll_map]
  apply sequenceE_congr
  intro i _
  rw [scanAt_add, scanAt_add]

theorem divAll_sliding (s : Nat) (A B : List Rat) (h : A.length = B.length) :
    divAll (accumulate (subShift s A)) (accumulate (subShift s B)) =
      sequenceE ((List.range A.length).map (fun i => divE (sumL (window (some s) i A)) (sumL (window (some s) i B)))) := by
  rw [divAll_accumulate _ _ (by simp [length_subShift, h]), length_subShift]
  apply sequenceE_congr
  intro i hi
  have hi : i < A.length := List.mem_range.mp hi
  rw [sumL_take_subShift s A (i + 1) (by omega), sumL_take_subShift s B (i + 1) (by omega),
    sumL_window_some, sumL_window_some]

theorem progressive_eq (A B : List Rat) (h : A.length = B.length) (span : Option Nat)
    (hs : ∀ s, span = some s → A.length ≤ s) :
    divAll (accumulate A) (accumulate B) =
      sequenceE ((List.range A.length).map (fun i => divE (sumL (window span i A)) (sumL (window span i B)))) := by
  rw [divAll_accumulate A B h]
  apply sequenceE_congr
  intro i hi
  have hi : i < A.length := List.mem_range.mp hi
  cases span with
  | none => simp [window]
  | some s =>
    have := hs s rfl
    rw [window_ge s i A (by omega), window_ge s i B (by omega)]
    simp [window]

theorem movingAverage_none_eq (vs : List Rat) (span : Option Nat) :
    movingAverage vs span .none = movingAverageS vs span .none := by
  have hlen : vs.length = (List.replicate vs.length (1 : Rat)).length := by simp
  unfold movingAverage movingAverageS
  simp only
  by_cases h1 : span = some 1
  · subst h1
    rw [if_pos rfl, sequenceE_ok _ _ (fun i => vs.getD i 0), map_getD_range]
    intro i hi
    have hi : i < vs.length := List.mem_range.mp hi
    rw [wmeanAt_one vs _ hlen.symm i hi]
    simp [divE, hi]
  · rw [if_neg h1, wmeanAt_ones, countFrom1_eq]
    cases span with
    | none => exact progressive_eq vs _ hlen none (by simp)
    | some s =>
      simp only
      by_cases hs : s ≥ vs.length
      · rw [if_pos hs]
        exact progressive_eq vs _ hlen (some s) (by intro s' h; cases h; exact hs)
      · rw [if_neg hs, divAll_sliding s vs _ hlen]

theorem movingAverage_ws_eq (vs wl : List Rat) (span : Option Nat) (h1 : span ≠ some 1) :
    movingAverage vs span (.ws wl) = movingAverageS vs span (.ws wl) := by
  unfold movingAverage movingAverageS
  simp only
  by_cases hl : wl.length ≠ vs.length
  · rw [if_pos hl, if_pos hl]
  · rw [if_neg hl, if_neg hl, if_neg h1]
    have hl : wl.length = vs.length := by omega
    have hA : (mulAll vs wl).length = wl.length := by rw [length_mulAll vs wl hl, hl]
    have hAv : (mulAll vs wl).length = vs.length := length_mulAll vs wl hl
    by_cases he : wl.isEmpty = true
    · rw [if_pos he]
      have : wl = [] := by simpa using he
      subst this
      have : vs = [] := by simpa using hl.symm
      subst this
      rfl
    · rw [if_neg he, wmeanAt_fun]
      cases span with
      | none =>
        simp only
        rw [progressive_eq _ _ hA none (by simp), hAv]
      | some s =>
        simp only
        by_cases hs : s ≥ vs.length
        · rw [if_pos hs, progressive_eq _ _ hA (some s) (by intro s' h; cases h; omega), hAv]
        · rw [if_neg hs, divAll_sliding s _ _ hA, hAv]

theorem movingAverage_ws_span1 (vs wl out : List Rat)
    (h : movingAverageS vs (some 1) (.ws wl) = .ok out) : movingAverage vs (some 1) (.ws wl) = .ok out := by
  unfold movingAverage
  unfold movingAverageS at h
  simp only at h ⊢
  by_cases hl : wl.length ≠ vs.length
  · rw [if_pos hl] at h; cases h
  · rw [if_neg hl] at h
    rw [if_neg hl, if_pos trivial]
    have hl : wl.length = vs.length := by omega
    -- where the weight is not 0 the window of width 1 gives `v * w / w = v`; where it is 0 the textbook value is undefined
    rw [sequenceE_ok_inv _ _ (fun i => vs.getD i 0) ?_ out h, map_getD_range]
    intro i hi y hy
    have hi : i < vs.length := List.mem_range.mp hi
    rw [wmeanAt_one vs wl hl i hi, divE] at hy
    split at hy
    · cases hy
    · rename_i hne
      rw [← Except.ok.inj hy, mul_div_assoc, div_self hne, mul_one]
      simp [hi]

theorem geoSum_nil (b : Rat) : geoSum b [] = 0 := by simp [geoSum, mulAll, sumL]

theorem geoSum_append_single (b : Rat) (ys : List Rat) (x : Rat) :
    geoSum b (ys ++ [x]) = geoSum b ys + rpow b ys.length * x := by
  simp only [geoSum, mulAll, List.length_append, List.length_singleton, List.range_succ, List.map_append,
    List.map_singleton]
  rw [List.zipWith_append (by simp)]
  simp [sumL_append, sumL]

theorem foldl_exp (b a : Rat) (l : List Rat) :
    l.foldl (fun a v => v + b * a) a = geoSum b l.reverse + rpow b l.length * a := by
  induction l generalizing a with
  | nil => simp [geoSum_nil, rpow]
  | cons x xs ih =>
    simp only [List.foldl_cons, List.reverse_cons, List.length_cons]
    rw [ih, geoSum_append_single, List.length_reverse]
    simp only [rpow]
    ring

theorem scanAt_exp (b : Rat) (xs : List Rat) (t : Nat) :
    scanAt (fun a v => v + b * a) xs t = geoSum b (xs.take (t + 1)).reverse := by
  unfold scanAt
  cases h : xs.take (t + 1) with
  | nil => simp [geoSum_nil]
  | cons v r =>
    simp only [List.reverse_cons]
    rw [foldl_exp, geoSum_append_single, List.length_reverse]

theorem movingAverage_exp_eq (vs : List Rat) (span : Option Nat) :
    movingAverage vs span .exp = movingAverageS vs span .exp := by
  unfold movingAverage movingAverageS
  cases span with
  | none => rfl
  | some s =>
    simp only
    rw [accumulateWith_eq, accumulateWith_eq, List.length_replicate, divAll_map]
    apply sequenceE_congr
    intro t ht
    have ht : t < vs.length := List.mem_range.mp ht
    rw [scanAt_exp, scanAt_exp, List.take_replicate, List.reverse_replicate]
    have : min (t + 1) vs.length = t + 1 := by omega
    rw [this]
    rfl

/-! ### dyadic inputs: every sum the implementation forms is a bounded integer multiple of `2^-k` -/

/-- `q = m / 2^k` for an integer `m` with `|m| ≤ bound` -/
def DyadicBdd (k : Nat) (bound : Nat) (q : Rat) : Prop := ∃ m : Int, q = (m : Rat) / 2 ^ k ∧ m.natAbs ≤ bound

theorem DyadicBdd.zero (k : Nat) : DyadicBdd k 0 0 := ⟨0, by simp, by simp⟩

theorem DyadicBdd.add {k a b : Nat} {x y : Rat} (hx : DyadicBdd k a x) (hy : DyadicBdd k b y) :
    DyadicBdd k (a + b) (x + y) := by
  obtain ⟨m, rfl, hm⟩ := hx
  obtain ⟨n, rfl, hn⟩ := hy
  refine ⟨m + n, by push_cast; ring, ?_⟩
  have := Int.natAbs_add_le m n
  omega

theorem sumL_dyadic (k B : Nat) (l : List Rat) (h : ∀ x ∈ l, DyadicBdd k B x) : DyadicBdd k (l.length * B) (sumL l) := by
  induction l with
  | nil => simpa [sumL] using DyadicBdd.zero k
  | cons x xs ih =>
    have h1 := h x (by simp)
    have h2 := ih (fun y hy => h y (by simp [hy]))
    have := h1.add h2
    simp only [sumL, List.length_cons]
    have e : B + xs.length * B = (xs.length + 1) * B := by ring
    rw [e] at this
    exact this

theorem repr53_nat (k : Nat) (hk : k < 9007199254740992) : Repr53 (k : Rat) :=
  ⟨(k : Int), 0, by omega, by simp⟩

theorem repr53_sixteenth (k : Nat) (hk : 16 * k + 15 < 9007199254740992) : Repr53 ((k : Rat) + 15 / 16) :=
  ⟨((16 * k + 15 : Nat) : Int), 4, by omega, by push_cast; ring⟩

/-- `n · 0.05` (with the binary64 value of `0.05`) for `n = 20k + r`, `0 ≤ r ≤ 19`, below `3·2^51`: it exceeds `k + r/20` by
`n/(5·2^56) < 3/160`, so it stays below `k + 19/20 + 3/160 = k + 31/32` -/
theorem mul_c05_bounds (n k r : Rat) (hn : n = 20 * k + r) (hr0 : 0 ≤ r) (hr : r ≤ 19) (hk0 : 0 ≤ k)
    (hnb : n < 6755399441055744) : k ≤ n * c05 ∧ n * c05 < k + 31 / 32 := by
  have hx : n * c05 = n / 20 + n / 360287970189639680 := by unfold c05; ring
  rw [hx]
  subst hn
  constructor <;> linarith

theorem floatLaw_id : FloatLaw (fun x => x) :=
  ⟨fun _ _ _ h => h, fun _ _ _ h => h, fun x y _ h => by linarith⟩

end Coba.C18
