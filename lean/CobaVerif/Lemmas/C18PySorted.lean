/-
C18 — CPython's `list.sort` below 64 elements (`count_run` + `binarysort`) on Python values: when it raises, that it returns
a sorted permutation on numbers / strings, and that the outcome does not depend on the arrival order.
-/
import CobaVerif.Model.C18
import Mathlib.Algebra.Order.Field.Rat
import Mathlib.Data.List.Lex
import Mathlib.Data.List.Nodup

namespace Coba.C18

theorem pyLt_ok_iff (a b : PyVal) : (∃ x, pyLt a b = .ok x) ↔ (pyClass a = pyClass b ∧ pyClass a ≠ .none) := by
  cases a <;> cases b <;> simp [pyLt, pyClass]

theorem pyLt_error (a b : PyVal) (e : Err) (h : pyLt a b = .error e) : e = .typeError := by
  cases a <;> cases b <;> simp [pyLt] at h <;> exact h.symm

/-- all values of `l` are of class `c`: for `c` other than `None`, the lists on which no `<` of `sorted` raises (`pySorted_ok_iff`) -/
def OneClass (c : PyClass) (l : List PyVal) : Prop := ∀ v ∈ l, pyClass v = c

theorem pyLt_ok_of_class {c : PyClass} (hc : c ≠ .none) {a b : PyVal} (ha : pyClass a = c) (hb : pyClass b = c) :
    ∃ x, pyLt a b = .ok x := (pyLt_ok_iff a b).mpr ⟨by rw [ha, hb], by rw [ha]; exact hc⟩

/-- `count_run` with the direction as a parameter: extend while the outcome of `next < last` is `b`
(`b = false`: the ascending case, `b = true`: the strictly descending one) -/
def pyRun (b : Bool) : PyVal → List PyVal → Except Err (List PyVal × List PyVal)
  | _, [] => .ok ([], [])
  | last, v :: vs =>
    match pyLt v last with
    | .error e => .error e
    | .ok x =>
      if x = b then
        match pyRun b v vs with
        | .error e => .error e
        | .ok (r, rest) => .ok (v :: r, rest)
      else .ok ([], v :: vs)

theorem pyRunAsc_eq (vs : List PyVal) : ∀ last, pyRunAsc last vs = pyRun false last vs := by
  induction vs with
  | nil => intro last; rfl
  | cons v vs ih =>
    intro last
    rw [pyRunAsc, pyRun]
    rcases pyLt v last with e | x
    · rfl
    · cases x
      · simp only [ih]
        rcases pyRun false v vs with e | ⟨r, rest⟩ <;> rfl
      · rfl

theorem pyRunDesc_eq (vs : List PyVal) : ∀ last, pyRunDesc last vs = pyRun true last vs := by
  induction vs with
  | nil => intro last; rfl
  | cons v vs ih =>
    intro last
    rw [pyRunDesc, pyRun]
    rcases pyLt v last with e | x
    · rfl
    · cases x
      · rfl
      · simp only [ih]
        rcases pyRun true v vs with e | ⟨r, rest⟩ <;> rfl

theorem pySorted_short : ∀ l : List PyVal, l.length ≤ 1 → pySorted l = .ok l
  | [], _ => rfl
  | [_], _ => rfl
  | _ :: _ :: _, h => absurd h (by simp)

/-- the first comparison `b < a` fixes the direction, and the initial run is then the run *from `a`* -/
theorem pySorted_cons_cons (a b : PyVal) (rest : List PyVal) :
    pySorted (a :: b :: rest) =
      match pyLt b a with
      | .error e => .error e
      | .ok x =>
        match pyRun x a (b :: rest) with
        | .error e => .error e
        | .ok (r, rest') => pyBinSort (if x then (a :: r).reverse else a :: r) rest' := by
  rw [pySorted]
  rcases hx : pyLt b a with e | x
  · rfl
  · simp only [pyRun, hx, if_true]
    cases x
    · rw [pyRunAsc_eq]
      rcases pyRun false b rest with e | ⟨r, rest'⟩ <;> rfl
    · rw [pyRunDesc_eq]
      rcases pyRun true b rest with e | ⟨r, rest'⟩ <;> rfl

theorem pySorted_ok_inv {a b : PyVal} {rest out : List PyVal} (h : pySorted (a :: b :: rest) = .ok out) :
    ∃ x r rest', pyLt b a = .ok x ∧ pyRun x a (b :: rest) = .ok (r, rest') ∧
      pyBinSort (if x then (a :: r).reverse else a :: r) rest' = .ok out := by
  rw [pySorted_cons_cons] at h
  rcases hx : pyLt b a with e | x
  · rw [hx] at h; cases h
  · rw [hx] at h
    dsimp only at h
    rcases hr : pyRun x a (b :: rest) with e | ⟨r, rest'⟩
    · rw [hr] at h; cases h
    · rw [hr] at h
      exact ⟨x, r, rest', rfl, hr, h⟩

theorem mem_ite_reverse {x : Bool} {l : List PyVal} {w : PyVal} : w ∈ (if x then l.reverse else l) ↔ w ∈ l := by
  cases x
  · rfl
  · exact List.mem_reverse

theorem pyBinSort_ind (P : List PyVal → List PyVal → Prop)
    (step : ∀ pre v rest k, P pre (v :: rest) → pyBsearch v pre pre.length 0 pre.length = .ok k →
      P (pre.take k ++ v :: pre.drop k) rest) :
    ∀ (rest pre out : List PyVal), P pre rest → pyBinSort pre rest = .ok out → P out [] := by
  intro rest
  induction rest with
  | nil => intro pre out hP h; rw [pyBinSort] at h; exact Except.ok.inj h ▸ hP
  | cons v rest ih =>
    intro pre out hP h
    rw [pyBinSort] at h
    rcases hk : pyBsearch v pre pre.length 0 pre.length with e | k
    · rw [hk] at h; cases h
    · rw [hk] at h; exact ih _ out (step pre v rest k hP hk) h

theorem pyBinSort_perm (rest pre out : List PyVal) (h : pyBinSort pre rest = .ok out) : out.Perm (pre ++ rest) := by
  have := pyBinSort_ind (fun p r => (p ++ r).Perm (pre ++ rest)) (fun p v r k hP _ => by
    rw [List.append_assoc, List.cons_append]
    refine (List.perm_middle.trans ?_).trans hP
    rw [← List.append_assoc, List.take_append_drop]
    exact List.perm_middle.symm) rest pre out (List.Perm.refl _) h
  rwa [List.append_nil] at this

theorem pyRun_ind (b : Bool) (P : PyVal → List PyVal → List PyVal → List PyVal → Prop)
    (stop : ∀ last vs, P last vs [] vs)
    (step : ∀ last v vs r rest, pyLt v last = .ok b → P v vs r rest → P last (v :: vs) (v :: r) rest) :
    ∀ (vs : List PyVal) (last : PyVal) (r rest : List PyVal), pyRun b last vs = .ok (r, rest) → P last vs r rest := by
  intro vs
  induction vs with
  | nil =>
    intro last r rest h
    obtain ⟨rfl, rfl⟩ := Prod.mk.inj (Except.ok.inj h)
    exact stop last []
  | cons v vs ih =>
    intro last r rest h
    rw [pyRun] at h
    rcases hq : pyLt v last with e | x
    · rw [hq] at h; cases h
    · rw [hq] at h
      dsimp only at h
      by_cases hxb : x = b
      · subst hxb
        rw [if_pos rfl] at h
        rcases hr : pyRun x v vs with e | ⟨r', rest'⟩
        · rw [hr] at h; cases h
        · rw [hr] at h
          obtain ⟨rfl, rfl⟩ := Prod.mk.inj (Except.ok.inj h)
          exact step last v vs r' rest' hq (ih v r' rest' hr)
      · rw [if_neg hxb] at h
        obtain ⟨rfl, rfl⟩ := Prod.mk.inj (Except.ok.inj h)
        exact stop last (v :: vs)

theorem pyRun_class (b : Bool) (vs : List PyVal) (last : PyVal) (r rest : List PyVal) (h : pyRun b last vs = .ok (r, rest)) :
    OneClass (pyClass last) r ∧ vs = r ++ rest :=
  pyRun_ind b (fun last vs r rest => OneClass (pyClass last) r ∧ vs = r ++ rest)
    (fun _ _ => ⟨fun _ hw => absurd hw List.not_mem_nil, rfl⟩)
    (fun last v vs r rest hq ⟨h1, h2⟩ => by
      have hc := ((pyLt_ok_iff v last).mp ⟨b, hq⟩).1
      refine ⟨fun w hw => ?_, by rw [h2]; rfl⟩
      rcases List.mem_cons.mp hw with rfl | hw
      · exact hc
      · rw [← hc]; exact h1 w hw) vs last r rest h

theorem pySorted_perm (l out : List PyVal) (h : pySorted l = .ok out) : out.Perm l := by
  match l, h with
  | [], h => simp [pySorted] at h; subst h; exact List.Perm.refl _
  | [a], h => simp [pySorted] at h; subst h; exact List.Perm.refl _
  | a :: b :: rest, h =>
    obtain ⟨x, r, rest', _, hr, ho⟩ := pySorted_ok_inv h
    refine (pyBinSort_perm _ _ _ ho).trans ?_
    rw [(pyRun_class x (b :: rest) a r rest' hr).2, ← List.cons_append]
    refine List.Perm.append_right rest' ?_
    cases x
    · exact List.Perm.refl _
    · exact List.reverse_perm _

/-! ### it succeeds exactly on values of one class: every value is compared with another one -/

theorem pymid_lt {l r : Nat} (h : l < r) : l ≤ l + (r - l) / 2 ∧ l + (r - l) / 2 < r := by
  omega

theorem pyBsearch_ok {c : PyClass} (hc : c ≠ .none) (v : PyVal) (hv : pyClass v = c) (pre : List PyVal) (hp : OneClass c pre) :
    ∀ (f l r : Nat), l ≤ pre.length → r ≤ pre.length → ∃ k, pyBsearch v pre f l r = .ok k := by
  intro f
  induction f with
  | zero => intro l r _ _; exact ⟨l, rfl⟩
  | succ f ih =>
    intro l r hl hr
    simp only [pyBsearch]
    split
    · rename_i hlr
      have hlt : l + (r - l) / 2 < pre.length := lt_of_lt_of_le (pymid_lt hlr).2 hr
      rw [List.getElem?_eq_getElem hlt]
      simp only
      obtain ⟨x, hx⟩ := pyLt_ok_of_class hc hv (hp _ (List.getElem_mem hlt))
      rw [hx]
      cases x
      · exact ih _ _ (Nat.succ_le_of_lt hlt) hr
      · exact ih _ _ hl (le_of_lt hlt)
    · exact ⟨l, rfl⟩

theorem oneClass_insert {c : PyClass} {pre : List PyVal} {v : PyVal} (hp : OneClass c pre) (hv : pyClass v = c) (k : Nat) :
    OneClass c (pre.take k ++ v :: pre.drop k) := by
  intro w hw
  simp only [List.mem_append, List.mem_cons] at hw
  rcases hw with hw | rfl | hw
  · exact hp w (List.mem_of_mem_take hw)
  · exact hv
  · exact hp w (List.mem_of_mem_drop hw)

theorem pyBinSort_ok {c : PyClass} (hc : c ≠ .none) (rest : List PyVal) : ∀ (pre : List PyVal), OneClass c pre → OneClass c rest →
    ∃ out, pyBinSort pre rest = .ok out := by
  induction rest with
  | nil => intro pre _ _; exact ⟨pre, rfl⟩
  | cons v rest ih =>
    intro pre hp hr
    have hv : pyClass v = c := hr v List.mem_cons_self
    obtain ⟨k, hk⟩ := pyBsearch_ok hc v hv pre hp pre.length 0 pre.length (Nat.zero_le _) (le_refl _)
    simp only [pyBinSort, hk]
    exact ih _ (oneClass_insert hp hv k) (fun w hw => hr w (List.mem_cons_of_mem _ hw))

theorem pyRun_ok {c : PyClass} (hc : c ≠ .none) (b : Bool) (vs : List PyVal) :
    ∀ (last : PyVal), pyClass last = c → OneClass c vs → ∃ r rest, pyRun b last vs = .ok (r, rest) := by
  induction vs with
  | nil => intro _ _ _; exact ⟨[], [], rfl⟩
  | cons v vs ih =>
    intro last hl hvs
    have hv : pyClass v = c := hvs v List.mem_cons_self
    obtain ⟨x, hx⟩ := pyLt_ok_of_class hc hv hl
    simp only [pyRun, hx]
    by_cases hxb : x = b
    · obtain ⟨r, rest, h⟩ := ih v hv (fun w hw => hvs w (List.mem_cons_of_mem _ hw))
      rw [if_pos hxb, h]
      exact ⟨_, _, rfl⟩
    · rw [if_neg hxb]
      exact ⟨_, _, rfl⟩

theorem pySorted_ok_of_oneClass {c : PyClass} (hc : c ≠ .none) (l : List PyVal) (h : OneClass c l) :
    ∃ out, pySorted l = .ok out ∧ OneClass c out ∧ out.length = l.length := by
  have key : ∃ out, pySorted l = .ok out := by
    match l, h with
    | [], _ => exact ⟨[], rfl⟩
    | [a], _ => exact ⟨[a], rfl⟩
    | a :: b :: rest, h =>
      have ha : pyClass a = c := h a List.mem_cons_self
      obtain ⟨x, hx⟩ := pyLt_ok_of_class hc (h b (by simp)) ha
      obtain ⟨r, rest', h0⟩ := pyRun_ok hc x (b :: rest) a ha (fun w hw => h w (List.mem_cons_of_mem _ hw))
      obtain ⟨h1, h2⟩ := pyRun_class x (b :: rest) a r rest' h0
      have hpre : OneClass c (if x then (a :: r).reverse else a :: r) := fun w hw =>
        (List.mem_cons.mp (mem_ite_reverse.mp hw)).elim (fun e => e ▸ ha) (fun hw => ha ▸ h1 w hw)
      obtain ⟨out, ho⟩ := pyBinSort_ok hc rest' _ hpre
        (fun w hw => h w (List.mem_cons_of_mem _ (h2 ▸ List.mem_append_right r hw)))
      refine ⟨out, ?_⟩
      rw [pySorted_cons_cons, hx]
      dsimp only
      rw [h0]
      exact ho
  obtain ⟨out, ho⟩ := key
  have hp := pySorted_perm l out ho
  exact ⟨out, ho, fun w hw => h w (hp.mem_iff.mp hw), hp.length_eq⟩

theorem pyBsearch_first {v : PyVal} {pre : List PyVal} (hne : pre ≠ []) {k : Nat}
    (h : pyBsearch v pre pre.length 0 pre.length = .ok k) : ∃ q ∈ pre, ∃ x, pyLt v q = .ok x := by
  have hpos : 0 < pre.length := List.length_pos_iff.mpr hne
  obtain ⟨f, hf⟩ : ∃ f, pre.length = f + 1 := ⟨pre.length - 1, (Nat.succ_pred_eq_of_pos hpos).symm⟩
  have hlt : 0 + (pre.length - 0) / 2 < pre.length := (pymid_lt hpos).2
  rw [show pyBsearch v pre pre.length 0 pre.length = pyBsearch v pre (f + 1) 0 pre.length by rw [← hf]] at h
  simp only [pyBsearch, hpos, if_true, List.getElem?_eq_getElem hlt] at h
  refine ⟨pre[0 + (pre.length - 0) / 2], List.getElem_mem hlt, ?_⟩
  cases hq : pyLt v pre[0 + (pre.length - 0) / 2] with
  | error e => rw [hq] at h; exact absurd h (by simp)
  | ok x => exact ⟨x, rfl⟩

theorem pyBinSort_class {c : PyClass} (rest pre out : List PyVal) (hne : pre ≠ []) (hp : OneClass c pre)
    (h : pyBinSort pre rest = .ok out) : OneClass c out :=
  (pyBinSort_ind (fun p _ => p ≠ [] ∧ OneClass c p) (fun p v r k hP hk => by
    obtain ⟨q, hq, x, hx⟩ := pyBsearch_first hP.1 hk
    exact ⟨by simp, oneClass_insert hP.2 (((pyLt_ok_iff v q).mp ⟨x, hx⟩).1.trans (hP.2 q hq)) k⟩) rest pre out ⟨hne, hp⟩ h).2

theorem pySorted_ok_class (l : List PyVal) (h2 : 2 ≤ l.length) (h : ∃ out, pySorted l = .ok out) :
    ∃ c, c ≠ PyClass.none ∧ OneClass c l := by
  match l, h2, h with
  | a :: b :: rest, _, ⟨out, ho⟩ =>
    have hperm := pySorted_perm _ out ho
    obtain ⟨x, r, rest', hx, hr, ho⟩ := pySorted_ok_inv ho
    obtain ⟨hba, hbn⟩ := (pyLt_ok_iff b a).mp ⟨x, hx⟩
    have hpre : OneClass (pyClass a) (if x then (a :: r).reverse else a :: r) := fun w hw =>
      (List.mem_cons.mp (mem_ite_reverse.mp hw)).elim (fun e => e ▸ rfl) ((pyRun_class x (b :: rest) a r rest' hr).1 w)
    have hout := pyBinSort_class rest' _ out (by cases x <;> simp) hpre ho
    exact ⟨pyClass a, hba ▸ hbn, fun w hw => hout w (hperm.mem_iff.mpr hw)⟩

theorem pySorted_ok_iff (l : List PyVal) (h2 : 2 ≤ l.length) :
    (∃ out, pySorted l = .ok out) ↔ ∃ c, c ≠ PyClass.none ∧ OneClass c l :=
  ⟨pySorted_ok_class l h2, fun ⟨_, hc, h⟩ => let ⟨out, ho, _⟩ := pySorted_ok_of_oneClass hc l h; ⟨out, ho⟩⟩

/-! ### on numbers and strings the result is sorted, hence independent of the arrival order -/

/-- the two classes on which `<` is a strict total order -/
def NS (a : PyVal) : Prop := pyClass a = .num ∨ pyClass a = .str

theorem pyLe_num {p q : Rat} : pyLe (.num p) (.num q) ↔ p ≤ q := by
  simp only [pyLe, pyLt, Except.ok.injEq, decide_eq_false_iff_not, not_lt]

theorem pyLe_str {s t : List Nat} : pyLe (.str s) (.str t) ↔ s ≤ t := by
  simp only [pyLe, pyLt, Except.ok.injEq, decide_eq_false_iff_not, not_lt]

theorem pyLe_class {a b : PyVal} (h : pyLe a b) : pyClass b = pyClass a ∧ pyClass b ≠ .none :=
  (pyLt_ok_iff b a).mp ⟨false, h⟩

theorem NS.of_pyLe {a b : PyVal} (hn : NS a) (h : pyLe a b) : NS b := by
  unfold NS at *; rw [(pyLe_class h).1]; exact hn

theorem NS.of_pyLe' {a b : PyVal} (hn : NS b) (h : pyLe a b) : NS a := by
  unfold NS at *; rw [← (pyLe_class h).1]; exact hn

theorem ns_pair {a b : PyVal} (hc : pyClass a = pyClass b) (hn : NS a ∨ NS b) :
    (∃ p q, a = .num p ∧ b = .num q) ∨ (∃ s t, a = .str s ∧ b = .str t) := by
  cases a <;> cases b <;> simp [NS, pyClass] at hc hn ⊢

theorem pyLe_of_lt_ns {a b : PyVal} (h : pyLt a b = .ok true) (hn : NS a ∨ NS b) : pyLe a b := by
  obtain ⟨p, q, rfl, rfl⟩ | ⟨s, t, rfl, rfl⟩ := ns_pair ((pyLt_ok_iff a b).mp ⟨true, h⟩).1 hn <;>
  · simp only [pyLt, Except.ok.injEq, decide_eq_true_eq] at h
    simp only [pyLe_num, pyLe_str]
    exact le_of_lt h

theorem pyLe_antisymm_ns {a b : PyVal} (h1 : pyLe a b) (h2 : pyLe b a) (hn : NS a ∨ NS b) : a = b := by
  obtain ⟨p, q, rfl, rfl⟩ | ⟨s, t, rfl, rfl⟩ := ns_pair (pyLe_class h1).1.symm hn <;>
  · simp only [pyLe_num, pyLe_str] at h1 h2
    rw [le_antisymm h1 h2]

theorem pyLe_trans_ns {a b d : PyVal} (h1 : pyLe a b) (h2 : pyLe b d) (hn : NS a ∨ NS d) : pyLe a d := by
  have hna : NS a := hn.elim id fun hd => (hd.of_pyLe' h2).of_pyLe' h1
  obtain ⟨p, q, rfl, rfl⟩ | ⟨s, t, rfl, rfl⟩ := ns_pair (pyLe_class h1).1.symm (Or.inl hna)
  · obtain ⟨_, u, _, rfl⟩ | ⟨_, _, h, _⟩ := ns_pair (pyLe_class h2).1.symm (Or.inl (hna.of_pyLe h1))
    · rw [pyLe_num] at h1 h2 ⊢
      exact le_trans h1 h2
    · cases h
  · obtain ⟨_, _, h, _⟩ | ⟨_, u, _, rfl⟩ := ns_pair (pyLe_class h2).1.symm (Or.inl (hna.of_pyLe h1))
    · cases h
    · rw [pyLe_str] at h1 h2 ⊢
      exact le_trans h1 h2

theorem pymid_bounds {l r f : Nat} (h : l < r) (hf : r - l ≤ f + 1) :
    l ≤ l + (r - l) / 2 ∧ l + (r - l) / 2 < r ∧ (l + (r - l) / 2) - l ≤ f ∧ r - (l + (r - l) / 2 + 1) ≤ f := by
  obtain ⟨h1, h2⟩ := pymid_lt h
  generalize l + (r - l) / 2 = m at h1 h2 ⊢
  omega

theorem pyBsearch_spec (v : PyVal) (pre : List PyVal) (hs : pre.Pairwise pyLe) (hv : NS v) :
    ∀ (f l r k : Nat), l ≤ r → r ≤ pre.length → r - l ≤ f → (∀ x ∈ pre.take l, pyLe x v) → (∀ y ∈ pre.drop r, pyLe v y) →
      pyBsearch v pre f l r = .ok k → (∀ x ∈ pre.take k, pyLe x v) ∧ (∀ y ∈ pre.drop k, pyLe v y) := by
  intro f
  induction f with
  | zero =>
    intro l r k hlr hr hf hlo hhi h
    simp only [pyBsearch, Except.ok.injEq] at h
    subst h
    have : l = r := by omega
    subst this
    exact ⟨hlo, hhi⟩
  | succ f ih =>
    intro l r k hlr hr hf hlo hhi h
    simp only [pyBsearch] at h
    split at h
    · rename_i hlt
      obtain ⟨m1, m2, m3, m4⟩ := pymid_bounds hlt hf
      have hp : l + (r - l) / 2 < pre.length := lt_of_lt_of_le m2 hr
      rw [List.getElem?_eq_getElem hp] at h
      simp only at h
      have hsplit : pre = pre.take (l + (r - l) / 2) ++ pre[l + (r - l) / 2] :: pre.drop (l + (r - l) / 2 + 1) := by
        rw [← List.drop_eq_getElem_cons hp, List.take_append_drop]
      have hs' := hs
      rw [hsplit, List.pairwise_append] at hs'
      obtain ⟨_, hs2, hs3⟩ := hs'
      rw [List.pairwise_cons] at hs2
      split at h
      · cases h
      · rename_i hq
        refine ih _ _ k m1 (le_of_lt hp) m3 hlo ?_ h
        intro y hy
        rw [List.drop_eq_getElem_cons hp] at hy
        rcases List.mem_cons.mp hy with rfl | hy
        · exact pyLe_of_lt_ns hq (Or.inl hv)
        · exact pyLe_trans_ns (pyLe_of_lt_ns hq (Or.inl hv)) (hs2.1 y hy) (Or.inl hv)
      · rename_i hq
        refine ih _ _ k m2 hr m4 ?_ hhi h
        intro x hx
        rw [List.take_succ_eq_append_getElem hp] at hx
        rcases List.mem_append.mp hx with hx | hx
        · exact pyLe_trans_ns (hs3 x hx _ List.mem_cons_self) hq (Or.inr hv)
        · simp only [List.mem_singleton] at hx
          subst hx
          exact hq
    · rename_i hlt
      simp only [Except.ok.injEq] at h
      subst h
      obtain rfl : l = r := le_antisymm hlr (not_lt.mp hlt)
      exact ⟨hlo, hhi⟩

theorem pairwise_insert {pre : List PyVal} {v : PyVal} {k : Nat} (hs : pre.Pairwise pyLe)
    (hlo : ∀ x ∈ pre.take k, pyLe x v) (hhi : ∀ y ∈ pre.drop k, pyLe v y) :
    (pre.take k ++ v :: pre.drop k).Pairwise pyLe := by
  have hs' := hs
  rw [← List.take_append_drop k pre, List.pairwise_append] at hs'
  obtain ⟨h1, h2, h3⟩ := hs'
  rw [List.pairwise_append]
  refine ⟨h1, List.pairwise_cons.mpr ⟨hhi, h2⟩, ?_⟩
  intro a ha b hb
  rcases List.mem_cons.mp hb with rfl | hb
  · exact hlo a ha
  · exact h3 a ha b hb

theorem pyBinSort_sorted (rest pre out : List PyVal) (hs : pre.Pairwise pyLe) (hn : ∀ v ∈ rest, NS v)
    (h : pyBinSort pre rest = .ok out) : out.Pairwise pyLe :=
  (pyBinSort_ind (fun p r => p.Pairwise pyLe ∧ ∀ v ∈ r, NS v) (fun p v r k hP hk => by
    obtain ⟨hlo, hhi⟩ := pyBsearch_spec v p hP.1 (hP.2 v List.mem_cons_self) p.length 0 p.length k (Nat.zero_le _) (le_refl _)
      (le_refl _) (by simp) (by simp) hk
    exact ⟨pairwise_insert hP.1 hlo hhi, fun w hw => hP.2 w (List.mem_cons_of_mem _ hw)⟩) rest pre out ⟨hs, hn⟩ h).1

theorem pyRun_sorted (b : Bool) (vs : List PyVal) (last : PyVal) (r rest : List PyVal) (hn : NS last)
    (h : pyRun b last vs = .ok (r, rest)) : (last :: r).Pairwise (fun u w => if b then pyLe w u else pyLe u w) := by
  refine pyRun_ind b (fun last _ r _ => NS last → (last :: r).Pairwise (fun u w => if b then pyLe w u else pyLe u w))
    (fun _ _ _ => List.pairwise_singleton _ _) (fun last v vs r rest hq ih hn => ?_) vs last r rest h hn
  cases b
  · have hlv : pyLe last v := hq
    have := ih (hn.of_pyLe hlv)
    refine List.pairwise_cons.mpr ⟨fun y hy => ?_, this⟩
    rcases List.mem_cons.mp hy with rfl | hy
    · exact hlv
    · exact pyLe_trans_ns hlv ((List.pairwise_cons.mp this).1 y hy) (Or.inl hn)
  · have hlv : pyLe v last := pyLe_of_lt_ns hq (Or.inr hn)
    have := ih (hn.of_pyLe' hlv)
    refine List.pairwise_cons.mpr ⟨fun y hy => ?_, this⟩
    rcases List.mem_cons.mp hy with rfl | hy
    · exact hlv
    · exact pyLe_trans_ns ((List.pairwise_cons.mp this).1 y hy) hlv (Or.inr hn)

theorem pySorted_sorted (l out : List PyVal) (hn : ∀ v ∈ l, NS v) (h : pySorted l = .ok out) : out.Pairwise pyLe := by
  match l, hn, h with
  | [], _, h => simp [pySorted] at h; subst h; simp
  | [a], _, h => simp [pySorted] at h; subst h; simp
  | a :: b :: rest, hn, h =>
    obtain ⟨x, r, rest', _, hr, ho⟩ := pySorted_ok_inv h
    have hsplit := (pyRun_class x (b :: rest) a r rest' hr).2
    have hd := pyRun_sorted x (b :: rest) a r rest' (hn a (by simp)) hr
    refine pyBinSort_sorted rest' _ out ?_ (fun w hw => hn w (by rw [hsplit]; simp [hw])) ho
    cases x
    · exact hd
    · exact List.pairwise_reverse.mpr hd

theorem pySorted_order_independent (l1 l2 o1 o2 : List PyVal) (hp : l1.Perm l2) (hn : ∀ v ∈ l1, NS v)
    (h1 : pySorted l1 = .ok o1) (h2 : pySorted l2 = .ok o2) : o1 = o2 := by
  have hn2 : ∀ v ∈ l2, NS v := fun v hv => hn v (hp.mem_iff.mpr hv)
  have p1 := pySorted_perm l1 o1 h1
  have p2 := pySorted_perm l2 o2 h2
  refine List.Perm.eq_of_pairwise ?_ (pySorted_sorted l1 o1 hn h1) (pySorted_sorted l2 o2 hn2 h2) (p1.trans (hp.trans p2.symm))
  intro a b ha _ hab hba
  exact pyLe_antisymm_ns hab hba (Or.inl (hn a (p1.mem_iff.mp ha)))

theorem pySorted_ok_perm (l1 l2 : List PyVal) (hp : l1.Perm l2) :
    (∃ o, pySorted l1 = .ok o) ↔ (∃ o, pySorted l2 = .ok o) := by
  by_cases h2 : 2 ≤ l1.length
  · rw [pySorted_ok_iff l1 h2, pySorted_ok_iff l2 (hp.length_eq ▸ h2)]
    constructor
    · rintro ⟨c, hc, h⟩; exact ⟨c, hc, fun v hv => h v (hp.mem_iff.mpr hv)⟩
    · rintro ⟨c, hc, h⟩; exact ⟨c, hc, fun v hv => h v (hp.mem_iff.mp hv)⟩
  · have h1 : l1.length ≤ 1 := Nat.le_of_lt_succ (not_le.mp h2)
    exact ⟨fun _ => ⟨l2, pySorted_short l2 (hp.length_eq ▸ h1)⟩, fun _ => ⟨l1, pySorted_short l1 h1⟩⟩

theorem orderRawPy_ok_inv {labs : List ((Key × Key) × PyVal)} {raw tbl : List ((Key × Key) × List (Rat × Rat))}
    (h : orderRawPy labs raw = .ok tbl) :
    ∃ vs, pySorted (raw.map (fun e => labOf labs e.1)) = .ok vs ∧
      tbl = vs.filterMap (fun v => raw.find? (fun e => labOf labs e.1 = v)) := by
  unfold orderRawPy at h
  cases hs : pySorted (raw.map (fun e => labOf labs e.1)) with
  | error e => rw [hs] at h; cases h
  | ok vs => rw [hs] at h; exact ⟨vs, rfl, (Except.ok.inj h).symm⟩

theorem orderRawPy_ok_iff (labs : List ((Key × Key) × PyVal)) (raw : List ((Key × Key) × List (Rat × Rat)))
    (h2 : 2 ≤ raw.length) :
    (∃ tbl, orderRawPy labs raw = .ok tbl) ↔ ∃ c, c ≠ PyClass.none ∧ ∀ e ∈ raw, pyClass (labOf labs e.1) = c := by
  have key := pySorted_ok_iff (raw.map (fun e => labOf labs e.1)) (by simpa using h2)
  constructor
  · rintro ⟨tbl, h⟩
    obtain ⟨vs, hs, _⟩ := orderRawPy_ok_inv h
    obtain ⟨c, hc, hall⟩ := key.mp ⟨vs, hs⟩
    exact ⟨c, hc, fun e he => hall _ (List.mem_map.mpr ⟨e, he, rfl⟩)⟩
  · rintro ⟨c, hc, hall⟩
    obtain ⟨vs, hs⟩ := key.mpr ⟨c, hc, by
      intro v hv
      obtain ⟨e, he, rfl⟩ := List.mem_map.mp hv
      exact hall e he⟩
    exact ⟨_, by unfold orderRawPy; rw [hs]⟩

theorem mem_orderRawPy (labs : List ((Key × Key) × PyVal)) (raw tbl : List ((Key × Key) × List (Rat × Rat))) (q)
    (h : orderRawPy labs raw = .ok tbl) (hq : q ∈ tbl) : q ∈ raw := by
  obtain ⟨vs, _, rfl⟩ := orderRawPy_ok_inv h
  obtain ⟨v, _, hv⟩ := List.mem_filterMap.mp hq
  exact List.mem_of_find?_eq_some hv

theorem find?_perm_of_nodup_key {α β : Type} [DecidableEq β] (f : α → β) (l1 l2 : List α) (hp : l1.Perm l2)
    (hnd : (l1.map f).Nodup) (v : β) : l1.find? (fun e => f e = v) = l2.find? (fun e => f e = v) := by
  have hnd2 : (l2.map f).Nodup := (hp.map f).nodup_iff.mp hnd
  cases h1 : l1.find? (fun e => f e = v) with
  | none =>
    rw [List.find?_eq_none] at h1
    symm
    rw [List.find?_eq_none]
    intro x hx
    exact h1 x (hp.mem_iff.mpr hx)
  | some e =>
    have he := List.mem_of_find?_eq_some h1
    have hv := List.find?_some h1
    cases h2 : l2.find? (fun e => f e = v) with
    | none =>
      rw [List.find?_eq_none] at h2
      exact absurd hv (h2 e (hp.mem_iff.mp he))
    | some e' =>
      have he' := List.mem_of_find?_eq_some h2
      have hv' := List.find?_some h2
      simp only [decide_eq_true_eq] at hv hv'
      rw [List.inj_on_of_nodup_map hnd2 (hp.mem_iff.mp he) he' (hv.trans hv'.symm)]

end Coba.C18
