/-
C18 — `Result._remove`: CPython's bisect on a column that is sorted on a segment, one level of the three nested
`my_bisect_left/right` calls, and the loop with its moving cursor — on a table sorted by the id triples it selects exactly
the rows whose triple is not listed.  First the list lemmas the island shares, among them insertion sort for any insertion
function of the model's shape (`mem_insertStep`, `pairwise_insertStep`).
-/
import CobaVerif.Model.C18
import Mathlib.Data.List.Range

namespace Coba.C18

theorem mem_insertStep {α} (ins : α → List α → List α) (before : α → α → Bool)
    (hnil : ∀ t, ins t [] = [t])
    (hcons : ∀ t x xs, ins t (x :: xs) = if before x t then x :: ins t xs else t :: x :: xs)
    (t x : α) (l : List α) : x ∈ ins t l ↔ x = t ∨ x ∈ l := by
  induction l with
  | nil => rw [hnil, List.mem_singleton]; simp
  | cons y ys ih =>
    rw [hcons]
    split
    · rw [List.mem_cons, ih, List.mem_cons]; exact or_left_comm
    · rw [List.mem_cons]

theorem mem_insertionSort {α} (ins : α → List α → List α) (sort : List α → List α)
    (hins : ∀ t x l, x ∈ ins t l ↔ x = t ∨ x ∈ l) (hnil : sort [] = [])
    (hcons : ∀ x xs, sort (x :: xs) = ins x (sort xs)) (x : α) (l : List α) : x ∈ sort l ↔ x ∈ l := by
  induction l with
  | nil => rw [hnil]
  | cons y ys ih => rw [hcons, hins, ih, List.mem_cons]

theorem pairwise_insertStep {α} (ins : α → List α → List α) (before : α → α → Bool)
    (hnil : ∀ t, ins t [] = [t])
    (hcons : ∀ t x xs, ins t (x :: xs) = if before x t then x :: ins t xs else t :: x :: xs)
    {R : α → α → Prop} (t : α) (l : List α) (hl : l.Pairwise R)
    (h1 : ∀ x ∈ l, before x t = true → R x t) (h2 : ∀ x ∈ l, before x t = false → R t x)
    (htr : ∀ x ∈ l, ∀ y ∈ l, R t x → R x y → R t y) : (ins t l).Pairwise R := by
  induction l with
  | nil => rw [hnil]; exact List.pairwise_singleton _ _
  | cons y ys ih =>
    obtain ⟨hy, hys⟩ := List.pairwise_cons.mp hl
    rw [hcons]
    by_cases hb : before y t = true
    · rw [if_pos hb]
      refine List.pairwise_cons.mpr ⟨fun z hz => ?_, ih hys (fun x hx => h1 x (List.mem_cons_of_mem _ hx))
        (fun x hx => h2 x (List.mem_cons_of_mem _ hx))
        (fun x hx z hz => htr x (List.mem_cons_of_mem _ hx) z (List.mem_cons_of_mem _ hz))⟩
      rcases (mem_insertStep ins before hnil hcons t z ys).mp hz with rfl | hz
      · exact h1 y List.mem_cons_self hb
      · exact hy z hz
    · rw [if_neg hb]
      have hty := h2 y List.mem_cons_self (Bool.eq_false_iff.mpr hb)
      refine List.pairwise_cons.mpr ⟨fun z hz => ?_, hl⟩
      rcases List.mem_cons.mp hz with rfl | hz
      · exact hty
      · exact htr y List.mem_cons_self z (List.mem_cons_of_mem _ hz) hty (hy z hz)

theorem range'_split (a b c : Nat) (h1 : a ≤ b) (h2 : b ≤ c) :
    List.range' a (c - a) = List.range' a (b - a) ++ List.range' b (c - b) := by
  rw [← Nat.sub_add_sub_cancel h2 h1, Nat.add_comm, ← List.range'_append_1, Nat.add_sub_cancel' h1]

theorem mem_range'_sub {a b i : Nat} (h : a ≤ b) : i ∈ List.range' a (b - a) ↔ a ≤ i ∧ i < b := by
  rw [List.mem_range'_1, Nat.add_sub_cancel' h]

theorem flatMap_sublist {α β} (l : List α) (f g : α → List β) (h : ∀ a, (f a).Sublist (g a)) :
    (l.flatMap f).Sublist (l.flatMap g) := by
  induction l with
  | nil => simp
  | cons a as ih => simp only [List.flatMap_cons]; exact (h a).append ih

theorem take_range'_1 (s n k : Nat) : (List.range' s n).take k = List.range' s (min k n) := by
  rcases Nat.le_total k n with h | h
  · rw [List.take_range'_of_length_ge h, Nat.min_eq_left h]
  · rw [List.take_range'_of_length_le h, Nat.min_eq_right h]

theorem flatMap_filter_map {α β γ} (l : List α) (p : α → Bool) (f : α → β) (h : β → List γ) :
    ((l.filter p).map f).flatMap h = l.flatMap (fun a => if p a then h (f a) else []) := by
  induction l with
  | nil => simp
  | cons a as ih =>
    rw [List.filter_cons]
    by_cases hp : p a = true
    · simp [hp, ih]
    · simp [hp, ih]

theorem mem_contains_map {α} (l : List α) (f : α → Nat) (x : Nat) : (l.map f).contains x = true ↔ ∃ a ∈ l, f a = x := by
  rw [List.contains_eq_mem, decide_eq_true_eq, List.mem_map]

/-- every entry of `c` at a position in `[a, b)` satisfies `P` -/
def OnSeg {α} (c : List α) (a b : Nat) (P : α → Prop) : Prop := ∀ i x, a ≤ i → i < b → c[i]? = some x → P x

section OnSeg
variable {α β : Type} {c : List α} {a b : Nat} {P Q : α → Prop}

theorem onSeg_nil (h : b ≤ a) : OnSeg c a b P :=
  fun _ _ h1 h2 => absurd (lt_of_le_of_lt h1 h2) (not_lt.mpr h)

theorem OnSeg.mono {a' b' : Nat} (h : OnSeg c a b P) (ha : a ≤ a') (hb : b' ≤ b) : OnSeg c a' b' P :=
  fun i x h1 h2 => h i x (le_trans ha h1) (lt_of_lt_of_le h2 hb)

theorem OnSeg.imp (h : OnSeg c a b P) (hPQ : ∀ x, P x → Q x) : OnSeg c a b Q :=
  fun i x h1 h2 hx => hPQ x (h i x h1 h2 hx)

theorem OnSeg.and (h1 : OnSeg c a b P) (h2 : OnSeg c a b Q) : OnSeg c a b (fun x => P x ∧ Q x) :=
  fun i x ha hb hx => ⟨h1 i x ha hb hx, h2 i x ha hb hx⟩

theorem OnSeg.append {m : Nat} (h1 : OnSeg c a m P) (h2 : OnSeg c m b P) : OnSeg c a b P :=
  fun i x ha hb hx => (Nat.lt_or_ge i m).elim (fun h => h1 i x ha h hx) (fun h => h2 i x h hb hx)

theorem col_get {ts : List α} (f : α → β) {i : Nat} {t : α} (h : ts[i]? = some t) : (ts.map f)[i]? = some (f t) := by
  simp [List.getElem?_map, h]

theorem col_get_inv {ts : List α} (f : α → β) {i : Nat} {x : β} (h : (ts.map f)[i]? = some x) :
    ∃ t, ts[i]? = some t ∧ f t = x := by
  simpa [List.getElem?_map] using h

theorem OnSeg.of_map {ts : List α} {f : α → β} {R : β → Prop} (h : OnSeg (ts.map f) a b R) : OnSeg ts a b (fun t => R (f t)) :=
  fun i t h1 h2 ht => h i (f t) h1 h2 (col_get f ht)

end OnSeg

/-- `c` is sorted by `R` on `[lo, hi)`: entries at positions `i ≤ j` of the segment are related by `R` -/
def SegSorted {α} (R : α → α → Prop) (c : List α) (lo hi : Nat) : Prop :=
  ∀ i j x y, lo ≤ i → i ≤ j → j < hi → c[i]? = some x → c[j]? = some y → R x y

section SegSorted
variable {α β : Type} {c : List α} {lo hi : Nat} {R S : α → α → Prop}

theorem SegSorted.mono {lo' hi' : Nat} (h : SegSorted R c lo hi) (h1 : lo ≤ lo') (h2 : hi' ≤ hi) : SegSorted R c lo' hi' :=
  fun i j x y hi1 hij hj => h i j x y (le_trans h1 hi1) hij (lt_of_lt_of_le hj h2)

theorem SegSorted.imp_onSeg {P : α → Prop} (h : SegSorted R c lo hi) (hP : OnSeg c lo hi P)
    (hRS : ∀ x y, P x → P y → R x y → S x y) : SegSorted S c lo hi :=
  fun i j x y hi1 hij hj hx hy =>
    hRS x y (hP i x hi1 (lt_of_le_of_lt hij hj) hx) (hP j y (le_trans hi1 hij) hj hy) (h i j x y hi1 hij hj hx hy)

theorem SegSorted.imp (h : SegSorted R c lo hi) (hRS : ∀ x y, R x y → S x y) : SegSorted S c lo hi :=
  fun i j x y hi1 hij hj hx hy => hRS x y (h i j x y hi1 hij hj hx hy)

theorem SegSorted.map {f : α → β} {T : β → β → Prop} (h : SegSorted (fun a b => T (f a) (f b)) c lo hi) :
    SegSorted T (c.map f) lo hi := by
  intro i j x y hi1 hij hj hx hy
  obtain ⟨a, ha, rfl⟩ := col_get_inv f hx
  obtain ⟨b, hb, rfl⟩ := col_get_inv f hy
  exact h i j a b hi1 hij hj ha hb

theorem segSorted_of_pairwise (hrefl : ∀ x, R x x) (h : c.Pairwise R) : SegSorted R c 0 c.length := by
  intro i j x y _ hij _ hx hy
  obtain ⟨hi, rfl⟩ := List.getElem?_eq_some_iff.mp hx
  obtain ⟨hj, rfl⟩ := List.getElem?_eq_some_iff.mp hy
  rcases Nat.lt_or_eq_of_le hij with hlt | rfl
  · exact List.pairwise_iff_getElem.mp h i j hi hj hlt
  · exact hrefl _

end SegSorted

/-- the loop that `bisect_left` (`p x := x < a`) and `bisect_right` (`p x := ¬ a < x`) share: go right while `p` holds
at the midpoint -/
def bisectBy (p : Nat → Bool) (c : List Nat) : Nat → Nat → Nat → Except Err Nat
  | 0, lo, _ => .ok lo
  | f + 1, lo, hi =>
    if lo < hi then
      match c[(lo + hi) / 2]? with
      | none => .error .indexError
      | some x => if p x then bisectBy p c f ((lo + hi) / 2 + 1) hi else bisectBy p c f lo ((lo + hi) / 2)
    else .ok lo

theorem bisectLeftAux_eq (c : List Nat) (a : Nat) :
    ∀ f lo hi, bisectLeftAux c a f lo hi = bisectBy (fun x => decide (x < a)) c f lo hi := by
  intro f
  induction f with
  | zero => intro lo hi; rfl
  | succ f ih =>
    intro lo hi
    rw [bisectLeftAux, bisectBy]
    cases c[(lo + hi) / 2]? with
    | none => rfl
    | some x => simp only [ih, decide_eq_true_eq]

theorem bisectRightAux_eq (c : List Nat) (a : Nat) :
    ∀ f lo hi, bisectRightAux c a f lo hi = bisectBy (fun x => !decide (a < x)) c f lo hi := by
  intro f
  induction f with
  | zero => intro lo hi; rfl
  | succ f ih =>
    intro lo hi
    rw [bisectRightAux, bisectBy]
    cases c[(lo + hi) / 2]? with
    | none => rfl
    | some x => simp only [ih, Bool.not_eq_true', decide_eq_false_iff_not, ite_not]

theorem mid_bounds {lo hi f : Nat} (h : lo < hi) (hf : hi - lo ≤ f + 1) :
    lo ≤ (lo + hi) / 2 ∧ (lo + hi) / 2 < hi ∧ hi - ((lo + hi) / 2 + 1) ≤ f ∧ (lo + hi) / 2 - lo ≤ f := by
  omega

theorem bisectBy_spec (p : Nat → Bool) (c : List Nat) : ∀ (fuel lo hi : Nat), lo ≤ hi → hi ≤ c.length → hi - lo ≤ fuel →
    SegSorted (fun x y => p y = true → p x = true) c lo hi →
    ∃ r, bisectBy p c fuel lo hi = .ok r ∧ lo ≤ r ∧ r ≤ hi ∧ OnSeg c lo r (p · = true) ∧ OnSeg c r hi (p · = false) := by
  have stop : ∀ lo hi fuel, lo ≤ hi → ¬ lo < hi → bisectBy p c fuel lo hi = .ok lo →
      ∃ r, bisectBy p c fuel lo hi = .ok r ∧ lo ≤ r ∧ r ≤ hi ∧ OnSeg c lo r (p · = true) ∧ OnSeg c r hi (p · = false) :=
    fun lo hi fuel h1 hlt he => ⟨lo, he, le_refl _, h1, onSeg_nil (le_refl _), onSeg_nil (not_lt.mp hlt)⟩
  intro fuel
  induction fuel with
  | zero => intro lo hi h1 _ h3 _; exact stop lo hi 0 h1 (by omega) rfl
  | succ f ih =>
    intro lo hi h1 h2 h3 hmono
    by_cases hlt : lo < hi
    · rw [bisectBy, if_pos hlt]
      obtain ⟨hm1, hm2, hf1, hf2⟩ := mid_bounds hlt h3
      -- the index bound is named: left to the elaborator it is searched for by arithmetic with the division in it
      have hlt : (lo + hi) / 2 < c.length := lt_of_lt_of_le hm2 h2
      have hmid : c[(lo + hi) / 2]? = some (c[(lo + hi) / 2]'hlt) := List.getElem?_eq_getElem hlt
      rw [hmid]
      simp only
      by_cases hx : p (c[(lo + hi) / 2]'hlt) = true
      · rw [if_pos hx]
        have hm1' : lo ≤ (lo + hi) / 2 + 1 := le_trans hm1 (Nat.le_succ _)
        obtain ⟨r, hr, hr1, hr2, hr3, hr4⟩ := ih ((lo + hi) / 2 + 1) hi hm2 h2 hf1
          (hmono.mono hm1' (le_refl _))
        exact ⟨r, hr, le_trans hm1' hr1, hr2, OnSeg.append (fun i x hi1 hi2 hix =>
          hmono i ((lo + hi) / 2) x _ hi1 (Nat.le_of_lt_succ hi2) hm2 hix hmid hx) hr3, hr4⟩
      · rw [if_neg hx]
        obtain ⟨r, hr, hr1, hr2, hr3, hr4⟩ := ih lo ((lo + hi) / 2) hm1 (le_trans (le_of_lt hm2) h2) hf2
          (hmono.mono (le_refl _) (le_of_lt hm2))
        refine ⟨r, hr, hr1, le_trans hr2 (le_of_lt hm2), hr3, hr4.append fun i x hi1 hi2 hix => ?_⟩
        cases hpx : p x
        · exact hpx
        · exact absurd (hmono ((lo + hi) / 2) i _ x hm1 hi1 hi2 hmid hix hpx) hx
    · exact stop lo hi (f + 1) h1 hlt (by rw [bisectBy, if_neg hlt])

theorem myBisectLeft_spec (c : List Nat) (a l h : Nat) (h1 : l < h) (h2 : h ≤ c.length) (hs : SegSorted (· ≤ ·) c l h) :
    ∃ r, myBisectLeft c a l h = .ok r ∧ l ≤ r ∧ r ≤ h ∧ OnSeg c l r (· < a) ∧ OnSeg c r h (a ≤ ·) := by
  unfold myBisectLeft
  have hl : l < c.length := lt_of_lt_of_le h1 h2
  rw [List.getElem?_eq_getElem hl]
  simp only
  by_cases hx : c[l] = a
  · rw [if_pos hx]
    exact ⟨l, rfl, le_refl _, le_of_lt h1, onSeg_nil (le_refl _), fun i x h4 h5 hix =>
      hx ▸ hs l i _ x (le_refl _) h4 h5 (List.getElem?_eq_getElem hl) hix⟩
  · rw [if_neg hx, bisectLeft, bisectLeftAux_eq]
    obtain ⟨r, hr, h3, h4, h5, h6⟩ := bisectBy_spec (fun x => decide (x < a)) c (h - l) l h (le_of_lt h1) h2 (le_refl _)
      (hs.imp fun x y hxy hp => decide_eq_true (lt_of_le_of_lt hxy (of_decide_eq_true hp)))
    exact ⟨r, hr, h3, h4, h5.imp fun _ => of_decide_eq_true, h6.imp fun _ hp => Nat.le_of_not_lt (of_decide_eq_false hp)⟩

theorem myBisectRight_spec (c : List Nat) (a l h : Nat) (h1 : l < h) (h2 : h ≤ c.length) (hs : SegSorted (· ≤ ·) c l h) :
    ∃ r, myBisectRight c a l h = .ok r ∧ l ≤ r ∧ r ≤ h ∧ OnSeg c l r (· ≤ a) ∧ OnSeg c r h (a < ·) := by
  unfold myBisectRight
  obtain ⟨h', rfl⟩ : ∃ h', h = h' + 1 := ⟨h - 1, (Nat.succ_pred_eq_of_pos (Nat.zero_lt_of_lt h1)).symm⟩
  rw [if_neg (Nat.succ_ne_zero h'), Nat.add_sub_cancel]
  have hl : h' < c.length := h2
  rw [List.getElem?_eq_getElem hl]
  simp only
  by_cases hx : c[h'] = a
  · rw [if_pos hx]
    exact ⟨h' + 1, rfl, le_of_lt h1, le_refl _, fun i x h4 h5 hix =>
      hx ▸ hs i h' x _ h4 (Nat.le_of_lt_succ h5) (Nat.lt_succ_self _) hix (List.getElem?_eq_getElem hl),
      onSeg_nil (le_refl _)⟩
  · rw [if_neg hx, bisectRight, bisectRightAux_eq]
    obtain ⟨r, hr, h3, h4, h5, h6⟩ := bisectBy_spec (fun x => !decide (a < x)) c (h' + 1 - l) l (h' + 1) (le_of_lt h1) h2
      (le_refl _) (hs.imp fun x y hxy hp => by
        rw [Bool.not_eq_true', decide_eq_false_iff_not, not_lt] at hp ⊢
        exact le_trans hxy hp)
    refine ⟨r, hr, h3, h4, h5.imp fun x hp => ?_, h6.imp fun x hp => ?_⟩
    · rw [Bool.not_eq_true', decide_eq_false_iff_not, not_lt] at hp; exact hp
    · rw [Bool.not_eq_false', decide_eq_true_eq] at hp; exact hp

/-- one of the three nested `my_bisect_left` / `my_bisect_right` pairs of `_remove`, for any row type and column -/
theorem level_spec {α : Type} (ts : List α) (f : α → Nat) (a lo hi k : Nat) (hlo : lo ≤ k) (hk : k < hi) (hhi : hi ≤ ts.length)
    (hs : SegSorted (fun s t => f s ≤ f t) ts lo hi)
    (hck : ∃ t, ts[k]? = some t ∧ f t = a) :
    ∃ lo' hi', myBisectLeft (ts.map f) a lo hi = .ok lo' ∧ myBisectRight (ts.map f) a lo hi = .ok hi' ∧
      lo ≤ lo' ∧ lo' ≤ k ∧ k < hi' ∧ hi' ≤ hi ∧
      OnSeg ts lo lo' (f · < a) ∧ OnSeg ts lo' hi' (f · = a) ∧ OnSeg ts hi' hi (a < f ·) := by
  have hseg : SegSorted (· ≤ ·) (ts.map f) lo hi := hs.map
  have hlen : hi ≤ (ts.map f).length := by rw [List.length_map]; exact hhi
  obtain ⟨t0, ht0, rfl⟩ := hck
  obtain ⟨lo', e1, a1, a2, a3, a4⟩ := myBisectLeft_spec (ts.map f) (f t0) lo hi (lt_of_le_of_lt hlo hk) hlen hseg
  obtain ⟨hi', e2, b1, b2, b3, b4⟩ := myBisectRight_spec (ts.map f) (f t0) lo hi (lt_of_le_of_lt hlo hk) hlen hseg
  have k1 : lo' ≤ k := by
    by_contra hc
    exact lt_irrefl _ (a3.of_map k t0 hlo (not_le.mp hc) ht0)
  have k2 : k < hi' := by
    by_contra hc
    exact lt_irrefl _ (b4.of_map k t0 (not_lt.mp hc) hk ht0)
  exact ⟨lo', hi', e1, e2, a1, k1, k2, b2, a3.of_map,
    ((b3.of_map.mono a1 (le_refl _)).and (a4.of_map.mono (le_refl _) b2)).imp fun _ h => le_antisymm h.1 h.2, b4.of_map⟩

theorem tle_iff (a b : Triple) : tle a b = true ↔
    a.1 < b.1 ∨ (a.1 = b.1 ∧ (a.2.1 < b.2.1 ∨ (a.2.1 = b.2.1 ∧ a.2.2 ≤ b.2.2))) := by
  obtain ⟨a1, a2, a3⟩ := a
  obtain ⟨b1, b2, b3⟩ := b
  simp only [tle, tlt, Bool.not_eq_true', Bool.or_eq_false_iff, Bool.and_eq_false_iff, decide_eq_false_iff_not,
    beq_eq_false_iff_ne]
  omega

theorem tlt_iff (a b : Triple) : tlt a b = true ↔
    a.1 < b.1 ∨ (a.1 = b.1 ∧ (a.2.1 < b.2.1 ∨ (a.2.1 = b.2.1 ∧ a.2.2 < b.2.2))) := by
  obtain ⟨a1, a2, a3⟩ := a
  obtain ⟨b1, b2, b3⟩ := b
  simp only [tlt, Bool.or_eq_true, Bool.and_eq_true, decide_eq_true_eq, beq_iff_eq]

theorem tle_cols {a b : Triple} (h : tle a b = true) :
    a.1 ≤ b.1 ∧ (a.1 = b.1 → a.2.1 ≤ b.2.1 ∧ (a.2.1 = b.2.1 → a.2.2 ≤ b.2.2)) := by
  have := (tle_iff a b).mp h; omega

theorem tlt_total (a b : Triple) (h1 : tlt a b ≠ true) (h2 : a ≠ b) : tlt b a = true := by
  have h1' : ¬ (a.1 < b.1 ∨ (a.1 = b.1 ∧ (a.2.1 < b.2.1 ∨ (a.2.1 = b.2.1 ∧ a.2.2 < b.2.2)))) :=
    fun h => h1 ((tlt_iff a b).mpr h)
  rw [tlt_iff]
  obtain ⟨a1, a2, a3⟩ := a
  obtain ⟨b1, b2, b3⟩ := b
  simp only [ne_eq, Prod.mk.injEq] at h2
  simp only at h1' ⊢
  omega

theorem tlt_trans (a b c : Triple) (h1 : tlt a b = true) (h2 : tlt b c = true) : tlt a c = true := by
  rw [tlt_iff] at h1 h2 ⊢
  omega

theorem tle_ne_tlt (a b : Triple) (h1 : tle a b = true) (h2 : a ≠ b) : tlt a b = true :=
  tlt_total b a (fun h => by rw [tle, h] at h1; cases h1) h2.symm

theorem tlt_irrefl (a : Triple) : tlt a a ≠ true := by
  rw [Ne, tlt_iff]; omega

theorem tle_refl (a : Triple) : tle a a = true := by
  rw [tle, Bool.not_eq_true']
  exact Bool.eq_false_iff.mpr (tlt_irrefl a)

theorem mem_insertT (t x : Triple) (l : List Triple) : x ∈ insertT t l ↔ x = t ∨ x ∈ l :=
  mem_insertStep insertT (fun x t => tlt x t) (fun _ => rfl) (fun _ _ _ => rfl) t x l

theorem mem_sortT (x : Triple) (l : List Triple) : x ∈ sortT l ↔ x ∈ l :=
  mem_insertionSort insertT sortT (fun t x l => mem_insertT t x l) rfl (fun _ _ => rfl) x l

theorem sorted_sortT (l : List Triple) (h : l.Nodup) : List.Pairwise (fun a b => tlt a b = true) (sortT l) := by
  induction l with
  | nil => exact List.Pairwise.nil
  | cons y ys ih =>
    obtain ⟨hy, hys⟩ := List.nodup_cons.mp h
    exact pairwise_insertStep insertT (fun x t => tlt x t) (fun _ => rfl) (fun _ _ _ => rfl) y _ (ih hys) (fun _ _ h => h)
      (fun x hx hb => tlt_total x y (fun h => by rw [h] at hb; cases hb) fun e => hy (e ▸ (mem_sortT x ys).mp hx))
      (fun x _ z _ => tlt_trans y x z)

theorem SortedIds.triples {l : List IRow} (hs : SortedIds l) : (l.map IRow.triple).Pairwise (fun a b => tle a b = true) :=
  List.pairwise_map.mpr hs

theorem removeLoop_cons (E L V : List Nat) (n cut e l v : Nat) (ids : List Triple) (loc : Nat) (sel : List Nat)
    {lo1 hi1 lo2 hi2 lo3 hi3 : Nat}
    (h1 : myBisectLeft E e loc n = .ok lo1) (h2 : myBisectRight E e loc n = .ok hi1) (n1 : lo1 ≠ hi1)
    (h3 : myBisectLeft L l lo1 hi1 = .ok lo2) (h4 : myBisectRight L l lo1 hi1 = .ok hi2) (n2 : lo2 ≠ hi2)
    (h5 : myBisectLeft V v lo2 hi2 = .ok lo3) (h6 : myBisectRight V v lo2 hi2 = .ok hi3) (n3 : lo3 ≠ hi3) :
    removeLoop E L V n cut ((e, l, v) :: ids) loc sel =
      removeLoop E L V n cut ids hi3 (sel ++ List.range' loc (lo3 + (if hi3 - lo3 > cut then cut else 0) - loc)) := by
  rw [removeLoop, h1, h2]
  simp only
  rw [if_neg n1, h3, h4]
  simp only
  rw [if_neg n2, h5, h6]
  simp only
  rw [if_neg n3]

theorem removeLoop_step (ts : List Triple) (hsort : ts.Pairwise (fun a b => tle a b = true)) (cut e l v : Nat) (ids : List Triple)
    (loc : Nat) (sel : List Nat) (k : Nat) (hk1 : loc ≤ k) (hk : ts[k]? = some (e, l, v)) :
    ∃ lo hi, loc ≤ lo ∧ lo < hi ∧ hi ≤ ts.length ∧
      OnSeg ts loc lo (fun t => tlt t (e, l, v) = true) ∧ OnSeg ts lo hi (· = (e, l, v)) ∧
      OnSeg ts hi ts.length (fun t => tlt (e, l, v) t = true) ∧
      removeLoop (ts.map (·.1)) (ts.map (·.2.1)) (ts.map (·.2.2)) ts.length cut ((e, l, v) :: ids) loc sel =
        removeLoop (ts.map (·.1)) (ts.map (·.2.1)) (ts.map (·.2.2)) ts.length cut ids hi
          (sel ++ List.range' loc (lo + (if hi - lo > cut then cut else 0) - loc)) := by
  have hkn : k < ts.length := (List.getElem?_eq_some_iff.mp hk).1
  have hseg : SegSorted (fun a b => tle a b = true) ts 0 ts.length := segSorted_of_pairwise tle_refl hsort
  obtain ⟨lo1, hi1, e1, e2, p1, p2, p3, p4, ltE, eqE, gtE⟩ :=
    level_spec ts (·.1) e loc ts.length k hk1 hkn (le_refl _)
      ((hseg.mono (Nat.zero_le _) (le_refl _)).imp fun a b h => (tle_cols h).1) ⟨_, hk, rfl⟩
  -- inside the block of `e` the table is sorted by the learner id, inside the block of `(e,l)` by the evaluator id
  obtain ⟨lo2, hi2, e3, e4, q1, q2, q3, q4, ltL, eqL, gtL⟩ :=
    level_spec ts (·.2.1) l lo1 hi1 k p2 p3 p4
      ((hseg.mono (Nat.zero_le _) p4).imp_onSeg eqE fun a b ha hb h => ((tle_cols h).2 (ha.trans hb.symm)).1) ⟨_, hk, rfl⟩
  have eqEL : OnSeg ts lo2 hi2 (fun t => t.1 = e ∧ t.2.1 = l) := (eqE.mono q1 q4).and eqL
  obtain ⟨lo3, hi3, e5, e6, r1, r2, r3, r4, ltV, eqV, gtV⟩ :=
    level_spec ts (·.2.2) v lo2 hi2 k q2 q3 (le_trans q4 p4)
      ((hseg.mono (Nat.zero_le _) (le_trans q4 p4)).imp_onSeg eqEL fun a b ha hb h =>
        ((tle_cols h).2 (ha.1.trans hb.1.symm)).2 (ha.2.trans hb.2.symm)) ⟨_, hk, rfl⟩
  have lh2 : lo2 < hi2 := lt_of_le_of_lt q2 q3
  have lh3 : lo3 < hi3 := lt_of_le_of_lt r2 r3
  refine ⟨lo3, hi3, le_trans p1 (le_trans q1 r1), lh3, le_trans r4 (le_trans q4 p4), ?_, ?_, ?_,
    removeLoop_cons _ _ _ _ cut e l v ids loc sel e1 e2 (ne_of_lt (lt_of_le_of_lt p2 p3)) e3 e4 (ne_of_lt lh2) e5 e6
      (ne_of_lt lh3)⟩
  -- before the block: smaller `e`, then equal `e` and smaller `l`, then equal `(e,l)` and smaller `v`; after it in mirror order
  · exact ((ltE.imp fun t h => (tlt_iff t _).mpr (Or.inl h)).append
      (((eqE.mono (le_refl _) (le_trans (le_of_lt lh2) q4)).and ltL).imp fun t h =>
        (tlt_iff t _).mpr (Or.inr ⟨h.1, Or.inl h.2⟩))).append
      (((eqEL.mono (le_refl _) (le_trans (le_of_lt lh3) r4)).and ltV).imp fun t h =>
        (tlt_iff t _).mpr (Or.inr ⟨h.1.1, Or.inr ⟨h.1.2, h.2⟩⟩))
  · exact ((eqEL.mono r1 r4).and eqV).imp fun t h => Prod.ext h.1.1 (Prod.ext h.1.2 h.2)
  · exact (((eqEL.mono (le_trans r1 (le_of_lt lh3)) (le_refl _)).and gtV).imp fun t h =>
        (tlt_iff _ t).mpr (Or.inr ⟨h.1.1.symm, Or.inr ⟨h.1.2.symm, h.2⟩⟩)).append
      ((((eqE.mono (le_trans q1 (le_of_lt lh2)) (le_refl _)).and gtL).imp fun t h =>
        (tlt_iff _ t).mpr (Or.inr ⟨h.1.symm, Or.inl h.2⟩)).append
      (gtE.imp fun t h => (tlt_iff _ t).mpr (Or.inl h)))

/-- position `i` of `ts` holds a triple that `ids` does not list: what `_remove` selects -/
def keepIdx (ts ids : List Triple) (i : Nat) : Bool :=
  (ts[i]?).any (fun t => !(ids.contains t))

theorem keepIdx_eq {ts : List Triple} (ids : List Triple) {i : Nat} (h : i < ts.length) :
    keepIdx ts ids i = !(ids.contains ts[i]) := by
  simp only [keepIdx, List.getElem?_eq_getElem h, Option.any_some]

theorem keepIdx_congr (ts ids ids' : List Triple) (h : ∀ t, t ∈ ids ↔ t ∈ ids') : keepIdx ts ids = keepIdx ts ids' := by
  funext i
  unfold keepIdx
  cases ts[i]? with
  | none => rfl
  | some t =>
    simp only [Option.any_some]
    congr 1
    rw [List.contains_eq_mem, List.contains_eq_mem]
    simp [h t]

theorem keepIdx_rows (rows : List IRow) (ids : List Triple) :
    keepIdx (rows.map IRow.triple) ids = fun i => (rows[i]?).any (fun r => !(ids.contains r.triple)) := by
  funext i
  unfold keepIdx
  rw [List.getElem?_map]
  cases rows[i]? <;> rfl

theorem block_count_le (ts : List Triple) (t : Triple) (lo hi : Nat) (h1 : lo ≤ hi) (h2 : hi ≤ ts.length)
    (h : OnSeg ts lo hi (· = t)) : hi - lo ≤ ts.count t := by
  have hsub : ((ts.drop lo).take (hi - lo)).Sublist ts :=
    (List.take_sublist _ _).trans (List.drop_sublist _ _)
  have hlen : ((ts.drop lo).take (hi - lo)).length = hi - lo := by
    rw [List.length_take, List.length_drop]
    exact Nat.min_eq_left (Nat.sub_le_sub_right h2 lo)
  have hall : ∀ b ∈ (ts.drop lo).take (hi - lo), t = b := by
    intro b hb
    obtain ⟨j, hj, rfl⟩ := List.getElem_of_mem hb
    rw [hlen] at hj
    have : ((ts.drop lo).take (hi - lo))[j]? = ts[lo + j]? := by
      rw [List.getElem?_take_of_lt (by omega), List.getElem?_drop]
    have h3 : ts[lo + j]? = some ((ts.drop lo).take (hi - lo))[j] := by
      rw [← this]; exact List.getElem?_eq_getElem _
    exact (h (lo + j) _ (by omega) (by omega) h3).symm
  have := List.Sublist.count_le t hsub
  rw [List.count_eq_length.mpr hall, hlen] at this
  exact this

/-- the ids are walked in strictly ascending order with the cursor behind the last block: what lies between the cursor and
the next block is smaller than this and all later ids, so it is kept for good -/
theorem removeLoop_eq (ts : List Triple) (hsort : ts.Pairwise (fun a b => tle a b = true)) (cut : Nat) :
    ∀ (ids : List Triple) (loc : Nat) (sel : List Nat),
      List.Pairwise (fun a b => tlt a b = true) ids →
      (∀ t ∈ ids, ∃ k, loc ≤ k ∧ ts[k]? = some t) →
      (cut = 0 ∨ ∀ t ∈ ids, ts.count t ≤ cut) →
      removeLoop (ts.map (·.1)) (ts.map (·.2.1)) (ts.map (·.2.2)) ts.length cut ids loc sel =
        .ok (sel ++ (List.range' loc (ts.length - loc)).filter (keepIdx ts ids)) := by
  intro ids
  induction ids with
  | nil =>
    intro loc sel _ _ _
    simp only [removeLoop]
    congr 2
    symm
    rw [List.filter_eq_self]
    intro i hi
    have hin : i < ts.length := by have := List.mem_range'_1.mp hi; omega
    rw [keepIdx_eq [] hin]
    rfl
  | cons t ids ih =>
    intro loc sel hpw hpres hcut
    obtain ⟨e, l, v⟩ := t
    obtain ⟨k, hk1, hk⟩ := hpres (e, l, v) List.mem_cons_self
    obtain ⟨lo, hi, q1, q2, q3, q4, q5, q6, q7⟩ := removeLoop_step ts hsort cut e l v ids loc sel k hk1 hk
    have hpw' := List.pairwise_cons.mp hpw
    have hcut0 : (if hi - lo > cut then cut else 0) = 0 := by
      rcases hcut with h0 | hc
      · rw [h0]; exact ite_self 0
      · exact if_neg (not_lt.mpr ((block_count_le ts (e, l, v) lo hi (le_of_lt q2) q3 q5).trans
          (hc (e, l, v) List.mem_cons_self)))
    rw [q7, hcut0, Nat.add_zero, ih hi _ hpw'.2 ?_ (hcut.imp id fun hc t' ht' => hc t' (List.mem_cons_of_mem _ ht'))]
    · rw [List.append_assoc]
      congr 2
      rw [range'_split loc lo ts.length q1 (le_trans (le_of_lt q2) q3), range'_split lo hi ts.length (le_of_lt q2) q3,
        List.filter_append, List.filter_append]
      have p1 : (List.range' loc (lo - loc)).filter (keepIdx ts ((e, l, v) :: ids)) = List.range' loc (lo - loc) := by
        rw [List.filter_eq_self]
        intro i hi'
        obtain ⟨h1, h2⟩ := (mem_range'_sub q1).mp hi'
        have hin : i < ts.length := lt_of_lt_of_le h2 (le_trans (le_of_lt q2) q3)
        have hlt := q4 i ts[i] h1 h2 (List.getElem?_eq_getElem hin)
        rw [keepIdx_eq _ hin, Bool.not_eq_true', List.contains_eq_mem, decide_eq_false_iff_not, List.mem_cons]
        rintro (heq | hmem)
        · rw [heq] at hlt; exact tlt_irrefl _ hlt
        · exact tlt_irrefl _ (tlt_trans _ _ _ hlt (hpw'.1 _ hmem))
      have p2 : (List.range' lo (hi - lo)).filter (keepIdx ts ((e, l, v) :: ids)) = [] := by
        rw [List.filter_eq_nil_iff]
        intro i hi'
        obtain ⟨h1, h2⟩ := (mem_range'_sub (le_of_lt q2)).mp hi'
        have hin : i < ts.length := lt_of_lt_of_le h2 q3
        rw [keepIdx_eq _ hin, q5 i ts[i] h1 h2 (List.getElem?_eq_getElem hin)]
        simp
      have p3 : (List.range' hi (ts.length - hi)).filter (keepIdx ts ((e, l, v) :: ids)) =
          (List.range' hi (ts.length - hi)).filter (keepIdx ts ids) := by
        apply List.filter_congr
        intro i hi'
        obtain ⟨h1, hin⟩ := (mem_range'_sub q3).mp hi'
        have hgt := q6 i ts[i] h1 hin (List.getElem?_eq_getElem hin)
        have hne : ¬ ts[i] = (e, l, v) := fun heq => by rw [heq] at hgt; exact tlt_irrefl _ hgt
        rw [keepIdx_eq _ hin, keepIdx_eq _ hin, List.contains_cons, beq_false_of_ne hne, Bool.false_or]
      rw [p1, p2, p3, List.nil_append]
    · intro t' ht'
      obtain ⟨k', hk1', hk'⟩ := hpres t' (List.mem_cons_of_mem _ ht')
      refine ⟨k', ?_, hk'⟩
      have hlt := hpw'.1 t' ht'
      by_contra hc
      by_cases hc2 : k' < lo
      · exact tlt_irrefl _ (tlt_trans _ _ _ hlt (q4 k' t' hk1' hc2 hk'))
      · rw [q5 k' t' (not_lt.mp hc2) (not_le.mp hc) hk'] at hlt
        exact tlt_irrefl _ hlt

theorem remove_eq (ts ids : List Triple) (cut : Nat) (hsort : ts.Pairwise (fun a b => tle a b = true)) (hnd : ids.Nodup)
    (hpres : ∀ t ∈ ids, t ∈ ts) (hcut : cut = 0 ∨ ∀ t ∈ ids, ts.count t ≤ cut) :
    remove ts ids cut = .ok ((List.range ts.length).filter (keepIdx ts ids)) := by
  unfold remove
  rw [removeLoop_eq ts hsort cut (sortT ids) 0 [] (sorted_sortT ids hnd)]
  · simp only [List.nil_append, Nat.sub_zero, ← List.range_eq_range']
    rw [keepIdx_congr ts (sortT ids) ids (fun t => mem_sortT t ids)]
  · intro t ht
    have := hpres t ((mem_sortT t ids).mp ht)
    obtain ⟨k, hk, rfl⟩ := List.getElem_of_mem this
    exact ⟨k, Nat.zero_le _, List.getElem?_eq_getElem hk⟩
  · rcases hcut with h0 | hc
    · exact Or.inl h0
    · exact Or.inr (fun t ht => hc t ((mem_sortT t ids).mp ht))

theorem selectRows_filter {α} (rows : List α) (P : α → Bool) :
    selectRows rows ((List.range rows.length).filter (fun i => (rows[i]?).any P)) = rows.filter P := by
  induction rows with
  | nil => simp [selectRows]
  | cons r rs ih =>
    unfold selectRows at ih ⊢
    rw [List.length_cons, List.range_succ_eq_map, List.filter_cons, List.filter_map, List.filter_cons]
    have e1 : ((fun i => ((r :: rs)[i]?).any P) ∘ Nat.succ) = fun i => (rs[i]?).any P := by
      funext i; simp
    have e2 : ((fun i => (r :: rs)[i]?) ∘ Nat.succ) = fun i => rs[i]? := by
      funext i; simp
    rw [e1]
    by_cases hp : P r = true
    · simp only [List.getElem?_cons_zero, Option.any_some, hp, if_true, List.filterMap_cons, List.filterMap_map]
      rw [e2, ih]
    · simp only [List.getElem?_cons_zero, Option.any_some, hp, Bool.false_eq_true, if_false, List.filterMap_map]
      rw [e2, ih]

theorem mem_selectRows {α} (rows : List α) (sel : List Nat) : ∀ x ∈ selectRows rows sel, x ∈ rows := by
  intro x hx
  simp only [selectRows, List.mem_filterMap] at hx
  obtain ⟨i, _, hi⟩ := hx
  exact List.mem_of_getElem? hi

theorem mem_removeRows (rows out : List IRow) (ids : List Triple) (cut : Nat) (h : removeRows rows ids cut = .ok out) :
    ∀ x ∈ out, x ∈ rows := by
  unfold removeRows at h
  split at h
  · cases h; exact fun x hx => hx
  · cases hr : remove (rows.map IRow.triple) ids cut with
    | error e => rw [hr] at h; simp at h
    | ok sel =>
      rw [hr] at h
      simp only [Except.ok.injEq] at h
      subst h
      exact mem_selectRows rows sel

theorem removeRows_eq (rows : List IRow) (ids : List Triple) (cut : Nat) (hs : SortedIds rows) (hnd : ids.Nodup)
    (hpres : ∀ t ∈ ids, t ∈ rows.map IRow.triple)
    (hcut : cut = 0 ∨ ∀ t ∈ ids, (rows.map IRow.triple).count t ≤ cut) :
    removeRows rows ids cut = .ok (rows.filter (fun r => !(ids.contains r.triple))) := by
  unfold removeRows
  split
  · rename_i hemp
    rw [List.isEmpty_iff] at hemp
    subst hemp
    simp
  · rw [remove_eq _ ids cut hs.triples hnd hpres hcut]
    simp only
    rw [List.length_map, keepIdx_rows, selectRows_filter]

end Coba.C18
