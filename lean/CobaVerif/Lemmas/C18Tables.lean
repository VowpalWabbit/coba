/-
C18 — The data structures under the analysis functions: `dedup`, the maximal runs of equal id triples (`runs`), `pick` (of every
evaluation its first so-many rows: what each filter does to the interaction table), lookups and index lists (`mkIndexes`),
and `restrictTables` (parameter rows that are still referenced); incrementally built tables.
-/
import CobaVerif.Lemmas.C18Remove
import Mathlib.Data.List.Nodup

namespace Coba.C18

section dedup
variable {α : Type} [DecidableEq α]

theorem mem_dedup (x : α) (l : List α) : x ∈ dedup l ↔ x ∈ l := by
  induction l with
  | nil => simp [dedup]
  | cons y ys ih =>
    simp only [dedup, List.mem_cons, List.mem_filter, ih, decide_eq_true_eq]
    by_cases h : x = y <;> simp [h]

theorem nodup_dedup (l : List α) : (dedup l).Nodup := by
  induction l with
  | nil => simp [dedup]
  | cons y ys ih =>
    simp only [dedup, List.nodup_cons, List.mem_filter, decide_eq_true_eq]
    exact ⟨fun h => h.2 rfl, ih.filter _⟩

theorem dedup_sublist (l : List α) : (dedup l).Sublist l := by
  induction l with
  | nil => simp [dedup]
  | cons y ys ih =>
    simp only [dedup]
    exact List.Sublist.cons_cons _ ((List.filter_sublist).trans ih)

theorem dedup_of_nodup (l : List α) (h : l.Nodup) : dedup l = l := by
  induction l with
  | nil => simp [dedup]
  | cons y ys ih =>
    have h' := List.nodup_cons.mp h
    simp only [dedup, ih h'.2]
    congr 1
    rw [List.filter_eq_self]
    intro a ha
    simp only [decide_eq_true_eq]
    intro hc
    exact h'.1 (hc ▸ ha)

theorem nodup_of_dedup_length (l : List α) (h : l.length ≤ (dedup l).length) : l.Nodup := by
  have := (dedup_sublist l).eq_of_length_le h
  rw [← this]
  exact nodup_dedup l

theorem dedup_snoc (l : List α) (x : α) :
    dedup (l ++ [x]) = if x ∈ l then dedup l else dedup l ++ [x] := by
  induction l with
  | nil => simp [dedup]
  | cons y ys ih =>
    simp only [List.cons_append, dedup, ih]
    by_cases hx : x ∈ ys
    · simp [hx]
    · simp only [hx, if_false, List.filter_append, List.mem_cons]
      by_cases hxy : x = y
      · subst hxy
        simp
      · simp [hxy]

end dedup

theorem runs_cons_of_nil {r : IRow} {rs : List IRow} (h : runs rs = []) : runs (r :: rs) = [(r.triple, [r])] := by
  simp only [runs, h]

theorem runs_cons_of_same {r : IRow} {rs g : List IRow} {rest : List (Triple × List IRow)}
    (h : runs rs = (r.triple, g) :: rest) : runs (r :: rs) = (r.triple, r :: g) :: rest := by
  simp only [runs, h, ↓reduceIte]

theorem runs_cons_of_ne {r : IRow} {rs g : List IRow} {t : Triple} {rest : List (Triple × List IRow)}
    (h : runs rs = (t, g) :: rest) (hne : t ≠ r.triple) : runs (r :: rs) = (r.triple, [r]) :: (t, g) :: rest := by
  simp only [runs, h, if_neg hne]

theorem runs_cons_cases (r : IRow) (rs : List IRow) :
    (runs rs = [] ∧ runs (r :: rs) = [(r.triple, [r])]) ∨
    (∃ g rest, runs rs = (r.triple, g) :: rest ∧ runs (r :: rs) = (r.triple, r :: g) :: rest) ∨
    (∃ t g rest, runs rs = (t, g) :: rest ∧ t ≠ r.triple ∧ runs (r :: rs) = (r.triple, [r]) :: (t, g) :: rest) := by
  cases h : runs rs with
  | nil => exact Or.inl ⟨rfl, runs_cons_of_nil h⟩
  | cons x rest =>
    obtain ⟨t, g⟩ := x
    by_cases ht : t = r.triple
    · subst ht
      exact Or.inr (Or.inl ⟨g, rest, rfl, runs_cons_of_same h⟩)
    · exact Or.inr (Or.inr ⟨t, g, rest, rfl, ht, runs_cons_of_ne h ht⟩)

theorem runs_flatMap (l : List IRow) : (runs l).flatMap (·.2) = l := by
  induction l with
  | nil => rfl
  | cons r rs ih =>
    rcases runs_cons_cases r rs with ⟨h0, h1⟩ | ⟨g, rest, h0, h1⟩ | ⟨t, g, rest, h0, _, h1⟩ <;>
    · rw [h0] at ih
      rw [h1, ← ih]
      rfl

theorem runs_spec (l : List IRow) : ∀ g ∈ runs l, g.2 ≠ [] ∧ ∀ row ∈ g.2, row.triple = g.1 := by
  induction l with
  | nil => simp [runs]
  | cons r rs ih =>
    rcases runs_cons_cases r rs with ⟨_, h1⟩ | ⟨g, rest, h0, h1⟩ | ⟨t, g, rest, h0, _, h1⟩ <;> rw [h1] <;> intro g' hg'
    · rw [List.mem_singleton.mp hg']
      exact ⟨List.cons_ne_nil _ _, fun row hrow => by rw [List.mem_singleton.mp hrow]⟩
    · rw [h0] at ih
      rcases List.mem_cons.mp hg' with rfl | hg'
      · refine ⟨List.cons_ne_nil _ _, fun row hrow => ?_⟩
        rcases List.mem_cons.mp hrow with rfl | hrow
        · rfl
        · exact (ih _ List.mem_cons_self).2 row hrow
      · exact ih g' (List.mem_cons_of_mem _ hg')
    · rw [h0] at ih
      rcases List.mem_cons.mp hg' with rfl | hg'
      · exact ⟨List.cons_ne_nil _ _, fun row hrow => by rw [List.mem_singleton.mp hrow]⟩
      · exact ih g' hg'

theorem runs_head_triple (r : IRow) (rs : List IRow) : ∃ g rest, runs (r :: rs) = (r.triple, g) :: rest := by
  rcases runs_cons_cases r rs with ⟨_, h1⟩ | ⟨g, rest, _, h1⟩ | ⟨t, g, rest, _, _, h1⟩ <;> exact ⟨_, _, h1⟩

theorem mem_runs_triple (l : List IRow) : ∀ g ∈ runs l, ∃ row ∈ l, row.triple = g.1 := by
  intro g hg
  have h1 := runs_spec l g hg
  obtain ⟨row, hrow⟩ := List.exists_mem_of_ne_nil _ h1.1
  refine ⟨row, ?_, h1.2 row hrow⟩
  rw [← runs_flatMap l]
  exact List.mem_flatMap.mpr ⟨g, hg, hrow⟩

theorem row_triple_mem_runs (l : List IRow) (row : IRow) (h : row ∈ l) : row.triple ∈ (runs l).map (·.1) := by
  rw [← runs_flatMap l] at h
  obtain ⟨g, hg, hrow⟩ := List.mem_flatMap.mp h
  exact List.mem_map.mpr ⟨g, hg, ((runs_spec l g hg).2 row hrow).symm⟩

theorem mem_runs_fst (l : List IRow) (t : Triple) : t ∈ (runs l).map (·.1) ↔ ∃ row ∈ l, row.triple = t := by
  constructor
  · intro h
    obtain ⟨g, hg, rfl⟩ := List.mem_map.mp h
    exact mem_runs_triple l g hg
  · rintro ⟨row, hrow, rfl⟩
    exact row_triple_mem_runs l row hrow

theorem run_take_ne_nil {l : List IRow} {g : Triple × List IRow} (hg : g ∈ runs l) {k : Nat} (hk : 1 ≤ k) :
    g.2.take k ≠ [] := by
  rw [Ne, List.take_eq_nil_iff]
  exact fun h => h.elim (by omega) (runs_spec l g hg).1

theorem runs_sorted (l : List IRow) (hs : SortedIds l) :
    List.Pairwise (fun a b => tlt a b = true) ((runs l).map (·.1)) := by
  induction l with
  | nil => simp [runs]
  | cons r rs ih =>
    have hs' := List.pairwise_cons.mp hs
    have ih' := ih hs'.2
    rcases runs_cons_cases r rs with ⟨_, h1⟩ | ⟨g, rest, h0, h1⟩ | ⟨t, g, rest, h0, hne, h1⟩ <;> rw [h1]
    · exact List.pairwise_singleton _ _
    · rw [h0] at ih'
      exact ih'
    · rw [h0] at ih'
      rw [List.map_cons, List.pairwise_cons]
      refine ⟨?_, ih'⟩
      -- the next run starts with a row of the table after `r`, so its triple is `≥` and different, hence `>`
      have ht : tlt r.triple t = true := by
        obtain ⟨row, hrow, hrt⟩ := mem_runs_triple rs (t, g) (by rw [h0]; exact List.mem_cons_self)
        have := hs'.1 row hrow
        rw [hrt] at this
        exact tle_ne_tlt _ _ this (fun hc => hne hc.symm)
      rw [List.map_cons, List.pairwise_cons] at ih'
      intro t' ht'
      rcases List.mem_cons.mp ht' with rfl | ht'
      · exact ht
      · exact tlt_trans _ _ _ ht (ih'.1 t' ht')

theorem runs_nodup (l : List IRow) (hs : SortedIds l) : ((runs l).map (·.1)).Nodup := by
  have := runs_sorted l hs
  unfold List.Nodup
  refine this.imp ?_
  intro a b hab heq
  subst heq
  exact tlt_irrefl a hab

theorem fst_mem_filter_runs {l : List IRow} (hs : SortedIds l) (K : Triple × List IRow → Bool) {g : Triple × List IRow}
    (hg : g ∈ runs l) : g.1 ∈ ((runs l).filter K).map (·.1) ↔ K g = true := by
  refine ⟨fun h => ?_, fun h => List.mem_map_of_mem (List.mem_filter.mpr ⟨hg, h⟩)⟩
  obtain ⟨g', hg', he⟩ := List.mem_map.mp h
  obtain ⟨hg', hK⟩ := List.mem_filter.mp hg'
  rwa [← List.inj_on_of_nodup_map (runs_nodup l hs) hg' hg he]

theorem count_triple_eq_run_length (G : List (Triple × List IRow)) (hnd : (G.map (·.1)).Nodup)
    (hsp : ∀ g ∈ G, ∀ row ∈ g.2, row.triple = g.1) :
    ∀ g ∈ G, ((G.flatMap (·.2)).map IRow.triple).count g.1 = g.2.length := by
  induction G with
  | nil => simp
  | cons g0 G' ih =>
    intro g hg
    have hnd' : g0.1 ∉ G'.map (·.1) ∧ (G'.map (·.1)).Nodup := List.nodup_cons.mp (by rw [List.map_cons] at hnd; exact hnd)
    simp only [List.flatMap_cons, List.map_append, List.count_append]
    have hall0 : ∀ b ∈ g0.2.map IRow.triple, g0.1 = b := by
      intro b hb
      obtain ⟨row, hrow, rfl⟩ := List.mem_map.mp hb
      exact (hsp g0 (by simp) row hrow).symm
    have hrest : ∀ t, t ∈ (G'.flatMap (·.2)).map IRow.triple → t ∈ G'.map (·.1) := by
      intro t ht
      obtain ⟨row, hrow, rfl⟩ := List.mem_map.mp ht
      obtain ⟨g', hg', hrow'⟩ := List.mem_flatMap.mp hrow
      exact List.mem_map.mpr ⟨g', hg', (hsp g' (by simp [hg']) row hrow').symm⟩
    rcases List.mem_cons.mp hg with rfl | hg'
    · rw [List.count_eq_length.mpr hall0, List.count_eq_zero_of_not_mem (fun hc => hnd'.1 (hrest _ hc))]
      simp
    · have hne : g0.1 ≠ g.1 := fun hc => hnd'.1 (hc ▸ List.mem_map.mpr ⟨g, hg', rfl⟩)
      rw [List.count_eq_zero_of_not_mem (fun hc => hne (hall0 _ hc)),
        ih hnd'.2 (fun g' hg'' => hsp g' (by simp [hg''])) g hg']
      simp

theorem filter_eq_flatMap_runs (l : List IRow) (P : IRow → Bool) : l.filter P = (runs l).flatMap (fun g => g.2.filter P) := by
  conv_lhs => rw [← runs_flatMap l]
  rw [List.filter_flatMap]

theorem runs_block (t : Triple) (b : List IRow) (rest : List IRow) (G' : List (Triple × List IRow))
    (hb : b ≠ []) (ht : ∀ row ∈ b, row.triple = t) (hrest : runs rest = G')
    (hhead : ∀ g ∈ G'.head?, g.1 ≠ t) : runs (b ++ rest) = (t, b) :: G' := by
  induction b with
  | nil => exact absurd rfl hb
  | cons x b' ih =>
    obtain rfl : x.triple = t := ht x List.mem_cons_self
    cases b' with
    | nil =>
      cases G' with
      | nil => exact runs_cons_of_nil hrest
      | cons g rest' => exact runs_cons_of_ne hrest (hhead g rfl)
    | cons y b'' =>
      exact runs_cons_of_same (ih (List.cons_ne_nil _ _) fun row hrow => ht row (List.mem_cons_of_mem _ hrow))

theorem runs_blocks (G : List (Triple × List IRow)) (hnd : (G.map (·.1)).Nodup)
    (hok : ∀ g ∈ G, g.2 ≠ [] ∧ ∀ row ∈ g.2, row.triple = g.1) : runs (G.flatMap (·.2)) = G := by
  induction G with
  | nil => simp [runs]
  | cons g G' ih =>
    have hnd' : g.1 ∉ G'.map (·.1) ∧ (G'.map (·.1)).Nodup := List.nodup_cons.mp (by rw [List.map_cons] at hnd; exact hnd)
    have ih' := ih hnd'.2 (fun g' hg' => hok g' (by simp [hg']))
    simp only [List.flatMap_cons]
    have := runs_block g.1 g.2 (G'.flatMap (·.2)) G' (hok g (by simp)).1 (hok g (by simp)).2 ih' (by
      intro g' hg'
      have : g' ∈ G' := List.mem_of_mem_head? hg'
      intro hc
      exact hnd'.1 (hc ▸ List.mem_map.mpr ⟨g', this, rfl⟩))
    rw [this]

/-- what every filter of a Result does to the interaction rows: of the evaluation `g` the first `k g` rows stay
(`0`: the evaluation goes, `≥ len`: it stays whole) -/
def pick (ints : List IRow) (k : Triple × List IRow → Nat) : List IRow := (runs ints).flatMap (fun g => g.2.take (k g))

theorem pick_sublist (ints : List IRow) (k : Triple × List IRow → Nat) : (pick ints k).Sublist ints := by
  conv_rhs => rw [← runs_flatMap ints]
  exact flatMap_sublist _ _ _ fun g => List.take_sublist _ _

theorem pick_all (ints : List IRow) : pick ints (fun g => g.2.length) = ints := by
  conv_rhs => rw [← runs_flatMap ints]
  exact List.flatMap_congr fun g _ => List.take_length

theorem runs_pick (ints : List IRow) (k : Triple × List IRow → Nat) (hs : SortedIds ints) :
    runs (pick ints k) = ((runs ints).filter (fun g => k g ≠ 0)).map (fun g => (g.1, g.2.take (k g))) := by
  have e : pick ints k = (((runs ints).filter (fun g => k g ≠ 0)).map (fun g => (g.1, g.2.take (k g)))).flatMap (·.2) := by
    rw [flatMap_filter_map]
    refine List.flatMap_congr fun g _ => ?_
    by_cases h : k g = 0 <;> simp [h]
  rw [e]
  refine runs_blocks _ ?_ ?_
  · rw [List.map_map]
    exact (List.filter_sublist.map _).nodup (runs_nodup ints hs)
  · intro g' hg'
    obtain ⟨g, hg, rfl⟩ := List.mem_map.mp hg'
    obtain ⟨hg, hk⟩ := List.mem_filter.mp hg
    exact ⟨run_take_ne_nil hg (Nat.one_le_iff_ne_zero.mpr (of_decide_eq_true hk)),
      fun row hrow => (runs_spec ints g hg).2 row (List.mem_of_mem_take hrow)⟩

theorem idxWF_pick (ints : List IRow) (k : Triple × List IRow → Nat) (hs : SortedIds ints) (hw : IdxWF ints) :
    IdxWF (pick ints k) := by
  intro g' hg'
  rw [runs_pick ints k hs] at hg'
  obtain ⟨g, hg, rfl⟩ := List.mem_map.mp hg'
  rw [List.map_take, hw g (List.mem_filter.mp hg).1, take_range'_1, List.length_take]

theorem pick_pick (ints : List IRow) (k1 k2 : Triple × List IRow → Nat) (hs : SortedIds ints) :
    pick (pick ints k1) k2 = pick ints (fun g => min (k2 (g.1, g.2.take (k1 g))) (k1 g)) := by
  rw [pick, runs_pick ints k1 hs, flatMap_filter_map]
  refine List.flatMap_congr fun g _ => ?_
  dsimp only
  by_cases h : k1 g = 0
  · simp [h]
  · simp [h, List.take_take]

theorem triple_mem_pick (ints : List IRow) (k : Triple × List IRow → Nat) (t : Triple) :
    (∃ row ∈ pick ints k, row.triple = t) ↔ ∃ g ∈ runs ints, k g ≠ 0 ∧ g.1 = t := by
  constructor
  · rintro ⟨row, hrow, rfl⟩
    obtain ⟨g, hg, hrow⟩ := List.mem_flatMap.mp hrow
    refine ⟨g, hg, fun h0 => ?_, ((runs_spec ints g hg).2 row (List.mem_of_mem_take hrow)).symm⟩
    rw [h0, List.take_zero] at hrow
    cases hrow
  · rintro ⟨g, hg, hk, rfl⟩
    obtain ⟨row, hrow⟩ := List.exists_mem_of_ne_nil _ (run_take_ne_nil hg (Nat.one_le_iff_ne_zero.mpr hk))
    exact ⟨row, List.mem_flatMap.mpr ⟨g, hg, hrow⟩, (runs_spec ints g hg).2 row (List.mem_of_mem_take hrow)⟩

theorem filter_eq_pick (ints : List IRow) (Q : Triple → Bool) :
    ints.filter (fun row => Q row.triple) = pick ints (fun g => if Q g.1 then g.2.length else 0) := by
  rw [filter_eq_flatMap_runs]
  refine List.flatMap_congr fun g hg => ?_
  have ht := (runs_spec ints g hg).2
  dsimp only
  by_cases hq : Q g.1 = true
  · rw [if_pos hq, List.take_length, List.filter_eq_self]
    exact fun row hrow => by rw [ht row hrow]; exact hq
  · rw [if_neg hq, List.take_zero, List.filter_eq_nil_iff]
    exact fun row hrow => by rw [ht row hrow]; exact hq

theorem runs_filter (Q : Triple → Bool) (l : List IRow) (hs : SortedIds l) :
    runs (l.filter (fun row => Q row.triple)) = (runs l).filter (fun g => Q g.1) := by
  rw [filter_eq_pick, runs_pick _ _ hs]
  have hne : ∀ g ∈ runs l, g.2.length ≠ 0 := fun g hg h => (runs_spec l g hg).1 (List.length_eq_zero_iff.mp h)
  rw [List.filter_congr (q := fun g => Q g.1) fun g hg => by by_cases hq : Q g.1 = true <;> simp [hq, hne g hg]]
  conv_rhs => rw [← List.map_id ((runs l).filter fun g => Q g.1)]
  refine List.map_congr_left fun g hg => ?_
  rw [if_pos (List.mem_filter.mp hg).2, List.take_length]; rfl

theorem idxWF_filter (Q : Triple → Bool) (l : List IRow) (hs : SortedIds l) (hw : IdxWF l) :
    IdxWF (l.filter (fun row => Q row.triple)) :=
  filter_eq_pick l Q ▸ idxWF_pick l _ hs hw

theorem lookup_ok {rows : List PRow} {id : Nat} {p : PRow} (h : lookup rows id = .ok p) : p ∈ rows ∧ p.id = id := by
  induction rows with
  | nil => simp [lookup] at h
  | cons r rs ih =>
    simp only [lookup] at h
    split at h
    · cases h
      rename_i heq
      exact ⟨by simp, heq⟩
    · have := ih h
      exact ⟨by simp [this.1], this.2⟩

theorem mkIndexes_cons_ok {r : Result} {lc pc : List Col} {t : Triple} {ts : List Triple} {ix : List Idx}
    (h : mkIndexes r lc pc (t :: ts) = .ok ix) :
    ∃ e l v pk lk rest, lookup r.envs t.1 = .ok e ∧ lookup r.lrns t.2.1 = .ok l ∧ lookup r.evals t.2.2 = .ok v ∧
      keyOf e l v t pc = .ok pk ∧ keyOf e l v t lc = .ok lk ∧ mkIndexes r lc pc ts = .ok rest ∧
      ix = ⟨pk, lk, t⟩ :: rest := by
  rw [mkIndexes] at h
  split at h
  · rename_i e l v h1 h2 h3
    split at h
    · rename_i pk lk h4 h5
      split at h
      · rename_i rest h6
        exact ⟨e, l, v, pk, lk, rest, h1, h2, h3, h4, h5, h6, (Except.ok.inj h).symm⟩
      · cases h
    · cases h
  · cases h

theorem mkIndexes_spec (r : Result) (lc pc : List Col) : ∀ (ts : List Triple) (ix : List Idx),
    mkIndexes r lc pc ts = .ok ix →
    ix.map (·.t) = ts ∧ ∀ t ∈ ts, (∃ p ∈ r.envs, p.id = t.1) ∧ (∃ p ∈ r.lrns, p.id = t.2.1) ∧ (∃ p ∈ r.evals, p.id = t.2.2) := by
  intro ts
  induction ts with
  | nil =>
    intro ix h
    simp only [mkIndexes] at h
    cases h
    simp
  | cons t ts ih =>
    intro ix h
    obtain ⟨e, l, v, pk, lk, rest, h1, h2, h3, _, _, h6, rfl⟩ := mkIndexes_cons_ok h
    have := ih rest h6
    refine ⟨by simp [this.1], ?_⟩
    intro t' ht'
    rcases List.mem_cons.mp ht' with rfl | ht'
    · exact ⟨⟨e, (lookup_ok h1).1, (lookup_ok h1).2⟩, ⟨l, (lookup_ok h2).1, (lookup_ok h2).2⟩,
        ⟨v, (lookup_ok h3).1, (lookup_ok h3).2⟩⟩
    · exact this.2 t' ht'

theorem refsPresent_of_indexes (r : Result) (lc pc : List Col) (ix : List Idx)
    (hix : mkIndexes r lc pc ((runs r.ints).map (·.1)) = .ok ix) : RefsPresent r :=
  fun row hrow => (mkIndexes_spec r lc pc _ ix hix).2 row.triple (row_triple_mem_runs _ row hrow)

theorem lookup_filter (rows : List PRow) (P : PRow → Bool) (id : Nat) (p : PRow)
    (h : lookup rows id = .ok p) (hp : P p = true) : lookup (rows.filter P) id = .ok p := by
  induction rows with
  | nil => simp [lookup] at h
  | cons r rs ih =>
    simp only [lookup] at h
    by_cases hid : r.id = id
    · rw [if_pos hid] at h
      cases h
      rw [List.filter_cons, if_pos hp]
      simp [lookup, hid]
    · rw [if_neg hid] at h
      rw [List.filter_cons]
      split
      · simp only [lookup, if_neg hid]; exact ih h
      · exact ih h

theorem mkIndexes_filter (r r' : Result) (lc pc : List Col) (q : Triple → Bool) :
    ∀ (ts : List Triple) (ix : List Idx),
      (∀ t ∈ ts, q t = true → (∀ p, lookup r.envs t.1 = .ok p → lookup r'.envs t.1 = .ok p) ∧
        (∀ p, lookup r.lrns t.2.1 = .ok p → lookup r'.lrns t.2.1 = .ok p) ∧
        (∀ p, lookup r.evals t.2.2 = .ok p → lookup r'.evals t.2.2 = .ok p)) →
      mkIndexes r lc pc ts = .ok ix → mkIndexes r' lc pc (ts.filter q) = .ok (ix.filter (fun i => q i.t)) := by
  intro ts
  induction ts with
  | nil => intro ix _ h; simp only [mkIndexes] at h; cases h; simp [mkIndexes]
  | cons t ts ih =>
    intro ix hlk h
    obtain ⟨e, l, v, pk, lk, rest, h1, h2, h3, h4, h5, h6, rfl⟩ := mkIndexes_cons_ok h
    have := ih rest (fun t' ht' => hlk t' (List.mem_cons_of_mem _ ht')) h6
    rw [List.filter_cons]
    by_cases hq : q t = true
    · obtain ⟨he, hl, hv⟩ := hlk t List.mem_cons_self hq
      rw [if_pos hq]
      simp only [mkIndexes, he e h1, hl l h2, hv v h3, h4, h5, this]
      simp [hq]
    · rw [if_neg hq, this]
      simp [hq]

theorem mkIndexes_restrict (r : Result) (lc pc : List Col) (ix : List Idx) (hs : SortedIds r.ints) (Q : Triple → Bool)
    (hix : mkIndexes r lc pc ((runs r.ints).map (·.1)) = .ok ix) :
    mkIndexes (restrictTables r (r.ints.filter (fun row => Q row.triple))) lc pc
      ((runs (restrictTables r (r.ints.filter (fun row => Q row.triple))).ints).map (·.1)) =
      .ok (ix.filter (fun i => Q i.t)) := by
  have hruns : (runs (restrictTables r (r.ints.filter (fun row => Q row.triple))).ints).map (·.1) =
      ((runs r.ints).map (·.1)).filter Q := by
    simp only [restrictTables]
    rw [runs_filter Q r.ints hs, List.filter_map]
    rfl
  rw [hruns]
  refine mkIndexes_filter r _ lc pc Q _ ix ?_ hix
  intro t ht hq
  obtain ⟨row, hrow, rfl⟩ := (mem_runs_fst r.ints t).mp ht
  have hrow' : row ∈ r.ints.filter (fun row => Q row.triple) := List.mem_filter.mpr ⟨hrow, hq⟩
  refine ⟨fun p hp => ?_, fun p hp => ?_, fun p hp => ?_⟩ <;>
  · refine lookup_filter _ _ _ _ hp ?_
    rw [List.contains_eq_mem, decide_eq_true_eq, (lookup_ok hp).2]
    exact List.mem_map_of_mem hrow'

theorem mem_filterTable (rows : List PRow) (keep : List Nat) : ∀ p ∈ filterTable rows keep, p ∈ rows := by
  intro p hp
  unfold filterTable at hp
  split at hp
  · exact (List.mem_filter.mp hp).1
  · exact hp

theorem filter_referenced_self (rows : List PRow) (ids : List Nat) (h : ∀ p ∈ rows, p.id ∈ ids) :
    rows = rows.filter (fun p => ids.contains p.id) := by
  symm
  rw [List.filter_eq_self]
  intro p hp
  simpa using h p hp

theorem restrict_refsPresent (r : Result) (ints : List IRow) (hsub : ∀ row ∈ ints, row ∈ r.ints) (hrefs : RefsPresent r) :
    RefsPresent (restrictTables r ints) := by
  intro row hrow
  obtain ⟨⟨pe, hpe, he⟩, ⟨pl, hpl, hl⟩, ⟨pv, hpv, hv⟩⟩ := hrefs row (hsub row hrow)
  exact ⟨⟨pe, List.mem_filter.mpr ⟨hpe, (mem_contains_map _ _ _).mpr ⟨row, hrow, he.symm⟩⟩, he⟩,
    ⟨pl, List.mem_filter.mpr ⟨hpl, (mem_contains_map _ _ _).mpr ⟨row, hrow, hl.symm⟩⟩, hl⟩,
    ⟨pv, List.mem_filter.mpr ⟨hpv, (mem_contains_map _ _ _).mpr ⟨row, hrow, hv.symm⟩⟩, hv⟩⟩

theorem restrict_allReferenced (r : Result) (ints : List IRow) : AllReferenced (restrictTables r ints) :=
  ⟨fun _ hp => (mem_contains_map _ _ _).mp (List.mem_filter.mp hp).2,
    fun _ hp => (mem_contains_map _ _ _).mp (List.mem_filter.mp hp).2,
    fun _ hp => (mem_contains_map _ _ _).mp (List.mem_filter.mp hp).2⟩

theorem restrict_uniqueIds (r : Result) (ints : List IRow) (hu : UniqueIds r) : UniqueIds (restrictTables r ints) := by
  refine ⟨?_, ?_, ?_⟩
  · exact (List.filter_sublist.map _).nodup hu.1
  · exact (List.filter_sublist.map _).nodup hu.2.1
  · exact (List.filter_sublist.map _).nodup hu.2.2

theorem restrict_restrict (r : Result) (ints1 ints2 : List IRow) (hsub : ∀ row ∈ ints2, row ∈ ints1) :
    restrictTables (restrictTables r ints1) ints2 = restrictTables r ints2 := by
  simp only [restrictTables, List.filter_filter]
  congr 1 <;>
  · apply List.filter_congr
    intro p _
    rw [Bool.and_eq_left_iff_imp, mem_contains_map, mem_contains_map]
    exact fun ⟨row, hrow, h⟩ => ⟨row, hsub row hrow, h⟩

theorem restrict_eq_of_triples (r : Result) (hall : AllReferenced r) (ints' : List IRow)
    (h : ∀ row ∈ r.ints, ∃ row' ∈ ints', row'.triple = row.triple) :
    restrictTables r ints' = { r with ints := ints' } := by
  have key : ∀ (rows : List PRow) (pr : Triple → Nat), (∀ p ∈ rows, ∃ row ∈ r.ints, pr row.triple = p.id) →
      rows.filter (fun p => (ints'.map fun row => pr row.triple).contains p.id) = rows := by
    intro rows pr hall
    refine (filter_referenced_self rows _ fun p hp => ?_).symm
    obtain ⟨row, hrow, he⟩ := hall p hp
    obtain ⟨row', hrow', ht⟩ := h row hrow
    exact List.mem_map.mpr ⟨row', hrow', by rw [← he, ht]⟩
  simp only [restrictTables]
  congr 1
  exacts [key r.envs (·.1) hall.1, key r.lrns (·.2.1) hall.2.1, key r.evals (·.2.2) hall.2.2]

theorem restrict_self (r : Result) (hall : AllReferenced r) : restrictTables r r.ints = r :=
  restrict_eq_of_triples r hall r.ints fun row hrow => ⟨row, hrow, rfl⟩

/-- a filled cache holds the runs of the rows as they are now: the invariant a `look` relies on and an insert that clears the
cache keeps -/
def CacheOK (t : ITable) : Prop := ∀ g, t.cache = some g → g = runs t.rows

theorem groups_of_cacheOK (t : ITable) (h : CacheOK t) : t.groups = runs t.rows := by
  unfold ITable.groups
  cases hc : t.cache with
  | none => rfl
  | some g => exact h g hc

theorem step_cacheOK (t : ITable) (h : CacheOK t) (op : IncOp) : CacheOK (t.step true op) := by
  cases op with
  | ins b => intro g hg; simp [ITable.step] at hg
  | look =>
    intro g hg
    simp only [ITable.step, Option.some.injEq] at hg
    rw [← hg]
    exact groups_of_cacheOK t h

theorem step_rows (clear : Bool) (t : ITable) (op : IncOp) : (t.step clear op).rows = t.rows ++ insertedRows [op] := by
  cases op <;> simp [ITable.step, insertedRows]

theorem runInc_spec (ops : List IncOp) : ∀ (t : ITable), CacheOK t →
    (runInc true ops t).rows = t.rows ++ insertedRows ops ∧ (runInc true ops t).groups = runs (t.rows ++ insertedRows ops) := by
  induction ops with
  | nil => intro t h; simp [runInc, insertedRows, groups_of_cacheOK t h]
  | cons op ops ih =>
    intro t h
    obtain ⟨h1, h2⟩ := ih (t.step true op) (step_cacheOK t h op)
    simp only [runInc]
    rw [h1, h2, step_rows]
    cases op <;> simp [insertedRows]

end Coba.C18
