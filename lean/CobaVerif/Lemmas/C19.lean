/-
C19, the lock protocol of `ConcurrentCacher`: the local step relation `LStep` (the branches of `stepC` that are live under
the invariant), what one local step can do — to the program text, the with-stack, the operation in flight, the array,
the bookkeeping, the inner cache —, the inductive invariant `Inv` and how it reads an array cell (who holds the slot), what an
event says about the step that made it, the variant, and where cached values come from.
Facts about one state or one step are proved from `Inv`, not from reachability (a `_core` theorem is a theorem of Props in that
form), so that the repaired code and the file-level system, whose states are reached by other steps, use the same lemmas.
-/
import CobaVerif.Lemmas.C19Lists
import CobaVerif.Model.C19

namespace Coba.C19

/-! ### sums over the callers, updates of a map -/

theorem sumBy_eq_sum (f : Caller → Nat) (l : List Caller) : sumBy f l = (l.map f).sum := by
  induction l with
  | nil => rfl
  | cons a t ih => rw [sumBy, ih, List.map_cons, List.sum_cons]

theorem sumBy_set (f : Caller → Nat) (l : List Caller) (i : Nat) (c c' : Caller) (h : l[i]? = some c) :
    sumBy f (l.set i c') + f c = sumBy f l + f c' := by
  rw [sumBy_eq_sum, sumBy_eq_sum]; exact sum_map_set f l i c c' h

theorem sumBy_ge (f : Caller → Nat) (l : List Caller) (i : Nat) (c : Caller) (h : l[i]? = some c) : f c ≤ sumBy f l := by
  rw [sumBy_eq_sum]; exact sum_map_ge f l i c h

theorem sumBy_ge2 (f : Caller → Nat) : ∀ (l : List Caller) (i j : Nat) (c d : Caller),
    l[i]? = some c → l[j]? = some d → i ≠ j → f c + f d ≤ sumBy f l := by
  intro l
  induction l with
  | nil => intro i j c d h; cases h
  | cons a t ih =>
    intro i j c d hi hj hne
    simp only [sumBy]
    cases i with
    | zero =>
      cases j with
      | zero => exact absurd rfl hne
      | succ m => cases hi; have := sumBy_ge f t m d hj; omega
    | succ n =>
      cases j with
      | zero => cases hj; have := sumBy_ge f t n c hi; omega
      | succ m => have := ih n m c d hi hj (by omega); omega

theorem sumBy_zero (f : Caller → Nat) (l : List Caller) (h : ∀ c ∈ l, f c = 0) : sumBy f l = 0 := by
  rw [sumBy_eq_sum, List.sum_eq_zero_iff_forall_eq_nat]
  intro x hx
  obtain ⟨c, hc, rfl⟩ := List.mem_map.mp hx
  exact h c hc

theorem sumBy_pos (f : Caller → Nat) (l : List Caller) (h : 0 < sumBy f l) : ∃ c ∈ l, 0 < f c := by
  rw [sumBy_eq_sum, List.sum_pos_iff_exists_pos_nat] at h
  obtain ⟨x, hx, hpos⟩ := h
  obtain ⟨c, hc, rfl⟩ := List.mem_map.mp hx
  exact ⟨c, hc, hpos⟩

theorem upd_self {α} (f : Nat → α) (k : Nat) (v : α) : upd f k v k = v := if_pos rfl

theorem upd_ne {α} (f : Nat → α) {k x : Nat} (v : α) (h : x ≠ k) : upd f k v x = f x := if_neg h

/-! ### the local step relation -/

/-- one constructor per branch of `stepC` that a caller satisfying `bookOK`, `pcOK` and the cached-stack fact can take -/
inductive LStep (idx : Nat → Nat) (arr : Nat → Int) (cache : Nat → Option Nat) :
    Caller → Ev → (Nat → Int) → (Nat → Option Nat) → Caller → Prop
  | idle_gs {k g r rest stack book tn} :
      LStep idx arr cache ⟨.idle, .getSet k g :: r, rest, stack, book, tn⟩ .begin arr cache ⟨.gsAcqR k g, r, rest, stack, book, tn⟩
  | idle_exit_skip {r rest book tn} :
      LStep idx arr cache ⟨.idle, .exit :: r, rest, [], book, tn⟩ .skip arr cache ⟨.idle, r, rest, [], book, tn⟩
  | idle_exit {r rest j t book tn} :
      LStep idx arr cache ⟨.idle, .exit :: r, rest, j :: t, book, tn⟩ .begin arr cache ⟨.exRel, r, rest, j :: t, book, tn⟩
  | idle_raise {r rest stack book tn} :
      LStep idx arr cache ⟨.idle, .raise :: r, rest, stack, book, tn⟩ .raiseBody arr cache (toUnwind ⟨.idle, .raise :: r, rest, stack, book, tn⟩)
  | idle_rmv {k f o r rest stack book tn} :
      LStep idx arr cache ⟨.idle, .rmv k f o :: r, rest, stack, book, tn⟩ .begin arr cache ⟨.rmChk k f o, r, rest, stack, book, tn⟩
  | idle_close {rest j t book tn} :
      LStep idx arr cache ⟨.idle, [], rest, j :: t, book, tn⟩ .begin arr cache ⟨.exRel, [], rest, j :: t, book, tn⟩
  | idle_next {seg more book tn} :
      LStep idx arr cache ⟨.idle, [], seg :: more, [], book, tn⟩ .nextSeg arr cache ⟨.idle, seg, more, [], book, tn⟩
  | acqR_ok {k g cur rest stack book tn} : arr (idx k) ≥ 0 →
      LStep idx arr cache ⟨.gsAcqR k g, cur, rest, stack, book, tn⟩ (.acqR k) (upd arr (idx k) (arr (idx k) + 1)) cache
        ⟨.gsChk1 k g, cur, rest, stack, upd book k (book k + 1), tn⟩
  | acqR_spin {k g cur rest stack book tn} : ¬ arr (idx k) ≥ 0 →
      LStep idx arr cache ⟨.gsAcqR k g, cur, rest, stack, book, tn⟩ .spin arr cache ⟨.gsAcqR k g, cur, rest, stack, book, tn⟩
  | chk1_hit {k g v cur rest stack book tn} : cache k = some v →
      LStep idx arr cache ⟨.gsChk1 k g, cur, rest, stack, book, tn⟩ (.contains k true) arr cache ⟨.gsGet1 k, cur, rest, stack, book, tn⟩
  | chk1_miss {k g cur rest stack book tn} : cache k = none →
      LStep idx arr cache ⟨.gsChk1 k g, cur, rest, stack, book, tn⟩ (.contains k false) arr cache ⟨.gsRelR k g, cur, rest, stack, book, tn⟩
  | get1 {k v cur rest stack book tn} : cache k = some v →
      LStep idx arr cache ⟨.gsGet1 k, cur, rest, stack, book, tn⟩ (.cget k v) arr cache ⟨.gsEnter k v, cur, rest, stack, book, tn⟩
  | relR {k g cur rest stack book tn} : k ∉ stack →
      LStep idx arr cache ⟨.gsRelR k g, cur, rest, stack, book, tn⟩ (.relR k) (upd arr (idx k) (arr (idx k) - 1)) cache
        ⟨.gsAcqW k g, cur, rest, stack, upd book k (book k - 1), tn⟩
  | acqW_ok {k g cur rest stack book tn} : arr (idx k) = 0 →
      LStep idx arr cache ⟨.gsAcqW k g, cur, rest, stack, book, tn⟩ (.acqW k) (upd arr (idx k) (-1)) cache
        ⟨.gsChk2 k g, cur, rest, stack, upd book k (-1), tn⟩
  | acqW_spin {k g cur rest stack book tn} : ¬ arr (idx k) = 0 → (tn = false ∨ stack = []) →
      LStep idx arr cache ⟨.gsAcqW k g, cur, rest, stack, book, tn⟩ .spin arr cache ⟨.gsAcqW k g, cur, rest, stack, book, tn⟩
  | acqW_refuse {k g cur rest stack book} : ¬ arr (idx k) = 0 → stack ≠ [] →
      LStep idx arr cache ⟨.gsAcqW k g, cur, rest, stack, book, true⟩ (.refuse k) arr cache (toUnwind ⟨.gsAcqW k g, cur, rest, stack, book, true⟩)
  | chk2_hit {k g v cur rest stack book tn} : cache k = some v →
      LStep idx arr cache ⟨.gsChk2 k g, cur, rest, stack, book, tn⟩ (.contains k true) arr cache ⟨.gsSwA k, cur, rest, stack, book, tn⟩
  | chk2_miss {k g cur rest stack book tn} : cache k = none →
      LStep idx arr cache ⟨.gsChk2 k g, cur, rest, stack, book, tn⟩ (.contains k false) arr cache ⟨.gsPop k g, cur, rest, stack, book, tn⟩
  | swA {k cur rest stack book tn} :
      LStep idx arr cache ⟨.gsSwA k, cur, rest, stack, book, tn⟩ (.sw k) (upd arr (idx k) 1) cache ⟨.gsGet2 k, cur, rest, stack, upd book k 1, tn⟩
  | get2 {k v cur rest stack book tn} : cache k = some v →
      LStep idx arr cache ⟨.gsGet2 k, cur, rest, stack, book, tn⟩ (.cget k v) arr cache ⟨.gsEnter k v, cur, rest, stack, book, tn⟩
  | pop_create {k g cur rest stack book tn} :
      LStep idx arr cache ⟨.gsPop k g, cur, rest, stack, book, tn⟩ (.ccreate k) arr cache ⟨.gsPopW k g, cur, rest, stack, book, tn⟩
  | pop_ok {k v cur rest stack book tn} :
      LStep idx arr cache ⟨.gsPopW k (.ok v), cur, rest, stack, book, tn⟩ (.cpop k v) arr (upd cache k (some v)) ⟨.gsSwB k v, cur, rest, stack, book, tn⟩
  | pop_fail {k cur rest stack book tn} :
      LStep idx arr cache ⟨.gsPopW k .fail, cur, rest, stack, book, tn⟩ (.cpopFail k) arr cache ⟨.gsHRelW k, cur, rest, stack, book, tn⟩
  | swB {k v cur rest stack book tn} :
      LStep idx arr cache ⟨.gsSwB k v, cur, rest, stack, book, tn⟩ (.sw k) (upd arr (idx k) 1) cache ⟨.gsEnter k v, cur, rest, stack, upd book k 1, tn⟩
  | enter {k v cur rest stack book tn} :
      LStep idx arr cache ⟨.gsEnter k v, cur, rest, stack, book, tn⟩ (.enter k v) arr cache ⟨.idle, cur, rest, k :: stack, book, tn⟩
  | hrelW {k cur rest stack book tn} :
      LStep idx arr cache ⟨.gsHRelW k, cur, rest, stack, book, tn⟩ (.relW k) (upd arr (idx k) 0) cache
        (toUnwind ⟨.gsHRelW k, cur, rest, stack, upd book k 0, tn⟩)
  | exRel {k t cur rest book tn} :
      LStep idx arr cache ⟨.exRel, cur, rest, k :: t, book, tn⟩ (.relR k) (upd arr (idx k) (arr (idx k) - 1)) cache
        ⟨.idle, cur, rest, t, upd book k (book k - 1), tn⟩
  | rmChk_raise {k f o v cur rest stack book tn} : cache k = some v → k ∈ stack →
      LStep idx arr cache ⟨.rmChk k f o, cur, rest, stack, book, tn⟩ (.contains k true) arr cache (toUnwind ⟨.rmChk k f o, cur, rest, stack, book, tn⟩)
  | rmChk_go {k f o v cur rest stack book tn} : cache k = some v → k ∉ stack →
      LStep idx arr cache ⟨.rmChk k f o, cur, rest, stack, book, tn⟩ (.contains k true) arr cache ⟨.rmAcqW k f, cur, rest, stack, book, tn⟩
  | rmChk_absent {k f cur rest stack book tn} : cache k = none →
      LStep idx arr cache ⟨.rmChk k f false, cur, rest, stack, book, tn⟩ (.contains k false) arr cache ⟨.idle, cur, rest, stack, book, tn⟩
  | rmChk_seen {k f cur rest stack book tn} : cache k = none → k ∉ stack →
      LStep idx arr cache ⟨.rmChk k f true, cur, rest, stack, book, tn⟩ (.contains k true) arr cache ⟨.rmAcqW k f, cur, rest, stack, book, tn⟩
  | rmAcqW_ok {k f cur rest stack book tn} : arr (idx k) = 0 →
      LStep idx arr cache ⟨.rmAcqW k f, cur, rest, stack, book, tn⟩ (.acqW k) (upd arr (idx k) (-1)) cache
        ⟨.rmRemove k f, cur, rest, stack, upd book k (-1), tn⟩
  | rmAcqW_spin {k f cur rest stack book tn} : ¬ arr (idx k) = 0 → (tn = false ∨ stack = []) →
      LStep idx arr cache ⟨.rmAcqW k f, cur, rest, stack, book, tn⟩ .spin arr cache ⟨.rmAcqW k f, cur, rest, stack, book, tn⟩
  | rmAcqW_refuse {k f cur rest stack book} : ¬ arr (idx k) = 0 → stack ≠ [] →
      LStep idx arr cache ⟨.rmAcqW k f, cur, rest, stack, book, true⟩ (.refuse k) arr cache (toUnwind ⟨.rmAcqW k f, cur, rest, stack, book, true⟩)
  | rmRemove_fail {k cur rest stack book tn} :
      LStep idx arr cache ⟨.rmRemove k true, cur, rest, stack, book, tn⟩ (.crmvFail k) arr cache ⟨.rmHRelW k, cur, rest, stack, book, tn⟩
  | rmHRelW {k cur rest stack book tn} :
      LStep idx arr cache ⟨.rmHRelW k, cur, rest, stack, book, tn⟩ (.relW k) (upd arr (idx k) 0) cache
        (toUnwind ⟨.rmHRelW k, cur, rest, stack, upd book k 0, tn⟩)
  | rmRemove {k cur rest stack book tn} :
      LStep idx arr cache ⟨.rmRemove k false, cur, rest, stack, book, tn⟩ (.crmv k (cache k).isSome) arr (upd cache k none) ⟨.rmRelW k, cur, rest, stack, book, tn⟩
  | rmRelW {k cur rest stack book tn} :
      LStep idx arr cache ⟨.rmRelW k, cur, rest, stack, book, tn⟩ (.relW k) (upd arr (idx k) 0) cache ⟨.idle, cur, rest, stack, upd book k 0, tn⟩
  | unwind {k t rest book tn} :
      LStep idx arr cache ⟨.unwind, [], rest, k :: t, book, tn⟩ (.relR k) (upd arr (idx k) (arr (idx k) - 1)) cache
        (toUnwind ⟨.unwind, [], rest, t, upd book k (book k - 1), tn⟩)

theorem terminal_iff (c : Caller) : c.terminal = true ↔ c.pc = .idle ∧ c.cur = [] ∧ c.rest = [] ∧ c.stack = [] := by
  simp only [Caller.terminal, Bool.and_eq_true, beq_iff_eq, List.isEmpty_iff, and_assoc]

theorem terminal_pc {c : Caller} (h : c.terminal = true) : c.pc = .idle ∧ c.stack = [] :=
  ⟨((terminal_iff c).mp h).1, ((terminal_iff c).mp h).2.2.2⟩

theorem terminal_stepC_none {idx arr cache} {c : Caller} (ht : c.terminal = true) : stepC idx arr cache c = none := by
  rcases c with ⟨pc, cur, rest, stack, book, tn⟩
  obtain ⟨rfl, rfl, rfl, rfl⟩ := (terminal_iff _).mp ht
  rfl

theorem book_of_stack {pc : Pc} {cur rest stack book tn} (hb : bookOK ⟨pc, cur, rest, stack, book, tn⟩)
    (hr : pc.readKey = none) (hw : pc.writeKey = none) (k : Nat) : book k = (stack.count k : Int) := by
  have := hb k
  simp only [Caller.reads, hr, hw] at this
  simpa using this

/-- where `stepC` consults `_locks` (the handler of `get_set`, the refusal in `rmv`) the bookkeeping invariant says which way it
goes -/
theorem lstep_stepC {idx arr cache c ev a' ch' c'} (h : LStep idx arr cache c ev a' ch' c')
    (hb : bookOK c) (hp : pcOK cache c) : stepC idx arr cache c = some (ev, a', ch', c') := by
  induction h
  case acqR_ok hg => exact if_pos hg
  case acqR_spin hg => exact if_neg hg
  case chk1_hit hc | chk1_miss hc | get1 hc | chk2_hit hc | chk2_miss hc | get2 hc => simp only [stepC, hc]
  case rmChk_absent hc => simp [stepC, hc]
  case acqW_ok hg | rmAcqW_ok hg => simp only [stepC, hg, if_true]
  case acqW_spin hg ht | rmAcqW_spin hg ht =>
    simp only [stepC, if_neg hg]
    rcases ht with rfl | rfl <;> simp
  -- `_locks[k]` is 1 before the release (the key is not in the stack), so the handler branch is dead
  case relR k _ _ _ stack _ _ hk =>
    have := hb k
    simp only [Caller.reads, Pc.readKey, Pc.writeKey, Option.toList, List.singleton_append, List.count_cons_self,
      List.count_eq_zero_of_not_mem hk] at this
    simp [stepC, upd, this]
  -- `_locks[k]` is 0: the handler of the refused request releases nothing
  case acqW_refuse k _ _ _ stack _ hg hs =>
    have := book_of_stack hb rfl rfl k
    rw [List.count_eq_zero_of_not_mem hp] at this
    cases stack with
    | nil => exact absurd rfl hs
    | cons j t => simp [stepC, hg, toHandler, afterHRelR, this]
  -- `_locks[k]` is -1: the handler releases the write lock
  case pop_fail k _ _ _ _ _ =>
    have := hb k
    simp only [Pc.writeKey, if_true] at this
    simp [stepC, toHandler, afterHRelR, this]
  -- `rmv` raises iff `_locks[k]` is not 0, that is iff the caller reads `k`
  case rmChk_raise k _ _ _ _ _ stack book _ hc hk =>
    have := book_of_stack hb rfl rfl k
    have hne : book k ≠ 0 := fun h0 => by have := List.count_pos_iff.mpr hk; omega
    simp only [stepC, hc, if_pos hne]
  case rmChk_go k _ _ _ _ _ _ _ _ hc hk | rmChk_seen k _ _ _ _ _ _ hc hk =>
    have := book_of_stack hb rfl rfl k
    rw [List.count_eq_zero_of_not_mem hk] at this
    simp [stepC, hc, this]
  case rmAcqW_refuse stack _ hg hs =>
    cases stack with
    | nil => exact absurd rfl hs
    | cons j t => simp [stepC, hg]
  all_goals rfl

theorem LStep.ex {idx arr cache c ev a' ch' c'} (h : LStep idx arr cache c ev a' ch' c') :
    ∃ ev a' ch' c', LStep idx arr cache c ev a' ch' c' := ⟨_, _, _, _, h⟩

theorem lstep_total {idx arr cache} {c : Caller} (hp : pcOK cache c) (hs : ∀ k ∈ c.stack, (cache k).isSome)
    (hnt : c.terminal = false) : ∃ ev a' ch' c', LStep idx arr cache c ev a' ch' c' := by
  have huncached : ∀ k, cache k = none → k ∉ c.stack := fun k hc hm => by have := hs k hm; rw [hc] at this; cases this
  rcases c with ⟨pc, cur, rest, stack, book, tn⟩
  cases pc
  case idle =>
    cases cur with
    | cons ins r =>
      cases ins with
      | getSet k g => exact LStep.idle_gs.ex
      | exit => cases stack with
        | nil => exact LStep.idle_exit_skip.ex
        | cons j t => exact LStep.idle_exit.ex
      | raise => exact LStep.idle_raise.ex
      | rmv k f o => exact LStep.idle_rmv.ex
    | nil =>
      cases stack with
      | cons j t => exact LStep.idle_close.ex
      | nil => cases rest with
        | cons seg more => exact LStep.idle_next.ex
        | nil => cases hnt
  case gsAcqR k g =>
    by_cases hg : arr (idx k) ≥ 0
    · exact (LStep.acqR_ok hg).ex
    · exact (LStep.acqR_spin hg).ex
  case gsChk1 k g =>
    cases hc : cache k with
    | some v => exact (LStep.chk1_hit hc).ex
    | none => exact (LStep.chk1_miss hc).ex
  case gsGet1 k => obtain ⟨v, hc⟩ := Option.isSome_iff_exists.mp hp; exact (LStep.get1 hc).ex
  case gsRelR k g => exact (LStep.relR (huncached k hp)).ex
  case gsAcqW k g =>
    by_cases hg : arr (idx k) = 0
    · exact (LStep.acqW_ok hg).ex
    · cases tn with
      | false => exact (LStep.acqW_spin hg (Or.inl rfl)).ex
      | true => cases stack with
        | nil => exact (LStep.acqW_spin hg (Or.inr rfl)).ex
        | cons j t => exact (LStep.acqW_refuse hg (List.cons_ne_nil _ _)).ex
  case gsChk2 k g =>
    cases hc : cache k with
    | some v => exact (LStep.chk2_hit hc).ex
    | none => exact (LStep.chk2_miss hc).ex
  case gsSwA k => exact LStep.swA.ex
  case gsGet2 k => obtain ⟨v, hc⟩ := Option.isSome_iff_exists.mp hp; exact (LStep.get2 hc).ex
  case gsPop k g => exact LStep.pop_create.ex
  case gsPopW k g =>
    cases g with
    | ok v => exact LStep.pop_ok.ex
    | fail => exact LStep.pop_fail.ex
  case gsSwB k v => exact LStep.swB.ex
  case gsEnter k v => exact LStep.enter.ex
  case gsHRelR k => exact hp.elim
  case gsHRelW k => exact LStep.hrelW.ex
  case exRel =>
    cases stack with
    | nil => exact absurd rfl hp
    | cons j t => exact LStep.exRel.ex
  case rmChk k f o =>
    cases hc : cache k with
    | some v =>
      by_cases hk : k ∈ stack
      · exact (LStep.rmChk_raise hc hk).ex
      · exact (LStep.rmChk_go hc hk).ex
    | none =>
      cases o with
      | false => exact (LStep.rmChk_absent hc).ex
      | true => exact (LStep.rmChk_seen hc (huncached k hc)).ex
  case rmAcqW k f =>
    by_cases hg : arr (idx k) = 0
    · exact (LStep.rmAcqW_ok hg).ex
    · cases tn with
      | false => exact (LStep.rmAcqW_spin hg (Or.inl rfl)).ex
      | true => cases stack with
        | nil => exact (LStep.rmAcqW_spin hg (Or.inr rfl)).ex
        | cons j t => exact (LStep.rmAcqW_refuse hg (List.cons_ne_nil _ _)).ex
  case rmRemove k f =>
    cases f with
    | true => exact LStep.rmRemove_fail.ex
    | false => exact LStep.rmRemove.ex
  case rmRelW k => exact LStep.rmRelW.ex
  case rmHRelW k => exact LStep.rmHRelW.ex
  case unwind =>
    obtain ⟨h1, rfl⟩ := hp
    cases stack with
    | nil => exact absurd rfl h1
    | cons j t => exact LStep.unwind.ex

theorem stepC_sound {idx arr cache c ev a' ch' c'} (h : stepC idx arr cache c = some (ev, a', ch', c'))
    (hb : bookOK c) (hp : pcOK cache c) (hs : ∀ k ∈ c.stack, (cache k).isSome) :
    LStep idx arr cache c ev a' ch' c' := by
  have hnt : c.terminal = false := by
    cases ht : c.terminal with
    | false => rfl
    | true => rw [terminal_stepC_none ht] at h; cases h
  obtain ⟨ev1, a1, ch1, c1, hL⟩ := lstep_total (idx := idx) (arr := arr) hp hs hnt
  have := lstep_stepC hL hb hp
  rw [h] at this; cases this; exact hL

theorem toUnwind_eq (c : Caller) :
    toUnwind c = ⟨.idle, [], c.rest, c.stack, c.book, c.tn⟩ ∨ toUnwind c = ⟨.unwind, [], c.rest, c.stack, c.book, c.tn⟩ := by
  simp only [toUnwind]; split <;> simp

theorem lstep_tn {idx arr cache c ev a' ch' c'} (h : LStep idx arr cache c ev a' ch' c') : c'.tn = c.tn := by
  induction h <;> rfl

/-! ### what a local step can do to the program text, the with-stack and the operation in flight -/

/-- key of the operation in flight -/
def Pc.key? : Pc → Option Nat
  | .idle => none | .exRel => none | .unwind => none
  | .gsAcqR k _ => some k | .gsChk1 k _ => some k | .gsGet1 k => some k | .gsRelR k _ => some k | .gsAcqW k _ => some k
  | .gsChk2 k _ => some k | .gsSwA k => some k | .gsGet2 k => some k | .gsPop k _ => some k | .gsPopW k _ => some k
  | .gsSwB k _ => some k | .gsEnter k _ => some k | .gsHRelR k => some k | .gsHRelW k => some k
  | .rmChk k _ _ => some k | .rmAcqW k _ => some k | .rmRemove k _ => some k | .rmRelW k => some k | .rmHRelW k => some k

/-- whether the operation in flight is an `rmv`: `Pc.key?`, `Pc.isRmv` are to the program counter what `Instr.key?`, `Instr.isRmv`
are to the instruction it was fetched from (`lstep_op`) -/
def Pc.isRmv : Pc → Bool
  | .rmChk _ _ _ => true | .rmAcqW _ _ => true | .rmRemove _ _ => true | .rmRelW _ => true | .rmHRelW _ => true
  | _ => false

theorem toUnwind_key? (c : Caller) : (toUnwind c).pc.key? = none := by
  simp only [toUnwind]; split <;> rfl

theorem toUnwind_reads (c : Caller) : (toUnwind c).reads = c.stack := by
  rcases toUnwind_eq c with h | h <;> rw [h] <;> rfl

theorem toUnwind_writeKey (c : Caller) : (toUnwind c).pc.writeKey = none := by
  rcases toUnwind_eq c with h | h <;> rw [h] <;> rfl

theorem lstep_text {idx arr cache c ev a' ch' c'} (h : LStep idx arr cache c ev a' ch' c') :
    (c'.rest = c.rest ∧ c'.cur <:+ c.cur) ∨ c.rest = c'.cur :: c'.rest := by
  induction h
  case idle_next => exact Or.inr rfl
  case idle_gs | idle_exit_skip | idle_exit | idle_rmv => exact Or.inl ⟨rfl, List.suffix_cons _ _⟩
  case idle_raise | acqW_refuse | hrelW | rmChk_raise | rmAcqW_refuse | rmHRelW | unwind => exact Or.inl ⟨rfl, List.nil_suffix⟩
  all_goals exact Or.inl ⟨rfl, List.suffix_rfl⟩

theorem lstep_instrs {Q : Instr → Prop} {idx arr cache c ev a' ch' c'} (h : LStep idx arr cache c ev a' ch' c')
    (hcur : ∀ ins ∈ c.cur, Q ins) (hrest : ∀ seg ∈ c.rest, ∀ ins ∈ seg, Q ins) :
    (∀ ins ∈ c'.cur, Q ins) ∧ (∀ seg ∈ c'.rest, ∀ ins ∈ seg, Q ins) := by
  rcases lstep_text h with ⟨hr, hs⟩ | hr
  · exact ⟨fun ins hi => hcur ins (hs.subset hi), hr ▸ hrest⟩
  · exact ⟨hrest _ (hr ▸ List.mem_cons_self ..), fun seg hs => hrest seg (hr ▸ List.mem_cons_of_mem _ hs)⟩

theorem lstep_stack_mem {idx arr cache c ev a' ch' c'} (h : LStep idx arr cache c ev a' ch' c') :
    ∀ k ∈ c'.stack, k ∈ c.stack ∨ (c.pc.key? = some k ∧ c.pc.isRmv = false) := by
  induction h
  case enter => intro k hk; rcases List.mem_cons.mp hk with rfl | hk; exact Or.inr ⟨rfl, rfl⟩; exact Or.inl hk
  case exRel | unwind => exact fun k hk => Or.inl (List.mem_cons_of_mem _ hk)
  all_goals exact fun k hk => Or.inl hk

theorem lstep_op {idx arr cache c ev a' ch' c'} (h : LStep idx arr cache c ev a' ch' c') :
    c'.pc.key? = none ∨ (c'.pc.key? = c.pc.key? ∧ c'.pc.isRmv = c.pc.isRmv) ∨
      ∃ ins ∈ c.cur, c'.pc.key? = ins.key? ∧ c'.pc.isRmv = ins.isRmv := by
  induction h
  case idle_gs | idle_rmv => exact Or.inr (Or.inr ⟨_, List.mem_cons_self .., rfl, rfl⟩)
  case idle_raise | acqW_refuse | hrelW | rmChk_raise | rmAcqW_refuse | rmHRelW | unwind => exact Or.inl (toUnwind_key? _)
  case idle_exit_skip | idle_exit | idle_close | idle_next | enter | exRel | rmChk_absent | rmRelW => exact Or.inl rfl
  all_goals exact Or.inr (Or.inl ⟨rfl, rfl⟩)

/-- `Q isRmv key` of every operation the caller still mentions: in its program, in flight, or as an entered with-block
(always a `get_set`, hence `Q false`) -/
structure opsC (Q : Bool → Nat → Prop) (c : Caller) : Prop where
  cur : ∀ ins ∈ c.cur, ∀ k, ins.key? = some k → Q ins.isRmv k
  rest : ∀ seg ∈ c.rest, ∀ ins ∈ seg, ∀ k, ins.key? = some k → Q ins.isRmv k
  stack : ∀ k ∈ c.stack, Q false k
  pc : ∀ k, c.pc.key? = some k → Q c.pc.isRmv k

theorem lstep_ops {Q : Bool → Nat → Prop} {idx arr cache c ev a' ch' c'} (h : LStep idx arr cache c ev a' ch' c')
    (hc : opsC Q c) : opsC Q c' := by
  obtain ⟨hcur', hrest'⟩ := lstep_instrs (Q := fun ins => ∀ k, ins.key? = some k → Q ins.isRmv k) h hc.cur hc.rest
  refine ⟨hcur', hrest', fun k hk => ?_, fun k hk => ?_⟩
  · rcases lstep_stack_mem h k hk with hk | ⟨hk, hr⟩
    · exact hc.stack k hk
    · exact hr ▸ hc.pc k hk
  · rcases lstep_op h with hn | ⟨he, hr⟩ | ⟨ins, hi, he, hr⟩
    · rw [hn] at hk; cases hk
    · exact hr ▸ hc.pc k (he ▸ hk)
    · exact hr ▸ hc.cur ins hi k (he ▸ hk)

/-! ### the lock blocks: what they do to the array, to what the stepping caller holds and to its `_locks` -/

/-- what a local step does to the array, to the holds of the stepping caller (`reads`, `writeKey`) and to its `_locks`: nothing, or
one lock block on one key -/
inductive LockEff (idx : Nat → Nat) (arr a' : Nat → Int) (c c' : Caller) : Prop
  | neutral : a' = arr → c'.reads = c.reads → c'.pc.writeKey = c.pc.writeKey → c'.book = c.book → LockEff idx arr a' c c'
  | acqR (k : Nat) : arr (idx k) ≥ 0 → a' = upd arr (idx k) (arr (idx k) + 1) → c'.reads = k :: c.reads →
      c.pc.writeKey = none → c'.pc.writeKey = none → c'.book = upd c.book k (c.book k + 1) → LockEff idx arr a' c c'
  | relR (k : Nat) : a' = upd arr (idx k) (arr (idx k) - 1) → c.reads = k :: c'.reads →
      c.pc.writeKey = none → c'.pc.writeKey = none → c'.book = upd c.book k (c.book k - 1) → LockEff idx arr a' c c'
  | acqW (k : Nat) : arr (idx k) = 0 → a' = upd arr (idx k) (-1) → c'.reads = c.reads →
      c.pc.writeKey = none → c'.pc.writeKey = some k → c'.book = upd c.book k (-1) → LockEff idx arr a' c c'
  | relW (k : Nat) : a' = upd arr (idx k) 0 → c'.reads = c.reads →
      c.pc.writeKey = some k → c'.pc.writeKey = none → c'.book = upd c.book k 0 → LockEff idx arr a' c c'
  | sw (k : Nat) : a' = upd arr (idx k) 1 → c'.reads = k :: c.reads →
      c.pc.writeKey = some k → c'.pc.writeKey = none → c'.book = upd c.book k 1 → LockEff idx arr a' c c'

theorem lstep_lockEff {idx arr cache c ev a' ch' c'} (h : LStep idx arr cache c ev a' ch' c') :
    LockEff idx arr a' c c' := by
  induction h
  case acqR_ok hg => exact .acqR _ hg rfl rfl rfl rfl rfl
  case relR | exRel => exact .relR _ rfl rfl rfl rfl rfl
  case unwind => exact .relR _ rfl (by rw [toUnwind_reads]; rfl) rfl (toUnwind_writeKey _) rfl
  case acqW_ok hg | rmAcqW_ok hg => exact .acqW _ hg rfl rfl rfl rfl rfl
  case rmRelW => exact .relW _ rfl rfl rfl rfl rfl
  case hrelW | rmHRelW => exact .relW _ rfl (toUnwind_reads _) rfl (toUnwind_writeKey _) rfl
  case swA | swB => exact .sw _ rfl rfl rfl rfl rfl
  case idle_raise | acqW_refuse | rmChk_raise | rmAcqW_refuse =>
    exact .neutral rfl (toUnwind_reads _) (toUnwind_writeKey _) rfl
  all_goals exact .neutral rfl rfl rfl rfl

/-! #### `_locks`: the holds counted by key -/

theorem book_acqR {book : Nat → Int} {l : List Nat} (k : Nat) (h : ∀ k', book k' = (l.count k' : Int)) :
    ∀ k', upd book k (book k + 1) k' = ((k :: l).count k' : Int) := by
  intro k'
  by_cases hk : k' = k
  · subst hk; rw [upd_self, h, List.count_cons_self]; rfl
  · rw [upd_ne _ _ hk, h, List.count_cons_of_ne (Ne.symm hk)]

theorem book_relR {book : Nat → Int} {l : List Nat} (k : Nat) (h : ∀ k', book k' = ((k :: l).count k' : Int)) :
    ∀ k', upd book k (book k - 1) k' = (l.count k' : Int) := by
  intro k'
  by_cases hk : k' = k
  · subst hk; rw [upd_self, h, List.count_cons_self]; omega
  · rw [upd_ne _ _ hk, h, List.count_cons_of_ne (Ne.symm hk)]

theorem book_acqW {book : Nat → Int} {l : List Nat} (k : Nat) (h : ∀ k', book k' = (l.count k' : Int)) :
    ∀ k', upd book k (-1) k' = if some k = some k' then -1 else (l.count k' : Int) := by
  intro k'
  by_cases hk : k' = k
  · subst hk; rw [upd_self, if_pos rfl]
  · rw [upd_ne _ _ hk, h, if_neg (fun e => hk (Option.some.inj e).symm)]

theorem book_relW {book : Nat → Int} {l : List Nat} (k : Nat) (hk : k ∉ l)
    (h : ∀ k', book k' = if some k = some k' then -1 else (l.count k' : Int)) :
    ∀ k', upd book k 0 k' = (l.count k' : Int) := by
  intro k'
  by_cases hk' : k' = k
  · subst hk'; rw [upd_self, List.count_eq_zero_of_not_mem hk]; rfl
  · rw [upd_ne _ _ hk', h, if_neg (fun e => hk' (Option.some.inj e).symm)]

theorem book_sw {book : Nat → Int} {l : List Nat} (k : Nat) (hk : k ∉ l)
    (h : ∀ k', book k' = if some k = some k' then -1 else (l.count k' : Int)) :
    ∀ k', upd book k 1 k' = ((k :: l).count k' : Int) := by
  intro k'
  by_cases hk' : k' = k
  · subst hk'; rw [upd_self, List.count_cons_self, List.count_eq_zero_of_not_mem hk]; rfl
  · rw [upd_ne _ _ hk', h, if_neg (fun e => hk' (Option.some.inj e).symm), List.count_cons_of_ne (Ne.symm hk')]

theorem bookOK_of_none {c : Caller} (hw : c.pc.writeKey = none) : bookOK c ↔ ∀ k, c.book k = (c.reads.count k : Int) := by
  simp only [bookOK, hw, reduceCtorEq, if_false]

theorem bookOK_of_some {c : Caller} {k : Nat} (hw : c.pc.writeKey = some k) :
    bookOK c ↔ ∀ k', c.book k' = if some k = some k' then -1 else (c.reads.count k' : Int) := by
  simp only [bookOK, hw]

theorem lockEff_book {idx arr a' c c'} (he : LockEff idx arr a' c c') (hb : bookOK c)
    (hW : ∀ k, c.pc.writeKey = some k → k ∉ c.reads) : bookOK c' := by
  cases he with
  | neutral _ hr hw hbk => intro k; rw [hbk, hw, hr]; exact hb k
  | acqR k _ _ hr hw hw' hbk =>
    rw [bookOK_of_none hw', hbk, hr]; exact book_acqR k ((bookOK_of_none hw).mp hb)
  | relR k _ hr hw hw' hbk =>
    rw [bookOK_of_none hw', hbk]; exact book_relR k (hr ▸ (bookOK_of_none hw).mp hb)
  | acqW k _ _ hr hw hw' hbk =>
    rw [bookOK_of_some hw', hbk, hr]; exact book_acqW k ((bookOK_of_none hw).mp hb)
  | relW k _ hr hw hw' hbk =>
    rw [bookOK_of_none hw', hbk, hr]; exact book_relW k (hW k hw) ((bookOK_of_some hw).mp hb)
  | sw k _ hr hw hw' hbk =>
    rw [bookOK_of_none hw', hbk, hr]; exact book_sw k (hW k hw) ((bookOK_of_some hw).mp hb)

/-! #### `_array`: the holds counted by slot -/

/-- what a hold on a key of slot `j` counts at slot `i` -/
def holdAt (i j : Nat) : Nat := if j = i then 1 else 0

theorem holdAt_self (i : Nat) : holdAt i i = 1 := if_pos rfl

theorem holdAt_ne {i j : Nat} (h : j ≠ i) : holdAt i j = 0 := if_neg h

theorem rc_cons {idx : Nat → Nat} {c c' : Caller} {k : Nat} (h : c'.reads = k :: c.reads) (i : Nat) :
    c'.rc idx i = c.rc idx i + holdAt i (idx k) := by
  simp only [Caller.rc, h, List.countP_cons, holdAt, beq_iff_eq]

theorem rc_congr {idx : Nat → Nat} {c c' : Caller} (h : c'.reads = c.reads) (i : Nat) : c'.rc idx i = c.rc idx i := by
  simp only [Caller.rc, h]

theorem wc_none {idx : Nat → Nat} {c : Caller} (h : c.pc.writeKey = none) (i : Nat) : c.wc idx i = 0 := by
  simp only [Caller.wc, h]

theorem wc_some {idx : Nat → Nat} {c : Caller} {k : Nat} (h : c.pc.writeKey = some k) (i : Nat) :
    c.wc idx i = holdAt i (idx k) := by
  simp only [Caller.wc, h, holdAt]

theorem wc_congr {idx : Nat → Nat} {c c' : Caller} (h : c'.pc.writeKey = c.pc.writeKey) (i : Nat) :
    c'.wc idx i = c.wc idx i := by
  simp only [Caller.wc, h]

theorem rc_zero_iff (idx : Nat → Nat) (c : Caller) (i : Nat) : c.rc idx i = 0 ↔ ∀ k ∈ c.reads, idx k ≠ i := by
  simp [Caller.rc, List.countP_eq_zero]

theorem wc_one_of_writeKey (idx : Nat → Nat) (c : Caller) (k : Nat) (h : c.pc.writeKey = some k) : c.wc idx (idx k) = 1 := by
  simp [Caller.wc, h]

theorem wc_zero_iff (idx : Nat → Nat) (c : Caller) (i : Nat) : c.wc idx i = 0 ↔ ∀ k, c.pc.writeKey = some k → idx k ≠ i := by
  simp only [Caller.wc]
  cases c.pc.writeKey <;> simp

/-- what one lock block does to one cell of the array (`a` to `v`) and to the stepping caller's read / write holds on that
index (`r`, `w` to `r'`, `w'`) -/
inductive CellEff (r w r' w' : Nat) (a v : Int) : Prop
  | same : r' = r → w' = w → v = a → CellEff r w r' w' a v
  | acqR : a ≥ 0 → r' = r + 1 → w' = w → v = a + 1 → CellEff r w r' w' a v
  | relR : r = r' + 1 → w' = w → v = a - 1 → CellEff r w r' w' a v
  | acqW : a = 0 → r' = r → w' = w + 1 → v = -1 → CellEff r w r' w' a v
  | relW : r' = r → w = w' + 1 → v = 0 → CellEff r w r' w' a v
  | sw : r' = r + 1 → w = w' + 1 → v = 1 → CellEff r w r' w' a v

/-- `R`, `W` are the holds of all callers on the index, of which `r`, `w` are the stepping caller's -/
theorem cellOK_step {R W R' W' r w r' w' : Nat} {a v : Int}
    (h : (W = 0 ∧ a = R) ∨ (W = 1 ∧ R = 0 ∧ a = -1)) (hR : R' + r = R + r') (hW : W' + w = W + w')
    (he : CellEff r w r' w' a v) : (W' = 0 ∧ v = R') ∨ (W' = 1 ∧ R' = 0 ∧ v = -1) := by
  rcases h with ⟨rfl, rfl⟩ | ⟨rfl, rfl, rfl⟩
  · cases he with
    | same h1 h2 h3 | acqR _ h1 h2 h3 | relR h1 h2 h3 => subst h1 h2 h3; exact Or.inl (by omega)
    | acqW _ h1 h2 h3 => subst h1 h2 h3; exact Or.inr (by omega)
    | relW _ _ _ | sw _ _ _ => omega
  · cases he with
    | same h1 h2 h3 => subst h1 h2 h3; exact Or.inr (by omega)
    | relW h1 h2 h3 | sw h1 h2 h3 => subst h1 h2 h3; exact Or.inl (by omega)
    | acqR _ _ _ _ | relR _ _ _ | acqW _ _ _ _ => omega

/-- the `locks` component of `Inv` by itself: all that the lock blocks need to preserve it and all that the reading of a cell
(`writer_excl`, `cell_of_reader`, `holder_of_cell`, …) uses -/
def LocksOK (idx : Nat → Nat) (s : St) : Prop :=
  ∀ i, (s.W idx i = 0 ∧ s.arr i = (s.R idx i : Int)) ∨ (s.W idx i = 1 ∧ s.R idx i = 0 ∧ s.arr i = -1)

theorem Inv.locksOK {idx : Nat → Nat} {s : St} (h : Inv idx s) : LocksOK idx s := h.locks

theorem locks_preserved {idx : Nat → Nat} {s : St} {j : Nat} {c c' : Caller} {a' : Nat → Int} (ch' : Nat → Option Nat)
    (h1 : LocksOK idx s) (hj : s.cs[j]? = some c) (he : LockEff idx s.arr a' c c') :
    LocksOK idx { arr := a', cache := ch', cs := s.cs.set j c' } := by
  intro i
  refine cellOK_step (h1 i) (sumBy_set (fun c => c.rc idx i) s.cs j c c' hj) (sumBy_set (fun c => c.wc idx i) s.cs j c c' hj) ?_
  cases he with
  | neutral ha hr hw _ => exact .same (rc_congr hr i) (wc_congr hw i) (by rw [ha])
  | acqR k hg ha hr hw hw' _ =>
    subst ha
    by_cases hik : i = idx k
    · subst hik; exact .acqR hg (by rw [rc_cons hr, holdAt_self]) (by rw [wc_none hw, wc_none hw']) (upd_self ..)
    · exact .same (by rw [rc_cons hr, holdAt_ne (Ne.symm hik)]; rfl) (by rw [wc_none hw, wc_none hw']) (upd_ne _ _ hik)
  | relR k ha hr hw hw' _ =>
    subst ha
    by_cases hik : i = idx k
    · subst hik; exact .relR (by rw [rc_cons hr, holdAt_self]) (by rw [wc_none hw, wc_none hw']) (upd_self ..)
    · exact .same (by rw [rc_cons hr, holdAt_ne (Ne.symm hik)]; rfl) (by rw [wc_none hw, wc_none hw']) (upd_ne _ _ hik)
  | acqW k hg ha hr hw hw' _ =>
    subst ha
    by_cases hik : i = idx k
    · subst hik; exact .acqW hg (rc_congr hr _) (by rw [wc_none hw, wc_some hw', holdAt_self]) (upd_self ..)
    · exact .same (rc_congr hr i) (by rw [wc_none hw, wc_some hw', holdAt_ne (Ne.symm hik)]) (upd_ne _ _ hik)
  | relW k ha hr hw hw' _ =>
    subst ha
    by_cases hik : i = idx k
    · subst hik; exact .relW (rc_congr hr _) (by rw [wc_none hw', wc_some hw, holdAt_self]) (upd_self ..)
    · exact .same (rc_congr hr i) (by rw [wc_none hw', wc_some hw, holdAt_ne (Ne.symm hik)]) (upd_ne _ _ hik)
  | sw k ha hr hw hw' _ =>
    subst ha
    by_cases hik : i = idx k
    · subst hik; exact .sw (by rw [rc_cons hr, holdAt_self]) (by rw [wc_none hw', wc_some hw, holdAt_self]) (upd_self ..)
    · exact .same (by rw [rc_cons hr, holdAt_ne (Ne.symm hik)]; rfl) (by rw [wc_none hw', wc_some hw, holdAt_ne (Ne.symm hik)])
        (upd_ne _ _ hik)

/-! ### facts at program points, cached with-blocks, the inner cache -/

theorem pcOK_popW {cache : Nat → Option Nat} {c : Caller} {k : Nat} {g : Getter} (hp : pcOK cache c) (hpc : c.pc = .gsPopW k g) :
    cache k = none := by
  rw [pcOK, hpc] at hp; exact hp

theorem pcOK_toUnwind (ch : Nat → Option Nat) (c : Caller) : pcOK ch (toUnwind c) := by
  simp only [toUnwind]
  cases hst : c.stack <;> simp [pcOK]

theorem lstep_pcOK {idx arr cache c ev a' ch' c'} (h : LStep idx arr cache c ev a' ch' c')
    (hp : pcOK cache c) : pcOK ch' c' := by
  induction h
  case idle_raise | acqW_refuse | hrelW | rmChk_raise | rmAcqW_refuse | rmHRelW | unwind => exact pcOK_toUnwind _ _
  case chk1_hit hc | chk2_hit hc => exact Option.isSome_iff_exists.mpr ⟨_, hc⟩
  case get1 hc | get2 hc | chk1_miss hc | chk2_miss hc => exact hc
  case relR hk | rmChk_go hk | rmChk_seen hk => exact hk
  case idle_exit | idle_close => exact List.cons_ne_nil _ _
  case swA | pop_create | pop_fail | swB => exact hp
  case pop_ok => exact upd_self ..
  all_goals trivial

theorem lstep_stack {idx arr cache c ev a' ch' c'} (h : LStep idx arr cache c ev a' ch' c')
    (hp : pcOK cache c) (hs : ∀ k ∈ c.stack, (cache k).isSome)
    (hW : ∀ k, c.pc.writeKey = some k → k ∉ c.stack) : ∀ k ∈ c'.stack, (ch' k).isSome := by
  induction h
  case enter k v _ _ _ _ _ =>
    intro k' hk'
    rcases List.mem_cons.mp hk' with rfl | hk'
    · exact Option.isSome_iff_exists.mpr ⟨v, hp⟩
    · exact hs k' hk'
  case exRel | unwind => exact fun k hk => hs k (List.mem_cons_of_mem _ hk)
  case pop_ok k v _ _ _ _ _ =>
    intro k' hk'
    by_cases hk : k' = k
    · subst hk; rw [upd_self]; rfl
    · rw [upd_ne _ _ hk]; exact hs k' hk'
  case rmRemove k _ _ _ _ _ =>
    -- the remover holds the write lock of `k`, so `k` is in nobody's with-block, in particular not in its own
    intro k' hk'
    have hk : k' ≠ k := fun e => hW k rfl (e ▸ hk')
    rw [upd_ne _ _ hk]; exact hs k' hk'
  all_goals exact hs

theorem lstep_cache_cases {idx arr cache c ev a' ch' c'} (h : LStep idx arr cache c ev a' ch' c') :
    (ch' = cache ∧ (∀ k v, ev ≠ .cpop k v) ∧ ∀ k b, ev ≠ .crmv k b) ∨
    (∃ k v, ev = .cpop k v ∧ c.pc = .gsPopW k (.ok v) ∧ ch' = upd cache k (some v)) ∨
    (∃ k, ev = .crmv k (cache k).isSome ∧ c.pc = .rmRemove k false ∧ ch' = upd cache k none) := by
  induction h
  case pop_ok => exact Or.inr (Or.inl ⟨_, _, rfl, rfl, rfl⟩)
  case rmRemove => exact Or.inr (Or.inr ⟨_, rfl, rfl, rfl⟩)
  all_goals exact Or.inl ⟨rfl, fun _ _ h => Ev.noConfusion h, fun _ _ h => Ev.noConfusion h⟩

theorem pcOK_frame {cache ch' : Nat → Option Nat} {d : Caller}
    (hf : ∀ k, (k ∈ d.reads ∨ d.pc.writeKey = some k) → ch' k = cache k) (hp : pcOK cache d) : pcOK ch' d := by
  rcases d with ⟨pc, cur, rest, stack, book, tn⟩
  cases pc
  case gsGet1 k | gsRelR k _ | gsGet2 k | gsEnter k _ =>
    have e := hf k (Or.inl (List.mem_cons_self ..)); simp only [pcOK] at hp ⊢; rw [e]; exact hp
  case gsSwA k | gsPop k _ | gsPopW k _ | gsSwB k _ | gsHRelW k =>
    have e := hf k (Or.inr rfl); simp only [pcOK] at hp ⊢; rw [e]; exact hp
  all_goals exact hp

theorem stack_frame {cache ch' : Nat → Option Nat} {d : Caller}
    (hf : ∀ k, (k ∈ d.reads ∨ d.pc.writeKey = some k) → ch' k = cache k)
    (hs : ∀ k ∈ d.stack, (cache k).isSome) : ∀ k ∈ d.stack, (ch' k).isSome := by
  intro k hk
  rw [hf k (Or.inl (by simp [Caller.reads, hk]))]
  exact hs k hk

/-! ### the invariant -/

theorem writer_excl {idx : Nat → Nat} {s : St} (hl : LocksOK idx s) {i j : Nat} {c d : Caller} {k : Nat}
    (hi : s.cs[i]? = some c) (hw : c.pc.writeKey = some k) (hj : s.cs[j]? = some d) :
    (∀ k' ∈ d.reads, idx k' ≠ idx k) ∧ (j ≠ i → ∀ k', d.pc.writeKey = some k' → idx k' ≠ idx k) := by
  have h1 := wc_one_of_writeKey idx c k hw
  have gW := sumBy_ge (fun c => c.wc idx (idx k)) s.cs i c hi
  have gRd := sumBy_ge (fun c => c.rc idx (idx k)) s.cs j d hj
  have hk := hl (idx k)
  simp only [St.R, St.W] at hk
  refine ⟨(rc_zero_iff idx d (idx k)).mp (by omega), fun hji => ?_⟩
  have g2 := sumBy_ge2 (fun c => c.wc idx (idx k)) s.cs i j c d hi hj (Ne.symm hji)
  exact (wc_zero_iff idx d (idx k)).mp (by omega)

theorem step_iff {idx : Nat → Nat} {s s' : St} {i : Nat} {ev : Ev} :
    step idx s i = some (ev, s') ↔
      ∃ c a' ch' c', s.cs[i]? = some c ∧ stepC idx s.arr s.cache c = some (ev, a', ch', c') ∧
        s' = { arr := a', cache := ch', cs := s.cs.set i c' } := by
  simp only [step]
  cases hi : s.cs[i]? with
  | none => simp
  | some c =>
    cases hc : stepC idx s.arr s.cache c with
    | none => simp [hc]
    | some r =>
      obtain ⟨ev1, a', ch', c'⟩ := r
      simp only [hc, Option.some.injEq, Prod.mk.injEq]
      constructor
      · rintro ⟨rfl, rfl⟩; exact ⟨c, a', ch', c', rfl, hc, rfl⟩
      · rintro ⟨c2, a2, ch2, c2', h1, h2, h3⟩
        cases h1
        rw [hc] at h2
        simp only [Option.some.injEq, Prod.mk.injEq] at h2
        obtain ⟨rfl, rfl, rfl, rfl⟩ := h2
        exact ⟨rfl, h3.symm⟩

theorem step_iff_lstep {idx : Nat → Nat} {s s' : St} {i : Nat} {ev : Ev} (hI : Inv idx s) :
    step idx s i = some (ev, s') ↔
      ∃ c a' ch' c', s.cs[i]? = some c ∧ LStep idx s.arr s.cache c ev a' ch' c' ∧
        s' = { arr := a', cache := ch', cs := s.cs.set i c' } := by
  rw [step_iff]
  constructor
  · rintro ⟨c, a', ch', c', hi, hc, rfl⟩
    exact ⟨c, a', ch', c', hi, stepC_sound hc (hI.book i c hi) (hI.pc i c hi) (hI.stack i c hi), rfl⟩
  · rintro ⟨c, a', ch', c', hi, hL, rfl⟩
    exact ⟨c, a', ch', c', hi, lstep_stepC hL (hI.book i c hi) (hI.pc i c hi), rfl⟩

theorem step_lstep {idx : Nat → Nat} {s s' : St} {i : Nat} {ev : Ev} (hI : Inv idx s) (h : step idx s i = some (ev, s')) :
    ∃ c a' ch' c', s.cs[i]? = some c ∧ LStep idx s.arr s.cache c ev a' ch' c' ∧
      s' = { arr := a', cache := ch', cs := s.cs.set i c' } := (step_iff_lstep hI).mp h

theorem inv_step {idx : Nat → Nat} {s s' : St} {i : Nat} {ev : Ev} (hI : Inv idx s)
    (h : step idx s i = some (ev, s')) : Inv idx s' := by
  obtain ⟨c, a', ch', c', hi, hL, rfl⟩ := step_lstep hI h
  have hW : ∀ k, c.pc.writeKey = some k → k ∉ c.reads := fun k hw hm => (writer_excl hI.locksOK hi hw hi).1 k hm rfl
  -- the other callers hold no lock on the slot of a key whose entry changes, so what they know of the cache stays true
  have hframe : ∀ (j : Nat) (d : Caller), j ≠ i → s.cs[j]? = some d →
      ∀ k, (k ∈ d.reads ∨ d.pc.writeKey = some k) → ch' k = s.cache k := by
    intro j d hji hj k hk
    have hoff : ∀ kw, c.pc.writeKey = some kw → k ≠ kw := by
      rintro kw hkw rfl
      have hx := writer_excl hI.locksOK hi hkw hj
      exact hk.elim (fun hk => hx.1 k hk rfl) (fun hk => hx.2 hji k hk rfl)
    rcases lstep_cache_cases hL with ⟨he, _⟩ | ⟨kw, v, _, hpc, he⟩ | ⟨kw, _, hpc, he⟩
    · rw [he]
    · rw [he, upd_ne _ _ (hoff kw (by rw [hpc]; rfl))]
    · rw [he, upd_ne _ _ (hoff kw (by rw [hpc]; rfl))]
  refine ⟨locks_preserved ch' hI.locksOK hi (lstep_lockEff hL), ?_, ?_, ?_⟩ <;> intro j d hj <;>
    rcases getElem?_set_cases hj with ⟨_, rfl⟩ | ⟨hji, hj'⟩
  · exact lockEff_book (lstep_lockEff hL) (hI.book i c hi) hW
  · exact hI.book j d hj'
  · exact lstep_stack hL (hI.pc i c hi) (hI.stack i c hi) (fun k hw hm => hW k hw (List.mem_append_right _ hm))
  · exact stack_frame (hframe j d hji hj') (hI.stack j d hj')
  · exact lstep_pcOK hL (hI.pc i c hi)
  · exact pcOK_frame (hframe j d hji hj') (hI.pc j d hj')

theorem start_callers {tn : Bool} {progs : List (List (List Instr))} {j : Nat} {c : Caller}
    (hj : (progs.map (mkCallerT tn))[j]? = some c) : ∃ p ∈ progs, c = mkCallerT tn p := by
  obtain ⟨p, hp, rfl⟩ := List.mem_map.mp (List.mem_of_getElem? hj)
  exact ⟨p, hp, rfl⟩

theorem init_callers {progs : List (List (List Instr))} {j : Nat} {c : Caller} (hj : (init progs).cs[j]? = some c) :
    ∃ p ∈ progs, c = mkCaller p := start_callers hj

theorem inv_start (idx : Nat → Nat) (tn : Bool) (progs : List (List (List Instr))) :
    Inv idx { arr := fun _ => 0, cache := fun _ => none, cs := progs.map (mkCallerT tn) } := by
  refine ⟨fun i => Or.inl ⟨?_, ?_⟩, ?_, ?_, ?_⟩
  · exact sumBy_zero _ _ (fun c hc => by obtain ⟨p, _, rfl⟩ := List.mem_map.mp hc; rfl)
  · show (0 : Int) = ((sumBy _ _ : Nat) : Int)
    rw [sumBy_zero _ _ (fun c hc => by obtain ⟨p, _, rfl⟩ := List.mem_map.mp hc; rfl)]; rfl
  · intro j c hj; obtain ⟨p, _, rfl⟩ := start_callers hj; intro k; rfl
  · intro j c hj; obtain ⟨p, _, rfl⟩ := start_callers hj; exact fun _ hk => (List.not_mem_nil hk).elim
  · intro j c hj; obtain ⟨p, _, rfl⟩ := start_callers hj; trivial

theorem inv_init (idx : Nat → Nat) (progs : List (List (List Instr))) : Inv idx (init progs) := inv_start idx false progs

theorem inv_reachable {idx : Nat → Nat} {progs : List (List (List Instr))} {s : St}
    (h : Reachable idx progs s) : Inv idx s := by
  induction h with
  | init => exact inv_init idx progs
  | step _ hs ih => exact inv_step ih hs

/-! ### who holds a slot: from a holder to the cell and back -/

theorem cell_of_reader {idx : Nat → Nat} {s : St} (hl : LocksOK idx s) {j : Nat} {d : Caller} {x : Nat}
    (hj : s.cs[j]? = some d) (h : 0 < d.rc idx x) : s.arr x = (s.R idx x : Int) ∧ (d.rc idx x : Int) ≤ s.arr x := by
  have := sumBy_ge (fun c => c.rc idx x) s.cs j d hj
  rcases hl x with h1 | h1 <;> simp only [St.R] at h1 ⊢ <;> omega

theorem cell_of_writer {idx : Nat → Nat} {s : St} (hl : LocksOK idx s) {j : Nat} {d : Caller} {x : Nat}
    (hj : s.cs[j]? = some d) (h : 0 < d.wc idx x) : s.arr x = -1 := by
  have := sumBy_ge (fun c => c.wc idx x) s.cs j d hj
  rcases hl x with h1 | h1 <;> simp only [St.W] at h1 <;> omega

theorem holder_of_cell {idx : Nat → Nat} {s : St} (hl : LocksOK idx s) {x : Nat} (h : s.arr x ≠ 0) :
    ∃ (j : Nat) (d : Caller), s.cs[j]? = some d ∧ (0 < d.rc idx x ∨ 0 < d.wc idx x) := by
  rcases hl x with h1 | h1
  · obtain ⟨d, hd, hpos⟩ := sumBy_pos (fun c => c.rc idx x) s.cs (by simp only [St.R] at h1; omega)
    obtain ⟨j, hj⟩ := List.getElem?_of_mem hd
    exact ⟨j, d, hj, Or.inl hpos⟩
  · obtain ⟨d, hd, hpos⟩ := sumBy_pos (fun c => c.wc idx x) s.cs (by simp only [St.W] at h1; omega)
    obtain ⟨j, hj⟩ := List.getElem?_of_mem hd
    exact ⟨j, d, hj, Or.inr hpos⟩

theorem writer_of_cell {idx : Nat → Nat} {s : St} (hl : LocksOK idx s) {x : Nat} (h : s.arr x < 0) :
    ∃ (j : Nat) (d : Caller), s.cs[j]? = some d ∧ 0 < d.wc idx x := by
  obtain ⟨j, d, hj, hr | hw⟩ := holder_of_cell hl (x := x) (by omega)
  · have := (cell_of_reader hl hj hr).2; omega
  · exact ⟨j, d, hj, hw⟩

theorem holds_nothing {idx : Nat → Nat} {c : Caller} (hr : c.reads = []) (hw : c.pc.writeKey = none) (x : Nat) :
    c.rc idx x = 0 ∧ c.wc idx x = 0 := by
  rw [Caller.rc, hr]; exact ⟨rfl, wc_none hw x⟩

theorem terminal_holds {c : Caller} (ht : c.terminal = true) : c.reads = [] ∧ c.pc.writeKey = none := by
  rw [Caller.reads, (terminal_pc ht).1, (terminal_pc ht).2]; exact ⟨rfl, rfl⟩

theorem holder_not_terminal {idx : Nat → Nat} {d : Caller} {x : Nat} (h : 0 < d.rc idx x ∨ 0 < d.wc idx x) :
    d.terminal = false := by
  cases ht : d.terminal with
  | false => rfl
  | true => have := holds_nothing (idx := idx) (terminal_holds ht).1 (terminal_holds ht).2 x; omega

/-! ### from local steps to steps of the system -/

theorem step_callers {P : Caller → Prop} {idx : Nat → Nat} {s s' : St} {i : Nat} {ev : Ev} (hI : Inv idx s)
    (hstep : ∀ {arr cache c ev a' ch' c'}, LStep idx arr cache c ev a' ch' c' → P c → P c')
    (hP : ∀ (j : Nat) (c : Caller), s.cs[j]? = some c → P c)
    (h : step idx s i = some (ev, s')) : ∀ (j : Nat) (c : Caller), s'.cs[j]? = some c → P c := by
  obtain ⟨c, a', ch', c', hi, hL, rfl⟩ := step_lstep hI h
  intro j d hj
  rcases getElem?_set_cases hj with ⟨_, rfl⟩ | ⟨_, hj⟩
  · exact hstep hL (hP i c hi)
  · exact hP j d hj

theorem callers_reachable {P : Caller → Prop} {idx : Nat → Nat} {progs : List (List (List Instr))} {s : St}
    (h0 : ∀ p ∈ progs, P (mkCaller p))
    (hstep : ∀ {arr cache c ev a' ch' c'}, LStep idx arr cache c ev a' ch' c' → P c → P c')
    (h : Reachable idx progs s) : ∀ (j : Nat) (c : Caller), s.cs[j]? = some c → P c := by
  induction h with
  | init => intro j c hj; obtain ⟨p, hp, rfl⟩ := init_callers hj; exact h0 p hp
  | step hr hs ih => exact step_callers (inv_reachable hr) hstep ih hs

theorem ops_reachable {Q : Bool → Nat → Prop} {idx : Nat → Nat} {progs : List (List (List Instr))} {s : St}
    (hP : ∀ p ∈ progs, ∀ seg ∈ p, ∀ ins ∈ seg, ∀ k, ins.key? = some k → Q ins.isRmv k) (h : Reachable idx progs s) :
    ∀ (j : Nat) (c : Caller), s.cs[j]? = some c → opsC Q c :=
  callers_reachable (fun p hp => ⟨fun _ hi => (List.not_mem_nil hi).elim, hP p hp, fun _ hk => (List.not_mem_nil hk).elim,
    fun _ hk => by cases hk⟩) lstep_ops h

theorem reachable_run {idx : Nat → Nat} {progs : List (List (List Instr))} :
    ∀ (sched : List Nat) (s : St), Reachable idx progs s → Reachable idx progs (run idx s sched).1 := by
  intro sched
  induction sched with
  | nil => intro s h; exact h
  | cons i is ih =>
    intro s h
    simp only [run]
    cases hs : step idx s i with
    | none => simpa [hs] using ih s h
    | some r => obtain ⟨ev, s1⟩ := r; simpa [hs] using ih s1 (Reachable.step h hs)

/-! ### events -/

theorem lstep_cget {idx arr cache c k v a' ch' c'} (h : LStep idx arr cache c (.cget k v) a' ch' c') :
    k ∈ c.reads ∧ cache k = some v := by
  cases h with
  | get1 hc | get2 hc => exact ⟨List.mem_cons_self .., hc⟩

theorem lstep_enter {idx arr cache c k v a' ch' c'} (h : LStep idx arr cache c (.enter k v) a' ch' c') :
    c.pc = .gsEnter k v := by
  cases h; rfl

theorem lstep_cpopFail {idx arr cache c k a' ch' c'} (h : LStep idx arr cache c (.cpopFail k) a' ch' c') :
    c.pc = .gsPopW k .fail := by
  cases h; rfl

theorem lstep_crmvFail {idx arr cache c k a' ch' c'} (h : LStep idx arr cache c (.crmvFail k) a' ch' c') :
    c.pc = .rmRemove k true ∧ a' = arr := by
  cases h; exact ⟨rfl, rfl⟩

theorem lstep_balance {idx arr cache c ev a' ch' c'} (h : LStep idx arr cache c ev a' ch' c') (hp : pcOK cache c) (k : Nat) :
    evPop k ev + cachedN cache k = evRmv k ev + cachedN ch' k := by
  rcases lstep_cache_cases h with ⟨rfl, h1, h2⟩ | ⟨k0, v, rfl, hpc, rfl⟩ | ⟨k0, rfl, hpc, rfl⟩
  · cases ev <;> first | rfl | exact absurd rfl (h1 _ _) | exact absurd rfl (h2 _ _)
  · have hn := pcOK_popW hp hpc
    by_cases hk : k = k0
    · subst hk; simp only [evPop, evRmv, cachedN, upd_self, hn, if_pos]; rfl
    · simp only [evPop, evRmv, cachedN, upd_ne _ _ hk, if_neg (Ne.symm hk)]
  · by_cases hk : k = k0
    · subst hk; cases hc : cache k <;> simp [evPop, evRmv, cachedN, upd_self, hc]
    · cases hc : cache k0 <;> simp [evPop, evRmv, cachedN, upd_ne _ _ hk, Ne.symm hk]

/-- a step of caller `c` with event `ev` from `s` to `s'`: if `ev` is an operation of the inner cache, `c` holds the matching
lock of its key, and the cache is read or changed as the event says -/
structure OpUnderLock (s s' : St) (ev : Ev) (c : Caller) : Prop where
  cget : ∀ k v, ev = .cget k v → k ∈ c.reads ∧ s.cache k = some v
  enter : ∀ k v, ev = .enter k v → k ∈ c.reads ∧ s.cache k = some v
  cpop : ∀ k v, ev = .cpop k v → c.pc.writeKey = some k ∧ s.cache k = none ∧ s'.cache = upd s.cache k (some v)
  cpopFail : ∀ k, ev = .cpopFail k → c.pc.writeKey = some k ∧ s.cache k = none ∧ s'.cache = s.cache
  crmv : ∀ k b, ev = .crmv k b → c.pc.writeKey = some k ∧ b = (s.cache k).isSome ∧ s'.cache = upd s.cache k none

theorem step_opUnderLock {idx : Nat → Nat} {s s' : St} {i : Nat} {ev : Ev} (hI : Inv idx s)
    (h : step idx s i = some (ev, s')) : ∃ c, s.cs[i]? = some c ∧ OpUnderLock s s' ev c := by
  obtain ⟨c, a', ch', c', hi, hL, rfl⟩ := step_lstep hI h
  have hp := hI.pc i c hi
  have hch := lstep_cache_cases hL
  refine ⟨c, hi, ?_, ?_, ?_, ?_, ?_⟩
  · rintro k v rfl; exact lstep_cget hL
  · rintro k v rfl
    have hev := lstep_enter hL
    rw [pcOK, hev] at hp; exact ⟨by rw [Caller.reads, hev]; exact List.mem_cons_self .., hp⟩
  · rintro k v rfl
    rcases hch with ⟨_, h1, _⟩ | ⟨k0, v0, he, hpc, hc⟩ | ⟨_, he, _⟩
    · exact absurd rfl (h1 k v)
    · cases he; exact ⟨by rw [hpc]; rfl, pcOK_popW hp hpc, hc⟩
    · cases he
  · rintro k rfl
    have hev := lstep_cpopFail hL
    rcases hch with ⟨hc, _⟩ | ⟨_, _, he, _⟩ | ⟨_, he, _⟩
    · exact ⟨by rw [hev]; rfl, pcOK_popW hp hev, hc⟩
    · cases he
    · cases he
  · rintro k b rfl
    rcases hch with ⟨_, _, h2⟩ | ⟨_, _, he, _⟩ | ⟨k0, he, hpc, hc⟩
    · exact absurd rfl (h2 k b)
    · cases he
    · cases he; exact ⟨by rw [hpc]; rfl, rfl, hc⟩

theorem step_crmvFail {idx : Nat → Nat} {s s' : St} {i k : Nat} (hI : Inv idx s)
    (h : step idx s i = some (.crmvFail k, s')) :
    s'.cache = s.cache ∧ s'.arr = s.arr ∧ ∃ c, s.cs[i]? = some c ∧ c.pc.writeKey = some k := by
  obtain ⟨c, a', ch', c', hi, hL, rfl⟩ := step_lstep hI h
  obtain ⟨hpc, ha⟩ := lstep_crmvFail hL
  rcases lstep_cache_cases hL with ⟨hc, _⟩ | ⟨_, _, he, _⟩ | ⟨_, he, _⟩
  · exact ⟨hc, ha, c, hi, by rw [hpc]; rfl⟩
  · cases he
  · cases he

theorem step_balance {idx : Nat → Nat} {s s' : St} {i : Nat} {ev : Ev} (hI : Inv idx s)
    (h : step idx s i = some (ev, s')) (k : Nat) :
    evPop k ev + cachedN s.cache k = evRmv k ev + cachedN s'.cache k := by
  obtain ⟨c, a', ch', c', hi, hL, rfl⟩ := step_lstep hI h
  exact lstep_balance hL (hI.pc i c hi) k

theorem single_flight_run {idx : Nat → Nat} (k : Nat) :
    ∀ (sched : List Nat) (s : St), Inv idx s →
      popCount k (run idx s sched).2 + cachedN s.cache k =
        rmvCount k (run idx s sched).2 + cachedN (run idx s sched).1.cache k := by
  intro sched
  induction sched with
  | nil => intro s _; simp [run, popCount, rmvCount]
  | cons i is ih =>
    intro s hI
    simp only [run]
    cases hs : step idx s i with
    | none => simpa [hs] using ih s hI
    | some r =>
      obtain ⟨ev, s1⟩ := r
      have h1 := ih s1 (inv_step hI hs)
      have h2 := step_balance hI hs k
      simp only [popCount, rmvCount]
      omega

/-! ### progress, termination of a caller -/

theorem toUnwind_measure (c : Caller) : (toUnwind c).measure = 2 + restWeight c.rest + 3 * c.stack.length := by
  simp only [toUnwind]; split <;> simp [Caller.measure, Pc.rank]

/-- fetching an instruction takes 16 off the weight of `cur`; the program counter it leads to has less than 16 more of rank than
`idle` -/
theorem measure_fetch {pc : Pc} {ins : Instr} {r rest stack book tn} (hp : pc.rank < 18) :
    Caller.measure ⟨pc, r, rest, stack, book, tn⟩ < Caller.measure ⟨.idle, ins :: r, rest, stack, book, tn⟩ := by
  have : Pc.rank .idle = 2 := rfl
  simp only [Caller.measure, List.length_cons, this]; omega

theorem measure_toUnwind {c : Caller} (hp : 2 < c.pc.rank) : (toUnwind c).measure < c.measure := by
  rw [toUnwind_measure, Caller.measure]; omega

theorem lstep_measure {idx arr cache c ev a' ch' c'} (h : LStep idx arr cache c ev a' ch' c') :
    (ev ≠ .spin → c'.measure < c.measure) ∧ (ev = .spin → a' = arr ∧ ch' = cache ∧ c' = c) := by
  induction h
  case acqR_spin | acqW_spin | rmAcqW_spin => exact ⟨fun h => absurd rfl h, fun _ => ⟨rfl, rfl, rfl⟩⟩
  all_goals refine ⟨fun _ => ?_, fun h => Ev.noConfusion h⟩
  case idle_gs | idle_exit_skip | idle_exit | idle_rmv => exact measure_fetch (Nat.le_of_ble_eq_true rfl)
  case idle_next | enter | exRel =>
    dsimp only [Caller.measure, Pc.rank, restWeight, List.length_cons, List.length_nil]; omega
  case acqW_refuse | hrelW | rmChk_raise | rmAcqW_refuse | rmHRelW => exact measure_toUnwind (Nat.le_of_ble_eq_true rfl)
  -- `raise` and the handler start at rank 2 already: there an instruction goes, here a with-block is left
  case idle_raise | unwind =>
    rw [toUnwind_measure]; dsimp only [Caller.measure, Pc.rank, restWeight, List.length_cons, List.length_nil]; omega
  -- inside an operation only the rank of the program counter changes
  all_goals exact Nat.add_lt_add_right (Nat.add_lt_add_right (Nat.add_lt_add_right (Nat.le_of_ble_eq_true rfl) _) _) _

theorem progress_core {idx : Nat → Nat} {s s' : St} {i : Nat} {ev : Ev} (hI : Inv idx s)
    (h : step idx s i = some (ev, s')) :
    (ev ≠ .spin → s'.measure < s.measure) ∧ (ev = .spin → s' = s) := by
  obtain ⟨c, a', ch', c', hi, hL, rfl⟩ := step_lstep hI h
  have hm := lstep_measure hL
  constructor
  · intro hne
    have := hm.1 hne
    have hs := sumBy_set Caller.measure s.cs i c c' hi
    simp only [St.measure]
    omega
  · intro he
    obtain ⟨rfl, rfl, rfl⟩ := hm.2 he
    rw [set_getElem?_self hi]

theorem terminal_no_step {idx : Nat → Nat} {s : St} (ht : s.allTerminal = true) (i : Nat) : step idx s i = none := by
  simp only [step]
  cases hi : s.cs[i]? with
  | none => rfl
  | some c => simp only [terminal_stepC_none (List.all_eq_true.mp ht c (List.mem_of_getElem? hi))]

theorem no_stuck_core {idx : Nat → Nat} {s : St} (hI : Inv idx s) {i : Nat} {c : Caller}
    (hi : s.cs[i]? = some c) (hnt : c.terminal = false) : (step idx s i).isSome := by
  obtain ⟨ev, a', ch', c', hL⟩ := lstep_total (idx := idx) (arr := s.arr) (hI.pc i c hi) (hI.stack i c hi) hnt
  rw [(step_iff_lstep hI).mpr ⟨c, a', ch', c', hi, hL, rfl⟩]
  rfl

theorem locks_released_core {idx : Nat → Nat} {s : St} (hI : Inv idx s) (ht : s.allTerminal = true) :
    (∀ i, s.arr i = 0) ∧ ∀ (j : Nat) (c : Caller), s.cs[j]? = some c → ∀ k, c.book k = 0 := by
  have hterm : ∀ (j : Nat) (c : Caller), s.cs[j]? = some c → c.terminal = true := fun j c hj =>
    List.all_eq_true.mp ht c (List.mem_of_getElem? hj)
  constructor
  · intro i
    refine Classical.byContradiction (fun hne => ?_)
    obtain ⟨j, d, hj, hd⟩ := holder_of_cell hI.locksOK hne
    exact Bool.noConfusion ((holder_not_terminal hd).symm.trans (hterm j d hj))
  · intro j c hj k
    have hb := hI.book j c hj k
    obtain ⟨hr, hw⟩ := terminal_holds (hterm j c hj)
    rw [hw, hr] at hb; exact hb

/-! ### provenance of cached values -/

@[simp] theorem instrP_getSet (P : Nat → Nat → Prop) (k : Nat) (g : Getter) : instrP P (.getSet k g) = getterP P k g := by
  cases g <;> rfl

@[simp] theorem getterP_ok (P : Nat → Nat → Prop) (k v : Nat) : getterP P k (.ok v) = P k v := rfl

theorem prov_toUnwind (P : Nat → Nat → Prop) (c : Caller) (h : ∀ seg ∈ c.rest, ∀ ins ∈ seg, instrP P ins) :
    provC P (toUnwind c) := by
  rcases toUnwind_eq c with hu | hu <;> rw [hu] <;> simp [provC] <;> exact h

theorem lstep_prov {P : Nat → Nat → Prop} {idx arr cache c ev a' ch' c'} (h : LStep idx arr cache c ev a' ch' c')
    (hc : provC P c) (hch : ∀ k v, cache k = some v → P k v) :
    provC P c' ∧ (∀ k v, ch' k = some v → P k v) := by
  obtain ⟨hcur, hrest, hpc⟩ := hc
  obtain ⟨hcur', hrest'⟩ := lstep_instrs h hcur hrest
  induction h
  case idle_gs => exact ⟨⟨hcur', hrest', (instrP_getSet P _ _).mp (hcur _ (List.mem_cons_self ..))⟩, hch⟩
  case acqR_ok | acqR_spin | chk1_miss | relR | acqW_ok | acqW_spin | chk2_miss | pop_create =>
    exact ⟨⟨hcur', hrest', hpc⟩, hch⟩
  case pop_ok k v _ _ _ _ _ =>
    refine ⟨⟨hcur', hrest', hpc⟩, fun k' v' h' => ?_⟩
    by_cases hk : k' = k
    · subst hk; rw [upd_self] at h'; cases h'; exact hpc
    · rw [upd_ne _ _ hk] at h'; exact hch _ _ h'
  case rmRemove k _ _ _ _ _ =>
    refine ⟨⟨hcur', hrest', trivial⟩, fun k' v' h' => ?_⟩
    by_cases hk : k' = k
    · subst hk; rw [upd_self] at h'; cases h'
    · rw [upd_ne _ _ hk] at h'; exact hch _ _ h'
  case idle_raise | acqW_refuse | hrelW | rmChk_raise | rmAcqW_refuse | rmHRelW | unwind =>
    exact ⟨prov_toUnwind P _ hrest, hch⟩
  all_goals exact ⟨⟨hcur', hrest', trivial⟩, hch⟩

theorem prov_reachable {P : Nat → Nat → Prop} {idx : Nat → Nat} {progs : List (List (List Instr))} {s : St}
    (hP : ∀ p ∈ progs, ∀ seg ∈ p, ∀ ins ∈ seg, instrP P ins) (h : Reachable idx progs s) :
    (∀ (j : Nat) (c : Caller), s.cs[j]? = some c → provC P c) ∧ (∀ k v, s.cache k = some v → P k v) := by
  induction h with
  | init =>
    refine ⟨fun j c hj => ?_, fun k v hkv => nomatch hkv⟩
    obtain ⟨p, hpm, rfl⟩ := init_callers hj
    exact ⟨fun _ hi => (List.not_mem_nil hi).elim, hP p hpm, trivial⟩
  | step hr hs ih =>
    obtain ⟨c, a', ch', c', hi, hL, rfl⟩ := step_lstep (inv_reachable hr) hs
    have hp := lstep_prov hL (ih.1 _ c hi) ih.2
    refine ⟨fun j d hj => ?_, hp.2⟩
    rcases getElem?_set_cases hj with ⟨_, rfl⟩ | ⟨_, hj⟩
    · exact hp.1
    · exact ih.1 j d hj

end Coba.C19
