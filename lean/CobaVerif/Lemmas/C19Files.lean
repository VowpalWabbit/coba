/-
C19, the file-level system `DSt`, in which a DiskCacher write is split into open / chunk / close steps of the schedule: files
agree with the inner cache, the writer always has a step.
-/
import CobaVerif.Lemmas.C19

namespace Coba.C19

/-! ### lists -/

theorem prefix_next {w l : List Nat} (h : w.isPrefixOf l = true) (hne : w ≠ l) : ∃ b, (w ++ [b]).isPrefixOf l = true := by
  rw [List.isPrefixOf_iff_prefix] at h
  obtain ⟨t, rfl⟩ := h
  cases t with
  | nil => simp at hne
  | cons b t' => exact ⟨b, by rw [List.isPrefixOf_iff_prefix]; exact ⟨t', by simp⟩⟩

theorem prefix_length {w l : List Nat} (h : w.isPrefixOf l = true) : w.length ≤ l.length := by
  rw [List.isPrefixOf_iff_prefix] at h
  exact h.length_le

/-! ### the file-level system -/

theorem partialWriter_iff {s : St} {k : Nat} :
    partialWriter s k = true ↔ ∃ (i : Nat) (c : Caller) (g : Getter), s.cs[i]? = some c ∧ c.pc = .gsPopW k g := by
  simp only [partialWriter, List.any_eq_true]
  constructor
  · rintro ⟨c, hc, h⟩
    obtain ⟨i, hi⟩ := List.getElem?_of_mem hc
    cases hpc : c.pc <;> simp [hpc] at h
    subst h
    exact ⟨i, c, _, hi, hpc⟩
  · rintro ⟨i, c, g, hi, hpc⟩
    exact ⟨c, List.mem_of_getElem? hi, by simp [hpc]⟩

theorem lstep_popW {idx arr cache c ev a' ch' c'} (h : LStep idx arr cache c ev a' ch' c') :
    (∀ k g, c'.pc = .gsPopW k g → ev = .ccreate k) ∧
    (∀ k g, c.pc = .gsPopW k g → (∃ v, ev = .cpop k v) ∨ ev = .cpopFail k) := by
  induction h
  case idle_raise | acqW_refuse | hrelW | rmChk_raise | rmAcqW_refuse | rmHRelW | unwind =>
    refine ⟨fun k g hpc => ?_, fun k g hpc => (nomatch hpc)⟩
    rcases toUnwind_eq _ with hu | hu <;> rw [hu] at hpc <;> cases hpc
  case pop_create => exact ⟨fun _ _ hpc => by cases hpc; rfl, fun _ _ hpc => (nomatch hpc)⟩
  case pop_ok => exact ⟨fun _ _ hpc => (nomatch hpc), fun _ _ hpc => by cases hpc; exact Or.inl ⟨_, rfl⟩⟩
  case pop_fail => exact ⟨fun _ _ hpc => (nomatch hpc), fun _ _ hpc => by cases hpc; exact Or.inr rfl⟩
  all_goals exact ⟨fun _ _ hpc => (nomatch hpc), fun _ _ hpc => (nomatch hpc)⟩

theorem lstep_ccreate {idx arr cache c k a' ch' c'} (h : LStep idx arr cache c (.ccreate k) a' ch' c') :
    ∃ g, c.pc = .gsPop k g ∧ c'.pc = .gsPopW k g := by
  cases h; exact ⟨_, rfl, rfl⟩

theorem step_partialWriter {idx : Nat → Nat} {s s' : St} {i : Nat} {ev : Ev} (hI : Inv idx s)
    (h : step idx s i = some (ev, s')) (k : Nat) :
    (ev = .ccreate k → partialWriter s' k = true) ∧
    (partialWriter s' k = true → partialWriter s k = true ∨ ev = .ccreate k) ∧
    (partialWriter s k = true → partialWriter s' k = true ∨ (∃ v, ev = .cpop k v) ∨ ev = .cpopFail k) := by
  obtain ⟨c, a', ch', c', hi, hL, rfl⟩ := step_lstep hI h
  have hp := lstep_popW hL
  have hlen : i < s.cs.length := (List.getElem?_eq_some_iff.mp hi).1
  refine ⟨?_, ?_, ?_⟩
  · rintro rfl
    obtain ⟨g, _, hg⟩ := lstep_ccreate hL
    exact partialWriter_iff.mpr ⟨i, c', g, List.getElem?_set_self hlen, hg⟩
  · intro hw
    obtain ⟨j, d, g, hj, hd⟩ := partialWriter_iff.mp hw
    rcases getElem?_set_cases hj with ⟨_, rfl⟩ | ⟨_, hj'⟩
    · exact Or.inr (hp.1 k g hd)
    · exact Or.inl (partialWriter_iff.mpr ⟨j, d, g, hj', hd⟩)
  · intro hw
    obtain ⟨j, d, g, hj, hd⟩ := partialWriter_iff.mp hw
    by_cases hji : j = i
    · subst hji
      rw [hi] at hj; cases hj
      exact Or.inr (hp.2 k g hd)
    · exact Or.inl (partialWriter_iff.mpr ⟨j, d, g, by rw [List.getElem?_set_ne (fun e => hji e.symm)]; exact hj, hd⟩)

theorem step_cache_frame {idx : Nat → Nat} {s s' : St} {i : Nat} {ev : Ev} (hI : Inv idx s)
    (h : step idx s i = some (ev, s')) (k : Nat) (h1 : ∀ v, ev ≠ .cpop k v) (h2 : ∀ b, ev ≠ .crmv k b) :
    s'.cache k = s.cache k := by
  obtain ⟨c, a', ch', c', hi, hL, rfl⟩ := step_lstep hI h
  rcases lstep_cache_cases hL with ⟨he, _⟩ | ⟨k0, v, rfl, _, he⟩ | ⟨k0, rfl, _, he⟩
  · exact congrFun he k
  · subst he; exact upd_ne _ _ (fun e => h1 v (by rw [e]))
  · subst he; exact upd_ne _ _ (fun e => h2 _ (by rw [e]))

theorem ccreate_uncached {idx : Nat → Nat} {s s' : St} {i : Nat} {k : Nat} (hI : Inv idx s)
    (h : step idx s i = some (.ccreate k, s')) : s.cache k = none := by
  obtain ⟨c, a', ch', c', hi, hL, rfl⟩ := step_lstep hI h
  obtain ⟨g, hpc, _⟩ := lstep_ccreate hL
  have := hI.pc i c hi
  rw [pcOK, hpc] at this
  exact this

theorem dstep_write_facts {enc : Nat → List Nat} {idx : Nat → Nat} {s s' : DSt} {i : Nat} {a : DAct} {ev : DEv}
    (ha : a ≠ .base) (hs : dstep enc idx s i a = some (ev, s')) :
    ∃ c k g w f', s.base.cs[i]? = some c ∧ c.pc = .gsPopW k g ∧ s.file k = .opened w ∧
      s' = { base := s.base, file := upd s.file k f' } ∧
      ((∃ b, a = .chunk b ∧ ev = .chunk k b ∧ chunkOk enc g w b = true ∧ f' = .opened (w ++ [b])) ∨
       (a = .close ∧ ev = .close k ∧ closeOk enc g w = true ∧ f' = .closed w)) := by
  cases a with
  | base => exact absurd rfl ha
  | chunk b | close =>
    simp only [dstep] at hs
    cases hc : s.base.cs[i]? with
    | none => simp [hc] at hs
    | some c =>
      simp only [hc] at hs
      cases hpc : c.pc <;> simp [hpc] at hs
      rename_i k g
      cases hf : s.file k <;> simp [hf] at hs
      rename_i w
      obtain ⟨hok, rfl, rfl⟩ := hs
      exact ⟨c, k, g, w, _, rfl, hpc, hf, rfl, by simp [hok]⟩

theorem dstep_write_left {enc : Nat → List Nat} {idx : Nat → Nat} {s s' : DSt} {i : Nat} {a : DAct} {ev : DEv}
    (ha : a ≠ .base) (hs : dstep enc idx s i a = some (ev, s')) :
    s'.base = s.base ∧
      ∀ c k v, s.base.cs[i]? = some c → c.pc = .gsPopW k (.ok v) → writeLeft enc s' i < writeLeft enc s i := by
  obtain ⟨c, k, g, w, f', hi, hpc, hf, rfl, hcase⟩ := dstep_write_facts ha hs
  refine ⟨rfl, ?_⟩
  intro c0 k0 v hi0 hpc0
  rw [hi] at hi0; cases hi0
  rw [hpc] at hpc0; cases hpc0
  simp only [writeLeft, hi, hpc, hf, upd, if_true]
  rcases hcase with ⟨b, _, _, hok, rfl⟩ | ⟨_, _, hok, rfl⟩
  · have := prefix_length (by simpa [chunkOk] using hok : (w ++ [b]).isPrefixOf (enc v) = true)
    simp at this ⊢; omega
  · simp [closeOk] at hok; subst hok; simp

theorem dstep_base_facts {enc : Nat → List Nat} {idx : Nat → Nat} {s s' : DSt} {i : Nat} {ev : DEv}
    (hs : dstep enc idx s i .base = some (ev, s')) :
    ∃ e b', step idx s.base i = some (e, b') ∧ baseOk enc s.file e = true ∧ ev = .base e (obsOf s.file e) ∧
      s' = { base := b', file := fileAfter s.file e } := by
  simp only [dstep] at hs
  cases hb : step idx s.base i with
  | none => simp [hb] at hs
  | some r =>
    obtain ⟨e, b'⟩ := r
    simp only [hb] at hs
    split at hs
    · rename_i hok
      simp at hs; obtain ⟨rfl, rfl⟩ := hs
      exact ⟨e, b', rfl, hok, rfl, rfl⟩
    · simp at hs

theorem dstep_base {enc : Nat → List Nat} {idx : Nat → Nat} {s : DSt} {i : Nat} {ev : Ev} {b' : St}
    (hb : step idx s.base i = some (ev, b')) (hok : baseOk enc s.file ev = true) :
    dstep enc idx s i .base = some (.base ev (obsOf s.file ev), { base := b', file := fileAfter s.file ev }) := by
  simp only [dstep, hb, hok, if_true]

theorem dreachable_base {enc : Nat → List Nat} {idx : Nat → Nat} {progs : List (List (List Instr))} {s : DSt}
    (h : DReachable enc idx progs s) : Reachable idx progs s.base := by
  induction h with
  | init => exact Reachable.init
  | step hr hs ih =>
    rename_i s s' i a ev
    by_cases ha : a = .base
    · subst ha
      obtain ⟨e, b', hb, _, _, rfl⟩ := dstep_base_facts hs
      exact Reachable.step ih hb
    · obtain ⟨_, _, _, _, _, _, _, _, rfl, _⟩ := dstep_write_facts ha hs
      exact ih

theorem fileAfter_frame (file : Nat → FileSt) {e : Ev} {k : Nat}
    (h1 : e ≠ .ccreate k) (h2 : e ≠ .cpopFail k) (h3 : ∀ b, e ≠ .crmv k b) : fileAfter file e k = file k := by
  cases e
  case ccreate k' => exact upd_ne _ _ (fun h => h1 (h ▸ rfl))
  case cpopFail k' => exact upd_ne _ _ (fun h => h2 (h ▸ rfl))
  case crmv k' b => exact upd_ne _ _ (fun h => h3 b (h ▸ rfl))
  all_goals rfl

theorem dinv_step {enc : Nat → List Nat} {idx : Nat → Nat} {s s' : DSt} {i : Nat} {a : DAct} {ev : DEv}
    (hI : Inv idx s.base) (hD : DInv enc s) (hs : dstep enc idx s i a = some (ev, s')) : DInv enc s' := by
  by_cases ha : a = .base
  · subst ha
    obtain ⟨e, b', hb, hok, rfl, rfl⟩ := dstep_base_facts hs
    obtain ⟨c, hi, hf⟩ := step_opUnderLock hI hb
    intro k
    have hpw := step_partialWriter hI hb k
    have hD' := hD k
    by_cases e1 : ∃ v, e = .cpop k v
    · obtain ⟨v, rfl⟩ := e1
      obtain ⟨_, _, hcache⟩ := hf.cpop k v rfl
      simp [baseOk] at hok
      simp [hcache, upd, fileAfter, hok]
    by_cases e2 : ∃ b, e = .crmv k b
    · obtain ⟨b, rfl⟩ := e2
      obtain ⟨_, _, hcache⟩ := hf.crmv k b rfl
      simp [hcache, upd, fileAfter]
    by_cases e3 : e = .cpopFail k
    · subst e3
      obtain ⟨_, huncached, hcache⟩ := hf.cpopFail k rfl
      simp [hcache, huncached, fileAfter, upd]
    by_cases e4 : e = .ccreate k
    · subst e4
      -- `k` stays uncached and now has a writer: neither half of `DInv` has its premise
      have hc := ccreate_uncached hI hb
      have hcf := step_cache_frame hI hb k (by simp) (by simp)
      simp [hcf, hc, hpw.1 rfl]
    -- no event on key k: cache k and file k unchanged
    have hcf := step_cache_frame hI hb k (fun v h => e1 ⟨v, h⟩) (fun b h => e2 ⟨b, h⟩)
    simp only [hcf, fileAfter_frame s.file e4 e3 (fun b h => e2 ⟨b, h⟩)]
    refine ⟨hD'.1, fun hn hp' => hD'.2 hn ?_⟩
    cases hp : partialWriter s.base k with
    | false => rfl
    | true =>
      rcases hpw.2.2 hp with h | ⟨v, h⟩ | h
      · rw [h] at hp'; cases hp'
      · exact absurd ⟨v, h⟩ e1
      · exact absurd h e3
  · obtain ⟨c, k, g, w, f', hi, hpc, hf, rfl, _⟩ := dstep_write_facts ha hs
    have hck : s.base.cache k = none := pcOK_popW (hI.pc i c hi) hpc
    have hpwk : partialWriter s.base k = true := partialWriter_iff.mpr ⟨i, c, g, hi, hpc⟩
    intro k'
    by_cases hk : k' = k
    · subst hk; simp [hck, hpwk]
    · simpa [upd, hk] using hD k'

theorem dinv_reachable {enc : Nat → List Nat} {idx : Nat → Nat} {progs : List (List (List Instr))} {s : DSt}
    (h : DReachable enc idx progs s) : DInv enc s := by
  induction h with
  | init => exact fun k => ⟨fun v hv => (nomatch hv), fun _ _ => rfl⟩
  | step hr hs ih => exact dinv_step (inv_reachable (dreachable_base hr)) ih hs

/-- the writer invariant of the file-level system: while a successful getter's entry is being written its file is open with a
prefix of the entry's chunks, or already closed with all of them -/
def WInv (enc : Nat → List Nat) (s : DSt) : Prop :=
  ∀ (j : Nat) (c : Caller) (k v : Nat), s.base.cs[j]? = some c → c.pc = .gsPopW k (.ok v) →
    (∃ w, s.file k = .opened w ∧ w.isPrefixOf (enc v) = true) ∨ s.file k = .closed (enc v)

theorem lstep_file_frame {idx arr cache c ev a' ch' c'} (h : LStep idx arr cache c ev a' ch' c') (file : Nat → FileSt) (k : Nat)
    (hk : c.pc.writeKey ≠ some k) : fileAfter file ev k = file k := by
  induction h
  case pop_create | pop_fail | rmRemove => exact upd_ne _ _ (fun e => hk (e ▸ rfl))
  all_goals rfl

theorem winv_step {enc : Nat → List Nat} {idx : Nat → Nat} {s s' : DSt} {i : Nat} {a : DAct} {ev : DEv}
    (hI : Inv idx s.base) (hW : WInv enc s) (hs : dstep enc idx s i a = some (ev, s')) : WInv enc s' := by
  by_cases ha : a = .base
  · subst ha
    obtain ⟨e, b', hb, hok, rfl, rfl⟩ := dstep_base_facts hs
    obtain ⟨c, a', ch', c', hi, hL, rfl⟩ := step_lstep hI hb
    intro j d k v hj hpc
    simp only at hj ⊢
    rcases getElem?_set_cases hj with ⟨rfl, rfl⟩ | ⟨hne, hj0⟩
    · have := (lstep_popW hL).1 k _ hpc
      subst this
      exact Or.inl ⟨[], by simp [fileAfter, upd], by simp [List.isPrefixOf]⟩
    · have hne' : c.pc.writeKey ≠ some k := fun hw =>
        (writer_excl hI.locksOK hj0 (k := k) (by rw [hpc]; rfl) hi).2 (Ne.symm hne) k hw rfl
      rw [lstep_file_frame hL s.file k hne']
      exact hW j d k v hj0 hpc
  · obtain ⟨c, k0, g, w, f', hi, hpc0, hf, rfl, hcase⟩ := dstep_write_facts ha hs
    intro j d k v hj hpc
    simp only at hj ⊢
    by_cases hk : k = k0
    · subst hk
      have hji : j = i := by
        refine Classical.byContradiction (fun hne => ?_)
        exact (writer_excl hI.locksOK hj (k := k) (by rw [hpc]; rfl) hi).2 (Ne.symm hne) k (by rw [hpc0]; rfl) rfl
      subst hji
      rw [hi] at hj; cases hj
      rw [hpc0] at hpc; cases hpc
      simp only [upd, if_true]
      rcases hcase with ⟨b, _, _, hok, rfl⟩ | ⟨_, _, hok, rfl⟩
      · exact Or.inl ⟨_, rfl, by simpa [chunkOk] using hok⟩
      · right; simp [closeOk] at hok; rw [hok]
    · simp only [upd, hk, if_false]
      exact hW j d k v hj hpc

theorem winv_reachable {enc : Nat → List Nat} {idx : Nat → Nat} {progs : List (List (List Instr))} {s : DSt}
    (h : DReachable enc idx progs s) : WInv enc s := by
  induction h with
  | init =>
    intro j c k v hj hpc
    obtain ⟨p, _, rfl⟩ := init_callers hj
    cases hpc
  | step hr hs ih => exact winv_step (inv_reachable (dreachable_base hr)) ih hs

theorem writer_enabled {enc : Nat → List Nat} {idx : Nat → Nat} {progs : List (List (List Instr))} {s : DSt}
    {i : Nat} {c : Caller} {k : Nat} {g : Getter} (h : DReachable enc idx progs s)
    (hi : s.base.cs[i]? = some c) (hpc : c.pc = .gsPopW k g) :
    ∃ a ev s', dstep enc idx s i a = some (ev, s') ∧ (∀ e o, ev = .base e o → e ≠ .spin) := by
  have hI := inv_reachable (dreachable_base h)
  rcases c with ⟨pc, cur, rest, stack, book, tn⟩
  simp only at hpc; subst hpc
  have base : ∀ {e a' ch' c'}, LStep idx s.base.arr s.base.cache ⟨.gsPopW k g, cur, rest, stack, book, tn⟩ e a' ch' c' →
      baseOk enc s.file e = true → e ≠ .spin →
      ∃ a ev s', dstep enc idx s i a = some (ev, s') ∧ (∀ e o, ev = .base e o → e ≠ .spin) := fun hL hok hne =>
    ⟨.base, _, _, dstep_base ((step_iff_lstep hI).mpr ⟨_, _, _, _, hi, hL, rfl⟩) hok, fun _ _ he => by cases he; exact hne⟩
  cases g with
  | fail => exact base .pop_fail rfl Ev.noConfusion
  | ok v =>
    rcases winv_reachable h i _ k v hi rfl with ⟨w, hf, hp⟩ | hf
    · by_cases hw : w = enc v
      · refine ⟨.close, _, _, by simp [dstep, hi, hf, closeOk, hw]; exact ⟨rfl, rfl⟩, by simp⟩
      · obtain ⟨b, hb⟩ := prefix_next hp hw
        refine ⟨.chunk b, _, _, by simp [dstep, hi, hf, chunkOk, hb]; exact ⟨rfl, rfl⟩, by simp⟩
    · exact base .pop_ok (by simp [baseOk, hf]) Ev.noConfusion

theorem lstep_baseOk {idx arr cache c ev a' ch' c'} (h : LStep idx arr cache c ev a' ch' c') (enc : Nat → List Nat)
    (file : Nat → FileSt) (hpc : ∀ k g, c.pc ≠ .gsPopW k g) : baseOk enc file ev = true := by
  induction h
  case pop_ok => exact absurd rfl (hpc _ _)
  all_goals rfl

/-- the writer of an entry writes on, everybody else takes the protocol step -/
theorem dstep_lift {enc : Nat → List Nat} {idx : Nat → Nat} {progs : List (List (List Instr))} {s : DSt} {i : Nat} {ev : Ev}
    {b' : St} (h : DReachable enc idx progs s) (hb : step idx s.base i = some (ev, b')) :
    ∃ a dev s', dstep enc idx s i a = some (dev, s') ∧ ∀ e o, dev = .base e o → e = .spin → ev = .spin := by
  obtain ⟨c, _, _, _, hi, hL, _⟩ := step_lstep (inv_reachable (dreachable_base h)) hb
  by_cases hpc : ∃ k g, c.pc = .gsPopW k g
  · obtain ⟨k, g, hpc⟩ := hpc
    obtain ⟨a, dev, s', hs, hns⟩ := writer_enabled h hi hpc
    exact ⟨a, dev, s', hs, fun e o he hsp => absurd hsp (hns e o he)⟩
  · exact ⟨.base, _, _, dstep_base hb (lstep_baseOk hL enc s.file (fun k g e => hpc ⟨k, g, e⟩)),
      fun e o he hsp => by cases he; exact hsp⟩

theorem dstep_lift_nonspin {enc : Nat → List Nat} {idx : Nat → Nat} {progs : List (List (List Instr))} {s : DSt}
    (h : DReachable enc idx progs s) (hstep : ∃ i ev s', step idx s.base i = some (ev, s') ∧ ev ≠ .spin) :
    ∃ i a ev s', dstep enc idx s i a = some (ev, s') ∧ (∀ e o, ev = .base e o → e ≠ .spin) := by
  obtain ⟨i, ev, b', hb, hne⟩ := hstep
  obtain ⟨a, dev, s', hs, hsp⟩ := dstep_lift h hb
  exact ⟨i, a, dev, s', hs, fun e o he hse => hne (hsp e o he hse)⟩

/-! ### programs and schedules of the examples -/

def seenProgs : List (List (List Instr)) := [[[.getSet 0 (.ok 1)]], [[.rmv 0 false true]]]

def seenSched : List Nat := List.replicate 8 0 ++ [1, 1, 1]

def chunkProgs : List (List (List Instr)) := [[[.getSet 0 (.ok 7)]], [[.getSet 0 (.ok 9)]]]

def chunkEnc : Nat → List Nat := fun v => if v = 7 then [1, 2] else []

/-- writer reaches `gsPopW` (file created, zero-length); the reader starts and is refused the read lock -/
def chunkSched1 : List (Nat × DAct) := List.replicate 8 (0, DAct.base) ++ List.replicate 3 (1, DAct.base)

/-- … the writer writes chunk 1, the reader tries again, chunk 2, close, return, switch; then the reader gets in -/
def chunkSched2 : List (Nat × DAct) :=
  chunkSched1 ++ [(0, .chunk 1), (1, .base), (0, .chunk 2), (1, .base), (0, .close), (1, .base), (0, .base), (0, .base)] ++ List.replicate 3 (1, DAct.base)

end Coba.C19
