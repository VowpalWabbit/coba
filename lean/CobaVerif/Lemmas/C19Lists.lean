/-
Facts about lists that the C19 lemma modules share.
-/

namespace Coba.C19

theorem getElem?_set_cases {α} {l : List α} {i j : Nat} {c' d : α} (h : (l.set i c')[j]? = some d) :
    (j = i ∧ d = c') ∨ (j ≠ i ∧ l[j]? = some d) := by
  by_cases hij : i = j
  · subst hij
    rw [List.getElem?_set_self'] at h
    cases hl : l[i]? with
    | none => simp [hl] at h
    | some x => simp [hl] at h; exact Or.inl ⟨rfl, h.symm⟩
  · rw [List.getElem?_set_ne hij] at h
    exact Or.inr ⟨fun e => hij e.symm, h⟩

theorem set_getElem?_self {α} {l : List α} {i : Nat} {c : α} (h : l[i]? = some c) : l.set i c = l := by
  obtain ⟨hlt, rfl⟩ := List.getElem?_eq_some_iff.mp h
  exact List.set_getElem_self hlt

theorem sum_map_set {α} (f : α → Nat) : ∀ (l : List α) (i : Nat) (c c' : α),
    l[i]? = some c → ((l.set i c').map f).sum + f c = (l.map f).sum + f c' := by
  intro l
  induction l with
  | nil => intro i c c' h; cases h
  | cons a t ih =>
    intro i c c' h
    cases i with
    | zero => cases h; simp only [List.set_cons_zero, List.map_cons, List.sum_cons]; omega
    | succ n => have := ih n c c' h; simp only [List.set_cons_succ, List.map_cons, List.sum_cons]; omega

theorem sum_map_ge {α} (f : α → Nat) : ∀ (l : List α) (i : Nat) (c : α), l[i]? = some c → f c ≤ (l.map f).sum := by
  intro l
  induction l with
  | nil => intro i c h; cases h
  | cons a t ih =>
    intro i c h
    cases i with
    | zero => cases h; simp only [List.map_cons, List.sum_cons]; omega
    | succ n => have := ih n c h; simp only [List.map_cons, List.sum_cons]; omega

theorem count_le_countP (idx : Nat → Nat) (k : Nat) (l : List Nat) : l.count k ≤ l.countP (fun k' => idx k' == idx k) :=
  List.countP_mono_left (fun _ _ h => beq_iff_eq.mpr (congrArg idx (eq_of_beq h)))

end Coba.C19
