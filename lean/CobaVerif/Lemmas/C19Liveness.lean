/-
C19, liveness of the lock protocol: states in which nobody can move (`stuck_wantW`), deadlock freedom from a ranked lock
order (`Hier`) and for the repaired code, termination under fair schedules, the wait-for graph (a deadlock is a cycle; a
rank increasing along its edges rules cycles out), and the ghost clock that gives such a rank to `get_set`-only programs.
-/
import CobaVerif.Lemmas.C19

namespace Coba.C19

/-! ### lists and numbers -/

theorem pigeonhole (n : Nat) (f : Nat → Nat) (h : ∀ t, t ≤ n → f t < n) : ∃ a b, a < b ∧ b ≤ n ∧ f a = f b := by
  refine Classical.byContradiction (fun hno => ?_)
  -- otherwise `f 0, …, f n` are `n + 1` different numbers below `n`
  have hnd : ((List.range (n + 1)).map f).Nodup := by
    rw [List.Nodup, List.pairwise_map, List.pairwise_iff_getElem]
    intro a b ha hb hab heq
    rw [List.getElem_range, List.getElem_range] at heq
    exact hno ⟨a, b, hab, by rw [List.length_range] at hb; omega, heq⟩
  have hsub : (List.range (n + 1)).map f ⊆ List.range n := fun x hx => by
    obtain ⟨t, ht, rfl⟩ := List.mem_map.mp hx
    exact List.mem_range.mpr (h t (Nat.le_of_lt_succ (List.mem_range.mp ht)))
  have := hnd.length_le_of_subset hsub
  rw [List.length_map, List.length_range, List.length_range] at this
  omega

/-! ### the lock hierarchy along a run -/

theorem hier_toUnwind (ord : Nat → Nat) (c : Caller) (h : ∀ seg ∈ c.rest, segOk (hierOk ord) [] seg = true) :
    hierC ord (toUnwind c) := by
  rcases toUnwind_eq c with hu | hu <;> rw [hu] <;> simp [hierC, segOk] <;> exact h

theorem lstep_hier {ord : Nat → Nat} {idx arr cache c ev a' ch' c'} (h : LStep idx arr cache c ev a' ch' c')
    (hh : hierC ord c) : hierC ord c' := by
  obtain ⟨hrest, hpc⟩ := hh
  induction h
  case idle_raise | acqW_refuse | hrelW | rmChk_raise | rmAcqW_refuse | rmHRelW | unwind => exact hier_toUnwind ord _ hrest
  case idle_next => exact ⟨fun seg hs => hrest seg (List.mem_cons_of_mem _ hs), hrest _ (List.mem_cons_self ..)⟩
  all_goals refine ⟨hrest, ?_⟩
  -- fetching an operation splits `segOk` of the segment into the check of the operation and `segOk` of the rest
  case idle_gs | idle_rmv => exact Bool.and_eq_true_iff.mp hpc
  case chk1_hit | acqW_ok | rmChk_absent | rmAcqW_ok => exact hpc.2
  case pop_fail | rmRemove_fail => trivial
  all_goals exact hpc

theorem hier_reachable {idx ord : Nat → Nat} {progs : List (List (List Instr))} {s : St}
    (hp : ∀ p ∈ progs, Hier ord p = true) (h : Reachable idx progs s) :
    ∀ (j : Nat) (c : Caller), s.cs[j]? = some c → hierC ord c :=
  callers_reachable (fun p hpm => ⟨List.all_eq_true.mp (hp p hpm), rfl⟩) lstep_hier h

/-! ### callers waiting for a lock -/

theorem wantW_cases {pc : Pc} {k : Nat} (h : pc.wantW = some k) : (∃ g, pc = .gsAcqW k g) ∨ ∃ f, pc = .rmAcqW k f := by
  cases pc
  case gsAcqW => cases h; exact Or.inl ⟨_, rfl⟩
  case rmAcqW => cases h; exact Or.inr ⟨_, rfl⟩
  all_goals cases h

theorem wantR_cases {pc : Pc} {k : Nat} (h : pc.wantR = some k) : ∃ g, pc = .gsAcqR k g := by
  cases pc
  case gsAcqR => cases h; exact ⟨_, rfl⟩
  all_goals cases h

theorem wantW_holds {pc : Pc} {k : Nat} (h : pc.wantW = some k) : pc.readKey = none ∧ pc.writeKey = none := by
  rcases wantW_cases h with ⟨g, rfl⟩ | ⟨f, rfl⟩ <;> exact ⟨rfl, rfl⟩

theorem wantW_reads {c : Caller} {k : Nat} (h : c.pc.wantW = some k) : c.reads = c.stack := by
  rw [Caller.reads, (wantW_holds h).1]; rfl

/-- rank of the key a waiting caller asks for -/
def wantOrd (ord : Nat → Nat) (c : Caller) : Nat :=
  match c.pc.wantW with
  | some k => ord k
  | none => match c.pc.wantR with
    | some k => ord k
    | none => 0

theorem wantOrd_wantW {ord : Nat → Nat} {c : Caller} {k : Nat} (h : c.pc.wantW = some k) : wantOrd ord c = ord k := by
  rw [wantOrd, h]

theorem wantOrd_wantR {ord : Nat → Nat} {c : Caller} {k : Nat} (h : c.pc.wantR = some k) : wantOrd ord c = ord k := by
  obtain ⟨g, hp⟩ := wantR_cases h
  rw [wantOrd, hp]; rfl

theorem wantW_above {ord : Nat → Nat} {cache : Nat → Option Nat} {c : Caller} {k : Nat} (hw : c.pc.wantW = some k)
    (hH : hierC ord c) (hP : pcOK cache c) : ∀ j ∈ c.stack, ord j < ord k := by
  have h : k ∉ c.stack ∧ hierOk ord c.stack k = true := by
    rcases c with ⟨pc, cur, rest, stack, book, tn⟩
    rcases wantW_cases hw with ⟨g, rfl⟩ | ⟨f, rfl⟩ <;> exact ⟨hP, hH.2.1⟩
  intro j hj
  rcases Bool.or_eq_true_iff.mp h.2 with hc | ha
  · exact absurd (List.contains_iff_mem.mp hc) h.1
  · exact of_decide_eq_true (List.all_eq_true.mp ha j hj)

/-! ### states in which nobody can move -/

theorem exists_not_terminal {s : St} (hnt : s.allTerminal = false) :
    ∃ (j : Nat) (c : Caller), s.cs[j]? = some c ∧ c.terminal = false := by
  obtain ⟨c, hc, hct⟩ := List.all_eq_false.mp (show s.cs.all Caller.terminal = false from hnt)
  obtain ⟨j, hj⟩ := List.getElem?_of_mem hc
  exact ⟨j, c, hj, by simpa using hct⟩

theorem step_lt {idx : Nat → Nat} {s s' : St} {i : Nat} {ev : Ev} (h : step idx s i = some (ev, s')) : i < s.cs.length := by
  obtain ⟨c, _, _, _, hi, _, _⟩ := step_iff.mp h
  exact (List.getElem?_eq_some_iff.mp hi).1

theorem deadlocked_iff {idx : Nat → Nat} {s : St} :
    s.deadlocked idx = true ↔ s.allTerminal = false ∧ ∀ i ev s', step idx s i = some (ev, s') → ev = .spin := by
  simp only [St.deadlocked, Bool.and_eq_true, Bool.not_eq_true', List.all_eq_true, List.mem_range]
  constructor
  · rintro ⟨h1, h2⟩
    refine ⟨h1, fun i ev s' hs => ?_⟩
    simpa [hs] using h2 i (step_lt hs)
  · rintro ⟨h1, h2⟩
    refine ⟨h1, fun i _ => ?_⟩
    cases hs : step idx s i with
    | none => rfl
    | some r => obtain ⟨ev, s'⟩ := r; simp [h2 i ev s' hs]

theorem lstep_spin {idx arr cache c a' ch' c'} (h : LStep idx arr cache c .spin a' ch' c') :
    (∃ k g, c.pc = .gsAcqR k g ∧ arr (idx k) < 0) ∨
    (∃ k, c.pc.wantW = some k ∧ arr (idx k) ≠ 0 ∧ (c.tn = false ∨ c.stack = [])) := by
  cases h with
  | acqR_spin hg => exact Or.inl ⟨_, _, rfl, Int.not_le.mp hg⟩
  | acqW_spin hg ht | rmAcqW_spin hg ht => exact Or.inr ⟨_, rfl, hg, ht⟩

theorem stuck_wantW {idx : Nat → Nat} {s : St} (hI : Inv idx s)
    (hall : ∀ i ev s', step idx s i = some (ev, s') → ev = .spin)
    {j : Nat} {c : Caller} (hj : s.cs[j]? = some c) (hnt : c.terminal = false) :
    ∃ k, c.pc.wantW = some k ∧ s.arr (idx k) ≠ 0 ∧ (c.tn = false ∨ c.stack = []) := by
  have hspin : ∀ (j : Nat) (c : Caller), s.cs[j]? = some c → c.terminal = false →
      (∃ k g, c.pc = .gsAcqR k g ∧ s.arr (idx k) < 0) ∨
      (∃ k, c.pc.wantW = some k ∧ s.arr (idx k) ≠ 0 ∧ (c.tn = false ∨ c.stack = [])) := by
    intro j c hj hnt
    obtain ⟨ev, a', ch', c', hL⟩ := lstep_total (idx := idx) (arr := s.arr) (hI.pc j c hj) (hI.stack j c hj) hnt
    cases hall _ _ _ ((step_iff_lstep hI).mpr ⟨c, a', ch', c', hj, hL, rfl⟩)
    exact lstep_spin hL
  refine (hspin j c hj hnt).resolve_left ?_
  -- a refused read lock has a writer, and a writer is not waiting for a lock
  rintro ⟨k, g, _, hlt⟩
  obtain ⟨m, d, hm, hw⟩ := writer_of_cell hI.locksOK hlt
  have hwk : d.pc.writeKey = none := by
    rcases hspin m d hm (holder_not_terminal (Or.inr hw)) with ⟨k, g, hp, _⟩ | ⟨k, hp, _⟩
    · rw [hp]; rfl
    · exact (wantW_holds hp).2
  rw [wc_none hwk] at hw; exact absurd hw (Nat.lt_irrefl 0)

theorem not_deadlocked_of_step {idx : Nat → Nat} {s : St}
    (h : ∃ i ev s', step idx s i = some (ev, s') ∧ ev ≠ .spin) : s.deadlocked idx = false := by
  obtain ⟨i, ev, s', hs, hne⟩ := h
  cases hd : s.deadlocked idx with
  | false => rfl
  | true => exact absurd ((deadlocked_iff.mp hd).2 i ev s' hs) hne

/-! ### the repaired code -/

theorem reachableR_inv {idx : Nat → Nat} {progs : List (List (List Instr))} {s : St}
    (h : ReachableR idx progs s) : Inv idx s ∧ ∀ (j : Nat) (c : Caller), s.cs[j]? = some c → c.tn = true := by
  induction h with
  | init =>
    refine ⟨inv_start idx true progs, fun j c hj => ?_⟩
    obtain ⟨p, _, rfl⟩ := start_callers hj
    rfl
  | step _ hs ih => exact ⟨inv_step ih.1 hs, step_callers ih.1 (fun hL hc => (lstep_tn hL).trans hc) ih.2 hs⟩

theorem deadlock_free_repaired_core {idx : Nat → Nat} {s : St} (hI : Inv idx s)
    (hT : ∀ (j : Nat) (c : Caller), s.cs[j]? = some c → c.tn = true)
    (hnt : s.allTerminal = false) : ∃ i ev s', step idx s i = some (ev, s') ∧ ev ≠ .spin := by
  apply Classical.byContradiction
  intro hno
  have hall : ∀ i ev s', step idx s i = some (ev, s') → ev = .spin :=
    fun i ev s' h => Classical.byContradiction (fun hne => hno ⟨i, ev, s', h, hne⟩)
  obtain ⟨j, c, hj, hct⟩ := exists_not_terminal hnt
  obtain ⟨k, _, hne, _⟩ := stuck_wantW hI hall hj hct
  -- whoever holds the slot is unfinished, so it spins too: in the repaired code outside every with-block, holding nothing
  obtain ⟨m, d, hm, hd⟩ := holder_of_cell hI.locksOK hne
  obtain ⟨k', hwk, _, hst⟩ := stuck_wantW hI hall hm (holder_not_terminal hd)
  have hst := hst.resolve_left (by rw [hT m d hm]; exact Bool.noConfusion)
  have := holds_nothing (idx := idx) (by rw [wantW_reads hwk, hst]) (wantW_holds hwk).2 (idx k)
  omega

/-! ### termination under fair schedules -/

theorem step_length {idx : Nat → Nat} {s s' : St} {i : Nat} {ev : Ev} (h : step idx s i = some (ev, s')) :
    s'.cs.length = s.cs.length := by
  obtain ⟨c, a', ch', c', _, _, rfl⟩ := step_iff.mp h
  exact List.length_set

theorem runN_succ_some {idx : Nat → Nat} {s : St} {σ : Nat → Nat} {t : Nat} {ev : Ev} {s' : St}
    (h : step idx (runN idx s σ t) (σ t) = some (ev, s')) : runN idx s σ (t + 1) = s' := by
  simp [runN, h]

theorem runN_terminal_stable {idx : Nat → Nat} {s0 : St} {σ : Nat → Nat} {n : Nat}
    (ht : (runN idx s0 σ n).allTerminal = true) : ∀ d, runN idx s0 σ (n + d) = runN idx s0 σ n := by
  intro d
  induction d with
  | zero => rfl
  | succ d ih =>
    show runN idx s0 σ (n + d + 1) = _
    simp only [runN]
    rw [ih, terminal_no_step ht]

theorem fair_termination_core {idx : Nat → Nat} (G : St → Prop)
    (hstep : ∀ s i ev s', G s → step idx s i = some (ev, s') → G s')
    (hinv : ∀ s, G s → Inv idx s)
    (hdf : ∀ s, G s → s.allTerminal = false → ∃ i ev s', step idx s i = some (ev, s') ∧ ev ≠ .spin)
    (s0 : St) (h0 : G s0) (σ : Nat → Nat) (hfair : FairSched s0.cs.length σ) :
    ∃ n, ∀ m, n ≤ m → (runN idx s0 σ m).allTerminal = true := by
  have hG : ∀ t, G (runN idx s0 σ t) ∧ (runN idx s0 σ t).cs.length = s0.cs.length := by
    intro t
    induction t with
    | zero => exact ⟨h0, rfl⟩
    | succ t ih =>
      simp only [runN]
      cases hs : step idx (runN idx s0 σ t) (σ t) with
      | none => exact ih
      | some r => exact ⟨hstep _ _ _ _ ih.1 hs, (step_length hs).trans ih.2⟩
  have hA : ∀ t, runN idx s0 σ (t + 1) = runN idx s0 σ t ∨
      (runN idx s0 σ (t + 1)).measure < (runN idx s0 σ t).measure := by
    intro t
    cases hs : step idx (runN idx s0 σ t) (σ t) with
    | none => left; simp [runN, hs]
    | some r =>
      obtain ⟨ev, s'⟩ := r
      have hp := progress_core (hinv _ (hG t).1) hs
      rw [runN_succ_some hs]
      by_cases he : ev = .spin
      · left; exact hp.2 he
      · right; exact hp.1 he
  -- an enabled non-spin step of caller i is taken at the latest when i gets its next turn
  have hC : ∀ d t i ev s', step idx (runN idx s0 σ t) i = some (ev, s') → ev ≠ .spin → σ (t + d) = i →
      ∃ t'', (runN idx s0 σ t'').measure < (runN idx s0 σ t).measure := by
    intro d
    induction d with
    | zero =>
      intro t i ev s' hs hne hσ
      simp only [Nat.add_zero] at hσ
      subst hσ
      exact ⟨t + 1, by rw [runN_succ_some hs]; exact (progress_core (hinv _ (hG t).1) hs).1 hne⟩
    | succ d ih =>
      intro t i ev s' hs hne hσ
      rcases hA t with heq | hlt
      · have hσ' : σ (t + 1 + d) = i := by rw [← hσ]; congr 1; omega
        obtain ⟨t'', ht''⟩ := ih (t + 1) i ev s' (by rw [heq]; exact hs) hne hσ'
        exact ⟨t'', by rw [heq] at ht''; exact ht''⟩
      · exact ⟨t + 1, hlt⟩
  have hmain : ∀ m t, (runN idx s0 σ t).measure ≤ m → ∃ n, (runN idx s0 σ n).allTerminal = true := by
    intro m
    induction m using Nat.strongRecOn with
    | ind m ih =>
      intro t hm
      cases hT : (runN idx s0 σ t).allTerminal with
      | true => exact ⟨t, hT⟩
      | false =>
        obtain ⟨i, ev, s', hs, hne⟩ := hdf _ (hG t).1 hT
        obtain ⟨t', ht', hσ⟩ := hfair i ((hG t).2 ▸ step_lt hs) t
        obtain ⟨t'', hlt⟩ := hC (t' - t) t i ev s' hs hne (by rw [← hσ]; congr 1; omega)
        exact ih _ (by omega) t'' (Nat.le_refl _)
  obtain ⟨n, hn⟩ := hmain _ 0 (Nat.le_refl _)
  refine ⟨n, fun m hm => ?_⟩
  have := runN_terminal_stable hn (m - n)
  rw [show n + (m - n) = m by omega] at this
  rw [this]; exact hn

theorem fair_termination_reachable {idx : Nat → Nat} {progs : List (List (List Instr))}
    (hdf : ∀ s, Reachable idx progs s → s.allTerminal = false → ∃ i ev s', step idx s i = some (ev, s') ∧ ev ≠ .spin)
    (σ : Nat → Nat) (hfair : FairSched progs.length σ) :
    ∃ n, ∀ m, n ≤ m → (runN idx (init progs) σ m).allTerminal = true :=
  fair_termination_core (Reachable idx progs) (fun _ _ _ _ h hs => Reachable.step h hs) (fun _ h => inv_reachable h) hdf
    (init progs) Reachable.init σ (by simpa [init] using hfair)

/-! ### the wait-for graph -/

theorem WaitPath.snoc {idx : Nat → Nat} {s : St} {i j k : Nat} (h : WaitPath idx s i j) (e : waitsFor idx s j k = true) :
    WaitPath idx s i k := by
  induction h with
  | one h1 => exact .cons h1 (.one e)
  | cons h1 _ ih => exact .cons h1 (ih e)

theorem cycle_of_successors {idx : Nat → Nat} {s : St} (P : Nat → Prop) (hlt : ∀ i, P i → i < s.cs.length)
    (hnext : ∀ i, P i → ∃ j, P j ∧ waitsFor idx s i j = true) (i0 : Nat) (h0 : P i0) :
    ∃ i, P i ∧ WaitPath idx s i i := by
  let w : Nat → { i // P i } := fun t => Nat.rec ⟨i0, h0⟩ (fun _ x => ⟨Classical.choose (hnext x.1 x.2), (Classical.choose_spec (hnext x.1 x.2)).1⟩) t
  have hw : ∀ t, waitsFor idx s (w t).1 (w (t + 1)).1 = true := fun t => (Classical.choose_spec (hnext (w t).1 (w t).2)).2
  have hpath : ∀ d a, WaitPath idx s (w a).1 (w (a + d + 1)).1 := by
    intro d
    induction d with
    | zero => intro a; exact .one (hw a)
    | succ d ih => intro a; exact (ih a).snoc (hw (a + d + 1))
  obtain ⟨a, b, hab, _, heq⟩ := pigeonhole s.cs.length (fun t => (w t).1) (fun t _ => hlt _ (w t).2)
  refine ⟨(w a).1, (w a).2, ?_⟩
  have := hpath (b - a - 1) a
  rw [show a + (b - a - 1) + 1 = b by omega] at this
  have heq : (w a).1 = (w b).1 := heq
  rw [← heq] at this
  exact this

theorem waitsFor_callers {idx : Nat → Nat} {s : St} {i j : Nat} (h : waitsFor idx s i j = true) :
    ∃ c d, s.cs[i]? = some c ∧ s.cs[j]? = some d := by
  simp only [waitsFor] at h
  cases hi : s.cs[i]? with
  | none => simp [hi] at h
  | some c =>
    cases hj : s.cs[j]? with
    | none => simp [hi, hj] at h
    | some d => exact ⟨c, d, rfl, rfl⟩

theorem waitsFor_iff {idx : Nat → Nat} {s : St} {i j : Nat} {c d : Caller} (hi : s.cs[i]? = some c) (hj : s.cs[j]? = some d) :
    waitsFor idx s i j = true ↔
      (∃ k, c.pc.wantW = some k ∧ (0 < d.rc idx (idx k) ∨ 0 < d.wc idx (idx k))) ∨
      (∃ k, c.pc.wantR = some k ∧ 0 < d.wc idx (idx k)) := by
  simp only [waitsFor, hi, hj, Bool.or_eq_true]
  refine or_congr ?_ ?_
  · cases c.pc.wantW with
    | none => exact ⟨Bool.noConfusion, fun ⟨_, h, _⟩ => nomatch h⟩
    | some k => simp only [Bool.or_eq_true, decide_eq_true_eq, Option.some.injEq, exists_eq_left']
  · cases c.pc.wantR with
    | none => exact ⟨Bool.noConfusion, fun ⟨_, h, _⟩ => nomatch h⟩
    | some k => simp only [decide_eq_true_eq, Option.some.injEq, exists_eq_left']

theorem stuck_wait {idx : Nat → Nat} {s : St} (hI : Inv idx s)
    (hall : ∀ i ev s', step idx s i = some (ev, s') → ev = .spin)
    {j : Nat} {c : Caller} (hj : s.cs[j]? = some c) (hct : c.terminal = false) :
    ∃ j', (∃ d, s.cs[j']? = some d ∧ d.terminal = false) ∧ waitsFor idx s j j' = true := by
  obtain ⟨k, hwk, hne, _⟩ := stuck_wantW hI hall hj hct
  obtain ⟨m, d, hm, hd⟩ := holder_of_cell hI.locksOK hne
  exact ⟨m, ⟨d, hm, holder_not_terminal hd⟩, (waitsFor_iff hj hm).mpr (Or.inl ⟨k, hwk, hd⟩)⟩

theorem deadlock_has_cycle_core {idx : Nat → Nat} {s : St} (hI : Inv idx s) (hd : s.deadlocked idx = true) :
    ∃ i, WaitPath idx s i i := by
  obtain ⟨hnt, hall⟩ := deadlocked_iff.mp hd
  obtain ⟨j, c, hj, hct⟩ := exists_not_terminal hnt
  obtain ⟨i, _, hp⟩ := cycle_of_successors (fun i => ∃ d, s.cs[i]? = some d ∧ d.terminal = false)
    (fun i ⟨d, hi, _⟩ => (List.getElem?_eq_some_iff.mp hi).1) (fun i ⟨d, hi, hdt⟩ => stuck_wait hI hall hi hdt) j ⟨c, hj, hct⟩
  exact ⟨i, hp⟩

theorem lstep_blocked {idx arr cache c ev a' ch' c'} (h : LStep idx arr cache c ev a' ch' c') :
    (∀ k, c.pc.wantW = some k → arr (idx k) ≠ 0 → ev = .spin ∨ ev = .refuse k) ∧
    (∀ k, c.pc.wantR = some k → arr (idx k) < 0 → ev = .spin) := by
  induction h
  case acqR_ok hg => exact ⟨fun _ hk => (nomatch hk), fun _ hk hlt => by cases hk; omega⟩
  case acqR_spin => exact ⟨fun _ hk => (nomatch hk), fun _ _ _ => rfl⟩
  case acqW_ok hg | rmAcqW_ok hg => exact ⟨fun _ hk hne => by cases hk; exact absurd hg hne, fun _ hk => (nomatch hk)⟩
  case acqW_spin | rmAcqW_spin => exact ⟨fun _ _ _ => Or.inl rfl, fun _ hk => (nomatch hk)⟩
  case acqW_refuse | rmAcqW_refuse => exact ⟨fun _ hk _ => by cases hk; exact Or.inr rfl, fun _ hk => (nomatch hk)⟩
  all_goals exact ⟨fun _ hk => (nomatch hk), fun _ hk => (nomatch hk)⟩

theorem lstep_refuse {idx arr cache c k a' ch' c'} (h : LStep idx arr cache c (.refuse k) a' ch' c') : c.tn = true := by
  cases h <;> rfl

theorem waiter_spins {idx : Nat → Nat} {s : St} (hI : Inv idx s)
    (hT : ∀ (j : Nat) (c : Caller), s.cs[j]? = some c → c.tn = false) {i j : Nat} (hw : waitsFor idx s i j = true)
    {ev : Ev} {s' : St} (hs : step idx s i = some (ev, s')) : ev = .spin := by
  obtain ⟨c, a', ch', c', hi, hL, rfl⟩ := step_lstep hI hs
  obtain ⟨c0, d, hi0, hjd⟩ := waitsFor_callers hw
  rw [hi] at hi0; cases hi0
  -- only the repaired code refuses a request
  have hbusy : ∀ k, c.pc.wantW = some k → s.arr (idx k) ≠ 0 → ev = .spin := fun k hk hne =>
    ((lstep_blocked hL).1 k hk hne).resolve_right (fun he => by
      subst he; exact Bool.noConfusion ((hT i c hi).symm.trans (lstep_refuse hL)))
  rcases (waitsFor_iff hi hjd).mp hw with ⟨k, hk, hr | hw⟩ | ⟨k, hk, hw⟩
  · have := cell_of_reader hI.locksOK hjd hr
    exact hbusy k hk (by omega)
  · have := cell_of_writer hI.locksOK hjd hw
    exact hbusy k hk (by omega)
  · have := cell_of_writer hI.locksOK hjd hw
    exact (lstep_blocked hL).2 k hk (by omega)

theorem deadlocked_iff_all_wait {idx : Nat → Nat} {s : St} (hI : Inv idx s)
    (hT : ∀ (j : Nat) (c : Caller), s.cs[j]? = some c → c.tn = false) :
    s.deadlocked idx = true ↔
      s.allTerminal = false ∧ ∀ (i : Nat) (c : Caller), s.cs[i]? = some c → c.terminal = false →
        ∃ j, waitsFor idx s i j = true := by
  rw [deadlocked_iff]
  refine and_congr_right (fun _ => ⟨fun hall i c hi hct => ?_, fun hw i ev s' hs => ?_⟩)
  · obtain ⟨j, _, hw⟩ := stuck_wait hI hall hi hct
    exact ⟨j, hw⟩
  · obtain ⟨c, a', ch', c', hi, hc, _⟩ := step_iff.mp hs
    cases hct : c.terminal with
    | true => rw [terminal_stepC_none hct] at hc; cases hc
    | false =>
      obtain ⟨j, hwj⟩ := hw i c hi hct
      exact waiter_spins hI hT hwj hs

theorem reachable_tn_false {idx : Nat → Nat} {progs : List (List (List Instr))} {s : St}
    (h : Reachable idx progs s) : ∀ (j : Nat) (c : Caller), s.cs[j]? = some c → c.tn = false :=
  callers_reachable (fun _ _ => rfl) (fun hL hc => (lstep_tn hL).trans hc) h

theorem edge_holder {idx : Nat → Nat} {s : St} {i j : Nat} {ci cj : Caller} (hi : s.cs[i]? = some ci) (hj : s.cs[j]? = some cj)
    (hij : waitsFor idx s i j = true) (hr : cj.pc.readKey = none) (hw : cj.pc.writeKey = none) :
    ∃ ki, ci.pc.wantW = some ki ∧ ∃ k' ∈ cj.stack, idx k' = idx ki := by
  have hwc : ∀ x, cj.wc idx x = 0 := by intro x; simp [Caller.wc, hw]
  rcases (waitsFor_iff hi hj).mp hij with ⟨ki, hwi, h | h⟩ | ⟨ki, _, h⟩
  · simp only [Caller.rc, Caller.reads, hr, Option.toList, List.nil_append] at h
    obtain ⟨k', hk', hkk⟩ := List.countP_pos_iff.mp h
    exact ⟨ki, hwi, k', hk', by simpa using hkk⟩
  · rw [hwc] at h; exact absurd h (Nat.lt_irrefl 0)
  · rw [hwc] at h; exact absurd h (Nat.lt_irrefl 0)

theorem edge_rank_lt {idx ord : Nat → Nat} {s : St} (hord : ∀ a b, idx a = idx b → ord a = ord b) (hI : Inv idx s)
    (hH : ∀ (j : Nat) (c : Caller), s.cs[j]? = some c → hierC ord c)
    {i j m : Nat} {ci cj : Caller} (hi : s.cs[i]? = some ci) (hj : s.cs[j]? = some cj)
    (hij : waitsFor idx s i j = true) (hjm : waitsFor idx s j m = true) : wantOrd ord ci < wantOrd ord cj := by
  obtain ⟨_, cm, hj', hm⟩ := waitsFor_callers hjm
  rw [hj] at hj'; cases hj'
  rcases (waitsFor_iff hj hm).mp hjm with ⟨kj, hkj, _⟩ | ⟨kj, hkj, hwc⟩
  · -- j asks for a write lock: what i asks for is in j's with-stack, ranked below j's request
    obtain ⟨ki, hwi, k', hk', hkk⟩ := edge_holder hi hj hij (wantW_holds hkj).1 (wantW_holds hkj).2
    have := wantW_above hkj (hH j cj hj) (hI.pc j cj hj) k' hk'
    rw [wantOrd_wantW hwi, wantOrd_wantW hkj, ← hord k' ki hkk]
    exact this
  · obtain ⟨g, hp⟩ := wantR_cases hkj
    obtain ⟨ki, hwi, k', hk', hkk⟩ := edge_holder hi hj hij (by rw [hp]; rfl) (by rw [hp]; rfl)
    have hHj := (hH j cj hj).2
    rw [hp] at hHj
    rw [wantOrd_wantW hwi, wantOrd_wantR hkj, ← hord k' ki hkk]
    rcases Bool.or_eq_true_iff.mp hHj.1 with hc | ha
    · -- j reads kj already, so nobody can hold the write lock it would be waiting for
      exfalso
      have := cell_of_reader hI.locksOK hj (x := idx kj) (List.countP_pos_iff.mpr ⟨kj, List.mem_append_right _ (List.contains_iff_mem.mp hc), by simp⟩)
      have := cell_of_writer hI.locksOK hm hwc
      omega
    · exact of_decide_eq_true (List.all_eq_true.mp ha k' hk')

theorem no_wait_cycle_of_rank {idx : Nat → Nat} {s : St} (rank : Nat → Nat)
    (hedge : ∀ {i j m}, waitsFor idx s i j = true → waitsFor idx s j m = true → rank i < rank j) (i : Nat) :
    ¬ WaitPath idx s i i := by
  have hpath : ∀ {i j}, WaitPath idx s i j → ∀ m, waitsFor idx s j m = true → rank i < rank j := by
    intro i j hp
    induction hp with
    | one e => exact fun m hjm => hedge e hjm
    | cons e p ih =>
      intro m hjm
      -- the middle node has an outgoing edge: the first edge of the rest of the path
      obtain ⟨m', hbm⟩ : ∃ m', waitsFor idx s _ m' = true := by
        cases p with
        | one e' => exact ⟨_, e'⟩
        | cons e' _ => exact ⟨_, e'⟩
      exact Nat.lt_trans (hedge e hbm) (ih m hjm)
  intro hp
  obtain ⟨m, him⟩ : ∃ m, waitsFor idx s i m = true := by
    cases hp with
    | one e => exact ⟨_, e⟩
    | cons e _ => exact ⟨_, e⟩
  exact Nat.lt_irrefl _ (hpath hp m him)

theorem step_of_no_cycle {idx : Nat → Nat} {s : St} (hI : Inv idx s) (hnt : s.allTerminal = false)
    (hnc : ∀ i, ¬ WaitPath idx s i i) : ∃ i ev s', step idx s i = some (ev, s') ∧ ev ≠ .spin := by
  refine Classical.byContradiction (fun hno => ?_)
  have hall : ∀ i ev s', step idx s i = some (ev, s') → ev = .spin := fun i ev s' hs =>
    Classical.byContradiction (fun hne => hno ⟨i, ev, s', hs, hne⟩)
  obtain ⟨i, hc⟩ := deadlock_has_cycle_core hI (deadlocked_iff.mpr ⟨hnt, hall⟩)
  exact hnc i hc

theorem no_wait_cycle_core {idx ord : Nat → Nat} {s : St} (hord : ∀ a b, idx a = idx b → ord a = ord b) (hI : Inv idx s)
    (hH : ∀ (j : Nat) (c : Caller), s.cs[j]? = some c → hierC ord c) (i : Nat) : ¬ WaitPath idx s i i := by
  refine no_wait_cycle_of_rank (fun i => match s.cs[i]? with | some c => wantOrd ord c | none => 0) (fun hij hjm => ?_) i
  obtain ⟨ci, cj, hi, hj⟩ := waitsFor_callers hij
  simp only [hi, hj]
  exact edge_rank_lt hord hI hH hi hj hij hjm

theorem deadlock_free_core {idx ord : Nat → Nat} {s : St} (hord : ∀ a b, idx a = idx b → ord a = ord b) (hI : Inv idx s)
    (hH : ∀ (j : Nat) (c : Caller), s.cs[j]? = some c → hierC ord c)
    (hnt : s.allTerminal = false) : ∃ i ev s', step idx s i = some (ev, s') ∧ ev ≠ .spin :=
  step_of_no_cycle hI hnt (no_wait_cycle_core hord hI hH)

/-! ### the ghost clock

`GSt` stamps misses and populates with a global clock; for programs that only use `get_set` on collision-free keys the stamps
strictly increase along wait-for edges between waiting callers. -/

theorem lstep_miss {idx arr cache c ev a' ch' c'} (h : LStep idx arr cache c ev a' ch' c') {k : Nat}
    (hm : c'.pc.missKey = some k) :
    evPopKey ev = none ∧ c'.stack = c.stack ∧ ch' = cache ∧
    ((evMiss ev = true ∧ cache k = none) ∨ (evMiss ev = false ∧ c.pc.missKey = some k)) := by
  induction h
  case idle_raise | acqW_refuse | hrelW | rmChk_raise | rmAcqW_refuse | rmHRelW | unwind =>
    rcases toUnwind_eq _ with hu | hu <;> rw [hu] at hm <;> cases hm
  case chk1_miss hc => cases hm; exact ⟨rfl, rfl, rfl, Or.inl ⟨rfl, hc⟩⟩
  case relR | acqW_spin => exact ⟨rfl, rfl, rfl, Or.inr ⟨rfl, hm⟩⟩
  all_goals cases hm

theorem lstep_cache_mono {idx arr cache c ev a' ch' c'} (h : LStep idx arr cache c ev a' ch' c')
    (hc : ∀ k, c.pc.key? = some k → c.pc.isRmv = false) (hp : pcOK cache c) :
    (evPopKey ev = none ∧ ch' = cache) ∨ (∃ k v, evPopKey ev = some k ∧ cache k = none ∧ ch' = upd cache k (some v)) := by
  rcases lstep_cache_cases h with ⟨he, h1, _⟩ | ⟨k, v, rfl, hpc, he⟩ | ⟨k, _, hpc, _⟩
  · refine Or.inl ⟨?_, he⟩
    cases ev <;> first | rfl | exact absurd rfl (h1 _ _)
  · exact Or.inr ⟨k, v, rfl, pcOK_popW hp hpc, he⟩
  · have := hc k (by rw [hpc]; rfl)
    rw [hpc] at this; cases this

/-- what the stamps say while no `rmv` un-caches a key (`GSt.stampsOK` is the same, as a check over given keys): a cached key was
populated in the past, and `miss` -/
structure GInv (g : GSt) : Prop where
  pop : ∀ k v, g.base.cache k = some v → g.tp k < g.clock
  /-- a caller between its miss of `k` and the write lock of `k`: the miss is in the past, later than the populate of every
  key of its with-stack, and earlier than the populate of `k` if `k` got cached meanwhile -/
  miss : ∀ (j : Nat) (c : Caller), g.base.cs[j]? = some c → ∀ k, c.pc.missKey = some k →
      g.tm j < g.clock ∧ (∀ k' ∈ c.stack, g.tp k' < g.tm j) ∧ (∀ v, g.base.cache k = some v → g.tm j < g.tp k)

theorem gstep_iff {idx : Nat → Nat} {g g' : GSt} {i : Nat} {ev : Ev} :
    gstep idx g i = some (ev, g') ↔ ∃ s', step idx g.base i = some (ev, s') ∧
      g' = { base := s', clock := g.clock + 1,
             tm := if evMiss ev then upd g.tm i g.clock else g.tm,
             tp := match evPopKey ev with | some k => upd g.tp k g.clock | none => g.tp } := by
  unfold gstep
  cases hs : step idx g.base i with
  | none => simp
  | some r =>
    obtain ⟨e, s1⟩ := r
    constructor
    · intro h; simp at h; obtain ⟨rfl, rfl⟩ := h; exact ⟨s1, rfl, rfl⟩
    · rintro ⟨s', h1, rfl⟩; simp at h1; obtain ⟨rfl, rfl⟩ := h1; rfl

theorem ginv_step {idx : Nat → Nat} {g g' : GSt} {i : Nat} {ev : Ev} (hI : Inv idx g.base)
    (hN : ∀ (j : Nat) (c : Caller), g.base.cs[j]? = some c → ∀ k, c.pc.key? = some k → c.pc.isRmv = false) (hG : GInv g)
    (h : gstep idx g i = some (ev, g')) : GInv g' := by
  obtain ⟨s', hs, rfl⟩ := gstep_iff.mp h
  obtain ⟨c, a', ch', c', hi, hL, rfl⟩ := step_lstep hI hs
  have hmono := lstep_cache_mono hL (hN i c hi) (hI.pc i c hi)
  constructor
  · intro k v hkv
    simp only at hkv ⊢
    rcases hmono with ⟨hpk, rfl⟩ | ⟨k0, v0, hpk, hnone, rfl⟩
    · simp only [hpk]; exact Nat.lt_succ_of_lt (hG.pop k v hkv)
    · simp only [hpk]
      by_cases hk : k = k0
      · subst hk; rw [upd_self]; exact Nat.lt_succ_self _
      · rw [upd_ne _ _ hk] at hkv ⊢; exact Nat.lt_succ_of_lt (hG.pop k v hkv)
  · intro j d hj k hm
    simp only at hj ⊢
    rcases getElem?_set_cases hj with ⟨rfl, rfl⟩ | ⟨hne, hj0⟩
    · obtain ⟨hpk, hst, rfl, hcase⟩ := lstep_miss hL hm
      simp only [hpk]
      rcases hcase with ⟨hmiss, hnone⟩ | ⟨hmiss, hm0⟩
      · -- a new miss is stamped now: later than the populate of every key of the with-stack (they are cached), and `k` is not cached
        simp only [hmiss, if_true]; rw [upd_self]
        refine ⟨Nat.lt_succ_self _, fun k' hk' => ?_, fun v hv => ?_⟩
        · obtain ⟨v, hv⟩ := Option.isSome_iff_exists.mp (hI.stack j c hi k' (hst ▸ hk'))
          exact hG.pop k' v hv
        · rw [hnone] at hv; cases hv
      · obtain ⟨h1, h2, h3⟩ := hG.miss j c hi k hm0
        simp only [hmiss, Bool.false_eq_true, if_false]
        exact ⟨Nat.lt_succ_of_lt h1, hst ▸ h2, h3⟩
    · obtain ⟨h1, h2, h3⟩ := hG.miss j d hj0 k hm
      have htm : (if evMiss ev then upd g.tm i g.clock else g.tm) j = g.tm j := by
        split
        · exact upd_ne _ _ hne
        · rfl
      rw [htm]
      rcases hmono with ⟨hpk, rfl⟩ | ⟨k0, v0, hpk, hnone, rfl⟩
      · simp only [hpk]; exact ⟨Nat.lt_succ_of_lt h1, h2, h3⟩
      · -- the stepping caller populates `k0`: no key of `d`'s with-stack (those are cached), and the stamp is later than `d`'s miss
        simp only [hpk]
        refine ⟨Nat.lt_succ_of_lt h1, fun k' hk' => ?_, fun v hv => ?_⟩
        · have hc := hI.stack j d hj0 k' hk'
          have hne' : k' ≠ k0 := fun e => by rw [e, hnone] at hc; cases hc
          rw [upd_ne _ _ hne']; exact h2 k' hk'
        · by_cases hkk : k = k0
          · subst hkk; rw [upd_self]; exact h1
          · rw [upd_ne _ _ hkk] at hv ⊢; exact h3 v hv

theorem ginv_init (progs : List (List (List Instr))) : GInv (ginit progs) := by
  constructor
  · intro k v h; cases h
  · intro j c hj k hm
    obtain ⟨p, _, rfl⟩ := init_callers hj
    cases hm

theorem getSetOnly_reachable {idx : Nat → Nat} {progs : List (List (List Instr))} {s : St}
    (hP : ∀ p ∈ progs, GetSetOnly p = true) (h : Reachable idx progs s) :
    ∀ (j : Nat) (c : Caller), s.cs[j]? = some c → opsC (fun r k => r = false ∧ k ∈ progKeys progs) c := by
  refine ops_reachable (fun p hp seg hseg ins hins k hk => ⟨?_, ?_⟩) h
  · have := List.all_eq_true.mp (List.all_eq_true.mp (hP p hp) seg hseg) ins hins
    simpa using this
  · simp only [progKeys, List.mem_flatMap, List.mem_filterMap]
    exact ⟨p, hp, seg, hseg, ins, hins, hk⟩

theorem ghost_projects {idx : Nat → Nat} {progs : List (List (List Instr))} {g : GSt}
    (h : GReachable idx progs g) : Reachable idx progs g.base := by
  induction h with
  | init => exact Reachable.init
  | step _ hs ih =>
    obtain ⟨s', hs', rfl⟩ := gstep_iff.mp hs
    exact Reachable.step ih hs'

theorem ghost_lifts {idx : Nat → Nat} {progs : List (List (List Instr))} {s : St}
    (h : Reachable idx progs s) : ∃ g, GReachable idx progs g ∧ g.base = s := by
  induction h with
  | init => exact ⟨ginit progs, GReachable.init, rfl⟩
  | step _ hs ih =>
    obtain ⟨g, hg, rfl⟩ := ih
    exact ⟨_, GReachable.step hg (gstep_iff.mpr ⟨_, hs, rfl⟩), rfl⟩

theorem ginv_reachable {idx : Nat → Nat} {progs : List (List (List Instr))} {g : GSt}
    (hP : ∀ p ∈ progs, GetSetOnly p = true) (h : GReachable idx progs g) : GInv g := by
  induction h with
  | init => exact ginv_init progs
  | step hr hs ih =>
    have hb := ghost_projects hr
    exact ginv_step (inv_reachable hb) (fun j c hj k hk => ((getSetOnly_reachable hP hb j c hj).pc k hk).1) ih hs

theorem collisionFree_inj {idx : Nat → Nat} {progs : List (List (List Instr))} (h : CollisionFree idx progs = true) :
    ∀ a b, a ∈ progKeys progs → b ∈ progKeys progs → idx a = idx b → a = b := by
  intro a b ha hb hab
  simp only [CollisionFree, List.all_eq_true] at h
  have := h a ha b hb
  simpa [hab] using this

/-- the time of its miss for a caller waiting for a `get_set` write lock; any other caller ranks above every stamp -/
def gRank (g : GSt) (j : Nat) : Nat :=
  match g.base.cs[j]? with
  | some c => (match c.pc with | .gsAcqW _ _ => g.tm j | _ => g.clock + 1)
  | none => 0

theorem gRank_acqW {g : GSt} {j : Nat} {c : Caller} {k : Nat} {gt : Getter} (hj : g.base.cs[j]? = some c)
    (hpc : c.pc = .gsAcqW k gt) : gRank g j = g.tm j := by
  simp only [gRank, hj, hpc]

theorem gRank_acqR {g : GSt} {j : Nat} {c : Caller} {k : Nat} {gt : Getter} (hj : g.base.cs[j]? = some c)
    (hpc : c.pc = .gsAcqR k gt) : gRank g j = g.clock + 1 := by
  simp only [gRank, hj, hpc]

theorem wantW_miss {c : Caller} {k : Nat} (hN : ∀ k, c.pc.key? = some k → c.pc.isRmv = false) (h : c.pc.wantW = some k) :
    ∃ gt, c.pc = .gsAcqW k gt := by
  rcases wantW_cases h with hg | ⟨f, hp⟩
  · exact hg
  · have := hN k (by rw [hp]; rfl)
    rw [hp] at this; cases this

theorem ghost_edge_lt {idx : Nat → Nat} {g : GSt} {K : Nat → Prop} (hinj : ∀ a b, K a → K b → idx a = idx b → a = b)
    (hO : ∀ (j : Nat) (c : Caller), g.base.cs[j]? = some c → opsC (fun r k => r = false ∧ K k) c) (hI : Inv idx g.base)
    (hG : GInv g) {i j m : Nat} (hij : waitsFor idx g.base i j = true) (hjm : waitsFor idx g.base j m = true) :
    gRank g i < gRank g j := by
  obtain ⟨ci, cj, hi, hj⟩ := waitsFor_callers hij
  obtain ⟨_, cm, hj', hm⟩ := waitsFor_callers hjm
  rw [hj] at hj'; cases hj'
  have key : ∀ (hr : cj.pc.readKey = none) (hw : cj.pc.writeKey = none),
      ∃ ki, gRank g i = g.tm i ∧ g.tm i < g.clock ∧ ki ∈ cj.stack ∧ g.tm i < g.tp ki := by
    intro hr hw
    obtain ⟨ki, hwi, k', hk', hkk⟩ := edge_holder hi hj hij hr hw
    obtain ⟨gt, hpc⟩ := wantW_miss (fun k hk => ((hO i ci hi).pc k hk).1) hwi
    have := hinj k' ki ((hO j cj hj).stack k' hk').2 ((hO i ci hi).pc ki (by rw [hpc]; rfl)).2 hkk; subst this
    obtain ⟨h1, _, h3⟩ := hG.miss i ci hi k' (by rw [hpc]; rfl)
    obtain ⟨v, hv⟩ := Option.isSome_iff_exists.mp (hI.stack j cj hj k' hk')
    exact ⟨k', gRank_acqW hi hpc, h1, hk', h3 v hv⟩
  rcases (waitsFor_iff hj hm).mp hjm with ⟨kj, hkj, _⟩ | ⟨kj, hkj, _⟩
  · -- j waits for a write lock: its own miss is later than the populate of everything it holds
    obtain ⟨gt, hpc⟩ := wantW_miss (fun k hk => ((hO j cj hj).pc k hk).1) hkj
    obtain ⟨ki, hr, h1, hk, h3⟩ := key (by rw [hpc]; rfl) (by rw [hpc]; rfl)
    obtain ⟨_, h2, _⟩ := hG.miss j cj hj kj (by rw [hpc]; rfl)
    have := h2 ki hk
    rw [hr, gRank_acqW hj hpc]; omega
  · obtain ⟨gt, hpc⟩ := wantR_cases hkj
    obtain ⟨ki, hr, h1, _, _⟩ := key (by rw [hpc]; rfl) (by rw [hpc]; rfl)
    rw [hr, gRank_acqR hj hpc]; omega

/-! ### programs and schedules of the examples -/

/-- the classic crossing: A `with gs 0: with gs 1`, B `with gs 1: with gs 0` — cyclic static lock order, not `Hier` for any rank -/
def crossProgs : List (List (List Instr)) :=
  [[[.getSet 0 (.ok 1), .getSet 1 (.ok 2), .exit, .exit]], [[.getSet 1 (.ok 3), .getSet 0 (.ok 4), .exit, .exit]]]

def collIdx : Nat → Nat := fun k => k / 2

/-- collision-freeness is necessary: keys 0,1 share slot 0 and keys 2,3 share slot 1; A reads 0 and wants to populate 3,
B reads 2 and wants to populate 1 (every caller `WellNested`, get_set only) -/
def collProgs : List (List (List Instr)) :=
  [[[.getSet 0 (.ok 1), .getSet 3 (.ok 2)]], [[.getSet 2 (.ok 3), .getSet 1 (.ok 4)]]]

def collSched : List Nat := List.replicate 11 0 ++ List.replicate 11 1 ++ [0, 0, 0, 0, 1, 1, 1, 1]

def cexIdx : Nat → Nat := fun k => k

def cexProgs : List (List (List Instr)) :=
  [[[.getSet 0 (.ok 1), .rmv 1 false false]], [[.getSet 1 (.ok 2), .rmv 0 false false]]]

def cexSched : List Nat := List.replicate 11 0 ++ List.replicate 11 1 ++ [0, 0, 0, 1, 1, 1]

def selfProgs : List (List (List Instr)) := [[[.getSet 0 (.ok 1), .getSet 1 (.ok 2)]]]

def nestProgs (n : Nat) : List (List (List Instr)) := [[List.replicate n (.getSet 0 (.ok 1))]]

theorem ghost_example' :
    (∀ p ∈ crossProgs, GetSetOnly p = true) ∧ CollisionFree id crossProgs = true ∧ (∀ ord : Nat → Nat, ¬ (∀ p ∈ crossProgs, Hier ord p = true)) ∧
    (grun id (ginit crossProgs) (List.replicate 11 0 ++ List.replicate 11 1 ++ List.replicate 12 0 ++ List.replicate 12 1)).base.allTerminal = true ∧
    (grun id (ginit crossProgs) (List.replicate 11 0 ++ List.replicate 11 1 ++ [0, 0, 0, 1, 1, 1])).stampsOK [0, 1] = true := by
  refine ⟨by decide, by decide, ?_, by decide, by decide⟩
  intro ord h
  have h0 := h _ (List.mem_cons_self ..)
  have h1 := h _ (List.mem_cons_of_mem _ (List.mem_cons_self ..))
  simp [Hier, segOk, hierOk] at h0 h1
  omega

end Coba.C19
