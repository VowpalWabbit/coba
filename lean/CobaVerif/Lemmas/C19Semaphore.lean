/-
C19, the OpenML download semaphore: the permit accounting of one read (`openmlSem`), and the semaphore as an interleaving
system `SSt` (permits are conserved, a caller that is not waiting in `acquire` has a step, a free permit unblocks a waiter).
-/
import CobaVerif.Lemmas.C19Lists
import CobaVerif.Model.C19

namespace Coba.C19

/-! ### permits of the download semaphore -/

theorem openmlSem_balanced (hasSem cached1 cached2 : Bool) :
    (openmlSem hasSem cached1 cached2).acquires = (openmlSem hasSem cached1 cached2).releases ∧
    (openmlSem hasSem cached1 cached2).acquires ≤ 1 := by
  cases hasSem <;> cases cached1 <;> cases cached2 <;> decide

theorem semStep_balanced (p : Nat) (r : Bool × Bool × Bool) (hp : 1 ≤ p) : semStep p r = some p := by
  obtain ⟨a, b, c⟩ := r
  have h := openmlSem_balanced a b c
  simp only [semStep]
  split
  · congr 1; omega
  · omega

/-! ### the download semaphore as an interleaving system -/

theorem ssum_eq_sum (f : SCaller → Nat) (l : List SCaller) : ssum f l = (l.map f).sum := by
  induction l with
  | nil => rfl
  | cons a t ih => rw [ssum, ih, List.map_cons, List.sum_cons]

theorem ssum_set (f : SCaller → Nat) (l : List SCaller) (i : Nat) (c c' : SCaller) (h : l[i]? = some c) :
    ssum f (l.set i c') + f c = ssum f l + f c' := by
  rw [ssum_eq_sum, ssum_eq_sum]; exact sum_map_set f l i c c' h

theorem ssum_ge (f : SCaller → Nat) : ∀ (l : List SCaller) (i : Nat) (c : SCaller),
    l[i]? = some c → f c ≤ ssum f l := by
  intro l i c h
  rw [ssum_eq_sum]; exact sum_map_ge f l i c h

theorem ssum_zero (f : SCaller → Nat) (l : List SCaller) (h : ∀ c ∈ l, f c = 0) : ssum f l = 0 := by
  rw [ssum_eq_sum, List.sum_eq_zero_iff_forall_eq_nat]
  intro x hx
  obtain ⟨c, hc, rfl⟩ := List.mem_map.mp hx
  exact h c hc

theorem ssum_le (f g : SCaller → Nat) (hfg : ∀ c, f c ≤ g c) : ∀ (l : List SCaller), ssum f l ≤ ssum g l := by
  intro l
  induction l with
  | nil => exact Nat.le_refl _
  | cons a t ih => exact Nat.add_le_add (hfg a) ih

theorem sstep_iff {s s' : SSt} {i : Nat} {ev : SEv} :
    sstep s i = some (ev, s') ↔
      ∃ c f c', s.cs[i]? = some c ∧ semStepC s.free c = some (ev, f, c') ∧ s' = { free := f, cs := s.cs.set i c' } := by
  simp only [sstep]
  cases hi : s.cs[i]? with
  | none => simp
  | some c =>
    cases hc : semStepC s.free c with
    | none => simp [hc]
    | some r =>
      obtain ⟨ev1, f, c'⟩ := r
      simp only [hc, Option.some.injEq, Prod.mk.injEq]
      constructor
      · rintro ⟨rfl, rfl⟩; exact ⟨c, f, c', rfl, hc, rfl⟩
      · rintro ⟨c2, f2, c2', h1, h2, h3⟩
        cases h1
        rw [hc] at h2
        cases h2
        exact ⟨rfl, h3.symm⟩

theorem semStepC_effect {free : Nat} {c c' : SCaller} {ev : SEv} {f : Nat} (h : semStepC free c = some (ev, f, c')) :
    f + c'.holds = free + c.holds ∧ ((ev = .wait ∧ f = free ∧ c' = c) ∨ (ev ≠ .wait ∧ c'.measure < c.measure)) := by
  have rank : ∀ {p q : SPc} {n : Nat}, p.rank < q.rank → p.rank + n < q.rank + n := fun h => Nat.add_lt_add_right h _
  rcases c with ⟨pc, todo⟩
  cases pc with
  | idle =>
    cases todo with
    | nil => simp only [semStepC] at h; cases h
    | cons r t =>
      simp only [semStepC] at h
      split at h <;> cases h <;>
        exact ⟨rfl, Or.inr ⟨SEv.noConfusion, by simp only [SCaller.measure, SPc.rank, List.length_cons]; omega⟩⟩
  | want r =>
    simp only [semStepC] at h
    split at h <;> cases h
    · exact ⟨by simp only [SCaller.holds]; omega, Or.inr ⟨SEv.noConfusion, rank (Nat.le_of_ble_eq_true rfl)⟩⟩
    · exact ⟨rfl, Or.inl ⟨rfl, rfl, rfl⟩⟩
  | recheck r =>
    simp only [semStepC] at h
    split at h <;> cases h <;> exact ⟨rfl, Or.inr ⟨SEv.noConfusion, rank (Nat.le_of_ble_eq_true rfl)⟩⟩
  | inside r =>
    cases h
    exact ⟨rfl, Or.inr ⟨by cases r.exc <;> exact SEv.noConfusion, rank (Nat.le_of_ble_eq_true rfl)⟩⟩
  | fin b => cases b <;> cases h <;> exact ⟨rfl, Or.inr ⟨SEv.noConfusion, rank (Nat.le_of_ble_eq_true rfl)⟩⟩

theorem sem_account_reachable {permits : Nat} {progs : List (List SRead)} {s : SSt}
    (h : SReachable permits progs s) : s.free + s.holders = permits := by
  induction h with
  | init =>
    refine congrArg (permits + ·) (ssum_zero _ _ (fun c hc => ?_))
    obtain ⟨p, _, rfl⟩ := List.mem_map.mp hc
    rfl
  | step hr hs ih =>
    obtain ⟨c, f, c', hc, hq, rfl⟩ := sstep_iff.mp hs
    have h1 := (semStepC_effect hq).1
    have h2 := ssum_set SCaller.holds _ _ c c' hc
    simp only [SSt.holders] at ih ⊢
    omega

theorem downloading_le_holds (c : SCaller) : c.downloading ≤ c.holds := by
  rcases c with ⟨pc, todo⟩
  cases pc <;> simp [SCaller.downloading, SCaller.holds]

theorem terminal_holds_zero (c : SCaller) (h : c.terminal = true) : c.holds = 0 := by
  rcases c with ⟨pc, todo⟩
  cases pc <;> simp [SCaller.terminal, SCaller.holds] at h ⊢

theorem sem_nonwait_step (free : Nat) (c : SCaller) (hnt : c.terminal = false) (hw : ∀ r, c.pc ≠ .want r) :
    ∃ ev f c', semStepC free c = some (ev, f, c') ∧ ev ≠ .wait := by
  rcases c with ⟨pc, todo⟩
  cases pc with
  | idle =>
    cases todo with
    | nil => cases hnt
    | cons r t =>
      by_cases hr : r.c1 = true
      · exact ⟨_, _, _, if_pos hr, SEv.noConfusion⟩
      · exact ⟨_, _, _, if_neg hr, SEv.noConfusion⟩
  | want r => exact absurd rfl (hw r)
  | recheck r =>
    by_cases hr : r.c2 = true
    · exact ⟨_, _, _, if_pos hr, SEv.noConfusion⟩
    · exact ⟨_, _, _, if_neg hr, SEv.noConfusion⟩
  | inside r => exact ⟨_, _, _, rfl, by cases r.exc <;> exact SEv.noConfusion⟩
  | fin b => cases b <;> exact ⟨_, _, _, rfl, SEv.noConfusion⟩

theorem sem_deadlock_free_core {s : SSt} (hp : 0 < s.free + s.holders) (hnt : s.allTerminal = false) :
    ∃ i ev s', sstep s i = some (ev, s') ∧ ev ≠ .wait := by
  by_cases hex : ∃ (i : Nat) (c : SCaller), s.cs[i]? = some c ∧ c.terminal = false ∧ ∀ r, c.pc ≠ .want r
  · obtain ⟨i, c, hc, hct, hw⟩ := hex
    obtain ⟨ev, f, c', hs, hne⟩ := sem_nonwait_step s.free c hct hw
    exact ⟨i, ev, _, sstep_iff.mpr ⟨c, f, c', hc, hs, rfl⟩, hne⟩
  · -- every unfinished caller waits in acquire(): nobody holds a permit, so one is free
    have hwant : ∀ (i : Nat) (c : SCaller), s.cs[i]? = some c → c.terminal = false → ∃ r, c.pc = .want r := fun i c hi hct =>
      Classical.byContradiction (fun hcon => hex ⟨i, c, hi, hct, fun r hr => hcon ⟨r, hr⟩⟩)
    have hz : s.holders = 0 := ssum_zero _ _ (fun c hc => by
      obtain ⟨i, hi⟩ := List.getElem?_of_mem hc
      cases hct : c.terminal with
      | true => exact terminal_holds_zero c hct
      | false => obtain ⟨r, hr⟩ := hwant i c hi hct; rw [SCaller.holds, hr])
    obtain ⟨c, hc, hct⟩ := List.all_eq_false.mp (show s.cs.all SCaller.terminal = false from hnt)
    obtain ⟨i, hi⟩ := List.getElem?_of_mem hc
    obtain ⟨r, hr⟩ := hwant i c hi (by simpa using hct)
    have hfree : 0 < s.free := by omega
    refine ⟨i, .acquire, _, sstep_iff.mpr ⟨c, s.free - 1, { c with pc := .recheck r }, hi, ?_, rfl⟩, SEv.noConfusion⟩
    simp only [semStepC, hr, hfree, if_true]

/-! ### the program of the examples -/

def semProgs : List (List SRead) := [[⟨false, false, false⟩, ⟨true, false, false⟩], [⟨false, true, false⟩], [⟨false, false, true⟩]]

theorem semaphore_example' :
    (srun (sinit 1 semProgs) [0, 1, 2, 0, 1, 2, 0, 0, 0, 1, 1, 1, 2, 2, 2, 2, 0, 0, 0, 0]).1.free = 1 ∧
    (srun (sinit 1 semProgs) [0, 1, 2, 0, 1, 2, 0, 0, 0, 1, 1, 1, 2, 2, 2, 2, 0, 0, 0, 0]).1.allTerminal = true ∧
    (srun (sinit 1 semProgs) [0, 1, 2, 0, 1, 2]).2 = [(0, .request), (1, .request), (2, .request), (0, .acquire), (1, .wait), (2, .wait)] ∧
    (srun (sinit 1 semProgs) [0, 1, 2, 0, 1, 2]).1.holders = 1 := by decide

end Coba.C19
