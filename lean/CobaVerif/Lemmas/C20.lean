/-
Lemmas about the model of `InteractionsEncoder` (`Model/C20.lean`): the `_pows` loop invariant, ordered de-duplication
and dicts, the outer product of a list of factors read from the right (`outerAll_concat`), the specification run with two
related multiplications (`MulRel`, `termsS_rel`; a homomorphism is one case and splits the sparse encoding into names and
values), `_cross` as an outer product, and `encodeG_eq_spec` (the encoder with any multiplication of values is the
specification with that multiplication); then what is derived from it for lengths, callers, input shapes and ownership
histories.
Floating point is in `C20Float`, the names of sparse monomials in `C20Names`, LinUCB's linear algebra in `C20LinAlg`.
-/
import CobaVerif.Model.C20
import Mathlib.Data.List.Induction
import Mathlib.Data.List.Sym
import Mathlib.Data.Nat.Choose.Basic
import Mathlib.Tactic.Ring
import Mathlib.Data.List.Forall2
import Mathlib.Algebra.BigOperators.Group.List.Basic
import Mathlib.Data.List.Perm.Basic

namespace Coba.C20

/-! ## Generic list facts -/

theorem foldl_max_ge_mem {γ : Type} (g : γ → Nat) (l : List γ) (m0 : Nat) (x : γ) (hx : x ∈ l) :
    g x ≤ l.foldl (fun m x => max m (g x)) m0 := by
  -- `xs.foldl max m0` is by definition `(m0 :: xs).max?`
  rw [← List.foldl_map]
  exact (List.max?_eq_some_iff.1 (List.max?_cons' (x := m0) (xs := l.map g))).2 _
    (List.mem_cons_of_mem _ (List.mem_map_of_mem hx))

theorem forall₂_imp_mem {α β : Type} {R S : α → β → Prop} {l : List α} {l' : List β} (h : List.Forall₂ R l l')
    (hs : ∀ a ∈ l, ∀ b ∈ l', R a b → S a b) : List.Forall₂ S l l' := by
  induction h with
  | nil => exact .nil
  | cons hab _ ih =>
    exact .cons (hs _ List.mem_cons_self _ List.mem_cons_self hab)
      (ih fun a ha b hb => hs a (List.mem_cons_of_mem _ ha) b (List.mem_cons_of_mem _ hb))

theorem forall₂_graph {α β : Type} {h : α → β} {l : List α} {l' : List β} :
    List.Forall₂ (fun a b => h a = b) l l' ↔ l.map h = l' := by
  rw [← List.forall₂_map_left_iff (f := h) (R := Eq), List.forall₂_eq_eq_eq]

theorem linear_score_perm (l l' : List (Rat × Rat)) (h : l.Perm l') :
    (l.map (fun p => p.1 * p.2)).sum = (l'.map (fun p => p.1 * p.2)).sum :=
  (h.map _).sum_eq

/-! ## `_pows`: the corrected `starts` recurrence computes the monomials -/

section
variable {α : Type} (mul : α → α → α) (one : α)

theorem monos_zero (xs : List α) : monos mul one 0 xs = [one] := rfl

theorem monos_succ_nil (k : Nat) : monos mul one (k + 1) ([] : List α) = [] := rfl

theorem monos_succ_cons (k : Nat) (x : α) (xs : List α) :
    monos mul one (k + 1) (x :: xs)
      = (monos mul one k (x :: xs)).map (mul x) ++ monos mul one (k + 1) xs := by
  simp [monos, multichoose, mcStep, List.map_append, List.map_map, Function.comp_def, monoProd]

theorem monos_one (xs : List α) : monos mul one 1 xs = xs.map (fun x => mul x one) := by
  induction xs with
  | nil => rfl
  | cons x xs ih => rw [monos_succ_cons, monos_zero, ih]; rfl

theorem monos_ne_nil (k : Nat) (x : α) (xs : List α) : monos mul one k (x :: xs) ≠ [] := by
  induction k with
  | zero => simp [monos_zero]
  | succ k ih =>
    rw [monos_succ_cons]
    simp [ih]

/-- invariant of the `_pows` loop: for every suffix `ys` of the values, the slice of `prev`
from `start-1` is the list of degree-`k` monomials over `ys` -/
def SufOK (k : Nat) (prev : List α) : List α → List Nat → Prop
  | [], [] => True
  | y :: ys, s :: ss => 1 ≤ s ∧ prev.drop (s - 1) = monos mul one k (y :: ys) ∧ SufOK k prev ys ss
  | _, _ => False

theorem nextTerms_eq (k : Nat) (prev : List α) :
    ∀ (ys : List α) (ss : List Nat), SufOK mul one k prev ys ss →
      nextTerms mul prev ys ss = monos mul one (k + 1) ys := by
  intro ys
  induction ys with
  | nil => intro ss _; cases ss <;> rfl
  | cons y ys ih =>
    intro ss h
    cases ss with
    | nil => exact h.elim
    | cons s ss =>
      obtain ⟨_, h2, h3⟩ := h
      rw [nextTerms, h2, ih ss h3, monos_succ_cons]

theorem sufOK_init : ∀ (ys : List α), SufOK mul one 0 [one] ys (List.replicate ys.length 1) := by
  intro ys
  induction ys with
  | nil => simp [SufOK]
  | cons y ys ih =>
    simp only [List.length_cons, List.replicate_succ, SufOK]
    exact ⟨Nat.le_refl 1, rfl, ih⟩

theorem sufOK_step (k : Nat) (P T : List α) :
    ∀ (ys : List α) (y : α) (s : Nat) (ss : List Nat) (c : Nat), 1 ≤ c →
      SufOK mul one k P (y :: ys) (s :: ss) →
      T.drop (c - 1) = monos mul one (k + 1) (y :: ys) →
      SufOK mul one (k + 1) T (y :: ys)
        (c :: accFrom c ((s :: ss).dropLast.map (fun s => P.length + 1 - s))) := by
  intro ys
  induction ys with
  | nil =>
    intro y s ss c hc h hT
    cases ss with
    | nil => exact ⟨hc, hT, trivial⟩
    | cons s2 ss => exact h.2.2.elim
  | cons y2 ys ih =>
    intro y s ss c hc h hT
    obtain ⟨hs, h2, h3⟩ := h
    cases ss with
    | nil => exact h3.elim
    | cons s2 ss =>
      refine ⟨hc, hT, ?_⟩
      apply ih y2 s2 ss (c + (P.length + 1 - s)) (by omega) h3
      -- the next suffix starts where the block `y · (degree-k monomials over y :: …)` of `T` ends
      have hlen : ((monos mul one k (y :: y2 :: ys)).map (mul y)).length = P.length + 1 - s := by
        have := congrArg List.length h2
        rw [List.length_drop] at this
        rw [List.length_map, ← this]; omega
      rw [Nat.sub_add_comm hc, ← List.drop_drop, hT,
        monos_succ_cons, ← hlen, List.drop_left]

theorem powsAux_eq (y : α) (ys : List α) :
    ∀ (d k : Nat) (starts : List Nat) (last : List α),
      last = monos mul one k (y :: ys) → SufOK mul one k last (y :: ys) starts →
      powsAux true mul (y :: ys) d starts last
        = (List.range' (k + 1) d).map (fun j => monos mul one j (y :: ys)) := by
  intro d
  induction d with
  | zero => intros; rfl
  | succ d ih =>
    intro k starts last hl hs
    cases starts with
    | nil => exact hs.elim
    | cons s ss =>
      have hn := nextTerms_eq mul one k last (y :: ys) (s :: ss) hs
      simp only [powsAux, if_true, List.range'_succ, List.map_cons]
      rw [hn]
      congr 1
      apply ih (k + 1) _ _ rfl
      exact sufOK_step mul one k last _ ys y s ss 1 (Nat.le_refl 1) hs (by simp)

theorem pows_eq (xs : List α) (hne : xs ≠ []) (d : Nat) :
    pows true mul one xs d = (List.range (d + 1)).map (fun k => monos mul one k xs) := by
  cases xs with
  | nil => exact absurd rfl hne
  | cons y ys =>
    simp only [pows]
    rw [powsAux_eq mul one y ys d 0 _ [one] rfl (sufOK_init mul one (y :: ys))]
    rw [List.range_eq_range', List.range'_succ]
    simp [monos_zero]

theorem pows_getElem? (xs : List α) (hne : xs ≠ []) (d k : Nat) (hk : k ≤ d) :
    (pows true mul one xs d)[k]? = some (monos mul one k xs) := by
  rw [pows_eq mul one xs hne d]
  simp [List.getElem?_map, List.getElem?_range (by omega : k < d + 1)]

end

/-! ## Ordered de-duplication, dicts, `Counter` and `factors` -/

section Dedup
variable {β : Type} [DecidableEq β]

theorem dedupFirst_append_singleton (p : List β) (x : β) :
    dedupFirst (p ++ [x]) = dedupAdd x (dedupFirst p) := by
  simp [dedupFirst, List.foldl_append]

theorem dedupAdd_cons_self (x : β) (D : List β) : dedupAdd x (x :: D) = x :: D := by
  rw [dedupAdd, if_pos List.mem_cons_self]

theorem dedupAdd_cons_of_ne {d x : β} (h : d ≠ x) (D : List β) : dedupAdd x (d :: D) = d :: dedupAdd x D := by
  unfold dedupAdd
  by_cases hx : x ∈ D
  · rw [if_pos hx, if_pos (List.mem_cons_of_mem _ hx)]
  · rw [if_neg hx, if_neg (by rw [List.mem_cons, not_or]; exact ⟨fun e => h e.symm, hx⟩)]; rfl

theorem mem_dedupAdd (x y : β) (acc : List β) : y ∈ dedupAdd x acc ↔ y ∈ acc ∨ y = x := by
  unfold dedupAdd
  split
  · next hx => exact (or_iff_left_of_imp fun e => e ▸ hx).symm
  · simp

theorem mem_dedupFirst (l : List β) (y : β) : y ∈ dedupFirst l ↔ y ∈ l := by
  induction l using List.reverseRecOn with
  | nil => simp [dedupFirst]
  | append_singleton p x ih => rw [dedupFirst_append_singleton, mem_dedupAdd, ih]; simp

theorem nodup_dedupAdd (x : β) (acc : List β) (h : acc.Nodup) : (dedupAdd x acc).Nodup := by
  unfold dedupAdd
  split
  · exact h
  · next hx => exact List.Nodup.append h (List.nodup_singleton x) (List.disjoint_singleton.2 hx)

theorem nodup_dedupFirst (l : List β) : (dedupFirst l).Nodup := by
  induction l using List.reverseRecOn with
  | nil => simp [dedupFirst]
  | append_singleton p x ih => rw [dedupFirst_append_singleton]; exact nodup_dedupAdd x _ ih

theorem dedupFirst_of_nodup (l : List β) (h : l.Nodup) : dedupFirst l = l := by
  induction l using List.reverseRecOn with
  | nil => simp [dedupFirst]
  | append_singleton p x ih =>
    rw [dedupFirst_append_singleton]
    rw [List.nodup_append] at h
    obtain ⟨hp, _, hd⟩ := h
    rw [ih hp, dedupAdd, if_neg]
    intro hx
    exact hd x hx x (by simp) rfl

theorem length_dedupAdd (x : β) (acc : List β) :
    (dedupAdd x acc).length = if x ∈ acc then acc.length else acc.length + 1 := by
  unfold dedupAdd
  split <;> simp

theorem dedupFirst_perm_dedup (l : List β) : (dedupFirst l).Perm l.dedup :=
  (List.perm_ext_iff_of_nodup (nodup_dedupFirst l) (List.nodup_dedup l)).2
    (fun a => by rw [mem_dedupFirst, List.mem_dedup])

theorem length_dedupFirst_le (l : List β) : (dedupFirst l).length ≤ l.length := by
  rw [(dedupFirst_perm_dedup l).length_eq]
  exact (List.dedup_sublist l).length_le

theorem length_dedupFirst_eq_iff (l : List β) : (dedupFirst l).length = l.length ↔ l.Nodup := by
  rw [(dedupFirst_perm_dedup l).length_eq, ← List.dedup_eq_self]
  exact ⟨(List.dedup_sublist l).eq_of_length, congrArg List.length⟩

end Dedup

theorem zipT_map_map {β κ δ : Type} (f : β → κ) (g : β → δ) (l : List β) :
    zipT (l.map f) (l.map g) = l.map (fun t => (f t, g t)) := by
  induction l with
  | nil => rfl
  | cons a l ih => simp [zipT, ih]

theorem zipT_fst_snd {δ ε : Type} (l : List (δ × ε)) : zipT (l.map (·.1)) (l.map (·.2)) = l :=
  (zipT_map_map (·.1) (·.2) l).trans (List.map_id l)

section Dict
variable {β κ γ : Type} [DecidableEq β] [DecidableEq κ]

theorem dictOf_append_singleton (p : List (κ × γ)) (kv : κ × γ) :
    dictOf (p ++ [kv]) = dictSet kv.1 kv.2 (dictOf p) := by
  simp [dictOf, List.foldl_append]

theorem dictSet_keys (k : κ) (v : γ) : ∀ (d : List (κ × γ)),
    (dictSet k v d).map (·.1) = dedupAdd k (d.map (·.1)) := by
  intro d
  induction d with
  | nil => rfl
  | cons kv d ih =>
    simp only [dictSet, List.map_cons]
    by_cases h : kv.1 = k
    · rw [if_pos h, ← h, dedupAdd_cons_self]; rfl
    · rw [if_neg h, List.map_cons, ih, dedupAdd_cons_of_ne h]

theorem dictOf_keys (l : List (κ × γ)) : (dictOf l).map (·.1) = dedupFirst (l.map (·.1)) := by
  induction l using List.reverseRecOn with
  | nil => rfl
  | append_singleton p kv ih =>
    rw [dictOf_append_singleton, dictSet_keys, ih, List.map_append, List.map_singleton, dedupFirst_append_singleton]

theorem dictOf_length_le (l : List (κ × γ)) : (dictOf l).length ≤ l.length := by
  have := length_dedupFirst_le (l.map (·.1))
  rwa [← dictOf_keys, List.length_map, List.length_map] at this

theorem dictSet_not_mem (k : κ) (v : γ) : ∀ (l : List (κ × γ)), k ∉ l.map (·.1) →
    dictSet k v l = l ++ [(k, v)] := by
  intro l
  induction l with
  | nil => intro _; rfl
  | cons kv l ih =>
    intro h
    simp only [List.map_cons, List.mem_cons, not_or] at h
    simp only [dictSet]
    rw [if_neg (fun hk => h.1 hk.symm), ih h.2]
    rfl

theorem dictOf_of_nodup_keys (l : List (κ × γ)) (h : (l.map (·.1)).Nodup) : dictOf l = l := by
  induction l using List.reverseRecOn with
  | nil => rfl
  | append_singleton p kv ih =>
    rw [List.map_append, List.nodup_append] at h
    obtain ⟨hp, _, hd⟩ := h
    rw [dictOf_append_singleton, ih hp, dictSet_not_mem]
    intro hk
    exact hd kv.1 hk kv.1 (by simp) rfl

theorem dictSet_map_keyed (f : β → κ) (g : β → γ) (hf : Function.Injective f) (x : β) :
    ∀ (D : List β), dictSet (f x) (g x) (D.map (fun t => (f t, g t)))
      = (dedupAdd x D).map (fun t => (f t, g t)) := by
  intro D
  induction D with
  | nil => rfl
  | cons d D ih =>
    simp only [List.map_cons, dictSet]
    by_cases hd : d = x
    · subst hd
      rw [if_pos rfl, dedupAdd_cons_self]; rfl
    · rw [if_neg (fun h => hd (hf h)), ih, dedupAdd_cons_of_ne hd]; rfl

theorem dictOf_map_keyed (f : β → κ) (g : β → γ) (hf : Function.Injective f) (l : List β) :
    dictOf (l.map (fun t => (f t, g t))) = (dedupFirst l).map (fun t => (f t, g t)) := by
  induction l using List.reverseRecOn with
  | nil => simp [dictOf, dedupFirst]
  | append_singleton p x ih =>
    rw [List.map_append, List.map_singleton, dictOf_append_singleton, ih, dedupFirst_append_singleton]
    exact dictSet_map_keyed f g hf x _

theorem dictGet_append {δ : Type} (c : κ) (a b : List (κ × δ)) :
    dictGet c (a ++ b) = match dictGet c a with | some v => some v | none => dictGet c b := by
  induction a with
  | nil => rfl
  | cons kv a ih =>
    simp only [List.cons_append, dictGet]
    split
    · rfl
    · exact ih

theorem dictGet_map_keyed {δ : Type} (g : κ → δ) (c : κ) :
    ∀ (D : List κ), dictGet c (D.map (fun x => (x, g x))) = if c ∈ D then some (g c) else none := by
  intro D
  induction D with
  | nil => rfl
  | cons d D ih =>
    simp only [List.map_cons, dictGet, List.mem_cons]
    by_cases hd : d = c
    · rw [if_pos hd, if_pos (Or.inl hd.symm), hd]
    · rw [if_neg hd, ih]
      exact if_congr (or_iff_right (fun h => hd h.symm)).symm rfl rfl

end Dict

theorem counter_append_singleton (p : List Char) (c : Char) :
    counter (p ++ [c]) = counterAdd c (counter p) := by
  simp [counter, List.foldl_append]

theorem factors_append_singleton (p : List Char) (c : Char) :
    factors (p ++ [c]) = counterAdd c (factors p) := by
  have hcount : ∀ x, (p ++ [c]).count x = if x = c then p.count x + 1 else p.count x := by
    intro x
    rw [List.count_append, List.count_singleton]
    by_cases hx : x = c
    · rw [if_pos hx, hx, beq_self_eq_true, if_pos rfl]
    · rw [if_neg hx, if_neg fun e => hx (beq_iff_eq.1 e).symm]; rfl
  -- the same over any duplicate-free list of letters `D` that holds `c` if `p` does
  have key : ∀ D : List Char, D.Nodup → (c ∈ p → c ∈ D) →
      counterAdd c (D.map fun x => (x, p.count x)) = (dedupAdd c D).map fun x => (x, (p ++ [c]).count x) := by
    intro D
    induction D with
    | nil =>
      intro _ h0
      show [(c, 1)] = [(c, (p ++ [c]).count c)]
      rw [hcount, if_pos rfl, List.count_eq_zero_of_not_mem fun hc => nomatch h0 hc]
    | cons d D ih =>
      intro hnd h0
      rw [List.nodup_cons] at hnd
      rw [List.map_cons, counterAdd]
      by_cases hd : d = c
      · -- `c` heads the list and does not recur: the other counts stay
        subst hd
        rw [if_pos rfl, dedupAdd_cons_self, List.map_cons, hcount, if_pos rfl]
        exact congrArg _ (List.map_congr_left fun x hx => by rw [hcount, if_neg fun e : x = d => hnd.1 (e ▸ hx)])
      · rw [if_neg hd, dedupAdd_cons_of_ne hd, List.map_cons, hcount, if_neg hd,
          ih hnd.2 fun hc => (List.mem_cons.1 (h0 hc)).resolve_left (Ne.symm hd)]
  unfold factors
  rw [dedupFirst_append_singleton]
  exact (key _ (nodup_dedupFirst p) (mem_dedupFirst p c).2).symm

theorem counter_eq_factors (t : List Char) : counter t = factors t := by
  induction t using List.reverseRecOn with
  | nil => rfl
  | append_singleton p c ih => rw [counter_append_singleton, ih, factors_append_singleton]

theorem factors_ne_nil (t : List Char) (ht : t ≠ []) : factors t ≠ [] := by
  cases t with
  | nil => exact absurd rfl ht
  | cons c t =>
    intro h
    have hc : c ∈ dedupFirst (c :: t) := (mem_dedupFirst _ _).2 List.mem_cons_self
    unfold factors at h
    rw [List.map_eq_nil_iff] at h
    rw [h] at hc
    cases hc

/-- what `kp ∈ factors t` gives (`mem_factors`) -/
structure IsFactor (t : List Char) (kp : Char × Nat) : Prop where
  mem : kp.1 ∈ t
  count : kp.2 = t.count kp.1
  pos : 1 ≤ kp.2
  get : dictGet kp.1 (factors t) = some kp.2

theorem mem_factors (t : List Char) (kp : Char × Nat) (h : kp ∈ factors t) : IsFactor t kp := by
  unfold factors at h
  rw [List.mem_map] at h
  obtain ⟨c, hc, rfl⟩ := h
  have hct := (mem_dedupFirst _ _).1 hc
  exact ⟨hct, rfl, List.count_pos_iff.2 hct, (dictGet_map_keyed (fun c => t.count c) c _).trans (if_pos hc)⟩

theorem sum_factors (t : List Char) : ((factors t).map (·.2)).sum = t.length := by
  unfold factors
  rw [List.map_map]
  have := ((dedupFirst_perm_dedup t).map (fun c => t.count c)).sum_eq
  simp only [Function.comp_def]
  rw [this]
  exact List.sum_map_count_dedup_eq_length t

/-! ## The combinations are exactly the multisets, each once -/
section
variable {α : Type}

theorem multichoose_succ_cons (k : Nat) (x : α) (xs : List α) :
    multichoose (k + 1) (x :: xs) = (multichoose k (x :: xs)).map (x :: ·) ++ multichoose (k + 1) xs := rfl

theorem multichoose_succ_nil (k : Nat) : multichoose (k + 1) ([] : List α) = [] := rfl

theorem multichoose_coe (k : Nat) : ∀ (xs : List α),
    (multichoose k xs).map Multiset.ofList = (xs.sym k).map Sym.toMultiset := by
  induction k with
  | zero => intro xs; simp [multichoose, List.sym]
  | succ k ihk =>
    intro xs
    induction xs with
    | nil => simp [multichoose_succ_nil, List.sym]
    | cons x xs ihx =>
      rw [multichoose_succ_cons, List.sym, List.map_append, List.map_append, ihx]
      congr 1
      rw [List.map_map, List.map_map]
      have := ihk (x :: xs)
      have h2 := congrArg (List.map (fun m : Multiset α => x ::ₘ m)) this
      rw [List.map_map, List.map_map] at h2
      exact h2

theorem multichoose_length (k : Nat) (xs : List α) :
    (multichoose k xs).length = Nat.multichoose xs.length k := by
  rw [← List.length_sym, ← List.length_map (f := Multiset.ofList), multichoose_coe, List.length_map]

theorem multichoose_nodup (k : Nat) (xs : List α) (h : xs.Nodup) :
    ((multichoose k xs).map Multiset.ofList).Nodup := by
  rw [multichoose_coe]
  exact (List.Nodup.sym k h).map Sym.coe_injective

theorem multichoose_sound (k : Nat) (xs c : List α) (h : c ∈ multichoose k xs) :
    c.length = k ∧ ∀ a ∈ c, a ∈ xs := by
  have h' : (c : Multiset α) ∈ (xs.sym k).map Sym.toMultiset := by
    rw [← multichoose_coe]; exact List.mem_map_of_mem h
  obtain ⟨z, hz, e⟩ := List.mem_map.1 h'
  constructor
  · rw [← Multiset.coe_card, ← e]; exact z.2
  · intro a ha
    have : a ∈ z := by rw [← Sym.mem_coe]; exact e ▸ ha
    exact List.mem_of_mem_of_mem_sym this hz

theorem monos_length (mul : α → α → α) (one : α) (k : Nat) (xs : List α) :
    (monos mul one k xs).length = Nat.choose (xs.length + k - 1) k := by
  rw [monos, List.length_map, multichoose_length, Nat.multichoose_eq]
end

/-! ## The outer product of a list of factors

`outerAll` folds `outer` over the factors after the first.  `outerAll_concat` reads that fold from the right; with it a fact
about the product of all factors is `concat_induction` on the list of factors (here, `outerAll_rel`, and `outerAll_words` in
`C20Names`). -/
section
variable {α : Type} (mul : α → α → α)

theorem outer_nil_left (vs : List α) : outer mul [] vs = [] := rfl
theorem outer_nil_right (os : List α) : outer mul os [] = [] := by
  simp [outer]

theorem mem_outer (A B : List α) (w : α) : w ∈ outer mul A B ↔ ∃ a ∈ A, ∃ b ∈ B, mul a b = w := by
  simp only [outer, List.mem_flatMap, List.mem_map]

theorem outer_length (a b : List α) : (outer mul a b).length = a.length * b.length := by
  rw [outer, List.length_flatMap]
  simp only [List.length_map, List.map_const', List.sum_replicate, smul_eq_mul]

theorem concat_induction {ι : Type} {P : List ι → Prop} (nil : P []) (single : ∀ i, P [i])
    (concat : ∀ j js i, P (j :: js) → P (j :: js ++ [i])) (is : List ι) : P is := by
  induction is using List.reverseRecOn with
  | nil => exact nil
  | append_singleton p i ih =>
    cases p with
    | nil => exact single i
    | cons j js => exact concat j js i ih

theorem outerAll_concat (v : List α) (vs : List (List α)) (w : List α) :
    outerAll mul (v :: vs ++ [w]) = outer mul (outerAll mul (v :: vs)) w :=
  List.foldl_concat (outer mul) v w vs

theorem outerAll_map_concat {ι : Type} (f : ι → List α) (j : ι) (js : List ι) (i : ι) :
    outerAll mul ((j :: js ++ [i]).map f) = outer mul (outerAll mul ((j :: js).map f)) (f i) := by
  rw [List.map_append, List.map_cons, List.map_singleton, outerAll_concat]

theorem outerAll_of_nil_mem (vs : List (List α)) (h : [] ∈ vs) : outerAll mul vs = [] := by
  induction vs using concat_induction with
  | nil => rfl
  | single v => exact (List.mem_singleton.1 h).symm
  | concat v vs w ih =>
    rw [outerAll_concat]
    rcases List.mem_append.1 h with h | h
    · rw [ih h, outer_nil_left]
    · rw [← List.mem_singleton.1 h, outer_nil_right]

theorem outerAll_length (vs : List (List α)) (h : vs ≠ []) :
    (outerAll mul vs).length = (vs.map List.length).prod := by
  induction vs using concat_induction with
  | nil => exact absurd rfl h
  | single v => exact (Nat.mul_one _).symm
  | concat v vs w ih =>
    rw [outerAll_concat, outer_length, ih (List.cons_ne_nil _ _), List.map_append, List.prod_append, List.map_singleton,
      List.prod_singleton]
end

/-! ## The specification is parametric in the multiplication

Run with two multiplications on inputs that are related entry by entry, the specification returns lists that are related
entry by entry, by whatever relation the two multiplications preserve (`termsS_rel`).  A homomorphism is one such relation
(`termsS_map`: names and values of the sparse encoding are images of the (name, value) pairs); the relations between a
rounding and the exact multiplication are in `C20Float`. -/

/-- a degree-indexed relation between the values that two multiplications `mul`, `mul'` compute from inputs related by `In`:
related inputs are related at degree 1, also after the multiplication by the unit that ends a monomial -/
structure MulRel {α β : Type} (mul : α → α → α) (mul' : β → β → β) (one : α) (one' : β)
    (In : α → β → Prop) (Rel : Nat → α → β → Prop) : Prop where
  input : ∀ x y, In x y → Rel 1 x y
  unit : ∀ x y, In x y → Rel 1 (mul x one) (mul' y one')
  mul : ∀ a b x y x' y', 1 ≤ a → 1 ≤ b → Rel a x y → Rel b x' y' → Rel (a + b) (mul x x') (mul' y y')

section
variable {α β : Type}

theorem mcStep_rel {R : α → β → Prop} {prev : List α → List (List α)} {prev' : List β → List (List β)}
    (hp : ∀ {xs ys}, List.Forall₂ R xs ys → List.Forall₂ (List.Forall₂ R) (prev xs) (prev' ys))
    {xs : List α} {ys : List β} (h : List.Forall₂ R xs ys) :
    List.Forall₂ (List.Forall₂ R) (mcStep prev xs) (mcStep prev' ys) := by
  induction h with
  | nil => exact .nil
  | cons hxy h ih => exact List.rel_append (List.rel_map (fun _ _ hc => .cons hxy hc) (hp (.cons hxy h))) ih

theorem multichoose_rel {R : α → β → Prop} (k : Nat) : ∀ {xs : List α} {ys : List β}, List.Forall₂ R xs ys →
    List.Forall₂ (List.Forall₂ R) (multichoose k xs) (multichoose k ys) := by
  induction k with
  | zero => intro _ _ _; exact .cons .nil .nil
  | succ k ih => intro _ _ h; exact mcStep_rel ih h

variable {mul : α → α → α} {mul' : β → β → β} {one : α} {one' : β} {In : α → β → Prop} {Rel : Nat → α → β → Prop}
  (h : MulRel mul mul' one one' In Rel)
include h

theorem monoProd_rel {c : List α} {c' : List β} (hc : List.Forall₂ In c c') :
    c ≠ [] → Rel c.length (monoProd mul one c) (monoProd mul' one' c') := by
  induction hc with
  | nil => intro hne; exact absurd rfl hne
  | @cons v v' r r' hv hr ih =>
    intro _
    cases hr with
    | nil => exact h.unit v v' hv
    | cons hw hr' =>
      have := h.mul 1 _ v v' _ _ (Nat.le_refl 1) (Nat.succ_pos _) (h.input v v' hv) (ih (List.cons_ne_nil _ _))
      rwa [Nat.add_comm] at this

theorem monos_rel {xs : List α} {ys : List β} (hx : List.Forall₂ In xs ys)
    {k : Nat} (hk : 1 ≤ k) : List.Forall₂ (Rel k) (monos mul one k xs) (monos mul' one' k ys) := by
  unfold monos
  rw [List.forall₂_map_left_iff, List.forall₂_map_right_iff]
  refine forall₂_imp_mem (multichoose_rel k hx) fun c hc c' _ hcc' => ?_
  have hl := (multichoose_sound k xs c hc).1
  have := monoProd_rel h hcc' (by rintro rfl; rw [← hl] at hk; exact Nat.not_succ_le_zero 0 hk)
  rwa [hl] at this

theorem outer_rel {a b : Nat} (ha : 1 ≤ a) (hb : 1 ≤ b)
    {A : List α} {A' : List β} (hA : List.Forall₂ (Rel a) A A') {B : List α} {B' : List β}
    (hB : List.Forall₂ (Rel b) B B') : List.Forall₂ (Rel (a + b)) (outer mul A B) (outer mul' A' B') :=
  List.rel_flatMap hA fun _ _ hxy => List.rel_map (fun _ _ hb' => h.mul a b _ _ _ _ ha hb hxy hb') hB

variable {F : Char → List α} {F' : Char → List β} (hF : ∀ c, List.Forall₂ In (F c) (F' c))
include hF

theorem outerAll_rel (cp : List (Char × Nat)) (hp : ∀ kp ∈ cp, 1 ≤ kp.2) :
    List.Forall₂ (Rel (cp.map (·.2)).sum)
      (outerAll mul (cp.map fun kp => monos mul one kp.2 (F kp.1)))
      (outerAll mul' (cp.map fun kp => monos mul' one' kp.2 (F' kp.1))) := by
  induction cp using concat_induction with
  | nil => exact .nil
  | single kp => exact monos_rel h (hF kp.1) (hp kp List.mem_cons_self)
  | concat q cp kp ih =>
    have hk := hp kp (List.mem_append_right _ List.mem_cons_self)
    have hq := hp q (List.mem_append_left _ List.mem_cons_self)
    rw [outerAll_map_concat, outerAll_map_concat, List.map_append, List.sum_append]
    exact outer_rel h (Nat.le_add_right_of_le hq) hk (ih fun p hp' => hp p (List.mem_append_left _ hp'))
      (monos_rel h (hF kp.1) hk)

theorem termS_rel (t : List Char) :
    List.Forall₂ (Rel t.length) (termS mul one F t) (termS mul' one' F' t) := by
  unfold termS
  rw [← sum_factors t]
  exact outerAll_rel h hF (factors t) fun kp hkp => (mem_factors t kp hkp).pos

theorem termsS_rel {Q : α → β → Prop} (ts : List (List Char))
    (hQ : ∀ t ∈ ts, ∀ x y, Rel t.length x y → Q x y) :
    List.Forall₂ Q (termsS mul one F ts) (termsS mul' one' F' ts) := by
  induction ts with
  | nil => exact .nil
  | cons t ts ih =>
    exact List.rel_append ((termS_rel h hF t).imp (hQ t List.mem_cons_self))
      (ih fun t' h' => hQ t' (List.mem_cons_of_mem _ h'))

end

section
variable {α β : Type} (mul : α → α → α) (one : α) (mul' : β → β → β) (one' : β) (h : α → β)

theorem mulRel_hom (hm : ∀ a b, h (mul a b) = mul' (h a) (h b)) (h1 : h one = one') :
    MulRel mul mul' one one' (fun a b => h a = b) (fun _ a b => h a = b) where
  input := fun _ _ e => e
  unit := fun x y e => by rw [hm, h1, e]
  mul := fun _ _ x y x' y' _ _ e e' => by rw [hm, e, e']

theorem multichoose_map (k : Nat) (xs : List α) :
    (multichoose k xs).map (List.map h) = multichoose k (xs.map h) :=
  forall₂_graph.1 ((multichoose_rel k (forall₂_graph.2 rfl)).imp fun _ _ => forall₂_graph.1)

theorem termsS_map (hm : ∀ a b, h (mul a b) = mul' (h a) (h b)) (h1 : h one = one')
    (F : Char → List α) (ts : List (List Char)) :
    (termsS mul one F ts).map h = termsS mul' one' (fun c => (F c).map h) ts :=
  forall₂_graph.1 (termsS_rel (mulRel_hom mul one mul' one' h hm h1) (fun _ => forall₂_graph.2 rfl) ts fun _ _ _ _ e => e)

end

/-! ## `_cross` is the outer product of the monomials -/
section
variable {α : Type} (mul : α → α → α) (one : α)

theorem pickPows_eq (F : Char → List α) (M : Char → Nat) :
    ∀ (cp : List (Char × Nat)), (∀ kp ∈ cp, F kp.1 ≠ [] ∧ kp.2 ≤ M kp.1) →
      pickPows (fun c => pows true mul one (F c) (M c)) cp
        = .ok (cp.map (fun kp => monos mul one kp.2 (F kp.1))) := by
  intro cp
  induction cp with
  | nil => intro _; rfl
  | cons kp cp ih =>
    intro h
    have h1 := h kp (List.mem_cons_self)
    simp only [pickPows, List.map_cons]
    rw [pows_getElem? mul one (F kp.1) h1.1 (M kp.1) kp.2 h1.2]
    simp only
    rw [ih (fun q hq => h q (List.mem_cons_of_mem _ hq))]

theorem pows_isEmpty (xs : List α) (d : Nat) : (pows true mul one xs d).isEmpty = xs.isEmpty := by
  cases xs <;> rfl

theorem cross_eq (F : Char → List α) (M : Char → Nat) (cp : List (Char × Nat)) (hne : cp ≠ [])
    (h : ∀ kp ∈ cp, 1 ≤ kp.2 ∧ kp.2 ≤ M kp.1) :
    cross mul (fun c => pows true mul one (F c) (M c)) cp
      = .ok (outerAll mul (cp.map (fun kp => monos mul one kp.2 (F kp.1)))) := by
  unfold cross
  by_cases hany : cp.any (fun kp => (pows true mul one (F kp.1) (M kp.1)).isEmpty) = true
  · rw [if_pos hany]
    rw [List.any_eq_true] at hany
    obtain ⟨kp, hkp, he⟩ := hany
    rw [pows_isEmpty, List.isEmpty_iff] at he
    congr 1
    symm
    apply outerAll_of_nil_mem
    rw [List.mem_map]
    refine ⟨kp, hkp, ?_⟩
    obtain ⟨p, hp⟩ : ∃ p, kp.2 = p + 1 := ⟨kp.2 - 1, by have := (h kp hkp).1; omega⟩
    simp only [he, hp, monos_succ_nil]
  · rw [if_neg hany]
    have hF : ∀ kp ∈ cp, F kp.1 ≠ [] ∧ kp.2 ≤ M kp.1 := by
      intro kp hkp
      refine ⟨?_, (h kp hkp).2⟩
      intro he
      apply hany
      rw [List.any_eq_true]
      exact ⟨kp, hkp, by rw [pows_isEmpty, he]; rfl⟩
    rw [pickPows_eq mul one F M cp hF]
    cases cp with
    | nil => exact absurd rfl hne
    | cons kp cp => rfl
end

/-! ## `__init__`: powers, keyword arguments -/

theorem maxPow_ge (cps : List (List (Char × Nat))) (cp : List (Char × Nat)) (c : Char) (p : Nat)
    (hcp : cp ∈ cps) (hg : dictGet c cp = some p) : p ≤ maxPow cps c := by
  have := foldl_max_ge_mem (fun cp => (dictGet c cp).getD 0) cps 0 cp hcp
  simpa [hg, maxPow] using this

theorem crossPows_fixed (is : List Inter) :
    crossPows Cfg.fixed is = (dedupFirst (strTerms is)).map factors := by
  unfold crossPows
  simp only [Cfg.fixed, if_true]
  rw [zipT_map_map Inter.term counter, dictOf_map_keyed Inter.term counter (fun a b h => by cases h; rfl)]
  rw [List.map_map]
  apply List.map_congr_left
  intro t _
  exact counter_eq_factors t

section
variable {α : Type} (mul : α → α → α) (one : α)

theorem crossAll_eq (F : Char → List α) (M : Char → Nat) :
    ∀ (ts : List (List Char)), (∀ t ∈ ts, t ≠ []) →
      (∀ t ∈ ts, ∀ kp ∈ factors t, kp.2 ≤ M kp.1) →
      crossAll mul (fun c => pows true mul one (F c) (M c)) (ts.map factors)
        = .ok (termsS mul one F ts) := by
  intro ts
  induction ts with
  | nil => intro _ _; rfl
  | cons t ts ih =>
    intro hne hM
    simp only [List.map_cons, crossAll]
    rw [cross_eq mul one F M (factors t) (factors_ne_nil t (hne t List.mem_cons_self))
      (fun kp hkp => ⟨(mem_factors t kp hkp).pos, hM t List.mem_cons_self kp hkp⟩)]
    simp only
    rw [ih (fun t' h' => hne t' (List.mem_cons_of_mem _ h')) (fun t' h' => hM t' (List.mem_cons_of_mem _ h'))]
    simp [termsS, termS]

theorem crossAll_fixed (F : Char → List α) (is : List Inter) (hne : ∀ t ∈ strTerms is, t ≠ []) :
    crossAll mul (fun c => pows true mul one (F c) (maxPow (crossPows Cfg.fixed is) c)) (crossPows Cfg.fixed is)
      = .ok (termsS mul one F (dedupFirst (strTerms is))) := by
  rw [crossPows_fixed]
  apply crossAll_eq mul one F
  · intro t ht; exact hne t ((mem_dedupFirst _ _).1 ht)
  · intro t ht kp hkp
    exact maxPow_ge _ (factors t) kp.1 kp.2 (List.mem_map.2 ⟨t, ht, rfl⟩) (mem_factors t kp hkp).get
end

theorem dictGet_kwargs_fixed (is : List Inter) (kw : List (Char × NsVal)) (c : Char) :
    dictGet c (kwargs Cfg.fixed is kw)
      = (dictGet c kw).or (if c ∈ nsNames is then some (.dense []) else none) := by
  unfold kwargs
  simp only [Cfg.fixed, if_true]
  rw [dictGet_append]
  cases hk : dictGet c kw with
  | some v => rfl
  | none =>
    rw [dictGet_map_keyed]
    exact if_congr (by rw [List.mem_filter, hk]; exact and_iff_left rfl) rfl rfl

/-- nothing that treats `[]` like `None` sees the added entries -/
theorem nsVal_kwargs {γ : Type} (f : NsVal → γ) (hf : f (.dense []) = f .none) (is : List Inter)
    (kw : List (Char × NsVal)) (c : Char) : f (nsVal (kwargs Cfg.fixed is kw) c) = f (nsVal kw c) := by
  unfold nsVal
  rw [dictGet_kwargs_fixed]
  cases dictGet c kw with
  | some v => rfl
  | none =>
    rw [Option.none_or]
    split
    · exact hf
    · rfl

/-! ## `encode` is the specification -/

theorem denseVals_kwargs (is : List Inter) (kw : List (Char × NsVal)) (c : Char) :
    denseVals (nsVal (kwargs Cfg.fixed is kw) c) = denseVals (nsVal kw c) := nsVal_kwargs denseVals rfl is kw c

theorem sparseFeats_kwargs (is : List Inter) (kw : List (Char × NsVal)) (c : Char) :
    sparseFeats c (nsVal (kwargs Cfg.fixed is kw) c) = sparseFeats c (nsVal kw c) :=
  nsVal_kwargs (sparseFeats c) rfl is kw c

theorem isSparse_kwargs (is : List Inter) (kw : List (Char × NsVal)) :
    (kwargs Cfg.fixed is kw).any (fun cv => cv.2.isSparse) = kw.any (fun cv => cv.2.isSparse) := by
  unfold kwargs
  simp only [Cfg.fixed, if_true, List.any_append, List.any_map]
  have : (List.filter (fun c => (dictGet c kw).isNone) (nsNames is)).any
      ((fun cv : Char × NsVal => cv.2.isSparse) ∘ fun c => (c, NsVal.dense [])) = false := by
    rw [List.any_eq_false]
    intro x _
    simp [NsVal.isSparse]
  rw [this, Bool.or_false]

theorem no_keyError (is : List Inter) (kw : List (Char × NsVal)) :
    (nsNames is).any (fun c => (dictGet c (kwargs Cfg.fixed is kw)).isNone) = false := by
  rw [List.any_eq_false]
  intro c hc
  rw [dictGet_kwargs_fixed, if_pos hc]
  cases dictGet c kw <;> exact Bool.false_ne_true

theorem encodeG_eq_spec (vmul : Rat → Rat → Rat) (is : List Inter) (kw : List (Char × NsVal))
    (hne : ∀ t ∈ strTerms is, t ≠ []) : encodeG vmul Cfg.fixed is kw = .ok (encodeSG vmul is kw) := by
  unfold encodeG encodeSG isSparseCall
  simp only [no_keyError, isSparse_kwargs, denseVals_kwargs, sparseFeats_kwargs]
  simp only [Bool.false_eq_true, if_false]
  have hfix : Cfg.fixed.fixPows = true := rfl
  rw [hfix]
  by_cases hs : kw.any (fun cv => cv.2.isSparse) = true
  · simp only [hs, if_true]
    rw [crossAll_fixed strMul "" (fun c => (sparseFeats c (nsVal kw c)).map (·.1)) is hne,
        crossAll_fixed vmul 1 (fun c => (sparseFeats c (nsVal kw c)).map (·.2)) is hne]
    simp only
    rw [← termsS_map (pairMulG vmul) pairOne strMul "" (·.1) (fun _ _ => rfl) rfl,
        ← termsS_map (pairMulG vmul) pairOne vmul 1 (·.2) (fun _ _ => rfl) rfl, zipT_fst_snd]
    rfl
  · simp only [hs]
    rw [crossAll_fixed vmul 1 (fun c => denseVals (nsVal kw c)) is hne]
    rfl

theorem encodeSG_ratMul (is : List Inter) (kw : List (Char × NsVal)) :
    encodeSG ratMul is kw = encodeS is kw := rfl

theorem encodeSG_dense (vmul : Rat → Rat → Rat) (is : List Inter) (kw : List (Char × NsVal))
    (hd : isSparseCall kw = false) :
    encodeSG vmul is kw = .dense ((if constant is ≠ 0 then [constant is] else [])
      ++ termsS vmul 1 (featsDense kw) (dedupFirst (strTerms is))) := by
  rw [encodeSG, hd]
  by_cases hc : constant is ≠ 0 <;> simp [hc]

theorem encodeSG_sparse (vmul : Rat → Rat → Rat) (is : List Inter) (kw : List (Char × NsVal))
    (hs : isSparseCall kw = true) :
    encodeSG vmul is kw = .sparse (dictOf (termsS (pairMulG vmul) pairOne (featsSparse kw) (dedupFirst (strTerms is))
      ++ (if constant is ≠ 0 then [("const", constant is)] else []))) := by
  rw [encodeSG, hs]
  by_cases hc : constant is ≠ 0
  · simp only [if_true, if_pos hc, dictOf_append_singleton]
  · simp only [if_true, if_neg hc, List.append_nil]

theorem encodeG_dense (vmul : Rat → Rat → Rat) (is : List Inter) (kw : List (Char × NsVal))
    (hne : ∀ t ∈ strTerms is, t ≠ []) (hd : isSparseCall kw = false) :
    encodeG vmul Cfg.fixed is kw = .ok (.dense ((if constant is ≠ 0 then [constant is] else [])
      ++ termsS vmul 1 (featsDense kw) (dedupFirst (strTerms is)))) := by
  rw [encodeG_eq_spec vmul is kw hne, encodeSG_dense _ _ _ hd]

theorem encodeG_sparse (vmul : Rat → Rat → Rat) (is : List Inter) (kw : List (Char × NsVal))
    (hne : ∀ t ∈ strTerms is, t ≠ []) (hs : isSparseCall kw = true) :
    encodeG vmul Cfg.fixed is kw = .ok (.sparse (dictOf (termsS (pairMulG vmul) pairOne (featsSparse kw)
      (dedupFirst (strTerms is)) ++ (if constant is ≠ 0 then [("const", constant is)] else [])))) := by
  rw [encodeG_eq_spec vmul is kw hne, encodeSG_sparse _ _ _ hs]

/-! ## The error branch: a term without namespaces -/
section
variable {α : Type} (mul : α → α → α)

theorem pickPows_error (nsPows : Char → List (List α)) : ∀ (cp : List (Char × Nat)) (e : Err),
    pickPows nsPows cp = .error e → e = .indexError := by
  intro cp
  induction cp with
  | nil => intro e h; cases h
  | cons kp cp ih =>
    intro e h
    simp only [pickPows] at h
    split at h
    · cases h; rfl
    · split at h
      · cases h
      · next e' he => cases h; exact ih e he

theorem cross_error (nsPows : Char → List (List α)) (cp : List (Char × Nat)) (e : Err)
    (h : cross mul nsPows cp = .error e) : e = .indexError := by
  unfold cross at h
  split at h
  · cases h
  · split at h
    · next e' he => cases h; exact pickPows_error nsPows cp e he
    · cases h; rfl
    · cases h

theorem crossAll_nil_mem (nsPows : Char → List (List α)) : ∀ (cps : List (List (Char × Nat))),
    [] ∈ cps → crossAll mul nsPows cps = .error .indexError := by
  intro cps
  induction cps with
  | nil => intro h; cases h
  | cons cp cps ih =>
    intro h
    simp only [crossAll]
    rcases List.mem_cons.1 h with h | h
    · subst h; rfl
    · cases hc : cross mul nsPows cp with
      | error e => rw [cross_error mul nsPows cp e hc]
      | ok c => simp only; rw [ih h]
end

theorem encodeG_empty_term (vmul : Rat → Rat → Rat) (is : List Inter) (kw : List (Char × NsVal))
    (h : [] ∈ strTerms is) : encodeG vmul Cfg.fixed is kw = .error .indexError := by
  have hmem : [] ∈ crossPows Cfg.fixed is := by
    rw [crossPows_fixed, List.mem_map]
    exact ⟨[], (mem_dedupFirst _ _).2 h, rfl⟩
  unfold encodeG
  simp only [no_keyError, Bool.false_eq_true, if_false]
  by_cases hs : (kwargs Cfg.fixed is kw).any (fun cv => cv.2.isSparse) = true
  · rw [if_pos hs, crossAll_nil_mem strMul _ _ hmem]
  · rw [if_neg hs, crossAll_nil_mem vmul _ _ hmem]

/-! ## Scalars, `None`, absent namespaces -/

theorem sparseFeats_dense_nil (c : Char) : sparseFeats c (.dense []) = [] := rfl
theorem sparseFeats_none (c : Char) : sparseFeats c .none = [] := rfl

theorem denseVals_scalar (it : Item) : denseVals (.scalar it) = denseVals (.dense [it]) := by
  cases it <;> rfl

theorem sparseFeats_scalar (c : Char) (it : Item) :
    sparseFeats c (.scalar it) = sparseFeats c (.dense [it]) := rfl

theorem sparseFeats_scalar_num (c : Char) (q : Rat) :
    sparseFeats c (.scalar (.num q)) = [(String.singleton c ++ "0", q)] := rfl

theorem sparseFeats_scalar_str (c : Char) (s : String) :
    sparseFeats c (.scalar (.str s)) = [(String.singleton c ++ ("0" ++ s), 1)] := rfl

theorem nsVal_single (c : Char) (v : NsVal) : nsVal [(c, v)] c = v := by simp [nsVal, dictGet]

theorem nsVal_absent (kw : List (Char × NsVal)) (c : Char) (h : dictGet c kw = none) :
    nsVal kw c = .none := by simp [nsVal, h]

/-! ## Length of the dense encoding -/

theorem chooseNat_eq : ∀ n k, chooseNat n k = Nat.choose n k
  | _, 0 => by simp [chooseNat]
  | 0, k + 1 => by simp [chooseNat]
  | n + 1, k + 1 => by rw [chooseNat, chooseNat_eq n k, chooseNat_eq n (k + 1), Nat.choose_succ_succ]

section
variable {α : Type} (mul : α → α → α) (one : α)

-- `termLen` and `encodeLen` write their product and sum as folds
theorem termS_length (F : Char → List α) (t : List Char) (ht : t ≠ []) :
    (termS mul one F t).length = termLen (fun c => (F c).length) t := by
  unfold termS termLen
  rw [outerAll_length mul _ (by simpa using factors_ne_nil t ht), List.map_map, List.prod_eq_foldl]
  exact congrArg (List.foldl _ 1) (List.map_congr_left fun cp _ =>
    (monos_length mul one cp.2 (F cp.1)).trans (chooseNat_eq _ _).symm)

theorem termsS_length (F : Char → List α) (ts : List (List Char)) (h : ∀ t ∈ ts, t ≠ []) :
    (termsS mul one F ts).length = (ts.map (termLen (fun c => (F c).length))).foldl (· + ·) 0 := by
  rw [termsS, List.length_flatMap, ← List.sum_eq_foldl]
  exact congrArg List.sum (List.map_congr_left fun t ht => termS_length mul one F t (h t ht))
end

/-! ## The callers' term lists and argument shapes -/

theorem mem_strTerms (l : List Inter) (t : List Char) : t ∈ strTerms l ↔ Inter.term t ∈ l := by
  induction l with
  | nil => simp [strTerms]
  | cons i l ih =>
    cases i with
    | num q => simp [strTerms, ih]
    | term u => simp [strTerms, ih]

theorem wellformed_nonempty (is : List Inter) (h : wellformedTerms is = true) :
    ∀ t ∈ strTerms is, t ≠ [] := by
  intro t ht he
  subst he
  unfold wellformedTerms at h
  rw [List.all_eq_true] at h
  have := h [] ht
  simp at this

theorem normalise_wrapStr (s : Shape) : normalise [Norm.wrapStr] s = s.meaning := by cases s <;> rfl
theorem normalise_asIs_wrapStr (s : Shape) : normalise [Norm.asIs, Norm.wrapStr] s = s.meaning := by cases s <;> rfl
theorem normalise_asIs_seq (ts : List Inter) :
    normalise [Norm.asIs] (.list ts) = ts ∧ normalise [Norm.asIs] (.tuple ts) = ts := ⟨rfl, rfl⟩

/-! ## Named input shapes: repeated letters, string-valued features -/

theorem termS_single {α : Type} (mul : α → α → α) (one : α) (F : Char → List α) (c : Char) :
    termS mul one F [c] = monos mul one 1 (F c) := by
  have hf : factors [c] = [(c, 1)] := by simp [factors, dedupFirst, dedupAdd]
  rw [termS, hf]; rfl

theorem termS_repeated_letter {α : Type} (mul : α → α → α) (one : α) (F : Char → List α) (c d : Char) (h : c ≠ d) :
    termS mul one F [c, c, d] = outer mul (monos mul one 2 (F c)) (monos mul one 1 (F d)) := by
  have hf : factors [c, c, d] = [(c, 2), (d, 1)] := by
    simp [factors, dedupFirst, dedupAdd, h, h.symm, List.count_cons]
  simp [termS, hf, outerAll]

theorem sparseFeats_string_item (c : Char) (k : Key) (s : String) :
    sparseFeats c (.sparse [(k, .str s)]) = [(String.singleton c ++ (k.fmt ++ s), 1)] := by
  simp [sparseFeats, makeDict, handleEntry, dictOf, dictSet, Key.fmt]

/-! ## Ownership histories: caller edits of the term list and of handed-out results -/

theorem ownRunFrom_code (cfg : Cfg) (ops : List OwnOp) : ∀ s : OwnState,
    (ownRunFrom OwnCfg.code cfg s ops).1 = (ownCalls ops).map (encode cfg s.encTerms)
    ∧ (ownRunFrom OwnCfg.code cfg s ops).2.encTerms = s.encTerms := by
  induction ops with
  | nil => intro s; exact ⟨rfl, rfl⟩
  | cons op ops ih =>
    intro s
    -- no step changes `encTerms`, so the induction hypothesis at the next state speaks of `s.encTerms`
    cases op with
    | encode kw =>
      obtain ⟨h1, h2⟩ := ih { s with results := s.results ++ [encode cfg s.encTerms kw] }
      exact ⟨congrArg (encode cfg s.encTerms kw :: ·) h1, h2⟩
    | editResult k o => exact ih { s with results := s.results.set k (.ok o) }
    | editTerms is => exact ih { s with callerTerms := is }

end Coba.C20
