/-
Floating point in the encoder.  `encodeG` takes the multiplication of feature values as a parameter; everything here
compares `encodeG fmul` with the exact `encode` through `termsS_rel` (`C20`): a relation between two multiplications
that is indexed by the degree of the value carries over to every entry of every term, hence to the encoder's result
(`encodeG_dense_rel`, `encodeG_sparse_rel`).  Instances: the standard model (`FloatMulOn`: each product within relative
error `u`, `x·1 = x` on representable `x`) gives `d - 1` roundings for a term of degree `d`; a multiplication that is
exact on a graded family (`Graded`, dyadic numbers `Dy`) gives the exact encoder.  Then the explicit model of IEEE
rounding (`roundSig`, `fmul53` in the model file): exact on representable numbers, relative error `2^-prec` otherwise.
-/
import CobaVerif.Lemmas.C20
import Mathlib.Algebra.Order.Field.Rat
import Mathlib.Tactic.Linarith
import Mathlib.Algebra.Order.Ring.Abs
import Mathlib.Algebra.Order.Monoid.Unbundled.Pow
import Mathlib.Algebra.Order.Ring.Pow
import Mathlib.Algebra.Order.Field.Power
import Mathlib.Tactic.NormNum

namespace Coba.C20

/-! ## The encoder run with two related multiplications -/

/-- sparse results: the same names, related values -/
def PairRel (R : Rat → Rat → Prop) (p q : String × Rat) : Prop := p.1 = q.1 ∧ R p.2 q.2

/-- both multiplications concatenate the names, so a relation on values lifts to the named values of the sparse path -/
theorem MulRel.pairs {fmul fmul' : Rat → Rat → Rat} {In : Rat → Rat → Prop} {Rel : Nat → Rat → Rat → Prop}
    (h : MulRel fmul fmul' 1 1 In Rel) :
    MulRel (pairMulG fmul) (pairMulG fmul') pairOne pairOne (PairRel In) (fun k => PairRel (Rel k)) where
  input := fun _ _ hx => ⟨hx.1, h.input _ _ hx.2⟩
  unit := fun _ _ hx => ⟨congrArg (· ++ "") hx.1, h.unit _ _ hx.2⟩
  mul := fun a b _ _ _ _ ha hb hx hx' =>
    ⟨congrArg₂ (· ++ ·) hx.1 hx'.1, h.mul a b _ _ _ _ ha hb hx.2 hx'.2⟩

theorem dictSet_rel {R : Rat → Rat → Prop} (k : String) {v v' : Rat} (hv : R v v') :
    ∀ {d d' : List (String × Rat)}, List.Forall₂ (PairRel R) d d' →
      List.Forall₂ (PairRel R) (dictSet k v d) (dictSet k v' d') := by
  intro d d' h
  induction h with
  | nil => exact List.Forall₂.cons ⟨rfl, hv⟩ List.Forall₂.nil
  | @cons p q d d' hpq hdd ih =>
    obtain ⟨pk, pv⟩ := p
    obtain ⟨qk, qv⟩ := q
    obtain ⟨hk, hr⟩ := hpq
    simp only at hk
    subst hk
    simp only [dictSet]
    by_cases he : pk = k
    · rw [if_pos he, if_pos he]; exact List.Forall₂.cons ⟨rfl, hv⟩ hdd
    · rw [if_neg he, if_neg he]; exact List.Forall₂.cons ⟨rfl, hr⟩ ih

theorem dictOf_rel {R : Rat → Rat → Prop} {l l' : List (String × Rat)} (h : List.Forall₂ (PairRel R) l l') :
    List.Forall₂ (PairRel R) (dictOf l) (dictOf l') :=
  List.rel_foldl (fun _ _ hd _ q hpq => by rw [hpq.1]; exact dictSet_rel q.1 hpq.2 hd) .nil h

section
variable {fmul fmul' : Rat → Rat → Rat} {In : Rat → Rat → Prop} {Rel : Nat → Rat → Rat → Prop} {Q : Rat → Rat → Prop}

/-- `hQ` lets the caller pass from the relation at each term's degree to one that does not mention the term
(`Approx u (maxDeg is - 1)`, equality) -/
theorem encodeG_dense_rel (h : MulRel fmul fmul' 1 1 In Rel) (is : List Inter) (kw : List (Char × NsVal))
    (hne : ∀ t ∈ strTerms is, t ≠ []) (hd : isSparseCall kw = false)
    (hIn : ∀ c, ∀ v ∈ featsDense kw c, In v v)
    (hQ : ∀ t ∈ dedupFirst (strTerms is), ∀ x y, Rel t.length x y → Q x y) :
    ∃ vs vs' : List Rat,
      encodeG fmul Cfg.fixed is kw = .ok (.dense ((if constant is ≠ 0 then [constant is] else []) ++ vs)) ∧
      encodeG fmul' Cfg.fixed is kw = .ok (.dense ((if constant is ≠ 0 then [constant is] else []) ++ vs')) ∧
      List.Forall₂ Q vs vs' :=
  ⟨_, _, encodeG_dense fmul is kw hne hd, encodeG_dense fmul' is kw hne hd,
    termsS_rel h (fun c => List.forall₂_same.2 (hIn c)) _ hQ⟩

theorem encodeG_sparse_rel (h : MulRel fmul fmul' 1 1 In Rel) (is : List Inter) (kw : List (Char × NsVal))
    (hne : ∀ t ∈ strTerms is, t ≠ []) (hs : isSparseCall kw = true)
    (hIn : ∀ c, ∀ p ∈ featsSparse kw c, In p.2 p.2)
    (hQ : ∀ t ∈ dedupFirst (strTerms is), ∀ x y, Rel t.length x y → Q x y) (hrefl : ∀ q, Q q q) :
    ∃ kvs kvs' : List (String × Rat),
      encodeG fmul Cfg.fixed is kw = .ok (.sparse kvs) ∧ encodeG fmul' Cfg.fixed is kw = .ok (.sparse kvs') ∧
      List.Forall₂ (PairRel Q) kvs kvs' :=
  ⟨_, _, encodeG_sparse fmul is kw hne hs, encodeG_sparse fmul' is kw hne hs,
    dictOf_rel (List.rel_append
      (termsS_rel h.pairs (fun c => List.forall₂_same.2 fun p hp => ⟨rfl, hIn c p hp⟩) _
        fun t ht _ _ hr => ⟨hr.1, hQ t ht _ _ hr.2⟩)
      (List.forall₂_same.2 fun _ _ => ⟨rfl, hrefl _⟩))⟩
end

/-- the largest degree of a term of `is`: an entry goes through at most `maxDeg is - 1` roundings, and a product of
inputs bounded by `M` stays below `M ^ maxDeg is` -/
def maxDeg (is : List Inter) : Nat := (strTerms is).foldl (fun m t => max m t.length) 0

theorem length_le_maxDeg (is : List Inter) (t : List Char) (ht : t ∈ dedupFirst (strTerms is)) : t.length ≤ maxDeg is :=
  foldl_max_ge_mem (fun t : List Char => t.length) (strTerms is) 0 t ((mem_dedupFirst _ _).1 ht)

/-! ## The standard model of floating-point multiplication: error propagation -/

/-- standard model of floating-point multiplication with unit roundoff `u` (no under/overflow):
the result is the exact product times `1+ε` with `|ε| ≤ u`, and multiplying by `1` is exact -/
def FloatMul (u : Rat) (fmul : Rat → Rat → Rat) : Prop :=
  (∀ a, fmul a 1 = a) ∧ ∀ a b, ∃ ε, -u ≤ ε ∧ ε ≤ u ∧ fmul a b = a * b * (1 + ε)

/-- `FloatMul` with its first clause restricted to the numbers satisfying `R` (the representable ones) -/
def FloatMulOn (R : Rat → Prop) (u : Rat) (fmul : Rat → Rat → Rat) : Prop :=
  (∀ a, R a → fmul a 1 = a) ∧ ∀ a b, ∃ ε, -u ≤ ε ∧ ε ≤ u ∧ fmul a b = a * b * (1 + ε)

theorem floatMulOn_of_floatMul {u : Rat} {fmul : Rat → Rat → Rat} (R : Rat → Prop) (h : FloatMul u fmul) :
    FloatMulOn R u fmul := ⟨fun a _ => h.1 a, h.2⟩

/-- `x` equals `y` up to `m` roundings: `x = y·δ` with `(1-u)^m ≤ δ ≤ (1+u)^m` -/
def Approx (u : Rat) (m : Nat) (x y : Rat) : Prop :=
  ∃ δ, x = y * δ ∧ (1 - u) ^ m ≤ δ ∧ δ ≤ (1 + u) ^ m

theorem approx_refl (u : Rat) (x : Rat) : Approx u 0 x x := ⟨1, by ring, by simp, by simp⟩

theorem approx_mono {u : Rat} (h0 : 0 ≤ u) (h1 : u ≤ 1) {m m' : Nat} (h : m ≤ m') {x y : Rat}
    (hx : Approx u m x y) : Approx u m' x y := by
  obtain ⟨δ, hδ, hl, hr⟩ := hx
  refine ⟨δ, hδ, ?_, ?_⟩
  · exact le_trans (pow_le_pow_of_le_one (sub_nonneg.2 h1) (sub_le_self 1 h0) h) hl
  · exact le_trans hr (pow_le_pow_right₀ (le_add_of_nonneg_right h0) h)

section
variable {R : Rat → Prop} {u : Rat} {fmul : Rat → Rat → Rat}

theorem approx_mul (hf : FloatMulOn R u fmul) (h0 : 0 ≤ u) (h1 : u ≤ 1)
    {m1 m2 : Nat} {x y x' y' : Rat} (hx : Approx u m1 x y) (hx' : Approx u m2 x' y') :
    Approx u (m1 + m2 + 1) (fmul x x') (y * y') := by
  obtain ⟨δ1, rfl, l1, r1⟩ := hx
  obtain ⟨δ2, rfl, l2, r2⟩ := hx'
  obtain ⟨ε, e1, e2, he⟩ := hf.2 (y * δ1) (y' * δ2)
  have a0 : (0 : Rat) ≤ 1 - u := sub_nonneg.2 h1
  have b0 : (0 : Rat) ≤ 1 + u := add_nonneg zero_le_one h0
  have lε : 1 - u ≤ 1 + ε := by rw [sub_eq_add_neg]; exact add_le_add_right e1 1
  have d1 : 0 ≤ δ1 := le_trans (pow_nonneg a0 _) l1
  have d2 : 0 ≤ δ2 := le_trans (pow_nonneg a0 _) l2
  refine ⟨δ1 * δ2 * (1 + ε), by rw [he]; ring, ?_, ?_⟩
  · rw [pow_succ, pow_add]
    exact mul_le_mul (mul_le_mul l1 l2 (pow_nonneg a0 _) d1) lε a0 (mul_nonneg d1 d2)
  · rw [pow_succ, pow_add]
    exact mul_le_mul (mul_le_mul r1 r2 d2 (pow_nonneg b0 _)) (add_le_add_right e2 1) (le_trans a0 lε)
      (mul_nonneg (pow_nonneg b0 _) (pow_nonneg b0 _))

/-- a value of degree `k ≥ 1` has gone through `k - 1` roundings: the product by the unit is exact on inputs -/
theorem mulRel_approx (hf : FloatMulOn R u fmul) (h0 : 0 ≤ u) (h1 : u ≤ 1) :
    MulRel fmul ratMul 1 1 (fun x y => x = y ∧ R y) (fun k => Approx u (k - 1)) where
  input := fun x _ hx => hx.1 ▸ approx_refl u x
  unit := fun x y hx => by
    rw [hx.1, hf.1 y hx.2, ratMul, mul_one]
    exact approx_refl u y
  mul := fun a b x y x' y' ha hb hx hx' => by
    have := approx_mul hf h0 h1 hx hx'
    rwa [Nat.add_assoc, Nat.sub_add_cancel hb, ← Nat.sub_add_comm ha] at this

theorem approx_maxDeg (h0 : 0 ≤ u) (h1 : u ≤ 1) (is : List Inter) :
    ∀ t ∈ dedupFirst (strTerms is), ∀ x y, Approx u (t.length - 1) x y → Approx u (maxDeg is - 1) x y :=
  fun t ht _ _ => approx_mono h0 h1 (Nat.sub_le_sub_right (length_le_maxDeg is t ht) 1)

theorem encodeG_dense_approx (hf : FloatMulOn R u fmul) (h0 : 0 ≤ u) (h1 : u ≤ 1)
    (is : List Inter) (kw : List (Char × NsVal))
    (hne : ∀ t ∈ strTerms is, t ≠ []) (hd : isSparseCall kw = false)
    (hR : ∀ c, ∀ v ∈ featsDense kw c, R v) :
    ∃ vs vs' : List Rat,
      encodeG fmul Cfg.fixed is kw = .ok (.dense ((if constant is ≠ 0 then [constant is] else []) ++ vs)) ∧
      encode Cfg.fixed is kw = .ok (.dense ((if constant is ≠ 0 then [constant is] else []) ++ vs')) ∧
      List.Forall₂ (Approx u (maxDeg is - 1)) vs vs' :=
  encodeG_dense_rel (mulRel_approx hf h0 h1) is kw hne hd (fun c v hv => ⟨rfl, hR c v hv⟩) (approx_maxDeg h0 h1 is)

theorem encodeG_sparse_approx (hf : FloatMulOn R u fmul) (h0 : 0 ≤ u) (h1 : u ≤ 1)
    (is : List Inter) (kw : List (Char × NsVal))
    (hne : ∀ t ∈ strTerms is, t ≠ []) (hs : isSparseCall kw = true)
    (hR : ∀ c, ∀ p ∈ featsSparse kw c, R p.2) :
    ∃ kvs kvs' : List (String × Rat),
      encodeG fmul Cfg.fixed is kw = .ok (.sparse kvs) ∧ encode Cfg.fixed is kw = .ok (.sparse kvs') ∧
      List.Forall₂ (PairRel (Approx u (maxDeg is - 1))) kvs kvs' :=
  encodeG_sparse_rel (mulRel_approx hf h0 h1) is kw hne hs (fun c p hp => ⟨rfl, hR c p hp⟩) (approx_maxDeg h0 h1 is)
    fun q => approx_mono h0 h1 (Nat.zero_le _) (approx_refl u q)
end

theorem u53_ok : (0 : Rat) ≤ 1 / 2 ^ 53 ∧ (1 : Rat) / 2 ^ 53 ≤ 1 := by norm_num

theorem floatMul_exact (u : Rat) (h0 : 0 ≤ u) : FloatMul u ratMul :=
  ⟨fun a => by simp [ratMul], fun a b => ⟨0, by linarith, h0, by simp [ratMul]⟩⟩

/-! ## Multiplications that are exact on a graded family -/

/-- degree-graded exact multiplication: `P k x` says "x is a product of k inputs that is still exactly
representable"; the unit has degree 0 and multiplying two such numbers of total degree ≤ D is exact -/
def Graded (P : Nat → Rat → Prop) (D : Nat) (fmul : Rat → Rat → Rat) : Prop :=
  P 0 1 ∧ ∀ a b x y, P a x → P b y → a + b ≤ D → fmul x y = x * y ∧ P (a + b) (x * y)

section
variable {P : Nat → Rat → Prop} {D : Nat} {fmul : Rat → Rat → Rat}

/-- the budget `D` sits inside the relation -/
theorem mulRel_graded (hg : Graded P D fmul) :
    MulRel fmul ratMul 1 1 (fun x y => x = y ∧ P 1 y) (fun k x y => k ≤ D → x = y ∧ P k y) where
  input := fun _ _ hx _ => hx
  unit := fun x y hx hD => hx.1 ▸ hg.2 1 0 y 1 hx.2 hg.1 hD
  mul := fun a b _ _ _ _ _ _ hx hx' hab => by
    obtain ⟨rfl, p⟩ := hx (Nat.le_trans (Nat.le_add_right a b) hab)
    obtain ⟨rfl, p'⟩ := hx' (Nat.le_trans (Nat.le_add_left b a) hab)
    exact hg.2 a b _ _ p p' hab

theorem encode_graded_exact (hg : Graded P D fmul) (is : List Inter) (kw : List (Char × NsVal))
    (hne : ∀ t ∈ strTerms is, t ≠ []) (hD : maxDeg is ≤ D)
    (hd : ∀ c, ∀ v ∈ featsDense kw c, P 1 v) (hs : ∀ c, ∀ p ∈ featsSparse kw c, P 1 p.2) :
    encodeG fmul Cfg.fixed is kw = encode Cfg.fixed is kw := by
  have hQ : ∀ t ∈ dedupFirst (strTerms is), ∀ x y : Rat, (t.length ≤ D → x = y ∧ P t.length y) → x = y :=
    fun t ht _ _ h => (h (le_trans (length_le_maxDeg is t ht) hD)).1
  cases hsp : isSparseCall kw with
  | false =>
    obtain ⟨vs, vs', e, e', h⟩ := encodeG_dense_rel (mulRel_graded hg) is kw hne hsp (fun c v hv => ⟨rfl, hd c v hv⟩) hQ
    obtain rfl : vs = vs' := List.forall₂_eq_eq_eq ▸ h
    rw [e, encode, e']
  | true =>
    obtain ⟨kvs, kvs', e, e', h⟩ := encodeG_sparse_rel (mulRel_graded hg) is kw hne hsp
      (fun c p hp => ⟨rfl, hs c p hp⟩) hQ fun _ => rfl
    obtain rfl : kvs = kvs' := List.forall₂_eq_eq_eq ▸ h.imp fun _ _ hp => Prod.ext hp.1 hp.2
    rw [e, encode, e']
end

/-! ## Dyadic numbers -/

/-- dyadic numbers with bounded significand and exponent; the bounds multiply and add under products (`dy_mul`), which
makes `Dy (M ^ k) (k * E)` a graded family (`graded_of_exactOn`) -/
def Dy (M E : Nat) (x : Rat) : Prop :=
  ∃ m e : Int, |m| ≤ (M : Int) ∧ |e| ≤ (E : Int) ∧ x = (m : Rat) * (2 : Rat) ^ e

/-- what correct rounding guarantees: a product that is itself a double (53-bit significand,
exponent within ±970 so that no under/overflow is near) is returned exactly -/
def ExactOn (fmul : Rat → Rat → Rat) : Prop :=
  ∀ a b, Dy (2 ^ 53) 970 (a * b) → fmul a b = a * b

theorem dy_one (M E : Nat) (hM : 1 ≤ M) : Dy M E 1 :=
  ⟨1, 0, by simpa using hM, by simp, by simp⟩

theorem dy_mul {M1 E1 M2 E2 : Nat} {x y : Rat} (hx : Dy M1 E1 x) (hy : Dy M2 E2 y) :
    Dy (M1 * M2) (E1 + E2) (x * y) := by
  obtain ⟨m, e, hm, he, rfl⟩ := hx
  obtain ⟨n, f, hn, hf, rfl⟩ := hy
  refine ⟨m * n, e + f, ?_, ?_, ?_⟩
  · rw [abs_mul]; push_cast
    exact mul_le_mul hm hn (abs_nonneg _) (by exact_mod_cast Nat.zero_le M1)
  · push_cast; exact le_trans (abs_add_le e f) (add_le_add he hf)
  · rw [zpow_add₀ (by norm_num : (2 : Rat) ≠ 0)]; push_cast; ring

theorem dy_mono {M E M' E' : Nat} (hM : M ≤ M') (hE : E ≤ E') {x : Rat} (h : Dy M E x) : Dy M' E' x := by
  obtain ⟨m, e, hm, he, rfl⟩ := h
  exact ⟨m, e, le_trans hm (by exact_mod_cast hM), le_trans he (by exact_mod_cast hE), rfl⟩

theorem graded_of_exactOn {fmul : Rat → Rat → Rat} (hf : ExactOn fmul) (M E D : Nat) (hM : 1 ≤ M)
    (hb : M ^ D ≤ 2 ^ 53) (he : D * E ≤ 970) :
    Graded (fun k x => Dy (M ^ k) (k * E) x) D fmul := by
  refine ⟨by simpa using dy_one 1 0 (le_refl 1), ?_⟩
  intro a b x y hx hy hab
  have hp : Dy (M ^ (a + b)) ((a + b) * E) (x * y) := by
    have := dy_mul hx hy
    rw [← pow_add, ← Nat.add_mul] at this
    exact this
  refine ⟨hf x y (dy_mono (le_trans (Nat.pow_le_pow_right hM hab) hb) (le_trans (Nat.mul_le_mul_right E hab) he) hp), hp⟩

theorem exactOn_ratMul : ExactOn ratMul := fun _ _ _ => rfl

theorem dyadic_example :
    (∀ c, ∀ v ∈ featsDense [('x', .dense [.num (3 / 2), .num (11 / 4)])] c, Dy 11 2 v)
    ∧ (∀ c, ∀ p ∈ featsSparse [('x', .dense [.num (3 / 2), .num (11 / 4)])] c, Dy 11 2 p.2)
    ∧ 11 ^ maxDeg [.term ['x', 'x', 'x']] ≤ 2 ^ 53 ∧ maxDeg [.term ['x', 'x', 'x']] * 2 ≤ 970 := by
  have h1 : Dy 11 2 (3 / 2) := ⟨3, -1, by norm_num, by norm_num, by norm_num⟩
  have h2 : Dy 11 2 (11 / 4) := ⟨11, -2, by norm_num, by norm_num, by norm_num⟩
  refine ⟨?_, ?_, by decide, by decide⟩
  · intro c v hv
    by_cases h : 'x' = c
    · subst h
      have : featsDense [('x', .dense [.num (3 / 2), .num (11 / 4)])] 'x' = [3 / 2, 11 / 4] := by decide +kernel
      rw [this] at hv
      simp at hv
      rcases hv with rfl | rfl <;> assumption
    · simp [featsDense, nsVal, dictGet, h, denseVals] at hv
  · intro c p hp
    by_cases h : 'x' = c
    · subst h
      have : featsSparse [('x', .dense [.num (3 / 2), .num (11 / 4)])] 'x' = [("x0", 3 / 2), ("x1", 11 / 4)] := by decide +kernel
      rw [this] at hp
      simp at hp
      rcases hp with rfl | rfl <;> assumption
    · simp [featsSparse, nsVal, dictGet, h, sparseFeats_none] at hp

/-! ## The explicit rounding model `roundSig` returns representable numbers exactly, hence `ExactOn fmul53` is a
theorem, not an assumption -/

theorem pow2_eq (e : Int) : pow2 e = (2 : Rat) ^ e := by
  unfold pow2
  split
  · rename_i h
    conv_rhs => rw [← Int.toNat_of_nonneg h]
    rw [zpow_natCast]
  · rename_i h
    have h' : 0 ≤ -e := by omega
    have : e = -((-e).toNat : Int) := by rw [Int.toNat_of_nonneg h']; omega
    conv_rhs => rw [this]
    rw [zpow_neg, zpow_natCast, one_div]

theorem roundHalfEven_nat (k : Nat) : roundHalfEven (k : Rat) = k := by
  simp [roundHalfEven, Nat.mod_one]

theorem roundHalfEven_exact (K : Nat) (E e : Int) (h : e ≤ E) :
    (roundHalfEven ((K : Rat) * (2 : Rat) ^ E * (2 : Rat) ^ (-e)) : Rat) * (2 : Rat) ^ e = (K : Rat) * (2 : Rat) ^ E := by
  have h2 : (2 : Rat) ≠ 0 := by norm_num
  have hk : (K : Rat) * (2 : Rat) ^ E * (2 : Rat) ^ (-e) = ((K * 2 ^ (E - e).toNat : Nat) : Rat) := by
    rw [mul_assoc, ← zpow_add₀ h2]
    push_cast
    rw [← zpow_natCast, Int.toNat_of_nonneg (by omega)]
    congr 2
  rw [hk, roundHalfEven_nat]
  push_cast
  rw [← zpow_natCast, Int.toNat_of_nonneg (by omega), mul_assoc, ← zpow_add₀ h2]
  congr 2
  omega

theorem rat_log_lb (a : Rat) (ha : 0 < a) :
    (2 : Rat) ^ ((a.num.natAbs.log2 : Int) - (a.den.log2 : Int) - 1) ≤ a := by
  have h2 : (2 : Rat) ≠ 0 := by norm_num
  have hnum : 0 < a.num := Rat.num_pos.mpr ha
  have hn : a.num.natAbs ≠ 0 := by omega
  have h1 : ((2 ^ a.num.natAbs.log2 : Nat) : Rat) ≤ (a.num.natAbs : Rat) := by
    exact_mod_cast Nat.log2_self_le hn
  have h3 : ((a.den : Nat) : Rat) ≤ ((2 ^ (a.den.log2 + 1) : Nat) : Rat) := by
    exact_mod_cast (Nat.lt_log2_self (n := a.den)).le
  have hd : (0 : Rat) < (a.den : Rat) := by exact_mod_cast a.den_pos
  have hcast : ((a.num.natAbs : Nat) : Rat) = ((a.num : Int) : Rat) := by
    rw [Nat.cast_natAbs, abs_of_nonneg hnum.le]
  refine le_trans ?_ (le_of_eq (Rat.num_div_den a))
  rw [le_div_iff₀ hd, ← hcast]
  push_cast at h1 h3
  calc (2 : Rat) ^ ((a.num.natAbs.log2 : Int) - (a.den.log2 : Int) - 1) * (a.den : Rat)
      ≤ (2 : Rat) ^ ((a.num.natAbs.log2 : Int) - (a.den.log2 : Int) - 1) * 2 ^ (a.den.log2 + 1) :=
        mul_le_mul_of_nonneg_left h3 (by positivity)
    _ = (2 : Rat) ^ a.num.natAbs.log2 := by
        rw [← zpow_natCast (2 : Rat) (a.den.log2 + 1), ← zpow_add₀ h2, ← zpow_natCast]
        congr 1; push_cast; ring
    _ ≤ _ := h1

theorem expo_lb (prec : Nat) (a : Rat) (ha : 0 < a) :
    (2 : Rat) ^ ((prec : Int) - 1) ≤ a * (2 : Rat) ^ (-(expo prec a)) := by
  have h2 : (2 : Rat) ≠ 0 := by norm_num
  have hlb := rat_log_lb a ha
  unfold expo
  simp only
  split
  · calc (2 : Rat) ^ ((prec : Int) - 1)
        = (2 : Rat) ^ ((a.num.natAbs.log2 : Int) - (a.den.log2 : Int) - 1)
            * (2 : Rat) ^ (-((a.num.natAbs.log2 : Int) - (a.den.log2 : Int) - (prec : Int))) := by
          rw [← zpow_add₀ h2]; congr 1; ring
      _ ≤ _ := mul_le_mul_of_nonneg_right hlb (by positivity)
  · rename_i h
    rw [not_lt, pow2_eq] at h
    calc (2 : Rat) ^ ((prec : Int) - 1) = (2 : Rat) ^ prec * (2 : Rat) ^ (-1 : Int) := by
          rw [← zpow_natCast, ← zpow_add₀ h2]; congr 1
      _ ≤ a * (2 : Rat) ^ (-((a.num.natAbs.log2 : Int) - (a.den.log2 : Int) - (prec : Int))) * (2 : Rat) ^ (-1 : Int) :=
          mul_le_mul_of_nonneg_right h (by positivity)
      _ = _ := by
          rw [mul_assoc, ← zpow_add₀ h2]; congr 2; ring

theorem expo_le (prec : Nat) (K : Nat) (E : Int) (hK : K < 2 ^ prec) (hpos : 0 < (K : Rat) * (2 : Rat) ^ E) :
    expo prec ((K : Rat) * (2 : Rat) ^ E) ≤ E := by
  have h2 : (2 : Rat) ≠ 0 := by norm_num
  have hlb := expo_lb prec _ hpos
  by_contra hc
  rw [not_le] at hc
  rw [mul_assoc, ← zpow_add₀ h2] at hlb
  have hK' : (K : Rat) < (2 : Rat) ^ prec := by exact_mod_cast hK
  have hz : (2 : Rat) ^ (E + -(expo prec ((K : Rat) * (2 : Rat) ^ E))) ≤ (2 : Rat) ^ (-1 : Int) :=
    zpow_le_zpow_right₀ (by norm_num) (by omega)
  have hlt : (K : Rat) * (2 : Rat) ^ (E + -(expo prec ((K : Rat) * (2 : Rat) ^ E))) < (2 : Rat) ^ prec * (2 : Rat) ^ (-1 : Int) :=
    mul_lt_mul hK' hz (by positivity) (by positivity)
  have : (2 : Rat) ^ prec * (2 : Rat) ^ (-1 : Int) = (2 : Rat) ^ ((prec : Int) - 1) := by
    rw [← zpow_natCast, ← zpow_add₀ h2]; congr 1
  rw [this] at hlt
  exact absurd hlb (not_le.mpr hlt)

theorem roundSig_zero (prec : Nat) : roundSig prec 0 = 0 := rfl

theorem roundSig_of_pos (prec : Nat) {a : Rat} (ha : 0 < a) :
    roundSig prec a = (roundHalfEven (a * (2 : Rat) ^ (-(expo prec a))) : Rat) * (2 : Rat) ^ (expo prec a) := by
  unfold roundSig
  rw [if_neg ha.ne']
  simp only [if_neg (not_lt.mpr ha.le), pow2_eq]

theorem roundSig_neg (prec : Nat) (q : Rat) : roundSig prec (-q) = -roundSig prec q := by
  have key : ∀ a : Rat, 0 < a → roundSig prec (-a) = -roundSig prec a := by
    intro a ha
    have hneg : -a < 0 := neg_lt_zero.mpr ha
    rw [roundSig_of_pos prec ha]
    unfold roundSig
    rw [if_neg hneg.ne]
    simp only [if_pos hneg, neg_neg, pow2_eq]
  rcases lt_trichotomy q 0 with h | rfl | h
  · rw [← neg_neg q, key (-q) (neg_pos.mpr h), neg_neg, neg_neg]
  · rw [neg_zero, roundSig_zero, neg_zero]
  · exact key q h

theorem roundSig_pos_exact (prec : Nat) (K : Nat) (E : Int) (hK : K < 2 ^ prec) (hpos : 0 < (K : Rat) * (2 : Rat) ^ E) :
    roundSig prec ((K : Rat) * (2 : Rat) ^ E) = (K : Rat) * (2 : Rat) ^ E := by
  rw [roundSig_of_pos prec hpos]
  exact roundHalfEven_exact K E _ (expo_le prec K E hK hpos)

theorem roundSig_nat_exact (prec : Nat) (hp : 1 ≤ prec) (K : Nat) (E : Int) (hK : K ≤ 2 ^ prec) :
    roundSig prec ((K : Rat) * (2 : Rat) ^ E) = (K : Rat) * (2 : Rat) ^ E := by
  have h2 : (2 : Rat) ≠ 0 := by norm_num
  rcases Nat.eq_zero_or_pos K with h0 | h0
  · subst h0; rw [Nat.cast_zero, zero_mul, roundSig_zero]
  rcases Nat.lt_or_ge K (2 ^ prec) with hlt | hge
  · exact roundSig_pos_exact prec K E hlt (by have : (0 : Rat) < (K : Rat) := by exact_mod_cast h0
                                              positivity)
  · -- the one significand with `prec + 1` bits, `2^prec`, is `1` at a higher exponent
    have hKe : K = 2 ^ prec := le_antisymm hK hge
    have hrw : (K : Rat) * (2 : Rat) ^ E = ((1 : Nat) : Rat) * (2 : Rat) ^ (E + prec) := by
      rw [hKe, zpow_add₀ h2, zpow_natCast]; push_cast; ring
    rw [hrw]
    exact roundSig_pos_exact prec 1 (E + prec) (Nat.one_lt_two_pow (by omega)) (by positivity)

theorem roundSig_exact (prec : Nat) (hp : 1 ≤ prec) (q : Rat) (m e : Int) (hm : |m| ≤ (2 : Int) ^ prec)
    (hq : q = (m : Rat) * (2 : Rat) ^ e) : roundSig prec q = q := by
  have hK : m.natAbs ≤ 2 ^ prec := by
    have : ((m.natAbs : Nat) : Int) ≤ ((2 ^ prec : Nat) : Int) := by rw [Int.natCast_natAbs]; exact_mod_cast hm
    exact_mod_cast this
  have h1 := roundSig_nat_exact prec hp m.natAbs e hK
  rcases le_total 0 m with h | h
  · have : (m : Rat) = ((m.natAbs : Nat) : Rat) := by rw [Nat.cast_natAbs, abs_of_nonneg h]
    rw [hq, this]; exact h1
  · have : (m : Rat) = -((m.natAbs : Nat) : Rat) := by rw [Nat.cast_natAbs, abs_of_nonpos h]; push_cast; ring
    rw [hq, this, neg_mul, roundSig_neg, h1]

/-- a double away from under/overflow: `m·2^e` with an integer significand of at most 53 bits -/
def Rep53 (a : Rat) : Prop := ∃ m e : Int, |m| ≤ (2 : Int) ^ 53 ∧ a = (m : Rat) * (2 : Rat) ^ e

theorem fl53_of_rep53 {a : Rat} (h : Rep53 a) : fl53 a = a := by
  obtain ⟨m, e, hm, hq⟩ := h
  exact roundSig_exact 53 (by norm_num) a m e hm hq

theorem Dy.rep53 {E : Nat} {x : Rat} (h : Dy (2 ^ 53) E x) : Rep53 x := by
  obtain ⟨m, e, hm, _, hq⟩ := h
  exact ⟨m, e, by exact_mod_cast hm, hq⟩

theorem exactOn_fmul53 : ExactOn fmul53 := fun _ _ h => fl53_of_rep53 h.rep53

/-- the double nearest to 0.1 is `Rep53`, and `fmul53 · 1` is not the identity off the doubles -/
theorem rep53_example : Rep53 (3602879701896397 / 36028797018963968) ∧ ¬ (fmul53 (1 / 3) 1 = 1 / 3) := by
  refine ⟨⟨3602879701896397, -55, by norm_num, by norm_num⟩, by decide +kernel⟩

/-! ## Rounding error of `roundSig`: half a unit in the last place, relative error `2^-prec` -/

theorem roundHalfEven_cases (s : Rat) :
    (roundHalfEven s = s.num.natAbs / s.den ∧ 2 * (s.num.natAbs % s.den) ≤ s.den)
    ∨ (roundHalfEven s = s.num.natAbs / s.den + 1 ∧ s.den ≤ 2 * (s.num.natAbs % s.den)) := by
  unfold roundHalfEven
  simp only
  split_ifs with c1 c2 c3
  · exact Or.inl ⟨rfl, c1.le⟩
  · exact Or.inr ⟨rfl, c2.le⟩
  · exact Or.inl ⟨rfl, not_lt.mp c2⟩
  · exact Or.inr ⟨rfl, not_lt.mp c1⟩

theorem abs_quot_sub_le_half {s d q r k : Rat} (hd : 0 < d) (hs : s * d = d * q + r) (hr0 : 0 ≤ r) (hrd : r < d)
    (hk : k = q ∧ 2 * r ≤ d ∨ k = q + 1 ∧ d ≤ 2 * r) : |k - s| ≤ 1 / 2 := by
  -- multiplied by `d`, the distance is `r`, respectively `d - r`
  apply le_of_mul_le_mul_right _ hd
  rw [← abs_of_pos hd, ← abs_mul, sub_mul, hs, abs_of_pos hd]
  rcases hk with ⟨rfl, h⟩ | ⟨rfl, h⟩
  · rw [show k * d - (d * k + r) = -r by ring, abs_neg, abs_of_nonneg hr0]
    linarith only [h]
  · rw [show (q + 1) * d - (d * q + r) = d - r by ring, abs_of_pos (sub_pos.2 hrd)]
    linarith only [h]

theorem roundHalfEven_err (s : Rat) (hs : 0 ≤ s) : |(roundHalfEven s : Rat) - s| ≤ 1 / 2 := by
  have hsD : s * (s.den : Rat) = (s.num.natAbs : Rat) := by
    rw [Nat.cast_natAbs, abs_of_nonneg (Rat.num_nonneg.mpr hs)]; exact Rat.mul_den_eq_num s
  refine abs_quot_sub_le_half (d := (s.den : Rat)) (q := ((s.num.natAbs / s.den : Nat) : Rat))
    (r := ((s.num.natAbs % s.den : Nat) : Rat)) (by exact_mod_cast s.den_pos) ?_ (Nat.cast_nonneg _)
    (by exact_mod_cast Nat.mod_lt _ s.den_pos) ?_
  · rw [hsD]; exact_mod_cast (Nat.div_add_mod s.num.natAbs s.den).symm
  · rcases roundHalfEven_cases s with ⟨hk, hr⟩ | ⟨hk, hr⟩
    · exact Or.inl ⟨by rw [hk], by exact_mod_cast hr⟩
    · exact Or.inr ⟨by rw [hk, Nat.cast_succ], by exact_mod_cast hr⟩

theorem abs_scaled_sub_le {m s P c : Rat} (hP : 0 < P) (hc : 0 < c) (herr : |m - s| ≤ 1 / 2) (hlb : c / 2 ≤ s) :
    |m * P - s * P| ≤ s * P / c := by
  -- half a unit, scaled by `P`, against the size `≥ c / 2` of `s`
  rw [← sub_mul, abs_mul, abs_of_pos hP, le_div_iff₀ hc]
  calc |m - s| * P * c ≤ 1 / 2 * P * c := mul_le_mul_of_nonneg_right (mul_le_mul_of_nonneg_right herr hP.le) hc.le
    _ = c / 2 * P := by ring
    _ ≤ s * P := mul_le_mul_of_nonneg_right hlb hP.le

theorem roundSig_pos_err (prec : Nat) (a : Rat) (ha : 0 < a) : |roundSig prec a - a| ≤ a / 2 ^ prec := by
  have h2 : (2 : Rat) ≠ 0 := by norm_num
  have hlb := expo_lb prec a ha
  rw [zpow_sub_one₀ h2, zpow_natCast] at hlb
  have hs : a * (2 : Rat) ^ (-(expo prec a)) * (2 : Rat) ^ expo prec a = a := by
    rw [mul_assoc, ← zpow_add₀ h2, neg_add_cancel, zpow_zero, mul_one]
  have := abs_scaled_sub_le (P := (2 : Rat) ^ expo prec a) (c := 2 ^ prec) (by positivity) (by positivity)
    (roundHalfEven_err (a * (2 : Rat) ^ (-(expo prec a))) (by positivity)) hlb
  rwa [hs, ← roundSig_of_pos prec ha] at this

theorem exists_eps_of_rel_err {f q u : Rat} (hu : 0 ≤ u) (h : |f - q| ≤ |q| * u) :
    ∃ ε, -u ≤ ε ∧ ε ≤ u ∧ f = q * (1 + ε) := by
  by_cases hq : q = 0
  · subst hq
    rw [abs_zero, zero_mul, sub_zero] at h
    exact ⟨0, by linarith, hu, by rw [abs_nonpos_iff.mp h]; ring⟩
  · have hmul : (f - q) / q * q = f - q := div_mul_cancel₀ _ hq
    have hε : |(f - q) / q| ≤ u := by
      apply le_of_mul_le_mul_right _ (abs_pos.mpr hq)
      rw [← abs_mul, hmul, mul_comm]; exact h
    exact ⟨(f - q) / q, (abs_le.mp hε).1, (abs_le.mp hε).2, by rw [mul_add, mul_comm q (_ / _), hmul]; ring⟩

end Coba.C20
