/-
LinUCB / LinTS over ℚ (`LinState`, `linRun` in the model file).  Laying the encoded features out in another order `p`
commutes with `learn` and leaves every score unchanged (`linRun_perm`); the translator targets `learnAlt` (model
file), `pmfAlt`, `pmfTSAlt` (here) — what the programs read off the source evaluate to — equal the model's `learn`,
`pmf`, `pmfTS`; and the selection step `pmfOfValues` is characterised through `maxQ`.  Needs nothing of the encoder.
-/
import CobaVerif.Model.C20
import Mathlib.Algebra.Order.Field.Rat
import Mathlib.Algebra.BigOperators.Group.List.Basic
import Mathlib.Data.List.Perm.Basic

namespace Coba.C20

/-! ## Generic list facts -/

theorem lin_getD_map_of_lt {α β : Type} (g : α → β) (l : List α) (i : Nat) (d : α) (d' : β)
    (h : i < l.length) : (l.map g).getD i d' = g (l.getD i d) := by
  simp [List.getD_eq_getElem?_getD, List.getElem?_eq_getElem h]

theorem lin_getD_zipWith_of_lt {α β γ : Type} (g : α → β → γ) (l₁ : List α) (l₂ : List β) (i : Nat)
    (d₁ : α) (d₂ : β) (d : γ) (h₁ : i < l₁.length) (h₂ : i < l₂.length) :
    (List.zipWith g l₁ l₂).getD i d = g (l₁.getD i d₁) (l₂.getD i d₂) := by
  simp [List.getD_eq_getElem?_getD, List.getElem?_eq_getElem h₁, List.getElem?_eq_getElem h₂,
    List.getElem?_zipWith]

theorem lin_map_getD_range {α : Type} (l : List α) (d : α) :
    (List.range l.length).map (fun i => l.getD i d) = l := by
  apply List.ext_getElem
  · simp
  · intro i h1 h2
    simp [List.getD_eq_getElem?_getD, List.getElem?_eq_getElem h2]

theorem lin_sum_map_indicator (l : List Rat) (t c : Rat) :
    (l.map (fun v => if v = t then c else 0)).sum = ((l.countP (fun w => w = t) : Nat) : Rat) * c := by
  rw [List.sum_map_ite, List.map_const', List.map_const', List.sum_replicate, List.sum_replicate, nsmul_zero, add_zero,
    nsmul_eq_mul, List.countP_eq_length_filter]

/-! ## Laying the features out in another order commutes with the linear algebra -/

theorem lin_perm_lt {p : List Nat} {n : Nat} (hp : p.Perm (List.range n)) : ∀ i ∈ p, i < n := by
  intro i hi
  exact List.mem_range.mp (hp.mem_iff.mp hi)

theorem length_permV (p : List Nat) (v : List Rat) : (permV p v).length = p.length := by
  simp [permV]

theorem zipWith_permV (g : Rat → Rat → Rat) {p : List Nat} {n : Nat} (hp : ∀ i ∈ p, i < n)
    {u v : List Rat} (hu : u.length = n) (hv : v.length = n) :
    List.zipWith g (permV p u) (permV p v) = permV p (List.zipWith g u v) := by
  unfold permV
  rw [List.zipWith_map, List.zipWith_self]
  apply List.map_congr_left
  intro i hi
  have := hp i hi
  rw [lin_getD_zipWith_of_lt g u v i 0 0 0 (by omega) (by omega)]

theorem permV_perm {p : List Nat} {n : Nat} (hp : p.Perm (List.range n)) {w : List Rat} (hw : w.length = n) :
    (permV p w).Perm w := by
  have := hp.map (fun i => w.getD i 0)
  rwa [← hw, lin_map_getD_range] at this

theorem length_getD_row {n : Nat} {M : List (List Rat)} (hrows : ∀ row ∈ M, row.length = n) {i : Nat}
    (hi : i < M.length) : (M.getD i []).length = n := by
  apply hrows
  rw [List.getD_eq_getElem?_getD, List.getElem?_eq_getElem hi]
  exact List.getElem_mem hi

theorem dotQ_perm' {p : List Nat} {n : Nat} (hp : p.Perm (List.range n)) {u v : List Rat}
    (hu : u.length = n) (hv : v.length = n) : dotQ (permV p u) (permV p v) = dotQ u v := by
  unfold dotQ
  rw [zipWith_permV _ (lin_perm_lt hp) hu hv]
  exact (permV_perm hp (by rw [List.length_zipWith, hu, hv, Nat.min_self])).sum_eq

theorem matVecQ_perm' {p : List Nat} {n : Nat} (hp : p.Perm (List.range n)) {M : List (List Rat)}
    {f : List Rat} (hM : M.length = n) (hrows : ∀ row ∈ M, row.length = n) (hf : f.length = n) :
    matVecQ (permM p M) (permV p f) = permV p (matVecQ M f) := by
  unfold matVecQ permM
  rw [List.map_map]
  show _ = List.map _ p
  apply List.map_congr_left
  intro i hi
  have hi' := lin_perm_lt hp i hi
  have hrow : (M.getD i []).length = n := length_getD_row hrows (by omega)
  rw [lin_getD_map_of_lt (fun row => dotQ row f) M i [] 0 (by omega)]
  exact dotQ_perm' hp hrow hf

theorem length_matVecQ (M : List (List Rat)) (f : List Rat) : (matVecQ M f).length = M.length := by
  simp [matVecQ]

theorem learn_wf' {n : Nat} {s : LinState} (hs : s.WF n) {f : List Rat} (r : Rat) :
    (s.learn f r).WF n := by
  obtain ⟨h1, h2, h3⟩ := hs
  refine ⟨by simp [LinState.learn, length_matVecQ, h1, h2], by simp [LinState.learn, length_matVecQ, h2], ?_⟩
  intro row hrow
  obtain ⟨i, hi, rfl⟩ := List.mem_iff_getElem.mp hrow
  simp only [LinState.learn, List.getElem_zipWith, List.length_zipWith, length_matVecQ, h2]
  rw [h3 _ (List.getElem_mem _)]
  simp

theorem learn_perm' {n : Nat} {s : LinState} (hs : s.WF n) {f : List Rat} (hf : f.length = n)
    {p : List Nat} (hp : p.Perm (List.range n)) (r : Rat) :
    (s.perm p).learn (permV p f) r = (s.learn f r).perm p := by
  obtain ⟨h1, h2, h3⟩ := hs
  have hlt := lin_perm_lt hp
  have hw : (matVecQ s.ainv f).length = n := by rw [length_matVecQ, h2]
  have e1 : dotQ (permV p s.theta) (permV p f) = dotQ s.theta f := dotQ_perm' hp h1 hf
  have e2 : matVecQ (permM p s.ainv) (permV p f) = permV p (matVecQ s.ainv f) :=
    matVecQ_perm' hp h2 h3 hf
  have e3 : dotQ (permV p (matVecQ s.ainv f)) (permV p f) = dotQ (matVecQ s.ainv f) f :=
    dotQ_perm' hp hw hf
  simp only [LinState.learn, LinState.perm, e1, e2, e3]
  congr 1
  · exact zipWith_permV _ hlt h1 hw
  · generalize matVecQ s.ainv f = w at hw
    generalize (1 + dotQ w f) = c
    show List.zipWith _ (List.map _ p) (List.map _ p) = List.map _ p
    rw [List.zipWith_map, List.zipWith_self]
    apply List.map_congr_left
    intro i hi
    have hi' := hlt i hi
    have hrow : (s.ainv.getD i []).length = n := length_getD_row h3 (by omega)
    rw [lin_getD_zipWith_of_lt _ s.ainv w i [] 0 [] (by omega) (by omega)]
    exact zipWith_permV _ hlt hrow hw

theorem score_perm' {n : Nat} {s : LinState} (hs : s.WF n) {f : List Rat} (hf : f.length = n)
    {p : List Nat} (hp : p.Perm (List.range n)) :
    (s.perm p).score (permV p f) = s.score f := by
  obtain ⟨h1, h2, h3⟩ := hs
  have hw : (matVecQ s.ainv f).length = n := by rw [length_matVecQ, h2]
  simp only [LinState.score, LinState.perm]
  rw [dotQ_perm' hp h1 hf, matVecQ_perm' hp h2 h3 hf, dotQ_perm' hp hw hf]

theorem identityQ_getD {d i j : Nat} (hi : i < d) (hj : j < d) :
    ((identityQ d).getD i []).getD j 0 = if i = j then 1 else 0 := by
  unfold identityQ
  rw [lin_getD_map_of_lt _ _ i 0 [] (by simpa using hi)]
  rw [lin_getD_map_of_lt _ _ j 0 0 (by simpa using hj)]
  simp [List.getD_eq_getElem?_getD, List.getElem?_range hi, List.getElem?_range hj]

theorem permV_replicate_zero (p : List Nat) (n : Nat) :
    permV p (List.replicate n 0) = List.replicate p.length 0 := by
  have h0 : ∀ i, (List.replicate n (0 : Rat)).getD i 0 = 0 := by
    intro i
    rw [List.getD_eq_getElem?_getD, List.getElem?_replicate]
    split <;> rfl
  unfold permV
  simp only [h0, List.map_const']

/-- entry `(a, b)` of the re-ordered identity is `1` exactly when `p[a] = p[b]`, and `p` has no repetitions -/
theorem permM_identityQ {d : Nat} {p : List Nat} (hp : p.Perm (List.range d)) :
    permM p (identityQ d) = identityQ d := by
  have hlen : p.length = d := by simpa using hp.length_eq
  have hlt := lin_perm_lt hp
  have hnd : p.Nodup := hp.nodup_iff.mpr List.nodup_range
  have e : permM p (identityQ d) = p.map (fun i => p.map (fun j => if i = j then (1 : Rat) else 0)) :=
    List.map_congr_left fun i hi => List.map_congr_left fun j hj => identityQ_getD (hlt i hi) (hlt j hj)
  rw [e]
  unfold identityQ
  apply List.ext_getElem
  · simp [hlen]
  · intro a h1 h2
    have ha : a < p.length := by simpa using h1
    rw [List.getElem_map, List.getElem_map, List.getElem_range]
    apply List.ext_getElem
    · simp [hlen]
    · intro b h3 h4
      have hb : b < p.length := by simpa using h3
      rw [List.getElem_map, List.getElem_map, List.getElem_range]
      simp only [List.getElem_inj hnd]

theorem linRun_perm {n : Nat} {p : List Nat} (hp : p.Perm (List.range n)) (es : List LinEvent) :
    ∀ s : LinState, s.WF n → (∀ e ∈ es, e.WF n) →
      linRun (s.perm p) (es.map (LinEvent.perm p)) = ((linRun s es).1, (linRun s es).2.perm p) := by
  induction es with
  | nil => intro s _ _; rfl
  | cons e es ih =>
    intro s hs hes
    have he : e.WF n := hes e (by simp)
    have hes' : ∀ e ∈ es, e.WF n := fun e' h => hes e' (by simp [h])
    cases e with
    | learn f r =>
      simp only [List.map_cons, LinEvent.perm, linRun]
      rw [learn_perm' hs he hp r]
      exact ih _ (learn_wf' hs r) hes'
    | predict fs =>
      simp only [List.map_cons, LinEvent.perm, linRun]
      rw [ih s hs hes']
      have : List.map (s.perm p).score (List.map (permV p) fs) = List.map s.score fs := by
        rw [List.map_map]
        apply List.map_congr_left
        intro f hf
        exact score_perm' hs (he f hf) hp
      rw [this]

/-- non-vacuity: a concrete layout change and history satisfying the hypotheses of `linucb_perm_equivariant` -/
theorem linucb_example_hyps :
    [2, 0, 1].Perm (List.range 3) ∧
    ∀ e ∈ [LinEvent.learn [1, 2, 3] 1, .learn [0, 1, (1 : Rat) / 2] 0, .predict [[1, 0, 0], [0, 1, 1]]], e.WF 3 := by
  refine ⟨by decide, ?_⟩
  intro e he
  simp only [List.mem_cons, List.not_mem_nil, or_false] at he
  rcases he with rfl | rfl | rfl <;> simp [LinEvent.WF]

theorem linucb_example_values :
    (linRun (LinState.init 3) ([LinEvent.learn [1, 2, 3] 1, .learn [0, 1, (1 : Rat) / 2] 0,
        .predict [[1, 0, 0], [0, 1, 1]]].map (LinEvent.perm [2, 0, 1]))).1
      = (linRun (LinState.init 3) [LinEvent.learn [1, 2, 3] 1, .learn [0, 1, (1 : Rat) / 2] 0,
        .predict [[1, 0, 0], [0, 1, 1]]]).1
    ∧ (linRun (LinState.init 3) [LinEvent.learn [1, 2, 3] 1, .learn [0, 1, (1 : Rat) / 2] 0,
        .predict [[1, 0, 0], [0, 1, 1]]]).1 ≠ [[(0, 1), (0, 2)]] := by
  decide +kernel

/-! ## Translator obligation for the `learn` bodies -/

theorem learnAlt_eq (s : LinState) (f : List Rat) (reward : Rat) : s.learnAlt f reward = s.learn f reward := by
  simp only [LinState.learnAlt, LinState.learn, List.zipWith_map_right, List.map_map, Function.comp_def]

theorem learn_prog_sound {prog : List LStmt} {s : LinState} {f : List Rat} {r : Rat}
    (h : runLearn prog s f r [] = some (s.learnAlt f r)) : runLearn prog s f r [] = some (s.learn f r) :=
  h.trans (congrArg some (learnAlt_eq s f r))

theorem linRunProg_eq {prog : List LStmt} (h : ∀ s f r, runLearn prog s f r [] = some (LinState.learn s f r))
    (s : LinState) (es : List LinEvent) : linRunProg prog s es = some (linRun s es).2 := by
  induction es generalizing s with
  | nil => rfl
  | cons e es ih =>
    cases e with
    | learn f r => simp only [linRunProg, h, linRun]; exact ih _
    | predict fs => simp only [linRunProg, linRun]; exact ih _

/-! ## `_pmf` read off the source; the selection step -/

/-- what the program of linucb's `_pmf` evaluates to, numpy operation by numpy operation -/
def LinState.pmfAlt (sq : Rat → Rat) (alpha : Rat) (s : LinState) (fs : List (List Rat)) : List Rat :=
  pmfOfValues (List.zipWith (· + ·)
    (((List.zipWith dotQ (fs.map (matVecQ s.ainv)) fs).map sq).map (fun x => alpha * x)) (fs.map (dotQ s.theta)))

theorem pmfAlt_eq (sq : Rat → Rat) (alpha : Rat) (s : LinState) (fs : List (List Rat)) :
    s.pmfAlt sq alpha fs = s.pmf sq alpha fs := by
  unfold LinState.pmfAlt LinState.pmf LinState.score
  simp only [List.zipWith_map_left, List.zipWith_map_right, List.zipWith_self]
  exact congrArg pmfOfValues (List.map_congr_left fun f _ => add_comm _ _)

theorem predict_prog_sound {prog : List PExp} {lhs top : PExp} {sq : Rat → Rat} {s : LinState} {fs : List (List Rat)} {alpha : Rat}
    (h : runPredict sq prog lhs top s fs alpha = some (s.pmfAlt sq alpha fs)) :
    runPredict sq prog lhs top s fs alpha = some (s.pmf sq alpha fs) :=
  h.trans (congrArg some (pmfAlt_eq sq alpha s fs))

/-- what the program of lints' `_pmf` (branch `v = 0`) evaluates to -/
def LinState.pmfTSAlt (rnd : Rat → Rat) (s : LinState) (fs : List (List Rat)) : List Rat :=
  selectEq ((fs.map (dotQ s.theta)).map rnd) (rnd (maxQ (fs.map (dotQ s.theta))))

theorem pmfTSAlt_eq (rnd : Rat → Rat) (s : LinState) (fs : List (List Rat)) : s.pmfTSAlt rnd fs = s.pmfTS rnd fs := by
  simp [LinState.pmfTSAlt, LinState.pmfTS, LinState.score, List.map_map, Function.comp_def]

theorem predictTS_prog_sound {prog : List PExp} {lhs top : PExp} {rnd : Rat → Rat} {s : LinState} {fs : List (List Rat)} {alpha : Rat}
    (h : runPredict rnd prog lhs top s fs alpha = some (s.pmfTSAlt rnd fs)) :
    runPredict rnd prog lhs top s fs alpha = some (s.pmfTS rnd fs) :=
  h.trans (congrArg some (pmfTSAlt_eq rnd s fs))

theorem linRunPredict_congr {run run' : LinState → List (List Rat) → Option (List Rat)} (h : ∀ s fs, run s fs = run' s fs)
    (s : LinState) (es : List LinEvent) : linRunPredict run s es = linRunPredict run' s es := by
  rw [funext fun s => funext (h s)]

theorem maxQ_ge (vals : List Rat) : ∀ w ∈ vals, w ≤ maxQ vals := by
  -- `maxQ (x :: r) = r.foldl max x` is by definition `(x :: r).max?`
  cases vals with
  | nil => simp
  | cons x r => exact (List.max?_eq_some_iff.1 List.max?_cons').2

theorem maxQ_mem (vals : List Rat) (h : vals ≠ []) : maxQ vals ∈ vals := by
  cases vals with
  | nil => exact absurd rfl h
  | cons x r => exact (List.max?_eq_some_iff.1 List.max?_cons').1

theorem eq_maxQ_iff {vals : List Rat} {x : Rat} (hx : x ∈ vals) : x = maxQ vals ↔ ∀ w ∈ vals, w ≤ x :=
  ⟨fun h => h ▸ maxQ_ge vals,
   fun h => le_antisymm (maxQ_ge vals x hx) (h _ (maxQ_mem vals (List.ne_nil_of_mem hx)))⟩

theorem countP_eq_pos {vals : List Rat} {x : Rat} (h : x ∈ vals) :
    (0 : Rat) < ((vals.countP (fun w => w = x) : Nat) : Rat) :=
  Nat.cast_pos.2 (List.countP_pos_iff.2 ⟨x, h, decide_eq_true rfl⟩)

theorem sum_selectEq {vals : List Rat} {top : Rat} (h : top ∈ vals) : (selectEq vals top).sum = 1 := by
  unfold selectEq
  rw [lin_sum_map_indicator]
  exact mul_one_div_cancel (countP_eq_pos h).ne'

theorem pmf_length' (vals : List Rat) : (pmfOfValues vals).length = vals.length := by simp [pmfOfValues, selectEq]

theorem maxQ_map_mono (g : Rat → Rat) (hg : ∀ a b, a ≤ b → g a ≤ g b) (vals : List Rat) (h : vals ≠ []) :
    g (maxQ vals) = maxQ (vals.map g) := by
  have hne : vals.map g ≠ [] := by simpa using h
  apply le_antisymm
  · exact maxQ_ge _ _ (List.mem_map.2 ⟨maxQ vals, maxQ_mem vals h, rfl⟩)
  · obtain ⟨w, hw, e⟩ := List.mem_map.1 (maxQ_mem _ hne)
    rw [← e]
    exact hg _ _ (maxQ_ge vals w hw)

end Coba.C20
