/-
The names of the monomials of a sparse call (`sparseMonos`, `collides` in the model file).  `encode` returns `dict` of
the named monomials, so it loses an entry exactly when two names collide.  Names are plain concatenations: feature
names of one common length cannot collide within a namespace (any degrees), and for a whole call when moreover every
name starts with its namespace letter and no two terms agree up to regrouping (`equalLenOK`).  The whole-call argument
works on words (lists of feature names, `W`) and maps them to names at the end.  `rawNames` asks the same question one
level down: the names of one namespace's features before `dict` merges equal ones.
-/
import CobaVerif.Lemmas.C20

namespace Coba.C20

/-! ## Generic list facts -/

theorem forall₂_replicate {α β : Type} {R : α → β → Prop} {w : List α} {b : β} (h : ∀ a ∈ w, R a b) :
    List.Forall₂ R w (List.replicate w.length b) := by
  induction w with
  | nil => exact List.Forall₂.nil
  | cons a w ih =>
    exact List.Forall₂.cons (h a List.mem_cons_self) (ih fun x hx => h x (List.mem_cons_of_mem _ hx))

/-! ## Collisions and the returned mapping -/

theorem hasDup_eq_false_iff {β : Type} [DecidableEq β] (l : List β) : hasDup l = false ↔ l.Nodup := by
  induction l with
  | nil => simp [hasDup]
  | cons x r ih => simp [hasDup, ih]

theorem hasDup_iff {β : Type} [DecidableEq β] (l : List β) : hasDup l = true ↔ ¬ l.Nodup := by
  rw [← hasDup_eq_false_iff]; cases hasDup l <;> simp

theorem encode_sparse_eq_dictOf_monos (is : List Inter) (kw : List (Char × NsVal))
    (hne : ∀ t ∈ strTerms is, t ≠ []) (hs : isSparseCall kw = true) :
    encode Cfg.fixed is kw = .ok (.sparse (dictOf (sparseMonos is kw))) :=
  encodeG_sparse ratMul is kw hne hs

/-- the prefixed names of a namespace's features before `dict` merges equal ones -/
def rawNames (c : Char) (v : NsVal) : List String :=
  (makeDict v).map (fun kv => String.singleton c ++ (handleEntry kv).1.fmt)

/-- the raw names are the keys of the list whose `dict` is `sparseFeats c v` once the inner `dict` has merged nothing -/
theorem rawNames_eq_keys (c : Char) (v : NsVal) :
    rawNames c v
      = (((makeDict v).map handleEntry).map (fun kv => (String.singleton c ++ kv.1.fmt, kv.2))).map (·.1) := by
  simp only [rawNames, List.map_map, Function.comp_def]

theorem nodup_keys_of_rawNames {c : Char} {v : NsVal} (h : (rawNames c v).Nodup) :
    (((makeDict v).map handleEntry).map (·.1)).Nodup := by
  have e : rawNames c v = (((makeDict v).map handleEntry).map (·.1)).map (fun k => String.singleton c ++ k.fmt) := by
    simp only [rawNames, List.map_map, Function.comp_def]
  exact List.Nodup.of_map _ (e ▸ h)

/-! ## Names are plain concatenations; equal-length names cannot collide -/
section Blocks

theorem flatten_inj_of_equal_length {α : Type} (L : Nat) (hL : 1 ≤ L) (a b : List (List α))
    (ha : ∀ x ∈ a, x.length = L) (hb : ∀ x ∈ b, x.length = L) (h : a.flatten = b.flatten) : a = b := by
  -- a list of blocks is determined by its concatenation and the block lengths (`List.eq_iff_flatten_eq`); here every
  -- block has length `L`, and the total length gives the number of blocks
  have key : ∀ c : List (List α), (∀ x ∈ c, x.length = L) → c.map List.length = List.replicate c.length L :=
    fun c hc => List.eq_replicate_iff.2 ⟨List.length_map _, fun n hn => by
      obtain ⟨x, hx, rfl⟩ := List.mem_map.1 hn; exact hc x hx⟩
  have hl := congrArg List.length h
  rw [List.length_flatten, List.length_flatten, key a ha, key b hb, List.sum_replicate, List.sum_replicate,
    smul_eq_mul, smul_eq_mul] at hl
  exact List.eq_iff_flatten_eq.2 ⟨h, by rw [key a ha, key b hb, Nat.eq_of_mul_eq_mul_right hL hl]⟩

theorem monoName_toList (c : List String) :
    (monoProd strMul "" c).toList = (c.map String.toList).flatten := by
  induction c with
  | nil => simp [monoProd]
  | cons s r ih => simp [monoProd, strMul, ih]

theorem monoName_append (a b : List String) :
    monoProd strMul "" (a ++ b) = strMul (monoProd strMul "" a) (monoProd strMul "" b) := by
  induction a with
  | nil => simp [monoProd, strMul]
  | cons s r ih => simp only [List.cons_append, monoProd, ih]; simp [strMul, String.append_assoc]

theorem monoName_eq_iff (c c' : List String) :
    monoProd strMul "" c = monoProd strMul "" c' ↔ (c.map String.toList).flatten = (c'.map String.toList).flatten := by
  rw [← monoName_toList, ← monoName_toList]
  exact String.toList_inj.symm

theorem monoName_length (L : Nat) (c : List String) (h : ∀ s ∈ c, s.length = L) :
    (monoProd strMul "" c).length = c.length * L := by
  induction c with
  | nil => simp [monoProd]
  | cons s r ih =>
    have hs := h s (by simp)
    have hr := ih (fun z hz => h z (by simp [hz]))
    simp only [monoProd, strMul, String.length_append, hs, hr, List.length_cons]
    rw [Nat.add_mul, Nat.one_mul, Nat.add_comm]

theorem monoName_inj_of_equal_length (L : Nat) (hL : 1 ≤ L) (c c' : List String)
    (hc : ∀ s ∈ c, s.length = L) (hc' : ∀ s ∈ c', s.length = L)
    (h : monoProd strMul "" c = monoProd strMul "" c') : c = c' := by
  rw [monoName_eq_iff] at h
  have h2 := flatten_inj_of_equal_length L hL _ _
    (by intro x hx; obtain ⟨s, hs, rfl⟩ := List.mem_map.mp hx; rw [String.length_toList]; exact hc s hs)
    (by intro x hx; obtain ⟨s, hs, rfl⟩ := List.mem_map.mp hx; rw [String.length_toList]; exact hc' s hs) h
  exact List.map_injective_iff.mpr (fun _ _ e => String.toList_inj.mp e) h2

theorem names_nodup_of_words (L : Nat) (hL : 1 ≤ L) {ws : List (List String)} (hnd : ws.Nodup)
    (hlen : ∀ w ∈ ws, ∀ s ∈ w, s.length = L) : (ws.map (monoProd strMul "")).Nodup :=
  List.Nodup.map_on (fun w hw w' hw' e => monoName_inj_of_equal_length L hL w w' (hlen w hw) (hlen w' hw') e) hnd

/-- combinations of different sizes differ -/
theorem multichoose_range_nodup {α : Type} (xs : List α) (h : xs.Nodup) (d : Nat) :
    ((List.range d).flatMap (fun k => multichoose k xs)).Nodup := by
  rw [List.nodup_flatMap]
  refine ⟨fun k _ => List.Nodup.of_map _ (multichoose_nodup k xs h), ?_⟩
  refine List.Pairwise.imp_of_mem ?_ (List.nodup_range (n := d))
  intro k k' _ _ hne
  simp only [Function.onFun, List.disjoint_left]
  intro c hc hc'
  exact hne ((multichoose_sound k xs c hc).1.symm.trans (multichoose_sound k' xs c hc').1)

end Blocks

/-! ## The equal-length no-collision condition for whole calls -/

/-- the first character of a feature name: after prefixing it is the namespace letter (`featsSparse_hd`), so a word
of names tells which term it belongs to (`words_sig`) -/
def hd (s : String) : Option Char := s.toList.head?

theorem outer_append_nodup {α : Type} (A B : List (List α)) (m : Nat) (hA : A.Nodup) (hB : B.Nodup)
    (hm : ∀ a ∈ A, a.length = m) : (outer (· ++ ·) A B).Nodup := by
  unfold outer
  rw [List.nodup_flatMap]
  constructor
  · intro a _; exact hB.map (List.append_right_injective a)
  · refine List.Pairwise.imp_of_mem ?_ hA
    intro a a' ha ha' hne
    simp only [Function.onFun, List.disjoint_left]
    intro w hw hw'
    obtain ⟨b, _, rfl⟩ := List.mem_map.1 hw
    obtain ⟨b', _, e⟩ := List.mem_map.1 hw'
    exact hne (List.append_inj_left e.symm (by rw [hm a ha, hm a' ha']))

section
variable (F : Char → List String)

/-- the features of a namespace as one-letter words -/
def W (c : Char) : List (List String) := (F c).map (fun s => [s])

theorem monoProd_singletons {β : Type} (c : List β) : monoProd (· ++ ·) [] (c.map fun s => [s]) = c := by
  induction c with
  | nil => rfl
  | cons a r ih => simp [monoProd, ih]

theorem monos_words (k : Nat) (c : Char) : monos (· ++ ·) [] k (W F c) = multichoose k (F c) := by
  unfold monos W
  rw [← multichoose_map (fun s => [s]) k (F c), List.map_map]
  exact (List.map_congr_left fun comb _ => monoProd_singletons comb).trans (List.map_id _)

theorem monos_words_nodup (k : Nat) (c : Char) (hF : (F c).Nodup) : (monos (· ++ ·) [] k (W F c)).Nodup := by
  rw [monos_words]
  exact List.Nodup.of_map _ (multichoose_nodup k (F c) hF)

theorem monos_words_letters (k : Nat) (c : Char) (w : List String) (h : w ∈ monos (· ++ ·) [] k (W F c)) :
    List.Forall₂ (fun s c => s ∈ F c) w (List.replicate k c) := by
  rw [monos_words] at h
  obtain ⟨hl, hm⟩ := multichoose_sound k (F c) w h
  rw [← hl]
  exact forall₂_replicate hm

theorem outerAll_words (cp : List (Char × Nat)) (hF : ∀ kp ∈ cp, (F kp.1).Nodup) :
    (outerAll (· ++ ·) (cp.map fun kp => monos (· ++ ·) [] kp.2 (W F kp.1))).Nodup
    ∧ ∀ w ∈ outerAll (· ++ ·) (cp.map fun kp => monos (· ++ ·) [] kp.2 (W F kp.1)),
        List.Forall₂ (fun s c => s ∈ F c) w (cp.flatMap fun kp => List.replicate kp.2 kp.1) := by
  induction cp using concat_induction with
  | nil => exact ⟨List.nodup_nil, fun _ h => nomatch h⟩
  | single kp =>
    rw [List.flatMap_singleton]
    exact ⟨monos_words_nodup F kp.2 kp.1 (hF kp List.mem_cons_self), monos_words_letters F kp.2 kp.1⟩
  | concat q cp kp ih =>
    obtain ⟨hn, hw⟩ := ih fun p hp => hF p (List.mem_append_left _ hp)
    have hk := hF kp (List.mem_append_right _ List.mem_cons_self)
    rw [outerAll_map_concat, List.flatMap_append, List.flatMap_singleton]
    refine ⟨outer_append_nodup _ _ _ hn (monos_words_nodup F kp.2 kp.1 hk) fun a ha => (hw a ha).length_eq, fun w hwm => ?_⟩
    obtain ⟨a, ha, b, hb, rfl⟩ := (mem_outer _ _ _ _).1 hwm
    exact List.rel_append (hw a ha) (monos_words_letters F kp.2 kp.1 b hb)

theorem termS_words (t : List Char) (hF : ∀ c ∈ t, (F c).Nodup) :
    (termS (· ++ ·) [] (W F) t).Nodup
    ∧ ∀ w ∈ termS (· ++ ·) [] (W F) t, List.Forall₂ (fun s c => s ∈ F c) w (canonTerm t) := by
  unfold termS canonTerm
  exact outerAll_words F (factors t) fun kp hkp => hF kp.1 (mem_factors t kp hkp).mem

/-- a word determines the regrouped term it belongs to, when every name starts with its namespace letter -/
theorem words_sig {cs : List Char} (hhd : ∀ c ∈ cs, ∀ s ∈ F c, hd s = some c) {w : List String}
    (h : List.Forall₂ (fun s c => s ∈ F c) w cs) : w.map hd = cs.map some :=
  List.forall₂_eq_eq_eq ▸ List.forall₂_map_left_iff.2
    (List.forall₂_map_right_iff.2 (forall₂_imp_mem h fun s _ c hc => hhd c hc s))

theorem mem_canonTerm (t : List Char) (c : Char) (h : c ∈ canonTerm t) : c ∈ t := by
  unfold canonTerm at h
  obtain ⟨kp, hkp, hc⟩ := List.mem_flatMap.1 h
  rw [(List.mem_replicate.1 hc).2]
  exact (mem_factors t kp hkp).mem

theorem termsS_words_nodup (ts : List (List Char)) (hhd : ∀ t ∈ ts, ∀ c ∈ t, ∀ s ∈ F c, hd s = some c)
    (hF : ∀ t ∈ ts, ∀ c ∈ t, (F c).Nodup) (hts : (ts.map canonTerm).Nodup) :
    (termsS (· ++ ·) [] (W F) ts).Nodup := by
  unfold termsS
  rw [List.nodup_flatMap]
  constructor
  · intro t ht; exact (termS_words F t (hF t ht)).1
  · have hp : ts.Pairwise (fun a b => canonTerm a ≠ canonTerm b) := List.pairwise_map.1 hts
    refine List.Pairwise.imp_of_mem ?_ hp
    intro t t' ht ht' hne
    simp only [Function.onFun, List.disjoint_left]
    intro w hw hw'
    have s1 := words_sig F (fun c hc => hhd t ht c (mem_canonTerm t c hc)) ((termS_words F t (hF t ht)).2 w hw)
    have s2 := words_sig F (fun c hc => hhd t' ht' c (mem_canonTerm t' c hc)) ((termS_words F t' (hF t' ht')).2 w hw')
    rw [s1] at s2
    exact hne (List.map_injective_iff.2 (fun _ _ e => Option.some.inj e) s2)

theorem names_eq_map_words (ts : List (List Char)) :
    termsS strMul "" F ts = (termsS (· ++ ·) [] (W F) ts).map (monoProd strMul "") := by
  rw [termsS_map (· ++ ·) [] strMul "" (monoProd strMul "") monoName_append rfl]
  congr 1
  funext c
  simp [W, List.map_map, monoProd, strMul, Function.comp_def]

theorem word_lengths (L : Nat) (ts : List (List Char)) (hF : ∀ t ∈ ts, ∀ c ∈ t, (F c).Nodup)
    (hlen : ∀ t ∈ ts, ∀ c ∈ t, ∀ s ∈ F c, s.length = L) :
    ∀ w ∈ termsS (· ++ ·) [] (W F) ts, ∀ s ∈ w, s.length = L := by
  intro w hw s hs
  unfold termsS at hw
  obtain ⟨t, ht, hwt⟩ := List.mem_flatMap.1 hw
  exact ((List.forall₂_and_left _ _).1 (forall₂_imp_mem ((termS_words F t (hF t ht)).2 w hwt)
    fun s _ c hc hsc => ⟨hlen t ht c (mem_canonTerm t c hc) s hsc, hsc⟩)).1 s hs

theorem termsS_names_nodup (L : Nat) (hL : 1 ≤ L) (ts : List (List Char))
    (hF : ∀ t ∈ ts, ∀ c ∈ t, (F c).Nodup)
    (hlen : ∀ t ∈ ts, ∀ c ∈ t, ∀ s ∈ F c, s.length = L)
    (hhd : ∀ t ∈ ts, ∀ c ∈ t, ∀ s ∈ F c, hd s = some c)
    (hts : (ts.map canonTerm).Nodup) :
    (termsS strMul "" F ts).Nodup ∧ ∀ n ∈ termsS strMul "" F ts, L ∣ n.length := by
  rw [names_eq_map_words]
  have hwl := word_lengths F L ts hF hlen
  refine ⟨names_nodup_of_words L hL (termsS_words_nodup F ts hhd hF hts) hwl, fun n hn => ?_⟩
  obtain ⟨w, hw, rfl⟩ := List.mem_map.1 hn
  rw [monoName_length L w (hwl w hw)]
  exact Dvd.intro_left _ rfl
end

theorem sparseMonos_names (is : List Inter) (kw : List (Char × NsVal)) :
    (sparseMonos is kw).map (·.1)
      = termsS strMul "" (fun c => (featsSparse kw c).map (·.1)) (dedupFirst (strTerms is))
        ++ (if constant is ≠ 0 then ["const"] else []) := by
  unfold sparseMonos
  rw [List.map_append, termsS_map pairMul pairOne strMul "" (·.1) (fun _ _ => rfl) rfl]
  congr 1
  split <;> rfl

theorem pairMul_one (p : String × Rat) : pairMul p pairOne = p := by
  simp [pairMul, pairOne]

theorem sparseMonos_single (c : Char) (kw : List (Char × NsVal)) : sparseMonos [.term [c]] kw = featsSparse kw c := by
  have e : sparseMonos [.term [c]] kw = termS pairMul pairOne (featsSparse kw) [c] ++ [] ++ [] := rfl
  rw [e, termS_single, monos_one, List.append_nil, List.append_nil]
  exact (List.map_congr_left fun p _ => pairMul_one p).trans (List.map_id _)

theorem sparse_call_no_collision' (L : Nat) (hL : 1 ≤ L) (is : List Inter) (kw : List (Char × NsVal))
    (hlen : ∀ t ∈ strTerms is, ∀ c ∈ t, ∀ p ∈ featsSparse kw c, p.1.length = L)
    (hhd : ∀ t ∈ strTerms is, ∀ c ∈ t, ∀ p ∈ featsSparse kw c, hd p.1 = some c)
    (hts : ((dedupFirst (strTerms is)).map canonTerm).Nodup)
    (hconst : constant is = 0 ∨ 5 % L ≠ 0) :
    ((sparseMonos is kw).map (·.1)).Nodup := by
  rw [sparseMonos_names]
  have hmem : ∀ t ∈ dedupFirst (strTerms is), t ∈ strTerms is := fun t ht => (mem_dedupFirst _ _).1 ht
  obtain ⟨hn, hd5⟩ := termsS_names_nodup (fun c => (featsSparse kw c).map (·.1)) L hL (dedupFirst (strTerms is))
    (fun t _ c _ => by unfold featsSparse sparseFeats; rw [dictOf_keys]; exact nodup_dedupFirst _)
    (fun t ht c hc s hs => by obtain ⟨p, hp, rfl⟩ := List.mem_map.1 hs; exact hlen t (hmem t ht) c hc p hp)
    (fun t ht c hc s hs => by obtain ⟨p, hp, rfl⟩ := List.mem_map.1 hs; exact hhd t (hmem t ht) c hc p hp)
    hts
  by_cases hc : constant is ≠ 0
  · -- `const` has five characters, the name of a monomial a multiple of `L`
    have h5 : ("const" : String).length = 5 := by decide
    rw [if_pos hc]
    refine List.Nodup.append hn (List.nodup_singleton _) (List.disjoint_singleton.2 fun ha => ?_)
    rcases hconst with h0 | hL5
    · exact hc h0
    · exact hL5 (Nat.mod_eq_zero_of_dvd (h5 ▸ hd5 _ ha))
  · rw [if_neg hc, List.append_nil]; exact hn

theorem featsSparse_hd (kw : List (Char × NsVal)) (c : Char) : ∀ p ∈ featsSparse kw c, hd p.1 = some c := by
  intro p hp
  have hk : p.1 ∈ (featsSparse kw c).map (·.1) := List.mem_map.2 ⟨p, hp, rfl⟩
  unfold featsSparse sparseFeats at hk
  rw [dictOf_keys, mem_dedupFirst] at hk
  simp only [List.map_map, List.mem_map, Function.comp_def] at hk
  obtain ⟨kv, _, e⟩ := hk
  rw [← e]
  show (String.singleton c ++ kv.1.fmt).toList.head? = some c
  rw [String.toList_append, String.toList_singleton]; rfl

/-- the whole-call condition as the decidable predicate the driver evaluates -/
theorem equalLenOK_no_collision' (L : Nat) (is : List Inter) (kw : List (Char × NsVal)) (h : equalLenOK L is kw = true) :
    collides is kw = false := by
  simp only [equalLenOK, Bool.and_eq_true, Bool.or_eq_true, decide_eq_true_eq, List.all_eq_true, beq_iff_eq,
    Bool.not_eq_true', hasDup_eq_false_iff] at h
  obtain ⟨⟨⟨hL, hlen⟩, hts⟩, hconst⟩ := h
  have := sparse_call_no_collision' L hL is kw hlen (fun t _ c _ p hp => featsSparse_hd kw c p hp) hts hconst
  unfold collides
  exact (hasDup_eq_false_iff _).2 this

end Coba.C20
