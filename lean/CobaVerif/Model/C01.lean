/-
C01 / C03 — executable model of `Experiment.run` (coba/experiments/core.py, process.py,
coba/multiprocessing.py, coba/results/core.py TransactionResult) and the spec `resultS`.

Core Lean only (plus, since phase 4, the finished model `Model/C06` of SequentialCB): this file is compiled into the
drivers `drv_c01` / `drv_c03`.

Reading of the code
* objects (environments, learners, evaluators) are identities `Nat`; a triple is `(e,l,v)`.
* components are abstract deterministic functions (`Comps`): what `params` returns (or that it
  raises), the identity of the last `Chunk` pipe of an environment, the pristine state of a
  learner object, the evaluator's own seed, and `eval v e s seed` = the rows produced (or an
  exception) together with the learner state left behind.
* an *address space* is a heap `Nat → S` from learner objects to their current state.  In-process
  all tasks share one heap (the user's objects); in a worker every chunk is unpickled into a
  fresh heap (`c.init`), sharing survives only inside the chunk.
* a schedule is a list of picks that interleaves the record streams of the chunks.
-/

import CobaVerif.Model.C06

namespace Coba.C01

inductive Err | raised
  deriving DecidableEq, Repr

abbrev Triple := Nat × Nat × Nat      -- (environment, learner, evaluator) object identities
abbrev Key3 := Nat × Nat × Nat        -- (environment_id, learner_id, evaluator_id)

/-! ## ids by first appearance -/

/-- Python `if x not in d: d[x] = len(d)`; the dict is the list of its keys in insertion order,
the id of a key is its position. -/
def addFirst (acc : List Nat) (x : Nat) : List Nat := if x ∈ acc then acc else acc ++ [x]

/-- spec: the distinct objects in order of first appearance -/
def firsts : List Nat → List Nat
  | [] => []
  | x :: xs => x :: (firsts xs).filter (fun y => y ≠ x)

/-- spec: the id of an object = its position among the distinct objects -/
def idOf (xs : List Nat) (x : Nat) : Nat := (firsts xs).idxOf x

def envsOf (ts : List Triple) : List Nat := ts.map (·.1)
def lrnsOf (ts : List Triple) : List Nat := ts.map (·.2.1)
def valsOf (ts : List Triple) : List Nat := ts.map (·.2.2)

/-! ## tasks (process.py `Task`, `MakeTasks`) -/

inductive Task
  | env (id obj : Nat)                               -- Task((eid,env),None,None)
  | lrn (id obj : Nat)                               -- Task(None,(lid,lrn),None)
  | val (id obj : Nat)                               -- Task(None,None,(vid,val))
  | eval (eid e lid l vid v : Nat) (copy : Bool)     -- Task((eid,env),(lid,lrn),(vid,val),copy)
  deriving DecidableEq, Repr

/-- what `Result.from_file` restored (ids already present); empty for a fresh run -/
structure Restored where
  envs : List Nat
  lrns : List Nat
  vals : List Nat
  outs : List Key3

def Restored.none : Restored := ⟨[], [], [], []⟩

/-- the loop of `MakeTasks.read`; `cnt` is `Counter(l for _,l,_ in triples)` -/
def makeAux (cnt : Nat → Nat) (R : Restored) :
    List Nat → List Nat → List Nat → List Triple → List Task
  | _, _, _, [] => []
  | envs, lrns, vals, (e, l, v) :: ts =>
    let t1 := if e ∈ envs then [] else if envs.length ∈ R.envs then [] else [Task.env envs.length e]
    let t2 := if l ∈ lrns then [] else if lrns.length ∈ R.lrns then [] else [Task.lrn lrns.length l]
    let t3 := if v ∈ vals then [] else if vals.length ∈ R.vals then [] else [Task.val vals.length v]
    let envs' := addFirst envs e
    let lrns' := addFirst lrns l
    let vals' := addFirst vals v
    let key : Key3 := (envs'.idxOf e, lrns'.idxOf l, vals'.idxOf v)
    let t4 := if key ∈ R.outs then [] else [Task.eval key.1 e key.2.1 l key.2.2 v (decide (cnt l > 1))]
    t1 ++ (t2 ++ (t3 ++ (t4 ++ makeAux cnt R envs' lrns' vals' ts)))

def lrnCount (ts : List Triple) (l : Nat) : Nat := (ts.filter (fun t => t.2.1 = l)).length

def makeTasks (R : Restored) (ts : List Triple) : List Task :=
  makeAux (lrnCount ts) R [] [] [] ts

/-! ## chunks (process.py `ChunkTasks`) -/

def Task.hasEnv : Task → Bool
  | .env .. => true
  | .eval .. => true
  | _ => false

def Task.envObj : Task → Nat
  | .env _ e => e
  | .eval _ e .. => e
  | _ => 0

def Task.envId : Task → Nat
  | .env i _ => i
  | .eval i .. => i
  | _ => 0

def pairLe (a b : Nat × Nat) : Bool := decide (a.1 < b.1 ∨ (a.1 = b.1 ∧ a.2 ≤ b.2))

/-- `chunk_sorter = lambda t: (t.env_id, t.lrn_id if t.lrn else -1)` (shifted by one) -/
def Task.sortKey : Task → Nat × Nat
  | .env i _ => (i, 0)
  | .eval i _ li .. => (i, li + 1)
  | _ => (0, 0)

def taskLe (a b : Task) : Bool := pairLe a.sortKey b.sortKey

/-- `chunks[self._get_last_chunk(task.env)].append(task)` on a dict in insertion order -/
def groupInsert (k : Nat) (t : Task) : List (Nat × List Task) → List (Nat × List Task)
  | [] => [(k, [t])]
  | (k', g) :: rest => if k = k' then (k', g ++ [t]) :: rest else (k', g) :: groupInsert k t rest

def groupStep (ckey : Nat → Option Nat) (acc : List (Nat × List Task)) (t : Task) : List (Nat × List Task) :=
  match ckey t.envObj with
  | some k => groupInsert k t acc
  | none => acc

def groupTasks (ckey : Nat → Option Nat) (ts : List Task) : List (Nat × List Task) :=
  ts.foldl (groupStep ckey) []

/-- `chunks_sorter = lambda c: min(t.env_id for t in c)` -/
def minEnv : List Task → Nat
  | [] => 0
  | t :: ts => ts.foldl (fun m x => Nat.min m x.envId) t.envId

/-- `_max_chunker`: consecutive batches of `n ≥ 1` items -/
def maxChunkAux {α} (n : Nat) : List α → Nat → List α → List (List α)
  | [], _, cur => if cur.isEmpty then [] else [cur.reverse]
  | x :: xs, room, cur =>
    if room = 0 then cur.reverse :: maxChunkAux n xs (n - 1) [x]
    else maxChunkAux n xs (room - 1) (x :: cur)

/-- `max_tasks or None`: 0 means "never split" -/
def maxChunker {α} (mt : Nat) (l : List α) : List (List α) :=
  if mt = 0 then (if l.isEmpty then [] else [l]) else maxChunkAux mt l mt []

def chunkTasks (mt : Nat) (ckey : Nat → Option Nat) (ts : List Task) : List (List Task) :=
  let sans := ts.filter (fun t => !t.hasEnv)
  let withE := ts.filter (fun t => t.hasEnv)
  let notCh := withE.filter (fun t => (ckey t.envObj).isNone)
  let groups := (groupTasks ckey withE).map (·.2)
  sans.map (fun t => [t]) ++ (notCh.map (fun t => [t]) ++
    (groups.mergeSort (fun a b => decide (minEnv a ≤ minEnv b))).flatMap
      (fun g => maxChunker mt (g.mergeSort taskLe)))

/-! ## processing a chunk (process.py `ProcessTasks`) -/

/-- `self._env_ids(item)+self._lrn_ids(item)` (shifted by one; −1 ↦ 0) -/
def Task.procKey : Task → Nat × Nat
  | .env i _ => (i + 1, 0)
  | .lrn i _ => (0, i + 1)
  | .val _ _ => (0, 0)
  | .eval i _ li .. => (i + 1, li + 1)

/-- `sorted(chunk, key=…, reverse=True)` (stable, descending) followed by `chunk.pop()` from the
end: the order in which the tasks of a chunk are processed -/
def procOrder (chunk : List Task) : List Task :=
  (chunk.mergeSort (fun a b => pairLe b.procKey a.procKey)).reverse

structure Meta where
  nLrn : Nat
  nEnv : Nat
  seed : Nat
  deriving DecidableEq, Repr

inductive Rec (P Row : Type)
  | T0 (m : Meta)
  | T1 (id : Nat) (p : P)
  | T2 (id : Nat) (p : P)
  | T3 (id : Nat) (p : P)
  | T4 (key : Key3) (rows : List Row)

/-- one event per processed task: the record it yields, or the exception it logs -/
inductive Ev (P Row : Type)
  | record (r : Rec P Row)
  | error (t : Task)

structure Comps (S P Row : Type) where
  envParams : Nat → Except Err P        -- peek + `SafeEnvironment(env).params`
  lrnParams : Nat → Except Err P        -- `SafeLearner(lrn).params`
  valParams : Nat → Except Err P        -- `SafeEvaluator(val).params`
  chunkKey  : Nat → Option Nat          -- identity of the last `Chunk` pipe, if any
  init      : Nat → S                   -- pristine state of a learner object
  valSeed   : Nat → Option Nat          -- the evaluator's own seed
  eval      : Nat → Nat → S → Nat → Except Err (List Row) × S   -- evaluator env state seed

abbrev Heap (S : Type) := Nat → S

def Heap.set {S} (h : Heap S) (l : Nat) (s : S) : Heap S := fun x => if x = l then s else h x

/-- `seed = self._seed if self._seed is not None else CobaContext.store.get("experiment_seed")` -/
def effSeed {S P Row} (c : Comps S P Row) (expSeed v : Nat) : Nat := (c.valSeed v).getD expSeed

def paramEv {P Row} (t : Task) (mk : P → Rec P Row) : Except Err P → Ev P Row
  | .ok p => .record (mk p)
  | .error _ => .error t

/-- one iteration of the `while chunk:` loop, in the address space `h` -/
def runTask {S P Row} (c : Comps S P Row) (seed : Nat) (h : Heap S) : Task → Ev P Row × Heap S
  | .env i e => (paramEv (.env i e) (.T1 i) (c.envParams e), h)
  | .lrn i l => (paramEv (.lrn i l) (.T2 i) (c.lrnParams l), h)
  | .val i v => (paramEv (.val i v) (.T3 i) (c.valParams v), h)
  | .eval ei e li l vi v copy =>
    let r := c.eval v e (h l) (effSeed c seed v)
    -- `if task.copy: lrn = deepcopy(lrn)`: the cell is left alone; otherwise it is mutated
    let h' := if copy then h else h.set l r.2
    (match r.1 with
     | .ok rows => .record (.T4 (ei, li, vi) rows)     -- `list(evaluate(...))` materialised first
     | .error _ => .error (.eval ei e li l vi v copy), h')

def runSeq {S P Row} (c : Comps S P Row) (seed : Nat) : Heap S → List Task → List (Ev P Row) × Heap S
  | h, [] => ([], h)
  | h, t :: ts =>
    let r := runTask c seed h t
    let rest := runSeq c seed r.2 ts
    (r.1 :: rest.1, rest.2)

/-! ## schedules -/

structure Cfg where
  mp : Nat      -- processes
  mc : Nat      -- maxchunksperchild
  mt : Nat      -- maxtasksperchunk
  deriving Repr

/-- `is_multiproc = mp > 1 or mc != 0` -/
def Cfg.multi (c : Cfg) : Bool := decide (c.mp > 1) || decide (c.mc ≠ 0)

/-- remove the head of the `i`-th queue -/
def popAt {α} : Nat → List (List α) → Option (α × List (List α))
  | _, [] => none
  | 0, [] :: _ => none
  | 0, (x :: q) :: qs => some (x, q :: qs)
  | i + 1, q :: qs => (popAt i qs).map (fun r => (r.1, q :: r.2))

/-- an interleaving of the queues chosen by a list of picks: each pick selects one of the
non-empty queues, whose head is emitted; when the picks are exhausted the rest is drained in
order.  Every interleaving of the queues is `interleave qs picks` for some `picks`. -/
def interleave {α} (qs : List (List α)) : List Nat → List α
  | [] => qs.flatten
  | p :: ps =>
    let live := qs.filter (fun q => !q.isEmpty)
    match popAt (p % live.length) live with
    | none => []
    | some (x, qs') => x :: interleave qs' ps

/-! ## the result (results/core.py `TransactionResult`) -/

def key3Lt (a b : Key3) : Bool :=
  decide (a.1 < b.1 ∨ (a.1 = b.1 ∧ (a.2.1 < b.2.1 ∨ (a.2.1 = b.2.1 ∧ a.2.2 < b.2.2))))

def natLt (a b : Nat) : Bool := decide (a < b)

/-- `d[k] = v` followed by `sorted(d.items())`, kept as one sorted association list -/
def upsert {K V} [DecidableEq K] (lt : K → K → Bool) (k : K) (v : V) : List (K × V) → List (K × V)
  | [] => [(k, v)]
  | (k', v') :: t =>
    if lt k k' then (k, v) :: (k', v') :: t
    else if k = k' then (k, v) :: t
    else (k', v') :: upsert lt k v t

def tableOf {K V} [DecidableEq K] (lt : K → K → Bool) (kvs : List (K × V)) : List (K × V) :=
  kvs.foldl (fun acc kv => upsert lt kv.1 kv.2 acc) []

def Rec.t0? {P Row} : Rec P Row → Option Meta | .T0 m => some m | _ => none
def Rec.t1? {P Row} : Rec P Row → Option (Nat × P) | .T1 i p => some (i, p) | _ => none
def Rec.t2? {P Row} : Rec P Row → Option (Nat × P) | .T2 i p => some (i, p) | _ => none
def Rec.t3? {P Row} : Rec P Row → Option (Nat × P) | .T3 i p => some (i, p) | _ => none
def Rec.t4? {P Row} : Rec P Row → Option (Key3 × List Row) | .T4 k r => some (k, r) | _ => none

/-- rows numbered `1..N` (`packed['index'] = range(1,N+1)`) -/
def numberRows {Row} (kr : Key3 × List Row) : List (Key3 × Nat × Row) :=
  (kr.2.zipIdx 1).map (fun ri => (kr.1, ri.2, ri.1))

structure Result (P Row : Type) where
  exp  : Option Meta
  envs : List (Nat × P)
  lrns : List (Nat × P)
  vals : List (Nat × P)
  ints : List (Key3 × Nat × Row)

def result {P Row} (recs : List (Rec P Row)) : Result P Row :=
  { exp  := (recs.filterMap Rec.t0?).getLast?
    envs := tableOf natLt (recs.filterMap Rec.t1?)
    lrns := tableOf natLt (recs.filterMap Rec.t2?)
    vals := tableOf natLt (recs.filterMap Rec.t3?)
    ints := (tableOf key3Lt (recs.filterMap Rec.t4?)).flatMap numberRows }

/-- the rows a result holds for one triple of ids -/
def Result.rowsOf {P Row} (r : Result P Row) (k : Key3) : List (Nat × Row) :=
  (r.ints.filter (fun x => x.1 = k)).map (·.2)

/-! ## the run -/

def Ev.rec? {P Row} : Ev P Row → Option (Rec P Row) | .record r => some r | .error _ => none
def Ev.err? {P Row} : Ev P Row → Option Task | .record _ => none | .error t => some t

def metaOf (seed : Nat) (ts : List Triple) : Meta :=
  { nLrn := (firsts (lrnsOf ts)).length, nEnv := (firsts (envsOf ts)).length, seed := seed }

/-- the chunks in the order `ChunkTasks` yields them, each in the order `ProcessTasks` works
through it -/
def chunksOf {S P Row} (c : Comps S P Row) (cfg : Cfg) (ts : List Triple) : List (List Task) :=
  (chunkTasks cfg.mt c.chunkKey (makeTasks .none ts)).map procOrder

/-- all events of a run and the heap of the calling process afterwards.
in-process: one heap threaded through all chunks in order.
workers   : every chunk starts from a fresh copy of the pristine heap; the event streams of the
            chunks are interleaved by the schedule; the caller's objects are not touched. -/
def runEvents {S P Row} (c : Comps S P Row) (cfg : Cfg) (picks : List Nat) (seed : Nat)
    (ts : List Triple) : List (Ev P Row) × Heap S :=
  if cfg.multi then
    (interleave ((chunksOf c cfg ts).map (fun ch => (runSeq c seed c.init ch).1)) picks, c.init)
  else
    runSeq c seed c.init (chunksOf c cfg ts).flatten

def runRecords {S P Row} (c : Comps S P Row) (cfg : Cfg) (picks : List Nat) (seed : Nat)
    (ts : List Triple) : List (Rec P Row) :=
  Rec.T0 (metaOf seed ts) :: (runEvents c cfg picks seed ts).1.filterMap Ev.rec?

def run {S P Row} (c : Comps S P Row) (cfg : Cfg) (picks : List Nat) (seed : Nat)
    (ts : List Triple) : Result P Row :=
  result (runRecords c cfg picks seed ts)

def runLog {S P Row} (c : Comps S P Row) (cfg : Cfg) (picks : List Nat) (seed : Nat)
    (ts : List Triple) : List Task :=
  (runEvents c cfg picks seed ts).1.filterMap Ev.err?

/-! ## the spec -/

/-- C03: what evaluating the triple alone, on a pristine learner, gives -/
def evalS {S P Row} (c : Comps S P Row) (seed : Nat) (t : Triple) : Except Err (List Row) :=
  (c.eval t.2.2 t.1 (c.init t.2.1) (effSeed c seed t.2.2)).1

def idKey (ts : List Triple) (t : Triple) : Key3 :=
  (idOf (envsOf ts) t.1, idOf (lrnsOf ts) t.2.1, idOf (valsOf ts) t.2.2)

def paramRecs {P Row} (mk : Nat → P → Rec P Row) (params : Nat → Except Err P) (objs : List Nat) :
    List (Rec P Row) :=
  (firsts objs).zipIdx.filterMap (fun oi => match params oi.1 with
    | .ok p => some (mk oi.2 p)
    | .error _ => none)

def evalRecs {S P Row} (c : Comps S P Row) (seed : Nat) (ts : List Triple) : List (Rec P Row) :=
  ts.filterMap (fun t => match evalS c seed t with
    | .ok rows => some (Rec.T4 (idKey ts t) rows)
    | .error _ => none)

/-- parameter tables keyed by first-appearance ids + for every triple whose evaluation (alone,
pristine learner) does not raise, its rows -/
def specRecs {S P Row} (c : Comps S P Row) (seed : Nat) (ts : List Triple) : List (Rec P Row) :=
  Rec.T0 (metaOf seed ts) ::
    (paramRecs Rec.T1 c.envParams (envsOf ts) ++ (paramRecs Rec.T2 c.lrnParams (lrnsOf ts) ++
      (paramRecs Rec.T3 c.valParams (valsOf ts) ++ evalRecs c seed ts)))

def resultS {S P Row} (c : Comps S P Row) (seed : Nat) (ts : List Triple) : Result P Row :=
  result (specRecs c seed ts)


/-! ## phase 2: process-level state

State that outlives an evaluation inside one OS process (coba: `CobaContext.learning_info`, class- or
module-level caches, anything memoised on a shared evaluator object) is an explicit component `σ`
threaded through all evaluations of one process.  In-process there is one `σ` for the whole run;
a worker has its own `σ`, which lives as long as the worker does: over all chunks it pulls until it
is retired after `maxchunksperchild` chunks.  Learner objects that cannot be deep-copied are modelled
too (`copyable`): `deepcopy` then raises inside the per-task `try`. -/

structure CompsP (G S P Row : Type) where
  envParams : Nat → Except Err P
  lrnParams : Nat → Except Err P
  valParams : Nat → Except Err P
  chunkKey  : Nat → Option Nat
  init      : Nat → S
  valSeed   : Nat → Option Nat
  copyable  : Nat → Bool                 -- can `deepcopy` copy this learner object?
  σ0        : G                          -- the state of a freshly started process
  evalP     : G → Nat → Nat → S → Nat → (Except Err (List Row) × S) × G   -- process-state evaluator env learner-state seed

/-- the isolation hypothesis: started in a clean process state an evaluation gives what it gives in
a fresh process, and it leaves the process state clean (`Clean := fun _ => True` is the special case
"the outcome never depends on σ") -/
structure ProcessLocalClean {G S P Row} (cp : CompsP G S P Row) (Clean : G → Prop) : Prop where
  fresh : Clean cp.σ0
  same  : ∀ σ, Clean σ → ∀ v e s seed, (cp.evalP σ v e s seed).1 = (cp.evalP cp.σ0 v e s seed).1
  stays : ∀ σ, Clean σ → ∀ v e s seed, Clean (cp.evalP σ v e s seed).2

/-- a shared learner object that cannot be copied: no pristine copy exists -/
def CompsP.blocked {G S P Row} (cp : CompsP G S P Row) (ts : List Triple) (l : Nat) : Bool :=
  decide (lrnCount ts l > 1) && !cp.copyable l

/-- the σ-free components the spec is stated with: every evaluation as it happens in a fresh process;
evaluating a shared learner that cannot be copied raises.  (The learner state carries the identity
of its object so that `eval` can tell.) -/
def CompsP.clean {G S P Row} (cp : CompsP G S P Row) (ts : List Triple) : Comps (Nat × S) P Row :=
  { envParams := cp.envParams, lrnParams := cp.lrnParams, valParams := cp.valParams,
    chunkKey := cp.chunkKey, init := fun l => (l, cp.init l), valSeed := cp.valSeed,
    eval := fun v e ls seed =>
      if cp.blocked ts ls.1 then (.error .raised, ls)
      else
        let r := (cp.evalP cp.σ0 v e ls.2 seed).1
        (r.1, (ls.1, r.2)) }

def effSeedP {G S P Row} (cp : CompsP G S P Row) (expSeed v : Nat) : Nat := (cp.valSeed v).getD expSeed

/-- one iteration of the `while chunk:` loop in a process with state `st.1` and learner heap `st.2` -/
def runTaskP {G S P Row} (cp : CompsP G S P Row) (seed : Nat) (st : G × Heap S) : Task → Ev P Row × (G × Heap S)
  | .env i e => (paramEv (.env i e) (.T1 i) (cp.envParams e), st)
  | .lrn i l => (paramEv (.lrn i l) (.T2 i) (cp.lrnParams l), st)
  | .val i v => (paramEv (.val i v) (.T3 i) (cp.valParams v), st)
  | .eval ei e li l vi v copy =>
    if copy && !cp.copyable l then
      -- `lrn = deepcopy(lrn)` raises inside the per-task try: logged, nothing evaluated, nothing touched
      (.error (.eval ei e li l vi v copy), st)
    else
      let r := cp.evalP st.1 v e (st.2 l) (effSeedP cp seed v)
      let h' := if copy then st.2 else st.2.set l r.1.2
      (match r.1.1 with
       | .ok rows => .record (.T4 (ei, li, vi) rows)
       | .error _ => .error (.eval ei e li l vi v copy), (r.2, h'))

def runSeqP {G S P Row} (cp : CompsP G S P Row) (seed : Nat) :
    G × Heap S → List Task → List (Ev P Row) × (G × Heap S)
  | st, [] => ([], st)
  | st, t :: ts =>
    let r := runTaskP cp seed st t
    let rest := runSeqP cp seed r.2 ts
    (r.1 :: rest.1, rest.2)

/-- one worker lifetime: the chunks it pulls, one after the other; every chunk is unpickled into a
fresh heap, the process state is carried from chunk to chunk -/
def runLifeP {G S P Row} (cp : CompsP G S P Row) (seed : Nat) : G → List (List Task) → List (List (Ev P Row)) × G
  | σ, [] => ([], σ)
  | σ, ch :: chs =>
    let r := runSeqP cp seed (σ, cp.init) ch
    let rest := runLifeP cp seed r.2.1 chs
    (r.1 :: rest.1, rest.2)

/-- append `x` to the `k`-th list (a new last list when there are not that many) -/
def putAt {α} : Nat → α → List (List α) → List (List α)
  | _, x, [] => [[x]]
  | 0, x, l :: ls => (l ++ [x]) :: ls
  | k + 1, x, l :: ls => l :: putAt k x ls

/-- which worker pulls which chunk: chunk `i` goes to worker `assign[i]` (0 when absent) -/
def livesOf {α} (assign : List Nat) (chunks : List α) : List (List α) :=
  chunks.zipIdx.foldl (fun acc ci => putAt (assign.getD ci.2 0) ci.1 acc) []

/-- `maxchunksperchild`: a worker is retired after `mc` chunks and replaced by a fresh process -/
def retire {α} (mc : Nat) (lives : List (List α)) : List (List α) := lives.flatMap (maxChunker mc)

structure Sched where
  assign : List Nat     -- distribution of the chunks over the workers
  picks  : List Nat     -- interleaving of the emitted records

def chunksOfP {G S P Row} (cp : CompsP G S P Row) (cfg : Cfg) (ts : List Triple) : List (List Task) :=
  (chunkTasks cfg.mt cp.chunkKey (makeTasks .none ts)).map procOrder

/-- events of a run started in a process whose state is `σ`, and the state / heap of that process
afterwards.  Workers are freshly started processes (`σ0`), they never see the caller's `σ`. -/
def runEventsPFrom {G S P Row} (cp : CompsP G S P Row) (cfg : Cfg) (sched : Sched) (seed : Nat) (σ : G)
    (ts : List Triple) : List (Ev P Row) × (G × Heap S) :=
  if cfg.multi then
    let lives := retire cfg.mc (livesOf sched.assign (chunksOfP cp cfg ts))
    (interleave (lives.flatMap (fun life => (runLifeP cp seed cp.σ0 life).1)) sched.picks, (σ, cp.init))
  else
    runSeqP cp seed (σ, cp.init) (chunksOfP cp cfg ts).flatten

def runPFrom {G S P Row} (cp : CompsP G S P Row) (cfg : Cfg) (sched : Sched) (seed : Nat) (σ : G)
    (ts : List Triple) : Result P Row :=
  result (Rec.T0 (metaOf seed ts) :: (runEventsPFrom cp cfg sched seed σ ts).1.filterMap Ev.rec?)

/-- a run in a fresh process -/
def runP {G S P Row} (cp : CompsP G S P Row) (cfg : Cfg) (sched : Sched) (seed : Nat) (ts : List Triple) :
    Result P Row := runPFrom cp cfg sched seed cp.σ0 ts

def runLogP {G S P Row} (cp : CompsP G S P Row) (cfg : Cfg) (sched : Sched) (seed : Nat) (ts : List Triple) :
    List Task := (runEventsPFrom cp cfg sched seed cp.σ0 ts).1.filterMap Ev.err?

/-- the process state the caller's process is left in by a run -/
def stateAfter {G S P Row} (cp : CompsP G S P Row) (cfg : Cfg) (sched : Sched) (seed : Nat) (σ : G)
    (ts : List Triple) : G := (runEventsPFrom cp cfg sched seed σ ts).2.1

/-- the spec with process state: the σ-free spec of the clean components -/
def resultSP {G S P Row} (cp : CompsP G S P Row) (seed : Nat) (ts : List Triple) : Result P Row :=
  resultS (cp.clean ts) seed ts


/-! ## phase 3: resumed runs (`Experiment.run(result_file=…)` on an existing log)

`Result.from_file` restores the records of an earlier run, `MakeTasks` skips every parameter task whose id
and every evaluation task whose key is restored, the new records are appended to the log and
`TransactionResult` reads the whole log. -/

/-- `if eid not in restored_envs`, …, `(eid,lid,vid) not in restored_outs` -/
def Task.keep (R : Restored) : Task → Bool
  | .env i _ => decide (i ∉ R.envs)
  | .lrn i _ => decide (i ∉ R.lrns)
  | .val i _ => decide (i ∉ R.vals)
  | .eval ei _ li _ vi _ _ => decide ((ei, li, vi) ∉ R.outs)

/-- what `MakeTasks` learns from the restored Result: the ids / keys that have a record (a `T4` without
rows too: `Result.finished`) -/
def restoredOf {P Row} (recs : List (Rec P Row)) : Restored :=
  { envs := (recs.filterMap Rec.t1?).map (·.1), lrns := (recs.filterMap Rec.t2?).map (·.1),
    vals := (recs.filterMap Rec.t3?).map (·.1), outs := (recs.filterMap Rec.t4?).map (·.1) }

def chunksOn {S P Row} (c : Comps S P Row) (cfg : Cfg) (tasks : List Task) : List (List Task) :=
  (chunkTasks cfg.mt c.chunkKey tasks).map procOrder

/-- the events of processing an arbitrary task list under a configuration and a schedule -/
def runEventsOn {S P Row} (c : Comps S P Row) (cfg : Cfg) (picks : List Nat) (seed : Nat)
    (tasks : List Task) : List (Ev P Row) × Heap S :=
  if cfg.multi then
    (interleave ((chunksOn c cfg tasks).map (fun ch => (runSeq c seed c.init ch).1)) picks, c.init)
  else
    runSeq c seed c.init (chunksOn c cfg tasks).flatten

/-- the tasks a run resumed from the log `old` still has to do -/
def resumedTasks {P Row} (old : List (Rec P Row)) (ts : List Triple) : List Task := makeTasks (restoredOf old) ts

/-- the Result of a run resumed from a log that holds the experiment record and the records `old` of an
earlier run (in any order): the new records are appended, the whole log is read -/
def runResumed {S P Row} (c : Comps S P Row) (cfg : Cfg) (picks : List Nat) (seed : Nat) (ts : List Triple)
    (old : List (Rec P Row)) : Result P Row :=
  result (Rec.T0 (metaOf seed ts) :: (old ++ (runEventsOn c cfg picks seed (resumedTasks old ts)).1.filterMap Ev.rec?))

/-! ## phase 4 (a): resumed runs with process state

The resumed layer of phase 3 threaded no process state.  Here the tasks a resumed run still has to do are
processed exactly like those of a fresh run in the process-state model: in-process on the caller's process
state `σ`, on workers per lifetime from `σ0` (any chunk-to-worker assignment, retirement after `mc` chunks),
un-copyable shared learners raise inside the per-task `try`. -/

def chunksOnP {G S P Row} (cp : CompsP G S P Row) (cfg : Cfg) (tasks : List Task) : List (List Task) :=
  (chunkTasks cfg.mt cp.chunkKey tasks).map procOrder

/-- events of processing an arbitrary task list in the process-state model, started in a process whose state is `σ` -/
def runEventsOnPFrom {G S P Row} (cp : CompsP G S P Row) (cfg : Cfg) (sched : Sched) (seed : Nat) (σ : G)
    (tasks : List Task) : List (Ev P Row) × (G × Heap S) :=
  if cfg.multi then
    let lives := retire cfg.mc (livesOf sched.assign (chunksOnP cp cfg tasks))
    (interleave (lives.flatMap (fun life => (runLifeP cp seed cp.σ0 life).1)) sched.picks, (σ, cp.init))
  else
    runSeqP cp seed (σ, cp.init) (chunksOnP cp cfg tasks).flatten

/-- `runResumed` with process state: the Result of a run resumed from the log `old`, started in a process in state `σ` -/
def runResumedPFrom {G S P Row} (cp : CompsP G S P Row) (cfg : Cfg) (sched : Sched) (seed : Nat) (σ : G)
    (ts : List Triple) (old : List (Rec P Row)) : Result P Row :=
  result (Rec.T0 (metaOf seed ts) ::
    (old ++ (runEventsOnPFrom cp cfg sched seed σ (resumedTasks old ts)).1.filterMap Ev.rec?))

def runResumedP {G S P Row} (cp : CompsP G S P Row) (cfg : Cfg) (sched : Sched) (seed : Nat)
    (ts : List Triple) (old : List (Rec P Row)) : Result P Row := runResumedPFrom cp cfg sched seed cp.σ0 ts old

/-! ## phase 4 (b): the built-in evaluator `SequentialCB` as the evaluation component

`Model/C06.evaluate` is the model of `SequentialCB(record, learn, eval).evaluate(env, learner)` (validation, the
predict / score / learn passes per batch, the recorded row).  A `SeqWorld` says which `SequentialCB` configuration
every evaluator object has, which `predict / score / learn` functions and pristine state every learner object has,
and which interactions a read of every environment object yields (or that the read raises).  `seqComps` plugs this
into `Comps`: `eval v e (l, s) seed` is `C06.evaluate (cfgOf v) (learner l) (batch e) (rows of e) s`; a validation
reject (`CobaException`), a crash inside the evaluation and a failing read are the task's exception.  The learner
state carries the identity of its object (as in `CompsP.clean`).  The seed is not used: this is the deterministic
path (learners answering with an action [+ probability]; PMF answers draw from `CobaRandom(seed)`, C05/C06 `wrapPmf`). -/

structure SeqWorld (σ V R P : Type) where
  envParams : Nat → Except Err P
  lrnParams : Nat → Except Err P
  valParams : Nat → Except Err P
  chunkKey  : Nat → Option Nat
  valSeed   : Nat → Option Nat
  cfgOf     : Nat → Coba.C06.Config                       -- evaluator object ↦ SequentialCB(record, learn, eval)
  learner   : Nat → Coba.C06.Learner σ V                  -- learner object ↦ its methods
  init      : Nat → σ                                     -- … and its pristine state
  envRows   : Nat → Except Err (List (Coba.C06.Dict (Coba.C06.Fld V R)))   -- what a read yields / raises
  batch     : Nat → Option Nat                            -- batch size when the environment is batched

def seqOutcome {σ V R : Type} (ls : Nat × σ) :
    Coba.C06.Outcome (σ × List (Coba.C06.Call V) × List (Coba.C06.Row V R)) →
      Except Err (List (Coba.C06.Row V R)) × (Nat × σ)
  | .ok r => (.ok r.2.2, (ls.1, r.1))
  | .rejected _ => (.error .raised, ls)
  | .crashed _ => (.error .raised, ls)

def seqEval {σ V R P : Type} [DecidableEq V] [Coba.C06.RewardFn R V] (w : SeqWorld σ V R P)
    (v e : Nat) (ls : Nat × σ) (_seed : Nat) : Except Err (List (Coba.C06.Row V R)) × (Nat × σ) :=
  match w.envRows e with
  | .error _ => (.error .raised, ls)
  | .ok rows => seqOutcome ls (Coba.C06.evaluate (w.cfgOf v) (w.learner ls.1) (w.batch e) rows ls.2)

def seqComps {σ V R P : Type} [DecidableEq V] [Coba.C06.RewardFn R V] (w : SeqWorld σ V R P) :
    Comps (Nat × σ) P (Coba.C06.Row V R) :=
  { envParams := w.envParams, lrnParams := w.lrnParams, valParams := w.valParams, chunkKey := w.chunkKey,
    init := fun l => (l, w.init l), valSeed := w.valSeed, eval := seqEval w }

/-! ## phase 5: PMF-answering and `learning_info`-writing learners inside the SequentialCB experiment model

A learner object of a `SeqWorldX` is either an ordinary one (`ext l = none`: `base.learner l`, exactly `seqComps`), or
* `.pmf P dflt` — it answers `predict` with a PMF.  `SequentialCB.evaluate` wraps it in `SafeLearner(learner, seed)` where
  `seed = self._seed if self._seed is not None else CobaContext.store.get("experiment_seed")` — the `seed` argument
  of `Comps.eval` (`effSeed`) — and `SafeLearner` draws the action with `CobaRandom(seed)`, **fresh for every
  evaluation**: the evaluator sees `C06.wrapPmf P dflt` started at generator state `C05.normInt seed`; the generator
  state is dropped afterwards, only the learner object's own state survives the evaluation;
* `.info L` — it writes `CobaContext.learning_info` while predicting / learning: `C06.evaluateI` (the channel is
  cleared when the evaluation starts, merged into the interaction's own row and cleared after every pass), un-batched
  environments; on a batched environment the info is not modelled (`C06.evaluate` on the silent learner).
Environment pipelines `chunk()` / `cache()` in front of the source enter through `base.chunkKey` (identity of the last
`Chunk` pipe) exactly as in the toy kind. -/

inductive SeqExt (σ V : Type) where
  | info (L : Coba.C06.InfoLearner σ V)
  | pmf (P : Coba.C06.PmfLearner σ V) (dflt : V)
  /-- an ordinary learner whose answer to a batched `predict` is a list of rows with `len` items each (e.g. `(action,
  probability)` tuples: `len = 2`) — see `probeWrap` -/
  | rowLen (L : Coba.C06.Learner σ V) (len : Nat)

/-- **The orientation probe of `SafeLearner.batch_order`** (coba/safety.py:75-102, reached from `_parse_pred` on the first
predict of a `SafeLearner`, i.e. once per evaluation).  When the first batched answer `pred` is neither a dict nor a list
of dicts, its first row has a `__len__`, and `len(pred) == len(pred[0])` ("square": the number of rows of the first batch
equals the number of items per row), the major order cannot be told from the shapes and the code calls
`predictor(Batch([context[0]]), Batch([actions[0]]))` — **a second `predict` on the first interaction**, after the
predicts of the first batch; its answer is only measured, but a learner whose `predict` is stateful has advanced.
`probeWrap L k`: the learner as the evaluator sees it through such a `SafeLearner` when the first batch has `k` rows:
the state also counts the predicts of this evaluation and remembers the first call's arguments; completing the `k`-th
predict triggers the extra call. (Recorded by C06 as `trace:extra-predict:batched-orientation-probe`; C15's `probeMade`
is the same condition on Python values.) -/
def probeWrap {σ V : Type} (L : Coba.C06.Learner σ V) (k : Nat) :
    Coba.C06.Learner (σ × Nat × Option (Option V × Option (List V))) V :=
  { hasScore := L.hasScore,
    predict := fun st ctx acts =>
      let r := L.predict st.1 ctx acts
      let first := match st.2.2 with
        | some f => f
        | none => (ctx, acts)
      let n := st.2.1 + 1
      ((if n == k then (L.predict r.1 first.1 first.2).1 else r.1, n, some first), r.2),
    score := fun st ctx acts a => let r := L.score st.1 ctx acts a; ((r.1, st.2), r.2),
    learn := fun st ctx a r p kw => (L.learn st.1 ctx a r p kw, st.2) }

def seqOutcomeB {σ V R τ : Type} (ls : Nat × σ) :
    Coba.C06.Outcome ((σ × τ) × List (Coba.C06.Call V) × List (Coba.C06.Row V R)) →
      Except Err (List (Coba.C06.Row V R)) × (Nat × σ)
  | .ok r => (.ok r.2.2, (ls.1, r.1.1))
  | .rejected _ => (.error .raised, ls)
  | .crashed _ => (.error .raised, ls)

structure SeqWorldX (σ V R P : Type) where
  base : SeqWorld σ V R P
  ext  : Nat → Option (SeqExt σ V)

def seqOutcomeI {σ V R : Type} (ls : Nat × σ) :
    Coba.C06.Outcome (σ × List (Coba.C06.Call V) × List (Coba.C06.Row V R) × List (Coba.C06.Row V R) ×
        List (Coba.C06.Dict V)) →
      Except Err (List (Coba.C06.Row V R)) × (Nat × σ)
  | .ok r => (.ok r.2.2.1, (ls.1, r.1))
  | .rejected _ => (.error .raised, ls)
  | .crashed _ => (.error .raised, ls)

def seqOutcomeP {σ V R : Type} (ls : Nat × σ) :
    Coba.C06.Outcome ((σ × Nat) × List (Coba.C06.Call V) × List (Coba.C06.Row V R)) →
      Except Err (List (Coba.C06.Row V R)) × (Nat × σ)
  | .ok r => (.ok r.2.2, (ls.1, r.1.1))
  | .rejected _ => (.error .raised, ls)
  | .crashed _ => (.error .raised, ls)

/-- the evaluation of an extended learner object on the interactions `rows` of environment `e` -/
def seqEvalExt {σ V R P : Type} [DecidableEq V] [Coba.C06.RewardFn R V] (w : SeqWorld σ V R P)
    (v e : Nat) (ls : Nat × σ) (seed : Nat) (rows : List (Coba.C06.Dict (Coba.C06.Fld V R))) :
    SeqExt σ V → Except Err (List (Coba.C06.Row V R)) × (Nat × σ)
  | .info L =>
    match w.batch e with
    | none => seqOutcomeI ls (Coba.C06.evaluateI (w.cfgOf v) L rows ls.2)
    | some n => seqOutcome ls (Coba.C06.evaluate (w.cfgOf v) L.toLearner (some n) rows ls.2)
  | .rowLen L len =>
    match w.batch e with
    | some n =>
      -- the first batch has `min n rows.length` rows; the probe is made iff that equals the row length of the answers
      if min n rows.length = len then
        seqOutcomeB ls (Coba.C06.evaluate (w.cfgOf v) (probeWrap L len) (some n) rows (ls.2, 0, none))
      else seqOutcome ls (Coba.C06.evaluate (w.cfgOf v) L (some n) rows ls.2)
    | none => seqOutcome ls (Coba.C06.evaluate (w.cfgOf v) L none rows ls.2)
  | .pmf P dflt =>
    seqOutcomeP ls (Coba.C06.evaluate (w.cfgOf v) (Coba.C06.wrapPmf P dflt) (w.batch e) rows
      (ls.2, Coba.C05.normInt (Int.ofNat seed)))

def seqEvalX {σ V R P : Type} [DecidableEq V] [Coba.C06.RewardFn R V] (w : SeqWorldX σ V R P)
    (v e : Nat) (ls : Nat × σ) (seed : Nat) : Except Err (List (Coba.C06.Row V R)) × (Nat × σ) :=
  match w.ext ls.1 with
  | none => seqEval w.base v e ls seed
  | some x =>
    match w.base.envRows e with
    | .error _ => (.error .raised, ls)
    | .ok rows => seqEvalExt w.base v e ls seed rows x

def seqCompsX {σ V R P : Type} [DecidableEq V] [Coba.C06.RewardFn R V] (w : SeqWorldX σ V R P) :
    Comps (Nat × σ) P (Coba.C06.Row V R) :=
  { envParams := w.base.envParams, lrnParams := w.base.lrnParams, valParams := w.base.valParams,
    chunkKey := w.base.chunkKey, init := fun l => (l, w.base.init l), valSeed := w.base.valSeed, eval := seqEvalX w }

/-! ## phase 6: the built-in evaluator `RejectionCB` as an evaluation component (over the C05 stream)

`RejectionCB(record, ope=None, cpct, cmax, cinit, seed).evaluate(env, learner)` (coba/evaluators/sequential.py:406-528):
`rng = CobaRandom(seed)` with `seed = self._seed if self._seed is not None else store["experiment_seed"]` (the `seed`
argument of `Comps.eval`), built **per evaluate**; the first 100 interactions are peeked; an empty environment yields
nothing; the first interaction must have `context, action, reward, actions, probability`, a non-empty action list, the
environment must not be batched and the learner must have `score` (otherwise a `CobaException`); the start value of the
rejection multiplier is `c = cinit or min(filter(None, first_probs) + [cmax])` where `first_probs` are the logged
propensities of the first 100 interactions followed by `(1-p)/(len(actions)-1)` of each (`ZeroDivisionError` for a
one-action interaction).  Per interaction: `on_prob = score(context, actions, action)`; when `on_prob != 0` the ratio
`log_prob/on_prob` is `insort`ed into `Q`; one `rng.random()` is drawn (C05's stream) and the interaction is accepted iff
`random <= c*(on_prob/log_prob)`; an accepted interaction is learned (`learn(context, action, reward, on_prob)`), its row
(`context, actions, action, reward, probability = on_prob` as far as recorded; an empty row is not yielded) is recorded and
`c = min(percentile(Q, cpct, sort=False), cmax)`.  Numbers are exact rationals (the harness generates dyadic values, for
which the float arithmetic of the code is exact).  Not modelled: `ope` other than `None`, `learning_info`, `time`. -/

structure RejConfig where
  record : List String
  cpct : Rat
  cmax : Rat
  cinit : Option Rat

/-- `bisect.insort` (= `insort_right`): behind every element `≤ x` -/
def insortR (x : Rat) : List Rat → List Rat
  | [] => [x]
  | y :: ys => if x < y then x :: y :: ys else y :: insortR x ys

/-- `percentile(values, p, sort=False)` of coba/statistics.py (no weights); `none` = the call raises
(`IndexError` on `[]`, `AssertionError` for `p` outside `[0,1]`) -/
def rejPercentile (q : List Rat) (p : Rat) : Option Rat :=
  match q with
  | [x] => some x
  | _ =>
    if p < 0 ∨ 1 < p then none
    else if p = 0 then q.head?
    else if p = 1 then q.getLast?
    else
      let i : Rat := p * (((q.length - 1 : Nat) : Int) : Rat)
      let I : Nat := i.floor.toNat
      if q.length = 0 then none
      else if i = ((I : Int) : Rat) then q[I]?
      else match q[I]?, q[I+1]? with
        | some a, some b => some ((1 - (i - ((I : Int) : Rat))) * a + (i - ((I : Int) : Rat)) * b)
        | _, _ => none

/-- `first_probs` of the peeked interactions: the logged propensities and `(1-p)/(len(actions)-1)`; `none` = raises -/
def rejFirstProbs {V R : Type} : List (Coba.C06.Dict (Coba.C06.Fld V R)) → Option (List Rat × List Rat)
  | [] => some ([], [])
  | d :: ds =>
    match Coba.C06.Dict.get? d "probability", Coba.C06.Dict.get? d "actions", rejFirstProbs ds with
    | some (.num p), some (.acts as), some (ps, qs) =>
      if as.length = 1 then none else some (p :: ps, (1 - p) / ((((as.length : Nat) : Int) - 1 : Int) : Rat) :: qs)
    | _, _, _ => none

/-- `c = self._cinit or min(list(filter(None, first_probs)) + [self._cmax])` -/
def rejStart {V R : Type} (rc : RejConfig) (peek : List (Coba.C06.Dict (Coba.C06.Fld V R))) : Option Rat :=
  match rejFirstProbs peek with
  | none => none
  | some (ps, qs) =>
    match rc.cinit with
    | some c0 => if c0 ≠ 0 then some c0 else some (((ps ++ qs).filter (· ≠ 0)).foldl min rc.cmax)
    | none => some (((ps ++ qs).filter (· ≠ 0)).foldl min rc.cmax)

def rejKeys : List String := ["context", "action", "reward", "actions", "probability"]
def rejPeek : Nat := 100

/-- the recorded row of an accepted interaction (`out`), keys in the order the code inserts them -/
def rejRow {V R : Type} (rc : RejConfig) (ctx : Option V) (acts : Option (List V)) (a : Option V) (r : Option Rat)
    (onp : Rat) : Coba.C06.Row V R :=
  (if rc.record.contains "context" then [("context", Coba.C06.Cell.val ctx)] else []) ++
  (if rc.record.contains "actions" then [("actions", Coba.C06.Cell.acts acts)] else []) ++
  (if rc.record.contains "action" then [("action", Coba.C06.Cell.val a)] else []) ++
  (if rc.record.contains "reward" then [("reward", Coba.C06.Cell.num r)] else []) ++
  (if rc.record.contains "probability" then [("probability", Coba.C06.Cell.num (some onp))] else [])

/-- the five `pop`s of a loop pass; `none` = one of them raises `KeyError` / the field has a shape the code cannot use -/
def rejFields {V R : Type} (d : Coba.C06.Dict (Coba.C06.Fld V R)) :
    Option (Option V × Option (List V) × Option V × Option Rat × Option Rat) :=
  match Coba.C06.getVal "context" (Coba.C06.Dict.get? d "context"), Coba.C06.getActs (Coba.C06.Dict.get? d "actions"),
        Coba.C06.getVal "action" (Coba.C06.Dict.get? d "action"), Coba.C06.getNum "reward" (Coba.C06.Dict.get? d "reward"),
        Coba.C06.getNum "probability" (Coba.C06.Dict.get? d "probability") with
  | .ok ctx, .ok acts, .ok a, .ok r, .ok p => some (ctx, acts, a, r, p)
  | _, _, _, _, _ => none

/-- the loop of `RejectionCB.evaluate`: learner state `s`, generator state `g`, sorted ratios `q`, multiplier `c`, rows so
far (reversed).  Returns the rows or "raised" and the state the learner object is left in (also when it raises). -/
def rejLoop {σ V R : Type} (rc : RejConfig) (L : Coba.C06.Learner σ V) :
    List (Coba.C06.Dict (Coba.C06.Fld V R)) → σ → Nat → List Rat → Rat → List (Coba.C06.Row V R) →
      Except Err (List (Coba.C06.Row V R)) × σ
  | [], s, _, _, _, acc => (.ok acc.reverse, s)
  | d :: ds, s, g, q, c, acc =>
    match rejFields d with
    | none => (.error .raised, s)
    | some (ctx, acts, a, r, p?) =>
      let sc := L.score s ctx acts a
      match p? with
      | none => (.error .raised, sc.1)                       -- `log_prob/on_prob` / `on_prob/log_prob` on None
      | some p =>
        let q' := if sc.2 = 0 then q else insortR (p / sc.2) q
        if p = 0 then (.error .raised, sc.1)                 -- ZeroDivisionError
        else
          let rnd := Coba.C05.random g 0 1
          if rnd.2 ≤ c * (sc.2 / p) then
            let s2 := L.learn sc.1 ctx a r (some sc.2) []
            if rc.record.contains "reward" && r.isNone then (.error .raised, s2)      -- mean([None])
            else
              match rejPercentile q' rc.cpct with
              | none => (.error .raised, s2)
              | some pc =>
                let row : Coba.C06.Row V R := rejRow rc ctx acts a r sc.2
                rejLoop rc L ds s2 rnd.1 q' (min pc rc.cmax) (if row.isEmpty then acc else row :: acc)
          else rejLoop rc L ds sc.1 rnd.1 q' c acc

def rejDiscrete {V R : Type} (first : Coba.C06.Dict (Coba.C06.Fld V R)) : Bool :=
  match Coba.C06.Dict.get? first "actions" with
  | some (.acts (_ :: _)) => true
  | _ => false

/-- `RejectionCB.evaluate` on the interactions `env` of an environment (`bs = some n`: batched), learner in state `s`,
generator freshly seeded to state `g` -/
def rejEvaluate {σ V R : Type} (rc : RejConfig) (L : Coba.C06.Learner σ V) (bs : Option Nat)
    (env : List (Coba.C06.Dict (Coba.C06.Fld V R))) (s : σ) (g : Nat) : Except Err (List (Coba.C06.Row V R)) × σ :=
  match env with
  | [] => (.ok [], s)
  | first :: _ =>
    if !(rejKeys.all (fun k => Coba.C06.Dict.has first k)) || !rejDiscrete first || bs.isSome || !L.hasScore then
      (.error .raised, s)
    else
      match rejStart rc (env.take rejPeek) with
      | none => (.error .raised, s)
      | some c => rejLoop rc L env s g [] c []

/-- a `SeqWorldX` in which an evaluator object may be a `RejectionCB` (`rej v = some rc`) instead of a `SequentialCB` -/
structure SeqWorldR (σ V R P : Type) where
  x : SeqWorldX σ V R P
  rej : Nat → Option RejConfig

def seqEvalR {σ V R P : Type} [DecidableEq V] [Coba.C06.RewardFn R V] (w : SeqWorldR σ V R P)
    (v e : Nat) (ls : Nat × σ) (seed : Nat) : Except Err (List (Coba.C06.Row V R)) × (Nat × σ) :=
  match w.rej v with
  | none => seqEvalX w.x v e ls seed
  | some rc =>
    match w.x.base.envRows e with
    | .error _ => (.error .raised, ls)
    | .ok rows =>
      let r := rejEvaluate rc (w.x.base.learner ls.1) (w.x.base.batch e) rows ls.2 (Coba.C05.normInt (Int.ofNat seed))
      (r.1, (ls.1, r.2))

def seqCompsR {σ V R P : Type} [DecidableEq V] [Coba.C06.RewardFn R V] (w : SeqWorldR σ V R P) :
    Comps (Nat × σ) P (Coba.C06.Row V R) :=
  { envParams := w.x.base.envParams, lrnParams := w.x.base.lrnParams, valParams := w.x.base.valParams,
    chunkKey := w.x.base.chunkKey, init := fun l => (l, w.x.base.init l), valSeed := w.x.base.valSeed, eval := seqEvalR w }

end Coba.C01
