/-
C02 — Interrupted experiments resume without losing or repeating work.

Model of the resume protocol of `Experiment.run(result_file)`.  Import-free (core Lean only).

  coba/pipes/sinks.py    DiskSink(batch=1)      `serialize`   one line per record, `line + "\n"`
  coba/pipes/sources.py  DiskSource             `splitNL`, `lines`   (readline, rstrip, strip, filter(None,…))
  coba/results/core.py   TransactionDecode      `decodeLines`, `decodeAll`  (json.loads per line, version first)
                         TransactionResult      `bodies`       (per-id folding of the records)
  coba/experiments/process.py MakeTasks         `mkAux`, `makeTasks`, `done`
  coba/experiments/core.py run(), restore branch `repair`, `restore`, `preamble`, `finish`, `resume`

Bytes are `Nat`s.  A record text is abstract at the level of the protocol (`Codec`), but the
JSON-array property the protocol relies on — *a proper prefix of a record text never decodes* —
is proved for the bracket-depth scanner `balanced` below, which is what the concrete codec of the
driver (`tableCodec`) uses, and which the harness compares with `json.loads` on every prefix of
every real record.

`Flags` selects between the code as it is at the pinned commit (`Flags.cur`) and the code with
the proposed repairs (`Flags.fixed`, fixes/C02-*.diff).  The harness detects behaviourally which
repairs the tree under test contains and asks the driver for that variant.
-/
namespace Coba.C02

abbrev Bytes := List Nat

/-- `"\n"` -/
def NL : Nat := 10

/-- a record text contains no raw newline (JSON escapes control characters) -/
def NoNL (r : Bytes) : Prop := NL ∉ r

instance (r : Bytes) : Decidable (NoNL r) := by unfold NoNL; infer_instance

/-! ### DiskSink / DiskSource -/

/-- DiskSink: every record is written as `line + "\n"` -/
def serialize : List Bytes → Bytes
  | [] => []
  | r :: rs => r ++ NL :: serialize rs

/-- split at newlines: (complete lines, unterminated tail) -/
def splitNL : Bytes → List Bytes × Bytes
  | [] => ([], [])
  | b :: bs =>
    let p := splitNL bs
    if b = NL then ([] :: p.1, p.2)
    else match p.1 with
      | [] => ([], b :: p.2)
      | l :: ls => ((b :: l) :: ls, p.2)

/-- what TransactionDecode sees: every line `readline` returns (the unterminated tail is the
last one), stripped, empty ones dropped -/
def lines (file : Bytes) : List Bytes :=
  ((splitNL file).1 ++ [(splitNL file).2]).filter (fun l => !l.isEmpty)

/-! ### the JSON-array scanner (bracket depth outside strings) -/

structure St where
  depth : Nat
  inStr : Bool
  esc : Bool
  deriving DecidableEq, Repr

/-- 34 `"`, 92 `\`, 91 `[`, 93 `]`, 123 `{`, 125 `}` -/
def step (s : St) (b : Nat) : St :=
  if s.inStr then
    if s.esc then { s with esc := false }
    else if b = 92 then { s with esc := true }
    else if b = 34 then { s with inStr := false }
    else s
  else if b = 34 then { s with inStr := true }
  else if b = 91 ∨ b = 123 then { s with depth := s.depth + 1 }
  else if b = 93 ∨ b = 125 then { s with depth := s.depth - 1 }
  else s

/-- the bracket opened before `s` is closed by the LAST byte of the text and not earlier -/
def closes : St → Bytes → Bool
  | _, [] => false
  | s, b :: bs => if (step s b).depth = 0 then bs.isEmpty else closes (step s b) bs

/-- `[` … matching `]` and nothing after it -/
def balanced : Bytes → Bool
  | [] => false
  | b :: bs => b = 91 && closes ⟨1, false, false⟩ bs

/-! ### records -/

inductive Key where
  | ver | exp
  | env (i : Nat) | lrn (i : Nat) | val (i : Nat)
  | int (e l v : Nat)
  deriving DecidableEq, Repr

/-- a transaction record: its id, the number of result rows it carries (only meaningful for
`I` records: `len(_packed[...])`, 0 for `{"_packed":{}}`) and an identifier of its payload -/
structure Rec where
  key : Key
  rows : Nat
  body : Nat
  deriving DecidableEq, Repr

structure Codec where
  enc : Rec → Bytes
  dec : Bytes → Option Rec

/-- json.loads on every line; any failure raises -/
def decodeLines (c : Codec) : List Bytes → Option (List Rec)
  | [] => some []
  | l :: ls =>
    match c.dec l, decodeLines c ls with
    | some r, some rs => some (r :: rs)
    | _, _ => none

/-- TransactionDecode + TransactionResult on a file: `none` = raises (undecodable line, or no
line at all: `next()` on the empty iterator, or a first line that is not the version line) -/
def decodeAll (c : Codec) (file : Bytes) : Option (List Rec) :=
  match decodeLines c (lines file) with
  | some (r :: rs) => if r.key = Key.ver then some (r :: rs) else none
  | _ => none

/-- TransactionResult folds the records per id (`update` for E/L/V, last one wins for I and
the experiment line): the Result is a function of the records carried by each id, in order -/
def bodies (L : List Rec) (k : Key) : List Rec := L.filter (fun r => r.key = k)

/-! ### MakeTasks -/

inductive Task where
  | penv (i : Nat) | plrn (i : Nat) | pval (i : Nat)
  | eval (e l v : Nat)
  deriving DecidableEq, Repr

def Task.key : Task → Key
  | .penv i => .env i
  | .plrn i => .lrn i
  | .pval i => .val i
  | .eval e l v => .int e l v

def Task.isEval : Task → Bool
  | .eval .. => true
  | _ => false

/-- `eid in restored_envs` / … / `(eid,lid,vid) in restored_outs`.  The restored sets are read
from the *tables* of the restored Result, so an `I` record without rows is invisible unless `fx`
(fixes/C02-finished-triples.diff: `restored_outs |= self._restored.finished`). -/
def done (fx : Bool) (K : List Rec) (t : Task) : Bool :=
  K.any (fun r => decide (r.key = t.key) && (fx || !t.isEval || decide (0 < r.rows)))

/-- `if obj not in d: d[obj] = len(d)` -/
def ins (E : List Nat) (x : Nat) : List Nat := if E.contains x then E else E ++ [x]

/-- the loop of `MakeTasks.read`: `E L V` are the dicts `envs lrns vals` (objects in order of
first sight; the id of an object is its position) -/
def mkAux (fx : Bool) (K : List Rec) : List (Nat × Nat × Nat) → List Nat → List Nat → List Nat → List Task
  | [], _, _, _ => []
  | (e, l, v) :: ts, E, L, V =>
    let E' := ins E e
    let L' := ins L l
    let V' := ins V v
    let t1 := if !E.contains e && !done fx K (.penv E.length) then [Task.penv E.length] else []
    let t2 := if !L.contains l && !done fx K (.plrn L.length) then [Task.plrn L.length] else []
    let t3 := if !V.contains v && !done fx K (.pval V.length) then [Task.pval V.length] else []
    let t := Task.eval (E'.idxOf e) (L'.idxOf l) (V'.idxOf v)
    let t4 := if !done fx K t then [t] else []
    t1 ++ (t2 ++ (t3 ++ (t4 ++ mkAux fx K ts E' L' V')))

def makeTasks (fx : Bool) (K : List Rec) (triples : List (Nat × Nat × Nat)) : List Task :=
  mkAux fx K triples [] [] []

/-! ### Experiment.run, restore branch -/

structure Flags where
  /-- fixes/C02-torn-tail.diff: drop/terminate an unterminated final line; an empty file is a fresh start -/
  repairPlain : Bool
  /-- fixes/C02-experiment-preamble.diff: write the experiment line when the restored log lacks it -/
  preambleFix : Bool
  /-- fixes/C02-gz-torn-member.diff: drop an incomplete trailing gzip member -/
  repairGz : Bool
  /-- fixes/C02-finished-triples.diff: the restored Result also names the recorded evaluations that have no rows -/
  finishedFix : Bool
  deriving DecidableEq, Repr

def Flags.cur : Flags := ⟨false, false, false, false⟩
/-- the first three repairs (d8b22dd, be6d326, a0e1f54) without 6c776fe; /repo has all four: `Flags.fixed` -/
def Flags.committed : Flags := ⟨true, true, true, false⟩
def Flags.fixed : Flags := ⟨true, true, true, true⟩

/-- `_drop_torn_tail` for plain files:
`tail = data[data.rfind(b'\n')+1:]`; nothing to do for an empty tail; a tail that decodes gets
its newline; anything else is cut off -/
def repair (c : Codec) (file : Bytes) : Bytes :=
  let p := splitNL file
  if p.2.isEmpty then file
  else if (c.dec p.2).isSome then file ++ [NL]
  else serialize p.1

structure Restore where
  /-- the file after the repair step: what the new records are appended to -/
  file1 : Bytes
  /-- the restored records; `[]` = nothing restored (fresh start) -/
  K : List Rec
  deriving Repr

/-- `file = none`: the result file does not exist.  Result `none`: `Result.from_file` raises. -/
def restore (fl : Flags) (c : Codec) : Option Bytes → Option Restore
  | none => some ⟨[], []⟩
  | some file =>
    let file1 := if fl.repairPlain then repair c file else file
    if fl.repairPlain && file1.isEmpty then some ⟨[], []⟩
    else match decodeAll c file1 with
      | some K => some ⟨file1, K⟩
      | none => none

/-- what a `.gz` result file decompresses to when it consists of `j` complete members followed
(`torn`) by an incomplete one: reading a truncated member raises (zlib is trusted for this);
the repaired code truncates the file to the complete members first -/
def gzView (fl : Flags) (texts : List Bytes) (j : Nat) (torn : Bool) : Option Bytes :=
  if torn && !fl.repairGz then none else some (serialize (texts.take j))

/-! ### `.gz` result files at byte level

`DiskSink(batch=1)` reopens the file for every record, so every record is its own gzip member (and a run that ends leaves one
member with an empty payload).  A member is abstract (zlib is not modelled); what the protocol needs from zlib is stated as
the three laws of `MLaws` about a scanner `scan` that recognises ONE complete member at the front of a byte string. -/

structure Member where
  /-- what the member decompresses to -/
  payload : Bytes
  /-- the compressed bytes in the file -/
  bytes : Bytes
  deriving DecidableEq, Repr

def flatM : List Member → Bytes
  | [] => []
  | m :: ms => m.bytes ++ flatM ms

def payloadsM : List Member → Bytes
  | [] => []
  | m :: ms => m.payload ++ payloadsM ms

/-- `zlib.decompressobj(31)` fed from the start of a member: `some (payload, length)` when a complete member is at the
front (`eof`; the rest is `unused_data`), `none` when the data ends before the member does or is no member -/
abbrev MScan := Bytes → Option (Bytes × Nat)

structure MLaws (scan : MScan) (ms : List Member) : Prop where
  /-- a complete member is recognised whatever follows it -/
  complete : ∀ m ∈ ms, ∀ rest, scan (m.bytes ++ rest) = some (m.payload, m.bytes.length)
  /-- a truncated member is never taken for a complete one -/
  torn : ∀ m ∈ ms, ∀ q, q <+: m.bytes → q ≠ m.bytes → scan q = none
  ne : ∀ m ∈ ms, m.bytes ≠ []

/-- the member scan of `_drop_torn_tail`: `good` = offset after the last complete member (the 4096-byte chunking of the
real loop is `chunkLoop` below) -/
def scanLoop (scan : MScan) : Nat → Bytes → Nat → Nat
  | 0, _, pos => pos
  | f + 1, data, pos =>
    if data.isEmpty then pos
    else match scan data with
      | some (_, n) => if n = 0 then pos else scanLoop scan f (data.drop n) (pos + n)
      | none => pos

def memberScan (scan : MScan) (data : Bytes) : Nat := scanLoop scan (data.length + 1) data 0

/-- `f.truncate(good)` -/
def gzRepair (scan : MScan) (data : Bytes) : Bytes := data.take (memberScan scan data)

/-- `gzip.open(path).read()`: the payloads of all members; `none` = raises (EOFError / BadGzipFile) when the data does not
end with a complete member -/
def gunzipLoop (scan : MScan) : Nat → Bytes → Option Bytes
  | 0, data => if data.isEmpty then some [] else none
  | f + 1, data =>
    if data.isEmpty then some []
    else match scan data with
      | some (p, n) => if n = 0 then none else (gunzipLoop scan f (data.drop n)).map (fun rest => p ++ rest)
      | none => none

def gunzip (scan : MScan) (data : Bytes) : Option Bytes := gunzipLoop scan (data.length + 1) data

/-- the text `Result.from_file` sees for a `.gz` file -/
def gzText (fl : Flags) (scan : MScan) (data : Bytes) : Option Bytes :=
  gunzip scan (if fl.repairGz then gzRepair scan data else data)

/-- the members of a file hold the log `L`: one member per record line, members with an empty payload anywhere -/
inductive PayloadLog (c : Codec) : List Member → List Rec → Prop
  | nil : PayloadLog c [] []
  | line {m : Member} {ms : List Member} {r : Rec} {L : List Rec} :
      m.payload = c.enc r ++ [NL] → PayloadLog c ms L → PayloadLog c (m :: ms) (r :: L)
  | empty {m : Member} {ms : List Member} {L : List Rec} :
      m.payload = [] → PayloadLog c ms L → PayloadLog c (m :: ms) L

/-- the concrete scanner of the driver: a table of the members that occur in the real files -/
def tableScan (tbl : List Member) (data : Bytes) : Option (Bytes × Nat) :=
  (tbl.find? (fun m => m.bytes.isPrefixOf data)).map (fun m => (m.payload, m.bytes.length))

/-- run-time checkable condition under which `tableScan` satisfies `MLaws`: no member empty, none a prefix of another -/
def memberTableOK (tbl : List Member) : Bool :=
  tbl.all (fun m => !m.bytes.isEmpty) &&
  tbl.all (fun a => tbl.all (fun b => decide (a = b) || !(a.bytes.isPrefixOf b.bytes)))

/-! ### which files are gzip files

DiskSink (`__enter__`), DiskSource (`read`) and `_drop_torn_tail` each decide from the file NAME whether the file is gzip.
The three source expressions are re-extracted on every run into `Generated/C02GzPredicates.lean`. -/

inductive GzPred where
  /-- `"lit" in name` -/
  | contains (lit : Bytes)
  /-- `name.endswith("lit")` -/
  | endsWith (lit : Bytes)
  deriving DecidableEq, Repr

def isInfixB (lit : Bytes) : Bytes → Bool
  | [] => lit.isEmpty
  | c :: cs => lit.isPrefixOf (c :: cs) || isInfixB lit cs

def GzPred.eval : GzPred → Bytes → Bool
  | .contains lit, name => isInfixB lit name
  | .endsWith lit, name => lit.reverse.isPrefixOf name.reverse

/-- the name shapes the harness generates (UTF-8): r.log, r.log.gz, r.gz.bak, r.gzip, a.gz.d/r.log, "r s é.log",
"r s é.log.gz", out.d/r.txt, r.gz -/
def nameShapes : List Bytes :=
  [[114,46,108,111,103], [114,46,108,111,103,46,103,122], [114,46,103,122,46,98,97,107], [114,46,103,122,105,112],
   [97,46,103,122,46,100,47,114,46,108,111,103], [114,32,115,32,195,169,46,108,111,103],
   [114,32,115,32,195,169,46,108,111,103,46,103,122], [111,117,116,46,100,47,114,46,116,120,116], [114,46,103,122]]

/-- records written before the task outputs: version + experiment on a fresh start, nothing
when restoring (repaired: the experiment line when the restored log does not have one) -/
def preamble (fl : Flags) (ver exp : Rec) (K : List Rec) : List Rec :=
  if K.isEmpty then [ver, exp]
  else if fl.preambleFix && !K.any (fun r => decide (r.key = Key.exp)) then [exp]
  else []

structure Outcome where
  restored : Restore
  tasks : List Task
  appended : List Rec
  file : Bytes
  /-- decoded final file (`Pipes.join(source,decode,result).read()`); `none` = raises -/
  final : Option (List Rec)
  deriving Repr

/-- DiskSink appends `pre ++ app` (one line each) to the file; then the file is read back -/
def finish (c : Codec) (R : Restore) (tasks : List Task) (pre app : List Rec) : Outcome :=
  let file' := R.file1 ++ serialize ((pre ++ app).map c.enc)
  { restored := R, tasks := tasks, appended := pre ++ app, file := file', final := decodeAll c file' }

/-- an experiment as the resume protocol sees it -/
structure World where
  c : Codec
  ver : Rec
  exp : Rec
  /-- the record a task produces (`none`: the task raises and only logs) -/
  out : Task → Option Rec
  /-- environment/learner/evaluator objects of the triples, in the order given -/
  triples : List (Nat × Nat × Nat)

/-- everything an uninterrupted run writes -/
def World.universe (w : World) : List Rec :=
  w.ver :: w.exp :: (makeTasks false [] w.triples).filterMap w.out

/-- the run in task order (single process); `none` = restoring raises -/
def resume (fl : Flags) (w : World) (file : Option Bytes) : Option Outcome :=
  match restore fl w.c file with
  | none => none
  | some R =>
    let tasks := makeTasks fl.finishedFix R.K w.triples
    some (finish w.c R tasks (preamble fl w.ver w.exp R.K) (tasks.filterMap w.out))

/-! ### hypotheses of the theorems -/

/-- what the protocol needs from the JSON text of the records in `U`: decoding inverts encoding,
no raw newline, not empty, and *no proper prefix of a record text decodes* (for JSON arrays this
is the bracket-depth argument, `balanced_prefix_free`) -/
structure Codec.Lawful (c : Codec) (U : List Rec) : Prop where
  dec_enc : ∀ r ∈ U, c.dec (c.enc r) = some r
  noNL : ∀ r ∈ U, NoNL (c.enc r)
  ne : ∀ r ∈ U, c.enc r ≠ []
  torn : ∀ r ∈ U, ∀ p, p <+: c.enc r → p ≠ c.enc r → c.dec p = none

structure World.OK (w : World) : Prop where
  ver_key : w.ver.key = Key.ver
  exp_key : w.exp.key = Key.exp
  /-- a task writes the record carrying its own id -/
  out_key : ∀ t r, w.out t = some r → r.key = t.key
  codec : w.c.Lawful w.universe
  /-- the experiment lists every (environment, learner, evaluator) triple once -/
  triples_nodup : w.triples.Nodup

/-! ### spec-side predicates -/

/-- the file holding the log `L` -/
def logFile (w : World) (L : List Rec) : Bytes := serialize (L.map w.c.enc)

/-- what a run that is killed after `k` bytes of the log `L` reached the disk leaves behind -/
def cut (w : World) (L : List Rec) (k : Nat) : Bytes := (logFile w L).take k

def keysNodup (L : List Rec) : Bool := (L.map (·.key)).Nodup

/-- a log some (possibly repeatedly interrupted and resumed) run of `w` can have written -/
def ValidLog (w : World) (L : List Rec) : Prop :=
  (L.map (·.key)).Nodup ∧ (∀ r ∈ L, r ∈ w.universe) ∧ (∀ r, L.head? = some r → r = w.ver)

/-- `F` is a log one completed resumption from the cut `k` of the log `L` can return (any arrival order of the task outputs) -/
def ResumeStep (fl : Flags) (w : World) (L : List Rec) (k : Nat) (F : List Rec) : Prop :=
  ∃ R app, restore fl w.c (some (cut w L k)) = some R ∧
    app.Perm ((makeTasks fl.finishedFix R.K w.triples).filterMap w.out) ∧
    (finish w.c R (makeTasks fl.finishedFix R.K w.triples) (preamble fl w.ver w.exp R.K) app).final = some F

/-- interruptions in a row: the run on `L` is killed after `k₁` bytes and resumed; the resumed run (which would have written
`M`) is itself killed after `k₂` bytes of `M` and resumed; … ; the last resumption completes with the log `F` -/
inductive Chain (fl : Flags) (w : World) : List Nat → List Rec → List Rec → Prop
  | nil (L : List Rec) : Chain fl w [] L L
  | cons {k : Nat} {ks : List Nat} {L M F : List Rec} :
      ResumeStep fl w L k M → Chain fl w ks M F → Chain fl w (k :: ks) L F

/-- the number of leading records of `L` whose text is completely present in `data` (a record counts as soon as its last
byte is there: the repair step supplies a missing newline): the maximal prefix of complete records of a cut file -/
def nCompleteB (c : Codec) : List Rec → Bytes → Nat
  | [], _ => 0
  | r :: rs, data =>
    if (c.enc r).isPrefixOf data then 1 + nCompleteB c rs (data.drop ((c.enc r).length + 1)) else 0

/-- one interruption at FILE level: the file `f` is cut after `k` bytes, the experiment is run on it again and completes
(any arrival order), leaving the file `f'` -/
def ByteStep (fl : Flags) (w : World) (f : Bytes) (k : Nat) (f' : Bytes) : Prop :=
  ∃ R app, restore fl w.c (some (f.take k)) = some R ∧
    app.Perm ((makeTasks fl.finishedFix R.K w.triples).filterMap w.out) ∧
    (finish w.c R (makeTasks fl.finishedFix R.K w.triples) (preamble fl w.ver w.exp R.K) app).file = f'

/-- interruptions in a row at FILE level: every run is killed after `kᵢ` bytes of the file it would have left -/
inductive ByteChain (fl : Flags) (w : World) : List Nat → Bytes → Bytes → Prop
  | nil (f : Bytes) : ByteChain fl w [] f f
  | cons {k : Nat} {ks : List Nat} {f g h : Bytes} :
      ByteStep fl w f k g → ByteChain fl w ks g h → ByteChain fl w (k :: ks) f h

/-! ### entry point: `Experiment.run(result_file)` and `Result.from_file(result_file)` -/

structure PathInfo where
  /-- the path string handed to `run` (relative or absolute) -/
  name : Bytes
  /-- the directory of the path exists -/
  dirExists : Bool
  /-- the bytes of the file when it exists -/
  file : Option Bytes
  deriving Repr

/-- what the restore branch gets to see: `none` = `run` raises (missing directory: the sink can not create the file and the
final read finds none; unreadable gzip), `some none` = no file, `some (some text)` = the (decompressed) text -/
def entryText (fl : Flags) (isGz : GzPred) (scan : MScan) (p : PathInfo) : Option (Option Bytes) :=
  if !p.dirExists then none
  else match p.file with
    | none => some none
    | some data => if isGz.eval p.name then (gzText fl scan data).map some else some (some data)

def runEntry (fl : Flags) (w : World) (isGz : GzPred) (scan : MScan) (p : PathInfo) : Option Outcome :=
  match entryText fl isGz scan p with
  | none => none
  | some f => resume fl w f

/-- `Result.from_file(path)`: DiskSource (gzip by name) + TransactionDecode + TransactionResult; `none` = raises -/
def fromFile (c : Codec) (isGz : GzPred) (scan : MScan) (name data : Bytes) : Option (List Rec) :=
  if isGz.eval name then (gunzip scan data).bind (decodeAll c) else decodeAll c data

/-- every `I` record of the experiment carries at least one row -/
def NonEmptyI (w : World) : Prop :=
  ∀ r ∈ w.universe, ∀ e l v, r.key = Key.int e l v → 0 < r.rows

/-! ### Phase 4: the member scan of `_drop_torn_tail` as it is written (chunked reads, `unused_data` arithmetic)

```
good,member = 0,zlib.decompressobj(31)
for chunk in iter(lambda: f.read(4096), b''):
    try: member.decompress(chunk)
    except zlib.error: break
    if member.eof:
        good = f.tell()-len(member.unused_data)
        f.seek(good)
        member = zlib.decompressobj(31)
f.truncate(good)
```
A `decompressobj` is abstract: what it reports is a function of ALL bytes fed to it since it was created (zlib's streaming
contract, trusted): `eof` after the first `n` of them (the rest is `unused_data`), `more` input needed, or `zlib.error`. -/

inductive Feed where
  /-- `member.eof`: the member is complete after `n` of the bytes fed; `payload` is what it decompressed to -/
  | eof (payload : Bytes) (n : Nat)
  /-- no error, not at the end of the member yet -/
  | more
  /-- `zlib.error` -/
  | error
  deriving DecidableEq, Repr

abbrev ZScan := Bytes → Feed

/-- the one-shot scanner of the abstract member split that belongs to a streaming decompressor -/
def toMScan (z : ZScan) : MScan := fun b =>
  match z b with
  | .eof p n => some (p, n)
  | _ => none

/-- the loop; state = (`good`, file position `pos`); the decompressor was created at offset `good` and has been fed
`data[good:pos]`.  The guard on `good'` can not fail for a decompressor that satisfies `ZLaws` (case 5 of `chunkLoop_eq`);
it is there to make the definition total for arbitrary `z`. -/
def chunkLoop (z : ZScan) (c : Nat) (data : Bytes) (good pos : Nat) : Nat :=
  let chunk := (data.drop pos).take c                      -- f.read(c)
  if hch : chunk.isEmpty then good                         -- sentinel b'' ; then f.truncate(good)
  else
    let tell := pos + chunk.length                         -- f.tell() after the read
    let fed := (data.drop good).take (tell - good)         -- everything `member` has been fed
    match z fed with
    | .error => good                                       -- except zlib.error: break
    | .more => chunkLoop z c data good tell
    | .eof _ n =>
      let unused := fed.drop n                             -- member.unused_data
      let good' := tell - unused.length                    -- good = f.tell()-len(member.unused_data)
      if good < good' ∧ good' ≤ tell then chunkLoop z c data good' good'   -- f.seek(good); new decompressobj
      else good
termination_by (data.length - good, data.length - pos)
decreasing_by
  · have h1 : chunk.length ≤ data.length - pos := by
      show ((data.drop pos).take c).length ≤ _
      rw [List.length_take, List.length_drop]; exact Nat.min_le_right _ _
    have h2 : 0 < chunk.length := List.length_pos_iff.mpr (fun e => hch (by rw [e]; rfl))
    apply Prod.Lex.right
    show data.length - (pos + chunk.length) < data.length - pos
    omega
  · rename_i hg
    have h1 : chunk.length ≤ data.length - pos := by
      show ((data.drop pos).take c).length ≤ _
      rw [List.length_take, List.length_drop]; exact Nat.min_le_right _ _
    have h2 : 0 < chunk.length := List.length_pos_iff.mpr (fun e => hch (by rw [e]; rfl))
    apply Prod.Lex.left
    show data.length - good' < data.length - good
    have : tell = pos + chunk.length := rfl
    omega

/-- `_drop_torn_tail`, gz branch, with read size `c`: the size the file is truncated to -/
def chunkScan (z : ZScan) (c : Nat) (data : Bytes) : Nat := chunkLoop z c data 0 0

/-- what the loop needs from zlib: once a member is complete after `n` bytes, it stays so whatever follows, `n` is positive
and within what was fed, and before the `n`-th byte the decompressor asks for more (no error, no early end) -/
structure ZLaws (z : ZScan) : Prop where
  eof_pos : ∀ b p n, z b = .eof p n → 0 < n ∧ n ≤ b.length
  eof_ext : ∀ b p n, z b = .eof p n → ∀ rest, z (b.take n ++ rest) = .eof p n
  eof_more : ∀ b p n, z b = .eof p n → ∀ k, k < n → z (b.take k) = .more

/-- the concrete streaming decompressor of the driver: complete table member at the front → `eof`; a proper prefix of a
table member → `more`; anything else → `error` -/
def tableZ (tbl : List Member) : ZScan := fun data =>
  match tableScan tbl data with
  | some (p, n) => .eof p n
  | none => if tbl.any (fun m => data.isPrefixOf m.bytes) then .more else .error

/-! ### Phase 4: the shape test of `Experiment.run` against a restored log

```
n_given_lrns = len(set([l for _,l,_ in self._triples])); n_given_envs = len(set([e for e,_,_ in self._triples]))
lrn_mismatch = restored and n_given_lrns != restored.experiment.get('n_learners',n_given_lrns)
env_mismatch = restored and n_given_envs != restored.experiment.get('n_environments',n_given_envs)
if lrn_mismatch or env_mismatch: raise CobaException("The experiment does not match the given logs")
```
The exception is raised inside the `try` of `run`: it is logged, nothing is evaluated or written, and the file is read back. -/

/-- `len(set(xs))` -/
def nDistinct : List Nat → Nat
  | [] => 0
  | x :: xs => if xs.contains x then nDistinct xs else nDistinct xs + 1

/-- (`n_learners`, `n_environments`) of an experiment -/
def givenShape (triples : List (Nat × Nat × Nat)) : Nat × Nat :=
  (nDistinct (triples.map (fun t => t.2.1)), nDistinct (triples.map (fun t => t.1)))

/-- `restored.experiment`: the experiment line that counts is the last one (`exp_dict = trx[1]`); `shapeOf` reads
(`n_learners`, `n_environments`) from its text, each `none` when the key is missing (`.get(key, given)`) -/
def restoredShape (shapeOf : Rec → Option Nat × Option Nat) (K : List Rec) : Option Nat × Option Nat :=
  match (K.filter (fun r => decide (r.key = Key.exp))).getLast? with
  | some r => shapeOf r
  | none => (none, none)

/-- `lrn_mismatch or env_mismatch`; nothing restored (`restored` is None) never mismatches -/
def shapeMismatch (shapeOf : Rec → Option Nat × Option Nat) (given : Nat × Nat) (K : List Rec) : Bool :=
  !K.isEmpty &&
    ((match (restoredShape shapeOf K).1 with | some n => decide (n ≠ given.1) | none => false) ||
     (match (restoredShape shapeOf K).2 with | some n => decide (n ≠ given.2) | none => false))

/-- `run` with the shape test: on a mismatch the pipeline is not run (no task, no record; the exception is logged) and the
file is read back as it is after the repair step -/
def resumeChecked (fl : Flags) (w : World) (shapeOf : Rec → Option Nat × Option Nat) (given : Nat × Nat)
    (file : Option Bytes) : Option (Bool × Outcome) :=
  match restore fl w.c file with
  | none => none
  | some R =>
    if shapeMismatch shapeOf given R.K then
      some (true, { restored := R, tasks := [], appended := [], file := R.file1, final := decodeAll w.c R.file1 })
    else
      let tasks := makeTasks fl.finishedFix R.K w.triples
      some (false, finish w.c R tasks (preamble fl w.ver w.exp R.K) (tasks.filterMap w.out))

/-! ### Phase 4: ChunkTasks / ProcessTasks — the order in which a single-process run executes the tasks

`ChunkTasks._chunks`: tasks without environment first (one chunk each, in order), then the tasks of environments that are not
chunk()ed (one chunk each, in order), then the groups of tasks that share a `Chunk` pipe (dict in insertion order), the groups
sorted by `min(env_id)`, each group sorted by `(env_id, lrn_id or -1)` and cut into batches of `max_tasks`.
`ProcessTasks.filter`: `sorted(chunk, key=(env_id or -1, lrn_id or -1), reverse=True)` and `chunk.pop()` from the end, i.e.
ascending with ties (same environment and learner, different evaluators) in REVERSE order.
For the property only `runOrder_perm` matters (the theorems hold for every arrival order); the order itself is compared with the
real record order of single-process runs. -/

/-- sort key of ChunkTasks (`chunk_sorter`) and ProcessTasks: `(env_id or -1, lrn_id or -1)`, shifted by one -/
def Task.ord : Task → Nat × Nat
  | .penv i => (i + 1, 0)
  | .plrn i => (0, i + 1)
  | .pval _ => (0, 0)
  | .eval e l _ => (e + 1, l + 1)

def ordLt (a b : Nat × Nat) : Bool := a.1 < b.1 || (a.1 == b.1 && a.2 < b.2)

/-- the environment id of a task that has an environment -/
def Task.envId : Task → Option Nat
  | .penv i => some i
  | .eval e _ _ => some e
  | _ => none

/-- stable insertion (`sorted` is stable): `t` goes in front of the first element that is not smaller -/
def insertOrd (lt : Task → Task → Bool) (t : Task) : List Task → List Task
  | [] => [t]
  | u :: us => if lt u t then u :: insertOrd lt t us else t :: u :: us

/-- `sorted(tasks, key=…)` -/
def sortOrd (lt : Task → Task → Bool) : List Task → List Task
  | [] => []
  | t :: ts => insertOrd lt t (sortOrd lt ts)

/-- the tasks that do not belong to group `k` -/
def dropGroup (ck : Task → Nat) (k : Nat) (l : List Task) : List Task := l.filter (fun u => !(ck u == k))

theorem dropGroup_length (ck : Task → Nat) (k : Nat) (l : List Task) : (dropGroup ck k l).length ≤ l.length :=
  List.length_filter_le _ _

/-- dict of lists in insertion order: the group of the first task, then the groups of the rest -/
def groupsOf (ck : Task → Nat) : List Task → List (List Task)
  | [] => []
  | t :: ts => ((t :: ts).filter (fun u => ck u == ck t)) :: groupsOf ck (dropGroup ck (ck t) ts)
termination_by l => l.length
decreasing_by
  simp only [List.length_cons]
  exact Nat.lt_succ_of_le (dropGroup_length _ _ _)

/-- `_max_chunker`: batches of `m` tasks (`m = 0`: `max_tasks or None`, one batch) -/
def batches (m : Nat) (l : List Task) : List (List Task) :=
  if m = 0 then (if l.isEmpty then [] else [l]) else go m l l.length
where
  go (m : Nat) (l : List Task) : Nat → List (List Task)
    | 0 => []
    | f + 1 => if l.isEmpty then [] else l.take m :: go m (l.drop m) f

/-- insertion sort of the groups by `min(env_id)` (stable) -/
def insertGrp (key : List Task → Nat) (g : List Task) : List (List Task) → List (List Task)
  | [] => [g]
  | h :: hs => if key h < key g then h :: insertGrp key g hs else g :: h :: hs

def sortGrp (key : List Task → Nat) : List (List Task) → List (List Task)
  | [] => []
  | g :: gs => insertGrp key g (sortGrp key gs)

def minEnv (g : List Task) : Nat := (g.filterMap Task.envId).foldl min ((g.filterMap Task.envId).headD 0)

/-- `ChunkTasks._chunks`: `chunkOf e` = the Chunk pipe of environment `e` (`none`: `'not_chunked'`) -/
def chunkTasks (chunkOf : Nat → Option Nat) (m : Nat) (tasks : List Task) : List (List Task) :=
  let sans := tasks.filter (fun t => t.envId.isNone)
  let withE := tasks.filter (fun t => t.envId.isSome)
  let ck : Task → Option Nat := fun t => t.envId.bind chunkOf
  let notChunked := withE.filter (fun t => (ck t).isNone)
  let chunked := withE.filter (fun t => (ck t).isSome)
  let groups := groupsOf (fun t => (ck t).getD 0) chunked
  let lt := fun a b => ordLt a.ord b.ord
  sans.map (fun t => [t]) ++ (notChunked.map (fun t => [t]) ++
    (sortGrp minEnv groups).flatMap (fun g => batches m (sortOrd lt g)))

/-- `ProcessTasks.filter`: `sorted(chunk, key, reverse=True)` then `pop()` from the end: ascending, ties in REVERSE order -/
def processOrder (chunk : List Task) : List Task := sortOrd (fun a b => ordLt a.ord b.ord) chunk.reverse

/-- the order in which a single-process run executes the tasks (and writes their records) -/
def runOrder (chunkOf : Nat → Option Nat) (m : Nat) (tasks : List Task) : List Task :=
  (chunkTasks chunkOf m tasks).flatMap processOrder


/-! ### Phase 4: universal newlines

DiskSource opens the file in text mode with the default `newline=None`: on reading, `\r\n` and a lone `\r` are both turned into
`\n`, so a raw `\r` inside a record text would end a line.  (`json.dumps` escapes it; `_drop_torn_tail` works on the bytes.) -/

/-- `"\r"` -/
def CR : Nat := 13

/-- text-mode reading with universal newlines (`open(path)` / `gzip.open(path,'rt')`, `newline=None`): `\r\n` and a lone `\r`
both arrive as `\n` -/
def univAux : Bool → Bytes → Bytes
  | _, [] => []
  | prevCR, b :: bs =>
    if b = CR then NL :: univAux true bs
    else if b = NL ∧ prevCR = true then univAux false bs
    else b :: univAux false bs

def univ (file : Bytes) : Bytes := univAux false file

/-- what TransactionDecode really sees: the lines of the translated text -/
def linesU (file : Bytes) : List Bytes := lines (univ file)

def decodeAllU (c : Codec) (file : Bytes) : Option (List Rec) :=
  match decodeLines c (linesU file) with
  | some (r :: rs) => if r.key = Key.ver then some (r :: rs) else none
  | _ => none


/-! ### Phase 5: `_max_chunker` as a small program, the write loop of `DiskSink`, a windowed torn-tail repair

`ChunkTasks._max_chunker` is extracted from the source by the translator (ast) as a program over four statements:
```
chunk = iter(chunk)                                  iterInit
batch = list(islice(chunk,max_tasks))                takeBatch
while batch != []:                                   whileNonEmpty [
    yield batch                                        yieldBatch,
    batch = list(islice(chunk,max_tasks))              takeBatch ]
```
`max_tasks = 0` stands for `None` (`max_tasks or None`): `islice(it, None)` takes everything. -/

inductive CSimple where
  | iterInit | takeBatch | yieldBatch
  deriving DecidableEq, Repr

inductive CStmt where
  | simple (s : CSimple)
  | whileNonEmpty (body : List CSimple)
  deriving DecidableEq, Repr

structure CState where
  it : List Task
  batch : List Task
  out : List (List Task)

def stepSimple (m : Nat) : CSimple → CState → CState
  | .iterInit, s => s
  | .takeBatch, s => if m = 0 then { s with batch := s.it, it := [] } else { s with batch := s.it.take m, it := s.it.drop m }
  | .yieldBatch, s => { s with out := s.out ++ [s.batch] }

def execBody (m : Nat) (body : List CSimple) (s : CState) : CState := body.foldl (fun s st => stepSimple m st s) s

def execWhile (m : Nat) (body : List CSimple) : Nat → CState → CState
  | 0, s => s
  | f + 1, s => if s.batch.isEmpty then s else execWhile m body f (execBody m body s)

def execProg (m fuel : Nat) : List CStmt → CState → CState
  | [], s => s
  | .simple st :: r, s => execProg m fuel r (stepSimple m st s)
  | .whileNonEmpty b :: r, s => execProg m fuel r (execWhile m b fuel s)

/-- the batches a chunker program yields for `max_tasks = m` on the task list `l` -/
def runChunker (prog : List CStmt) (m : Nat) (l : List Task) : List (List Task) :=
  (execProg m l.length prog ⟨l, [], []⟩).out

/-- `_max_chunker` as the model reads it -/
def maxChunkerProg : List CStmt :=
  [.simple .iterInit, .simple .takeBatch, .whileNonEmpty [.yieldBatch, .takeBatch]]

/-- `DiskSink.write(lines)` with `batch = b`: the groups of lines written inside one `with self:` each, i.e. (for a sink
that is not entered from outside) per open/close of the file = per gzip member.
`while self._unfinished(batch): batch = self._get_batch(lines); with self: for line in batch: write(line+'\n'); flush()`;
`_unfinished`: not started, or the last batch was a list of exactly `b` lines — so after a full last batch the loop goes round
once more with an EMPTY batch (for `.gz`: an empty member).  `b = 0` is `batch=None`: one lazy batch with everything. -/
def sinkWrite (b : Nat) (lines : List Bytes) : List (List Bytes) :=
  if b = 0 then [lines] else go b (lines.length + 1) lines
where
  go (b : Nat) : Nat → List Bytes → List (List Bytes)
    | 0, _ => []
    | f + 1, l => if (l.take b).length = b then l.take b :: go b f (l.drop b) else [l.take b]

/-- the plain branch of `_drop_torn_tail` if it looked only at the last `W` bytes of the file (the committed code reads the
whole file: `W = file.length`); what lies before the window is left as it is -/
def repairWin (c : Codec) (W : Nat) (file : Bytes) : Bytes :=
  file.take (file.length - W) ++ repair c (file.drop (file.length - W))


/-- spec (phase 5, multi-process runs): `out` is an interleaving of the sequences `ls` — every sequence keeps its own order,
nothing else is known about the schedule.  For CobaMultiprocessor: one sequence per chunk (a chunk is processed by ONE worker,
sequentially, and a `multiprocessing.Queue` keeps the order of the items one process puts). -/
inductive Merge {α : Type} : List (List α) → List α → Prop
  | done (ls : List (List α)) : (∀ l ∈ ls, l = []) → Merge ls []
  | step (pre post : List (List α)) (x : α) (l out : List α) :
      Merge (pre ++ l :: post) out → Merge (pre ++ (x :: l) :: post) (x :: out)

/-! ## Phase 6: which execution configuration a (re-)run uses

`Experiment` keeps three settings (`processes`, `maxchunksperchild`, `maxtasksperchunk`).  Each can come from three places: an
earlier `.config(...)` call (stored in `self._x`), the argument of `run(...)`, and the PROCESS-GLOBAL default
`CobaContext.experiment.x`.  `run` first calls `self.config(processes, maxchunksperchild, maxtasksperchunk)` with ITS OWN arguments
(`config` overwrites all three fields, also with `None` — so what an earlier `.config()` call stored is lost), then reads the
properties `self._x if self._x is not None else CobaContext.experiment.x`. -/

/-- one setting: what an earlier `.config()` left, the argument of `run`, the process-global default -/
structure CfgRoute where
  stored : Option Nat
  arg    : Option Nat
  ctx    : Nat
deriving Repr, DecidableEq

/-- `Experiment.config`: `self._x = x` — the field is overwritten, also by `None` -/
def configCall (_old new : Option Nat) : Option Nat := new

/-- the property: `self._x if self._x is not None else CobaContext.experiment.x` -/
def cfgProp (stored : Option Nat) (ctx : Nat) : Nat :=
  match stored with
  | some v => v
  | none => ctx

/-- the value `run` works with: `self.config(arg…)`, then the property -/
def runCfg (r : CfgRoute) : Nat := cfgProp (configCall r.stored r.arg) r.ctx

/-- `is_multiproc = mp > 1 or mc != 0` -/
def isMultiproc (mp mc : Nat) : Bool := decide (1 < mp) || !(mc == 0)

/-- the three settings of one run -/
structure RunConfig where
  mp : CfgRoute
  mc : CfgRoute
  mt : CfgRoute
deriving Repr, DecidableEq

/-- `mp,mc,mt = self.processes,self.maxchunksperchild,self.maxtasksperchunk` after `self.config(...)` -/
def RunConfig.eff (c : RunConfig) : Nat × Nat × Nat := (runCfg c.mp, runCfg c.mc, runCfg c.mt)

/-- the order in which a SINGLE-process run under configuration `c` hands the tasks on: `ChunkTasks(mt)` with the EFFECTIVE
`maxtasksperchunk` (0 = `None`: `max_tasks or None`), each chunk through `ProcessTasks` -/
def runOrderCfg (chunkOf : Nat → Option Nat) (c : RunConfig) (tasks : List Task) : List Task :=
  runOrder chunkOf (runCfg c.mt) tasks

/-! ### the concrete codec of the driver: a table of (record, text) pairs -/

def tableEnc (tbl : List (Rec × Bytes)) (r : Rec) : Bytes :=
  match tbl.find? (fun p => decide (p.1 = r)) with
  | some p => p.2
  | none => []

def tableDec (tbl : List (Rec × Bytes)) (b : Bytes) : Option Rec :=
  if balanced b then (tbl.find? (fun p => decide (p.2 = b))).map (·.1) else none

def tableCodec (tbl : List (Rec × Bytes)) : Codec := ⟨tableEnc tbl, tableDec tbl⟩

/-- run-time checkable conditions under which `tableCodec` is a lawful codec -/
def tableOK (tbl : List (Rec × Bytes)) : Bool :=
  tbl.all (fun p => balanced p.2 && decide (NoNL p.2)) &&
  decide ((tbl.map (·.1)).Nodup) && decide ((tbl.map (·.2)).Nodup)

/-- the record a task writes: the one carrying the task's id -/
def tableOut (tbl : List (Rec × Bytes)) (t : Task) : Option Rec :=
  (tbl.find? (fun p => decide (p.1.key = t.key))).map (·.1)

def tableWorld (tbl : List (Rec × Bytes)) (ver exp : Rec) (triples : List (Nat × Nat × Nat)) : World :=
  ⟨tableCodec tbl, ver, exp, tableOut tbl, triples⟩

/-- run-time checkable conditions under which `tableWorld` satisfies `World.OK` -/
def tableWorldOK (tbl : List (Rec × Bytes)) (ver exp : Rec) (triples : List (Nat × Nat × Nat)) : Bool :=
  tableOK tbl && decide (ver.key = Key.ver) && decide (exp.key = Key.exp) &&
  decide (ver ∈ tbl.map (·.1)) && decide (exp ∈ tbl.map (·.1)) && decide triples.Nodup

end Coba.C02
