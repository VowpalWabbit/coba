/-
C04 — Environments can be read any number of times with identical results.

Executable model of the *stateful skeleton* of a coba environment pipeline
(`coba/pipes/sources.py SourceFilters.read`, `coba/pipes/filters.py Cache`,
`coba/environments/filters.py Shuffle / Cache / EmptyCheck / Finalize`,
`coba/environments/core.py materialize / cache / chunk / save`, `supervised.py`).
Imports the finished models C09 / C05 (the filters that select and order interactions), C10 and C11 (those that rewrite them).

* An interaction is an opaque identifier (`Item`); a stateless filter is an arbitrary function
  `f : List Item → List Item` together with an arbitrary *laziness signature*
  `dem : input → downstream demand → upstream demand` (how far the filter drives its upstream
  generator when its own generator is driven so far).  Nothing is assumed about `dem`.
* A Python generator that is created, advanced `k` times and dropped is a `Demand`
  (`none` = created but never advanced, `pull k`, `all` = driven to `StopIteration`); the items a
  read session will deliver are fixed when it is opened (`view`), what the session does to the
  per-instance fields that survive between reads is `touch`.
* The per-instance fields are stored in the nodes themselves: Shuffle's current seed (as the number
  of times it has been multiplied by 3.21), `pipes.Cache._cache/_iter`, `EmptyCheck._isempty`,
  the one-shot `zip` of `from_supervised(X,Y)`, `SupervisedSimulation._params`.
* `Variant.asis` mirrors the code before the repairs of findings F1–F4, `Variant.fixed` the code with
  them (`fixes/C04-*.diff`; in /repo as e4fe683, 22e3b0b, 2a9669e, 451f4c5).
-/
import CobaVerif.Model.C09
import CobaVerif.Model.C10
import CobaVerif.Model.C11

namespace Coba.C04

abbrev Item := Nat

/-- how far the consumer drives a generator before dropping it -/
inductive Demand
  | none              -- generator object created, never advanced (nothing of its body runs)
  | pull (k : Nat)    -- advanced k ≥ 1 times, then dropped (closed) while suspended at a `yield`
  | all               -- advanced until `StopIteration` (code after the last `yield` runs)
deriving DecidableEq, Repr

/-- what the consumer has seen of a session that would deliver `xs` -/
def Demand.take : Demand → List Item → List Item
  | .none, _ => []
  | .pull k, xs => xs.take k
  | .all, xs => xs

def Demand.isNone : Demand → Bool
  | .none => true
  | _ => false

inductive Variant | asis | fixed
deriving DecidableEq, Repr

/-- a stateless filter: what it computes, how lazily, and the params it reports -/
structure PureSt where
  f : List Item → List Item
  dem : List Item → Demand → Demand
  par : List Nat

/-- `pipes.Cache` state: `_cache is None`, `_iter` alive (`c` cached, `r` still to come from the
saved iterator), `_iter is None` after the saved iterator was exhausted -/
inductive CacheSt
  | unread
  | prog (c r : List Item)
  | done (c : List Item)
deriving Repr

/-- a pipe instance together with the fields that survive between reads -/
inductive Node
  | pure (p : PureSt)
  /-- `environments.Shuffle(seed)`: `perm d` is the permutation `CobaRandom(seed*3.21^d).shuffle`
  applies, `logged` says whether the interactions it receives carry `action` and `reward`,
  `par d` the params it reports while `_seed = seed*3.21^d`, `depth` the current `d`. -/
  | shuffle (v : Variant) (perm : Nat → List Item → List Item) (logged : Bool) (par : Nat → List Nat) (depth : Nat)
  /-- `pipes.Cache(n_slice, protected)` / `environments.Cache` (its copies are invisible here) -/
  | cache (sz : Option Nat) (prot : Bool) (st : CacheSt)
  /-- `BatchSafe(Finalize())`: `EmptyCheck` followed by the stateless part `p` -/
  | finalize (p : PureSt) (isempty : Option Bool)

/-- the source: its data, what is left of a one-shot iterator, whether a read was ever started -/
structure Src where
  once : Bool
  items : List Item
  rem : List Item
  started : Bool
  parPre : List Nat
  parPost : List Nat

/-! ### what a read session delivers (fixed when the session is opened) -/

def nodeView : Node → List Item → List Item
  | .pure p, u => p.f u
  | .shuffle .fixed perm lg _ _, u => perm (if lg then 1 else 0) u
  | .shuffle .asis perm lg _ d, u => perm (if lg then d + 1 else d) u
  | .cache _ _ .unread, u => u
  | .cache _ _ (.prog c r), _ => c ++ r
  | .cache _ _ (.done c), _ => c
  | .finalize p fl, u => if fl = some true then [] else if u = [] then [] else p.f u

def viewN : List Item → List Node → List Item
  | u, [] => u
  | u, n :: ns => viewN (nodeView n u) ns

def srcView (s : Src) : List Item := if s.once then s.rem else s.items

/-! ### what a read session does to the surviving fields -/

/-- `while current := list(islice(self._iter, n_slice))`: pull slices of `sz` items from the saved
iterator until `k` items are cached or it is exhausted (`fuel` bounds the number of slices). -/
def fill (sz : Nat) : Nat → List Item → List Item → Nat → List Item × List Item
  | 0, c, r, _ => (c, r)
  | fuel + 1, c, r, k =>
    if k ≤ c.length ∨ r = [] then (c, r)
    else fill sz fuel (c ++ r.take sz) (r.drop sz) k

def sliceSize (sz : Option Nat) (r : List Item) : Nat :=
  match sz with
  | none => r.length        -- `islice(it, None)`: everything in one slice
  | some 0 => 1             -- `Cache(0)` is not used by coba (the loop would stop at once)
  | some n => n

/-- demand of a cache on its saved upstream iterator after this session: how many items it has
pulled from it in total, or `all` when a slice came back short (the iterator saw its end) -/
def cacheUpDemand (sz : Option Nat) (c r c' r' : List Item) : Demand :=
  if c'.length = c.length then .none
  else if r' = [] ∧ (sz = none ∨ r.length % sliceSize sz r ≠ 0) then .all
  else .pull c'.length

def cacheStep (sz : Option Nat) (c r : List Item) : Demand → CacheSt × Demand
  | .none => (.prog c r, .none)
  | .pull k =>
    let (c', r') := fill (sliceSize sz r) r.length c r k
    (.prog c' r', cacheUpDemand sz c r c' r')
  | .all => (.done (c ++ r), .all)

/-- one node reacts to the demand `d` on its output, `u` being what its upstream delivers;
returns the node afterwards and the demand it puts on its upstream -/
def nodeStep : Node → List Item → Demand → Node × Demand
  | .pure p, u, d => (.pure p, p.dem u d)
  | .shuffle .fixed perm lg par dep, _, d => (.shuffle .fixed perm lg par dep, if d.isNone then .none else .all)
  | .shuffle .asis perm lg par dep, u, d =>
    match d with
    | .none => (.shuffle .asis perm lg par dep, .none)
    | .pull _ => (.shuffle .asis perm lg par (if lg ∧ u ≠ [] then dep + 1 else dep), .all)   -- `self._seed = old_seed` never runs
    | .all => (.shuffle .asis perm lg par dep, .all)
  | .cache sz prot st, u, d =>
    match d, st with
    | .none, st => (.cache sz prot st, .none)
    | _, .done c => (.cache sz prot (.done c), .none)
    | d, .unread => let (st', du) := cacheStep sz [] u d; (.cache sz prot st', du)
    | d, .prog c r => let (st', du) := cacheStep sz c r d; (.cache sz prot st', du)
  | .finalize p fl, u, d =>
    match d, fl with
    | .none, fl => (.finalize p fl, .none)
    | _, some true => (.finalize p (some true), .none)
    | d, some false => (.finalize p (some false), if u = [] then .all else p.dem u d)
    | d, none => (.finalize p (some (u == [])), if u = [] then .all else p.dem u d)

/-- drive the chain `ns` (source first) whose upstream delivers `u` with demand `d` at its end;
returns the chain afterwards and the demand that reaches `u`'s producer -/
def touchN : List Item → List Node → Demand → List Node × Demand
  | _, [], d => ([], d)
  | u, n :: ns, d =>
    let (ns', dn) := touchN (nodeView n u) ns d
    let (n', du) := nodeStep n u dn
    (n' :: ns', du)

def demandCount : Demand → List Item → Nat
  | .none, _ => 0
  | .pull k, _ => k
  | .all, xs => xs.length

def srcStep (s : Src) (d : Demand) : Src :=
  { s with rem := if s.once then s.rem.drop (demandCount d s.rem) else s.rem }

/-! ### objects, params -/

structure Obj where
  src : Src
  nodes : List Node
  /-- the last node is the `BatchSafe(Finalize())` that `Environments.__getitem__` appended -/
  ownFin : Bool

def nodePar : Node → List Nat
  | .pure p => p.par
  | .shuffle .fixed _ _ par _ => par 0
  | .shuffle .asis _ _ par d => par d
  | .cache .. => []
  | .finalize .. => []

def srcPar (s : Src) : List Nat := if s.started then s.parPost else s.parPre

def Obj.params (o : Obj) : List Nat := srcPar o.src ++ o.nodes.flatMap nodePar

def Obj.view (o : Obj) : List Item := viewN (srcView o.src) o.nodes

/-- one read session on the object, driven as far as `d` -/
def Obj.touch (o : Obj) (d : Demand) : Obj :=
  let (ns', ds) := touchN (srcView o.src) o.nodes d
  { o with nodes := ns', src := { srcStep o.src ds with started := o.src.started || !d.isNone } }

/-- `next` is called `k` times on a fresh iterator: fewer than `k` items means it was exhausted -/
def partialDemand (k : Nat) (v : List Item) : Demand :=
  if k = 0 then .none else if v.length < k then .all else .pull k

/-! ### the denotation (spec side) -/

def nodeDen : Node → List Item → List Item
  | .pure p, u => p.f u
  | .shuffle _ perm lg _ _, u => perm (if lg then 1 else 0) u
  | .cache .., u => u
  | .finalize p _, u => if u = [] then [] else p.f u

def denN : List Item → List Node → List Item
  | u, [] => u
  | u, n :: ns => denN (nodeDen n u) ns

def nodeParDen : Node → List Nat
  | .pure p => p.par
  | .shuffle _ _ _ par _ => par 0
  | .cache .. => []
  | .finalize .. => []

def Obj.den (o : Obj) : List Item := denN o.src.items o.nodes
def Obj.denParams (o : Obj) : List Nat := o.src.parPost ++ o.nodes.flatMap nodeParDen

/-! ### the pool of objects and the operations of a history -/

inductive Op
  | full (on : Nat)
  | part (on k : Nat)
  | params (on : Nat)
  | materialize (on : Nat)
  | cache (on : Nat)
  | chunk (on : Nat)
  | pickle (on : Nat)
  | save (on : Nat)
deriving Repr

inductive Out
  | items (xs : List Item)
  | params (ts : List Nat)
  | derived
  | err
  | skip
deriving DecidableEq, Repr

structure World where
  /-- the stateless part of every `Finalize` instance -/
  fin : PureSt
  /-- behaviour of pickling / saving (F3, F4) -/
  variant : Variant
  /-- `none`: an object whose creation raised -/
  objs : List (Option Obj)

def isFinalize : Node → Bool
  | .finalize .. => true
  | _ => false

def isCache : Node → Bool
  | .cache .. => true
  | _ => false

/-- `nocache = lambda p: not isinstance(p,pipes.Cache) or p.protected` -/
def keptByMaterialize : Node → Bool
  | .cache _ prot _ => prot
  | _ => true

def Obj.base (o : Obj) : List Node := if o.ownFin then o.nodes.dropLast else o.nodes

/-- `Environments._finalize`: append a fresh `BatchSafe(Finalize())` unless one is in the chain -/
def finalized (fin : PureSt) (ns : List Node) : List Node × Bool :=
  if ns.any isFinalize then (ns, false) else (ns ++ [.finalize fin none], true)

def chunkP : PureSt := { f := id, dem := fun _ d => d, par := [] }

def lastIsCache (ns : List Node) : Bool :=
  match ns.getLast? with
  | some n => isCache n
  | none => false

def hasLiveIter : Node → Bool
  | .cache _ _ (.prog _ _) => true
  | _ => false

/-- the repaired `Cache.__getstate__`: a half-filled cache pickles as an unread one -/
def resetLive : Node → Node
  | .cache sz prot (.prog _ _) => .cache sz prot .unread
  | n => n

def setObj (w : World) (j : Nat) (o : Obj) : World := { w with objs := w.objs.set j (some o) }
def pushObj (w : World) (o : Option Obj) : World := { w with objs := w.objs ++ [o] }

def getObj (w : World) (j : Nat) : Option Obj :=
  match w.objs[j]? with
  | some (some o) => some o
  | _ => none

def isDerive : Op → Bool
  | .materialize _ | .cache _ | .chunk _ | .pickle _ | .save _ => true
  | _ => false

def Op.on : Op → Nat
  | .full j | .part j _ | .params j | .materialize j | .cache j | .chunk j | .pickle j | .save j => j

def stepObj (w : World) (j : Nat) (o : Obj) : Op → World × Out
  | .full _ => (setObj w j (o.touch .all), .items o.view)
  | .part _ k =>
    let d := partialDemand k o.view
    (setObj w j (o.touch d), .items (d.take o.view))
  | .params _ => (w, .params o.params)
  | .cache _ =>
    let (ns, own) := finalized w.fin (o.base ++ [.cache (some 25) false .unread])
    (pushObj w (some { src := o.src, nodes := ns, ownFin := own }), .derived)
  | .chunk _ =>
    let (ns, own) := finalized w.fin (o.base ++ [.pure chunkP, .cache (some 25) false .unread])
    (pushObj w (some { src := o.src, nodes := ns, ownFin := own }), .derived)
  | .materialize _ =>
    let env := (finalized w.fin o.base).1
    if lastIsCache env then
      (pushObj w (some { src := o.src, nodes := env, ownFin := false }), .derived)
    else
      let m : Obj := { src := o.src, nodes := env.filter keptByMaterialize ++ [.cache none true .unread], ownFin := false }
      let m' := m.touch .all
      -- the source object is shared with the parent: it has now been read
      (pushObj (setObj w j { o with src := m'.src }) (some m'), .derived)
  | .pickle _ =>
    match w.variant with
    | .asis =>
      if o.nodes.any hasLiveIter then (pushObj w none, .err)      -- cannot pickle 'generator' object
      else (pushObj w (some { o with ownFin := false }), .derived)
    | .fixed => (pushObj w (some { o with nodes := o.nodes.map resetLive, ownFin := false }), .derived)
  | .save _ =>
    -- `list(self)` finalizes with a fresh Finalize when the chain has none; EnvironmentsToObjects
    -- asked for the params and then read everything (`before`, as-is); since 451f4c5 it starts reading
    -- before it asks for them (`after`)
    let sv := srcView o.src
    let ub := viewN sv o.base
    let own := (finalized w.fin o.base).2
    let freshFin : Node := .finalize w.fin none
    let items := if own then nodeView freshFin ub else ub
    let dfin := if own then (nodeStep freshFin ub .all).2 else .all
    let (b', ds) := touchN sv o.base dfin
    let src' : Src := { srcStep o.src ds with started := true }
    let before := srcPar o.src ++ o.base.flatMap nodePar       -- params recorded before the read
    let after := srcPar src' ++ b'.flatMap nodePar
    let ps := match w.variant with
      | .asis => before
      | .fixed => after
    let s : Src := { once := false, items := items, rem := items, started := true, parPre := ps, parPost := ps }
    let parent : Obj := { o with src := src', nodes := b' ++ o.nodes.drop o.base.length }
    (pushObj (setObj w j parent) (some { src := s, nodes := [.finalize w.fin none], ownFin := true }), .derived)

def step (w : World) (op : Op) : World × Out :=
  match getObj w op.on with
  | some o => stepObj w op.on o op
  | none => (if isDerive op then pushObj w none else w, .skip)

def run : World → List Op → List Out
  | _, [] => []
  | w, op :: ops => let (w', o) := step w op; o :: run w' ops

def runW : World → List Op → World
  | w, [] => w
  | w, op :: ops => runW (step w op).1 ops

/-! ### one instance alone: a sequence of read sessions on one node over a fixed upstream -/

def sessions (n : Node) (u : List Item) : List Demand → Node
  | [] => n
  | d :: ds => sessions (nodeStep n u d).1 u ds

/-- `[xs[i] for i in p]` -/
def applyPerm (p : List Nat) (xs : List Item) : List Item := p.filterMap (fun i => xs[i]?)

/-! ### Densify's lookup table (`defaultdict(factory)` handing out the next index of a fixed
shuffled sequence): the table is the list of keys in order of first use; the index of a key is its
position.  Reading a prefix of the key stream feeds the keys of that prefix. -/

def feed : List Nat → List Nat → List Nat
  | tbl, [] => tbl
  | tbl, k :: ks => feed (if k ∈ tbl then tbl else tbl ++ [k]) ks

/-- table after a history of reads, read `i` having used the first `ms[i]` keys of the stream `K` -/
def feedHistory (K : List Nat) : List Nat → List Nat → List Nat
  | tbl, [] => tbl
  | tbl, m :: ms => feedHistory K (feed tbl (K.take m)) ms

/-! ### invariant used by the theorems (spec-side predicates) -/

def Node.Fixed : Node → Prop
  | .shuffle v _ _ _ _ => v = .fixed
  | _ => True

/-- the surviving fields of a node are consistent with `u`, the denotation of its upstream -/
def nodeOK : Node → List Item → Prop
  | .cache _ _ (.prog c r), u => c ++ r = u
  | .cache _ _ (.done c), u => c = u
  | .finalize _ (some b), u => b = (u == [])
  | _, _ => True

def chainOK : List Item → List Node → Prop
  | _, [] => True
  | u, n :: ns => nodeOK n u ∧ n.Fixed ∧ chainOK (nodeDen n u) ns

/-- `Finalize` applied to the output of a finalized pipeline -/
def finF (fin : PureSt) (u : List Item) : List Item := if u = [] then [] else fin.f u

structure ObjGood (fin : PureSt) (D : List Item) (P : List Nat) (o : Obj) : Prop where
  reiter : o.src.once = false
  ok : chainOK o.src.items o.nodes
  den : o.den = D
  par : o.denParams = P
  hasFin : o.nodes.any isFinalize = true
  own : o.ownFin = true → ∃ b fl, o.nodes = b ++ [.finalize fin fl] ∧ b.any isFinalize = false

/-- hypotheses of the re-read theorem: repaired code, re-iterable source, consistent fields,
`Finalize` leaves finalized output unchanged; every object of the pool denotes `D`, `P` -/
structure WorldGood (D : List Item) (P : List Nat) (w : World) : Prop where
  fixed : w.variant = .fixed
  finIdem : finF w.fin D = D
  objs : ∀ o, some o ∈ w.objs → ObjGood w.fin D P o

/-! # Phase 2 -/

/-! ## Built-in filters as real functions.  An interaction is still an identifier, but it comes
with the fields the selecting / ordering filters look att (`Attr`); those filters are the functions
of `Model/C09.lean`; a filter that rewrites every interaction independently is `mapE`. -/

structure Attr where
  logged : Bool
  hasCtx : Bool
  ctx : C09.Ctx
  nact : Nat

inductive Filt
  | take (count : Option Nat) (strict : Bool)
  | slice (start stop : Option Nat) (step : Nat)
  /-- the repaired `environments.Shuffle(seed)`: `lsd` is `seed*3.21` -/
  | shuffle (sd lsd : C09.Seed)
  | riffle (spacing : Nat) (sd : C09.Seed)
  | sort (keys : List C09.Val)
  | wher (nInt nAct nFet : C09.Range)
  /-- Repr / Flatten / Sparsify / Densify(hashing) / Binary / …: a function of the interaction -/
  | mapE (g : Item → Item)

def Filt.apply (att : Item → Attr) : Filt → List Item → List Item
  | .take c st, xs => C09.take c st xs
  | .slice a b st, xs => C09.slice a b st xs
  | .shuffle sd lsd, xs => C09.eShuffleSeeded (fun i => (att i).logged) sd lsd xs
  | .riffle sp sd, xs => C09.riffleSeeded sp sd xs
  | .sort keys, xs =>
    match C09.sortF (fun i => (att i).hasCtx) (fun i => (att i).ctx) keys xs with
    | .ok r => r
    | .error _ => xs          -- the real filter raises: such a pipeline cannot be read att all
  | .wher ni na nf, xs => C09.whereF (fun i => C09.ctxLen (att i).ctx) (fun i => (att i).nact) ni na nf xs
  | .mapE g, xs => xs.map g

/-- `islice(items, n)`: never pulls more than `n` items, sees the end only when there are fewer -/
def prefixDem (n : Nat) (u : List Item) (d : Demand) : Demand :=
  let cap (k : Nat) : Demand := if n = 0 then .none else if u.length < k then .all else .pull (min k n)
  match d with
  | .none => .none
  | .pull k => if n ≤ k then cap n else .pull k
  | .all => if u.length < n then .all else cap n

/-- laziness of the built-in filters (how far they drive their upstream) -/
def Filt.dem : Filt → List Item → Demand → Demand
  | .take none _, _, d => d
  | .take (some n) false, u, d => prefixDem n u d
  | .take (some n) true, u, _ => prefixDem n u .all           -- `list(islice(items,n))` when read() is called
  | .slice _ none _, _, d => d
  | .slice _ (some n) _, u, d => prefixDem n u d
  | .shuffle .., _, d => if d.isNone then .none else .all
  | .riffle .., _, _ => .all                                   -- `list(interactions)` when read() is called
  | .sort .., _, d => if d.isNone then .none else .all
  | .wher .., _, d => d
  | .mapE _, _, d => d

def Filt.toPure (att : Item → Attr) (f : Filt) (par : List Nat) : PureSt :=
  { f := f.apply att, dem := f.dem, par := par }

/-- the denotation of a chain of built-in filters, in closed form -/
def filtDen (att : Item → Attr) : List Item → List (Filt × List Nat) → List Item
  | u, [] => u
  | u, (f, _) :: fs => filtDen att (f.apply att u) fs

def filtNodes (att : Item → Attr) (fs : List (Filt × List Nat)) : List Node :=
  fs.map (fun p => .pure (p.1.toPure att p.2))

/-! ## Noise: `rng = CobaRandom(self._seed)` is created inside `filter`, so a read is a function
of the interactions it is given.  `step s x` = the noisy interaction and the generator state after
it.  The variant that keeps the generator in the instance threads the state through the reads. -/

def noiseScan (step : Nat → Item → Nat × Item) : Nat → List Item → Nat × List Item
  | s, [] => (s, [])
  | s, x :: xs =>
    let (s1, y) := step s x
    let (s2, ys) := noiseScan step s1 xs
    (s2, y :: ys)

/-- reads of the real filter: each starts from the seed -/
def noiseFresh (step : Nat → Item → Nat × Item) (seed : Nat) (u : List Item) : List Demand → List (List Item)
  | [] => []
  | d :: ds => d.take (noiseScan step seed u).2 :: noiseFresh step seed u ds

/-- reads of a filter that keeps `self._rng`: each starts where the previous one stopped -/
def noiseKept (step : Nat → Item → Nat × Item) (u : List Item) : Nat → List Demand → List (List Item)
  | _, [] => []
  | s, d :: ds =>
    let seen := d.take u
    let r := noiseScan step s seen
    r.2 :: noiseKept step u r.1 ds

/-! ## Collections: `Environments` holding several different environments.  A shortcut applied to
the collection gives every member its OWN new pipe (`[Pipes.join(env, Cache(25)) for env in …]`);
the pool then simply holds one object per member.  `cacheAll` is `Environments.cache()` on the
members `js`. -/

def cacheAll : World → List Nat → World
  | w, [] => w
  | w, j :: js => cacheAll (step w (.cache j)).1 js

/-- the variant `self.filter(Cache(25))`: ONE cache object for all members.  `sharedCacheReads st Us ms`:
full reads of the members `ms` (member `m` has upstream `Us[m]`) through the single cache state. -/
def sharedCacheReads (sz : Option Nat) : CacheSt → List (List Item) → List Nat → List (List Item)
  | _, _, [] => []
  | st, us, m :: ms =>
    let u := us.getD m []
    let n := Node.cache sz false st
    let out := nodeView n u
    match (nodeStep n u .all).1 with
    | .cache _ _ st' => out :: sharedCacheReads sz st' us ms
    | _ => out :: sharedCacheReads sz st us ms

/-! ## Caller-owned objects: constructor arguments (X, Y, row lists, reward feature lists, params
dicts, learners, …) live in heap cells of their own.  A step of the model never writes them.
`argEdit` describes a (hypothetical) source whose read rewrites the cell it was given. -/

structure HWorld where
  w : World
  caller : List (List Nat)
  /-- object index ↦ (cell it was constructed from, what a started read makes of that cell) -/
  argEdit : Nat → Option (Nat × (List Nat → List Nat))

def startsRead : Op → Bool
  | .full _ | .materialize _ | .save _ => true
  | .part _ k => k != 0
  | _ => false

def hstep (h : HWorld) (op : Op) : HWorld × Out :=
  let (w', out) := step h.w op
  let caller' :=
    match (if startsRead op && (getObj h.w op.on).isSome then h.argEdit op.on else none) with
    | some (cell, e) => h.caller.modify cell e
    | none => h.caller
  ({ h with w := w', caller := caller' }, out)

def hrunW : HWorld → List Op → HWorld
  | h, [] => h
  | h, op :: ops => hrunW (hstep h op).1 ops

def hrun : HWorld → List Op → List Out
  | _, [] => []
  | h, op :: ops => (hstep h op).2 :: hrun (hstep h op).1 ops

/-! ## Per-instance memoisation: `GroundedFeedback.__call__` is `lru_cache`d.  An instance draws a
word from its own generator (seeded with its seed, created on the first miss) every time it is
evaluated on an argument that is not in the memo; the memo is ONE table for all instances, keyed by
(instance, argument), least recently used entry evicted first when it has a capacity.
`draw inst k good` = the word the instance's k-th draw gives (from the good or the bad words). -/

structure Memo where
  /-- most recently used first -/
  entries : List ((Nat × Nat) × Nat)
  /-- draws made so far, per instance -/
  pos : List (Nat × Nat)

def Memo.posOf (m : Memo) (inst : Nat) : Nat := (m.pos.lookup inst).getD 0

def Memo.call (cap : Option Nat) (draw : Nat → Nat → Nat → Nat) (m : Memo) (inst arg : Nat) : Memo × Nat :=
  match m.entries.lookup (inst, arg) with
  | some v => ({ m with entries := ((inst, arg), v) :: m.entries.filter (fun e => e.1 != (inst, arg)) }, v)
  | none =>
    let k := m.posOf inst
    let v := draw inst k arg
    let es := ((inst, arg), v) :: m.entries
    let es := match cap with | some c => es.take c | none => es
    ({ entries := es, pos := (inst, k + 1) :: m.pos.filter (fun p => p.1 != inst) }, v)

/-- evaluate the feedbacks of a read: every (instance, argument) pair in order -/
def Memo.read (cap : Option Nat) (draw : Nat → Nat → Nat → Nat) : Memo → List (Nat × Nat) → Memo × List Nat
  | m, [] => (m, [])
  | m, (i, a) :: qs =>
    let (m1, v) := m.call cap draw i a
    let (m2, vs) := Memo.read cap draw m1 qs
    (m2, v :: vs)

def Memo.reads (cap : Option Nat) (draw : Nat → Nat → Nat → Nat) : Memo → List (List (Nat × Nat)) → List (List Nat)
  | _, [] => []
  | m, q :: qs => let (m1, vs) := Memo.read cap draw m q; vs :: Memo.reads cap draw m1 qs

/-- the memo after a list of reads -/
def Memo.after (cap : Option Nat) (draw : Nat → Nat → Nat → Nat) : Memo → List (List (Nat × Nat)) → Memo
  | m, [] => m
  | m, q :: qs => Memo.after cap draw (Memo.read cap draw m q).1 qs

/-- what the property needs: the value of (instance, argument) is fixed by the FIRST read -/
def memoOK (draw : Nat → Nat → Nat → Nat) (m : Memo) : Prop :=
  ∀ i a v, m.entries.lookup (i, a) = some v → ∃ k, k < m.posOf i ∧ v = draw i k a

/-! # Phase 3 -/

/-! ## Filters that rewrite interaction CONTENT (Repr, Flatten, Sparsify, Densify, Finalize's stateless part):
the functions of `Model/C10.lean` on `C10.Inter`.  `dec` gives the content of an identifier, `enc` the
identifier of a content (the harness interns canonical contents; both are arbitrary in the theorems). -/

def contentF (dec : Item → C10.Inter) (enc : C10.Inter → Item) (cfg : C10.Cfg) (st : C10.Step) (xs : List Item) : List Item :=
  match C10.runChain cfg [st] { stream := xs.map dec } with
  | .ok S => S.stream.map enc
  | .error _ => xs            -- the real filter raises: such a pipeline cannot be read at all

def contentPure (dec : Item → C10.Inter) (enc : C10.Inter → Item) (cfg : C10.Cfg) (st : C10.Step) (par : List Nat) : PureSt :=
  { f := contentF dec enc cfg st, dem := fun _ d => d, par := par }

/-! ## Aliasing: which stage writes into objects it received.  A store maps addresses to values; an
interaction travelling down the pipeline is an address.  `copyMap g` allocates a new object holding
`g` of the old value (what `interaction.copy()` / `Mutable` followed by assignment do), `share` hands
the same object on (Cache replay of `pipes.Cache`, Params, Chunk), `inPlace g` overwrites the object
it received (what a filter without the copy would do). -/

inductive AStage
  | copyMap (g : Nat → Nat)
  | share
  | inPlace (g : Nat → Nat)

abbrev Store := List Nat

def AStage.run : AStage → Store × List Nat → Store × List Nat
  | .copyMap g, (st, as) =>
    let vals := as.map (fun a => g (st.getD a 0))
    (st ++ vals, (List.range vals.length).map (· + st.length))
  | .share, sa => sa
  | .inPlace g, (st, as) => (as.foldl (fun s a => s.modify a g) st, as)

def runStages : List AStage → Store × List Nat → Store × List Nat
  | [], sa => sa
  | s :: ss, sa => runStages ss (s.run sa)

def AStage.writesInput : AStage → Bool
  | .inPlace _ => true
  | _ => false

/-- one read of the pipeline over the objects `held` (by the source, a cache, the caller) -/
def readOnce (stages : List AStage) (st : Store) (held : List Nat) : Store × List Nat := runStages stages (st, held)

/-- what the consumer sees: the values of the delivered objects -/
def deliver (sa : Store × List Nat) : List Nat := sa.2.map (fun a => sa.1.getD a 0)

/-! ## save() / from_save(): `pickle.dumps` of `[header, params, batch…]` into a zip member, `pickle.load`
until EOF.  Modelled on content: what a saved interaction looks like when it comes back.  Everything the
content type carries comes back unchanged; the exceptions are the reward functions, which travel as
`repr(state)` when the state is a Python literal. -/

def saveBatches (n : Nat) : List Item → List (List Item)
  | [] => []
  | x :: xs => ((x :: xs).take (n + 1)) :: saveBatches n ((x :: xs).drop (n + 1))
termination_by l => l.length
decreasing_by simp; omega

/-- `chain.from_iterable(batches)` -/
def loadBatches (bs : List (List Item)) : List Item := bs.flatten

/-! # Phase 4 -/

/-! ## Filters with a FITTING WINDOW on interaction content: `Scale` and `Impute` (the functions of
`Model/C11.lean` on the contexts) and `Noise` (a scan with the generator `CobaRandom(seed)` created
inside `filter`).  `Scale.filter` / `Impute.filter` do `it = iter(interactions); fitting =
list(islice(it, using))`, fit, and then transform `chain(fitting, it)`: what a row becomes depends
on the whole window. -/

inductive FitStage
  /-- `Scale(shift, scale, target, using)` -/
  | scale (cfg : C11.ScaleCfg)
  /-- `Impute(stat, indicator, using)` -/
  | impute (st : C11.Stat) (ind : Bool) (u : Option Nat)
  /-- `Noise(context=…, seed)`: `step state row = (state', noisy row)`, started from `seed` on every call of `filter` -/
  | noise (step : Nat → List C11.Val → Nat × List C11.Val) (seed : Nat)

def mapCtxs (g : List (List C11.Val) → List (List C11.Val)) : C11.Ctxs → C11.Ctxs
  | .dense rows => .dense (g rows)
  | c => c

def scanRows (step : Nat → List C11.Val → Nat × List C11.Val) : Nat → List (List C11.Val) → List (List C11.Val)
  | _, [] => []
  | s, r :: rs => (step s r).2 :: scanRows step (step s r).1 rs

/-- what one call of `filter` makes of the contexts it is given (a raising Scale leaves such a pipeline unreadable) -/
def FitStage.apply (sd : List Rat → Rat) : FitStage → C11.Ctxs → C11.Ctxs
  | .scale sc, c => match C11.scaleFilter sd sc c with | .ok c' => c' | .error _ => c
  | .impute st ind u, c => C11.imputeCtxs st ind u c
  | .noise step seed, c => mapCtxs (scanRows step seed) c

/-- the denotation of a chain of such stages, in closed form -/
def fitDen (sd : List Rat → Rat) (ss : List FitStage) (c : C11.Ctxs) : C11.Ctxs := ss.foldl (fun c s => s.apply sd c) c

def ctxsLen : C11.Ctxs → Nat
  | .dense r => r.length | .sparse r => r.length | .scalar r => r.length

def ctxsTake (k : Nat) : C11.Ctxs → C11.Ctxs
  | .dense r => .dense (r.take k) | .sparse r => .sparse (r.take k) | .scalar r => .scalar (r.take k)

/-- how much of its upstream the stage pulls: the window when the consumer asks for anything, then row by row -/
def FitStage.window : FitStage → Option Nat
  | .scale sc => sc.cfg.usingN
  | .impute _ _ u => u
  | .noise .. => some 0

/-- a fitting-window stage inside a pipeline of identifiers: `dec`/`enc` give the contents of a sequence of
identifiers and the identifiers of a sequence of contents (arbitrary in the theorems; the harness interns contents) -/
def fitPure (sd : List Rat → Rat) (dec : List Item → C11.Ctxs) (enc : C11.Ctxs → List Item) (s : FitStage) (par : List Nat) : PureSt :=
  { f := fun xs => enc (s.apply sd (dec xs)),
    dem := fun u d => match d, s.window with
      | .none, _ => .none
      | _, none => .all
      | .pull k, some n => if u.length < max k n then .all else .pull (max k n)
      | .all, some _ => .all,
    par := par }

/-! ### The iterator the window is taken from.  `read()` of the upstream gives a NEW iterator on every
call, so every read of the stage sees the whole upstream: `fitReadsFresh`.  `fitReadsKept` is the variant in
which the stage keeps ONE upstream iterator alive between reads (position `pos` survives): a later read fits
on what the earlier ones left. -/

/-- how many upstream rows a session that delivers under demand `d` has pulled -/
def fitPulled (win : Option Nat) (n : Nat) : Demand → Nat
  | .none => 0
  | .all => n
  | .pull k => match win with
    | none => n
    | some w => min n (max k w)

def demTake : Demand → C11.Ctxs → C11.Ctxs
  | .none, c => ctxsTake 0 c
  | .pull k, c => ctxsTake k c
  | .all, c => c

def ctxsDrop (k : Nat) : C11.Ctxs → C11.Ctxs
  | .dense r => .dense (r.drop k) | .sparse r => .sparse (r.drop k) | .scalar r => .scalar (r.drop k)

def fitReadsFresh (sd : List Rat → Rat) (s : FitStage) (c : C11.Ctxs) : List Demand → List C11.Ctxs
  | [] => []
  | d :: ds => demTake d (s.apply sd c) :: fitReadsFresh sd s c ds

def fitReadsKept (sd : List Rat → Rat) (s : FitStage) (c : C11.Ctxs) : Nat → List Demand → List C11.Ctxs
  | _, [] => []
  | pos, d :: ds =>
    let rest := ctxsDrop pos c
    demTake d (s.apply sd rest) :: fitReadsKept sd s c (pos + fitPulled s.window (ctxsLen rest) d) ds

/-! ## Aliasing, general form.  A stage sees the VALUES of the objects it is handed, in order.
`alloc F` puts `F values` into NEW objects (whatever `F` is: a row-wise map, a function of the whole
window such as Scale / Impute, a scan such as Noise, a selection or reordering of copies);
`share` hands the same objects on; `pick sel` hands on some of the SAME objects (Take, Slice, Shuffle,
Sort, Where, Reservoir, Cache replay: `sel n` = positions chosen among `n` objects); `write F` stores
`F values` back into the objects it was handed (what a filter without its copy does). -/

inductive GStage (α : Type)
  | alloc (F : List α → List α)
  | share
  | pick (sel : Nat → List Nat)
  | write (F : List α → List α)

def gvals {α} (d : α) (st : List α) (as : List Nat) : List α := as.map (fun a => st.getD a d)

def writeAll {α} : List α → List (Nat × α) → List α
  | st, [] => st
  | st, (a, v) :: avs => writeAll (st.set a v) avs

def GStage.run {α} (d : α) : GStage α → List α × List Nat → List α × List Nat
  | .alloc F, (st, as) =>
    let vals := F (gvals d st as)
    (st ++ vals, (List.range vals.length).map (· + st.length))
  | .share, sa => sa
  | .pick sel, (st, as) => (st, (sel as.length).filterMap (fun i => as[i]?))
  | .write F, (st, as) => (writeAll st (as.zip (F (gvals d st as))), as)

def grunStages {α} (d : α) : List (GStage α) → List α × List Nat → List α × List Nat
  | [], sa => sa
  | s :: ss, sa => grunStages d ss (s.run d sa)

def GStage.writesInput {α} : GStage α → Bool
  | .write _ => true
  | _ => false

def greadOnce {α} (d : α) (ss : List (GStage α)) (st : List α) (held : List Nat) : List α × List Nat := grunStages d ss (st, held)

def gdeliver {α} (d : α) (sa : List α × List Nat) : List α := gvals d sa.1 sa.2

/-- the phase-3 stages as `GStage`s; the two runs agree while nothing writes (`AStage.run_eq_toG`) -/
def AStage.toG : AStage → GStage Nat
  | .copyMap g => .alloc (List.map g)
  | .share => .share
  | .inPlace g => .write (List.map g)

/-- Scale / Impute / Noise on dense contexts as aliasing stages: the new contexts are NEW objects -/
def FitStage.toG (sd : List Rat → Rat) (s : FitStage) : GStage (List C11.Val) :=
  .alloc (fun rows => match s.apply sd (.dense rows) with | .dense r => r | _ => rows)

/-- the same computation written back into the contexts it was handed -/
def FitStage.toGInPlace (sd : List Rat → Rat) (s : FitStage) : GStage (List C11.Val) :=
  .write (fun rows => match s.apply sd (.dense rows) with | .dense r => r | _ => rows)

/-- which of the delivered objects are objects that existed before the read (`some address`) and which are new
(`none`): the pattern the harness compares with Python object identities -/
def identityPattern (n0 : Nat) (out : List Nat) : List (Option Nat) := out.map (fun a => if a < n0 then some a else none)

/-! # Phase 5: the stage table — which classes keep per-object state between reads, and where that state lives in the model.
`Generated/C04Stages.lean` is extracted from the current source on every run; `Props/C04` proves that it equals these
definitions (and that `stepObj` / `finalized` / `keptByMaterialize` are the extracted constants and predicate). -/

/-- how the model represents the attributes a class writes outside `__init__` -/
inductive StateRep
  /-- `Node.cache … (st : CacheSt)` -/
  | cacheSt
  /-- `Node.finalize p (isempty : Option Bool)` -/
  | isempty
  /-- Densify's table (`feed`, `feedHistory`) -/
  | lookup
  /-- `Src.started` (params before / after a started read) -/
  | started
  /-- written, but never read back into anything a read or `params` returns (timers, a debugging copy) -/
  | unobserved
deriving DecidableEq, Repr

structure StageRow where
  /-- "env" = environments/filters.py, "pipe" = pipes/filters.py, "src" = supervised / synthetics / serialized -/
  file : String
  cls : String
  attrs : List String
  rep : StateRep
deriving DecidableEq, Repr

/-- every class of the anchored files that keeps state across reads; every other class is a stateless stage
(`Node.pure` / `Filt` / content / fit stage) or a re-iterable source -/
def stageTable : List StageRow :=
  [⟨"env", "Impute", ["_times"], .unobserved⟩,
   ⟨"env", "Densify", ["_lookup"], .lookup⟩,
   ⟨"env", "EmptyCheck", ["_isempty"], .isempty⟩,
   ⟨"pipe", "Cache", ["_cache", "_iter"], .cacheSt⟩,
   ⟨"src", "SupervisedSimulation", ["_params"], .started⟩,
   ⟨"src", "NeighborsSyntheticSimulation", ["worlds"], .unobserved⟩]

def stageRows (file : String) : List (String × List String) :=
  (stageTable.filter (fun r => r.file == file)).map (fun r => (r.cls, r.attrs))

/-- may an instance of a class with these class names (its MRO) change attribute `attr` between reads? -/
def stateAllowed (mro : List String) (attr : String) : Bool :=
  stageTable.any (fun r => mro.contains r.cls && r.attrs.contains attr)

/-- the filter classes the model knows (all of coba/environments/filters.py) -/
def modelEnvClasses : List String :=
  ["Identity", "Take", "Slice", "Shuffle", "Reservoir", "Cache", "Scale", "Impute", "Sparsify", "Densify", "Cycle", "Flatten", "Binary",
   "Sort", "Where", "Riffle", "Noise", "Params", "Grounded", "Repr", "Batch", "Unbatch", "BatchSafe", "Harden", "Chunk", "Logged",
   "Mutable", "OpeRewards", "EmptyCheck", "Finalize"]

/-- iterators / generators / defaultdicts a filter creates in `__init__` and keeps: only Densify's look-up table -/
def modelEnvHeld : List (String × String × String) := [("Densify", "_lookup", "defaultdict")]

/-- the node `Environments.cache()` (and `chunk()`) appends: `Cache(25)` -/
def shortcutCacheNode : Node := .cache (some 25) false .unread
/-- the node `Environments.materialize()` appends: `pipes.Cache(None, True)` -/
def materializeCacheNode : Node := .cache none true .unread

def Node.prot : Node → Bool
  | .cache _ p _ => p
  | _ => false

/-- `save()` writes batches of `saveBatchModel + 1` interactions (`saveBatches saveBatchModel`) -/
def saveBatchModel : Nat := 999
/-- logged input: `Shuffle` uses `seed * 3.21` (the harness computes the permutations for `seed·(321/100)^d`) -/
def loggedSeedFactor : Nat × Nat := (321, 100)
def loggedKeys : List String := ["action", "reward"]

/-! ## Phase 5: Noise on content with the draws of `CobaRandom(seed)` (Model/C05).  `Noise(context=('i', lo, hi), seed)`:
`rng = CobaRandom(seed)` at the start of every `filter` call; every number of a context becomes `x + rng.randint(lo, hi)`, in
order; `None` and strings draw nothing (`_noise`). -/
def noiseIntRow (lo hi : Int) : Nat → List C11.Val → Nat × List C11.Val
  | s, [] => (s, [])
  | s, .num q :: vs =>
    let r := noiseIntRow lo hi (C05.randint s lo hi).1 vs
    (r.1, .num (q + ((C05.randint s lo hi).2 : Rat)) :: r.2)
  | s, .nan :: vs =>
    let r := noiseIntRow lo hi (C05.randint s lo hi).1 vs
    (r.1, .nan :: r.2)
  | s, v :: vs =>
    let r := noiseIntRow lo hi s vs
    (r.1, v :: r.2)

def FitStage.noiseInt (seed lo hi : Int) : FitStage := .noise (noiseIntRow lo hi) (C05.normInt seed)

/-- does `_noise` call the noiser on this value (`isinstance(value, (int, float))`) -/
def drawsNoise : C11.Val → Bool
  | .num _ => true
  | .nan => true
  | _ => false

def iterNext : Nat → Nat → Nat
  | 0, s => s
  | n + 1, s => iterNext n (C05.next s)

/-! ## Phase 6: what runs when a read is ABANDONED.  A read that is dropped after k items is a generator closed while it is suspended
at a `yield`: CPython raises `GeneratorExit` (a `BaseException`, not an `Exception`) at that `yield` in every generator of the
pipeline.  The session model (`Demand.pull k`, `touchN`) assumes that NO code of any stage runs then: the fields stay as they were
at the `yield`.  That is true exactly when no `try` around a `yield` has a `finally` or a handler that catches `GeneratorExit`
(bare `except`, `BaseException`, `GeneratorExit`) and every `with` around a `yield` only releases a resource.  The rows below are
every `try` / `with` statement around a `yield` in the anchored files (extracted from the source on every run: `Generated.abandonRows`). -/
structure TryRow where
  file : String
  fn : String
  /-- "try" (names = the handlers' exception classes) or "with" (names = the context managers) -/
  kind : String
  names : List String
  fin : Bool
deriving DecidableEq, Repr

/-- does `except <h>:` catch the `GeneratorExit` of a closed generator -/
def catchesExit (h : String) : Bool := h == "<bare>" || h == "BaseException" || h == "GeneratorExit"

/-- stage code runs when the generator is closed inside this statement -/
def TryRow.runsOnAbandon (r : TryRow) : Bool := r.kind == "try" && (r.fin || r.names.any catchesExit)

/-- context managers that only release a file handle / stop a timer (no field of any pipe object) -/
def resourceManagers : List String :=
  ["ZipFile(self._zip)", "z.open(self._member)", "opener(self._path, self._mode)", "CobaContext.logger.time('Materializing environment...')"]

def TryRow.silent (r : TryRow) : Bool := !r.runsOnAbandon && (r.kind != "with" || r.names.all (fun m => resourceManagers.contains m))

def abandonTable : List TryRow :=
  [⟨"coba/environments/serialized.py", "ZipMemberToObjects.read", "try", ["EOFError"], false⟩,
   ⟨"coba/environments/serialized.py", "ZipMemberToObjects.read", "with", ["ZipFile(self._zip)"], false⟩,
   ⟨"coba/environments/serialized.py", "ZipMemberToObjects.read", "with", ["z.open(self._member)"], false⟩,
   ⟨"coba/environments/serialized.py", "EnvironmentsToObjects.filter", "with", ["CobaContext.logger.time('Materializing environment...')"], false⟩,
   ⟨"coba/pipes/filters.py", "Cache.filter", "try", ["Exception"], false⟩,
   ⟨"coba/pipes/sources.py", "DiskSource.read", "with", ["opener(self._path, self._mode)"], false⟩,
   ⟨"coba/pipes/sources.py", "QueueSource.read", "try", ["BrokenPipeError", "EOFError", "TypeError"], false⟩]

def TryRow.tuple (r : TryRow) : String × String × String × List String × Bool := (r.file, r.fn, r.kind, r.names, r.fin)

/-- what the driver answers when the harness reports that a source line of `fn` ran while an abandoned read was being closed:
`header` = an `except …:` line was tested (and did not match), `with` = a `with` statement was left, anything else = stage code ran -/
def abandonObsAllowed (file fn kind : String) : Bool :=
  if kind == "header" then abandonTable.any (fun r => r.file == file && r.fn == fn && r.kind == "try" && !r.runsOnAbandon)
  else if kind == "with" then abandonTable.any (fun r => r.file == file && r.fn == fn && r.kind == "with" && r.silent)
  else false

/-- what the code around the `yield`s of `pipes.Cache.filter` does when the generator is closed there: nothing (the source:
`except Exception` does not see `GeneratorExit`), the handler's reset `_iter = _cache = None; raise` (a handler that catches it),
or — hypothetical — a `finally: self._iter = None` -/
inductive ExitAct | nothing | reset | dropIter
deriving DecidableEq, Repr

def cacheExitAct (handlers : List String) : ExitAct := if handlers.any catchesExit then .reset else .nothing

def cacheStepX (x : ExitAct) (sz : Option Nat) (c r : List Item) : Demand → CacheSt × Demand
  | .pull k =>
    match x with
    | .nothing => cacheStep sz c r (.pull k)
    | .reset => (.unread, (cacheStep sz c r (.pull k)).2)
    | .dropIter =>
      match cacheStep sz c r (.pull k) with
      | (.prog c' _, d) => (.done c', d)
      | p => p
  | d => cacheStep sz c r d

/-- one read session of a `pipes.Cache` over the upstream sequence `u`, driven as far as `d` (the cache case of `nodeStep`,
with the exit action made explicit) -/
def cacheSessX (x : ExitAct) (sz : Option Nat) (u : List Item) (st : CacheSt) (d : Demand) : CacheSt :=
  match d, st with
  | .none, st => st
  | _, .done c => .done c
  | d, .unread => (cacheStepX x sz [] u d).1
  | d, .prog c r => (cacheStepX x sz c r d).1

/-- the buffer together with what the saved iterator still holds is the upstream sequence -/
def CacheOK (u : List Item) : CacheSt → Prop
  | .unread => True
  | .prog c r => c ++ r = u
  | .done c => c = u


end Coba.C04
