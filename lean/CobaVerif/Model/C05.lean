/-
Model of `coba/random.py` (class `CobaRandom`).  Import-free (core Lean only).

The uniform stream is the LCG  s' = (a*s + c) mod m,  u = s'/m  with the constants below
(`Generated/LcgConsts.lean` re-extracts them from the source on every run and the two are
compared by `decide`).  Floats are modelled by exact rationals (`Rat`); see DESIGN §2.2 for
the three devices that relate this to IEEE doubles.
-/
namespace Coba.C05

def A : Nat := 116646453
def C : Nat := 9
def M : Nat := 1073741824   -- 2^30

/-- one LCG step on a normalised state -/
def next (s : Nat) : Nat := (A * s + C) % M

/-- numerator of the uniform produced by state `s` *after* stepping; the uniform is `k/M` -/
def unum (s : Nat) : Nat := next s

def u (s : Nat) : Rat := (unum s : Rat) / (M : Rat)

/-- seed normalisation: Python computes `(a*seed+c) & (m-1)` on an arbitrary (possibly
negative) int; this is `(a*(seed mod m)+c) mod m`. -/
def normInt (seed : Int) : Nat := (seed % (M : Int)).toNat

/-- `int.from_bytes(bs,'big') % 2**20` for the non-integer seeds (`bs = str(seed).encode()`). -/
def fromBytes (bs : List Nat) : Nat := bs.foldl (fun acc b => acc * 256 + b) 0
def normBytes (bs : List Nat) : Nat := fromBytes bs % 1048576

/-! ### uniform consumers -/

/-- `random(min,max) = min + (max-min)*u` -/
def random (s : Nat) (lo hi : Rat) : Nat × Rat := (next s, lo + (hi - lo) * u s)

/-- `randoms(n,min,max)` -/
def randoms : Nat → Nat → Rat → Rat → Nat × List Rat
  | s, 0, _, _ => (s, [])
  | s, n+1, lo, hi =>
    let (s1, x) := random s lo hi
    let (s2, xs) := randoms s1 n lo hi
    (s2, x :: xs)

/-- `floor(n*u)` for a natural `n`: `(n * k) / M` -/
def scaled (s : Nat) (n : Nat) : Nat := (n * unum s) / M

/-- `randint(a,b) = a + floor((b-a+1)*u)`; for `b-a+1 ≤ 0` Python's floor of a non-positive
product is modelled with integer floor division. -/
def randint (s : Nat) (a b : Int) : Nat × Int :=
  (next s, a + ((b - a + 1) * (unum s : Int)) / (M : Int))

def randints : Nat → Nat → Int → Int → Nat × List Int
  | s, 0, _, _ => (s, [])
  | s, n+1, a, b =>
    let (s1, x) := randint s a b
    let (s2, xs) := randints s1 n a b
    (s2, x :: xs)

/-- Durstenfeld step seen recursively: with `j = floor(len*u)` the element at `j` of `x::xs`
becomes the head and `x` takes its place; then the tail is shuffled.  No uniform is drawn for
a list of length < 2 (Python: `range(n,1,-1)` is exhausted first). -/
def shuffle {α} : Nat → List α → Nat × List α
  | s, [] => (s, [])
  | s, [x] => (s, [x])
  | s, x :: y :: r =>
    let xs := y :: r
    let j := scaled s (xs.length + 1)
    match j with
    | 0 =>
      let (s', t) := shuffle (next s) xs
      (s', x :: t)
    | j'+1 =>
      match xs[j']? with
      | some z =>
        let (s', t) := shuffle (next s) (xs.set j' x)
        (s', z :: t)
      | none =>       -- unreachable (j < len), kept total
        let (s', t) := shuffle (next s) xs
        (s', x :: t)
termination_by _ l => l.length
decreasing_by all_goals simp_all <;> omega

/-- swap of positions `i` and `j` as the Python statement `l[i], l[j] = l[j], l[i]` -/
def swapAt {α} (l : List α) (i j : Nat) : List α :=
  match l[i]?, l[j]? with
  | some a, some b => (l.set i b).set j a
  | _, _ => l

/-- the loop of `CobaRandom.shuffle` as written: for i = 0 … n-2, j = i + floor((n-i)*u), swap -/
def shuffleLoopGo {α} : Nat → List α → Nat → Nat → Nat × List α
  | s, l, _, 0 => (s, l)
  | s, l, i, k+1 =>
    let j := i + scaled s (l.length - i)
    shuffleLoopGo (next s) (swapAt l i j) (i+1) k

def shuffleLoop {α} (s : Nat) (l : List α) : Nat × List α := shuffleLoopGo s l 0 (l.length - 1)

/-- running sums, `itertools.accumulate` -/
def accumulate : Rat → List Rat → List Rat
  | _, [] => []
  | acc, w :: ws => (acc + w) :: accumulate (acc + w) ws

/-- index of the first cumulative weight `c` with `r < c` (the code's `__lt__`) -/
def firstLt (r : Rat) : List Rat → Nat → Option Nat
  | [], _ => none
  | c :: cs, i => if r < c then some i else firstLt r cs (i+1)

def sum (ws : List Rat) : Rat := ws.foldl (· + ·) 0

inductive Err | valueError | indexError | stopIteration | zeroDivision
deriving Repr, DecidableEq

/-- `choice(seq, weights)` returning the chosen *index* into a sequence of length `n`.
`weights = none` is Python's `None`. -/
def choice (s : Nat) (n : Nat) (weights : Option (List Rat)) : Except Err (Nat × Nat) :=
  match weights with
  | none =>
    if n = 0 then .error .indexError   -- `seq[0]` on an empty sequence (a uniform was drawn)
    else .ok (next s, scaled s n)
  | some ws =>
    if ws ≠ [] ∧ ws.length ≠ n then .error .valueError
    else
      let tot := sum ws
      if tot = 0 then .error .valueError
      else
        match firstLt (u s * tot) (accumulate 0 ws) 0 with
        | some i => if i < n then .ok (next s, i) else .error .stopIteration
        | none => .error .stopIteration

/-- `choicew(seq, weights)`: index and the reported weight -/
def choicew (s : Nat) (n : Nat) (weights : Option (List Rat)) : Except Err (Nat × Nat × Rat) :=
  match weights with
  | none =>
    match choice s n none with
    | .ok (s', i) => if n = 0 then .error .zeroDivision else .ok (s', i, 1 / (n : Rat))
    | .error e => .error e
  | some ws =>
    match choice s n (some ws) with
    | .ok (s', i) =>
      match ws[i]? with
      | some w => .ok (s', i, w)
      | none => .error .indexError
    | .error e => .error e

/-! ### Box–Muller bookkeeping.  The transcendental part is not modelled: a gaussian value is
described by the two uniform numerators it is computed from and whether it is the `cos` or the
`sin` member of the pair.  `log 0` is the only domain error. -/

structure GaussDesc where
  k1 : Nat
  k2 : Nat
  isCos : Bool
deriving Repr, DecidableEq

structure Gen where
  s : Nat
  /-- the buffered second member of the last Box–Muller pair, if not yet consumed -/
  buf : Option GaussDesc := none
deriving Repr

/-- the state from which `U` is finally taken: `while U == 0: U = next(randu)`.  A zero uniform
is followed by the uniform `9/2^30` (`Props.C05.redraw_nonzero`), so the loop body runs at most
once and is modelled by one conditional redraw. -/
def skipZero (s : Nat) : Nat := if unum s = 0 then next s else s

def gauss1 (g : Gen) : Gen × GaussDesc :=
  match g.buf with
  | some d => ({ g with buf := none }, d)
  | none =>
    let s0 := skipZero g.s
    let k1 := unum s0
    let s1 := next s0
    let k2 := unum s1
    ({ s := next s1, buf := some ⟨k1, k2, false⟩ }, ⟨k1, k2, true⟩)

def gausses : Gen → Nat → Gen × List GaussDesc
  | g, 0 => (g, [])
  | g, n+1 =>
    let (g1, d) := gauss1 g
    let (g2, ds) := gausses g1 n
    (g2, d :: ds)

/-! ### operations and multi-instance histories -/

inductive Op
  | random (lo hi : Rat)
  | randoms (n : Nat) (lo hi : Rat)
  | randint (a b : Int)
  | randints (n : Nat) (a b : Int)
  | shuffle (n : Nat)
  | choice (n : Nat) (w : Option (List Rat))
  | choicew (n : Nat) (w : Option (List Rat))
  | gauss
  | gausses (n : Nat)
deriving Repr

inductive Out
  | rat (q : Rat)
  | rats (qs : List Rat)
  | int (i : Int)
  | ints (is : List Int)
  | perm (p : List Nat)
  | idx (i : Nat)
  | idxw (i : Nat) (w : Rat)
  | gauss (ds : List GaussDesc)
  | err (e : Err)
deriving Repr

/-- one call on one instance; an error leaves the uniform stream where the code leaves it, a bare `StopIteration` apart
(the code has drawn one uniform by then: `stepE` below) -/
def step (g : Gen) : Op → Gen × Out
  | .random lo hi => let (s', x) := random g.s lo hi; ({ g with s := s' }, .rat x)
  | .randoms n lo hi => let (s', xs) := randoms g.s n lo hi; ({ g with s := s' }, .rats xs)
  | .randint a b => let (s', x) := randint g.s a b; ({ g with s := s' }, .int x)
  | .randints n a b => let (s', xs) := randints g.s n a b; ({ g with s := s' }, .ints xs)
  | .shuffle n => let (s', p) := shuffleLoop g.s (List.range n); ({ g with s := s' }, .perm p)
  | .choice n w =>
    match choice g.s n w with
    | .ok (s', i) => ({ g with s := s' }, .idx i)
    | .error .indexError => ({ g with s := next g.s }, .err .indexError)
    | .error e => (g, .err e)
  | .choicew n w =>
    match choicew g.s n w with
    | .ok (s', i, x) => ({ g with s := s' }, .idxw i x)
    | .error .indexError => ({ g with s := next g.s }, .err .indexError)
    | .error e => (g, .err e)
  | .gauss => let (g', d) := gauss1 g; (g', .gauss [d])
  | .gausses n => let (g', ds) := gausses g n; (g', .gauss ds)

/-- a history: calls tagged with the instance they are made on -/
abbrev Hist := List (Nat × Op)

/-- run a history over a family of instances (`st i` = state of instance `i`) -/
def run (st : Nat → Gen) : Hist → List (Nat × Out)
  | [] => []
  | (i, op) :: h =>
    let (g', o) := step (st i) op
    (i, o) :: run (fun j => if j = i then g' else st j) h

/-- run the calls of one instance alone -/
def runOne (g : Gen) : List Op → List Out
  | [] => []
  | op :: ops => let (g', o) := step g op; o :: runOne g' ops

/-! ### Phase 4: the module-level generator, re-seeding and pickling

`coba/random.py` keeps ONE module-level generator `_random`; `coba.random.seed(s)` REPLACES it by a
fresh `CobaRandom(s)` (uniform stream *and* gaussian buffer start anew) and every other module
function `f(args)` is `_random.f(args)`.  `CobaRandom.__reduce__` pickles `(CobaRandom,(self._seed,))`:
the unpickled object is `CobaRandom(self._seed)` — the seed is restored, the position is not. -/

/-- a generator object that remembers the (normalised) seed it was built from (`self._seed`) -/
structure Inst where
  seed0 : Nat
  g : Gen
deriving Repr

/-- `CobaRandom(s)` for a normalised seed `s` -/
def fresh (s : Nat) : Inst := { seed0 := s, g := { s := s } }

inductive Call
  /-- a method call, or the module function of the same name on the global -/
  | op (o : Op)
  /-- `coba.random.seed(s)`: the global is replaced by `CobaRandom(s)` -/
  | reseed (s : Nat)
  /-- the object is replaced by `pickle.loads(pickle.dumps(self))`, i.e. `CobaRandom(self._seed)` -/
  | repickle
deriving Repr

def cstep (x : Inst) : Call → Inst × Option Out
  | .op o => let (g', out) := step x.g o; ({ x with g := g' }, some out)
  | .reseed s => (fresh s, none)
  | .repickle => (fresh x.seed0, none)

/-- the calls of one object alone -/
def crunOne (x : Inst) : List Call → List Out
  | [] => []
  | c :: cs =>
    let (x', o) := cstep x c
    match o with
    | some out => out :: crunOne x' cs
    | none => crunOne x' cs

/-- the object after a list of calls -/
def cafter (x : Inst) : List Call → Inst
  | [] => x
  | c :: cs => cafter (cstep x c).1 cs

/-- a history over a family of objects (one index is the module-level global) -/
def crun (st : Nat → Inst) : List (Nat × Call) → List (Nat × Out)
  | [] => []
  | (i, c) :: h =>
    let (x', o) := cstep (st i) c
    let rest := crun (fun j => if j = i then x' else st j) h
    match o with
    | some out => (i, out) :: rest
    | none => rest

/-- `n` single `gauss()` calls -/
def gaussIter : Gen → Nat → Gen × List GaussDesc
  | g, 0 => (g, [])
  | g, n+1 =>
    let (g1, o) := step g .gauss
    let (g2, ds) := gaussIter g1 n
    match o with
    | .gauss d => (g2, d ++ ds)
    | _ => (g2, ds)

/-- seed normalisation of `CobaRandom.__init__` as a function of the kind of seed object:
`int` (incl. `bool`) and integral `float` go through `int(seed)`; everything else through
`str(seed or time.time())` bytes (the harness supplies `str(seed)` as bytes). -/
inductive SeedObj
  | int (z : Int)
  | integralFloat (z : Int)
  | other (strBytes : List Nat)
deriving Repr

/-- the value stored in `self._seed` -/
def seedAttr : SeedObj → Int
  | .int z => z
  | .integralFloat z => z
  | .other bs => (normBytes bs : Nat)

/-- the LCG state the stream starts from -/
def seedState : SeedObj → Nat
  | .int z => normInt z
  | .integralFloat z => normInt z
  | .other bs => normBytes bs

/-- modulus used for non-integer seeds (`% 2**20`) -/
def strMod : Nat := 1048576

/-! ### source-level facts the model relies on (translator tie, `Generated/C05Source.lean`)
Each entry names a place in `coba/random.py` and the literal / name the model assumes there:
the seed-normalisation branches of `CobaRandom.__init__`, the step and yield of `_next_uniform`,
the comparator of the weighted `choice`, what `__reduce__` stores, which module functions
delegate to the method of the same name on `_random`, and the default bounds. -/
def srcFacts : List (String × String) :=
  [("init.int_types", "int"), ("init.float_guard", "float.is_integer"), ("init.int_conv", "int"),
   ("init.str_conv", "str"), ("init.encoding", "utf-8"), ("init.byteorder", "big"),
   ("init.falsy_fallback", "time.time"), ("uniform.step_op", "&"), ("uniform.yield_op", "/"),
   ("choice.cmp", "__lt__"), ("choice.unweighted_conv", "int"), ("reduce.args", "_seed"),
   ("module.seed", "_random=CobaRandom(seed)"),
   ("module.delegates", "random,randoms,shuffle,randint,randints,choice,choicew,gauss,gausses"),
   ("gauss.zero_guard", "while U == 0")]

def srcNums : List (String × Int) :=
  [("init.str_mod", 1048576), ("uniform.mask_sub", 1),
   ("default.random.min", 0), ("default.random.max", 1),
   ("default.randoms.min", 0), ("default.randoms.max", 1),
   ("default.gauss.mu", 0), ("default.gauss.sigma", 1),
   ("default.gausses.mu", 0), ("default.gausses.sigma", 1),
   ("gauss.log_coef", -2), ("gauss.angle_coef", 2), ("randint.plus", 1), ("randints.plus", 1)]

/-! ### Phase 4 (continued): error paths of `choice`/`choicew` exactly as the code leaves the stream

`choice` validates the lengths and the total BEFORE `next(self._randu)` is evaluated (ValueError: stream
untouched), but the empty-sequence `IndexError` (unweighted) and the bare `StopIteration` of
`next(compress(…))` (nothing found: negative total) are raised AFTER the uniform was drawn.  `step`
(kept as it was) advances only for `IndexError`; `stepE` is the exact version the driver runs. -/

/-- does this error surface after the uniform was drawn? -/
def errConsumes : Err → Bool
  | .indexError => true
  | .stopIteration => true
  | .valueError => false
  | .zeroDivision => false

def stepE (g : Gen) : Op → Gen × Out
  | .choice n w =>
    match choice g.s n w with
    | .ok (s', i) => ({ g with s := s' }, .idx i)
    | .error e => (if errConsumes e then { g with s := next g.s } else g, .err e)
  | .choicew n w =>
    match choicew g.s n w with
    | .ok (s', i, x) => ({ g with s := s' }, .idxw i x)
    | .error e => (if errConsumes e then { g with s := next g.s } else g, .err e)
  | o => step g o

/-- the phase-4 runners, parametrised by the single-call semantics `f` (`step` or `stepE`) -/
def cstepW (f : Gen → Op → Gen × Out) (x : Inst) : Call → Inst × Option Out
  | .op o => let (g', out) := f x.g o; ({ x with g := g' }, some out)
  | .reseed s => (fresh s, none)
  | .repickle => (fresh x.seed0, none)

def crunOneW (f : Gen → Op → Gen × Out) (x : Inst) : List Call → List Out
  | [] => []
  | c :: cs =>
    let (x', o) := cstepW f x c
    match o with
    | some out => out :: crunOneW f x' cs
    | none => crunOneW f x' cs

def cafterW (f : Gen → Op → Gen × Out) (x : Inst) : List Call → Inst
  | [] => x
  | c :: cs => cafterW f (cstepW f x c).1 cs

def crunW (f : Gen → Op → Gen × Out) (st : Nat → Inst) : List (Nat × Call) → List (Nat × Out)
  | [] => []
  | (i, c) :: h =>
    let (x', o) := cstepW f (st i) c
    let rest := crunW f (fun j => if j = i then x' else st j) h
    match o with
    | some out => (i, out) :: rest
    | none => rest

def runOneW (f : Gen → Op → Gen × Out) (g : Gen) : List Op → List Out
  | [] => []
  | op :: ops => let (g', o) := f g op; o :: runOneW f g' ops

/-! ### Phase 5: how `pipes.filters.Reservoir` walks the stream

`Reservoir(count,seed).filter` creates `CobaRandom(seed)`, shuffles the first `count` items in place and then
walks `batched_randoms_forever(20)`: again and again `randoms(3*batch_size)`, handed out as the slices
`randoms[i:i+3]` for `i in range(0,3*batch_size,3)`.  Uniforms are represented by their numerators. -/

/-- the generator state after `n` uniforms have been drawn -/
def adv : Nat → Nat → Nat
  | s, 0 => s
  | s, n+1 => adv (next s) n

/-- numerators of the values of `randoms(n)` -/
def unums : Nat → Nat → List Nat
  | _, 0 => []
  | s, n+1 => unum s :: unums (next s) n

/-- `[randoms[i:i+3] for i in range(0,len(randoms),3)]` restricted to complete triples (what `for r1,r2,r3 in` accepts;
also what `zip(it,it,it)` yields) -/
def chunk3 : List Nat → List (Nat × Nat × Nat)
  | a :: b :: c :: t => (a, b, c) :: chunk3 t
  | _ => []

/-- the triples handed out by the first `k` batches when every batch draws `n` uniforms (the code: `n = 3*batch_size`) -/
def batchedTriples (n : Nat) : Nat → Nat → List (Nat × Nat × Nat)
  | _, 0 => []
  | s, k+1 => chunk3 (unums s n) ++ batchedTriples n (adv s n) k

/-- spec: `j` consecutive triples of the seed's stream, no value skipped, none used twice -/
def streamTriples : Nat → Nat → List (Nat × Nat × Nat)
  | _, 0 => []
  | s, j+1 => (unum s, unum (next s), unum (next (next s))) :: streamTriples (next (next (next s))) j

/-- what Reservoir consumes: the in-place shuffle of the first `count` items, then `k` batches of `batch` triples -/
def reservoirWalk (s count batch k : Nat) : List Nat × List (Nat × Nat × Nat) :=
  let r := shuffle s (List.range count)
  (r.2, batchedTriples (3 * batch) r.1 k)

/-- literals of `Reservoir.filter` the walk depends on (translator tie, `Generated/C05Reservoir.lean`) -/
def resNums : List (String × Int) :=
  [("draw_mult", 3), ("range_mult", 3), ("range_step", 3), ("slice_width", 3), ("targets", 3), ("batch_size", 20),
   ("shuffle_inplace", 1)]
def resBatch : Nat := 20

/-- the Box–Muller expressions of coba/random.py the model (`gauss1`, `GaussDesc`, `Lemmas/C05Real.lean`) is written for: which
function is applied to what, the order of the two yields, how `mu`/`sigma` enter (translator tie beyond the two coefficients of `srcNums`) -/
def srcGauss : List (String × String) :=
  [("R.outer", "math.sqrt"), ("R.inner", "math.log"), ("R.arg", "U"), ("S.const", "math.pi"), ("S.draw", "next(self._randu)"),
   ("U.draw", "next(self._randu)"), ("yield.0", "R*math.cos(S)"), ("yield.1", "R*math.sin(S)"),
   ("gauss.scale", "self.gausses(1,mu,sigma)[0]"), ("gausses.scale", "mu+sigma*g for g in islice(self._randg,n)")]

/-! ### Phase 6: the filters of coba/pipes/filters.py that own a generator (`Shuffle`, every path of `Reservoir`)

`Shuffle(seed).filter(items)` and `Reservoir(count,strict,seed).filter(items)` create `CobaRandom(self._seed)` INSIDE every
`filter` call; the filter object itself holds only the seed.  Items are `range(n)`; seeds are already normalised states. -/

inductive Flt
  | shuffle (s : Nat)
  | reservoir (count : Option Nat) (strict : Bool) (s : Nat)
deriving Repr

/-- the result of one `filter` call: a finished list, or (Reservoir with at least `count` items) the shuffled first `count`
items together with the generator state from which Algorithm L takes its triples (`batchedTriples`) -/
inductive FltOut
  | items (l : List Nat)
  | walk (perm : List Nat) (s : Nat)
deriving Repr, DecidableEq

/-- what a new `CobaRandom(seed)` returns for `shuffle(list(range(n)))` -/
def shuffleFilter (s n : Nat) : List Nat := (shuffle (fresh s).g.s (List.range n)).2

/-- the branches of `Reservoir.filter` in source order: `count == 0`, `count is None`, fewer than `count` items
(`[] if strict else shuffle`), otherwise in-place shuffle of the first `count` items and the walk -/
def fltOut : Flt → Nat → FltOut
  | .shuffle s, n => .items (shuffleFilter s n)
  | .reservoir none _ s, n => .items (shuffleFilter s n)
  | .reservoir (some c) strict s, n =>
    if c = 0 then .items []
    else if n < c then (if strict then .items [] else .items (shuffleFilter s n))
    else .walk (shuffleFilter s c) (shuffle (fresh s).g.s (List.range c)).1

/-- one `filter(range(n))` call on object number `o` of a collection; below: a history of `filter` calls `(object, n)` on a collection of filter objects: the objects carry no generator, so every call
starts from its object's seed -/
def fltAt (objs : List Flt) (o n : Nat) : FltOut :=
  match objs[o]? with | some f => fltOut f n | none => .items []

def fltRun (objs : List Flt) : List (Nat × Nat) → List FltOut
  | [] => []
  | (o, n) :: h => fltAt objs o n :: fltRun objs h

/-- what the model assumes about the two `filter` bodies (translator tie, `Generated/C05Filters.lean`) -/
def fltNums : List (String × Int) :=
  [("shuffle.rng_in_filter", 1), ("shuffle.rng_from_self_seed", 1), ("shuffle.inplace", 1), ("shuffle.copies_input", 1),
   ("reservoir.rng_in_filter", 1), ("reservoir.rng_from_self_seed", 1), ("reservoir.zero_const", 0), ("reservoir.zero_is_first", 1),
   ("reservoir.none_inplace", 0), ("reservoir.fill_islice_count", 1), ("reservoir.short_is_lt", 1), ("reservoir.short_strict_empty", 1),
   ("reservoir.short_else_inplace", 1)]

end Coba.C05
