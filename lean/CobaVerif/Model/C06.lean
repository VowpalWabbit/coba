/-
C06 — Sequential evaluation feeds and records exactly what the environment provides.

Executable model `M` of `SequentialCB.evaluate` (coba/evaluators/sequential.py) together with
the parts of `Finalize`, `OpeRewards('IPS')`, `BatchSafe`, `Unbatch` it relies on, and the spec
`S` (what the property demands).  Imports only `Model/C05` (`choicew`); compiled into the driver.

Reading of the code that is mirrored (with the repairs of fixes/C06-*.diff applied):
* an interaction is a Python dict  → `Dict (Fld V R)` (association list, insertion order);
* a learner is a Mealy machine over an abstract state `σ` (`Learner σ V`); `SafeLearner`'s
  prediction-format parsing is C15's subject and is the identity here;
* `_required`/`_validate`     → `required`, `validate`;
* `Finalize`                  → `finalize` (sequence rewards become `DiscreteReward(actions, rewards)`);
* `OpeRewards('IPS', target)` → `opeIps` (adds `BinaryReward(action, reward/(probability or 1))`);
* the body of the `for interaction in interactions` loop → `prep` (look-ups), `predictPhase`,
  `scorePhase`, `learnPhase`, `mkRow`; Python's accumulate-and-yield loops are `foldl`s;
* batching: `chunks` (Batch re-groups by the first batch's size), one `stepChunk` per batch,
  `Unbatch` of the rows is the concatenation of the per-row rows;
* of the timing columns only the presence is modelled (`timeKeys`); the harness removes them.
`V` = opaque values (contexts, actions, extra fields, kwargs) with decidable equality
(Python `==`), `R` = reward-function objects with an evaluation map (`RewardFn`).

PMF answers: `SafeLearner` turns a PMF over the action list into (action, probability) by drawing with its own
`CobaRandom(seed)` — `Coba.C05.choicew` of the finished C05 model; see `wrapPmf`.
-/
import CobaVerif.Model.C05

namespace Coba.C06

/-! ## Python-ish dictionaries -/

abbrev Dict (α : Type) := List (String × α)

namespace Dict
variable {α : Type}

def get? (d : Dict α) (k : String) : Option α :=
  match d with
  | [] => none
  | (k', v) :: rest => if k' = k then some v else get? rest k

def has (d : Dict α) (k : String) : Bool := (d.get? k).isSome

/-- `d[k] = v` : replace in place when the key exists, append otherwise -/
def set (d : Dict α) (k : String) (v : α) : Dict α :=
  match d with
  | [] => [(k, v)]
  | (k', v') :: rest => if k' = k then (k, v) :: rest else (k', v') :: set rest k v

def keys (d : Dict α) : List String := d.map (·.1)

end Dict

/-! ## Configuration -/

inductive LearnMode | on | off | ips | none
  deriving DecidableEq, Repr

inductive EvalMode | on | ips | none
  deriving DecidableEq, Repr

structure Config where
  learn : LearnMode
  eval : EvalMode
  record : List String
  deriving Repr

def Config.rcd (c : Config) (name : String) : Bool := c.record.contains name

/-! ## Values flowing through an evaluation -/

/-- reward-function objects are abstract; all that is used is their value at an action -/
class RewardFn (R V : Type) where
  app : R → V → Rat

/-- a field of an interaction -/
inductive Fld (V R : Type) where
  | val (v : V)                              -- any opaque value
  | none                                     -- Python `None`
  | acts (as : List V)                       -- an action list
  | num (q : Rat)                            -- a number (logged reward / probability)
  | rlist (rs : List Rat)                    -- sequence rewards, aligned with `actions`
  | rfn (f : R)                              -- functional rewards
  | disc (as : List V) (rs : List Rat)       -- `DiscreteReward(actions, rewards)` made by Finalize
  | ips (a : Option V) (v : Rat)             -- `BinaryReward(action, value)` made by OpeRewards('IPS')
  deriving DecidableEq

structure Pred (V : Type) where
  action : V
  prob : Option Rat
  kw : Dict V

structure Learner (σ V : Type) where
  hasScore : Bool
  predict : σ → Option V → Option (List V) → σ × Pred V
  score : σ → Option V → Option (List V) → Option V → σ × Rat
  learn : σ → Option V → Option V → Option Rat → Option Rat → Dict V → σ

/-- what the learner sees -/
inductive Call (V : Type) where
  | predict (ctx : Option V) (acts : Option (List V))
  | score (ctx : Option V) (acts : Option (List V)) (a : Option V)
  | learn (ctx : Option V) (a : Option V) (r : Option Rat) (p : Option Rat) (kw : Dict V)
  deriving DecidableEq

/-- a cell of a result row -/
inductive Cell (V R : Type) where
  | val (v : Option V)                        -- recorded context / chosen action
  | acts (as : Option (List V))               -- recorded action list
  | num (q : Option Rat)                      -- recorded reward / probability
  | nums (qs : List Rat)                      -- recorded rewards of a discrete interaction
  | fld (f : Fld V R)                         -- an interaction field carried over unchanged
  deriving DecidableEq

abbrev Row (V R : Type) := Dict (Cell V R)

inductive Err where
  | keyError (k : String)
  | badField (k : String)                     -- a field of the wrong shape (TypeError &c.)
  | rewardsMismatch                           -- DiscreteReward: len(actions) != len(rewards)
  | notCallable
  deriving DecidableEq, Repr

/-! ## `_required`, `_validate` and the flags computed from the first interaction -/

def implicitExclude : List String :=
  ["context", "actions", "rewards", "action", "reward", "probability", "eval_rewards", "learn_rewards"]

def outAction (c : Config) : Bool := c.rcd "action" && c.eval != .none
def outProb (c : Config) : Bool := c.rcd "probability" && c.eval != .none

/-- `should_pred` -/
def shouldPred (c : Config) (hasScore : Bool) : Bool :=
  (c.learn != .none && c.learn != .off) || c.eval == .on || (c.eval == .ips && !hasScore)
    || outAction c || outProb c

/-- `_required(has_score)` (with the repair that a prediction forced by the record options also
needs `actions`) -/
def required (c : Config) (hasScore : Bool) : List String :=
  let pred := (c.learn != .none && c.learn != .off) || (c.eval != .none && (c.eval != .ips || !hasScore))
                || outAction c || outProb c
  let off := (c.learn != .none && c.learn != .on) || (c.eval != .none && c.eval != .on)
  let rwds := c.learn == .on || c.eval == .on
  (if pred then ["actions"] else []) ++ (if off then ["action", "reward"] else [])
    ++ (if rwds then ["rewards"] else [])

variable {V R : Type}

def missingKeys (c : Config) (hasScore : Bool) (first : Dict (Fld V R)) : List String :=
  (required c hasScore).filter (fun k => !first.has k)

structure Flags where
  hasContext : Bool
  hasActions : Bool
  hasRewards : Bool
  hasReward : Bool
  hasAction : Bool
  hasProb : Bool
  discrete : Bool
  rwdsIsList : Bool
  deriving Repr, DecidableEq

def isDiscrete (first : Dict (Fld V R)) : Bool :=
  match first.get? "actions" with
  | some (.acts as) => !as.isEmpty
  | _ => false

def isRList : Option (Fld V R) → Bool
  | some (.rlist _) => true
  | _ => false

def mkFlags (first : Dict (Fld V R)) : Flags :=
  { hasContext := first.has "context", hasActions := first.has "actions", hasRewards := first.has "rewards",
    hasReward := first.has "reward", hasAction := first.has "action", hasProb := first.has "probability",
    discrete := isDiscrete first, rwdsIsList := isRList (first.get? "rewards") }

/-! ## Reward objects -/

/-- `DiscreteReward((actions, rewards))(a)`: the reward at the first position holding `a`, else 0 -/
def discApp [DecidableEq V] : List V → List Rat → V → Rat
  | a' :: as, r :: rs, a => if a' = a then r else discApp as rs a
  | _, _, _ => 0

/-- calling a reward object -/
def applyRwd [DecidableEq V] [RewardFn R V] : Option (Fld V R) → Option V → Except Err Rat
  | some (.rfn f), some a => .ok (RewardFn.app f a)
  | some (.disc as rs), some a => .ok (discApp as rs a)
  | some (.ips alog v), a => .ok (if alog = a then v else 0)
  | _, _ => .error .notCallable

/-! ## Filters applied to every interaction before the loop -/

/-- `Finalize`: sequence rewards become a `DiscreteReward` over this interaction's actions -/
def finalize (rwdsIsList : Bool) (d : Dict (Fld V R)) : Except Err (Dict (Fld V R)) :=
  if rwdsIsList then
    match d.get? "actions", d.get? "rewards" with
    | some (.acts as), some (.rlist rs) =>
      if as.length = rs.length then .ok (d.set "rewards" (.disc as rs)) else .error .rewardsMismatch
    | none, _ => .error (.keyError "actions")
    | _, none => .error (.keyError "rewards")
    | _, _ => .error (.badField "rewards")
  else .ok d

/-- `interaction.get('probability') or 1` -/
def probOr1 : Option (Fld V R) → Except Err Rat
  | none => .ok 1
  | some .none => .ok 1
  | some (.num p) => .ok (if p = 0 then 1 else p)
  | _ => .error (.badField "probability")

def fldAction : Option (Fld V R) → Except Err (Option V)
  | some (.val a) => .ok (some a)
  | some .none => .ok none
  | none => .error (.keyError "action")
  | _ => .error (.badField "action")

def fldReward : Option (Fld V R) → Except Err (Option Rat)
  | some (.num r) => .ok (some r)
  | some .none => .ok none
  | none => .error (.keyError "reward")
  | _ => .error (.badField "reward")

/-- `OpeRewards('IPS', target)`: `d[target] = BinaryReward(d['action'], d['reward']/(d.get('probability') or 1))` -/
def opeIps (target : String) (d : Dict (Fld V R)) : Except Err (Dict (Fld V R)) := do
  let a ← fldAction (d.get? "action")
  let r ← fldReward (d.get? "reward")
  let p ← probOr1 (d.get? "probability")
  match r with
  | some r => pure (d.set target (.ips a (r / p)))
  | none => throw (.badField "reward")

def learnIps (c : Config) : Bool := c.learn == .ips
def evalIpsOwn (c : Config) : Bool := c.eval == .ips && c.learn != .ips
def evalTarget (c : Config) : String := if evalIpsOwn c then "eval_rewards" else "learn_rewards"

/-- the filter pipeline of `evaluate`/`_results` on one interaction -/
def opeIf (on : Bool) (target : String) (d : Dict (Fld V R)) : Except Err (Dict (Fld V R)) :=
  if on then opeIps target d else .ok d

def pipeline (c : Config) (fl : Flags) (d : Dict (Fld V R)) : Except Err (Dict (Fld V R)) := do
  let d1 ← finalize fl.rwdsIsList d
  let d2 ← opeIf (learnIps c) "learn_rewards" d1
  opeIf (evalIpsOwn c) "eval_rewards" d2

/-! ## The loop body -/

/-- what the loop body reads from one (filtered) interaction -/
structure RowIn (V R : Type) where
  ctx : Option V
  acts : Option (List V)
  rewards : Option (Fld V R)
  offRwd : Option Rat
  offAct : Option V
  offPr : Option Rat
  lrnRwds : Option (Fld V R)
  valRwds : Option (Fld V R)
  extras : Dict (Fld V R)

def getVal (k : String) : Option (Fld V R) → Except Err (Option V)
  | some (.val v) => .ok (some v)
  | some .none => .ok none
  | none => .error (.keyError k)
  | _ => .error (.badField k)

def getActs : Option (Fld V R) → Except Err (Option (List V))
  | some (.acts as) => .ok (some as)
  | some .none => .ok none
  | none => .error (.keyError "actions")
  | _ => .error (.badField "actions")

def getNum (k : String) : Option (Fld V R) → Except Err (Option Rat)
  | some (.num q) => .ok (some q)
  | some .none => .ok none
  | none => .error (.keyError k)
  | _ => .error (.badField k)

/-- `d.get(k)`: an absent key reads as `None` -/
def getNumOpt (k : String) : Option (Fld V R) → Except Err (Option Rat)
  | some (.num q) => .ok (some q)
  | some .none => .ok none
  | none => .ok none
  | _ => .error (.badField k)

def getAny (k : String) : Option (Fld V R) → Except Err (Option (Fld V R))
  | some f => .ok (some f)
  | none => .error (.keyError k)

def extrasOf (d : Dict (Fld V R)) : Dict (Fld V R) := d.filter (fun kv => !implicitExclude.contains kv.1)

/-- `x if has else None` -/
def whenHas {α : Type} (has : Bool) (x : Except Err (Option α)) : Except Err (Option α) :=
  if has then x else .ok none

/-- `interaction[learn_target] if learn_type else rewards if lrn_on else None` -/
def lrnSel (c : Config) (d : Dict (Fld V R)) (rewards : Option (Fld V R)) : Except Err (Option (Fld V R)) :=
  if learnIps c then getAny "learn_rewards" (d.get? "learn_rewards")
  else .ok (if c.learn == .on then rewards else none)

/-- `interaction[eval_target] if eval_type else rewards if val_on else None` -/
def valSel (c : Config) (d : Dict (Fld V R)) (rewards : Option (Fld V R)) : Except Err (Option (Fld V R)) :=
  if c.eval == .ips then getAny (evalTarget c) (d.get? (evalTarget c))
  else .ok (if c.eval == .on then rewards else none)

/-- the look-ups at the top of the loop body -/
def readRow (c : Config) (fl : Flags) (d : Dict (Fld V R)) : Except Err (RowIn V R) := do
  let ctx ← whenHas fl.hasContext (getVal "context" (d.get? "context"))
  let acts ← whenHas fl.hasActions (getActs (d.get? "actions"))
  let rewards ← whenHas fl.hasRewards (getAny "rewards" (d.get? "rewards"))
  let offRwd ← whenHas fl.hasReward (getNum "reward" (d.get? "reward"))
  let offAct ← whenHas fl.hasAction (getVal "action" (d.get? "action"))
  let offPr ← getNumOpt "probability" (d.get? "probability")   -- `interaction.get('probability', None)`: read per interaction (fix C06-F8)
  let lrnRwds ← lrnSel c d rewards
  let valRwds ← valSel c d rewards
  pure { ctx, acts, rewards, offRwd, offAct, offPr, lrnRwds, valRwds, extras := extrasOf d }

def prep (c : Config) (fl : Flags) (d : Dict (Fld V R)) : Except Err (RowIn V R) :=
  pipeline c fl d >>= readRow c fl

def prepAll (c : Config) (fl : Flags) : List (Dict (Fld V R)) → Except Err (List (RowIn V R))
  | [] => .ok []
  | d :: ds => do
    let r ← prep c fl d
    let rs ← prepAll c fl ds
    pure (r :: rs)

variable {σ : Type}

/-- `learner.predict(context, actions)` on every row of a batch, rows in order (a Python loop
that appends to lists) -/
def predictPhase (L : Learner σ V) (s : σ) (rows : List (RowIn V R)) : σ × List (Pred V) × List (Call V) :=
  rows.foldl (fun (acc : σ × List (Pred V) × List (Call V)) r =>
    let (s', p) := L.predict acc.1 r.ctx r.acts
    (s', acc.2.1 ++ [p], acc.2.2 ++ [Call.predict r.ctx r.acts])) (s, [], [])

def scorePhase (L : Learner σ V) (s : σ) (rows : List (RowIn V R)) : σ × List Rat × List (Call V) :=
  rows.foldl (fun (acc : σ × List Rat × List (Call V)) r =>
    let (s', q) := L.score acc.1 r.ctx r.acts r.offAct
    (s', acc.2.1 ++ [q], acc.2.2 ++ [Call.score r.ctx r.acts r.offAct])) (s, [], [])

/-- `eval_reward` of one row -/
def evalReward [DecidableEq V] [RewardFn R V] (scoreBased : Bool) (r : RowIn V R) (p : Option (Pred V))
    (sc : Option Rat) : Except Err Rat :=
  if scoreBased then
    match sc with
    | some q => do let w ← applyRwd r.valRwds r.offAct; pure (q * w)
    | none => .error .notCallable
  else
    match p with
    | some p => applyRwd r.valRwds (some p.action)
    | none => .error .notCallable

/-- arguments of the `learn` call of one row -/
def learnArgs [DecidableEq V] [RewardFn R V] (c : Config) (r : RowIn V R) (p : Option (Pred V)) :
    Except Err (Option V × Option Rat × Option Rat × Dict V) :=
  if c.learn == .off then .ok (r.offAct, r.offRwd, r.offPr, [])
  else match p with
    | some p => do
      let w ← applyRwd r.lrnRwds (some p.action)
      pure (some p.action, some w, p.prob, p.kw)
    | none => .error .notCallable

def learnPhase (L : Learner σ V) (s : σ) (rows : List (RowIn V R))
    (args : List (Option V × Option Rat × Option Rat × Dict V)) : σ × List (Call V) :=
  (rows.zip args).foldl (fun (acc : σ × List (Call V)) ra =>
    let (r, a) := ra
    (L.learn acc.1 r.ctx a.1 a.2.1 a.2.2.1 a.2.2.2, acc.2 ++ [Call.learn r.ctx a.1 a.2.1 a.2.2.1 a.2.2.2])) (s, [])

/-- `[R(a) for a in A]` -/
def rewardsAt [DecidableEq V] [RewardFn R V] (rw : Option (Fld V R)) : List V → Except Err (List Rat)
  | [] => .ok []
  | a :: as => do
    let x ← applyRwd rw (some a)
    let xs ← rewardsAt rw as
    pure (x :: xs)

/-- `out['rewards'] = get_rewards(rewards, actions)` -/
def rewardsCell [DecidableEq V] [RewardFn R V] (c : Config) (fl : Flags) (r : RowIn V R) : Except Err (Row V R) :=
  if c.rcd "rewards" && fl.hasRewards then
    (if fl.discrete then
      match r.acts with
      | some as => (rewardsAt r.rewards as).map (fun xs => [("rewards", Cell.nums xs)])
      | none => .error (.badField "actions")
    else match r.rewards with
      | some f => .ok [("rewards", Cell.fld f)]
      | none => .error (.keyError "rewards"))
  else .ok []

/-- row assembly (`out = {}` … `out.update(extras)`), timing columns left out.  The literal keys are
distinct and go into an empty dict, so those assignments are appends; the extras are `update`d -/
def mkRow [DecidableEq V] [RewardFn R V] (c : Config) (fl : Flags) (sp batched : Bool) (r : RowIn V R)
    (p : Option (Pred V)) (er : Option Rat) : Except Err (Row V R) :=
  (rewardsCell c fl r).map fun rw =>
    let pr : Option Rat := p.bind (·.prob)
    let base : Row V R :=
      (if c.rcd "context" then [("context", Cell.val r.ctx)] else [])
      ++ (if c.rcd "actions" && fl.hasActions then [("actions", Cell.acts r.acts)] else [])
      ++ (if outAction c then [("action", Cell.val (p.map (·.action)))] else [])
      ++ (if c.rcd "reward" && c.eval != .none then [("reward", Cell.num er)] else [])
      ++ rw
      ++ (if outProb c && sp && (batched || pr.isSome) then [("probability", Cell.num pr)] else [])
    r.extras.foldl (fun o kv => o.set kv.1 (.fld kv.2)) base

def mapM₂ {α β γ : Type} (f : α → β → Except Err γ) : List α → List β → Except Err (List γ)
  | a :: as, b :: bs => do
    let x ← f a b
    let xs ← mapM₂ f as bs
    pure (x :: xs)
  | _, _ => .ok []

def mapM₃ {α β γ δ : Type} (f : α → β → γ → Except Err δ) : List α → List β → List γ → Except Err (List δ)
  | a :: as, b :: bs, c :: cs => do
    let x ← f a b c
    let xs ← mapM₃ f as bs cs
    pure (x :: xs)
  | _, _, _ => .ok []

def optList {α : Type} (on : Bool) (n : Nat) (l : List α) : List (Option α) :=
  if on then l.map some else List.replicate n none

/-- `eval_reward` of every row (nothing when `eval` is None) -/
def evalsOf [DecidableEq V] [RewardFn R V] (c : Config) (scoreBased : Bool) (rows : List (RowIn V R))
    (ps : List (Option (Pred V))) (scs : List (Option Rat)) : Except Err (List (Option Rat)) :=
  if c.eval != .none then (mapM₃ (evalReward scoreBased) rows ps scs).map (·.map some)
  else .ok (List.replicate rows.length none)

/-- the `learn` calls of a batch (none when `learn` is None) -/
def learnsOf [DecidableEq V] [RewardFn R V] (c : Config) (L : Learner σ V) (s : σ) (rows : List (RowIn V R))
    (ps : List (Option (Pred V))) : Except Err (σ × List (Call V)) :=
  if c.learn != .none then (mapM₂ (learnArgs c) rows ps).map (learnPhase L s rows)
  else .ok (s, [])

/-- one pass of the loop body over one batch (a batch of one when the environment is not batched) -/
def stepChunk [DecidableEq V] [RewardFn R V] (c : Config) (fl : Flags) (L : Learner σ V) (batched : Bool)
    (s : σ) (chunk : List (Dict (Fld V R))) : Except Err (σ × List (Call V) × List (Row V R)) :=
  (prepAll c fl chunk).bind fun rows =>
    let sp := shouldPred c L.hasScore
    let scoreBased := c.eval == .ips && L.hasScore && !sp
    let pp := if sp then predictPhase L s rows else (s, [], [])
    let ps := optList sp rows.length pp.2.1
    let qq := if scoreBased then scorePhase L pp.1 rows else (pp.1, [], [])
    let scs := optList scoreBased rows.length qq.2.1
    (evalsOf c scoreBased rows ps scs).bind fun evals =>
    (learnsOf c L qq.1 rows ps).bind fun ll =>
    (mapM₃ (mkRow c fl sp batched) rows ps evals).map fun out =>
      (ll.1, pp.2.2 ++ qq.2.2 ++ ll.2, out.filter (fun o => !o.isEmpty))

/-! ## Batching -/

/-- `Batch(n)`: consecutive groups of `n` (the last may be shorter) -/
def chunksAux {α : Type} (n : Nat) : Nat → List α → List (List α)
  | 0, _ => []
  | fuel + 1, l => if l.isEmpty then [] else l.take n :: chunksAux n fuel (l.drop n)

def chunks {α : Type} (n : Nat) (l : List α) : List (List α) := chunksAux n l.length l

/-- the `for` loop over batches: state, calls and rows are accumulated -/
def runChunks [DecidableEq V] [RewardFn R V] (c : Config) (fl : Flags) (L : Learner σ V) (batched : Bool) :
    σ → List (Call V) → List (Row V R) → List (List (Dict (Fld V R))) → Except Err (σ × List (Call V) × List (Row V R))
  | s, cs, rs, [] => .ok (s, cs, rs)
  | s, cs, rs, ch :: rest =>
    (stepChunk c fl L batched s ch).bind fun r =>
      runChunks c fl L batched r.1 (cs ++ r.2.1) (rs ++ r.2.2) rest

/-- what a call of `evaluate` amounts to -/
inductive Outcome (α : Type) where
  | rejected (keys : List String)             -- CobaException raised by `_validate` before anything else happens
  | crashed (e : Err)                         -- some other exception while evaluating
  | ok (a : α)
  deriving DecidableEq

def Outcome.ofExcept {α : Type} : Except Err α → Outcome α
  | .ok a => .ok a
  | .error e => .crashed e

/-- `SequentialCB(record, learn, eval).evaluate(env, learner)`; `bs = some n` when the environment is
batched with batch size `n ≥ 1` -/
def evaluate [DecidableEq V] [RewardFn R V] (c : Config) (L : Learner σ V) (bs : Option Nat)
    (env : List (Dict (Fld V R))) (s : σ) : Outcome (σ × List (Call V) × List (Row V R)) :=
  match env with
  | [] => .ok (s, [], [])
  | first :: _ =>
    let miss := missingKeys c L.hasScore first
    if !miss.isEmpty then .rejected miss
    else
      let fl := mkFlags first
      match bs with
      | some n => Outcome.ofExcept (runChunks c fl L true s [] [] (chunks n env))
      | none => Outcome.ofExcept (runChunks c fl L false s [] [] (chunks 1 env))

/-! ## `CobaContext.learning_info`

A learner may write to the global dict `CobaContext.learning_info` while it predicts or learns.  `_results` clears
it before the loop, and after every loop pass does `if info: out.update(info); info.clear()` (before `if out: yield
out`).  Modelled for un-batched evaluation: what `predict`/`learn` write is a function of the learner state and the
call's arguments (`pinfo`, `linfo`); `learn`'s `update` goes on top of `predict`'s.  (In a batched pass the dict is
merged into the batch row and `Unbatch` then indexes every value that happens to be subscriptable: `evaluateIB` below.) -/

structure InfoLearner (σ V : Type) extends Learner σ V where
  pinfo : σ → Option V → Option (List V) → Dict V
  linfo : σ → Option V → Option V → Option Rat → Option Rat → Dict V → Dict V

/-- `a.update(b)` -/
def Dict.update {α : Type} (a b : Dict α) : Dict α := b.foldl (fun d kv => d.set kv.1 kv.2) a

/-- `out.update(info)`: the info values become cells of the row -/
def mergeInfo (out : Row V R) (info : Dict V) : Row V R :=
  info.foldl (fun o kv => o.set kv.1 (Cell.val (some kv.2))) out

/-- what one un-batched loop pass computes before `learn` is called: the learner state after predict/score, the
calls so far, the learn arguments (if `learn` is not None) and the row -/
structure Pass (σ V R : Type) where
  s0 : σ
  s2 : σ
  calls : List (Call V)
  ctx : Option V
  acts : Option (List V)
  la : Option (Option V × Option Rat × Option Rat × Dict V)
  out : Row V R

def passOf [DecidableEq V] [RewardFn R V] (c : Config) (fl : Flags) (L : Learner σ V) (s : σ) (d : Dict (Fld V R)) :
    Except Err (Pass σ V R) :=
  (prep c fl d).bind fun r =>
    let sp := shouldPred c L.hasScore
    let scoreBased := c.eval == .ips && L.hasScore && !sp
    let s1 := if sp then (L.predict s r.ctx r.acts).1 else s
    let p := if sp then some (L.predict s r.ctx r.acts).2 else none
    let c1 := if sp then [Call.predict r.ctx r.acts] else []
    let s2 := if scoreBased then (L.score s1 r.ctx r.acts r.offAct).1 else s1
    let sc := if scoreBased then some (L.score s1 r.ctx r.acts r.offAct).2 else none
    let c2 := if scoreBased then [Call.score r.ctx r.acts r.offAct] else []
    (if c.eval != .none then (evalReward scoreBased r p sc).map some else .ok none).bind fun er =>
    (if c.learn != .none then (learnArgs c r p).map some else .ok none).bind fun la =>
    (mkRow c fl sp false r p er).map fun out =>
      { s0 := s, s2 := s2, calls := c1 ++ c2, ctx := r.ctx, acts := r.acts, la := la, out := out }

def Pass.learnState (L : Learner σ V) (k : Pass σ V R) : σ :=
  match k.la with
  | some a => L.learn k.s2 k.ctx a.1 a.2.1 a.2.2.1 a.2.2.2
  | none => k.s2

def Pass.allCalls (k : Pass σ V R) : List (Call V) :=
  k.calls ++ (match k.la with
    | some a => [Call.learn k.ctx a.1 a.2.1 a.2.2.1 a.2.2.2]
    | none => [])

/-- the info written during the pass: by `predict` (if it was called), then `update`d by `learn` (if it was called) -/
def Pass.info (c : Config) (L : InfoLearner σ V) (k : Pass σ V R) : Dict V :=
  Dict.update (if shouldPred c L.hasScore then L.pinfo k.s0 k.ctx k.acts else [])
    (match k.la with
      | some a => L.linfo k.s2 k.ctx a.1 a.2.1 a.2.2.1 a.2.2.2
      | none => [])

/-- one un-batched loop pass with `learning_info`: new learner state, calls, the row before the info is merged, and
the info the learner wrote during this pass -/
def stepI [DecidableEq V] [RewardFn R V] (c : Config) (fl : Flags) (L : InfoLearner σ V) (s : σ) (d : Dict (Fld V R)) :
    Except Err (σ × List (Call V) × Row V R × Dict V) :=
  (passOf c fl L.toLearner s d).map fun k => (k.learnState L.toLearner, k.allCalls, k.out, k.info c L)

def runI [DecidableEq V] [RewardFn R V] (c : Config) (fl : Flags) (L : InfoLearner σ V) :
    σ → List (Dict (Fld V R)) → Except Err (σ × List (Call V) × List (Row V R) × List (Dict V))
  | s, [] => .ok (s, [], [], [])
  | s, d :: ds =>
    (stepI c fl L s d).bind fun r1 =>
    (runI c fl L r1.1 ds).map fun r2 => (r2.1, r1.2.1 ++ r2.2.1, r1.2.2.1 :: r2.2.2.1, r1.2.2.2 :: r2.2.2.2)

/-- the rows that are yielded: info merged into each interaction's own row, empty rows dropped -/
def yieldRows (bases : List (Row V R)) (infos : List (Dict V)) : List (Row V R) :=
  (List.zipWith mergeInfo bases infos).filter (fun o => !o.isEmpty)

/-- un-batched `evaluate` for a learner that writes `learning_info`: state, calls, yielded rows and, per interaction,
the row before merging and the info written -/
def evaluateI [DecidableEq V] [RewardFn R V] (c : Config) (L : InfoLearner σ V) (env : List (Dict (Fld V R))) (s : σ) :
    Outcome (σ × List (Call V) × List (Row V R) × List (Row V R) × List (Dict V)) :=
  match env with
  | [] => .ok (s, [], [], [], [])
  | first :: _ =>
    let miss := missingKeys c L.hasScore first
    if !miss.isEmpty then .rejected miss
    else Outcome.ofExcept ((runI c (mkFlags first) L s env).map
      (fun r => (r.1, r.2.1, yieldRows r.2.2.1 r.2.2.2, r.2.2.1, r.2.2.2)))

/-- the same learner not writing anything -/
def InfoLearner.silent (L : InfoLearner σ V) : InfoLearner σ V :=
  { L with pinfo := fun _ _ _ => [], linfo := fun _ _ _ _ _ _ => [] }

/-! ## PMF answers

A learner may answer `predict` with a PMF over the action list (explicitly `{'pmf': […]}`, optionally with kwargs).
`SafeLearner._parse_pred` then draws `a, p = self._rng.choicew(actions, pmf)` with the generator it was constructed
with (`CobaRandom(seed)`, fresh for every `evaluate`) and hands `(a, p, kwargs)` to the evaluator.  As far as the
evaluator is concerned such a learner is an ordinary `Learner` whose state also holds the wrapper's generator state:
`wrapPmf`.  The draw is the finished C05 model's `choicew` (exact rationals; C05's theorems say that for a
non-negative PMF of the right length with positive sum the draw succeeds and has positive weight, and that the
reported probability is that weight).  Assumption stated here: on a PMF for which `choicew` fails the real code
raises; the wrapper then answers `dflt` with no probability — unreachable for valid PMFs, which is all the harness
generates.  Recognising *un-hinted* PMFs among the prediction formats is C15's subject. -/

structure PmfLearner (σ V : Type) where
  hasScore : Bool
  predict : σ → Option V → Option (List V) → σ × List Rat × Dict V
  score : σ → Option V → Option (List V) → Option V → σ × Rat
  learn : σ → Option V → Option V → Option Rat → Option Rat → Dict V → σ

/-- `SafeLearner._parse_pred` on a PMF answer: generator state `g` in, parsed prediction and new generator state out -/
def parsePmf (dflt : V) (acts : Option (List V)) (pmf : List Rat) (kw : Dict V) (g : Nat) : Pred V × Nat :=
  match acts with
  | some as =>
    match Coba.C05.choicew g as.length (some pmf) with
    | .ok (g', i, w) => ({ action := as.getD i dflt, prob := some w, kw := kw }, g')
    | .error _ => ({ action := dflt, prob := none, kw := kw }, g)
  | none => ({ action := dflt, prob := none, kw := kw }, g)

/-- the PMF learner as the evaluator sees it through SafeLearner -/
def wrapPmf (P : PmfLearner σ V) (dflt : V) : Learner (σ × Nat) V :=
  { hasScore := P.hasScore,
    predict := fun st ctx acts =>
      let r := P.predict st.1 ctx acts
      let q := parsePmf dflt acts r.2.1 r.2.2 st.2
      ((r.1, q.2), q.1),
    score := fun st ctx acts a => let r := P.score st.1 ctx acts a; ((r.1, st.2), r.2),
    learn := fun st ctx a r p kw => (P.learn st.1 ctx a r p kw, st.2) }

/-! ## Histories: several evaluations with the same learner object

`evaluate` wraps the learner in a fresh `SafeLearner` every time and keeps nothing itself, so all that connects two
evaluations is the learner: the next evaluation starts in the state the previous one left it in (an evaluation that
is rejected by validation never touches the learner). -/

structure Episode (V R : Type) where
  cfg : Config
  bs : Option Nat
  env : List (Dict (Fld V R))

/-- learner state after an evaluation; after a crash the model does not say (the harness then reads the state off the
real learner) and keeps the old one -/
def stateAfter {α : Type} (s : σ) : Outcome (σ × α) → σ
  | .ok r => r.1
  | _ => s

def runHistory [DecidableEq V] [RewardFn R V] (L : Learner σ V) : σ → List (Episode V R) →
    List (Outcome (σ × List (Call V) × List (Row V R)))
  | _, [] => []
  | s, e :: es =>
    let o := evaluate e.cfg L e.bs e.env s
    o :: runHistory L (stateAfter s o) es

/-- the learner state a history ends in -/
def finalState [DecidableEq V] [RewardFn R V] (L : Learner σ V) : σ → List (Episode V R) → σ
  | s, [] => s
  | s, e :: es => finalState L (stateAfter s (evaluate e.cfg L e.bs e.env s)) es

/-! ## Spec `S`: what the property demands, read off the interactions directly -/

/-- the typed reading of an interaction -/
structure View (V R : Type) where
  ctx : Option V
  acts : Option (List V)
  rewards : Option (Fld V R)
  offAct : Option V
  offRwd : Option Rat
  offPr : Option Rat
  extras : Dict (Fld V R)

def viewVal : Option (Fld V R) → Option V
  | some (.val v) => some v
  | _ => none

def viewActs : Option (Fld V R) → Option (List V)
  | some (.acts as) => some as
  | _ => none

def viewNum : Option (Fld V R) → Option Rat
  | some (.num q) => some q
  | _ => none

def view (d : Dict (Fld V R)) : View V R :=
  { ctx := viewVal (d.get? "context"), acts := viewActs (d.get? "actions"), rewards := d.get? "rewards",
    offAct := viewVal (d.get? "action"), offRwd := viewNum (d.get? "reward"), offPr := viewNum (d.get? "probability"),
    extras := extrasOf d }

/-- a prediction is needed: on-policy learning or evaluation, or the chosen action/probability is recorded -/
def needPred (c : Config) (hasScore : Bool) : Bool :=
  c.learn == .on || c.learn == .ips || c.eval == .on || (c.eval == .ips && !hasScore)
    || (c.eval != .none && (c.rcd "action" || c.rcd "probability"))

/-- documented requirements (docstring of `SequentialCB.__init__`) -/
def requiredS (c : Config) (hasScore : Bool) : List String :=
  (if needPred c hasScore then ["actions"] else [])
    ++ (if c.learn == .off || c.learn == .ips || c.eval == .ips then ["action", "reward"] else [])
    ++ (if c.learn == .on || c.eval == .on then ["rewards"] else [])
    ++ (if c.learn == .ips || c.eval == .ips then ["probability"] else [])

/-- the environment's reward for action `a` -/
def envReward [DecidableEq V] [RewardFn R V] (v : View V R) (a : V) : Option Rat :=
  match v.rewards, v.acts with
  | some (.rfn f), _ => some (RewardFn.app f a)
  | some (.rlist rs), some as =>
    match (as.zip rs).lookup a with
    | some r => some r
    | none => some 0
  | _, _ => none

/-- the documented IPS transform: `reward/probability` for the logged action, `0` for any other -/
def ipsReward [DecidableEq V] (v : View V R) (a : Option V) : Option Rat :=
  match v.offRwd with
  | some r =>
    let p := match v.offPr with
      | some p => if p = 0 then 1 else p
      | none => 1
    some (if v.offAct = a then r / p else 0)
  | none => none

/-- arguments of the learn call the property demands -/
def learnArgsS [DecidableEq V] [RewardFn R V] (c : Config) (v : View V R) (p : Option (Pred V)) :
    Option (Option V × Option Rat × Option Rat × Dict V) :=
  match c.learn, p with
  | .off, _ => some (v.offAct, v.offRwd, v.offPr, [])
  | .on, some p => (envReward v p.action).map (fun r => (some p.action, some r, p.prob, p.kw))
  | .ips, some p => (ipsReward v (some p.action)).map (fun r => (some p.action, some r, p.prob, p.kw))
  | _, _ => none

/-- the reward recorded for one interaction -/
def evalRewardS [DecidableEq V] [RewardFn R V] (c : Config) (v : View V R) (p : Option (Pred V)) (sc : Option Rat) :
    Option Rat :=
  match c.eval, p, sc with
  | .on, some p, _ => envReward v p.action
  | .ips, some p, _ => ipsReward v (some p.action)
  | .ips, none, some q => (ipsReward v v.offAct).map (fun w => q * w)
  | _, _, _ => none

def rewardsAtS [DecidableEq V] [RewardFn R V] (v : View V R) : List V → Option (List Rat)
  | [] => some []
  | a :: as => do
    let x ← envReward v a
    let xs ← rewardsAtS v as
    pure (x :: xs)

/-- the recorded `rewards` cell: the environment's reward of every action (discrete) or the reward object itself -/
def rewardsCellS [DecidableEq V] [RewardFn R V] (c : Config) (fl : Flags) (v : View V R) : Option (Row V R) :=
  if c.rcd "rewards" && fl.hasRewards then
    (if fl.discrete then
      match v.acts with
      | some as => (rewardsAtS v as).map (fun xs => [("rewards", Cell.nums xs)])
      | none => none
    else v.rewards.map (fun f => [("rewards", Cell.fld f)]))
  else some []

/-- the row the property demands for one interaction: the recorded values, then every additional
field of the interaction unchanged -/
def rowS [DecidableEq V] [RewardFn R V] (c : Config) (fl : Flags) (v : View V R) (p : Option (Pred V))
    (er : Option Rat) : Option (Row V R) :=
  (rewardsCellS c fl v).map fun rw =>
    (if c.rcd "context" then [("context", Cell.val v.ctx)] else [])
    ++ (if c.rcd "actions" && fl.hasActions then [("actions", Cell.acts v.acts)] else [])
    ++ (if c.rcd "action" && c.eval != .none then [("action", Cell.val (p.map (·.action)))] else [])
    ++ (if c.rcd "reward" && c.eval != .none then [("reward", Cell.num er)] else [])
    ++ rw
    ++ (match p.bind (·.prob) with
        | some q => if c.rcd "probability" && c.eval != .none then [("probability", Cell.num (some q))] else []
        | none => [])
    ++ v.extras.map (fun kv => (kv.1, Cell.fld kv.2))

/-- one interaction as the property describes it: (predict | score)? then learn?, and its row -/
def specInter [DecidableEq V] [RewardFn R V] (c : Config) (fl : Flags) (L : Learner σ V) (s : σ) (v : View V R) :
    Option (σ × List (Call V) × Row V R) :=
  let np := needPred c L.hasScore
  let sb := c.eval == .ips && L.hasScore && !np
  let s1 := if np then (L.predict s v.ctx v.acts).1 else s
  let p := if np then some (L.predict s v.ctx v.acts).2 else none
  let c1 := if np then [Call.predict v.ctx v.acts] else []
  let s2 := if sb then (L.score s1 v.ctx v.acts v.offAct).1 else s1
  let sc := if sb then some (L.score s1 v.ctx v.acts v.offAct).2 else none
  let c2 := if sb then [Call.score v.ctx v.acts v.offAct] else []
  (if c.eval != .none then (evalRewardS c v p sc).map some else some none).bind fun er =>
  (if c.learn != .none then
      (learnArgsS c v p).map (fun a => (L.learn s2 v.ctx a.1 a.2.1 a.2.2.1 a.2.2.2, [Call.learn v.ctx a.1 a.2.1 a.2.2.1 a.2.2.2]))
    else some (s2, [])).bind fun sc3 =>
  (rowS c fl v p er).map fun row => (sc3.1, c1 ++ c2 ++ sc3.2, row)

/-- the whole (unbatched) evaluation as the property describes it: interactions strictly in order -/
def specRun [DecidableEq V] [RewardFn R V] (c : Config) (fl : Flags) (L : Learner σ V) :
    σ → List (View V R) → Option (σ × List (Call V) × List (Row V R))
  | s, [] => some (s, [], [])
  | s, v :: vs =>
    (specInter c fl L s v).bind fun r1 =>
    (specRun c fl L r1.1 vs).map fun r2 => (r2.1, r1.2.1 ++ r2.2.1, r1.2.2 :: r2.2.2)

/-! ## Spec of a batched evaluation

A batch is handed to the learner as a whole: every row of the batch is predicted (rows in order, the learner state
threaded through them) before anything of the batch is learned, then every row is scored (score-based IPS
evaluation), then every row is learned, rows in order.  A batch-aware learner receives these as one call per phase
with `Batch.List` arguments, a learner without batch support receives them one row at a time (SafeLearner's
fallback); in both cases the sequence of row-level calls is the one below.  The documented per-interaction values
(`learnArgsS`, `evalRewardS`, the row) are those of the un-batched spec. -/

def predictS (L : Learner σ V) : σ → List (View V R) → σ × List (Pred V)
  | s, [] => (s, [])
  | s, v :: vs =>
    let r := predictS L (L.predict s v.ctx v.acts).1 vs
    (r.1, (L.predict s v.ctx v.acts).2 :: r.2)

def scoreS (L : Learner σ V) : σ → List (View V R) → σ × List Rat
  | s, [] => (s, [])
  | s, v :: vs =>
    let r := scoreS L (L.score s v.ctx v.acts v.offAct).1 vs
    (r.1, (L.score s v.ctx v.acts v.offAct).2 :: r.2)

def learnS (L : Learner σ V) : σ → List (View V R) → List (Option V × Option Rat × Option Rat × Dict V) → σ
  | s, v :: vs, a :: as => learnS L (L.learn s v.ctx a.1 a.2.1 a.2.2.1 a.2.2.2) vs as
  | s, _, _ => s

def allSome {α : Type} : List (Option α) → Option (List α)
  | [] => some []
  | some a :: rest => (allSome rest).map (a :: ·)
  | none :: _ => none

def zip3With {α β γ δ : Type} (f : α → β → γ → δ) : List α → List β → List γ → List δ
  | a :: as, b :: bs, c :: cs => f a b c :: zip3With f as bs cs
  | _, _, _ => []

/-- the row of one interaction of a batch: as `rowS`, except that the batched code path writes the
probability cell whenever a prediction was made, `None` included -/
def rowSB [DecidableEq V] [RewardFn R V] (c : Config) (fl : Flags) (np : Bool) (v : View V R) (p : Option (Pred V))
    (er : Option Rat) : Option (Row V R) :=
  (rewardsCellS c fl v).map fun rw =>
    (if c.rcd "context" then [("context", Cell.val v.ctx)] else [])
    ++ (if c.rcd "actions" && fl.hasActions then [("actions", Cell.acts v.acts)] else [])
    ++ (if c.rcd "action" && c.eval != .none then [("action", Cell.val (p.map (·.action)))] else [])
    ++ (if c.rcd "reward" && c.eval != .none then [("reward", Cell.num er)] else [])
    ++ rw
    ++ (if c.rcd "probability" && c.eval != .none && np then [("probability", Cell.num (p.bind (·.prob)))] else [])
    ++ v.extras.map (fun kv => (kv.1, Cell.fld kv.2))

/-- one batch as the property describes it -/
def specChunk [DecidableEq V] [RewardFn R V] (c : Config) (fl : Flags) (L : Learner σ V) (s : σ) (vs : List (View V R)) :
    Option (σ × List (Call V) × List (Row V R)) :=
  let np := needPred c L.hasScore
  let sb := c.eval == .ips && L.hasScore && !np
  let pp := if np then predictS L s vs else (s, [])
  let ps : List (Option (Pred V)) := if np then pp.2.map some else vs.map (fun _ => none)
  let c1 := if np then vs.map (fun v => Call.predict v.ctx v.acts) else []
  let qq := if sb then scoreS L pp.1 vs else (pp.1, [])
  let scs : List (Option Rat) := if sb then qq.2.map some else vs.map (fun _ => none)
  let c2 := if sb then vs.map (fun v => Call.score v.ctx v.acts v.offAct) else []
  (if c.eval != .none then (allSome (zip3With (evalRewardS c) vs ps scs)).map (·.map some)
   else some (vs.map (fun _ => none))).bind fun evals =>
  (if c.learn != .none then allSome (List.zipWith (learnArgsS c) vs ps) else some []).bind fun args =>
  (allSome (zip3With (rowSB c fl np) vs ps evals)).map fun rows =>
    (learnS L qq.1 vs args,
     c1 ++ c2 ++ List.zipWith (fun (v : View V R) a => Call.learn v.ctx a.1 a.2.1 a.2.2.1 a.2.2.2) vs args,
     rows)

/-- a batched evaluation as the property describes it: batches in order -/
def specRunB [DecidableEq V] [RewardFn R V] (c : Config) (fl : Flags) (L : Learner σ V) :
    σ → List (List (View V R)) → Option (σ × List (Call V) × List (Row V R))
  | s, [] => some (s, [], [])
  | s, ch :: rest =>
    (specChunk c fl L s ch).bind fun r1 =>
    (specRunB c fl L r1.1 rest).map fun r2 => (r2.1, r1.2.1 ++ r2.2.1, r1.2.2 ++ r2.2.2)

/-! ## `learning_info` in a batched pass

In a batched pass the dict collects everything the learner writes while the whole batch is predicted and then learned
(later writes `update` earlier ones), is merged into the BATCH row, and `Unbatch` then builds row i by `value[i]` for every
cell, falling back to the whole value when that raises.  So every row of the batch receives every key written during
the pass, and a value that happens to be subscriptable (list, tuple, str) is indexed by the row's position in the batch
(a quirk: `{'tag': 'ab'}` in a batch of two gives 'a' and 'b').  `Subscript.idx v i` is Python's `v[i]` when it works. -/

class Subscript (V : Type) where
  idx : V → Nat → Option V

/-- learner states in which the rows of a batch are predicted -/
def predStates (L : Learner σ V) : σ → List (RowIn V R) → List σ
  | _, [] => []
  | s, r :: rs => s :: predStates L (L.predict s r.ctx r.acts).1 rs

/-- learner states in which the rows of a batch are learned -/
def learnStates (L : Learner σ V) : σ → List (RowIn V R) → List (Option V × Option Rat × Option Rat × Dict V) → List σ
  | s, r :: rs, a :: as => s :: learnStates L (L.learn s r.ctx a.1 a.2.1 a.2.2.1 a.2.2.2) rs as
  | _, _, _ => []

/-- everything written to `learning_info` during one batched pass: predicts of all rows in order, then learns -/
def batchInfo (L : InfoLearner σ V) (sp : Bool) (s sL : σ) (rows : List (RowIn V R))
    (args : List (Option V × Option Rat × Option Rat × Dict V)) : Dict V :=
  let ip := if sp then List.zipWith (fun (r : RowIn V R) st => L.pinfo st r.ctx r.acts) rows (predStates L.toLearner s rows) else []
  let il := zip3With (fun (r : RowIn V R) st a => L.linfo st r.ctx a.1 a.2.1 a.2.2.1 a.2.2.2) rows (learnStates L.toLearner sL rows args) args
  (ip ++ il).foldl Dict.update []

/-- `Unbatch` on the info cells of row `i` of the batch -/
def indexInfo [Subscript V] (info : Dict V) (i : Nat) : Dict V :=
  info.map (fun kv => (kv.1, match Subscript.idx kv.2 i with
    | some x => x
    | none => kv.2))

def mergeIndexed [Subscript V] (info : Dict V) : Nat → List (Row V R) → List (Row V R)
  | _, [] => []
  | i, o :: os => mergeInfo o (indexInfo info i) :: mergeIndexed info (i + 1) os

/-- one batched pass with `learning_info`: as `stepChunk … true`, returning also the rows before merging and the info -/
def stepChunkIB [DecidableEq V] [RewardFn R V] (c : Config) (fl : Flags) (L : InfoLearner σ V) (s : σ)
    (chunk : List (Dict (Fld V R))) : Except Err (σ × List (Call V) × List (Row V R) × Dict V) :=
  (prepAll c fl chunk).bind fun rows =>
    let sp := shouldPred c L.hasScore
    let scoreBased := c.eval == .ips && L.hasScore && !sp
    let pp := if sp then predictPhase L.toLearner s rows else (s, [], [])
    let ps := optList sp rows.length pp.2.1
    let qq := if scoreBased then scorePhase L.toLearner pp.1 rows else (pp.1, [], [])
    let scs := optList scoreBased rows.length qq.2.1
    (evalsOf c scoreBased rows ps scs).bind fun evals =>
    (learnsOf c L.toLearner qq.1 rows ps).bind fun ll =>
    (mapM₃ (mkRow c fl sp true) rows ps evals).map fun out =>
      let args := if c.learn != .none then
          (match mapM₂ (learnArgs c) rows ps with
            | .ok as => as
            | .error _ => [])
        else []
      (ll.1, pp.2.2 ++ qq.2.2 ++ ll.2, out, batchInfo L sp s qq.1 rows args)

def runIB [DecidableEq V] [RewardFn R V] [Subscript V] (c : Config) (fl : Flags) (L : InfoLearner σ V) :
    σ → List (List (Dict (Fld V R))) → Except Err (σ × List (Call V) × List (Row V R))
  | s, [] => .ok (s, [], [])
  | s, ch :: rest =>
    (stepChunkIB c fl L s ch).bind fun r1 =>
    (runIB c fl L r1.1 rest).map fun r2 =>
      (r2.1, r1.2.1 ++ r2.2.1, (mergeIndexed r1.2.2.2 0 r1.2.2.1).filter (fun o => !o.isEmpty) ++ r2.2.2)

/-- batched `evaluate` for a learner that writes `learning_info` -/
def evaluateIB [DecidableEq V] [RewardFn R V] [Subscript V] (c : Config) (L : InfoLearner σ V) (n : Nat)
    (env : List (Dict (Fld V R))) (s : σ) : Outcome (σ × List (Call V) × List (Row V R)) :=
  match env with
  | [] => .ok (s, [], [])
  | first :: _ =>
    let miss := missingKeys c L.hasScore first
    if !miss.isEmpty then .rejected miss else Outcome.ofExcept (runIB c (mkFlags first) L s (chunks n env))

/-! ## Well-formedness of an environment (the hypotheses of the refinement theorems) -/

/-- field shapes of one interaction agree with the flags taken from the first interaction -/
def wf (fl : Flags) (d : Dict (Fld V R)) : Bool :=
  (match d.get? "context" with
    | none => !fl.hasContext
    | some (.val _) => fl.hasContext
    | some .none => fl.hasContext
    | _ => false)
  && (match d.get? "actions" with
    | none => !fl.hasActions
    | some (.acts _) => fl.hasActions
    | _ => false)
  && (match d.get? "rewards", d.get? "actions" with
    | none, _ => !fl.hasRewards
    | some (.rlist rs), some (.acts as) => fl.hasRewards && fl.rwdsIsList && as.length == rs.length
    | some (.rfn _), _ => fl.hasRewards && !fl.rwdsIsList
    | _, _ => false)
  && (!fl.rwdsIsList || fl.hasRewards)
  && (match d.get? "action" with
    | none => !fl.hasAction
    | some (.val _) => fl.hasAction
    | some .none => fl.hasAction
    | _ => false)
  && (match d.get? "reward" with
    | none => !fl.hasReward
    | some (.num _) => fl.hasReward
    | _ => false)
  && (match d.get? "probability" with
    | none => !fl.hasProb
    | some (.num _) => fl.hasProb
    | some .none => fl.hasProb
    | _ => false)

def nodupKeys : List String → Bool
  | [] => true
  | k :: ks => !ks.contains k && nodupKeys ks

/-- a homogeneous, well-shaped environment -/
def wfEnv (env : List (Dict (Fld V R))) : Bool :=
  match env with
  | [] => true
  | first :: _ => env.all (fun d => wf (mkFlags first) d && nodupKeys d.keys)

/-- the mode needs the logged probability (docstring: *ips* requires 'probability') and the environment has none -/
def ipsWithoutProb (c : Config) (first : Dict (Fld V R)) : Bool :=
  (c.learn == .ips || c.eval == .ips) && !first.has "probability"

/-- `probability: None` cells (written by the batched code path for learners without a probability) mean "absent" -/
def isNoneProb (kv : String × Cell V R) : Bool :=
  match kv with
  | ("probability", Cell.num none) => true
  | _ => false

def dropNoneProb (o : Row V R) : Row V R := o.filter (fun kv => !isNoneProb kv)


/-! ## Phase 4a — every mode the constructor accepts ('dr'/'dm' included): package guard and reward targets

`SequentialCB.__init__` accepts `learn ∈ {on, off, ips, dr, dm, None}` and `eval ∈ {on, ips, dr, dm, None}` without any
check.  `_results` turns the mode into a reward *type* (`learn_type`/`eval_type` ∈ {'IPS','DR','DM'}) and, per type, builds
`OpeRewards(type, target=…)`: the learn filter (target `learn_rewards`) first, then — only when `eval_type` is set and
differs from `learn_type` — the eval filter (target `eval_rewards`); the loop then reads `interaction[learn_target]` and
`interaction[eval_target]`.  `OpeRewards.__init__` calls `PackageChecker.vowpalwabbit` for 'DM' and 'DR', which raises
`CobaExit` when the package is absent — after `_validate`, before any interaction is read or the learner is used.
With the package present 'DM'/'DR' rewards come from a regressor trained on the log; that is not modelled
(`OutcomeX.notModelled`). -/

inductive LearnModeX | on | off | ips | dr | dm | none
  deriving DecidableEq, Repr

inductive EvalModeX | on | ips | dr | dm | none
  deriving DecidableEq, Repr

/-- `learn_type` / `eval_type` / the `rwd_type` of `OpeRewards` -/
inductive OpeType | ips | dr | dm
  deriving DecidableEq, Repr

structure ConfigX where
  learn : LearnModeX
  eval : EvalModeX
  record : List String
  deriving Repr

def ConfigX.rcd (c : ConfigX) (name : String) : Bool := c.record.contains name

/-- `learn_type = 'IPS' if lrn_ips else 'DR' if lrn_dr else 'DM' if lrn_dm else None` -/
def learnType : LearnModeX → Option OpeType
  | .ips => some .ips
  | .dr => some .dr
  | .dm => some .dm
  | _ => none

/-- `eval_type  = 'IPS' if val_ips else 'DR' if val_dr else 'DM' if val_dm else None` -/
def evalType : EvalModeX → Option OpeType
  | .ips => some .ips
  | .dr => some .dr
  | .dm => some .dm
  | _ => none

/-- `OpeRewards.__init__`: `if rwd_type in ['DM','DR']: PackageChecker.vowpalwabbit(…)` -/
def needsVw : OpeType → Bool
  | .ips => false
  | .dr => true
  | .dm => true

/-- `eval_type and eval_type != learn_type` -/
def evalOwnX (c : ConfigX) : Bool := (evalType c.eval).isSome && evalType c.eval != learnType c.learn

def learnTargetX : String := "learn_rewards"

/-- `eval_target = 'eval_rewards' if eval_type and eval_type != learn_type else 'learn_rewards'` -/
def evalTargetX (c : ConfigX) : String := if evalOwnX c then "eval_rewards" else "learn_rewards"

/-- the `OpeRewards(type, target)` filters `_results` constructs, in construction order -/
def opeFilters (c : ConfigX) : List (OpeType × String) :=
  (match learnType c.learn with
    | some t => [(t, "learn_rewards")]
    | none => [])
  ++ (match evalType c.eval with
    | some t => if evalOwnX c then [(t, "eval_rewards")] else []
    | none => [])

def outActionX (c : ConfigX) : Bool := c.rcd "action" && c.eval != .none
def outProbX (c : ConfigX) : Bool := c.rcd "probability" && c.eval != .none

/-- `should_pred` for every mode -/
def shouldPredX (c : ConfigX) (hasScore : Bool) : Bool :=
  (c.learn != .none && c.learn != .off) || c.eval == .on || c.eval == .dm || c.eval == .dr || (c.eval == .ips && !hasScore)
    || outActionX c || outProbX c

/-- `_required(has_score)` for every mode -/
def requiredX (c : ConfigX) (hasScore : Bool) : List String :=
  let pred := (c.learn != .none && c.learn != .off) || (c.eval != .none && (c.eval != .ips || !hasScore))
                || outActionX c || outProbX c
  let off := (c.learn != .none && c.learn != .on) || (c.eval != .none && c.eval != .on)
  let rwds := c.learn == .on || c.eval == .on
  (if pred then ["actions"] else []) ++ (if off then ["action", "reward"] else [])
    ++ (if rwds then ["rewards"] else [])

def LearnModeX.base : LearnModeX → Option LearnMode
  | .on => some .on
  | .off => some .off
  | .ips => some .ips
  | .none => some .none
  | _ => Option.none

def EvalModeX.base : EvalModeX → Option EvalMode
  | .on => some .on
  | .ips => some .ips
  | .none => some .none
  | _ => Option.none

/-- the configuration in the modes that need no optional package, if it is one -/
def ConfigX.base (c : ConfigX) : Option Config :=
  match c.learn.base, c.eval.base with
  | some l, some e => some { learn := l, eval := e, record := c.record }
  | _, _ => Option.none

inductive OutcomeX (α : Type) where
  | done (o : Outcome α)                               -- what the package-free model says
  | packageMissing (t : OpeType) (target : String)     -- CobaExit raised by `OpeRewards(t, target=…)` (no vowpalwabbit)
  | notModelled                                        -- 'dr'/'dm' with vowpalwabbit installed (trained reward regressor)
  deriving DecidableEq

/-- `SequentialCB(record, learn, eval).evaluate(env, learner)` for every accepted mode; `vw` = vowpalwabbit is installed -/
def evaluateX [DecidableEq V] [RewardFn R V] (vw : Bool) (c : ConfigX) (L : Learner σ V) (bs : Option Nat)
    (env : List (Dict (Fld V R))) (s : σ) : OutcomeX (σ × List (Call V) × List (Row V R)) :=
  match env with
  | [] => .done (.ok (s, [], []))
  | first :: _ =>
    let miss := (requiredX c L.hasScore).filter (fun k => !first.has k)
    if !miss.isEmpty then .done (.rejected miss)
    else match (opeFilters c).find? (fun tt => needsVw tt.1 && !vw) with
      | some tt => .packageMissing tt.1 tt.2
      | none =>
        match c.base with
        | some c0 => .done (evaluate c0 L bs env s)
        | Option.none => .notModelled

/-- a prediction is part of what the mode means (docstring), or the record options ask for its outcome -/
def needPredX (c : ConfigX) (hasScore : Bool) : Bool :=
  c.learn == .on || c.learn == .ips || c.learn == .dr || c.learn == .dm
    || c.eval == .on || c.eval == .dr || c.eval == .dm || (c.eval == .ips && !hasScore)
    || (c.eval != .none && (c.rcd "action" || c.rcd "probability"))

/-- documented requirements for every mode (docstring of `SequentialCB.__init__`): on — actions, rewards; off — action,
reward; ips — actions, action, reward, probability; dr/dm — actions, action, reward -/
def requiredSX (c : ConfigX) (hasScore : Bool) : List String :=
  (if needPredX c hasScore then ["actions"] else [])
    ++ (if c.learn == .off || c.learn == .ips || c.learn == .dr || c.learn == .dm
          || c.eval == .ips || c.eval == .dr || c.eval == .dm then ["action", "reward"] else [])
    ++ (if c.learn == .on || c.eval == .on then ["rewards"] else [])
    ++ (if c.learn == .ips || c.eval == .ips then ["probability"] else [])

/-! ## Phase 4b — the record-field set of a row -/

/-- the reserved-name cells `_results` writes into a row, in order, as a function of the configuration, the flags of the
first interaction, whether a prediction is made, batching, and whether the learner reported a probability -/
def recordKeys (c : Config) (fl : Flags) (sp batched hasPr : Bool) : List String :=
  (if c.rcd "context" then ["context"] else [])
  ++ (if c.rcd "actions" && fl.hasActions then ["actions"] else [])
  ++ (if outAction c then ["action"] else [])
  ++ (if c.rcd "reward" && c.eval != .none then ["reward"] else [])
  ++ (if c.rcd "rewards" && fl.hasRewards then ["rewards"] else [])
  ++ (if outProb c && sp && (batched || hasPr) then ["probability"] else [])

/-! ## Phase 4c — heterogeneous environments: which reserved keys the code reads from every interaction

All `has_*` flags come from the first interaction.  For a later interaction `d` the filters and the loop body subscript
exactly the keys below (program order): `Finalize` builds `DiscreteReward(new['actions'], new['rewards'])` when the FIRST
interaction's rewards are a list; each `OpeRewards('IPS')` reads `interaction['action']`, `interaction['reward']`
(`probability` via `.get`); the loop reads `interaction[k] if has_k` for context, actions, rewards, reward, action
(`probability` via `.get`).  Any other reserved key of `d` is ignored. -/

def neededKeys (c : Config) (fl : Flags) : List String :=
  (if fl.rwdsIsList then ["actions", "rewards"] else [])
  ++ (if learnIps c then ["action", "reward"] else [])
  ++ (if evalIpsOwn c then ["action", "reward"] else [])
  ++ (if fl.hasContext then ["context"] else [])
  ++ (if fl.hasActions then ["actions"] else [])
  ++ (if fl.hasRewards then ["rewards"] else [])
  ++ (if fl.hasReward then ["reward"] else [])
  ++ (if fl.hasAction then ["action"] else [])

/-- the keys the code subscripts and `d` lacks, in program order (the first one is the `KeyError`) -/
def missingOf (c : Config) (fl : Flags) (d : Dict (Fld V R)) : List String :=
  (neededKeys c fl).filter (fun k => !d.has k)

/-- index of the first interaction lacking a key the code subscripts, with the keys it lacks -/
def firstBad (c : Config) (fl : Flags) : List (Dict (Fld V R)) → Option (Nat × List String)
  | [] => none
  | d :: ds =>
    if (missingOf c fl d).isEmpty then (firstBad c fl ds).map (fun r => (r.1 + 1, r.2))
    else some (0, missingOf c fl d)

/-- every reserved field that is present has a shape the code can work with (no homogeneity demanded) -/
def shapeOk (fl : Flags) (d : Dict (Fld V R)) : Bool :=
  (match d.get? "context" with
    | none => true
    | some (.val _) => true
    | some .none => true
    | _ => false)
  && (match d.get? "actions" with
    | none => true
    | some (.acts _) => true
    | _ => false)
  && (match d.get? "rewards" with
    | none => true
    | some (.rlist rs) => fl.rwdsIsList && (match d.get? "actions" with
        | some (.acts as) => as.length == rs.length
        | _ => true)
    | some (.rfn _) => !fl.rwdsIsList
    | _ => false)
  && (match d.get? "action" with
    | none => true
    | some (.val _) => true
    | some .none => true
    | _ => false)
  && (match d.get? "reward" with
    | none => true
    | some (.num _) => true
    | _ => false)
  && (match d.get? "probability" with
    | none => true
    | some (.num _) => true
    | some .none => true
    | _ => false)
  && !d.has "learn_rewards" && !d.has "eval_rewards"

/-! ## Python spellings of the modes and reward types (used by the translator obligations and the driver) -/

/-- the constructor argument `learn` -/
def LearnModeX.pyName : LearnModeX → Option String
  | .on => some "on" | .off => some "off" | .ips => some "ips" | .dr => some "dr" | .dm => some "dm" | .none => Option.none

/-- the constructor argument `eval` -/
def EvalModeX.pyName : EvalModeX → Option String
  | .on => some "on" | .ips => some "ips" | .dr => some "dr" | .dm => some "dm" | .none => Option.none

/-- `rwd_type` -/
def OpeType.pyName : OpeType → String
  | .ips => "IPS" | .dr => "DR" | .dm => "DM"

/-- `_required` with its three key lists as parameters -/
def requiredWith (kPred kOff kRwds : List String) (c : ConfigX) (hasScore : Bool) : List String :=
  let pred := (c.learn != .none && c.learn != .off) || (c.eval != .none && (c.eval != .ips || !hasScore))
                || outActionX c || outProbX c
  let off := (c.learn != .none && c.learn != .on) || (c.eval != .none && c.eval != .on)
  let rwds := c.learn == .on || c.eval == .on
  (if pred then kPred else []) ++ (if off then kOff else []) ++ (if rwds then kRwds else [])

/-- the default of the `record` argument -/
def defaultRecord : List String := ["reward", "action", "probability"]

/-! ## Phase 5: the calls the learner OBJECT sees (SafeLearner between `SequentialCB` and the learner)

`Call` above is the row-level reading of a call.  What reaches the methods of the wrapped learner object is decided by
`SafeLearner._safe_call` (per method key: `_method[key]` unset → try the call as given; with batched arguments a
learner that raises is then called once per row and the key is pinned to the row-by-row fallback), by
`SafeLearner._parse_pred` on the FIRST predict (`_pred_batch is None`: `batch_order` asks the learner a second time
about the first row of the batch when the answer is square — as many rows as the first row's answer has items — and the
call went through as given), and by the two `has_score` reads of `evaluate` (`_validate(first, learner.has_score)`) and
`_results` (`has_score = learner.has_score`), each of which calls `score(None, None, None)` when the learner has `score`.
Interactions are named by their position in the environment. -/

inductive Meth | predict | score | learn
  deriving DecidableEq, Repr

/-- one invocation of a method of the learner object -/
inductive RawCall where
  | scoreProbe                                   -- `score(None,None,None)` made by `SafeLearner.has_score`
  | batch (m : Meth) (rows : List Nat) (ok : Bool) -- called with `Batch` arguments carrying these interactions; `ok = false`: the learner raised
  | row (m : Meth) (i : Nat)                     -- called with the plain values of interaction `i`
  | orient (i : Nat)                             -- `predict(Batch([ctx_i]), Batch([actions_i]))`: the orientation probe of `batch_order`
  deriving DecidableEq, Repr

/-- the part of a `SafeLearner`'s state that decides how it calls: `_method[key]` (`some true` = 1, as given;
`some false` = 2, row by row) and `_pred_batch is not None` -/
structure SafeSt where
  mPredict : Option Bool := none
  mScore : Option Bool := none
  mLearn : Option Bool := none
  parsed : Bool := false
  deriving DecidableEq, Repr

def SafeSt.get (st : SafeSt) : Meth → Option Bool
  | .predict => st.mPredict
  | .score => st.mScore
  | .learn => st.mLearn

def SafeSt.set (st : SafeSt) (m : Meth) (b : Bool) : SafeSt :=
  match m with
  | .predict => { st with mPredict := some b }
  | .score => { st with mScore := some b }
  | .learn => { st with mLearn := some b }

/-- `_safe_call(key, method, args)` with batched `args` carrying the interactions `rows`; `aware`: the learner accepts
batched arguments -/
def safeCall (aware : Bool) (st : SafeSt) (m : Meth) (rows : List Nat) : SafeSt × List RawCall :=
  match st.get m with
  | some true => (st, [.batch m rows true])
  | some false => (st, rows.map (.row m))
  | none =>
    if aware then (st.set m true, [.batch m rows true])
    else (st.set m false, .batch m rows false :: rows.map (.row m))

/-- `SafeLearner.predict` on a batch: the call, then — first parse only — the orientation probe.  `width` = `len()` of
the first row's answer when it has one and the rows are not all mappings (`none` otherwise: `batch_order` answers 'row'
without asking) -/
def predictCall (aware : Bool) (width : Option Nat) (st : SafeSt) (rows : List Nat) : SafeSt × List RawCall :=
  let r := safeCall aware st .predict rows
  if r.1.parsed then r
  else
    let probe := r.1.mPredict == some true && width == some rows.length
    ({ r.1 with parsed := true }, r.2 ++ (if probe then (rows.head?.map RawCall.orient).toList else []))

/-- one method of one loop pass -/
def phaseCall (batched aware : Bool) (width : Option Nat) (st : SafeSt) (m : Meth) (rows : List Nat) : SafeSt × List RawCall :=
  if !batched then
    -- no argument is a batch: `_method[key]` becomes 1 if unset, the call goes through as given; 'not' batched, no probe
    (if m == .predict then { (if (st.get m).isNone then st.set m true else st) with parsed := true }
     else (if (st.get m).isNone then st.set m true else st), rows.map (.row m))
  else if m == .predict then predictCall aware width st rows
  else safeCall aware st m rows

/-- one loop pass of `_results`: the methods of `phases` in order, all on the rows of this pass -/
def rawChunk (batched aware : Bool) (width : Option Nat) : List Meth → SafeSt → List Nat → SafeSt × List RawCall
  | [], st, _ => (st, [])
  | m :: ms, st, rows =>
    let r := phaseCall batched aware width st m rows
    let r' := rawChunk batched aware width ms r.1 rows
    (r'.1, r.2 ++ r'.2)

def rawRun (batched aware : Bool) (width : Option Nat) (phases : List Meth) : SafeSt → List (List Nat) → List RawCall
  | _, [] => []
  | st, ch :: rest =>
    let r := rawChunk batched aware width phases st ch
    r.2 ++ rawRun batched aware width phases r.1 rest

/-- the methods one loop pass of `_results` calls, in order (`should_pred`, the score-based IPS branch, `if learn`) -/
def phasesOf (c : Config) (hasScore : Bool) : List Meth :=
  let sp := shouldPred c hasScore
  (if sp then [.predict] else []) ++ (if c.eval == .ips && hasScore && !sp then [.score] else [])
    ++ (if c.learn != .none then [.learn] else [])

/-- every call the learner object receives during `SequentialCB(c).evaluate(env, learner)` with a learner that is not
yet wrapped (a fresh `SafeLearner` is made by every `evaluate`): `len` interactions, `missing` = validation rejects -/
def callsSeen (c : Config) (hasScore aware : Bool) (width : Option Nat) (bs : Option Nat) (len : Nat) (missing : Bool) :
    List RawCall :=
  if len == 0 then []
  else
    (if hasScore then [.scoreProbe] else []) ++
    (if missing then []
     else (if hasScore then [RawCall.scoreProbe] else []) ++
       rawRun bs.isSome aware width (phasesOf c hasScore) {}
         (match bs with
          | some n => chunks n (List.range len)
          | none => chunks 1 (List.range len)))

/-- the row-level reading of a raw call sequence: attempts the learner refused, `has_score` probes and orientation
probes carry nothing; a batch call is one call per row -/
def rowLevel : List RawCall → List (Meth × Nat)
  | [] => []
  | .scoreProbe :: t => rowLevel t
  | .orient _ :: t => rowLevel t
  | .batch _ _ false :: t => rowLevel t
  | .batch m rows true :: t => rows.map (fun i => (m, i)) ++ rowLevel t
  | .row m i :: t => (m, i) :: rowLevel t

/-- what the evaluation loop asks for: pass by pass, method by method, row by row -/
def skeleton (phases : List Meth) (cs : List (List Nat)) : List (Meth × Nat) :=
  cs.flatMap (fun ch => phases.flatMap (fun m => ch.map (fun i => (m, i))))

def Call.meth : Call V → Meth
  | .predict .. => .predict
  | .score .. => .score
  | .learn .. => .learn

def countOrient : List RawCall → Nat
  | [] => 0
  | .orient _ :: t => countOrient t + 1
  | _ :: t => countOrient t

def countRefused : List RawCall → Nat
  | [] => 0
  | .batch _ _ false :: t => countRefused t + 1
  | _ :: t => countRefused t

/-! ## Phase 5 (translator tie): the record-construction code of `_results` as an interpreted program

`flagDefs` = the `out_x = '<name>' in self._record [and <guard>]` assignments, `prog` = in program order every
`if <atom> and … : out['<key>'] = …` of the loop body; both are extracted from the source (Generated/C06RowProgram). -/

/-- guards of the flag definitions: `eval` (truthy unless None), `has_actions`, `has_rewards` of the first interaction -/
def guardVal (c : Config) (fl : Flags) (g : String) : Bool :=
  if g == "" then true else if g == "eval" then c.eval != .none else if g == "has_actions" then fl.hasActions
  else if g == "has_rewards" then fl.hasRewards else false

/-- an atom of a row statement's condition: `learn` (truthy unless None), `should_pred`, `on_pr is not None` (always in a
batched pass: a list), or a flag looked up in the flag definitions -/
def atomVal (defs : List (String × String × String)) (c : Config) (fl : Flags) (sp batched hasPr : Bool) (a : String) : Bool :=
  if a == "learn" then c.learn != .none else if a == "should_pred" then sp else if a == "on_pr" then (batched || hasPr)
  else match defs.lookup a with
    | some (name, g) => c.rcd name && guardVal c fl g
    | none => false

/-- cells that are written but not part of `recordKeys`: the timing columns (presence only, values are wall-clock) and
`ope_loss` (the constructor refuses it without vowpalwabbit) -/
def unmodelledCells : List String := ["predict_time", "learn_time", "ope_loss"]

/-- run the extracted program: the reserved-name cells of one row, in order -/
def progKeys (defs : List (String × String × String)) (prog : List (String × List String)) (c : Config) (fl : Flags)
    (sp batched hasPr : Bool) : List String :=
  (prog.filter (fun ka => ka.2.all (atomVal defs c fl sp batched hasPr))).map (·.1)

/-- the timing cells of a row (presence only): `predict_time` iff 'time' is recorded, `learn_time` iff also `learn` is called -/
def timeKeys (c : Config) : List String :=
  (if c.rcd "time" then ["predict_time"] else []) ++ (if c.rcd "time" && c.learn != .none then ["learn_time"] else [])

/-! ## Phase 6: a consumer that stops early (`evaluate` is a generator)

`SequentialCB.evaluate` is a generator over a lazily read environment (`peek_first`, `BatchSafe(Finalize())`, `OpeRewards`,
`_results`, `Unbatch` are all generators): a loop pass of `_results` runs only when the consumer asks for a row it yields.
A consumer that takes the rows of the first `j` loop passes (un-batched: `j` rows; `Batch(n)`: `j·n` rows, `Unbatch` hands a
batch's rows out one at a time) and then closes the generator has therefore made `_results` run exactly `j` passes — nothing
of the later interactions is predicted, scored, learned or recorded, and `close()` (GeneratorExit at the `yield`) runs no
further code of the loop.  Validation happens before the first pass, as in `evaluate`. -/
def evaluateStopped [DecidableEq V] [RewardFn R V] (c : Config) (L : Learner σ V) (bs : Option Nat)
    (env : List (Dict (Fld V R))) (s : σ) (j : Nat) : Outcome (σ × List (Call V) × List (Row V R)) :=
  match env with
  | [] => .ok (s, [], [])
  | first :: _ =>
    let miss := missingKeys c L.hasScore first
    if !miss.isEmpty then .rejected miss
    else
      let fl := mkFlags first
      match bs with
      | some n => Outcome.ofExcept (runChunks c fl L true s [] [] ((chunks n env).take j))
      | none => Outcome.ofExcept (runChunks c fl L false s [] [] ((chunks 1 env).take j))

/-- the passes the generator would still run if the consumer resumed asking after `j` passes, from what the first `j`
passes left (learner state, calls so far, rows so far) -/
def resumeStopped [DecidableEq V] [RewardFn R V] (c : Config) (L : Learner σ V) (bs : Option Nat)
    (env : List (Dict (Fld V R))) (j : Nat) (r : σ × List (Call V) × List (Row V R)) :
    Outcome (σ × List (Call V) × List (Row V R)) :=
  match env with
  | [] => .ok r
  | first :: _ =>
    match bs with
    | some n => Outcome.ofExcept (runChunks c (mkFlags first) L true r.1 r.2.1 r.2.2 ((chunks n env).drop j))
    | none => Outcome.ofExcept (runChunks c (mkFlags first) L false r.1 r.2.1 r.2.2 ((chunks 1 env).drop j))

/-- an abandoned evaluation inside a history: the learner goes on from the state the `j` passes left it in -/
structure EpisodeS (V R : Type) extends Episode V R where
  stop : Option Nat          -- `some j`: the consumer closes the generator after the rows of `j` passes

def EpisodeS.run [DecidableEq V] [RewardFn R V] (L : Learner σ V) (e : EpisodeS V R) (s : σ) :
    Outcome (σ × List (Call V) × List (Row V R)) :=
  match e.stop with
  | some j => evaluateStopped e.cfg L e.bs e.env s j
  | none => evaluate e.cfg L e.bs e.env s

def runHistoryS [DecidableEq V] [RewardFn R V] (L : Learner σ V) : σ → List (EpisodeS V R) →
    List (Outcome (σ × List (Call V) × List (Row V R)))
  | _, [] => []
  | s, e :: es =>
    let o := e.run L s
    o :: runHistoryS L (stateAfter s o) es

/-- the interactions an abandoned evaluation got through: `j` passes of `Batch(n)` are the first `j·n` interactions -/
def EpisodeS.seen (e : EpisodeS V R) : Episode V R :=
  match e.stop with
  | none => e.toEpisode
  | some j => { cfg := e.cfg, bs := e.bs, env := e.env.take (j * e.bs.getD 1) }

/-- the consumer took at least one row before closing, and `Batch(n)` has `n ≥ 1` -/
def EpisodeS.okStop (e : EpisodeS V R) : Prop :=
  (∀ j, e.stop = some j → 0 < j) ∧ (∀ n, e.bs = some n → 0 < n)

end Coba.C06
