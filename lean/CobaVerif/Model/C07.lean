/-
C07 — model of the result log: `coba/utilities.py minimize`, `coba/results/core.py`
`TransactionEncode` / `TransactionDecode` / `TransactionResult`, and the two routes of
`coba/experiments/core.py Experiment.run`.  Import-free (core Lean only).

Conventions
* A Python value is a `Val`; ints and finite floats are kept apart (`int`, `flt q` with `q` the
  exact value of the double) because `minimize` rounds floats only.  Numbers are *compared* by
  value on the harness side (Python `1 == 1.0`).
* The JSON text layer (`json.dumps` / `json.loads`, file write/read, gzip) is trusted to be the
  identity on values modulo tuple→list and key→string; `jsonify` is that value-level effect.
  A log line therefore is a typed record `Rec` instead of text.
* `TransactionEncode` is modelled twice: `packAsIs` mirrors the code at the pinned commit
  (`sorted(set().union(keys),key=str)` + `rows_T[str(key)].append(row.get(key))`), `pack` mirrors the
  repaired code of `fixes/C07-str-key-collision.diff` (keys are stringified first).  They agree
  whenever `str` is injective on the keys of the transaction.
* `TransactionResult`'s list→tuple conversion is modelled twice as well: `tupleColsFirstRow` (pinned
  commit: decided by the first row of a column) and `tupleColsPerCell` (`fixes/C07-tuple-per-cell.diff`).
-/
namespace Coba.C07

/-! ### keys and values -/

/-- dictionary keys; `other` carries Python's `str(k)` (= `repr`) for float and tuple keys -/
inductive Key where
  | str (s : String) | int (i : Int) | bool (b : Bool) | none | other (repr : String)
  deriving DecidableEq, Repr, Inhabited

/-- Python `str(k)` — what `TransactionEncode` uses for the field names of interaction rows -/
def Key.pystr : Key → String
  | .str s => s | .int i => toString i | .bool true => "True" | .bool false => "False"
  | .none => "None" | .other r => r

/-- the key `json.dumps` writes — used for params dictionaries and nested dictionaries -/
def Key.json : Key → String
  | .str s => s | .int i => toString i | .bool true => "true" | .bool false => "false"
  | .none => "null" | .other r => r

inductive Val where
  | none | bool (b : Bool) | int (i : Int) | flt (q : Rat) | nan | inf (neg : Bool)
  | str (s : String) | list (xs : List Val) | tup (xs : List Val) | dict (kvs : List (Key × Val))
  | reward (name : String) (state : Val)   -- a coba reward object: registered name + `__getstate__()`
  deriving Repr, Inhabited

abbrev PyDict := List (Key × Val)
/-- a JSON object / table row after reading back: string keys -/
abbrev Row := List (String × Val)

/-! ### float rounding `round(v*P)/P` with `P = 10^5` -/

/-- round half to even, Python `round(x)` on the exact value -/
def rhe (x : Rat) : Int :=
  let f := x.floor
  let d := x - (f : Rat)
  if d < 1/2 then f else if 1/2 < d then f + 1 else if f % 2 = 0 then f else f + 1

def pow2 (e : Int) : Rat := if 0 ≤ e then ((2 ^ e.toNat : Nat) : Rat) else 1 / ((2 ^ (-e).toNat : Nat) : Rat)

def absR (x : Rat) : Rat := if x < 0 then -x else x

/-- `floor(log2 |x|)` for `x ≠ 0` -/
def expo (x : Rat) : Int :=
  let e0 : Int := (Nat.log2 x.num.natAbs : Int) - (Nat.log2 x.den : Int)
  if pow2 e0 ≤ absR x then e0 else e0 - 1

/-- round to 53 significant bits (ties to even) given the binary exponent `e` -/
def flCore (x : Rat) (e : Int) : Rat := (rhe (x * pow2 (52 - e)) : Rat) / pow2 (52 - e)

/-- nearest binary64 (ties to even) of a rational in the normal range: the double product `v*P` -/
def fl (x : Rat) : Rat := if x = 0 then 0 else flCore x (expo x)

/-- `round(v*10**5)/10**5` for a non-integral finite double `v`; the result stands for the double
nearest to the decimal `k/10^5` (which `json` prints as that decimal) -/
def round5 (q : Rat) : Rat := (rhe (fl (q * 100000)) : Rat) / 100000

/-! ### `minimize` (all depths) -/

def minFlt (rnd : Rat → Rat) (q : Rat) : Val :=
  if q.den = 1 then .int q.num else (if (rnd q).den = 1 then .int (rnd q).num else .flt (rnd q))

mutual
/-- `coba.utilities.minimize`: integral floats → int, other finite floats → `rnd`, tuples → lists,
recursively through lists, tuples and dict values; NaN/±inf and everything else unchanged -/
def minimize (rnd : Rat → Rat) : Val → Val
  | .flt q => minFlt rnd q
  | .list xs => .list (minimizeL rnd xs)
  | .tup xs => .list (minimizeL rnd xs)
  | .dict kvs => .dict (minimizeD rnd kvs)
  | .none => .none | .bool b => .bool b | .int i => .int i | .nan => .nan | .inf n => .inf n | .str s => .str s
  | .reward n st => .reward n st     -- not a float/list/tuple/dict: untouched, also its state
def minimizeL (rnd : Rat → Rat) : List Val → List Val
  | [] => []
  | x :: xs => minimize rnd x :: minimizeL rnd xs
def minimizeD (rnd : Rat → Rat) : PyDict → PyDict
  | [] => []
  | (k, v) :: kvs => (k, minimize rnd v) :: minimizeD rnd kvs
end

mutual
/-- the finite float leaves of a value -/
def fltLeaves : Val → List Rat
  | .flt q => [q]
  | .list xs => fltLeavesL xs
  | .tup xs => fltLeavesL xs
  | .dict kvs => fltLeavesD kvs
  | .none => [] | .bool _ => [] | .int _ => [] | .nan => [] | .inf _ => [] | .str _ => [] | .reward _ _ => []
def fltLeavesL : List Val → List Rat
  | [] => []
  | x :: xs => fltLeaves x ++ fltLeavesL xs
def fltLeavesD : PyDict → List Rat
  | [] => []
  | (_, v) :: kvs => fltLeaves v ++ fltLeavesD kvs
end

/-! ### the value-level effect of `json.loads ∘ json.dumps` -/

mutual
def jsonify : Val → Val
  | .list xs => .list (jsonifyL xs)
  | .tup xs => .list (jsonifyL xs)
  | .dict kvs => .dict (jsonifyD kvs)
  | .none => .none | .bool b => .bool b | .int i => .int i | .flt q => .flt q | .nan => .nan | .inf n => .inf n
  | .str s => .str s
  | .reward n st => .dict [(.str n, jsonify st)]   -- `coba.json` default hook: `{registered name: __getstate__()}`
def jsonifyL : List Val → List Val
  | [] => []
  | x :: xs => jsonify x :: jsonifyL xs
def jsonifyD : PyDict → PyDict
  | [] => []
  | (k, v) :: kvs => (.str k.json, jsonify v) :: jsonifyD kvs
end

/-- what is written and read back for one value: `json.loads(coba.json.dumps(minimize(v)))` -/
def wire (rnd : Rat → Rat) (v : Val) : Val := jsonify (minimize rnd v)

/-- a params dictionary on the wire: string keys (json coercion), values through `wire` -/
def wireDict (rnd : Rat → Rat) : PyDict → Row
  | [] => []
  | (k, v) :: kvs => (k.json, wire rnd v) :: wireDict rnd kvs

/-! ### transactions and log records -/

inductive Tx where
  | t0 (info : PyDict)
  | t1 (id : Int) (params : PyDict)
  | t2 (id : Int) (params : PyDict)
  | t3 (id : Int) (params : PyDict)
  | t4 (ids : List Int) (rows : List PyDict)
  deriving Repr, Inhabited

inductive Tbl where | E | L | V
  deriving DecidableEq, Repr, Inhabited

/-- a decoded log line -/
inductive Rec where
  | version (n : Int)
  | experiment (d : Row)
  | comp (t : Tbl) (id : Int) (params : Row)
  | inter (ids : List Int) (packed : List (String × List Val)) (n : Nat)   -- `n` = the `_n` entry (0: absent)
  deriving Repr, Inhabited

/-! ### `TransactionEncode`: column packing -/

/-- insert into a strictly sorted list of strings, dropping duplicates -/
def insertStr (s : String) : List String → List String
  | [] => [s]
  | t :: ts => if s < t then s :: t :: ts else if s = t then t :: ts else t :: insertStr s ts

def sortDedup (l : List String) : List String := l.foldr insertStr []

/-- the last value stored under a key whose `str` is `s` (dict comprehension `{str(k):v …}`) -/
def lookupLast (s : String) : PyDict → Option Val
  | [] => none
  | (k, v) :: r => match lookupLast s r with
    | some w => some w
    | none => if k.pystr = s then some v else none

def rowStrs (row : PyDict) : List String := row.map (fun kv => kv.1.pystr)

/-- sorted distinct stringified field names of all rows -/
def strKeys (rows : List PyDict) : List String := sortDedup (rows.flatMap rowStrs)

def cellOf (s : String) (row : PyDict) : Val :=
  match lookupLast s row with | some v => v | none => .none

/-- repaired packing: one column per distinct `str(key)`, one cell per row (`row.get(key,None)`) -/
def packWith (keys : List String) (rows : List PyDict) : List (String × List Val) :=
  keys.map (fun s => (s, rows.map (cellOf s)))

def pack (rows : List PyDict) : List (String × List Val) := packWith (strKeys rows) rows

/-! pinned-commit packing -/

def insertKey (k : Key) (ks : List Key) : List Key := if ks.contains k then ks else ks ++ [k]
/-- union of the rows' key sets (order of first occurrence; the order Python's `set` yields is
irrelevant whenever `str` is injective on it, because the list is sorted by `str` next) -/
def unionKeys (rows : List PyDict) : List Key :=
  (rows.flatMap (fun r => r.map (·.1))).foldl (fun acc k => insertKey k acc) []

/-- stable insertion sort by `str` -/
def insertByStr (k : Key) : List Key → List Key
  | [] => [k]
  | t :: ts => if t.pystr < k.pystr then t :: insertByStr k ts else k :: t :: ts
def sortByStr (ks : List Key) : List Key := ks.foldr insertByStr []

def rowGet (k : Key) (row : PyDict) : Val :=
  match row.lookup k with | some v => v | none => .none

/-- distinct members in order of first occurrence (insertion order of the `defaultdict`) -/
def dedupFirst : List String → List String
  | [] => []
  | s :: ss => s :: (dedupFirst ss).filter (fun t => t != s)

/-- `for row in rows: for key in keys: rows_T[str(key)].append(row.get(key))` -/
def packAsIs (rows : List PyDict) : List (String × List Val) :=
  let ks := sortByStr (unionKeys rows)
  let ss := dedupFirst (ks.map Key.pystr)
  ss.map (fun s => (s, rows.flatMap (fun row => (ks.filter (fun k => k.pystr = s)).map (fun k => rowGet k row))))

/-- `str` is injective on the keys of the transaction -/
def NoStrCollision (rows : List PyDict) : Prop :=
  ∀ k₁ ∈ unionKeys rows, ∀ k₂ ∈ unionKeys rows, k₁.pystr = k₂.pystr → k₁ = k₂

def noStrCollisionB (rows : List PyDict) : Bool :=
  let ks := unionKeys rows
  ks.all (fun k₁ => ks.all (fun k₂ => k₁.pystr != k₂.pystr || k₁ == k₂))

/-- cells of a packed column on the wire -/
def wireCols (rnd : Rat → Rat) (cols : List (String × List Val)) : List (String × List Val) :=
  cols.map (fun c => (c.1, c.2.map (wire rnd)))

/-- `fixed = true`: repaired `TransactionEncode`; `false`: pinned commit -/
def encodeTx (rnd : Rat → Rat) (fixed : Bool) : Tx → Rec
  | .t0 m => .experiment (wireDict rnd m)
  | .t1 id p => .comp .E id (wireDict rnd p)
  | .t2 id p => .comp .L id (wireDict rnd p)
  | .t3 id p => .comp .V id (wireDict rnd p)
  | .t4 ids rows =>
    let cols := wireCols rnd (if fixed then pack rows else packAsIs rows)
    -- `fixes/C07-rows-without-fields.diff`: rows without any field leave no column, their number is recorded as `_n`
    .inter ids cols (if cols.isEmpty then rows.length else 0)

/-- `TransactionEncode(restored).filter`: the version line is written by fresh runs only -/
def encode (rnd : Rat → Rat) (fixed : Bool) (restored : Bool) (txs : List Tx) : List Rec :=
  (if restored then [] else [Rec.version 4]) ++ txs.map (encodeTx rnd fixed)

/-! ### `TransactionResult` -/

inductive Err where
  | stopIteration      -- empty log: `next(transactions)` on nothing
  | cobaException      -- malformed first line
  | typeError          -- `tuple(x)` on a non-iterable cell (pinned commit, first-row decision)
  | valueError         -- an id list that is not a pair or a triple
  deriving DecidableEq, Repr, Inhabited

/-- `tuple(v) if isinstance(v,list) else v` -/
def tupTop : Val → Val
  | .list xs => .tup xs
  | v => v

def isList : Val → Bool
  | .list _ => true
  | _ => false

/-- Python `tuple(v)` on a JSON value -/
def pyTuple : Val → Except Err Val
  | .list xs => .ok (.tup xs)
  | .str s => .ok (.tup (s.toList.map (fun c => Val.str (String.singleton c))))
  | .dict kvs => .ok (.tup (kvs.map (fun kv => Val.str kv.1.pystr)))
  | .tup xs => .ok (.tup xs)
  | _ => .error .typeError

def mapTuple : List Val → Except Err (List Val)
  | [] => .ok []
  | v :: vs => match pyTuple v, mapTuple vs with
    | .ok t, .ok ts => .ok (t :: ts)
    | .error e, _ => .error e
    | _, .error e => .error e

/-- pinned commit: `{k: list(map(tuple,v)) if k != 'rewards' and isinstance(v[0],list) else v}` -/
def tupleColsFirstRow : List (String × List Val) → Except Err (List (String × List Val))
  | [] => .ok []
  | (k, col) :: cs =>
    let here : Except Err (List Val) :=
      if k = "rewards" then .ok col else
      match col with
      | [] => .ok col        -- never produced by the encoder (`v[0]` would raise IndexError)
      | c0 :: _ => if isList c0 then mapTuple col else .ok col
    match here, tupleColsFirstRow cs with
    | .ok col', .ok cs' => .ok ((k, col') :: cs')
    | .error e, _ => .error e
    | _, .error e => .error e

/-- repaired: `{k: [tuple(c) if isinstance(c,list) else c for c in v] if k != 'rewards' else v}` -/
def tupleColsPerCell (cols : List (String × List Val)) : List (String × List Val) :=
  cols.map (fun c => (c.1, if c.1 = "rewards" then c.2 else c.2.map tupTop))

def tupleCols (fixed : Bool) (cols : List (String × List Val)) : Except Err (List (String × List Val)) :=
  if fixed then .ok (tupleColsPerCell cols) else tupleColsFirstRow cols

/-- the columns `TransactionResult` itself writes; a field with one of these names is overwritten -/
def idCols : List String := ["environment_id", "learner_id", "evaluator_id", "index"]

def heads (cols : List (String × List Val)) : Row := cols.map (fun c => (c.1, c.2.headD .none))
def tails (cols : List (String × List Val)) : List (String × List Val) := cols.map (fun c => (c.1, c.2.tail))

/-- the rows of a column-wise table with `n` rows (`Table.insert` of a mapping of columns, read row-wise) -/
def unpackN : Nat → List (String × List Val) → List Row
  | 0, _ => []
  | n+1, cols => heads cols :: unpackN n (tails cols)

def idCells (e l v : Int) (i : Nat) : Row :=
  [("environment_id", .int e), ("learner_id", .int l), ("evaluator_id", .int v), ("index", .int i)]

/-- prepend the id columns, numbering from `i` -/
def number (e l v : Int) : Nat → List Row → List Row
  | _, [] => []
  | i, r :: rs => (idCells e l v i ++ r) :: number e l v (i+1) rs

def firstLen : List (String × List Val) → Nat
  | [] => 0
  | c :: _ => c.2.length

/-- the table rows of one `["I", ids, {"_packed": cols}]` record -/
def triRows (fixed : Bool) (e l v : Int) (cols : List (String × List Val)) (n : Nat) : Except Err (List Row) :=
  if cols.isEmpty then .ok (number e l v 1 (List.replicate n [])) else
  match tupleCols fixed cols with
  | .error err => .error err
  | .ok cols' =>
    let n := firstLen cols'
    .ok (number e l v 1 (unpackN n (cols'.filter (fun c => !idCols.contains c.1))))

/-- `d[k] = v` on an insertion-ordered dictionary -/
def upsert {α β} [DecidableEq α] (k : α) (v : β) : List (α × β) → List (α × β)
  | [] => [(k, v)]
  | (k', v') :: r => if k' = k then (k', v) :: r else (k', v') :: upsert k v r

/-- `d.update(r)` -/
def update (d : Row) (r : Row) : Row := r.foldl (fun acc kv => upsert kv.1 kv.2 acc) d

def ltIds : List Int → List Int → Bool
  | [], [] => false
  | [], _ :: _ => true
  | _ :: _, [] => false
  | a :: as, b :: bs => if a < b then true else if b < a then false else ltIds as bs

def insertBy {α} (lt : α → α → Bool) (x : α) : List α → List α
  | [] => [x]
  | y :: ys => if lt x y then x :: y :: ys else y :: insertBy lt x ys
/-- `sorted(d.items())` for distinct keys -/
def sortBy {α} (lt : α → α → Bool) (l : List α) : List α := l.foldr (insertBy lt) []

/-- the records of table `t`, in log order -/
def compsOf (t : Tbl) : List Rec → List (Int × Row)
  | [] => []
  | .comp t' id p :: rs => if t' = t then (id, p) :: compsOf t rs else compsOf t rs
  | .version _ :: rs => compsOf t rs
  | .experiment _ :: rs => compsOf t rs
  | .inter _ _ _ :: rs => compsOf t rs

/-- `rows[id].update(list2tuple(params))` -/
def mergeComp (acc : List (Int × Row)) (ip : Int × Row) : List (Int × Row) :=
  let p' : Row := ip.2.map (fun kv => (kv.1, tupTop kv.2))
  let old : Row := match acc.lookup ip.1 with | some o => o | none => []
  upsert ip.1 (update old p') acc

def ltId (a b : Int × Row) : Bool := decide (a.1 < b.1)

/-- the merged rows of table `t`, `sorted(rows.items())` -/
def compRows (t : Tbl) (recs : List Rec) : List (Int × Row) :=
  sortBy ltId ((compsOf t recs).foldl mergeComp [])

def idColName : Tbl → String
  | .E => "environment_id" | .L => "learner_id" | .V => "evaluator_id"

/-- `{"<t>_id": id, **row}` -/
def compTable (t : Tbl) (recs : List Rec) : List Row :=
  (compRows t recs).map (fun ir => update [(idColName t, .int ir.1)] ir.2)

abbrev Cols := List (String × List Val)

/-- the `{"_packed": cols, "_n": n}` part of an interaction record -/
abbrev Packed := Cols × Nat

def intersOf : List Rec → List (List Int × Packed)
  | [] => []
  | .inter ids cols n :: rs => (ids, (cols, n)) :: intersOf rs
  | .version _ :: rs => intersOf rs
  | .experiment _ :: rs => intersOf rs
  | .comp _ _ _ :: rs => intersOf rs

/-- `int_rows[tuple(ids)] = packed` (pairs are completed with evaluator 0) -/
def mergeInter (acc : List (List Int × Packed)) (ic : List Int × Packed) : List (List Int × Packed) :=
  upsert (if ic.1.length = 2 then ic.1 ++ [0] else ic.1) ic.2 acc

def ltTri (a b : List Int × Packed) : Bool := ltIds a.1 b.1

/-- the interaction records, last one per id triple, `sorted(int_rows.items())` -/
def interRecs (recs : List Rec) : List (List Int × Packed) :=
  sortBy ltTri ((intersOf recs).foldl mergeInter [])

def interTable (fixed : Bool) : List (List Int × Packed) → Except Err (List Row)
  | [] => .ok []
  | (ids, cols, n) :: rest =>
    match ids with
    | [e, l, v] =>
      match triRows fixed e l v cols n, interTable fixed rest with
      | .ok rows, .ok more => .ok (rows ++ more)
      | .error err, _ => .error err
      | _, .error err => .error err
    | _ => .error .valueError

/-- the groups of rows `TransactionResult` hands to `Table.insert` one after the other: one group per
interaction record that yields at least one row (same computation as `interTable`, not flattened) -/
def interGroups (fixed : Bool) : List (List Int × Packed) → Except Err (List (List Row))
  | [] => .ok []
  | (ids, cols, n) :: rest =>
    match ids with
    | [e, l, v] =>
      match triRows fixed e l v cols n, interGroups fixed rest with
      | .ok rows, .ok more => .ok (if rows.isEmpty then more else rows :: more)
      | .error err, _ => .error err
      | _, .error err => .error err
    | _ => .error .valueError

/-! ### `Table`: column order and padding with `Missing` (what `Table.columns` / `to_dicts()` show) -/

/-- a table as `Table` exposes it: the column names in order and every row as its cells in that order; `none` is
`Missing` (the column does not exist for that row), `some .none` is a stored `None` -/
structure PTable where
  columns : List String
  rows : List (List (Option Val))
  deriving Repr, Inhabited

def rowKeys (r : Row) : List String := r.map (·.1)

/-- `Table.insert`: the columns a group of rows adds — its keys that are not columns yet, sorted -/
def addCols (cols : List String) (g : List Row) : List String :=
  cols ++ sortDedup ((g.flatMap rowKeys).filter (fun k => !cols.contains k))

/-- columns after inserting the groups one after the other into a table created with `init` columns -/
def tableCols (init : List String) (groups : List (List Row)) : List String := groups.foldl addCols init

/-- old rows are padded with `Missing` for new columns, new rows for columns they lack -/
def padTable (init : List String) (groups : List (List Row)) : PTable :=
  let cols := tableCols init groups
  { columns := cols, rows := groups.flatten.map (fun r => cols.map (fun c => r.lookup c)) }

/-- the four tables of `TransactionResult` as `Table` exposes them (`rwd_col` is always empty for version-4 logs:
it looks for a key `reward` beside `_packed`) -/
def tablesOf (fixed : Bool) : List Rec → Except Err (List PTable)
  | .version n :: recs =>
    if n ≠ 4 then .error .stopIteration else
    match interGroups fixed (interRecs recs) with
    | .error e => .error e
    | .ok groups =>
      let one (t : Tbl) : PTable :=
        let rows := compTable t recs
        padTable [idColName t] (if rows.isEmpty then [] else [rows])
      .ok [one .E, one .L, one .V, padTable idCols groups]
  | _ => .error .stopIteration

def lastExperiment (recs : List Rec) : Row :=
  recs.foldl (fun acc r => match r with | .experiment d => d | _ => acc) []

structure Result where
  experiment : Row
  environments : List Row
  learners : List Row
  evaluators : List Row
  interactions : List Row
  deriving Repr, Inhabited

/-- `TransactionResult().filter(TransactionDecode().filter(lines))` -/
def readLog (fixed : Bool) : List Rec → Except Err Result
  | [] => .error .stopIteration
  | .version n :: recs =>
    if n ≠ 4 then .error .stopIteration else   -- `TransactionDecode` yields nothing for other versions
    match interTable fixed (interRecs recs) with
    | .error e => .error e
    | .ok rows => .ok {
        experiment := lastExperiment recs
        environments := compTable .E recs
        learners := compTable .L recs
        evaluators := compTable .V recs
        interactions := rows }
  | _ :: _ => .error .cobaException   -- a first line that is not the version line is never written by coba

/-- the `{"_packed": …, "_n": …}` part the encoder writes for the rows of an evaluation -/
def packedOf (rnd : Rat → Rat) (f : Bool) (rows : List PyDict) : Packed :=
  (wireCols rnd (if f then pack rows else packAsIs rows),
   if (wireCols rnd (if f then pack rows else packAsIs rows)).isEmpty then rows.length else 0)

/-- a log written before `fixes/C07-rows-without-fields.diff`: no record carries `_n` -/
def stripN : List Rec → List Rec
  | [] => []
  | .inter ids cols _ :: rs => .inter ids cols 0 :: stripN rs
  | r :: rs => r :: stripN rs

/-! ### the routes of `Experiment.run` -/

/-- fresh run without a file: `ListSink` collects the encoded lines, `ListSource` replays them -/
def runNoFile (rnd : Rat → Rat) (fe fr : Bool) (info : PyDict) (txs : List Tx) : Except Err Result :=
  readLog fr (encode rnd fe false (.t0 info :: txs))

/-- content of the result file after a run: a fresh run writes version + preamble + transactions, a
restored run appends its transactions (no version line, no preamble) to what is there -/
def fileAfter (rnd : Rat → Rat) (fe : Bool) (info : PyDict) (file : Option (List Rec)) (txs : List Tx) : List Rec :=
  match file with
  | none => encode rnd fe false (.t0 info :: txs)
  | some old => old ++ encode rnd fe true txs

/-- `Experiment.run(file)` returns the Result read from the file it has just written -/
def runFile (rnd : Rat → Rat) (fe fr : Bool) (info : PyDict) (file : Option (List Rec)) (txs : List Tx) : Except Err Result :=
  readLog fr (fileAfter rnd fe info file txs)

/-- `Result.from_file` -/
def fromFile (fr : Bool) (file : List Rec) : Except Err Result := readLog fr file

/-! ### specification: the documented normalisation -/

mutual
/-- nested values: floats rounded (integral ones become ints), every sequence a list, every key a string -/
def normIn (rnd : Rat → Rat) : Val → Val
  | .flt q => minFlt rnd q
  | .list xs => .list (normInL rnd xs)
  | .tup xs => .list (normInL rnd xs)
  | .dict kvs => .dict (normInD rnd kvs)
  | .none => .none | .bool b => .bool b | .int i => .int i | .nan => .nan | .inf n => .inf n | .str s => .str s
  | .reward n st => .dict [(.str n, jsonify st)]   -- registered json form; the state is carried by json as it is (not rounded)
def normInL (rnd : Rat → Rat) : List Val → List Val
  | [] => []
  | x :: xs => normIn rnd x :: normInL rnd xs
def normInD (rnd : Rat → Rat) : PyDict → PyDict
  | [] => []
  | (k, v) :: kvs => (.str k.json, normIn rnd v) :: normInD rnd kvs
end

/-- a table cell: as `normIn`, but a top-level sequence is read back as a tuple -/
def normTop (rnd : Rat → Rat) : Val → Val
  | .list xs => .tup (normInL rnd xs)
  | .tup xs => .tup (normInL rnd xs)
  | v => normIn rnd v

/-- the `rewards` column is exempt from the tuple conversion (explicit in `packed_list2tuple`) -/
def normCell (rnd : Rat → Rat) (col : String) (v : Val) : Val :=
  if col = "rewards" then normIn rnd v else normTop rnd v

/-- an evaluator row as it must appear in the interactions table: every field of the transaction
(`keys`), absent ones as None, names as strings, cells normalised; fields named like an id column
are overwritten by the id columns -/
def normRow (rnd : Rat → Rat) (keys : List String) (row : PyDict) : Row :=
  (keys.filter (fun s => !idCols.contains s)).map (fun s => (s, normCell rnd s (cellOf s row)))

/-- the rows the interactions table must hold for a triple whose evaluator yielded `rows` -/
def specRows (rnd : Rat → Rat) (e l v : Int) (rows : List PyDict) : List Row :=
  number e l v 1 (rows.map (normRow rnd (strKeys rows)))

/-- the `(ids, rows)` of the evaluations in a transaction list, in order -/
def t4sOf : List Tx → List (List Int × List PyDict)
  | [] => []
  | .t4 ids rows :: r => (ids, rows) :: t4sOf r
  | .t0 _ :: r => t4sOf r
  | .t1 _ _ :: r => t4sOf r
  | .t2 _ _ :: r => t4sOf r
  | .t3 _ _ :: r => t4sOf r

/-- the `(id, params)` recorded for table `t` in a transaction list, in order -/
def paramsOf (t : Tbl) : List Tx → List (Int × PyDict)
  | [] => []
  | .t1 id p :: r => if t = .E then (id, p) :: paramsOf t r else paramsOf t r
  | .t2 id p :: r => if t = .L then (id, p) :: paramsOf t r else paramsOf t r
  | .t3 id p :: r => if t = .V then (id, p) :: paramsOf t r else paramsOf t r
  | .t0 _ :: r => paramsOf t r
  | .t4 _ _ :: r => paramsOf t r

def specRowsOf (rnd : Rat → Rat) (ir : List Int × List PyDict) : List Row :=
  match ir.1 with
  | [e, l, v] => specRows rnd e l v ir.2
  | _ => []

/-- a well-formed evaluation record: three ids (phase 2: rows without any field are fine, their number is recorded) -/
def WellFormed (ir : List Int × List PyDict) : Prop := ir.1.length = 3

def ltTriP (a b : List Int × List PyDict) : Bool := ltIds a.1 b.1
def ltIdP (a b : Int × PyDict) : Bool := decide (a.1 < b.1)

/-- keep, for every key, the value of its LAST entry (at the position of its first entry): what a Python dict
holds after `for k,v in l: d[k] = v` -/
def lastWins {α β} [DecidableEq α] (l : List (α × β)) : List (α × β) :=
  l.foldl (fun acc kv => upsert kv.1 kv.2 acc) []

/-- [phase 3] the interactions table of a log in which a triple may be logged more than once: the last record of a
triple counts (`int_rows[ids] = record`), evaluations ordered by their ids -/
def specInteractionsLW (rnd : Rat → Rat) (txs : List Tx) : List Row :=
  (sortBy ltTriP (lastWins (t4sOf txs))).flatMap (specRowsOf rnd)

/-- the interactions table a log of `txs` must produce: the evaluations ordered by their ids, each
with exactly its rows -/
def specInteractions (rnd : Rat → Rat) (txs : List Tx) : List Row :=
  (sortBy ltTriP (t4sOf txs)).flatMap (specRowsOf rnd)

/-- a params dictionary as it must appear in its table -/
def normParams (rnd : Rat → Rat) : PyDict → Row
  | [] => []
  | (k, v) :: kvs => (k.json, normTop rnd v) :: normParams rnd kvs

/-- the params table `t` a log of `txs` must produce -/
def specParams (rnd : Rat → Rat) (t : Tbl) (txs : List Tx) : List Row :=
  (sortBy ltIdP (paramsOf t txs)).map (fun ip => (idColName t, Val.int ip.1) :: normParams rnd ip.2)

/-- every row is a Python dict: no field name twice -/
def RowsNodup (rows : List PyDict) : Prop := ∀ r ∈ rows, (r.map (·.1)).Nodup

/-- [phase 3] the params of one id when it is recorded several times: the dictionaries are merged in log order
(`rows[id].update(params)`: later values win, fields only recorded earlier stay) -/
def unionParams (rnd : Rat → Rat) (id : Int) (ps : List (Int × PyDict)) : Row :=
  (ps.filter (fun ip => ip.1 = id)).foldl (fun acc ip => update acc (normParams rnd ip.2)) []

/-- the transaction list of a run as coba produces it: the preamble is not repeated, every component
and every triple is recorded once, evaluation records are well-formed, params keys stay distinct as
strings and differ from the id column -/
structure CleanRun (txs : List Tx) : Prop where
  noT0 : ∀ m, Tx.t0 m ∉ txs
  wf : ∀ ir ∈ t4sOf txs, WellFormed ir
  triNodup : ((t4sOf txs).map (·.1)).Nodup
  idNodup : ∀ t, ((paramsOf t txs).map (·.1)).Nodup
  keysOk : ∀ t, ∀ ip ∈ paramsOf t txs, (ip.2.map (·.1.json)).Nodup ∧ idColName t ∉ ip.2.map (·.1.json)

/-- the Result the statement demands for a run with preamble `info` and transactions `txs` -/
def specResult (rnd : Rat → Rat) (info : PyDict) (txs : List Tx) : Result where
  experiment := wireDict rnd info
  environments := specParams rnd .E txs
  learners := specParams rnd .L txs
  evaluators := specParams rnd .V txs
  interactions := specInteractions rnd txs

/-- columns in which the first row decides correctly: the pinned commit's `packed_list2tuple` is right
exactly on these -/
def firstRowDecides : List (String × List Val) → Bool
  | [] => true
  | (k, col) :: cs =>
    (k == "rewards" || match col with
      | [] => true
      | c0 :: _ => if isList c0 then col.all isList else col.all (fun c => !isList c))
    && firstRowDecides cs

/-! ### [phase 5] the four tables the statement demands, as `Table` exposes them (column order + `Missing` padding) -/

/-- `Table.insert` is only called for a non-empty list of rows -/
def nonEmptyGroup (rows : List Row) : List (List Row) := if rows.isEmpty then [] else [rows]

/-- the groups of rows inserted into the interactions table: per triple in id order its specified rows; a triple that
yielded no row inserts nothing -/
def specGroups (rnd : Rat → Rat) (txs : List Tx) : List (List Row) :=
  ((sortBy ltTriP (t4sOf txs)).map (specRowsOf rnd)).filter (fun g => !g.isEmpty)

/-- the padded tables (environments, learners, evaluators, interactions) a log of `txs` must show -/
def specTables (rnd : Rat → Rat) (txs : List Tx) : List PTable :=
  [padTable [idColName .E] (nonEmptyGroup (specParams rnd .E txs)),
   padTable [idColName .L] (nonEmptyGroup (specParams rnd .L txs)),
   padTable [idColName .V] (nonEmptyGroup (specParams rnd .V txs)),
   padTable idCols (specGroups rnd txs)]

/-- no element twice -/
def nodupB {α} [DecidableEq α] : List α → Bool
  | [] => true
  | x :: xs => decide (x ∉ xs) && nodupB xs

/-- [phase 5] executable test for `CleanRun` (exact: `cleanRunB_iff`); the driver reports it so that the harness knows on
which cases the clean-run theorems apply -/
def cleanRunB (txs : List Tx) : Bool :=
  txs.all (fun t => match t with | .t0 _ => false | _ => true)
  && (t4sOf txs).all (fun ir => decide (ir.1.length = 3))
  && nodupB ((t4sOf txs).map (·.1))
  && [Tbl.E, Tbl.L, Tbl.V].all (fun t => nodupB ((paramsOf t txs).map (·.1))
      && (paramsOf t txs).all (fun ip => nodupB (ip.2.map (·.1.json)) && decide (idColName t ∉ ip.2.map (·.1.json))))

/-! ### [phase 5] `Result.__init__`: the caches built from `to_dicts()` and the learners' `full_name` -/

/-- the cell of a padded row under column `c` as `to_dicts()` shows it; `none`: `Missing` (or no such column) -/
def cellAt (cols : List String) (cells : List (Option Val)) (c : String) : Option Val :=
  match (cols.zip cells).lookup c with
  | some (some v) => some v
  | _ => none

/-- what `full_name` is made of (the text itself is Python's `str` of these values, rendered by the harness):
`f"{lrn_id}. {family}{params}"`, or `f"{lrn_id}. {family}({args}, seed={seed})"` when `vw` -/
structure FullName where
  id : Val                        -- `value['learner_id']`
  family : Option (Option Val)    -- `value.get('family', lrn_id)`: `none` no such column (→ `lrn_id`), `some none` the cell is `Missing`
  params : List (String × Val)    -- the `k=v` parts, in column order
  vw : Bool                       -- `family == 'vw'` and `args`, `seed` present
  deriving Repr, Inhabited

/-- `[f'{k}={v}' for k,v in value.items() if k and k not in ['family','learner_id'] and v is not Missing]` -/
def nameParams (cols : List String) (get : String → Option Val) : List (String × Val) :=
  cols.filterMap (fun c => if c = "" ∨ c = "family" ∨ c = "learner_id" then none else (get c).map (fun v => (c, v)))

def fullNameOf (cols : List String) (get : String → Option Val) : Option FullName :=
  match get "learner_id" with
  | none => none            -- `value['learner_id']` raises KeyError (never for a table made by TransactionResult)
  | some id => some {
      id := id
      family := if cols.contains "family" then some (get "family") else none
      params := nameParams cols get
      vw := (match get "family" with | some (.str s) => s == "vw" | _ => false) && (get "args").isSome && (get "seed").isSome }

/-- the `full_name` ingredients of every row of the learners table, in table order (`_lrn_cache` is keyed by `learner_id`) -/
def lrnNames (t : PTable) : List (Option FullName) :=
  t.rows.map (fun cells => fullNameOf t.columns (cellAt t.columns cells))

/-! ### [phase 5] the record-writing code of `TransactionEncode` and the record-reading code of `TransactionResult` as tables (tag → shape) -/

/-- one element of a log line after its tag -/
inductive Slot where
  | id (i : Int) | ids (l : List Int) | dict (d : Row) | packed (p : Packed)
  deriving Repr, Inhabited

/-- a log line `[tag, slot, …]` -/
structure Line where
  tag : String
  slots : List Slot
  deriving Repr, Inhabited

def txTag : Tx → String
  | .t0 _ => "T0" | .t1 _ _ => "T1" | .t2 _ _ => "T2" | .t3 _ _ => "T3" | .t4 _ _ => "T4"

/-- what the encoder writes for an element of the list it hands to `encoder`: `item[1]` / `item[2]` (through `minimize` and json) or
`packed` (the column dictionary it has built from `item[2]`) -/
def txSlot (rnd : Rat → Rat) (fixed : Bool) (tx : Tx) (src : String) : Option Slot :=
  match tx with
  | .t0 m => if src = "item[1]" then some (.dict (wireDict rnd m)) else none
  | .t1 id p => if src = "item[1]" then some (.id id) else if src = "item[2]" then some (.dict (wireDict rnd p)) else none
  | .t2 id p => if src = "item[1]" then some (.id id) else if src = "item[2]" then some (.dict (wireDict rnd p)) else none
  | .t3 id p => if src = "item[1]" then some (.id id) else if src = "item[2]" then some (.dict (wireDict rnd p)) else none
  | .t4 ids rows => if src = "item[1]" then some (.ids ids) else if src = "packed" then some (.packed (packedOf rnd fixed rows)) else none

def slotsOf (rnd : Rat → Rat) (fixed : Bool) (tx : Tx) : List String → Option (List Slot)
  | [] => some []
  | s :: ss => match txSlot rnd fixed tx s, slotsOf rnd fixed tx ss with
    | some a, some as => some (a :: as)
    | _, _ => none

/-- transaction tag → (record tag, the elements written after it) -/
abbrev EncTable := List (String × String × List String)
/-- record tag → (the variable the reader stores into, the elements `trx[k]` it reads) -/
abbrev ResTable := List (String × String × List String)

/-- the `if item[0] == T: yield encoder([tag, …])` dispatch of `TransactionEncode.filter`, driven by a table -/
def encodeLine (tbl : EncTable) (rnd : Rat → Rat) (fixed : Bool) (tx : Tx) : Option Line :=
  match tbl.lookup (txTag tx) with
  | none => none                        -- no branch for this transaction: nothing is written
  | some (tag, srcs) => match slotsOf rnd fixed tx srcs with
    | some ss => some { tag := tag, slots := ss }
    | none => none

/-- the `if trx[0] == tag:` dispatch of `TransactionResult.filter`, driven by a table -/
def decodeLine (tbl : ResTable) (l : Line) : Option Rec :=
  match tbl.lookup l.tag with
  | none => none                        -- no branch tests this tag: the line is ignored
  | some (target, srcs) =>
    if srcs = ["trx[1]"] then
      match l.slots with
      | [.dict d] => if target = "exp_dict" then some (.experiment d) else none
      | _ => none
    else if srcs = ["trx[1]", "trx[2]"] then
      match l.slots with
      | [.id i, .dict d] =>
        if target = "env_rows" then some (.comp .E i d) else if target = "lrn_rows" then some (.comp .L i d)
        else if target = "val_rows" then some (.comp .V i d) else none
      | [.ids is, .packed p] => if target = "int_rows" then some (.inter is p.1 p.2) else none
      | _ => none
    else none

def encodeLines (tbl : EncTable) (rnd : Rat → Rat) (fixed : Bool) : List Tx → Option (List Line)
  | [] => some []
  | tx :: txs => match encodeLine tbl rnd fixed tx, encodeLines tbl rnd fixed txs with
    | some l, some ls => some (l :: ls)
    | _, _ => none

def decodeLines (tbl : ResTable) : List Line → Option (List Rec)
  | [] => some []
  | l :: ls => match decodeLine tbl l, decodeLines tbl ls with
    | some r, some rs => some (r :: rs)
    | _, _ => none

/-- the tables the model's `encodeTx` / `Rec` correspond to (proved equal to the ones read off the source: `source_shapes_match`) -/
def modelEncShapes : EncTable :=
  [("T0", "experiment", ["item[1]"]), ("T1", "E", ["item[1]", "item[2]"]), ("T2", "L", ["item[1]", "item[2]"]),
   ("T3", "V", ["item[1]", "item[2]"]), ("T4", "I", ["item[1]", "packed"])]
def modelResShapes : ResTable :=
  [("experiment", "exp_dict", ["trx[1]"]), ("E", "env_rows", ["trx[1]", "trx[2]"]), ("L", "lrn_rows", ["trx[1]", "trx[2]"]),
   ("V", "val_rows", ["trx[1]", "trx[2]"]), ("I", "int_rows", ["trx[1]", "trx[2]"])]

/-- a run's log written and read through the two tables -/
def viaTables (rnd : Rat → Rat) (fe fr : Bool) (info : PyDict) (txs : List Tx) : Option (Except Err Result) :=
  match encodeLines modelEncShapes rnd fe (.t0 info :: txs) with
  | none => none
  | some ls => match decodeLines modelResShapes ls with
    | none => none
    | some recs => some (readLog fr (Rec.version 4 :: recs))

/-! ### phase 6: logs that record the SAME id several times — what may be reordered

`TransactionResult` keeps one dictionary entry per id (`rows[id].update(…)`, `int_rows[tuple(ids)] = …`), so the Result depends on
the relative order of the records of ONE id only.  `recKey` names the dictionary entry a record goes to. -/

inductive RecKey where
  | version | experiment | comp (t : Tbl) (id : Int) | inter (ids : List Int)
  deriving DecidableEq, Repr, Inhabited

/-- `tuple(ids)` with `[e,l]` completed to `[e,l,0]` (the key of `int_rows`) -/
def triKey (ids : List Int) : List Int := if ids.length = 2 then ids ++ [0] else ids

def recKey : Rec → RecKey
  | .version _ => .version
  | .experiment _ => .experiment
  | .comp t id _ => .comp t id
  | .inter ids _ _ => .inter (triKey ids)

/-- `b` holds the records of `a` rearranged so that the records of every single key keep their relative order -/
def SameKeyOrder (a b : List Rec) : Prop :=
  ∀ k : RecKey, a.filter (fun r => decide (recKey r = k)) = b.filter (fun r => decide (recKey r = k))

/-- all records of key `k` moved to the front (stable) -/
def pullKey (k : RecKey) (recs : List Rec) : List Rec :=
  recs.filter (fun r => decide (recKey r = k)) ++ recs.filter (fun r => !decide (recKey r = k))

/-- a rearrangement that groups the records by key: the keys `ks` are pulled to the front one after the other -/
def regroupBy (ks : List RecKey) (recs : List Rec) : List Rec := ks.foldl (fun acc k => pullKey k acc) recs

/-- the log of a run whose records (after the version line) were grouped by key, every key of the log pulled in log order -/
def regroupLog : List Rec → List Rec
  | .version n :: recs => .version n :: regroupBy (recs.map recKey) recs
  | recs => recs

end Coba.C07
