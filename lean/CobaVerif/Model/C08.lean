/-
C08 — Multi-process filtering delivers every output exactly once and never hangs.

Executable model (import-free) of `coba.pipes.multiprocessing.Multiprocessor.filter`:
a labelled transition system whose actions are the atomic steps of the real code between two
scheduling points (queue put/get, event wait, process start/exit, callback entry).

Actors
* loader thread (`load_line`: IterableSource → Stopper → Pickler → QueueSink(in_queue)) and,
  after it ended, its callback `loader_finished_or_failed` which writes `[poison]*_n_procs`
  through the same Stopper;
* `n` worker lineages (a `MyProcessLine`, replaced by a fresh one by the callback
  `filter_finished_or_failed` when it retired un-poisoned and nothing failed);
* the consuming caller (the generator body: `event.wait()`, `out_get.read()`, the `finally`
  block that stops the loader and drains both queues, the final re-raise).

Items are abstract: an item has an identity, the list of outputs the wrapped filter yields for
it and optionally an error raised after those outputs.
-/
namespace Coba.C08

structure ItemSpec where
  id   : Nat
  outs : List Nat
  err  : Option Nat
  perr : Option Nat := none   -- the item cannot be pickled: `Pickler` raises this (a CobaException) in the loader thread
deriving Repr, DecidableEq

structure Cfg where
  n     : Nat            -- n_processes (≥ 1)
  m     : Nat            -- maxtasksperchild (0 = unlimited)
  items : List ItemSpec
  timeouts : Bool := false   -- does the code pass a finite timeout to `put` on the in_queue?  (the real code does not)
deriving Repr

/-- state of one worker lineage -/
inductive W where
  | spawned                                              -- process created (lineage 0 started at once, the others once the caller has passed `event.wait()`), `run` not entered yet
  | run (k : Nat) (pend : List Nat) (err : Option Nat)   -- has taken k items; outputs still to put; error to raise after them
  | exited (poisoned : Bool) (err : Option Nat)          -- process ended, callback not yet run
  | dead                                                 -- callback decided not to restart (`_n_procs -= 1`)
deriving Repr, DecidableEq

inductive Phase where
  | waitEvent | consuming | fin | done
deriving Repr, DecidableEq

structure State where
  todo      : List (Option ItemSpec)     -- what the loader (or its callback) still has to write; `none` = poison pill
  infl      : Option (Option ItemSpec)   -- element that passed the Stopper and is about to be put
  lphase    : Bool                       -- loader callback entered (pills phase)
  inq       : List (Option ItemSpec)     -- in_queue (FIFO, capacity 2n)
  outq      : List (Option Nat)          -- out_queue (FIFO, unbounded); `none` = poison pill
  ws        : List W
  nprocs    : Nat                        -- `_n_procs`
  excs      : List Nat                   -- `_exceptions`
  event     : Bool
  recv      : List Nat                   -- what the caller has been handed so far
  main      : Phase
  abandoned : Bool
  dropIn    : List (Option ItemSpec)     -- ghost: elements thrown away (drained from in_queue / never loaded after stop)
  dropOut   : List (Option Nat)          -- ghost: elements drained from out_queue by the `finally` block
  lexc      : Option Nat := none         -- the loader thread's exception (`ThreadLine.exception`), recorded by its callback
deriving Repr, DecidableEq

inductive Action where
  | loadTake | loadPut | loadFinish
  | wBegin (w : Nat) | wGet (w : Nat) | wPut (w : Nat) | wRaise (w : Nat) | wRetire (w : Nat) | wCallback (w : Nat)
  | mEvent | cGet | cAbandon | drainIn | drainOut | mDone
deriving Repr, DecidableEq

def init (c : Cfg) : State :=
  { todo := c.items.map some, infl := none, lphase := false, inq := [], outq := [],
    ws := List.replicate c.n W.spawned, nprocs := c.n, excs := [], event := false, recv := [],
    main := .waitEvent, abandoned := false, dropIn := [], dropOut := [] }

/-- the Stopper has been stopped exactly when the caller entered its `finally` block -/
def State.stopped (s : State) : Bool := s.main == .fin || s.main == .done

def State.active (s : State) : Bool := s.main == .waitEvent || s.main == .consuming

def cap (c : Cfg) : Nat := 2 * c.n

/-- the pickling error of an element of the loader's stream (pills and picklable items have none) -/
def perrOf : Option ItemSpec → Option Nat
  | some x => x.perr
  | none => none

/-- may a worker that has taken `k` items pull another element?  (`Slice(None, m)`) -/
def mayTake (c : Cfg) (k : Nat) : Bool := c.m == 0 || k < c.m

def enabled (c : Cfg) (s : State) : Action → Bool
  | .loadTake   => s.infl.isNone && !s.stopped && !s.todo.isEmpty
  | .loadPut    => s.infl.isSome && s.inq.length < cap c
  | .loadFinish => !s.lphase && s.infl.isNone && (s.todo.isEmpty || s.stopped)
  | .wBegin w   => s.ws[w]? == some W.spawned && (w == 0 || s.main != .waitEvent)
  | .wGet w     => match s.ws[w]? with
                   | some (.run k [] none) => mayTake c k && !s.inq.isEmpty
                   | _ => false
  | .wPut w     => match s.ws[w]? with
                   | some (.run _ (_ :: _) _) => true
                   | _ => false
  | .wRaise w   => match s.ws[w]? with
                   | some (.run _ [] (some _)) => true
                   | _ => false
  | .wRetire w  => match s.ws[w]? with
                   | some (.run k [] none) => !mayTake c k
                   | _ => false
  | .wCallback w => match s.ws[w]? with
                   | some (.exited _ _) => true
                   | _ => false
  | .mEvent     => s.main == .waitEvent && s.event
  | .cGet       => s.main == .consuming && !s.outq.isEmpty
  | .cAbandon   => s.main == .consuming
  | .drainIn    => s.main == .fin && !s.inq.isEmpty
  | .drainOut   => s.main == .fin && !s.outq.isEmpty
  | .mDone      => s.main == .fin

def step (_c : Cfg) (s : State) : Action → State
  | .loadTake =>
      match s.todo with
      | x :: rest =>
          match perrOf x with
          | some e => { s with todo := [], dropIn := s.dropIn ++ s.todo, lexc := some e }   -- Pickler raises: the loader thread ends
          | none => { s with todo := rest, infl := some x }
      | [] => s
  | .loadPut =>
      match s.infl with
      | some x => { s with infl := none, inq := s.inq ++ [x] }
      | none => s
  | .loadFinish => { s with lphase := true, todo := List.replicate s.nprocs none, dropIn := s.dropIn ++ s.todo,
                            excs := s.excs ++ s.lexc.toList }
  | .wBegin w => { s with ws := s.ws.set w (.run 0 [] none), event := true }
  | .wGet w =>
      match s.ws[w]?, s.inq with
      | some (.run k _ _), some x :: rest => { s with inq := rest, ws := s.ws.set w (.run (k + 1) x.outs x.err) }
      | some (.run _ _ _), none :: rest => { s with inq := rest, ws := s.ws.set w (.exited true none) }
      | _, _ => s
  | .wPut w =>
      match s.ws[w]? with
      | some (.run k (o :: pend) e) => { s with outq := s.outq ++ [some o], ws := s.ws.set w (.run k pend e) }
      | _ => s
  | .wRaise w =>
      match s.ws[w]? with
      | some (.run _ _ e) => { s with ws := s.ws.set w (.exited false e) }
      | _ => s
  | .wRetire w => { s with ws := s.ws.set w (.exited false none) }
  | .wCallback w =>
      match s.ws[w]? with
      | some (.exited p e) =>
          let excs := s.excs ++ e.toList
          if !p && excs.isEmpty then
            { s with excs := excs, ws := s.ws.set w .spawned }
          else
            { s with excs := excs, ws := s.ws.set w .dead, nprocs := s.nprocs - 1,
                     outq := if s.nprocs - 1 == 0 then s.outq ++ [none] else s.outq }
      | _ => s
  | .mEvent => { s with main := .consuming }
  | .cGet =>
      match s.outq with
      | some o :: rest => { s with outq := rest, recv := s.recv ++ [o] }
      | none :: rest => { s with outq := rest, main := .fin }
      | [] => s
  | .cAbandon => { s with main := .fin, abandoned := true }
  | .drainIn =>
      match s.inq with
      | x :: rest => { s with inq := rest, dropIn := s.dropIn ++ [x] }
      | [] => s
  | .drainOut =>
      match s.outq with
      | x :: rest => { s with outq := rest, dropOut := s.dropOut ++ [x] }
      | [] => s
  | .mDone => { s with main := .done }

/-! ### abandoning the output: what the caller's own thread does, and the workers it leaves behind -/

/-- the caller's `finally` block after `close()`: drain both queues, then return (no other thread is needed) -/
def finishSeq (s : State) : List Action :=
  .cAbandon :: (List.replicate s.inq.length .drainIn ++ List.replicate s.outq.length .drainOut ++ [.mDone])

/-- a worker process parked on `in_queue.get()`: nothing to take and (the loader being stopped) nothing will come but the one
element the loader may already hold (`infl`) -/
def parked (c : Cfg) (s : State) (w : Nat) : Bool :=
  match s.ws[w]? with
  | some (.run k [] none) => mayTake c k && s.inq.isEmpty
  | _ => false

/-! ### independence of steps (partial-order reduction of the schedule enumeration) -/

/-- the worker lineage an action belongs to -/
def lin : Action → Option Nat
  | .wBegin w | .wGet w | .wPut w | .wRaise w | .wRetire w | .wCallback w => some w
  | _ => none

/-- steps that read and write nothing but their own lineage's state (`wBegin` also sets the event) -/
def isLocal : Action → Bool
  | .wBegin _ | .wRaise _ | .wRetire _ => true
  | _ => false

def indep1 (a b : Action) : Bool :=
  (isLocal a && lin b != lin a) ||
  (match a, b with
   | .loadTake, .wPut _ | .loadTake, .wGet _ | .loadTake, .wCallback _ | .loadTake, .mEvent => true
   | .loadPut, .wPut _ | .loadPut, .wCallback _ | .loadPut, .cGet | .loadPut, .mEvent => true
   | .wGet w, .wPut w' | .wGet w, .wCallback w' => w != w'
   | .wGet _, .cGet | .wGet _, .mEvent | .wPut _, .mEvent => true
   | _, _ => false)

/-- two actions whose order does not matter (they touch disjoint parts of the state): the table the harness' sleep-set
enumeration uses; `step_comm` proves that it is sound -/
def indep (a b : Action) : Bool := indep1 a b || indep1 b a

/-- run a trace; `none` as soon as an action is not enabled -/
def runTrace (c : Cfg) : State → List Action → Option State
  | s, [] => some s
  | s, a :: as => if enabled c s a then runTrace c (step c s a) as else none

inductive Reachable (c : Cfg) : State → Prop where
  | init : Reachable c (init c)
  | step {s a} : Reachable c s → enabled c s a = true → Reachable c (step c s a)

/-! ### environment extension: a `put` with a finite timeout that gives up (`queue.Full`)

The fake queue of the harness lets the scheduler decide, for a put with a timeout on a full queue, between waiting and
raising `queue.Full`.  The real code passes no timeout, so this action is disabled for it (`Cfg.timeouts = false`); a
`QueueSink` that swallows `Full` (breaks out of its loop) loses the element in flight and everything not yet loaded. -/

inductive ActionT where
  | base (a : Action)
  | putTimeout
deriving Repr, DecidableEq

def enabledT (c : Cfg) (s : State) : ActionT → Bool
  | .base a => enabled c s a
  | .putTimeout => c.timeouts && s.infl.isSome && Nat.ble (cap c) s.inq.length

def stepT (c : Cfg) (s : State) : ActionT → State
  | .base a => step c s a
  | .putTimeout =>
      match s.infl with
      | some x => { s with infl := none, todo := [], dropIn := s.dropIn ++ x :: s.todo }
      | none => s

def runTraceT (c : Cfg) : State → List ActionT → Option State
  | s, [] => some s
  | s, a :: as => if enabledT c s a then runTraceT c (stepT c s a) as else none

inductive ReachableT (c : Cfg) : State → Prop where
  | init : ReachableT c (init c)
  | step {s a} : ReachableT c s → enabledT c s a = true → ReachableT c (stepT c s a)

/-! ### phase 4: a larger independence table

`wPut w`–`cGet` (both possible only when the out-queue is NOT empty: the caller takes the head, the worker appends at the end)
and `loadPut`–`wGet w` (both possible only when the in-queue is neither empty nor full).  `step_comm2` proves that these pairs
commute whenever both steps are possible, which is what the sleep-set enumeration needs: a sleeping thread was runnable when
it fell asleep and stays so (commutation keeps it enabled). -/

def indepExtra1 : Action → Action → Bool
  | .wPut _, .cGet => true
  | .loadPut, .wGet _ => true
  | _, _ => false

def indep2 (a b : Action) : Bool := indep a b || indepExtra1 a b || indepExtra1 b a

/-! ### phase 4: fault extension — a worker process dies (exit code ≠ 0, `_main_err`)

`filter_finished_or_failed` for a process whose `exitcode != 0`: no exception is recorded (nothing came through the pipe),
`call._main_err = True; event.set()`, the lineage is NOT replaced, `_n_procs -= 1` and the out pill at zero — for `_n_procs`,
`_exceptions` and the queues that is exactly what the callback does for a worker in state `exited true none`, so a crashed
lineage is represented by that base state plus the mark `crashed` (the W state "crashed": process gone, callback pending).
After `event.wait()` the caller looks at `_main_err` ONCE: if set it starts no further process and goes straight to `finally`.
What the dead process had not yet put (and the error it was about to raise) is lost: ghost `lostOuts`/`lostErrs`.
`budget` = number of faults the environment may still inject (any finite fault sequence: the theorems are for every budget). -/

structure FState where
  b        : State
  mainErr  : Bool          -- `call._main_err`
  crashed  : List Nat      -- lineages whose process died and whose callback has not run yet
  budget   : Nat           -- faults still to come
  lostOuts : List Nat      -- ghost: outputs the dead processes still held
  lostErrs : List Nat      -- ghost: errors the dead processes were about to raise
  skipped  : Bool          -- the caller found `_main_err` set after `event.wait()`
deriving Repr, DecidableEq

inductive ActionF where
  | base (a : Action)
  | wCrash (w : Nat)
deriving Repr, DecidableEq

def initF (c : Cfg) (faults : Nat) : FState :=
  { b := init c, mainErr := false, crashed := [], budget := faults, lostOuts := [], lostErrs := [], skipped := false }

/-- has lineage `w`'s current process been started?  (lineage 0 before `event.wait()`, the others after it unless skipped) -/
def startedF (s : FState) (w : Nat) : Bool := (w == 0 || s.b.main != .waitEvent) && (!s.skipped || w == 0)

def enabledF (c : Cfg) (s : FState) : ActionF → Bool
  | .base (.wBegin w) => enabled c s.b (.wBegin w) && startedF s w
  | .base a => enabled c s.b a
  | .wCrash w => decide (0 < s.budget) &&
      (match s.b.ws[w]? with
       | some (.run _ _ _) => true
       | some .spawned => startedF s w
       | _ => false)

def stepF (c : Cfg) (s : FState) : ActionF → FState
  | .base (.wCallback w) =>
      if s.crashed.contains w then
        { s with b := { step c s.b (.wCallback w) with event := true }, mainErr := true, crashed := s.crashed.erase w }
      else { s with b := step c s.b (.wCallback w) }
  | .base .mEvent =>
      if s.mainErr then { s with b := { s.b with main := .fin }, skipped := true }
      else { s with b := step c s.b .mEvent }
  | .base a => { s with b := step c s.b a }
  | .wCrash w =>
      match s.b.ws[w]? with
      | some (.run _ pend e) =>
          { s with b := { s.b with ws := s.b.ws.set w (.exited true none) }, crashed := w :: s.crashed, budget := s.budget - 1,
                   lostOuts := s.lostOuts ++ pend, lostErrs := s.lostErrs ++ e.toList }
      | some .spawned =>
          { s with b := { s.b with ws := s.b.ws.set w (.exited true none) }, crashed := w :: s.crashed, budget := s.budget - 1 }
      | _ => s

def runTraceF (c : Cfg) : FState → List ActionF → Option FState
  | s, [] => some s
  | s, a :: as => if enabledF c s a then runTraceF c (stepF c s a) as else none

inductive ReachableF (c : Cfg) (faults : Nat) : FState → Prop where
  | init : ReachableF c faults (initF c faults)
  | step {s a} : ReachableF c faults s → enabledF c s a = true → ReachableF c faults (stepF c s a)

/-- "no incarnation has taken more than `m` items" as a predicate of its own (it is inductive without the rest of `Inv`) -/
def maxTasksOk (c : Cfg) (s : State) : Bool :=
  s.ws.all (fun x => match x with | .run k _ _ => c.m == 0 || k ≤ c.m | _ => true)

/-! ### phase 4: `read_wait=True`

`MyProcessLine.run`: after the line has ended (pill, error or `Slice` exhausted) the process writes its `UniqueKey` to the
out-queue and waits on its own event; the caller, when it reads a `UniqueKey` from the out-queue, sets that event instead of
yielding the value; only then does the process exit and its callback run.  So a process is gone only after the caller has
read everything the process put before its key.  Layered over the base system: `routq` is the out-queue INCLUDING keys
(`b.outq` is what is left when the keys are removed), `keyPending` = line ended, key not yet written, `keyWait` = key written,
waiting for the caller (the W state "keyWait").  The base steps are unchanged; `wCallback w` has to wait until lineage `w` is
neither in `keyPending` nor in `keyWait`, and the caller's `cGet`/`drainOut` apply when the head of `routq` is not a key. -/

inductive ROut where
  | val (o : Nat) | pill | key (w : Nat)
deriving Repr, DecidableEq

def ROut.lift : Option Nat → ROut
  | some o => .val o
  | none => .pill

def ROut.proj : ROut → Option (Option Nat)
  | .val o => some (some o)
  | .pill => some none
  | .key _ => none

structure RState where
  b          : State
  routq      : List ROut
  keyPending : List Nat
  keyWait    : List Nat
deriving Repr, DecidableEq

inductive ActionR where
  | base (a : Action)
  | wKey (w : Nat)      -- the process writes its key
  | cKey                -- the caller reads a key and sets that process' event (the process exits)
  | drainKey            -- the `finally` block throws a key away
deriving Repr, DecidableEq

def initR (c : Cfg) : RState := { b := init c, routq := [], keyPending := [], keyWait := [] }

def isKeyHead : List ROut → Bool
  | .key _ :: _ => true
  | _ => false

/-- the lineage whose line ends by this base step (pill taken, error, `Slice` exhausted) -/
def lineEnds (s : State) : Action → Option Nat
  | .wRaise w => some w
  | .wRetire w => some w
  | .wGet w => (match s.inq with | none :: _ => some w | _ => none)
  | _ => none

/-- follow the base out-queue: an element taken from the head, or the elements appended at the end -/
def syncOut (old new : List (Option Nat)) (r : List ROut) : List ROut :=
  if new.length < old.length then r.drop 1 else r ++ (new.drop old.length).map ROut.lift

def enabledR (c : Cfg) (s : RState) : ActionR → Bool
  | .base (.wCallback w) => enabled c s.b (.wCallback w) && !s.keyPending.contains w && !s.keyWait.contains w
  | .base .cGet => enabled c s.b .cGet && !isKeyHead s.routq
  | .base .drainOut => enabled c s.b .drainOut && !isKeyHead s.routq
  | .base a => enabled c s.b a
  | .wKey w => s.keyPending.contains w
  | .cKey => s.b.main == .consuming && isKeyHead s.routq
  | .drainKey => s.b.main == .fin && isKeyHead s.routq

def stepR (c : Cfg) (rw : Bool) (s : RState) : ActionR → RState
  | .base a =>
      let b' := step c s.b a
      { s with b := b', routq := syncOut s.b.outq b'.outq s.routq,
               keyPending := (match rw, lineEnds s.b a with
                              | true, some w => w :: s.keyPending
                              | _, _ => s.keyPending) }
  | .wKey w => { s with routq := s.routq ++ [.key w], keyPending := s.keyPending.erase w, keyWait := w :: s.keyWait }
  | .cKey =>
      match s.routq with
      | .key w :: rest => { s with routq := rest, keyWait := s.keyWait.filter (· != w) }
      | _ => s
  | .drainKey => { s with routq := s.routq.drop 1 }

def runTraceR (c : Cfg) (rw : Bool) : RState → List ActionR → Option RState
  | s, [] => some s
  | s, a :: as => if enabledR c s a then runTraceR c rw (stepR c rw s a) as else none

inductive ReachableR (c : Cfg) (rw : Bool) : RState → Prop where
  | init : ReachableR c rw (initR c)
  | step {s a} : ReachableR c rw s → enabledR c s a = true → ReachableR c rw (stepR c rw s a)

/-! ### what the caller observes -/


inductive Outcome where
  | ok (outs : List Nat)            -- generator exhausted normally
  | raised (e : Nat) (outs : List Nat)
  | closed (outs : List Nat)        -- abandoned early, `close()` returned
deriving Repr, DecidableEq

def outcome (s : State) : Outcome :=
  if s.abandoned then .closed s.recv
  else match s.excs with
    | e :: _ => .raised e s.recv
    | [] => .ok s.recv

/-! ### several calls on one Multiprocessor object

`filter` (multi-process branch) begins with `call = CallState(); call._n_procs = …; call._exceptions = []; call._poison = None;
call._main_err = False; call._load_stopper = Stopper()` and creates fresh queues, lines and an event: every per-call
field starts afresh and none lives on the object (before the repair of C08-F4 they were re-assigned on `self`). -/

/-- the fields a finished call left on the object before the repair of C08-F4 (now on the call's own `CallState`) -/
structure Obj where
  nprocs : Nat
  excs   : List Nat
deriving Repr, DecidableEq

def State.obj (s : State) : Obj := { nprocs := s.nprocs, excs := s.excs }

/-- first state of a call on a used object (the assignments at the head of `filter`) -/
def startCall (_o : Obj) (c : Cfg) : State := { init c with nprocs := c.n, excs := [] }

/-- VARIANT (not the code): `_exceptions` initialised once in `__init__` and kept across calls -/
def startCallStale (o : Obj) (c : Cfg) : State := { init c with excs := o.excs }

/-- a history: the calls run one after the other, each from `start` of what the previous one left -/
def runHistoryWith (start : Obj → Cfg → State) : Obj → List (Cfg × List Action) → Option (List Outcome)
  | _, [] => some []
  | o, (c, tr) :: rest =>
    match runTrace c (start o c) tr with
    | none => none
    | some s =>
      match runHistoryWith start s.obj rest with
      | none => none
      | some os => some (outcome s :: os)

def runHistory := runHistoryWith startCall

/-- the spec of a history: every call judged on its own, from `init` -/
def singleCalls : List (Cfg × List Action) → Option (List Outcome)
  | [] => some []
  | (c, tr) :: rest =>
    match runTrace c (init c) tr with
    | none => none
    | some s =>
      match singleCalls rest with
      | none => none
      | some os => some (outcome s :: os)

/-! ### CobaMultiprocessor around Multiprocessor

`CobaMultiprocessor.filter`: `_, items = peek_first(items); if not items: return []`, then (marshalling of logger / cacher /
store is C01's) `yield from Multiprocessor(filter, n, m).filter(items)` inside `try … except RuntimeError as e:`, which calls
`coba_exit(str(e))` only for the RuntimeError of a missing `__main__` guard ("bootstrapping phase" / "freeze_support": `boot e`
below) and re-raises every other one.
A one-shot iterator is modelled by the list of what it will still yield; looking at its first element consumes it. -/

/-- `peek_first(it)`: the first element (if any) and a stream that yields everything again (`chain([first], it)`) -/
def peekFirst {α} (it : List α) : Option α × List α :=
  match it with
  | [] => (none, [])
  | x :: rest => (some x, x :: rest)

/-- what the original one-shot iterator still yields after `peek_first` looked at it -/
def afterPeek {α} (it : List α) : List α := it.drop 1

/-- the stream the wrapper hands to the inner Multiprocessor (the code uses the re-chained one) -/
def wrapperInput {α} (it : List α) : List α := (peekFirst it).2

/-- VARIANT (not the code): `if not peek_first(items)[1]: return []` and then the ORIGINAL iterator is passed on -/
def wrapperInputStale {α} (it : List α) : List α := afterPeek it

/-- the empty-input shortcut `if not items: return []` looks at the re-chained stream … -/
def wrapperSkips {α} (it : List α) : Bool := (peekFirst it).2.isEmpty

/-- … VARIANT (not the code): `if first is None: return []` — an item that is `None` looks like "no first item" -/
def wrapperSkipsStale {α} (it : List (Option α)) : Bool :=
  match (peekFirst it).1 with
  | none => true
  | some none => true
  | some (some _) => false

inductive WOutcome where
  | ok (outs : List Nat)
  | raised (e : Nat) (outs : List Nat)
  | exit (e : Nat) (outs : List Nat)      -- `CobaExit(str(e))`, a BaseException
  | closed (outs : List Nat)
deriving Repr, DecidableEq

/-- the wrapper's exception translation; `boot e` = "error `e` is the RuntimeError the code means to turn into a quiet exit" -/
def wrapOutcome (boot : Nat → Bool) : Outcome → WOutcome
  | .ok o => .ok o
  | .closed o => .closed o
  | .raised e o => if boot e then .exit e o else .raised e o

/-! ### spec -/

def allOuts (c : Cfg) : List Nat := c.items.flatMap (·.outs)
def allErrs (c : Cfg) : List Nat := c.items.filterMap (·.err) ++ c.items.filterMap (·.perr)

/-! ### termination measure (a plain natural number) -/

def elemCost : Option ItemSpec → Nat
  | some x => 2 * x.outs.length + 4 + (if x.err.isSome then 3 else 0)
  | none => 3

def wPot (c : Cfg) : W → Nat
  | .spawned => 1
  | .run k pend e => 2 * pend.length + (if e.isSome then 3 else 0) + (if mayTake c k then 0 else 3)
  | .exited _ _ => 2
  | .dead => 0

def phasePot : Phase → Nat
  | .waitEvent => 3 | .consuming => 2 | .fin => 1 | .done => 0

def listSum : List Nat → Nat
  | [] => 0
  | x :: xs => x + listSum xs

def mu (c : Cfg) (s : State) : Nat :=
  listSum (s.todo.map (fun x => elemCost x + 2))
  + (match s.infl with | some x => elemCost x + 1 | none => 0)
  + listSum (s.inq.map elemCost)
  + s.outq.length
  + listSum (s.ws.map (wPot c))
  + (if s.lphase then 0 else 1 + 5 * s.nprocs)
  + phasePot s.main

/-- the termination measure with faults: every fault costs the environment one unit of its budget -/
def muF (c : Cfg) (s : FState) : Nat := mu c s.b + 3 * s.budget

/-- the termination measure with `read_wait` -/
def muR (c : Cfg) (s : RState) : Nat := 6 * mu c s.b + 4 * s.keyPending.length + 2 * s.keyWait.length + s.routq.length

/-! ### the in-process path (`n_processes == 1 and maxtasksperchild == 0`): `Foreach` -/

/-- outputs handed to the caller, and the error that ends the iteration (if any) -/
def inproc : List ItemSpec → List Nat × Option Nat
  | [] => ([], none)
  | x :: xs =>
    match x.err with
    | some e => (x.outs, some e)
    | none => let r := inproc xs; (x.outs ++ r.1, r.2)

/-! ### phase 5: "no step of the code is possible" as an executable predicate (fault extension) -/

/-- the steps of the code (every action but the caller giving up), for the lineages `0 … n-1` -/
def codeActions (c : Cfg) : List Action :=
  [.loadTake, .loadPut, .loadFinish, .mEvent, .cGet, .drainIn, .drainOut, .mDone] ++
  (List.range c.n).flatMap (fun w => [.wBegin w, .wGet w, .wPut w, .wRaise w, .wRetire w, .wCallback w])

/-- no step of the code is enabled (a further crash or the caller giving up do not count) -/
def stuckF (c : Cfg) (s : FState) : Bool := (codeActions c).all (fun a => !enabledF c s (.base a))


/-! ### phase 5: crash × `read_wait` — a process dies while it waits for the caller (its key written, its event not yet set)

The process is gone with an exit code ≠ 0; what it reported through the pipe before it began to wait (its exception, `poisoned`) has
arrived, so the callback records the exception as usual, but — `worker.exitcode != 0` — sets `_main_err` and the event, never
replaces the lineage, decrements `_n_procs` and writes the out pill at zero: for the queues and counters exactly the callback of a
POISONED lineage (`exited true e`).  The key stays in the out-queue; when the caller reads it, `.set()` goes to an event nobody
waits on (in the layer: `cKey` filters a lineage out of `keyWait` that is no longer there).  Layered over `RState` in the style of
`FState`. -/


structure RFState where
  r        : RState
  mainErr  : Bool          -- `call._main_err`
  crashedK : List Nat      -- lineages whose process died while it waited for the caller, callback not yet run
  budget   : Nat
  skipped  : Bool
deriving Repr, DecidableEq

inductive ActionRF where
  | r (a : ActionR)
  | wCrashKey (w : Nat)    -- the process of lineage `w` dies while it waits (its key written, its event not yet set)
deriving Repr, DecidableEq

def initRF (c : Cfg) (faults : Nat) : RFState :=
  { r := initR c, mainErr := false, crashedK := [], budget := faults, skipped := false }

def enabledRF (c : Cfg) (s : RFState) : ActionRF → Bool
  | .r (.base (.wBegin w)) => enabledR c s.r (.base (.wBegin w)) && (!s.skipped || w == 0)
  | .r a => enabledR c s.r a
  | .wCrashKey w => decide (0 < s.budget) && s.r.keyWait.contains w &&
      (match s.r.b.ws[w]? with | some (.exited _ _) => true | _ => false)

def stepRF (c : Cfg) (rw : Bool) (s : RFState) : ActionRF → RFState
  | .r (.base (.wCallback w)) =>
      if s.crashedK.contains w then
        { s with r := { stepR c rw s.r (.base (.wCallback w)) with b := { (stepR c rw s.r (.base (.wCallback w))).b with event := true } },
                 mainErr := true, crashedK := s.crashedK.erase w }
      else { s with r := stepR c rw s.r (.base (.wCallback w)) }
  | .r (.base .mEvent) =>
      if s.mainErr then { s with r := { s.r with b := { s.r.b with main := .fin } }, skipped := true }
      else { s with r := stepR c rw s.r (.base .mEvent) }
  | .r a => { s with r := stepR c rw s.r a }
  | .wCrashKey w =>
      match s.r.b.ws[w]? with
      | some (.exited _ e) =>
          { s with r := { s.r with b := { s.r.b with ws := s.r.b.ws.set w (.exited true e) }, keyWait := s.r.keyWait.filter (· != w) },
                   crashedK := w :: s.crashedK, budget := s.budget - 1 }
      | _ => s

def runTraceRF (c : Cfg) (rw : Bool) : RFState → List ActionRF → Option RFState
  | s, [] => some s
  | s, a :: as => if enabledRF c s a then runTraceRF c rw (stepRF c rw s a) as else none

inductive ReachableRF (c : Cfg) (rw : Bool) (faults : Nat) : RFState → Prop where
  | init : ReachableRF c rw faults (initRF c faults)
  | step {s a} : ReachableRF c rw faults s → enabledRF c s a = true → ReachableRF c rw faults (stepRF c rw s a)


/-! ### phase 6: the read_wait protocol of `MyProcessLine` as programs

`MyProcessLine.run` is `super().run()` (the line: take items until pill / error / `Slice` exhausted), then — iff `start` created
`_wait` — `self._line[-1].write([self._wait_key])` and `self._wait.wait()`; `MyProcessLine.start` creates and registers the event
and the key iff a store (the caller's `read_waiters` dict) was handed in; the caller dispatches every value read from the out
queue with `if read_waiters and isinstance(i, UniqueKey): read_waiters[i].set() else: yield i`.  These three pieces are extracted
from the source (`Generated/C08ReadWait.lean`) and executed for real by the harness (`rwproto` cases); the theorems
`readwait_program_*` say that the R layer above (`keyPending` / `wKey` / `keyWait` / `cKey`) is this program. -/

inductive RWOp where
  | runLine | writeKey | waitCaller
deriving Repr, DecidableEq

def RWOp.code : RWOp → Nat
  | .runLine => 0 | .writeKey => 1 | .waitCaller => 2

/-- `MyProcessLine.run` (hasWait = `hasattr(self,'_wait')`) -/
def workerProgram (hasWait : Bool) : List RWOp :=
  .runLine :: (if hasWait then [.writeKey, .waitCaller] else [])

/-- `MyProcessLine.start`: event + key are created and registered iff a store was handed in (`rw is not None`), also when
the store is still empty (the first process of a call) -/
def startRegisters (store : Bool) (_nonEmpty : Bool) : Bool := store

/-- the caller's dispatch on a value read from the out queue: true = `read_waiters[i].set()`, false = `yield i` -/
def callerSets (rw isKey : Bool) : Bool := rw && isKey

/-- where lineage `w` is in its program (R layer): 0 = in `runLine`, 1 = before `writeKey`, 2 = in `waitCaller` -/
def rwPc (s : RState) (w : Nat) : Nat :=
  if s.keyPending.contains w then 1 else if s.keyWait.contains w then 2 else 0

/-! ### phase 6: two calls on the same Multiprocessor object that are alive at the same time

`filter` is a generator: `g0 = mp.filter(a); g1 = mp.filter(b)` and the caller pulls from both in any order, abandons one while the other
is open, ….  Everything a call mutates lives on its own `CallState` / local queues (`call = CallState()`), the object is only read
(`_filter`, `_max_processes`, `_maxtasksperchild`, `_read_wait`), so the joint system is the PRODUCT of two single-call systems:
a step of one call changes only that call's component.  The harness runs such histories on the real code under one scheduler and the
driver replays the joint log through `enabled2/step2` (op `trace2`). -/
inductive Action2 where
  | first (a : Action) | second (a : Action)
deriving Repr, DecidableEq

def enabled2 (c1 c2 : Cfg) (s : State × State) : Action2 → Bool
  | .first a => enabled c1 s.1 a
  | .second a => enabled c2 s.2 a

def step2 (c1 c2 : Cfg) (s : State × State) : Action2 → State × State
  | .first a => (step c1 s.1 a, s.2)
  | .second a => (s.1, step c2 s.2 a)

def runTrace2 (c1 c2 : Cfg) : State × State → List Action2 → Option (State × State)
  | s, [] => some s
  | s, a :: as => if enabled2 c1 c2 s a then runTrace2 c1 c2 (step2 c1 c2 s a) as else none

def proj1 : List Action2 → List Action
  | [] => [] | .first a :: t => a :: proj1 t | .second _ :: t => proj1 t
def proj2 : List Action2 → List Action
  | [] => [] | .first _ :: t => proj2 t | .second a :: t => a :: proj2 t

def exOv : Cfg := { n := 1, m := 1, items := [{ id := 0, outs := [1], err := none }] }
/-- two one-item calls (n = 1, m = 1) alive together: the caller starts both, reads the sibling first -/
def exOvTrace : List Action2 :=
  [.first (.wBegin 0), .second (.wBegin 0), .first .mEvent, .second .mEvent, .second .loadTake, .first .loadTake, .first .loadPut, .second .loadPut,
   .second (.wGet 0), .first (.wGet 0), .second (.wPut 0), .second .cGet, .first (.wPut 0), .first .cGet,
   .first (.wRetire 0), .second (.wRetire 0), .first .loadFinish, .second .loadFinish, .first .loadTake, .first .loadPut, .second .loadTake, .second .loadPut,
   .first (.wCallback 0), .second (.wCallback 0), .first (.wBegin 0), .second (.wBegin 0), .first (.wGet 0), .second (.wGet 0),
   .first (.wCallback 0), .second (.wCallback 0), .second .cGet, .second .mDone, .first .cGet, .first .mDone]

inductive Reachable2 (c1 c2 : Cfg) : State × State → Prop where
  | init : Reachable2 c1 c2 (init c1, init c2)
  | step {s a} : Reachable2 c1 c2 s → enabled2 c1 c2 s a = true → Reachable2 c1 c2 (step2 c1 c2 s a)


end Coba.C08
