/-
Model of the ordering / selection filters of coba
(`coba/pipes/filters.py`: Shuffle, Take, Slice, Reservoir, Cache;
 `coba/environments/filters.py`: Shuffle, Take, Slice, Reservoir, Sort, Riffle, Where, Cache,
 Chunk, Params, Identity, Batch, Unbatch).

Core Lean only + the finished model of `coba/random.py` (`Model/C05`).  Interactions are an
abstract element type `α`; the few attributes a filter looks at (is it a logged interaction,
its context, its number of actions, its key/value record) are accessor parameters, so every
theorem holds for every element type and every accessor.

Each function mirrors what the code does (the code *with* the proposed fixes
`fixes/C09-*.diff`; see notes/C09.md); the specs (`…Spec`) say what the property demands.
-/
import CobaVerif.Model.C05

namespace Coba.C09

inductive Err
  | typeError | indexError | valueError | zeroDivision | keyError | attributeError | stepsExhausted
deriving Repr, DecidableEq

/-! ## Shuffle -/

/-- `pipes.Shuffle(seed).filter(items)`: copy, then `CobaRandom(seed).shuffle(copy, inplace=True)`.
`s` is the normalised seed (`C05.normInt` / `C05.normBytes`). -/
def pShuffle {α} (s : Nat) (xs : List α) : List α := (C05.shuffle s xs).2

/-- `environments.Shuffle(seed).filter`: nothing for an empty input; when the *first*
interaction is a logged one (`'action' in first and 'reward' in first`) the generator is seeded
with `seed*3.21` (normalised state `sLogged`), otherwise with `seed` (`sPlain`). -/
def eShuffle {α} (isLogged : α → Bool) (sPlain sLogged : Nat) : List α → List α
  | [] => []
  | x :: xs => pShuffle (if isLogged x then sLogged else sPlain) (x :: xs)

/-! ## Take -/

/-- `Take(count, strict).filter`: `islice(items, count)`; strict: nothing unless `count` items
were available.  `count = none` is Python's `None` (everything). -/
def take {α} : Option Nat → Bool → List α → List α
  | none, _, xs => xs
  | some n, strict, xs =>
    let out := xs.take n
    if strict && out.length < n then [] else out

/-- what the property promises: the prefix of length `n`; strict: all `n` or nothing -/
def takeSpec {α} (count : Option Nat) (strict : Bool) (xs : List α) : List α :=
  match count with
  | none => xs
  | some n => if strict && xs.length < n then [] else xs.take n

/-! ## Slice  (`itertools.islice(items, start, stop, step)`, `step ≥ 1`) -/

/-- emit an element, then skip `step-1`, …; `k` = elements still to skip before the next emit -/
def every {α} (step : Nat) : List α → Nat → List α
  | [], _ => []
  | x :: xs, 0 => x :: every step xs (step - 1)
  | _ :: xs, k+1 => every step xs k

def slice {α} (start stop : Option Nat) (step : Nat) (xs : List α) : List α :=
  let upto := match stop with | none => xs | some st => xs.take st
  every step (upto.drop (start.getD 0)) 0

/-- keep exactly the elements whose index satisfies `p` (indices count from `i`) -/
def pick {α} (p : Nat → Bool) : Nat → List α → List α
  | _, [] => []
  | i, x :: xs => if p i then x :: pick p (i+1) xs else pick p (i+1) xs

/-- index `i` is selected by `start:stop:step` -/
def inSlice (start : Nat) (stop : Option Nat) (step : Nat) (i : Nat) : Bool :=
  decide (start ≤ i) && (match stop with | none => true | some st => decide (i < st)) &&
    decide ((i - start) % step = 0)

def sliceSpec {α} (start stop : Option Nat) (step : Nat) (xs : List α) : List α :=
  pick (inSlice (start.getD 0) stop step) 0 xs

/-! ## Reservoir (Algorithm L).  The float quantities `W = W*r1**(1/n)`,
`S = floor(log(r2, 1-W))`, `slot = int(r3*n)` are not computed by `reservoir`: one loop iteration
is a `Step` handed in (`floatSteps` / `reservoirF` below compute the steps with the code's formulas
over an abstract `FloatOps`).  The theorems about `reservoir` hold for every list of steps whatsoever. -/

inductive Step
  | skip (S slot : Nat)
  | raise (e : Err)      -- the float computation of this iteration raised
deriving Repr, DecidableEq

/-- the loop `for r1,r2,r3 in …: W=…; S=…; reservoir[slot] = next(islice(items,S,S+1))`,
left by `StopIteration` when fewer than `S+1` items remain -/
def resLoop {α} : List Step → List α → List α → Except Err (List α)
  | [], _, _ => .error .stepsExhausted
  | .raise e :: _, _, _ => .error e
  | .skip S slot :: steps, rest, res =>
    match rest.drop S with
    | [] => .ok res
    | y :: rest' =>
      if slot < res.length then resLoop steps rest' (res.set slot y) else .error .indexError

def reservoir {α} (count : Option Nat) (strict : Bool) (s : Nat) (steps : List Step)
    (xs : List α) : Except Err (List α) :=
  match count with
  | some 0 => .ok []
  | none => .ok (C05.shuffle s xs).2
  | some n =>
    let res := xs.take n
    if res.length < n then .ok (if strict then [] else (C05.shuffle s res).2)
    else resLoop steps (xs.drop n) (C05.shuffle s res).2

/-- a loop iteration that neither raises nor addresses a slot outside the reservoir of size `n` -/
def Step.okFor (n : Nat) : Step → Bool
  | .skip _ slot => decide (slot < n)
  | .raise _ => false

/-- the promised sample size: `min(n,N)` (`None`: everything); strict: `n` or nothing -/
def reservoirSize (count : Option Nat) (strict : Bool) (N : Nat) : Nat :=
  match count with
  | none => N
  | some n => if strict && decide (N < n) then 0 else min n N

/-- generator state after the initial shuffle of the reservoir (where the triples start) -/
def reservoirState {α} (count : Option Nat) (s : Nat) (xs : List α) : Nat :=
  match count with
  | some n => (C05.shuffle s (xs.take n)).1
  | none => (C05.shuffle s xs).1

/-! ## Sort -/

/-- a context value: a number (exact rational) or a string (code points) -/
inductive Val
  | num (q : Rat)
  | str (s : List Nat)
deriving Repr, DecidableEq

/-- Python's sequence comparison `<` over a strict order `lt` of the elements -/
def lexLt {β} (lt : β → β → Bool) : List β → List β → Bool
  | [], [] => false
  | [], _ :: _ => true
  | _ :: _, [] => false
  | a :: as, b :: bs => if lt a b then true else if lt b a then false else lexLt lt as bs

/-- numbers by value, strings by code points; a number against a string raises in Python
(never generated) — totalised here as number < string -/
def Val.lt : Val → Val → Bool
  | .num a, .num b => decide (a < b)
  | .str a, .str b => lexLt (fun x y => decide (x < y)) a b
  | .num _, .str _ => true
  | .str _, .num _ => false

abbrev Key := List Val
def keyLt (a b : Key) : Bool := lexLt Val.lt a b
/-- `¬ (b < a)`: the order `sorted` establishes -/
def keyLe (a b : Key) : Bool := !keyLt b a

inductive Ctx
  | none
  | scalar (v : Val)
  | dense (vs : List Val)
  | sparse (kvs : List (Val × Val))
deriving Repr

def Ctx.isSparse : Ctx → Bool | .sparse _ => true | _ => false

def lookupVal (k : Val) : List (Val × Val) → Option Val
  | [] => none
  | (k', v) :: r => if k' = k then some v else lookupVal k r

/-- Python's `seq[k]` for an integer `k` (negative indices count from the end) -/
def pyIndex {β} (l : List β) (k : Int) : Option β :=
  if 0 ≤ k then l[k.toNat]? else if k + l.length < 0 then none else l[(k + l.length).toNat]?

/-- `context[key]` (the list_sorter's subscription) -/
def subscript (c : Ctx) (k : Val) : Except Err Val :=
  match c, k with
  | .dense vs, .num q =>
    if q.den = 1 then (match pyIndex vs q.num with | some v => .ok v | none => .error .indexError)
    else .error .typeError
  | .dense _, .str _ => .error .typeError
  | .scalar (.str s), .num q =>       -- a string is subscriptable: its k-th character
    if q.den = 1 then (match pyIndex s q.num with | some ch => .ok (.str [ch]) | none => .error .indexError)
    else .error .typeError
  | .scalar (.str _), .str _ => .error .typeError
  | .sparse kvs, k => (match lookupVal k kvs with | some v => .ok v | none => .error .keyError)
  | .scalar (.num _), _ => .error .typeError     -- a number is not subscriptable
  | .none, _ => .error .typeError

def subscripts (c : Ctx) : List Val → Except Err Key
  | [] => .ok []
  | k :: ks =>
    match subscript c k with
    | .error e => .error e
    | .ok v => match subscripts c ks with
      | .error e => .error e
      | .ok vs => .ok (v :: vs)

/-- the three sorter lambdas of `Sort.filter` -/
def sortKey (keys : List Val) (sparseFirst : Bool) (c : Ctx) : Except Err Key :=
  match keys with
  | [] =>            -- full_sorter: tuple(context)
    match c with
    | .dense vs => .ok vs
    | .sparse kvs => .ok (kvs.map (·.1))          -- iterating a dict gives its keys
    | .scalar (.str s) => .ok (s.map (fun ch => .str [ch]))
    | _ => .error .typeError
  | _ :: _ =>
    if sparseFirst then   -- dict_sorter: context.get(key,0)
      match c with
      | .sparse kvs => .ok (keys.map (fun k => match lookupVal k kvs with | some v => v | none => .num 0))
      | _ => .error .attributeError                -- only a dict has `.get`
    else subscripts c keys  -- list_sorter: context[key]

/-- stable insertion: `a` goes before the first element that is not smaller -/
def insertBy {α} (le : α → α → Bool) (a : α) : List α → List α
  | [] => [a]
  | b :: l => if le a b then a :: b :: l else b :: insertBy le a l

/-- the stable sort (`sorted` is stable; for a total preorder the stable sorted arrangement is
unique, so any stable algorithm gives Python's result) -/
def isort {α} (le : α → α → Bool) : List α → List α
  | [] => []
  | a :: l => insertBy le a (isort le l)

def sortBy {α K} (le : K → K → Bool) (key : α → K) (xs : List α) : List α :=
  isort (fun a b => le (key a) (key b)) xs

/-- decorate every element with its key (first failure wins, as in `sorted(…, key=…)`) -/
def decorate {α} (keyOf : α → Except Err Key) : List α → Except Err (List (Key × α))
  | [] => .ok []
  | a :: l =>
    match keyOf a with
    | .error e => .error e
    | .ok k => match decorate keyOf l with
      | .error e => .error e
      | .ok r => .ok ((k, a) :: r)

/-- `Sort(*keys).filter` -/
def sortF {α} (hasCtx : α → Bool) (ctx : α → Ctx) (keys : List Val) : List α → Except Err (List α)
  | [] => .ok []
  | x :: xs =>
    if !hasCtx x then .ok (x :: xs)      -- `'context' not in first`: passed through
    else
      match decorate (fun a => sortKey keys (ctx x).isSparse (ctx a)) (x :: xs) with
      | .error e => .error e
      | .ok kxs => .ok ((sortBy keyLe (·.1) kxs).map (·.2))

/-! ## Where -/

def inMinMax (v : Nat) (mn mx : Option Nat) : Bool :=
  (match mn with | none => true | some m => decide (m ≤ v)) &&
  (match mx with | none => true | some m => decide (v ≤ m))

/-- `Where._context_len` on the first interaction's context -/
def ctxLen : Ctx → Nat
  | .none => 0
  | .scalar _ => 1
  | .dense vs => vs.length
  | .sparse kvs => kvs.length

abbrev Range := Option Nat × Option Nat

/-- how many interactions `Where.filter` peeks at to decide the interaction-count bounds without
reading everything: one more than the upper bound (else than the lower bound) -/
def peekCount (nInt : Range) : Nat :=
  1 + (match nInt.2, nInt.1 with | some mx, _ => mx | none, some mn => mn | none, none => 0)

/-- the peek count of the code *before* fix `C09-where-two-sided-range` (lower bound first); kept
only for the counterexample theorem -/
def peekCountMinFirst (nInt : Range) : Nat :=
  1 + (match nInt.1, nInt.2 with | some mn, _ => mn | none, some mx => mx | none, none => 0)

/-- `Where.filter` -/
def whereF {α} (fetLen : α → Nat) (nAct : α → Nat) (nInt nActB nFet : Range) : List α → List α
  | [] => []
  | x :: xs =>
    let first := (x :: xs).take (peekCount nInt)
    if !inMinMax first.length nInt.1 nInt.2 then []
    else if !inMinMax (fetLen x) nFet.1 nFet.2 then []
    else (x :: xs).filter (fun a => (nActB.1.isNone && nActB.2.isNone) || inMinMax (nAct a) nActB.1 nActB.2)

def whereSpec {α} (fetLen : α → Nat) (nAct : α → Nat) (nInt nActB nFet : Range) (xs : List α) : List α :=
  match xs with
  | [] => []
  | x :: _ =>
    if inMinMax xs.length nInt.1 nInt.2 && inMinMax (fetLen x) nFet.1 nFet.2
    then xs.filter (fun a => inMinMax (nAct a) nActB.1 nActB.2)
    else []

/-! ## Riffle -/

/-- `list.pop()` then `list.insert(idx, popped)` (Python clamps `idx` to the length) -/
def popInsert {α} (idx : Nat) (l : List α) : List α :=
  match l.getLast? with
  | none => l
  | some z => let init := l.dropLast; init.insertIdx (min idx init.length) z

def riffleLoop {α} (spacing : Nat) : Nat → Nat → Nat → List α → List α
  | 0, _, _, l => l
  | k+1, i, s, l =>
    let r := C05.randint s 0 spacing
    riffleLoop spacing k (i+1) r.1 (popInsert (i * spacing + r.2.toNat) l)

/-- `Riffle(spacing, seed).filter`: `int(len/(spacing+1))` iterations -/
def riffle {α} (spacing s : Nat) (xs : List α) : List α :=
  riffleLoop spacing (xs.length / (spacing + 1)) 0 s xs

/-! ## Batch / Unbatch.  An interaction is a record `key ↦ value` (assoc list in key order). -/

abbrev Rec (V : Type) := List (String × V)

def lookupKey {V} (k : String) : Rec V → Option V
  | [] => none
  | (k', v) :: r => if k' = k then some v else lookupKey k r

/-- `Batch._batched`: lists of length `k`, the last may be shorter (`k ≥ 1`) -/
def chunkGo {α} (k : Nat) : List α → List α → List (List α)
  | [], cur => if cur.isEmpty then [] else [cur]
  | x :: xs, cur =>
    let cur' := cur ++ [x]
    if cur'.length = k then cur' :: chunkGo k xs [] else chunkGo k xs cur'

def chunks {α} (k : Nat) (xs : List α) : List (List α) := chunkGo k xs []

def column {V} (k : String) : List (Rec V) → Except Err (List V)
  | [] => .ok []
  | r :: rs =>
    match lookupKey k r with
    | none => .error .keyError           -- `itemgetter(key)` on a record without the key
    | some v => match column k rs with
      | .error e => .error e
      | .ok vs => .ok (v :: vs)

/-- one batched interaction: for every key *of the first interaction* the list of the values -/
def batchCols {V} : List String → List (Rec V) → Except Err (List (String × List V))
  | [], _ => .ok []
  | k :: ks, b =>
    match column k b with
    | .error e => .error e
    | .ok vs => match batchCols ks b with
      | .error e => .error e
      | .ok r => .ok ((k, vs) :: r)

def batchAll {V} (keys : List String) : List (List (Rec V)) → Except Err (List (List (String × List V)))
  | [] => .ok []
  | b :: bs =>
    match batchCols keys b with
    | .error e => .error e
    | .ok c => match batchAll keys bs with
      | .error e => .error e
      | .ok cs => .ok (c :: cs)

inductive Batched (V : Type)
  | plain (r : Rec V)
  | batch (cols : List (String × List V))
deriving Repr

/-- `Batch(size).filter`; `size = 0`/`None` passes the interactions through unbatched -/
def batchF {V} (size : Nat) (xs : List (Rec V)) : Except Err (List (Batched V)) :=
  match xs with
  | [] => .ok []
  | first :: _ =>
    if size = 0 then .ok (xs.map .plain)
    else match batchAll (first.map (·.1)) (chunks size xs) with
      | .error e => .error e
      | .ok cs => .ok (cs.map .batch)

/-- row `i` of every column (`new[k] = interaction[k][i]`), for all rows -/
def unbatchCols {V} : List (String × List V) → Nat → List (Rec V)
  | [], n => List.replicate n []
  | (k, vs) :: cols, n => List.zipWith (fun v r => (k, v) :: r) vs (unbatchCols cols n)

def unbatchOne {V} : Batched V → List (Rec V)
  | .plain r => [r]
  | .batch cols => unbatchCols cols (match cols with | [] => 0 | (_, vs) :: _ => vs.length)

/-- `Unbatch().filter`: whether anything is batched is decided on the first interaction -/
def unbatchF {V} : List (Batched V) → List (Rec V)
  | [] => []
  | .plain r :: rest => r :: rest.flatMap (fun b => match b with | .plain r => [r] | .batch _ => [])
  | .batch c :: rest => (Batched.batch c :: rest).flatMap unbatchOne

/-- all records carry exactly the key list `ks` (one interaction kind), keys distinct (a dict) -/
def uniformKeys {V} (ks : List String) (xs : List (Rec V)) : Prop :=
  ks.Nodup ∧ ∀ r ∈ xs, r.map (·.1) = ks

/-! ## Cache (`pipes.Cache`, read sequentially any number of times, reads may be abandoned) -/

structure CacheSt (α : Type) where
  cache : List α
  /-- what the kept iterator has not produced yet; `none` = iterator finished and dropped -/
  rest : Option (List α)
deriving Repr

/-- one read of `Cache(nSlice).filter(items)` of which the caller consumes `k` items
(`none` = to the end).  A generator that is never advanced does nothing at all. -/
def cacheRead {α} (nSlice : Nat) (items : List α) (st : Option (CacheSt α)) (k : Option Nat) :
    Option (CacheSt α) × List α :=
  match k with
  | some 0 => (st, [])
  | _ =>
    let st0 : CacheSt α := match st with | none => { cache := [], rest := some items } | some c => c
    match st0.rest with
    | none => (some st0, match k with | none => st0.cache | some k => st0.cache.take k)
    | some rest =>
      match k with
      | none => (some { cache := st0.cache ++ rest, rest := none }, st0.cache ++ rest)
      | some k =>
        -- slices of nSlice are fetched until k items have been delivered
        let need := k - st0.cache.length
        let fetched := min (((need + nSlice - 1) / nSlice) * nSlice) rest.length
        (some { cache := st0.cache ++ rest.take fetched, rest := some (rest.drop fetched) },
         (st0.cache ++ rest).take k)

/-- a history of reads on one Cache object -/
def cacheRun {α} (nSlice : Nat) (items : List α) : Option (CacheSt α) → List (Option Nat) → List (List α)
  | _, [] => []
  | st, k :: ks => let r := cacheRead nSlice items st k; r.2 :: cacheRun nSlice items r.1 ks

/-- invariant of a Cache object that has only ever been read on `items` -/
def cacheInv {α} (items : List α) : Option (CacheSt α) → Prop
  | none => True
  | some st => match st.rest with
    | none => st.cache = items
    | some rest => st.cache ++ rest = items

/-- what a read of which `k` items are consumed must deliver -/
def readSpec {α} (items : List α) : Option Nat → List α
  | none => items
  | some k => items.take k

/-! ## Identity, Chunk, Params -/
def identityF {α} (xs : List α) : List α := xs

/-! # Phase 2 -/

/-! ## Seeds of every kind.  `CobaRandom(seed)`: an `int` or an integral `float` is used as an
integer; anything else goes through `int.from_bytes(str(seed).encode()) % 2**20`
(`str` itself is CPython's: the bytes are handed in). -/

inductive Seed
  | int (i : Int)
  | bytes (bs : List Nat)
deriving Repr

def Seed.norm : Seed → Nat
  | .int i => C05.normInt i
  | .bytes bs => C05.normBytes bs

def shuffleSeeded {α} (sd : Seed) (xs : List α) : List α := pShuffle sd.norm xs
/-- `environments.Shuffle(seed)`: `lsd` is the seed `seed*3.21` (a float product, computed outside) -/
def eShuffleSeeded {α} (isLogged : α → Bool) (sd lsd : Seed) (xs : List α) : List α :=
  eShuffle isLogged sd.norm lsd.norm xs
def riffleSeeded {α} (spacing : Nat) (sd : Seed) (xs : List α) : List α := riffle spacing sd.norm xs

/-! ## Reservoir with the actual formulas over an abstract float arithmetic.
`R` is the number type (`Float` in the driver, anything in the theorems); the operations are the
ones the loop uses, in the order it uses them:
`W = W*r1**x; S = floor(log(r2, 1-W)); slot = int(r3*count)`, `math.log(a,b) = log(a)/log(b)`. -/

structure FloatOps (R : Type) where
  ofUnif : Nat → R             -- k ↦ k / 2^30   (a uniform)
  one : R
  inv : Nat → R                -- 1/count
  mul : R → R → R
  pw : R → R → R               -- r ** x
  oneMinus : R → R             -- 1 - W
  lg : R → R                   -- natural log on its domain
  pos : R → Bool               -- 0 < x   (outside: `math domain error`)
  isZero : R → Bool            -- a zero divisor
  quotFloor : R → R → Nat      -- floor(a / b)
  slot : R → Nat → Nat         -- int(r3 * count)

/-- one loop iteration: the new `W` and what happens -/
def floatStep {R} (ops : FloatOps R) (count : Nat) (W : R) (k1 k2 k3 : Nat) : R × Step :=
  let W' := ops.mul W (ops.pw (ops.ofUnif k1) (ops.inv count))
  let r2 := ops.ofUnif k2
  if !ops.pos r2 then (W', .raise .valueError)          -- log(r2)
  else
    let base := ops.oneMinus W'
    if !ops.pos base then (W', .raise .valueError)      -- log(1-W)
    else
      let d := ops.lg base
      if ops.isZero d then (W', .raise .zeroDivision)   -- log(r2)/log(1-W)
      else (W', .skip (ops.quotFloor (ops.lg r2) d) (ops.slot (ops.ofUnif k3) count))

/-- does the guard of fix C09-F1 let the triple through (`if r1 == 0 or r2 == 0: continue`) -/
def guardOk (t : Nat × Nat × Nat) : Bool := !(t.1 == 0 || t.2.1 == 0)

/-- the steps the loop performs on a stream of uniform triples (numerators); stops at a raise -/
def floatSteps {R} (ops : FloatOps R) (count : Nat) : R → List (Nat × Nat × Nat) → List Step
  | _, [] => []
  | W, t :: ts =>
    if guardOk t then
      match floatStep ops count W t.1 t.2.1 t.2.2 with
      | (_, .raise e) => [.raise e]
      | (W', st) => st :: floatSteps ops count W' ts
    else floatSteps ops count W ts

/-- consecutive LCG uniforms, three at a time -/
def triples : Nat → Nat → List (Nat × Nat × Nat)
  | _, 0 => []
  | s, n+1 =>
    let s1 := C05.next s
    let s2 := C05.next s1
    let s3 := C05.next s2
    (s1, s2, s3) :: triples s3 n

/-- `Reservoir(count, strict, seed).filter` with nothing handed in: uniforms from the LCG after the
initial shuffle, steps by the float formulas (`nT` triples are enough when `nT` exceeds the length
by the number of guarded triples) -/
def reservoirF {R α} (ops : FloatOps R) (count : Option Nat) (strict : Bool) (s nT : Nat) (xs : List α) :
    Except Err (List α) :=
  let steps := match count with
    | some n => floatSteps ops n ops.one (triples (reservoirState count s xs) nT)
    | none => []
  reservoir count strict s steps xs

/-- what the proof of `reservoir_total_under_laws` needs of the arithmetic; `U x` reads "x is strictly
between 0 and 1".  All laws hold for real arithmetic.  IEEE doubles break `oneMinus_unit`
(`1-W == 1.0` for `W < 2^-53`), `mul_unit` (underflow to 0) and `pw_unit` (`r**x == 1.0` for
`x < 2^-24`, `r = 1-2^-30`). -/
structure FloatLaws {R} (ops : FloatOps R) (U : R → Prop) : Prop where
  unif : ∀ k, 0 < k → k < C05.M → U (ops.ofUnif k)
  pw_unit : ∀ r n, U r → 0 < n → U (ops.pw r (ops.inv n))
  mul_one : ∀ p, U p → U (ops.mul ops.one p)
  mul_unit : ∀ w p, U w → U p → U (ops.mul w p)
  oneMinus_unit : ∀ w, U w → U (ops.oneMinus w)
  pos_unit : ∀ r, U r → ops.pos r = true
  lg_ne_zero : ∀ r, U r → ops.isZero (ops.lg r) = false
  slot_lt : ∀ k n, k < C05.M → 0 < n → ops.slot (ops.ofUnif k) n < n

/-- exact rational stand-in (logarithm replaced by `r-1`, power by `r`): shows the laws are
satisfiable and is used for closed-term witnesses -/
def ratOps : FloatOps Rat where
  ofUnif k := (k : Rat) / (C05.M : Rat)
  one := 1
  inv n := 1 / (n : Rat)
  mul a b := a * b
  pw r _ := r
  oneMinus w := 1 - w
  lg r := r - 1
  pos x := decide (0 < x)
  isZero x := decide (x = 0)
  quotFloor a b := (a / b).floor.toNat
  slot r n := (r * (n : Rat)).floor.toNat

/-- the same with the rounding of `1-W` to 53 bits imitated: below 2^-53 the difference is 1 -/
def roundingOps : FloatOps Rat :=
  { ratOps with oneMinus := fun w => if w < 1 / 9007199254740992 then 1 else 1 - w }

/-! ## BatchSafe -/

/-- `len(first_val) if is_batch(first_val) else None` on the first interaction (0 = falsy) -/
def firstBatchSize {V} : Batched V → Nat
  | .plain _ => 0
  | .batch [] => 0
  | .batch ((_, vs) :: _) => vs.length

/-- `BatchSafe(G).filter`: nothing for an empty input; un-batched input goes straight through `G`;
batched input is unbatched, filtered and re-batched with the size of the first batch.
`G` works on interactions as they come (batched or not). -/
def batchSafe {V} (G : List (Batched V) → Except Err (List (Batched V))) :
    List (Batched V) → Except Err (List (Batched V))
  | [] => .ok []
  | first :: rest =>
    let bs := firstBatchSize first
    if bs = 0 then G (first :: rest)
    else
      match G ((unbatchF (first :: rest)).map .plain) with
      | .error e => .error e
      | .ok ys => batchF bs (unbatchF ys)

/-- a filter on records seen as a filter on (un-batched) interactions -/
def liftF {V} (F : List (Rec V) → Except Err (List (Rec V))) (xs : List (Batched V)) :
    Except Err (List (Batched V)) :=
  match F (unbatchF xs) with
  | .error e => .error e
  | .ok ys => .ok (ys.map .plain)

/-! ## Collections of environments.  A filter object is a state machine: `read st env k` is one
read of its pipeline on environment `env` of which the caller consumes `k` items (`none`: all). -/

structure Filt (σ E β : Type) where
  init : σ
  read : σ → E → Option Nat → σ × β

/-- `Environments(env_0, env_1, …).<shortcut>()`: one FRESH filter object per environment
(`st k` = state of the filter attached to environment `k`); a history of reads `(k, consumed)` -/
def runColl {σ E β} (f : Filt σ E β) (envs : Nat → E) (st : Nat → σ) : List (Nat × Option Nat) → List (Nat × β)
  | [] => []
  | (k, c) :: h =>
    let r := f.read (st k) (envs k) c
    (k, r.2) :: runColl f envs (fun j => if j = k then r.1 else st j) h

/-- the reads of one environment with its own filter object, alone -/
def runAlone {σ E β} (f : Filt σ E β) (env : E) : σ → List (Option Nat) → List β
  | _, [] => []
  | s, c :: cs => let r := f.read s env c; r.2 :: runAlone f env r.1 cs

/-- what a (wrong) implementation sharing ONE filter object between all environments computes -/
def runShared {σ E β} (f : Filt σ E β) (envs : Nat → E) : σ → List (Nat × Option Nat) → List (Nat × β)
  | _, [] => []
  | s, (k, c) :: h => let r := f.read s (envs k) c; (k, r.2) :: runShared f envs r.1 h

/-- `Cache(nSlice)` as a filter object -/
def cacheFilt {α} (nSlice : Nat) : Filt (Option (CacheSt α)) (List α) (List α) where
  init := none
  read st items k := cacheRead nSlice items st k

/-- a filter without state (everything else): a read consumed up to `k` delivers a prefix -/
def statelessFilt {E α} (F : E → Except Err (List α)) : Filt Unit E (Except Err (List α)) where
  init := ()
  read _ env k := ((), match k with
    | none => F env
    | some k => match F env with | .ok l => .ok (l.take k) | .error e => .error e)

/-! # Phase 3 -/

/-! ## BatchSafe on arbitrary sequences of batches.  An inner filter that treats interactions as
opaque items (`G` below, e.g. the polymorphic selection filters at element type `Batched V`) sees
un-batched interactions in the normal case and the *batches themselves* when the first batch is
empty (`batch_size = 0` is falsy).  `agreesOnPlain G F`: on un-batched interactions `G` is the
record filter `F`. -/

def agreesOnPlain {V} (G : List (Batched V) → Except Err (List (Batched V)))
    (F : List (Rec V) → Except Err (List (Rec V))) : Prop :=
  ∀ recs, G (recs.map .plain) = (match F recs with | .error e => .error e | .ok ys => .ok (ys.map .plain))

/-- an empty batch with the given keys (what `Batch` never produces but a caller can hand in) -/
def emptyBatch {V} (ks : List String) : Batched V := .batch (ks.map (fun k => (k, [])))

/-! ## Several filters per shortcut: `Environments.filter([f_0, f_1, …])` builds
`[join(env, f) for env in envs for f in filters]`; `shuffle(seeds=…)` additionally sorts the
members by seed (`sorted` is stable). -/

def productMembers (nEnv nFilt : Nat) : List (Nat × Nat) :=
  (List.range nEnv).flatMap (fun i => (List.range nFilt).map (fun j => (i, j)))

/-- `sorted(members, key=seed of the member's filter)` -/
def sortedMembers (seedOf : Nat → Nat) (nEnv nFilt : Nat) : List (Nat × Nat) :=
  sortBy (fun a b => decide (a ≤ b)) (fun m : Nat × Nat => seedOf m.2) (productMembers nEnv nFilt)

/-- the collection as the code holds it: member `m` is environment `i` behind filter `j` -/
def memberEnv {E Φ} (envs : Nat → E) (filters : Nat → Φ) (members : List (Nat × Nat)) (dflt : Nat × Nat) (m : Nat) : E × Φ :=
  let p := (members[m]?).getD dflt
  (envs p.1, filters p.2)

/-! ## Unbatch on arbitrary input (mixed plain / batched interactions, the bare `except:`).
A value is an atom or a sequence; a cell of an interaction is a plain value or a batch column. -/

inductive PV
  | atom (t : Nat)
  | seq (vs : List PV)
deriving Repr

inductive Cell
  | val (v : PV)
  | col (vs : List PV)       -- a `Batch.List`
deriving Repr

abbrev CRec := List (String × Cell)

def lookupCell (k : String) : CRec → Option Cell
  | [] => none
  | (k', v) :: r => if k' = k then some v else lookupCell k r

def Cell.isBatch : Cell → Bool | .col _ => true | .val _ => false

/-- `len(x)`: a number has none -/
def cellLen : Cell → Except Err Nat
  | .col vs => .ok vs.length
  | .val (.seq vs) => .ok vs.length
  | .val (.atom _) => .error .typeError

/-- `try: new[k] = interaction[k][i]  except: new[k] = interaction[k]` -/
def cellAt (c : Cell) (i : Nat) : Cell :=
  match c with
  | .col vs => (match vs[i]? with | some v => .val v | none => c)
  | .val (.seq vs) => (match vs[i]? with | some v => .val v | none => c)
  | .val (.atom _) => c

def rowsOf (r : CRec) (n : Nat) : List CRec :=
  (List.range n).map (fun i => r.map (fun kv => (kv.1, cellAt kv.2 i)))

/-- `Unbatch._unbatch` for one interaction; `bk` = the first batched key of the FIRST interaction -/
def unbatchRec (bk : String) (r : CRec) : Except Err (List CRec) :=
  match lookupCell bk r with
  | none => .error .keyError
  | some c => match cellLen c with
    | .error e => .error e
    | .ok n => .ok (rowsOf r n)

def unbatchAll (bk : String) : List CRec → Except Err (List CRec)
  | [] => .ok []
  | r :: rs =>
    match unbatchRec bk r with
    | .error e => .error e
    | .ok rows => match unbatchAll bk rs with
      | .error e => .error e
      | .ok rest => .ok (rows ++ rest)

/-- `Unbatch().filter` as the code does it: whether and by which key to unbatch is decided on the
first interaction only -/
def unbatchG : List CRec → Except Err (List CRec)
  | [] => .ok []
  | first :: rest =>
    match first.find? (fun kv => kv.2.isBatch) with
    | none => .ok (first :: rest)                 -- nothing batched in the first one: passed through
    | some (bk, _) => unbatchAll bk (first :: rest)

/-- a fully batched interaction: every cell a column, all of one length -/
def wfBatch (r : CRec) (n : Nat) : Prop := ∀ kv ∈ r, ∃ vs, kv.2 = .col vs ∧ vs.length = n

/-- its rows, by transposition -/
def rowsSpec (r : CRec) (n : Nat) : List CRec :=
  (List.range n).map (fun i => r.filterMap (fun kv => match kv.2 with
    | .col vs => (vs[i]?).map (fun v => (kv.1, Cell.val v))
    | .val _ => none))

/-! # Phase 4 -/

/-! ## A pipeline `… → shared Cache → D` (`Environments(env).cache().take(n)`, `.chunk().slice(…)`, …)

Every pipeline built on one `.cache()`d environment shares ONE `pipes.Cache` object.  A read of
such a pipeline pulls `need` items (`none` = to the end) from a generator of that object and then
drops it (closed by the consumer, garbage collected or still alive — `pipes.Cache` keeps its source
iterator in all three cases); the downstream filter `D` sees exactly what it pulled. -/
def cachedRead {α β} (nSlice : Nat) (items : List α) (st : Option (CacheSt α)) (need : Option Nat)
    (D : List α → β) : Option (CacheSt α) × β :=
  let r := cacheRead nSlice items st need
  (r.1, D r.2)

/-- a history of reads `(need, D)` of pipelines that share one Cache object -/
def cachedRun {α β} (nSlice : Nat) (items : List α) :
    Option (CacheSt α) → List (Option Nat × (List α → β)) → List β
  | _, [] => []
  | st, r :: rs => let o := cachedRead nSlice items st r.1 r.2; o.2 :: cachedRun nSlice items o.1 rs

/-- how many items of its input a complete read of `Take(count)` pulls (`islice(items, count)`) -/
def takeNeed (count : Option Nat) : Option Nat := count

/-- how many items of its input a complete read of `Slice(start, stop, step)` pulls -/
def sliceNeed (stop : Option Nat) : Option Nat := stop

/-- the round-g seeded change (`self._iter = None` in a `finally:`): leaving the generator in ANY way,
an abandoned read included, drops the source iterator, so the partial cache counts as complete -/
def cacheReadSealing {α} (nSlice : Nat) (items : List α) (st : Option (CacheSt α)) (k : Option Nat) :
    Option (CacheSt α) × List α :=
  match k with
  | some 0 => (st, [])
  | _ => let r := cacheRead nSlice items st k
         (r.1.map (fun c => { c with rest := none }), r.2)

def cacheRunSealing {α} (nSlice : Nat) (items : List α) : Option (CacheSt α) → List (Option Nat) → List (List α)
  | _, [] => []
  | st, k :: ks => let r := cacheReadSealing nSlice items st k; r.2 :: cacheRunSealing nSlice items r.1 ks

/-! # Phase 5 -/

/-! ## Random / ordering filters as downstream branches of a shared Cache, several environments

How much of its input a downstream filter pulls out of the cache generator is part of the code:
`Riffle.filter` is a plain function (`interactions = list(interactions)` runs when the pipeline is
READ, even if the consumer never takes an item); `Shuffle.filter`, `Sort.filter` and
`Reservoir.filter` are generators that materialise their whole input at their first `next`
(`peek_first` + `list`, `sorted`, the Algorithm-L loop that runs into `StopIteration`) and do nothing
when they are never advanced; `Reservoir(0)` never touches its input (`yield from []`). -/
inductive Pull
  | eager
  | onFirst
  | never
deriving DecidableEq, Repr

/-- items pulled from the cache by a read of which the consumer takes `k` items (`none` = all) -/
def pullNeed : Pull → Option Nat → Option Nat
  | .eager, _ => none
  | .onFirst, some 0 => some 0
  | .onFirst, _ => none
  | .never, _ => some 0

/-- what a consumer that takes `k` items of a filter's result (and then leaves) has seen -/
def consume {α} (k : Option Nat) (r : Except Err (List α)) : Except Err (List α) :=
  match r, k with
  | .ok l, some k => .ok (l.take k)
  | r, _ => r

/-- `Environments(e_0, e_1, …).cache()`: every environment behind its OWN Cache object, any number
of downstream pipelines per environment; a read = (environment, items pulled, downstream filter) -/
def multiCachedRun {α β} (nSlice : Nat) (envs : Nat → List α) :
    (Nat → Option (CacheSt α)) → List (Nat × Option Nat × (List α → β)) → List β
  | _, [] => []
  | st, r :: rs =>
    let o := cachedRead nSlice (envs r.1) (st r.1) r.2.1 r.2.2
    o.2 :: multiCachedRun nSlice envs (fun e => if e = r.1 then o.1 else st e) rs

/-- one read of a whole-input branch: environment, how the filter pulls, how much the consumer takes, the filter -/
structure BranchRead (α : Type) where
  env : Nat
  pull : Pull
  k : Option Nat
  F : List α → Except Err (List α)

/-- a history of reads of whole-input branches (shuffle / sort / riffle / reservoir) behind the caches -/
def branchRun {α} (nSlice : Nat) (envs : Nat → List α) (reads : List (BranchRead α)) : List (Except Err (List α)) :=
  multiCachedRun nSlice envs (fun _ => none)
    (reads.map (fun r => (r.env, pullNeed r.pull r.k, fun xs => consume r.k (r.F xs))))

/-- what such a read must deliver: the filter on ALL interactions of its own environment (cut after
`k`); a read that never starts the generator delivers nothing -/
def branchSpec {α} (envs : Nat → List α) (r : BranchRead α) : Except Err (List α) :=
  match pullNeed r.pull r.k with
  | none => consume r.k (r.F (envs r.env))
  | some _ => consume r.k (r.F [])

/-! ## Reservoir: does the run raise?  A check on lengths only (evaluated by the driver on every case) -/

/-- `resLoop` on lengths: does the loop end in `StopIteration` without raising -/
def resLoopOk : List Step → Nat → Nat → Bool
  | [], _, _ => false
  | .raise _ :: _, _, _ => false
  | .skip S slot :: steps, nRest, nRes =>
    if nRest ≤ S then true else decide (slot < nRes) && resLoopOk steps (nRest - S - 1) nRes

/-- does `Reservoir(count).filter` of `N` interactions return (given the loop's steps) -/
def reservoirOk (count : Option Nat) (steps : List Step) (N : Nat) : Bool :=
  match count with
  | some 0 => true
  | none => true
  | some n => if N < n then true else resLoopOk steps (N - n) n

/-! ## The control flow of `Environments.shuffle` (seed flattening, `n=`) and `Environments.chunk`

`harness/props/c09.py::pre_build` extracts the bodies of the two methods from the CURRENT source as
small programs: one `PLine` per statement, `(depth, kind, a, b)` with kind `assign` (a = target,
b = expression), `if` (a = test), `else`, `return` (a = expression); expressions are `ast.unparse`
text.  `runShuffle` INTERPRETS such a program on a call of `shuffle`; `shuffle_program_computes_seeds`
(Props) proves that the extracted program computes `shuffleSeeds` for every call. -/

abbrev PLine := Nat × String × String × String

/-- one positional / list element handed to `shuffle`: a seed or a (one level) nested sequence of seeds -/
inductive SeedArg
  | num (v : Nat)
  | seq (vs : List Nat)
deriving DecidableEq, Repr

/-- `pipes.Flatten` on the one row: sequences among the elements are spliced in (one level) -/
def flatRow : List SeedArg → List Nat
  | [] => []
  | .num v :: r => v :: flatRow r
  | .seq vs :: r => vs ++ flatRow r

/-- the call forms of `Environments.shuffle` -/
inductive ShuffleCall
  | n (k : Nat)                  -- shuffle(n=k)
  | kwInt (v : Nat)              -- shuffle(seed=v) / shuffle(seeds=v)
  | kwRow (row : List SeedArg)   -- shuffle(seeds=[…]) / shuffle(seed=[…])
  | args (row : List SeedArg)    -- shuffle(a, b, …), shuffle() = args []
deriving DecidableEq, Repr

/-- the seeds `shuffle` builds one `Shuffle` filter for, in order (MODEL) -/
def shuffleSeeds : ShuffleCall → List Nat
  | .n k => if k = 0 then [1] else List.range k
  | .kwInt v => [v]
  | .kwRow row => if (flatRow row).isEmpty then [1] else flatRow row
  | .args row => if (flatRow row).isEmpty then [1] else flatRow row

/-- the value of the local `seeds` while the program runs -/
inductive PVal
  | int (v : Nat)
  | row (vs : List Nat)
deriving DecidableEq, Repr

def evalTest (c : ShuffleCall) (seeds : Option PVal) (t : String) : Option Bool :=
  if t = "kwargs and 'n' in kwargs" then some (match c with | .n _ => true | _ => false)
  else if t = "seeds != 0 and (not seeds)" then
    match seeds with
    | some (.row vs) => some vs.isEmpty       -- an empty sequence is falsy and `!= 0`
    | some (.int _) => some false             -- 0: `seeds != 0` fails; otherwise truthy
    | none => none
  else if t = "isinstance(seeds, int)" then
    match seeds with
    | some (.int _) => some true
    | some (.row _) => some false
    | none => none
  else none

def evalExpr (c : ShuffleCall) (seeds : Option PVal) (e : String) : Option PVal :=
  if e = "range(kwargs['n'])" then (match c with | .n k => some (.row (List.range k)) | _ => none)
  else if e = "flat(kwargs.get('seed', kwargs.get('seeds', args)))" then
    match c with
    | .kwInt v => some (.int v)
    | .kwRow r => some (.row (flatRow r))
    | .args r => some (.row (flatRow r))
    | .n _ => none
  else if e = "[1]" then some (.row [1])
  else if e = "[seeds]" then (match seeds with | some (.int v) => some (.row [v]) | _ => none)
  else none

/-- the tail every `shuffle` program must end with: one `Shuffle(seed)` per seed through `self.filter`
(environments × filters, `product_member_order`), stable sort by seed (`shuffle_member_order`) -/
def shuffleTail : List PLine := [
  (0, "assign", "shuffled", "self.filter([Shuffle(seed) for seed in seeds])"),
  (0, "assign", "ordered", "sorted(shuffled, key=lambda env: env.params.get('shuffle_seed', 0))"),
  (0, "return", "Environments(ordered)", "")]

/-- interpreter: runs the statements that compute `seeds`; at `shuffleTail` the result is `seeds` -/
def runShuffle (c : ShuffleCall) : Nat → List PLine → Option PVal → Option (List Nat)
  | 0, _, _ => none
  | fuel+1, prog, seeds =>
    if prog = shuffleTail then (match seeds with | some (.row vs) => some vs | _ => none)
    else match prog with
    | [] => none
    | (d, kind, a, b) :: rest =>
      if kind = "assign" then
        if a = "flat" then (if b = "lambda a: next(pipes.Flatten().filter([a]))" then runShuffle c fuel rest seeds else none)
        else if a = "seeds" then (match evalExpr c seeds b with | some v => runShuffle c fuel rest (some v) | none => none)
        else none
      else if kind = "if" then
        match evalTest c seeds a with
        | none => none
        | some true =>
          -- run the body (the deeper lines that follow), skip an `else` branch at this depth
          let body := rest.takeWhile (fun l => decide (d < l.1))
          let after := rest.dropWhile (fun l => decide (d < l.1))
          let after' := match after with
            | (d', k', _, _) :: r => if d' = d ∧ k' = "else" then r.dropWhile (fun l => decide (d < l.1)) else after
            | [] => []
          runShuffle c fuel (body ++ after') seeds
        | some false =>
          let after := rest.dropWhile (fun l => decide (d < l.1))
          match after with
          | (d', k', _, _) :: r => if d' = d ∧ k' = "else" then runShuffle c fuel r seeds else runShuffle c fuel after seeds
          | [] => runShuffle c fuel [] seeds
      else none

/-- the program the model assumes for `Environments.shuffle` -/
def shuffleProgram : List PLine := [
  (0, "assign", "flat", "lambda a: next(pipes.Flatten().filter([a]))"),
  (0, "if", "kwargs and 'n' in kwargs", ""),
  (1, "assign", "seeds", "range(kwargs['n'])"),
  (0, "else", "", ""),
  (1, "assign", "seeds", "flat(kwargs.get('seed', kwargs.get('seeds', args)))"),
  (0, "if", "seeds != 0 and (not seeds)", ""),
  (1, "assign", "seeds", "[1]"),
  (0, "if", "isinstance(seeds, int)", ""),
  (1, "assign", "seeds", "[seeds]")] ++ shuffleTail

/-- the filters `Environments.chunk(cache)` appends to every environment (MODEL) -/
def chunkFilters (cache : Bool) : List String := if cache then ["Chunk", "Cache"] else ["Chunk"]

/-- the program the model assumes for `Environments.chunk` -/
def chunkProgram : List PLine := [
  (0, "assign", "envs", "Environments([Pipes.join(env, Chunk()) for env in self._envs])"),
  (0, "return", "envs.cache() if cache else envs", "")]

/-- interpreter of a `chunk` program: which filters follow each environment -/
def runChunk (cache : Bool) (prog : List PLine) : Option (List String) :=
  match prog with
  | [(0, "assign", "envs", e), (0, "return", r, "")] =>
    if e = "Environments([Pipes.join(env, Chunk()) for env in self._envs])" then
      if r = "envs.cache() if cache else envs" then some (if cache then ["Chunk", "Cache"] else ["Chunk"])
      else if r = "envs" then some ["Chunk"]
      else if r = "envs.cache()" then some ["Chunk", "Cache"]
      else none
    else none
  | _ => none

/-- reads of an environment behind `chunk(cache)` -/
def chunkRun {α} (cache : Bool) (nSlice : Nat) (items : List α) (reads : List (Option Nat)) : List (List α) :=
  if cache then cacheRun nSlice items none reads else reads.map (readSpec items)

/-! ## The `Environments.<shortcut>` → filter-class(arguments) table the model assumes

`harness/props/c09.py::pre_build` extracts the same table from the CURRENT coba source into
`Generated/C09Shortcuts.lean`; `shortcuts_wired_as_modelled` proves the two equal.  A signature is
a list of `(parameter, default)` (`""` = no default, `"*"` = the keyword-only marker); an argument of
a constructor call is `(keyword, expression)` (`""` = positional) where `$p` is parameter `p` of the
shortcut and `each($p)` an element of it (one filter object per element). -/
structure ShortcutRow where
  method : String
  sig : List (String × String)
  calls : List (String × List (String × String))
deriving DecidableEq, Repr

structure CtorRow where
  cls : String
  /-- where `__init__` is defined: `environments`, `pipes.<Class>` or `none` (no constructor) -/
  src : String
  sig : List (String × String)
deriving DecidableEq, Repr

def shortcutTable : List ShortcutRow := [
  { method := "shuffle", sig := [("*args", ""), ("**kwargs", "")], calls := [("Shuffle", [("", "each($seeds)")])] },
  { method := "sort", sig := [("*keys", "")], calls := [("Sort", [("", "*$keys")])] },
  { method := "riffle", sig := [("spacing", ""), ("seed", "1")], calls := [("Riffle", [("", "$spacing"), ("", "$seed")])] },
  { method := "params", sig := [("params", "")], calls := [("Params", [("", "$params")])] },
  { method := "take", sig := [("n_interactions", ""), ("strict", "False")], calls := [("Take", [("", "$n_interactions"), ("", "$strict")])] },
  { method := "slice", sig := [("start", ""), ("stop", "None"), ("step", "1")], calls := [("Slice", [("", "$start"), ("", "$stop"), ("", "$step")])] },
  { method := "reservoir", sig := [("n_interactions", ""), ("seeds", "1"), ("strict", "False")], calls := [("Reservoir", [("", "$n_interactions"), ("strict", "$strict"), ("seed", "each($seeds)")])] },
  { method := "where", sig := [("*", ""), ("n_interactions", "None"), ("n_actions", "None"), ("n_features", "None")], calls := [("Where", [("n_interactions", "$n_interactions"), ("n_actions", "$n_actions"), ("n_features", "$n_features")])] },
  { method := "batch", sig := [("batch_size", ""), ("batch_type", "'list'")], calls := [("Batch", [("", "$batch_size"), ("", "$batch_type")])] },
  { method := "chunk", sig := [("cache", "True")], calls := [("Chunk", [])] },
  { method := "unbatch", sig := [], calls := [("Unbatch", [])] },
  { method := "cache", sig := [], calls := [("Cache", [("", "25")])] }]

def ctorTable : List CtorRow := [
  { cls := "Shuffle", src := "pipes.Shuffle", sig := [("seed", "")] },
  { cls := "Sort", src := "environments", sig := [("*keys", "")] },
  { cls := "Riffle", src := "environments", sig := [("spacing", "3"), ("seed", "1")] },
  { cls := "Params", src := "environments", sig := [("params", "")] },
  { cls := "Take", src := "pipes.Take", sig := [("count", ""), ("strict", "False")] },
  { cls := "Slice", src := "pipes.Slice", sig := [("start", ""), ("stop", ""), ("step", "1")] },
  { cls := "Reservoir", src := "pipes.Reservoir", sig := [("count", ""), ("strict", "False"), ("seed", "1")] },
  { cls := "Where", src := "environments", sig := [("*", ""), ("n_interactions", "None"), ("n_actions", "None"), ("n_features", "None")] },
  { cls := "Batch", src := "environments", sig := [("batch_size", ""), ("batch_type", "'list'")] },
  { cls := "Unbatch", src := "none", sig := [] },
  { cls := "Chunk", src := "none", sig := [] },
  { cls := "Cache", src := "pipes.Cache", sig := [("n_slice", "25"), ("protected", "False")] },
  { cls := "Identity", src := "none", sig := [] }]

/-- the expression of shortcut `m` that reaches constructor parameter `p` of filter class `cls`
(keyword arguments by name, positional ones by the position of `p` in the constructor's signature) -/
def feeds (shortcuts : List ShortcutRow) (ctors : List CtorRow) (m cls p : String) : Option String :=
  match shortcuts.find? (fun r => r.method == m), ctors.find? (fun r => r.cls == cls) with
  | some r, some c =>
    match r.calls.find? (fun k => k.1 == cls) with
    | none => none
    | some call =>
      match call.2.find? (fun a => a.1 == p) with
      | some a => some a.2
      | none =>
        let names := (c.sig.map (·.1)).filter (fun n => n != "*")
        ((((call.2.filter (fun a => a.1 == "")).map (·.2)).zip names).find? (fun q => q.2 == p)).map (·.1)
  | _, _ => none

/-! # Phase 6 — pipelines of several filters: `FiltersFilter.filter` / `SourceFilters.read`
(`for f in self._filters: items = f.filter(items)`), the flattening of nested `Pipes.join`s in their
constructors (`sum((try_else(lambda: list(p),[p]) for p in pipes),[])`), and the filter of every kind
as ONE datatype `FOp`, so that a theorem can quantify over every pipeline of C09 filters. -/

/-- one pipeline run: the result of each filter is handed to the next; the first exception ends it -/
def chainF {α : Type} : List (List α → Except Err (List α)) → List α → Except Err (List α)
  | [], xs => .ok xs
  | f :: fs, xs =>
    match f xs with
    | .ok ys => chainF fs ys
    | .error e => .error e

/-- what is handed to `Pipes.join`: a filter object, or a pipe that was itself built by `Pipes.join` -/
inductive Pipe (α : Type) where
  | one (f : List α → Except Err (List α))
  | joined (ps : List (Pipe α))

mutual
/-- `_filters` of the joined pipe: the constructor splices the filter lists of already joined arguments -/
def Pipe.filters {α : Type} : Pipe α → List (List α → Except Err (List α))
  | .one f => [f]
  | .joined ps => Pipe.filtersL ps
def Pipe.filtersL {α : Type} : List (Pipe α) → List (List α → Except Err (List α))
  | [] => []
  | p :: ps => p.filters ++ Pipe.filtersL ps
end

/-- the code: run the flat list -/
def Pipe.runFlat {α : Type} (p : Pipe α) (xs : List α) : Except Err (List α) := chainF p.filters xs

mutual
/-- the meaning of a nested join (spec): every argument is applied as a unit, left to right -/
def Pipe.run {α : Type} : Pipe α → List α → Except Err (List α)
  | .one f, xs => f xs
  | .joined ps, xs => Pipe.runL ps xs
def Pipe.runL {α : Type} : List (Pipe α) → List α → Except Err (List α)
  | [], xs => .ok xs
  | p :: ps, xs =>
    match p.run xs with
    | .ok ys => Pipe.runL ps ys
    | .error e => .error e
end

/-- the attributes of an interaction the filters read -/
structure Acc (α : Type) where
  isLogged : α → Bool
  hasCtx : α → Bool
  ctx : α → Ctx
  nAct : α → Nat

/-- a C09 filter with its parameters -/
inductive FOp where
  | take (count : Option Nat) (strict : Bool)
  | slice (start stop : Option Nat) (step : Nat)
  | pshuffle (sd : Seed)
  | eshuffle (sd lsd : Seed)
  | riffle (spacing : Nat) (sd : Seed)
  | sort (keys : List Val)
  | whereOp (nInt nAct nFet : Range)
  | reservoir (count : Option Nat) (strict : Bool) (sd : Seed)
  | identity

/-- the modelled filter function of an `FOp` (`nT` = number of uniform triples the reservoir loop may use) -/
def FOp.run {R α : Type} (ops : FloatOps R) (A : Acc α) (nT : Nat) : FOp → List α → Except Err (List α)
  | .take c strict, xs => .ok (Coba.C09.take c strict xs)
  | .slice a b st, xs => .ok (Coba.C09.slice a b st xs)
  | .pshuffle sd, xs => .ok (shuffleSeeded sd xs)
  | .eshuffle sd lsd, xs => .ok (eShuffleSeeded A.isLogged sd lsd xs)
  | .riffle sp sd, xs => .ok (riffleSeeded sp sd xs)
  | .sort keys, xs => sortF A.hasCtx A.ctx keys xs
  | .whereOp ni na nf, xs => .ok (whereF (fun a => ctxLen (A.ctx a)) A.nAct ni na nf xs)
  | .reservoir c strict sd, xs => reservoirF ops c strict sd.norm (xs.length + nT) xs
  | .identity, xs => .ok (identityF xs)

/-- a pipeline of C09 filters -/
def pipeline {R α : Type} (ops : FloatOps R) (A : Acc α) (nT : Nat) (fs : List FOp) : List α → Except Err (List α) :=
  chainF (fs.map (FOp.run ops A nT))

/-- the filter keeps no interaction it was not given and never reorders (Take, Slice, Where, Identity) -/
def FOp.selecting : FOp → Bool
  | .take _ _ | .slice _ _ _ | .whereOp _ _ _ | .identity => true
  | _ => false

/-- the filter only rearranges (Shuffle, Riffle, Sort, Identity) -/
def FOp.ordering : FOp → Bool
  | .pshuffle _ | .eshuffle _ _ | .riffle _ _ | .sort _ | .identity => true
  | _ => false

/-! ## Phase 6: the statements of the pipeline-running methods, as extracted programs (`PLine`, with `for` lines:
`(depth, "for", loop variable, iterated expression)` followed by the body one level deeper) and an interpreter -/

/-- `FiltersFilter.__init__` / `SourceFilters.__init__`: the splice of already joined arguments (meaning: `Pipe.filtersL`) -/
def joinInitProgram (target : String) : List PLine :=
  [(0, "assign", target, "sum((try_else(lambda: list(p), [p]) for p in pipes), [])")]

def filtersFilterProgram : List PLine := [
  (0, "for", "filter", "self._filters"),
  (1, "assign", "items", "filter.filter(items)"),
  (0, "return", "items", "")]

def sourceReadProgram : List PLine := [
  (0, "assign", "item", "self._pipes[0].read()"),
  (0, "for", "filter", "self._pipes[1:]"),
  (1, "assign", "item", "filter.filter(item)"),
  (0, "return", "item", "")]

/-- `Environments.filter`: one pipeline per (environment, filter) pair, environments outermost (meaning: `productMembers`) -/
def envFilterProgram : List PLine := [
  (0, "assign", "filters", "filter if isinstance(filter, collections.abc.Sequence) else [filter]"),
  (0, "return", "Environments([Pipes.join(env, f) for env in self._envs for f in filters])", "")]

/-- which filters a loop of such a method walks: all of a `FiltersFilter`, everything after the source of a `SourceFilters` -/
def loopFilters {α : Type} (fs : List (List α → Except Err (List α))) (expr : String) : Option (List (List α → Except Err (List α))) :=
  if expr == "self._filters" || expr == "self._pipes[1:]" then some fs else none

/-- interpreter of a pipeline-running method body.  `vars`: the data variables and what they hold (the method's
argument, later the running result); `input` is what the source delivers / the argument of `filter`.
`x = self._pipes[0].read()` binds `x`; `for f in <filters>:` followed by `x = f.filter(x)` runs the filters on `x`,
stopping at the first exception; `return x` ends.  Anything else: `none`. -/
def runPipeProgram {α : Type} (fs : List (List α → Except Err (List α))) (input : List α) :
    List PLine → List (String × Except Err (List α)) → Option (Except Err (List α))
  | (0, "assign", x, "self._pipes[0].read()") :: rest, vars => runPipeProgram fs input rest ((x, .ok input) :: vars)
  | (0, "for", f, l) :: (1, "assign", x, e) :: rest, vars =>
    if e == f ++ ".filter(" ++ x ++ ")" then
      match loopFilters fs l, vars.lookup x with
      | some gs, some (.ok v) => runPipeProgram fs input rest ((x, chainF gs v) :: vars)
      | some _, some (.error err) => runPipeProgram fs input rest ((x, .error err) :: vars)
      | _, _ => none
    else none
  | [(0, "return", x, "")], vars => vars.lookup x
  | _, _ => none

end Coba.C09
