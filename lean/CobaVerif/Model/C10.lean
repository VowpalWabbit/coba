/-
C10 — Changing representation never changes which action earns which reward.

Executable model of coba's representation filters (coba/environments/filters.py: Repr, Flatten,
Sparsify, Densify, Noise, Batch/Unbatch, Harden, Finalize; coba/pipes/rows.py: EncodeCatRows,
SparseDense; coba/pipes/filters.py: Flatten; coba/primitives.py: the reward classes) on a small
universe of Python values, and the specification "the i-th action keeps its reward".

Import-free apart from the finished C05 model (Densify's look-up table is filled from
`CobaRandom(1).shuffle(range(n_feats))`).
-/
import CobaVerif.Model.C05

namespace Coba.C10

/-! ## Python values -/

/-- the values that occur as contexts / actions / features -/
inductive Val where
  | none
  | num (q : Rat)
  | str (s : String)
  /-- `Categorical(value, levels)` (a `str` subclass: compares as its string) -/
  | cat (s : String) (levels : List String)
  | list (xs : List Val)
  | tuple (xs : List Val)
  /-- `dict` with string keys, insertion ordered, keys unique -/
  | dict (kvs : List (String × Val))
  /-- `coba.pipes.SparseDense(values, length)`: a lazy dense row, zero where no value is stored -/
  | lazy (kvs : List (Nat × Val)) (len : Nat)
  deriving Repr, Inhabited

inductive Err where
  | keyError | indexError | typeError | valueError | attributeError | zeroDivision | cobaException
  /-- the input left the part of Python's behaviour that the model covers (e.g. `str(1.5)`) -/
  | unmodelled
  deriving Repr, DecidableEq, Inhabited

def lookupS (k : String) : List (String × Val) → Option Val
  | [] => none
  | (k', v) :: r => if k' == k then some v else lookupS k r

def lookupN (k : Nat) : List (Nat × Val) → Option Val
  | [] => none
  | (k', v) :: r => if k' == k then some v else lookupN k r

/-- `d[k] = v` on an insertion-ordered dict -/
def dictSet (k : String) (v : Val) : List (String × Val) → List (String × Val)
  | [] => [(k, v)]
  | (k', v') :: r => if k' == k then (k', v) :: r else (k', v') :: dictSet k v r

def dictErase (k : String) : List (String × Val) → List (String × Val)
  | [] => []
  | (k', v') :: r => if k' == k then r else (k', v') :: dictErase k r

def natSet (k : Nat) (v : Val) : List (Nat × Val) → List (Nat × Val)
  | [] => [(k, v)]
  | (k', v') :: r => if k' == k then (k', v) :: r else (k', v') :: natSet k v r

def isZero : Val → Bool
  | .num q => q == 0
  | _ => false

/-- element `i` of a SparseDense row -/
def lazyAt (kvs : List (Nat × Val)) (i : Nat) : Val := (lookupN i kvs).getD (.num 0)

/-- `list(SparseDense)` -/
def expand (kvs : List (Nat × Val)) (len : Nat) : List Val := (List.range len).map (lazyAt kvs)

/-- are all positions `i, i+1, …` of `ys` that are *not* stored in `kvs` zero, and is `ys` exactly
`len - i` long?  (the implicit zeros of a SparseDense against a concrete sequence) -/
def zerosMatch (kvs : List (Nat × Val)) : Nat → List Val → Bool
  | _, [] => true
  | i, y :: ys => ((lookupN i kvs).isSome || isZero y) && zerosMatch kvs (i + 1) ys

/-- the elements of a dense value as a concrete list (`none` for non-dense values) -/
def denseItems : Val → Option (List Val)
  | .list xs => some xs
  | .tuple xs => some xs
  | .lazy kvs n => some (expand kvs n)
  | _ => none

/-- `"key" == value` (a plain string against any value) -/
def strEqVal (a : String) : Val → Bool
  | .str c => a == c
  | .cat c _ => a == c
  | _ => false

/-- `all(map(eq, SparseDense, dict))` iterates the dict's *keys* (and a str's characters) -/
def keysMatchLazy (kvs : List (Nat × Val)) : Nat → List String → Bool
  | _, [] => true
  | i, k :: ks => strEqVal k (lazyAt kvs i) && keysMatchLazy kvs (i + 1) ks

/-! ### Python `==`

`Categorical == str` compares the strings; `list != tuple`; a `SparseDense` equals any list /
tuple / SparseDense with the same elements (`Dense_.__eq__`, reached through reflection when it
is the right operand); dicts compare as mappings.  Structural recursion on the first argument. -/
mutual
def pyEq : Val → Val → Bool
  | .none, b => match b with | .none => true | _ => false
  | .num a, b => match b with | .num c => a == c | _ => false
  | .str a, b => match b with
    | .str c => a == c | .cat c _ => a == c
    | .lazy kvs n => a.length == n && keysMatchLazy kvs 0 (a.toList.map String.singleton)
    | _ => false
  | .cat a _, b => match b with
    | .str c => a == c | .cat c _ => a == c
    | .lazy kvs n => a.length == n && keysMatchLazy kvs 0 (a.toList.map String.singleton)
    | _ => false
  | .list xs, b =>
    match b with
    | .list ys => pyEqL xs ys
    | .lazy kvs n => xs.length == n && pyEqIdx xs 0 kvs
    | _ => false
  | .tuple xs, b =>
    match b with
    | .tuple ys => pyEqL xs ys
    | .lazy kvs n => xs.length == n && pyEqIdx xs 0 kvs
    | _ => false
  | .dict kvs, b =>
    match b with
    | .dict kvs' => kvs.length == kvs'.length && pyEqD kvs kvs'
    | .lazy kvs' n => kvs.length == n && keysMatchLazy kvs' 0 (kvs.map (·.1))
    | _ => false
  | .lazy kvs n, b =>
    match denseItems b with
    | some ys => ys.length == n && pyEqZ kvs ys && zerosMatch kvs 0 ys
    | none => match b with
      | .dict d => d.length == n && keysMatchLazy kvs 0 (d.map (·.1))
      | .str a => a.length == n && keysMatchLazy kvs 0 (a.toList.map String.singleton)
      | .cat a _ => a.length == n && keysMatchLazy kvs 0 (a.toList.map String.singleton)
      | _ => false
def pyEqL : List Val → List Val → Bool
  | [], ys => ys.isEmpty
  | x :: xs, ys => match ys with | y :: ys' => pyEq x y && pyEqL xs ys' | [] => false
/-- concrete sequence (from position `i`) against the stored values of a SparseDense -/
def pyEqIdx : List Val → Nat → List (Nat × Val) → Bool
  | [], _, _ => true
  | x :: xs, i, kvs => pyEq x (lazyAt kvs i) && pyEqIdx xs (i + 1) kvs
/-- every entry of the left dict is in the right one with an equal value -/
def pyEqD : List (String × Val) → List (String × Val) → Bool
  | [], _ => true
  | (k, v) :: r, d => (match lookupS k d with | some w => pyEq v w | none => false) && pyEqD r d
/-- every stored value of a SparseDense equals the element at its position -/
def pyEqZ : List (Nat × Val) → List Val → Bool
  | [], _ => true
  | (k, v) :: r, ys => (match ys[k]? with | some w => pyEq v w | none => false) && pyEqZ r ys
end

/-! ### structural identity (Lean `=`, decidable by hand because `Val` is a nested inductive) -/
mutual
def Val.same : Val → Val → Bool
  | .none, b => match b with | .none => true | _ => false
  | .num a, b => match b with | .num c => a == c | _ => false
  | .str a, b => match b with | .str c => a == c | _ => false
  | .cat a la, b => match b with | .cat c lc => a == c && la == lc | _ => false
  | .list xs, b => match b with | .list ys => Val.sameL xs ys | _ => false
  | .tuple xs, b => match b with | .tuple ys => Val.sameL xs ys | _ => false
  | .dict kvs, b => match b with | .dict kvs' => Val.sameD kvs kvs' | _ => false
  | .lazy kvs n, b => match b with | .lazy kvs' n' => n == n' && Val.sameZ kvs kvs' | _ => false
def Val.sameL : List Val → List Val → Bool
  | [], ys => ys.isEmpty
  | x :: xs, ys => match ys with | y :: ys' => Val.same x y && Val.sameL xs ys' | [] => false
def Val.sameD : List (String × Val) → List (String × Val) → Bool
  | [], ys => ys.isEmpty
  | (k, x) :: xs, ys => match ys with | (k', y) :: ys' => k == k' && Val.same x y && Val.sameD xs ys' | [] => false
def Val.sameZ : List (Nat × Val) → List (Nat × Val) → Bool
  | [], ys => ys.isEmpty
  | (k, x) :: xs, ys => match ys with | (k', y) :: ys' => k == k' && Val.same x y && Val.sameZ xs ys' | [] => false
end

/-- `xs == ys` for two Python lists of values -/
def pyEqList (xs ys : List Val) : Bool := pyEqL xs ys

/-- `actions.index(a)`: first position whose element `== a` -/
def indexOfFrom (a : Val) : List Val → Nat → Option Nat
  | [], _ => none
  | x :: xs, i => if pyEq x a then some i else indexOfFrom a xs (i + 1)

def indexOf (as : List Val) (a : Val) : Option Nat := indexOfFrom a as 0

/-- pairwise distinct under `==` (both directions) and every element equal to itself -/
def distinctB (as : List Val) : Bool :=
  (List.range as.length).all fun i => (List.range as.length).all fun j =>
    match as[i]?, as[j]? with
    | some a, some b => pyEq a b == (i == j)
    | _, _ => true

mutual
def hashable : Val → Bool
  | .none => true
  | .num _ => true
  | .str _ => true
  | .cat _ _ => true
  | .tuple xs => hashableL xs
  | _ => false
def hashableL : List Val → Bool
  | [] => true
  | x :: xs => hashable x && hashableL xs
end

/-! ## Rewards -/

inductive Rew where
  /-- a plain sequence of rewards (`isList = false`: a tuple) -/
  | seq (isList : Bool) (rs : List Rat)
  | binary (argmax : Val) (value : Rat)
  /-- `DiscreteReward(actions, rewards, default=…)` / `DiscreteReward({action: reward})` -/
  | discrete (as : List Val) (rs : List Rat) (dflt : Rat) (isDict : Bool)
  | hamming (argmax : List Val)
  | l1 (argmax : Rat)
  /-- an opaque Python function: a table on the values it was written for, else a default -/
  | fn (table : List (Val × Rat)) (dflt : Rat)
  deriving Repr, Inhabited

def Rew.isCallable : Rew → Bool
  | .seq _ _ => false
  | _ => true

def chars (s : String) : List Val := s.toList.map fun c => Val.str (String.singleton c)

/-- what `for x in value` yields -/
def iterItems : Val → Except Err (List Val)
  | .list xs => .ok xs
  | .tuple xs => .ok xs
  | .lazy kvs n => .ok (expand kvs n)
  | .dict kvs => .ok (kvs.map fun p => Val.str p.1)
  | .str s => .ok (chars s)
  | .cat s _ => .ok (chars s)
  | _ => .error .typeError

def tableLookup (a : Val) : List (Val × Rat) → Option Rat
  | [] => none
  | (k, v) :: r => if pyEq k a then some v else tableLookup a r

def ratAbs (q : Rat) : Rat := if q < 0 then -q else q

/-- `rewards(action)` -/
def callRew (r : Rew) (a : Val) : Except Err Rat :=
  match r with
  | .seq _ _ => .error .typeError
  | .binary am v => .ok (if pyEq am a then v else 0)
  | .discrete as rs d isDict =>
    if isDict && !hashable a then .error .typeError else
    match indexOf as a with
    | some j => match rs[j]? with | some x => .ok x | none => .error .indexError
    | none => .ok d
  | .hamming am =>
    match iterItems a with
    | .error e => .error e
    | .ok items =>
      let ni := (items.filter fun x => am.any fun y => pyEq y x).length
      let nu := am.length + items.length - ni
      if nu == 0 then .error .zeroDivision else .ok ((ni : Rat) / (nu : Rat))
  | .l1 am => match a with | .num x => .ok (-(ratAbs (x - am))) | _ => .error .typeError
  | .fn table d => .ok ((tableLookup a table).getD d)

/-- the observable: `[rewards(a) for a in actions]`, or the sequence itself -/
def obsOf (r : Rew) (acts : List Val) : List (Except Err Rat) :=
  match r with
  | .seq _ rs => rs.map .ok
  | _ => acts.map (callRew r)

/-! ## Interactions -/

structure Inter where
  context : Val := .none
  actions : Option (List Val) := none
  rewards : Option Rew := none
  feedbacks : Option Rew := none
  /-- logged interactions: the logged action, its reward and probability -/
  action : Option Val := none
  reward : Option Rat := none
  probability : Option Rat := none
  deriving Repr, Inhabited

def obsRewards (I : Inter) : Option (List (Except Err Rat)) :=
  match I.rewards, I.actions with
  | some r, some as => some (obsOf r as)
  | _, _ => none

def obsFeedbacks (I : Inter) : Option (List (Except Err Rat)) :=
  match I.feedbacks, I.actions with
  | some r, some as => some (obsOf r as)
  | _, _ => none

/-- `actions.index(action)` of a logged interaction (`some none` = not a member) -/
def loggedIndex (I : Inter) : Option (Option Nat) :=
  match I.action, I.actions with
  | some a, some as => some (indexOf as a)
  | _, _ => none

/-! ## The specification

"After the filter the i-th action still receives the reward (and feedback) the i-th action
received before; the logged action is the same member of the action set; its logged reward and
probability are unchanged." -/

def obsEq : List (Except Err Rat) → List (Except Err Rat) → Bool
  | [], [] => true
  | .ok a :: xs, .ok b :: ys => a == b && obsEq xs ys
  | _, _ => false

def optObsEq : Option (List (Except Err Rat)) → Option (List (Except Err Rat)) → Bool
  | none, none => true
  | some a, some b => obsEq a b
  | _, _ => false

/-- decidable form of the specification for one interaction -/
def alignedB (I J : Inter) : Bool :=
  optObsEq (obsRewards I) (obsRewards J) && optObsEq (obsFeedbacks I) (obsFeedbacks J)
  && (match loggedIndex I with
      | some (some k) => loggedIndex J == some (some k)
      | _ => true)
  && (I.reward == J.reward) && (I.probability == J.probability)

def alignedStreamB : List Inter → List Inter → Bool
  | [], [] => true
  | i :: is, j :: js => alignedB i j && alignedStreamB is js
  | _, _ => false

/-! ## Which of the recorded defects the tree under test still has

`true` = repaired (the behaviour of `fixes/C10-*.diff`, committed in /repo).  The alignment theorems hold for
every `Cfg` under `chainHypB`, the end-to-end ones are about `Cfg.fixed`; `Cfg.asIs` is the pinned commit and
carries the `_counterexample`s of the recorded defects. -/
structure Cfg where
  /-- Sparsify/Densify(action=True) re-key functional rewards/feedbacks -/
  fixRekey : Bool
  /-- Repr encodes the logged action with the *action* mode -/
  fixReprLogged : Bool
  /-- Repr re-keys a DiscreteReward through its values at the actions, not positionally -/
  fixReprDiscrete : Bool
  /-- Noise(action) also maps the logged action to its noisy member -/
  fixNoiseLogged : Bool
  /-- Noise(action) also re-keys functional feedbacks -/
  fixNoiseFeedbacks : Bool
  /-- Flatten also flattens the logged action -/
  fixFlattenLogged : Bool
  /-- Harden (in Finalize) only hardens the lazy actions of a mixed action set -/
  fixHardenMixed : Bool
  deriving Repr, Inhabited

def Cfg.fixed : Cfg := ⟨true, true, true, true, true, true, true⟩
def Cfg.asIs : Cfg := ⟨false, false, false, false, false, false, false⟩

/-! ## Re-keying: how a filter carries the reward function over to the new actions -/

inductive Policy where
  /-- leave the object as it is -/
  | keep
  /-- `DiscreteReward(new_actions, [old(a) for a in old_actions])` -/
  | generic
  /-- Repr: remap a BinaryReward's argmax, (as-is: reuse a DiscreteReward's values positionally), else generic -/
  | reprStyle (fixDiscrete : Bool)
  /-- Finalize: `DiscreteReward(new_actions, the_list)` -/
  | wrapSeq
  /-- Noise on a sequence: `list(rewards)` -/
  | toList
  /-- Cycle: `l[-1%n:] + l[:-1%n]` on a sequence, `DiscreteReward(actions, rotate(values))` on a function.
  The one policy that moves rewards between actions *on purpose* -/
  | rotate (n : Nat)
  deriving Repr, DecidableEq, Inhabited

def mapM' {α β} (f : α → Except Err β) : List α → Except Err (List β)
  | [] => .ok []
  | a :: as => match f a with
    | .error e => .error e
    | .ok b => match mapM' f as with
      | .error e => .error e
      | .ok bs => .ok (b :: bs)

/-- `rotate = lambda l: l[-1%n:] + l[:-1%n]` (for a list of length `n`: the last element moves to the front) -/
def rotList {α} (n : Nat) (l : List α) : List α :=
  if n == 0 then l else l.drop (n - 1) ++ l.take (n - 1)

def genericRew (r : Rew) (oldActs newActs : List Val) : Except Err Rew :=
  match r with
  | .seq _ _ => .error .typeError
  | _ => match mapM' (callRew r) oldActs with
    | .error e => .error e
    | .ok vals => if vals.length == newActs.length then .ok (.discrete newActs vals 0 false) else .error .cobaException

def rekey (p : Policy) (r : Rew) (oldActs newActs : List Val) : Except Err Rew :=
  match p with
  | .keep => .ok r
  | .generic => genericRew r oldActs newActs
  | .reprStyle fixD =>
    match r with
    | .binary am v =>
      match indexOf oldActs am with
      | none => .error .valueError
      | some j => match newActs[j]? with
        | some a => .ok (.binary a v)
        | none => .error .indexError
    | .discrete _ rs _ _ =>
      if fixD then genericRew r oldActs newActs
      else if rs.length == newActs.length then .ok (.discrete newActs rs 0 false) else .error .cobaException
    | _ => genericRew r oldActs newActs
  | .wrapSeq =>
    match r with
    | .seq _ rs => if rs.length == newActs.length then .ok (.discrete newActs rs 0 false) else .error .cobaException
    | _ => .error .typeError
  | .toList =>
    match r with
    | .seq _ rs => .ok (.seq true rs)
    | _ => .error .typeError
  | .rotate n =>
    match r with
    | .seq b rs => .ok (.seq b (rotList n rs))
    | _ => match mapM' (callRew r) oldActs with
      | .error e => .error e
      | .ok vals => if vals.length == oldActs.length then .ok (.discrete oldActs (rotList n vals) 0 false) else .error .cobaException

/-- what a filter decided for one interaction -/
structure Plan where
  context : Val
  actions : Option (List Val)
  action : Option Val
  polR : Policy
  polF : Policy
  deriving Repr, Inhabited

def rekeyOpt (p : Policy) (r : Option Rew) (oldActs newActs : Option (List Val)) : Except Err (Option Rew) :=
  match p with
  | .keep => .ok r
  | _ =>
    match r with
    | none => .error .keyError          -- `old[target]` on an interaction that lacks the target
    | some r =>
      match oldActs, newActs with
      | some o, some n => match rekey p r o n with | .ok r' => .ok (some r') | .error e => .error e
      | _, _ => .error .keyError

def applyPlan (I : Inter) (p : Plan) : Except Err Inter :=
  match rekeyOpt p.polR I.rewards I.actions p.actions with
  | .error e => .error e
  | .ok r' =>
    match rekeyOpt p.polF I.feedbacks I.actions p.actions with
    | .error e => .error e
    | .ok f' => .ok { I with context := p.context, actions := p.actions, action := p.action, rewards := r', feedbacks := f' }

def applyPlans : List Inter → List Plan → Except Err (List Inter)
  | [], [] => .ok []
  | i :: is, p :: ps =>
    match applyPlan i p with
    | .error e => .error e
    | .ok j => match applyPlans is ps with
      | .error e => .error e
      | .ok js => .ok (j :: js)
  | _, _ => .error .indexError

/-! ## EncodeCatRows (coba/pipes/rows.py) -/

inductive Mode where
  | onehot | onehotTuple | string
  deriving Repr, DecidableEq, Inhabited

/-- the "catkeys" structure Python builds: an int key, a str key, or a Python list -/
inductive CK where
  | i (n : Nat)
  | s (k : String)
  | l (xs : List CK)
  deriving Repr, Inhabited

mutual
/-- `catkey(o)` -/
def catkey : Val → List CK
  | .dict kvs => catkeyD kvs
  | .list xs => (catkeyL xs 0).reverse
  | .tuple xs => (catkeyL xs 0).reverse
  | _ => []
def catkeyD : List (String × Val) → List CK
  | [] => []
  | (k, v) :: rest =>
    match v with
    | .cat _ _ => CK.s k :: catkeyD rest
    | _ =>
      let K := catkey v
      if K.isEmpty then catkeyD rest else CK.l [CK.s k, CK.l K] :: catkeyD rest
def catkeyL : List Val → Nat → List CK
  | [], _ => []
  | v :: rest, i =>
    match v with
    | .cat _ _ => CK.i i :: catkeyL rest (i + 1)
    | _ =>
      let K := catkey v
      if K.isEmpty then catkeyL rest (i + 1) else CK.l [CK.i i, CK.l K] :: catkeyL rest (i + 1)
end

def onehotVec (idx n : Nat) : List Val := (List.range n).map fun i => Val.num (if i == idx then 1 else 0)

def levelIndex (s : String) : List String → Nat → Option Nat
  | [], _ => none
  | l :: ls, i => if l == s then some i else levelIndex s ls (i + 1)

/-- `value.as_onehot` -/
def onehotOf : Val → Except Err (List Val)
  | .cat s ls => match levelIndex s ls 0 with
    | some i => .ok (onehotVec i ls.length)
    | none => .error .valueError
  | _ => .error .attributeError

/-- `str(value)` for the values whose `str` the model covers -/
def strOf : Val → Except Err Val
  | .cat s _ => .ok (.str s)
  | .str s => .ok (.str s)
  | _ => .error .unmodelled

def getItem (o : Val) (k : CK) : Except Err Val :=
  match o, k with
  | .list xs, .i n => match xs[n]? with | some v => .ok v | none => .error .indexError
  | .tuple xs, .i n => match xs[n]? with | some v => .ok v | none => .error .indexError
  | .dict kvs, .s key => match lookupS key kvs with | some v => .ok v | none => .error .keyError
  | .dict _, .i _ => .error .keyError
  | _, _ => .error .typeError

def setItem (o : Val) (k : CK) (v : Val) : Except Err Val :=
  match o, k with
  | .list xs, .i n => if n < xs.length then .ok (.list (xs.set n v)) else .error .indexError
  | .dict kvs, .s key => .ok (.dict (dictSet key v kvs))
  | _, _ => .error .typeError

/-- the dict branch of the flat one-hot: `for i,v in enumerate(h): if i != 0: o[f'{k}_{v}'] = i` -/
def dictOnehot (k : String) (h : List Val) (kvs : List (String × Val)) : List (String × Val) :=
  let rec go : List Val → Nat → List (String × Val) → List (String × Val)
    | [], _, d => d
    | hv :: rest, i, d =>
      let d' := if i == 0 then d else dictSet (k ++ "_" ++ (if isZero hv then "0" else "1")) (.num (i : Rat)) d
      go rest (i + 1) d'
  go h 0 kvs

/-- the body of `catset` for one key -/
def encodeAt (m : Mode) (o : Val) (key : CK) : Except Err Val :=
  match key with
  | .l _ => .error .typeError
  | _ =>
    match m with
    | .string =>
      match getItem o key with
      | .error e => .error e
      | .ok v => match strOf v with
        | .error e => .error e
        | .ok s => setItem o key s
    | .onehotTuple =>
      match getItem o key with
      | .error e => .error e
      | .ok v => match onehotOf v with
        | .error e => .error e
        | .ok h => setItem o key (.tuple h)
    | .onehot =>
      match o, key with
      | .list xs, .i n =>
        match xs[n]? with
        | none => .error .indexError
        | some v => match onehotOf v with
          | .error e => .error e
          | .ok h => .ok (.list (xs.take n ++ h ++ xs.drop (n + 1)))
      | .dict kvs, .s k =>
        match lookupS k kvs with
        | none => .error .keyError
        | some v => match onehotOf v with
          | .error e => .error e
          | .ok h => .ok (.dict (dictOnehot k h (dictErase k kvs)))
      | .dict _, .i _ => .error .keyError
      | _, _ => .error .typeError

def encodeKeys (m : Mode) : Val → List CK → Except Err Val
  | o, [] => .ok o
  | o, k :: ks => match encodeAt m o k with
    | .error e => .error e
    | .ok o' => encodeKeys m o' ks

/-- `row = list(row) if isinstance(row,tuple) else copy(row)` -/
def prepRow : Val → Val
  | .tuple xs => .list xs
  | v => v

def isContainer : Val → Bool
  | .list _ => true
  | .tuple _ => true
  | .dict _ => true
  | _ => false

/-- `catset(o,k)`; Python decides by `len(k) == 2 and isinstance(k[1],list)` whether `k` is a
(key, sub-keys) pair or a list of keys — a str key is iterated character by character -/
def catset (m : Mode) : Val → CK → Except Err Val
  | _, .i _ => .error .typeError
  | o, .s k => encodeKeys m o (k.toList.map fun c => CK.s (String.singleton c))
  | o, .l xs =>
    match xs with
    | [k, .l K] =>
      match k with
      | .l _ => .error .typeError
      | _ =>
        match getItem o k with
        | .error e => .error e
        | .ok row =>
          if !isContainer row then .error .typeError else
          match catset m (prepRow row) (.l K) with
          | .error e => .error e
          | .ok row' => setItem o k row'
    | _ => encodeKeys m o xs

def catsetAll (m : Mode) : Val → List CK → Except Err Val
  | o, [] => .ok o
  | o, k :: ks => match catset m o k with
    | .error e => .error e
    | .ok o' => catsetAll m o' ks

def isCK_i : CK → Bool
  | .i _ => true
  | _ => false

def isCollection : Val → Bool
  | .list _ => true
  | .tuple _ => true
  | .dict _ => true
  | .lazy _ _ => true
  | _ => false

def encodeValue (m : Mode) (v : Val) : Except Err Val :=
  match m with
  | .string => strOf v
  | _ => match onehotOf v with
    | .ok h => .ok (.tuple h)
    | .error e => .error e

/-- `EncodeCatRows(tipe).filter(rows)` -/
def encodeRows (mode : Option Mode) (rows : List Val) : Except Err (List Val) :=
  match mode with
  | none => .ok rows
  | some m =>
    match rows with
    | [] => .ok []
    | first :: _ =>
      if isCollection first then
        let cks := catkey first
        match cks with
        | [] => .ok rows
        | c0 :: _ =>
          if isCK_i c0 then mapM' (fun row => catset m (prepRow row) (.l cks)) rows
          else mapM' (fun row => catsetAll m (prepRow row) cks) rows
      else
        match first with
        | .cat _ _ => mapM' (encodeValue m) rows
        | _ => .ok rows

/-! ## pipes.Flatten (coba/pipes/filters.py) -/

def isFlattable : Val → Bool
  | .list _ => true
  | .tuple _ => true
  | .lazy _ _ => true
  | .dict _ => true
  | _ => false

def pyLen : Val → Nat
  | .list xs => xs.length
  | .tuple xs => xs.length
  | .lazy _ n => n
  | .dict kvs => kvs.length
  | _ => 0

/-- `flatter_list(row)`: `zip(flattable,row)` truncates -/
def flatterList : List Bool → List Val → Except Err (List Val)
  | [], _ => .ok []
  | _, [] => .ok []
  | f :: fs, r :: rs =>
    match flatterList fs rs with
    | .error e => .error e
    | .ok rest =>
      if f then match iterItems r with
        | .error e => .error e
        | .ok items => .ok (items ++ rest)
      else .ok (r :: rest)

def enumFrom' : Nat → List Val → List (Nat × Val)
  | _, [] => []
  | i, v :: vs => (i, v) :: enumFrom' (i + 1) vs

/-- `zip([f"{k}_{i}" for i in range(n)], items)` -/
def zipNames (k : String) (n : Nat) (items : List Val) : List (String × Val) :=
  (enumFrom' 0 (items.take n)).map fun p => (k ++ "_" ++ toString p.1, p.2)

/-- the dict comprehension of the sparse branch: flattable keys are expanded to `k_i`, zero
values are dropped, later duplicates overwrite -/
def flattenDict (flat : List (String × Nat)) : List (String × Val) → List (String × Val) → Except Err (List (String × Val))
  | [], acc => .ok acc
  | (k, v) :: rest, acc =>
    match flat.lookup k with
    | some n =>
      match iterItems v with
      | .error e => .error e
      | .ok items =>
        let pairs := zipNames k n items
        let acc' := pairs.foldl (fun d p => if isZero p.2 then d else dictSet p.1 p.2 d) acc
        flattenDict flat rest acc'
    | none => flattenDict flat rest (if isZero v then acc else dictSet k v acc)

/-- `pipes.Flatten().filter(rows)` -/
def flattenRows (rows : List Val) : Except Err (List Val) :=
  match rows with
  | [] => .ok []
  | first :: _ =>
    match first with
    | .dict kvs =>
      let flat := (kvs.filter fun p => isFlattable p.2).map fun p => (p.1, pyLen p.2)
      if flat.isEmpty then .ok rows else
      mapM' (fun row => match row with
        | .dict d => match flattenDict flat d [] with | .ok d' => .ok (.dict d') | .error e => .error e
        | _ => .error .attributeError) rows
    | _ =>
      match denseItems first with
      | none => .ok rows
      | some items =>
        let flags := items.map isFlattable
        if !flags.any id then .ok rows else
        let asList := match first with | .list _ => true | _ => false
        mapM' (fun row => match iterItems row with
          | .error e => .error e
          | .ok ritems => match flatterList flags ritems with
            | .error e => .error e
            | .ok out => .ok (if asList then Val.list out else Val.tuple out)) rows

/-! ## helpers on streams -/

def firstCallable (get : Inter → Option Rew) (s : List Inter) : Bool :=
  match s with
  | [] => false
  | f :: _ => match get f with | some r => r.isCallable | none => false

def splitBy {α} : List Nat → List α → List (List α)
  | [], _ => []
  | n :: ns, xs => xs.take n :: splitBy ns (xs.drop n)

def allActions (s : List Inter) : Except Err (List (List Val)) :=
  mapM' (fun I => match I.actions with | some a => .ok a | none => .error .keyError) s

def allLogged (s : List Inter) : Except Err (List Val) :=
  mapM' (fun I => match I.action with | some a => .ok a | none => .error .keyError) s

def optPyNe (new old : Option (List Val)) : Bool :=
  match new, old with
  | some n, some o => !pyEqList n o
  | _, _ => false

/-- the repaired filters keep the logged action "the same member": if it is a member of the old
actions, its new form is the corresponding member of the new actions -/
def mapMember (olds news : Option (List Val)) (a fallback : Option Val) : Option Val :=
  match a, olds, news with
  | some x, some o, some n =>
    match indexOf o x with
    | some k => (match n[k]? with | some y => some y | none => fallback)
    | none => fallback
  | _, _, _ => fallback

/-! ## Repr -/

/-- the two ways Repr feeds action lists to EncodeCatRows -/
def reprActions (ca : Mode) (rows : List (List Val)) : Except Err (List (List Val)) :=
  match rows with
  | r0 :: r1 :: _ =>
    if pyEqList r0 r1 then
      -- `yield_prev_action_on_repeat`: every *new* row is encoded on its own
      let rec go : List (List Val) → Option (List Val × List Val) → Except Err (List (List Val))
        | [], _ => .ok []
        | row :: rest, prev =>
          let same := match prev with | some (p, _) => pyEqList row p | none => false
          if same then
            match prev with
            | some (_, y) => match go rest prev with | .ok out => .ok (y :: out) | .error e => .error e
            | none => .error .unmodelled
          else
            match encodeRows (some ca) row with
            | .error e => .error e
            | .ok y => match go rest (some (row, y)) with | .ok out => .ok (y :: out) | .error e => .error e
      go rows none
    else
      match encodeRows (some ca) rows.flatten with
      | .error e => .error e
      | .ok enc => .ok (splitBy (rows.map List.length) enc)
  | _ =>
    match encodeRows (some ca) rows.flatten with
    | .error e => .error e
    | .ok enc => .ok (splitBy (rows.map List.length) enc)

def zipPlans (ctxs : List Val) (actss : List (Option (List Val))) (acts : List (Option Val))
    (pol : Nat → Policy × Policy) : List Plan :=
  (List.range ctxs.length).map fun t =>
    { context := ctxs.getD t .none, actions := actss.getD t none, action := acts.getD t none,
      polR := (pol t).1, polF := (pol t).2 }

def reprPlans (cfg : Cfg) (cc ca : Option Mode) (s : List Inter) : Except Err (List Plan) :=
  match s with
  | [] => .ok []
  | first :: _ =>
    let hasActions := match first.actions with | some (_ :: _) => true | _ => false
    let hasAction := first.action.isSome
    match encodeRows cc (s.map (·.context)) with
    | .error e => .error e
    | .ok ctxs =>
      let actssE : Except Err (List (Option (List Val))) :=
        match ca with
        | some m =>
          if hasActions then
            match allActions s with
            | .error e => .error e
            | .ok rows => match reprActions m rows with
              | .error e => .error e
              | .ok out => .ok (out.map some)
          else .ok (s.map (·.actions))
        | none => .ok (s.map (·.actions))
      match actssE with
      | .error e => .error e
      | .ok actss =>
        let actE : Except Err (List (Option Val)) :=
          if ca.isSome && hasAction then
            match allLogged s with
            | .error e => .error e
            | .ok rows => match encodeRows (if cfg.fixReprLogged then ca else cc) rows with
              | .error e => .error e
              | .ok out => .ok (out.map some)
          else .ok (s.map (·.action))
        match actE with
        | .error e => .error e
        | .ok acts0 =>
          let iter := ca.isSome && hasActions
          let acts := if cfg.fixReprLogged && iter && hasAction then
              (List.range s.length).map fun t =>
                mapMember (s.getD t default).actions (actss.getD t none) (s.getD t default).action (acts0.getD t none)
            else acts0
          let rC := firstCallable (·.rewards) s
          let fC := firstCallable (·.feedbacks) s
          let pol := fun t =>
            let changed := iter && optPyNe (actss.getD t none) ((s.getD t default).actions)
            (if changed && rC then Policy.reprStyle cfg.fixReprDiscrete else Policy.keep,
             if changed && fC then Policy.reprStyle cfg.fixReprDiscrete else Policy.keep)
          .ok (zipPlans ctxs actss acts pol)

/-! ## Flatten -/

def flattenPlans (cfg : Cfg) (s : List Inter) : Except Err (List Plan) :=
  match s with
  | [] => .ok []
  | first :: _ =>
    let hasActions := first.actions.isSome
    let hasAction := first.action.isSome
    match flattenRows (s.map (·.context)) with
    | .error e => .error e
    | .ok ctxs =>
      let actssE : Except Err (List (Option (List Val))) :=
        if hasActions then
          match allActions s with
          | .error e => .error e
          | .ok rows => match flattenRows rows.flatten with
            | .error e => .error e
            | .ok out => .ok ((splitBy (rows.map List.length) out).map some)
        else .ok (s.map (·.actions))
      match actssE with
      | .error e => .error e
      | .ok actss =>
        let actE : Except Err (List (Option Val)) :=
          if cfg.fixFlattenLogged && hasAction then
            match allLogged s with
            | .error e => .error e
            | .ok rows => match flattenRows rows with
              | .error e => .error e
              | .ok out => .ok (out.map some)
          else .ok (s.map (·.action))
        match actE with
        | .error e => .error e
        | .ok acts0 =>
          let acts := if cfg.fixFlattenLogged && hasActions && hasAction then
              (List.range s.length).map fun t =>
                mapMember (s.getD t default).actions (actss.getD t none) (s.getD t default).action (acts0.getD t none)
            else acts0
          let rC := firstCallable (·.rewards) s
          let fC := firstCallable (·.feedbacks) s
          let pol := fun t =>
            let changed := hasActions && optPyNe (actss.getD t none) ((s.getD t default).actions)
            (if changed && rC then Policy.generic else Policy.keep,
             if changed && fC then Policy.generic else Policy.keep)
          .ok (zipPlans ctxs actss acts pol)

/-! ## Sparsify -/

/-- `_make_sparse(value, False, default_header)` -/
def makeSparse (header : String) (v : Val) : Val :=
  match v with
  | .none => .none
  | .dict _ => v
  | _ =>
    match denseItems v with
    | some items => .dict (((enumFrom' 0 items).filter fun p => !isZero p.2).map fun p => (toString p.1, p.2))
    | none => .dict [(header, v)]

/-- did `_make_sparse` build a new object -/
def sparseConverts : Val → Bool
  | .none => false
  | .dict _ => false
  | _ => true

def sparsifyPlans (cfg : Cfg) (c a : Bool) (s : List Inter) : Except Err (List Plan) :=
  let rC := firstCallable (·.rewards) s
  let fC := firstCallable (·.feedbacks) s
  .ok (s.map fun I =>
    let acts' := if a then I.actions.map (·.map (makeSparse "action")) else I.actions
    let changed := cfg.fixRekey && a && (match I.actions with | some as => as.any sparseConverts | none => false)
    { context := if c then makeSparse "context" I.context else I.context,
      actions := acts',
      action := if a then I.action.map (makeSparse "action") else I.action,
      polR := if changed && rC then .generic else .keep,
      polF := if changed && fC then .generic else .keep })

/-! ## Densify -/

inductive DMethod where
  /-- the look-up table lives in the filter object: `prior` = the keys it was already asked for by
  earlier `filter()` calls of the same object, in order -/
  | lookup (prior : List String)
  /-- `crc32(key) % n_feats`, given as a table (the theorems hold for every table) -/
  | hashing (table : List (String × Nat))
  deriving Repr, Inhabited

/-- the infinite stream `for i in rng.shuffle(range(n)): yield i` of `Densify`, first `rounds` rounds -/
def lookupStream (n : Nat) : Nat → Nat → List Nat
  | 0, _ => []
  | rounds + 1, st => let (st', p) := Coba.C05.shuffle st (List.range n); p ++ lookupStream n rounds st'

structure DState where
  table : List (String × Nat) := []
  fresh : List Nat := []

def assocGet (k : String) : List (String × Nat) → Option Nat
  | [] => none
  | (k', v) :: r => if k' == k then some v else assocGet k r

def denseIndex (m : DMethod) (st : DState) (k : String) : Except Err (DState × Nat) :=
  match m with
  | .hashing tbl => match assocGet k tbl with | some i => .ok (st, i) | none => .error .unmodelled
  | .lookup _ =>
    match assocGet k st.table with
    | some i => .ok (st, i)
    | none => match st.fresh with
      | [] => .error .unmodelled
      | i :: rest => .ok ({ table := st.table ++ [(k, i)], fresh := rest }, i)

def denseEntries (m : DMethod) : DState → List (String × Val) → List (Nat × Val) → Except Err (DState × List (Nat × Val))
  | st, [], acc => .ok (st, acc)
  | st, (k, v) :: rest, acc =>
    match denseIndex m st k with
    | .error e => .error e
    | .ok (st', i) => denseEntries m st' rest (natSet i v acc)

/-- `_make_dense(value)` -/
def makeDense (m : DMethod) (n : Nat) (st : DState) (v : Val) : Except Err (DState × Val) :=
  match v with
  | .dict kvs => match denseEntries m st kvs [] with
    | .error e => .error e
    | .ok (st', ents) => .ok (st', .lazy ents n)
  | _ => .ok (st, v)

def makeDenseList (m : DMethod) (n : Nat) : DState → List Val → Except Err (DState × List Val)
  | st, [] => .ok (st, [])
  | st, v :: vs => match makeDense m n st v with
    | .error e => .error e
    | .ok (st', v') => match makeDenseList m n st' vs with
      | .error e => .error e
      | .ok (st'', vs') => .ok (st'', v' :: vs')

def isDict : Val → Bool
  | .dict _ => true
  | _ => false

/-- Densify over a stream from a given look-up state; returns the plans *and the state the filter
object is left in* (the only thing a coba representation filter carries from one `filter()` call to the next) -/
def densifyRun (cfg : Cfg) (m : DMethod) (n : Nat) (c a rC fC : Bool) : DState → List Inter → Except Err (List Plan × DState)
  | st, [] => .ok ([], st)
  | st, I :: rest =>
    match (if c then makeDense m n st I.context else .ok (st, I.context)) with
    | .error e => .error e
    | .ok (st1, ctx) =>
      match (match a, I.actions with
             | true, some as => (match makeDenseList m n st1 as with | .ok (st2, as') => Except.ok (st2, some as') | .error e => .error e)
             | _, x => .ok (st1, x)) with
      | .error e => .error e
      | .ok (st2, acts) =>
        match (match a, I.action with
               | true, some x => (match makeDense m n st2 x with | .ok (st3, x') => Except.ok (st3, some x') | .error e => .error e)
               | _, x => .ok (st2, x)) with
        | .error e => .error e
        | .ok (st3, act) =>
          let changed := cfg.fixRekey && a && (match I.actions with | some as => as.any isDict | none => false)
          match densifyRun cfg m n c a rC fC st3 rest with
          | .error e => .error e
          | .ok (ps, stEnd) =>
            let p : Plan := { context := ctx, actions := acts, action := act,
                              polR := if changed && rC then .generic else .keep,
                              polF := if changed && fC then .generic else .keep }
            .ok (p :: ps, stEnd)

/-- the state of a freshly constructed `Densify(n_feats=n)` -/
def initDState (n : Nat) : DState :=
  { table := [], fresh := lookupStream n (if n == 0 then 0 else 192 / n + 2) (Coba.C05.normInt 1) }

/-- asking the table for a list of keys, one after the other -/
def primeKeys (m : DMethod) : DState → List String → Except Err DState
  | st, [] => .ok st
  | st, k :: ks => match denseIndex m st k with
    | .ok (st', _) => primeKeys m st' ks
    | .error e => .error e

def keysOfVal : Val → List String
  | .dict kvs => kvs.map (·.1)
  | _ => []

def keysOfVals : List Val → List String
  | [] => []
  | v :: vs => keysOfVal v ++ keysOfVals vs

/-- the keys a `Densify(context=c, action=a)` asks its table for while it filters `s`, in order -/
def keysAsked (c a : Bool) : List Inter → List String
  | [] => []
  | I :: rest =>
    (if c then keysOfVal I.context else [])
    ++ (match a, I.actions with | true, some as => keysOfVals as | _, _ => [])
    ++ (match a, I.action with | true, some x => keysOfVal x | _, _ => [])
    ++ keysAsked c a rest

/-- the method without the history of the object (`prior` only says where the table starts) -/
def normMethod : DMethod → DMethod
  | .lookup _ => .lookup []
  | m => m

def densifyPlans (cfg : Cfg) (m : DMethod) (n : Nat) (c a : Bool) (s : List Inter) : Except Err (List Plan) :=
  let rC := firstCallable (·.rewards) s
  let fC := firstCallable (·.feedbacks) s
  -- keys handed out by earlier calls of the same filter object keep their slots
  let primed : Except Err DState := match m with
    | .lookup prior => primeKeys (.lookup []) (initDState n) prior
    | _ => .ok (initDState n)
  match primed with
  | .error e => .error e
  | .ok st1 => match densifyRun cfg (normMethod m) n c a rC fC st1 s with
    | .ok (ps, _) => .ok ps
    | .error e => .error e

/-! ## Noise -/

inductive NoiseSpec where
  /-- a pure noiser `x ↦ mul·x + add` -/
  | affine (mul add : Rat)
  /-- the noiser draws from a generator: the realised values are given as data, in drawing order -/
  | drawn
  deriving Repr, Inhabited

def noise1 (ns : NoiseSpec) (orc : List Rat) (v : Val) : Except Err (List Rat × Val) :=
  match v with
  | .num x =>
    match ns with
    | .affine m b => .ok (orc, .num (x * m + b))
    | .drawn => match orc with
      | [] => .error .unmodelled
      | y :: rest => .ok (rest, .num y)
  | _ => .ok (orc, v)

def noiseList (ns : NoiseSpec) : List Rat → List Val → Except Err (List Rat × List Val)
  | orc, [] => .ok (orc, [])
  | orc, v :: vs => match noise1 ns orc v with
    | .error e => .error e
    | .ok (orc', v') => match noiseList ns orc' vs with
      | .error e => .error e
      | .ok (orc'', vs') => .ok (orc'', v' :: vs')

def insertSorted (p : String × Val) : List (String × Val) → List (String × Val)
  | [] => [p]
  | q :: r => if p.1 < q.1 then p :: q :: r else q :: insertSorted p r

def sortByKey (kvs : List (String × Val)) : List (String × Val) := kvs.foldl (fun acc p => insertSorted p acc) []

/-- `_noises(value, rng, noiser)` -/
def noises (ns : Option NoiseSpec) (orc : List Rat) (v : Val) : Except Err (List Rat × Val) :=
  match ns with
  | none => .ok (orc, v)
  | some ns =>
    match v with
    | .dict kvs =>
      let sorted := sortByKey kvs
      match noiseList ns orc (sorted.map (·.2)) with
      | .error e => .error e
      | .ok (orc', vs) => .ok (orc', .dict ((sorted.map (·.1)).zip vs))
    | _ =>
      match denseItems v with
      | some items => match noiseList ns orc items with
        | .error e => .error e
        | .ok (orc', vs) => .ok (orc', .list vs)
      | none => noise1 ns orc v

def noisesList (ns : Option NoiseSpec) : List Rat → List Val → Except Err (List Rat × List Val)
  | orc, [] => .ok (orc, [])
  | orc, v :: vs => match noises ns orc v with
    | .error e => .error e
    | .ok (orc', v') => match noisesList ns orc' vs with
      | .error e => .error e
      | .ok (orc'', vs') => .ok (orc'', v' :: vs')

def noisePlans (cfg : Cfg) (nc na : Option NoiseSpec) (oracle : List Rat) (s : List Inter) : Except Err (List Plan) :=
  let rC := firstCallable (·.rewards) s
  let fC := firstCallable (·.feedbacks) s
  let rec go : List Rat → List Inter → Except Err (List Plan)
    | _, [] => .ok []
    | orc, I :: rest =>
      match noises nc orc I.context with
      | .error e => .error e
      | .ok (orc1, ctx) =>
        match (match I.actions with
               | some as => (match noisesList na orc1 as with | .ok (o, as') => Except.ok (o, some as') | .error e => .error e)
               | none => .ok (orc1, none)) with
        | .error e => .error e
        | .ok (orc2, acts) =>
          let act : Option Val := if cfg.fixNoiseLogged then mapMember I.actions acts I.action I.action else I.action
          let polR := match I.rewards with
            | some _ => if rC then Policy.generic else Policy.toList
            | none => Policy.keep
          let polF := if cfg.fixNoiseFeedbacks && fC && I.actions.isSome && I.feedbacks.isSome then Policy.generic else Policy.keep
          match go orc2 rest with
          | .error e => .error e
          | .ok ps => .ok ({ context := ctx, actions := acts, action := act, polR := polR, polF := polF } :: ps)
  go oracle s

/-! ## Harden and Finalize -/

def isLazy : Val → Bool
  | .lazy _ _ => true
  | _ => false

/-- `list(value)` -/
def hardenVal (v : Val) : Except Err Val :=
  match iterItems v with
  | .ok items => .ok (.list items)
  | .error e => .error e

/-- one action of a dense, not materialised action list: as-is every action goes through `list(…)`
(a tuple or a string next to the lazy rows becomes a list), repaired only the lazy ones do -/
def hardenAction (fixMixed : Bool) (v : Val) : Except Err Val :=
  if fixMixed && !isLazy v then .ok v else hardenVal v

def hardenPlans (cfg : Cfg) (s : List Inter) : Except Err (List Plan) :=
  match s with
  | [] => .ok []
  | first :: _ =>
    let hc := isLazy first.context
    let ha := match first.actions with | some (a :: _) => isLazy a | _ => false
    let hx := match first.action with | some a => isLazy a | none => false
    mapM' (fun I =>
      match (if hc then hardenVal I.context else .ok I.context) with
      | .error e => .error e
      | .ok ctx =>
        match (match ha, I.actions with
               | true, some as => (match mapM' (hardenAction cfg.fixHardenMixed) as with | .ok as' => Except.ok (some as') | .error e => .error e)
               | _, x => .ok x) with
        | .error e => .error e
        | .ok acts =>
          match (match hx, I.action with
                 | true, some x => (match hardenAction cfg.fixHardenMixed x with | .ok x' => Except.ok (some x') | .error e => .error e)
                 | _, x => .ok x) with
          | .error e => .error e
          | .ok act => .ok { context := ctx, actions := acts, action := act, polR := .keep, polF := .keep }) s

def isSeqList : Option Rew → Bool
  | some (.seq true _) => true
  | _ => false

def wrapPlans (s : List Inter) : List Plan :=
  match s with
  | [] => []
  | first :: _ =>
    let rl := isSeqList first.rewards
    let fl := isSeqList first.feedbacks
    s.map fun I => { context := I.context, actions := I.actions, action := I.action,
                     polR := if rl then .wrapSeq else .keep, polF := if fl then .wrapSeq else .keep }

/-! ## Cycle (coba/environments/filters.py, class `Cycle`) -/

def isStrLike : Val → Bool
  | .str _ => true
  | .cat _ _ => true
  | _ => false

/-- `set(first['actions']) == {one_hot(i,n) for i in range(n)}` (needs hashable actions) -/
def isOnehotSet (as : List Val) : Bool :=
  let n := as.length
  (as.all fun a => (List.range n).any fun i => pyEq a (.tuple (onehotVec i n)))
  && ((List.range n).all fun i => as.any fun a => pyEq a (.tuple (onehotVec i n)))

def cyclePlans (after : Nat) (s : List Inter) : Except Err (List Plan) :=
  match s with
  | [] => .ok []
  | first :: _ =>
    let keepAll := s.map fun I => ({ context := I.context, actions := I.actions, action := I.action, polR := .keep, polF := .keep } : Plan)
    match first.actions with
    | none => .ok keepAll
    | some fas =>
      if !(fas.all hashable) then .error .typeError else
      let n := fas.length
      let cyclable := first.rewards.isSome && 0 < n && (isOnehotSet fas || fas.all isStrLike)
      if !cyclable then .ok keepAll else
      let hasF := first.feedbacks.isSome
      .ok ((List.range s.length).map fun t =>
        let I := s.getD t default
        if t < after then ({ context := I.context, actions := I.actions, action := I.action, polR := .keep, polF := .keep } : Plan)
        else { context := I.context, actions := I.actions, action := I.action, polR := .rotate n, polF := if hasF then .rotate n else .keep })

/-! ## Steps, batching, chains -/

inductive Step where
  | repr (cc ca : Option Mode)
  | flatten
  | sparsify (c a : Bool)
  | densify (n : Nat) (m : DMethod) (c a : Bool)
  | noise (c a : Option NoiseSpec) (oracle : List Rat)
  | harden
  | wrapSeqs
  /-- `Cycle(after)` -/
  | cycle (after : Nat)
  | finalize
  | batch (n : Option Nat)
  | unbatch
  deriving Repr, Inhabited

/-- the plans of a single (non-composite) filter -/
def plansOf (cfg : Cfg) (st : Step) (s : List Inter) : Except Err (List Plan) :=
  match st with
  | .repr cc ca => reprPlans cfg cc ca s
  | .flatten => flattenPlans cfg s
  | .sparsify c a => sparsifyPlans cfg c a s
  | .densify n m c a => densifyPlans cfg m n c a s
  | .noise c a o => noisePlans cfg c a o s
  | .harden => hardenPlans cfg s
  | .wrapSeqs => .ok (wrapPlans s)
  | .cycle after => cyclePlans after s
  | _ => .error .unmodelled

/-- one primitive filter = decide the plans, then apply them -/
def runPrim (cfg : Cfg) (st : Step) (s : List Inter) : Except Err (List Inter) :=
  match plansOf cfg st s with
  | .error e => .error e
  | .ok ps => applyPlans s ps

/-- Finalize = Harden ∘ Repr("onehot","onehot") ∘ wrap list rewards (decided on the *incoming* first interaction) -/
def expandStep : Step → List Step
  | .finalize => [.harden, .repr (some .onehot) (some .onehot), .wrapSeqs]
  | st => [st]

/-- `_batched`: sizes of the batches of a stream of length `len` (`fuel` ≥ `len` bounds the recursion) -/
def chunkSizes (k : Nat) : Nat → Nat → List Nat
  | 0, _ => []
  | _, 0 => []
  | fuel + 1, len => if len ≤ k then [len] else k :: chunkSizes k fuel (len - k)

structure State where
  stream : List Inter
  /-- `some sizes` when the stream is currently batched -/
  sizes : Option (List Nat) := none
  deriving Repr, Inhabited

def runPrims (cfg : Cfg) : List Step → List Inter → Except Err (List Inter)
  | [], s => .ok s
  | st :: rest, s => match runPrim cfg st s with
    | .error e => .error e
    | .ok s' => runPrims cfg rest s'

/-- Finalize decides `rwds_is_list` on the stream it receives, i.e. before Harden/Repr; those two
never turn a list into something else, so deciding it at the wrap step is the same. -/
def runStep (cfg : Cfg) (st : Step) (S : State) : Except Err State :=
  match st with
  | .batch n =>
    match n with
    | none => .ok S
    | some 0 => .ok S
    | some k =>
      match S.sizes with
      | some _ => .error .unmodelled
      | none => if S.stream.isEmpty then .ok S else .ok { S with sizes := some (chunkSizes k S.stream.length S.stream.length) }
  | .unbatch => .ok { S with sizes := none }
  | _ =>
    match runPrims cfg (expandStep st) S.stream with
    | .error e => .error e
    | .ok s' =>
      -- BatchSafe: Unbatch, filter, Batch(len(first batch))
      let sizes' := match S.sizes with
        | some (k :: _) => some (chunkSizes k s'.length s'.length)
        | other => other
      .ok { stream := s', sizes := sizes' }

def runChain (cfg : Cfg) : List Step → State → Except Err State
  | [], S => .ok S
  | st :: rest, S => match runStep cfg st S with
    | .error e => .error e
    | .ok S' => runChain cfg rest S'

/-! ## Filter objects: what survives a `filter()` call

Every representation filter of coba builds its working state inside `filter()`; the one exception
is `Densify`, whose look-up table lives in the object.  `runPrimObj` is a filter *object* applied
to one sequence: it takes and returns that table. -/
def runPrimObj (cfg : Cfg) (st : Step) (T : DState) (s : List Inter) : Except Err (List Inter × DState) :=
  match st with
  | .densify n (.lookup _) c a =>
    match densifyRun cfg (.lookup []) n c a (firstCallable (·.rewards) s) (firstCallable (·.feedbacks) s) T s with
    | .error e => .error e
    | .ok (ps, T') => match applyPlans s ps with
      | .ok s' => .ok (s', T')
      | .error e => .error e
  | _ => match runPrim cfg st s with
    | .ok s' => .ok (s', T)
    | .error e => .error e

/-- the same filter object applied to sequence `A`, then to sequence `B`: what `B` gives -/
def runObjTwice (cfg : Cfg) (st : Step) (T : DState) (A B : List Inter) : Except Err (List Inter) :=
  match runPrimObj cfg st T A with
  | .error e => .error e
  | .ok (_, T1) => match runPrimObj cfg st T1 B with
    | .ok (b, _) => .ok b
    | .error e => .error e

/-! ## Run-time form of the theorems' hypotheses (reported to the harness as `hyp`) -/

/-- hypothesis on one target of one plan: what the re-keying needs to be sound -/
def targetHypB (p : Policy) (r : Option Rew) (oldActs newActs : List Val) : Bool :=
  match r with
  | none => true
  | some r =>
    match p with
    | .keep => obsEq (obsOf r oldActs) (obsOf r newActs)
    | .toList => true
    | .rotate _ => false          -- Cycle does not preserve alignment (see `cycle_spec`)
    | .wrapSeq => distinctB newActs
    | .generic => distinctB newActs
    | .reprStyle fixD =>
      match r with
      | .binary am _ => distinctB newActs && distinctB oldActs && oldActs.any (fun a => Val.same a am)
      | .discrete _ rs _ _ => distinctB newActs && (fixD || obsEq (obsOf r oldActs) (rs.map .ok))
      | _ => distinctB newActs

/-- the logged action is a member of the old actions, and its new form is, structurally, the
same member of the new actions (the filter encoded it the way it encoded that member) -/
def loggedHypB (oldActs newActs : List Val) (a a' : Option Val) : Bool :=
  match a, a' with
  | some a, some a' =>
    match indexOf oldActs a with
    | some k => distinctB newActs && (match newActs[k]? with | some b => Val.same b a' | none => false)
    | none => true
  | none, none => true
  | _, _ => false

def planHypB (I : Inter) (p : Plan) : Bool :=
  match I.actions, p.actions with
  | some o, some n =>
    o.length == n.length && targetHypB p.polR I.rewards o n && targetHypB p.polF I.feedbacks o n
    && loggedHypB o n I.action p.action
  | none, none => p.polR == .keep && p.polF == .keep
  | _, _ => false

def plansHypB : List Inter → List Plan → Bool
  | [], [] => true
  | i :: is, p :: ps => planHypB i p && plansHypB is ps
  | _, _ => false

def primsHypB (cfg : Cfg) : List Step → List Inter → Bool
  | [], _ => true
  | st :: rest, s =>
    match plansOf cfg st s with
    | .error _ => true
    | .ok ps => plansHypB s ps && (match applyPlans s ps with | .ok s' => primsHypB cfg rest s' | .error _ => true)

def chainHypB (cfg : Cfg) : List Step → State → Bool
  | [], _ => true
  | st :: rest, S =>
    (match st with
     | .batch _ => true
     | .unbatch => true
     | _ => primsHypB cfg (expandStep st) S.stream)
    && (match runStep cfg st S with | .ok S' => chainHypB cfg rest S' | .error _ => true)


/-! ## Prop-level vocabulary of the theorems -/

/-- pairwise distinct under Python `==` (an action *set*), every element equal to itself -/
def Distinct (as : List Val) : Prop :=
  ∀ (i j : Nat) (a b : Val), as[i]? = some a → as[j]? = some b → pyEq a b = (i == j)

/-- the action list Sparsify produces -/
def sparsifyActs (a : Bool) (as : List Val) : List Val := if a then as.map (makeSparse "action") else as

/-- does the chain keep the stream aligned (a chain that raises has nothing to misalign) -/
def keepsAligned (cfg : Cfg) (chain : List Step) (s : List Inter) : Bool :=
  match runChain cfg chain { stream := s } with
  | .ok S' => alignedStreamB s S'.stream
  | .error _ => true

/-! ### shape hypotheses of the injectivity theorems (decidable, evaluated by the driver) -/

/-- both rows have, at position `n`, a categorical over the same level list -/
def sameCatAt (xs ys : List Val) (n : Nat) : Bool :=
  match xs[n]?, ys[n]? with
  | some (.cat _ l1), some (.cat _ l2) => l1 == l2
  | _, _ => false

def descending : List Nat → Bool
  | [] => true
  | [_] => true
  | a :: b :: r => decide (b < a) && descending (b :: r)

/-- two dense rows of one shape w.r.t. `flags`: where a flag is set both hold a tuple (or both a
list) of the same length -/
def sameNestShape : List Bool → List Val → List Val → Bool
  | [], _, _ => true
  | _, [], [] => true
  | f :: fs, x :: xs, y :: ys =>
    (if f then
      match x, y with
      | .tuple a, .tuple b => a.length == b.length
      | .list a, .list b => a.length == b.length
      | _, _ => false
     else true) && sameNestShape fs xs ys
  | _, _, _ => false

def ckNats : List CK → Option (List Nat)
  | [] => some []
  | .i n :: r => (ckNats r).map (n :: ·)
  | _ :: _ => none

/-- `r` has the shape of `first` as far as `Repr` is concerned: the same container kind and length,
and a categorical over the same levels wherever `first` has a (top-level) categorical -/
def sameDenseCatShape (ns : List Nat) (first r : Val) : Bool :=
  match first, r with
  | .list xs, .list ys => xs.length == ys.length && ns.all (sameCatAt xs ys)
  | .tuple xs, .tuple ys => xs.length == ys.length && ns.all (sameCatAt xs ys)
  | _, _ => false

/-- shape hypothesis of `repr_dense_rows_distinct`: dense rows (all tuples or all lists of one length)
whose categorical cells are at the top level, at the same positions, over the same level lists -/
def denseCatShapeB (rows : List Val) : Bool :=
  match rows with
  | [] => true
  | first :: _ =>
    match ckNats (catkey first) with
    | some (n :: ns) => descending (n :: ns) && rows.all (sameDenseCatShape (n :: ns) first)
    | _ => false

/-- shape hypothesis of `flatten_dense_rows_distinct`: dense rows of one container kind and one
length whose nested cells are, position by position, containers of one kind and one length -/
def flattenShapeB (rows : List Val) : Bool :=
  match rows with
  | [] => true
  | first :: _ =>
    match first with
    | .list fs => rows.all fun r => match r with
        | .list xs => xs.length == fs.length && sameNestShape (fs.map isFlattable) fs xs
        | _ => false
    | .tuple fs => rows.all fun r => match r with
        | .tuple xs => xs.length == fs.length && sameNestShape (fs.map isFlattable) fs xs
        | _ => false
    | _ => false

/-- why the shape is needed: `((1,),(2,3))` and `((1,2),(3,))` are different actions with the same flattening -/
def wFlattenShape : List Val :=
  [.tuple [.tuple [.num 1], .tuple [.num 2, .num 3]], .tuple [.tuple [.num 1, .num 2], .tuple [.num 3]]]

mutual
/-- the dense fragment of the universe: no dict and no SparseDense anywhere inside -/
def denseOnly : Val → Bool
  | .list xs => denseOnlyL xs
  | .tuple xs => denseOnlyL xs
  | .dict _ => false
  | .lazy _ _ => false
  | _ => true
def denseOnlyL : List Val → Bool
  | [] => true
  | x :: xs => denseOnly x && denseOnlyL xs
end

def uniqKeys : List String → Bool
  | [] => true
  | k :: ks => !ks.contains k && uniqKeys ks

mutual
/-- values as Python can build them from lists, tuples and dicts: dict keys are unique (no SparseDense inside) -/
def wfNoLazy : Val → Bool
  | .list xs => wfNoLazyL xs
  | .tuple xs => wfNoLazyL xs
  | .dict kvs => uniqKeys (kvs.map (·.1)) && wfNoLazyD kvs
  | .lazy _ _ => false
  | _ => true
def wfNoLazyL : List Val → Bool
  | [] => true
  | x :: xs => wfNoLazy x && wfNoLazyL xs
def wfNoLazyD : List (String × Val) → Bool
  | [] => true
  | (_, v) :: r => wfNoLazy v && wfNoLazyD r
end

/-- pairwise different under `==` (off the diagonal only; reflexivity is `pyEq_refl`) -/
def pairwiseNeB (as : List Val) : Bool :=
  (List.range as.length).all fun i => (List.range as.length).all fun j =>
    match as[i]?, as[j]? with
    | some a, some b => i == j || !pyEq a b
    | _, _ => true

/-- two sparse actions whose keys crc32 sends to one slot (given as the table), Densify(hashing) -/
def wHashCollision : List Inter :=
  [{ actions := some [.dict [("a", .num 1)], .dict [("b", .num 1)]],
     rewards := some (.fn [(.dict [("a", .num 1)], 5), (.dict [("b", .num 1)], 6)] (-999)) }]

/-! ## Batched interactions (`Batch.Callable`, `Batch.List`)

A batch of interactions is one dict whose values are lists; a batched reward function is called
with one action per member and answers with one reward per member: `outs = map(lambda f,a: f(a), self, args)`. -/

/-- `Batch.Callable([f_0,…])([a_0,…]) = [f_0(a_0),…]` (zip truncates) -/
def batchCall : List Rew → List Val → List (Except Err Rat)
  | f :: fs, a :: as => callRew f a :: batchCall fs as
  | _, _ => []

/-- the i-th action of every member of a batch -/
def column (i : Nat) (actss : List (List Val)) : Option (List Val) :=
  match actss with
  | [] => some []
  | as :: rest => match as[i]?, column i rest with
    | some a, some col => some (a :: col)
    | _, _ => none

/-- what the batched reward function answers when it is asked for the i-th action of every member -/
def batchObs (get : Inter → Option Rew) (batch : List Inter) (i : Nat) : Option (List (Except Err Rat)) :=
  match mapM' (fun I => match get I, I.actions with
                        | some r, some as => (if r.isCallable then Except.ok (r, as) else .error .typeError)
                        | _, _ => .error .keyError) batch with
  | .error _ => none
  | .ok pairs => match column i (pairs.map (·.2)) with
    | some col => some (batchCall (pairs.map (·.1)) col)
    | none => none

/-- the stream cut into its batches -/
def cutBatches {α} : List Nat → List α → List (List α)
  | [], _ => []
  | n :: ns, xs => xs.take n :: cutBatches ns (xs.drop n)

/-! ### witnesses of the recorded defects (replayed on the real code by the harness) -/
def catA : Val := .cat "a" ["a", "b"]
def catB : Val := .cat "b" ["a", "b"]
def wRekey : List Inter := [{ actions := some [.num 1, .num 2], rewards := some (.binary (.num 2) 1) }]
def wReprLogged : List Inter :=
  [{ actions := some [catA, catB], action := some catB, reward := some (1/2), probability := some (1/4) }]
def wReprDiscrete : List Inter := [{ actions := some [catA, catB], rewards := some (.discrete [catB, catA] [1, 2] 0 false) }]
def wNoiseLogged : List Inter :=
  [{ actions := some [.num 1, .num 2], action := some (.num 2), reward := some (1/2), probability := some (1/4) }]
def wNoiseFeedbacks : List Inter :=
  [{ actions := some [.num 1, .num 2], rewards := some (.seq true [1, 2]),
     feedbacks := some (.fn [(.num 1, 5), (.num 2, 6)] (-999)) }]
/-- a mixed action set as Densify(action=True) leaves it: a SparseDense row next to a plain tuple -/
def wHardenMixed : List Inter :=
  [{ actions := some [.lazy [(0, .num 1)] 2, .tuple [.num 1, .num 2]], rewards := some (.binary (.tuple [.num 1, .num 2]) 1) }]
def wFlattenLogged : List Inter :=
  [{ actions := some [.tuple [.num 1, .tuple [.num 2]], .tuple [.num 3, .tuple [.num 4]]],
     action := some (.tuple [.num 3, .tuple [.num 4]]), reward := some (1/2), probability := some (1/4) }]

/-! ## Phase 4: explicit decidable preconditions on the *input* (nothing about the filter's output) -/

def isNum : Val → Bool
  | .num _ => true
  | _ => false

/-- a noiser that cannot merge two numbers: no action noise at all, or `x ↦ mul·x + add` with `mul ≠ 0` -/
def injNoiser : Option NoiseSpec → Bool
  | none => true
  | some (.affine m _) => m != 0
  | some .drawn => false

/-- preconditions of `noise_scalar_aligned`, all about the stream handed to `Noise`: the reward / feedback functions answer
for their own actions, functional feedbacks are functional from the first interaction on, every action is a number and the
action lists are sets, an interaction without actions carries no rewards -/
def noiseScalarHypB (s : List Inter) : Bool :=
  alignedStreamB s s
  && s.all fun I =>
      (match I.feedbacks with | some r => !r.isCallable || firstCallable (·.feedbacks) s | none => true)
      && (match I.actions with | some as => as.all isNum && distinctB as | none => I.rewards.isNone)

/-- Cycle really moves rewards: which reward the j-th action earns afterwards (`cycle_shift`) -/
def cycleSource (n j : Nat) : Nat := (j + n - 1) % n

/-- Python's `==` is not transitive once a SparseDense row is involved: `[1] == SparseDense({0:1},1) == (1,)` but `[1] != (1,)` -/
def wEqNotTrans : Val × Val × Val := (.list [.num 1], .lazy [(0, .num 1)] 1, .tuple [.num 1])

/-- the constants of the anchored source that the model hard-wires (compared with `Generated/C10Consts.lean`,
which the harness regenerates from the source under test on every run) -/
def modeName : Mode → String
  | .onehot => "onehot"
  | .onehotTuple => "onehot_tuple"
  | .string => "string"

def optModeName : Option Mode → String
  | some m => modeName m
  | none => "None"

/-- `Finalize` = `Harden()`, `Repr(<ctx mode>, <action mode>)`: the two mode names the model uses -/
def finalizeReprModes : List String :=
  match expandStep .finalize with
  | [.harden, .repr cc ca, .wrapSeqs] => [optModeName cc, optModeName ca]
  | _ => []

/-- the default headers `Sparsify` passes to `_make_sparse` for context, actions, logged action -/
def sparsifyHeaders : List String := ["context", "action", "action"]

/-- the seed of the generator behind Densify's look-up slots -/
def densifySeed : Nat := 1

/-- Cycle's rotation `l[a % n:] + l[:a % n]` with `a = -1`: the model's `rotList` drops `n - cycleShift` -/
def cycleShift : Nat := 1

/-- `if i >= self._after` in Cycle: does interaction number `t` get rotated (the model's `cyclePlans` tests `t < after` for "keep") -/
def cycleRotatesAt (after t : Nat) : Bool := !(decide (t < after))

/-- the witnesses of the Phase-4 `_counterexample`s -/
def wCycle : List Inter := [{ actions := some [.str "a", .str "b", .str "c"], rewards := some (.seq true [1, 2, 3]) }]


/-! ## Phase 5: well-formed SparseDense rows (what `Densify` builds: one entry per slot, slots below the length, lazy-free values) -/

def natKeysUniq : List Nat → Bool
  | [] => true
  | k :: ks => !ks.contains k && natKeysUniq ks

def lazyWf (kvs : List (Nat × Val)) (n : Nat) : Bool :=
  natKeysUniq (kvs.map (·.1)) && kvs.all (fun p => decide (p.1 < n) && wfNoLazy p.2)

def wfRow : Val → Bool
  | .lazy kvs n => lazyWf kvs n
  | v => wfNoLazy v



/-! ### Densify: slot functions, sparse rows, injective slots (goal 1) -/

/-- the table a Densify method reads its slots from -/
def tableOf (m : DMethod) (st : DState) : List (String × Nat) :=
  match m with
  | .hashing t => t
  | .lookup _ => st.table

/-- `_make_dense`'s entries for a slot function -/
def entsAcc (slot : String → Nat) : List (String × Val) → List (Nat × Val) → List (Nat × Val)
  | [], acc => acc
  | (k, v) :: r, acc => entsAcc slot r (natSet (slot k) v acc)

def slotFn (T : List (String × Nat)) (k : String) : Nat := (assocGet k T).getD 0

def noZeroD (d : List (String × Val)) : Bool := d.all (fun p => !isZero p.2)

/-- a sparse row as coba's readers produce it: unique keys, lazy-free values, no stored zero -/
def sparseRowWf (d : List (String × Val)) : Bool := uniqKeys (d.map (·.1)) && wfNoLazyD d && noZeroD d

/-- every key has a slot below `n` and different keys have different slots -/
def slotsInjB (T : List (String × Nat)) (keys : List String) (n : Nat) : Bool :=
  keys.all (fun k => match assocGet k T with | some i => decide (i < n) | none => false) &&
  keys.all (fun k => keys.all (fun k' => k == k' || slotFn T k != slotFn T k'))

/-- `_make_dense(value)` for a slot function given as a table -/
def denseOf (T : List (String × Nat)) (n : Nat) : Val → Val
  | .dict d => .lazy (entsAcc (slotFn T) d []) n
  | v => v

/-- every action is a sparse row (unique keys, lazy-free values, no stored zero) -/
def sparseRowsB (as : List Val) : Bool := as.all fun a => match a with | .dict d => sparseRowWf d | _ => false



/-- the table a `Densify` object holds after it has filtered `s` (hashing: the crc32 table, given) -/
def densifyTable (m : DMethod) (n : Nat) (c a : Bool) (s : List Inter) : List (String × Nat) :=
  match m with
  | .hashing t => t
  | .lookup prior =>
    match primeKeys (.lookup []) (initDState n) (prior ++ keysAsked c a s) with
    | .ok st => st.table
    | .error _ => []

/-- the per-interaction part of the preconditions of `densify_sparse_aligned` -/
def densifyInterHypB (T : List (String × Nat)) (n : Nat) (rC fC : Bool) (I : Inter) : Bool :=
  (match I.rewards with | some r => !r.isCallable || rC | none => true)
  && (match I.feedbacks with | some r => !r.isCallable || fC | none => true)
  && (match I.actions with
      | some as => sparseRowsB as && distinctB as && slotsInjB T (keysOfVals as) n
          && (match I.action with
              | some x => (match indexOf as x with
                           | some k => (match as[k]? with | some b => Val.same b x | none => false)
                           | none => true)
              | none => true)
      | none => true)

/-- explicit, decidable preconditions of Densify(action=True) on sparse actions — all about the *input* stream and the slot table -/
def densifySparseHypB (T : List (String × Nat)) (n : Nat) (s : List Inter) : Bool :=
  alignedStreamB s s && s.all (densifyInterHypB T n (firstCallable (·.rewards) s) (firstCallable (·.feedbacks) s))


/-- witness: a stored zero is the same dense row as an absent key (`{'a':0}` and `{}`), so two different sparse actions merge -/
def wStoredZero : List Inter :=
  [{ actions := some [.dict [("a", .num 0)], .dict []], rewards := some (.binary (.dict []) 1) }]


/-! ### Repr / EncodeCatRows: the mode names and the dispatch on them, as named definitions (compared with `Generated/C10ReprModes.lean`) -/

/-- every mode `Repr(cat_context, cat_actions)` / `EncodeCatRows(tipe)` accepts besides `None` -/
def allModes : List Mode := [.onehot, .onehotTuple, .string]

/-- the parser of mode names (used by the driver; inverse of `modeName`) -/
def modeOfName (s : String) : Option Mode :=
  if s == "onehot" then some .onehot else if s == "onehot_tuple" then some .onehotTuple else if s == "string" then some .string else none

/-- `EncodeCatRows._encode_values`: which conversion a scalar categorical gets under each mode -/
def valuesBranch : Mode → String
  | .string => "str"
  | _ => "as_onehot"

/-- `EncodeCatRows._encode_collection.catset`: `str(...)`, the flat one-hot, or the one-hot tuple in place -/
def collBranch : Mode → String
  | .string => "str"
  | .onehot => "flat"
  | .onehotTuple => "as_onehot"

/-! ## Phase 6: constructor calls with arguments left out (option handling of Sparsify / Densify / Repr / Cycle and of the Environments shortcuts) -/

/-- who builds the filter object: the class itself (`Sparsify(...)`) or the `Environments` shortcut (`envs.sparse(...)`) -/
inductive Ctor where
  | filter | env
  deriving Repr, DecidableEq, Inhabited

/-- `Sparsify.__init__(context=True, action=False)` and `Environments.sparse(context=True, action=False)` -/
def sparsifyDefaults : Ctor → Bool × Bool
  | .filter => (true, false)
  | .env => (true, false)

/-- `Densify.__init__(…, context=True, action=False)` and `Environments.dense(n_feats, method, context=True, action=False)` -/
def densifyFlagDefaults : Ctor → Bool × Bool
  | .filter => (true, false)
  | .env => (true, false)

/-- `Densify.__init__(n_feats=400, method='lookup', …)` (the shortcut has no default for these two) -/
def densifyDefaultN : Nat := 400
def densifyDefaultMethod : String := "lookup"

/-- the method names `Densify` documents (`Literal['lookup','hashing']`) -/
def densifyMethodNames : List String := ["lookup", "hashing"]

/-- `_make_dense`: `if self._method == 'lookup': … else: <crc32>` — every name but `'lookup'` hashes -/
def methodBranch (m : String) : String := if m == "lookup" then "lookup" else "hashing"

/-- the parser of method names (used by the driver) -/
def methodOfName (m : String) (prior : List String) (tbl : List (String × Nat)) : DMethod :=
  if methodBranch m == "lookup" then .lookup prior else .hashing tbl

/-- `Repr.__init__(categorical_context=None, categorical_actions=None)`; `Environments.repr(cat_context="onehot", cat_actions="onehot")` -/
def reprDefaults : Ctor → Option Mode × Option Mode
  | .filter => (none, none)
  | .env => (some .onehot, some .onehot)

/-- `Cycle.__init__(after=0)` -/
def cycleDefaultAfter : Nat := 0

/-- `Sparsify(...)` / `envs.sparse(...)` with any of the arguments left out (`none`) -/
def mkSparsify (k : Ctor) (c a : Option Bool) : Step :=
  .sparsify (c.getD (sparsifyDefaults k).1) (a.getD (sparsifyDefaults k).2)

/-- `Densify(...)` / `envs.dense(...)` with any of the arguments left out -/
def mkDensify (k : Ctor) (n : Option Nat) (m : Option String) (c a : Option Bool) (prior : List String) (tbl : List (String × Nat)) : Step :=
  .densify (n.getD densifyDefaultN) (methodOfName (m.getD densifyDefaultMethod) prior tbl)
    (c.getD (densifyFlagDefaults k).1) (a.getD (densifyFlagDefaults k).2)

/-- `Repr(...)` / `envs.repr(...)` with any of the two modes left out (`some none` = an explicit `None`) -/
def mkRepr (k : Ctor) (cc ca : Option (Option Mode)) : Step :=
  .repr (cc.getD (reprDefaults k).1) (ca.getD (reprDefaults k).2)

/-- `Cycle(...)` with `after` left out -/
def mkCycle (after : Option Nat) : Step := .cycle (after.getD cycleDefaultAfter)

/-- everything of an interaction but its context -/
def nonContext (I : Inter) : Option (List Val) × Option Val × Option Rew × Option Rew × Option Rat × Option Rat :=
  (I.actions, I.action, I.rewards, I.feedbacks, I.reward, I.probability)

/-! ## Phase 6: histories of reads of one filter object -/

/-- a history of reads of ONE filter object (each entry is what one `filter()` call was given before it ended: a complete sequence, or the
items an aborted / abandoned read got to): the state the object is left in -/
def runObjHistory (cfg : Cfg) (st : Step) : DState → List (List Inter) → Except Err DState
  | T, [] => .ok T
  | T, A :: rest => match runPrimObj cfg st T A with
    | .error e => .error e
    | .ok (_, T1) => runObjHistory cfg st T1 rest

/-- the keys a Densify object was asked for over a whole history, in order -/
def historyKeys (c a : Bool) : List (List Inter) → List String
  | [] => []
  | A :: rest => keysAsked c a A ++ historyKeys c a rest

/-- the object after a history of reads, applied to `B`: what `B` gives -/
def runObjAfter (cfg : Cfg) (st : Step) (T : DState) (hist : List (List Inter)) (B : List Inter) : Except Err (List Inter) :=
  match runObjHistory cfg st T hist with
  | .error e => .error e
  | .ok T' => match runPrimObj cfg st T' B with
    | .ok (b, _) => .ok b
    | .error e => .error e

end Coba.C10
