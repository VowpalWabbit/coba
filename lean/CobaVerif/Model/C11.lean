/-
C11 — model of `Scale` and `Impute` (coba/environments/filters.py), of the helpers
`iqr`/`percentile` (coba/statistics.py) and of `Environments.scale/impute`
(coba/environments/core.py).  Import-free (core Lean only).

The model mirrors the code WITH the repairs of /verif/fixes/C11-*.diff (committed in /repo) applied
(see notes/C11.md): potential/imputable keys are taken from the first interaction where a
`None` does not disqualify a feature, only numbers are shifted/scaled, `None` and `nan` take no
part in the Scale statistics, mean/median imputations exist only for numeric columns, and
`Environments.impute` chains a list of statistics.

Values: numbers are exact rationals (`num`), `nan`, `nil` (Python `None`), strings.
A dense context is a `List Val`, a sparse one an association list `List (String × Val)`,
a scalar context a single `Val`.  Only contexts are modelled: the filters copy every other
field of an interaction unchanged (checked directly on the implementation by the harness).
`statistics.stdev` needs a square root and is a parameter `sd` of the model.
-/
namespace Coba.C11

inductive Val where
  | num (q : Rat)
  | nan
  | nil
  | str (s : String)
  deriving DecidableEq, Repr, Inhabited

namespace Val
def isStr : Val → Bool | str _ => true | _ => false
def isNil : Val → Bool | nil => true | _ => false
/-- a missing value: Python `None` or `nan` (`v is None or v != v`) -/
def isMiss : Val → Bool | nil => true | nan => true | _ => false
def isNum : Val → Bool | num _ => true | _ => false
/-- `isinstance(v,(int,float)) or v is None` -/
def numOrNil : Val → Bool | str _ => false | _ => true
def num? : Val → Option Rat | num q => some q | _ => none
end Val

/-- the numbers of a column that take part in statistics: not `None`, not `nan` -/
def nums (w : List Val) : List Rat := w.filterMap Val.num?

/-- `islice(interactions, using)` -/
def window {α} (u : Option Nat) (rows : List α) : List α :=
  match u with
  | none => rows
  | some n => rows.take n

/-! ### statistics -/

/-- Python `min(values)`; `none` = `ValueError` on an empty list -/
def minL : List Rat → Option Rat
  | [] => none
  | x :: xs => some (xs.foldl min x)

def maxL : List Rat → Option Rat
  | [] => none
  | x :: xs => some (xs.foldl max x)

def sumL (xs : List Rat) : Rat := xs.foldl (· + ·) 0

/-- `statistics.fmean` / `sum(values)/len(values)`; `none` = error on empty data -/
def mean (xs : List Rat) : Option Rat :=
  match xs with
  | [] => none
  | _ => some (sumL xs / (xs.length : Rat))

def insertSorted (a : Rat) : List Rat → List Rat
  | [] => [a]
  | b :: l => if a ≤ b then a :: b :: l else b :: insertSorted a l

/-- `sorted(values)` -/
def isort : List Rat → List Rat
  | [] => []
  | a :: l => insertSorted a (isort l)

/-- `statistics.median` -/
def median (xs : List Rat) : Option Rat :=
  let s := isort xs
  let n := s.length
  if n = 0 then none
  else if n % 2 = 1 then s[n / 2]?
  else match s[n / 2 - 1]?, s[n / 2]? with
    | some a, some b => some ((a + b) / 2)
    | _, _ => none

/-- coba.statistics.percentile(values, p, sort=False) on an already sorted list, unweighted:
`i = p*(n-1); I = int(i); values[I] if i == I else (1-w)*values[I] + w*values[I+1]`
(`none` = `IndexError`, impossible for non-empty data and `0 ≤ p ≤ 1`, see `percentile_spec`). -/
def percentile (s : List Rat) (p : Rat) : Option Rat :=
  match s with
  | [x] => some x
  | _ =>
    if p = 0 then s.head?
    else if p = 1 then s.getLast?
    else
      let i : Rat := p * ((s.length : Rat) - 1)
      let I : Nat := i.floor.toNat
      if i = (I : Rat) then s[I]?
      else match s[I]?, s[I + 1]? with
        | some a, some b => some ((1 - (i - (I : Rat))) * a + (i - (I : Rat)) * b)
        | _, _ => none

/-- coba.statistics.iqr -/
def iqr (xs : List Rat) : Option Rat :=
  if xs.length ≤ 1 then some 0
  else match percentile (isort xs) (1 / 4), percentile (isort xs) (3 / 4) with
    | some a, some b => some (b - a)
    | _, _ => none

/-! ### Scale -/

inductive Shift where
  | num (a : Rat) | min | mean | median
  deriving DecidableEq, Repr

inductive Scl where
  | num (b : Rat) | minmax | std | iqr | maxabs
  deriving DecidableEq, Repr

structure Cfg where
  shift : Shift
  scale : Scl
  usingN : Option Nat

/-- `Scale._shift_value`; `none` = the `TypeError/ValueError` caught in `_get_shift_and_scale` -/
def shiftValue (sh : Shift) (xs : List Rat) : Option Rat :=
  match sh with
  | .num a => some a
  | .min => (minL xs).map (fun m => -m)
  | .mean => (mean xs).map (fun m => -m)
  | .median => (median xs).map (fun m => -m)

def absR (x : Rat) : Rat := if x < 0 then -x else x

/-- the pair `(scale_num, scale_den)` of `Scale._scale_value` -/
def scaleNumDen (sd : List Rat → Rat) (sc : Scl) (xs : List Rat) (shift : Rat) : Option (Rat × Rat) :=
  match sc with
  | .num b => some (b, 1)
  | .minmax => match maxL xs, minL xs with
    | some mx, some mn => some (1, mx - mn)
    | _, _ => none
  | .std => if xs.length < 2 then none else some (1, sd xs)
  | .iqr => (iqr xs).map (fun d => (1, d))
  | .maxabs => (maxL (xs.map (fun v => absR (v + shift)))).map (fun d => (1, d))

/-- `scale_num if scale_den < .000001 else scale_num/scale_den` -/
def guardDiv (nd : Rat × Rat) : Rat := if nd.2 < 1 / 1000000 then nd.1 else nd.1 / nd.2

def scaleValue (sd : List Rat → Rat) (sc : Scl) (xs : List Rat) (shift : Rat) : Option Rat :=
  (scaleNumDen sd sc xs shift).map guardDiv

/-- how many values of a window column are not missing (strings included) -/
def presentCount (w : List Val) : Nat := (w.filter (fun v => !v.isMiss)).length

/-- `Scale._get_shift_and_scale` on one column of the fitting window.
A window holding a string (mixed-type or string column): every statistic that looks at the values raises
`TypeError`, which is caught (`none`) — `min/fmean/median` of or negation of strings, `max-min`, `stdev`,
`abs(v+shift)`, and `iqr` of two or more values (`sorted` / `p75-p25`).  What does NOT look at the values still
succeeds: a given numeric shift, a given numeric scale, and `iqr` of at most one value (returns 0. without touching
it, so the scale is 1).  Such parameters are then applied to the numbers of the column only. -/
def fit (sd : List Rat → Rat) (cfg : Cfg) (w : List Val) : Option (Rat × Rat) :=
  if w.any Val.isStr then
    match cfg.shift, cfg.scale with
    | .num a, .num b => some (a, b)
    | .num a, .iqr => if presentCount w ≤ 1 then some (a, 1) else none
    | _, _ => none
  else match shiftValue cfg.shift (nums w) with
    | none => none
    | some sh => match scaleValue sd cfg.scale (nums w) sh with
      | none => none
      | some sc => some (sh, sc)

/-- `context[i] = (context[i]+shift)*scale` for numbers; `nan` stays `nan`; everything else is skipped -/
def applyVal (p : Rat × Rat) : Val → Val
  | .num x => .num ((x + p.1) * p.2)
  | v => v

def applyOpt (p : Option (Rat × Rat)) (v : Val) : Val :=
  match p with
  | some p => applyVal p v
  | none => v

/-- column `k` of a list of dense contexts (`map(itemgetter(k), contexts)`) -/
def col (k : Nat) (rows : List (List Val)) : List Val := rows.filterMap (fun r => r[k]?)

/-- dense `potential_keys`: `v is None or isinstance(v,(int,float))` in the first context -/
def potDense (first : List Val) (k : Nat) : Bool :=
  match first[k]? with
  | some v => v.numOrNil
  | none => false

/-- the application loop on one dense context, given the first context and the fitting window -/
def denseRow (sd : List Rat → Rat) (cfg : Cfg) (first : List Val) (fitting : List (List Val)) (row : List Val) : List Val :=
  row.mapIdx (fun k v => applyOpt (if potDense first k then fit sd cfg (col k fitting) else none) v)

/-- `Scale.filter` on dense contexts: fit on the window, then transform every interaction -/
def scaleDense (sd : List Rat → Rat) (cfg : Cfg) (rows : List (List Val)) : List (List Val) :=
  match rows with
  | [] => []
  | first :: _ => rows.map (denseRow sd cfg first (window cfg.usingN rows))

abbrev SCtx := List (String × Val)

/-- `context.get(k, 0)` -/
def getD0 (k : String) (c : SCtx) : Val :=
  match c.lookup k with
  | some v => v
  | none => .num 0

def hasKey (k : String) (c : SCtx) : Bool := (c.lookup k).isSome

/-- which sparse keys are scaled: every key whose value in the first context is not a string.  (Keys seen in
the fitting window get the parameters fitted on their window column; a key absent from the whole window is a
column of zeros there — `fitting.map (getD0 k)` is that column in both cases.) -/
def potSparse (first : SCtx) (k : String) : Bool :=
  !(match first.lookup k with | some v => v.isStr | none => false)

inductive Err where
  | cobaException
  deriving DecidableEq, Repr

/-- the application loop on one sparse context -/
def sparseRow (sd : List Rat → Rat) (cfg : Cfg) (first : SCtx) (fitting : List SCtx) (c : SCtx) : SCtx :=
  c.map (fun kv => (kv.1, applyOpt (if potSparse first kv.1 then fit sd cfg (fitting.map (getD0 kv.1)) else none) kv.2))

/-- `Scale.filter` on sparse contexts (`shift` must be 0) -/
def scaleSparse (sd : List Rat → Rat) (cfg : Cfg) (rows : List SCtx) : Except Err (List SCtx) :=
  match rows with
  | [] => .ok []
  | first :: _ =>
    if cfg.shift ≠ .num 0 then .error .cobaException
    else .ok (rows.map (sparseRow sd cfg first (window cfg.usingN rows)))

/-- the sparse application without the shift check (what runs when the check does not apply) -/
def scaleSparseRows (sd : List Rat → Rat) (cfg : Cfg) (rows : List SCtx) : List SCtx :=
  match rows with
  | [] => []
  | first :: _ => rows.map (sparseRow sd cfg first (window cfg.usingN rows))

/-- `Scale.filter` on scalar contexts -/
def scaleScalar (sd : List Rat → Rat) (cfg : Cfg) (rows : List Val) : List Val :=
  rows.map (applyOpt (fit sd cfg (window cfg.usingN rows)))

/-! ### Impute -/

inductive Stat where
  | mean | median | mode
  deriving DecidableEq, Repr

def count (v : Val) (l : List Val) : Nat := (l.filter (· == v)).length

/-- `statistics.mode`: the first value encountered among those of maximal multiplicity -/
def modeAux (all : List Val) : List Val → Option Val → Option Val
  | [], best => best
  | v :: l, none => modeAux all l (some v)
  | v :: l, some b => modeAux all l (if count b all < count v all then some v else some b)

def mode (vs : List Val) : Option Val := modeAux vs vs none

/-- `Impute._get_imputation` on one column of the window (missing values — `None`, `nan` — dropped first).
`none` = no imputation (an exception was swallowed, or the column is not numeric for mean/median). -/
def getImp (st : Stat) (w : List Val) : Option Val :=
  let vs := w.filter (fun v => !v.isMiss)
  match st with
  | .mode => mode vs
  | .mean => if vs.all Val.isNum then (mean (nums vs)).map Val.num else none
  | .median => if vs.all Val.isNum then (median (nums vs)).map Val.num else none

/-- dense `imputable_cols` -/
def impDense (st : Stat) (first : List Val) (k : Nat) : Bool :=
  match st with
  | .mode => k < first.length
  | _ => potDense first k

/-- a missing value is replaced by the imputation, if there is one; everything else stays -/
def imputeCell (imp : Option Val) (v : Val) : Val :=
  match imp with
  | some x => if v.isMiss then x else v
  | none => v

/-- is the (optional) cell a missing value -/
def missAt : Option Val → Bool
  | some v => v.isMiss
  | none => false

def bit (b : Bool) : Val := .num (if b then 1 else 0)

/-- the imputation of dense column `k` -/
def denseImp (st : Stat) (first : List Val) (win : List (List Val)) (k : Nat) : Option Val :=
  if impDense st first k then getImp st (col k win) else none

/-- the columns that get a missingness indicator, in column order (`impute_binary`): every feature that has
a missing value in the window, imputable or not -/
def denseBins (ind : Bool) (first : List Val) (win : List (List Val)) : List Nat :=
  if ind then (List.range first.length).filter (fun k => (col k win).any Val.isMiss)
  else []

/-- the application loop of `Impute.filter` on one dense context -/
def imputeDenseRow (st : Stat) (ind : Bool) (first : List Val) (win : List (List Val)) (row : List Val) : List Val :=
  row.mapIdx (fun k v => imputeCell (denseImp st first win k) v)
    ++ (denseBins ind first win).map (fun k => bit (missAt row[k]?))

/-- `Impute.filter` on dense contexts -/
def imputeDense (st : Stat) (ind : Bool) (u : Option Nat) (rows : List (List Val)) : List (List Val) :=
  match rows with
  | [] => []
  | first :: _ => rows.map (imputeDenseRow st ind first (window u rows))

/-- the values of key `k` in the window where present, then a 0 for every context lacking it -/
def sparseCol (k : String) (win : List SCtx) : List Val :=
  let present := win.filterMap (fun c => c.lookup k)
  present ++ List.replicate (win.length - present.length) (.num 0)

/-- sparse imputable keys: all for mode, else those whose value in the first context is not a string -/
def impSparseKey (st : Stat) (first : SCtx) (k : String) : Bool :=
  !(match st with
    | .mode => false
    | _ => match first.lookup k with | some v => v.isStr | none => false)

/-- the imputation of a sparse key: the statistic of its window column, absent = 0 (for a key absent from the
whole window that column is all zeros: the code's `unseen`) -/
def sparseImp (st : Stat) (first : SCtx) (win : List SCtx) (k : String) : Option Val :=
  if impSparseKey st first k then getImp st (sparseCol k win) else none

/-- keys of the window in first-appearance order, without repetition -/
def seenKeys : List SCtx → List String → List String
  | [], acc => acc.reverse
  | c :: cs, acc => seenKeys cs (c.foldl (fun a kv => if a.contains kv.1 then a else kv.1 :: a) acc)

/-- the keys that get a `<key>_is_missing` indicator: every key with a missing value in the window -/
def sparseBins (ind : Bool) (win : List SCtx) : List String :=
  if ind then (seenKeys win []).filter (fun k => (win.filterMap (fun c => c.lookup k)).any Val.isMiss)
  else []

/-- `d[k] = v` on an association list: overwrite in place or append -/
def upsert (c : SCtx) (k : String) (v : Val) : SCtx :=
  match c with
  | [] => [(k, v)]
  | kv :: rest => if kv.1 == k then (k, v) :: rest else kv :: upsert rest k v

/-- the application loop of `Impute.filter` on one sparse context; the indicators are written with
`context.update(is_missing)`, i.e. an existing key `<k>_is_missing` is overwritten -/
def imputeSparseRow (st : Stat) (ind : Bool) (first : SCtx) (win : List SCtx) (c : SCtx) : SCtx :=
  (sparseBins ind win).foldl (fun acc k => upsert acc (k ++ "_is_missing") (bit (missAt (c.lookup k))))
    (c.map (fun kv => (kv.1, imputeCell (sparseImp st first win kv.1) kv.2)))

/-- `Impute.filter` on sparse contexts -/
def imputeSparse (st : Stat) (ind : Bool) (u : Option Nat) (rows : List SCtx) : List SCtx :=
  match rows with
  | [] => []
  | first :: _ => rows.map (imputeSparseRow st ind first (window u rows))

/-- result of `Impute.filter` on scalar contexts: scalars, or `[value, indicator]` lists -/
inductive ScalarOut where
  | scalars (rows : List Val)
  | pairs (rows : List (List Val))
  deriving Repr

def imputeScalar (st : Stat) (ind : Bool) (u : Option Nat) (rows : List Val) : ScalarOut :=
  let win := window u rows
  let imp := getImp st win
  if ind && win.any Val.isMiss then
    .pairs (rows.map (fun v => [imputeCell imp v, bit v.isMiss]))
  else
    .scalars (rows.map (imputeCell imp))

/-! ### Environments.scale / Environments.impute -/

inductive Ctxs where
  | dense (rows : List (List Val))
  | sparse (rows : List SCtx)
  | scalar (rows : List Val)
  deriving Repr

def imputeCtxs (st : Stat) (ind : Bool) (u : Option Nat) : Ctxs → Ctxs
  | .dense rows => .dense (imputeDense st ind u rows)
  | .sparse rows => .sparse (imputeSparse st ind u rows)
  | .scalar rows => match imputeScalar st ind u rows with
    | .scalars r => .scalar r
    | .pairs r => .dense r

/-- `Environments.impute(stats, indicator, using)`: one `Impute` filter per statistic, chained -/
def envImpute (stats : List Stat) (ind : Bool) (u : Option Nat) (c : Ctxs) : Ctxs :=
  stats.foldl (fun c st => imputeCtxs st ind u c) c

/-- number of dense potential keys -/
def potCount (first : List Val) : Nat := ((List.range first.length).filter (potDense first)).length

/-- the empty-window quirk of the dense path: with `using=0` and two or more potential keys the columns are built by
`zip(*map(itemgetter(*keys), []))`, which yields NO column, so nothing is fitted and the interactions pass through
unchanged (with one potential key an empty column is fitted instead) -/
def denseZeroWindow (cfg : Cfg) (rows : List (List Val)) : Bool :=
  match rows with
  | [] => false
  | first :: _ => (window cfg.usingN rows).isEmpty && decide (2 ≤ potCount first)

def scaleDenseFull (sd : List Rat → Rat) (cfg : Cfg) (rows : List (List Val)) : List (List Val) :=
  if denseZeroWindow cfg rows then rows else scaleDense sd cfg rows

def scaleCtxs (sd : List Rat → Rat) (cfg : Cfg) : Ctxs → Except Err Ctxs
  | .dense rows => .ok (.dense (scaleDenseFull sd cfg rows))
  | .sparse rows => (scaleSparse sd cfg rows).map .sparse
  | .scalar rows => .ok (.scalar (scaleScalar sd cfg rows))

/-- a `Scale` object: statistics configuration and `target`.  The target only gates the sparse-shift check
(`… and self._target=="context" and self._shift != 0`); whatever the target, it is the CONTEXT that is scaled. -/
structure ScaleCfg where
  cfg : Cfg
  target : String

def scaleFilter (sd : List Rat → Rat) (sc : ScaleCfg) : Ctxs → Except Err Ctxs
  | .sparse rows =>
    if sc.target = "context" then (scaleSparse sd sc.cfg rows).map .sparse
    else .ok (.sparse (scaleSparseRows sd sc.cfg rows))
  | c => scaleCtxs sd sc.cfg c

/-! ### the argument glue of `Environments.scale` / `Environments.impute` and of the filter constructors

`none` = the keyword was not passed.  Python defaults: `Environments.scale(shift="min", scale="minmax",
targets="context", using=None)`, `Scale(shift=0, scale="minmax", target="context", using=None)`,
`Environments.impute(stats="mean", indicator=True, using=None)`, `Impute(stat="mean", indicator=True, using=None)`.
A single string for `targets` / `stats` is the one-element list. -/

structure ScaleArgs where
  shift : Option Shift
  scale : Option Scl
  targets : Option (List String)
  usingA : Option (Option Nat)

/-- `Environments.scale(**args)`: one `Scale` filter per target, in order -/
def envScaleFilters (a : ScaleArgs) : List ScaleCfg :=
  (match a.targets with | some ts => ts | none => ["context"]).map (fun t =>
    { cfg := { shift := (match a.shift with | some s => s | none => .min),
               scale := (match a.scale with | some s => s | none => .minmax),
               usingN := (match a.usingA with | some u => u | none => none) },
      target := t })

/-- `Scale(**args)` (direct construction; at most one target) -/
def scaleCtorCfg (a : ScaleArgs) : ScaleCfg :=
  { cfg := { shift := (match a.shift with | some s => s | none => .num 0),
             scale := (match a.scale with | some s => s | none => .minmax),
             usingN := (match a.usingA with | some u => u | none => none) },
    target := (match a.targets with | some (t :: _) => t | _ => "context") }

structure ImputeArgs where
  stats : Option (List Stat)
  indicator : Option Bool
  usingA : Option (Option Nat)

/-- `Environments.impute(**args)`: one `Impute` filter per statistic, in order -/
def envImputeFilters (a : ImputeArgs) : List (Stat × Bool × Option Nat) :=
  (match a.stats with | some ss => ss | none => [.mean]).map (fun st =>
    ((st, (match a.indicator with | some b => b | none => true),
      (match a.usingA with | some u => u | none => (none : Option Nat))) : Stat × Bool × Option Nat))

/-- what `Environments(env).scale(**args)[0].read()` does to the contexts -/
def envScale (sd : List Rat → Rat) (a : ScaleArgs) (c : Ctxs) : Except Err Ctxs :=
  (envScaleFilters a).foldl (fun r k => r.bind (scaleFilter sd k)) (.ok c)

/-! ### filter objects and collections of environments

`Environments([envA, envB, …]).scale(...)` creates ONE `Scale` object per target and joins it to every environment
(`Environments.filter`); `.impute([s1, s2])` creates one `Impute` object per statistic, each shared by all
environments.  An object carries its configuration and mutable bookkeeping (`_times`, which `Impute.filter`
increases by elapsed times on every call).  The model threads that state explicitly; `filter_stateless` and
`collection_pointwise` (Props) say it never influences a result. -/

structure Obj (κ : Type) where
  cfg : κ
  times : List Nat

/-- one call `obj.filter(x)`: the result is computed from the configuration; `_times` grows by `dt` -/
def Obj.call {κ α β : Type} (f : κ → α → β) (o : Obj κ) (dt : List Nat) (x : α) : Obj κ × β :=
  ({ o with times := List.zipWith (· + ·) o.times dt }, f o.cfg x)

/-- the same object applied to several sequences one after the other -/
def Obj.run {κ α β : Type} (f : κ → α → β) : Obj κ → List (List Nat × α) → Obj κ × List β
  | o, [] => (o, [])
  | o, (dt, x) :: rest =>
    let r1 := o.call f dt x
    let r2 := Obj.run f r1.1 rest
    (r2.1, r1.2 :: r2.2)

/-- configuration of an `Impute` object: statistic, indicator, using -/
abbrev ImpCfg := Stat × Bool × Option Nat

def imputeF (c : ImpCfg) (x : Ctxs) : Except Err Ctxs := .ok (imputeCtxs c.1 c.2.1 c.2.2 x)

/-- reading through a pipeline of shared filter objects (an exception ends the read) -/
def pipeRun {κ : Type} (f : κ → Ctxs → Except Err Ctxs) (dt : List Nat) :
    List (Obj κ) → Except Err Ctxs → List (Obj κ) × Except Err Ctxs
  | [], r => ([], r)
  | o :: os, .error e => (o :: os, .error e)
  | o :: os, .ok c =>
    let r1 := o.call f dt c
    let r2 := pipeRun f dt os r1.2
    (r1.1 :: r2.1, r2.2)

/-- the stateless meaning of a pipeline: the filters' functions composed -/
def pipe {κ : Type} (f : κ → Ctxs → Except Err Ctxs) (cfgs : List κ) (x : Except Err Ctxs) : Except Err Ctxs :=
  cfgs.foldl (fun r k => r.bind (f k)) x

/-- a collection of environments sharing the filter objects of one `.scale(...)` / `.impute(...)` call -/
structure Coll (κ : Type) where
  srcs : List Ctxs
  objs : List (Obj κ)

/-- `envs[i].read()` (`none`: no such environment) -/
def Coll.read {κ : Type} (f : κ → Ctxs → Except Err Ctxs) (c : Coll κ) (dt : List Nat) (i : Nat) :
    Coll κ × Option (Except Err Ctxs) :=
  match c.srcs[i]? with
  | none => (c, none)
  | some src =>
    let r := pipeRun f dt c.objs (.ok src)
    ({ c with objs := r.1 }, some r.2)

/-- reading environments in any order, any number of times -/
def Coll.reads {κ : Type} (f : κ → Ctxs → Except Err Ctxs) : Coll κ → List (List Nat × Nat) → Coll κ × List (Option (Except Err Ctxs))
  | c, [] => (c, [])
  | c, (dt, i) :: rest =>
    let r1 := c.read f dt i
    let r2 := Coll.reads f r1.1 rest
    (r2.1, r1.2 :: r2.2)

/-! ### specification -/

/-- the dense embedding of a sparse context over the feature list `keys`: an absent key is the number 0 -/
def embed (keys : List String) (c : SCtx) : List Val := keys.map (fun k => getD0 k c)

/-- cell `k` of row `i` of a list of dense contexts -/
def denseCell (rows : List (List Val)) (i k : Nat) : Option Val := (rows[i]?).bind (fun r => r[k]?)

/-- the value under key `k` in row `i` of a list of sparse contexts -/
def sparseCell (rows : List SCtx) (i : Nat) (k : String) : Option Val := (rows[i]?).bind (fun c => c.lookup k)


/-- `m` is the least element of `xs` -/
def IsMin (xs : List Rat) (m : Rat) : Prop := m ∈ xs ∧ ∀ x ∈ xs, m ≤ x
/-- `m` is the greatest element of `xs` -/
def IsMax (xs : List Rat) (m : Rat) : Prop := m ∈ xs ∧ ∀ x ∈ xs, x ≤ m

/-- non-decreasing -/
def Sorted : List Rat → Prop
  | [] => True
  | a :: l => (∀ b ∈ l, a ≤ b) ∧ Sorted l

/-- `m` is the median of `xs`: the middle element of the sorted data, or the mean of the two
middle elements -/
def IsMedian (xs : List Rat) (m : Rat) : Prop :=
  ∃ s : List Rat, s.Perm xs ∧ Sorted s ∧
    ((s.length % 2 = 1 ∧ s[s.length / 2]? = some m) ∨
     (s.length % 2 = 0 ∧ ∃ a b, s[s.length / 2 - 1]? = some a ∧ s[s.length / 2]? = some b ∧ m = (a + b) / 2))

/-- linear interpolation between closest ranks on sorted data `s` (numpy's default quantile):
with `h = p·(n−1)` and `I = ⌊h⌋` the value is `s[I]` if `h = I`, else `s[I] + (h−I)·(s[I+1]−s[I])` -/
def Interp (s : List Rat) (p q : Rat) : Prop :=
  let h : Rat := p * ((s.length : Rat) - 1)
  let I : Nat := h.floor.toNat
  ∃ a, s[I]? = some a ∧
    ((h = (I : Rat) ∧ q = a) ∨ (∃ b, s[I + 1]? = some b ∧ q = a + (h - (I : Rat)) * (b - a)))

/-- `q` is the `p`-quantile of the data `xs` -/
def IsQuantile (xs : List Rat) (p : Rat) (q : Rat) : Prop :=
  ∃ s : List Rat, s.Perm xs ∧ Sorted s ∧ Interp s p q

/-- the documented shift statistic of the data `xs` (what is added to every value) -/
def ShiftStat (sh : Shift) (xs : List Rat) (s : Rat) : Prop :=
  match sh with
  | .num a => s = a
  | .min => ∃ m, IsMin xs m ∧ s = -m
  | .mean => xs ≠ [] ∧ s = -(sumL xs / (xs.length : Rat))
  | .median => ∃ m, IsMedian xs m ∧ s = -m

/-- the denominator of the documented scale statistic of the data `xs` after shifting by `s` -/
def ScaleDen (sd : List Rat → Rat) (sc : Scl) (xs : List Rat) (s : Rat) (d : Rat) : Prop :=
  match sc with
  | .num _ => d = 1
  | .minmax => ∃ mn mx, IsMin xs mn ∧ IsMax xs mx ∧ d = mx - mn
  | .std => 2 ≤ xs.length ∧ d = sd xs
  | .iqr => (xs.length ≤ 1 ∧ d = 0) ∨ (2 ≤ xs.length ∧ ∃ a b, IsQuantile xs (1/4) a ∧ IsQuantile xs (3/4) b ∧ d = b - a)
  | .maxabs => IsMax (xs.map (fun v => absR (v + s))) d

/-- the scale factor: the given number, or the reciprocal of the statistic — 1 for a
degenerate statistic (smaller than 1e-6, e.g. a constant feature) -/
def ScaleStat (sd : List Rat → Rat) (sc : Scl) (xs : List Rat) (s : Rat) (f : Rat) : Prop :=
  ∃ d, ScaleDen sd sc xs s d ∧
    f = (if d < 1 / 1000000 then 1 else 1 / d) * (match sc with | .num b => b | _ => 1)

/-- what the property demands of one cell `v` of a feature whose window column is `w`:
a number becomes `(x+shift)*scale` with the documented statistics of the non-missing window
values; everything else stays -/
def ScaleCellSpec (sd : List Rat → Rat) (cfg : Cfg) (w : List Val) (v out : Val) : Prop :=
  match v with
  | .num x => ∃ s f, ShiftStat cfg.shift (nums w) s ∧ ScaleStat sd cfg.scale (nums w) s f ∧ out = .num ((x + s) * f)
  | v => out = v

/-- the statistics of the window exist (named statistics need data; `std` needs two values) -/
def StatsDefined (cfg : Cfg) (w : List Val) : Prop :=
  (match cfg.shift with | .num _ => True | _ => nums w ≠ []) ∧
  (match cfg.scale with
    | .num _ => True
    | .iqr => True
    | .std => 2 ≤ (nums w).length
    | _ => nums w ≠ [])


/-! ### `std` without an abstract square root -/

/-- exact sample variance (denominator `n−1`): what `statistics.variance` computes and `statistics.stdev`
takes the square root of -/
def variance (xs : List Rat) : Rat :=
  sumL (xs.map (fun x => (x - sumL xs / (xs.length : Rat)) * (x - sumL xs / (xs.length : Rat)))) / ((xs.length : Rat) - 1)

/-- `f` is the reciprocal square root of `v` — said inside ℚ: the non-negative `f` with `f²·v = 1` -/
def IsInvSqrt (v f : Rat) : Prop := 0 ≤ f ∧ f * f * v = 1

/-- the square-root routine is exact on the data `xs` -/
def SqrtExact (sd : List Rat → Rat) (xs : List Rat) : Prop := 0 ≤ sd xs ∧ sd xs * sd xs = variance xs

/-- the square-root routine has relative error `δ` (in the square) on `xs`: `sd² = var·(1+δ)` -/
def SqrtWithin (sd : List Rat → Rat) (xs : List Rat) (δ : Rat) : Prop :=
  0 < sd xs ∧ sd xs * sd xs = variance xs * (1 + δ)

/-- the scale statistic with `std` characterised algebraically (no function parameter): for at least two
values the factor is 1 when the deviation is below 1e-6 (variance below 1e-12) and otherwise THE reciprocal
square root of the sample variance; the other statistics as in `ScaleStat` (which does not use `sd` there) -/
def ScaleStatQ (sc : Scl) (xs : List Rat) (s f : Rat) : Prop :=
  match sc with
  | .std => 2 ≤ xs.length ∧
      ((variance xs < 1 / 1000000000000 ∧ f = 1) ∨ (1 / 1000000000000 ≤ variance xs ∧ IsInvSqrt (variance xs) f))
  | sc => ScaleStat (fun _ => 0) sc xs s f

def ScaleCellSpecQ (cfg : Cfg) (w : List Val) (v out : Val) : Prop :=
  match v with
  | .num x => ∃ s f, ShiftStat cfg.shift (nums w) s ∧ ScaleStatQ cfg.scale (nums w) s f ∧ out = .num ((x + s) * f)
  | v => out = v

/-- `m` is a mode of `vs` -/
def IsMode (vs : List Val) (m : Val) : Prop := m ∈ vs ∧ ∀ v, count v vs ≤ count m vs

/-- the imputation statistic of the non-missing window values `vs` -/
def ImpStat (st : Stat) (vs : List Val) (m : Val) : Prop :=
  match st with
  | .mode => IsMode vs m
  | .mean => nums vs ≠ [] ∧ m = .num (sumL (nums vs) / ((nums vs).length : Rat))
  | .median => ∃ q, IsMedian (nums vs) q ∧ m = .num q

/-- a feature is imputable in a window: it has a non-missing value there and, for mean/median,
all its non-missing values are numbers -/
def Imputable (st : Stat) (w : List Val) : Prop :=
  (w.filter (fun v => !v.isMiss)) ≠ [] ∧
  (match st with | .mode => True | _ => (w.filter (fun v => !v.isMiss)).all Val.isNum = true)

/-! ### phase 4 — exception VALUES inside `_get_shift_and_scale`, ragged dense rows, option tables -/

/-- the exception classes that can arise while the statistics of one window column are computed.
`statisticsError` is `statistics.StatisticsError` (a subclass of `ValueError`): `fmean`/`median` of no data, `stdev` of
fewer than two values.  `valueError` is the plain `ValueError` of `min()`/`max()` on an empty list.  `typeError`: a string
met arithmetic or a comparison with a number.  `indexError` would be `percentile` indexing outside its list. -/
inductive FitErr where
  | typeError | valueError | statisticsError | indexError
  deriving DecidableEq, Repr

/-- the class names along the MRO of an exception class (up to `Exception`) -/
def FitErr.mro : FitErr → List String
  | .typeError => ["TypeError"]
  | .valueError => ["ValueError"]
  | .statisticsError => ["StatisticsError", "ValueError"]
  | .indexError => ["IndexError", "LookupError"]

/-- is the exception caught by `except (<handlers>)` -/
def FitErr.caughtBy (handlers : List String) (e : FitErr) : Bool := e.mro.any (fun c => handlers.contains c)

/-- the handler tuple of `_get_shift_and_scale`: `except (TypeError,ValueError)` -/
def scaleHandlers : List String := ["TypeError", "ValueError"]

/-- `Scale._shift_value` with the exception it raises -/
def shiftValueE (sh : Shift) (xs : List Rat) : Except FitErr Rat :=
  match sh with
  | .num a => .ok a
  | .min => match minL xs with | some m => .ok (-m) | none => .error .valueError
  | .mean => match mean xs with | some m => .ok (-m) | none => .error .statisticsError
  | .median => match median xs with | some m => .ok (-m) | none => .error .statisticsError

/-- `Scale._scale_value` with the exception it raises -/
def scaleValueE (sd : List Rat → Rat) (sc : Scl) (xs : List Rat) (shift : Rat) : Except FitErr Rat :=
  match sc with
  | .num b => .ok (guardDiv (b, 1))
  | .minmax => match maxL xs, minL xs with
    | some mx, some mn => .ok (guardDiv (1, mx - mn))
    | _, _ => .error .valueError
  | .std => if xs.length < 2 then .error .statisticsError else .ok (guardDiv (1, sd xs))
  | .iqr => match iqr xs with | some d => .ok (guardDiv (1, d)) | none => .error .indexError
  | .maxabs => match maxL (xs.map (fun v => absR (v + shift))) with
    | some d => .ok (guardDiv (1, d))
    | none => .error .valueError

/-- the body of the `try` in `_get_shift_and_scale`: parameters or the exception raised.  In a window holding a string
every statistic that looks at the values raises `TypeError` (whatever else is in the window, the string is among the
non-missing values). -/
def fitE (sd : List Rat → Rat) (cfg : Cfg) (w : List Val) : Except FitErr (Rat × Rat) :=
  if w.any Val.isStr then
    match cfg.shift, cfg.scale with
    | .num a, .num b => .ok (a, b)
    | .num a, .iqr => if presentCount w ≤ 1 then .ok (a, 1) else .error .typeError
    | _, _ => .error .typeError
  else match shiftValueE cfg.shift (nums w) with
    | .error e => .error e
    | .ok sh => match scaleValueE sd cfg.scale (nums w) sh with
      | .error e => .error e
      | .ok sc => .ok (sh, sc)

/-- `_get_shift_and_scale` as a whole: a caught exception becomes `None`, an uncaught one leaves the function -/
def getShiftAndScale (handlers : List String) (sd : List Rat → Rat) (cfg : Cfg) (w : List Val) :
    Except FitErr (Option (Rat × Rat)) :=
  match fitE sd cfg w with
  | .ok p => .ok (some p)
  | .error e => if e.caughtBy handlers then .ok none else .error e

/-- all dense contexts have the length of the first one -/
def Rect (rows : List (List Val)) : Bool :=
  match rows with
  | [] => true
  | f :: r => r.all (fun x => x.length == f.length)

inductive ScaleErr where
  | cobaException | indexError
  deriving DecidableEq, Repr

/-- dense potential keys, in order -/
def potKeys (first : List Val) : List Nat := (List.range first.length).filter (potDense first)

/-- `Scale.filter` on dense contexts INCLUDING ragged rows (outside the property's quantifier: a feature is a column of
every interaction).  `itemgetter(k)` on a window row that lacks a potential column raises `IndexError` (for one key inside
`_get_shift_and_scale`, whose handler does not catch it; for several keys in `zip(*map(itemgetter(*keys),…))`), and
`context[i]` raises it on ANY row lacking a column that got parameters.  Longer rows keep their extra cells. -/
def scaleDenseE (sd : List Rat → Rat) (cfg : Cfg) (rows : List (List Val)) : Except ScaleErr (List (List Val)) :=
  match rows with
  | [] => .ok []
  | first :: _ =>
    let win := window cfg.usingN rows
    if win.any (fun r => (potKeys first).any (fun k => decide (r.length ≤ k))) then .error .indexError
    else if !denseZeroWindow cfg rows &&
        rows.any (fun r => ((potKeys first).filter (fun k => (fit sd cfg (col k win)).isSome)).any (fun k => decide (r.length ≤ k)))
      then .error .indexError
    else .ok (scaleDenseFull sd cfg rows)

/-! #### option tables: the accepted option strings and what they dispatch to -/

def shiftNames : List String := ["min", "mean", "med", "median"]
def scaleNames : List String := ["minmax", "std", "iqr", "maxabs"]
def statNames : List String := ["mean", "median", "mode"]

/-- the `shift` option strings (`"med"` is a synonym of `"median"`) -/
def shiftOfName (s : String) : Option Shift :=
  if s = "min" then some .min else if s = "mean" then some .mean
  else if s = "med" then some .median else if s = "median" then some .median else none

def sclOfName (s : String) : Option Scl :=
  if s = "minmax" then some .minmax else if s = "std" then some .std
  else if s = "iqr" then some .iqr else if s = "maxabs" then some .maxabs else none

def statOfName (s : String) : Option Stat :=
  if s = "mean" then some .mean else if s = "median" then some .median else if s = "mode" then some .mode else none

/-- the functions `_shift_value` calls for a statistic (sorted names) -/
def shiftCalls : Shift → List String
  | .num _ => [] | .min => ["min"] | .mean => ["fmean"] | .median => ["median"]

/-- the functions called for the denominator in `_scale_value` (sorted names) -/
def sclCalls : Scl → List String
  | .num _ => [] | .minmax => ["max", "min"] | .std => ["stdev"] | .iqr => ["iqr"] | .maxabs => ["abs", "max"]

/-- the functions `_get_imputation` calls (sorted names) -/
def statCalls : Stat → List String
  | .mean => ["len", "sum"] | .median => ["median"] | .mode => ["mode"]

/-- the model's dispatch tables in the form the translator extracts them from the source -/
def shiftTable : List (String × List String) := shiftNames.filterMap (fun n => (shiftOfName n).map (fun s => (n, shiftCalls s)))
def sclTable : List (String × List String) := scaleNames.filterMap (fun n => (sclOfName n).map (fun s => (n, sclCalls s)))
def statTable : List (String × List String) := statNames.filterMap (fun n => (statOfName n).map (fun s => (n, statCalls s)))

/-- the degenerate-feature threshold `.000001` -/
def guardThreshold : Rat := 1 / 1000000

/-! ### phase 4 (continued): the column decision, and the square root `statistics.stdev` computes -/

/-- the condition under which the statistics raise `TypeError` -/
def TypeErrCond (cfg : Cfg) (w : List Val) : Prop :=
  w.any Val.isStr = true ∧
    ¬ ∃ a, cfg.shift = .num a ∧ ((∃ b, cfg.scale = .num b) ∨ (cfg.scale = .iqr ∧ presentCount w ≤ 1))

/-- … plain `ValueError` -/
def ValueErrCond (cfg : Cfg) (w : List Val) : Prop :=
  w.any Val.isStr = false ∧ nums w = [] ∧
    (cfg.shift = .min ∨ ((∃ a, cfg.shift = .num a) ∧ (cfg.scale = .minmax ∨ cfg.scale = .maxabs)))

/-- … `StatisticsError` -/
def StatErrCond (cfg : Cfg) (w : List Val) : Prop :=
  w.any Val.isStr = false ∧
    ((nums w = [] ∧ (cfg.shift = .mean ∨ cfg.shift = .median)) ∨
     (((∃ a, cfg.shift = .num a) ∨ nums w ≠ []) ∧ cfg.scale = .std ∧ (nums w).length < 2))

/-- the real decision procedure of the dense path for column `k`: potential key from the FIRST context, parameters from the
window column -/
def denseDecision (sd : List Rat → Rat) (cfg : Cfg) (first : List Val) (win : List (List Val)) (k : Nat) : Option (Rat × Rat) :=
  if potDense first k then fit sd cfg (col k win) else none

def sparseDecision (sd : List Rat → Rat) (cfg : Cfg) (first : SCtx) (win : List SCtx) (k : String) : Option (Rat × Rat) :=
  if potSparse first k then fit sd cfg (win.map (getD0 k)) else none

/-- `int.bit_length()`, `statistics._integer_sqrt_of_frac_rto` (`a = isqrt(n // m); a | (a*a*m != n)`), the scaling shift `q` of
`statistics._float_sqrt_of_frac` (`_sqrt_bit_width = 109`) and its `(numerator, denominator)` BEFORE the final, correctly rounded
`numerator / denominator`; `pySd` = that quotient for the exact sample variance (what `stdev` returns up to the final rounding) -/
def bitLength (n : Nat) : Nat := if n = 0 then 0 else Nat.log2 n + 1
def isqrtRto (n m : Nat) : Nat := if Nat.sqrt (n / m) * Nat.sqrt (n / m) * m ≠ n then Nat.sqrt (n / m) ||| 1 else Nat.sqrt (n / m)
def pySqrtShift (n m : Nat) : Int := ((bitLength n : Int) - (bitLength m : Int) - 109) / 2
def pySqrtFrac (n m : Nat) : Nat × Nat :=
  if 0 ≤ pySqrtShift n m then (isqrtRto n (m <<< (2 * (pySqrtShift n m).toNat)) <<< (pySqrtShift n m).toNat, 1)
  else (isqrtRto (n <<< (2 * (-(pySqrtShift n m)).toNat)) m, 1 <<< (-(pySqrtShift n m)).toNat)
def pySd (xs : List Rat) : Rat :=
  ((pySqrtFrac (variance xs).num.toNat (variance xs).den).1 : Rat) / ((pySqrtFrac (variance xs).num.toNat (variance xs).den).2 : Rat)

/-! ### phase 5 — quartile ranks in natural-number arithmetic -/

/-- the value `percentile` returns at a quarter `q/4` (`q` = 1, 3) of sorted data, said with natural-number rank arithmetic
only: `k = q·(n−1)`, rank `k / 4`, remainder `k % 4`; remainder 0 → the value at the rank, otherwise the two neighbours
weighted by `1 − r/4` and `r/4` (`percentile_quarter`) -/
def quarterAt (s : List Rat) (q : Nat) : Option Rat :=
  let k := q * (s.length - 1)
  if k % 4 = 0 then s[k / 4]?
  else match s[k / 4]?, s[k / 4 + 1]? with
    | some a, some b => some ((1 - ((k % 4 : Nat) : Rat) / 4) * a + ((k % 4 : Nat) : Rat) / 4 * b)
    | _, _ => none

/-! ### phase 5 — the statistic bodies as expression programs (extracted from the Python source by the harness) -/

/-- arithmetic expressions over one list `values`: literals, (normalised) local names, `len(values)`, `sum(values)`,
`values[e]`, `+ - * /`, `int(e)` -/
inductive PExpr where
  | lit (q : Rat) | var (x : String) | lenV | sumV
  | idx (i : PExpr)
  | add (a b : PExpr) | sub (a b : PExpr) | mul (a b : PExpr) | div (a b : PExpr)
  | toInt (a : PExpr)
  deriving DecidableEq, Repr

/-- Python list indexing with an integral index: `values[k]`, `values[-k]` (`none` = `IndexError`) -/
def pyIndex (s : List Rat) (r : Rat) : Option Rat :=
  if r < 0 then (if (-r).floor.toNat ≤ s.length then s[s.length - (-r).floor.toNat]? else none) else s[r.floor.toNat]?

/-- Python `int(x)`: truncation towards zero -/
def pyInt (r : Rat) : Rat := if 0 ≤ r then (r.floor : Rat) else -(((-r).floor : Int) : Rat)

def PExpr.eval (env : List (String × Rat)) (s : List Rat) : PExpr → Option Rat
  | .lit q => some q
  | .var x => env.lookup x
  | .lenV => some (s.length : Rat)
  | .sumV => some (sumL s)
  | .idx i => (eval env s i).bind (pyIndex s)
  | .add a b => (eval env s a).bind (fun x => (eval env s b).map (fun y => x + y))
  | .sub a b => (eval env s a).bind (fun x => (eval env s b).map (fun y => x - y))
  | .mul a b => (eval env s a).bind (fun x => (eval env s b).map (fun y => x * y))
  | .div a b => (eval env s a).bind (fun x => (eval env s b).bind (fun y => if y = 0 then none else some (x / y)))
  | .toInt a => (eval env s a).map pyInt

/-- the unweighted body of `coba.statistics.percentile` / `_percentile`: the three early returns and the assignments
`i = …; I = …; w = …` with the two returned expressions.  Names: `$p` the percentile, `%0 %1 %2` the locals in order of assignment -/
structure PctProg where
  single : PExpr
  atZero : PExpr
  atOne : PExpr
  i : PExpr
  I : PExpr
  exact : PExpr
  w : PExpr
  interp : PExpr
  deriving DecidableEq, Repr

def PctProg.run (g : PctProg) (s : List Rat) (p : Rat) : Option Rat :=
  if s.length = 1 then g.single.eval [] s
  else if p = 0 then g.atZero.eval [] s
  else if p = 1 then g.atOne.eval [] s
  else (g.i.eval [("$p", p)] s).bind (fun i => (g.I.eval [("%0", i), ("$p", p)] s).bind (fun I =>
    if i = I then g.exact.eval [("%1", I), ("%0", i), ("$p", p)] s
    else (g.w.eval [("%1", I), ("%0", i), ("$p", p)] s).bind (fun w => g.interp.eval [("%2", w), ("%1", I), ("%0", i), ("$p", p)] s)))

/-- the program the model's `percentile` is (`percentile_program`) -/
def pctProg : PctProg :=
  { single := .idx (.lit 0), atZero := .idx (.lit 0), atOne := .idx (.lit (-1)),
    i := .mul (.var "$p") (.sub .lenV (.lit 1)),
    I := .toInt (.var "%0"),
    exact := .idx (.var "%1"),
    w := .sub (.var "%0") (.var "%1"),
    interp := .add (.mul (.sub (.lit 1) (.var "%2")) (.idx (.var "%1"))) (.mul (.var "%2") (.idx (.add (.var "%1") (.lit 1)))) }

def optAll : List (Option Rat) → Option (List Rat)
  | [] => some []
  | none :: _ => none
  | some a :: l => (optAll l).map (a :: ·)

/-- the body of `coba.statistics.iqr`: `if len(values) <= thr: return small`, the percentiles asked of the sorted values, the
(normalised) names they are bound to and the returned expression -/
structure IqrProg where
  thr : Nat
  small : Rat
  ps : List Rat
  names : List String
  ret : PExpr
  deriving DecidableEq, Repr

def IqrProg.run (g : IqrProg) (xs : List Rat) : Option Rat :=
  if xs.length ≤ g.thr then some g.small
  else (optAll (g.ps.map (percentile (isort xs)))).bind (fun vs => g.ret.eval (g.names.zip vs) [])

def iqrProg : IqrProg := ⟨1, 0, [1 / 4, 3 / 4], ["%0", "%1"], .sub (.var "%1") (.var "%0")⟩

/-- `(x + shift) * scale` — the expression all three application loops of `Scale.filter` assign -/
def applyExpr : PExpr := .mul (.add (.var "x") (.var "shift")) (.var "scale")

/-- `sum(values)/len(values)` — `Impute._get_imputation` for `"mean"` -/
def meanExpr : PExpr := .div .sumV .lenV

/-! ### phase 6 — generators: partial, abandoned and interleaved reads

`Scale.filter` / `Impute.filter` are generator functions, and `envs[i].read()` chains such generators.  Calling them runs
NOTHING; the first `next` runs the body up to its first `yield` (the fitting window is read, the parameters become
LOCAL variables of that frame — nothing fitted is stored on the shared filter object, only `_times` bookkeeping);
each later `next` yields one more interaction; `close()` abandons the frame.  A history is any list of `open`, `next`,
`close` over any number of generators created from the SAME object(s).  `generator_histories` (Props) says that every
yielded interaction is the corresponding element of the result of that generator's own sequence, whatever was
opened, advanced, abandoned or re-opened in between. -/

/-- the context of one yielded interaction -/
inductive Row where
  | dense (r : List Val)
  | sparse (r : SCtx)
  | scalar (v : Val)
  deriving Repr

def Ctxs.rowList : Ctxs → List Row
  | .dense rows => rows.map .dense
  | .sparse rows => rows.map .sparse
  | .scalar rows => rows.map .scalar

/-- a generator object -/
inductive Gen where
  | fresh (src : Ctxs)          -- created; no statement of the body has run
  | running (rest : List Row)   -- suspended at a `yield`: what the frame will still yield
  | done                        -- exhausted, closed, or ended by an exception
  deriving Repr

inductive GenOp where
  | openG (src : Nat)           -- `obj.filter(seq[src])` / `envs[src].read()`: generators are numbered in order of creation
  | next (g : Nat)
  | close (g : Nat)
  deriving Repr

inductive GenOut where
  | opened
  | nosrc
  | nogen
  | item (r : Row)
  | stop                        -- StopIteration
  | raised (e : Err)
  | closed
  deriving Repr

/-- the shared filter objects of the pipeline and all generators created so far -/
structure GenSt (κ : Type) where
  objs : List (Obj κ)
  gens : List Gen

def GenSt.step {κ : Type} (f : κ → Ctxs → Except Err Ctxs) (srcs : List Ctxs) (s : GenSt κ) (dt : List Nat) :
    GenOp → GenSt κ × GenOut
  | .openG i =>
    match srcs[i]? with
    | none => (s, .nosrc)
    | some src => ({ s with gens := s.gens ++ [.fresh src] }, .opened)
  | .close g =>
    match s.gens[g]? with
    | none => (s, .nogen)
    | some _ => ({ s with gens := s.gens.set g .done }, .closed)
  | .next g =>
    match s.gens[g]? with
    | none => (s, .nogen)
    | some .done => (s, .stop)
    | some (.running []) => ({ s with gens := s.gens.set g .done }, .stop)
    | some (.running (r :: rest)) => ({ s with gens := s.gens.set g (.running rest) }, .item r)
    | some (.fresh src) =>
      let p := pipeRun f dt s.objs (.ok src)
      match p.2 with
      | .error e => ({ objs := p.1, gens := s.gens.set g .done }, .raised e)
      | .ok c =>
        match c.rowList with
        | [] => ({ objs := p.1, gens := s.gens.set g .done }, .stop)
        | r :: rest => ({ objs := p.1, gens := s.gens.set g (.running rest) }, .item r)

def GenSt.run {κ : Type} (f : κ → Ctxs → Except Err Ctxs) (srcs : List Ctxs) :
    GenSt κ → List (List Nat × GenOp) → GenSt κ × List GenOut
  | s, [] => (s, [])
  | s, (dt, op) :: rest =>
    let r1 := s.step f srcs dt op
    let r2 := GenSt.run f srcs r1.1 rest
    (r2.1, r1.2 :: r2.2)

/-- specification of a generator: a cursor into the FIXED result of its own sequence (`none` = finished) -/
structure Cur where
  src : Ctxs
  pos : Option Nat
  deriving Repr

/-- the cursor machine: `F src` is the whole result of sequence `src`; no shared state at all -/
def curStep (F : Ctxs → Except Err (List Row)) (srcs : List Ctxs) (cs : List Cur) : GenOp → List Cur × GenOut
  | .openG i =>
    match srcs[i]? with
    | none => (cs, .nosrc)
    | some src => (cs ++ [⟨src, some 0⟩], .opened)
  | .close g =>
    match cs[g]? with
    | none => (cs, .nogen)
    | some c => (cs.set g ⟨c.src, none⟩, .closed)
  | .next g =>
    match cs[g]? with
    | none => (cs, .nogen)
    | some ⟨_, none⟩ => (cs, .stop)
    | some ⟨src, some k⟩ =>
      match F src with
      -- an exception can only leave the FIRST `next` (it ends the frame); `k > 0` with an error is unreachable
      | .error e => (cs.set g ⟨src, none⟩, if k = 0 then .raised e else .stop)
      | .ok rows =>
        match rows[k]? with
        | none => (cs.set g ⟨src, none⟩, .stop)
        | some r => (cs.set g ⟨src, some (k + 1)⟩, .item r)

def curRun (F : Ctxs → Except Err (List Row)) (srcs : List Ctxs) : List Cur → List GenOp → List Cur × List GenOut
  | cs, [] => (cs, [])
  | cs, op :: rest =>
    let r1 := curStep F srcs cs op
    let r2 := curRun F srcs r1.1 rest
    (r2.1, r1.2 :: r2.2)

/-- the result list of a sequence under a pipeline of filter configurations -/
def pipeRows {κ : Type} (f : κ → Ctxs → Except Err Ctxs) (cfgs : List κ) (src : Ctxs) : Except Err (List Row) :=
  (pipe f cfgs (.ok src)).map Ctxs.rowList

/-- the generator that a cursor stands for -/
def Cur.conc (F : Ctxs → Except Err (List Row)) : Cur → Gen
  | ⟨_, none⟩ => .done
  | ⟨src, some 0⟩ => .fresh src
  | ⟨src, some (k + 1)⟩ =>
    match F src with
    | .error _ => .done
    | .ok rows => .running (rows.drop (k + 1))

end Coba.C11
