/-
C12 — What coba reads from a dataset file is what the file says.
Executable model + spec.  Import-free (core Lean only).

Text is a list of Unicode code points (`Nat`), bytes are `Nat` (< 256).

Part A  delivery: `HttpSource._byte_it_` + `DelimSource.read` (coba/pipes/sources.py)
          * UTF-8 as a byte-level automaton (`u8step`): strict whole-chunk decoding (what the
            current code does per chunk) and incremental decoding (the proposed fix) are both
            runs of this automaton,
          * `splitlines` (Python `str.splitlines`) as the spec of "the lines of a text",
          * `delimCur` = the loop of `DelimSource.read` as written, `delimFix` = the repaired loop,
          * decompression as an abstract streaming machine (`Decomp`).
Part B  `DiskSink.write` / `DiskSource.read` framing.
Part C  Python's `csv.reader` state machine, `CsvReader`, `LibsvmReader`, `ManikReader`,
        the dense line parser of `ArffLineReader`, and the canonical writers.
-/
namespace Coba.C12

/-- bytes (< 256) and code points are plain `Nat` (so that `omega` sees them) -/
abbrev Text := List Nat

inductive Err where
  | unicodeDecode     -- UnicodeDecodeError
  | unicodeEncode     -- UnicodeEncodeError (lone surrogate / out of range)
  | stopIteration     -- StopIteration escaping `next(lines)` in CsvReader.filter
  | csvError          -- _csv.Error
  | valueError        -- ValueError (LibsvmReader unpacking)
  | indexError        -- IndexError
  | cobaException     -- CobaException (ARFF column count)
  | typeError         -- TypeError
  deriving DecidableEq, Repr

/-! ## A.1 UTF-8 -/

/-- decoder state: `need` continuation bytes outstanding, accumulated value, and the admissible
range of the *next* continuation byte (this is how overlong forms, surrogates and values above
U+10FFFF are rejected, exactly as CPython's decoder does). -/
structure U8 where
  need : Nat
  acc  : Nat
  lo   : Nat
  hi   : Nat
  deriving DecidableEq, Repr

def U8.init : U8 := ⟨0, 0, 0x80, 0xBF⟩

/-- one byte through the decoder: new state and the code point completed by this byte, if any -/
def u8step (s : U8) (b : Nat) : Except Err (U8 × Option Nat) :=
  if s.need = 0 then
    if b < 0x80 then .ok (U8.init, some b)
    else if 0xC2 ≤ b ∧ b ≤ 0xDF then .ok (⟨1, b - 0xC0, 0x80, 0xBF⟩, none)
    else if b = 0xE0 then .ok (⟨2, 0, 0xA0, 0xBF⟩, none)
    else if b = 0xED then .ok (⟨2, 13, 0x80, 0x9F⟩, none)
    else if 0xE1 ≤ b ∧ b ≤ 0xEF then .ok (⟨2, b - 0xE0, 0x80, 0xBF⟩, none)
    else if b = 0xF0 then .ok (⟨3, 0, 0x90, 0xBF⟩, none)
    else if b = 0xF4 then .ok (⟨3, 4, 0x80, 0x8F⟩, none)
    else if 0xF1 ≤ b ∧ b ≤ 0xF3 then .ok (⟨3, b - 0xF0, 0x80, 0xBF⟩, none)
    else .error .unicodeDecode
  else if s.lo ≤ b ∧ b ≤ s.hi then
    let acc := s.acc * 64 + (b - 0x80)
    if s.need = 1 then .ok (U8.init, some acc) else .ok (⟨s.need - 1, acc, 0x80, 0xBF⟩, none)
  else .error .unicodeDecode

/-- run the decoder over a byte string from state `s` -/
def decodeFrom (s : U8) : List Nat → Except Err (U8 × Text)
  | [] => .ok (s, [])
  | b :: bs =>
    match u8step s b with
    | .error e => .error e
    | .ok (s1, o) =>
      match decodeFrom s1 bs with
      | .error e => .error e
      | .ok (s2, t) => .ok (s2, (match o with | some c => c :: t | none => t))

/-- the end-of-input check: a character may not be left unfinished -/
def finish (r : U8 × Text) : Except Err Text :=
  if r.1.need = 0 then .ok r.2 else .error .unicodeDecode

/-- `bytes.decode('utf-8')` (strict): the whole string at once -/
def decodeAll (bs : List Nat) : Except Err Text :=
  match decodeFrom U8.init bs with
  | .error e => .error e
  | .ok r => finish r

/-- `str.encode('utf-8')` of one code point -/
def encodeCP (c : Nat) : Except Err (List Nat) :=
  if c < 0x80 then .ok [c]
  else if c < 0x800 then .ok [0xC0 + c / 64, 0x80 + c % 64]
  else if 0xD800 ≤ c ∧ c ≤ 0xDFFF then .error .unicodeEncode
  else if c < 0x10000 then .ok [0xE0 + c / 4096, 0x80 + (c / 64) % 64, 0x80 + c % 64]
  else if c < 0x110000 then .ok [0xF0 + c / 262144, 0x80 + (c / 4096) % 64, 0x80 + (c / 64) % 64, 0x80 + c % 64]
  else .error .unicodeEncode

def encode : Text → Except Err (List Nat)
  | [] => .ok []
  | c :: t =>
    match encodeCP c with
    | .error e => .error e
    | .ok bs => match encode t with
      | .error e => .error e
      | .ok r => .ok (bs ++ r)

/-- a Unicode scalar value (what a Python `str` written to disk may contain) -/
def isScalar (c : Nat) : Bool := (c < 0xD800 || 0xDFFF < c) && c < 0x110000

/-! ## A.2 lines -/

def CR : Nat := 13
def LF : Nat := 10

/-- the line boundaries of `str.splitlines` -/
def isBreak (c : Nat) : Bool :=
  c == 10 || c == 13 || c == 11 || c == 12 || c == 0x1c || c == 0x1d || c == 0x1e ||
  c == 0x85 || c == 0x2028 || c == 0x2029

/-- state of the line splitter: the unfinished current line and "the previous character was
a carriage return" (a line feed directly after it belongs to the same boundary) -/
structure LS where
  cur : Text
  cr  : Bool
  deriving DecidableEq, Repr

def LS.init : LS := ⟨[], false⟩

/-- one character: new state and the line completed by it, if any -/
def lsStep (s : LS) (c : Nat) : LS × List Text :=
  if s.cr && c == LF then (⟨s.cur, false⟩, [])
  else if isBreak c then (⟨[], c == CR⟩, [s.cur])
  else (⟨s.cur ++ [c], false⟩, [])

def lsRun (s : LS) : Text → LS × List Text
  | [] => (s, [])
  | c :: t =>
    let r1 := lsStep s c
    let r2 := lsRun r1.1 t
    (r2.1, r1.2 ++ r2.2)

def lsFlush (s : LS) : List Text := if s.cur = [] then [] else [s.cur]

/-- SPEC: `str.splitlines()` — the lines of a text, without their terminators; `\r\n` is one
boundary; a final unterminated line counts, an empty tail does not. -/
def splitlines (t : Text) : List Text :=
  let r := lsRun LS.init t
  r.2 ++ lsFlush r.1

/-! ## A.3 `DelimSource.read` (split_lines branch) -/

/-- `lines[0] = pending + lines[0]` -/
def prependFirst (p : Text) : List Text → List Text
  | [] => []
  | l :: ls => (p ++ l) :: ls

def lastIs (t : Text) (p : Nat → Bool) : Bool :=
  match t.getLast? with
  | some c => p c
  | none => false

/-- the loop body of the current code for one non-empty `text`:
```
lines = text.splitlines()
if pending: lines[0] = pending + lines[0]; pending = None
if text[-1] not in '\r\n': pending = lines.pop()
yield from lines
```
(`if pending:` is false for `None` and for `''`; then `pending` keeps its value.) -/
def delimCurStep (pending : Option Text) (text : Text) : Option Text × List Text :=
  let lines := splitlines text
  let truthy := match pending with | some (_ :: _) => true | _ => false
  let lines1 := if truthy then prependFirst (pending.getD []) lines else lines
  let pending1 := if truthy then none else pending
  if lastIs text (fun c => c == CR || c == LF) then (pending1, lines1)
  else (lines1.getLast?, lines1.dropLast)

/-- the whole loop over the chunks (`filter(None, …)` drops empty ones) and the final
`if pending is not None: yield pending` -/
def delimCurGo (pending : Option Text) : List Text → List Text
  | [] => (match pending with | some p => [p] | none => [])
  | t :: ts =>
    if t = [] then delimCurGo pending ts
    else
      let r := delimCurStep pending t
      r.2 ++ delimCurGo r.1 ts

def delimCur (chunks : List Text) : List Text := delimCurGo none chunks

/-- state of the repaired loop -/
structure DS where
  pending : Option Text
  afterCr : Bool
  deriving DecidableEq, Repr

/-- `if after_cr and text[0] == '\n': text = text[1:]` -/
def skipLf (afterCr : Bool) (text : Text) : Text :=
  match afterCr, text with
  | true, c :: t => if c == LF then t else text
  | _, _ => text

/-- `if pending: lines[0] = pending + lines[0]` -/
def applyPending (p : Option Text) (lines : List Text) : List Text :=
  match p with
  | some q => prependFirst q lines
  | none => lines

/-- the repaired loop body (fixes/C12-delim-line-boundaries.diff):
```
if after_cr and text[0] == '\n': text = text[1:]
after_cr = False
if not text: continue
lines = text.splitlines()
if pending: lines[0] = pending + lines[0]; pending = None
if text[-1] not in LINE_BREAKS: pending = lines.pop()
after_cr = text[-1] == '\r'
yield from lines
``` -/
def delimFixStep (s : DS) (text0 : Text) : DS × List Text :=
  let text := skipLf s.afterCr text0
  if text = [] then (⟨s.pending, false⟩, [])
  else
    let lines := splitlines text
    let lines1 := applyPending s.pending lines
    if lastIs text isBreak then (⟨none, lastIs text (· == CR)⟩, lines1)
    else (⟨lines1.getLast?, false⟩, lines1.dropLast)

def delimFixGo (s : DS) : List Text → List Text
  | [] => (match s.pending with | some p => [p] | none => [])
  | t :: ts =>
    if t = [] then delimFixGo s ts
    else
      let r := delimFixStep s t
      r.2 ++ delimFixGo r.1 ts

def delimFix (chunks : List Text) : List Text := delimFixGo ⟨none, false⟩ chunks

/-- hypothesis under which the *current* loop is right: no chunk ends in one of the line
boundaries other than `\r`/`\n`, and no `\r\n` pair is cut in the middle -/
def goodCutsGo (afterCr : Bool) : List Text → Bool
  | [] => true
  | t :: ts =>
    if t = [] then goodCutsGo afterCr ts
    else !(afterCr && t.head? == some LF) &&
         !(lastIs t (fun c => isBreak c && !(c == CR || c == LF))) &&
         goodCutsGo (lastIs t (· == CR)) ts

def goodCuts (ts : List Text) : Bool := goodCutsGo false ts

/-! ## A.4 decompression and the byte pipeline of `_byte_it_` -/

/-- a streaming decompressor (`zlib.decompressobj().decompress`): fed the compressed stream in
pieces it returns the plain stream in pieces.  Only this interface is assumed; `Lawful` says that
the concatenated output does not depend on how the input was cut (trusted: zlib). -/
structure Decomp (σ : Type) where
  init : σ
  step : σ → List Nat → σ × List Nat

def Decomp.Lawful {σ} (D : Decomp σ) : Prop :=
  (∀ s, D.step s [] = (s, [])) ∧
  ∀ s a b, D.step s (a ++ b) = ((D.step (D.step s a).1 b).1, (D.step s a).2 ++ (D.step (D.step s a).1 b).2)

/-- the whole compressed string at once -/
def Decomp.all {σ} (D : Decomp σ) (bs : List Nat) : List Nat := (D.step D.init bs).2

/-- `lambda x: x` -/
def Decomp.identity : Decomp Unit := ⟨(), fun _ bs => ((), bs)⟩

def decompChunks {σ} (D : Decomp σ) (s : σ) : List (List Nat) → List (List Nat)
  | [] => []
  | c :: cs => let r := D.step s c; r.2 :: decompChunks D r.1 cs

/-- current code: every decompressed chunk is decoded on its own, strictly -/
def decodeChunksCur : List (List Nat) → Except Err (List Text)
  | [] => .ok []
  | c :: cs =>
    match decodeAll c with
    | .error e => .error e
    | .ok t => match decodeChunksCur cs with
      | .error e => .error e
      | .ok ts => .ok (t :: ts)

/-- repaired code: one incremental decoder across the chunks, `final=True` at the end -/
def decodeChunksFix (s : U8) : List (List Nat) → Except Err (List Text)
  | [] => if s.need = 0 then .ok [] else .error .unicodeDecode
  | c :: cs =>
    match decodeFrom s c with
    | .error e => .error e
    | .ok (s1, t) => match decodeChunksFix s1 cs with
      | .error e => .error e
      | .ok ts => .ok (t :: ts)

/-- `list(HttpSource._byte_it_(encoding,'utf-8',chunk,bites))` as written, for the compressed
stream cut into `cs` -/
def readCur {σ} (D : Decomp σ) (cs : List (List Nat)) : Except Err (List Text) :=
  match decodeChunksCur (decompChunks D D.init cs) with
  | .error e => .error e
  | .ok ts => .ok (delimCur ts)

/-- the same with both repairs -/
def readFix {σ} (D : Decomp σ) (cs : List (List Nat)) : Except Err (List Text) :=
  match decodeChunksFix U8.init (decompChunks D D.init cs) with
  | .error e => .error e
  | .ok ts => .ok (delimFix ts)

/-- SPEC of delivery independence: the lines of the whole text -/
def readWhole {σ} (D : Decomp σ) (bs : List Nat) : Except Err (List Text) :=
  match decodeAll (D.all bs) with
  | .error e => .error e
  | .ok t => .ok (splitlines t)

/-- `b.read(size)` repeatedly: cut into pieces of `size` (the last one may be shorter) -/
def chunksOf (size : Nat) (bs : List Nat) : List (List Nat) :=
  if size = 0 then [bs] else go size bs.length bs
where
  go (size : Nat) : Nat → List Nat → List (List Nat)
    | 0, _ => []
    | fuel + 1, bs => if bs = [] then [] else bs.take size :: go size fuel (bs.drop size)

/-! ## B. DiskSink / DiskSource -/

/-- `DiskSink._get_batch`/`_unfinished`: with `batch = none` one batch holds everything; with
`batch = some n` batches of `n` lines are taken while the last one was full (so a multiple of
`n` lines ends with an empty batch, which for `.gz` is an empty gzip member). -/
def batches (batch : Option Nat) (lines : List Text) : List (List Text) :=
  match batch with
  | none => [lines]
  | some 0 => [lines]
  | some n => go n (lines.length + 1) lines
where
  go (n : Nat) : Nat → List Text → List (List Text)
    | 0, _ => []
    | fuel + 1, ls =>
      let b := ls.take n
      if b.length = n then b :: go n fuel (ls.drop n) else [b]

/-- bytes written for one batch: `(line + '\n').encode('utf-8')` per line -/
def encodeLines : List Text → Except Err (List Nat)
  | [] => .ok []
  | l :: ls =>
    match encode (l ++ [LF]) with
    | .error e => .error e
    | .ok bs => match encodeLines ls with
      | .error e => .error e
      | .ok r => .ok (bs ++ r)

/-- the byte content of each batch (for a plain file they are appended; for `.gz` each batch is
one gzip member) -/
def diskWriteParts (batch : Option Nat) (lines : List Text) : Except Err (List (List Nat)) :=
  go (batches batch lines)
where
  go : List (List Text) → Except Err (List (List Nat))
    | [] => .ok []
    | b :: bs => match encodeLines b with
      | .error e => .error e
      | .ok x => match go bs with
        | .error e => .error e
        | .ok r => .ok (x :: r)

/-- text-mode reading with `newline=None`: `\r\n` and lone `\r` become `\n` -/
def universalNlGo (afterCr : Bool) : Text → Text
  | [] => []
  | c :: t =>
    if afterCr && c == LF then universalNlGo false t
    else if c == CR then LF :: universalNlGo true t
    else c :: universalNlGo false t

def universalNl (t : Text) : Text := universalNlGo false t

/-- `f.readline()` until `''`: pieces ending in `\n`, plus an unterminated tail -/
def readlinesGo (cur : Text) : Text → List Text
  | [] => if cur = [] then [] else [cur]
  | c :: t => if c == LF then (cur ++ [c]) :: readlinesGo [] t else readlinesGo (cur ++ [c]) t

/-- `line.rstrip('\r\n')` -/
def rstripNl (t : Text) : Text :=
  (t.reverse.dropWhile (fun c => c == CR || c == LF)).reverse

/-- `list(DiskSource(path).read())` on the plain byte content -/
def diskRead (bs : List Nat) : Except Err (List Text) :=
  match decodeAll bs with
  | .error e => .error e
  | .ok t => .ok ((readlinesGo [] (universalNl t)).map rstripNl)

/-- lines that can be framed by a line terminator: none inside -/
def noNl (l : Text) : Bool := l.all (fun c => !(c == CR || c == LF))


/-! ## C.1 Python's `csv.reader` (Modules/_csv.c, `parse_process_char`; strict=False, QUOTE_MINIMAL) -/

inductive CsvSt where
  | startRecord | startField | escapedChar | inField | inQuoted | escInQuoted | quoteInQuoted
  | eatCrnl | afterEscCrnl
  deriving DecidableEq, Repr

structure Dialect where
  delim : Nat
  quote : Option Nat
  esc : Option Nat
  doublequote : Bool
  skipInit : Bool
  deriving DecidableEq, Repr

/-- reader state: automaton state, the field buffer, the fields of the record so far -/
structure CsvR where
  st : CsvSt
  field : Text
  fields : List Text
  deriving DecidableEq, Repr

def CsvR.reset : CsvR := ⟨.startRecord, [], []⟩

def isNl (c : Nat) : Bool := c == 10 || c == 13

/-- `parse_save_field` then go to `st` -/
def saveField (r : CsvR) (st : CsvSt) : CsvR := ⟨st, [], r.fields ++ [r.field]⟩
/-- `parse_add_char` then go to `st` -/
def addChar (r : CsvR) (c : Nat) (st : CsvSt) : CsvR := ⟨st, r.field ++ [c], r.fields⟩
def goto (r : CsvR) (st : CsvSt) : CsvR := ⟨st, r.field, r.fields⟩

/-- `case START_FIELD` (also reached by fall-through from START_RECORD); `none` is the EOL
pseudo character fed after each line -/
def csvStartField (d : Dialect) (r : CsvR) : Option Nat → CsvR
  | none => saveField r .startRecord
  | some c =>
    if isNl c then saveField r .eatCrnl
    else if d.quote = some c then goto r .inQuoted
    else if d.esc = some c then goto r .escapedChar
    else if c = 32 ∧ d.skipInit = true then goto r .startField
    else if c = d.delim then saveField r .startField
    else addChar r c .inField

/-- `case IN_FIELD` -/
def csvInField (d : Dialect) (r : CsvR) : Option Nat → CsvR
  | none => saveField r .startRecord
  | some c =>
    if isNl c then saveField r .eatCrnl
    else if d.esc = some c then goto r .escapedChar
    else if c = d.delim then saveField r .startField
    else addChar r c .inField

def csvChar (d : Dialect) (r : CsvR) (c : Option Nat) : Except Err CsvR :=
  match r.st with
  | .startRecord =>
    match c with
    | none => .ok r
    | some ch => if isNl ch then .ok (goto r .eatCrnl) else .ok (csvStartField d r c)
  | .startField => .ok (csvStartField d r c)
  | .escapedChar =>
    match c with
    | none => .ok (addChar r 10 .inField)
    | some ch => if isNl ch then .ok (addChar r ch .afterEscCrnl) else .ok (addChar r ch .inField)
  | .afterEscCrnl =>
    match c with
    | none => .ok r
    | some _ => .ok (csvInField d r c)
  | .inField => .ok (csvInField d r c)
  | .inQuoted =>
    match c with
    | none => .ok r
    | some ch =>
      if d.esc = some ch then .ok (goto r .escInQuoted)
      else if d.quote = some ch then .ok (goto r (if d.doublequote then .quoteInQuoted else .inField))
      else .ok (addChar r ch .inQuoted)
  | .escInQuoted => .ok (addChar r (c.getD 10) .inQuoted)
  | .quoteInQuoted =>
    match c with
    | none => .ok (saveField r .startRecord)
    | some ch =>
      if d.quote = some ch then .ok (addChar r ch .inQuoted)
      else if ch = d.delim then .ok (saveField r .startField)
      else if isNl ch then .ok (saveField r .eatCrnl)
      else .ok (addChar r ch .inField)
  | .eatCrnl =>
    match c with
    | none => .ok (goto r .startRecord)
    | some ch => if isNl ch then .ok r else .error .csvError

/-- the characters of (part of) a line -/
def csvFeed (d : Dialect) (r : CsvR) : Text → Except Err CsvR
  | [] => .ok r
  | c :: t => match csvChar d r (some c) with
    | .error e => .error e
    | .ok r1 => csvFeed d r1 t

/-- one line from the input iterator: its characters, then EOL -/
def csvLine (d : Dialect) (r : CsvR) (l : Text) : Except Err CsvR :=
  match csvFeed d r l with
  | .error e => .error e
  | .ok r1 => csvChar d r1 none

/-- `list(csv.reader(lines, **dialect))`: a record ends when the state is START_RECORD after a
line; at the end of the input an unfinished record is returned if it has a non-empty field
buffer or is inside quotes -/
def csvRecords (d : Dialect) (r : CsvR) : List Text → Except Err (List (List Text))
  | [] => if r.field ≠ [] ∨ r.st = .inQuoted then .ok [r.fields ++ [r.field]] else .ok []
  | l :: ls =>
    match csvLine d r l with
    | .error e => .error e
    | .ok r1 =>
      if r1.st = .startRecord then
        match csvRecords d CsvR.reset ls with
        | .error e => .error e
        | .ok rs => .ok (r1.fields :: rs)
      else csvRecords d r1 ls

/-- Python `str.isspace` / the characters `str.strip()` removes -/
def isPySpace (c : Nat) : Bool :=
  (9 ≤ c && c ≤ 13) || (28 ≤ c && c ≤ 32) || c == 133 || c == 160 || c == 5760 ||
  (8192 ≤ c && c ≤ 8202) || c == 8232 || c == 8233 || c == 8239 || c == 8287 || c == 12288

def strip (t : Text) : Text := ((t.dropWhile isPySpace).reverse.dropWhile isPySpace).reverse

/-- coba's default csv dialect (`csv.excel`) with a chosen delimiter -/
def excel (delim : Nat) : Dialect := ⟨delim, some 34, none, true, false⟩

/-- `CsvReader(has_header, **dialect).filter(lines)` as written: lines are stripped, empty ones
dropped, the first record is taken with `next` (StopIteration when there is none) -/
def csvReaderCur (d : Dialect) (hasHeader : Bool) (lines : List Text) :
    Except Err (Option (List Text) × List (List Text)) :=
  match csvRecords d CsvR.reset ((lines.map strip).filter (· ≠ [])) with
  | .error e => .error e
  | .ok [] => .error .stopIteration
  | .ok (first :: rest) => if hasHeader then .ok (some first, rest) else .ok (none, first :: rest)

/-- repaired (fixes/C12-csv-strip.diff, C12-csv-empty.diff): only line terminators are removed,
an input without records gives no rows -/
def csvReaderFix (d : Dialect) (hasHeader : Bool) (lines : List Text) :
    Except Err (Option (List Text) × List (List Text)) :=
  match csvRecords d CsvR.reset ((lines.map rstripNl).filter (· ≠ [])) with
  | .error e => .error e
  | .ok [] => .ok (none, [])
  | .ok (first :: rest) => if hasHeader then .ok (some first, rest) else .ok (none, first :: rest)

/-! ### RFC 4180 writer (spec side) -/

def DQ : Nat := 34

def csvEscape : Text → Text
  | [] => []
  | c :: t => if c = DQ then DQ :: DQ :: csvEscape t else c :: csvEscape t

/-- a field must be quoted when it holds the delimiter, a quote or a line break -/
def mustQuote (delim : Nat) (f : Text) : Bool := f.any (fun c => c == delim || c == DQ || isNl c)

/-- a field as written: quoted (writer's choice `q`, forced when `mustQuote`) or bare -/
def csvWriteField (delim : Nat) (x : Bool × Text) : Text :=
  if x.1 || mustQuote delim x.2 then DQ :: (csvEscape x.2 ++ [DQ]) else x.2

def csvWriteRow (delim : Nat) : List (Bool × Text) → Text
  | [] => []
  | [x] => csvWriteField delim x
  | x :: y :: xs => csvWriteField delim x ++ delim :: csvWriteRow delim (y :: xs)

/-- what an RFC 4180 writer may be asked to write as one record on one line: at least one field,
no line breaks inside fields (they cannot travel in a line), a lone empty field is quoted -/
def csvRowOk (row : List (Bool × Text)) : Bool :=
  row ≠ [] && row.all (fun x => x.2.all (fun c => !isNl c)) &&
  (match row with | [x] => x.2 ≠ [] || x.1 | _ => true)

/-! ## C.2 LibSVM / Manik -/

def splitOnGo (sep : Nat) (cur : Text) : Text → List Text
  | [] => [cur]
  | c :: t => if c = sep then cur :: splitOnGo sep [] t else splitOnGo sep (cur ++ [c]) t

/-- `s.split(sep)` for a one-character separator -/
def splitOn (sep : Nat) (t : Text) : List Text := splitOnGo sep [] t

structure SvmRow where
  labels : List Text
  feats : List (Text × Text)
  deriving DecidableEq, Repr

def SP : Nat := 32
def COLON : Nat := 58
def COMMA : Nat := 44

/-- `k,v = i.split(":")` for each item (ValueError unless exactly two pieces) -/
def svmFeats : List Text → Except Err (List (Text × Text))
  | [] => .ok []
  | i :: is =>
    match splitOn COLON i with
    | [k, v] => (match svmFeats is with | .error e => .error e | .ok r => .ok ((k, v) :: r))
    | _ => .error .valueError

/-- one non-empty line of `LibsvmReader.filter`; `none` = the line is skipped (no label) -/
def svmLine (line : Text) : Except Err (Option SvmRow) :=
  match splitOn SP (strip line) with
  | [] => .ok none
  | first :: items =>
    if first = [] ∨ COLON ∈ first then .ok none
    else match svmFeats items with
      | .error e => .error e
      | .ok fs => .ok (some ⟨splitOn COMMA first, fs⟩)

def libsvmRead : List Text → Except Err (List SvmRow)
  | [] => .ok []
  | l :: ls =>
    if l = [] then libsvmRead ls
    else match svmLine l with
      | .error e => .error e
      | .ok o => match libsvmRead ls with
        | .error e => .error e
        | .ok rs => .ok (match o with | some r => r :: rs | none => rs)

/-- `ManikReader`: the first line is metadata -/
def manikRead (lines : List Text) : Except Err (List SvmRow) := libsvmRead (lines.drop 1)

def joinWith (sep : Nat) : List Text → Text
  | [] => []
  | [x] => x
  | x :: y :: xs => x ++ sep :: joinWith sep (y :: xs)

def svmWriteFeats : List (Text × Text) → Text
  | [] => []
  | (k, v) :: fs => SP :: (k ++ COLON :: v) ++ svmWriteFeats fs

/-- `label1,label2 k:v k:v …` -/
def svmWriteRow (r : SvmRow) : Text := joinWith COMMA r.labels ++ svmWriteFeats r.feats

def tokenOk (bad : List Nat) (t : Text) : Bool := t.all (fun c => !isPySpace c && !bad.contains c)

/-- rows a LibSVM writer produces: at least one label, the label group not empty, tokens without
white space, labels without `,`/`:`, indices and values without `:` -/
def svmRowOk (r : SvmRow) : Bool :=
  r.labels ≠ [] && joinWith COMMA r.labels ≠ [] &&
  r.labels.all (tokenOk [COMMA, COLON]) &&
  r.feats.all (fun kv => tokenOk [COLON] kv.1 && tokenOk [COLON] kv.2)


/-! ## C.3 ARFF dense data lines: `ArffLineReader._dense` / `_dense_simple` (coba/pipes/readers.py)

The fallback parser `_dense_advanced` is in D.4 (here `Err.cobaException` stands for "left the
simple path": the harness compares `arffLines` only on lines the model parses on the simple path). -/

def SQ : Nat := 39
def BS : Nat := 92
def TAB : Nat := 9

/-- the csv dialect ArffLineReader uses: `skipinitialspace=True, escapechar='\\', doublequote=False`,
the delimiter and quote character it has settled on (csv's default `"` while none was seen) -/
def arffDialect (delim : Nat) (qc : Option Nat) : Dialect := ⟨delim, some (qc.getD DQ), some BS, false, true⟩

/-- `next(csv.reader([line], **dialect))` -/
def csvFirst (d : Dialect) (line : Text) : Except Err (List Text) :=
  match csvRecords d CsvR.reset [line] with
  | .error e => .error e
  | .ok [] => .error .stopIteration
  | .ok (r :: _) => .ok r

/-- state of an ArffLineReader for dense data -/
structure ALR where
  started : Bool          -- `_dense` (first line) has run
  advanced : Bool         -- the reader has switched to `_dense_advanced`
  qc : Option Nat         -- `self._quotechar`
  delim : Nat
  deriving DecidableEq, Repr

def ALR.init : ALR := ⟨false, false, none, COMMA⟩

/-- the quote-character bookkeeping of `_dense_simple` (the second test reads the local `quotechar`
as the first test left it — since the repair of C13-F13 the first branch updates the local too).
`none` = switch to the fallback parser. -/
def simpleQuote (qc : Option Nat) (line : Text) : Option (Option Nat) :=
  let hasDq := line.contains DQ
  let hasSq := line.contains SQ
  let afterDq : Option (Option Nat) :=
    if hasDq then (if qc = some DQ then some qc else if qc = none then some (some DQ) else none) else some qc
  match afterDq with
  | none => none
  | some q1 =>
    if hasSq then (if q1 = some SQ then some q1 else if q1 = none then some (some SQ) else none) else some q1

/-- `_dense_simple` -/
def arffSimple (n : Nat) (s : ALR) (line : Text) : Except Err (ALR × List Text) :=
  match simpleQuote s.qc line with
  | none => .error .cobaException            -- fallback parser: D.4
  | some qc1 =>
    match csvFirst (arffDialect s.delim qc1) line with
    | .error e => .error e
    | .ok r => if r.length = n then .ok ({ s with qc := qc1 }, r) else .error .cobaException

/-- `_dense` (first data line): choose quote character and delimiter, then parse -/
def arffFirst (n : Nat) (line : Text) : Except Err (ALR × List Text) :=
  let hasDq := line.contains DQ
  let hasSq := line.contains SQ
  if hasDq && hasSq then .error .cobaException          -- fallback parser: D.4
  else
    let qc : Option Nat := if hasDq then some DQ else if hasSq then some SQ else none
    match csvFirst (arffDialect COMMA qc) line with
    | .error e => .error e
    | .ok r =>
      if r.length = n then arffSimple n ⟨true, false, qc, COMMA⟩ line
      else match csvFirst (arffDialect TAB qc) line with
        | .error e => .error e
        | .ok r2 => if r2.length = n then arffSimple n ⟨true, false, qc, TAB⟩ line else .error .cobaException

def arffLineStep (n : Nat) (s : ALR) (line : Text) : Except Err (ALR × List Text) :=
  if s.started then arffSimple n s line else arffFirst n line

/-- all data lines of a dense file through one ArffLineReader -/
def arffLines (n : Nat) (s : ALR) : List Text → Except Err (List (List Text))
  | [] => .ok []
  | l :: ls =>
    match arffLineStep n s l with
    | .error e => .error e
    | .ok (s1, r) => match arffLines n s1 ls with
      | .error e => .error e
      | .ok rs => .ok (r :: rs)

/-! ### the Weka / OpenML writer for dense data (spec side) -/

/-- backslash-escape: the quote character and the backslash always, other characters at the
writer's discretion (`also`; Weka escapes `"` `'` `%`, liac-arff only quotes and backslash) -/
def arffEscape (q : Nat) (also : Nat → Bool) : Text → Text
  | [] => []
  | c :: t => if c = q ∨ c = BS ∨ also c = true then BS :: c :: arffEscape q also t else c :: arffEscape q also t

/-- a value may be written bare when it holds no delimiter, quote characters, backslash, line
break, does not start with a blank (blanks after a delimiter are skipped) -/
def bareOk (v : Text) : Bool :=
  v.all (fun c => !(c == COMMA || c == SQ || c == DQ || c == BS || isNl c)) &&
  (match v with | c :: _ => c != 32 | [] => true)

/-- one value as written: quoted with `q` (writer's choice, forced unless `bareOk`) or bare -/
def arffWriteTok (q : Nat) (also : Nat → Bool) (x : Bool × Text) : Text :=
  if x.1 || !bareOk x.2 then q :: (arffEscape q also x.2 ++ [q]) else x.2

/-- a row: values separated by a comma and `pad` blanks -/
def arffWriteRow (q : Nat) (also : Nat → Bool) (pad : Nat) : List (Bool × Text) → Text
  | [] => []
  | [x] => arffWriteTok q also x
  | x :: y :: xs => arffWriteTok q also x ++ COMMA :: (List.replicate pad 32 ++ arffWriteRow q also pad (y :: xs))

/-- hypotheses on a row: at least one value, a lone empty value is quoted, and the *other* quote
character occurs in no value (it would be written escaped and send coba to its fallback parser) -/
def arffRowOk (q : Nat) (row : List (Bool × Text)) : Bool :=
  row ≠ [] && row.all (fun x => x.2.all (fun c => !(isNl c) && !((c == SQ || c == DQ) && c != q))) &&
  (match row with | [x] => x.2 ≠ [] || x.1 | _ => true)


/-! ## D. the whole ARFF reader: attribute header, data section, rows (coba/pipes/readers.py)

`ArffReader.filter` = strip/drop blank lines, split at `@data`, `ArffAttrReader` on the
`@attr…` lines, detect dense/sparse on the first non-comment data line, `ArffDataReader`
(comment lines, `missing` flag), `ArffLineReader` per line, encoders applied by
`LazyDense`/`LazySparse` when the row is materialised. -/

def lstrip (t : Text) : Text := t.dropWhile isPySpace
def rstrip (t : Text) : Text := (t.reverse.dropWhile isPySpace).reverse

/-- `str.lower()` on the ASCII range (the keywords and type names are ASCII; other characters
are left alone — CPython's full Unicode lowering is not modelled) -/
def lowerAscii (t : Text) : Text := t.map (fun c => if 65 ≤ c ∧ c ≤ 90 then c + 32 else c)

def isQuoteCh (c : Nat) : Bool := c == DQ || c == SQ

/-! ### D.1 `ArffAttrReader._split` -/

/-- `re.compile("(\s+)").split(line)`: text pieces and the white-space runs between them, alternating -/
def splitWsGo (cur : Text) (inWs : Bool) : Text → List Text
  | [] => [cur]
  | c :: t =>
    if isPySpace c then
      (if inWs then splitWsGo (cur ++ [c]) true t else cur :: splitWsGo [c] true t)
    else
      (if inWs then cur :: splitWsGo [c] false t else splitWsGo (cur ++ [c]) false t)

def splitWs (t : Text) : List Text := splitWsGo [] false t

/-- `re.compile("(,)").split(line)`: text pieces and the commas between them -/
def splitCommaGo (cur : Text) : Text → List Text
  | [] => [cur]
  | c :: t => if c = COMMA then cur :: [COMMA] :: splitCommaGo [] t else splitCommaGo (cur ++ [c]) t

def splitComma (t : Text) : List Text := splitCommaGo [] t

/-- which of the two patterns `_split` was called with -/
inductive Pat where | ws | comma
  deriving DecidableEq, Repr

def Pat.pieces : Pat → Text → List Text
  | .ws, t => splitWs t
  | .comma, t => splitComma t

/-- `pattern.match(item)` (at the start of the item) -/
def Pat.matchStart : Pat → Text → Bool
  | .ws, t => (match t with | c :: _ => isPySpace c | [] => false)
  | .comma, t => (match t with | c :: _ => c == COMMA | [] => false)

inductive Settle where
  | more                 -- the `while` condition holds: `item += next(items)`
  | done (v : Text)      -- the item is complete: this is what is yielded
  | indexError           -- `item.rstrip()[-2]` on a one-character string
  deriving DecidableEq, Repr

/-- the `while item.rstrip()[-1] != q or item.rstrip()[-2]=="\\"` test for a quoted item and,
when it ends, `item.strip().rstrip()[1:-1].replace("\\",'')` -/
def settle (item : Text) : Settle :=
  let r := rstrip item
  match item.head?, r.getLast? with
  | some q, some l =>
    if l ≠ q then .more
    else if r.length < 2 then .indexError
    else if r.dropLast.getLast? = some BS then .more
    else .done ((r.tail.dropLast).filter (· != BS))
  | _, _ => .more

/-- the generator `_split(line, pattern, n)` as a machine that consumes one piece per step;
`acc = some item` while a quoted item is being glued together.  Running out of pieces is the
swallowed `StopIteration`: the generator just ends. -/
def splitLoop (P : Pat) (n : Option Nat) : Nat → Option Text → List Text → Except Err (List Text)
  | _, _, [] => .ok []
  | count, none, p :: ps =>
    let item := lstrip p
    if item = [] ∨ P.matchStart item = true then splitLoop P n count none ps
    else if n = some (count + 1) then .ok [strip (item ++ ps.flatten)]
    else if (match item with | c :: _ => isQuoteCh c | [] => false) then
      match settle item with
      | .more => splitLoop P n (count + 1) (some item) ps
      | .indexError => .error .indexError
      | .done v => (match splitLoop P n (count + 1) none ps with | .error e => .error e | .ok r => .ok (v :: r))
    else
      match splitLoop P n (count + 1) none ps with
      | .error e => .error e
      | .ok r => .ok (strip item :: r)
  | count, some item, p :: ps =>
    let item1 := item ++ p
    match settle item1 with
    | .more => splitLoop P n count (some item1) ps
    | .indexError => .error .indexError
    | .done v => (match splitLoop P n count none ps with | .error e => .error e | .ok r => .ok (v :: r))

def arffSplit (P : Pat) (n : Option Nat) (line : Text) : Except Err (List Text) :=
  splitLoop P n 0 none (P.pieces line)

/-! ### D.2 encoders -/

/-- what `_encoder` returns -/
inductive Enc where
  | numeric                       -- `float`
  | str                           -- `lambda x: None if x == "?" else x`
  | nominal (levels : List Text)  -- `CategoricalDict(...).__getitem__`, the levels in `Categorical.levels` order
  deriving DecidableEq, Repr

/-- a parsed cell -/
inductive Cell where
  | missing
  | num (tok : Text)              -- `float(tok)` (the conversion itself is CPython's)
  | str (s : Text)
  | cat (s : Text) (levels : List Text)
  deriving DecidableEq, Repr

def textLe : Text → Text → Bool
  | [], _ => true
  | _ :: _, [] => false
  | a :: s, b :: t => a < b || (a == b && textLe s t)

def insertSorted (x : Text) : List Text → List Text
  | [] => [x]
  | y :: ys => if textLe x y then x :: y :: ys else y :: insertSorted x ys

def dedup : List Text → List Text
  | [] => []
  | x :: xs => if xs.contains x then dedup xs else x :: dedup xs

/-- `sorted(set(values))` -/
def sortedSet (vs : List Text) : List Text := (dedup vs).foldr insertSorted []

/-- `CategoricalEncoder(values)`: the level order is the given one unless a value repeats, then
`sorted(set(values))`; no values at all → `CategoricalDict(None)` raises TypeError -/
def catLevels (vs : List Text) : Except Err (List Text) :=
  if vs = [] then .error .typeError
  else if (dedup vs).length ≠ vs.length then .ok (sortedSet vs) else .ok vs

def startsWith (p t : Text) : Bool := t.take p.length == p

def kwNumeric : List Text := [[110,117,109,101,114,105,99], [105,110,116,101,103,101,114], [114,101,97,108]]
def kwString : List Text := [[115,116,114,105,110,103], [100,97,116,101], [114,101,108,97,116,105,111,110,97,108]]
def LBRACE : Nat := 123
def RBRACE : Nat := 125
def PCT : Nat := 37
def QM : Nat := 63
def ZERO : Text := [48]

/-- `ArffAttrReader._encoder(encoding)` -/
def arffEncoder (isDense : Bool) (encoding : Text) : Except Err Enc :=
  let low := lowerAscii encoding
  if kwNumeric.contains low then .ok .numeric
  else if kwString.any (fun k => startsWith k low) then .ok .str
  else if encoding.head? = some LBRACE then
    match arffSplit .comma none encoding.tail.dropLast with
    | .error e => .error e
    | .ok cats =>
      match catLevels (if isDense then cats else ZERO :: cats) with
      | .error e => .error e
      | .ok lv => .ok (.nominal lv)
  else .error .cobaException

def kwAttribute : Text := [64,97,116,116,114,105,98,117,116,101]
def kwAttr : Text := [64,97,116,116,114]
def kwData : Text := [64,100,97,116,97]

/-- `ArffAttrReader.filter(lines)`: `header, encoding = tuple(_split(line[11:], r_space, n=2))`
(ValueError unless exactly two), duplicate names rejected -/
def arffAttrs (isDense : Bool) (seen : List Text) : List Text → Except Err (List (Text × Enc))
  | [] => .ok []
  | line :: ls =>
    if lowerAscii (line.take 10) = kwAttribute then
      match arffSplit .ws (some 2) (line.drop 11) with
      | .error e => .error e
      | .ok [header, encoding] =>
        if seen.contains header then .error .cobaException
        else match arffEncoder isDense encoding with
          | .error e => .error e
          | .ok enc => match arffAttrs isDense (header :: seen) ls with
            | .error e => .error e
            | .ok r => .ok ((header, enc) :: r)
      | .ok _ => .error .valueError
    else arffAttrs isDense seen ls

/-! ### D.3 data section -/

def hasSub (p t : Text) : Bool :=
  match t with
  | [] => p.isEmpty
  | _ :: t' => startsWith p t || hasSub p t'

/-- `line.translate(_trans)`: blanks, tab, newline, CR, VT, FF removed -/
def compact (t : Text) : Text := t.filter (fun c => !(c == 32 || c == 9 || c == 10 || c == 13 || c == 11 || c == 12))

def endsWith (p t : Text) : Bool := startsWith p.reverse t.reverse

/-- `ArffDataReader._dense`: the `missing` flag of a line (repaired: `compact == '?'`) -/
def denseMissing (line : Text) : Bool :=
  if !line.contains QM then false
  else if line.take 2 = [QM, COMMA] then true
  else if endsWith [COMMA, QM] line then true
  else
    let c := compact line
    c = [QM] || c.take 2 = [QM, COMMA] || hasSub [COMMA, QM, COMMA] c || endsWith [COMMA, QM] c

/-- `ArffDataReader._sparse` -/
def sparseMissing (line : Text) : Bool := hasSub [32, QM, COMMA] line || endsWith [32, QM, RBRACE] line

/-- the white-space / comma tokenizer of `_sparse`: `re.split('\s*,\s*|\s+', text)`.
state 0 = in a token, 1 = in a separator (white space only so far), 2 = in a separator after its comma -/
def sparseSplitGo (cur : Text) : Nat → Text → List Text
  | st, [] => if st = 0 then [cur] else [[]]
  | st, c :: t =>
    if isPySpace c then (if st = 0 then cur :: sparseSplitGo [] 1 t else sparseSplitGo [] st t)
    else if c = COMMA then
      (if st = 0 then cur :: sparseSplitGo [] 2 t else if st = 1 then sparseSplitGo [] 2 t else [] :: sparseSplitGo [] 2 t)
    else (if st = 0 then sparseSplitGo (cur ++ [c]) 0 t else sparseSplitGo [c] 0 t)

def sparseSplit (t : Text) : List Text := sparseSplitGo [] 0 t

/-- `line.strip("} {")` -/
def stripBraces (t : Text) : Text :=
  let p := fun c => c == RBRACE || c == 32 || c == LBRACE
  ((t.dropWhile p).reverse.dropWhile p).reverse

def isDigit (c : Nat) : Bool := 48 ≤ c && c ≤ 57

/-- `int(tok)` for ASCII decimal literals with optional sign and surrounding white space
(underscores and non-ASCII digits, which CPython also accepts, are not modelled) -/
def parseInt (tok : Text) : Option Int :=
  let t := strip tok
  let neg := t.head? = some 45
  let ds := if t.head? = some 45 ∨ t.head? = some 43 then t.tail else t
  if ds = [] ∨ !ds.all isDigit then none
  else
    let v : Nat := ds.foldl (fun a c => a * 10 + (c - 48)) 0
    some (if neg then -(v : Int) else (v : Int))

def evens : List Text → List Text
  | [] => []
  | [x] => [x]
  | x :: _ :: r => x :: evens r

def odds : List Text → List Text
  | [] => []
  | [_] => []
  | _ :: y :: r => y :: odds r

def parseKeys : List Text → Except Err (List Int)
  | [] => .ok []
  | k :: ks => match parseInt k with
    | none => .error .valueError
    | some i => match parseKeys ks with
      | .error e => .error e
      | .ok r => .ok (i :: r)

/-- `dict(zip(keys, vals))`: insertion order of first occurrence, the last value wins -/
def dictOf : List (Int × Text) → List (Int × Text)
  | [] => []
  | (k, v) :: r =>
    let d := dictOf r
    match d.find? (·.1 = k) with
    | some kv => (k, kv.2) :: d.filter (·.1 ≠ k)
    | none => (k, v) :: d

/-- `ArffLineReader._sparse(line)` -/
def arffSparseLine (n : Nat) (line : Text) : Except Err (List (Int × Text)) :=
  let kv := sparseSplit (stripBraces line)
  if kv = [[]] then .ok []
  else match parseKeys (evens kv) with
    | .error e => .error e
    | .ok keys =>
      let d := dictOf (keys.zip (odds kv))
      if d.any (fun p => p.1 < 0 || (n : Int) ≤ p.1) then .error .cobaException else .ok d

/-! ### D.4 `_dense_advanced` (the fallback parser) and the complete dense line reader -/

def splitOnList (sep : Nat) (t : Text) : List Text := splitOn sep t

/-- the `while d_line:` loop; `acc = some item` while a quoted item is being glued (with `","`) -/
def advLoop : Option Text → List Text → Except Err (List Text)
  | none, [] => .ok []
  | some _, [] => .error .indexError                -- `pop from an empty deque`
  | none, p :: ps =>
    let item := lstrip p
    match item with
    | [] => .error .indexError                      -- `item[0]` on an empty string
    | c :: _ =>
      if isQuoteCh c then
        let r := rstrip item
        if r.getLast? ≠ some c then advLoop (some item) ps
        else if r.length < 2 then .error .indexError
        else if r.dropLast.getLast? = some BS then advLoop (some item) ps
        else (match advLoop none ps with | .error e => .error e | .ok rest => .ok (((strip item).tail.dropLast).filter (· != BS) :: rest))
      else (match advLoop none ps with | .error e => .error e | .ok rest => .ok (item.filter (· != BS) :: rest))
  | some item, p :: ps =>
    let item1 := item ++ COMMA :: p
    let r := rstrip item1
    if r.getLast? ≠ item1.head? then advLoop (some item1) ps
    else if r.length < 2 then .error .indexError
    else if r.dropLast.getLast? = some BS then advLoop (some item1) ps
    else (match advLoop none ps with | .error e => .error e | .ok rest => .ok (((strip item1).tail.dropLast).filter (· != BS) :: rest))

/-- full state of a dense ArffLineReader -/
structure ALRF where
  started : Bool
  advanced : Bool
  qc : Option Nat
  delim : Nat
  fallback : Option Nat      -- `_fallback_delim`
  deriving DecidableEq, Repr

def ALRF.init : ALRF := ⟨false, false, none, COMMA, none⟩

def arffAdvanced (n : Nat) (s : ALRF) (line : Text) : Except Err (ALRF × List Text) :=
  let fd := match s.fallback with
    | some d => d
    | none => if (splitOn COMMA line).length > (splitOn TAB line).length then COMMA else TAB
  match advLoop none (splitOn fd line) with
  | .error e => .error e
  | .ok parsed =>
    if parsed.length = n then .ok ({ s with advanced := true, fallback := some fd }, parsed) else .error .cobaException

/-- `_dense_simple` with the switch to the fallback parser -/
def arffSimpleF (n : Nat) (s : ALRF) (line : Text) : Except Err (ALRF × List Text) :=
  match simpleQuote s.qc line with
  | none => arffAdvanced n s line            -- only reached with a quote character already fixed: nothing was stored
  | some qc1 =>
    match csvFirst (arffDialect s.delim qc1) line with
    | .error e => .error e
    | .ok r => if r.length = n then .ok ({ s with qc := qc1 }, r) else .error .cobaException

def arffFirstF (n : Nat) (line : Text) : Except Err (ALRF × List Text) :=
  let hasDq := line.contains DQ
  let hasSq := line.contains SQ
  let both := hasDq && hasSq
  let qc : Option Nat := if both then none else if hasDq then some DQ else if hasSq then some SQ else none
  match csvFirst (arffDialect COMMA qc) line with
  | .error e => .error e
  | .ok r =>
    if r.length = n then
      (if both then arffAdvanced n ⟨true, true, qc, COMMA, none⟩ line else arffSimpleF n ⟨true, false, qc, COMMA, none⟩ line)
    else match csvFirst (arffDialect TAB qc) line with
      | .error e => .error e
      | .ok r2 =>
        if r2.length = n then
          (if both then arffAdvanced n ⟨true, true, qc, TAB, none⟩ line else arffSimpleF n ⟨true, false, qc, TAB, none⟩ line)
        else arffAdvanced n ⟨true, true, qc, COMMA, none⟩ line

def arffLineStepF (n : Nat) (s : ALRF) (line : Text) : Except Err (ALRF × List Text) :=
  if s.advanced then arffAdvanced n s line
  else if s.started then arffSimpleF n s line
  else arffFirstF n line

/-! ### D.5 rows -/

/-- `float(tok)` succeeds: decimal literal with optional sign, fraction, exponent, `inf`/`nan`,
surrounding white space (underscores are not modelled) -/
def isFloatLit (tok : Text) : Bool :=
  let t := lowerAscii (strip tok)
  let t := match t with | 45 :: r => r | 43 :: r => r | _ => t
  let special : List Text := [[105,110,102], [105,110,102,105,110,105,116,121], [110,97,110]]
  if special.contains t then true
  else
    let intPart := t.takeWhile isDigit
    let r1 := t.dropWhile isDigit
    let (frac, r2) := match r1 with
      | 46 :: r => (r.takeWhile isDigit, r.dropWhile isDigit)
      | _ => ([], r1)
    let hasDot := r1.head? = some 46
    let mant := intPart ≠ [] ∨ (hasDot ∧ frac ≠ [])
    let expOk := match r2 with
      | [] => true
      | 101 :: r =>
        let r := match r with | 45 :: x => x | 43 :: x => x | _ => r
        r ≠ [] && r.all isDigit
      | _ => false
    decide mant && expOk

/-- an encoder applied to a raw value the way `LazyDense`/`LazySparse` do: when the encoder
raises, `'?'` and `''` become None, anything else re-raises -/
def encodeCell (e : Enc) (v : Text) : Except Err Cell :=
  match e with
  | .numeric => if isFloatLit v then .ok (.num v) else if v = [QM] ∨ v = [] then .ok .missing else .error .valueError
  | .str => if v = [QM] then .ok .missing else .ok (.str v)
  | .nominal lv => if lv.contains v then .ok (.cat v lv) else if v = [QM] ∨ v = [] then .ok .missing else .error .cobaException

def encodeRow : List Enc → List Text → Except Err (List Cell)
  | e :: es, v :: vs => (match encodeCell e v with
    | .error er => .error er
    | .ok c => match encodeRow es vs with | .error er => .error er | .ok r => .ok (c :: r))
  | _, _ => .ok []

structure DenseRow where
  cells : List Cell
  missing : Bool
  deriving DecidableEq, Repr

structure SparseRow where
  items : List (Text × Cell)     -- column name ↦ value, for the written keys and the "not sparse" columns
  missing : Bool
  deriving DecidableEq, Repr

inductive ArffResult where
  | dense (names : List Text) (rows : List DenseRow)
  | sparse (names : List Text) (rows : List SparseRow)
  | empty
  deriving DecidableEq, Repr

def denseRows (encs : List Enc) (n : Nat) (s : ALRF) : List Text → Except Err (List DenseRow)
  | [] => .ok []
  | line :: ls =>
    if line.head? = some PCT then denseRows encs n s ls
    else match arffLineStepF n s line with
      | .error e => .error e
      | .ok (s1, raw) => match encodeRow encs raw with
        | .error e => .error e
        | .ok cells => match denseRows encs n s1 ls with
          | .error e => .error e
          | .ok r => .ok (⟨cells, denseMissing line⟩ :: r)

def nthD {α} (l : List α) (i : Nat) : Option α := l[i]?

/-- the columns whose encoder does not send `'0'` to 0: they appear in every sparse row -/
def notSparse (encs : List Enc) : List Nat :=
  (List.range encs.length).filter (fun i => match nthD encs i with
    | some .numeric => false
    | some .str => true
    | some (.nominal lv) => lv.contains ZERO
    | none => false)

def sparseItems (names : List Text) (encs : List Enc) : List (Int × Text) → Except Err (List (Text × Cell))
  | [] => .ok []
  | (k, v) :: r =>
    match nthD names k.toNat, nthD encs k.toNat with
    | some nm, some e => (match encodeCell e v with
      | .error er => .error er
      | .ok c => match sparseItems names encs r with | .error er => .error er | .ok rest => .ok ((nm, c) :: rest))
    | _, _ => sparseItems names encs r

def sparseRows (names : List Text) (encs : List Enc) (n : Nat) : List Text → Except Err (List SparseRow)
  | [] => .ok []
  | line :: ls =>
    if line.head? = some PCT then sparseRows names encs n ls
    else match arffSparseLine n line with
      | .error e => .error e
      | .ok raw =>
        let extra := ((notSparse encs).filter (fun (i : Nat) => !(raw.any (fun p => p.1 = (i : Int))))).map (fun (i : Nat) => ((i : Int), ZERO))
        match sparseItems names encs (raw ++ extra) with
        | .error e => .error e
        | .ok items => match sparseRows names encs n ls with
          | .error e => .error e
          | .ok r => .ok (⟨items, sparseMissing line⟩ :: r)

/-- `filter(None, map(strip, lines))` -/
def arffNormalize (lines : List Text) : List Text := (lines.map strip).filter (· ≠ [])

/-- the reader on stripped, non-empty lines -/
def arffReadN (ls : List Text) : Except Err ArffResult :=
  let head := ls.takeWhile (fun l => lowerAscii l ≠ kwData)
  let attrLines := head.filter (fun l => lowerAscii (l.take 5) = kwAttr)
  let data := (ls.dropWhile (fun l => lowerAscii l ≠ kwData)).drop 1
  let data := data.dropWhile (fun l => l.head? = some PCT)
  match data with
  | [] => .ok .empty
  | first :: _ =>
    let isDense := !(first.head? = some LBRACE) || !(first.getLast? = some RBRACE)
    match arffAttrs isDense [] attrLines with
    | .error e => .error e
    | .ok [] => .error .valueError                 -- `headers,encoders = zip(*[])`
    | .ok attrs =>
      let names := attrs.map (·.1)
      let encs := attrs.map (·.2)
      if isDense then
        match denseRows encs attrLines.length ALRF.init data with
        | .error e => .error e
        | .ok rows => .ok (.dense names rows)
      else
        match sparseRows names encs attrLines.length data with
        | .error e => .error e
        | .ok rows => .ok (.sparse names rows)

/-- `list(ArffReader().filter(lines))` with every row materialised -/
def arffRead (lines : List Text) : Except Err ArffResult := arffReadN (arffNormalize lines)


/-! ### sparse ARFF writer (spec side) -/

/-- value of a decimal index as written -/
def digitsVal (ds : Text) : Int := ((ds.foldl (fun a c => a * 10 + (c - 48)) 0 : Nat) : Int)

/-- `i v` items separated by a comma and `pad` blanks -/
def sparseWriteItems (pad : Nat) : List (Text × Text) → Text
  | [] => []
  | [(d, v)] => d ++ 32 :: v
  | (d, v) :: y :: r => d ++ 32 :: v ++ COMMA :: (List.replicate pad 32 ++ sparseWriteItems pad (y :: r))

/-- `{i v,i v,…}` -/
def sparseWriteRow (pad : Nat) (items : List (Text × Text)) : Text := LBRACE :: (sparseWriteItems pad items ++ [RBRACE])

/-- a token the sparse tokenizer leaves alone: non-empty, no white space, no comma -/
def sparseTokOk (t : Text) : Bool := t ≠ [] && t.all (fun c => !isPySpace c && c != COMMA)

/-- hypotheses on a sparse row: indices are decimal digit strings, distinct and inside `[0,n)`;
values are bare tokens (C12-F10: the reader has no quote handling) that do not end in a brace -/
def sparseRowOk (n : Nat) (items : List (Text × Text)) : Bool :=
  items.all (fun p => p.1 ≠ [] && p.1.all isDigit && sparseTokOk p.2 &&
                      (match p.2.getLast? with | some c => c != RBRACE && c != LBRACE | none => false) &&
                      digitsVal p.1 < (n : Int)) &&
  (items.map (fun p => digitsVal p.1)).Nodup


/-! ### ARFF header writer (spec side): Weka / liac-arff style -/

/-- backslash before the quote character (always) and before any further character the writer
likes (`also`; Weka: the other quote, `%`) -/
def hdrEscape (q : Nat) (also : Nat → Bool) : Text → Text
  | [] => []
  | c :: t => if c = q ∨ also c = true then BS :: c :: hdrEscape q also t else c :: hdrEscape q also t

/-- a name or nominal level as written: quoted (`x.1`) or bare -/
def hdrWriteTok (q : Nat) (also : Nat → Bool) (x : Bool × Text) : Text :=
  if x.1 then q :: (hdrEscape q also x.2 ++ [q]) else x.2

/-- `{l1,l2,…}` with `pad` blanks after each comma -/
def hdrWriteLevels (q : Nat) (also : Nat → Bool) (pad : Nat) : List (Bool × Text) → Text
  | [] => []
  | [x] => hdrWriteTok q also x
  | x :: y :: r => hdrWriteTok q also x ++ COMMA :: (List.replicate pad 32 ++ hdrWriteLevels q also pad (y :: r))

/-- what may stand in a quoted name/level for the reader to get it back (C12-F8: no backslash;
C12-F9: the text must not begin with the separator — a comma for levels, white space for both) -/
def quotedOk (isLevel : Bool) (v : Text) : Bool :=
  !v.contains BS && (match v with | c :: _ => !isPySpace c && !(isLevel && c == COMMA) | [] => true)

/-- what may be written bare: not empty, no separator inside (white space for names, comma for
levels), no white space at the ends, not starting with a quote character -/
def bareTokOk (isLevel : Bool) (v : Text) : Bool :=
  v ≠ [] && (match v with | c :: _ => !isQuoteCh c && !isPySpace c | [] => false) &&
  (match v.getLast? with | some c => !isPySpace c | none => false) &&
  (if isLevel then !v.contains COMMA else v.all (fun c => !isPySpace c))

def hdrTokOk (isLevel : Bool) (x : Bool × Text) : Bool := if x.1 then quotedOk isLevel x.2 else bareTokOk isLevel x.2


/-- the type part of an attribute line as a writer emits it -/
inductive TypeW where
  | numeric (word : Text)                               -- `numeric` / `REAL` / `Integer` …
  | string (word : Text)                                -- `string`, `date "yyyy-MM-dd"`, `relational` …
  | nominal (pad : Nat) (levels : List (Bool × Text))   -- `{l1, l2, …}`

def TypeW.text (q : Nat) (also : Nat → Bool) : TypeW → Text
  | .numeric w => w
  | .string w => w
  | .nominal pad levels => LBRACE :: (hdrWriteLevels q also pad levels ++ [RBRACE])

/-- the encoder the reader must come up with (sparse files get the extra level `'0'`) -/
def TypeW.enc (isDense : Bool) : TypeW → Enc
  | .numeric _ => .numeric
  | .string _ => .str
  | .nominal _ levels => .nominal (if isDense then levels.map (·.2) else ZERO :: levels.map (·.2))

def TypeW.ok (isDense : Bool) : TypeW → Bool
  | .numeric w => kwNumeric.contains (lowerAscii w) && strip w == w
  | .string w => !kwNumeric.contains (lowerAscii w) && kwString.any (fun k => startsWith k (lowerAscii w)) &&
                 strip w == w && w.head? != some LBRACE
  | .nominal _ levels => levels ≠ [] && levels.all (hdrTokOk true) &&
                 (if isDense then levels.map (·.2) else ZERO :: levels.map (·.2)).Nodup

/-- one attribute line: keyword (any case), one separator character, the name, white space, the type -/
structure AttrW where
  kw : Text
  sep : Nat
  name : Bool × Text
  gap : Text
  typ : TypeW

def AttrW.line (q : Nat) (also : Nat → Bool) (a : AttrW) : Text :=
  a.kw ++ a.sep :: (hdrWriteTok q also a.name ++ a.gap ++ a.typ.text q also)

def AttrW.ok (isDense : Bool) (a : AttrW) : Bool :=
  lowerAscii a.kw == kwAttribute && hdrTokOk false a.name && a.gap ≠ [] && a.gap.all isPySpace && a.typ.ok isDense


/-! ### whole ARFF files as a writer emits them (spec side) -/

/-- a cell of the table that is written -/
inductive CellW where
  | missing
  | num (tok : Text)
  | str (s : Text)
  | cat (s : Text)
  deriving DecidableEq, Repr

def CellW.text : CellW → Text
  | .missing => [QM]
  | .num t => t
  | .str s => s
  | .cat s => s

def CellW.isMissing : CellW → Bool
  | .missing => true
  | _ => false

/-- what the reader must return for the cell in a column with encoder `e` -/
def CellW.out (e : Enc) : CellW → Cell
  | .missing => .missing
  | .num t => .num t
  | .str s => .str s
  | .cat s => (match e with | .nominal lv => .cat s lv | _ => .str s)

/-- the cell fits its column and can be told from the missing marker: numbers are float literals;
strings and levels hold no `?` (C12-F12, C12-F15); a nominal column has no level named `?` (C12-F13);
the missing marker is written bare -/
def cellWOk (e : Enc) (x : Bool × CellW) : Bool :=
  match e, x.2 with
  | .numeric, .num t => isFloatLit t && !t.contains QM
  | .str, .str s => !s.contains QM
  | .nominal lv, .cat s => lv.contains s && !s.contains QM
  | .numeric, .missing => !x.1
  | .str, .missing => !x.1
  | .nominal lv, .missing => !x.1 && !lv.contains [QM]
  | _, _ => false

def rowCellsOk : List Enc → List (Bool × CellW) → Bool
  | [], [] => true
  | e :: es, x :: xs => cellWOk e x && rowCellsOk es xs
  | _, _ => false

def rowOut : List Enc → List (Bool × CellW) → List Cell
  | e :: es, x :: xs => x.2.out e :: rowOut es xs
  | _, _ => []

def denseTok (x : Bool × CellW) : Bool × Text := (x.1, x.2.text)

/-- a dense data line -/
def denseRowLine (q : Nat) (also : Nat → Bool) (pad : Nat) (row : List (Bool × CellW)) : Text :=
  arffWriteRow q also pad (row.map denseTok)

/-- hypotheses on a dense row: it fits the columns, satisfies `arffRowOk` (one quote style) and the
line does not look like a comment -/
def denseRowWOk (q : Nat) (also : Nat → Bool) (pad : Nat) (encs : List Enc) (row : List (Bool × CellW)) : Bool :=
  rowCellsOk encs row && arffRowOk q (row.map denseTok) && (denseRowLine q also pad row).head? != some PCT

/-- C12-F17: the first data line must not be wrapped in braces -/
def notBraced (line : Text) : Bool := !(line.head? == some LBRACE && line.getLast? == some RBRACE)


/-! ## E. delivery: a decompressor that emits nothing for a while; reader objects -/

/-- a lawful streaming "decompressor" whose first outputs are empty: it swallows an `n`-byte
header (what zlib does with the 10-byte gzip header: `decompress` returns `b''` for those chunks) -/
def Decomp.skip (n : Nat) : Decomp Nat := ⟨n, fun k bs => (k - bs.length, bs.drop k)⟩

/-- the reader objects of coba/pipes/readers.py: what a reader carries are its constructor arguments -/
inductive ReaderKind where
  | csv (d : Dialect) (hasHeader : Bool)
  | arff
  | libsvm
  | manik
  deriving DecidableEq, Repr

inductive ReadResult where
  | csv (r : Except Err (Option (List Text) × List (List Text)))
  | arff (r : Except Err ArffResult)
  | svm (r : Except Err (List SvmRow))

/-- `list(reader.filter(lines))`, rows materialised -/
def readerParse : ReaderKind → List Text → ReadResult
  | .csv d h, ls => .csv (csvReaderFix d h ls)
  | .arff, ls => .arff (arffRead ls)
  | .libsvm, ls => .svm (libsvmRead ls)
  | .manik, ls => .svm (manikRead ls)

/-- one use of a reader object: a full read, or a read abandoned after the first row (nothing
observed); the object that remains is the object that was there -/
def readerStep (r : ReaderKind) (input : List Text × Bool) : ReaderKind × Option ReadResult :=
  (r, if input.2 then none else some (readerParse r input.1))

/-- a history of uses of ONE reader object: what each use returned -/
def readerRun (r : ReaderKind) : List (List Text × Bool) → List (Option ReadResult)
  | [] => []
  | i :: is => (readerStep r i).2 :: readerRun (readerStep r i).1 is

/-! ## F. phase 4: whole sparse ARFF files (spec side), the fallback parser on plain lines, CPython numerals -/

/-- a sparse item as written: the column index in decimal digits and the cell -/
def sparseTok (x : Text × CellW) : Text × Text := (x.1, x.2.text)

/-- a sparse data line `{i v, i v, …}` -/
def sparseRowLine (pad : Nat) (row : List (Text × CellW)) : Text := sparseWriteRow pad (row.map sparseTok)

/-- what the reader must return for a written item: the column's name and the cell as the column's encoder gives it -/
def sparseItemOut (names : List Text) (encs : List Enc) (x : Text × CellW) : Option (Text × Cell) :=
  match names[(digitsVal x.1).toNat]?, encs[(digitsVal x.1).toNat]? with
  | some nm, some e => some (nm, x.2.out e)
  | _, _ => none

/-- what an omitted column reads as (coba's sparse convention): a numeric 0 is simply absent, a string column
reads `'0'`, a nominal column its level `'0'` -/
def sparseDefaultCell : Enc → Option Cell
  | .numeric => none
  | .str => some (.str ZERO)
  | .nominal lv => if lv.contains ZERO then some (.cat ZERO lv) else none

/-- the default entries of a row: every column that was not written and has a default cell, in column order -/
def sparseDefaultAt (names : List Text) (encs : List Enc) (written : List Int) (i : Nat) : Option (Text × Cell) :=
  if written.contains (i : Int) then none
  else match names[i]?, encs[i]? with
    | some nm, some e => (match sparseDefaultCell e with | some c => some (nm, c) | none => none)
    | _, _ => none

def sparseDefaults (names : List Text) (encs : List Enc) (written : List Int) : List (Text × Cell) :=
  (List.range encs.length).filterMap (sparseDefaultAt names encs written)

/-- the row the reader must return: written items in written order, then the defaults -/
def sparseRowOut (names : List Text) (encs : List Enc) (row : List (Text × CellW)) : List (Text × Cell) :=
  row.filterMap (sparseItemOut names encs) ++ sparseDefaults names encs (row.map (fun x => digitsVal x.1))

/-- hypotheses on a sparse row: `sparseRowOk` (decimal indices, distinct, in range; bare values — C12-F10) and
every cell fits its column (`cellWOk`: float literals, no `?` inside strings/levels, no level named `?`) -/
def sparseRowWOk (n : Nat) (encs : List Enc) (row : List (Text × CellW)) : Bool :=
  sparseRowOk n (row.map sparseTok) &&
  row.all (fun x => match encs[(digitsVal x.1).toNat]? with
    | some e => cellWOk e (false, x.2)
    | none => false)

/-! ### the fallback parser on plain (unquoted) lines -/

/-- a value on which the csv fast path and the fallback parser `_dense_advanced` agree: written bare (`bareOk`:
no comma, quote character, backslash, line break; no leading blank), not empty (the fallback indexes `item[0]`)
and not starting with other white space (the fallback `lstrip`s, csv only skips blanks) -/
def plainTok (v : Text) : Bool :=
  bareOk v && (match v with | c :: _ => !isPySpace c | [] => false)

/-- values separated by a comma and `pad` blanks, nothing quoted -/
def plainRowLine (pad : Nat) (vs : List Text) : Text := arffWriteRow SQ (fun _ => false) pad (vs.map (fun v => (false, v)))

/-! ### `int()` / `float()` as CPython reads them -/

def US : Nat := 95

/-- PEP 515: an underscore is allowed only between two digits; they are dropped.  `none` = misplaced underscore -/
def dropUsGo (prevDigit : Bool) : Text → Option Text
  | [] => some []
  | c :: t =>
    if c = US then
      (match t with
       | d :: _ => if prevDigit && isDigit d then dropUsGo false t else none
       | [] => none)
    else (dropUsGo (isDigit c) t).map (c :: ·)

def dropUs (t : Text) : Option Text := dropUsGo false t

/-- what `int()` / `float()` strip: Unicode white space, but of the ASCII range only blank and `\t \n \v \f \r`
(`Py_ISSPACE`) — the separators `\x1c`–`\x1f`, which `str.strip()` removes, are NOT skipped (found by the phase 4 generator) -/
def isNumSpace (c : Nat) : Bool := isPySpace c && !(28 ≤ c && c ≤ 31)

def stripNum (t : Text) : Text := ((t.dropWhile isNumSpace).reverse.dropWhile isNumSpace).reverse

/-- `int(tok)` (base 10) for ASCII text: surrounding white space, sign, digits with single underscores between them
(non-ASCII decimal digits, which CPython also accepts, are not modelled) -/
def parseIntPy (tok : Text) : Option Int :=
  match dropUs (stripNum tok) with
  | some t => if t = strip t then parseInt t else none
  | none => none

/-- `float(tok)` succeeds, for ASCII text: as `isFloatLit` plus underscores between digits -/
def isFloatLitPy (tok : Text) : Bool :=
  match dropUs (stripNum tok) with
  | some t => t == strip t && isFloatLit t
  | none => false

/-- no character of the token is one of the separators `\x1c`–`\x1f` -/
def noFs (t : Text) : Bool := t.all (fun c => !(28 ≤ c && c ≤ 31))

/-! ## H. phase 5: the whole ARFF reader over CPython's numerals

The definitions of part D with the two numeral functions as parameters (`pi` = `int()` of a sparse index,
`fl` = "`float()` succeeds" of a numeric cell); `arffReadPy` instantiates them with `parseIntPy` / `isFloatLitPy`.
`arffRead` (unchanged, imported elsewhere) is the instance with the older `parseInt` / `isFloatLit`
(`arffRead_is_instance`), and both agree on files without underscores and `\x1c`–`\x1f` (`arffReadPy_conservative`). -/

def parseKeysG (pi : Text → Option Int) : List Text → Except Err (List Int)
  | [] => .ok []
  | k :: ks => match pi k with
    | none => .error .valueError
    | some i => match parseKeysG pi ks with
      | .error e => .error e
      | .ok r => .ok (i :: r)

def arffSparseLineG (pi : Text → Option Int) (n : Nat) (line : Text) : Except Err (List (Int × Text)) :=
  let kv := sparseSplit (stripBraces line)
  if kv = [[]] then .ok []
  else match parseKeysG pi (evens kv) with
    | .error e => .error e
    | .ok keys =>
      let d := dictOf (keys.zip (odds kv))
      if d.any (fun p => p.1 < 0 || (n : Int) ≤ p.1) then .error .cobaException else .ok d

def encodeCellG (fl : Text → Bool) (e : Enc) (v : Text) : Except Err Cell :=
  match e with
  | .numeric => if fl v then .ok (.num v) else if v = [QM] ∨ v = [] then .ok .missing else .error .valueError
  | .str => if v = [QM] then .ok .missing else .ok (.str v)
  | .nominal lv => if lv.contains v then .ok (.cat v lv) else if v = [QM] ∨ v = [] then .ok .missing else .error .cobaException

def encodeRowG (fl : Text → Bool) : List Enc → List Text → Except Err (List Cell)
  | e :: es, v :: vs => (match encodeCellG fl e v with
    | .error er => .error er
    | .ok c => match encodeRowG fl es vs with | .error er => .error er | .ok r => .ok (c :: r))
  | _, _ => .ok []

def denseRowsG (fl : Text → Bool) (encs : List Enc) (n : Nat) (s : ALRF) : List Text → Except Err (List DenseRow)
  | [] => .ok []
  | line :: ls =>
    if line.head? = some PCT then denseRowsG fl encs n s ls
    else match arffLineStepF n s line with
      | .error e => .error e
      | .ok (s1, raw) => match encodeRowG fl encs raw with
        | .error e => .error e
        | .ok cells => match denseRowsG fl encs n s1 ls with
          | .error e => .error e
          | .ok r => .ok (⟨cells, denseMissing line⟩ :: r)

def sparseItemsG (fl : Text → Bool) (names : List Text) (encs : List Enc) : List (Int × Text) → Except Err (List (Text × Cell))
  | [] => .ok []
  | (k, v) :: r =>
    match nthD names k.toNat, nthD encs k.toNat with
    | some nm, some e => (match encodeCellG fl e v with
      | .error er => .error er
      | .ok c => match sparseItemsG fl names encs r with | .error er => .error er | .ok rest => .ok ((nm, c) :: rest))
    | _, _ => sparseItemsG fl names encs r

def sparseRowsG (pi : Text → Option Int) (fl : Text → Bool) (names : List Text) (encs : List Enc) (n : Nat) :
    List Text → Except Err (List SparseRow)
  | [] => .ok []
  | line :: ls =>
    if line.head? = some PCT then sparseRowsG pi fl names encs n ls
    else match arffSparseLineG pi n line with
      | .error e => .error e
      | .ok raw =>
        let extra := ((notSparse encs).filter (fun (i : Nat) => !(raw.any (fun p => p.1 = (i : Int))))).map (fun (i : Nat) => ((i : Int), ZERO))
        match sparseItemsG fl names encs (raw ++ extra) with
        | .error e => .error e
        | .ok items => match sparseRowsG pi fl names encs n ls with
          | .error e => .error e
          | .ok r => .ok (⟨items, sparseMissing line⟩ :: r)

def arffReadNG (pi : Text → Option Int) (fl : Text → Bool) (ls : List Text) : Except Err ArffResult :=
  let head := ls.takeWhile (fun l => lowerAscii l ≠ kwData)
  let attrLines := head.filter (fun l => lowerAscii (l.take 5) = kwAttr)
  let data := (ls.dropWhile (fun l => lowerAscii l ≠ kwData)).drop 1
  let data := data.dropWhile (fun l => l.head? = some PCT)
  match data with
  | [] => .ok .empty
  | first :: _ =>
    let isDense := !(first.head? = some LBRACE) || !(first.getLast? = some RBRACE)
    match arffAttrs isDense [] attrLines with
    | .error e => .error e
    | .ok [] => .error .valueError
    | .ok attrs =>
      let names := attrs.map (·.1)
      let encs := attrs.map (·.2)
      if isDense then
        match denseRowsG fl encs attrLines.length ALRF.init data with
        | .error e => .error e
        | .ok rows => .ok (.dense names rows)
      else
        match sparseRowsG pi fl names encs attrLines.length data with
        | .error e => .error e
        | .ok rows => .ok (.sparse names rows)

def arffReadG (pi : Text → Option Int) (fl : Text → Bool) (lines : List Text) : Except Err ArffResult :=
  arffReadNG pi fl (arffNormalize lines)

/-- `list(ArffReader().filter(lines))`, rows materialised, with `int()` / `float()` as CPython reads them
(underscores between digits accepted, `\x1c`–`\x1f` not skipped) -/
def arffReadPy (lines : List Text) : Except Err ArffResult := arffReadG parseIntPy isFloatLitPy lines

/-- a character that is neither an underscore nor one of the separators `\x1c`–`\x1f` -/
def numClean (c : Nat) : Bool := !(c == US) && !(28 ≤ c && c ≤ 31)

/-- a file free of underscores and `\x1c`–`\x1f` -/
def linesNumClean (lines : List Text) : Bool := lines.all (fun l => l.all numClean)

/-! ### phase 5: the fallback parser on lines whose pieces do not start with a quote character; `_fallback_delim` undecided -/

/-- what `_dense_advanced` makes of a piece that does not start with a quote character: `lstrip`, every backslash deleted -/
def advClean (p : Text) : Text := (lstrip p).filter (· != BS)

/-- after `lstrip` the piece does not start with a quote character (it may hold quote characters further in) -/
def pieceUnquoted (p : Text) : Bool := match lstrip p with | c :: _ => !isQuoteCh c | [] => true

/-- `self._fallback_delim = ',' if len(line.split(',')) > len(line.split('\t')) else '\t'` -/
def fallbackDelim (line : Text) : Nat := if (splitOn COMMA line).length > (splitOn TAB line).length then COMMA else TAB

/-- the `while d_line` loop on pieces none of which starts with a quote character: IndexError (`item[0]`) when a piece is
blank, otherwise every piece cleaned -/
def advUnquoted (ps : List Text) : Except Err (List Text) :=
  if ps.all (fun p => lstrip p != []) then .ok (ps.map advClean) else .error .indexError

/-- a value the fallback parser returns verbatim when it splits at commas: not empty, does not start with white space or a
quote character, holds no comma and no backslash (tabs and quote characters further in are allowed) -/
def innerTok (v : Text) : Bool :=
  (match v with | c :: _ => !isPySpace c && !isQuoteCh c | [] => false) && v.all (fun c => !(c == COMMA || c == BS))

/-! ### phase 5: LibSVM / Manik with `int()` / `float()` of the tokens as CPython reads them -/

/-- `{ int(k):float(v) for … }` of one tokenised row: keys through `parseIntPy`, values must pass `isFloatLitPy`
(their text is kept; the value of an accepted literal is CPython's), dict semantics (`dictOf`: first insertion fixes the
position, the last value wins); any failure is a ValueError -/
def svmRowPy (r : SvmRow) : Except Err (List (Int × Text) × List Text) :=
  match parseKeysG parseIntPy (r.feats.map (·.1)) with
  | .error e => .error e
  | .ok keys =>
    if r.feats.all (fun kv => isFloatLitPy kv.2) then .ok (dictOf (keys.zip (r.feats.map (·.2))), r.labels)
    else .error .valueError

def svmRowsPy : List SvmRow → Except Err (List (List (Int × Text) × List Text))
  | [] => .ok []
  | r :: rs => match svmRowPy r with
    | .error e => .error e
    | .ok x => match svmRowsPy rs with
      | .error e => .error e
      | .ok xs => .ok (x :: xs)

/-- `list(LibsvmReader().filter(lines))` with the conversions -/
def libsvmReadPy (lines : List Text) : Except Err (List (List (Int × Text) × List Text)) :=
  match libsvmRead lines with
  | .error e => .error e
  | .ok rows => svmRowsPy rows

/-- `list(ManikReader().filter(lines))` with the conversions -/
def manikReadPy (lines : List Text) : Except Err (List (List (Int × Text) × List Text)) := libsvmReadPy (lines.drop 1)

/-- what the reader must return for a written row: index ↦ value (as a dict), labels -/
def svmRowOutPy (r : SvmRow) : List (Int × Text) × List Text :=
  (dictOf (r.feats.map (fun kv => (digitsVal kv.1, kv.2))), r.labels)

/-- indices are decimal digit strings, values are literals `float()` accepts -/
def svmNumOk (r : SvmRow) : Bool :=
  r.feats.all (fun kv => kv.1 ≠ [] && kv.1.all isDigit && isFloatLitPy kv.2)

/-! ## L. (phase 6) Histories of `DiskSink` / `DiskSource` operations over a set of files

A *history* is any sequence of operations on any number of paths: `DiskSink(p, batch=b).write(lines)` (append mode — the
default `'a+'`), a complete `list(DiskSource(p).read())`, and a read that is abandoned after `k` lines
(`islice(DiskSource(p).read(), k)`, generator closed).  The state is the file system: per path the list of byte strings
that were appended (plain: the concatenation is the file; `.gz`: one gzip member each).  Reads do not change it. -/

/-- an association list from path ids to lists (files: appended byte strings; spec: lines written so far) -/
abbrev Store (α : Type) := List (Nat × List α)

def storeGet {α : Type} : Store α → Nat → Option (List α)
  | [], _ => none
  | (q, x) :: r, p => if q = p then some x else storeGet r p

/-- opening in append mode creates the file; writing appends -/
def storeAppend {α : Type} : Store α → Nat → List α → Store α
  | [], p, xs => [(p, xs)]
  | (q, x) :: r, p, xs => if q = p then (q, x ++ xs) :: r else (q, x) :: storeAppend r p xs

inductive DiskOp where
  | write (p : Nat) (batch : Option Nat) (lines : List Text)
  | read (p : Nat)
  | readk (p : Nat) (k : Nat)
  deriving Repr

/-- what one operation returns: nothing (a write), the lines of a read, or FileNotFoundError -/
inductive DiskOut where
  | wrote
  | lines (r : Except Err (List Text))
  | nofile
  deriving Repr

/-- one operation on the real objects; `rd` turns the appended byte strings into the bytes the opener hands to the text
layer (plain: concatenation; `.gz`: gunzip of the concatenated members). A write whose lines cannot be encoded raises. -/
def diskStep (rd : List (List Nat) → List Nat) (fs : Store (List Nat)) : DiskOp → Except Err (Store (List Nat) × DiskOut)
  | .write p b ls =>
    match diskWriteParts b ls with
    | .error e => .error e
    | .ok parts => .ok (storeAppend fs p parts, .wrote)
  | .read p =>
    match storeGet fs p with
    | none => .ok (fs, .nofile)
    | some parts => .ok (fs, .lines (diskRead (rd parts)))
  | .readk p k =>
    match storeGet fs p with
    | none => .ok (fs, .nofile)
    | some parts => .ok (fs, .lines ((diskRead (rd parts)).map (List.take k)))

def diskRun (rd : List (List Nat) → List Nat) (fs : Store (List Nat)) : List DiskOp → Except Err (List DiskOut)
  | [] => .ok []
  | op :: ops =>
    match diskStep rd fs op with
    | .error e => .error e
    | .ok (fs', out) =>
      match diskRun rd fs' ops with
      | .error e => .error e
      | .ok outs => .ok (out :: outs)

/-- the spec: per path the lines written so far, in order; a read returns exactly them (a prefix when abandoned),
whatever happened before on this or any other path -/
def diskSpecRun (st : Store Text) : List DiskOp → List DiskOut
  | [] => []
  | .write p _ ls :: ops => .wrote :: diskSpecRun (storeAppend st p ls) ops
  | .read p :: ops =>
    (match storeGet st p with | none => DiskOut.nofile | some ls => .lines (.ok ls)) :: diskSpecRun st ops
  | .readk p k :: ops =>
    (match storeGet st p with | none => DiskOut.nofile | some ls => .lines (.ok (ls.take k))) :: diskSpecRun st ops

/-- the lines an operation writes are Python strings of scalar values without `\r` / `\n` -/
def diskOpOk : DiskOp → Bool
  | .write _ _ ls => ls.all (fun l => noNl l && l.all isScalar)
  | _ => true

/-! ## M. (phase 6) the labelled CSV pipeline: `CsvReader | LabelRows(label, tipe)` -/

/-- the `label` argument of `LabelRows` / `label_col` of `SupervisedSimulation`: a column index (negative counts from the
end) or a header name -/
inductive LabelRef where
  | idx (i : Int)
  | name (t : Text)
  deriving Repr

/-- `dict(zip(headers, count()))[name]` (`HeadRows`): the LAST column that carries the name -/
def headerIndexGo (name : Text) : Nat → Option Nat → List Text → Option Nat
  | _, acc, [] => acc
  | i, acc, h :: hs => headerIndexGo name (i + 1) (if h = name then some i else acc) hs

def headerIndex (hdr : List Text) (name : Text) : Option Nat := headerIndexGo name 0 none hdr

/-- `LabelRows.filter` on dense rows: `ind = first.headers[label] if isinstance(label,str) else label`, then
`if ind < 0: ind += len(first)`; `none` = the lookup raises (no headers / unknown name) -/
def labelIndex (hdr : Option (List Text)) (firstLen : Nat) : LabelRef → Option Int
  | .idx i => some (if i < 0 then i + firstLen else i)
  | .name t =>
    match hdr with
    | none => none
    | some h => (headerIndex h t).map (fun (j : Nat) => if (j : Int) < 0 then (j : Int) + firstLen else (j : Int))

/-- `LabelDense(row, ind)` materialised: `(list(row.feats), row.label)` = `DropOne(row, ind)` and `row[ind]`;
`none` = an exception when materialised (index outside the row) -/
def labelDense (ind : Int) (row : List Text) : Option (List Text × Text) :=
  if ind < 0 then none
  else match row[ind.toNat]? with
    | none => none
    | some l => some (row.eraseIdx ind.toNat, l)

def labelDenseAll (ind : Int) : List (List Text) → Option (List (List Text × Text))
  | [] => some []
  | r :: rs => match labelDense ind r, labelDenseAll ind rs with
    | some x, some xs => some (x :: xs)
    | _, _ => none

/-- `[(list(r.feats), r.label) for r in LabelRows(label, tipe).filter(rows)]` on the rows a `CsvReader` returned -/
def labelRows (hdr : Option (List Text)) (ref : LabelRef) : List (List Text) → Option (List (List Text × Text))
  | [] => some []
  | first :: rest =>
    match labelIndex hdr first.length ref with
    | none => none
    | some ind => labelDenseAll ind (first :: rest)

/-- `Pipes.join(CsvReader(has_header, **dialect), LabelRows(label, tipe)).filter(lines)`, materialised -/
def csvLabelRead (d : Dialect) (hasHeader : Bool) (ref : LabelRef) (lines : List Text) :
    Except Err (Option (List (List Text × Text))) :=
  match csvReaderFix d hasHeader lines with
  | .error e => .error e
  | .ok (hdr, rows) => .ok (labelRows hdr ref rows)

/-- spec: the column a label reference names in a table of width `n` -/
def labelCol (hdr : Option (List Text)) (n : Nat) : LabelRef → Option Nat
  | .idx i => if 0 ≤ i ∧ i < n then some i.toNat else if i < 0 ∧ -(n : Int) ≤ i then some (i + n).toNat else none
  | .name t => match hdr with | none => none | some h => headerIndex h t

/-- spec: what the file says — the other cells in written order, and the label cell -/
def labelSplit (j : Nat) (row : List Text) : List Text × Text := (row.eraseIdx j, row.getD j [])

end Coba.C12
