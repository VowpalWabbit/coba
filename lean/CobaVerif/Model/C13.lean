/-
C13 — Lazy row views are indistinguishable from the eager table they describe.

Executable model of coba/pipes/rows.py (LazyDense/LazySparse, Head*, Encode*, KeepDense/DropSparse/
DropOne, Label*, the *Rows filters that build them, EncodeCatRows), of Dense_/Sparse_ equality/copy
(coba/primitives.py) and of the way ArffReader builds its lazy rows (coba/pipes/readers.py), plus the
eager specification on plain lists / dicts.  Import-free (core Lean only): compiled into `drv_c13`.

The model mirrors the code *with the fixes fixes/C13-*.diff applied* (committed in /repo; see notes/C13.md),
fixes/C13-stale-feats-label.diff apart, which is proposed only;
what is deliberately kept as in the code: feats/label/tipe of a row are passed through later
wrappers unchanged (`__getattr__`), KeepDense still answers a dropped column's name.

Conventions.  A Python exception is `Except Err`; its class is compared with the code for the accesses of `errD` / `errS`
(position, name, iteration, copy, items, keys, len, headers, label, tipe), elsewhere only its presence.
A dict is an association list in insertion order (`dget` = lookup, `dset` = assignment).
Set-valued results (`keys()`) are lists that are compared as sets.
-/

namespace Coba.C13

/-! ## values, keys, errors -/

inductive Val
  | none
  | int (i : Int)
  | str (s : String)
  | cat (s : String) (lv : List String)     -- coba.primitives.Categorical (a str carrying its levels)
  | tup (l : List Int)                       -- a one-hot tuple
  | flt (i : Int)                            -- an integer-valued float (`float('7')`): equal to the int, printed `7.0`
  deriving DecidableEq, Repr, Inhabited

/-- dictionary key / row key: an int position or a str name -/
inductive Key
  | pos (n : Nat)
  | name (s : String)
  deriving DecidableEq, Repr, Inhabited

inductive Err
  | indexError | keyError | typeError | valueError | attrError | cobaError
  deriving DecidableEq, Repr, Inhabited

abbrev Res := Except Err

/-- `l[i]` for a non-negative int -/
def idx {α} (l : List α) (i : Nat) : Res α :=
  match l[i]? with
  | some x => .ok x
  | none => .error .indexError

def dget {κ ν} [DecidableEq κ] : List (κ × ν) → κ → Option ν
  | [], _ => none
  | (a, b) :: t, k => if a = k then some b else dget t k

/-- `d[k] = v` -/
def dset {κ ν} [DecidableEq κ] : List (κ × ν) → κ → ν → List (κ × ν)
  | [], k, v => [(k, v)]
  | (a, b) :: t, k, v => if a = k then (a, v) :: t else (a, b) :: dset t k v

/-- `del d[k]` / `d.pop(k)` (the entry is known to exist where this is used) -/
def ddel {κ ν} [DecidableEq κ] (d : List (κ × ν)) (k : κ) : List (κ × ν) := d.filter (fun p => p.1 ≠ k)

/-- `l.index(a)`: position of the first occurrence -/
def posOf {α} [DecidableEq α] : List α → α → Option Nat
  | [], _ => none
  | x :: xs, a => if x = a then some 0 else (posOf xs a).map (· + 1)

abbrev Hdr := List (String × Nat)
abbrev Dict := List (Key × Val)

/-- Python `==` on cell values (`Categorical` is a `str`) -/
def pyEq : Val → Val → Bool
  | .none, .none => true
  | .int a, .int b => a == b
  | .str a, .str b => a == b
  | .str a, .cat b _ => a == b
  | .cat a _, .str b => a == b
  | .cat a _, .cat b _ => a == b
  | .tup a, .tup b => a == b
  | .flt a, .flt b => a == b
  | .flt a, .int b => a == b
  | .int a, .flt b => a == b
  | _, _ => false

/-! ## encoders -/

inductive Enc
  | ident | toInt | toStr | inc | dbl     -- lambda x:x, int, str, lambda x:x+1, lambda x:x*2
  | anum | astr | acat (lv : List String) -- ArffAttrReader encoders: float, string, nominal
  deriving DecidableEq, Repr, Inhabited

def digitVal (c : Char) : Option Nat :=
  if '0' ≤ c ∧ c ≤ '9' then some (c.toNat - 48) else none

def parseNatAux : List Char → Nat → Option Nat
  | [], acc => some acc
  | c :: cs, acc =>
    match digitVal c with
    | some d => parseNatAux cs (acc * 10 + d)
    | none => none

/-- Python `int(s)` / `float(s)` on the token alphabet of the harness: `-?[0-9]+` -/
def parseInt (s : String) : Option Int :=
  match s.toList with
  | [] => none
  | '-' :: cs => if cs.isEmpty then none else (parseNatAux cs 0).map (fun n => -(n : Int))
  | cs => (parseNatAux cs 0).map (fun n => (n : Int))

def strOf : Val → Option String
  | .str s => some s
  | .cat s _ => some s
  | _ => none

def Enc.apply : Enc → Val → Res Val
  | .ident, v => .ok v
  | .toInt, .int i => .ok (.int i)
  | .toInt, .str s => match parseInt s with | some i => .ok (.int i) | none => .error .valueError
  | .toInt, .cat s _ => match parseInt s with | some i => .ok (.int i) | none => .error .valueError
  | .toInt, .flt i => .ok (.int i)
  | .toInt, _ => .error .typeError
  | .toStr, .int i => .ok (.str (toString i))
  | .toStr, .str s => .ok (.str s)
  | .toStr, .cat s _ => .ok (.str s)
  | .toStr, .none => .ok (.str "None")
  | .toStr, .tup _ => .error .typeError          -- repr of a tuple: not modelled, never generated
  | .toStr, .flt i => .ok (.str (toString i ++ ".0"))
  | .inc, .int i => .ok (.int (i + 1))
  | .inc, .flt i => .ok (.flt (i + 1))
  | .inc, _ => .error .typeError
  | .dbl, .int i => .ok (.int (2 * i))
  | .dbl, .str s => .ok (.str (s ++ s))
  | .dbl, .cat s _ => .ok (.str (s ++ s))
  | .dbl, .tup l => .ok (.tup (l ++ l))
  | .dbl, .flt i => .ok (.flt (2 * i))
  | .dbl, .none => .error .typeError
  | .anum, .int i => .ok (.flt i)
  | .anum, .flt i => .ok (.flt i)
  | .anum, .str s => match parseInt s with | some i => .ok (.flt i) | none => .error .valueError
  | .anum, .cat s _ => match parseInt s with | some i => .ok (.flt i) | none => .error .valueError
  | .anum, _ => .error .typeError
  | .astr, v => if pyEq v (.str "?") then .ok .none else .ok v
  | .acat lv, v =>
    match strOf v with
    | some s => if s ∈ lv then .ok (.cat s lv) else .error .cobaError
    | none => .error .cobaError

/-- `val in ['?','']` -/
def missingTok (v : Val) : Bool := pyEq v (.str "?") || pyEq v (.str "")

/-- LazyDense / LazySparse: `try: enc(val) except: if val in ['?','']: return None; raise` -/
def lazyApply (e : Enc) (v : Val) : Res Val :=
  match e.apply v with
  | .ok x => .ok x
  | .error er => if missingTok v then .ok .none else .error er

/-- `v('0') != 0` without raising: the column's sparse zero is not 0 (EncodeRows, ArffReader) -/
def zeroNonzero (e : Enc) : Bool :=
  match e.apply (.str "0") with
  | .ok r => !(pyEq r (.int 0))
  | .error _ => false

/-- run the per-cell results of an iteration: the first failing cell raises -/
def sequence {α} : List (Res α) → Res (List α)
  | [] => .ok []
  | .error e :: _ => .error e
  | .ok x :: t => match sequence t with | .ok xs => .ok (x :: xs) | .error e => .error e

/-- `itertools.compress` -/
def compress {α} : List α → List Bool → List α
  | x :: xs, b :: bs => if b then x :: compress xs bs else compress xs bs
  | _, _ => []

/-! ## the load-once cell of LazyDense / LazySparse -/

/-- `_row`: still the loader (which will return `src`) or already the loaded value -/
inductive Cell (α : Type)
  | pending (src : α)
  | loaded (v : α)
  deriving DecidableEq, Repr

/-- `_load_or_get`: returns the row and the new content of `_row` -/
def Cell.loadOrGet {α} : Cell α → α × Cell α
  | .pending src => (src, .loaded src)
  | .loaded v => (v, .loaded v)

def Cell.get {α} (c : Cell α) : α := c.loadOrGet.1
def Cell.touch {α} (c : Cell α) : Cell α := c.loadOrGet.2

/-! ## dense rows -/

inductive DRow
  | plain (vals : List Val)
  | lazy (cell : Cell (List Val)) (enc : Option (List Enc)) (hdr : Option Hdr) (miss : Bool)
  | head (r : DRow) (hdr : Hdr)
  | encode (r : DRow) (encs : List Enc)
  /-- KeepDense: `_map` is split into its int-keyed part `idxs` (external → internal position) and
  its str-keyed part `names`; `_sel`, `_len`, `headers` -/
  | keep (r : DRow) (idxs : List Nat) (names : Hdr) (sel : List Bool) (len : Nat) (hdr : Option Hdr)
  | label (r : DRow) (ind : Nat) (tipe : Option String)
  | dropOne (r : DRow) (ind : Nat)
  deriving Repr

namespace DRow

/-- header map of DropOne (fixes/C13-feats-header-map.diff) -/
def shiftHdr (ind : Nat) (h : Hdr) : Hdr :=
  h.filterMap (fun p => if p.2 = ind then none else some (p.1, if p.2 < ind then p.2 else p.2 - 1))

/-- attribute `headers` (own slot, else `__getattr__` forwards to `_row`) -/
def headers : DRow → Res Hdr
  | plain _ => .error .attrError
  | lazy _ _ (some h) _ => .ok h
  | lazy _ _ none _ => .error .attrError
  | head _ h => .ok h
  | encode r _ => headers r
  | keep _ _ _ _ _ (some h) => .ok h
  | keep r _ _ _ _ none => headers r
  | label r _ _ => headers r
  | dropOne r ind => match headers r with | .ok h => .ok (shiftHdr ind h) | .error e => .error e

/-- attribute `missing` -/
def missing : DRow → Res Bool
  | plain _ => .error .attrError
  | lazy _ _ _ m => .ok m
  | head r _ => missing r
  | encode r _ => missing r
  | keep r _ _ _ _ _ => missing r
  | label r _ _ => missing r
  | dropOne r _ => missing r

def len : DRow → Nat
  | plain v => v.length
  | lazy c _ _ _ => c.get.length
  | head r _ => len r
  | encode _ es => es.length
  | keep _ _ _ _ n _ => n
  | label r _ _ => len r
  | dropOne r _ => len r - 1

/-- `row[i]` for an int `i ≥ 0` -/
def getPos : DRow → Nat → Res Val
  | plain v, i => idx v i
  | lazy c enc _ _, i =>
    match idx c.get i with
    | .error e => .error e
    | .ok x =>
      match enc with
      | none => .ok x
      | some [] => .ok x
      | some es =>
        match es[i]? with
        | some e => lazyApply e x
        | none => if missingTok x then .ok .none else .error .indexError
  | head r _, i => getPos r i
  | encode r es, i =>
    match idx es i with
    | .error e => .error e
    | .ok e => match getPos r i with | .ok x => e.apply x | .error er => .error er
  | keep r idxs _ _ _ _, i =>
    match idxs[i]? with
    | some j => getPos r j
    | none => .error .indexError           -- `self._row[10000000]`
  | label r _ _, i => getPos r i
  | dropOne r ind, i => getPos r (if i ≥ ind then i + 1 else i)

/-- `row[name]` for a str -/
def getName : DRow → String → Res Val
  | plain _, _ => .error .typeError
  | lazy c enc hdr m, s =>
    match hdr with
    | none => .error .attrError
    | some h => match dget h s with | some i => getPos (lazy c enc hdr m) i | none => .error .keyError
  | head r h, s => match dget h s with | some i => getPos r i | none => .error .keyError
  | encode r es, s =>                        -- fixes/C13-encodedense-by-name.diff
    match headers r with
    | .error e => .error e
    | .ok h => match dget h s with | some i => getPos (encode r es) i | none => .error .keyError
  | keep r _ names _ _ _, s =>
    match dget names s with
    | some j => getPos r j
    | none => .error .indexError
  | label r _ _, s => getName r s
  | dropOne r ind, s =>                      -- fixes/C13-feats-header-map.diff
    match headers (dropOne r ind) with
    | .error e => .error e
    | .ok h => match dget h s with | some i => getPos (dropOne r ind) i | none => .error .keyError

def get (r : DRow) : Key → Res Val
  | .pos i => getPos r i
  | .name s => getName r s

/-- `list(row)` -/
def iter : DRow → Res (List Val)
  | plain v => .ok v
  | lazy c enc _ _ =>
    match enc with
    | none => .ok c.get
    | some [] => .ok c.get
    | some es => sequence (List.zipWith lazyApply es c.get)
  | head r _ => iter r
  | encode r es => match iter r with | .ok xs => sequence (List.zipWith Enc.apply es xs) | .error e => .error e
  | keep r _ _ sel _ _ => match iter r with | .ok xs => .ok (compress xs sel) | .error e => .error e
  | label r _ _ => iter r
  | dropOne r ind => match iter r with | .ok xs => .ok (xs.take ind ++ xs.drop (ind + 1)) | .error e => .error e

/-- the label wrapper reached through `__getattr__` forwarding (`feats`, `label`, `tipe`): every later wrapper passes these
attributes on unchanged, so they describe the row as it was when LabelRows saw it (recorded C13-F8; the proposed
fixes/C13-stale-feats-label.diff was not applied, see notes) -/
def labelOf : DRow → Option (DRow × Nat × Option String)
  | plain _ => none
  | lazy _ _ _ _ => none
  | head r _ => labelOf r
  | encode r _ => labelOf r
  | keep r _ _ _ _ _ => labelOf r
  | label r i t => some (r, i, t)
  | dropOne r _ => labelOf r

def feats (r : DRow) : Res DRow :=
  match labelOf r with
  | some (r0, i, _) => .ok (dropOne r0 i)
  | none => .error .attrError

def labelVal (r : DRow) : Res Val :=
  match labelOf r with
  | some (r0, i, _) => getPos r0 i
  | none => .error .attrError

def tipe (r : DRow) : Res (Option String) :=
  match labelOf r with
  | some (_, _, t) => .ok t
  | none => .error .attrError

/-- `Dense_.__eq__(self, o)` for a list-like `o`: `len(self)==len(o) and all(map(eq,self,o))`, any exception → False -/
def eqList (r : DRow) (o : List Val) : Bool :=
  if len r = o.length then
    match iter r with
    | .ok xs => (List.zipWith pyEq xs o).all id
    | .error _ => false
  else false

/-- every access loads the base row: `_row` becomes the loaded value -/
def touch : DRow → DRow
  | plain v => plain v
  | lazy c e h m => lazy c.touch e h m
  | head r h => head (touch r) h
  | encode r es => encode (touch r) es
  | keep r a b c d e => keep (touch r) a b c d e
  | label r i t => label (touch r) i t
  | dropOne r i => dropOne (touch r) i

end DRow

/-! ## sparse rows -/

abbrev KMap := List (Key × Key)

inductive SRow
  | plain (d : Dict)
  | lazy (cell : Cell Dict) (enc : List (Key × Enc)) (nsp : List Key) (fwd inv : KMap) (miss : Bool)
  | head (r : SRow) (fwd inv : KMap)
  | encode (r : SRow) (enc : List (Key × Enc)) (nsp : List Key)
  | drop (r : SRow) (ds : List Key)
  | label (r : SRow) (key : Key) (tipe : Option String)
  deriving Repr

/-- remove duplicates (sets are lists compared as sets; the order is irrelevant) -/
def dedup {α} [DecidableEq α] : List α → List α
  | [] => []
  | x :: xs => if x ∈ xs then dedup xs else x :: dedup xs

/-- the members of `b` that are not in `a`, once each: `set(b) - set(a)` -/
def kdiff (b a : List Key) : List Key := dedup (b.filter (fun k => !a.contains k))

/-- set union of key lists (left operand duplicate-free) -/
def kunion (a b : List Key) : List Key := a ++ kdiff b a

def encOf (enc : List (Key × Enc)) (k : Key) : Enc := (dget enc k).getD .ident

def mapMRes {α β} (f : α → Res β) : List α → Res (List β)
  | [] => .ok []
  | a :: t => match f a with
    | .error e => .error e
    | .ok b => match mapMRes f t with | .ok bs => .ok (b :: bs) | .error e => .error e

/-- apply a per-key function to the value of one dict entry -/
def applyEntry (f : Key → Val → Res Val) (p : Key × Val) : Res (Key × Val) :=
  match f p.1 p.2 with
  | .ok v => .ok (p.1, v)
  | .error e => .error e

/-- the explicit entry of a "not sparse" column whose key is absent: the encoded `"0"` -/
def zeroEntry (f : Key → Val → Res Val) (k : Key) : Res (Key × Val) :=
  match f k (.str "0") with
  | .ok v => .ok (k, v)
  | .error e => .error e

/-- `inv[k]` -/
def renameKey (inv : KMap) (k : Key) : Res Key :=
  match dget inv k with
  | some n => .ok n
  | none => .error .keyError

def renameEntry (inv : KMap) (p : Key × Val) : Res (Key × Val) :=
  match dget inv p.1 with
  | some n => .ok (n, p.2)
  | none => .error .keyError

/-- `self._enc[k]("0")` (EncodeSparse.items: a KeyError if `k` has no encoder) -/
def encZero (enc : List (Key × Enc)) (k : Key) (v : Val) : Res Val :=
  match dget enc k with
  | some e => e.apply v
  | none => .error .keyError

/-- LazySparse: the stored value of raw key `k`, `"0"` for an absent "not sparse" column, else KeyError; then encoded -/
def lazyValue (enc : List (Key × Enc)) (raw : Dict) (nsp : List Key) (k : Key) : Res Val :=
  match (match dget raw k with
         | some v => some v
         | none => if nsp.contains k then some (Val.str "0") else none) with
  | none => .error .keyError
  | some v => if enc.isEmpty then .ok v else lazyApply (encOf enc k) v

namespace SRow

def missing : SRow → Res Bool
  | plain _ => .error .attrError
  | lazy _ _ _ _ _ m => .ok m
  | head r _ _ => missing r
  | encode r _ _ => missing r
  | drop r _ => missing r
  | label r _ _ => missing r

/-- attribute `_inv` as LabelRows reads it (`getattr(first,'_inv',None) or {}`): the outermost header map
raw key → header name; wrappers without the slot forward to `_row`, a plain dict has none -/
def invOf : SRow → KMap
  | plain _ => []
  | lazy _ _ _ _ inv _ => inv
  | head _ _ inv => inv
  | encode r _ _ => invOf r
  | drop r _ => invOf r
  | label r _ _ => invOf r

/-- keys to which the row answers although the table it describes has no such key: a header-mapped LazySparse
resolves `key = self._fwd.get(key,key)`, so it also answers to its raw keys -/
def leak : SRow → List Key
  | plain _ => []
  | lazy _ _ _ fwd inv _ => if fwd.isEmpty then [] else inv.map (·.1)
  | head _ _ _ => []
  | encode r _ _ => leak r
  | drop r _ => leak r
  | label r _ _ => leak r

/-- `row.keys()` as a duplicate-free list -/
def keys : SRow → Res (List Key)
  | plain d => .ok (d.map (·.1))
  | lazy c _ nsp _ inv _ =>
    let ks := kunion (c.get.map (·.1)) nsp
    if inv.isEmpty then .ok ks
    else mapMRes (renameKey inv) ks
  | head r _ inv =>
    match keys r with
    | .error e => .error e
    | .ok ks => mapMRes (renameKey inv) ks
  | encode r _ nsp => match keys r with | .ok ks => .ok (kunion ks nsp) | .error e => .error e
  | drop r ds => match keys r with | .ok ks => .ok (ks.filter (fun k => !ds.contains k)) | .error e => .error e
  | label r key _ => match keys r with | .ok ks => .ok (kunion ks [key]) | .error e => .error e

def len : SRow → Res Nat
  | plain d => .ok d.length
  | lazy c _ nsp _ _ _ => .ok (kunion (c.get.map (·.1)) nsp).length      -- fixes/C13-lazysparse-len.diff
  | head r _ _ => len r
  | encode r e nsp => match keys (encode r e nsp) with | .ok ks => .ok ks.length | .error er => .error er
  | drop r ds => match keys (drop r ds) with | .ok ks => .ok ks.length | .error er => .error er
  | label r k t => match keys (label r k t) with | .ok ks => .ok ks.length | .error er => .error er

def get : SRow → Key → Res Val
  | plain d, k => match dget d k with | some v => .ok v | none => .error .keyError
  | lazy c enc nsp fwd _ _, k => lazyValue enc c.get nsp ((dget fwd k).getD k)
  | head r fwd _, k => match dget fwd k with | some k' => get r k' | none => .error .keyError
  | encode r enc nsp, k =>
    match get r k with
    | .ok v => (encOf enc k).apply v
    | .error .keyError => if nsp.contains k then (encOf enc k).apply (.str "0") else .error .keyError   -- fixes/C13-encodesparse-absent-key.diff
    | .error e => .error e
  | drop r ds, k => if ds.contains k then .error .keyError else get r k
  | label r key _, k =>
    match get r k with
    | .ok v => .ok v
    | .error .keyError => if k = key then .ok (.int 0) else .error .keyError
    | .error e => .error e

/-- `row.items()` -/
def items : SRow → Res Dict
  | plain d => .ok d
  | lazy c enc nsp _ inv _ =>
    let raw := c.get
    if enc.isEmpty then
      if inv.isEmpty then .ok raw else .ok (raw.map (fun p => ((dget inv p.1).getD p.1, p.2)))
    else
      let extra := (kdiff nsp (raw.map (·.1))).map (fun k => (k, Val.str "0"))
      match mapMRes (applyEntry (fun k v => lazyApply (encOf enc k) v)) (raw ++ extra) with
      | .error e => .error e
      | .ok its => .ok (its.map (fun p => ((if inv.isEmpty then p.1 else (dget inv p.1).getD p.1), p.2)))
  | head r _ inv =>
    match items r with
    | .error e => .error e
    | .ok its => mapMRes (renameEntry inv) its
  | encode r enc nsp =>
    match items r with
    | .error e => .error e
    | .ok its =>
      match mapMRes (applyEntry (fun k v => (encOf enc k).apply v)) its with
      | .error e => .error e
      | .ok t1 =>
        match mapMRes (zeroEntry (encZero enc)) (kdiff nsp (its.map (·.1))) with
        | .error e => .error e
        | .ok t2 => .ok (t1 ++ t2)
  | drop r ds => match items r with | .ok its => .ok (its.filter (fun p => !ds.contains p.1)) | .error e => .error e
  | label r key _ =>
    match items r with
    | .error e => .error e
    | .ok its => if (its.map (·.1)).contains key then .ok its else .ok (its ++ [(key, .int 0)])

/-- `dict(pairs)` -/
def toDict (its : Dict) : Dict := its.foldl (fun d p => dset d p.1 p.2) []

/-- the label wrapper reached through `__getattr__` forwarding (recorded C13-F9) -/
def labelOf : SRow → Option (SRow × Key × Option String)
  | plain _ => none
  | lazy _ _ _ _ _ _ => none
  | head r _ _ => labelOf r
  | encode r _ _ => labelOf r
  | drop r _ => labelOf r
  | label r k t => some (r, k, t)

def feats (r : SRow) : Res SRow :=
  match labelOf r with
  | some (r0, k, _) => .ok (drop r0 [k])
  | none => .error .attrError

def labelVal (r : SRow) : Res Val :=
  match labelOf r with
  | some (r0, k, t) => get (label r0 k t) k
  | none => .error .attrError

def tipe (r : SRow) : Res (Option String) :=
  match labelOf r with
  | some (_, _, t) => .ok t
  | none => .error .attrError

/-- python `dict == dict` on association lists with distinct keys -/
def dictEq (a b : Dict) : Bool :=
  a.length == b.length && a.all (fun p => match dget b p.1 with | some v => pyEq p.2 v | none => false)

/-- `Sparse_.__eq__(self, o)`: `dict(self.items()) == dict(o.items())`, any exception → False -/
def eqDict (r : SRow) (o : Dict) : Bool :=
  match items r with
  | .ok its => dictEq (toDict its) (toDict o)
  | .error _ => false

def touch : SRow → SRow
  | plain d => plain d
  | lazy c e n f i m => lazy c.touch e n f i m
  | head r f i => head (touch r) f i
  | encode r e n => encode (touch r) e n
  | drop r ds => drop (touch r) ds
  | label r k t => label (touch r) k t

end SRow

/-! ## the filters -/

inductive CatMode | onehot | onehotTuple | string
  deriving DecidableEq, Repr

inductive Pred
  | missing                         -- `attrgetter('missing')`
  | cellEq (k : Key) (v : Val)      -- `lambda row: row[k] == v`
  deriving Repr

inductive Stage
  | headNames (names : List String)          -- HeadRows(sequence)
  | headMap (m : List (String × Key))        -- HeadRows(mapping)
  | encodeSeq (es : List Enc)                -- EncodeRows(sequence)
  | encodeMap (m : List (Key × Enc))         -- EncodeRows(mapping)
  | drop (cols : List Key) (pred : Option Pred)
  | label (k : Key) (tipe : Option String)
  | enccat (t : Option CatMode)
  deriving Repr

def onehotOf (s : String) (lv : List String) : List Int := lv.map (fun l => if l = s then 1 else 0)


def isCat : Val → Bool
  | .cat _ _ => true
  | _ => false

def hasCat (vs : List Val) : Bool := vs.any isCat

/-- what EncodeCatRows puts in the place of one cell -/
def encodeCatCell (m : CatMode) (v : Val) : List Val :=
  match v with
  | .cat s lv =>
    match m with
    | .string => [Val.str s]
    | .onehotTuple => [Val.tup (onehotOf s lv)]
    | .onehot => (onehotOf s lv).map Val.int
  | v => [v]

/-- EncodeCatRows on a list -/
def catEncodeList (m : CatMode) (vs : List Val) : List Val := vs.flatMap (encodeCatCell m)

def keyStr : Key → String
  | .pos n => toString n
  | .name s => s

/-- EncodeCatRows' flat encoding of one dict entry: `for i,v in enumerate(h): if i != 0: o[f'{k}_{v}'] = i` -/
def flatSet (d : Dict) (k : Key) (h : List Int) : Dict :=
  (h.zipIdx.drop 1).foldl (fun d p => dset d (Key.name (keyStr k ++ "_" ++ toString p.1)) (Val.int p.2)) d

/-- what EncodeCatRows does to the dict `o` for one entry `p` of the row -/
def catStep (m : CatMode) (o : Dict) (p : Key × Val) : Dict :=
  match p.2 with
  | .cat s lv =>
    match m with
    | .string => dset o p.1 (Val.str s)
    | .onehotTuple => dset o p.1 (Val.tup (onehotOf s lv))
    | .onehot => flatSet (ddel o p.1) p.1 (onehotOf s lv)
  | _ => o

/-- EncodeCatRows on a dict (keys visited in the dict's own order) -/
def catEncodeDict (m : CatMode) (d : Dict) : Dict := d.foldl (catStep m) d

def zipNames (ns : List String) : Hdr := ns.zipIdx

/-- the header name of column `i` -/
def nameOf (h : Hdr) (i : Nat) : Option String := (h.find? (fun p => p.2 = i)).map (·.1)

/-- `names = { i:h for h,i in first.headers.items() }`: column → header name, as EncodeRows / DropRows build it -/
def posNames (h : Hdr) : List (Nat × String) := h.foldl (fun d p => dset d p.2 p.1) []

/-- `names.get(i)` -/
def posName (h : Hdr) (i : Nat) : Option String := dget (posNames h) i

/-- DropRows: is column `i` (with header name `nm`) kept -/
def keepCol (cols : List Key) (i : Nat) (nm : Option String) : Bool :=
  !cols.contains (.pos i) && (match nm with | some s => !cols.contains (.name s) | none => true)

/-- `DropRows.make_drop_row_args` for a dense first row with header map `h?` and length `n` -/
def makeDropArgs (h? : Option Hdr) (n : Nat) (cols : List Key) : List Nat × Hdr × List Bool × Nat × Option Hdr :=
  match h? with
  | some h =>
    let sel := (List.range n).map (fun i => keepCol cols i (posName h i))   -- fixes/C13-header-map-order.diff
    let idxs := compress (List.range n) sel
    let ext : Hdr := h.filterMap (fun p => (posOf idxs p.2).map (fun e => (p.1, e)))
    (idxs, h, sel, idxs.length, if h.isEmpty then none else some ext)
  | none =>
    let sel := (List.range n).map (fun i => keepCol cols i none)
    let idxs := compress (List.range n) sel
    (idxs, [], sel, idxs.length, none)

/-- HeadRows(mapping) on dense rows: the mapping's values are int positions -/
def hdrEntry (p : String × Key) : Option (String × Nat) :=
  match p.2 with
  | .pos i => some (p.1, i)
  | .name _ => none

/-- EncodeRows(mapping) on dense rows: `enc.get(h, enc.get(i, lambda x:x))` for column `i` with header name `nm` -/
def encFor (m : List (Key × Enc)) (nm : Option String) (i : Nat) : Enc :=
  match nm with
  | some s => (dget m (.name s)).getD ((dget m (.pos i)).getD .ident)
  | none => (dget m (.pos i)).getD .ident

/-- EncodeRows(mapping).filter on dense rows: the encoder list built from the first row -/
def encsOf (m : List (Key × Enc)) (r : DRow) : List Enc :=
  match r.headers with
  | .ok h => (List.range r.len).map (fun i => encFor m (posName h i) i)    -- fixes/C13-header-map-order.diff
  | .error _ => (List.range r.len).map (fun i => encFor m none i)

/-- DropRows.filter on dense rows: `make_drop_row_args(first, drop_cols)` -/
def dropArgsOf (r : DRow) (cols : List Key) : List Nat × Hdr × List Bool × Nat × Option Hdr :=
  makeDropArgs (match r.headers with | .ok h => some h | .error _ => none) r.len cols

def evalPredD : Option Pred → DRow → Res Bool      -- true = the row stays
  | none, _ => .ok true
  | some .missing, r => match r.missing with | .ok b => .ok (!b) | .error e => .error e
  | some (.cellEq k v), r => match r.get k with | .ok x => .ok (!(pyEq x v)) | .error e => .error e

def evalPredS : Option Pred → SRow → Res Bool
  | none, _ => .ok true
  | some .missing, r => match r.missing with | .ok b => .ok (!b) | .error e => .error e
  | some (.cellEq k v), r => match r.get k with | .ok x => .ok (!(pyEq x v)) | .error e => .error e

/-- one `*Rows.filter` on one dense row (`none` = the row predicate dropped it).  The filters derive
their arguments from the first row of the table; the table is rectangular, so the row itself is used. -/
def applyD : Stage → DRow → Res (Option DRow)
  | .headNames ns, r => .ok (some (.head r (zipNames ns)))
  | .headMap m, r =>
    .ok (some (.head r (m.filterMap hdrEntry)))
  | .encodeSeq es, r => .ok (some (.encode r es))
  | .encodeMap m, r =>
    .ok (some (.encode r (encsOf m r)))
  | .drop cols pred, r =>
    match evalPredD pred r with
    | .error e => .error e
    | .ok false => .ok none
    | .ok true =>
      if cols.isEmpty then .ok (some r)
      else
        let a := dropArgsOf r cols
        .ok (some (.keep r a.1 a.2.1 a.2.2.1 a.2.2.2.1 a.2.2.2.2))
  | .label k t, r =>
    match k with
    | .pos i => .ok (some (.label r i t))
    | .name s =>
      match r.headers with
      | .error e => .error e
      | .ok h => match dget h s with | some i => .ok (some (.label r i t)) | none => .error .keyError
  | .enccat none, r => .ok (some r)
  | .enccat (some m), r =>                    -- fixes/C13-enccat-lazy-rows.diff: the row is materialised by `.copy()`
    match r.iter with
    | .error e => .error e
    | .ok vs => if hasCat vs then .ok (some (.plain (catEncodeList m vs))) else .ok (some r)

def swapMap (m : KMap) : KMap := m.foldl (fun d p => dset d p.2 p.1) []

/-- LabelRows on sparse rows: rows with a header map are keyed by header name, so an int label is
translated to its header (`label = inv.get(label,label)`); a str label is used as it is -/
def labelKey (inv : KMap) (k : Key) : Key :=
  match k with
  | .pos _ => (dget inv k).getD k
  | .name _ => k

def nspOf (enc : List (Key × Enc)) : List Key := (enc.filter (fun p => zeroNonzero p.2)).map (·.1)

def hasCatD (d : Dict) : Bool := d.any (fun p => match p.2 with | .cat _ _ => true | _ => false)

def applyS : Stage → SRow → Res (Option SRow)
  | .headNames ns, r =>
    let fwd : KMap := ns.zipIdx.map (fun p => (Key.name p.1, Key.pos p.2))
    .ok (some (.head r fwd (swapMap fwd)))
  | .headMap m, r =>
    let fwd : KMap := m.map (fun p => (Key.name p.1, p.2))
    .ok (some (.head r fwd (swapMap fwd)))
  | .encodeSeq es, r =>
    let enc := es.zipIdx.map (fun p => (Key.pos p.2, p.1))
    .ok (some (.encode r enc (nspOf enc)))
  | .encodeMap m, r => .ok (some (.encode r m (nspOf m)))
  | .drop cols pred, r =>
    match evalPredS pred r with
    | .error e => .error e
    | .ok false => .ok none
    | .ok true => if cols.isEmpty then .ok (some r) else .ok (some (.drop r cols))
  | .label k t, r => .ok (some (.label r (labelKey r.invOf k) t))
  | .enccat none, r => .ok (some r)
  | .enccat (some m), r =>
    match r.items with
    | .error e => .error e
    | .ok its =>
      let d := SRow.toDict its
      if hasCatD d then .ok (some (.plain (catEncodeDict m d))) else .ok (some r)

def isName : Key → Bool
  | .name _ => true
  | .pos _ => false

/-- the stages do not address a hidden raw key of a header-mapped LazySparse base (`leaky` = the row below still has such keys):
a HeadRows directly over it must name header names, a row predicate `row[k]==v` must use a header name -/
def leakSafe : Bool → List Stage → Bool
  | _, [] => true
  | leaky, .headNames _ :: rest => !leaky && leakSafe false rest
  | leaky, .headMap m :: rest => (!leaky || m.all (fun p => isName p.2)) && leakSafe false rest
  | leaky, .drop _ (some (.cellEq k _)) :: rest => (!leaky || isName k) && leakSafe leaky rest
  | leaky, _ :: rest => leakSafe leaky rest

def buildD : List Stage → DRow → Res (Option DRow)
  | [], r => .ok (some r)
  | st :: rest, r =>
    match applyD st r with
    | .error e => .error e
    | .ok none => .ok none
    | .ok (some r') => buildD rest r'

def buildS : List Stage → SRow → Res (Option SRow)
  | [], r => .ok (some r)
  | st :: rest, r =>
    match applyS st r with
    | .error e => .error e
    | .ok none => .ok none
    | .ok (some r') => buildS rest r'

/-! ## base rows -/

inductive ColT | num | str | cat (lv : List String)
  deriving Repr

structure Col where
  name : String
  t : ColT
  deriving Repr

def Col.enc (sparse : Bool) (c : Col) : Enc :=
  match c.t with
  | .num => .anum
  | .str => .astr
  | .cat lv => .acat (if sparse then "0" :: lv else lv)     -- "0" is added to sparse nominal attributes

inductive DBase
  | plain (vals : List Val)
  | lazy (vals : List Val) (loader : Bool) (enc : Option (List Enc)) (hdr : Option (List String)) (miss : Bool)
  | arff (cols : List Col) (raw : List Val) (miss : Bool)
  deriving Repr

inductive SBase
  | plain (d : Dict)
  | lazy (d : Dict) (loader : Bool) (enc : List (Key × Enc)) (hdr : Option (List String)) (miss : Bool)
  | arff (cols : List Col) (raw : Dict) (miss : Bool)
  deriving Repr

def mkCell {α} (loader : Bool) (v : α) : Cell α := if loader then .pending v else .loaded v

def baseD : DBase → DRow
  | .plain v => .plain v
  | .lazy v loader enc hdr miss => .lazy (mkCell loader v) enc (hdr.map zipNames) miss
  | .arff cols raw miss => .lazy (.pending raw) (some (cols.map (Col.enc false))) (some (zipNames (cols.map (·.name)))) miss

def baseS : SBase → SRow
  | .plain d => .plain d
  | .lazy d loader enc hdr miss =>
    match hdr with
    | none => .lazy (mkCell loader d) enc [] [] [] miss
    | some ns =>
      .lazy (mkCell loader d) enc [] (ns.zipIdx.map (fun p => (Key.name p.1, Key.pos p.2)))
        (ns.zipIdx.map (fun p => (Key.pos p.2, Key.name p.1))) miss
  | .arff cols raw miss =>
    let encs := cols.zipIdx.map (fun p => (Key.pos p.2, Col.enc true p.1))
    .lazy (.pending raw) encs (nspOf encs)
      (cols.zipIdx.map (fun p => (Key.name p.1.name, Key.pos p.2)))
      (cols.zipIdx.map (fun p => (Key.pos p.2, Key.name p.1.name))) miss

/-! ## the eager specification: plain lists / dicts, stage by stage -/

/-- an eager dense row: the plain list, the header map name → column (a dict, in its own order; it may name only some of
the columns), the chosen label column, the `missing` flag of the source line (if the source provides one) -/
structure EagerD where
  cells : List Val
  hdr : Option Hdr
  lab : Option (Nat × Option String)
  miss : Option Bool
  deriving Repr

/-- an eager sparse row: the dict, the chosen label key, the `missing` flag of the source line, and the header
map raw key → name under which the table is currently keyed (empty when the keys are the raw keys) -/
structure EagerS where
  d : Dict
  lab : Option (Key × Option String)
  miss : Option Bool
  inv : KMap
  deriving Repr

/-- a header map over `n` columns: distinct names, distinct columns, every column exists -/
def hdrWF (h : Hdr) (n : Nat) : Bool :=
  decide (h.map (·.1)).Nodup && decide (h.map (·.2)).Nodup && h.all (fun p => decide (p.2 < n))

def hdrOK (hdr : Option (List String)) (n : Nat) : Bool :=
  match hdr with
  | some ns => hdrWF (zipNames ns) n
  | none => true

def eagerBaseD : DBase → Res EagerD
  | .plain v => .ok ⟨v, none, none, none⟩
  | .lazy v _ enc hdr miss =>
    if hdrOK hdr v.length then
      match enc with
      | none => .ok ⟨v, hdr.map zipNames, none, some miss⟩
      | some [] => .ok ⟨v, hdr.map zipNames, none, some miss⟩
      | some es =>
        if es.length = v.length then
          match sequence (List.zipWith lazyApply es v) with
          | .ok cells => .ok ⟨cells, hdr.map zipNames, none, some miss⟩
          | .error e => .error e
        else .error .valueError
    else .error .valueError
  | .arff cols raw miss =>
    if cols.length = raw.length ∧ hdrWF (zipNames (cols.map (·.name))) raw.length = true then
      match sequence (List.zipWith lazyApply (cols.map (Col.enc false)) raw) with
      | .ok cells => .ok ⟨cells, some (zipNames (cols.map (·.name))), none, some miss⟩
      | .error e => .error e
    else .error .valueError

/-- the name of column `i` -/
def EagerD.nameAt (e : EagerD) (i : Nat) : Option String :=
  match e.hdr with
  | some h => nameOf h i
  | none => none

/-- the column with a given name -/
def EagerD.colOf (e : EagerD) (s : String) : Option Nat :=
  match e.hdr with
  | some h => dget h s
  | none => none

/-- by-name lookup on the eager row -/
def EagerD.byName (e : EagerD) (s : String) : Option Val :=
  match e.colOf s with
  | some i => e.cells[i]?
  | none => none

def EagerD.get (e : EagerD) : Key → Option Val
  | .pos i => e.cells[i]?
  | .name s => e.byName s

def evalPredE (pred : Option Pred) (miss : Option Bool) (get : Key → Option Val) : Res Bool :=
  match pred with
  | none => .ok true
  | some .missing => match miss with | some b => .ok (!b) | none => .error .attrError
  | some (.cellEq k v) => match get k with | some x => .ok (!(pyEq x v)) | none => .error .keyError

/-- the kept column indices of an eager dense row, in order: neither the index nor the name is listed -/
def keptIdx (e : EagerD) (cols : List Key) : List Nat :=
  (List.range e.cells.length).filter (fun i => keepCol cols i (e.nameAt i))

/-- the header map after dropping columns: the entries of the kept columns, renumbered, in the map's own order -/
def extHdr (idxs : List Nat) (h : Hdr) : Hdr := h.filterMap (fun p => (posOf idxs p.2).map (fun j => (p.1, j)))

def eagerStageD : Stage → EagerD → Res (Option EagerD)
  | .headNames ns, e =>
    if hdrWF (zipNames ns) e.cells.length then .ok (some { e with hdr := some (zipNames ns) }) else .error .valueError
  | .headMap m, e =>
    -- any mapping name → column: in any order, for all or only some of the columns
    if (m.filterMap hdrEntry).length = m.length ∧ hdrWF (m.filterMap hdrEntry) e.cells.length = true then
      .ok (some { e with hdr := some (m.filterMap hdrEntry) })
    else .error .valueError
  | .encodeSeq es, e =>
    if es.length = e.cells.length then
      match sequence (List.zipWith Enc.apply es e.cells) with
      | .ok cells => .ok (some { e with cells := cells })
      | .error er => .error er
    else .error .valueError
  | .encodeMap m, e =>
    match sequence (e.cells.zipIdx.map (fun p => (encFor m (e.nameAt p.2) p.2).apply p.1)) with
    | .ok cells => .ok (some { e with cells := cells })
    | .error er => .error er
  | .drop cols pred, e =>
    match evalPredE pred e.miss e.get with
    | .error er => .error er
    | .ok false => .ok none
    | .ok true =>
      if cols.isEmpty then .ok (some e)
      else
        let idxs := keptIdx e cols
        match (match e.lab with
               | none => some none
               | some (i, t) => (posOf idxs i).map (fun j => some (j, t))) with
        | none => .error .keyError          -- the label column itself was dropped
        | some lab =>
          .ok (some { cells := idxs.filterMap (fun i => e.cells[i]?),
                      hdr := e.hdr.map (extHdr idxs),
                      lab := lab, miss := e.miss })
  | .label k t, e =>
    match (match k with
           | .pos i => some i
           | .name s => e.colOf s) with
    | none => .error .keyError
    | some i => if i < e.cells.length then .ok (some { e with lab := some (i, t) }) else .error .indexError
  | .enccat none, e => .ok (some e)
  | .enccat (some m), e =>
    if hasCat e.cells then .ok (some ⟨catEncodeList m e.cells, none, none, none⟩) else .ok (some e)

def eagerD : List Stage → EagerD → Res (Option EagerD)
  | [], e => .ok (some e)
  | st :: rest, e =>
    match eagerStageD st e with
    | .error er => .error er
    | .ok none => .ok none
    | .ok (some e') => eagerD rest e'

/-- the features part: the row without its label column, the header map without the label's name and renumbered -/
def EagerD.feats (e : EagerD) : Option EagerD :=
  match e.lab with
  | none => none
  | some (i, _) => some ⟨e.cells.eraseIdx i, e.hdr.map (DRow.shiftHdr i), none, e.miss⟩

def EagerD.labelVal (e : EagerD) : Option Val :=
  match e.lab with
  | none => none
  | some (i, _) => e.cells[i]?

/-! ### sparse -/

/-- encode the dict entries; a column whose encoded sparse zero is not 0 becomes explicit -/
def encodeDictN (enc : List (Key × Enc)) (nsp : List Key) (apply : Enc → Val → Res Val) (d : Dict) : Res Dict :=
  match mapMRes (applyEntry (fun k v => apply (encOf enc k) v)) d with
  | .error e => .error e
  | .ok t1 =>
    match mapMRes (zeroEntry (fun k v => apply (encOf enc k) v)) (kdiff nsp (d.map (·.1))) with
    | .error e => .error e
    | .ok t2 => .ok (t1 ++ t2)

/-- EncodeRows: the "not sparse" columns are those of `nspOf enc` -/
def encodeDictE (enc : List (Key × Enc)) (apply : Enc → Val → Res Val) (d : Dict) : Res Dict :=
  encodeDictN enc (nspOf enc) apply d

/-- what a LazySparse row with encoders `enc` and "not sparse" columns `nsp` loads eagerly (still keyed by raw keys) -/
def lazyDictE (enc : List (Key × Enc)) (nsp : List Key) (raw : Dict) : Res Dict :=
  if enc.isEmpty then .ok raw else encodeDictN enc nsp lazyApply raw

/-- rename the keys of a dict: every key needs a name -/
def renameE (inv : KMap) (d : Dict) : Res Dict := mapMRes (renameEntry inv) d

/-- a Python dict / mapping has distinct keys -/
def distinct {α} [DecidableEq α] (l : List α) : Bool := decide l.Nodup

def eagerBaseS : SBase → Res EagerS
  | .plain d => if distinct (d.map (·.1)) then .ok ⟨d, none, none, []⟩ else .error .valueError
  | .lazy d _ enc hdr miss =>
    if distinct (d.map (·.1)) && distinct (enc.map (·.1)) then
      match lazyDictE enc [] d with
      | .error e => .error e
      | .ok d' =>
        match hdr with
        | none => .ok ⟨d', none, some miss, []⟩
        | some ns =>
          let inv : KMap := ns.zipIdx.map (fun p => (Key.pos p.2, Key.name p.1))
          if distinct ns then
            match renameE inv d' with | .ok d'' => .ok ⟨d'', none, some miss, inv⟩ | .error e => .error e
          else .error .valueError
    else .error .valueError
  | .arff cols raw miss =>
    if distinct (raw.map (·.1)) && distinct (cols.map (·.name)) then
      let encs := cols.zipIdx.map (fun p => (Key.pos p.2, Col.enc true p.1))
      let inv : KMap := cols.zipIdx.map (fun p => (Key.pos p.2, Key.name p.1.name))
      match lazyDictE encs (nspOf encs) raw with
      | .error e => .error e
      | .ok d' => match renameE inv d' with | .ok d'' => .ok ⟨d'', none, some miss, inv⟩ | .error e => .error e
    else .error .valueError

/-- HeadRows on sparse rows: every key gets its name (names and keys pairwise distinct) -/
def eagerHeadS (inv : KMap) (e : EagerS) : Res (Option EagerS) :=
  if distinct (inv.map (·.1)) && distinct (inv.map (·.2)) then
    match renameE inv e.d with
    | .error er => .error er
    | .ok d' =>
      match (match e.lab with | none => some none | some (k, t) => (dget inv k).map (fun n => some (n, t))) with
      | none => .error .keyError
      | some lab => .ok (some ⟨d', lab, e.miss, inv⟩)
  else .error .valueError

def eagerStageS : Stage → EagerS → Res (Option EagerS)
  | .headNames ns, e => eagerHeadS (ns.zipIdx.map (fun p => (Key.pos p.2, Key.name p.1))) e
  | .headMap m, e => eagerHeadS (m.map (fun p => (p.2, Key.name p.1))) e
  | .encodeSeq es, e =>
    match encodeDictE (es.zipIdx.map (fun p => (Key.pos p.2, p.1))) Enc.apply e.d with
    | .ok d' => .ok (some { e with d := d' })
    | .error er => .error er
  | .encodeMap m, e =>
    if distinct (m.map (·.1)) then
      match encodeDictE m Enc.apply e.d with
      | .ok d' => .ok (some { e with d := d' })
      | .error er => .error er
    else .error .valueError
  | .drop cols pred, e =>
    match evalPredE pred e.miss (dget e.d) with
    | .error er => .error er
    | .ok false => .ok none
    | .ok true =>
      if cols.isEmpty then .ok (some e)
      else
        match e.lab with
        | some (k, t) =>
          if cols.contains k then .error .keyError
          else .ok (some ⟨e.d.filter (fun p => !cols.contains p.1), some (k, t), e.miss, e.inv⟩)
        | none => .ok (some ⟨e.d.filter (fun p => !cols.contains p.1), none, e.miss, e.inv⟩)
  | .label k t, e =>
    let k' := labelKey e.inv k
    .ok (some ⟨if (e.d.map (·.1)).contains k' then e.d else e.d ++ [(k', .int 0)], some (k', t), e.miss, e.inv⟩)
  | .enccat none, e => .ok (some e)
  | .enccat (some m), e =>
    if hasCatD e.d then .ok (some ⟨catEncodeDict m e.d, none, none, []⟩) else .ok (some e)

def eagerS : List Stage → EagerS → Res (Option EagerS)
  | [], e => .ok (some e)
  | st :: rest, e =>
    match eagerStageS st e with
    | .error er => .error er
    | .ok none => .ok none
    | .ok (some e') => eagerS rest e'

def EagerS.feats (e : EagerS) : Option EagerS :=
  match e.lab with
  | none => none
  | some (k, _) => some ⟨e.d.filter (fun p => p.1 ≠ k), none, e.miss, e.inv⟩

def EagerS.labelVal (e : EagerS) : Option Val :=
  match e.lab with
  | none => none
  | some (k, _) => dget e.d k

/-! ## accesses and observations -/

inductive Other
  | list (l : List Val)
  | dict (d : Dict)
  deriving Repr

inductive Acc
  | pos (i : Nat) | name (k : Key) | iter | len | keys | items | copy | headers
  | eq (o : Other) | label | tipe | feats (sub : Acc)
  | clone (sub : Acc)      -- copy.copy / copy.deepcopy / pickle round trip of the row at this point, then `sub` on the copy
  deriving Repr

inductive Obs
  | val (v : Val) | vals (l : List Val) | nat (n : Nat) | keys (l : List Key) | dict (d : Dict)
  | hdr (h : Hdr) | bool (b : Bool) | ostr (s : Option String)
  | err       -- the access raises
  | undef     -- no claim (spec side) / not applicable
  deriving Repr

def ofRes {α} (f : α → Obs) : Res α → Obs
  | .ok a => f a
  | .error _ => .err

def obsD (r : DRow) : Acc → Obs
  | .pos i => ofRes .val (r.getPos i)
  | .name k => ofRes .val (r.get k)
  | .iter => ofRes .vals r.iter
  | .copy => ofRes .vals r.iter
  | .len => .nat r.len
  | .headers => ofRes .hdr r.headers
  | .eq (.list o) => .bool (r.eqList o)
  | .eq (.dict _) => .undef
  | .keys => .undef
  | .items => .undef
  | .label => ofRes .val r.labelVal
  | .tipe => ofRes .ostr r.tipe
  | .feats sub => match r.feats with | .ok f => obsD f sub | .error _ => .err
  | .clone sub => obsD r sub          -- a copy of a row is the row (same wrapper tree, same base data, same load-once cell state)

def obsS (r : SRow) : Acc → Obs
  | .pos _ => .undef
  | .name k => ofRes .val (r.get k)
  | .iter => ofRes .keys r.keys
  | .keys => ofRes .keys r.keys
  | .items => ofRes .dict r.items
  | .copy => ofRes (fun its => .dict (SRow.toDict its)) r.items
  | .len => ofRes .nat r.len
  | .headers => .undef
  | .eq (.dict o) => .bool (r.eqDict o)
  | .eq (.list _) => .undef
  | .label => ofRes .val r.labelVal
  | .tipe => ofRes .ostr r.tipe
  | .feats sub => match r.feats with | .ok f => obsS f sub | .error _ => .err
  | .clone sub => obsS r sub

/-- what the eager row gives (`undef` = the eager row defines no value for this access) -/
def eagerObsD (e : EagerD) : Acc → Obs
  | .pos i => match e.cells[i]? with | some v => .val v | none => .err
  | .name k => match e.get k with | some v => .val v | none => .undef
  | .iter => .vals e.cells
  | .copy => .vals e.cells
  | .len => .nat e.cells.length
  | .headers => match e.hdr with | some h => .hdr h | none => .err
  | .eq (.list o) => .bool (e.cells.length == o.length && (List.zipWith pyEq e.cells o).all id)
  | .eq (.dict _) => .undef
  | .keys => .undef
  | .items => .undef
  | .label => match e.labelVal with | some v => .val v | none => .undef
  | .tipe => match e.lab with | some (_, t) => .ostr t | none => .undef
  | .feats sub => match e.feats with | some f => eagerObsD f sub | none => .undef
  | .clone sub => eagerObsD e sub     -- copying a plain list changes nothing

def eagerObsS (e : EagerS) : Acc → Obs
  | .pos _ => .undef
  | .name k => match dget e.d k with | some v => .val v | none => .undef
  | .iter => .keys (e.d.map (·.1))
  | .keys => .keys (e.d.map (·.1))
  | .items => .dict e.d
  | .copy => .dict e.d
  | .len => .nat e.d.length
  | .headers => .undef
  | .eq (.dict o) => .bool (SRow.dictEq e.d (SRow.toDict o))
  | .eq (.list _) => .undef
  | .label => match e.labelVal with | some v => .val v | none => .undef
  | .tipe => match e.lab with | some (_, t) => .ostr t | none => .undef
  | .feats sub => match e.feats with | some f => eagerObsS f sub | none => .undef
  | .clone sub => eagerObsS e sub

/-- the access without its copy steps -/
def Acc.strip : Acc → Acc
  | .feats sub => .feats sub.strip
  | .clone sub => sub.strip
  | a => a

/-! ## histories of accesses on one row object -/

/-- one access on the row object: the observation and the object afterwards (the base row is now loaded) -/
def stepD (r : DRow) (a : Acc) : Obs × DRow := (obsD r a, r.touch)
def stepS (r : SRow) (a : Acc) : Obs × SRow := (obsS r a, r.touch)

def runD : DRow → List Acc → List Obs
  | _, [] => []
  | r, a :: as => (stepD r a).1 :: runD (stepD r a).2 as

def runS : SRow → List Acc → List Obs
  | _, [] => []
  | r, a :: as => (stepS r a).1 :: runS (stepS r a).2 as

/-! ## tables -/

/-- rows that survive the row predicates, after all stages -/
def tableD (stages : List Stage) (rows : List DBase) : Res (List DRow) :=
  match mapMRes (fun b => buildD stages (baseD b)) rows with
  | .ok rs => .ok (rs.filterMap id)
  | .error e => .error e

def tableS (stages : List Stage) (rows : List SBase) : Res (List SRow) :=
  match mapMRes (fun b => buildS stages (baseS b)) rows with
  | .ok rs => .ok (rs.filterMap id)
  | .error e => .error e

def eagerTableD (stages : List Stage) (rows : List DBase) : Res (List EagerD) :=
  match mapMRes (fun b => match eagerBaseD b with | .ok e => eagerD stages e | .error er => .error er) rows with
  | .ok rs => .ok (rs.filterMap id)
  | .error e => .error e

def eagerTableS (stages : List Stage) (rows : List SBase) : Res (List EagerS) :=
  match mapMRes (fun b => match eagerBaseS b with | .ok e => eagerS stages e | .error er => .error er) rows with
  | .ok rs => .ok (rs.filterMap id)
  | .error e => .error e

/-! ## the first row of a table

`HeadRows/EncodeRows/DropRows/LabelRows/EncodeCatRows.filter` peek at the first incoming row and derive their
arguments from it (`first.headers`, `len(first)`, the positions of the categoricals in `first`); `applyD` above
derives them from each row itself.  `applyD1` is the literal version; `sameShape` says when the two coincide. -/

/-- `catkey(first)`: the positions of the categorical cells -/
def catIdx (vs : List Val) : List Nat := (vs.zipIdx.filter (fun p => isCat p.1)).map (·.2)

/-- `catset` on one cell that `first` has as categorical: `str(o[k])` / `o[k].as_onehot` -/
def encodeCell (m : CatMode) (v : Val) : Res (List Val) :=
  if isCat v then .ok (encodeCatCell m v)
  else
    match m with
    | .string => match Enc.toStr.apply v with | .ok x => .ok [x] | .error e => .error e
    | _ => .error .attrError

/-- EncodeCatRows on a list with the categorical positions `ks` taken from the first row -/
def catEncodeAt (m : CatMode) (ks : List Nat) (vs : List Val) : Res (List Val) :=
  if ks.all (fun k => k < vs.length) then
    match sequence (vs.zipIdx.map (fun p => if ks.contains p.2 then encodeCell m p.1 else .ok [p.1])) with
    | .ok parts => .ok parts.flatten
    | .error e => .error e
  else .error .indexError

/-- one `*Rows.filter` on one dense row, its arguments derived from the first row `f` of the incoming table -/
def applyD1 : Stage → DRow → DRow → Res (Option DRow)
  | .encodeMap m, f, r => .ok (some (.encode r (encsOf m f)))
  | .drop cols pred, f, r =>
    match evalPredD pred r with
    | .error e => .error e
    | .ok false => .ok none
    | .ok true =>
      if cols.isEmpty then .ok (some r)
      else
        let a := dropArgsOf f cols
        .ok (some (.keep r a.1 a.2.1 a.2.2.1 a.2.2.2.1 a.2.2.2.2))
  | .label (.name s) t, f, r =>
    match f.headers with
    | .error e => .error e
    | .ok h => match dget h s with | some i => .ok (some (.label r i t)) | none => .error .keyError
  | .enccat (some m), f, r =>
    match f.iter with
    | .error e => .error e
    | .ok fv =>
      if (catIdx fv).isEmpty then .ok (some r)
      else
        match r.iter with
        | .error e => .error e
        | .ok vs => match catEncodeAt m (catIdx fv) vs with | .ok o => .ok (some (.plain o)) | .error e => .error e
  | st, _, r => applyD st r

/-- the two rows look alike to the filters: same length, same header map, categoricals at the same positions -/
def sameShape (f r : DRow) : Bool :=
  f.len == r.len &&
  (match f.headers, r.headers with | .ok a, .ok b => a == b | .error _, .error _ => true | _, _ => false) &&
  (match f.iter, r.iter with | .ok a, .ok b => catIdx a == catIdx b | _, _ => false)

def collect {α} (rs : Res (List (Option α))) : Res (List α) :=
  match rs with
  | .ok l => .ok (l.filterMap id)
  | .error e => .error e

/-- one stage over a table, arguments from its first row (as the code does) -/
def stageTable1 (st : Stage) (rows : List DRow) : Res (List DRow) :=
  match rows with
  | [] => .ok []
  | f :: _ => collect (mapMRes (applyD1 st f) rows)

/-- one stage over a table, arguments from each row itself (what the per-row theorems are about) -/
def stageTable0 (st : Stage) (rows : List DRow) : Res (List DRow) := collect (mapMRes (applyD st) rows)

def runStages1 : List Stage → List DRow → Res (List DRow)
  | [], rows => .ok rows
  | st :: rest, rows => match stageTable1 st rows with | .ok rows' => runStages1 rest rows' | .error e => .error e

def runStages0 : List Stage → List DRow → Res (List DRow)
  | [], rows => .ok rows
  | st :: rest, rows => match stageTable0 st rows with | .ok rows' => runStages0 rest rows' | .error e => .error e

/-- at every stage all incoming rows look like the first one -/
def uniformRun : List Stage → List DRow → Bool
  | [], _ => true
  | st :: rest, rows =>
    (match rows with | [] => true | f :: _ => rows.all (sameShape f)) &&
    (match stageTable1 st rows with | .ok rows' => uniformRun rest rows' | .error _ => true)

/-- the dense table as the code computes it: stage after stage, every stage looking at the first incoming row -/
def tableD1 (stages : List Stage) (rows : List DBase) : Res (List DRow) := runStages1 stages (rows.map baseD)

/-! ## the first dict of a sparse table

On dict rows two filters look at the first incoming row only: `LabelRows` reads `first._inv` (the map raw key → header name with
which a positional label is translated), `EncodeCatRows` reads `catkey(first.copy())` (the keys whose values are categoricals)
and then does `o[k] = str(o[k])` / `o[k].as_onehot` / `o.pop(k).as_onehot` at exactly those keys in every row.
`applyS` derives both from each row itself; `applyS1` is the literal version; `sameShapeS` says when the two coincide. -/

/-- `catkey(first)`: the keys of the categorical entries, in the dict's order -/
def catKeysD (d : Dict) : List Key := (d.filter (fun p => isCat p.2)).map (·.1)

/-- `catset` for one key that the first dict has as categorical -/
def encodeAtKey (m : CatMode) (o : Dict) (k : Key) : Res Dict :=
  match dget o k with
  | none => .error .keyError
  | some v =>
    match m with
    | .string => match Enc.toStr.apply v with | .ok x => .ok (dset o k x) | .error e => .error e
    | .onehotTuple => match v with | .cat s lv => .ok (dset o k (Val.tup (onehotOf s lv))) | _ => .error .attrError
    | .onehot => match v with | .cat s lv => .ok (flatSet (ddel o k) k (onehotOf s lv)) | _ => .error .attrError

/-- EncodeCatRows on a dict with the categorical keys `ks` taken from the first dict -/
def catEncodeAtD (m : CatMode) : List Key → Dict → Res Dict
  | [], o => .ok o
  | k :: ks, o => match encodeAtKey m o k with | .ok o' => catEncodeAtD m ks o' | .error e => .error e

/-- one `*Rows.filter` on one sparse row, its arguments derived from the first row `f` of the incoming table -/
def applyS1 : Stage → SRow → SRow → Res (Option SRow)
  | .label k t, f, r => .ok (some (.label r (labelKey f.invOf k) t))
  | .enccat (some m), f, r =>
    match f.items with
    | .error e => .error e
    | .ok fits =>
      -- no categorical in the first dict: `yield from rows`, no row is touched (not even materialised)
      if (catKeysD (SRow.toDict fits)).isEmpty then .ok (some r)
      else
        match r.items with
        | .error e => .error e
        | .ok its =>
          match catEncodeAtD m (catKeysD (SRow.toDict fits)) (SRow.toDict its) with
          | .ok o => .ok (some (.plain o))
          | .error e => .error e
  | st, _, r => applyS st r

/-- the names `f'{k}_{v}'` the flat one-hot encoding adds for key `k` -/
def genNames (k : Key) (h : List Int) : List Key := (h.zipIdx.drop 1).map (fun p => Key.name (keyStr k ++ "_" ++ toString p.1))

/-- none of the names the flat one-hot encoding adds is already a key of the dict -/
def noClash (d : Dict) : Bool :=
  d.all (fun p => match p.2 with
    | .cat s lv => (genNames p.1 (onehotOf s lv)).all (fun g => !(d.map (·.1)).contains g)
    | _ => true)

/-- the two dict rows look alike to the filters: same `_inv`, categoricals at the same keys (in the same order);
and the row's own keys are distinct and do not clash with the generated one-hot names -/
def sameShapeS (f r : SRow) : Bool :=
  f.invOf == r.invOf &&
  (match f.items, r.items with
   | .ok a, .ok b =>
     catKeysD (SRow.toDict a) == catKeysD (SRow.toDict b) && decide ((SRow.toDict b).map (·.1)).Nodup && noClash (SRow.toDict b)
   | _, _ => false)

def stageTableS1 (st : Stage) (rows : List SRow) : Res (List SRow) :=
  match rows with
  | [] => .ok []
  | f :: _ => collect (mapMRes (applyS1 st f) rows)

def stageTableS0 (st : Stage) (rows : List SRow) : Res (List SRow) := collect (mapMRes (applyS st) rows)

def runStagesS1 : List Stage → List SRow → Res (List SRow)
  | [], rows => .ok rows
  | st :: rest, rows => match stageTableS1 st rows with | .ok rows' => runStagesS1 rest rows' | .error e => .error e

def runStagesS0 : List Stage → List SRow → Res (List SRow)
  | [], rows => .ok rows
  | st :: rest, rows => match stageTableS0 st rows with | .ok rows' => runStagesS0 rest rows' | .error e => .error e

/-- at every stage all incoming dict rows look like the first one -/
def uniformRunS : List Stage → List SRow → Bool
  | [], _ => true
  | st :: rest, rows =>
    (match rows with | [] => true | f :: _ => rows.all (sameShapeS f)) &&
    (match stageTableS1 st rows with | .ok rows' => uniformRunS rest rows' | .error _ => true)

/-- the sparse table as the code computes it: stage after stage, every stage looking at the first incoming row -/
def tableS1 (stages : List Stage) (rows : List SBase) : Res (List SRow) := runStagesS1 stages (rows.map baseS)

/-! ## one set of filter objects, several tables -/

/-- a table and the stages applied to it by filter objects of its own (`pre`), before the shared filter objects -/
inductive Table
  | dense (pre : List Stage) (rows : List DBase)
  | sparse (pre : List Stage) (rows : List SBase)
  deriving Repr

inductive TableOut
  | dense (r : Res (List DRow))
  | sparse (r : Res (List SRow))

/-- one `filter()` call of every filter object of the pipeline on one table: what comes out, and the filter objects
afterwards.  None of the `*Rows.filter` methods assigns an attribute of `self` (the arguments derived from the
first row are locals), so the objects are what they were. -/
def runTable (fs : List Stage) : Table → TableOut × List Stage
  | .dense pre rows => (.dense (tableD1 (pre ++ fs) rows), fs)
  | .sparse pre rows => (.sparse (tableS1 (pre ++ fs) rows), fs)

/-- the same filter objects process the tables one after the other -/
def session : List Stage → List Table → List TableOut
  | _, [] => []
  | fs, t :: ts => (runTable fs t).1 :: session (runTable fs t).2 ts

/-! ## Phase 4: exception CLASSES (IndexError / KeyError / TypeError / ValueError / AttributeError), not only "raises" -/

/-- the class of the exception a result carries (`none`: no exception) -/
def errOf {α} : Res α → Option Err
  | .ok _ => none
  | .error e => some e

/-- the exception class the lazy dense row raises on the access (`none`: it does not raise) -/
def errD (r : DRow) : Acc → Option Err
  | .pos i => errOf (r.getPos i)
  | .name k => errOf (r.get k)
  | .iter => errOf r.iter
  | .copy => errOf r.iter
  | .headers => errOf r.headers
  | .label => errOf r.labelVal
  | .tipe => errOf r.tipe
  | .feats sub => match r.feats with | .ok f => errD f sub | .error e => some e
  | .clone sub => errD r sub
  | _ => none

/-- the exception class the lazy sparse row raises on the access -/
def errS (r : SRow) : Acc → Option Err
  | .name k => errOf (r.get k)
  | .iter => errOf r.keys
  | .keys => errOf r.keys
  | .items => errOf r.items
  | .copy => errOf r.items
  | .len => errOf r.len
  | .label => errOf r.labelVal
  | .tipe => errOf r.tipe
  | .feats sub => match r.feats with | .ok f => errS f sub | .error e => some e
  | .clone sub => errS r sub
  | _ => none

/-- what a plain Python list raises: `l[i]` beyond the end is an IndexError; iteration, `len`, `==`, copying never raise -/
def eagerErrD (e : EagerD) : Acc → Option Err
  | .pos i => if i < e.cells.length then none else some .indexError
  | .clone sub => eagerErrD e sub
  | _ => none

/-- what a plain Python dict raises: `d[k]` for an absent key is a KeyError; keys / items / len / copy never raise -/
def eagerErrS (e : EagerS) : Acc → Option Err
  | .name k => match dget e.d k with | some _ => none | none => some .keyError
  | .clone sub => eagerErrS e sub
  | _ => none

/-- the accesses a plain list answers (or refuses) by itself: position, iteration, copy, len, ==, and copies thereof -/
def Acc.listAccess : Acc → Bool
  | .pos _ | .iter | .copy | .len | .eq _ => true
  | .clone sub => sub.listAccess
  | _ => false

/-- the accesses a plain dict answers (or refuses) by itself, by-key access restricted to keys satisfying `P` -/
def Acc.dictAccess (P : Key → Prop) : Acc → Prop
  | .name k => P k
  | .iter | .keys | .items | .copy | .len | .eq _ => True
  | .clone sub => sub.dictAccess P
  | _ => False

/-- the public protocol of the row-view classes that the access language `Acc` (plus the attribute forwarding of
`missing`) covers: every public method / property a row-view class of coba/pipes/rows.py may define.  The translator
(`Generated/C13Methods.lean`) extracts what the classes DO define; `methods_covered` proves the two lists are equal.
`__getitem__` = `Acc.pos`/`Acc.name`, `__iter__` = `.iter`, `__len__` = `.len`, `__eq__` = `.eq`, `copy` = `.copy`, `keys`/`items` = `.keys`/`.items`,
`headers` = `.headers` (and `missing`: both reached through `__getattr__`, the attribute forwarding `DRow.headers`/`missing`), `feats` = `.feats`,
`label` = `.label`, `tipe` = `.tipe`, `labeled` = the triple of the three, `__init__` = the constructors of `DRow`/`SRow`. -/
def coveredMethods : List String :=
  ["__eq__", "__getattr__", "__getitem__", "__init__", "__iter__", "__len__", "copy", "feats", "headers", "items", "keys",
   "label", "labeled", "tipe"]

def allCovered (ms : List String) : Bool := ms.all (fun m => coveredMethods.contains m)

/-! ## Phase 5: attribute forwarding through chains of wrapping views, `__getattr__` guard, `==` against another length -/

/-- a wrapping dense view (every class of coba/pipes/rows.py that wraps a row), as an operation on the row below -/
inductive DWrap
  | head (h : Hdr)
  | encode (es : List Enc)
  | keep (idxs : List Nat) (names : Hdr) (sel : List Bool) (len : Nat) (hdr : Option Hdr)
  | label (ind : Nat) (tipe : Option String)
  | dropOne (ind : Nat)
  deriving Repr

def DWrap.app : DWrap → DRow → DRow
  | .head h, r => .head r h
  | .encode es, r => .encode r es
  | .keep a b c d e, r => .keep r a b c d e
  | .label i t, r => .label r i t
  | .dropOne i, r => .dropOne r i

/-- the view has no `headers` slot / property of its own: the attribute is answered by `__getattr__`, i.e. by the row below
(EncodeDense, LabelDense, and a KeepDense built over a header-less row: `headers=None` is not stored) -/
def DWrap.transparent : DWrap → Bool
  | .encode _ => true
  | .label _ _ => true
  | .keep _ _ _ _ none => true
  | _ => false

/-- a chain of wrapping views put around `r`, innermost first -/
def wrapD (ws : List DWrap) (r : DRow) : DRow := ws.foldl (fun r w => w.app r) r

inductive SWrap
  | head (fwd inv : KMap)
  | encode (enc : List (Key × Enc)) (nsp : List Key)
  | drop (ds : List Key)
  | label (key : Key) (tipe : Option String)
  deriving Repr

def SWrap.app : SWrap → SRow → SRow
  | .head f i, r => .head r f i
  | .encode e n, r => .encode r e n
  | .drop ds, r => .drop r ds
  | .label k t, r => .label r k t

/-- no `_inv` slot of its own (EncodeSparse, DropSparse, LabelSparse): `_inv` is answered by `__getattr__` -/
def SWrap.transparent : SWrap → Bool
  | .head _ _ => false
  | _ => true

def wrapS (ws : List SWrap) (r : SRow) : SRow := ws.foldl (fun r w => w.app r) r

/-- `EncodeRows({}).filter` applied `d` times on top of a dense row (each time an EncodeDense with identity encoders, built from the
row it is given): the probe the harness uses to look at `headers` / `missing` through 1, 2, 3 extra wrapping views -/
def probeD : Nat → DRow → DRow
  | 0, r => r
  | d + 1, r => probeD d (.encode r (encsOf [] r))

/-- `EncodeRows({}).filter` applied `d` times on top of a sparse row (an EncodeSparse without encoders) -/
def probeS : Nat → SRow → SRow
  | 0, r => r
  | d + 1, r => probeS d (.encode r [] (nspOf []))

/-- the guard of `Dense/Dense_/Sparse/Sparse_.__getattr__`: `if attr == '_row': raise AttributeError(attr)`, everything else is
`getattr(self._row, attr)`.  `(operator, constant)` as the translator extracts it (`Generated/C13Methods.lean`, `getattrGuards`). -/
def forwardGuard : String × String := ("Eq", "_row")

/-- is the attribute forwarded to `_row` by `__getattr__` (every attribute except `_row` itself; in particular `_inv`, `_fwd`, `headers`, `missing`,
`feats`, `label`, `tipe`) -/
def forwarded (attr : String) : Bool := attr != forwardGuard.2

/-- the four base classes of the row views carrying `__getattr__` / `__eq__` / `copy` -/
def baseClasses : List String := ["Dense", "Dense_", "Sparse", "Sparse_"]

/-- per concrete row-view class of coba/pipes/rows.py: does it define `__eq__`, `__len__`, `__iter__`, `__getattr__` itself
(`__eq__` and `__getattr__` never: equality and forwarding are the base classes'; `__len__` / `__iter__` always) -/
def protocolTable : List (String × Bool × Bool × Bool × Bool) :=
  ["LazyDense", "LazySparse", "HeadDense", "HeadSparse", "EncodeDense", "EncodeSparse", "DropOne", "KeepDense", "DropSparse",
   "LabelDense", "LabelSparse"].map (fun c => (c, false, true, true, false))

/-- the `zip_longest`-style comparison that does NOT look at the lengths (the shorter side is padded with `None`): what `==` must not be -/
def padZip : List Val → List Val → List (Val × Val)
  | [], ys => ys.map (fun y => (Val.none, y))
  | x :: xs, [] => (x, .none) :: padZip xs []
  | x :: xs, y :: ys => (x, y) :: padZip xs ys

def eqPadded (xs o : List Val) : Bool := (padZip xs o).all (fun p => pyEq p.1 p.2)

/-- DropRows with the row predicate evaluated on the column-dropped VIEW instead of on the given row (what the filter must not do) -/
def dropOnView (cols : List Key) (pred : Option Pred) (r : DRow) : Res (Option DRow) :=
  match applyD (.drop cols none) r with
  | .ok (some v) => (match evalPredD pred v with | .error e => .error e | .ok false => .ok none | .ok true => .ok (some v))
  | x => x

def dropOnViewS (cols : List Key) (pred : Option Pred) (r : SRow) : Res (Option SRow) :=
  match applyS (.drop cols none) r with
  | .ok (some v) => (match evalPredS pred v with | .error e => .error e | .ok false => .ok none | .ok true => .ok (some v))
  | x => x

/-- the filter dropped the row / kept a row (as Booleans, for statements about concrete tables) -/
def rowDropped {α} : Res (Option α) → Bool
  | .ok none => true
  | _ => false

def rowKept {α} : Res (Option α) → Bool
  | .ok (some _) => true
  | _ => false

def rowRaised {α} : Res (Option α) → Bool
  | .error _ => true
  | _ => false

/-! ## Phase 6: iteration element by element (early consumer stop, abandoned iterators, the order in which a failing cell raises)

`iter(row)` of a dense view is a lazy pipeline of generators: `LazyDense._enc_all`, the generator expression of `EncodeDense.__iter__` over
`zip(self._encoders, self._row)`, `itertools.compress(self._row, self._sel)` (KeepDense), `chain(islice(row, ind), islice(row, ind+1, None))`
(DropOne: TWO independent iterations of the inner row, the second one skipping — and thereby evaluating — the first `ind+1` elements).
`DRow.stream` is the outcome of each `next()` of that pipeline, in order; a consumer sees the values up to the first raising element. -/

/-- `itertools.compress(data, selectors)` over lazily produced data: the datum is pulled BEFORE the selector, so a raising datum raises whatever its
selector says; after the last selector exactly one more datum is pulled (and raises if it fails), nothing beyond it -/
def compressS : List (Res Val) → List Bool → List (Res Val)
  | [], _ => []
  | .error e :: _, _ => [.error e]
  | .ok _ :: _, [] => []
  | .ok x :: xs, b :: bs => if b then .ok x :: compressS xs bs else compressS xs bs

/-- `e(v)` for a `v` that is itself the outcome of the inner `next()` -/
def bindRes (f : Val → Res Val) : Res Val → Res Val
  | .ok x => f x
  | .error e => .error e

/-- `islice(row, ind+1, None)` of a second iteration, appended to the first `ind` elements: skipping evaluates element `ind` -/
def dropOneS (s : List (Res Val)) (ind : Nat) : List (Res Val) :=
  s.take ind ++ (match s.drop ind with | [] => [] | .error e :: _ => [.error e] | .ok _ :: t => t)

/-- the outcome of every `next()` on `iter(row)`, in order -/
def DRow.stream : DRow → List (Res Val)
  | .plain v => v.map .ok
  | .lazy c enc _ _ =>
    match enc with
    | none => c.get.map .ok
    | some [] => c.get.map .ok
    | some es => List.zipWith lazyApply es c.get
  | .head r _ => stream r
  | .encode r es => List.zipWith (fun e x => bindRes e.apply x) es (stream r)
  | .keep r _ _ sel _ _ => compressS (stream r) sel
  | .label r _ _ => stream r
  | .dropOne r ind => dropOneS (stream r) ind

/-- a consumer that calls `next()` at most `n` times and then abandons the iterator: the values it got, and the exception that ended it (if any) -/
def pull : Nat → List (Res Val) → List Val × Option Err
  | 0, _ => ([], none)
  | _ + 1, [] => ([], none)
  | n + 1, .ok x :: t => ((pull n t).1.cons x, (pull n t).2)
  | _ + 1, .error e :: _ => ([], some e)

/-- `list(islice(iter(row), n))` -/
def DRow.takeN (r : DRow) (n : Nat) : List Val × Option Err := pull n r.stream

/-- the partial iteration loads the base row (`_load_or_get`); nothing else of the row object changes -/
def stepTake (r : DRow) (n : Nat) : (List Val × Option Err) × DRow := (r.takeN n, r.touch)

end Coba.C13
