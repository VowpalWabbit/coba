/-
Model of `coba/environments/supervised.py` (`SupervisedSimulation.read`, both constructors),
`coba/pipes/rows.py` (`LabelRows` / `LabelDense` / `LabelSparse` / `DropOne` / `DropSparse`) and the
reward classes of `coba/primitives.py` (`L1Reward`, `BinaryReward`, `HammingReward`).
Imports the models of the readers (`Model/C12`), of the reservoir (`Model/C09`) and of the lazy rows
(`Model/C13`); the driver executes exactly these definitions.

Values.  A label atom is a Python `str` or a Python number (`int`/`float`/`bool`, modelled by the
exact rational it denotes, so `1 == 1.0 == True`).  `Categorical` is a `str` that carries its
levels.  A list-valued label is a list of atoms.

A simulation is modelled twice: over the table its source delivers (`simPairs`, `simDense`,
`simSparse`; the selection enters as the list of selected row positions), and from the text of the
file through the C12 readers and the C09 reservoir (`csvSim`/`csvSimT`, `libsvmSim`/`libsvmSimT`,
`manikSim`/`manikSimT`, `arffDenseSim`, `arffFileSim`).  `lazyContext` is the context of a
list-backed table as the `DropOne` row of the C13 model.

The model mirrors the code with the fixes fixes/C14-*.diff, all committed in /repo:
`HammingReward` scores a scalar action as the singleton label set, accepts an empty true label
set, `LabelRows` normalises a negative dense index and translates an index to the header of
header-keyed sparse rows, the `Categorical` shortcut offers only the levels that occur.
-/
import CobaVerif.Model.C12
import CobaVerif.Model.C09
import CobaVerif.Model.C13

namespace Coba.C14

inductive Err
  | typeError | indexError | zeroDivision
  /-- the input is outside what this model describes (e.g. label type `m` with a scalar label) -/
  | outOfModel
  /-- a reader (C12 model) or the reservoir (C09 model) failed; the harness sees the reader's own exception -/
  | upstream
  | keyError | valueError
deriving DecidableEq, Repr

/-- a label atom -/
inductive Val
  | str (s : String)
  | num (q : Rat)
deriving DecidableEq, Repr

def Val.isNum : Val → Bool
  | .num _ => true
  | .str _ => false

/-- Python `<` between two atoms of the same kind (strings by code point, numbers by value);
`false` across kinds (Python raises there, see `sortedSet`). -/
def Val.lt : Val → Val → Bool
  | .str a, .str b => decide (a < b)
  | .num a, .num b => decide (a < b)
  | _, _ => false

def Val.sameKind : Val → Val → Bool
  | .str _, .str _ => true
  | .num _, .num _ => true
  | _, _ => false

/-- a label as it reaches `SupervisedSimulation.read` -/
inductive Label
  | atom (v : Val)
  /-- `Categorical(s, levels)` -/
  | cat (s : String) (levels : List String)
  | list (vs : List Val)
deriving DecidableEq, Repr

inductive LType | c | r | m
deriving DecidableEq, Repr

/-- `delist = lambda l: l[0] if isinstance(l,list) else l` -/
def delist : Label → Except Err Val
  | .atom v => .ok v
  | .cat s _ => .ok (.str s)
  | .list [] => .error .indexError
  | .list (v :: _) => .ok v

/-! ### `sorted(set(values))` -/

/-- insert into a strictly ascending list, dropping an element that is already there -/
def insertSD (x : Val) : List Val → List Val
  | [] => [x]
  | y :: ys => if x = y then y :: ys else if Val.lt x y then x :: y :: ys else y :: insertSD x ys

def sortDedup (l : List Val) : List Val := l.foldr insertSD []

def homogeneous : List Val → Bool
  | [] => true
  | v :: vs => vs.all (Val.sameKind v)

/-- `sorted(set(l))`: Python raises `TypeError` when strings and numbers meet in one sort -/
def sortedSet (l : List Val) : Except Err (List Val) :=
  if homogeneous l then .ok (sortDedup l) else .error .typeError

/-! ### reward objects -/

/-- the argument a reward function is called with: one label, or a list of labels -/
inductive Action
  | one (v : Val)
  | many (vs : List Val)
deriving DecidableEq, Repr

inductive Reward
  /-- `L1Reward(label)` -/
  | l1 (y : Label)
  /-- `BinaryReward(label)` -/
  | binary (y : Label)
  /-- `HammingReward(label)` -/
  | hamming (y : Label)
deriving DecidableEq, Repr

/-- Python `argmax == action` -/
def labelEqAction : Label → Action → Bool
  | .atom v, .one a => v == a
  | .cat s _, .one a => a == .str s
  | .list vs, .many ws => vs == ws
  | _, _ => false

/-- the label list an action denotes for `HammingReward` (a scalar is the singleton set) -/
def Action.asList : Action → List Val
  | .one v => [v]
  | .many vs => vs

/-- `n_intersect`: members of the action that are `in` the true labels -/
def nIntersect (ys as : List Val) : Nat := (as.filter (fun a => ys.contains a)).length

/-- `n_union = len(argmax) + len(action) - n_intersect` -/
def nUnion (ys as : List Val) : Nat := ys.length + as.length - nIntersect ys as

def hammingValue (ys as : List Val) : Except Err Rat :=
  if nUnion ys as = 0 then .error .zeroDivision
  else .ok ((nIntersect ys as : Rat) / (nUnion ys as : Rat))

/-- `-abs(a - y)` -/
def negAbsDiff (a y : Rat) : Rat := if a - y < 0 then a - y else -(a - y)

/-- calling a reward object -/
def Reward.eval : Reward → Action → Except Err Rat
  | .l1 (.atom (.num y)), .one (.num a) => .ok (negAbsDiff a y)
  | .l1 _, _ => .error .typeError
  | .binary y, a => .ok (if labelEqAction y a then 1 else 0)
  | .hamming (.list ys), a => hammingValue ys a.asList
  | .hamming _, _ => .error .outOfModel

/-! ### `SupervisedSimulation.read` on (features, label) rows -/

structure Interaction (χ : Type) where
  context : χ
  actions : List Val
  reward : Reward
deriving DecidableEq, Repr

/-- `label_type = self._label_type or ("r" if isinstance(first_label,(int,float)) else "c")` -/
def inferType (given : Option LType) (first : Label) : LType :=
  match given with
  | some t => t
  | none =>
    match first with
    | .atom (.num _) => .r
    | _ => .c

/-- the label type `read` is told: the explicit `label_type` of the simulation, else the `tipe` an
already labelled source attached to its rows (`self._label_type or first.tipe`) -/
def resolveGiven (given tipe : Option LType) : Option LType :=
  match given with
  | some t => some t
  | none => tipe

/-- `[delist(l) for l in lbls]`, keeping the features beside each label -/
def delistAll {χ : Type} : List (χ × Label) → Except Err (List (χ × Val))
  | [] => .ok []
  | (x, l) :: rest =>
    match delist l with
    | .error e => .error e
    | .ok v =>
      match delistAll rest with
      | .error e => .error e
      | .ok r => .ok ((x, v) :: r)

/-- `chain(*lbls)` for list-valued labels -/
def flattenM : List Label → Except Err (List Val)
  | [] => .ok []
  | .list vs :: ls =>
    match flattenM ls with
    | .error e => .error e
    | .ok r => .ok (vs ++ r)
  | _ :: _ => .error .outOfModel

/-- a label as member of `set(labels)`: a list is unhashable (`TypeError`) -/
def labelKey : Label → Except Err Val
  | .atom v => .ok v
  | .cat s _ => .ok (.str s)
  | .list _ => .error .typeError

def labelKeys {χ : Type} : List (χ × Label) → Except Err (List Val)
  | [] => .ok []
  | (_, l) :: rest =>
    match labelKey l with
    | .error e => .error e
    | .ok v =>
      match labelKeys rest with
      | .error e => .error e
      | .ok r => .ok (v :: r)

/-- the `Categorical` branch (with fixes/C14-categorical-unused-levels.diff): the declared levels
in declared order, without the levels no example carries -/
def catActions (levels : List String) (keys : List Val) : List Val :=
  (levels.filter (fun l => keys.contains (.str l))).map Val.str

def read {χ : Type} (given : Option LType) (rows : List (χ × Label)) : Except Err (List (Interaction χ)) :=
  match rows with
  | [] => .ok []
  | (_, first) :: _ =>
    match inferType given first with
    | .r => .ok (rows.map fun r => ⟨r.1, [], .l1 r.2⟩)
    | .c =>
      match first with
      | .cat _ levels =>
        match labelKeys rows with
        | .error e => .error e
        | .ok keys => .ok (rows.map fun r => ⟨r.1, catActions levels keys, .binary r.2⟩)
      | _ =>
        match delistAll rows with
        | .error e => .error e
        | .ok drows =>
          match sortedSet (drows.map (·.2)) with
          | .error e => .error e
          | .ok acts => .ok (drows.map fun r => ⟨r.1, acts, .binary (.atom r.2)⟩)
    | .m =>
      match flattenM (rows.map (·.2)) with
      | .error e => .error e
      | .ok all =>
        match sortedSet all with
        | .error e => .error e
        | .ok acts => .ok (rows.map fun r => ⟨r.1, acts, .hamming r.2⟩)

/-! ### `LabelRows`: splitting a row into features and label -/

/-- Python index normalisation against a row of length `len` -/
def normIdx (ind : Int) (len : Nat) : Option Nat :=
  if 0 ≤ ind then some ind.toNat
  else if 0 ≤ ind + (len : Int) then some (ind + (len : Int)).toNat
  else none

/-- `LabelDense`: `label = row[ind]`, `feats = DropOne(row, ind)` =
`chain(islice(row,ind), islice(row,ind+1,None))` -/
def splitDense {γ : Type} (i : Nat) (row : List γ) : Except Err (List γ × γ) :=
  match row[i]? with
  | none => .error .indexError
  | some l => .ok (row.take i ++ row.drop (i + 1), l)

/-- `DropOne.headers`: the header names of the features, in feature order (the label's name is gone
and the names behind it move up by one) -/
def featureHeaders {η : Type} (i : Nat) (hdr : List η) : List η := hdr.take i ++ hdr.drop (i + 1)

/-- the value stored under a header name in a row with the given headers -/
def lookupNamed {η γ : Type} [DecidableEq η] (name : η) : List η → List γ → Except Err γ
  | [], _ => .error .keyError
  | h :: hs, vs =>
    if h = name then (match vs with | [] => .error .indexError | v :: _ => .ok v)
    else lookupNamed name hs vs.tail

/-- `DropOne.__getitem__(name)`: the feature stored under a header name (`KeyError` for the label's
name and for unknown names) -/
def featureByName {η γ : Type} [DecidableEq η] (i : Nat) (hdr : List η) (feats : List γ) (name : η) : Except Err γ :=
  lookupNamed name (featureHeaders i hdr) feats

def splitDenseAll {γ : Type} (i : Nat) : List (List γ) → Except Err (List (List γ × γ))
  | [] => .ok []
  | row :: rest =>
    match splitDense i row with
    | .error e => .error e
    | .ok p =>
      match splitDenseAll i rest with
      | .error e => .error e
      | .ok r => .ok (p :: r)

/-- `LabelSparse`: `label = row.get(key, 0)`, `feats = DropSparse(row, {key})` -/
def splitSparse {κ γ : Type} [DecidableEq κ] (key : κ) (zero : γ) (row : List (κ × γ)) : List (κ × γ) × γ :=
  (row.filter (fun kv => kv.1 ≠ key),
   match row.find? (fun kv => kv.1 = key) with
   | some kv => kv.2
   | none => zero)

/-! ### the whole pipeline: source → [Reservoir(take)] → [LabelRows] → read -/

/-- the rows at the selected positions, in selection order (what `Reservoir(take)` emits when its
random draws select `idxs`) -/
def select {ρ : Type} (idxs : List Nat) (rows : List ρ) : List ρ := idxs.filterMap (rows[·]?)

def applyTake {ρ : Type} (take : Option (List Nat)) (rows : List ρ) : List ρ :=
  match take with
  | none => rows
  | some idxs => select idxs rows

/-- `SupervisedSimulation(source, None, label_type, take)` / `SupervisedSimulation(X, Y, label_type)`:
the source yields (features, label) pairs -/
def simPairs {χ : Type} (given : Option LType) (take : Option (List Nat)) (rows : List (χ × Label)) :
    Except Err (List (Interaction χ)) :=
  read given (applyTake take rows)

/-- a dense cell is a label-shaped value; the label cell is used as it is -/
def simDense (given : Option LType) (take : Option (List Nat)) (ind : Int) (rows : List (List Label)) :
    Except Err (List (Interaction (List Label))) :=
  match applyTake take rows with
  | [] => .ok []
  | first :: rest =>
    match normIdx ind first.length with
    | none => .error .indexError
    | some i =>
      match splitDenseAll i (first :: rest) with
      | .error e => .error e
      | .ok prs => read given prs

def simSparse (given : Option LType) (take : Option (List Nat)) (key : Val) (rows : List (List (Val × Label))) :
    Except Err (List (Interaction (List (Val × Label)))) :=
  read given ((applyTake take rows).map (splitSparse key (Label.atom (.num 0))))

/-! ### `take` with the reservoir of the C09 model (seed 1 = the default of `Reservoir`) -/

/-- `Reservoir(k).filter(rows)`: Algorithm L of `Model/C09` from the generator state of
`CobaRandom(1)`; `steps` are the float quantities (skip count, slot) of its loop iterations -/
def sampleRows {ρ : Type} (k : Nat) (steps : List C09.Step) (rows : List ρ) : Except Err (List ρ) :=
  match C09.reservoir (some k) false (C05.normInt 1) steps rows with
  | .ok s => .ok s
  | .error _ => .error .upstream

def simPairsS {χ : Type} (given : Option LType) (k : Nat) (steps : List C09.Step) (rows : List (χ × Label)) :
    Except Err (List (Interaction χ)) :=
  match sampleRows k steps rows with
  | .error e => .error e
  | .ok s => read given s

def simDenseS (given : Option LType) (k : Nat) (steps : List C09.Step) (ind : Int) (rows : List (List Label)) :
    Except Err (List (Interaction (List Label))) :=
  match sampleRows k steps rows with
  | .error e => .error e
  | .ok s => simDense given none ind s

def simSparseS (given : Option LType) (k : Nat) (steps : List C09.Step) (key : Val) (rows : List (List (Val × Label))) :
    Except Err (List (Interaction (List (Val × Label)))) :=
  match sampleRows k steps rows with
  | .error e => .error e
  | .ok s => simSparse given none key s

/-! ### end to end: text → reader (C12 model) → LabelRows → read -/

open C12 (Text)

/-- a Python `str` given by its code points -/
def textStr (t : Text) : String := String.ofList (t.map Char.ofNat)

def textLabel (t : Text) : Label := .atom (.str (textStr t))

/-- `HeadRows(first)`: `dict(zip(headers, count()))` — a repeated header name maps to its last position -/
def headerIndex (hdr : List Text) (name : Text) : Option Nat :=
  match (hdr.reverse.idxOf? name) with
  | none => none
  | some j => some (hdr.length - 1 - j)

/-- `label_col`: an index, or a header name -/
inductive LabelCol
  | index (i : Int)
  | name (t : Text)

/-- `SupervisedSimulation(CsvSource(lines, has_header, delimiter=delim), label_col, label_type)` -/
def csvSim (delim : Nat) (hasHeader : Bool) (lc : LabelCol) (given : Option LType) (lines : List Text) :
    Except Err (List (Interaction (List Label))) :=
  match C12.csvReaderFix (C12.excel delim) hasHeader lines with
  | .error _ => .error .upstream
  | .ok (hdr, rows) =>
    let table := rows.map (·.map textLabel)
    match lc with
    | .index i => simDense given none i table
    | .name nm =>
      match rows with
      | [] => .ok []
      | _ :: _ =>
        match hdr with
        | none => .error .typeError          -- a list row has no `.headers`
        | some h =>
          match headerIndex h nm with
          | none => .error .keyError
          | some i => simDense given none (i : Int) table

/-- a LibSVM row as the pair `SupervisedSimulation` receives: the features stay tokens (`int`/`float`
of a token is CPython's), the label is the list of label strings -/
def svmPair (r : C12.SvmRow) : List (Text × Text) × Label := (r.feats, .list (r.labels.map fun l => Val.str (textStr l)))

/-- `SupervisedSimulation(LibSvmSource(lines), None, label_type)` -/
def libsvmSim (given : Option LType) (lines : List Text) : Except Err (List (Interaction (List (Text × Text)))) :=
  match C12.libsvmRead lines with
  | .error _ => .error .upstream
  | .ok rows => read given (rows.map svmPair)

/-- `SupervisedSimulation(ManikSource(lines), None, label_type)` -/
def manikSim (given : Option LType) (lines : List Text) : Except Err (List (Interaction (List (Text × Text)))) :=
  match C12.manikRead lines with
  | .error _ => .error .upstream
  | .ok rows => read given (rows.map svmPair)

/-- a decimal literal `[-]digits[.digits]` as the number `float(tok)` denotes when it is exactly
representable (the harness writes small integers and dyadic fractions); other literals: `none` -/
def parseDecimal (tok : Text) : Option Rat :=
  let (neg, body) := match tok with
    | 45 :: r => (true, r)
    | r => (false, r)
  let ip := body.takeWhile C12.isDigit
  let rest := body.dropWhile C12.isDigit
  let mk (n : Nat) (d : Nat) : Rat := (if neg then -(n : Rat) else (n : Rat)) / (d : Rat)
  match rest with
  | [] => if ip = [] then none else some (mk (C12.digitsVal ip).toNat 1)
  | 46 :: fp =>
    if (ip = [] ∧ fp = []) ∨ !(fp.all C12.isDigit) then none
    else some (mk ((C12.digitsVal (ip ++ fp)).toNat) (10 ^ fp.length))
  | _ => none

/-- an ARFF cell as a label-shaped value; a missing value or an inexact literal is outside the model -/
def cellLabel : C12.Cell → Except Err Label
  | .num tok => match parseDecimal tok with | some q => .ok (.atom (.num q)) | none => .error .outOfModel
  | .str s => .ok (textLabel s)
  | .cat s levels => .ok (.cat (textStr s) (levels.map textStr))
  | .missing => .error .outOfModel

def cellLabels : List C12.Cell → Except Err (List Label)
  | [] => .ok []
  | c :: cs =>
    match cellLabel c with
    | .error e => .error e
    | .ok l => match cellLabels cs with | .error e => .error e | .ok r => .ok (l :: r)

def rowsLabels : List (List C12.Cell) → Except Err (List (List Label))
  | [] => .ok []
  | r :: rs =>
    match cellLabels r with
    | .error e => .error e
    | .ok l => match rowsLabels rs with | .error e => .error e | .ok t => .ok (l :: t)

def encodeRows (encs : List C12.Enc) : List (List Text) → Except Err (List (List C12.Cell))
  | [] => .ok []
  | r :: rs =>
    match C12.encodeRow encs r with
    | .error _ => .error .upstream
    | .ok c => match encodeRows encs rs with | .error e => .error e | .ok t => .ok (c :: t)

/-- dense ARFF, the reader's simple path: attribute lines → names and encoders (`ArffAttrReader`),
data lines → raw rows (`ArffLineReader`), encoders applied, then `LabelRows` and `read` -/
def arffDenseSim (lc : LabelCol) (given : Option LType) (attrLines dataLines : List Text) :
    Except Err (List (Interaction (List Label))) :=
  match C12.arffAttrs true [] attrLines with
  | .error _ => .error .upstream
  | .ok attrs =>
    match C12.arffLines attrs.length C12.ALR.init dataLines with
    | .error _ => .error .upstream
    | .ok raws =>
      match encodeRows (attrs.map (·.2)) raws with
      | .error e => .error e
      | .ok cells =>
        match rowsLabels cells with
        | .error e => .error e
        | .ok table =>
          match lc with
          | .index i => simDense given none i table
          | .name nm =>
            match table with
            | [] => .ok []
            | _ :: _ =>
              match headerIndex (attrs.map (·.1)) nm with
              | none => .error .keyError
              | some i => simDense given none (i : Int) table

/-! ### the lazy row object the learner receives as context (C13's model of the row classes) -/

/-- a table cell as a value of the C13 model (strings, integers, Categoricals; other cells have no counterpart there) -/
def toC13 : Label → Option C13.Val
  | .atom (.str s) => some (.str s)
  | .atom (.num q) => if q.den = 1 then some (.int q.num) else none
  | .cat s lv => some (.cat s lv)
  | .list _ => none

def rowC13 : List Label → Option (List C13.Val)
  | [] => some []
  | c :: cs => match toC13 c, rowC13 cs with | some v, some vs => some (v :: vs) | _, _ => none

/-- a row of a list-backed table as the reader yields it: a plain list (`ListSource`, `CsvReader` without header)
or `HeadDense(list, headers)` (`CsvReader` with header) -/
def lazyRow (hdr : Option (List String)) (vals : List C13.Val) : C13.DRow :=
  match hdr with
  | none => .plain vals
  | some ns => .head (.plain vals) (C13.zipNames ns)

/-- `LabelRows` wraps it in `LabelDense(row, i, tipe)`; the context of the interaction is its `.feats` = `DropOne(row, i)` -/
def lazyContext (hdr : Option (List String)) (vals : List C13.Val) (i : Nat) : C13.DRow :=
  .dropOne (lazyRow hdr vals) i

/-! ## Phase 4: `take` between reader and `LabelRows` inside the model, `label_col` by header name, whole-file ARFF (dense and sparse) -/

/-- `Reservoir(take)` as the pipeline stage between the reader and `LabelRows`; `none` = no `take` -/
def sampleOpt {ρ : Type} (res : Option (Nat × List C09.Step)) (rows : List ρ) : Except Err (List ρ) :=
  match res with
  | none => .ok rows
  | some (k, steps) => sampleRows k steps rows

/-- `LabelRows(label_col)` + `read` over a dense table whose rows may carry headers: an index is used as it is,
a header name is looked up in the first row's headers (`first.headers[label]`) -/
def denseByCol (hdr : Option (List Text)) (lc : LabelCol) (given : Option LType) (table : List (List Label)) :
    Except Err (List (Interaction (List Label))) :=
  match lc with
  | .index i => simDense given none i table
  | .name nm =>
    match table with
    | [] => .ok []
    | _ :: _ =>
      match hdr with
      | none => .error .typeError
      | some h =>
        match headerIndex h nm with
        | none => .error .keyError
        | some i => simDense given none (i : Int) table

/-- what follows the CSV reader: `Reservoir(take)`, then `LabelRows` / `read` over the sampled rows -/
def csvTail (hdr : Option (List Text)) (lc : LabelCol) (given : Option LType) (res : Option (Nat × List C09.Step))
    (rows : List (List Text)) : Except Err (List (Interaction (List Label))) :=
  match sampleOpt res rows with
  | .error e => .error e
  | .ok s => denseByCol hdr lc given (s.map (·.map textLabel))

/-- `SupervisedSimulation(CsvSource(lines, has_header, delimiter=delim), label_col, label_type, take)` -/
def csvSimT (delim : Nat) (hasHeader : Bool) (lc : LabelCol) (given : Option LType) (res : Option (Nat × List C09.Step))
    (lines : List Text) : Except Err (List (Interaction (List Label))) :=
  match C12.csvReaderFix (C12.excel delim) hasHeader lines with
  | .error _ => .error .upstream
  | .ok (hdr, rows) => csvTail hdr lc given res rows

/-- `SupervisedSimulation(LibSvmSource(lines), None, label_type, take)` -/
def libsvmSimT (given : Option LType) (res : Option (Nat × List C09.Step)) (lines : List Text) :
    Except Err (List (Interaction (List (Text × Text)))) :=
  match C12.libsvmRead lines with
  | .error _ => .error .upstream
  | .ok rows =>
    match sampleOpt res rows with
    | .error e => .error e
    | .ok s => read given (s.map svmPair)

/-- `SupervisedSimulation(ManikSource(lines), None, label_type, take)` -/
def manikSimT (given : Option LType) (res : Option (Nat × List C09.Step)) (lines : List Text) :
    Except Err (List (Interaction (List (Text × Text)))) :=
  match C12.manikRead lines with
  | .error _ => .error .upstream
  | .ok rows =>
    match sampleOpt res rows with
    | .error e => .error e
    | .ok s => read given (s.map svmPair)

/-- the items of a sparse ARFF row (header name ↦ encoded cell) as key/value pairs of the simulation -/
def sparseItemLabels : List (Text × C12.Cell) → Except Err (List (Val × Label))
  | [] => .ok []
  | (k, c) :: r =>
    match cellLabel c with
    | .error e => .error e
    | .ok l => match sparseItemLabels r with | .error e => .error e | .ok t => .ok ((Val.str (textStr k), l) :: t)

def sparseTable : List (List (Text × C12.Cell)) → Except Err (List (List (Val × Label)))
  | [] => .ok []
  | r :: rs =>
    match sparseItemLabels r with
    | .error e => .error e
    | .ok l => match sparseTable rs with | .error e => .error e | .ok t => .ok (l :: t)

/-- the key `LabelRows` hands to `LabelSparse` for header-keyed sparse rows: a header name as it is, an index is
translated to its header (`first._inv.get(label, label)`: an index without a header stays the number) -/
def sparseKey (names : List Text) : LabelCol → Val
  | .name nm => .str (textStr nm)
  | .index i =>
    if i < 0 then .num (i : Rat)
    else match names[i.toNat]? with
      | some nm => .str (textStr nm)
      | none => .num (i : Rat)

/-- what `arffFileSim` returns: the interactions over dense or over sparse rows -/
inductive ArffOut
  | dense (r : Except Err (List (Interaction (List Label))))
  | sparse (r : Except Err (List (Interaction (List (Val × Label)))))

/-- `SupervisedSimulation(ArffSource(lines), label_col, label_type, take)`: the whole file through `C12.arffRead`
(framing, `@data`, dense or sparse decided by the first data line, encoders), then `Reservoir`, `LabelRows`, `read` -/
def arffFileSim (lc : LabelCol) (given : Option LType) (res : Option (Nat × List C09.Step)) (lines : List Text) : ArffOut :=
  match C12.arffRead lines with
  | .error _ => .dense (.error .upstream)
  | .ok .empty => .dense (.ok [])
  | .ok (.dense names rows) =>
    .dense (match sampleOpt res rows with
      | .error e => .error e
      | .ok s =>
        match rowsLabels (s.map (·.cells)) with
        | .error e => .error e
        | .ok table => denseByCol (some names) lc given table)
  | .ok (.sparse names rows) =>
    .sparse (match sampleOpt res rows with
      | .error e => .error e
      | .ok s =>
        match sparseTable (s.map (·.items)) with
        | .error e => .error e
        | .ok table => simSparse given none (sparseKey names lc) table)

/-! ### vocabulary used by the property statements -/

/-- the label type `read` works with: given, or inferred from the first label (`none` on no rows) -/
def typeOf {χ : Type} (given : Option LType) (rows : List (χ × Label)) : Option LType :=
  match rows with
  | [] => none
  | r :: _ => some (inferType given r.2)

/-- the levels of the first label when it is a `Categorical` -/
def firstLevels {χ : Type} (rows : List (χ × Label)) : Option (List String) :=
  match rows with
  | (_, .cat _ levels) :: _ => some levels
  | _ => none

/-- ascending in Python's `<` (hence free of duplicates) -/
def Sorted (l : List Val) : Prop := List.Pairwise (fun a b => Val.lt a b = true) l

/-! ## Phase 5: the constructor's argument table and `read`'s label-type / reward dispatch as data

These tables say, as plain data, what the definitions above assume about `SupervisedSimulation.__init__` and the
`if`-chain of `SupervisedSimulation.read`; `Generated/C14Supervised.lean` holds the same tables as extracted from the
current source with Python's `ast` (harness `pre_build`), and `Props/C14.lean` proves the two equal. -/

/-- `label_type.lower()` on the literals of `Literal["c","r","m"]`, either case (the driver parses the harness' literal with it) -/
def parseLType : String → Option LType
  | "c" => some .c | "C" => some .c
  | "r" => some .r | "R" => some .r
  | "m" => some .m | "M" => some .m
  | _ => none

/-- the Python class of a reward object -/
def Reward.className : Reward → String
  | .l1 _ => "L1Reward" | .binary _ => "BinaryReward" | .hamming _ => "HammingReward"

/-- the reward class `read` instantiates, by label type -/
def rewardClassOf : LType → String
  | .r => "L1Reward" | .c => "BinaryReward" | .m => "HammingReward"

/-- the reward constructor `read` binds, by label type and "the first label is a `Categorical`": the plain classification
branch delists the label first (`lambda l: BinaryReward(delist(l))` = `.binary (.atom v)` with `delist l = v`) -/
def rewardCtorOf : LType → Bool → String
  | .r, _ => "L1Reward"
  | .c, true => "BinaryReward"
  | .c, false => "BinaryReward(delist)"
  | .m, _ => "HammingReward"

/-- how `read` computes the action list, by label type and "the first label is a `Categorical`":
`[]`; the declared levels filtered to the labels present (`catActions`); `sorted(set(map(delist,lbls)))`;
`sorted(set(chain(*lbls)))` (`sortedSet` of `delistAll` / `flattenM`) -/
def actionsKindOf : LType → Bool → String
  | .r, _ => "empty"
  | .c, true => "levels&present"
  | .c, false => "sorted&set&delist"
  | .m, _ => "sorted&set&chain"

def labelTypeLiterals : List String := ["r", "c", "m", "R", "C", "M"]

/-- one row per label-type literal and first-label kind: (literal, first label is Categorical, reward class, action computation) -/
def dispatchTable : List (String × Bool × String × String) :=
  labelTypeLiterals.flatMap fun lit => [false, true].filterMap fun cat =>
    (parseLType lit).map fun t => (lit, cat, rewardCtorOf t cat, actionsKindOf t cat)

/-- `isinstance(first_label, (int,float))`: the Python types the model's `.atom (.num _)` stands for (`bool` is an `int`) -/
def inferNumericTypes : List String := ["float", "int"]

/-- where the label type comes from, in order of precedence: rows of an already labelled source carry `tipe`
(`self._label_type or first.tipe`), other rows do not (`self._label_type or <inferred>`); `resolveGiven` + `inferType` -/
def typeSources (hasTipe : Bool) : List String := if hasTipe then ["explicit", "tipe"] else ["explicit", "inferred"]

/-- the argument table of the source overload: (name, position, default when absent); `None` = the stage is left out
(`sampleOpt none`, no `LabelRows`: the source yields pairs) resp. the type is resolved by `typeSources` -/
def ctorSourceArgs : List (String × Nat × String) :=
  [("source", 0, "<required>"), ("label_col", 1, "None"), ("label_type", 2, "None"), ("take", 3, "None")]

/-- the argument table of the (X,Y) overload -/
def ctorXYArgs : List (String × Nat × String) := [("X", 0, "<required>"), ("Y", 1, "<required>"), ("label_type", 2, "None")]

/-- the stages joined behind the source, by class name: (joined when this argument is not None, class, its first argument).
In the model `Reservoir(take)` sits before `LabelRows(label_col, ·)` (`csvSimT` / `arffFileSim` / `simDenseS`); the other order
yields the same interactions (the reservoir selects by position) and is not distinguished -/
def pipelineJoins : List (String × String × List String) :=
  [("label_col", "LabelRows", ["label_col"]), ("take", "Reservoir", ["take"])]

/-- what an interaction is built from, for rows of a labelled source (`.feats` / `.label`) and for pairs (`[0]` / `[1]`):
the context is the row's features, the actions are the shared list, the reward object is built from the row's label -/
def yieldTable : List (String × String) :=
  [("actions", "actions"), ("context", "row.feats"), ("context", "row[0]"), ("rewards", "reward(row.label)"), ("rewards", "reward(row[1])")]

end Coba.C14
