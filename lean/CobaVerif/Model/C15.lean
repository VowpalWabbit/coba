/-
Model of `coba/safety.py` (class `SafeLearner`: predict, learn, _safe_call, _parse_pred and the static
helpers batch_order / has_kwargs / first_row / pred_format / possible_pmf / possible_action).
Import-free apart from the finished C05 model (`CobaRandom.choicew`).

Python values are `PyVal`s.  Objects that have an identity worth talking about (floats, strings,
tuples, lists, dicts) carry a `Ref` saying who created the object: the environment (`ext`: offered
actions, contexts), `SafeLearner.predict` (`safe`: the float copies of 0/1 actions), the learner
(`lrn`: everything a learner builds to answer) or SafeLearner's own temporaries (`tmp`).  `is` is
`pyIs`.  Ints, bools and None are compared by value by `is` (CPython interns the small ints the
checks generate; `True is 1` is False).

`Fixes` selects between the code as it stands at the pinned commit (all flags false) and the code
with the proposed repairs `fixes/C15-*.diff` applied (flag true); every other line is common.
-/
import CobaVerif.Model.C05

namespace Coba.C15

inductive Ref
  | ext (n : Nat) | safe (n : Nat) | lrn (n : Nat) | tmp
deriving DecidableEq, Repr

inductive PyVal where
  | none : PyVal
  | bool (b : Bool)
  | int (i : Int)
  | flt (r : Ref) (q : Rat)
  | str (r : Ref) (s : String)
  | tuple (r : Ref) (xs : List PyVal)
  | list (r : Ref) (xs : List PyVal)
  | dict (r : Ref) (ks : List String) (vs : List PyVal)
deriving Repr

inductive Err
  | coba | key | index | type | attr | value | stopIter | zeroDiv | learner | other
deriving DecidableEq, Repr

structure Fixes where
  /-- fixes/C15-pred-format-short-answers.diff -/
  short : Bool
  /-- fixes/C15-batched-float-copies.diff -/
  batch : Bool
  /-- fixes/C15-colmajor-parse.diff -/
  col : Bool
  /-- fixes/C15-sparse-rows-not-colkw.diff -/
  rowdict : Bool
deriving DecidableEq, Repr

def Fixes.all : Fixes := ⟨true, true, true, true⟩
def Fixes.none : Fixes := ⟨false, false, false, false⟩

namespace PyVal

def isDict : PyVal → Bool | .dict .. => true | _ => false
def isStr : PyVal → Bool | .str .. => true | _ => false
/-- `hasattr(v,'__len__')` -/
def hasLen : PyVal → Bool | .str .. | .tuple .. | .list .. | .dict .. => true | _ => false
def len : PyVal → Nat
  | .str _ s => s.length | .tuple _ xs => xs.length | .list _ xs => xs.length | .dict _ ks _ => ks.length
  | _ => 0
/-- elements of a tuple / list -/
def items : PyVal → Option (List PyVal)
  | .tuple _ xs => some xs | .list _ xs => some xs | _ => Option.none
/-- numeric value of bool / int / float -/
def num : PyVal → Option Rat
  | .bool b => some (if b then 1 else 0) | .int i => some (i : Rat) | .flt _ q => some q | _ => Option.none

end PyVal

open PyVal

/-- Python `is` -/
def pyIs : PyVal → PyVal → Bool
  | .none, .none => true
  | .bool a, .bool b => a == b
  | .int a, .int b => a == b
  | .flt r _, .flt r' _ => r == r'
  | .str r _, .str r' _ => r == r'
  | .tuple r _, .tuple r' _ => r == r'
  | .list r _, .list r' _ => r == r'
  | .dict r _ _, .dict r' _ _ => r == r'
  | _, _ => false

def lookupKey (k : String) : List String → List PyVal → Option PyVal
  | k' :: ks, v :: vs => if k = k' then some v else lookupKey k ks vs
  | _, _ => Option.none

/- Python `==` on the value domain (numbers compare numerically across bool/int/float, a tuple never
equals a list, dicts compare as mappings) -/
mutual
def pyEq : PyVal → PyVal → Bool
  | .none, .none => true
  | .str _ a, .str _ b => a == b
  | .tuple _ xs, .tuple _ ys => pyEqList xs ys
  | .list _ xs, .list _ ys => pyEqList xs ys
  | .dict _ ks vs, .dict _ ks' vs' => ks.length == ks'.length && pyEqDict ks vs ks' vs'
  | .bool a, y => match y.num with | some q => (if a then (1 : Rat) else 0) == q | Option.none => false
  | .int a, y => match y.num with | some q => (a : Rat) == q | Option.none => false
  | .flt _ a, y => match y.num with | some q => a == q | Option.none => false
  | _, _ => false
def pyEqList : List PyVal → List PyVal → Bool
  | [], [] => true
  | x :: xs, y :: ys => pyEq x y && pyEqList xs ys
  | _, _ => false
def pyEqDict : List String → List PyVal → List String → List PyVal → Bool
  | k :: ks, v :: vs, ks', vs' =>
    (match lookupKey k ks' vs' with | some v' => pyEq v v' | Option.none => false) && pyEqDict ks vs ks' vs'
  | _, _, _, _ => true
end

/-- `v[k]` for an index k ≥ 0 -/
def getIdx (v : PyVal) (k : Nat) : Except Err PyVal :=
  match v with
  | .tuple _ xs | .list _ xs => match xs[k]? with | some x => .ok x | Option.none => .error .index
  | .str _ s => match s.toList[k]? with | some c => .ok (.str .tmp (String.singleton c)) | Option.none => .error .index
  | .dict .. => .error .key            -- only string keys are modelled; an int key is never present
  | _ => .error .type

/-- `v[-1]` -/
def getLast (v : PyVal) : Except Err PyVal :=
  match v with
  | .tuple _ xs | .list _ xs => match xs.getLast? with | some x => .ok x | Option.none => .error .index
  | .str _ s => match s.toList.getLast? with | some c => .ok (.str .tmp (String.singleton c)) | Option.none => .error .index
  | .dict .. => .error .key
  | _ => .error .type

/-- `v[:-1]` -/
def dropLast (v : PyVal) : Except Err PyVal :=
  match v with
  | .tuple _ xs => .ok (.tuple .tmp xs.dropLast)
  | .list _ xs => .ok (.list .tmp xs.dropLast)
  | .str _ s => .ok (.str .tmp (String.ofList s.toList.dropLast))
  | .dict .. => .error .key            -- slices are hashable in 3.12: KeyError
  | _ => .error .type

/-- iteration `for p in v` -/
def iter (v : PyVal) : Except Err (List PyVal) :=
  match v with
  | .tuple _ xs | .list _ xs => .ok xs
  | .dict _ ks _ => .ok (ks.map (fun k => .str .tmp k))
  | .str _ s => .ok (s.toList.map (fun c => .str .tmp (String.singleton c)))
  | _ => .error .type

def lenE (v : PyVal) : Except Err Nat := if v.hasLen then .ok v.len else .error .type

/-- `a.keys() == b.keys()` -/
def keysEq (a b : PyVal) : Except Err Bool :=
  match a, b with
  | .dict _ ks _, .dict _ ks' _ => .ok (ks.all (ks'.contains ·) && ks'.all (ks.contains ·))
  | _, _ => .error .attr

/-- `list(d.values())[0]` -/
def firstValue (v : PyVal) : Except Err PyVal :=
  match v with
  | .dict _ _ (x :: _) => .ok x
  | .dict _ _ [] => .error .index
  | _ => .error .attr

/-! ### the float copies of 0/1 actions (`SafeLearner.predict`) -/

/-- `a in [0,1]` -/
def isZeroOne (v : PyVal) : Bool :=
  match v.num with | some q => q == 0 || q == 1 | Option.none => false

/-- `float(a) if a in [0,1] else a`; `float(x)` of a float is `x` itself -/
def makeSafe (k : Nat) : PyVal → PyVal
  | .bool b => .flt (.safe k) (if b then 1 else 0)
  | .int i => if i = 0 ∨ i = 1 then .flt (.safe k) (i : Rat) else .int i
  | v => v

def mapIdxFrom {α β} (f : Nat → α → β) : Nat → List α → List β
  | _, [] => []
  | i, x :: xs => f i x :: mapIdxFrom f (i + 1) xs

/-- one list of actions: unchanged (the same objects) unless 0 or 1 is among them -/
def safeRow (r : Nat) (as : List PyVal) : List PyVal :=
  if as.any isZeroOne then mapIdxFrom (fun j a => makeSafe (r * 4096 + j) a) 0 as else as

/-- the `actions` argument of predict -/
inductive Acts
  | single (as : List PyVal)
  | batch (rows : List (List PyVal))
deriving Repr

def Acts.toPy : Acts → PyVal
  | .single as => .list .tmp as
  | .batch rows => .list .tmp (rows.map (fun r => .list .tmp r))

/-- at the pinned commit a batch of action lists is tested with `0 not in actions`, which compares 0 with
whole rows and so never substitutes anything -/
def safeActs (fx : Fixes) : Acts → Acts
  | .single as => .single (safeRow 0 as)
  | .batch rows => if fx.batch then .batch (mapIdxFrom safeRow 0 rows) else .batch rows

/-! ### learners -/

inductive Arg
  | single (ctx : PyVal) (actions : List PyVal)
  | batch (ctxs : List PyVal) (actions : List (List PyVal))
deriving Repr

/-- a learner's `predict`: a function of what it is given; `.error` = it raised -/
abbrev Learner := Arg → Except Err PyVal

inductive BLayout | not | row | col
deriving DecidableEq, Repr

inductive Kind | AX | AP | PM
deriving DecidableEq, Repr

/-- `_pred_format`: kind + the trailing `*` of the dict-hinted forms -/
structure PFmt where
  kind : Kind
  star : Bool
deriving DecidableEq, Repr

structure State where
  rng : Nat
  method : Option Nat := Option.none
  layout : Option BLayout := Option.none
  hasKw : Bool := false
  fmt : Option PFmt := Option.none
  prev : Option Acts := Option.none
  safe : Acts := .single []
deriving Repr

/-! ### `_safe_call` -/

def lenOr0 (v : PyVal) : Nat := v.len

/-- `any(k in item for k in ['action','action_prob','pmf'])` -/
def isHint : PyVal → Bool
  | .dict _ ks _ => ks.contains "action" || ks.contains "action_prob" || ks.contains "pmf"
  | _ => false

/-- `raise_if_not_valid_out(out, n)` does not raise (any exception inside it counts as invalid) -/
def validOut (fx : Fixes) (out : PyVal) (n : Nat) : Bool :=
  match out with
  | .none => false
  | .dict _ _ vs => match vs with | v :: _ => n == lenOr0 v | [] => false
  | .tuple _ xs | .list _ xs =>
    match xs, xs.getLast? with
    | x :: _, some l =>
      if xs.all PyVal.isDict then
        match keysEq x l with
        | .ok true => n == xs.length || n == lenOr0 x
        | .ok false =>
          if fx.rowdict && !isHint x then n == xs.length || n == lenOr0 x
          else (match x with | .dict _ _ (v :: _) => n == lenOr0 v | _ => false)
        | .error _ => false
      else n == xs.length || n == lenOr0 x
    | _, _ => false
  | .str _ s => if s.isEmpty then false else n == s.length || n == 1
  | _ => false

/-- `_method2`: one call per row -/
def perRow (L : Learner) : List PyVal → List (List PyVal) → Except Err (List PyVal)
  | c :: cs, a :: as => do
    let p ← L (.single c a)
    let ps ← perRow L cs as
    pure (p :: ps)
  | _, _ => pure []

def perRowArgs : List PyVal → List (List PyVal) → List Arg
  | c :: cs, a :: as => .single c a :: perRowArgs cs as
  | _, _ => []

def method2 (L : Learner) (ctxs : List PyVal) (rows : List (List PyVal)) : Except Err PyVal := do
  let ps ← perRow L ctxs rows
  if ps.isEmpty then .error .coba else pure (.list .tmp ps)

/-- `_safe_call('predict', …)`: the answer, the memoised method afterwards, and the calls made to the learner -/
def safeCall (fx : Fixes) (L : Learner) (method : Option Nat) (arg : Arg) : Except Err (PyVal × Nat) :=
  match arg with
  | .single .. =>
    match method with
    | some 2 => .error .other           -- a per-row memo with an unbatched call: not modelled (never mixed)
    | _ => do let p ← L arg; pure (p, 1)
  | .batch ctxs rows =>
    match method with
    | some 1 => do let p ← L arg; pure (p, 1)
    | some _ => do let p ← method2 L ctxs rows; pure (p, 2)
    | Option.none =>
      let n := ctxs.length
      match L arg with
      | .ok out =>
        if validOut fx out n then .ok (out, 1)
        else match method2 L ctxs rows with
          | .ok out2 => if validOut fx out2 n then .ok (out2, 2) else .error .coba
          | .error e => .error e
      | .error _ =>
        match method2 L ctxs rows with
        | .ok out2 => if validOut fx out2 n then .ok (out2, 2) else .error .coba
        | .error e => .error e

/-- the calls `_safe_call` makes to the learner (for "once per row") -/
def safeCallTrace (fx : Fixes) (L : Learner) (method : Option Nat) (arg : Arg) : List Arg :=
  match arg with
  | .single .. =>
    match method with
    | some 2 => []       -- `_method2` zips an unbatched (context, actions): a scalar context raises before any call (not modelled further)
    | _ => [arg]
  | .batch ctxs rows =>
    match method with
    | some 1 => [arg]
    | some _ => perRowArgs ctxs rows
    | Option.none =>
      match L arg with
      | .ok out => if validOut fx out ctxs.length then [arg] else arg :: perRowArgs ctxs rows
      | .error _ => arg :: perRowArgs ctxs rows

/-! ### layout and format detection (first call only) -/

def allDicts (v : PyVal) : Except Err Bool := do
  let xs ← iter v
  pure (xs.all PyVal.isDict)

def isBatchArg : Arg → Bool | .batch .. => true | _ => false

def firstOf : Arg → Except Err Arg
  | .batch (c :: _) (a :: _) => .ok (.batch [c] [a])
  | _ => .error .index

/-- `batch_order` up to the point where the one-row test call is needed: `some layout` = decided without it -/
def batchOrderPre (fx : Fixes) (pred : PyVal) (arg : Arg) (method : Nat) : Except Err (Option BLayout) :=
  if method = 2 then .ok (some .row)
  else match arg with
  | .single .. => .ok (some .not)
  | .batch _ rows => do
    let allD ← allDicts pred
    let isDictCol := pred.isDict
    let isDictColKw ← (if allD then do
        let a ← getIdx pred 0; let b ← getLast pred
        let e ← keysEq a b
        pure (!e && pred.len == 2 && (!fx.rowdict || isHint a)) else pure false)
    let isDictRow ← (if allD then do
        let a ← getIdx pred 0; let b ← getLast pred
        keysEq a b else pure false)
    if isDictCol || isDictColKw then pure (some .col)
    else if isDictRow then pure (some .row)
    else
      let p0 ← getIdx pred 0
      if !p0.hasLen then pure (some .row)
      else
        let nRows := rows.length
        let d1 ← lenE pred
        let d2 ← lenE p0
        if d1 = d2 then pure Option.none
        else pure (some (if d1 = nRows then .row else .col))

/-- `batch_order`; `probe` is the predictor's answer to the one-row test call of the square case -/
def batchOrder (fx : Fixes) (probe : Except Err PyVal) (pred : PyVal) (arg : Arg) (method : Nat) : Except Err BLayout := do
  match ← batchOrderPre fx pred arg method with
  | some lay => pure lay
  | Option.none =>
    let pp ← probe
    let l ← lenE pp
    pure (if l = 1 then .row else .col)

/-- is the square-case test call made? (for the call trace) -/
def probeMade (fx : Fixes) (pred : PyVal) (arg : Arg) (method : Nat) : Bool :=
  match batchOrderPre fx pred arg method with
  | .ok Option.none => true
  | _ => false

/-- `has_kwargs` -/
def hasKwargs (pred : PyVal) (lay : BLayout) : Bool :=
  let last := match lay with
    | .row => (do let r ← getIdx pred 0; getLast r)
    | _ => getLast pred
  match last with | .ok v => v.isDict | .error _ => false

def firstOfEach : List PyVal → Except Err (List PyVal)
  | [] => pure []
  | p :: ps => do let x ← getIdx p 0; let xs ← firstOfEach ps; pure (x :: xs)

/-- `first_row` -/
def firstRow (pred : PyVal) (lay : BLayout) (kw : Bool) : Except Err PyVal :=
  match lay with
  | .col => do
    let p0 ← (if kw then getIdx pred 0 else pure .none)
    let pred := if kw && p0.isDict then p0 else pred
    match pred with
    | .dict _ ks vs => do
      let vs' ← firstOfEach vs
      pure (.dict .tmp ks vs')
    | _ => do
      let body ← (if kw then dropLast pred else pure pred)
      let cols ← iter body
      let row ← firstOfEach cols
      match row with
      | [x] => pure x
      | _ => pure (.list .tmp row)
  | _ => do
    let pred ← (if lay = .row then getIdx pred 0 else pure pred)
    if kw then do
      let n ← lenE pred
      if n = 2 then getIdx pred 0 else dropLast pred
    else pure pred

def hasKey (k : String) : PyVal → Bool
  | .dict _ ks _ => ks.contains k
  | _ => false

def getKey (k : String) : PyVal → Except Err PyVal
  | .dict _ ks vs => match lookupKey k ks vs with | some v => .ok v | Option.none => .error .key
  | _ => .error .type

def sumNums : List PyVal → Option Rat
  | [] => some 0
  | x :: xs => match x.num, sumNums xs with | some a, some b => some (a + b) | _, _ => Option.none

/-- `possible_pmf`: `isclose(sum(item), 1, abs_tol=.001)` is modelled exactly as |sum-1| ≤ 1/1000 (the
generated sums are exactly 1 or far from it) -/
def possiblePmf (item : PyVal) (actions : List PyVal) : Bool :=
  match item.items with
  | some xs =>
    xs.length == actions.length &&
      (match sumNums xs with
       | some s => decide (s - 1 ≤ 1/1000 ∧ 1 - s ≤ 1/1000) && xs.all (fun x => match x.num with | some q => decide (0 ≤ q) | Option.none => false)
       | Option.none => false)
  | Option.none => false

/-- `possible_action`: `item in actions or len(actions) == 0` -/
def possibleAction (item : PyVal) (actions : List PyVal) : Bool :=
  actions.any (fun a => pyIs item a || pyEq item a) || actions.isEmpty

/-- `pred_format(std_pred, actions)`; `actions = none` is Python's `None` -/
def predFormat (fx : Fixes) (sp : PyVal) (actions : Option (List PyVal)) : Except Err PFmt :=
  let acts := actions.getD []
  let hinted : Option (Except Err PFmt) :=
    if sp.isDict then
      if hasKey "pmf" sp then some (do
        let pmf ← getKey "pmf" sp
        if acts.isEmpty then .error .coba
        else if !pmf.hasLen || pmf.len != acts.length then .error .coba
        else pure ⟨.PM, true⟩)
      else if hasKey "action" sp then some (pure ⟨.AX, true⟩)
      else if hasKey "action_prob" sp then some (do
        let ap ← getKey "action_prob" sp
        if !ap.hasLen || ap.len != 2 then .error .coba else pure ⟨.AP, true⟩)
      else Option.none
    else Option.none
  match hinted with
  | some r => r
  | Option.none => do
    -- `two = some x`: a two-item answer whose first item x IS one of the actions: [action, prob]
    let two : Bool ←
      (if !sp.hasLen || sp.isStr || (fx.short && sp.isDict) then pure false
       else if (if fx.short then sp.len != 2 else sp.len > 2) then pure false
       else if sp.len = 2 then do
         if acts.isEmpty then .error .coba
         else do
           let x ← getIdx sp 0
           pure (acts.any (fun a => pyIs x a))
       else pure false)
    -- legacy: an answer with a length of 0 or 1 is taken to be `[pmf]`/`[action]` already
    let unwrapped : Bool := !fx.short && sp.hasLen && !sp.isStr && sp.len < 2
    if two then pure ⟨.AP, false⟩
    else if unwrapped && sp.len = 2 then pure ⟨.AP, false⟩   -- (never: len < 2)
    else do
      if acts.isEmpty then pure ⟨.AX, false⟩
      else do
        let item ← (if unwrapped then getIdx sp 0 else pure sp)
        if acts.any (fun a => pyIs item a) then pure ⟨.AX, false⟩
        else if possiblePmf item acts then pure ⟨.PM, false⟩
        else if possibleAction item acts then pure ⟨.AX, false⟩
        else .error .coba

/-! ### `_parse_pred` -/

/-- what predict returns: `(action, prob, kwargs)` (batched: sequences / a dict of sequences) -/
structure Result where
  a : PyVal
  p : PyVal
  kw : PyVal
deriving Repr

def toRats : List PyVal → Option (List Rat)
  | [] => some []
  | x :: xs => match x.num, toRats xs with | some a, some b => some (a :: b) | _, _ => Option.none

def c05Err : Coba.C05.Err → Err
  | .valueError => .value | .indexError => .index | .stopIteration => .stopIter | .zeroDivision => .zeroDiv

/-- `self._rng.choicew(actions, pmf)` -/
def choicew (s : Nat) (actions : List PyVal) (pmf : PyVal) : Except Err (Nat × PyVal × PyVal) :=
  match pmf with
  | .none =>
    match Coba.C05.choicew s actions.length Option.none with
    | .ok (s', i, _) => (match actions[i]? with | some a => .ok (s', a, .flt .tmp (1 / (actions.length : Rat))) | Option.none => .error .index)
    | .error e => .error (c05Err e)
  | _ =>
    match pmf.items with
    | Option.none => .error .type
    | some ws =>
      if ws ≠ [] ∧ ws.length ≠ actions.length then .error .value
      else match toRats ws with
        | Option.none => .error .type
        | some qs =>
          match Coba.C05.choicew s actions.length (some qs) with
          | .ok (s', i, _) =>
            (match actions[i]?, ws[i]? with
             | some a, some w => .ok (s', a, w)
             | _, _ => .error .index)
          | .error e => .error (c05Err e)

/-- `map(self._rng.choicew, actions, pred)` -/
def choicewRows : Nat → List (List PyVal) → List PyVal → Except Err (Nat × List PyVal × List PyVal)
  | s, as :: rows, p :: ps => do
    let (s1, a, w) ← choicew s as p
    let (s2, A, P) ← choicewRows s1 rows ps
    pure (s2, a :: A, w :: P)
  | s, _, _ => pure (s, [], [])

/-- `zip(*rows)` (truncating to the shortest row) -/
def heads : List (List PyVal) → Option (List PyVal)
  | [] => some []
  | (x :: _) :: rs => (heads rs).map (x :: ·)
  | [] :: _ => Option.none

def tails : List (List PyVal) → List (List PyVal)
  | [] => []
  | (_ :: t) :: rs => t :: tails rs
  | [] :: rs => [] :: tails rs

def zipStarAux : Nat → List (List PyVal) → List (List PyVal)
  | 0, _ => []
  | fuel + 1, rows =>
    match rows with
    | [] => []
    | _ => match heads rows with
      | some h => h :: zipStarAux fuel (tails rows)
      | Option.none => []

def zipStar (rows : List (List PyVal)) : List (List PyVal) :=
  match rows with
  | [] => []
  | r :: _ => zipStarAux r.length rows

def itemsE (v : PyVal) : Except Err (List PyVal) := iter v

def mapE {α β} (f : α → Except Err β) : List α → Except Err (List β)
  | [] => pure []
  | x :: xs => do let y ← f x; let ys ← mapE f xs; pure (y :: ys)

/-- `A,P = zip(*pred)` -/
def unzipPairs (rows : List PyVal) : Except Err (PyVal × PyVal) := do
  let rs ← mapE itemsE rows
  match zipStar rs with
  | [a, p] => pure (.tuple .tmp a, .tuple .tmp p)
  | _ => .error .value

/-- `{k: [kw[k] for kw in kwargs] for k in kwargs[0]}` -/
def kwColumns (kws : List PyVal) : Except Err PyVal :=
  match kws with
  | [] => .error .index
  | k0 :: _ =>
    match k0 with
    | .dict _ ks _ => do
      let cols ← mapE (fun k => do let col ← mapE (getKey k) kws; pure (PyVal.list .tmp col)) ks
      pure (.dict .tmp ks cols)
    | _ => .error .type

def noneList (n : Nat) : PyVal := .list .tmp (List.replicate n .none)

def rowBody (p : PyVal) : Except Err PyVal := do
  let n ← lenE p
  if n = 2 then getIdx p 0 else dropLast p

def parseNot (st : State) (f : PFmt) (actions : List PyVal) (pred : PyVal) : Except Err (Result × Nat) := do
  let kwargs ← (if st.hasKw then getLast pred else pure (.dict .tmp [] []))
  let pred ← (if st.hasKw then do let n ← lenE pred; if n = 2 then getIdx pred 0 else pure pred else pure pred)
  let pred ← (if f.star then firstValue pred else pure pred)
  match f.kind with
  | .PM => do
    let (s', a, p) ← choicew st.rng actions pred
    pure (⟨a, p, kwargs⟩, s')
  | .AP => do
    let xs ← (match pred with        -- `a,p = pred[:2]`
      | .tuple _ xs | .list _ xs => pure xs
      | .str .. => itemsE pred
      | .dict .. => .error .key
      | _ => .error .type)
    match xs.take 2 with
    | [a, p] => pure (⟨a, p, kwargs⟩, st.rng)
    | _ => .error .value
  | .AX => pure (⟨pred, .none, kwargs⟩, st.rng)

/-- the last step of the row-major branch: `body` holds one answer per row without kwargs and hint (`bodyV` is the
Python object holding them) -/
def finishRows (s : Nat) (k : Kind) (rows : List (List PyVal)) (body : List PyVal) (bodyV kwargs : PyVal) :
    Except Err (Result × Nat) :=
  match k with
  | .PM => do
    let (s', A, P) ← choicewRows s rows body
    if A.isEmpty then .error .value else pure (⟨.list .tmp A, .list .tmp P, kwargs⟩, s')
  | .AX => pure (⟨bodyV, noneList body.length, kwargs⟩, s)
  | .AP => do
    let (A, P) ← unzipPairs body
    pure (⟨A, P, kwargs⟩, s)

def parseRow (st : State) (f : PFmt) (rows : List (List PyVal)) (pred : PyVal) : Except Err (Result × Nat) := do
  let ps ← itemsE pred
  let kws ← (if st.hasKw then mapE (fun p => getLast p) ps else pure (ps.map (fun _ => PyVal.dict .tmp [] [])))
  let kwargs ← kwColumns kws
  let (body, bodyV) ← (if st.hasKw then do let b ← mapE rowBody ps; pure (b, PyVal.list .tmp b) else pure (ps, pred))
  let (body, bodyV) ← (if f.star then do let b ← mapE firstValue body; pure (b, PyVal.list .tmp b) else pure (body, bodyV))
  finishRows st.rng f.kind rows body bodyV kwargs

def parseCol (fx : Fixes) (st : State) (f : PFmt) (rows : List (List PyVal)) (pred : PyVal) : Except Err (Result × Nat) := do
  let kwargs ← (if st.hasKw then getLast pred else pure (.dict .tmp [] []))
  let pred ← (if st.hasKw then dropLast pred else pure pred)
  let pred ← (if f.star then do
      let d ← (if fx.col && !pred.isDict then getIdx pred 0 else pure pred)
      firstValue d
    else if fx.col && f.kind = .PM then do
      let cols ← itemsE pred
      let cs ← mapE itemsE cols
      pure (.list .tmp ((zipStar cs).map (fun r => PyVal.tuple .tmp r)))
    else if fx.col && f.kind = .AX then getIdx pred 0
    else pure pred)
  match f.kind with
  | .PM => do
    let body ← itemsE pred
    let (s', A, P) ← choicewRows st.rng rows body
    if A.isEmpty then .error .value else pure (⟨.list .tmp A, .list .tmp P, kwargs⟩, s')
  | .AX => do
    let n ← lenE pred
    pure (⟨pred, noneList n, kwargs⟩, st.rng)
  | .AP =>
    if f.star then do
      let body ← itemsE pred
      let (A, P) ← unzipPairs body
      pure (⟨A, P, kwargs⟩, st.rng)
    else do
      let xs ← itemsE pred       -- `A,P = pred`
      match xs with
      | [A, P] => pure (⟨A, P, kwargs⟩, st.rng)
      | _ => .error .value

/-- the argument the learner is given (the safe actions) -/
def withActs : Arg → Acts → Arg
  | .single c _, .single as => .single c as
  | .batch cs _, .batch rows => .batch cs rows
  | a, _ => a

def argActs : Arg → Acts
  | .single _ as => .single as
  | .batch _ rows => .batch rows

/-- the first lines of `SafeLearner.predict`: `_prev_actions != actions` decides whether the float copies are rebuilt;
returns the state and the argument the learner is going to be given -/
def prepare (fx : Fixes) (st : State) (arg : Arg) : State × Arg :=
  let acts := argActs arg
  let changed := match st.prev with
    | Option.none => true
    | some p => !pyEq p.toPy acts.toPy
  let st := if changed then { st with prev := some acts, safe := safeActs fx acts } else st
  (st, withActs arg st.safe)

/-- first call only: `_pred_batch`, `_pred_kwargs`, `_pred_format` -/
def detect (fx : Fixes) (L : Learner) (st : State) (sarg : Arg) (pred : PyVal) (m : Nat) : Except Err State :=
  match st.layout with
  | some _ => pure st
  | Option.none => do
    let probe := (do let a1 ← firstOf sarg; let r ← safeCall fx L (some m) a1; pure r.1)
    let lay ← batchOrder fx probe pred sarg m
    let kw := hasKwargs pred lay
    let fr ← firstRow pred lay kw
    let firstActs ← (match sarg with
      | .single _ as => pure as
      | .batch _ rows => match rows with | r :: _ => pure r | [] => .error .index)
    let f ← predFormat fx fr (some firstActs)
    pure { st with layout := some lay, hasKw := kw, fmt := some f }

/-- `_parse_pred` after the first-call detection -/
def parse (fx : Fixes) (st : State) (sarg : Arg) (pred : PyVal) : Except Err (Result × State) :=
  match st.layout, st.fmt with
  | some lay, some f =>
    match lay, sarg with
    | .not, .single _ as => do
      let (r, s') ← parseNot st f as pred
      pure (r, { st with rng := s' })
    | .row, .batch _ rows => do
      let (r, s') ← parseRow st f rows pred
      pure (r, { st with rng := s' })
    | .col, .batch _ rows => do
      let (r, s') ← parseCol fx st f rows pred
      pure (r, { st with rng := s' })
    -- a wrapper that is switched between batched and unbatched calls keeps the layout memoised on its FIRST call:
    | .not, .batch _ rows => do            -- the whole batch answer is parsed as one unbatched answer
      let (r, s') ← parseNot st f (rows.map (fun r => PyVal.list .tmp r)) pred
      pure (r, { st with rng := s' })
    | .row, .single _ _ => do              -- one answer is parsed as a row-major batch of answers (PMF formats not modelled)
      let (r, s') ← parseRow st f [] pred
      pure (r, { st with rng := s' })
    | .col, .single _ _ => do
      let (r, s') ← parseCol fx st f [] pred
      pure (r, { st with rng := s' })
  | _, _ => .error .other

/-- the rest of `predict`, on the argument the learner is given -/
def predictCore (fx : Fixes) (L : Learner) (st : State) (sarg : Arg) : Except Err (Result × State) := do
  let (pred, m) ← safeCall fx L st.method sarg
  let st := { st with method := some m }
  let st ← detect fx L st sarg pred m
  parse fx st sarg pred

/-- `SafeLearner.predict(context, actions)` -/
def predict (fx : Fixes) (L : Learner) (st : State) (arg : Arg) : Except Err (Result × State) :=
  let (st1, sarg) := prepare fx st arg
  predictCore fx L st1 sarg

/-- the calls made to the learner by one `predict` -/
def predictTrace (fx : Fixes) (L : Learner) (st : State) (arg : Arg) : List Arg :=
  let (st1, sarg) := prepare fx st arg
  let main := safeCallTrace fx L st1.method sarg
  match st1.layout, safeCall fx L st1.method sarg with
  | Option.none, .ok (pred, m) =>
    if probeMade fx pred sarg m then
      match firstOf sarg with | .ok a1 => main ++ [a1] | .error _ => main
    else main
  | _, _ => main

/-- a whole evaluation: the calls in order -/
def run (fx : Fixes) (L : Learner) : State → List Arg → Except Err (List Result)
  | _, [] => pure []
  | st, a :: as => do
    let (r, st') ← predict fx L st a
    let rs ← run fx L st' as
    pure (r :: rs)

def initState (seed : Int) : State := { rng := Coba.C05.normInt seed }

/-! ### `learn`: the kwargs go back to the learner -/

structure LearnCall where
  ctx : PyVal
  action : PyVal
  reward : PyVal
  prob : PyVal
  kwKeys : List String
  kwVals : List PyVal
deriving Repr

/-- `_method2` for learn: `method(*a, **{k:v[i] for k,v in kwargs.items()})` for the i-th row -/
def learnRows : Nat → List PyVal → List PyVal → List PyVal → List PyVal → List String → List PyVal → Except Err (List LearnCall)
  | i, c :: cs, a :: as, r :: rs, p :: ps, ks, vs => do
    let kv ← mapE (fun v => getIdx v i) vs
    let rest ← learnRows (i + 1) cs as rs ps ks vs
    pure (⟨c, a, r, p, ks, kv⟩ :: rest)
  | _, _, _, _, _, _, _ => pure []

/-- `SafeLearner.learn(context, action, reward, probability, **kwargs)` as called by the evaluator with what predict
returned; `batchable = false`: the learner's learn raises on a batch.  Returns what the learner's learn is (successfully)
called with. -/
def learn (batchable : Bool) (arg : Arg) (res : Result) (reward : PyVal) : Except Err (List LearnCall) :=
  match res.kw with
  | .dict _ ks vs =>
    match arg with
    | .single c _ => pure [⟨c, res.a, reward, res.p, ks, vs⟩]
    | .batch cs _ =>
      if batchable then pure [⟨.list .tmp cs, res.a, reward, res.p, ks, vs⟩]
      else do
        let A ← itemsE res.a
        let R ← itemsE reward
        let P ← itemsE res.p
        let calls ← learnRows 0 cs A R P ks vs
        if calls.isEmpty then .error .coba else pure calls
  | _ => .error .type

/-! ### learners that answer in one documented format, consistently -/

inductive Fmt | A | AP | PM | dA | dAP | dPM
deriving DecidableEq, Repr

inductive Layout | single | row | col
deriving DecidableEq, Repr

def Fmt.hinted : Fmt → Bool | .dA | .dAP | .dPM => true | _ => false
def Fmt.hint : Fmt → String | .dA => "action" | .dAP => "action_prob" | .dPM => "pmf" | _ => ""

/-- what the learner wants to say about one row -/
structure Answer where
  pick : Nat
  p : PyVal
  pmf : List PyVal
  kwKeys : List String
  kwVals : List PyVal
deriving Repr

/-- a learner's policy: a function of (context, offered actions) -/
abbrev Policy := PyVal → List PyVal → Answer

structure Spec where
  fmt : Fmt
  kw : Bool
  layout : Layout
  /-- sequences the learner builds are tuples (else lists) -/
  tup : Bool := true
  /-- PMFs are tuples (else lists) -/
  pmfTup : Bool := false
deriving Repr

def mkSeq (tup : Bool) (xs : List PyVal) : PyVal := if tup then .tuple (.lrn 0) xs else .list (.lrn 0) xs

def mkPmf (sp : Bool) (xs : List PyVal) : PyVal := mkSeq sp xs

/-- the format-specific part of one row's answer, as a list of fields -/
def core (sp : Spec) (ans : Answer) (actions : List PyVal) : List PyVal :=
  let a := actions.getD ans.pick .none
  match sp.fmt with
  | .A => [a]
  | .AP => [a, ans.p]
  | .PM => [mkPmf sp.pmfTup ans.pmf]
  | .dA => [.dict (.lrn 0) ["action"] [a]]
  | .dAP => [.dict (.lrn 0) ["action_prob"] [mkSeq sp.tup [a, ans.p]]]
  | .dPM => [.dict (.lrn 0) ["pmf"] [mkPmf sp.pmfTup ans.pmf]]

def kwDict (ans : Answer) : PyVal := .dict (.lrn 0) ans.kwKeys ans.kwVals

/-- the answer to an unbatched call -/
def renderSingle (sp : Spec) (ans : Answer) (actions : List PyVal) : PyVal :=
  let c := core sp ans actions
  if sp.kw then mkSeq sp.tup (c ++ [kwDict ans])
  else match c with
    | [x] => x
    | _ => mkSeq sp.tup c

def zipWithAns (pol : Policy) : List PyVal → List (List PyVal) → List (Answer × List PyVal)
  | c :: cs, a :: as => (pol c a, a) :: zipWithAns pol cs as
  | _, _ => []

/-- `{k: [kw[k] for kw in kws] for k in kws[0]}` built by the learner itself (column-major kwargs) -/
def kwCols (rows : List (Answer × List PyVal)) : PyVal :=
  match rows with
  | [] => .dict (.lrn 0) [] []
  | (a0, _) :: _ =>
    .dict (.lrn 0) a0.kwKeys
      (a0.kwKeys.map (fun k => PyVal.list (.lrn 0) (rows.map (fun r => (lookupKey k r.1.kwKeys r.1.kwVals).getD .none))))

def renderCol (sp : Spec) (rows : List (Answer × List PyVal)) : PyVal :=
  let cores := rows.map (fun r => core sp r.1 r.2)
  let cols : List PyVal :=
    match sp.fmt with
    | .A | .AP => (zipStar cores).map (fun c => PyVal.list (.lrn 0) c)
    | .PM => (zipStar (rows.map (fun r => r.1.pmf))).map (fun c => PyVal.list (.lrn 0) c)
    | f => [.dict (.lrn 0) [f.hint]
              [.list (.lrn 0) (cores.map (fun c => match c with | [.dict _ _ [v]] => v | _ => .none))]]
  if sp.kw then mkSeq sp.tup (cols ++ [kwCols rows])
  else if sp.fmt.hinted then cols.getD 0 .none
  else mkSeq sp.tup cols

/-- the learner: answers every call in the one format of `sp`; `layout = single` raises on a batch -/
def scripted (sp : Spec) (pol : Policy) : Learner
  | .single c as => .ok (renderSingle sp (pol c as) as)
  | .batch cs rows =>
    match sp.layout with
    | .single => .error .learner
    | .row => .ok (.list (.lrn 0) ((zipWithAns pol cs rows).map (fun r => renderSingle sp r.1 r.2)))
    | .col => .ok (renderCol sp (zipWithAns pol cs rows))

end Coba.C15

namespace Coba.C15

/-! ### specification: what the property demands -/

def Fmt.kind : Fmt → Kind
  | .A | .dA => .AX | .AP | .dAP => .AP | .PM | .dPM => .PM

/-- the `_pred_format` the learner's format must be recognised as -/
def Spec.pfmt (sp : Spec) : PFmt := ⟨sp.fmt.kind, sp.fmt.hinted⟩

/-- the offered action the learner names -/
def Answer.action (ans : Answer) (actions : List PyVal) : PyVal := actions.getD ans.pick .none

def emptyKw : PyVal := .dict .tmp [] []

/-- what the evaluator must receive from an unbatched call answered with `ans` (and the rng state afterwards):
the named action / the stated probability / the kwargs; for a PMF the draw of `CobaRandom.choicew` -/
def wantSingle (sp : Spec) (s : Nat) (ans : Answer) (actions : List PyVal) : Except Err (Result × Nat) :=
  let kw := if sp.kw then kwDict ans else emptyKw
  match sp.fmt.kind with
  | .AX => .ok (⟨ans.action actions, .none, kw⟩, s)
  | .AP => .ok (⟨ans.action actions, ans.p, kw⟩, s)
  | .PM =>
    match choicew s actions (mkPmf sp.pmfTup ans.pmf) with
    | .ok (s', a, p) => .ok (⟨a, p, kw⟩, s')
    | .error e => .error e

/-- a batched result seen as rows: actions, probabilities, kwargs keys and one column of values per key -/
structure BatchView where
  A : List PyVal
  P : List PyVal
  keys : List String
  cols : List (List PyVal)

def allItems : List PyVal → Option (List (List PyVal))
  | [] => some []
  | v :: vs => match v.items, allItems vs with | some x, some xs => some (x :: xs) | _, _ => Option.none

def Result.view (r : Result) : Option BatchView :=
  match r.a.items, r.p.items, r.kw with
  | some A, some P, .dict _ ks vs => (allItems vs).map (fun cols => ⟨A, P, ks, cols⟩)
  | _, _, _ => Option.none

/-- the kwargs of a batch, per key the values of the rows in order (the keys are those of the first row; the rows of
one batch have the same keys, so the default is never used) -/
def wantKw (sp : Spec) (rows : List (Answer × List PyVal)) : List String × List (List PyVal) :=
  if sp.kw then
    match rows with
    | [] => ([], [])
    | (a0, _) :: _ => (a0.kwKeys, a0.kwKeys.map (fun k => rows.map (fun r => (lookupKey k r.1.kwKeys r.1.kwVals).getD .none)))
  else ([], [])

/-- what the evaluator must receive from a batched call: per row the named action and stated probability, or for
PMFs the draws of `CobaRandom.choicew` made row after row from the one generator -/
def wantBatch (sp : Spec) (s : Nat) (rows : List (Answer × List PyVal)) : Except Err (BatchView × Nat) :=
  let kw := wantKw sp rows
  match sp.fmt.kind with
  | .AX => .ok (⟨rows.map (fun r => r.1.action r.2), rows.map (fun _ => .none), kw.1, kw.2⟩, s)
  | .AP => .ok (⟨rows.map (fun r => r.1.action r.2), rows.map (fun r => r.1.p), kw.1, kw.2⟩, s)
  | .PM =>
    match choicewRows s (rows.map (·.2)) (rows.map (fun r => mkPmf sp.pmfTup r.1.pmf)) with
    | .ok (s', A, P) => .ok (⟨A, P, kw.1, kw.2⟩, s')
    | .error e => .error e

/-- the memoised state after a call answered in format `sp` -/
def stAfter (sp : Spec) (batched : Bool) (st : State) (rng : Nat) : State :=
  { st with
    rng := rng
    method := some (if batched && sp.layout == .single then 2 else 1)
    layout := some (if !batched then .not else if sp.layout == .col then .col else .row)
    hasKw := sp.kw
    fmt := some sp.pfmt }

/-- the SafeLearner is fresh, or has already answered calls of this learner (same batching) -/
def Inv (sp : Spec) (batched : Bool) (st : State) : Prop :=
  (st.method = Option.none ∧ st.layout = Option.none) ∨ st = stAfter sp batched st st.rng

/-! ### side conditions (decidable): the learner is inside the property's quantifier -/

/-- a top-level object built by a learner, or by SafeLearner while parsing (not an object the environment offered,
nor one of the float copies) -/
def isLrn : PyVal → Bool
  | .flt (.lrn _) _ | .str (.lrn _) _ | .tuple (.lrn _) _ | .list (.lrn _) _ | .dict (.lrn _) _ _ => true
  | .flt .tmp _ | .str .tmp _ | .tuple .tmp _ | .list .tmp _ | .dict .tmp _ _ => true
  | _ => false

/-- a PMF over the actions: numeric, non-negative, summing to one within the tolerance `possible_pmf` documents
(`isclose(sum, 1, abs_tol=.001)`; float32 softmaxes, `[0.3333]*3`, … are PMFs) -/
def validPmf (pmf : List PyVal) (as : List PyVal) : Bool :=
  pmf.length == as.length &&
  (match sumNums pmf with | some s => decide (s - 1 ≤ 1/1000 ∧ 1 - s ≤ 1/1000) | Option.none => false) &&
  pmf.all (fun x => match x.num with | some q => decide (0 ≤ q) | Option.none => false)

/-- an answer long enough for the pinned `pred_format` (which takes 0/1-item answers for already wrapped and indexes
two-item dicts with [0]); irrelevant once fixes/C15-pred-format-short-answers.diff is applied -/
def longEnough : PyVal → Bool
  | .dict _ ks _ => decide (2 < ks.length)
  | .tuple _ xs | .list _ xs => decide (2 ≤ xs.length)
  | _ => true

/-- `isinstance(v[-1], Mapping)` -/
def lastIsDict (v : PyVal) : Bool := match getLast v with | .ok x => x.isDict | .error _ => false

/-- The answer to the FIRST row of the FIRST call can be read in one way only (it is what the layout / kwargs / format
detection looks at).  Un-hinted answers:
* bare action: the action is not itself shaped like a hinted answer (a dict with a feature named action/action_prob/pmf),
  like an answer with kwargs (a sequence ending in a dict), or like (action, prob) (two items, the first of which IS an
  offered action);
* PMF: a PMF over the offered actions whose first entry (when there are two) is not one of the offered objects.
`fx.short = false` additionally excludes the answers the pinned `pred_format` mishandles (recorded defect C15-F1). -/
def firstRowOK (fx : Fixes) (sp : Spec) (ans : Answer) (as : List PyVal) : Bool :=
  decide (ans.pick < as.length) && as.all (fun a => !isLrn a) &&
  (match sp.fmt with
   | .A =>
     let a := ans.action as
     (sp.kw || !lastIsDict a) && !isHint a &&
       (match a.items with | some [x, _] => !as.any (fun b => pyIs x b) | _ => true) &&
       (fx.short || longEnough a)
   | .AP => !ans.p.isDict
   | .PM =>
     validPmf ans.pmf as && (match ans.pmf with | [x, _] => !as.any (fun b => pyIs x b) | _ => true) &&
       (fx.short || decide (2 ≤ ans.pmf.length))
   | .dA => true
   | .dAP => true
   | .dPM => ans.pmf.length == as.length)

end Coba.C15

namespace Coba.C15

/-- the rows of one batch give kwargs with the same key SET (in any order: `kwargs[0]` decides which keys the batch has,
every row is looked up by key) and every dict is well-formed (one value per key) -/
def sameKeys (rows : List (Answer × List PyVal)) : Bool :=
  match rows with
  | [] => true
  | (a0, _) :: _ =>
    rows.all (fun r => r.1.kwVals.length == r.1.kwKeys.length &&
      a0.kwKeys.all (fun k => r.1.kwKeys.contains k) && r.1.kwKeys.all (fun k => a0.kwKeys.contains k))

/-- two key/value lists are the same finite map -/
def kwEquiv (ks : List String) (vs : List PyVal) (ks' : List String) (vs' : List PyVal) : Prop :=
  ∀ k, lookupKey k ks vs = lookupKey k ks' vs'

end Coba.C15

namespace Coba.C15

/-- `x` (a parsed batch and the rng state) delivers what `w` demands; an error of `CobaRandom.choicew` (a PMF that
is no PMF) comes out as that error -/
def DeliversN (x : Except Err (Result × Nat)) (w : Except Err (BatchView × Nat)) : Prop :=
  match w with
  | .ok (v, s') => ∃ r, x = .ok (r, s') ∧ r.view = some v
  | .error e => x = .error e

def Delivers (x : Except Err (Result × State)) (w : Except Err (BatchView × Nat)) (stOf : Nat → State) : Prop :=
  match w with
  | .ok (v, s') => ∃ r, x = .ok (r, stOf s') ∧ r.view = some v
  | .error e => x = .error e

end Coba.C15

namespace Coba.C15

/-- two dicts with the same key set -/
def keysSame : PyVal → PyVal → Bool
  | .dict _ ks _, .dict _ ks' _ => ks.all (ks'.contains ·) && ks'.all (ks.contains ·)
  | _, _ => false

/-- Row-major bare sparse actions (a batch answered with a list of dicts): the pinned `raise_if_not_valid_out` /
`batch_order` take a first and a last row with different feature names for `[{hint: column}, kwargs]` (recorded defect
C15-F4); irrelevant once fixes/C15-sparse-rows-not-colkw.diff is applied. -/
def dictRowsOK (fx : Fixes) (sp : Spec) (rows : List (Answer × List PyVal)) : Bool :=
  fx.rowdict || !(sp.fmt == .A && !sp.kw) ||
    (match rows.head?, rows.getLast? with
     | some f, some l => !((f.1.action f.2).isDict && (l.1.action l.2).isDict) || keysSame (f.1.action f.2) (l.1.action l.2)
     | _, _ => true)

end Coba.C15

namespace Coba.C15

/-- column-major answers the pinned `_parse_pred` reads correctly ((action, prob) columns and hinted answers without
kwargs); everything else needs fixes/C15-colmajor-parse.diff (recorded defect C15-F3) -/
def colParseOK (fx : Fixes) (sp : Spec) : Bool :=
  fx.col || sp.fmt == .AP || (sp.fmt.hinted && !sp.kw)

/-- un-hinted column-major PMFs form a table: every row has the same number (≥ 1) of entries -/
def pmfTable (sp : Spec) (rows : List (Answer × List PyVal)) : Bool :=
  sp.fmt != .PM ||
    (match rows with
     | [] => true
     | r :: _ => decide (0 < r.1.pmf.length) && rows.all (fun x => x.1.pmf.length == r.1.pmf.length))

end Coba.C15

namespace Coba.C15

/-- number of columns of an un-hinted column-major answer (without the kwargs column) -/
def ncols (sp : Spec) (a0 : Answer) : Nat :=
  match sp.fmt with
  | .AP => 2
  | .PM => a0.pmf.length
  | _ => 1

/-- The FIRST column-major answer has a shape that can be read in one way only:
* un-hinted: not a single column answering a single row (`[[a]]` is also the row-major answer whose row is the list
  `[a]`), and a PMF has at least two columns (one column of probabilities has the shape of a column of actions);
* hinted with kwargs: no kwargs key is named like the hint (`[{'pmf': …}, {'pmf': …}]` is also two hinted rows). -/
def colFirstOK (sp : Spec) (a0 : Answer) (n : Nat) : Bool :=
  if sp.fmt.hinted then !sp.kw || !a0.kwKeys.contains sp.fmt.hint
  else (sp.fmt != .PM || decide (2 ≤ a0.pmf.length)) &&
    !(ncols sp a0 + (if sp.kw then 1 else 0) == 1 && n == 1)

end Coba.C15

namespace Coba.C15

/-- the rows of a batched call as the learner sees them: its intended answer and the actions it is given -/
def rowsOf (pol : Policy) (cs : List PyVal) (rows : List (List PyVal)) : List (Answer × List PyVal) := zipWithAns pol cs rows

/-- side conditions on EVERY batched call -/
def callOK (fx : Fixes) (sp : Spec) (R : List (Answer × List PyVal)) : Bool :=
  match sp.layout with
  | .col => colParseOK fx sp && pmfTable sp R
  | _ => !sp.kw || sameKeys R

/-- side conditions on the FIRST batched call (the one layout, kwargs and format are detected on) -/
def firstCallOK (fx : Fixes) (sp : Spec) (R : List (Answer × List PyVal)) : Bool :=
  match R with
  | [] => false
  | r :: R' =>
    firstRowOK fx sp r.1 r.2 &&
      (match sp.layout with
       | .col => colFirstOK sp r.1 (R'.length + 1)
       | _ => dictRowsOK fx sp (r :: R'))

/-- "the learner uses one documented format consistently, answering with the offered action objects themselves, or with
explicit dict hints where a value could be read two ways" - for one batched call in state `st` -/
def Unambiguous (fx : Fixes) (sp : Spec) (st : State) (R : List (Answer × List PyVal)) : Bool :=
  callOK fx sp R && (st.layout.isSome || firstCallOK fx sp R)

end Coba.C15

namespace Coba.C15

/-! ### whole evaluations: predict, then learn with what predict returned (as SequentialCB does) -/

/-- one evaluation history: for every interaction `predict(context, actions)` and then
`learn(context, action, reward, probability, **kwargs)` with what predict returned.  `batchable = false`: the learner's
`learn` raises on a batch (per-row fallback) - whatever its `predict` does with batches (`_method` is kept per method).  Returns per interaction the result and what the learner's learn was given. -/
def runHistory (fx : Fixes) (L : Learner) (batchable : Bool) : State → List (Arg × PyVal) → Except Err (List (Result × List LearnCall))
  | _, [] => pure []
  | st, (a, rw) :: h => do
    let (r, st') ← predict fx L st a
    let lc ← learn batchable a r rw
    let rest ← runHistory fx L batchable st' h
    pure ((r, lc) :: rest)

/-- what the learner's `learn` must be given for one batched interaction whose result has the view `v`:
a learner that takes batches - one call with the kwargs as one column per key; otherwise one call per row with that
row's context, action, reward, probability and kwargs (as a finite map: `kwargs_row_map`) -/
def LearnMeets (batchable : Bool) (cs : List PyVal) (rw : PyVal) (r : Result) (v : BatchView) (lc : List LearnCall) : Prop :=
  if batchable then
    ∃ ref vs, r.kw = .dict ref v.keys vs ∧ allItems vs = some v.cols ∧ lc = [⟨.list .tmp cs, r.a, rw, r.p, v.keys, vs⟩]
  else
    lc.length = cs.length ∧
    ∀ (j : Nat) (call : LearnCall), lc[j]? = some call →
      cs[j]? = some call.ctx ∧ v.A[j]? = some call.action ∧ v.P[j]? = some call.prob ∧
      (∃ R, rw.items = some R ∧ R[j]? = some call.reward) ∧
      call.kwKeys = v.keys ∧ call.kwVals = v.cols.map (fun c => c.getD j .none)

/-- the history delivers, interaction by interaction, what the learner meant (`wantSingle` / `wantBatch` on the argument
the learner is given, with the generator state threaded through), and every learn gets the kwargs of its predict;
a PMF that `CobaRandom.choicew` rejects ends the history with that error -/
def HistDelivers (fx : Fixes) (sp : Spec) (pol : Policy) (batchable : Bool) :
    State → List (Arg × PyVal) → Except Err (List (Result × List LearnCall)) → Prop
  | _, [], x => x = .ok []
  | st, (a, rw) :: h, x =>
    match (prepare fx st a).2 with
    | .single c gs =>
      match wantSingle sp (prepare fx st a).1.rng (pol c gs) gs with
      | .error e => x = .error e
      | .ok (r, s') =>
        ∃ rest, HistDelivers fx sp pol batchable (stAfter sp false (prepare fx st a).1 s') h rest ∧
          x = rest.map (fun l => (r, [⟨c, r.a, rw, r.p, (if sp.kw then (pol c gs).kwKeys else []), (if sp.kw then (pol c gs).kwVals else [])⟩]) :: l)
    | .batch cs grows =>
      match wantBatch sp (prepare fx st a).1.rng (rowsOf pol cs grows) with
      | .error e => x = .error e
      | .ok (v, s') =>
        ∃ r lc rest, r.view = some v ∧ LearnMeets batchable cs rw r v lc ∧
          HistDelivers fx sp pol batchable (stAfter sp true (prepare fx st a).1 s') h rest ∧
          x = rest.map (fun l => (r, lc) :: l)

/-- the side conditions of a history, interaction by interaction on the argument the learner is given (`prepare`: the
float copies, or the cached ones when the offered actions `==` the previous ones): every interaction is batched (or none is),
shaped like a batch with one reward per row, and its answers are `Unambiguous` in the state the SafeLearner is in
(first interaction: detection; later ones: the memo) -/
def histOK (fx : Fixes) (sp : Spec) (pol : Policy) (batched : Bool) : State → List (Arg × PyVal) → Bool
  | _, [] => true
  | st, (a, rw) :: h =>
    (match (prepare fx st a).2 with
     | .single c gs =>
       !batched && ((prepare fx st a).1.layout.isSome || firstRowOK fx sp (pol c gs) gs)
     | .batch cs grows =>
       batched && cs.length == grows.length && !grows.isEmpty &&
         (match rw.items with | some R => R.length == cs.length | Option.none => false) &&
         Unambiguous fx sp (prepare fx st a).1 (rowsOf pol cs grows)) &&
    histOK fx sp pol batched { (prepare fx st a).1 with layout := some .not } h

end Coba.C15

namespace Coba.C15

/-! ### `SafeLearner.score` -/

/-- the arguments of `score(context, actions, action)` (the offered actions themselves: no float copies here) -/
inductive SArg
  | single (ctx : PyVal) (actions : List PyVal) (action : PyVal)
  | batch (ctxs : List PyVal) (actions : List (List PyVal)) (acts : List PyVal)
deriving Repr

/-- a learner's `score`: a function of what it is given; `.error` = it raised -/
abbrev Scorer := SArg → Except Err PyVal

/-- `_method2` for score: one call per row, `zip(context, actions, action)` -/
def scorePerRow (S : Scorer) : List PyVal → List (List PyVal) → List PyVal → Except Err (List PyVal)
  | c :: cs, a :: as, x :: xs => do
    let p ← S (.single c a x)
    let ps ← scorePerRow S cs as xs
    pure (p :: ps)
  | _, _, _ => pure []

def scoreMethod2 (S : Scorer) (cs : List PyVal) (rows : List (List PyVal)) (acts : List PyVal) : Except Err PyVal := do
  let ps ← scorePerRow S cs rows acts
  if ps.isEmpty then .error .coba else pure (.list .tmp ps)

/-- `SafeLearner.score`: `_safe_call('score', learner.score, (context, actions, action))` with its own memo;
`S = none`: the learner has no `score` (AttributeError → CobaException).  Returns the value and the memo afterwards. -/
def score (fx : Fixes) (S : Option Scorer) (method : Option Nat) (arg : SArg) : Except Err (PyVal × Nat) :=
  match S with
  | Option.none => .error .coba
  | some S =>
    match arg with
    | .single .. =>
      match method with
      | some 2 => .error .other
      | _ => do let p ← S arg; pure (p, 1)
    | .batch cs rows acts =>
      match method with
      | some 1 => do let p ← S arg; pure (p, 1)
      | some _ => do let p ← scoreMethod2 S cs rows acts; pure (p, 2)
      | Option.none =>
        let n := cs.length
        match S arg with
        | .ok out =>
          if validOut fx out n then .ok (out, 1)
          else match scoreMethod2 S cs rows acts with
            | .ok out2 => if validOut fx out2 n then .ok (out2, 2) else .error .coba
            | .error e => .error e
        | .error _ =>
          match scoreMethod2 S cs rows acts with
          | .ok out2 => if validOut fx out2 n then .ok (out2, 2) else .error .coba
          | .error e => .error e

/-- the score a learner with policy `pol` gives an action: the probability it states for the action it names, 0 for
any other action -/
def scoreOf (pol : Policy) (c : PyVal) (as : List PyVal) (x : PyVal) : PyVal :=
  let ans := pol c as
  if pyEq x (ans.action as) then ans.p else .flt (.lrn 0) 0

def scoresOf (pol : Policy) : List PyVal → List (List PyVal) → List PyVal → List PyVal
  | c :: cs, a :: as, x :: xs => scoreOf pol c a x :: scoresOf pol cs as xs
  | _, _, _ => []

/-- the scripted learner's `score`: per-row values in a sequence for a batch; `batchable = false`: raises on a batch -/
def scriptedScore (pol : Policy) (batchable : Bool) (tup : Bool) : Scorer
  | .single c as x => .ok (scoreOf pol c as x)
  | .batch cs rows acts => if batchable then .ok (mkSeq tup (scoresOf pol cs rows acts)) else .error .learner

end Coba.C15

namespace Coba.C15

/-! ### re-wrapping: `SafeLearner(SafeLearner(learner), seed)` -/

/-- `SafeLearner.__init__`: wrapping an existing SafeLearner unwraps it to its learner; the new wrapper starts from its
OWN state (its own generator `CobaRandom(seed)`, an empty `_method` memo, nothing detected): nothing is shared -/
def rewrap (_inner : State) (seed : Int) : State := initState seed

/-- two wrappers around one learner, called in any interleaving (`true` = the outer one); a call that raises leaves the
wrapper's modelled state as it was -/
def runTwo (fx : Fixes) (L : Learner) : State → State → List (Bool × Arg) → List (Bool × Except Err Result)
  | _, _, [] => []
  | s0, s1, (w, a) :: h =>
    match predict fx L (if w then s1 else s0) a with
    | .ok (r, s') => (w, .ok r) :: (if w then runTwo fx L s0 s' h else runTwo fx L s' s1 h)
    | .error e => (w, .error e) :: runTwo fx L s0 s1 h

/-- one wrapper on its own calls -/
def runOne (fx : Fixes) (L : Learner) : State → List Arg → List (Except Err Result)
  | _, [] => []
  | s, a :: h =>
    match predict fx L s a with
    | .ok (r, s') => .ok r :: runOne fx L s' h
    | .error e => .error e :: runOne fx L s h

end Coba.C15

namespace Coba.C15

/-! ### `has_score` and the error paths of `score`: the exception TEXT decides -/

def isPrefixL : List Char → List Char → Bool
  | [], _ => true
  | _ :: _, [] => false
  | a :: as, b :: bs => a == b && isPrefixL as bs

def isInfixL (p : List Char) : List Char → Bool
  | [] => p.isEmpty
  | c :: cs => isPrefixL p (c :: cs) || isInfixL p cs

/-- Python `sub in s` -/
def strContains (s sub : String) : Bool := isInfixL sub.toList s.toList

/-- what `learner.score(...)` does when it does not return: the exception's class (AttributeError or not) and `str(ex)` -/
structure ScoreFailure where
  attr : Bool
  msg : String
deriving Repr, DecidableEq

/-- the probe `self.learner.score(None,None,None)` of `has_score` -/
inductive ScoreProbe
  | returns
  | raises (f : ScoreFailure)
deriving Repr

/-- `SafeLearner.has_score`: `"score" not in str(ex)` -/
def hasScore : ScoreProbe → Bool
  | .returns => true
  | .raises f => !strContains f.msg "score"

/-- the exception `SafeLearner.score` ends with when the learner's `score` raised `f`: an AttributeError whose text contains
`'score'` (with the quotes) becomes CobaException("The `score` method is not implemented"), anything else passes -/
def scoreRaises (f : ScoreFailure) : Err :=
  if f.attr && strContains f.msg "'score'" then .coba else if f.attr then .attr else .learner

/-- `SafeLearner.score` with the error paths: `S = none` is a learner without a `score` attribute (CPython raises
AttributeError "'T' object has no attribute 'score'" when the bound method is looked up); a scorer that raises does so
with `fail` -/
def scoreFull (fx : Fixes) (S : Option Scorer) (fail : ScoreFailure) (method : Option Nat) (arg : SArg) : Except Err (PyVal × Nat) :=
  match S with
  | Option.none => .error .coba
  | some S =>
    match score fx (some S) method arg with
    | .error .learner => .error (scoreRaises fail)
    | x => x

end Coba.C15

namespace Coba.C15

/-- what kind of `score` a learner has -/
inductive ScoreKind
  /-- no `score` attribute at all (class name `cls`) -/
  | absent (cls : String)
  /-- inherits `coba.primitives.Learner.score` (raises NotImplementedError) -/
  | base
  /-- implements `score`; `probe` is what it does on `(None, None, None)` -/
  | implemented (probe : ScoreProbe)
deriving Repr

def probeOf : ScoreKind → ScoreProbe
  | .absent cls => .raises ⟨true, "'" ++ cls ++ "' object has no attribute 'score'"⟩
  | .base => .raises ⟨false, "The `score` interface has not been implemented for this learner."⟩
  | .implemented p => p

end Coba.C15

namespace Coba.C15

/-- what one sees of a run: per call whether the "action" returned is a string, its length, and whether the "probability"
is a sequence (used by the witnesses about wrappers switched between batched and unbatched calls) -/
def obsRun (x : Except Err (List Result)) : Except Err (List (Bool × Nat × Bool)) :=
  x.map (fun rs => rs.map (fun r => (r.a.isStr, r.a.len, r.p.hasLen)))

/-- values on which Python's `==` is decided without looking inside containers -/
def isScalar : PyVal → Bool
  | .none | .bool _ | .int _ | .flt _ _ | .str _ _ => true
  | _ => false

end Coba.C15

/-! ### Phase 4: the format is decided once; memo-aware learn -/

namespace Coba.C15

/-- what `_parse_pred` memoises on the first call -/
structure Decided where
  lay : BLayout
  kw : Bool
  f : PFmt
deriving Repr

def State.decidedAs (st : State) (d : Decided) : Prop :=
  st.layout = some d.lay ∧ st.hasKw = d.kw ∧ st.fmt = some d.f

/-- the decision a state carries, if any -/
def State.decided? (st : State) : Option Decided :=
  match st.layout, st.fmt with
  | some l, some f => some ⟨l, st.hasKw, f⟩
  | _, _ => Option.none

/-- a wrapper that only knows the decided format, the generator state and the call style memo: no cached actions -/
def State.core (st : State) : State :=
  { rng := st.rng, method := st.method, layout := st.layout, hasKw := st.hasKw, fmt := st.fmt }

def State.withCache (s st : State) : State := { s with prev := st.prev, safe := st.safe }

/-- a whole evaluation in which every call is made on a wrapper that has the format `d` decided beforehand: only the
generator state, the call-style memo and the action cache are threaded from call to call -/
def runFrozen (fx : Fixes) (L : Learner) (d : Decided) : State → List Arg → Except Err (List Result)
  | _, [] => pure []
  | st, a :: as => do
    let (r, st') ← predict fx L { st with layout := some d.lay, hasKw := d.kw, fmt := some d.f } a
    let rs ← runFrozen fx L d st' as
    pure (r :: rs)

/-- `run` the way `history_format_decided_once` splits it: the first call decides, the rest is `runFrozen` -/
def runSplit (fx : Fixes) (L : Learner) (st : State) : List Arg → Except Err (List Result)
  | [] => pure []
  | a :: as => do
    let (r, st') ← predict fx L st a
    match st'.decided? with
    | some d => (runFrozen fx L d st' as).map (fun rs => r :: rs)
    | Option.none => .error .other

/-- `run` with every call on a decided wrapper made on `State.core` (nothing of the history but format, generator, memo) -/
def runCore (fx : Fixes) (L : Learner) : State → List Arg → Except Err (List Result)
  | _, [] => pure []
  | st, a :: as => do
    let st1 := (prepare fx st a).1
    let sarg := (prepare fx st a).2
    let (r, st') ← (if st1.layout.isSome then (predictCore fx L st1.core sarg).map (fun p => (p.1, p.2.withCache st1))
                    else predictCore fx L st1 sarg)
    let rs ← runCore fx L st' as
    pure (r :: rs)

/-- `SafeLearner.learn` with the call-style memo `_method['learn']` (decided on the FIRST learn call and kept, also when the
wrapper is later switched between batched and unbatched calls): memo 1 passes everything straight to the learner (a learner
whose learn cannot batch then raises), memo 2 calls `_method2` (per row; on an unbatched call `zip(*args)` over scalars raises) -/
def learnM (batchable : Bool) (memo : Option Nat) (arg : Arg) (res : Result) (reward : PyVal) : Except Err (List LearnCall × Nat) :=
  match res.kw with
  | .dict _ ks vs =>
    let perRow (cs : List PyVal) : Except Err (List LearnCall × Nat) := do
      let A ← itemsE res.a
      let R ← itemsE reward
      let P ← itemsE res.p
      let calls ← learnRows 0 cs A R P ks vs
      if calls.isEmpty then .error .coba else pure (calls, 2)
    match memo, arg with
    | some 2, .single _ _ => .error .other
    | some 2, .batch cs _ => perRow cs
    | some _, .single c _ => pure ([⟨c, res.a, reward, res.p, ks, vs⟩], 1)
    | some _, .batch cs _ => if batchable then pure ([⟨.list .tmp cs, res.a, reward, res.p, ks, vs⟩], 1) else .error .learner
    | Option.none, .single c _ => pure ([⟨c, res.a, reward, res.p, ks, vs⟩], 1)
    | Option.none, .batch cs _ => if batchable then pure ([⟨.list .tmp cs, res.a, reward, res.p, ks, vs⟩], 1) else perRow cs
  | _ => .error .type

/-- predict / learn histories with both memos threaded; stops at the first error, reporting what was delivered so far -/
def runHistoryM (fx : Fixes) (L : Learner) (batchable : Bool) : State → Option Nat → List (Arg × PyVal) → List (Except Err (Result × List LearnCall))
  | _, _, [] => []
  | st, memo, (a, rw) :: h =>
    match predict fx L st a with
    | .error e => [.error e]
    | .ok (r, st') =>
      match learnM batchable memo a r rw with
      | .error e => [.error e]
      | .ok (lc, m') => .ok (r, lc) :: runHistoryM fx L batchable st' (some m') h

/-- the memo value a uniformly used wrapper holds for learn -/
def learnMemoOK (batchable : Bool) (memo : Option Nat) (arg : Arg) : Bool :=
  match memo, arg with
  | Option.none, _ => true
  | some 1, .single .. => true
  | some 1, .batch .. => batchable
  | some 2, .batch .. => !batchable
  | _, _ => false


end Coba.C15

/-! ## Phase 5: nan, and `possible_pmf` / `pred_format` as the source writes them -/

namespace Coba.C15

/-! ### nan
`float('nan')` objects are represented inside the existing value domain (no new constructor, so every case
split about `PyVal` stands): the nan object created by `r` is the float token `mkNan r`, whose rational
payload is a code of `r` below `nanBound`, a range no real float of a checked case lies in (`PyVal.nanFree`).
Python compares container items with `x is y or x == y` (`PyObject_RichCompareBool`; `list.__eq__`, `in`), and
`nan == y` is False for every y: `richEq` below says exactly that on a wrapper type with an explicit nan, and
`nan_encoding_faithful` (Props) proves that the model's `pyIs || pyEq` on the tokens computes it. -/

def Ref.code : Ref → Nat
  | .ext n => 4 * n | .safe n => 4 * n + 1 | .lrn n => 4 * n + 2 | .tmp => 3

def nanBound : Rat := -1099511627776
def nanVal (k : Nat) : Rat := nanBound - 1 - (k : Rat)
/-- the nan object made by `r` -/
def mkNan (r : Ref) : PyVal := .flt r (nanVal r.code)
def isNanVal (q : Rat) : Bool := decide (q < nanBound)
/-- is the value itself a nan token? -/
def PyVal.isNan : PyVal → Bool | .flt _ q => isNanVal q | _ => false
/-- a number that is not in the token range (any non-number qualifies) -/
def PyVal.nanFree (v : PyVal) : Bool := match v.num with | some q => !isNanVal q | Option.none => true

/-- a number object is not the nan object made by `r` (one object is either a nan or a number) -/
def objDistinct (r : Ref) : PyVal → Bool
  | .flt r' _ => r != r'
  | _ => true

/-- Python values with an explicit nan -/
inductive NVal
  | nan (r : Ref)
  | val (v : PyVal)

def NVal.enc : NVal → PyVal
  | .nan r => mkNan r
  | .val v => v

/-- `PyObject_RichCompareBool(x, y, Py_EQ)` = `x is y or x == y`, with `nan == y` False for every y -/
def richEq : NVal → NVal → Bool
  | .nan r, .nan r' => r == r'
  | .nan _, .val _ => false
  | .val _, .nan _ => false
  | .val a, .val b => pyIs a b || pyEq a b

/-- `list.__eq__` (what `_prev_actions != actions` negates) -/
def richEqList : List NVal → List NVal → Bool
  | [], [] => true
  | x :: xs, y :: ys => richEq x y && richEqList xs ys
  | _, _ => false

/-- reading a model value back: a float in the token range is the nan object of its ref -/
def NVal.ofPy : PyVal → NVal
  | .flt r q => if isNanVal q then .nan r else .val (.flt r q)
  | v => .val v

/-- the model's comparison of container items -/
def itemEq (a b : PyVal) : Bool := pyIs a b || pyEq a b

end Coba.C15

/-! ### `pred_format` as a decision tree (the translator writes the tree of the CURRENT source into
`Generated/C15PredFormat.lean`; `pred_format_table` proves that running it is `predFormat Fixes.all`) -/

namespace Coba.C15

/-- the tests `pred_format` makes (the translator maps the source text of each `if` test to one of these; any other text is `unknown`) -/
inductive PFAtom
  | isDict          -- isinstance(std_pred, dict)
  | hasPmf          -- 'pmf' in std_pred
  | noActions       -- not actions
  | pmfLenBad       -- no_len(pmf) or len(pmf) != len(actions)
  | hasAction       -- 'action' in std_pred
  | hasAP           -- 'action_prob' in std_pred
  | apLenBad        -- no_len(ap) or len(ap) != 2
  | scalarLike      -- no_len(std_pred) or isinstance(std_pred, (str, dict))
  | lenNe2          -- len(std_pred) != 2
  | lenEq2          -- len(std_pred) == 2
  | actionsEmpty    -- actions == [] or actions is None
  | itemIsAction    -- any(std_pred[0] is a for a in actions)
  | possPmf         -- SafeLearner.possible_pmf(std_pred[0], actions)
  | possAct         -- SafeLearner.possible_action(std_pred[0], actions)
  | unknown
deriving DecidableEq, Repr

/-- the statements of `pred_format`'s body -/
inductive PFStmt
  | ite (c : PFAtom) (thn els : List PFStmt)
  | ret (kind : Kind) (star : Bool)      -- return 'PM*' …
  | raise                                -- raise <one of the CobaExceptions built at the top>
  | wrap                                 -- std_pred = [std_pred]
  | bind (key : String)                  -- pmf = std_pred['pmf']
  | skip                                 -- pass
  | unknown
deriving Repr

inductive PFRes
  | done (r : Except Err PFmt)
  | cont (wrapped : Bool)

/-- `std_pred[0]` after / before `std_pred = [std_pred]` -/
def pfItem (sp : PyVal) (wrapped : Bool) : Except Err PyVal := if wrapped then .ok sp else getIdx sp 0

def pfEval (sp : PyVal) (acts : List PyVal) (wrapped : Bool) : PFAtom → Except Err Bool
  | .isDict => .ok sp.isDict
  | .hasPmf => .ok (hasKey "pmf" sp)
  | .hasAction => .ok (hasKey "action" sp)
  | .hasAP => .ok (hasKey "action_prob" sp)
  | .noActions => .ok acts.isEmpty
  | .actionsEmpty => .ok acts.isEmpty
  | .pmfLenBad => do let pmf ← getKey "pmf" sp; pure (!pmf.hasLen || pmf.len != acts.length)
  | .apLenBad => do let ap ← getKey "action_prob" sp; pure (!ap.hasLen || ap.len != 2)
  | .scalarLike => .ok (!sp.hasLen || sp.isStr || sp.isDict)
  | .lenNe2 => .ok (sp.len != 2)
  | .lenEq2 => .ok (if wrapped then false else sp.len == 2)
  | .itemIsAction => do let x ← pfItem sp wrapped; pure (acts.any (fun a => pyIs x a))
  | .possPmf => do let x ← pfItem sp wrapped; pure (possiblePmf x acts)
  | .possAct => do let x ← pfItem sp wrapped; pure (possibleAction x acts)
  | .unknown => .error .other

mutual
def pfExec (sp : PyVal) (acts : List PyVal) : PFStmt → Bool → PFRes
  | .ite c t e, w =>
    match pfEval sp acts w c with
    | .ok b => if b then pfExecL sp acts t w else pfExecL sp acts e w
    | .error e => .done (.error e)
  | .ret k s, _ => .done (.ok ⟨k, s⟩)
  | .raise, _ => .done (.error .coba)
  | .wrap, _ => .cont true
  | .bind k, w => match getKey k sp with | .ok _ => .cont w | .error e => .done (.error e)
  | .skip, w => .cont w
  | .unknown, _ => .done (.error .other)
def pfExecL (sp : PyVal) (acts : List PyVal) : List PFStmt → Bool → PFRes
  | [], w => .cont w
  | s :: ss, w =>
    match pfExec sp acts s w with
    | .cont w' => pfExecL sp acts ss w'
    | .done r => .done r
end

/-- run a `pred_format` body on (std_pred, actions) -/
def pfRun (tree : List PFStmt) (sp : PyVal) (actions : Option (List PyVal)) : Except Err PFmt :=
  match pfExecL sp (actions.getD []) tree false with
  | .done r => r
  | .cont _ => .error .other


/-! ## Phase 6: the action cache when the caller reuses ONE list object (aliasing of caller-owned data)

Before a13bb10 `SafeLearner.predict` stored `self._prev_actions = actions` - a REFERENCE to the caller's list (now a copy) - and,
when no 0/1 is offered, `self._safe_actions = actions` (the caller's list itself; still so).  A caller that refills ITS list in
place and passes it again made `_prev_actions != actions` compare the list with itself.  `OCall` = one call as the caller makes it: which of its list objects it
passes (`oid`) and what that object holds NOW.  `prepareRef` mirrors the pinned lines with the reference kept; the value-based
`prepare` (what every other theorem is about) is the repaired code (`_prev_actions` = a copy). -/

structure OCall where
  oid : Nat
  arg : Arg
deriving Repr

structure AState where
  st : State
  /-- the caller's object `_prev_actions` refers to -/
  prevOid : Option Nat := Option.none
  /-- `_safe_actions` IS that object (nothing had to be copied) -/
  aliasSafe : Bool := false
deriving Repr

/-- no float copy was needed: `_safe_actions = actions` (`is_safe` of the list / of every row; the pinned batched code never copied) -/
def actsUntouched (fx : Fixes) : Acts → Bool
  | .single as => !as.any isZeroOne
  | .batch rows => !fx.batch || rows.all (fun r => !r.any isZeroOne)

def prepareRef (fx : Fixes) (a : AState) (c : OCall) : AState × Arg :=
  if a.prevOid = some c.oid then
    -- the list compared with itself: never "changed".  The kept object holds the new content; an aliased `_safe_actions` too,
    -- a float-copy list made for an earlier content stays as it is (stale)
    let acts := argActs c.arg
    let st := { a.st with prev := some acts, safe := if a.aliasSafe then acts else a.st.safe }
    ({ a with st := st }, withActs c.arg st.safe)
  else
    let changed := match a.st.prev with
      | Option.none => true
      | some p => !pyEq p.toPy (argActs c.arg).toPy
    let r := prepare fx a.st c.arg
    (if changed then { st := r.1, prevOid := some c.oid, aliasSafe := actsUntouched fx (argActs c.arg) } else { a with st := r.1 }, r.2)

/-- what the learner is offered, call after call (pinned: reference kept) -/
def runPrepRef (fx : Fixes) : AState → List OCall → List Arg
  | _, [] => []
  | a, c :: cs => (prepareRef fx a c).2 :: runPrepRef fx (prepareRef fx a c).1 cs

/-- what the learner is offered, call after call (repaired: a copy kept = the value-based `prepare`) -/
def runPrep (fx : Fixes) : State → List OCall → List Arg
  | _, [] => []
  | st, c :: cs => (prepare fx st c.arg).2 :: runPrep fx (prepare fx st c.arg).1 cs

/-- the caller never passes the object the wrapper currently keeps a reference to -/
def neverKept (fx : Fixes) : AState → List OCall → Bool
  | _, [] => true
  | a, c :: cs => (a.prevOid != some c.oid) && neverKept fx (prepareRef fx a c).1 cs

/-- every call passes an object never passed before (a fresh list per interaction, as coba's environments build them) -/
def freshObjects : List Nat → List OCall → Bool
  | _, [] => true
  | seen, c :: cs => !seen.contains c.oid && freshObjects (c.oid :: seen) cs

end Coba.C15
