/-
Model of the built-in learners of coba that need no optional package:
`coba/learners/bandit.py` (BanditEpsilonLearner, BanditUCBLearner, FixedLearner, RandomLearner),
`coba/learners/utilities.py` (PMFPredictor, PMFInfoPredictor), `coba/learners/misguided.py`
(MisguidedLearner) and `coba/learners/corral.py` (CorralLearner, with the repaired
`_log_barrier_omd` of fixes/C16-corral-omd-root.diff).  Import-free apart from the finished C05
model (`choicew`, the LCG).

* Actions are identified by a natural number: the equivalence class of the Python value under
  `==` after `make_hashable` (what the `_Q/_N/_m/_s` dictionaries key on).  The harness assigns
  the numbers.
* Floats are exact rationals.  Every float operation whose *value* can decide something
  (the running means, which decide ties) goes through a rounding function `fl : Rat → Rat` that is
  a PARAMETER of the model: the theorems hold for every `fl`, the driver instantiates it with
  `flDouble` (round-to-nearest-even binary64), so that ties are the implementation's ties.
* The UCB index `m_a + sqrt(ln n / n_a * min(1/4, V_a))` is `m_a + bonus`, `bonus` an arbitrary
  function (log/sqrt are not modelled; validity of the pmf does not depend on them).
-/
import CobaVerif.Model.C05

namespace Coba.C16

abbrev Act := Nat

inductive PErr
  | rng (e : Coba.C05.Err)   -- raised inside CobaRandom.choice/choicew
  | keyError | valueError | zeroDivision | indexError | assertion
deriving Repr, DecidableEq

/-! ### binary64 rounding (used by the driver only; no theorem depends on it) -/

def roundHalfEven (num den : Nat) : Nat :=
  let q := num / den
  let r := num % den
  if 2 * r < den then q else if den < 2 * r then q + 1 else if q % 2 = 0 then q else q + 1

def scaleBy (n d : Nat) (e : Int) : Nat × Nat :=
  if 0 ≤ e then (n, d * 2 ^ e.toNat) else (n * 2 ^ (-e).toNat, d)

/-- round-to-nearest-even to an IEEE binary64 value (overflow to infinity is not modelled) -/
def flDouble (x : Rat) : Rat :=
  if x = 0 then 0 else
    let n := x.num.natAbs
    let d := x.den
    let e0 : Int := (Nat.log2 n : Int) - (Nat.log2 d : Int) - 52
    let ab := scaleBy n d e0
    let e1 : Int := if ab.1 / ab.2 < 2 ^ 52 then e0 - 1 else if 2 ^ 53 ≤ ab.1 / ab.2 then e0 + 1 else e0
    let e : Int := if e1 < -1074 then -1074 else e1
    let ab := scaleBy n d e
    let m := roundHalfEven ab.1 ab.2
    let r : Rat := if 0 ≤ e then ((m * 2 ^ e.toNat : Nat) : Rat) else (m : Rat) / ((2 ^ (-e).toNat : Nat) : Rat)
    if x < 0 then -r else r

/-! ### Python dict as association list -/

def dget {β} : List (Act × β) → Act → Option β
  | [], _ => none
  | (k, v) :: r, a => if k = a then some v else dget r a

def dset {β} : List (Act × β) → Act → β → List (Act × β)
  | [], a, v => [(a, v)]
  | (k, w) :: r, a, v => if k = a then (k, v) :: r else (k, w) :: dset r a v

def dhas {β} (d : List (Act × β)) (a : Act) : Bool := (dget d a).isSome

/-- `max(values)` with a first element -/
def maxOf : Rat → List Rat → Rat
  | m, [] => m
  | m, x :: xs => maxOf (if m < x then x else m) xs

/-- the distinct members (`set(...)`; `len(set(...))` is its length) -/
def distinct : List Act → List Act
  | [] => []
  | a :: l => if a ∈ l then distinct l else a :: distinct l

/-! ### BanditEpsilonLearner -/

structure Eps where
  eps : Rat
  Q : List (Act × Rat) := []
  N : List (Act × Nat) := []
deriving Repr

/-- `_pmf` as a function of the looked-up values -/
def epsPmfVals (eps : Rat) (vals : List Rat) : List Rat :=
  match vals with
  | [] => []
  | v :: vs =>
    let mx := maxOf v vs
    let k := (vals.filter (fun q => q = mx)).length
    let n := vals.length
    vals.map (fun q => 1 / (n : Rat) * eps + (if q = mx then 1 / (k : Rat) else 0) * (1 - eps))

/-- `self._Q[action]` on a `defaultdict(int)` -/
def Eps.q (st : Eps) (a : Act) : Rat := match dget st.Q a with | some v => v | none => 0
def Eps.n (st : Eps) (a : Act) : Nat := match dget st.N a with | some v => v | none => 0

def Eps.pmf (st : Eps) (actions : List Act) : List Rat := epsPmfVals st.eps (actions.map st.q)

/-- `learn`: alpha = 1/(N+1); Q = (1-alpha)*Q + alpha*reward; N += 1 -/
def Eps.learn (fl : Rat → Rat) (st : Eps) (a : Act) (r : Rat) : Eps :=
  let n := st.n a
  let alpha := fl (1 / ((n : Rat) + 1))
  let qn := fl (fl (fl (1 - alpha) * st.q a) + fl (alpha * r))
  { st with Q := dset st.Q a qn, N := dset st.N a (n + 1) }

/-! ### BanditUCBLearner -/

structure Ucb where
  t : Nat := 0
  m : List (Act × Rat) := []
  s : List (Act × Nat) := []
deriving Repr

/-- `[int(a in S)/len(S) for a in actions]` -/
def uniformOn (S : List Act) (k : Nat) (actions : List Act) : List Rat :=
  actions.map (fun a => if a ∈ S then 1 / (k : Rat) else 0)

/-- the count `self._s[a]` exists and is not 0 (it divides in `_Avg_R_UCB`) -/
def Ucb.sPos (st : Ucb) (a : Act) : Bool :=
  match dget st.s a with
  | some n => n != 0
  | none => false

/-- `_pmf`; `val a` is `self._m[a] + self._Avg_R_UCB(a)` -/
def Ucb.pmf (val : Act → Rat) (st : Ucb) (actions : List Act) : Except PErr (List Rat) :=
  let never := actions.filter (fun a => !dhas st.m a)
  if never ≠ [] then
    .ok (uniformOn never (distinct never).length actions)     -- a set: duplicates count once
  else
    match actions with
    | [] => .error .valueError                                 -- max([])
    | a0 :: rest =>
      if !(actions.all (fun a => dhas st.s a)) then .error .keyError   -- self._s[action]
      else if st.t = 0 then .error .valueError                  -- math.log(0)
      else if !(actions.all (fun a => st.sPos a)) then .error .zeroDivision
      else
        let mx := maxOf (val a0) (rest.map val)
        let best := actions.filter (fun a => val a = mx)
        .ok (uniformOn best best.length actions)

def Ucb.learn (fl : Rat → Rat) (st : Ucb) (a : Act) (r : Rat) : Except PErr Ucb :=
  match dget st.m a with
  | none => .ok { t := st.t + 1, m := dset st.m a r, s := dset st.s a 1 }
  | some mv =>
    match dget st.s a with
    | none => .error .keyError
    | some sv =>
      if sv = 0 then .error .zeroDivision
      else
        let inv := fl (1 / (sv : Rat))
        .ok { t := st.t + 1, m := dset st.m a (fl (fl (fl (1 - inv) * mv) + fl (inv * r))), s := dset st.s a (sv + 1) }

/-! ### `coba.statistics.OnlineVariance` (Welford), the variance BanditUCB's index takes the root of.
The index itself stays an arbitrary function in the learner model; what the real code needs from
this class is that the variance is never negative (`sqrt` of the index would raise). -/

structure Welford where
  count : Rat := 0
  mean : Rat := 0
  m2 : Rat := 0
  var : Option Rat := none     -- `nan` until two values were seen
deriving Repr

def Welford.update (fl : Rat → Rat) (w : Welford) (v : Rat) : Welford :=
  let count := fl (w.count + 1)
  let delta := fl (v - w.mean)
  let mean := fl (w.mean + fl (delta / count))
  let delta2 := fl (v - mean)
  let m2 := fl (w.m2 + fl (delta * delta2))
  { count := count, mean := mean, m2 := m2, var := if 1 < count then some (fl (m2 / fl (count - 1))) else w.var }

def Welford.run (fl : Rat → Rat) (vs : List Rat) : Welford := vs.foldl (Welford.update fl) {}

/-! ### the four base learners behind one interface, with Misguided wrappers -/

inductive Kind
  | eps (st : Eps)
  | ucb (st : Ucb)
  | fixed (pmf : List Rat)
  | random
deriving Repr

structure Learner where
  /-- `MisguidedLearner(…, shifter, scaler)` wrappers, outermost first -/
  mis : List (Rat × Rat) := []
  kind : Kind
  /-- state of the CobaRandom owned by the PMFPredictor / RandomLearner -/
  rng : Nat
deriving Repr

/-- the reward the innermost learner sees: `shifter + scaler*reward` per wrapper -/
def misguide (fl : Rat → Rat) : List (Rat × Rat) → Rat → Rat
  | [], r => r
  | (sh, sc) :: rest, r => misguide fl rest (fl (sh + fl (sc * r)))

/-- the learner's pmf over the offered actions (RandomLearner has no `_pmf`: the uniform vector its `predict` reports) -/
def Kind.pmf (val : Act → Rat) (k : Kind) (actions : List Act) : Except PErr (List Rat) :=
  match k with
  | .eps st => .ok (st.pmf actions)
  | .ucb st => st.pmf val actions
  | .fixed p => .ok p
  | .random => .ok (List.replicate actions.length (1 / (actions.length : Rat)))

def liftRng {α} : Except Coba.C05.Err α → Except PErr α
  | .ok a => .ok a
  | .error e => .error (.rng e)

/-- `predict`: (new learner, index of the chosen action, reported probability, the pmf) -/
def Learner.predict (val : Act → Rat) (L : Learner) (actions : List Act) :
    Except PErr (Learner × Nat × Rat × List Rat) :=
  match L.kind with
  | .random =>
    match liftRng (Coba.C05.choicew L.rng actions.length none) with
    | .ok (s', i, w) => .ok ({ L with rng := s' }, i, w, List.replicate actions.length (1 / (actions.length : Rat)))
    | .error e => .error e
  | k =>
    match k.pmf val actions with
    | .error e => .error e
    | .ok pmf =>
      match liftRng (Coba.C05.choicew L.rng actions.length (some pmf)) with
      | .ok (s', i, w) => .ok ({ L with rng := s' }, i, w, pmf)
      | .error e => .error e

/-- `score(context, actions, action)` -/
def Learner.score (val : Act → Rat) (L : Learner) (actions : List Act) (a : Act) : Except PErr Rat :=
  match L.kind with
  | .random => if actions.length = 0 then .error .zeroDivision else .ok (1 / (actions.length : Rat))
  | k =>
    match k.pmf val actions with
    | .error e => .error e
    | .ok pmf =>
      if a ∈ actions then
        match pmf[actions.idxOf a]? with
        | some p => .ok p
        | none => .error .indexError
      else .error .valueError          -- actions.index(action)

def Learner.learn (fl : Rat → Rat) (L : Learner) (a : Act) (r : Rat) : Except PErr Learner :=
  let r' := misguide fl L.mis r
  match L.kind with
  | .eps st => .ok { L with kind := .eps (st.learn fl a r') }
  | .ucb st =>
    match st.learn fl a r' with
    | .ok st' => .ok { L with kind := .ucb st' }
    | .error e => .error e
  | .fixed _ => .ok L
  | .random => .ok L

inductive Op
  | predict (actions : List Act)
  | score (actions : List Act) (a : Act)
  | learn (a : Act) (r : Rat)
deriving Repr

inductive Out
  | pred (i : Nat) (p : Rat) (pmf : List Rat)
  | score (p : Rat)
  | learned
  | err (e : PErr)
deriving Repr

/-- one call; `val` is the UCB index in force at this call -/
def stepL (fl : Rat → Rat) (val : Act → Rat) (L : Learner) : Op → Learner × Out
  | .predict actions =>
    match L.predict val actions with
    | .ok (L', i, p, pmf) => (L', .pred i p pmf)
    | .error e => (L, .err e)
  | .score actions a =>
    match L.score val actions a with
    | .ok p => (L, .score p)
    | .error e => (L, .err e)
  | .learn a r =>
    match L.learn fl a r with
    | .ok L' => (L', .learned)
    | .error e => (L, .err e)

/-- a history of calls; `val k a` is the UCB index `m_a + bonus` in force at call number `k`: an
ARBITRARY function (so every bonus is covered).  The run stops at the first exception. -/
def runL (fl : Rat → Rat) (val : Nat → Act → Rat) : Nat → Learner → List Op → List Out
  | _, _, [] => []
  | k, L, op :: ops =>
    match stepL fl (val k) L op with
    | (_, .err e) => [.err e]
    | (L', o) => o :: runL fl val (k + 1) L' ops

/-! ### the pmfs as the implementation computes them (every operation through `fl`); with
`flDouble` the driver's values are compared with the real `score` for equality -/

/-- `[1/len(actions)*eps + int(i in max_indexes)/len(max_indexes)*(1-eps)]` -/
def epsPmfValsF (fl : Rat → Rat) (eps : Rat) (vals : List Rat) : List Rat :=
  match vals with
  | [] => []
  | v :: vs =>
    let mx := maxOf v vs
    let k := (vals.filter (fun q => q = mx)).length
    let n := vals.length
    vals.map (fun q => fl (fl (fl (1 / (n : Rat)) * eps) + fl (fl ((if q = mx then 1 else 0) / (k : Rat)) * fl (1 - eps))))

/-- `[int(a in S)/len(S) for a in actions]` -/
def uniformOnF (fl : Rat → Rat) (S : List Act) (k : Nat) (actions : List Act) : List Rat :=
  actions.map (fun a => fl ((if a ∈ S then 1 else 0) / (k : Rat)))

def Ucb.pmfF (fl : Rat → Rat) (val : Act → Rat) (st : Ucb) (actions : List Act) : List Rat :=
  let never := actions.filter (fun a => !dhas st.m a)
  if never ≠ [] then uniformOnF fl never (distinct never).length actions
  else
    match actions with
    | [] => []
    | a0 :: rest =>
      let mx := maxOf (val a0) (rest.map val)
      let best := actions.filter (fun a => val a = mx)
      uniformOnF fl best best.length actions

def Kind.pmfF (fl : Rat → Rat) (val : Act → Rat) (k : Kind) (actions : List Act) : List Rat :=
  match k with
  | .eps st => epsPmfValsF fl st.eps (actions.map st.q)
  | .ucb st => st.pmfF fl val actions
  | .fixed p => p
  | .random => List.replicate actions.length (fl (1 / (actions.length : Rat)))

/-- the float pmf in force at every predict / score call of a history (`[]` at learn calls) -/
def runLF (fl : Rat → Rat) (val : Nat → Act → Rat) : Nat → Learner → List Op → List (List Rat)
  | _, _, [] => []
  | k, L, op :: ops =>
    let cur := match op with
      | .predict actions => L.kind.pmfF fl (val k) actions
      | .score actions _ => L.kind.pmfF fl (val k) actions
      | .learn _ _ => []
    match stepL fl (val k) L op with
    | (_, .err _) => [cur]
    | (L', _) => cur :: runLF fl val (k + 1) L' ops

/-! ### CorralLearner -/

structure Corral where
  gamma : Rat            -- 1/T
  beta : Rat             -- 1/exp(1/log T)
  importance : Bool      -- mode
  ps : List Rat
  pbars : List Rat
  etas : List Rat
  rhos : List Rat
  rng : Nat
deriving Repr

/-- `CorralLearner(learners, eta, T, mode, seed)` with M base learners -/
def Corral.init (fl : Rat → Rat) (M : Nat) (eta gamma beta : Rat) (importance : Bool) (rng : Nat) : Corral :=
  { gamma := gamma, beta := beta, importance := importance,
    ps := List.replicate M (fl (1 / (M : Rat))), pbars := List.replicate M (fl (1 / (M : Rat))),
    etas := List.replicate M eta, rhos := List.replicate M (2 * (M : Rat)), rng := rng }

/-- `sum(p_b*int(a==b_a) for p_b,b_a in zip(p_bars, base_actions))` -/
def mixAt : List Rat → List Act → Act → Rat
  | pb :: pbs, b :: bs, a => (if a = b then pb else 0) + mixAt pbs bs a
  | _, _, _ => 0

/-- `_pmf`: the mixture of the base learners' chosen actions -/
def corralPmf (pbars : List Rat) (bacts : List Act) (actions : List Act) : List Rat :=
  actions.map (mixAt pbars bacts)

def Corral.predict (c : Corral) (actions : List Act) (bacts : List Act) :
    Except PErr (Corral × Nat × Rat × List Rat) :=
  let pmf := corralPmf c.pbars bacts actions
  match liftRng (Coba.C05.choicew c.rng actions.length (some pmf)) with
  | .ok (s', i, w) => .ok ({ c with rng := s' }, i, w, pmf)
  | .error e => .error e

def Corral.score (c : Corral) (actions : List Act) (bacts : List Act) (a : Act) : Except PErr Rat :=
  if a ∈ actions then
    match (corralPmf c.pbars bacts actions)[actions.idxOf a]? with
    | some p => .ok p
    | none => .error .indexError
  else .error .valueError

/-- denominators `1/p + eta*(loss - l)` -/
def omdDenoms : List Rat → List Rat → List Rat → Rat → List Rat
  | p :: ps, e :: es, l :: ls, lam => (1 / p + e * (l - lam)) :: omdDenoms ps es ls lam
  | _, _, _, _ => []

/-- `update(l)`: the new weights for the multiplier, `none` at or beyond a pole -/
def omdRaw (ps etas losses : List Rat) (lam : Rat) : Option (List Rat) :=
  let ds := omdDenoms ps etas losses lam
  if ds.all (fun d => decide (0 < d)) then some (ds.map (fun d => 1 / d)) else none

def normalise (xs : List Rat) : List Rat := xs.map (fun x => x / xs.sum)

/-- `round(y,4) == 1` -/
def rounds1 (y : Rat) : Bool := decide ((99995 : Rat) / 100000 < y) && decide (y < (100005 : Rat) / 100000)

def minOf : Rat → List Rat → Rat
  | m, [] => m
  | m, x :: xs => minOf (if x < m then x else m) xs

/-- the loop of the repaired `_log_barrier_omd` over ANY carrier `F` of multipliers (rationals in
the exact model, doubles in the implementation): `mid` is `(l+r)/2` as computed, `done` the
`round(sum,4)==1` test, `probe = update`, `tooBig` the `sum > 1` test.  `cur = probe l` throughout.
Returns the multiplier with `update(multiplier)` and whether the loop left by one of its own exits
(`false`: the fuel ran out). -/
def bisect {F α} [DecidableEq F] (mid : F → F → F) (done : α → Bool) (probe : F → Option α) (tooBig : α → Bool) :
    Nat → F → F → α → (F × α) × Bool
  | 0, l, _, cur => ((l, cur), false)
  | fuel + 1, l, r, cur =>
    if done cur then ((l, cur), true)
    else
      let x := mid l r
      if x = l ∨ x = r then ((l, cur), true)      -- [l,r] can't be split any further
      else
        match probe x with
        | none => bisect mid done probe tooBig fuel l x cur
        | some xs => if tooBig xs then bisect mid done probe tooBig fuel l x cur else bisect mid done probe tooBig fuel x r xs

/-- the bisection over exact arithmetic, with fuel.  Returns the multiplier and `update(multiplier)`. -/
def omdSearch (ps etas losses : List Rat) (fuel : Nat) (l r : Rat) (cur : List Rat) : Rat × List Rat :=
  (bisect (fun l r => (l + r) / 2) (fun cur => rounds1 cur.sum) (omdRaw ps etas losses) (fun xs => decide (1 < xs.sum)) fuel l r cur).1

def searchFuel : Nat := 400

/-- the multiplier the repaired search returns (model: exact arithmetic) -/
def omdLambda (ps etas losses : List Rat) : Rat :=
  match losses with
  | [] => 0
  | l0 :: ls =>
    let lo := minOf l0 ls
    let hi := maxOf l0 ls
    match omdRaw ps etas losses lo with
    | none => lo
    | some cur => (omdSearch ps etas losses searchFuel lo hi cur).1

/-- `instant_loss` -/
def corralLosses (bacts : List Act) (a : Act) (r p : Rat) : List Rat :=
  bacts.map (fun b => if b = a then (1 - r) / p else 0)

/-- the rho/eta schedule: `if 1/p_bar > rho: rho = 2/p_bar; eta *= beta` -/
def etaRho (beta : Rat) : List Rat → List Rat → List Rat → List Rat × List Rat
  | pb :: pbs, e :: es, rh :: rhs =>
    let (es', rhs') := etaRho beta pbs es rhs
    if rh < 1 / pb then (e * beta :: es', 2 / pb :: rhs') else (e :: es', rh :: rhs')
  | _, es, rhs => (es, rhs)

/-- `learn` with the multiplier `lam` given (any value for which `update(lam)` is defined:
this is what the search's loop invariant guarantees for the value it returns) -/
def Corral.learnWith (c : Corral) (bacts : List Act) (a : Act) (r p lam : Rat) : Except PErr Corral :=
  if !(decide (0 ≤ r) && decide (r ≤ 1)) then .error .assertion
  else if p = 0 then .error .zeroDivision
  else
    match omdRaw c.ps c.etas (corralLosses bacts a r p) lam with
    | none => .error .valueError
    | some raw =>
      let ps := normalise raw
      let M := c.ps.length
      let pbars := ps.map (fun q => (1 - c.gamma) * q + c.gamma * 1 / (M : Rat))
      let er := etaRho c.beta pbars c.etas c.rhos
      .ok { c with ps := ps, pbars := pbars, etas := er.1, rhos := er.2 }

def Corral.learn (c : Corral) (bacts : List Act) (a : Act) (r p : Rat) : Except PErr Corral :=
  c.learnWith bacts a r p (omdLambda c.ps c.etas (corralLosses bacts a r p))

/-- what each base learner is taught: (action, reward, probability) -/
def corralFeedback (importance : Bool) (bacts : List Act) (bprobs : List Rat) (a : Act) (r p : Rat) :
    List (Act × Rat × Rat) :=
  if importance then
    List.zipWith (fun b bp => (b, (if b = a then r else 0) / p, bp)) bacts bprobs
  else bacts.map (fun _ => (a, r, p))

inductive COp
  | predict (actions : List Act) (bacts : List Act)
  | score (actions : List Act) (bacts : List Act) (a : Act)
  | learn (bacts : List Act) (a : Act) (r p : Rat)
deriving Repr

def stepC (c : Corral) : COp → Corral × Out
  | .predict actions bacts =>
    match c.predict actions bacts with
    | .ok (c', i, p, pmf) => (c', .pred i p pmf)
    | .error e => (c, .err e)
  | .score actions bacts a =>
    match c.score actions bacts a with
    | .ok p => (c, .score p)
    | .error e => (c, .err e)
  | .learn bacts a r p =>
    match c.learn bacts a r p with
    | .ok c' => (c', .learned)
    | .error e => (c, .err e)

/-- a history; the states visited (after each call) and the outputs -/
def runC : Corral → List COp → List (Corral × Out)
  | _, [] => []
  | c, op :: ops =>
    let (c', o) := stepC c op
    (c', o) :: runC c' ops

/-- did the exact search leave by one of its own exits (and not because the fuel ran out)? -/
def omdHalted (ps etas losses : List Rat) : Bool :=
  match losses with
  | [] => true
  | l0 :: ls =>
    match omdRaw ps etas losses (minOf l0 ls) with
    | none => true
    | some cur => (bisect (fun l r => (l + r) / 2) (fun cur => rounds1 cur.sum) (omdRaw ps etas losses)
        (fun xs => decide (1 < xs.sum)) searchFuel (minOf l0 ls) (maxOf l0 ls) cur).2

/-! ### the repaired `_log_barrier_omd` as the implementation computes it: every float operation
through `fl` (the driver uses `flDouble`, the result is compared with the real function's output
for equality), the same `bisect` loop on the float carrier -/

def ratAbs (x : Rat) : Rat := if x < 0 then -x else x

/-- CPython 3.12 `sum()` of floats (Neumaier compensated summation, Python/bltinmodule.c) -/
def pySumAux (fl : Rat → Rat) : Rat → Rat → List Rat → Rat
  | s, c, [] => if c = 0 then s else fl (s + c)
  | s, c, x :: xs =>
    let t := fl (s + x)
    let c' := if ratAbs x ≤ ratAbs s then fl (c + fl (fl (s - t) + x)) else fl (c + fl (fl (x - t) + s))
    pySumAux fl t c' xs

def pySum (fl : Rat → Rat) (xs : List Rat) : Rat := pySumAux fl 0 0 xs

/-- `(1/p) + eta*(loss-l)` -/
def omdDenomsF (fl : Rat → Rat) : List Rat → List Rat → List Rat → Rat → List Rat
  | p :: ps, e :: es, l :: ls, lam => fl (fl (1 / p) + fl (e * fl (l - lam))) :: omdDenomsF fl ps es ls lam
  | _, _, _, _ => []

def omdRawF (fl : Rat → Rat) (ps etas losses : List Rat) (lam : Rat) : Option (List Rat) :=
  let ds := omdDenomsF fl ps etas losses lam
  if ds.all (fun d => decide (0 < d)) then some (ds.map (fun d => fl (1 / d))) else none

/-- the whole function: `none` where Python would fail on `sum(None)` (a non-positive weight came in) -/
def omdF (fl : Rat → Rat) (fuel : Nat) (ps etas losses : List Rat) : Option (List Rat × Bool) :=
  match losses with
  | [] => some ([], true)
  | l0 :: ls =>
    match omdRawF fl ps etas losses (minOf l0 ls) with
    | none => none
    | some cur =>
      let res := bisect (fun l r => fl (fl (l + r) / 2)) (fun cur => rounds1 (pySum fl cur)) (omdRawF fl ps etas losses)
        (fun xs => decide (1 < pySum fl xs)) fuel (minOf l0 ls) (maxOf l0 ls) cur
      let total := pySum fl res.1.2
      some (res.1.2.map (fun p => fl (p / total)), res.2)

/-! ### Phase 5: the rest of `CorralLearner.learn` as the implementation computes it

`loss = 1-reward`, `instant_loss = [loss/probability * (base_action==action) …]`, the p̄-smoothing
`(1-self._gamma)*p + self._gamma*1/len(self._base_lrns)` and the ρ/η schedule, every operation through
`fl`.  With `fl = flDouble` a whole history of `learn` calls reproduces `_ps`, `_p_bars`, `_etas`,
`_rhos` of the real learner bit for bit (driver op `corral_runF`). -/

/-- `(1-self._gamma)*p + self._gamma*1/len(self._base_lrns)`: five roundings, three deep -/
def pbarF (fl : Rat → Rat) (gamma : Rat) (M : Nat) (p : Rat) : Rat :=
  fl (fl (fl (1 - gamma) * p) + fl (fl (gamma * 1) / (M : Rat)))

/-- `self._p_bars = [ … for p in self._ps ]` -/
def smoothF (fl : Rat → Rat) (gamma : Rat) (M : Nat) (ps : List Rat) : List Rat := ps.map (pbarF fl gamma M)

/-- `loss = 1-reward; instant_loss = [ loss/probability * (base_action==action) … ]` -/
def corralLossesF (fl : Rat → Rat) (bacts : List Act) (a : Act) (r p : Rat) : List Rat :=
  bacts.map (fun b => fl (fl (fl (1 - r) / p) * (if b = a then 1 else 0)))

/-- `if 1/self._p_bars[i] > self._rhos[i]: self._rhos[i] = 2/self._p_bars[i]; self._etas[i] *= self._beta` -/
def etaRhoF (fl : Rat → Rat) (beta : Rat) : List Rat → List Rat → List Rat → List Rat × List Rat
  | pb :: pbs, e :: es, rh :: rhs =>
    let (es', rhs') := etaRhoF fl beta pbs es rhs
    if rh < fl (1 / pb) then (fl (e * beta) :: es', fl (2 / pb) :: rhs') else (e :: es', rh :: rhs')
  | _, es, rhs => (es, rhs)

/-- the state part of `CorralLearner.learn` in floats (the Bool: did the root search leave by its own exits) -/
def Corral.learnF (fl : Rat → Rat) (fuel : Nat) (c : Corral) (bacts : List Act) (a : Act) (r p : Rat) :
    Except PErr (Corral × Bool) :=
  if !(decide (0 ≤ r) && decide (r ≤ 1)) then .error .assertion
  else if p = 0 then .error .zeroDivision
  else
    match omdF fl fuel c.ps c.etas (corralLossesF fl bacts a r p) with
    | none => .error .valueError
    | some (ps, halted) =>
      let pbars := smoothF fl c.gamma c.ps.length ps
      let er := etaRhoF fl c.beta pbars c.etas c.rhos
      .ok ({ c with ps := ps, pbars := pbars, etas := er.1, rhos := er.2 }, halted)

/-- a whole history of `learn` calls `(base actions, played action, reward, probability)`; the states
after each call, up to and including the first exception -/
def runCF (fl : Rat → Rat) (fuel : Nat) : Corral → List (List Act × Act × Rat × Rat) → List (Except PErr (Corral × Bool))
  | _, [] => []
  | c, (bacts, a, r, p) :: ops =>
    match c.learnF fl fuel bacts a r p with
    | .error e => [.error e]
    | .ok (c', h) => .ok (c', h) :: runCF fl fuel c' ops

/-! ### nested compositions: Corral over base learners that may themselves be Corrals

`Base` is what Corral uses of a base learner.  A base learner that needs the kwargs of its own
prediction back (`info` of a nested Corral) keeps them in its state: the enclosing Corral hands
every base learner exactly the kwargs its predict returned (checked on the real code). -/

structure Base where
  σ : Type
  /-- (new state, chosen action, reported probability) -/
  predict : σ → List Act → Except PErr (σ × Act × Rat)
  /-- `learn(context, action, reward, probability, **kwargs)` -/
  learn : σ → Act → Rat → Rat → Except PErr σ

/-- a plain learner with the UCB indexes it will see (arbitrary, per call) -/
structure Leaf where
  L : Learner
  val : Nat → Act → Rat
  k : Nat := 0

def leafBase (fl : Rat → Rat) : Base where
  σ := Leaf
  predict := fun s actions =>
    match s.L.predict (s.val s.k) actions with
    | .error e => .error e
    | .ok (L', i, p, _) =>
      match actions[i]? with
      | some a => .ok ({ s with L := L', k := s.k + 1 }, a, p)
      | none => .error .indexError
  learn := fun s a r _ =>
    match s.L.learn fl a r with
    | .ok L' => .ok { s with L := L' }
    | .error e => .error e

/-- a (possibly Misguided) Corral with the states of its base learners and the `info` of its last predict -/
structure CNode (τ : Type) where
  mis : List (Rat × Rat) := []
  c : Corral
  lastActs : List Act := []
  lastProbs : List Rat := []
  bases : List τ

def predictAll (B : Base) : List B.σ → List Act → Except PErr (List B.σ × List Act × List Rat)
  | [], _ => .ok ([], [], [])
  | s :: ss, actions =>
    match B.predict s actions with
    | .error e => .error e
    | .ok (s', a, p) =>
      match predictAll B ss actions with
      | .error e => .error e
      | .ok (ss', as, ps) => .ok (s' :: ss', a :: as, p :: ps)

/-- `for learner, … in zip(self._base_lrns, …): learner.learn(…)` -/
def learnAll (B : Base) : List B.σ → List (Act × Rat × Rat) → Except PErr (List B.σ)
  | s :: ss, (a, r, p) :: fs =>
    match B.learn s a r p with
    | .error e => .error e
    | .ok s' =>
      match learnAll B ss fs with
      | .error e => .error e
      | .ok ss' => .ok (s' :: ss')
  | ss, _ => .ok ss

def corralOver (fl : Rat → Rat) (B : Base) : Base where
  σ := CNode B.σ
  predict := fun s actions =>
    match predictAll B s.bases actions with
    | .error e => .error e
    | .ok (bs', as, ps) =>
      match s.c.predict actions as with
      | .error e => .error e
      | .ok (c', i, p, _) =>
        match actions[i]? with
        | some a => .ok ({ s with c := c', lastActs := as, lastProbs := ps, bases := bs' }, a, p)
        | none => .error .indexError
  learn := fun s a r p =>
    let r' := misguide fl s.mis r
    if !(decide (0 ≤ r') && decide (r' ≤ 1)) then .error .assertion
    else if p = 0 then .error .zeroDivision
    else
      match learnAll B s.bases (corralFeedback s.c.importance s.lastActs s.lastProbs a r' p) with
      | .error e => .error e
      | .ok bs' =>
        match s.c.learn s.lastActs a r' p with
        | .error e => .error e
        | .ok c' => .ok { s with c := c', bases := bs' }

/-- either kind of base learner in one list -/
def sumBase (B1 B2 : Base) : Base where
  σ := B1.σ ⊕ B2.σ
  predict := fun s actions =>
    match s with
    | .inl s1 => (match B1.predict s1 actions with | .ok (s', a, p) => .ok (.inl s', a, p) | .error e => .error e)
    | .inr s2 => (match B2.predict s2 actions with | .ok (s', a, p) => .ok (.inr s', a, p) | .error e => .error e)
  learn := fun s a r p =>
    match s with
    | .inl s1 => (match B1.learn s1 a r p with | .ok s' => .ok (.inl s') | .error e => .error e)
    | .inr s2 => (match B2.learn s2 a r p with | .ok s' => .ok (.inr s') | .error e => .error e)

/-- learners nested to depth `n`: level 0 the plain learners, level n+1 plain learners or
(Misguided) Corrals over level-n learners -/
def tower (fl : Rat → Rat) : Nat → Base
  | 0 => leafBase fl
  | n + 1 => sumBase (leafBase fl) (corralOver fl (tower fl n))

/-! ### Phase 5: which feedback a nested composition accepts, as a decidable recursive predicate

`learn(action, reward, probability)` of a tower succeeds exactly when every Corral at or below gets
(after its Misguided wrappers) a reward in [0,1] and a non-zero probability.  Importance mode hands
base learner j `reward·1[A_j = action]/probability`, off-policy mode passes the reward through. -/

def allAcceptB {σ : Type} (acc : σ → Act → Rat → Rat → Bool) : List σ → List (Act × Rat × Rat) → Bool
  | s :: ss, (a, r, p) :: fs => acc s a r p && allAcceptB acc ss fs
  | _, _ => true

def acceptsB (fl : Rat → Rat) : (n : Nat) → (tower fl n).σ → Act → Rat → Rat → Bool
  | 0 => fun _ _ _ _ => true
  | n + 1 => fun (s : Leaf ⊕ CNode (tower fl n).σ) a r p =>
    match s with
    | .inl _ => true
    | .inr s =>
      let r' := misguide fl s.mis r
      decide (0 ≤ r') && decide (r' ≤ 1) && !decide (p = 0) &&
        allAcceptB (acceptsB fl n) s.bases (corralFeedback s.c.importance s.lastActs s.lastProbs a r' p)

/-! ### Phase 5: arithmetic expressions of the source as small programs (translator target)

`harness/props/c16.py` translates the update expressions of bandit.py / corral.py with Python's `ast`
into `Ex` terms (`Generated/C16Exprs.lean`); `Ex.evalF` is Python's float evaluation of such an
expression: every `+ - * /` is rounded (`fl`), int literals are exact, `addI` is `+` between ints. -/

inductive Ex
  | lit (n : Nat)
  | var (i : Nat)
  | add (a b : Ex) | sub (a b : Ex) | mul (a b : Ex) | div (a b : Ex)
  | addI (a b : Ex)
deriving Repr, DecidableEq

def Ex.evalF (fl : Rat → Rat) (env : List Rat) : Ex → Rat
  | .lit n => (n : Rat)
  | .var i => env.getD i 0
  | .add a b => fl (a.evalF fl env + b.evalF fl env)
  | .sub a b => fl (a.evalF fl env - b.evalF fl env)
  | .mul a b => fl (a.evalF fl env * b.evalF fl env)
  | .div a b => fl (a.evalF fl env / b.evalF fl env)
  | .addI a b => a.evalF fl env + b.evalF fl env

/-! ### action identity: `make_hashable` and Python `==` on the offered objects

The learner models above identify an action with a natural number.  This is the justification: the
key `make_hashable` computes depends on the CONTENTS of a dense / sparse action only, not on the
container flavour; Python's `==` between two offered objects does the same except for two pairs of
flavours (list vs tuple, and two OrderedDicts in different order), where `==` is `False` although
the keys coincide. -/

inductive Scalar
  | num (q : Rat)          -- int, float, bool: equal by value
  | str (s : String)
deriving DecidableEq, Repr

inductive DFlav | list | tuple | row      -- tuple also covers HashableDense (a tuple subclass); row = coba's Dense row objects
deriving DecidableEq, Repr

inductive SFlav | dict | odict | mapping  -- mapping = MappingProxyType, UserDict, coba's Sparse row objects, HashableSparse
deriving DecidableEq, Repr

inductive PyAct
  | scalar (s : Scalar)
  | dense (f : DFlav) (xs : List Scalar)
  | sparse (f : SFlav) (kv : List (Scalar × Scalar))     -- items in iteration order, keys distinct
deriving Repr

inductive Key
  | scalar (s : Scalar)
  | hdense (xs : List Scalar)                 -- HashableDense(tuple(items))
  | hsparse (kv : List (Scalar × Scalar))     -- HashableSparse: compared as frozenset(items)
deriving Repr

def makeHashable : PyAct → Key
  | .scalar s => .scalar s
  | .dense _ xs => .hdense xs
  | .sparse _ kv => .hsparse kv

def sameItems (a b : List (Scalar × Scalar)) : Bool := a.all (fun x => b.contains x) && b.all (fun x => a.contains x)

/-- `==` (and hash agreement) of two keys, i.e. whether `_Q/_N/_m/_s` treat them as one entry -/
def Key.same : Key → Key → Bool
  | .scalar a, .scalar b => a == b
  | .hdense a, .hdense b => a == b
  | .hsparse a, .hsparse b => sameItems a b
  | _, _ => false

/-- equality of the contents, blind to the container flavour -/
def contentsEq : PyAct → PyAct → Bool
  | .scalar a, .scalar b => a == b
  | .dense _ a, .dense _ b => a == b
  | .sparse _ a, .sparse _ b => sameItems a b
  | _, _ => false

/-- Python `a == b` on the offered objects -/
def pyEq : PyAct → PyAct → Bool
  | .scalar a, .scalar b => a == b
  | .dense f a, .dense g b =>
    if (f = .list ∧ g = .tuple) ∨ (f = .tuple ∧ g = .list) then false else a == b
  | .sparse f a, .sparse g b =>
    if f = .odict ∧ g = .odict then a == b else sameItems a b
  | _, _ => false

end Coba.C16
