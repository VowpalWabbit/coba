/-
C17 — Indexed table queries return exactly what a full scan would.

Executable model of `coba/results/core.py`: `MissingType`, `my_bisect_left/right`, `View`
(`_try_slice`, `ListView`, `SliceView`, view-of-view composition) and `Table`
(`insert`, `index`, `_calc_lohis`, `_sub_lohis`, `where`, `_compare`, `groupby`, `copy`),
written as the code is written (column-major, `_indexes`, lohis recomputed from the data), plus
the specification: a table is a list of rows; `where` is a row-by-row filter, `index` a stable
lexicographic sort, `groupby` the maximal runs of equal index prefix.

Import-free (core Lean only): this file is compiled into the driver executable.

The switches in `Cfg` select between the code as it is in the pinned tree (all `false`) and the
code with the proposed repairs `fixes/C17-*.diff` (all `true`); the harness finds out which
variant the tree under test implements and tells the driver.
-/

namespace Coba.C17

/-! ## Values and Python's comparisons -/

inductive Err
  | typeError | indexError | keyError | assertionError | other
  deriving DecidableEq, Repr, Inhabited

/-- which of the proposed repairs the modelled code contains -/
structure Cfg where
  /-- P8  `for v,_ in groupby(sorted(arg))`: equal probes of `in` are looked up once on the bisect path -/
  dedupIn : Bool := false
  /-- P9  `'!in'` is among the operator keys unpacked from `{op: value}` -/
  notinKey : Bool := false
  /-- P10 the operator taken from a dict argument is local to its keyword -/
  localOp : Bool := false
  /-- P12 `my_bisect_*` do not look at `c[l]` / `c[h-1]` of an empty segment -/
  guardEmpty : Bool := false
  /-- P14 `index` drops repeated column names -/
  dedupIdx : Bool := false
  /-- P11 `Missing <= x` is False and `x <= Missing` is True instead of raising (`MissingType.__le__/__ge__`) -/
  missingLe : Bool := false
  /-- P11 `Missing >= x` is True and `x >= Missing` is False instead of raising -/
  missingGe : Bool := false
  /-- `match` on an empty column returns no rows instead of looking at `col[0]` -/
  matchEmpty : Bool := false
  /-- `insert([{},{},…])` pads with as many rows as there are dicts (the pinned code pads one) -/
  dictLen : Bool := false
  /-- P13 `insert` into an indexed table looks at the new rows and sorts again if they are out of index
  order (drops the index if they cannot be ordered) -/
  resortInsert : Bool := false
  /-- a probe that cannot be ordered against an indexed column: the `TypeError` of the bisection is
  caught and the keyword answered by the scan -/
  bisectFallback : Bool := false
  /-- `!in` marks the ends of the sorted probes with a private object instead of `None` -/
  notinSentinel : Bool := false
  /-- `match` is decided cell by cell (`matchCell`) instead of from the first cell of the column -/
  matchPerCell : Bool := false
  deriving Repr, DecidableEq

def Cfg.unfixed : Cfg := {}
/-- the tree after the first eight repairs (coba 5728f9e) -/
def Cfg.committed : Cfg :=
  { dedupIn := true, notinKey := true, localOp := true, guardEmpty := true, dedupIdx := true,
    missingLe := true, missingGe := true, matchEmpty := true, dictLen := true }
/-- the tree with every repair of `fixes/C17-*.diff` -/
def Cfg.fixed : Cfg :=
  { dedupIn := true, notinKey := true, localOp := true, guardEmpty := true, dedupIdx := true,
    missingLe := true, missingGe := true, matchEmpty := true, dictLen := true,
    resortInsert := true, bisectFallback := true, notinSentinel := true, matchPerCell := true }

/-- a table cell; strings are lists of code points -/
inductive Cell
  | none | missing | int (i : Int) | flt (q : Rat) | str (s : List Nat)
  deriving DecidableEq, Repr, Inhabited

/-- what comparisons see of a cell: `1 == 1.0`, so ints and floats share the numeric key -/
inductive Key
  | num (q : Rat) | str (s : List Nat) | none | missing
  deriving DecidableEq, Repr

def Cell.key : Cell → Key
  | .none => .none
  | .missing => .missing
  | .int i => .num (i : Rat)
  | .flt q => .num q
  | .str s => .str s

/-- lexicographic `<` on code-point lists (Python `str.__lt__`) -/
def strLt : List Nat → List Nat → Bool
  | _, [] => false
  | [], _ :: _ => true
  | a :: as, b :: bs => if a < b then true else if a = b then strLt as bs else false

def Key.rank : Key → Nat
  | .num _ => 0 | .str _ => 1 | .none => 2 | .missing => 3

/-- a total strict order on keys that agrees with Python's `<` wherever Python does not raise
(numbers < strings < None < Missing is only used where Python raises or for `Missing`) -/
def Key.lt : Key → Key → Bool
  | .num a, .num b => decide (a < b)
  | .str a, .str b => strLt a b
  | a, b => decide (a.rank < b.rank)

/-- `a < b` does not raise: same kind, or `Missing` on either side -/
def Key.comparable : Key → Key → Bool
  | .missing, _ => true
  | _, .missing => true
  | .num _, .num _ => true
  | .str _, .str _ => true
  | _, _ => false

/-- Python `a < b` with `MissingType.__lt__ = False`, reflected `__gt__ = True` -/
def pyLt (a b : Cell) : Except Err Bool :=
  if a.key.comparable b.key then .ok (a.key.lt b.key) else .error .typeError

/-- Python `a > b` (`Missing > x` is True even for `x = Missing`) -/
def pyGt (a b : Cell) : Except Err Bool :=
  if a.key = .missing then .ok true
  else if b.key = .missing then .ok false
  else if a.key.comparable b.key then .ok (b.key.lt a.key) else .error .typeError

/-- Python `a <= b`; `MissingType` has no `__le__`/`__ge__` in the pinned tree -/
def pyLe (cfg : Cfg) (a b : Cell) : Except Err Bool :=
  if a.key = .missing then (if cfg.missingLe then .ok false else .error .typeError)
  else if b.key = .missing then (if cfg.missingLe then .ok true else .error .typeError)
  else if a.key.comparable b.key then .ok (!(b.key.lt a.key)) else .error .typeError

def pyGe (cfg : Cfg) (a b : Cell) : Except Err Bool :=
  if a.key = .missing then (if cfg.missingGe then .ok true else .error .typeError)
  else if b.key = .missing then (if cfg.missingGe then .ok false else .error .typeError)
  else if a.key.comparable b.key then .ok (!(a.key.lt b.key)) else .error .typeError

/-- Python `a == b` (never raises): numeric equality across int/float, `Missing == None` -/
def pyEq (a b : Cell) : Bool :=
  match a.key, b.key with
  | .num x, .num y => decide (x = y)
  | .str s, .str t => decide (s = t)
  | .none, .none => true
  | .none, .missing => true
  | .missing, .none => true
  | .missing, .missing => true
  | _, _ => false

def pyIn (c : Cell) (vs : List Cell) : Bool := vs.any (pyEq c)

/-- the cell at `i` (only used below `xs.length`) -/
def cellAt (xs : List Cell) (i : Nat) : Cell := xs.getD i .missing

/-! ## sorted() -/

/-- two values of a list handed to `sorted` can be told apart only by comparing them or by
comparing each with something else; `Missing` compares with everything, so `sorted` raises
exactly when two non-`Missing` members are incomparable (checked against CPython by the harness) -/
def allComparable : List Cell → Bool
  | [] => true
  | x :: xs => xs.all (fun y => x.key.comparable y.key) && allComparable xs

/-- insert `x` (which came first) in front of the first element that is not smaller -/
def insertBy {α} (lt : α → α → Bool) (x : α) : List α → List α
  | [] => [x]
  | y :: ys => if lt y x then y :: insertBy lt x ys else x :: y :: ys

/-- stable insertion sort: the unique stable arrangement for a strict weak order -/
def sortBy {α} (lt : α → α → Bool) : List α → List α
  | [] => []
  | x :: xs => insertBy lt x (sortBy lt xs)

/-- `sorted(xs, key=k)` for row numbers `xs` -/
def pySortedBy (k : Nat → Cell) (xs : List Nat) : Except Err (List Nat) :=
  if allComparable (xs.map k) then .ok (sortBy (fun i j => (k i).key.lt (k j).key) xs)
  else .error .typeError

/-- `sorted(vs)` for probe values -/
def pySorted (vs : List Cell) : Except Err (List Cell) :=
  if allComparable vs then .ok (sortBy (fun a b => a.key.lt b.key) vs) else .error .typeError

/-- `sorted(set(xs))` on row numbers -/
def insertNat (x : Nat) : List Nat → List Nat
  | [] => [x]
  | y :: ys => if x < y then x :: y :: ys else if x = y then y :: ys else y :: insertNat x ys

def sortDedupNat : List Nat → List Nat
  | [] => []
  | x :: xs => insertNat x (sortDedupNat xs)

/-- keys of `itertools.groupby(vs)`: the first of every run of `==` values -/
def dedupAdjAux (k : Cell) : List Cell → List Cell
  | [] => []
  | y :: ys => if pyEq k y then dedupAdjAux k ys else y :: dedupAdjAux y ys

def dedupAdj : List Cell → List Cell
  | [] => []
  | x :: xs => x :: dedupAdjAux x xs

def dedupNat : List Nat → List Nat
  | [] => []
  | x :: xs => x :: (dedupNat xs).filter (fun y => !(x == y))

/-! ## Views -/

/-- `View._select`: absent (the table owns its columns), a slice, or a list of row numbers -/
inductive Sel
  | all | slice (start stop : Nat) | list (ix : List Nat)
  deriving DecidableEq, Repr

def optGet {α} (o : Option α) : Except Err α :=
  match o with
  | some a => .ok a
  | Option.none => .error .indexError

/-- a column as `where`/`_sub_lohis` see it: a list, a `SliceView` or a `ListView` -/
structure Seq where
  base : List Cell
  sel : Sel
  deriving Repr

def Seq.len (s : Seq) : Nat :=
  match s.sel with
  | .all => s.base.length
  | .slice a b => b - a
  | .list ix => ix.length

/-- `s[i]` for `i ≥ 0` -/
def Seq.get (s : Seq) (i : Nat) : Except Err Cell :=
  match s.sel with
  | .all => optGet s.base[i]?
  | .slice a _ => optGet s.base[a + i]?
  | .list ix => do let j ← optGet ix[i]?; optGet s.base[j]?

/-- `s[-1]` -/
def Seq.getLast (s : Seq) : Except Err Cell :=
  match s.sel with
  | .all => optGet s.base.getLast?
  | .slice a _ => if a = 0 then optGet s.base.getLast? else optGet s.base[a - 1]?
  | .list ix => do let j ← optGet ix.getLast?; optGet s.base[j]?

/-- `list(s)` / `s[0:len(s)]` -/
def Seq.toList (s : Seq) : Except Err (List Cell) :=
  match s.sel with
  | .all => .ok s.base
  | .slice a b => .ok ((s.base.drop a).take (b - a))
  | .list ix => ix.mapM (fun j => optGet s.base[j]?)

/-- `View._try_slice` -/
def trySlice (sel : List Nat) : Sel :=
  match sel, sel.getLast? with
  | a :: _, some l => if (l : Int) - (a : Int) + 1 = (sel.length : Int) then .slice a (l + 1) else .list sel
  | _, _ => .list sel

/-- `View(data, select)._select` for a list `select`, `data` a dict (`.all`) or a `View` -/
def composeSel (old : Sel) (select : List Nat) : Except Err Sel :=
  match old with
  | .all => .ok (trySlice select)
  | .slice a _ => .ok (trySlice (select.map (a + ·)))
  | .list ix => do let l ← select.mapM (fun i => optGet ix[i]?); .ok (trySlice l)

/-! ## bisect -/

/-- the loop shared by `bisect_left` (`p mid = a[mid] < x`) and `bisect_right`
(`p mid = not (x < a[mid])`): `while lo < hi: mid=(lo+hi)//2; if p(mid): lo=mid+1 else: hi=mid` -/
def bisectLoop (p : Nat → Except Err Bool) : Nat → Nat → Nat → Except Err Nat
  | 0, lo, _ => .ok lo
  | fuel + 1, lo, hi =>
    if lo < hi then
      match p ((lo + hi) / 2) with
      | .error e => .error e
      | .ok true => bisectLoop p fuel ((lo + hi) / 2 + 1) hi
      | .ok false => bisectLoop p fuel lo ((lo + hi) / 2)
    else .ok lo

def bisectLeft (get : Nat → Except Err Cell) (x : Cell) (lo hi : Nat) : Except Err Nat :=
  bisectLoop (fun m => do let c ← get m; pyLt c x) (hi - lo) lo hi

def bisectRight (get : Nat → Except Err Cell) (x : Cell) (lo hi : Nat) : Except Err Nat :=
  bisectLoop (fun m => do let c ← get m; let b ← pyLt x c; pure (!b)) (hi - lo) lo hi

/-- `my_bisect_left(c,a,l,h) = l if c[l]==a else bisect_left(c,a,l,h)` -/
def myBisectLeft (cfg : Cfg) (s : Seq) (x : Cell) (lo hi : Nat) : Except Err Nat :=
  if cfg.guardEmpty && decide (hi ≤ lo) then bisectLeft s.get x lo hi
  else do
    let c ← s.get lo
    if pyEq c x then pure lo else bisectLeft s.get x lo hi

/-- `my_bisect_right(c,a,l,h) = h if c[h-1]==a else bisect_right(c,a,l,h)` -/
def myBisectRight (cfg : Cfg) (s : Seq) (x : Cell) (lo hi : Nat) : Except Err Nat :=
  if cfg.guardEmpty && decide (hi ≤ lo) then bisectRight s.get x lo hi
  else do
    let c ← if hi = 0 then s.getLast else s.get (hi - 1)
    if pyEq c x then pure hi else bisectRight s.get x lo hi

/-! ## Tables -/

structure Table where
  /-- `_columns` -/
  columns : List Nat
  /-- the dict of column lists owned by the table (or by the table this one is a view of) -/
  data : List (Nat × List Cell)
  /-- `.all`: `_data` is that dict; otherwise `_data` is a `View` of it -/
  sel : Sel
  /-- `_indexes` -/
  indexes : List Nat
  deriving Repr

def lookupCol (data : List (Nat × List Cell)) (c : Nat) : Except Err (List Cell) :=
  match data.find? (fun p => p.1 == c) with
  | some p => .ok p.2
  | Option.none => .error .keyError

/-- `self._data[c]` -/
def Table.col (t : Table) (c : Nat) : Except Err Seq := do
  let b ← lookupCol t.data c
  pure { base := b, sel := t.sel }

/-- `len(self)`: length of the first column of `_data` -/
def Table.len (t : Table) : Except Err Nat :=
  match t.data with
  | [] => if t.sel = .all then .ok 0 else .error .other
  | (_, b) :: _ => .ok (Seq.len { base := b, sel := t.sel })

def minLen : List (List Cell) → Nat
  | [] => 0
  | [c] => c.length
  | c :: cs => min c.length (minLen cs)

/-- `list(self)`: `zip(*[self._data[c] for c in self._columns])` -/
def Table.rows (t : Table) : Except Err (List (List Cell)) := do
  let cols ← t.columns.mapM (fun c => do let s ← t.col c; s.toList)
  let n := minLen cols
  pure ((List.range n).map (fun i => cols.map (fun c => c.getD i .missing)))

/-- `_sub_lohis`: split `[lo,hi)` into the runs found by `my_bisect_right` -/
def subLohis (cfg : Cfg) (s : Seq) : Nat → Nat → Nat → Except Err (List (Nat × Nat))
  | 0, _, _ => .ok []
  | fuel + 1, lo, hi =>
    if lo = hi then .ok []
    else do
      let x ← s.get lo
      let nh ← myBisectRight cfg s x lo hi
      let rest ← subLohis cfg s fuel nh hi
      pure ((lo, nh) :: rest)

def subLohisAll (cfg : Cfg) (s : Seq) : List (Nat × Nat) → Except Err (List (Nat × Nat))
  | [] => .ok []
  | (lo, hi) :: rest => do
    let a ← subLohis cfg s (hi - lo) lo hi
    let b ← subLohisAll cfg s rest
    pure (a ++ b)

/-- the list of lohis built by `_calc_lohis`, one entry per index column, given the first -/
def calcLohisAux (cfg : Cfg) (t : Table) : List Nat → List (Nat × Nat) → Except Err (List (List (Nat × Nat)))
  | [], _ => .ok []
  | [_], cur => .ok [cur]
  | k :: k2 :: rest, cur =>
    match t.col k with
    | .error e => .error e
    | .ok s =>
      match subLohisAll cfg s cur with
      | .error e => .error e
      | .ok nxt =>
        match calcLohisAux cfg t (k2 :: rest) nxt with
        | .error e => .error e
        | .ok more => .ok (cur :: more)

/-- `_calc_lohis`: `dict(zip(self._indexes, lohis))` as an association list -/
def Table.calcLohis (cfg : Cfg) (t : Table) : Except Err (List (Nat × List (Nat × Nat))) :=
  match t.indexes with
  | [] => .ok []
  | idx => do
    let n ← t.len
    let l ← calcLohisAux cfg t idx [(0, n)]
    pure (idx.zip l)

/-- `d[k]` of `dict(pairs)`: the last pair with that key -/
def dictGet {β} (d : List (Nat × β)) (k : Nat) : Except Err β :=
  match (d.reverse).find? (fun p => p.1 == k) with
  | some p => .ok p.2
  | Option.none => .error .keyError

/-! ### insert -/

inductive InsertData
  /-- sequence of rows (cells in `_columns` order) -/
  | rows (rs : List (List Cell))
  /-- sequence of dicts (ordered `(column, cell)` pairs) -/
  | dicts (ds : List (List (Nat × Cell)))
  /-- mapping column → list of cells -/
  | cols (cs : List (Nat × List Cell))
  deriving Repr

def insertNatSorted (x : Nat) : List Nat → List Nat
  | [] => [x]
  | y :: ys => if x < y then x :: y :: ys else y :: insertNatSorted x ys

def sortNat : List Nat → List Nat
  | [] => []
  | x :: xs => insertNatSorted x (sortNat xs)

def assocGet (d : List (Nat × Cell)) (k : Nat) : Cell :=
  match d.find? (fun p => p.1 == k) with
  | some p => p.2
  | Option.none => .missing

/-- `tuple(sorted(new_cols))`: the names of the mapping that are not columns yet, once each, sorted -/
def newColsOf (columns keys : List Nat) : List Nat :=
  sortNat ((dedupNat keys).filter (fun c => !(columns.contains c)))

/-- `dat_len`: given for dict rows (see `Table.insert`), else the length of the first value list -/
def padLenOf (padLen : Option Nat) (cs : List (Nat × List Cell)) : Nat :=
  match padLen, cs with
  | some n, _ => n
  | Option.none, [] => 1
  | Option.none, (_, v) :: _ => v.length

/-- `data[hdr]` (nothing if the mapping has no such key) -/
def mapValD (cs : List (Nat × List Cell)) (c : Nat) : List Cell :=
  match cs.find? (fun q => q.1 == c) with
  | some q => q.2
  | Option.none => []

/-- `for hdr in old_cols: extend(data[hdr])`, `for hdr in pad_cols: extend(repeat(Missing, dat_len))` -/
def extendOld (columns : List Nat) (cs : List (Nat × List Cell)) (datLen : Nat) (p : Nat × List Cell) : Nat × List Cell :=
  if columns.contains p.1 then
    match cs.find? (fun q => q.1 == p.1) with
    | some q => (p.1, p.2 ++ q.2)
    | Option.none => (p.1, p.2 ++ List.replicate datLen Cell.missing)
  else p

/-- insertion of a mapping of columns (the branch both dict shapes end in) -/
def insertCols (t : Table) (cs : List (Nat × List Cell)) (padLen : Option Nat) : Except Err Table :=
  let newCols := newColsOf t.columns (cs.map (·.1))
  -- if new_cols: old_len = len(self)
  match (if newCols.isEmpty then .ok 0 else t.len) with
  | .error e => .error e
  | .ok oldLen =>
    let data1 := t.data.map (extendOld t.columns cs (padLenOf padLen cs))
    -- self._data[hdr] = list(chain(repeat(Missing, old_len), data[hdr])) for the new columns
    let fresh := newCols.map (fun k => (k, List.replicate oldLen Cell.missing ++ mapValD cs k))
    -- (a new column name that is already a key of `_data` would be replaced)
    .ok { t with data := data1.filter (fun p => !(newCols.contains p.1)) ++ fresh, columns := t.columns ++ newCols }

/-- the mapping a sequence of dict rows is turned into -/
def dictsToCols (ds : List (List (Nat × Cell))) : List (Nat × List Cell) :=
  (dedupNat (ds.flatMap (fun d => d.map (·.1)))).map (fun k => (k, ds.map (fun d => assocGet d k)))

/-- `Table.insert` (only on tables that own their data) -/
def Table.insertRaw (cfg : Cfg) (t : Table) (d : InsertData) : Except Err Table :=
  match d with
  | .rows [] => .ok t
  | .dicts [] => .ok t
  | .cols [] => .ok t
  | .dicts ds =>
    insertCols t (dictsToCols ds)
      (if cfg.dictLen then some ds.length else if (dictsToCols ds).isEmpty then some 1 else Option.none)
  | .cols cs => insertCols t cs Option.none
  | .rows (r :: rs) =>
    if r.length ≠ t.columns.length then .error .assertionError
    else if (rs.all (fun r' => r'.length == t.columns.length)) = false then .error .other
    else
      let cols := t.columns.zipIdx
      .ok { t with data := t.data.map (fun (p : Nat × List Cell) =>
        match cols.find? (fun c => c.1 == p.1) with
        | some c => (p.1, p.2 ++ (r :: rs).map (fun row => row.getD c.2 .missing))
        | Option.none => p) }

def InsertData.isEmpty : InsertData → Bool
  | .rows rs => rs.isEmpty
  | .dicts ds => ds.isEmpty
  | .cols cs => cs.isEmpty

/-- outcome of comparing two rows / a run of rows on the index columns with `<` only -/
inductive Ord3
  | le | gt | cannot
  deriving DecidableEq, Repr

/-- the inner loop of `_in_index_order` for rows `i` (earlier) and `j`:
`if col[i] < col[j]: break` / `if col[j] < col[i]: return False` / `except TypeError: return None` -/
def rowOrd : List (List Cell) → Nat → Nat → Ord3
  | [], _, _ => .le
  | c :: rest, i, j =>
    match pyLt (cellAt c i) (cellAt c j) with
    | .error _ => .cannot
    | .ok true => .le
    | .ok false =>
      match pyLt (cellAt c j) (cellAt c i) with
      | .error _ => .cannot
      | .ok true => .gt
      | .ok false => rowOrd rest i j

/-- `for i in range(start+1, len(self))`: `k` rows still to look at, the next one is `i` -/
def tailOrd (cols : List (List Cell)) : Nat → Nat → Ord3
  | 0, _ => .le
  | k + 1, i =>
    match rowOrd cols (i - 1) i with
    | .le => tailOrd cols k (i + 1)
    | o => o

def allIn (lo hi : Nat) (p : Nat → Bool) : Bool := (List.range' lo (hi - lo)).all p

/-- `c and c[0] is not None and c[0] is not Missing and c.count(c[0]) == len(c)` for `c = col[lo:hi]`
(`==`: `MissingType.__eq__(None)` is True and `Missing > x` is True for every `x`, which is why the
shortcut is not taken when `None` / `Missing` lead) -/
def constFrom (c : List Cell) (lo hi : Nat) : Bool :=
  decide (lo < hi) && (cellAt c lo).key != Key.none && (cellAt c lo).key != Key.missing &&
  allIn lo hi (fun x => pyEq (cellAt c lo) (cellAt c x))

/-- `all(map(is_, last, sorted(last)))` for `last = col[lo:hi]`: `sorted` is stable, so it returns the
very same objects in the very same places exactly when no later cell is smaller than an earlier one;
it raises when two cells cannot be ordered -/
def sortedFrom (c : List Cell) (lo hi : Nat) : Ord3 :=
  match pySortedBy (cellAt c) (List.range' lo (hi - lo)) with
  | .error _ => .cannot
  | .ok p => if p = List.range' lo (hi - lo) then .le else .gt

/-- `_in_index_order(n_old)` on the index columns `cols` of a table of `n` rows: the boundary pair
(last old row, first new row) with `<` only; then, when the new rows agree on all but the last index
column, one `sorted` of the last column; otherwise the row-by-row `<` loop over the new rows -/
def inIndexOrderOf (cols : List (List Cell)) (nOld n : Nat) : Ord3 :=
  match (if 0 < nOld && nOld < n then rowOrd cols (nOld - 1) nOld else Ord3.le) with
  | .gt => .gt
  | .cannot => .cannot
  | .le =>
    match cols.getLast? with
    | Option.none => .le
    | some last =>
      if cols.dropLast.all (fun c => constFrom c nOld n) then sortedFrom last nOld n
      else tailOrd cols (n - (nOld + 1)) (nOld + 1)

/-- `_in_index_order(n_old)` -/
def Table.inIndexOrder (t : Table) (nOld : Nat) : Ord3 :=
  inIndexOrderOf (t.indexes.map (fun c => match lookupCol t.data c with | .ok b => b | .error _ => []))
    nOld (match t.len with | .ok n => n | .error _ => 0)

/-! ### index -/

/-- `indexes[lo:hi] = sorted(indexes[lo:hi], key=col.__getitem__)` for every `(lo,hi)` -/
def sortSegments (k : Nat → Cell) : List (Nat × Nat) → List Nat → Except Err (List Nat)
  | [], perm => .ok perm
  | (lo, hi) :: rest, perm => do
    let seg ← pySortedBy k ((perm.drop lo).take (hi - lo))
    sortSegments k rest (perm.take lo ++ seg ++ perm.drop hi)

def setCol (data : List (Nat × List Cell)) (c : Nat) (v : List Cell) : List (Nat × List Cell) :=
  data.map (fun p => if p.1 == c then (p.1, v) else p)

/-- the loop `for col in indx:` of `Table.index`; `last` is `indx[-1]` -/
def indexLoop (cfg : Cfg) (last : Nat) :
    List Nat → List (Nat × List Cell) → List (Nat × Nat) → List Nat → Except Err (List (Nat × List Cell) × List Nat)
  | [], data, _, perm => .ok (data, perm)
  | col :: rest, data, lohis, perm =>
    match lookupCol data col with
    | .error e => .error e
    | .ok c =>
      -- indexes[lo:hi] = sorted(indexes[lo:hi], key=self._data[col].__getitem__) for every (lo,hi)
      match sortSegments (cellAt c) lohis perm with
      | .error e => .error e
      | .ok perm' =>
        -- self._data[col][:] = map(self._data[col].__getitem__, indexes)
        let c' := perm'.map (cellAt c)
        -- if col != indx[-1]: lohis = the runs of the column inside the old lohis
        match (if col ≠ last then subLohisAll cfg { base := c', sel := .all } lohis else .ok lohis) with
        | .error e => .error e
        | .ok lohis' => indexLoop cfg last rest (setCol data col c') lohis' perm'

/-- the index columns `Table.index(*indx)` works with: the names that are columns, repeated names
dropped only with the repair (P14) -/
def effIndex (cfg : Cfg) (t : Table) (indx : List Nat) : List Nat :=
  let indx1 := indx.filter (fun c => t.columns.contains c)
  if cfg.dedupIdx then dedupNat indx1 else indx1

/-- `for col in self._data.keys()-set(indx): self._data[col][:] = map(self._data[col].__getitem__,indexes)` -/
def permuteOthers (indx2 : List Nat) (perm : List Nat) (data : List (Nat × List Cell)) : List (Nat × List Cell) :=
  data.map (fun (p : Nat × List Cell) => if indx2.contains p.1 then p else (p.1, perm.map (cellAt p.2)))

/-- the `for col in indx` loop started on the whole table (nothing to do when no name is a column) -/
def indexRun (cfg : Cfg) (indx2 : List Nat) (data : List (Nat × List Cell)) (n : Nat) :
    Except Err (List (Nat × List Cell) × List Nat) :=
  match indx2.getLast? with
  | some last => indexLoop cfg last indx2 data [(0, n)] (List.range n)
  | Option.none => .ok (data, List.range n)

/-- `Table.index(*indx)` (only on tables that own their data) -/
def Table.index (cfg : Cfg) (t : Table) (indx : List Nat) : Except Err Table :=
  if indx.isEmpty then .ok t
  else if t.data.isEmpty then .ok t
  else if t.indexes = effIndex cfg t indx then .ok t
  else
    match t.len with
    | .error e => .error e
    | .ok n =>
      match indexRun cfg (effIndex cfg t indx) t.data n with
      | .error e => .error e
      | .ok (data, perm) =>
        .ok { t with data := permuteOthers (effIndex cfg t indx) perm data, indexes := effIndex cfg t indx }

/-- `Table.insert`: the rows are appended (`insertRaw`); with the repair an indexed table then asks
`_in_index_order(n_old)` about the new rows: still in index order → nothing to do; out of order →
sort again (`index`), and if that raises `TypeError` restore the lists and drop the index; not
comparable → drop the index -/
def Table.insert (cfg : Cfg) (t : Table) (d : InsertData) : Except Err Table :=
  match t.insertRaw cfg d with
  | .error e => .error e
  | .ok t' =>
    if cfg.resortInsert && !d.isEmpty && !t'.indexes.isEmpty then
      match t'.inIndexOrder (match t.len with | .ok n => n | .error _ => 0) with
      | .le => .ok t'
      | .cannot => .ok { t' with indexes := [] }
      | .gt =>
        match Table.index cfg { t' with indexes := [] } t'.indexes with
        | .ok t'' => .ok t''
        | .error .typeError => .ok { t' with indexes := [] }
        | .error e => .error e
    else .ok t'

/-! ### where -/

inductive Op
  | eq | ne | lt | le | gt | ge | isin | notin | mtch
  deriving DecidableEq, Repr

/-- callables given for a column: a small closed language of total predicates on a cell -/
inductive CellPred
  | eqv (v : Cell) | inl (vs : List Cell) | isMissing | isNone | const (b : Bool) | notp (p : CellPred)
  deriving Repr

def CellPred.eval : CellPred → Cell → Bool
  | .eqv v, c => pyEq c v
  | .inl vs, c => pyIn c vs
  | .isMissing, c => decide (c = .missing)
  | .isNone, c => decide (c = .none)
  | .const b, _ => b
  | .notp p, c => !(p.eval c)

/-- row predicates: a cell predicate on the k-th cell of the row, and combinations -/
inductive RowPred
  | cell (k : Nat) (p : CellPred) | or (a b : RowPred) | and (a b : RowPred)
  deriving Repr

def RowPred.eval : RowPred → List Cell → Bool
  | .cell k p, r => p.eval (r.getD k .missing)
  | .or a b, r => a.eval r || b.eval r
  | .and a b, r => a.eval r && b.eval r

/-- the value part of an argument -/
inductive ArgV
  | scalar (v : Cell) | coll (vs : List Cell)
  deriving Repr

/-- a keyword argument of `where` -/
inductive Arg
  | val (a : ArgV) | dict (op : Op) (a : ArgV) | fn (p : CellPred)
  deriving Repr

/-- `str(c)` for the else-branch of `match` -/
def natDigits : Nat → Nat → List Nat
  | 0, _ => [48]
  | fuel + 1, n => if n < 10 then [48 + n] else natDigits fuel (n / 10) ++ [48 + n % 10]

def natStr (n : Nat) : List Nat := natDigits n n

def intStr (i : Int) : List Nat := if i < 0 then 45 :: natStr i.natAbs else natStr i.natAbs

/-- decimal expansion of the fractional part `num/den` (< 1) for dyadic `den`; what `repr(float)`
prints for the floats the harness generates (few binary digits) -/
def fracDigits : Nat → Nat → Nat → List Nat
  | 0, _, _ => []
  | fuel + 1, num, den => if num = 0 then [] else (48 + (num * 10) / den) :: fracDigits fuel ((num * 10) % den) den

def fltStr (q : Rat) : List Nat :=
  let a := q.num.natAbs
  let ip := a / q.den
  let fr := fracDigits 40 (a % q.den) q.den
  (if q.num < 0 then [45] else []) ++ natStr ip ++ [46] ++ (if fr.isEmpty then [48] else fr)

def cellStr : Cell → List Nat
  | .none => [78, 111, 110, 101]
  | .missing => [78, 111, 110, 101]
  | .int i => intStr i
  | .flt q => fltStr q
  | .str s => s

def isPrefix : List Nat → List Nat → Bool
  | [], _ => true
  | _ :: _, [] => false
  | a :: as, b :: bs => a == b && isPrefix as bs

/-- `re.search(lit, s)` for a pattern without metacharacters -/
def litSearch (lit : List Nat) : List Nat → Bool
  | [] => lit.isEmpty
  | c :: cs => isPrefix lit (c :: cs) || litSearch lit cs

def isDigit (c : Nat) : Bool := 48 ≤ c && c ≤ 57

/-- the formatted number as a pattern: `f'{arg}'` is not escaped, so the `.` of a float (`1.0`) stands
for any character (no cell of the property holds a newline) -/
def patPrefix : List Nat → List Nat → Bool
  | [], _ => true
  | _ :: _, [] => false
  | a :: as, b :: bs => (a == 46 || a == b) && patPrefix as bs

/-- `re.search('(\D|^)' + lit + '(\D|$)', s)`; `prevOk` says the position is the start of the
string or follows a non-digit.  The pattern is made from the probe of *this* call. -/
def numSearch (lit : List Nat) : Bool → List Nat → Bool
  | prevOk, [] => prevOk && lit.isEmpty
  | prevOk, c :: cs =>
    (prevOk && patPrefix lit (c :: cs) &&
      (match (c :: cs).drop lit.length with | [] => true | d :: _ => !(isDigit d)))
    || numSearch lit (!(isDigit c)) cs

def isNumber : Cell → Bool
  | .int _ => true | .flt _ => true | _ => false

def isStr : Cell → Bool
  | .str _ => true | _ => false

/-- `[i for i,c in enumerate(col, lo) if test(c)]` for a test that may raise -/
def scanFilter (lo : Nat) (col : List Cell) (test : Cell → Except Err Bool) : Except Err (List Nat) :=
  match col with
  | [] => .ok []
  | c :: cs =>
    match test c with
    | .error e => .error e
    | .ok b =>
      match scanFilter (lo + 1) cs test with
      | .error e => .error e
      | .ok rest => .ok (if b then lo :: rest else rest)

/-! ## `match`, cell by cell -/

/-- what `match` means for one cell, whatever else is in the column: a number matches a number
when equal, a string when it contains the number between non-digits; a pattern (literal, no
metacharacters) matches when `str(cell)` contains it; `None` / `Missing` never match -/
def matchCell (arg c : Cell) : Bool :=
  match c with
  | .str s => if isNumber arg then numSearch (cellStr arg) true s else litSearch (cellStr arg) s
  | .int i => if isNumber arg then pyEq (.int i) arg else litSearch (cellStr arg) (intStr i)
  | .flt q => if isNumber arg then pyEq (.flt q) arg else litSearch (cellStr arg) (fltStr q)
  | _ => false

/-- all cells strings, or all cells numbers (no `None`, no `Missing`) -/
def homogB (col : List Cell) : Bool := col.all isStr || col.all isNumber

/-- the regular-expression branches of `_compare` (always on the scan path) -/
def matchScan (cfg : Cfg) (lo : Nat) (col : List Cell) (arg : Cell) : Except Err (List Nat) :=
  let nonNone (f : Cell → Except Err Bool) : Cell → Except Err Bool :=
    fun c => if c = .none then .ok false else f c
  let needStr (f : List Nat → Bool) : Cell → Except Err Bool :=
    fun c => match c with | .str s => .ok (f s) | _ => .error .typeError
  if cfg.matchPerCell then scanFilter lo col (fun c => .ok (matchCell arg c)) else
  match col with
  | [] => if cfg.matchEmpty then .ok []
          else if isNumber arg then .error .indexError
          else if isStr arg then .error .indexError
          else scanFilter lo col (fun _ => .ok false)
  | c0 :: _ =>
    if isNumber arg && isNumber c0 then scanFilter lo col (fun c => .ok (pyEq c arg))
    else if isNumber arg && isStr c0 then scanFilter lo col (nonNone (needStr (numSearch (cellStr arg) true)))
    else if isStr arg && isStr c0 then scanFilter lo col (nonNone (needStr (litSearch (cellStr arg))))
    else scanFilter lo col (nonNone (fun c => .ok (litSearch (cellStr arg) (cellStr c))))

def rangeOf (p : Nat × Nat) : List Nat := List.range' p.1 (p.2 - p.1)

/-- pairs `(v0,v1)` of `zip(arg[0:],arg[1:])` for `arg = [None]+sorted(arg)+[None]`;
`none` is the sentinel, and a probe that *is* `None` is taken for it (`v0 is None`) -/
def notinPairs (cfg : Cfg) (sorted : List Cell) : List (Option Cell × Option Cell) :=
  let a : List (Option Cell) := [Option.none] ++
    sorted.map (fun c => if c = .none && !cfg.notinSentinel then Option.none else some c) ++ [Option.none]
  a.zip (a.drop 1)

/-- `_compare(lo,hi,col,arg,comparison,"bisect")`: ranges of row numbers -/
def compareBisect (cfg : Cfg) (s : Seq) (lo hi : Nat) (op : Op) (a : ArgV) : Except Err (List (Nat × Nat)) :=
  let bl := myBisectLeft cfg s
  let br := myBisectRight cfg s
  match op, a with
  | .isin, .coll vs => do
    let vs0 ← pySorted vs
    let vs' := if cfg.dedupIn then dedupAdj vs0 else vs0
    vs'.mapM (fun v => do let l ← bl v lo hi; let h ← br v lo hi; pure (l, h))
  | .notin, .coll vs => do
    let vs' ← pySorted vs
    (notinPairs cfg vs').mapM (fun (p : Option Cell × Option Cell) => do
      let l ← match p.1 with | Option.none => pure lo | some v0 => br v0 lo hi
      let h ← match p.2 with | Option.none => pure hi | some v1 => bl v1 lo hi
      pure (l, h))
  | .eq, .scalar v => do let l ← bl v lo hi; let h ← br v lo hi; pure [(l, h)]
  | .ne, .scalar v => do let l ← bl v lo hi; let h ← br v lo hi; pure [(lo, l), (h, hi)]
  | .lt, .scalar v => do let l ← bl v lo hi; pure [(lo, l)]
  | .le, .scalar v => do let h ← br v lo hi; pure [(lo, h)]
  | .ge, .scalar v => do let l ← bl v lo hi; pure [(l, hi)]
  | .gt, .scalar v => do let h ← br v lo hi; pure [(h, hi)]
  | _, _ => .error .other

/-- `_compare(0,len,col,arg,comparison,"foreach")`: row numbers -/
def compareScan (cfg : Cfg) (col : List Cell) (op : Op) (a : ArgV) : Except Err (List Nat) :=
  let nn (f : Cell → Except Err Bool) : Cell → Except Err Bool := fun c => if c = .none then .ok false else f c
  match op, a with
  | .isin, .coll vs => scanFilter 0 col (fun c => .ok (pyIn c vs))
  | .notin, .coll vs => scanFilter 0 col (fun c => .ok (!(pyIn c vs)))
  | .eq, .scalar v => scanFilter 0 col (fun c => .ok (pyEq c v))
  | .ne, .scalar v => scanFilter 0 col (fun c => .ok (!(pyEq c v)))
  | .lt, .scalar v => scanFilter 0 col (nn (fun c => pyLt c v))
  | .le, .scalar v => scanFilter 0 col (nn (fun c => pyLe cfg c v))
  | .ge, .scalar v => scanFilter 0 col (nn (fun c => pyGe cfg c v))
  | .gt, .scalar v => scanFilter 0 col (nn (fun c => pyGt c v))
  | .mtch, .scalar v => matchScan cfg 0 col v
  | _, _ => .error .other

/-- the operator `_compare` ends up using: an explicit one, else `=` for a scalar and `in` for a collection -/
def effOp (comparison : Option Op) (a : ArgV) : Op :=
  match comparison, a with
  | some op, _ => op
  | Option.none, .scalar _ => .eq
  | Option.none, .coll _ => .isin

/-- the string `'!in'` -/
def notinStr : Cell := .str [33, 105, 110]

/-- what `where` + `_compare` make of one keyword: `(comparison after the isinstance(arg,dict) line,
operator and value `_compare` works with)`; a callable is handled by the caller -/
def resolveArg (cfg : Cfg) (comparison : Option Op) (arg : Arg) : Option Op × Option (Op × ArgV) :=
  match arg with
  | .fn _ => (comparison, Option.none)
  | .val a => (comparison, some (effOp comparison a, a))
  | .dict op a =>
    if op = .notin && !cfg.notinKey then
      -- not unpacked: the dict itself is the collection, its only key is '!in'
      (some .notin, some (.notin, .coll [notinStr]))
    else (some op, some (op, a))

/-- the bisect path of one keyword: for every segment of the column's lohis the ranges `_compare` returns -/
def kwBisect (cfg : Cfg) (s : Seq) (lohis : List (Nat × List (Nat × Nat))) (kw : Nat) (op : Op) (a : ArgV) :
    Except Err (List Nat) :=
  match dictGet lohis kw with
  | .error e => .error e
  | .ok segs =>
    match segs.mapM (fun (p : Nat × Nat) => compareBisect cfg s p.1 p.2 op a) with
    | .error e => .error e
    | .ok rs => .ok ((rs.flatMap id).flatMap rangeOf)

/-- the scan path of one keyword: `_compare(0,len(self),col,…,"foreach")` -/
def kwScan (cfg : Cfg) (s : Seq) (n : Nat) (op : Op) (a : ArgV) : Except Err (List Nat) :=
  match s.toList with
  | .error e => .error e
  | .ok col => compareScan cfg (col.take n) op a

/-- the rows one keyword contributes: the body of `for kw,arg in kwargs.items()` given the value
`comparison` has when the keyword is reached -/
def kwHere (cfg : Cfg) (t : Table) (lohis : List (Nat × List (Nat × Nat))) (n : Nat)
    (comparison : Option Op) (kw : Nat) (arg : Arg) : Except Err (List Nat) :=
  match t.col kw with
  | .error e => .error e
  | .ok s =>
    match arg, (resolveArg cfg comparison arg).2 with
    | .fn p, _ => (match s.toList with | .error e => .error e | .ok col => scanFilter 0 col (fun c => .ok (p.eval c)))
    | _, some (op, a) =>
      if t.indexes.contains kw && op ≠ .mtch then
        match kwBisect cfg s lohis kw op a with
        | .error .typeError =>
          -- `except TypeError`: answer as without an index (only with the repair)
          if cfg.bisectFallback then kwScan cfg s n op a else .error .typeError
        | r => r
      else kwScan cfg s n op a
    | _, Option.none => .error .other

/-- the selection built by the `for kw,arg in kwargs.items()` loop; `comparison` is threaded
through the keywords as the code does (overwritten by a dict argument unless repaired) -/
def whereLoop (cfg : Cfg) (t : Table) (lohis : List (Nat × List (Nat × Nat))) (n : Nat) :
    Option Op → List (Nat × Arg) → Except Err (List Nat)
  | _, [] => .ok []
  | comparison, (kw, arg) :: rest =>
    match kwHere cfg t lohis n comparison kw arg with
    | .error e => .error e
    | .ok here =>
      match whereLoop cfg t lohis n (if cfg.localOp then comparison else (resolveArg cfg comparison arg).1) rest with
      | .error e => .error e
      | .ok more => .ok (here ++ more)

/-- `Table.where(row_pred, comparison, **kwargs)`; `none` for "returns self" is not modelled
(the harness always passes a predicate or a keyword) -/
def Table.pwhere (cfg : Cfg) (t : Table) (pred : Option RowPred) (comparison : Option Op)
    (kws : List (Nat × Arg)) : Except Err Table :=
  match pred with
  | some p => do
    let rows ← t.rows
    let selection := ((List.range rows.length).zip rows).filterMap (fun (q : Nat × List Cell) => if p.eval q.2 then some q.1 else Option.none)
    let sel ← composeSel t.sel selection
    pure { t with sel := sel }
  | Option.none => do
    let lohis ← t.calcLohis cfg
    let n ← t.len
    let selection ← whereLoop cfg t lohis n comparison kws
    let selection := if kws.length > 1 then sortDedupNat selection else selection
    let sel ← composeSel t.sel selection
    pure { t with sel := sel }

/-! ### groupby, copy -/

inductive Select
  | keys | count | one (c : Nat) | many (cs : List Nat)
  deriving Repr

inductive GroupOut
  | key (k : List Cell)
  | cnt (k : List Cell) (n : Nat)
  | one (k : List Cell) (v : List Cell)
  | many (k : List Cell) (vs : List (List Cell))
  deriving Repr, DecidableEq

/-- `col[l:h]` -/
def Seq.slice (s : Seq) (l h : Nat) : Except Err (List Cell) := do
  let xs ← s.toList
  pure ((xs.drop l).take (h - l))

/-- one `yield` of `groupby`: the index (cells of the group columns in the first row of the
segment) and what `select` asks for -/
def groupOne (select : Select) (grpCols selCols : List Seq) (p : Nat × Nat) : Except Err GroupOut :=
  match grpCols.mapM (fun s => s.get p.1) with
  | .error e => .error e
  | .ok k =>
    match select with
    | .keys => .ok (GroupOut.key k)
    | .count => .ok (GroupOut.cnt k (p.2 - p.1))
    | .one _ =>
      match selCols with
      | [s] => (match s.slice p.1 p.2 with | .ok v => .ok (GroupOut.one k v) | .error e => .error e)
      | _ => .error .other
    | .many _ =>
      match selCols.mapM (fun s => s.slice p.1 p.2) with
      | .ok vs => .ok (GroupOut.many k vs)
      | .error e => .error e

/-- the columns `select` names -/
def selectCols (t : Table) (select : Select) : Except Err (List Seq) :=
  match select with
  | .one c => (match t.col c with | .ok s => .ok [s] | .error e => .error e)
  | .many cs => cs.mapM t.col
  | _ => .ok []

def Table.groupby (cfg : Cfg) (t : Table) (level : Nat) (select : Select) : Except Err (List GroupOut) :=
  match t.calcLohis cfg with
  | .error e => .error e
  | .ok lohis =>
    match (t.indexes.take level).mapM t.col with
    | .error e => .error e
    | .ok grpCols =>
      match optGet t.indexes[level]? with
      | .error e => .error e
      | .ok ixcol =>
        match dictGet lohis ixcol with
        | .error e => .error e
        | .ok segs =>
          match selectCols t select with
          | .error e => .error e
          | .ok selCols => segs.mapM (groupOne select grpCols selCols)

def Table.copy (t : Table) : Table := t

/-! ## Operation sequences (what the driver runs) -/

inductive Init
  /-- `Table(columns=cs)` -/
  | columns (cs : List Nat)
  /-- `Table(data)` with a mapping of columns -/
  | coldict (d : List (Nat × List Cell))
  /-- `Table(data, columns=cs)` with a mapping whose keys are exactly `cs` -/
  | coldictCols (d : List (Nat × List Cell)) (cs : List Nat)
  deriving Repr

def Init.table : Init → Table
  | .columns cs => { columns := cs, data := cs.map (fun c => (c, [])), sel := .all, indexes := [] }
  | .coldict d => { columns := d.map (·.1), data := d, sel := .all, indexes := [] }
  | .coldictCols d cs => { columns := cs, data := d, sel := .all, indexes := [] }

inductive TOp
  | insert (t : Nat) (d : InsertData)
  | index (t : Nat) (cols : List Nat)
  | whr (t : Nat) (pred : Option RowPred) (comparison : Option Op) (kws : List (Nat × Arg))
  | groupby (t : Nat) (level : Nat) (select : Select)
  | copy (t : Nat)
  /-- `list(table)` of an existing table object (used right after another object sharing its
  storage was mutated) -/
  | peek (t : Nat)
  /-- an operation the harness does not perform (aliased or view target); creates a dead table
  if the operation would have created one -/
  | skip (creates : Bool)
  deriving Repr

inductive Obs
  | table (rows : List (List Cell)) (columns indexes : List Nat)
  | groups (gs : List GroupOut)
  | err (e : Err)
  | skipped
  deriving Repr, DecidableEq

def observe (t : Table) : Obs :=
  match t.rows with
  | .ok rs => .table rs t.columns t.indexes
  | .error e => .err e

def setAt {α} (l : List α) (i : Nat) (a : α) : List α := l.set i a

/-- every table object of a run was made from the first one by `where` (a `View` of the same dict
of column lists) or `copy` (the very same dict): a mutation through one object is a mutation of the
lists all of them show.  `share d ts` gives every object the mutated dict `d`; each keeps its own
`_columns`, `_indexes` and selection. -/
def share (d : List (Nat × List Cell)) (ts : List (Option Table)) : List (Option Table) :=
  ts.map (fun o => o.map (fun u => { u with data := d }))

/-- one step: the tables alive so far (`none`: dead after a failed mutation / not created) -/
def step (cfg : Cfg) (ts : List (Option Table)) (op : TOp) : List (Option Table) × Obs :=
  let target (i : Nat) : Option Table := (ts[i]?).bind id
  match op with
  | .skip creates => (if creates then ts ++ [Option.none] else ts, .skipped)
  | .peek i =>
    match target i with
    | Option.none => (ts, .skipped)
    | some t => (ts, observe t)
  | .insert i d =>
    match target i with
    | Option.none => (ts, .skipped)
    | some t => match t.insert cfg d with
      | .ok t' => (setAt (share t'.data ts) i (some t'), observe t')
      | .error e => (setAt ts i Option.none, .err e)
  | .index i cols =>
    match target i with
    | Option.none => (ts, .skipped)
    | some t => match t.index cfg cols with
      | .ok t' => (setAt (share t'.data ts) i (some t'), observe t')
      | .error e => (setAt ts i Option.none, .err e)
  | .whr i pred cmp kws =>
    match target i with
    | Option.none => (ts ++ [Option.none], .skipped)
    | some t => match t.pwhere cfg pred cmp kws with
      | .ok t' => (ts ++ [some t'], observe t')
      | .error e => (ts ++ [Option.none], .err e)
  | .groupby i level select =>
    match target i with
    | Option.none => (ts, .skipped)
    | some t => match t.groupby cfg level select with
      | .ok gs => (ts, .groups gs)
      | .error e => (ts, .err e)
  | .copy i =>
    match target i with
    | Option.none => (ts ++ [Option.none], .skipped)
    | some t => (ts ++ [some t.copy], observe t.copy)

def runOps (cfg : Cfg) : List (Option Table) → List TOp → List Obs
  | _, [] => []
  | ts, op :: rest => let r := step cfg ts op; r.2 :: runOps cfg r.1 rest

def run (cfg : Cfg) (init : Init) (ops : List TOp) : List Obs :=
  observe init.table :: runOps cfg [some init.table] ops

/-! ## Specification: a table is a list of rows -/

/-- the plain meaning of one condition on one cell. `none` = Python raises on this cell.
`Missing` is greater than everything (`MissingType.__gt__ = True`, `__lt__ = False`), `None`
cells never satisfy an order comparison (the documented `c is not None and …`). -/
def satOrd (op : Op) (c v : Cell) : Except Err Bool :=
  if c = .none then .ok false
  else match op with
    | .lt => pyLt c v
    | .le => pyLe Cfg.fixed c v
    | .gt => pyGt c v
    | .ge => pyGe Cfg.fixed c v
    | _ => .error .other

def sat (op : Op) (a : ArgV) (c : Cell) : Except Err Bool :=
  match op, a with
  | .eq, .scalar v => .ok (pyEq c v)
  | .ne, .scalar v => .ok (!(pyEq c v))
  | .isin, .coll vs => .ok (pyIn c vs)
  | .notin, .coll vs => .ok (!(pyIn c vs))
  | .lt, .scalar v => satOrd .lt c v
  | .le, .scalar v => satOrd .le c v
  | .gt, .scalar v => satOrd .gt c v
  | .ge, .scalar v => satOrd .ge c v
  | _, _ => .error .other

/-- what is asked of a cell: a comparison with a value, or a callable -/
inductive Test
  | cmp (op : Op) (a : ArgV) | fn (p : CellPred)
  deriving Repr

def Test.eval : Test → Cell → Except Err Bool
  | .cmp op a, c => sat op a c
  | .fn p, c => .ok (p.eval c)

/-- one keyword condition -/
structure Cond where
  col : Nat
  test : Test
  deriving Repr

/-- the condition a keyword stands for, as documented: its own operator if given as `{op: v}`,
else the positional one, else `=` for a value and `in` for a collection -/
def condOf (comparison : Option Op) (kw : Nat × Arg) : Cond :=
  match kw.2 with
  | .fn p => { col := kw.1, test := .fn p }
  | .dict op a => { col := kw.1, test := .cmp op a }
  | .val a => { col := kw.1, test := .cmp (effOp comparison a) a }

/-- a table as the specification sees it: column names and rows -/
structure RowTable where
  columns : List Nat
  rows : List (List Cell)
  deriving Repr

def cellOf (columns : List Nat) (row : List Cell) (c : Nat) : Except Err Cell :=
  match (columns.zip row).find? (fun p => p.1 == c) with
  | some p => .ok p.2
  | Option.none => .error .keyError

/-- does the row satisfy at least one of the conditions (every condition is evaluated) -/
def satRow (columns : List Nat) (row : List Cell) : List Cond → Except Err Bool
  | [] => .ok false
  | k :: ks =>
    match cellOf columns row k.col with
    | .error e => .error e
    | .ok c =>
      match k.test.eval c with
      | .error e => .error e
      | .ok b =>
        match satRow columns row ks with
        | .error e => .error e
        | .ok b' => .ok (b || b')

/-- the rows, in order and with multiplicity, that pass the (possibly raising) test -/
def filterRows (test : List Cell → Except Err Bool) : List (List Cell) → Except Err (List (List Cell))
  | [] => .ok []
  | r :: rs =>
    match test r with
    | .error e => .error e
    | .ok b =>
      match filterRows test rs with
      | .error e => .error e
      | .ok rest => .ok (if b then r :: rest else rest)

/-- `whereS`: the rows, in table order and with multiplicity, that satisfy one of the conditions
under a plain row-by-row evaluation -/
def whereS (t : RowTable) (conds : List Cond) : Except Err (List (List Cell)) :=
  filterRows (fun r => satRow t.columns r conds) t.rows


/-! ## Well-formedness of a `where` call (the hypotheses of `where_eq_spec_partial`, as a decidable check)

Each conjunct is forced: without it the code of the pinned tree (or any tree) answers differently
from the plain evaluation; see the `_counterexample` theorems in `Props/C17.lean`. -/


/-- operator and argument fit: a value for the six comparisons, a collection for `in` / `!in` -/
def argShape : Op → ArgV → Bool
  | .isin, .coll _ => true
  | .notin, .coll _ => true
  | .isin, .scalar _ => false
  | .notin, .scalar _ => false
  | .mtch, _ => false
  | _, .scalar _ => true
  | _, .coll _ => false

def probesOf : ArgV → List Cell
  | .scalar v => [v]
  | .coll vs => vs


/-- the row numbers of the underlying lists a selection shows, in order -/
def Sel.idx (sel : Sel) (N : Nat) : List Nat :=
  match sel with
  | .all => List.range N
  | .slice a b => List.range' a (b - a)
  | .list ix => ix


def viewOf (base : List Cell) (sel : Sel) : List Cell := (sel.idx base.length).map (cellAt base)


/-- the stored list of column `c` (empty if there is none) -/
def Table.base (t : Table) (c : Nat) : List Cell :=
  match lookupCol t.data c with
  | .ok b => b
  | .error _ => []

/-- column `c` as the table shows it -/
def Table.vcol (t : Table) (c : Nat) : List Cell := viewOf (t.base c) t.sel


/-- number of rows the table shows -/
def Table.m (t : Table) (N : Nat) : Nat := (t.sel.idx N).length



/-- cells of `xs[lo:hi]` are in non-decreasing key order -/
def sortedSegB (xs : List Cell) (lo hi : Nat) : Bool :=
  allIn lo hi (fun i => allIn lo hi (fun j => !(decide (i < j)) || !((cellAt xs j).key.lt (cellAt xs i).key)))

/-- the bisections work on `xs[lo:hi]` for the probes `vs`: segment inside the column, not empty
(unless guarded, P12), sorted (P13/P14), no `None`, cells and probes mutually comparable -/
def probeOKB (cfg : Cfg) (xs : List Cell) (lo hi : Nat) (vs : List Cell) : Bool :=
  decide (lo ≤ hi) && decide (hi ≤ xs.length) && (cfg.guardEmpty || decide (lo < hi)) && sortedSegB xs lo hi
  && allIn lo hi (fun i => (cellAt xs i).key != Key.none)
  && vs.all (fun v => allIn lo hi (fun i => (cellAt xs i).key.comparable v.key))
  && vs.all (fun v => v.key != Key.none)

/-- consecutive segments covering `[a,b)` -/
def segsB : List (Nat × Nat) → Nat → Nat → Bool
  | [], a, b => a == b
  | (l, h) :: r, a, b => l == a && decide (a ≤ h) && segsB r h b

def isOrderOp : Op → Bool
  | .lt | .le | .gt | .ge => true
  | _ => false

/-- the plain test on this cell is an order question: cell not `None`, comparable with the probes,
no `Missing` probe under an order comparison -/
def cellOKB (op : Op) (a : ArgV) (c : Cell) : Bool :=
  c.key != Key.none && (probesOf a).all (fun v => c.key.comparable v.key)
  && (!(isOrderOp op) || (probesOf a).all (fun v => v.key != Key.missing))

def distinctKeysB : List Cell → Bool
  | [] => true
  | v :: vs => vs.all (fun w => v.key != w.key) && distinctKeysB vs

/-- `<=` / `>=` on the scan path do not meet `Missing` unless repaired (P11) -/
def leGeOKB (cfg : Cfg) (op : Op) (a : ArgV) (col : List Cell) : Bool :=
  let noMissing := col.all (fun c => c.key != Key.missing) && (probesOf a).all (fun v => v.key != Key.missing)
  (op != Op.le || cfg.missingLe || noMissing) && (op != Op.ge || cfg.missingGe || noMissing)

def isOk {α} : Except Err α → Bool
  | .ok _ => true
  | .error _ => false

/-- hypotheses for one keyword (see `KwOK` in `Lemmas/C17Where.lean` for the same as a proposition) -/
def kwOKB (cfg : Cfg) (t : Table) (lohis : List (Nat × List (Nat × Nat))) (m : Nat) (pos : Option Op)
    (kw : Nat × Arg) : Bool :=
  t.columns.contains kw.1 &&
  (match kw.2 with | .dict .notin _ => cfg.notinKey | _ => true) &&
  (match (condOf pos kw).test with
   | .fn _ => true
   | .cmp op a =>
     argShape op a &&
     (if t.indexes.contains kw.1 then
        match dictGet lohis kw.1 with
        | .error _ => false
        | .ok segs =>
          segsB segs 0 m && segs.all (fun p => probeOKB cfg (t.vcol kw.1) p.1 p.2 (probesOf a))
          && allComparable (probesOf a)
          && (op != Op.isin || cfg.dedupIn || distinctKeysB (probesOf a))
          && allIn 0 m (fun i => cellOKB op a (cellAt (t.vcol kw.1) i))
      else leGeOKB cfg op a (t.vcol kw.1)))

def isVal : Arg → Bool
  | .val _ => true
  | _ => false

def isDict : Arg → Bool
  | .dict _ _ => true
  | _ => false

/-- P10: no plain argument after a `{op: value}` argument unless the operator is local -/
def noLeakB (cfg : Cfg) : List (Nat × Arg) → Bool
  | [] => true
  | kw :: rest => (cfg.localOp || !(isDict kw.2) || rest.all (fun k => !(isVal k.2))) && noLeakB cfg rest

def strictIncB : List Nat → Bool
  | [] => true
  | x :: xs => xs.all (fun y => decide (x < y)) && strictIncB xs

/-- stored lists of equal length `N`, every column of `_columns` stored, selection increasing and inside -/
def tableOKB (t : Table) (N : Nat) : Bool :=
  t.data.all (fun p => p.2.length == N) && t.columns.all (fun c => isOk (lookupCol t.data c))
  && strictIncB (t.sel.idx N) && (t.sel.idx N).all (fun j => decide (j < N))

/-- all hypotheses of `where_eq_spec_partial` for the call `t.where(None, pos, **kws)` -/
def whereWF (cfg : Cfg) (t : Table) (pos : Option Op) (kws : List (Nat × Arg)) : Bool :=
  match t.data with
  | [] => false
  | (_, b) :: _ =>
    tableOKB t b.length && !kws.isEmpty && noLeakB cfg kws &&
    (match t.calcLohis cfg with
     | .error _ => false
     | .ok lohis => kws.all (kwOKB cfg t lohis (t.m b.length) pos))

/-- hypotheses of `index_spec_partial` as a decidable check: the table owns its lists (not a view) and is
well-formed, at least one name given, the effective index columns are distinct (P14), differ from
the current `_indexes` (otherwise `index` returns at once: P13), are columns, and their cells are
mutually comparable and not `None` (otherwise `sorted` raises) -/
def indexWF (cfg : Cfg) (t : Table) (indx : List Nat) : Bool :=
  match t.data with
  | [] => false
  | (_, b) :: _ =>
    decide (t.sel = Sel.all) && tableOKB t b.length && !indx.isEmpty && !t.columns.isEmpty
    && decide (effIndex cfg t indx).Nodup && decide (t.indexes ≠ effIndex cfg t indx)
    && (effIndex cfg t indx).all (fun d => t.columns.contains d && isOk (lookupCol t.data d) &&
         allIn 0 b.length (fun x => (cellAt (t.base d) x).key != Key.none &&
           allIn 0 b.length (fun y => (cellAt (t.base d) x).key.comparable (cellAt (t.base d) y).key)))

/-- positions (in the row) of the index columns -/
def idxPositions (columns : List Nat) (idx : List Nat) : List Nat := idx.map (fun d => columns.idxOf d)

/-- `insertS` for a mapping `column → k values`: columns the table does not have yet are appended
in sorted order; old rows get `Missing` there; the `k` new rows take their cells from the mapping and
`Missing` for columns it does not mention -/
def insertColsS (columns : List Nat) (R : List (List Cell)) (cs : List (Nat × List Cell)) (k : Nat) :
    List Nat × List (List Cell) :=
  let newCols := newColsOf columns (cs.map (·.1))
  (columns ++ newCols, R.map (fun r => r ++ newCols.map (fun _ => Cell.missing)) ++
    (List.range k).map (fun i => (columns ++ newCols).map (fun c => cellAt (mapValD cs c) i)))

/-- `insertS` for a sequence of dict rows: each dict is one new row -/
def insertDictsS (columns : List Nat) (R : List (List Cell)) (ds : List (List (Nat × Cell))) :
    List Nat × List (List Cell) :=
  let newCols := newColsOf columns (ds.flatMap (fun d => d.map (·.1)))
  (columns ++ newCols, R.map (fun r => r ++ newCols.map (fun _ => Cell.missing)) ++
    ds.map (fun d => (columns ++ newCols).map (assocGet d)))

/-- lexicographic `<` of two rows on the columns `ks` (positions in the row) -/
def lexLt (ks : List Nat) (r s : List Cell) : Bool :=
  match ks with
  | [] => false
  | k :: rest =>
    let a := (r.getD k .missing).key
    let b := (s.getD k .missing).key
    if a.lt b then true else if b.lt a then false else lexLt rest r s

/-- `indexS`: stable lexicographic sort of the rows -/
def indexS (ks : List Nat) (rows : List (List Cell)) : List (List Cell) := sortBy (lexLt ks) rows

/-- maximal runs of rows that agree (under the order) on the columns `ks` -/
def runsBy {α} (same : α → α → Bool) : List α → List (List α)
  | [] => []
  | x :: xs =>
    match runsBy same xs with
    | (y :: ys) :: rest => if same x y then (x :: y :: ys) :: rest else [x] :: (y :: ys) :: rest
    | _ => [[x]]

def samePrefix (ks : List Nat) (r s : List Cell) : Bool := !(lexLt ks r s) && !(lexLt ks s r)

def groupbyS (ks : List Nat) (rows : List (List Cell)) : List (List (List Cell)) := runsBy (samePrefix ks) rows

/-- `K d x`: key of original row `x` in column `d`; lexicographic `<` over the columns `ds` -/
def lexLtK (K : Nat → Nat → Key) : List Nat → Nat → Nat → Bool
  | [], _, _ => false
  | d :: ds, x, y => if (K d x).lt (K d y) then true else if (K d y).lt (K d x) then false else lexLtK K ds x y

/-- key of the `x`-th row the table shows, in column `d` -/
def Kt (t : Table) (d x : Nat) : Key := (cellAt (t.vcol d) x).key

/-- the cells of every index column are mutually comparable and not `None` -/
def idxCellsOKB (t : Table) (N : Nat) : Bool :=
  t.indexes.all (fun d => allIn 0 (t.m N) (fun x => Kt t d x != Key.none &&
    allIn 0 (t.m N) (fun y => (Kt t d x).comparable (Kt t d y))))

/-- `Indexed` as a check -/
def indexedB (t : Table) (N : Nat) : Bool :=
  decide t.indexes.Nodup && t.indexes.all (fun d => isOk (lookupCol t.data d)) &&
  allIn 0 (t.m N) (fun j => allIn 0 (t.m N) (fun i => !(decide (i < j)) || !(lexLtK (Kt t) t.indexes j i))) &&
  t.indexes.all (fun d => allIn 0 (t.m N) (fun x => Kt t d x != Key.none &&
    allIn 0 (t.m N) (fun y => (Kt t d x).comparable (Kt t d y))))


/-! ## Linear histories: the refinement `ops_refine` is about these

One table object and what is made from it: `insert` / `index` mutate it, `where` continues with the
result (where-of-where), `copy` with the copy.  (Several live objects sharing storage are `run`/`step`
above; they are outside the refinement theorem, see `copy_shares_storage_counterexample`.) -/

inductive LOp
  | insert (d : InsertData)
  | index (cols : List Nat)
  | whereK (pos : Option Op) (kws : List (Nat × Arg))
  | whereP (p : RowPred)
  | copy
  deriving Repr

def stepL (cfg : Cfg) (t : Table) : LOp → Except Err Table
  | .insert d => t.insert cfg d
  | .index cols => t.index cfg cols
  | .whereK pos kws => t.pwhere cfg Option.none pos kws
  | .whereP p => t.pwhere cfg (some p) Option.none []
  | .copy => .ok t.copy

def runL (cfg : Cfg) : Table → List LOp → Except Err Table
  | t, [] => .ok t
  | t, op :: rest =>
    match stepL cfg t op with
    | .error e => .error e
    | .ok t' => runL cfg t' rest

/-- the abstract table of the specification: column names, rows, index columns -/
structure AbsT where
  columns : List Nat
  rows : List (List Cell)
  indexes : List Nat
  deriving Repr

/-- `insertS` -/
def insertS (columns : List Nat) (R : List (List Cell)) : InsertData → List Nat × List (List Cell)
  | .rows rs => (columns, R ++ rs)
  | .dicts ds => if ds.isEmpty then (columns, R) else insertDictsS columns R ds
  | .cols cs => match cs with
    | [] => (columns, R)
    | q :: _ => insertColsS columns R cs q.2.length

/-- `insert` as the repaired code means it: the normalised rows are appended; a table that is
indexed stays in index order (the stable sort leaves rows alone that are in order already) -/
def insertSpec (cfg : Cfg) (columns indexes : List Nat) (R : List (List Cell)) (d : InsertData) : List Nat × List (List Cell) :=
  let r := insertS columns R d
  if cfg.resortInsert && !d.isEmpty && !indexes.isEmpty then (r.1, indexS (idxPositions r.1 indexes) r.2) else r

/-- the specification machine: insert appends the normalised rows (and keeps an indexed table in
index order when the code does), index is the stable lexicographic sort by the named columns that
exist (once each), where is the plain filter, copy changes nothing -/
def stepLS (cfg : Cfg) (a : AbsT) : LOp → Except Err AbsT
  | .insert d => .ok { a with columns := (insertSpec cfg a.columns a.indexes a.rows d).1, rows := (insertSpec cfg a.columns a.indexes a.rows d).2 }
  | .index cols =>
    let ix := dedupNat (cols.filter (fun c => a.columns.contains c))
    .ok { a with rows := indexS (idxPositions a.columns ix) a.rows, indexes := ix }
  | .whereK pos kws =>
    match whereS { columns := a.columns, rows := a.rows } (kws.map (condOf pos)) with
    | .ok rs => .ok { a with rows := rs }
    | .error e => .error e
  | .whereP p => .ok { a with rows := a.rows.filter p.eval }
  | .copy => .ok a

def runLS (cfg : Cfg) : AbsT → List LOp → Except Err AbsT
  | a, [] => .ok a
  | a, op :: rest =>
    match stepLS cfg a op with
    | .error e => .error e
    | .ok a' => runLS cfg a' rest

/-- length of the stored lists -/
def tableN (t : Table) : Nat :=
  match t.data with
  | [] => 0
  | (_, b) :: _ => b.length

/-- a table `insert` can work on: it owns its lists (not a view), is well-formed, every stored list is a column -/
def insertOKB (t : Table) : Bool :=
  decide (t.sel = Sel.all) && tableOKB t (tableN t) && t.data.all (fun p => t.columns.contains p.1)

/-- number of rows an insert brings -/
def InsertData.size : InsertData → Nat
  | .rows rs => rs.length
  | .dicts ds => ds.length
  | .cols cs => match cs with | [] => 0 | q :: _ => q.2.length

/-- hypotheses of `insertRaw_eq_spec`: rows as long as the (distinct) columns; value lists of a mapping
equally long; for dict rows without any key the P-empty-dicts repair; at least one column afterwards -/
def insertRawWF (cfg : Cfg) (t : Table) (d : InsertData) : Bool :=
  insertOKB t &&
  (match d with
   | .rows rs => !rs.isEmpty && !t.columns.isEmpty && decide t.columns.Nodup && rs.all (fun r => r.length == t.columns.length)
   | .cols cs => (match cs with
       | [] => false
       | q :: _ => cs.all (fun q' => q'.2.length == q.2.length)) && !(t.columns ++ newColsOf t.columns (cs.map (·.1))).isEmpty
   | .dicts ds => !ds.isEmpty && (cfg.dictLen || !(dictsToCols ds).isEmpty)
       && !(t.columns ++ newColsOf t.columns (ds.flatMap (fun d => d.map (·.1)))).isEmpty)

/-- hypotheses of `insert_eq_spec`: those of the append, and - when the code keeps an indexed table
in index order (P13 repair) - the table is in index order before (always true for a reachable table,
see `inv_reachable`), its index columns are columns, and the cells of the index columns including the
new ones can be ordered and are not `None` (otherwise the code drops the index) -/
def insertWF (cfg : Cfg) (t : Table) (d : InsertData) : Bool :=
  insertRawWF cfg t d &&
  (!(cfg.resortInsert && !t.indexes.isEmpty) ||
    (t.indexes.all (fun c => t.columns.contains c) && indexedB t (tableN t) &&
     (match t.insertRaw cfg d with
      | .ok t' => idxCellsOKB t' (tableN t')
      | .error _ => false)))

/-- the side conditions of one operation of a linear history, on the table it is applied to -/
def opWF (cfg : Cfg) (t : Table) : LOp → Bool
  | .insert d => insertWF cfg t d
  | .index cols => indexWF cfg t cols
  | .whereK pos kws => whereWF cfg t pos kws &&
      (match t.rows with
       | .ok R => isOk (whereS { columns := t.columns, rows := R } (kws.map (condOf pos)))
       | .error _ => false)
  | .whereP _ => (match t.data with | [] => false | (_, b) :: _ => tableOKB t b.length) && !t.columns.isEmpty
  | .copy => true

/-- every operation of the history meets its side conditions (`opWF`) when its turn comes -/
def WFL (cfg : Cfg) : Table → List LOp → Bool
  | _, [] => true
  | t, op :: rest =>
    opWF cfg t op &&
    (match stepL cfg t op with
     | .ok t' => WFL cfg t' rest
     | .error _ => false)

/-! ## Side conditions that do not look at the state of the index

`opWF` above asks, for a `where` on an indexed column, that the segments `_calc_lohis` finds are
sorted runs - which is false on a table whose rows went out of index order - and `index` must ask for
other columns than the current ones.  With the repaired `insert` every table a linear history can
reach is in index order (`inv_reachable`), so these side conditions only speak about the data: cells
and probes that can be ordered, no `None`, shapes of the arguments. -/

/-- `KwOKIdx` as a check -/
def kwOKIdxB (cfg : Cfg) (t : Table) (m : Nat) (pos : Option Op) (kw : Nat × Arg) : Bool :=
  t.columns.contains kw.1 &&
  (match kw.2 with | .dict .notin _ => cfg.notinKey | _ => true) &&
  (match (condOf pos kw).test with
   | .fn _ => true
   | .cmp op a =>
     argShape op a &&
     (if t.indexes.contains kw.1 then
        (cfg.guardEmpty || decide (0 < m))
        && (probesOf a).all (fun v => v.key != Key.none)
        && (probesOf a).all (fun v => allIn 0 m (fun i => (cellAt (t.vcol kw.1) i).key.comparable v.key))
        && allComparable (probesOf a)
        && (op != Op.isin || cfg.dedupIn || distinctKeysB (probesOf a))
        && (!(op == Op.lt || op == Op.le || op == Op.gt || op == Op.ge) || (probesOf a).all (fun v => v.key != Key.missing))
      else leGeOKB cfg op a (t.vcol kw.1)))

/-- `whereWF` without the conditions on the lohis -/
def whereOK (cfg : Cfg) (t : Table) (pos : Option Op) (kws : List (Nat × Arg)) : Bool :=
  match t.data with
  | [] => false
  | (_, b) :: _ =>
    tableOKB t b.length && !kws.isEmpty && noLeakB cfg kws && kws.all (kwOKIdxB cfg t (t.m b.length) pos)

/-- `indexWF` without "other columns than the current index" -/
def indexOK (cfg : Cfg) (t : Table) (indx : List Nat) : Bool :=
  match t.data with
  | [] => false
  | (_, b) :: _ =>
    decide (t.sel = Sel.all) && tableOKB t b.length && !indx.isEmpty && !t.columns.isEmpty
    && decide (effIndex cfg t indx).Nodup
    && (effIndex cfg t indx).all (fun d => t.columns.contains d && isOk (lookupCol t.data d) &&
         allIn 0 b.length (fun x => (cellAt (t.base d) x).key != Key.none &&
           allIn 0 b.length (fun y => (cellAt (t.base d) x).key.comparable (cellAt (t.base d) y).key)))

/-- `insertWF` without "the table is in index order" -/
def insertOK (cfg : Cfg) (t : Table) (d : InsertData) : Bool :=
  insertRawWF cfg t d &&
  (t.indexes.isEmpty ||
    (match t.insertRaw cfg d with
     | .ok t' => idxCellsOKB t' (tableN t')
     | .error _ => false))

def opOK (cfg : Cfg) (t : Table) : LOp → Bool
  | .insert d => insertOK cfg t d
  | .index cols => indexOK cfg t cols
  | .whereK pos kws => whereOK cfg t pos kws &&
      (match t.rows with
       | .ok R => isOk (whereS { columns := t.columns, rows := R } (kws.map (condOf pos)))
       | .error _ => false)
  | .whereP _ => (match t.data with | [] => false | (_, b) :: _ => tableOKB t b.length) && !t.columns.isEmpty
  | .copy => true

/-- every operation of the history meets its data-only side conditions when its turn comes -/
def OKL (cfg : Cfg) : Table → List LOp → Bool
  | _, [] => true
  | t, op :: rest =>
    opOK cfg t op &&
    (match stepL cfg t op with
     | .ok t' => OKL cfg t' rest
     | .error _ => false)

/-- the invariant as a check: well-formed, the index columns are columns, the rows are in index order -/
def invB (t : Table) : Bool :=
  tableOKB t (tableN t) && t.indexes.all (fun c => t.columns.contains c) && indexedB t (tableN t)


/-- abstraction: what the table shows -/
def Table.abs (t : Table) : AbsT :=
  { columns := t.columns, rows := (match t.rows with | .ok R => R | .error _ => []), indexes := t.indexes }

/-- equal up to Python's `==`, cell by cell (`1` vs `1.0`: `index` may exchange them between rows
that agree on an earlier index column) -/
def AbsT.eqv (a b : AbsT) : Prop :=
  a.columns = b.columns ∧ a.indexes = b.indexes ∧ a.rows.map (List.map Cell.key) = b.rows.map (List.map Cell.key)


/-! ## Phase 4: several live objects, each with its own memoised `_lohis`

`Table._lohis` is per object: `None` on a new object (`where` result), the dict of `_calc_lohis` after
`index` or after the first `where`/`groupby` (`self._lohis = self._lohis or self._calc_lohis()`), `{}`
after an `insert` that found it truthy; `copy` hands the very value to the new object.  No `_lohis`
dict is ever mutated in place, so a value per object is exact.  `fresh` is a ghost flag: no OTHER
object has mutated the shared column lists since this object was made (cleared by `stepC`). -/

abbrev Lohis := List (Nat × List (Nat × Nat))

structure CObj where
  t : Table
  /-- `_lohis`: `none` = `None`, `some []` = `{}` -/
  cache : Option Lohis
  fresh : Bool
  deriving Repr

/-- `self._lohis or self._calc_lohis()` -/
def effLohis (cfg : Cfg) (t : Table) : Option Lohis → Except Err Lohis
  | some (p :: l) => .ok (p :: l)
  | _ => t.calcLohis cfg

/-- `if self._lohis: self._lohis = {}` -/
def resetCache : Option Lohis → Option Lohis
  | some (_ :: _) => some []
  | c => c

/-- the keyword branch of `Table.where` after `self._lohis = …` -/
def Table.pwhereWith (cfg : Cfg) (t : Table) (lohis : Lohis) (comparison : Option Op)
    (kws : List (Nat × Arg)) : Except Err Table := do
  let n ← t.len
  let selection ← whereLoop cfg t lohis n comparison kws
  let selection := if kws.length > 1 then sortDedupNat selection else selection
  let sel ← composeSel t.sel selection
  pure { t with sel := sel }

/-- the body of `Table.groupby` after `self._lohis = …` -/
def Table.groupbyWith (t : Table) (lohis : Lohis) (level : Nat) (select : Select) : Except Err (List GroupOut) :=
  match (t.indexes.take level).mapM t.col with
  | .error e => .error e
  | .ok grpCols =>
    match optGet t.indexes[level]? with
    | .error e => .error e
    | .ok ixcol =>
      match dictGet lohis ixcol with
      | .error e => .error e
      | .ok segs =>
        match selectCols t select with
        | .error e => .error e
        | .ok selCols => segs.mapM (groupOne select grpCols selCols)

/-- `Table.index` with the cache: the three early returns leave `_lohis` alone, otherwise
`self._lohis = self._calc_lohis()` -/
def Table.indexC (cfg : Cfg) (t : Table) (cache : Option Lohis) (indx : List Nat) : Except Err (Table × Option Lohis) :=
  if indx.isEmpty then .ok (t, cache)
  else if t.data.isEmpty then .ok (t, cache)
  else if t.indexes = effIndex cfg t indx then .ok (t, cache)
  else
    match t.index cfg indx with
    | .error e => .error e
    | .ok t' =>
      match t'.calcLohis cfg with
      | .error e => .error e
      | .ok l => .ok (t', some l)

/-- `Table.insert` with the cache (same branches as `Table.insert`) -/
def Table.insertC (cfg : Cfg) (t : Table) (cache : Option Lohis) (d : InsertData) : Except Err (Table × Option Lohis) :=
  match t.insertRaw cfg d with
  | .error e => .error e
  | .ok t' =>
    if cfg.resortInsert && !d.isEmpty && !t'.indexes.isEmpty then
      match t'.inIndexOrder (match t.len with | .ok n => n | .error _ => 0) with
      | .le => .ok (t', resetCache cache)
      | .cannot => .ok ({ t' with indexes := [] }, resetCache cache)
      | .gt =>
        match Table.indexC cfg { t' with indexes := [] } (resetCache cache) t'.indexes with
        | .ok r => .ok r
        | .error .typeError => .ok ({ t' with indexes := [] }, resetCache cache)
        | .error e => .error e
    else .ok (t', if d.isEmpty then cache else resetCache cache)

/-- after a mutation through object `i`: every object shows the mutated dict; the others are no longer fresh -/
def shareC (d : List (Nat × List Cell)) (os : List (Option CObj)) : List (Option CObj) :=
  os.map (fun o => o.map (fun u => { u with t := { u.t with data := d }, fresh := false }))

/-- one step of the machine with caches (same shape as `step`) -/
def stepC (cfg : Cfg) (os : List (Option CObj)) (op : TOp) : List (Option CObj) × Obs :=
  let target (i : Nat) : Option CObj := (os[i]?).bind id
  match op with
  | .skip creates => (if creates then os ++ [Option.none] else os, .skipped)
  | .peek i =>
    match target i with
    | Option.none => (os, .skipped)
    | some o => (os, observe o.t)
  | .insert i d =>
    match target i with
    | Option.none => (os, .skipped)
    | some o => match o.t.insertC cfg o.cache d with
      | .ok (t', c') => (setAt (shareC t'.data os) i (some { t := t', cache := c', fresh := o.fresh }), observe t')
      | .error e => (setAt os i Option.none, .err e)
  | .index i cols =>
    match target i with
    | Option.none => (os, .skipped)
    | some o => match o.t.indexC cfg o.cache cols with
      | .ok (t', c') => (setAt (shareC t'.data os) i (some { t := t', cache := c', fresh := o.fresh }), observe t')
      | .error e => (setAt os i Option.none, .err e)
  | .whr i pred cmp kws =>
    match target i with
    | Option.none => (os ++ [Option.none], .skipped)
    | some o =>
      match pred with
      | some p =>
        match o.t.pwhere cfg (some p) cmp kws with
        | .ok t' => (os ++ [some { t := t', cache := Option.none, fresh := o.fresh }], observe t')
        | .error e => (os ++ [Option.none], .err e)
      | Option.none =>
        match effLohis cfg o.t o.cache with
        | .error e => (os ++ [Option.none], .err e)
        | .ok l =>
          match o.t.pwhereWith cfg l cmp kws with
          | .ok t' => (setAt os i (some { o with cache := some l }) ++ [some { t := t', cache := Option.none, fresh := o.fresh }], observe t')
          | .error e => (setAt os i (some { o with cache := some l }) ++ [Option.none], .err e)
  | .groupby i level select =>
    match target i with
    | Option.none => (os, .skipped)
    | some o =>
      match effLohis cfg o.t o.cache with
      | .error e => (os, .err e)
      | .ok l =>
        match o.t.groupbyWith l level select with
        | .ok gs => (setAt os i (some { o with cache := some l }), .groups gs)
        | .error e => (setAt os i (some { o with cache := some l }), .err e)
  | .copy i =>
    match target i with
    | Option.none => (os ++ [Option.none], .skipped)
    | some o => (os ++ [some { o with t := o.t.copy }], observe o.t.copy)

def runOpsC (cfg : Cfg) : List (Option CObj) → List TOp → List Obs
  | _, [] => []
  | os, op :: rest => let r := stepC cfg os op; r.2 :: runOpsC cfg r.1 rest

def finalC (cfg : Cfg) : List (Option CObj) → List TOp → List (Option CObj)
  | os, [] => os
  | os, op :: rest => finalC cfg (stepC cfg os op).1 rest

def initC (init : Init) : List (Option CObj) := [some { t := init.table, cache := Option.none, fresh := true }]

def runC (cfg : Cfg) (init : Init) (ops : List TOp) : List Obs :=
  observe init.table :: runOpsC cfg (initC init) ops

/-- the side condition of a step of the machine with caches: an operation on a fresh object meets the
data-only condition `opOK` of the linear machine; nothing is asked of operations on stale objects -/
def opOKC (cfg : Cfg) (os : List (Option CObj)) : TOp → Bool
  | .insert i d => (match (os[i]?).bind id with | some o => !o.fresh || opOK cfg o.t (.insert d) | Option.none => true)
  | .index i cols => (match (os[i]?).bind id with | some o => !o.fresh || opOK cfg o.t (.index cols) | Option.none => true)
  | .whr i Option.none cmp kws => (match (os[i]?).bind id with | some o => !o.fresh || opOK cfg o.t (.whereK cmp kws) | Option.none => true)
  | .whr i (some p) _ _ => (match (os[i]?).bind id with | some o => !o.fresh || opOK cfg o.t (.whereP p) | Option.none => true)
  | _ => true

def OKC (cfg : Cfg) : List (Option CObj) → List TOp → Bool
  | _, [] => true
  | os, op :: rest => opOKC cfg os op && OKC cfg (stepC cfg os op).1 rest

/-- coherence of a cache as a check: `None`, `{}`, or what `_calc_lohis` gives now -/
def cohB (cfg : Cfg) (t : Table) : Option Lohis → Bool
  | Option.none => true
  | some [] => true
  | some l => (match t.calcLohis cfg with | .ok l' => decide (l' = l) | .error _ => false)


/-! ## Phase 5: `sorted()` as a comparison sort

`sorted()` never looks at its members except through `<`.  `sortE` is a stable insertion sort that asks the
RAISING comparison `pyLt` (a `TypeError` of any comparison it makes aborts the sort, as in CPython).
`Lemmas`: `sortE` with `pyLt` equals `pySorted` / `pySortedBy` for EVERY list (`Missing` included), so the
"TypeError iff two non-Missing members are incomparable" reading of `sorted()` is a theorem about a comparison sort,
not an assumption. -/

def insertE {α} (lt : α → α → Except Err Bool) (x : α) : List α → Except Err (List α)
  | [] => .ok [x]
  | y :: ys =>
    match lt y x with
    | .error e => .error e
    | .ok true => (match insertE lt x ys with | .error e => .error e | .ok r => .ok (y :: r))
    | .ok false => .ok (x :: y :: ys)

def sortE {α} (lt : α → α → Except Err Bool) : List α → Except Err (List α)
  | [] => .ok []
  | x :: xs => match sortE lt xs with | .error e => .error e | .ok s => insertE lt x s

def pySortedE (vs : List Cell) : Except Err (List Cell) := sortE pyLt vs
def pySortedByE (k : Nat → Cell) (xs : List Nat) : Except Err (List Nat) := sortE (fun i j => pyLt (k i) (k j)) xs

/-! ## Phase 5: what a `Table` / `View` shows besides `list(table)`: `to_dicts`, `__len__`, column access -/

/-- `to_dicts()`: `map(dict, map(zip, repeat(columns), zip(*map(self._data.__getitem__, columns))))` -/
def Table.toDicts (t : Table) : Except Err (List (List (Nat × Cell))) :=
  match t.rows with
  | .error e => .error e
  | .ok R => .ok (R.map (fun r => t.columns.zip r))

/-- which class `t[c]` is: 0 the stored `list`, 1 `SliceView`, 2 `ListView` -/
def Sel.kind : Sel → Nat
  | .all => 0 | .slice _ _ => 1 | .list _ => 2

/-- what can be seen of `t[c]`: its class, `len`, `list(...)`, `[0]` and `[-1]` -/
structure ColObs where
  kind : Nat
  len : Nat
  items : Except Err (List Cell)
  first : Except Err Cell
  last : Except Err Cell

def Table.colObs (t : Table) (c : Nat) : Except Err ColObs :=
  match t.col c with
  | .error e => .error e
  | .ok s => .ok { kind := s.sel.kind, len := s.len, items := s.toList, first := s.get 0, last := s.getLast }

end Coba.C17
