/-
C19 — Shared caches never expose partial entries and always release their locks.

Executable model (import-free) of `coba.context.cachers.ConcurrentCacher` over a
`MemoryCacher`-like inner cache, as a transition system whose atomic steps are exactly the
`with self._lock:` blocks and the unlocked inner-cache / with-body steps between them; plus a
small file-system-as-map model of `DiskCacher.get_set`.

Shared state   : `arr`   = `_array`  (index ↦ -1 writer / 0 free / n readers)
                 `cache` = inner cacher (key ↦ value)
Per caller     : program counter inside the current operation, remaining program (segments: an
                 exception unwinds every open with-block and abandons the rest of the segment,
                 like a `try/except` around each top-level statement), the stack of entered
                 with-blocks, and `book` = `_locks[(thread,key)]`.
-/
namespace Coba.C19

def upd {α} (f : Nat → α) (k : Nat) (v : α) : Nat → α := fun x => if x = k then v else f x

/-- outcome of the getter passed to `get_set` if it gets called -/
inductive Getter where
  | ok (v : Nat)
  | fail
  deriving DecidableEq, Repr

inductive Instr where
  | getSet (k : Nat) (g : Getter)   -- `with cacher.get_set(k, getter) as v:`  (opens a with-block)
  | exit                            -- leave the innermost with-block normally
  | raise                           -- the with-body raises
  | rmv (k : Nat) (f : Bool) (o : Bool)  -- `cacher.rmv(k)`; `f`: the inner cacher's rmv raises if it gets called;
                                    -- `o`: the UNLOCKED `key in self` answers True although the entry is not (completely) cached —
                                    -- a DiskCacher writes in place, so a half-written file of another process is visible to `exists()`
  deriving DecidableEq, Repr

inductive Pc where
  | idle                            -- between instructions
  | gsAcqR (k : Nat) (g : Getter)   -- next: lock block of `_acquire_read_lock`
  | gsChk1 (k : Nat) (g : Getter)   -- next: `key in self._cache` (read lock held)
  | gsGet1 (k : Nat)                -- next: `self._cache.get_set(key,None)` (hit, read lock held)
  | gsRelR (k : Nat) (g : Getter)   -- next: `_release_read_lock` (miss)
  | gsAcqW (k : Nat) (g : Getter)   -- next: lock block of `_acquire_write_lock`
  | gsChk2 (k : Nat) (g : Getter)   -- next: `key in self` (write lock held)
  | gsSwA (k : Nat)                 -- next: `_switch_write_to_read_lock` (someone else populated)
  | gsGet2 (k : Nat)                -- next: `self._cache.get_set(key,None)` after the switch
  | gsPop (k : Nat) (g : Getter)    -- next: `self._cache.get_set(key,getter)` starts (write lock held); a DiskCacher creates the file here
  | gsPopW (k : Nat) (g : Getter)   -- the entry is being written (file created, not yet closed); next: getter result stored / getter raises
  | gsSwB (k : Nat) (v : Nat)       -- next: `_switch_write_to_read_lock` (after populating)
  | gsEnter (k : Nat) (v : Nat)     -- next: the caller enters the with-body and receives `v`
  | gsHRelR (k : Nat)               -- exception handler of get_set: `_release_read_lock`
  | gsHRelW (k : Nat)               -- exception handler of get_set: `_release_write_lock`
  | exRel                           -- next: `_release_read_lock` of `_release_read_on_exit` (normal exit)
  | rmChk (k : Nat) (f : Bool) (o : Bool)  -- next: `key in self` of rmv (no lock held)
  | rmAcqW (k : Nat) (f : Bool)     -- next: lock block of `_acquire_write_lock` in rmv
  | rmRemove (k : Nat) (f : Bool)   -- next: `self._cache.rmv(key)` (raises when `f`)
  | rmRelW (k : Nat)                -- next: `_release_write_lock` in rmv
  | rmHRelW (k : Nat)               -- `except:` of rmv with lock == 'write': `_release_write_lock`, then re-raise
  | unwind                          -- an exception propagates: release the innermost with-block
  deriving DecidableEq, Repr

/-- what one atomic step did (the observable used by the correspondence check) -/
inductive Ev where
  | begin | nextSeg | skip
  | spin                              -- a lock block whose guard was false (then `time.sleep`)
  | acqR (k : Nat) | relR (k : Nat) | acqW (k : Nat) | relW (k : Nat) | sw (k : Nat)
  | contains (k : Nat) (b : Bool)
  | cget (k : Nat) (v : Nat)
  | ccreate (k : Nat)                 -- the inner cacher starts populating (DiskCacher: the file now exists, incomplete)
  | cpop (k : Nat) (v : Nat) | cpopFail (k : Nat)
  | crmv (k : Nat) (b : Bool)
  | crmvFail (k : Nat)                -- the inner cacher's rmv raised (entry untouched)
  | enter (k : Nat) (v : Nat)
  | raiseBody
  | refuse (k : Nat)                  -- repaired code only: a nested write-lock request on a busy slot raises instead of waiting
  deriving DecidableEq, Repr

structure Caller where
  pc : Pc
  cur : List Instr
  rest : List (List Instr)
  stack : List Nat
  book : Nat → Int
  /-- switch for the proposed repair `fixes/C19-nested-write-wait-raises.diff`: when set, `_acquire_write_lock` raises the
  documented CobaException instead of waiting if the calling thread holds a read lock (is inside a with-block) -/
  tn : Bool

structure St where
  arr : Nat → Int
  cache : Nat → Option Nat
  cs : List Caller

def Caller.terminal (c : Caller) : Bool :=
  (c.pc == Pc.idle) && c.cur.isEmpty && c.rest.isEmpty && c.stack.isEmpty

/-- an exception leaves the current operation: abandon the segment; propagate through the open
with-blocks if there are any -/
def toUnwind (c : Caller) : Caller :=
  { c with cur := [], pc := if c.stack.isEmpty then Pc.idle else Pc.unwind }

/-- `except:` of get_set: release read if `_has_read_lock`, then write if `_has_write_lock` -/
def afterHRelR (c : Caller) (k : Nat) : Caller :=
  if c.book k = -1 then { c with pc := Pc.gsHRelW k } else toUnwind c

def toHandler (c : Caller) (k : Nat) : Caller :=
  if c.book k > 0 then { c with pc := Pc.gsHRelR k } else afterHRelR c k

abbrev Res := Ev × (Nat → Int) × (Nat → Option Nat) × Caller

/-- one atomic step of one caller -/
def stepC (idx : Nat → Nat) (arr : Nat → Int) (cache : Nat → Option Nat) (c : Caller) : Option Res :=
  match c.pc with
  | .idle =>
    match c.cur with
    | .getSet k g :: r => some (.begin, arr, cache, { c with cur := r, pc := .gsAcqR k g })
    | .exit :: r =>
      if c.stack.isEmpty then some (.skip, arr, cache, { c with cur := r })
      else some (.begin, arr, cache, { c with cur := r, pc := .exRel })
    | .raise :: _ => some (.raiseBody, arr, cache, toUnwind c)
    | .rmv k f o :: r => some (.begin, arr, cache, { c with cur := r, pc := .rmChk k f o })
    | [] =>
      if !c.stack.isEmpty then some (.begin, arr, cache, { c with pc := .exRel })
      else match c.rest with
        | seg :: more => some (.nextSeg, arr, cache, { c with cur := seg, rest := more })
        | [] => none
  | .gsAcqR k g =>
    if arr (idx k) ≥ 0 then
      some (.acqR k, upd arr (idx k) (arr (idx k) + 1), cache,
            { c with book := upd c.book k (c.book k + 1), pc := .gsChk1 k g })
    else some (.spin, arr, cache, c)
  | .gsChk1 k g =>
    match cache k with
    | some _ => some (.contains k true, arr, cache, { c with pc := .gsGet1 k })
    | none => some (.contains k false, arr, cache, { c with pc := .gsRelR k g })
  | .gsGet1 k =>
    match cache k with
    | some v => some (.cget k v, arr, cache, { c with pc := .gsEnter k v })
    | none => none
  | .gsRelR k g =>
    let c1 := { c with book := upd c.book k (c.book k - 1) }
    some (.relR k, upd arr (idx k) (arr (idx k) - 1), cache,
          if c1.book k ≠ 0 then toHandler c1 k else { c1 with pc := .gsAcqW k g })
  | .gsAcqW k g =>
    if arr (idx k) = 0 then
      some (.acqW k, upd arr (idx k) (-1), cache, { c with book := upd c.book k (-1), pc := .gsChk2 k g })
    else if c.tn && !c.stack.isEmpty then some (.refuse k, arr, cache, toHandler c k)
    else some (.spin, arr, cache, c)
  | .gsChk2 k g =>
    match cache k with
    | some _ => some (.contains k true, arr, cache, { c with pc := .gsSwA k })
    | none => some (.contains k false, arr, cache, { c with pc := .gsPop k g })
  | .gsSwA k =>
    some (.sw k, upd arr (idx k) 1, cache, { c with book := upd c.book k 1, pc := .gsGet2 k })
  | .gsGet2 k =>
    match cache k with
    | some v => some (.cget k v, arr, cache, { c with pc := .gsEnter k v })
    | none => none
  | .gsPop k g => some (.ccreate k, arr, cache, { c with pc := .gsPopW k g })
  | .gsPopW k g =>
    match g with
    | .ok v => some (.cpop k v, arr, upd cache k (some v), { c with pc := .gsSwB k v })
    | .fail => some (.cpopFail k, arr, cache, toHandler c k)
  | .gsSwB k v =>
    some (.sw k, upd arr (idx k) 1, cache, { c with book := upd c.book k 1, pc := .gsEnter k v })
  | .gsEnter k v =>
    some (.enter k v, arr, cache, { c with stack := k :: c.stack, pc := .idle })
  | .gsHRelR k =>
    let c1 := { c with book := upd c.book k (c.book k - 1) }
    some (.relR k, upd arr (idx k) (arr (idx k) - 1), cache, afterHRelR c1 k)
  | .gsHRelW k =>
    some (.relW k, upd arr (idx k) 0, cache, toUnwind { c with book := upd c.book k 0 })
  | .exRel =>
    match c.stack with
    | k :: t =>
      some (.relR k, upd arr (idx k) (arr (idx k) - 1), cache,
            { c with book := upd c.book k (c.book k - 1), stack := t, pc := .idle })
    | [] => none
  | .rmChk k f o =>
    match cache k with
    | some _ =>
      if c.book k ≠ 0 then some (.contains k true, arr, cache, toUnwind c)   -- CobaException "unrecoverable state"
      else some (.contains k true, arr, cache, { c with pc := .rmAcqW k f })
    | none =>
      if o then
        if c.book k ≠ 0 then some (.contains k true, arr, cache, toUnwind c)
        else some (.contains k true, arr, cache, { c with pc := .rmAcqW k f })
      else some (.contains k false, arr, cache, { c with pc := .idle })
  | .rmAcqW k f =>
    if arr (idx k) = 0 then
      some (.acqW k, upd arr (idx k) (-1), cache, { c with book := upd c.book k (-1), pc := .rmRemove k f })
    else if c.tn && !c.stack.isEmpty then some (.refuse k, arr, cache, toUnwind c)
    else some (.spin, arr, cache, c)
  | .rmRemove k f =>
    if f then some (.crmvFail k, arr, cache, { c with pc := .rmHRelW k })
    else some (.crmv k (cache k).isSome, arr, upd cache k none, { c with pc := .rmRelW k })
  | .rmRelW k =>
    some (.relW k, upd arr (idx k) 0, cache, { c with book := upd c.book k 0, pc := .idle })
  | .rmHRelW k =>
    some (.relW k, upd arr (idx k) 0, cache, toUnwind { c with book := upd c.book k 0 })
  | .unwind =>
    match c.stack with
    | k :: t =>
      some (.relR k, upd arr (idx k) (arr (idx k) - 1), cache,
            toUnwind { c with book := upd c.book k (c.book k - 1), stack := t })
    | [] => none

def step (idx : Nat → Nat) (s : St) (i : Nat) : Option (Ev × St) :=
  match s.cs[i]? with
  | none => none
  | some c =>
    match stepC idx s.arr s.cache c with
    | none => none
    | some (ev, a, ch, c') => some (ev, { arr := a, cache := ch, cs := s.cs.set i c' })

def mkCallerT (tn : Bool) (prog : List (List Instr)) : Caller :=
  { pc := .idle, cur := [], rest := prog, stack := [], book := fun _ => 0, tn := tn }

def mkCaller (prog : List (List Instr)) : Caller := mkCallerT false prog

def init (progs : List (List (List Instr))) : St :=
  { arr := fun _ => 0, cache := fun _ => none, cs := progs.map mkCaller }

/-- initial state of the repaired code (every caller has the switch set) -/
def initR (progs : List (List (List Instr))) : St :=
  { arr := fun _ => 0, cache := fun _ => none, cs := progs.map (mkCallerT true) }

/-- run a schedule (list of caller numbers); a scheduled caller that has no step is skipped -/
def run (idx : Nat → Nat) : St → List Nat → St × List (Nat × Ev)
  | s, [] => (s, [])
  | s, i :: is =>
    match step idx s i with
    | none => run idx s is
    | some (ev, s') => let r := run idx s' is; (r.1, (i, ev) :: r.2)

def St.allTerminal (s : St) : Bool := s.cs.all Caller.terminal


/-- nobody can move: some caller is not terminal and every caller's only step is a failed lock guard -/
def St.deadlocked (idx : Nat → Nat) (s : St) : Bool :=
  !s.allTerminal && (List.range s.cs.length).all (fun i =>
    match step idx s i with
    | some (ev, _) => ev == Ev.spin
    | none => true)


/-! ### infinite runs and fairness -/

/-- state after `n` ticks of the infinite schedule `σ` (a tick whose caller has no step changes nothing) -/
def runN (idx : Nat → Nat) (s : St) (σ : Nat → Nat) : Nat → St
  | 0 => s
  | t + 1 =>
    match step idx (runN idx s σ t) (σ t) with
    | some (_, s') => s'
    | none => runN idx s σ t

/-- the scheduler is fair: every one of the `n` callers gets a turn again and again -/
def FairSched (n : Nat) (σ : Nat → Nat) : Prop := ∀ i, i < n → ∀ t, ∃ t', t ≤ t' ∧ σ t' = i


/-! ### program predicates (the quantifier of the property) -/

/-- walks one segment with the with-stack it would have; `ok stack k` must hold at every nested
operation on key `k`.  After `raise` the rest of the segment is never executed. -/
def segOk (ok : List Nat → Nat → Bool) : List Nat → List Instr → Bool
  | _, [] => true
  | st, .getSet k _ :: r => ok st k && segOk ok (k :: st) r
  | st, .exit :: r => segOk ok st.tail r
  | _, .raise :: _ => true
  | st, .rmv k _ _ :: r => ok st k && segOk ok st r

/-- the property's exclusion: a caller never operates on a key that collides with a *different*
key it is currently reading -/
def wellNestedOk (idx : Nat → Nat) (st : List Nat) (k : Nat) : Bool :=
  st.all (fun j => j == k || idx j != idx k)

/-- lock hierarchy: a nested operation targets a key already being read by the caller or a key
whose index is larger than every index the caller holds -/
def hierOk (idx : Nat → Nat) (st : List Nat) (k : Nat) : Bool :=
  st.contains k || st.all (fun j => idx j < idx k)

def WellNested (idx : Nat → Nat) (prog : List (List Instr)) : Bool := prog.all (segOk (wellNestedOk idx) [])
def Hier (idx : Nat → Nat) (prog : List (List Instr)) : Bool := prog.all (segOk (hierOk idx) [])


/-! ### specification vocabulary: who holds what -/

/-- key on which the current phase of an operation itself holds a read lock -/
def Pc.readKey : Pc → Option Nat
  | .gsChk1 k _ => some k | .gsGet1 k => some k | .gsRelR k _ => some k
  | .gsGet2 k => some k | .gsEnter k _ => some k
  | _ => none

/-- key on which the current phase holds the write lock -/
def Pc.writeKey : Pc → Option Nat
  | .gsChk2 k _ => some k | .gsSwA k => some k | .gsPop k _ => some k | .gsPopW k _ => some k | .gsSwB k _ => some k
  | .gsHRelW k => some k | .rmRemove k _ => some k | .rmRelW k => some k | .rmHRelW k => some k
  | _ => none

/-- all keys on which the caller holds a read lock (operation in flight + entered with-blocks) -/
def Caller.reads (c : Caller) : List Nat := c.pc.readKey.toList ++ c.stack

/-- number of read locks the caller holds on index `i` -/
def Caller.rc (idx : Nat → Nat) (c : Caller) (i : Nat) : Nat := c.reads.countP (fun k => idx k == i)

/-- 1 if the caller holds the write lock of index `i` -/
def Caller.wc (idx : Nat → Nat) (c : Caller) (i : Nat) : Nat :=
  match c.pc.writeKey with
  | some k => if idx k = i then 1 else 0
  | none => 0

def sumBy (f : Caller → Nat) : List Caller → Nat
  | [] => 0
  | c :: cs => f c + sumBy f cs

def St.R (idx : Nat → Nat) (s : St) (i : Nat) : Nat := sumBy (fun c => c.rc idx i) s.cs
def St.W (idx : Nat → Nat) (s : St) (i : Nat) : Nat := sumBy (fun c => c.wc idx i) s.cs


/-! ### what an unlocked `exists()` of a DiskCacher can see -/

/-- some caller is between creating the file of key `k` and closing it -/
def partialWriter (s : St) (k : Nat) : Bool :=
  s.cs.any (fun c => match c.pc with | .gsPopW k' _ => k' == k | _ => false)

/-- `DiskCacher.__contains__` = `exists()`: true for a complete entry and for a half-written file -/
def unlockedSees (s : St) (k : Nat) : Bool := (s.cache k).isSome || partialWriter s k

/-! ### wait-for graph -/

/-- key whose write lock the caller is waiting for -/
def Pc.wantW : Pc → Option Nat
  | .gsAcqW k _ => some k
  | .rmAcqW k _ => some k
  | _ => none

/-- key whose read lock the caller is waiting for -/
def Pc.wantR : Pc → Option Nat
  | .gsAcqR k _ => some k
  | _ => none

/-- caller `i` waits for caller `j`: `i` requests the write lock of an index on which `j` holds a
read or write lock, or `i` requests a read lock on an index whose write lock `j` holds -/
def waitsFor (idx : Nat → Nat) (s : St) (i j : Nat) : Bool :=
  match s.cs[i]?, s.cs[j]? with
  | some c, some d =>
    (match c.pc.wantW with
      | some k => decide (0 < d.rc idx (idx k)) || decide (0 < d.wc idx (idx k))
      | none => false) ||
    (match c.pc.wantR with
      | some k => decide (0 < d.wc idx (idx k))
      | none => false)
  | _, _ => false

/-- a non-empty path in the wait-for graph -/
inductive WaitPath (idx : Nat → Nat) (s : St) : Nat → Nat → Prop
  | one {i j} : waitsFor idx s i j = true → WaitPath idx s i j
  | cons {i j k} : waitsFor idx s i j = true → WaitPath idx s j k → WaitPath idx s i k

def waitEdges (idx : Nat → Nat) (s : St) : List (Nat × Nat) :=
  (List.range s.cs.length).flatMap (fun i => ((List.range s.cs.length).filter (fun j => waitsFor idx s i j)).map (fun j => (i, j)))

/-- facts that hold at particular program counters (the caller holds the matching lock there) -/
def pcOK (cache : Nat → Option Nat) (c : Caller) : Prop :=
  match c.pc with
  | .gsGet1 k => (cache k).isSome
  | .gsRelR k _ => cache k = none
  | .gsAcqW k _ => k ∉ c.stack
  | .rmAcqW k _ => k ∉ c.stack
  | .gsSwA k => (cache k).isSome
  | .gsGet2 k => (cache k).isSome
  | .gsPop k _ => cache k = none
  | .gsPopW k _ => cache k = none
  | .gsSwB k v => cache k = some v
  | .gsEnter k v => cache k = some v
  | .gsHRelR _ => False
  | .gsHRelW k => cache k = none
  | .exRel => c.stack ≠ []
  | .unwind => c.stack ≠ [] ∧ c.cur = []
  | _ => True

/-- `_locks` agrees with what the caller really holds -/
def bookOK (c : Caller) : Prop :=
  ∀ k, c.book k = if c.pc.writeKey = some k then -1 else (c.reads.count k : Int)

/-- the inductive invariant -/
structure Inv (idx : Nat → Nat) (s : St) : Prop where
  /-- `array i = -1` ⇔ exactly one write holder on index `i` and no reader; otherwise `array i` = number of read holds -/
  locks : ∀ i, (s.W idx i = 0 ∧ s.arr i = (s.R idx i : Int)) ∨ (s.W idx i = 1 ∧ s.R idx i = 0 ∧ s.arr i = -1)
  book : ∀ (j : Nat) (c : Caller), s.cs[j]? = some c → bookOK c
  /-- a key inside somebody's with-block is cached -/
  stack : ∀ (j : Nat) (c : Caller), s.cs[j]? = some c → ∀ k ∈ c.stack, (s.cache k).isSome
  pc : ∀ (j : Nat) (c : Caller), s.cs[j]? = some c → pcOK s.cache c

inductive Reachable (idx : Nat → Nat) (progs : List (List (List Instr))) : St → Prop
  | init : Reachable idx progs (init progs)
  | step {s s' i ev} : Reachable idx progs s → step idx s i = some (ev, s') → Reachable idx progs s'

/-- reachable states of the repaired code -/
inductive ReachableR (idx : Nat → Nat) (progs : List (List (List Instr))) : St → Prop
  | init : ReachableR idx progs (initR progs)
  | step {s s' i ev} : ReachableR idx progs s → step idx s i = some (ev, s') → ReachableR idx progs s'

/-- variant: strictly decreases with every step that is not a failed lock guard -/
def Pc.rank : Pc → Nat
  | .idle => 2 | .gsAcqR _ _ => 14 | .gsChk1 _ _ => 13 | .gsGet1 _ => 7 | .gsRelR _ _ => 12
  | .gsAcqW _ _ => 11 | .gsChk2 _ _ => 10 | .gsSwA _ => 8 | .gsGet2 _ => 7 | .gsPop _ _ => 9 | .gsPopW _ _ => 8
  | .gsSwB _ _ => 7 | .gsEnter _ _ => 6 | .gsHRelR _ => 4 | .gsHRelW _ => 3 | .exRel => 1
  | .rmChk _ _ _ => 6 | .rmAcqW _ _ => 5 | .rmRemove _ _ => 4 | .rmRelW _ => 3 | .rmHRelW _ => 3 | .unwind => 2

def restWeight : List (List Instr) → Nat
  | [] => 0
  | seg :: more => 16 * seg.length + 1 + restWeight more

def Caller.measure (c : Caller) : Nat := c.pc.rank + 16 * c.cur.length + restWeight c.rest + 3 * c.stack.length
def St.measure (s : St) : Nat := sumBy Caller.measure s.cs


/-- per-caller form of the lock hierarchy: what `Hier` guarantees at every point of a run -/
def hierC (idx : Nat → Nat) (c : Caller) : Prop :=
  (∀ seg ∈ c.rest, segOk (hierOk idx) [] seg = true) ∧
  match c.pc with
  | .idle => segOk (hierOk idx) c.stack c.cur = true
  | .gsAcqR k _ => hierOk idx c.stack k = true ∧ segOk (hierOk idx) (k :: c.stack) c.cur = true
  | .gsChk1 k _ => hierOk idx c.stack k = true ∧ segOk (hierOk idx) (k :: c.stack) c.cur = true
  | .gsRelR k _ => hierOk idx c.stack k = true ∧ segOk (hierOk idx) (k :: c.stack) c.cur = true
  | .gsAcqW k _ => hierOk idx c.stack k = true ∧ segOk (hierOk idx) (k :: c.stack) c.cur = true
  | .gsChk2 k _ => segOk (hierOk idx) (k :: c.stack) c.cur = true
  | .gsPop k _ => segOk (hierOk idx) (k :: c.stack) c.cur = true
  | .gsPopW k _ => segOk (hierOk idx) (k :: c.stack) c.cur = true
  | .gsGet1 k => segOk (hierOk idx) (k :: c.stack) c.cur = true
  | .gsSwA k => segOk (hierOk idx) (k :: c.stack) c.cur = true
  | .gsGet2 k => segOk (hierOk idx) (k :: c.stack) c.cur = true
  | .gsSwB k _ => segOk (hierOk idx) (k :: c.stack) c.cur = true
  | .gsEnter k _ => segOk (hierOk idx) (k :: c.stack) c.cur = true
  | .exRel => segOk (hierOk idx) c.stack.tail c.cur = true
  | .rmChk k _ _ => hierOk idx c.stack k = true ∧ segOk (hierOk idx) c.stack c.cur = true
  | .rmAcqW k _ => hierOk idx c.stack k = true ∧ segOk (hierOk idx) c.stack c.cur = true
  | .rmRemove _ _ => segOk (hierOk idx) c.stack c.cur = true
  | .rmRelW _ => segOk (hierOk idx) c.stack c.cur = true
  | .gsHRelR _ => True
  | .gsHRelW _ => True
  | .rmHRelW _ => True
  | .unwind => True


/-! ### trace vocabulary for single flight -/

/-- 1 if the event is a completed getter run that populated key `k` -/
def evPop (k : Nat) : Ev → Nat
  | .cpop k' _ => if k' = k then 1 else 0
  | _ => 0

/-- 1 if the event removed the cached entry of key `k` -/
def evRmv (k : Nat) : Ev → Nat
  | .crmv k' true => if k' = k then 1 else 0
  | _ => 0

def popCount (k : Nat) : List (Nat × Ev) → Nat
  | [] => 0
  | e :: t => evPop k e.2 + popCount k t

def rmvCount (k : Nat) : List (Nat × Ev) → Nat
  | [] => 0
  | e :: t => evRmv k e.2 + rmvCount k t

def cachedN (cache : Nat → Option Nat) (k : Nat) : Nat := if (cache k).isSome then 1 else 0


/-! ### provenance of values (complete values) -/

def instrP (P : Nat → Nat → Prop) : Instr → Prop
  | .getSet k (.ok v) => P k v
  | _ => True

def getterP (P : Nat → Nat → Prop) (k : Nat) : Getter → Prop
  | .ok v => P k v
  | .fail => True

/-- every getter result still to be produced by the caller satisfies `P` -/
def provC (P : Nat → Nat → Prop) (c : Caller) : Prop :=
  (∀ ins ∈ c.cur, instrP P ins) ∧ (∀ seg ∈ c.rest, ∀ ins ∈ seg, instrP P ins) ∧
  match c.pc with
  | .gsAcqR k g => getterP P k g
  | .gsChk1 k g => getterP P k g
  | .gsRelR k g => getterP P k g
  | .gsAcqW k g => getterP P k g
  | .gsChk2 k g => getterP P k g
  | .gsPop k g => getterP P k g
  | .gsPopW k g => getterP P k g
  | .gsSwB k v => P k v
  | _ => True

/-! ### DiskCacher.get_set over a file system modelled as a map key ↦ bytes -/

/-- what the getter + gzip writer manage to put on disk -/
inductive Write where
  | complete (bytes : List Nat)           -- the whole entry was written and closed
  | cutAfter (bytes : List Nat)           -- the getter / the write raised after these bytes
  | failBefore                            -- the getter raised before the file was created
  deriving DecidableEq, Repr

inductive DiskOut where
  | value (bytes : List Nat)              -- a reader on these (complete) bytes is returned
  | raised
  deriving DecidableEq, Repr

abbrev Fs := Nat → Option (List Nat)

/-- `DiskCacher.get_set(key, getter)`; `present` files are complete entries or whatever an
earlier crash left behind -/
def diskGetSet (fs : Fs) (key : Nat) (w : Write) : Fs × DiskOut :=
  -- `if key in self and getsize == 0: self.rmv(key)`
  let fs1 : Fs := match fs key with
    | some [] => upd fs key none
    | _ => fs
  match fs1 key with
  | some bytes => (fs1, .value bytes)
  | none =>
    match w with
    | .complete bytes => (upd fs1 key (some bytes), .value bytes)
    | .cutAfter _ => (upd fs1 key none, .raised)     -- except: if key in self: self.rmv(key); raise
    | .failBefore => (fs1, .raised)

/-- `ConcurrentCacher(DiskCacher).get_set(key, getter)` for a single caller: an existing file (of any
length — `DiskCacher.__contains__` is `exists()`) sends ConcurrentCacher down its read path, which calls
`DiskCacher.get_set(key, None)`; for a zero-length file that removes the file, creates it again and
fails on `for line in None` (TypeError), removing it once more.  An absent file takes the write path. -/
def concDiskGetSet (fs : Fs) (key : Nat) (w : Write) : Fs × DiskOut :=
  match fs key with
  | some _ => diskGetSet fs key (.cutAfter [])
  | none => diskGetSet fs key w

/-! ### OpenmlSource.read: permit accounting of the shared download semaphore -/

structure SemTrace where
  acquires : Nat
  releases : Nat
  deriving DecidableEq, Repr

/-- `OpenmlSource.read` with respect to `CobaContext.store['openml_semaphore']`: `hasSem` – a semaphore is
installed; `cached1` – `_source_already_cached()` at the first check; `cached2` – at the re-check after
`acquire()` returned (a peer may have cached everything meanwhile).  The `finally:` of the generator runs
however the read ends (exhausted, raising, abandoned and closed), so the body outcome does not matter. -/
def openmlSem (hasSem cached1 cached2 : Bool) : SemTrace :=
  let needs := hasSem && !cached1
  let early := needs && cached2            -- `openml_semaphore.release()` right after the re-check
  let flag := needs && !cached2            -- `semaphore_acquired = True`, released in `finally`
  { acquires := if needs then 1 else 0, releases := (if early then 1 else 0) + (if flag then 1 else 0) }

/-- one read against a semaphore with `p` free permits: `none` = the reader would have to wait (no permit) -/
def semStep (p : Nat) (r : Bool × Bool × Bool) : Option Nat :=
  let t := openmlSem r.1 r.2.1 r.2.2
  if t.acquires ≤ p then some (p - t.acquires + t.releases) else none

/-- a sequence of reads (data-id or task-id sources alike: the semaphore protocol is the same) one after the other -/
def semRun : Nat → List (Bool × Bool × Bool) → Option Nat
  | p, [] => some p
  | p, r :: rs => match semStep p r with
    | some p' => semRun p' rs
    | none => none

/-! ### Phase 4: the download semaphore (`CobaContext.store['openml_semaphore']`) as an interleaving system -/

/-- one `OpenmlSource.read` as far as the semaphore is concerned -/
structure SRead where
  c1 : Bool     -- `_source_already_cached()` at the first check
  c2 : Bool     -- … at the re-check after `acquire()` returned (a peer may have cached everything meanwhile)
  exc : Bool    -- the download / parse / the consumer raises (any BaseException, GeneratorExit of an abandoned read included)
  deriving DecidableEq, Repr

inductive SPc where
  | idle                  -- between reads
  | want (r : SRead)      -- next: `openml_semaphore.acquire()` (waits while no permit is free)
  | recheck (r : SRead)   -- holds a permit; next: the re-check `_source_already_cached()`
  | inside (r : SRead)    -- `semaphore_acquired = True`: downloading, holds a permit
  | fin (held : Bool)     -- in `finally:`; next: `if semaphore_acquired: openml_semaphore.release()`
  deriving DecidableEq, Repr

inductive SEv where
  | cachedRead | request | acquire | wait | releaseEarly | enterDownload | done | raised | release | noRelease
  deriving DecidableEq, Repr

structure SCaller where
  pc : SPc
  todo : List SRead

structure SSt where
  free : Nat
  cs : List SCaller

def SCaller.terminal (c : SCaller) : Bool := (c.pc == SPc.idle) && c.todo.isEmpty

/-- 1 while the caller holds a permit -/
def SCaller.holds (c : SCaller) : Nat :=
  match c.pc with
  | .recheck _ => 1 | .inside _ => 1 | .fin true => 1 | _ => 0

/-- 1 while the caller is downloading (between `semaphore_acquired = True` and the `finally`) -/
def SCaller.downloading (c : SCaller) : Nat :=
  match c.pc with
  | .inside _ => 1 | _ => 0

def semStepC (free : Nat) (c : SCaller) : Option (SEv × Nat × SCaller) :=
  match c.pc with
  | .idle =>
    match c.todo with
    | [] => none
    | r :: t => if r.c1 then some (.cachedRead, free, { pc := .fin false, todo := t })
                else some (.request, free, { pc := .want r, todo := t })
  | .want r => if 0 < free then some (.acquire, free - 1, { c with pc := .recheck r }) else some (.wait, free, c)
  | .recheck r => if r.c2 then some (.releaseEarly, free + 1, { c with pc := .fin false })
                  else some (.enterDownload, free, { c with pc := .inside r })
  | .inside r => some (if r.exc then .raised else .done, free, { c with pc := .fin true })
  | .fin true => some (.release, free + 1, { c with pc := .idle })
  | .fin false => some (.noRelease, free, { c with pc := .idle })

def sstep (s : SSt) (i : Nat) : Option (SEv × SSt) :=
  match s.cs[i]? with
  | none => none
  | some c =>
    match semStepC s.free c with
    | none => none
    | some (ev, f, c') => some (ev, { free := f, cs := s.cs.set i c' })

def sinit (permits : Nat) (progs : List (List SRead)) : SSt :=
  { free := permits, cs := progs.map (fun p => { pc := .idle, todo := p }) }

inductive SReachable (permits : Nat) (progs : List (List SRead)) : SSt → Prop
  | init : SReachable permits progs (sinit permits progs)
  | step {s s' i ev} : SReachable permits progs s → sstep s i = some (ev, s') → SReachable permits progs s'

def ssum (f : SCaller → Nat) : List SCaller → Nat
  | [] => 0
  | c :: cs => f c + ssum f cs

def SSt.holders (s : SSt) : Nat := ssum SCaller.holds s.cs
def SSt.downloads (s : SSt) : Nat := ssum SCaller.downloading s.cs
def SSt.allTerminal (s : SSt) : Bool := s.cs.all SCaller.terminal

def srun : SSt → List Nat → SSt × List (Nat × SEv)
  | s, [] => (s, [])
  | s, i :: is =>
    match sstep s i with
    | none => srun s is
    | some (ev, s') => let r := srun s' is; (r.1, (i, ev) :: r.2)

def SPc.rank : SPc → Nat
  | .idle => 0 | .want _ => 5 | .recheck _ => 4 | .inside _ => 3 | .fin _ => 1

def SCaller.measure (c : SCaller) : Nat := c.pc.rank + 7 * c.todo.length
def SSt.measure (s : SSt) : Nat := ssum SCaller.measure s.cs

/-! ### Phase 4: the DiskCacher write as several steps inside the scheduled system

`DiskCacher.get_set` writes in place: `gzip.open(path, "wt+")` creates / truncates the file (zero-length on disk
until the first flush), the lines are written one by one, leaving the `with` closes it.  The file-level system
`DSt` pairs the lock-protocol state `St` with the files; on its turn a caller performs its next protocol step
(`DAct.base`) or, while it is the writer of an entry (`gsPopW`), writes one more chunk / closes the file — these
are extra steps of the schedule, so every other caller can run between any two of them. -/

inductive FileSt where
  | absent
  | opened (w : List Nat)     -- created by `gzip.open(…, "wt+")`, not yet closed; `w` = chunks written so far (`[]`: zero-length)
  | closed (w : List Nat)     -- closed (a valid gzip file with this content)
  deriving DecidableEq, Repr

/-- what `DiskCacher.get_set(key, None)` — the read path of ConcurrentCacher — does with the file as it is -/
inductive DiskRead where
  | complete (w : List Nat)      -- a closed file: a reader on its whole content
  | partialSeen (w : List Nat)   -- a file that is still being written is opened: short content / EOFError
  | zeroLength                   -- `getsize == 0`: the reader REMOVES the file under the writer and fails on `for line in None`
  | missing                      -- no file: `for line in None` raises
  deriving DecidableEq, Repr

def diskRead : FileSt → DiskRead
  | .absent => .missing
  | .opened [] => .zeroLength
  | .opened (b :: w) => .partialSeen (b :: w)
  | .closed w => .complete w

structure DSt where
  base : St
  file : Nat → FileSt

inductive DAct where
  | base               -- the caller's next step of the lock protocol / inner-cache call (`step`)
  | chunk (b : Nat)    -- the writer writes one more chunk
  | close              -- the writer leaves `with gzip.open(...)`: the file is closed
  deriving DecidableEq, Repr

inductive DEv where
  | base (ev : Ev) (obs : Option DiskRead)   -- `obs`: what a `cget` found on disk
  | chunk (k b : Nat)
  | close (k : Nat)
  deriving DecidableEq, Repr

/-- a successful getter writes exactly the chunks of its value (`enc v`), in order; a failing one wrote anything before it raised -/
def chunkOk (enc : Nat → List Nat) (g : Getter) (w : List Nat) (b : Nat) : Bool :=
  match g with
  | .ok v => (w ++ [b]).isPrefixOf (enc v)
  | .fail => true

def closeOk (enc : Nat → List Nat) (g : Getter) (w : List Nat) : Bool :=
  match g with
  | .ok v => w == enc v
  | .fail => true

/-- `DiskCacher.get_set` returns (event `cpop`) only after the file was completely written and closed -/
def baseOk (enc : Nat → List Nat) (file : Nat → FileSt) : Ev → Bool
  | .cpop k v => file k == .closed (enc v)
  | _ => true

def fileAfter (file : Nat → FileSt) : Ev → Nat → FileSt
  | .ccreate k => upd file k (.opened [])     -- open + truncate
  | .cpopFail k => upd file k .absent         -- `except: if key in self: self.rmv(key); raise`
  | .crmv k _ => upd file k .absent
  | _ => file

def obsOf (file : Nat → FileSt) : Ev → Option DiskRead
  | .cget k _ => some (diskRead (file k))
  | _ => none

def dstep (enc : Nat → List Nat) (idx : Nat → Nat) (s : DSt) (i : Nat) (a : DAct) : Option (DEv × DSt) :=
  match a with
  | .base =>
    match step idx s.base i with
    | none => none
    | some (ev, b') =>
      if baseOk enc s.file ev then some (.base ev (obsOf s.file ev), { base := b', file := fileAfter s.file ev }) else none
  | .chunk b =>
    match s.base.cs[i]? with
    | none => none
    | some c =>
      match c.pc with
      | .gsPopW k g =>
        match s.file k with
        | .opened w => if chunkOk enc g w b then some (.chunk k b, { s with file := upd s.file k (.opened (w ++ [b])) }) else none
        | _ => none
      | _ => none
  | .close =>
    match s.base.cs[i]? with
    | none => none
    | some c =>
      match c.pc with
      | .gsPopW k g =>
        match s.file k with
        | .opened w => if closeOk enc g w then some (.close k, { s with file := upd s.file k (.closed w) }) else none
        | _ => none
      | _ => none

def dinit (progs : List (List (List Instr))) : DSt := { base := init progs, file := fun _ => .absent }

inductive DReachable (enc : Nat → List Nat) (idx : Nat → Nat) (progs : List (List (List Instr))) : DSt → Prop
  | init : DReachable enc idx progs (dinit progs)
  | step {s s' i a ev} : DReachable enc idx progs s → dstep enc idx s i a = some (ev, s') → DReachable enc idx progs s'

/-- run a schedule of (caller, action) pairs; entries without a step are skipped -/
def drun (enc : Nat → List Nat) (idx : Nat → Nat) : DSt → List (Nat × DAct) → DSt × List (Nat × DEv)
  | s, [] => (s, [])
  | s, (i, a) :: is =>
    match dstep enc idx s i a with
    | none => drun enc idx s is
    | some (ev, s') => let r := drun enc idx s' is; (r.1, (i, ev) :: r.2)

/-- files and inner-cache contents agree: a cached entry's file is closed and complete; a key that is neither
cached nor being written has no file -/
def DInv (enc : Nat → List Nat) (s : DSt) : Prop :=
  ∀ k, (∀ v, s.base.cache k = some v → s.file k = .closed (enc v)) ∧
       (s.base.cache k = none → partialWriter s.base k = false → s.file k = .absent)

/-- what is left to write for caller `i` (successful getter): chunks still missing + the close -/
def writeLeft (enc : Nat → List Nat) (s : DSt) (i : Nat) : Nat :=
  match s.base.cs[i]? with
  | some c =>
    (match c.pc with
     | .gsPopW k (.ok v) => (match s.file k with | .opened w => (enc v).length + 1 - w.length | _ => 0)
     | _ => 0)
  | none => 0

/-- the same two callers WITHOUT ConcurrentCacher (a bare DiskCacher shared by two processes): the reader's
`get_set` runs while the writer's file is open -/
def rawDiskRace (written : List Nat) : DiskRead := diskRead (.opened written)


/-! ### Phase 5: ghost clock — get_set-only programs on collision-free keys have no wait-for cycle

`GSt` instruments `St` with a global clock (one tick per step), the time `tm i` of caller `i`'s latest miss
(`contains _ false`) and the time `tp k` at which key `k` was populated last (`cpop k _`).  The instrumentation only
observes: `gstep` takes exactly the steps of `step` (refinement in both directions, `ghost_refines`).  Without `rmv` a
cached key stays cached, so a caller that waits for the write lock of `k` (it missed `k` at `tm i`) can only be blocked by
a with-block holder that entered `k` after `k` was populated, i.e. after `tm i`; if that holder waits too its own miss is
later still: `tm` strictly increases along wait-for edges between waiting callers. -/

/-- the key the caller missed at its first check and is about to populate (`gsRelR`, `gsAcqW`) -/
def Pc.missKey : Pc → Option Nat
  | .gsRelR k _ => some k | .gsAcqW k _ => some k | _ => none

def evMiss : Ev → Bool
  | .contains _ false => true | _ => false

def evPopKey : Ev → Option Nat
  | .cpop k _ => some k | _ => none

structure GSt where
  base : St
  clock : Nat
  tm : Nat → Nat     -- caller ↦ time of its latest miss
  tp : Nat → Nat     -- key ↦ time of its latest successful populate

def gstep (idx : Nat → Nat) (g : GSt) (i : Nat) : Option (Ev × GSt) :=
  match step idx g.base i with
  | none => none
  | some (ev, s') =>
    some (ev, { base := s', clock := g.clock + 1,
                tm := if evMiss ev then upd g.tm i g.clock else g.tm,
                tp := match evPopKey ev with | some k => upd g.tp k g.clock | none => g.tp })

def ginit (progs : List (List (List Instr))) : GSt :=
  { base := init progs, clock := 0, tm := fun _ => 0, tp := fun _ => 0 }

inductive GReachable (idx : Nat → Nat) (progs : List (List (List Instr))) : GSt → Prop
  | init : GReachable idx progs (ginit progs)
  | step {g g' i ev} : GReachable idx progs g → gstep idx g i = some (ev, g') → GReachable idx progs g'

/-- run a schedule in the instrumented system (entries without a step are skipped, as in `run`) -/
def grun (idx : Nat → Nat) : GSt → List Nat → GSt
  | g, [] => g
  | g, i :: is =>
    match gstep idx g i with
    | none => grun idx g is
    | some (_, g') => grun idx g' is

def Instr.isRmv : Instr → Bool
  | .rmv _ _ _ => true | _ => false

/-- the program uses `get_set` (with-blocks, exits, raising bodies) only -/
def GetSetOnly (prog : List (List Instr)) : Bool := prog.all (fun seg => seg.all (fun ins => !ins.isRmv))

/-- the key an instruction operates on -/
def Instr.key? : Instr → Option Nat
  | .getSet k _ => some k | .rmv k _ _ => some k | _ => none

/-- all keys the programs mention -/
def progKeys (progs : List (List (List Instr))) : List Nat :=
  progs.flatMap (fun p => p.flatMap (fun seg => seg.filterMap Instr.key?))

/-- no two different keys of the programs share a slot of the lock table -/
def CollisionFree (idx : Nat → Nat) (progs : List (List (List Instr))) : Bool :=
  (progKeys progs).all (fun a => (progKeys progs).all (fun b => idx a != idx b || a == b))

/-- the ghost invariant, as a decidable check over the given keys (evaluated by the driver on every replayed run) -/
def GSt.stampsOK (g : GSt) (keys : List Nat) : Bool :=
  keys.all (fun k => match g.base.cache k with | some _ => decide (g.tp k < g.clock) | none => true) &&
  (List.range g.base.cs.length).all (fun j =>
    match g.base.cs[j]? with
    | some c =>
      match c.pc.missKey with
      | some k => decide (g.tm j < g.clock) && c.stack.all (fun k' => decide (g.tp k' < g.tm j)) &&
                  (match g.base.cache k with | some _ => decide (g.tm j < g.tp k) | none => true)
      | none => true
    | none => true)


/-! ### Phase 5: the protocol as the source spells it (compared with `Generated/C19Protocol.lean`, extracted with `ast`) -/

/-- the calls of `ConcurrentCacher` behind one model event, in the translator's call codes: 1 `_acquire_read_lock`, 2 `_release_read_lock`,
3 `_acquire_write_lock`, 4 `_release_write_lock`, 5 `_switch_write_to_read_lock`, 6 `key in …`, 7 `_cache.get_set(key, None)`,
8 `_cache.get_set(key, getter)`, 9 `_has_read_lock`, 10 `_has_write_lock` (the two tests of the `except:` handler, `toHandler`),
11 `_release_read_on_exit`, 12 `return`, 13 `_cache.rmv` -/
def evCalls : Ev → List Nat
  | .acqR _ => [1] | .relR _ => [2] | .acqW _ => [3] | .relW _ => [4] | .sw _ => [5]
  | .contains _ _ => [6] | .cget _ _ => [7] | .ccreate _ => [8] | .cpopFail _ => [9, 10]
  | .enter _ _ => [11, 12] | .crmv _ _ => [13] | .crmvFail _ => [13]
  | _ => []

def callsOf (evs : List (Nat × Ev)) : List Nat := evs.flatMap (fun e => evCalls e.2)

/-- a one-caller state: key 0 cached (value 7) or not -/
def protoSt (cached : Bool) (c : Caller) : St :=
  { arr := fun _ => 0, cache := fun k => if cached && k == 0 then some 7 else none, cs := [c] }

/-- the calls the MODEL makes for one `get_set(0, getter)`: `in1` / `in2` = the entry is cached at the first / second membership test,
`fails` = the getter raises.  Computed by running `step`: from the start of the operation to the first miss, and from the write-lock
request on (another caller may have populated the entry in between, hence the second start state). -/
def modelGetSetPath (in1 in2 fails : Bool) : List Nat :=
  let g := if fails then Getter.fail else Getter.ok 1
  if in1 then callsOf (run id (protoSt true (mkCaller [[.getSet 0 g]])) (List.replicate 6 0)).2
  else callsOf (run id (protoSt false (mkCaller [[.getSet 0 g]])) (List.replicate 5 0)).2 ++
       callsOf (run id (protoSt in2 { pc := .gsAcqW 0 g, cur := [], rest := [], stack := [], book := fun _ => 0, tn := false }) (List.replicate 6 0)).2

/-- the calls the model makes for one `rmv(0)` -/
def modelRmvPath (inSelf fails : Bool) : List Nat :=
  callsOf (run id (protoSt inSelf (mkCaller [[.rmv 0 fails false]])) (List.replicate 6 0)).2

/-- guard of a lock block as extracted: (op, constant), op 0 `==`, 1 `>=`, 2 `>`, 3 `<=`, 4 `<`, 5 `!=` -/
def guardHolds (g : Nat × Int) (x : Int) : Bool :=
  match g.1 with
  | 0 => x == g.2 | 1 => decide (x ≥ g.2) | 2 => decide (x > g.2) | 3 => decide (x ≤ g.2) | 4 => decide (x < g.2) | _ => x != g.2

/-- update of a lock block as extracted: (op, constant), op 0 `=`, 1 `+=`, 2 `-=` -/
def applyUpd (u : Nat × Int) (x : Int) : Int :=
  match u.1 with
  | 0 => u.2 | 1 => x + u.2 | _ => x - u.2

/-- key identity the model assumes (files and lock slots are both indexed by the key itself): the expression that becomes the file
name in `DiskCacher._cache_name` and the one hashed by `ConcurrentCacher._index` -/
def modelCacheNameKeyExpr : String := "key"
def modelCacheNameSuffix : String := ".gz"
def modelIndexKeyExpr : String := "str(key).encode('utf-8')"

/-! ### constants the model assumes (compared with the ones extracted from the source, `Generated/C19Consts.lean`) -/
/-- permits of the `openml_semaphore` CobaMultiprocessor installs -/
def modelPermits : Nat := 3
/-- bytes of the key digest that index the lock table; the table has `256 ^ modelDigestBytes` slots -/
def modelDigestBytes : Nat := 2
def modelSlots : Nat := 65536

/-! ## Phase 6: keys as the code sees them (typed keys)

The transition system indexes the inner cache by a key `k : Nat` and the lock table by `idx k` — it assumes that the lock slot is a
FUNCTION of the entry. The code computes the slot from `str(key)` (`_index`), while the inner cacher identifies entries by the key's own
equality (`==`/`hash` for MemoryCacher's dict; the file name for DiskCacher). `KeyRep` separates the two: `ident` = the entry (equality
class of the key for the inner cacher), `text` = code of `str(key)`; `h` = the 16-bit hash of the text. -/
structure KeyRep where
  ident : Nat
  text  : Nat
  deriving DecidableEq, Repr

/-- the slot `ConcurrentCacher._index` computes for a key -/
def slotOf (h : Nat → Nat) (r : KeyRep) : Nat := h r.text

/-- keys the inner cacher treats as one entry get one lock slot -/
def slotsRespectEq (h : Nat → Nat) (reps : List KeyRep) : Bool :=
  reps.all (fun a => reps.all (fun b => a.ident != b.ident || h a.text == h b.text))

/-- the key→index map of the transition system induced by the keys in use (slot of the first representative of the entry) -/
def idxOf (h : Nat → Nat) (reps : List KeyRep) (k : Nat) : Nat :=
  match reps.find? (fun r => r.ident == k) with
  | some r => h r.text
  | none => 0

/-- the expression by which MemoryCacher identifies an entry of its dict (every subscript and membership test): the key itself — so
`KeyRep.ident` is the key's own equality class (`==`/`hash`) -/
def modelMemoryKeyExpr : String := "key"

end Coba.C19
