/-
Model of `coba/encodings.py` class `InteractionsEncoder` (`__init__`, `encode`, `_pows`,
`_cross`) and the specification it is compared with.  Import-free (core Lean only).

Numbers are exact rationals (`Rat`; the harness compares exactly where every float product is
exact and otherwise with `encodeG fmul53`, at the end of this file).  "Multiplication" is a
parameter: `*` with unit `1` for feature values, `++` with unit
`""` for feature names, and the componentwise product on (name, value) pairs for the sparse
specification.  Nothing below needs algebraic laws: the specification nests products exactly
as the statement reads (a monomial is `v₁·(v₂·(…·1))`, a term is the left-major outer product of
its namespace factors), so the theorems hold for every `mul`/`one`.

Three defects of the unchanged tree are switchable (`Cfg`): the model with all three
switches on (`Cfg.fixed`) mirrors /repo as it is now (fixes/C20-*.diff) and is what the property
theorems are about; with all switches off (`Cfg.current`) it mirrors the unchanged tree.
-/
namespace Coba.C20

/-! ## Specification -/

section Spec
variable {α : Type}

/-- `itertools.combinations_with_replacement(xs, k)`, written structurally: the combinations
that start with the first element (followed by a combination of one degree less over the same
elements), then those that do not use it. -/
def mcStep (prev : List α → List (List α)) : List α → List (List α)
  | [] => []
  | x :: xs => (prev (x :: xs)).map (x :: ·) ++ mcStep prev xs

def multichoose : Nat → List α → List (List α)
  | 0 => fun _ => [[]]
  | k + 1 => mcStep (multichoose k)

/-- product of a combination, nested to the right: `v₁·(v₂·(…·1))` -/
def monoProd (mul : α → α → α) (one : α) : List α → α
  | [] => one
  | v :: r => mul v (monoProd mul one r)

/-- all monomials of degree `k` over `xs`, each unordered combination once, in
`combinations_with_replacement` order -/
def monos (mul : α → α → α) (one : α) (k : Nat) (xs : List α) : List α :=
  (multichoose k xs).map (monoProd mul one)

/-- full outer product, left factor major -/
def outer (mul : α → α → α) (os vs : List α) : List α :=
  os.flatMap (fun o => vs.map (mul o))

/-- outer product of a non-empty list of factors (left to right) -/
def outerAll (mul : α → α → α) : List (List α) → List α
  | [] => []
  | v :: vs => vs.foldl (outer mul) v

/-- ordered de-duplication keeping first occurrences -/
def dedupAdd {β : Type} [DecidableEq β] (t : β) (acc : List β) : List β :=
  if t ∈ acc then acc else acc ++ [t]

def dedupFirst {β : Type} [DecidableEq β] (l : List β) : List β :=
  l.foldl (fun acc t => dedupAdd t acc) []

/-- a term such as `xxa` or `xax` read as namespace factors with multiplicity, namespaces in
order of first occurrence: `[(x,2),(a,1)]` -/
def factors (t : List Char) : List (Char × Nat) :=
  (dedupFirst t).map (fun c => (c, t.count c))

/-- the entries a term contributes, given the features of every namespace -/
def termS (mul : α → α → α) (one : α) (feats : Char → List α) (t : List Char) : List α :=
  outerAll mul ((factors t).map (fun cp => monos mul one cp.2 (feats cp.1)))

/-- all terms, in the order given -/
def termsS (mul : α → α → α) (one : α) (feats : Char → List α) (ts : List (List Char)) : List α :=
  ts.flatMap (termS mul one feats)

end Spec

/-! ## Python helpers -/

/-- `itertools.accumulate` (running sums) -/
def accFrom (acc : Nat) : List Nat → List Nat
  | [] => []
  | d :: ds => (acc + d) :: accFrom (acc + d) ds

def accumulate (l : List Nat) : List Nat := accFrom 0 l

/-- insertion-ordered dict: assigning an existing key keeps its position, replaces its value -/
def dictSet {κ β : Type} [DecidableEq κ] (k : κ) (v : β) : List (κ × β) → List (κ × β)
  | [] => [(k, v)]
  | (k', v') :: r => if k' = k then (k', v) :: r else (k', v') :: dictSet k v r

/-- `dict(pairs)` / a dict comprehension over `pairs` -/
def dictOf {κ β : Type} [DecidableEq κ] (l : List (κ × β)) : List (κ × β) :=
  l.foldl (fun d kv => dictSet kv.1 kv.2 d) []

def dictGet {κ β : Type} [DecidableEq κ] (k : κ) : List (κ × β) → Option β
  | [] => none
  | (k', v) :: r => if k' = k then some v else dictGet k r

inductive Err | keyError | indexError
  deriving DecidableEq, Repr

/-! ## `_pows` -/

section Pows
variable {α : Type}

/-- the unchanged tree: `starts = list(accumulate(starts[:1]+starts[-1:]+starts[1:-1]))` -/
def stepOld (starts : List Nat) : List Nat :=
  accumulate (starts.take 1 ++ starts.drop (starts.length - 1) ++ (starts.drop 1).dropLast)

/-- /repo now: `starts = list(accumulate([1]+[len(terms[d])-s+1 for s in starts[:-1]]))` -/
def stepNew (len : Nat) (starts : List Nat) : List Nat :=
  accumulate (1 :: starts.dropLast.map (fun s => len + 1 - s))

/-- `[v∘t for v,s in zip(values,starts) for t in terms[d][(s-1):]]` -/
def nextTerms (mul : α → α → α) (prev : List α) : List α → List Nat → List α
  | v :: vs, s :: ss => (prev.drop (s - 1)).map (mul v) ++ nextTerms mul prev vs ss
  | _, _ => []

/-- the loop `for d in range(degree)`; returns `terms[1:]` given `terms[0]` and the first `starts` -/
def powsAux (fixed : Bool) (mul : α → α → α) (values : List α) : Nat → List Nat → List α → List (List α)
  | 0, _, _ => []
  | d + 1, starts, last =>
    let nxt := nextTerms mul last values starts
    nxt :: powsAux fixed mul values d (if fixed then stepNew last.length starts else stepOld starts) nxt

/-- `_pows(values, degree)`: `[]` for no values, else `[terms[0], …, terms[degree]]` -/
def pows (fixed : Bool) (mul : α → α → α) (one : α) (values : List α) (degree : Nat) : List (List α) :=
  match values with
  | [] => []
  | _ :: _ => [one] :: powsAux fixed mul values degree (List.replicate values.length 1) [one]

end Pows

/-! ## `_cross` -/

section Cross
variable {α : Type}

/-- `values = [ns_pows[ns][p] for ns,p in cross_pow.items()]` -/
def pickPows (nsPows : Char → List (List α)) : List (Char × Nat) → Except Err (List (List α))
  | [] => .ok []
  | cp :: r =>
    match (nsPows cp.1)[cp.2]? with
    | none => .error .indexError
    | some v =>
      match pickPows nsPows r with
      | .ok vs => .ok (v :: vs)
      | .error e => .error e

/-- `_cross(ns_pows, cross_pow)`; `values[0]` of a term without namespaces raises IndexError -/
def cross (mul : α → α → α) (nsPows : Char → List (List α)) (cp : List (Char × Nat)) : Except Err (List α) :=
  if cp.any (fun kp => (nsPows kp.1).isEmpty) then .ok []
  else
    match pickPows nsPows cp with
    | .error e => .error e
    | .ok [] => .error .indexError
    | .ok (v :: vs) => .ok (vs.foldl (fun cr w => cr.flatMap (fun o => w.map (mul o))) v)

/-- `[cross(pows, cp) for cp in self._cross_pows.values()]`, chained -/
def crossAll (mul : α → α → α) (nsPows : Char → List (List α)) : List (List (Char × Nat)) → Except Err (List α)
  | [] => .ok []
  | cp :: r =>
    match cross mul nsPows cp with
    | .error e => .error e
    | .ok c =>
      match crossAll mul nsPows r with
      | .ok cs => .ok (c ++ cs)
      | .error e => .error e

end Cross

/-! ## `__init__` -/

/-- an entry of the `interactions` argument -/
inductive Inter
  | num (q : Rat)
  | term (t : List Char)
  deriving DecidableEq

structure Cfg where
  /-- `_pows` uses the corrected `starts` recurrence (fixes/C20-pows-starts.diff) -/
  fixPows : Bool
  /-- `_cross_pows` is keyed by the string terms, not by `interactions` (fixes/C20-crosspows-zip.diff) -/
  fixZip : Bool
  /-- a namespace named by a term but not passed to `encode` counts as empty (fixes/C20-absent-namespace.diff) -/
  fixAbsent : Bool
  deriving DecidableEq

def Cfg.fixed : Cfg := ⟨true, true, true⟩
def Cfg.current : Cfg := ⟨false, false, false⟩

def strTerms : List Inter → List (List Char)
  | [] => []
  | .term t :: r => t :: strTerms r
  | .num _ :: r => strTerms r

/-- `self._constant = sum(num_interactions)` -/
def constant : List Inter → Rat
  | [] => 0
  | .num q :: r => q + constant r
  | .term _ :: r => constant r

/-- `Counter(term)`: counts in first-occurrence order -/
def counterAdd (c : Char) : List (Char × Nat) → List (Char × Nat)
  | [] => [(c, 1)]
  | (k, n) :: r => if k = c then (k, n + 1) :: r else (k, n) :: counterAdd c r

def counter (t : List Char) : List (Char × Nat) :=
  t.foldl (fun acc c => counterAdd c acc) []

/-- `zip` truncating at the shorter list -/
def zipT {β γ : Type} : List β → List γ → List (β × γ)
  | b :: bs, c :: cs => (b, c) :: zipT bs cs
  | _, _ => []

/-- `self._cross_pows.values()`.  The unchanged tree (`fixZip = false`):
`OrderedDict(zip(interactions, map(OrderedDict, map(Counter, str_interactions))))` — keyed by the
leading entries of `interactions` (numbers included), so equal keys overwrite each other;
/repo now zips `str_interactions` with the counters. -/
def crossPows (cfg : Cfg) (is : List Inter) : List (List (Char × Nat)) :=
  let keys := if cfg.fixZip then (strTerms is).map Inter.term else is
  (dictOf (zipT keys ((strTerms is).map counter))).map (·.2)

/-- namespaces named by any string term: `set(''.join(str_interactions))` (as an ordered list) -/
def nsNames (is : List Inter) : List Char := dedupFirst (strTerms is).flatten

/-- `max(p.get(n,0) for p in self._cross_pows.values())` -/
def maxPow (cps : List (List (Char × Nat))) (c : Char) : Nat :=
  cps.foldl (fun m cp => max m ((dictGet c cp).getD 0)) 0

/-! ## `encode` -/

inductive Item
  | num (q : Rat)
  | str (s : String)
  deriving DecidableEq

inductive Key
  | str (s : String)
  | int (i : Int)
  deriving DecidableEq

/-- the value passed for one namespace -/
inductive NsVal
  | none
  | scalar (it : Item)
  | dense (its : List Item)
  | sparse (kvs : List (Key × Item))

def Item.isStr : Item → Bool
  | .str _ => true
  | .num _ => false

/-- `is_sparse_type(v) or is_sparse_sequ(v)` -/
def NsVal.isSparse : NsVal → Bool
  | .none => false
  | .scalar it => it.isStr
  | .dense its => its.any Item.isStr
  | .sparse _ => true

/-- f-string rendering of a key -/
def Key.fmt : Key → String
  | .str s => s
  | .int i => toString i

/-- `make_list` on the dense path (`None` was replaced by `[]`).  String items cannot occur on
this path (they make the call sparse); they are skipped to keep the function total. -/
def denseVals : NsVal → List Rat
  | .none => []
  | .scalar (.num q) => [q]
  | .scalar (.str _) => []
  | .dense its => its.filterMap (fun it => match it with | .num q => some q | .str _ => Option.none)
  | .sparse _ => []

/-- `make_dict` -/
def makeDict : NsVal → List (Key × Item)
  | .none => []
  | .scalar it => [(.str "0", it)]
  | .dense its => zipT ((List.range its.length).map (fun i => Key.str (toString i))) its
  | .sparse kvs => kvs

/-- one entry of `handle_str` -/
def handleEntry (kv : Key × Item) : Key × Rat :=
  match kv.2 with
  | .str s => (.str (kv.1.fmt ++ s), 1)
  | .num q => (kv.1, q)

/-- `handle_str(make_dict(V))` followed by `{f"{ns}{k}":v for k,v in V.items()}` -/
def sparseFeats (ns : Char) (v : NsVal) : List (String × Rat) :=
  dictOf ((dictOf ((makeDict v).map handleEntry)).map (fun kv => (String.singleton ns ++ kv.1.fmt, kv.2)))

inductive Out
  | dense (vs : List Rat)
  | sparse (kvs : List (String × Rat))
  deriving DecidableEq

/-- keyword arguments after `None ↦ []` (a no-op here: `denseVals`/`makeDict` treat both alike)
and, with `fixAbsent`, after the named-but-absent namespaces were added as empty -/
def kwargs (cfg : Cfg) (is : List Inter) (kw : List (Char × NsVal)) : List (Char × NsVal) :=
  if cfg.fixAbsent then
    kw ++ ((nsNames is).filter (fun c => (dictGet c kw).isNone)).map (fun c => (c, NsVal.dense []))
  else kw

def nsVal (kw : List (Char × NsVal)) (c : Char) : NsVal := (dictGet c kw).getD .none

def ratMul (a b : Rat) : Rat := a * b
def strMul (a b : String) : String := a ++ b

/-- `InteractionsEncoder(is).encode(**kw)` with the multiplication of feature values as a
parameter (`vmul` = exact arithmetic; a rounding multiplication for the float model) -/
def encodeG (vmul : Rat → Rat → Rat) (cfg : Cfg) (is : List Inter) (kw0 : List (Char × NsVal)) : Except Err Out :=
  let kw := kwargs cfg is kw0
  let cps := crossPows cfg is
  let const := constant is
  -- `ns_values[ns]` for every `ns in self._ns_max_pow` raises KeyError for an absent namespace
  if (nsNames is).any (fun c => (dictGet c kw).isNone) then .error .keyError
  else if kw.any (fun cv => cv.2.isSparse) then
    let feats := fun c => sparseFeats c (nsVal kw c)
    let keyPows := fun c => pows cfg.fixPows strMul "" ((feats c).map (·.1)) (maxPow cps c)
    let valPows := fun c => pows cfg.fixPows vmul 1 ((feats c).map (·.2)) (maxPow cps c)
    match crossAll strMul keyPows cps, crossAll vmul valPows cps with
    | .ok ks, .ok vs =>
      let enc := dictOf (zipT ks vs)
      .ok (.sparse (if const ≠ 0 then dictSet "const" const enc else enc))
    | .error e, _ => .error e
    | _, .error e => .error e
  else
    let valPows := fun c => pows cfg.fixPows vmul 1 (denseVals (nsVal kw c)) (maxPow cps c)
    match crossAll vmul valPows cps with
    | .ok vs => .ok (.dense (if const ≠ 0 then const :: vs else vs))
    | .error e => .error e

/-- `InteractionsEncoder(is).encode(**kw)` over exact arithmetic -/
def encode (cfg : Cfg) (is : List Inter) (kw0 : List (Char × NsVal)) : Except Err Out :=
  encodeG ratMul cfg is kw0

/-! ## Specification of `encode` -/

/-- the features of a namespace on dense inputs: a scalar is a vector of length one;
`None`, `[]` and an absent namespace are vectors of length zero -/
def featsDense (kw : List (Char × NsVal)) (c : Char) : List Rat := denseVals (nsVal kw c)

/-- the named features of a namespace on sparse / string-valued inputs -/
def featsSparse (kw : List (Char × NsVal)) (c : Char) : List (String × Rat) := sparseFeats c (nsVal kw c)

def pairMulG (vmul : Rat → Rat → Rat) (a b : String × Rat) : String × Rat := (a.1 ++ b.1, vmul a.2 b.2)
def pairMul (a b : String × Rat) : String × Rat := (a.1 ++ b.1, a.2 * b.2)
def pairOne : String × Rat := ("", 1)

def isSparseCall (kw : List (Char × NsVal)) : Bool := kw.any (fun cv => cv.2.isSparse)

/-- the specification with the value multiplication as a parameter -/
def encodeSG (vmul : Rat → Rat → Rat) (is : List Inter) (kw : List (Char × NsVal)) : Out :=
  let ts := dedupFirst (strTerms is)
  let const := constant is
  if isSparseCall kw then
    let enc := dictOf (termsS (pairMulG vmul) pairOne (featsSparse kw) ts)
    .sparse (if const ≠ 0 then dictSet "const" const enc else enc)
  else
    let vs := termsS vmul 1 (featsDense kw) ts
    .dense (if const ≠ 0 then const :: vs else vs)

/-- what the property demands of `encode`: the constant first (when non-zero), then for every
distinct term in the order given the outer product of the monomials of its namespaces; as a
vector for dense inputs, as a mapping from the concatenated feature names to the products for
sparse inputs -/
def encodeS (is : List Inter) (kw : List (Char × NsVal)) : Out :=
  let ts := dedupFirst (strTerms is)
  let const := constant is
  if isSparseCall kw then
    let enc := dictOf (termsS pairMul pairOne (featsSparse kw) ts)
    .sparse (if const ≠ 0 then dictSet "const" const enc else enc)
  else
    let vs := termsS ratMul 1 (featsDense kw) ts
    .dense (if const ≠ 0 then const :: vs else vs)

/-- the binomial coefficient `C(n, k)` -/
def chooseNat : Nat → Nat → Nat
  | _, 0 => 1
  | 0, _ + 1 => 0
  | n + 1, k + 1 => chooseNat n k + chooseNat n (k + 1)

def termLen (feats : Char → Nat) (t : List Char) : Nat :=
  ((factors t).map (fun cp => chooseNat (feats cp.1 + cp.2 - 1) cp.2)).foldl (· * ·) 1

/-- number of entries the dense encoding must have: one for a non-zero constant plus, per distinct
term, the product over its namespaces of `C(n + p - 1, p)` (`n` features, power `p`) -/
def encodeLen (is : List Inter) (kw : List (Char × NsVal)) : Nat :=
  (if constant is ≠ 0 then 1 else 0)
    + ((dedupFirst (strTerms is)).map (termLen (fun c => (featsDense kw c).length))).foldl (· + ·) 0

/-- a history of `encode` calls on one encoder object: the object keeps nothing between calls
(`self.n`, `self.times` are counters that no result depends on), so the results are the
call-by-call results -/
def encodeHistory (cfg : Cfg) (is : List Inter) (calls : List (List (Char × NsVal))) : List (Except Err Out) :=
  calls.map (encode cfg is)

/-! ## Callers (`coba/learners/linucb.py`, `lints.py`, `coba/environments/synthetics.py`) -/

/-- Python truthiness of an entry of a feature list (`filter(None, …)`) -/
def Inter.truthy : Inter → Bool
  | .num q => decide (q ≠ 0)
  | .term t => !t.isEmpty

/-- `f.replace(c,'') if isinstance(f,str) else f` -/
def Inter.dropNs (c : Char) : Inter → Inter
  | .term t => .term (t.filter (· != c))
  | .num q => .num q

/-- the term list LinUCB / LinTS hand to `InteractionsEncoder`: the `features` argument itself, or — when
the first context is empty — `list(dict.fromkeys(filter(None,[f.replace('x','') …])))` (first-occurrence
order, as here; `list(set(…))` on the unchanged tree, C20-F6) -/
def learnerTerms (hasContext : Bool) (fs : List Inter) : List Inter :=
  if hasContext then fs else dedupFirst ((fs.map (Inter.dropNs 'x')).filter Inter.truthy)

/-- the term list `LinearSyntheticSimulation.read` hands to `InteractionsEncoder`:
`sorted(set(filter(None,[f.replace(replace,'') …])), key=index)` -/
def syntheticTerms (nCtx nAct : Nat) (fs : List (List Char)) : List Inter :=
  let fs1 := if nCtx = 0 then fs.map (·.filter (· != 'x'))
             else if nAct = 0 then fs.map (·.filter (· != 'a')) else fs
  (dedupFirst (fs1.filter (fun t => !t.isEmpty))).map Inter.term

/-- what `encode_eq_spec` needs of a term list (every term names a namespace), plus: only the
namespaces the callers pass (`x`, `a`) are named -/
def wellformedTerms (is : List Inter) : Bool :=
  (strTerms is).all (fun t => !t.isEmpty && t.all (fun c => c == 'x' || c == 'a'))

/-! ## Argument shapes of the entry points (`features=` / `reward_features=`) -/

/-- what a caller may pass as the term argument -/
inductive Shape
  | str (t : List Char)
  | list (ts : List Inter)
  | tuple (ts : List Inter)
  deriving DecidableEq

/-- how an entry point treats the argument before handing it on (extracted from the source) -/
inductive Norm
  | asIs      -- passed on unchanged
  | wrapStr   -- `if isinstance(p,str): p = [p]`
  | listOf    -- `list(p)`
  | tupleOf   -- `tuple(p)`
  deriving DecidableEq

/-- iterating a Python str yields its characters -/
def charsOf (t : List Char) : List Inter := t.map (fun c => Inter.term [c])

def Norm.step : Norm → Shape → Shape
  | .asIs, s => s
  | .wrapStr, .str t => .list [.term t]
  | .wrapStr, s => s
  | .listOf, .str t => .list (charsOf t)
  | .listOf, .list ts => .list ts
  | .listOf, .tuple ts => .list ts
  | .tupleOf, .str t => .tuple (charsOf t)
  | .tupleOf, .list ts => .tuple ts
  | .tupleOf, .tuple ts => .tuple ts

/-- what `InteractionsEncoder(p)` sees when it iterates its argument -/
def Shape.iterate : Shape → List Inter
  | .str t => charsOf t
  | .list ts => ts
  | .tuple ts => ts

/-- the term list the caller means: a bare str is ONE term -/
def Shape.meaning : Shape → List Inter
  | .str t => [.term t]
  | .list ts => ts
  | .tuple ts => ts

/-- the entry points' treatments in call order, then the encoder's iteration -/
def normalise (ns : List Norm) (s : Shape) : List Inter :=
  (ns.foldl (fun s n => n.step s) s).iterate

/-! ## LinUCB linear algebra over ℚ (coba/learners/linucb.py `_pmf`, `learn`) -/

/-- dot product (`u @ v`) -/
def dotQ (u v : List Rat) : Rat := (List.zipWith (· * ·) u v).sum
/-- matrix (rows) times vector (`M @ f`) -/
def matVecQ (M : List (List Rat)) (f : List Rat) : List Rat := M.map (fun row => dotQ row f)
/-- `np.identity(d)` -/
def identityQ (d : Nat) : List (List Rat) :=
  (List.range d).map (fun i => (List.range d).map (fun j => if i = j then 1 else 0))

/-- the learner's state: `_theta`, `_A_inv` -/
structure LinState where
  theta : List Rat
  ainv : List (List Rat)

/-- `_initialize`: θ = zeros(d), A⁻¹ = identity(d) -/
def LinState.init (d : Nat) : LinState := ⟨List.replicate d 0, identityQ d⟩

/-- learn: r = θ·f, w = A⁻¹f, v = w·f, A⁻¹ := A⁻¹ − wwᵀ/(1+v), θ := θ + (reward−r)/(1+v)·w
(linucb.py `learn`) -/
def LinState.learn (s : LinState) (f : List Rat) (reward : Rat) : LinState :=
  let r := dotQ s.theta f
  let w := matVecQ s.ainv f
  let v := dotQ w f
  ⟨List.zipWith (fun t wi => t + (reward - r) / (1 + v) * wi) s.theta w,
   List.zipWith (fun row wi => List.zipWith (fun a wj => a - wi * wj / (1 + v)) row w) s.ainv w⟩

/-- `_pmf`: per action feature vector f: (θ·f , fᵀA⁻¹f) -/
def LinState.score (s : LinState) (f : List Rat) : Rat × Rat :=
  (dotQ s.theta f, dotQ (matVecQ s.ainv f) f)

/-- one call on the learner: `learn` with the chosen action's features, or `_pmf` with every action's -/
inductive LinEvent
  | learn (f : List Rat) (reward : Rat)
  | predict (fs : List (List Rat))

/-- the scores of every predict event in order, and the final state -/
def linRun (s : LinState) : List LinEvent → List (List (Rat × Rat)) × LinState
  | [] => ([], s)
  | .learn f r :: es => linRun (s.learn f r) es
  | .predict fs :: es => (fs.map s.score :: (linRun s es).1, (linRun s es).2)

/-- lay a vector out in another order: position k holds the old position `p[k]` -/
def permV (p : List Nat) (v : List Rat) : List Rat := p.map (fun i => v.getD i 0)
/-- the same re-ordering of rows and columns -/
def permM (p : List Nat) (M : List (List Rat)) : List (List Rat) :=
  p.map (fun i => permV p (M.getD i []))
def LinState.perm (p : List Nat) (s : LinState) : LinState := ⟨permV p s.theta, permM p s.ainv⟩
def LinEvent.perm (p : List Nat) : LinEvent → LinEvent
  | .learn f r => .learn (permV p f) r
  | .predict fs => .predict (fs.map (permV p))

/-- dimensions agree: θ has n entries, A⁻¹ is n×n -/
def LinState.WF (n : Nat) (s : LinState) : Prop :=
  s.theta.length = n ∧ s.ainv.length = n ∧ ∀ row ∈ s.ainv, row.length = n
/-- every feature vector of the event has n entries -/
def LinEvent.WF (n : Nat) : LinEvent → Prop
  | .learn f _ => f.length = n
  | .predict fs => ∀ f ∈ fs, f.length = n

/-! ## Phase 4: an explicit model of IEEE double rounding (round-to-nearest-even to 53 significant bits over ℚ,
exponent range unbounded). `ExactOn fmul53` is PROVED in Lemmas (`exactOn_fmul53`) and the whole function is compared
with CPython's double multiplication step by step through the driver op "fl53". -/

/-- `2^e` for an integer exponent -/
def pow2 (e : Int) : Rat := if 0 ≤ e then (2 : Rat) ^ e.toNat else 1 / (2 : Rat) ^ (-e).toNat

/-- nearest integer to `s ≥ 0`, ties to the even neighbour (`s = num/den` in lowest terms: an integer has
`den = 1`, remainder 0 and is returned as it is) -/
def roundHalfEven (s : Rat) : Nat :=
  let n := s.num.natAbs
  let quo := n / s.den
  let rem := n % s.den
  if 2 * rem < s.den then quo
  else if s.den < 2 * rem then quo + 1
  else if quo % 2 = 0 then quo else quo + 1

/-- the exponent `e` with `2^(prec-1) ≤ a / 2^e < 2^prec` for `a > 0`: first guess from the bit lengths of numerator
and denominator (it is right or one too small), corrected by one comparison -/
def expo (prec : Nat) (a : Rat) : Int :=
  let e0 : Int := (a.num.natAbs.log2 : Int) - (a.den.log2 : Int) - (prec : Int)
  if a * pow2 (-e0) < (2 : Rat) ^ prec then e0 else e0 + 1

/-- round-to-nearest, ties-to-even, to `prec` significant bits; the exponent range is unbounded (no under/overflow) -/
def roundSig (prec : Nat) (q : Rat) : Rat :=
  if q = 0 then 0 else
  let a : Rat := if q < 0 then -q else q
  let e := expo prec a
  let r : Rat := (roundHalfEven (a * pow2 (-e)) : Rat) * pow2 e
  if q < 0 then -r else r

/-- rounding to IEEE double precision (53 significant bits) -/
def fl53 (q : Rat) : Rat := roundSig 53 q

/-- IEEE double multiplication away from under/overflow: the exact product, rounded -/
def fmul53 (a b : Rat) : Rat := fl53 (a * b)

/-! ## Phase 4: the named monomials of a sparse call and when two of them collide -/

/-- the named monomials of a sparse call, in order, BEFORE they are put into the mapping: for every distinct
term the (concatenated name, product) pairs of its monomials, then the constant entry when non-zero
(`encodeS` on the sparse path is `dictOf` of exactly this list: `encode_sparse_eq_dictOf_monos`) -/
def sparseMonos (is : List Inter) (kw : List (Char × NsVal)) : List (String × Rat) :=
  termsS pairMul pairOne (featsSparse kw) (dedupFirst (strTerms is))
    ++ (if constant is ≠ 0 then [("const", constant is)] else [])

/-- two different positions of a list carry the same element -/
def hasDup {β : Type} [DecidableEq β] : List β → Bool
  | [] => false
  | x :: r => r.contains x || hasDup r

/-- two different monomials of the call (or a monomial and the constant) carry the same name -/
def collides (is : List Inter) (kw : List (Char × NsVal)) : Bool :=
  hasDup ((sparseMonos is kw).map (·.1))

/-! ## Phase 4: translator target for the `learn` bodies of linucb.py / lints.py -/

/-! translator target: the body of `learn` (linucb.py / lints.py) as a tiny straight-line program over numpy-like values -/
inductive LVal
  | s (q : Rat) | v (xs : List Rat) | m (rows : List (List Rat)) | bad

inductive LExp
  | theta | ainv | feat | reward | var (i : Nat) | one
  | matmul (a b : LExp) | outer (a b : LExp)
  | add (a b : LExp) | sub (a b : LExp) | mul (a b : LExp) | div (a b : LExp)

inductive LStmt
  | assign (i : Nat) (e : LExp) | setTheta (e : LExp) | setAinv (e : LExp)

/-- `@` on 1-D / 2-D arrays as used in `learn` -/
def LVal.matmul : LVal → LVal → LVal
  | .v a, .v b => .s (dotQ a b)
  | .m a, .v b => .v (matVecQ a b)
  | _, _ => .bad

/-- `np.outer` -/
def LVal.outer : LVal → LVal → LVal
  | .v a, .v b => .m (a.map (fun x => b.map (fun y => x * y)))
  | _, _ => .bad

/-- elementwise arithmetic with scalar broadcasting -/
def LVal.arith (op : Rat → Rat → Rat) : LVal → LVal → LVal
  | .s a, .s b => .s (op a b)
  | .v a, .v b => .v (List.zipWith op a b)
  | .m a, .m b => .m (List.zipWith (List.zipWith op) a b)
  | .s a, .v b => .v (b.map (fun x => op a x))
  | .v a, .s b => .v (a.map (fun x => op x b))
  | .m a, .s b => .m (a.map (fun row => row.map (fun x => op x b)))
  | .s a, .m b => .m (b.map (fun row => row.map (fun x => op a x)))
  | _, _ => .bad

def LExp.eval (st : LinState) (f : List Rat) (r : Rat) (env : List LVal) : LExp → LVal
  | .theta => .v st.theta
  | .ainv => .m st.ainv
  | .feat => .v f
  | .reward => .s r
  | .var i => env.getD i .bad
  | .one => .s 1
  | .matmul a b => (a.eval st f r env).matmul (b.eval st f r env)
  | .outer a b => (a.eval st f r env).outer (b.eval st f r env)
  | .add a b => LVal.arith (· + ·) (a.eval st f r env) (b.eval st f r env)
  | .sub a b => LVal.arith (· - ·) (a.eval st f r env) (b.eval st f r env)
  | .mul a b => LVal.arith (· * ·) (a.eval st f r env) (b.eval st f r env)
  | .div a b => LVal.arith (· / ·) (a.eval st f r env) (b.eval st f r env)

/-- run the statements in order; local `i` must be the next free slot; `self._theta` / `self._A_inv` reads see earlier writes -/
def runLearn : List LStmt → LinState → List Rat → Rat → List LVal → Option LinState
  | [], st, _, _, _ => some st
  | .assign i e :: ps, st, f, r, env =>
      if i = env.length then runLearn ps st f r (env ++ [e.eval st f r env]) else none
  | .setTheta e :: ps, st, f, r, env =>
      match e.eval st f r env with
      | .v t => runLearn ps ⟨t, st.ainv⟩ f r env
      | _ => none
  | .setAinv e :: ps, st, f, r, env =>
      match e.eval st f r env with
      | .m a => runLearn ps ⟨st.theta, a⟩ f r env
      | _ => none

/-- what the straight-line program of `learn` evaluates to, literally (numpy operation by numpy operation) -/
def LinState.learnAlt (s : LinState) (f : List Rat) (reward : Rat) : LinState :=
  let r := dotQ s.theta f
  let w := matVecQ s.ainv f
  let v := dotQ w f
  ⟨List.zipWith (· + ·) s.theta (w.map (fun x => (reward - r) / (1 + v) * x)),
   List.zipWith (List.zipWith (· - ·)) s.ainv
     ((w.map (fun x => w.map (fun y => x * y))).map (fun row => row.map (fun x => x / (1 + v))))⟩

/-- a history run with a `learn` PROGRAM (the translator's reading of the source) in place of `LinState.learn` -/
def linRunProg (prog : List LStmt) (s : LinState) : List LinEvent → Option LinState
  | [] => some s
  | .learn f r :: es =>
      match runLearn prog s f r [] with
      | some s' => linRunProg prog s' es
      | none => none
  | .predict _ :: es => linRunProg prog s es

/-! ## Phase 5: translator target for `_pmf` (linucb.py; lints.py with `v = 0`): the assignments after the feature
matrix is built as a straight-line program over numpy-like values, then the selection
`np.where(vals == np.amax(vals))[0]` / `[int(ind in max_indexes)/len(max_indexes) for ind in range(len(actions))]` -/

/-- the largest entry (`np.amax`); 0 for the empty list (numpy raises there; `_pmf` is never called without actions) -/
def maxQ : List Rat → Rat
  | [] => 0
  | x :: r => r.foldl max x

/-- `_pmf`'s last two lines, literally: `max_indexes = np.where(vals == top)[0]`, then
`[int(ind in max_indexes)/len(max_indexes) for ind in range(len(actions))]` -/
def selectEq (vals : List Rat) (top : Rat) : List Rat :=
  vals.map (fun v => if v = top then 1 / ((vals.countP (fun w => w = top) : Nat) : Rat) else 0)

/-- … with `top = np.amax(vals)`: probability `1/#maximisers` on every maximiser of `vals`, 0 elsewhere -/
def pmfOfValues (vals : List Rat) : List Rat := selectEq vals (maxQ vals)

/-- `_pmf` of LinUCB: action value = θ·f + α·√(fᵀA⁻¹f) (the square root is a parameter: ℚ has none; the harness
supplies CPython's `math.sqrt` on the bounds that occur), then the uniform distribution on the maximisers -/
def LinState.pmf (sq : Rat → Rat) (alpha : Rat) (s : LinState) (fs : List (List Rat)) : List Rat :=
  pmfOfValues (fs.map (fun f => (s.score f).1 + alpha * sq (s.score f).2))

/-- `_pmf` of LinTS with `v = 0`, literally: `np.where(est.round(5) == np.amax(est).round(5))`, est = μ̂·f per action
(the rounding is a parameter like `sq`; for a monotone rounding this is `pmfOfValues` of the rounded estimates:
`pmfTS_eq_pmfOfValues`) -/
def LinState.pmfTS (rnd : Rat → Rat) (s : LinState) (fs : List (List Rat)) : List Rat :=
  selectEq (fs.map (fun f => rnd (s.score f).1)) (rnd (maxQ (fs.map (fun f => (s.score f).1))))

inductive PVal
  | s (q : Rat) | v (xs : List Rat) | m (rows : List (List Rat)) | cols (fs : List (List Rat)) | bad

/-- `feats` is the d×K matrix whose columns are the actions' encodings (`np.array([...]).T` in linucb.py,
`features.T` in lints.py); `fn1` is the unary numpy function of the program (`np.sqrt` / `.round(5)`) -/
inductive PExp
  | theta | ainv | feats | alpha | var (i : Nat)
  | matmul (a b : PExp) | einsumCols (a b : PExp) | fn1 (a : PExp) | amax (a : PExp)
  | add (a b : PExp) | mul (a b : PExp)

/-- `@`: vector @ (d×K) = the K dot products; (d×d) @ (d×K) = the K matrix-vector products -/
def PVal.matmul : PVal → PVal → PVal
  | .v a, .cols fs => .v (fs.map (dotQ a))
  | .m a, .cols fs => .cols (fs.map (matVecQ a))
  | _, _ => .bad

/-- `np.einsum('ij,ij->j', X, Y)`: column by column dot products -/
def PVal.einsumCols : PVal → PVal → PVal
  | .cols x, .cols y => .v (List.zipWith dotQ x y)
  | _, _ => .bad

def PVal.fn1 (g : Rat → Rat) : PVal → PVal
  | .s a => .s (g a)
  | .v a => .v (a.map g)
  | _ => .bad

def PVal.arith (op : Rat → Rat → Rat) : PVal → PVal → PVal
  | .s a, .s b => .s (op a b)
  | .v a, .v b => .v (List.zipWith op a b)
  | .s a, .v b => .v (b.map (fun x => op a x))
  | .v a, .s b => .v (a.map (fun x => op x b))
  | _, _ => .bad

/-- `np.amax` of a vector -/
def PVal.amax : PVal → PVal
  | .v a => .s (maxQ a)
  | _ => .bad

def PExp.eval (g : Rat → Rat) (st : LinState) (fs : List (List Rat)) (alpha : Rat) (env : List PVal) : PExp → PVal
  | .theta => .v st.theta
  | .ainv => .m st.ainv
  | .feats => .cols fs
  | .alpha => .s alpha
  | .var i => env.getD i .bad
  | .matmul a b => (a.eval g st fs alpha env).matmul (b.eval g st fs alpha env)
  | .einsumCols a b => (a.eval g st fs alpha env).einsumCols (b.eval g st fs alpha env)
  | .fn1 a => (a.eval g st fs alpha env).fn1 g
  | .amax a => (a.eval g st fs alpha env).amax
  | .add a b => PVal.arith (· + ·) (a.eval g st fs alpha env) (b.eval g st fs alpha env)
  | .mul a b => PVal.arith (· * ·) (a.eval g st fs alpha env) (b.eval g st fs alpha env)

/-- the locals in order of assignment -/
def runAssigns (g : Rat → Rat) (st : LinState) (fs : List (List Rat)) (alpha : Rat) : List PExp → List PVal → List PVal
  | [], env => env
  | e :: ps, env => runAssigns g st fs alpha ps (env ++ [e.eval g st fs alpha env])

/-- the whole body: the assignments, then the selection `np.where(lhs == top)[0]` and the returned comprehension
(LinUCB: `lhs` = the local holding the action values, `top` = `np.amax` of it; LinTS: `lhs` = estimates`.round(5)`,
`top` = `np.amax(estimates).round(5)`) -/
def runPredict (g : Rat → Rat) (prog : List PExp) (lhs top : PExp) (st : LinState) (fs : List (List Rat)) (alpha : Rat) :
    Option (List Rat) :=
  let env := runAssigns g st fs alpha prog []
  match lhs.eval g st fs alpha env, top.eval g st fs alpha env with
  | .v vals, .s t => some (selectEq vals t)
  | _, _ => none

/-- the prediction of every `predict` event of a history, `run` being how one prediction is computed from the state -/
def linRunPredict (run : LinState → List (List Rat) → Option (List Rat)) (s : LinState) : List LinEvent → List (Option (List Rat))
  | [] => []
  | .learn f r :: es => linRunPredict run (s.learn f r) es
  | .predict fs :: es => run s fs :: linRunPredict run s es

/-- a finite table as a function (the harness sends CPython's `math.sqrt` / `round(·,5)` on the arguments that occur) -/
def tableFn (tab : List (Rat × Rat)) (x : Rat) : Rat :=
  match tab.find? (fun p => p.1 = x) with
  | some p => p.2
  | none => 0

/-! ## Phase 5: the equal-length no-collision condition for a whole call (decidable on the inputs) -/

/-- the letters of a term regrouped by namespace in order of first occurrence (`xax ↦ xxa`): two terms with the same
regrouping have the same factors, hence the same monomials -/
def canonTerm (t : List Char) : List Char := (factors t).flatMap (fun kp => List.replicate kp.2 kp.1)

/-- the length of the first feature name of the first namespace (named by a term) that has one; 0 when there is none -/
def callL (is : List Inter) (kw : List (Char × NsVal)) : Nat :=
  match ((strTerms is).flatten.flatMap (fun c => (featsSparse kw c).map (fun p => p.1.length))) with
  | [] => 0
  | l :: _ => l

/-- checkable sufficient condition for a collision-free sparse call: every feature name of every namespace named by a
term has length `L ≥ 1`, no two terms are the same up to regrouping of their letters, and the constant entry (`const`,
5 characters) is absent or `L ∤ 5` -/
def equalLenOK (L : Nat) (is : List Inter) (kw : List (Char × NsVal)) : Bool :=
  decide (1 ≤ L)
  && (strTerms is).all (fun t => t.all (fun c => (featsSparse kw c).all (fun p => p.1.length == L)))
  && !hasDup ((dedupFirst (strTerms is)).map canonTerm)
  && (decide (constant is = 0) || decide (5 % L ≠ 0))

/-! ## Phase 6: ownership histories — what the CALLER does with the objects it shares with one encoder

`__init__` builds its own lists from the term list it is given (`str_interactions`, `num_interactions` are
comprehensions; `_cross_pows`, `_ns_max_pow`, `_constant` are computed from them), and every `encode` call returns a
newly built list / dict (`sum(val_crosses,[])`, `[const] + …`, `dict(zip(…))`). So nothing the caller does to the term
list it passed, to the arguments it passed, or to a result it was handed can reach the encoder. The model makes the
sharing explicit: `OwnCfg.copyTerms = false` is an encoder that KEEPS the caller's list (reads it at call time). -/

/-- one step of the caller around one encoder object -/
inductive OwnOp where
  /-- `enc.encode(**kw)`; the result is handed to the caller (a new slot of `OwnState.results`) -/
  | encode (kw : List (Char × NsVal))
  /-- the caller overwrites the result it was handed by call number `slot` -/
  | editResult (slot : Nat) (o : Out)
  /-- the caller changes, in place, the list it passed to the constructor -/
  | editTerms (is : List Inter)

structure OwnCfg where
  /-- the constructor builds its own lists (the code does) -/
  copyTerms : Bool

structure OwnState where
  /-- the encoder's own term lists, built by the constructor -/
  encTerms : List Inter
  /-- the caller's list object (the one it passed to the constructor) -/
  callerTerms : List Inter
  /-- the results the caller holds, in the order of the calls -/
  results : List (Except Err Out)

def OwnState.init (is : List Inter) : OwnState := ⟨is, is, []⟩

/-- the terms an `encode` call reads -/
def OwnState.termsRead (oc : OwnCfg) (s : OwnState) : List Inter :=
  if oc.copyTerms then s.encTerms else s.callerTerms

/-- one step: the new state and, for an `encode` step, the value returned -/
def OwnState.step (oc : OwnCfg) (cfg : Cfg) (s : OwnState) : OwnOp → OwnState × Option (Except Err Out)
  | .encode kw =>
    let r := encode cfg (s.termsRead oc) kw
    ({ s with results := s.results ++ [r] }, some r)
  | .editResult k o => ({ s with results := s.results.set k (.ok o) }, none)
  | .editTerms is => ({ s with callerTerms := is }, none)

/-- a whole history from a given state: the values RETURNED by the `encode` steps, in order, and the final state -/
def ownRunFrom (oc : OwnCfg) (cfg : Cfg) : OwnState → List OwnOp → List (Except Err Out) × OwnState
  | s, [] => ([], s)
  | s, op :: ops =>
    let (s', r) := s.step oc cfg op
    let (rs, sf) := ownRunFrom oc cfg s' ops
    (match r with | some x => x :: rs | none => rs, sf)

def ownRun (oc : OwnCfg) (cfg : Cfg) (is : List Inter) (ops : List OwnOp) : List (Except Err Out) × OwnState :=
  ownRunFrom oc cfg (OwnState.init is) ops

/-- the keyword arguments of the `encode` steps of a history, in order -/
def ownCalls : List OwnOp → List (List (Char × NsVal))
  | [] => []
  | .encode kw :: ops => kw :: ownCalls ops
  | _ :: ops => ownCalls ops

/-- the code as it is: the constructor copies -/
def OwnCfg.code : OwnCfg := ⟨true⟩

end Coba.C20
