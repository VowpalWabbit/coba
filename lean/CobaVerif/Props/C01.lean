/-
C01 — Experiment results do not depend on execution configuration.
The property theorems (model: Model/C01.lean; lemmas: Lemmas/C01.lean and the modules it imports; for the sections on
SequentialCB and RejectionCB, Lemmas/C01Evaluators.lean).

`run c cfg picks seed ts` is the model of `Experiment(ts).run(processes, maxchunksperchild,
maxtasksperchunk, seed)`: MakeTasks → ChunkTasks → ProcessTasks per chunk (in-process on the
caller's objects, or per chunk on a fresh copy of the pristine objects with the record streams
interleaved by the schedule `picks`) → TransactionResult.  `resultS c seed ts` is the spec.
All theorems hold for every component family `c` (arbitrary deterministic params / evaluation
functions, raising or not), every triple list, every configuration and every schedule.
-/
import CobaVerif.Lemmas.C01
import CobaVerif.Lemmas.C01Evaluators
import CobaVerif.Generated.C01Config
import CobaVerif.Generated.C01Seeds
import CobaVerif.Generated.C01Rej

namespace Coba.C01

variable {S P Row : Type}

/-- ids are assigned by first appearance and do not depend on the configuration -/
theorem ids_config_independent (c : Comps S P Row) (cfg : Cfg) (ts : List Triple) :
    ∀ ch ∈ chunksOf c cfg ts, ∀ t ∈ ch,
      match t with
      | .env i e => i = idOf (envsOf ts) e
      | .lrn i l => i = idOf (lrnsOf ts) l
      | .val i v => i = idOf (valsOf ts) v
      | .eval ei e li l vi v _ => (ei, li, vi) = idKey ts (e, l, v) := by
  intro ch hch t ht
  have hm : t ∈ makeTasks .none ts := (chunksOn_flatten c cfg _).mem_iff.1 (List.mem_flatten.2 ⟨ch, hch, ht⟩)
  cases t using Task.kindCases with
  | param k i o => cases k <;> exact (mem_makeTasks_param.1 hm).2
  | eval ei e li l vi v cp => exact (mem_makeTasks_eval.1 hm).key

/-- the dict `MakeTasks` builds left to right is the list of distinct objects in order of first
appearance (so `idOf` is what the code computes) -/
theorem ids_first_appearance (xs : List Nat) : xs.foldl addFirst [] = firsts xs := foldl_addFirst_nil xs

theorem ids_injective {xs : List Nat} {x y : Nat} (hx : x ∈ xs) (h : idOf xs x = idOf xs y) : x = y :=
  idOf_inj hx h

/-- `ChunkTasks`: each task is in exactly one chunk; no chunk is empty or larger than `maxtasksperchunk` -/
theorem chunks_partition_tasks (mt : Nat) (ckey : Nat → Option Nat) (tasks : List Task) :
    (chunkTasks mt ckey tasks).flatten.Perm tasks ∧
      ∀ ch ∈ chunkTasks mt ckey tasks, ch ≠ [] ∧ (0 < mt → ch.length ≤ mt) :=
  ⟨chunkTasks_flatten mt ckey tasks, chunkTasks_bound mt ckey tasks⟩

/-- the order in which `ProcessTasks` works through a chunk is a permutation of the chunk -/
theorem process_order_perm (chunk : List Task) : (procOrder chunk).Perm chunk := procOrder_perm chunk

/-- `Task.copy` is set exactly when the learner object is listed in more than one triple -/
theorem copy_iff_shared (ts : List Triple) {ei e li l vi v : Nat} {cp : Bool}
    (h : Task.eval ei e li l vi v cp ∈ makeTasks .none ts) : cp = decide (lrnCount ts l > 1) :=
  (mem_makeTasks_eval.1 h).copy

/-- a learner cell is evaluated in place at most once in the whole task list (and hence in every
address space, which holds a sub-multiset of it) -/
theorem in_place_at_most_once (ts : List Triple) : AtMostOnce (makeTasks .none ts) := makeTasks_atMostOnce ts

/-- invariant of `ProcessTasks`: in an address space whose used learner cells are pristine and in
which no cell is used again after an in-place evaluation, every task sees a pristine learner -/
theorem pristine_address_space (c : Comps S P Row) (seed : Nat) (h : Heap S) (tasks : List Task)
    (hA : ∀ t ∈ tasks, ∀ l, t.uses l → h l = c.init l) (hN : AtMostOnce tasks) :
    (runSeq c seed h tasks).1 = tasks.map (pristineEv c seed) :=
  runSeq_pristine c seed tasks h hA hN

/-- under every configuration and every schedule the events of a run (records and logged exceptions) are, each once,
the events the tasks produce on pristine learners -/
theorem pristine (c : Comps S P Row) (cfg : Cfg) (picks : List Nat) (seed : Nat) (ts : List Triple) :
    (runEvents c cfg picks seed ts).1.Perm ((makeTasks .none ts).map (pristineEv c seed)) :=
  runEvents_perm c cfg picks seed ts

/-- every schedule delivers the records of the chunks, each exactly once -/
theorem schedule_perm {α} (picks : List Nat) (queues : List (List α)) :
    (interleave queues picks).Perm queues.flatten := interleave_perm picks queues

/-- `TransactionResult`: permuting the records does not change the result, provided records with the same tag and key
are identical (in particular when all keys are distinct) -/
theorem result_order_insensitive {recs recs' : List (Rec P Row)} (p : recs.Perm recs')
    (hk : KeysFunctional recs) : result recs = result recs' := result_perm p hk

theorem result_order_insensitive_nodup {recs recs' : List (Rec P Row)} (p : recs.Perm recs')
    (hk : (recs.map Rec.rkey).Nodup) : result recs = result recs' :=
  result_perm p (KeysFunctional.of_nodup hk)

/-- the hypothesis is satisfiable … -/
example : KeysFunctional ([.T1 0 5, .T4 (0, 0, 0) [7, 8], .T1 1 6] : List (Rec Nat Nat)) :=
  KeysFunctional.of_nodup (by decide)

/-- … and necessary: two different records for one key are order-sensitive (last one wins) -/
theorem result_order_sensitive_on_conflicting_keys :
    (result ([.T1 0 5, .T1 0 6] : List (Rec Nat Nat))).envs ≠ (result ([.T1 0 6, .T1 0 5] : List (Rec Nat Nat))).envs := by
  decide

/-- C01: for every configuration `(processes, maxchunksperchild, maxtasksperchunk)` and every schedule the run gives
the specified result -/
theorem run_eq_spec (c : Comps S P Row) (cfg : Cfg) (picks : List Nat) (seed : Nat) (ts : List Triple) :
    run c cfg picks seed ts = resultS c seed ts := run_eq_resultS c cfg picks seed ts

/-- stronger form: in whatever order the records of the run reach `TransactionResult` (any
permutation, not only interleavings), the result is the specified one -/
theorem run_eq_spec_any_order (c : Comps S P Row) (cfg : Cfg) (picks : List Nat) (seed : Nat) (ts : List Triple)
    (recs : List (Rec P Row)) (h : recs.Perm (runRecords c cfg picks seed ts)) :
    result recs = resultS c seed ts := result_of_records_perm c cfg picks seed ts recs h

/-- the result is a function of the (freshly constructed) components, the seed and the
triple list alone — any two configurations and schedules, in particular a second run, agree -/
theorem rerun_eq (c : Comps S P Row) (cfg cfg' : Cfg) (picks picks' : List Nat) (seed : Nat) (ts : List Triple) :
    run c cfg picks seed ts = run c cfg' picks' seed ts := by
  rw [run_eq_spec c cfg picks seed ts, run_eq_spec c cfg' picks' seed ts]

/-- after the run a learner object listed in more than one triple is in its pristine
state; with worker processes no learner object of the caller is touched at all -/
theorem user_objects (c : Comps S P Row) (cfg : Cfg) (picks : List Nat) (seed : Nat) (ts : List Triple)
    (l : Nat) (h : lrnCount ts l > 1 ∨ cfg.multi = true) :
    (runEvents c cfg picks seed ts).2 l = c.init l := runEvents_heap c cfg picks seed ts l h


/-! ## process-level state, worker lifetimes, consecutive runs -/

section processState
variable {G : Type}

/-- `run_eq_spec` with an explicit process state `σ` threaded through every evaluation of an OS
process: under the isolation hypothesis `ProcessLocalClean` the run — in-process, or on workers with
any distribution of the chunks (`sched.assign`), any `maxchunksperchild` retirement and any
interleaving — gives the spec result of the σ-free clean components -/
theorem run_eq_spec_process_state (cp : CompsP G S P Row) (Clean : G → Prop) (hc : ProcessLocalClean cp Clean)
    (cfg : Cfg) (sched : Sched) (seed : Nat) (ts : List Triple) :
    runP cp cfg sched seed ts = resultSP cp seed ts :=
  runPFrom_eq_resultSP hc cfg sched seed ts cp.σ0 hc.fresh

/-- the same from any clean state of the calling process -/
theorem run_from_clean_state (cp : CompsP G S P Row) (Clean : G → Prop) (hc : ProcessLocalClean cp Clean)
    (cfg : Cfg) (sched : Sched) (seed : Nat) (ts : List Triple) (σ : G) (hσ : Clean σ) :
    runPFrom cp cfg sched seed σ ts = resultSP cp seed ts ∧ Clean (stateAfter cp cfg sched seed σ ts) :=
  ⟨runPFrom_eq_resultSP hc cfg sched seed ts σ hσ, stateAfter_clean hc cfg sched seed ts σ hσ⟩

/-- a second construct-and-run in the same process (seed `s₂`) equals a fresh run with `s₂`,
whatever the first run was -/
theorem second_run_eq (cp : CompsP G S P Row) (Clean : G → Prop) (hc : ProcessLocalClean cp Clean)
    (cfg₁ cfg₂ : Cfg) (sched₁ sched₂ : Sched) (s₁ s₂ : Nat) (ts₁ ts₂ : List Triple) :
    runPFrom cp cfg₂ sched₂ s₂ (stateAfter cp cfg₁ sched₁ s₁ cp.σ0 ts₁) ts₂ = runP cp cfg₂ sched₂ s₂ ts₂ := by
  rw [run_eq_spec_process_state cp Clean hc,
    (run_from_clean_state cp Clean hc cfg₂ sched₂ s₂ ts₂ _ (stateAfter_clean hc cfg₁ sched₁ s₁ ts₁ cp.σ0 hc.fresh)).1]

/-- `maxchunksperchild` (a retired worker = a fresh process state), the number of
processes, the distribution of chunks over workers and the interleaving are invisible in the Result -/
theorem retire_invisible (cp : CompsP G S P Row) (Clean : G → Prop) (hc : ProcessLocalClean cp Clean)
    (cfg cfg' : Cfg) (sched sched' : Sched) (seed : Nat) (ts : List Triple) :
    runP cp cfg sched seed ts = runP cp cfg' sched' seed ts := by
  rw [run_eq_spec_process_state cp Clean hc, run_eq_spec_process_state cp Clean hc]

/-- every chunk is processed in exactly one worker lifetime, for every assignment and every `maxchunksperchild` -/
theorem workers_partition_chunks {α} (mc : Nat) (assign : List Nat) (chunks : List α) :
    (retire mc (livesOf assign chunks)).flatten.Perm chunks := workers_flatten mc assign chunks

/-- `_max_chunker` cuts a chunk into consecutive batches, none empty, none longer than
`maxtasksperchunk` (0 = never split) -/
theorem chunker_partition {α} (mt : Nat) (l : List α) :
    (maxChunker mt l).flatten = l ∧ ∀ ch ∈ maxChunker mt l, ch ≠ [] ∧ (0 < mt → ch.length ≤ mt) :=
  ⟨maxChunker_flatten mt l, maxChunker_bound mt l⟩

/-- the hypothesis is satisfiable: components that ignore σ are clean with `Clean := fun _ => True` -/
example (cp : CompsP G S P Row) (h : ∀ σ v e s seed, (cp.evalP σ v e s seed).1 = (cp.evalP cp.σ0 v e s seed).1) :
    ProcessLocalClean cp (fun _ => True) := ⟨trivial, fun σ _ => h σ, fun _ _ _ _ _ _ => trivial⟩

/-- … and it is forced (the shape of finding F3): for `leakyComps`, whose evaluation records what earlier
evaluations left in the process, no clean-state invariant exists and the in-process Result differs from
the Result on two workers -/
theorem process_state_forced_counterexample :
    (¬ ∃ Clean, ProcessLocalClean leakyComps Clean) ∧
    (runP leakyComps ⟨1, 0, 0⟩ ⟨[], []⟩ 1 leakyTriples).ints ≠
      (runP leakyComps ⟨2, 0, 0⟩ ⟨[0, 1, 2, 3, 4, 5, 6], []⟩ 1 leakyTriples).ints := by
  constructor
  · rintro ⟨Clean, h⟩
    have h2 := h.same 1 (h.stays 0 h.fresh 0 0 0 0) 0 0 0 0
    simp [leakyComps] at h2
  · have h2 : (runP leakyComps ⟨2, 0, 0⟩ ⟨[0, 1, 2, 3, 4, 5, 6], []⟩ 1 leakyTriples).ints =
        [((0, 0, 0), 1, 0), ((1, 1, 0), 1, 10)] := by decide +kernel
    rw [leaky_inprocess_ints, h2]; decide

/-- without the hypothesis `maxchunksperchild` is visible: one worker that is never retired vs. retired
after every chunk -/
theorem retire_visible_counterexample :
    (runP leakyComps ⟨1, 7, 0⟩ ⟨[], []⟩ 1 leakyTriples).ints ≠ (runP leakyComps ⟨1, 1, 0⟩ ⟨[], []⟩ 1 leakyTriples).ints := by
  have h1 : (runP leakyComps ⟨1, 7, 0⟩ ⟨[], []⟩ 1 leakyTriples).ints = [((0, 0, 0), 1, 0), ((1, 1, 0), 1, 11)] := by
    decide +kernel
  have h2 : (runP leakyComps ⟨1, 1, 0⟩ ⟨[], []⟩ 1 leakyTriples).ints = [((0, 0, 0), 1, 0), ((1, 1, 0), 1, 10)] := by
    decide +kernel
  rw [h1, h2]; decide

/-- without the hypothesis a second run in the same process differs from a fresh run -/
theorem second_run_differs_counterexample :
    (runPFrom leakyComps ⟨1, 0, 0⟩ ⟨[], []⟩ 1 (stateAfter leakyComps ⟨1, 0, 0⟩ ⟨[], []⟩ 1 0 leakyTriples) leakyTriples).ints ≠
      (runP leakyComps ⟨1, 0, 0⟩ ⟨[], []⟩ 1 leakyTriples).ints := by
  have h1 : (runPFrom leakyComps ⟨1, 0, 0⟩ ⟨[], []⟩ 1 (stateAfter leakyComps ⟨1, 0, 0⟩ ⟨[], []⟩ 1 0 leakyTriples)
      leakyTriples).ints = [((0, 0, 0), 1, 2), ((1, 1, 0), 1, 13)] := by decide +kernel
  rw [h1, leaky_inprocess_ints]; decide

end processState

/-! ### the Result table by table -/

/-- `.experiment` of every run is the meta record of the triple list and the seed -/
theorem experiment_meta (c : Comps S P Row) (cfg : Cfg) (picks : List Nat) (seed : Nat) (ts : List Triple) :
    (run c cfg picks seed ts).exp = some (metaOf seed ts) := by
  rw [run_eq_spec]; exact exp_result (specRecs_keysFunctional c seed ts) List.mem_cons_self

/-- the environments table holds exactly one row per distinct environment whose `params` does not raise,
under its first-appearance id — in every configuration and schedule -/
theorem env_row_iff (c : Comps S P Row) (cfg : Cfg) (picks : List Nat) (seed : Nat) (ts : List Triple) (i : Nat) (p : P) :
    (i, p) ∈ (run c cfg picks seed ts).envs ↔ ∃ e ∈ envsOf ts, i = idOf (envsOf ts) e ∧ c.envParams e = .ok p :=
  mem_table_run c cfg picks seed ts .env i p

theorem lrn_row_iff (c : Comps S P Row) (cfg : Cfg) (picks : List Nat) (seed : Nat) (ts : List Triple) (i : Nat) (p : P) :
    (i, p) ∈ (run c cfg picks seed ts).lrns ↔ ∃ l ∈ lrnsOf ts, i = idOf (lrnsOf ts) l ∧ c.lrnParams l = .ok p :=
  mem_table_run c cfg picks seed ts .lrn i p

theorem val_row_iff (c : Comps S P Row) (cfg : Cfg) (picks : List Nat) (seed : Nat) (ts : List Triple) (i : Nat) (p : P) :
    (i, p) ∈ (run c cfg picks seed ts).vals ↔ ∃ v ∈ valsOf ts, i = idOf (valsOf ts) v ∧ c.valParams v = .ok p :=
  mem_table_run c cfg picks seed ts .val i p


/-! ## resumed runs -/

/-- `MakeTasks` with a restored Result lists exactly the tasks of the fresh run whose id / key is not restored:
ids and `copy` flags are those of the fresh run (this ties C01's id assignment to resuming, C02) -/
theorem make_tasks_restored (R : Restored) (ts : List Triple) :
    makeTasks R ts = (makeTasks .none ts).filter (Task.keep R) := makeTasks_restored R ts

/-- let any set `done` of tasks have been finished before an interruption, so that the log holds (in any order) the
records they left; the run resumed from that log, under any configuration and schedule, returns the Result of the
fresh run -/
theorem run_eq_spec_restored (c : Comps S P Row) (cfg : Cfg) (picks : List Nat) (seed : Nat) (ts : List Triple)
    (done : Task → Bool) (old : List (Rec P Row)) (hold : old.Perm (doneRecs c seed ts done)) :
    runResumed c cfg picks seed ts old = resultS c seed ts :=
  result_resumed c seed ts old (hold.subset.trans (doneRecs_subset c seed ts done)) _
    (runEventsOn_perm c cfg picks seed _ (resumedTasks_atMostOnce ts old))

/-- … in particular it equals the fresh run under any other configuration and schedule -/
theorem resumed_eq_fresh (c : Comps S P Row) (cfg cfg' : Cfg) (picks picks' : List Nat) (seed : Nat) (ts : List Triple)
    (done : Task → Bool) :
    runResumed c cfg picks seed ts (doneRecs c seed ts done) = run c cfg' picks' seed ts := by
  rw [run_eq_spec_restored c cfg picks seed ts done _ (List.Perm.refl _), run_eq_spec]

/-- the hypothesis is satisfiable non-trivially: nothing done, or only the evaluations -/
example (c : Comps S P Row) (seed : Nat) (ts : List Triple) :
    (doneRecs c seed ts (fun _ => false) : List (Rec P Row)) = [] := by simp [doneRecs]

example : (doneRecs (leakyComps.clean leakyTriples) 1 leakyTriples (fun t => t.tkey.1 == 4)).length = 2 := by decide +kernel

/-! ## resumed runs with process state -/

section resumedProcessState
variable {G : Type}

/-- `run_eq_spec_restored` with process state: the resumed run may start in any clean state of the caller's process and
leaves it clean; un-copyable shared learners raise inside the per-task `try` -/
theorem run_eq_spec_restored_process_state (cp : CompsP G S P Row) (Clean : G → Prop) (hc : ProcessLocalClean cp Clean)
    (cfg : Cfg) (sched : Sched) (seed : Nat) (ts : List Triple) (σ : G) (hσ : Clean σ)
    (done : Task → Bool) (old : List (Rec P Row)) (hold : old.Perm (doneRecs (cp.clean ts) seed ts done)) :
    runResumedPFrom cp cfg sched seed σ ts old = resultSP cp seed ts ∧
      Clean (runEventsOnPFrom cp cfg sched seed σ (resumedTasks old ts)).2.1 :=
  have hok : ∀ t ∈ resumedTasks old ts, t.copyOK ts :=
    fun _ ht => copyOK_of_mem ((resumedTasks_sublist ts old).subset ht)
  ⟨result_resumed (cp.clean ts) seed ts old (hold.subset.trans (doneRecs_subset (cp.clean ts) seed ts done)) _
      (runEventsOnPFrom_perm hc cfg sched seed ts σ hσ _ (resumedTasks_atMostOnce ts old) hok),
    runEventsOnPFrom_clean hc cfg sched seed ts σ hσ _ hok⟩

/-- `resumed_eq_fresh` with process state: the two runs may start in different clean states -/
theorem resumed_eq_fresh_process_state (cp : CompsP G S P Row) (Clean : G → Prop) (hc : ProcessLocalClean cp Clean)
    (cfg cfg' : Cfg) (sched sched' : Sched) (seed : Nat) (ts : List Triple) (σ σ' : G) (hσ : Clean σ) (hσ' : Clean σ')
    (done : Task → Bool) :
    runResumedPFrom cp cfg sched seed σ ts (doneRecs (cp.clean ts) seed ts done) = runPFrom cp cfg' sched' seed σ' ts := by
  rw [(run_eq_spec_restored_process_state cp Clean hc cfg sched seed ts σ hσ done _ (List.Perm.refl _)).1,
    (run_from_clean_state cp Clean hc cfg' sched' seed ts σ' hσ').1]

/-- the hypotheses are satisfiable non-trivially: σ-ignoring components are clean, `doneRecs` of "nothing done" is the
empty log -/
example (cp : CompsP G S P Row) (seed : Nat) (ts : List Triple) :
    (doneRecs (cp.clean ts) seed ts (fun _ => false) : List (Rec P Row)) = [] := by simp [doneRecs]

/-- the hypothesis is forced for resumed runs too: with `leakyComps` the run resumed in-process after the first
evaluation was restored differs from the fresh in-process run -/
theorem resumed_differs_counterexample :
    (runResumedP leakyComps ⟨1, 0, 0⟩ ⟨[], []⟩ 1 leakyTriples [Rec.T4 (0, 0, 0) [0]]).ints ≠
      (runP leakyComps ⟨1, 0, 0⟩ ⟨[], []⟩ 1 leakyTriples).ints := by
  have h1 : (runResumedP leakyComps ⟨1, 0, 0⟩ ⟨[], []⟩ 1 leakyTriples [Rec.T4 (0, 0, 0) [0]]).ints =
      [((0, 0, 0), 1, 0), ((1, 1, 0), 1, 10)] := by decide +kernel
  rw [h1, leaky_inprocess_ints]; decide

end resumedProcessState

/-! ## the Result of a whole `Experiment.run` over the built-in `SequentialCB`

`seqComps w` plugs the model of `SequentialCB.evaluate` (`Model/C06.evaluate`: validation, predict / score / learn passes
per batch, recorded rows) into the experiment model, for any assignment `w` of SequentialCB configurations to evaluator
objects, of learner methods + pristine state to learner objects and of interactions (or a failing read) to environment
objects. -/

section sequentialCB
variable {σ V R : Type} [DecidableEq V] [Coba.C06.RewardFn R V]

/-- `run_eq_spec` with the C06 model of `SequentialCB.evaluate` as the evaluation component -/
theorem run_eq_spec_sequentialCB (w : SeqWorld σ V R P) (cfg : Cfg) (picks : List Nat) (seed : Nat) (ts : List Triple) :
    run (seqComps w) cfg picks seed ts = resultS (seqComps w) seed ts := run_eq_spec (seqComps w) cfg picks seed ts

theorem sequentialCB_config_independent (w : SeqWorld σ V R P) (cfg cfg' : Cfg) (picks picks' : List Nat) (seed : Nat)
    (ts : List Triple) : run (seqComps w) cfg picks seed ts = run (seqComps w) cfg' picks' seed ts :=
  rerun_eq (seqComps w) cfg cfg' picks picks' seed ts

/-- the spec unfolded: the rows of a listed triple are, numbered from 1, those `SequentialCB(cfgOf v).evaluate(env e,
learner l)` produces from the learner's PRISTINE state (none when the evaluator rejects the environment or the
evaluation crashes), whatever else the experiment lists -/
theorem sequentialCB_rows (w : SeqWorld σ V R P) (cfg : Cfg) (picks : List Nat) (seed : Nat) (ts : List Triple)
    (t : Triple) (ht : t ∈ ts) (inter : List (Coba.C06.Dict (Coba.C06.Fld V R))) (henv : w.envRows t.1 = .ok inter) :
    (run (seqComps w) cfg picks seed ts).rowsOf (idKey ts t) =
      match Coba.C06.evaluate (w.cfgOf t.2.2) (w.learner t.2.1) (w.batch t.1) inter (w.init t.2.1) with
      | .ok r => numbered r.2.2
      | .rejected _ => []
      | .crashed _ => [] := by
  rw [rowsOf_run (seqComps w) cfg picks seed ts t ht, evalS_seqComps, henv]
  dsimp only
  generalize Coba.C06.evaluate (w.cfgOf t.2.2) (w.learner t.2.1) (w.batch t.1) inter (w.init t.2.1) = o
  cases o <;> rfl

/-- a failing read of the environment costs exactly that triple's rows -/
theorem sequentialCB_read_failure (w : SeqWorld σ V R P) (cfg : Cfg) (picks : List Nat) (seed : Nat) (ts : List Triple)
    (t : Triple) (ht : t ∈ ts) (err : Err) (henv : w.envRows t.1 = .error err) :
    (run (seqComps w) cfg picks seed ts).rowsOf (idKey ts t) = [] := by
  rw [rowsOf_run (seqComps w) cfg picks seed ts t ht, evalS_seqComps, henv]

end sequentialCB

/-! ## translator obligations — `Generated/C01Config.lean` is re-extracted from the source on every run -/

/-- the model's `Cfg.multi` is the `is_multiproc` expression of `Experiment.run` as it stands in the source -/
theorem config_multi_matches_source (c : Cfg) : c.multi = Coba.Generated.C01.isMultiproc c.mp c.mc := by
  simp [Cfg.multi, Coba.Generated.C01.isMultiproc]

/-- two sites that must agree: `CobaMultiprocessor.filter` runs the tasks in the calling process exactly when
`Experiment.run` considers the run not multi-process (for every `processes ≥ 1`, every `maxchunksperchild`) -/
theorem inprocess_test_agrees_with_is_multiproc (c : Cfg) (h : 1 ≤ c.mp) :
    Coba.Generated.C01.inProcess c.mp c.mc = !c.multi := by
  rw [Bool.eq_iff_iff]
  simp [Cfg.multi, Coba.Generated.C01.inProcess]
  omega

/-- the `copy` flag of every evaluation task the model lists is the source's `copy=` expression applied to the
number of listed triples with that learner object -/
theorem copy_flag_matches_source (ts : List Triple) (ei e li l vi v : Nat) (cp : Bool)
    (h : Task.eval ei e li l vi v cp ∈ makeTasks .none ts) :
    cp = Coba.Generated.C01.copyFlag (lrnCount ts l) ∧ Coba.Generated.C01.copyCountsLearners = true :=
  ⟨by rw [(mem_makeTasks_eval.1 h).copy]; simp [Coba.Generated.C01.copyFlag], by decide⟩

/-! ## PMF-answering and `learning_info`-writing learners, chunk()/cache() pipelines in the SequentialCB runs

`seqCompsX w` (Model/C01.lean): a learner object is ordinary (`ext l = none`: evaluated as by `seqComps w.base`), answers with PMFs
(`.pmf`: behind a `SafeLearner` whose `CobaRandom` is freshly seeded for every evaluation with the evaluator's seed or
else the experiment seed — C06 `wrapPmf` over the C05 stream) or writes `CobaContext.learning_info` (`.info`: C06
`evaluateI`).  Environment pipelines enter through `chunkKey`. -/

section sequentialCBExt
variable {σ V R : Type} [DecidableEq V] [Coba.C06.RewardFn R V]

theorem run_eq_spec_sequentialCB_ext (w : SeqWorldX σ V R P) (cfg : Cfg) (picks : List Nat) (seed : Nat)
    (ts : List Triple) : run (seqCompsX w) cfg picks seed ts = resultS (seqCompsX w) seed ts :=
  run_eq_spec (seqCompsX w) cfg picks seed ts

theorem sequentialCB_ext_config_independent (w : SeqWorldX σ V R P) (cfg cfg' : Cfg) (picks picks' : List Nat)
    (seed : Nat) (ts : List Triple) :
    run (seqCompsX w) cfg picks seed ts = run (seqCompsX w) cfg' picks' seed ts :=
  rerun_eq (seqCompsX w) cfg cfg' picks picks' seed ts

/-- the extension is conservative: a world without extended learner objects is the plain SequentialCB world -/
theorem sequentialCB_ext_conservative (w0 : SeqWorld σ V R P) : seqCompsX ⟨w0, fun _ => none⟩ = seqComps w0 := rfl

/-- a learner answering with PMFs: the rows SequentialCB produces from the learner's PRISTINE state with the actions
drawn by a generator FRESHLY seeded with the evaluator's seed, or the experiment seed when it has none -/
theorem sequentialCB_pmf_rows (w : SeqWorldX σ V R P) (cfg : Cfg) (picks : List Nat) (seed : Nat) (ts : List Triple)
    (t : Triple) (ht : t ∈ ts) (Pm : Coba.C06.PmfLearner σ V) (dflt : V) (hx : w.ext t.2.1 = some (.pmf Pm dflt))
    (inter : List (Coba.C06.Dict (Coba.C06.Fld V R))) (henv : w.base.envRows t.1 = .ok inter) :
    (run (seqCompsX w) cfg picks seed ts).rowsOf (idKey ts t) =
      match Coba.C06.evaluate (w.base.cfgOf t.2.2) (Coba.C06.wrapPmf Pm dflt) (w.base.batch t.1) inter
              (w.base.init t.2.1, Coba.C05.normInt (Int.ofNat ((w.base.valSeed t.2.2).getD seed))) with
      | .ok r => numbered r.2.2
      | .rejected _ => []
      | .crashed _ => [] := by
  rw [rowsOf_run (seqCompsX w) cfg picks seed ts t ht, evalS_seqCompsX_ext w seed t _ hx, henv, effSeed_seqCompsX]
  simp only [seqEvalExt]
  generalize Coba.C06.evaluate (w.base.cfgOf t.2.2) (Coba.C06.wrapPmf Pm dflt) (w.base.batch t.1) inter
    (w.base.init t.2.1, Coba.C05.normInt (Int.ofNat ((w.base.valSeed t.2.2).getD seed))) = o
  cases o <;> rfl

/-- a learner writing `learning_info` (un-batched environment): the rows `evaluateI` yields on the pristine learner;
info written during an interaction is in that interaction's row only -/
theorem sequentialCB_info_rows (w : SeqWorldX σ V R P) (cfg : Cfg) (picks : List Nat) (seed : Nat) (ts : List Triple)
    (t : Triple) (ht : t ∈ ts) (L : Coba.C06.InfoLearner σ V) (hx : w.ext t.2.1 = some (.info L))
    (inter : List (Coba.C06.Dict (Coba.C06.Fld V R))) (henv : w.base.envRows t.1 = .ok inter)
    (hb : w.base.batch t.1 = none) :
    (run (seqCompsX w) cfg picks seed ts).rowsOf (idKey ts t) =
      match Coba.C06.evaluateI (w.base.cfgOf t.2.2) L inter (w.base.init t.2.1) with
      | .ok r => numbered r.2.2.1
      | .rejected _ => []
      | .crashed _ => [] := by
  rw [rowsOf_run (seqCompsX w) cfg picks seed ts t ht, evalS_seqCompsX_ext w seed t _ hx, henv]
  simp only [seqEvalExt, hb]
  generalize Coba.C06.evaluateI (w.base.cfgOf t.2.2) L inter (w.base.init t.2.1) = o
  cases o <;> rfl

/-- an ordinary learner object keeps exactly the rows it has in the plain world `w.base` when PMF / info learner objects are added -/
theorem sequentialCB_ext_plain_rows (w : SeqWorldX σ V R P) (cfg : Cfg) (picks : List Nat) (seed : Nat)
    (ts : List Triple) (t : Triple) (ht : t ∈ ts) (hx : w.ext t.2.1 = none) :
    (run (seqCompsX w) cfg picks seed ts).rowsOf (idKey ts t) =
      (run (seqComps w.base) cfg picks seed ts).rowsOf (idKey ts t) := by
  rw [rowsOf_run (seqCompsX w) cfg picks seed ts t ht, rowsOf_run (seqComps w.base) cfg picks seed ts t ht,
    evalS_seqCompsX_plain w seed t hx]

/-- a failing read costs exactly that triple's rows, whatever kind of learner -/
theorem sequentialCB_ext_read_failure (w : SeqWorldX σ V R P) (cfg : Cfg) (picks : List Nat) (seed : Nat)
    (ts : List Triple) (t : Triple) (ht : t ∈ ts) (err : Err) (henv : w.base.envRows t.1 = .error err) :
    (run (seqCompsX w) cfg picks seed ts).rowsOf (idKey ts t) = [] := by
  rw [rowsOf_run (seqCompsX w) cfg picks seed ts t ht]
  cases hx : w.ext t.2.1 with
  | none => rw [evalS_seqCompsX_plain w seed t hx, evalS_seqComps, henv]
  | some x => rw [evalS_seqCompsX_ext w seed t x hx, henv]

/-- batched environment: a learner answering a batched `predict` with rows of `len` items whose first batch
has exactly `len` rows is asked to `predict` once more on the first interaction by `SafeLearner.batch_order`; the rows
of the triple are those SequentialCB produces with the learner seen through that probing wrapper (`probeWrap`), on the
pristine learner, in every configuration -/
theorem sequentialCB_probe_rows (w : SeqWorldX σ V R P) (cfg : Cfg) (picks : List Nat) (seed : Nat) (ts : List Triple)
    (t : Triple) (ht : t ∈ ts) (L : Coba.C06.Learner σ V) (len n : Nat) (hx : w.ext t.2.1 = some (.rowLen L len))
    (inter : List (Coba.C06.Dict (Coba.C06.Fld V R))) (henv : w.base.envRows t.1 = .ok inter)
    (hb : w.base.batch t.1 = some n) (hsq : min n inter.length = len) :
    (run (seqCompsX w) cfg picks seed ts).rowsOf (idKey ts t) =
      match Coba.C06.evaluate (w.base.cfgOf t.2.2) (probeWrap L len) (some n) inter (w.base.init t.2.1, 0, none) with
      | .ok r => numbered r.2.2
      | .rejected _ => []
      | .crashed _ => [] := by
  rw [rowsOf_run (seqCompsX w) cfg picks seed ts t ht, evalS_seqCompsX_ext w seed t _ hx, henv]
  simp only [seqEvalExt, hb, hsq, if_true]
  generalize Coba.C06.evaluate (w.base.cfgOf t.2.2) (probeWrap L len) (some n) inter (w.base.init t.2.1, 0, none) = o
  cases o <;> rfl

/-- … and when the environment is not batched or the first batch is not square no probe is made -/
theorem sequentialCB_noprobe_rows (w : SeqWorldX σ V R P) (cfg : Cfg) (picks : List Nat) (seed : Nat) (ts : List Triple)
    (t : Triple) (ht : t ∈ ts) (L : Coba.C06.Learner σ V) (len : Nat) (hx : w.ext t.2.1 = some (.rowLen L len))
    (inter : List (Coba.C06.Dict (Coba.C06.Fld V R))) (henv : w.base.envRows t.1 = .ok inter)
    (hsq : ∀ n, w.base.batch t.1 = some n → min n inter.length ≠ len) :
    (run (seqCompsX w) cfg picks seed ts).rowsOf (idKey ts t) =
      match Coba.C06.evaluate (w.base.cfgOf t.2.2) L (w.base.batch t.1) inter (w.base.init t.2.1) with
      | .ok r => numbered r.2.2
      | .rejected _ => []
      | .crashed _ => [] := by
  rw [rowsOf_run (seqCompsX w) cfg picks seed ts t ht, evalS_seqCompsX_ext w seed t _ hx, henv]
  simp only [seqEvalExt]
  cases hb : w.base.batch t.1 with
  | none =>
    dsimp only
    generalize Coba.C06.evaluate (w.base.cfgOf t.2.2) L none inter (w.base.init t.2.1) = o
    cases o <;> rfl
  | some n =>
    dsimp only
    rw [if_neg (hsq n hb)]
    generalize Coba.C06.evaluate (w.base.cfgOf t.2.2) L (some n) inter (w.base.init t.2.1) = o
    cases o <;> rfl

end sequentialCBExt

section probe
variable {σ V R : Type}

/-- what the probing wrapper is: same answers as the learner; same state moves except that the `k`-th predict of the
evaluation is followed by one more `predict` on the first call's arguments -/
theorem probe_is_one_extra_predict (L : Coba.C06.Learner σ V) (k : Nat) (s : σ) (n : Nat)
    (first : Option V × Option (List V)) (ctx : Option V) (acts : Option (List V)) :
    ((probeWrap L k).predict (s, n, some first) ctx acts).2 = (L.predict s ctx acts).2 ∧
    (n + 1 ≠ k → ((probeWrap L k).predict (s, n, some first) ctx acts).1.1 = (L.predict s ctx acts).1) ∧
    (n + 1 = k → ((probeWrap L k).predict (s, n, some first) ctx acts).1.1 =
      (L.predict (L.predict s ctx acts).1 first.1 first.2).1) :=
  ⟨probeWrap_answer L k _ ctx acts, probeWrap_state_no_probe L k (s, n, some first) ctx acts,
   probeWrap_state_probe L k s n first ctx acts⟩

end probe

/-! ## translator obligations — `Generated/C01Seeds.lean` is re-extracted from coba/evaluators/sequential.py on every run -/

/-- the seed the model hands to every evaluation (`effSeed`: the evaluator's own seed, else the experiment seed) is the
expression the source passes to `SafeLearner(learner, …)` in `SequentialCB.evaluate` — what `sequentialCB_pmf_rows` seeds
the generator with -/
theorem eff_seed_matches_source {S P Row : Type} (c : Comps S P Row) (seed v : Nat) :
    some (effSeed c seed v) = Coba.Generated.C01.seqSeed (c.valSeed v) seed := by
  unfold effSeed Coba.Generated.C01.seqSeed
  cases c.valSeed v <;> rfl

/-- sites that must agree: `RejectionCB.evaluate` seeds its `SafeLearner` and its own `CobaRandom` with the same
expression as `SequentialCB.evaluate` -/
theorem rejection_seed_sites_agree (own : Option Nat) (exp : Nat) :
    Coba.Generated.C01.rejLearnerSeed own exp = Coba.Generated.C01.seqSeed own exp ∧
    Coba.Generated.C01.rejRngSeed own exp = Coba.Generated.C01.seqSeed own exp := by
  constructor <;> (cases own <;> rfl)

/-! ## the built-in `RejectionCB` inside the experiment model, over the C05 stream

`seqCompsR w`: evaluator objects are `SequentialCB` objects (as in `seqCompsX w.x`) or `RejectionCB` objects (`w.rej v = some rc`,
`rejEvaluate`: peek of 100, validation, data-adaptive start value, per interaction score / insort / one draw of
`CobaRandom(seed)` / accept-learn-record / percentile update). -/

section rejectionCB
variable {σ V R : Type} [DecidableEq V] [Coba.C06.RewardFn R V]

theorem run_eq_spec_rejectionCB (w : SeqWorldR σ V R P) (cfg : Cfg) (picks : List Nat) (seed : Nat)
    (ts : List Triple) : run (seqCompsR w) cfg picks seed ts = resultS (seqCompsR w) seed ts :=
  run_eq_spec (seqCompsR w) cfg picks seed ts

theorem rejectionCB_config_independent (w : SeqWorldR σ V R P) (cfg cfg' : Cfg) (picks picks' : List Nat)
    (seed : Nat) (ts : List Triple) :
    run (seqCompsR w) cfg picks seed ts = run (seqCompsR w) cfg' picks' seed ts :=
  rerun_eq (seqCompsR w) cfg cfg' picks picks' seed ts

/-- the extension is conservative: a world without RejectionCB objects is the world of its SequentialCB objects -/
theorem rejectionCB_conservative (w0 : SeqWorldX σ V R P) : seqCompsR ⟨w0, fun _ => none⟩ = seqCompsX w0 := rfl

/-- an evaluator that is a RejectionCB: the rows `RejectionCB.evaluate` yields on the learner's PRISTINE state with a
generator FRESHLY seeded with the evaluator's seed, or the experiment seed when it has none (no rows when it raises):
neither the generator, nor `Q`, nor the multiplier `c` is shared between evaluations -/
theorem rejectionCB_rows (w : SeqWorldR σ V R P) (cfg : Cfg) (picks : List Nat) (seed : Nat) (ts : List Triple)
    (t : Triple) (ht : t ∈ ts) (rc : RejConfig) (hv : w.rej t.2.2 = some rc)
    (inter : List (Coba.C06.Dict (Coba.C06.Fld V R))) (henv : w.x.base.envRows t.1 = .ok inter) :
    (run (seqCompsR w) cfg picks seed ts).rowsOf (idKey ts t) =
      match (rejEvaluate rc (w.x.base.learner t.2.1) (w.x.base.batch t.1) inter (w.x.base.init t.2.1)
              (Coba.C05.normInt (Int.ofNat ((w.x.base.valSeed t.2.2).getD seed)))).1 with
      | .ok rows => numbered rows
      | .error _ => [] := by
  rw [rowsOf_run (seqCompsR w) cfg picks seed ts t ht, evalS_seqCompsR_rej w seed t rc hv, henv, effSeed_seqCompsR]
  dsimp only
  generalize (rejEvaluate rc (w.x.base.learner t.2.1) (w.x.base.batch t.1) inter (w.x.base.init t.2.1)
    (Coba.C05.normInt (Int.ofNat ((w.x.base.valSeed t.2.2).getD seed)))).1 = o
  cases o <;> rfl

/-- a failing read costs exactly that triple's rows -/
theorem rejectionCB_read_failure (w : SeqWorldR σ V R P) (cfg : Cfg) (picks : List Nat) (seed : Nat) (ts : List Triple)
    (t : Triple) (ht : t ∈ ts) (rc : RejConfig) (hv : w.rej t.2.2 = some rc) (err : Err)
    (henv : w.x.base.envRows t.1 = .error err) :
    (run (seqCompsR w) cfg picks seed ts).rowsOf (idKey ts t) = [] := by
  rw [rowsOf_run (seqCompsR w) cfg picks seed ts t ht, evalS_seqCompsR_rej w seed t rc hv, henv]

/-- a triple evaluated by a SequentialCB object keeps exactly the rows it has in `w.x` when RejectionCB objects are added -/
theorem sequentialCB_rows_beside_rejectionCB (w : SeqWorldR σ V R P) (cfg cfg' : Cfg) (picks picks' : List Nat) (seed : Nat)
    (ts : List Triple) (t : Triple) (ht : t ∈ ts) (hv : w.rej t.2.2 = none) :
    (run (seqCompsR w) cfg picks seed ts).rowsOf (idKey ts t) =
      (run (seqCompsX w.x) cfg' picks' seed ts).rowsOf (idKey ts t) := by
  rw [rowsOf_run (seqCompsR w) cfg picks seed ts t ht, rowsOf_run (seqCompsX w.x) cfg' picks' seed ts t ht,
    evalS_seqCompsR_seq w seed t hv]

end rejectionCB

section rejectionLoop
variable {σ V R : Type}

/-- `Q` stays sorted under `insort` (so `percentile(Q, cpct, sort=False)` reads a sorted list) … -/
theorem rejection_Q_sorted (x : Rat) (q : List Rat) (h : q.Pairwise (· ≤ ·)) : (insortR x q).Pairwise (· ≤ ·) := by
  induction q with
  | nil => simp [insortR]
  | cons y ys ih =>
    simp only [insortR]
    have hy := List.pairwise_cons.1 h
    split
    · rename_i hlt
      refine List.pairwise_cons.2 ⟨?_, h⟩
      intro z hz
      rcases List.mem_cons.1 hz with rfl | hz
      · exact Rat.le_of_lt hlt
      · exact Rat.le_trans (Rat.le_of_lt hlt) (hy.1 z hz)
    · rename_i hnlt
      refine List.pairwise_cons.2 ⟨?_, ih hy.2⟩
      intro z hz
      rcases List.mem_cons.1 ((insortR_perm x ys).mem_iff.1 hz) with rfl | hz
      · exact Rat.not_lt.1 hnlt
      · exact hy.1 z hz

/-- … and holds exactly the ratios inserted so far -/
theorem rejection_Q_perm (x : Rat) (q : List Rat) : (insortR x q).Perm (x :: q) := insortR_perm x q

/-- rejection sampling records at most one row per interaction -/
theorem rejection_rows_le (rc : RejConfig) (L : Coba.C06.Learner σ V) (bs : Option Nat)
    (env : List (Coba.C06.Dict (Coba.C06.Fld V R))) (s : σ) (g : Nat) (rows : List (Coba.C06.Row V R)) (s' : σ)
    (h : rejEvaluate rc L bs env s g = (.ok rows, s')) : rows.length ≤ env.length := by
  unfold rejEvaluate at h
  split at h
  · simp only [Prod.mk.injEq, Except.ok.injEq] at h; simp [← h.1]
  · split at h
    · simp at h
    · split at h
      · simp at h
      · have := rejLoop_rows_le rc L _ _ _ _ _ _ _ _ h
        simpa using this

/-- a learner without `score`, a batched environment or a first interaction without the logged fields is refused
before the learner object is touched -/
theorem rejection_refused_untouched (rc : RejConfig) (L : Coba.C06.Learner σ V) (bs : Option Nat)
    (first : Coba.C06.Dict (Coba.C06.Fld V R)) (rest : List (Coba.C06.Dict (Coba.C06.Fld V R))) (s : σ) (g : Nat)
    (h : L.hasScore = false ∨ bs.isSome = true ∨ (rejKeys.all (fun k => Coba.C06.Dict.has first k)) = false) :
    rejEvaluate rc L bs (first :: rest) s g = (.error .raised, s) := by
  unfold rejEvaluate
  rcases h with h | h | h <;> simp [h]

example : insortR 2 [1, 2, 3] = [1, 2, 2, 3] := by decide +kernel
example : rejPercentile [1, 2, 4] (1/4) = some (3/2) := by decide +kernel

/-- translator obligations (Generated/C01Rej.lean, read off `RejectionCB.evaluate` on every run): the validated keys, the
size of the peek, the accept comparison `<=` (`rejLoop`: `rnd.2 ≤ c * …`) and the insort guard `!=` (`if sc.2 = 0 then q else …`) -/
theorem rejection_consts_match_source :
    rejKeys = Coba.Generated.C01.rejKeysSrc ∧ rejPeek = Coba.Generated.C01.rejPeekSrc ∧
    Coba.Generated.C01.rejAcceptOp = "<=" ∧ Coba.Generated.C01.rejGuardOp = "!=" := ⟨rfl, rfl, rfl, rfl⟩

end rejectionLoop

end Coba.C01
