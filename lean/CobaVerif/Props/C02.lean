/-
C02 — Interrupted experiments resume without losing or repeating work.

Reading of the statement.  `w : World` is an experiment (its triples, the record every task
writes, the JSON codec).  A *log* is a list of records; `ValidLog w L` says `L` is something a
(possibly already interrupted and resumed) run of `w` can have written: it starts with the
version line, no id occurs twice, every record is one the experiment produces.  `cut w L k` is
the file a run leaves behind when it is killed after `k` bytes of `L` reached the disk — for
EVERY `k`, between two records and inside one.  `restore`/`finish`/`resume` with `Flags.fixed`
are `Experiment.run(result_file)` with fixes/C02-*.diff applied, with `Flags.cur` the code
without them.  The records the resumed run appends may arrive in any order (`app` is any
permutation of the task outputs: any execution configuration).

The uninterrupted run is the special case "no file" (`uninterrupted_run`): its log is a
permutation of `w.universe`, so "equals the Result of an uninterrupted run" is
`F.Perm w.universe` + `bodies F = bodies w.universe` (TransactionResult folds per id).
-/
import CobaVerif.Lemmas.C02
import CobaVerif.Lemmas.C02Gz
import CobaVerif.Lemmas.C02Order
import CobaVerif.Generated.C02GzPredicates
import CobaVerif.Generated.C02ScanConsts
import CobaVerif.Generated.C02MaxChunker
import CobaVerif.Generated.C02SinkLoop
import CobaVerif.Generated.C02Config

namespace Coba.C02
open Ex

/-! ### byte level -/

/-- [core] what a killed run leaves, and what line splitting (DiskSource) makes of it: the first `j` records and an
unterminated tail `p` of record `j` (possibly all of it, possibly nothing) -/
theorem prefix_lines (rs : List Bytes) (h : ∀ r ∈ rs, NoNL r) (k : Nat) :
    ∃ j p, (serialize rs).take k = serialize (rs.take j) ++ p ∧
      splitNL ((serialize rs).take k) = (rs.take j, p) ∧ NoNL p ∧
      (p = [] ∨ ∃ r, rs[j]? = some r ∧ p <+: r) := by
  obtain ⟨j, p, _, h1, h2⟩ := serialize_blocks.take_terminated rs k
  have hp : NoNL p := NoNL_tail h h2
  exact ⟨j, p, h1, by rw [h1, splitNL_clean _ (fun r hr => h r (List.mem_of_mem_take hr)) hp], hp, h2⟩

/-- [core] a proper prefix of a JSON array text is never accepted (bracket-depth argument on the
model's scanner): a torn record can not be mistaken for a record -/
theorem torn_never_valid (r p : Bytes) (h : balanced r = true) (hp : p <+: r) (hne : p ≠ r) :
    balanced p = false := balanced_prefix_free r p h hp hne

/-- the concrete codec/world the driver runs satisfies the hypotheses of the theorems below as
soon as the run-time check `tableWorldOK` (reported as `hyp` by the driver) holds -/
theorem table_world_ok (tbl : List (Rec × Bytes)) (ver exp : Rec) (triples : List (Nat × Nat × Nat))
    (h : tableWorldOK tbl ver exp triples = true) : (tableWorld tbl ver exp triples).OK := by
  simp only [tableWorldOK, Bool.and_eq_true, decide_eq_true_eq] at h
  obtain ⟨⟨⟨⟨⟨h1, h2⟩, h3⟩, h4⟩, h5⟩, h6⟩ := h
  have hout : ∀ t r, tableOut tbl t = some r → r.key = t.key ∧ r ∈ tbl.map (·.1) := by
    intro t r ho
    simp only [tableOut, Option.map_eq_some_iff] at ho
    obtain ⟨p, hp, rfl⟩ := ho
    exact ⟨by simpa using List.find?_some hp, List.mem_map_of_mem (List.mem_of_find?_eq_some hp)⟩
  refine ⟨h2, h3, fun t r ho => (hout t r ho).1, (tableCodec_lawful tbl h1).mono ?_, h6⟩
  intro r hr
  rcases (mem_universe_iff _ r).mp hr with rfl | rfl | ⟨t, _, ho⟩
  · exact h4
  · exact h5
  · exact (hout t r ho).2

example : tableWorldOK Ex.tbl rVer rExp [(0, 0, 0)] = true := Ex.tableWorldOK_w

/-! ### MakeTasks -/

/-- ids do not depend on what was restored: skipping restored ids only filters the task list of a fresh run -/
theorem skip_is_filter (fx : Bool) (K : List Rec) (ts : List (Nat × Nat × Nat)) :
    makeTasks fx K ts = (makeTasks false [] ts).filter (fun t => !done fx K t) := makeTasks_filter fx K ts

theorem tasks_listed_once (ts : List (Nat × Nat × Nat)) (h : ts.Nodup) : (makeTasks false [] ts).Nodup :=
  makeTasks_nodup ts h

/-! ### the resume protocol, repaired code (`Flags.fixed`) -/

/-- [core] a torn tail never raises: for every cut restoring succeeds, `K` holds every complete line, and the file
the new records are appended to is the clean log of `K` (empty, or ending in a newline) -/
theorem restore_eq_prefix (w : World) (hw : w.OK) (L : List Rec) (hL : ValidLog w L) (k : Nat) :
    ∃ j p K, cut w L k = logFile w (L.take j) ++ p ∧
      (p = [] ∨ ∃ x, L[j]? = some x ∧ p <+: w.c.enc x) ∧
      restore Flags.fixed w.c (some (cut w L k)) = some ⟨logFile w K, K⟩ ∧
      K <+: L ∧ L.take j <+: K := by
  obtain ⟨j, p, n, h⟩ := restore_cut Flags.fixed rfl w hw L hL k
  exact ⟨j, p, L.take n, h.cut_eq, h.tail, h.restore_eq, List.take_prefix _ _, h.lines_prefix⟩

/-- [core] the whole property for one resumption, for every cut `k` and every order `app` in which the outputs of the
remaining tasks arrive (all four repairs, no hypothesis on row-less evaluations).  The conjuncts after `let`:
`append_on_fresh_line`; the final read succeeds; the final log is valid again (so the theorem applies to any later
interruption of the resumed run); nothing lost, nothing twice; no restored id is run again -/
theorem resume_correct (w : World) (hw : w.OK) (L : List Rec) (hL : ValidLog w L) (k : Nat) :
    ∃ j p K, cut w L k = logFile w (L.take j) ++ p ∧
      (p = [] ∨ ∃ x, L[j]? = some x ∧ p <+: w.c.enc x) ∧ K <+: L ∧ L.take j <+: K ∧
      restore Flags.fixed w.c (some (cut w L k)) = some ⟨logFile w K, K⟩ ∧
      ∀ app, app.Perm ((makeTasks true K w.triples).filterMap w.out) →
        let o := finish w.c ⟨logFile w K, K⟩ (makeTasks true K w.triples)
          (preamble Flags.fixed w.ver w.exp K) app
        o.file = logFile w (K ++ o.appended) ∧
        o.final = some (K ++ o.appended) ∧
        ValidLog w (K ++ o.appended) ∧
        (K ++ o.appended).Perm w.universe ∧
        (∀ t ∈ o.tasks, ∀ r ∈ K, r.key ≠ t.key) := by
  obtain ⟨j, p, n, h, hfin⟩ := resume_correct_gen Flags.fixed rfl rfl w hw (Or.inl rfl) L hL k
  exact ⟨j, p, L.take n, h.cut_eq, h.tail, List.take_prefix _ _, h.lines_prefix, h.restore_eq,
    fun app happ => resumed_iff.mp (hfin app happ)⟩

/-- the same for the code with the first three repairs only (torn-tail, preamble and gz repair; `Flags.committed`; /repo
has the fourth as well): PARTIAL, under the hypothesis `NonEmptyI` that `empty_rows_counterexample` shows to be necessary there -/
theorem resume_correct_committed (w : World) (hw : w.OK) (hI : NonEmptyI w) (L : List Rec) (hL : ValidLog w L) (k : Nat) :
    ∃ j p K, cut w L k = logFile w (L.take j) ++ p ∧
      (p = [] ∨ ∃ x, L[j]? = some x ∧ p <+: w.c.enc x) ∧ K <+: L ∧ L.take j <+: K ∧
      restore Flags.committed w.c (some (cut w L k)) = some ⟨logFile w K, K⟩ ∧
      ∀ app, app.Perm ((makeTasks false K w.triples).filterMap w.out) →
        let o := finish w.c ⟨logFile w K, K⟩ (makeTasks false K w.triples)
          (preamble Flags.committed w.ver w.exp K) app
        o.file = logFile w (K ++ o.appended) ∧
        o.final = some (K ++ o.appended) ∧
        ValidLog w (K ++ o.appended) ∧
        (K ++ o.appended).Perm w.universe ∧
        (∀ t ∈ o.tasks, ∀ r ∈ K, r.key ≠ t.key) := by
  obtain ⟨j, p, n, h, hfin⟩ := resume_correct_gen Flags.committed rfl rfl w hw (Or.inr hI) L hL k
  exact ⟨j, p, L.take n, h.cut_eq, h.tail, List.take_prefix _ _, h.lines_prefix, h.restore_eq,
    fun app happ => resumed_iff.mp (hfin app happ)⟩

/-- [core] with `no_duplicate_I`, `append_on_fresh_line`: the run in task order (what the driver executes) returns the
same records per id as the uninterrupted run -/
theorem resume_eq_full (w : World) (hw : w.OK) (L : List Rec) (hL : ValidLog w L) (k : Nat) :
    ∃ o F, resume Flags.fixed w (some (cut w L k)) = some o ∧ o.final = some F ∧
      o.file = logFile w F ∧ F = o.restored.K ++ o.appended ∧ o.restored.K <+: L ∧
      ValidLog w F ∧ F.Perm w.universe ∧ (∀ key, bodies F key = bodies w.universe key) ∧
      (∀ t ∈ o.tasks, ∀ r ∈ o.restored.K, r.key ≠ t.key) :=
  resume_eq_gen Flags.fixed rfl rfl w hw (Or.inl rfl) L hL k

theorem resume_eq_full_committed (w : World) (hw : w.OK) (hI : NonEmptyI w) (L : List Rec) (hL : ValidLog w L) (k : Nat) :
    ∃ o F, resume Flags.committed w (some (cut w L k)) = some o ∧ o.final = some F ∧
      o.file = logFile w F ∧ F = o.restored.K ++ o.appended ∧ o.restored.K <+: L ∧
      ValidLog w F ∧ F.Perm w.universe ∧ (∀ key, bodies F key = bodies w.universe key) ∧
      (∀ t ∈ o.tasks, ∀ r ∈ o.restored.K, r.key ≠ t.key) :=
  resume_eq_gen Flags.committed rfl rfl w hw (Or.inr hI) L hL k

/-- [core] stated on the complete lines of the cut file itself, not on what `restore` returned; needs no `NonEmptyI`
(fixes/C02-finished-triples.diff) -/
theorem no_reeval (w : World) (hw : w.OK) (L : List Rec) (hL : ValidLog w L) (k : Nat) :
    ∃ R, restore Flags.fixed w.c (some (cut w L k)) = some R ∧
      ∀ l ∈ (splitNL (cut w L k)).1, ∀ r, w.c.dec l = some r →
        ∀ t ∈ makeTasks true R.K w.triples, t.key ≠ r.key :=
  no_reeval_gen Flags.fixed rfl w hw (Or.inl rfl) L hL k

theorem no_reeval_committed (w : World) (hw : w.OK) (hI : NonEmptyI w) (L : List Rec) (hL : ValidLog w L) (k : Nat) :
    ∃ R, restore Flags.committed w.c (some (cut w L k)) = some R ∧
      ∀ l ∈ (splitNL (cut w L k)).1, ∀ r, w.c.dec l = some r →
        ∀ t ∈ makeTasks false R.K w.triples, t.key ≠ r.key :=
  no_reeval_gen Flags.committed rfl w hw (Or.inr hI) L hL k

/-- the file need not be a byte prefix of a full run's: the version line followed by ANY sub-multiset of the other
records of `full` in ANY order (`Subperm`: what a killed multi-process run leaves; the experiment line may be missing),
cut at any byte, is a valid log, and resuming it gives the records of `full`.  C07's `punched_log_resume` is the matching
statement about the decoded tables -/
theorem resume_from_any_sublog (w : World) (hw : w.OK) (full : List Rec) (hfull : full.Perm w.universe)
    (rest : List Rec) (hsub : (w.ver :: rest).Subperm full) (k : Nat) :
    ValidLog w (w.ver :: rest) ∧
    ∃ o F, resume Flags.fixed w (some (cut w (w.ver :: rest) k)) = some o ∧ o.final = some F ∧
      o.restored.K <+: (w.ver :: rest) ∧ F.Perm full ∧ (∀ key, bodies F key = bodies full key) ∧
      (∀ t ∈ o.tasks, ∀ r ∈ o.restored.K, r.key ≠ t.key) := by
  have hv := validLog_of_subperm w hw full hfull rest hsub
  obtain ⟨o, F, h1, h2, _, _, h5, _, h7, _, h9⟩ := resume_eq_full w hw (w.ver :: rest) hv k
  have hp : F.Perm full := h7.trans hfull.symm
  exact ⟨hv, o, F, h1, h2, h5, hp,
    bodies_eq_of_perm hp ((hfull.map _).nodup_iff.mpr (universe_keys_nodup w hw)), h9⟩

/-- any number of interruptions in a row (`Chain`: killed after `k₁` bytes, resumed, that run killed after `k₂` bytes of
what it would have written, resumed, …); that a chain exists for every `ks` says that no resumption ever raises -/
theorem resume_chain (w : World) (hw : w.OK) (L : List Rec) (hL : ValidLog w L) :
    (∀ ks, ∃ F, Chain Flags.fixed w ks L F) ∧
    (∀ ks F, Chain Flags.fixed w ks L F → ValidLog w F ∧
      (ks ≠ [] → F.Perm w.universe ∧ ∀ key, bodies F key = bodies w.universe key)) :=
  resume_chain_gen Flags.fixed rfl rfl w hw (Or.inl rfl) L hL

theorem resume_chain_committed (w : World) (hw : w.OK) (hI : NonEmptyI w) (L : List Rec) (hL : ValidLog w L) :
    (∀ ks, ∃ F, Chain Flags.committed w ks L F) ∧
    (∀ ks F, Chain Flags.committed w ks L F → ValidLog w F ∧
      (ks ≠ [] → F.Perm w.universe ∧ ∀ key, bodies F key = bodies w.universe key)) :=
  resume_chain_gen Flags.committed rfl rfl w hw (Or.inr hI) L hL

/-- the Result is a function of the records per id; permuted duplicate-free logs agree on it -/
theorem result_eq_of_perm {F U : List Rec} (hp : F.Perm U) (hU : (U.map (·.key)).Nodup) (key : Key) :
    bodies F key = bodies U key := bodies_eq_of_perm hp hU key

/-- the uninterrupted run (no result file), under every version of the code, with no hypothesis on row-less evaluations -/
theorem uninterrupted_run (fl : Flags) (w : World) (hw : w.OK)
    (app : List Rec) (happ : app.Perm ((makeTasks fl.finishedFix [] w.triples).filterMap w.out)) :
    restore fl w.c none = some ⟨[], []⟩ ∧
    let o := finish w.c ⟨[], []⟩ (makeTasks fl.finishedFix [] w.triples) (preamble fl w.ver w.exp []) app
    o.file = logFile w o.appended ∧ o.final = some o.appended ∧ ValidLog w o.appended ∧
    o.appended.Perm w.universe := by
  -- nothing is restored, so no task counts as done whatever the flag says: the tasks are those of the repaired code
  rw [makeTasks_nil, ← makeTasks_nil true] at happ
  have ho := finish_correct w hw true [] (Or.inl rfl) (ValidLog.nil w) fl (Or.inr (Or.inl rfl)) app happ
  exact ⟨rfl, ho.file_eq, ho.final_eq, ho.valid, ho.perm⟩

/-! ### `.gz` result files at byte level -/

/-- what a killed run leaves of a `.gz` file -/
theorem gz_cut_members (ms : List Member) (k : Nat) :
    ∃ j q, (flatM ms).take k = flatM (ms.take j) ++ q ∧
      (q = [] ∨ ∃ m, ms[j]? = some m ∧ q <+: m.bytes ∧ q ≠ m.bytes) := by
  obtain ⟨j, q, _, h⟩ := flatM_blocks.take ms k
  exact ⟨j, q, h⟩

/-- under the zlib laws `MLaws` the member scan of `_drop_torn_tail` stops after the last complete member, so
`f.truncate(good)` leaves the complete members and nothing else -/
theorem gz_member_scan_spec (scan : MScan) (all : List Member) (hl : MLaws scan all) (ms : List Member)
    (hms : ∀ m ∈ ms, m ∈ all) (q : Bytes) (hq : q = [] ∨ ∃ m ∈ all, q <+: m.bytes ∧ q ≠ m.bytes) :
    memberScan scan (flatM ms ++ q) = (flatM ms).length ∧ gzRepair scan (flatM ms ++ q) = flatM ms := by
  have hfuel : (flatM ms).length ≤ (flatM ms ++ q).length := List.length_append ▸ Nat.le_add_right _ _
  have h1 : memberScan scan (flatM ms ++ q) = (flatM ms).length := by
    rw [memberScan, scanLoop_spec hl ms hms q hq _ 0 hfuel, Nat.zero_add]
  exact ⟨h1, by rw [gzRepair, h1, List.take_left]⟩

/-- `gzip.open().read()` on complete members -/
theorem gz_read_spec (scan : MScan) (all : List Member) (hl : MLaws scan all) (ms : List Member)
    (hms : ∀ m ∈ ms, m ∈ all) : gunzip scan (flatM ms) = some (payloadsM ms) := gunzip_spec hl ms hms

/-- without the gz repair a cut that ends in a torn member can not be read: `Result.from_file` raises -/
theorem gz_torn_unreadable (fl : Flags) (hg : fl.repairGz = false) (scan : MScan) (ms : List Member)
    (hlaws : MLaws scan ms) (k : Nat) (j : Nat) (q : Bytes) (h1 : (flatM ms).take k = flatM (ms.take j) ++ q)
    (hq : ∃ m, ms[j]? = some m ∧ q <+: m.bytes ∧ q ≠ m.bytes) (hqne : q ≠ []) :
    gzText fl scan ((flatM ms).take k) = none := by
  obtain ⟨m, hm, hp1, hp2⟩ := hq
  simp only [gzText, hg, Bool.false_eq_true, if_false, gunzip]
  rw [h1]
  exact gunzipLoop_torn hlaws (ms.take j) (fun x hx => List.mem_of_mem_take hx) q
    ⟨m, List.mem_of_getElem? hm, hp1, hp2⟩ hqne _ (List.length_append ▸ Nat.le_add_right _ _)

/-- the driver's concrete scanner (table of the members of the real files) satisfies the laws when the run-time check
`memberTableOK` holds (no member empty, none a prefix of another) -/
theorem table_scan_laws (tbl : List Member) (h : memberTableOK tbl = true) : MLaws (tableScan tbl) tbl := by
  simp only [memberTableOK, Bool.and_eq_true, List.all_eq_true, Bool.not_eq_true', Bool.or_eq_true,
    decide_eq_true_eq] at h
  obtain ⟨hne, hpf⟩ := h
  have hpf' : ∀ a ∈ tbl, ∀ b ∈ tbl, a.bytes <+: b.bytes → a = b := fun a ha b hb hp =>
    (hpf a ha b hb).elim id fun h => absurd (List.isPrefixOf_iff_prefix.mpr hp) (Bool.eq_false_iff.mp h)
  refine ⟨fun m hm rest => ?_, fun m hm q hq hne' => ?_, fun m hm hb => ?_⟩
  · -- some member is found at the front, and two members at the front of the same bytes are one a prefix of the other
    cases hs : tableScan tbl (m.bytes ++ rest) with
    | none =>
      have := List.find?_eq_none.mp (Option.map_eq_none_iff.mp hs) m hm
      exact absurd (List.isPrefixOf_iff_prefix.mpr (List.prefix_append _ _)) this
    | some pn =>
      obtain ⟨p, n⟩ := pn
      obtain ⟨e, he, hep, rfl, rfl⟩ := tableScan_some hs
      have : e = m := (List.prefix_or_prefix_of_prefix hep (List.prefix_append _ _)).elim
        (hpf' e he m hm) fun h => (hpf' m hm e he h).symm
      rw [this]
  · cases hs : tableScan tbl q with
    | none => rfl
    | some pn =>
      obtain ⟨p, n⟩ := pn
      obtain ⟨e, he, hep, rfl, rfl⟩ := tableScan_some hs
      obtain rfl : e = m := hpf' e he m hm (hep.trans hq)
      exact absurd (List.IsPrefix.eq_of_length_le hq hep.length_le) hne'
  · have := hne m hm
    rw [hb] at this; cases this

/-- [core] `resume_correct` for `.gz` files, at byte level: the file holds the valid log `L` one member per record
(`PayloadLog`) and is cut at ANY compressed byte `k`.  The repair keeps the complete members `ms.take j`, which read as the
clean text of a prefix `L.take i`; whatever members `msNew` the resumed run appends for its records, the final file
decompresses to the final file of the text-level protocol -/
theorem gz_resume_correct (w : World) (hw : w.OK) (L : List Rec) (hL : ValidLog w L) (scan : MScan)
    (ms : List Member) (hlaws : MLaws scan ms) (hpl : PayloadLog w.c ms L) (k : Nat) :
    ∃ j i, memberScan scan ((flatM ms).take k) = (flatM (ms.take j)).length ∧
      gzRepair scan ((flatM ms).take k) = flatM (ms.take j) ∧
      gzText Flags.fixed scan ((flatM ms).take k) = some (logFile w (L.take i)) ∧
      restore Flags.fixed w.c (some (logFile w (L.take i))) = some ⟨logFile w (L.take i), L.take i⟩ ∧
      ∀ app, app.Perm ((makeTasks true (L.take i) w.triples).filterMap w.out) →
        ∀ msNew, PayloadLog w.c msNew (preamble Flags.fixed w.ver w.exp (L.take i) ++ app) →
          MLaws scan (ms.take j ++ msNew) →
          let o := finish w.c ⟨logFile w (L.take i), L.take i⟩ (makeTasks true (L.take i) w.triples)
            (preamble Flags.fixed w.ver w.exp (L.take i)) app
          gunzip scan (flatM (ms.take j) ++ flatM msNew) = some o.file ∧
          o.final = some (L.take i ++ o.appended) ∧
          ValidLog w (L.take i ++ o.appended) ∧
          (L.take i ++ o.appended).Perm w.universe ∧
          (∀ t ∈ o.tasks, ∀ r ∈ L.take i, r.key ≠ t.key) := by
  obtain ⟨j, q, h1, h2⟩ := gz_cut_members ms k
  have hsub : ∀ m ∈ ms.take j, m ∈ ms := fun m hm => List.mem_of_mem_take hm
  have hq : q = [] ∨ ∃ m ∈ ms, q <+: m.bytes ∧ q ≠ m.bytes := by
    rcases h2 with h | ⟨m, hm, hp1, hp2⟩
    · exact Or.inl h
    · exact Or.inr ⟨m, List.mem_of_getElem? hm, hp1, hp2⟩
  obtain ⟨hscan, hrep⟩ := gz_member_scan_spec scan ms hlaws (ms.take j) hsub q hq
  -- the complete members hold a prefix of the log; from here on it is the text protocol on that clean log
  obtain ⟨i, hi⟩ := payloadLog_take w.c ms L hpl j
  have hKv := hL.take i
  refine ⟨j, i, by rw [h1]; exact hscan, by rw [h1]; exact hrep, ?_, restore_logFile_repaired Flags.fixed rfl w hw _ hKv, ?_⟩
  · show gunzip scan (gzRepair scan ((flatM ms).take k)) = _
    rw [h1, hrep]
    exact gunzip_payloadLog hlaws hsub hi
  · intro app happ msNew hnew hlaws2
    have ho := finish_correct w hw true (L.take i) (Or.inl rfl) hKv Flags.fixed (Or.inl rfl) app happ
    refine ⟨?_, ho.final_eq, ho.valid, ho.perm, ho.fresh⟩
    rw [← flatM_blocks.append, gunzip_payloadLog hlaws2 (fun m hm => hm) (payloadLog_append _ _ _ _ _ hi hnew), ho.file_eq]
    rfl

/-- `.gz`: with the incomplete trailing member dropped (zlib trusted for "a truncated member
does not decompress completely") the file is a cut on a record boundary, so `resume_correct`
applies -/
theorem gz_cut_is_cut (w : World) (L : List Rec) (j : Nat) (torn : Bool) :
    ∃ k, gzView Flags.fixed (L.map w.c.enc) j torn = some (cut w L k) := by
  refine ⟨(serialize ((L.map w.c.enc).take j)).length, ?_⟩
  simp only [gzView, Flags.fixed, Bool.not_true, Bool.and_false, Bool.false_eq_true, if_false, cut, logFile]
  rw [← List.prefix_iff_eq_take.mp (serialize_blocks.take_prefix _ j)]

/-! ### which files are gzip files (translator obligation) -/

/-- the three predicates extracted from coba/pipes/sinks.py, coba/pipes/sources.py and coba/experiments/core.py on this
run are the same expression … -/
theorem gz_preds_equal : Coba.Generated.C02Gz.sinkPred = Coba.Generated.C02Gz.sourcePred ∧
    Coba.Generated.C02Gz.sourcePred = Coba.Generated.C02Gz.repairPred := by decide

/-- … hence sink, source and torn-tail repair agree on EVERY file name whether it is a gzip file -/
theorem gz_decision_consistent (name : Bytes) :
    Coba.Generated.C02Gz.sinkPred.eval name = Coba.Generated.C02Gz.sourcePred.eval name ∧
    Coba.Generated.C02Gz.sourcePred.eval name = Coba.Generated.C02Gz.repairPred.eval name := by
  rw [gz_preds_equal.1, gz_preds_equal.2]; exact ⟨rfl, rfl⟩

/-- the same by evaluation on the table of generated name shapes -/
theorem gz_decision_table :
    nameShapes.map Coba.Generated.C02Gz.sourcePred.eval = nameShapes.map Coba.Generated.C02Gz.sinkPred.eval ∧
    nameShapes.map Coba.Generated.C02Gz.repairPred.eval = nameShapes.map Coba.Generated.C02Gz.sinkPred.eval := by
  decide

/-- what `".gz" in name` and `name.endswith(".gz")` give on those shapes (they differ on r.gz.bak, r.gzip, a.gz.d/r.log) -/
theorem gz_contains_table :
    nameShapes.map (GzPred.contains [46, 103, 122]).eval = [false, true, true, true, true, false, true, false, true] ∧
    nameShapes.map (GzPred.endsWith [46, 103, 122]).eval = [false, true, false, false, false, false, true, false, true] := by
  decide +kernel

/-! ### the code as it is (`Flags.cur`): partial, with the forced hypotheses and witnesses -/

/-
theorem resume_correct_cur_full : the statement of `resume_correct` with `Flags.cur`.
FALSE: see `torn_tail_counterexample`, `glued_record_counterexample`,
`empty_file_counterexample`, `version_only_counterexample`, `gz_torn_counterexample`.
-/

/-- the unrepaired code is correct when the cut falls on a record boundary (`logFile w K`, no tail) and the experiment
line was already written (`w.exp ∈ K`) -/
theorem resume_cur_partial (w : World) (hw : w.OK) (hI : NonEmptyI w) (K : List Rec) (hK : ValidLog w K)
    (hexp : w.exp ∈ K) (app : List Rec) (happ : app.Perm ((makeTasks false K w.triples).filterMap w.out)) :
    restore Flags.cur w.c (some (logFile w K)) = some ⟨logFile w K, K⟩ ∧
    let o := finish w.c ⟨logFile w K, K⟩ (makeTasks false K w.triples) (preamble Flags.cur w.ver w.exp K) app
    o.file = logFile w (K ++ o.appended) ∧ o.final = some (K ++ o.appended) ∧
    ValidLog w (K ++ o.appended) ∧ (K ++ o.appended).Perm w.universe ∧
    (∀ t ∈ o.tasks, ∀ r ∈ K, r.key ≠ t.key) :=
  ⟨restore_boundary Flags.cur w hw K hK (List.ne_nil_of_mem hexp),
    resumed_iff.mp (finish_correct w hw false K (Or.inr hI) hK Flags.cur (Or.inr (Or.inr hexp)) app happ)⟩

/-- the hypotheses of `resume_correct` are satisfiable: the example experiment meets all of them -/
theorem example_universe : Ex.w.universe = [rVer, rExp, rE, rL, rV, rI] := by decide +kernel

example : Ex.w.OK := table_world_ok _ _ _ _ Ex.tableWorldOK_w

example : NonEmptyI Ex.w := by
  intro r hr e l v hk
  rw [example_universe] at hr
  simp only [List.mem_cons, List.mem_nil_iff, or_false] at hr
  -- only `rI` is the record of an evaluation
  rcases hr with rfl | rfl | rfl | rfl | rfl | rfl
  · cases hk
  · cases hk
  · cases hk
  · cases hk
  · cases hk
  · exact Nat.zero_lt_two

example : ValidLog Ex.w Ex.log := Ex.validLog_log

example : ValidLog Ex.w [rVer, rExp, rE] ∧ Ex.w.exp ∈ [rVer, rExp, rE] := by
  exact ⟨⟨by decide +kernel, by decide +kernel, fun r hr => (Option.some.inj hr).symm⟩, by decide +kernel⟩

/-- the example experiment: the uninterrupted run writes `[v] [x] [E] [L] [V] [I]`, one per line -/
theorem example_full_log : (resume Flags.cur Ex.w none).map (·.file) = some Ex.full := by decide +kernel

/-- C02-F1: cut inside a record (`…[x]\n[E`): restoring raises (JSONDecodeError) -/
theorem torn_tail_counterexample : (resume Flags.cur Ex.w (some (Ex.full.take 10))).isNone = true := by decide +kernel

/-- C02-F2: cut just before a newline (`…[E]`): restoring works, the next record is glued onto
the unterminated line and the final read raises -/
theorem glued_record_counterexample :
    (resume Flags.cur Ex.w (some (Ex.full.take 11))).map (·.final) = some none := by decide +kernel

/-- C02-F3: the file exists but is empty (killed before the first flush): restoring raises -/
theorem empty_file_counterexample : (resume Flags.cur Ex.w (some [])).isNone = true := by decide +kernel

/-- C02-F4: killed between the version line and the experiment line: the experiment line is never
written, the final Result has lost the experiment's metadata -/
theorem version_only_counterexample :
    (resume Flags.cur Ex.w (some (Ex.full.take 4))).map (fun o => o.final.map (fun F => decide (rExp ∈ F)))
      = some (some false) := by decide +kernel

/-- C02-F5: a `.gz` log with an incomplete trailing member can not be read -/
theorem gz_torn_counterexample : gzView Flags.cur (Ex.log.map Ex.w.c.enc) 3 true = none := by decide +kernel

/-- the same inputs under the repaired code -/
theorem counterexamples_repaired :
    ((resume Flags.fixed Ex.w (some (Ex.full.take 10))).map (fun o => o.final.map (fun F => decide (F.Perm Ex.log)))) = some (some true) ∧
    ((resume Flags.fixed Ex.w (some (Ex.full.take 11))).map (fun o => o.final.map (fun F => decide (F.Perm Ex.log)))) = some (some true) ∧
    ((resume Flags.fixed Ex.w (some [])).map (fun o => o.final.map (fun F => decide (F.Perm Ex.log)))) = some (some true) ∧
    ((resume Flags.fixed Ex.w (some (Ex.full.take 4))).map (fun o => o.final.map (fun F => decide (F.Perm Ex.log)))) = some (some true) := by
  decide +kernel

/-! ### maximal prefix, idempotence, entry point, end to end -/

/-- `_drop_torn_tail` followed by record decoding restores EXACTLY the maximal prefix of complete records: `nCompleteB`
counts the leading records whose text is completely present in the cut file (one whose newline is missing counts) -/
theorem restore_maximal_prefix (w : World) (hw : w.OK) (L : List Rec) (hL : ValidLog w L) (k : Nat) :
    restore Flags.fixed w.c (some (cut w L k)) =
      some ⟨logFile w (L.take (nCompleteB w.c L (cut w L k))), L.take (nCompleteB w.c L (cut w L k))⟩ := by
  obtain ⟨_, _, n, h⟩ := restore_cut Flags.fixed rfl w hw L hL k
  rw [h.count]; exact h.restore_eq

/-- a cut of the example log inside its 4th record keeps 3 records; one byte before the 4th newline keeps 4 -/
example : nCompleteB Ex.w.c Ex.log (cut Ex.w Ex.log 13) = 3 ∧ nCompleteB Ex.w.c Ex.log (cut Ex.w Ex.log 15) = 4 ∧
    nCompleteB Ex.w.c Ex.log (cut Ex.w Ex.log 16) = 4 := by decide +kernel

/-- running the experiment again on a COMPLETE plain log leaves the file byte-identical; the only tasks it runs are those
that never produce a record (raising evaluations) -/
theorem resume_idempotent (w : World) (hw : w.OK) (L : List Rec) (hL : ValidLog w L) (hfull : L.Perm w.universe) :
    ∃ o, resume Flags.fixed w (some (logFile w L)) = some o ∧ o.restored.K = L ∧ o.appended = [] ∧
      o.file = logFile w L ∧ o.final = some L ∧ (∀ t ∈ o.tasks, w.out t = none) :=
  resume_idempotent_gen Flags.fixed rfl w hw (Or.inl rfl) L hL hfull

theorem resume_idempotent_committed (w : World) (hw : w.OK) (hI : NonEmptyI w) (L : List Rec) (hL : ValidLog w L)
    (hfull : L.Perm w.universe) :
    ∃ o, resume Flags.committed w (some (logFile w L)) = some o ∧ o.restored.K = L ∧ o.appended = [] ∧
      o.file = logFile w L ∧ o.final = some L ∧ (∀ t ∈ o.tasks, w.out t = none) :=
  resume_idempotent_gen Flags.committed rfl w hw (Or.inr hI) L hL hfull

example : ValidLog Ex.w Ex.log ∧ Ex.log.Perm Ex.w.universe := by
  exact ⟨Ex.validLog_log, by rw [example_universe]; decide +kernel⟩

/-- the example: second run on the complete file runs no task and leaves the 24 bytes as they are -/
theorem resume_idempotent_example :
    (resume Flags.fixed Ex.w (some Ex.full)).map (fun o => (o.tasks, o.appended, decide (o.file = Ex.full))) =
      some ([], [], true) := by decide +kernel

/-- for a complete `.gz` log the repair removes no byte and the text read is the log.  Byte-identity does not hold: every
run appends an end-of-run member `e` with empty payload (DiskSink opens and closes the file once more; the harness checks
exactly this), and the grown file still reads as the same text -/
theorem resume_idempotent_gz (w : World) (L : List Rec) (scan : MScan) (ms : List Member) (e : Member)
    (he : e.payload = []) (hlaws : MLaws scan (ms ++ [e])) (hpl : PayloadLog w.c ms L) :
    gzRepair scan (flatM ms) = flatM ms ∧ gzText Flags.fixed scan (flatM ms) = some (logFile w L) ∧
    gunzip scan (flatM ms ++ e.bytes) = some (logFile w L) := by
  have hl1 : MLaws scan ms := hlaws.mono (fun m hm => List.mem_append_left _ hm)
  have h1 := (gz_member_scan_spec scan ms hl1 ms (fun m hm => hm) [] (Or.inl rfl)).2
  rw [List.append_nil] at h1
  refine ⟨h1, ?_, ?_⟩
  · show gunzip scan (gzRepair scan (flatM ms)) = _
    rw [h1]
    exact gunzip_payloadLog hl1 (fun m hm => hm) hpl
  · have hpl' := payloadLog_append w.c ms [e] L [] hpl (PayloadLog.empty he PayloadLog.nil)
    rw [List.append_nil] at hpl'
    have : flatM ms ++ e.bytes = flatM (ms ++ [e]) := by simp [flatM_blocks.append, flatM]
    rw [this]
    exact gunzip_payloadLog hlaws (fun m hm => hm) hpl'

/-- `Experiment.run(result_file)` as a function of the path: missing directory raises; no file = fresh run; a name the
gzip test rejects hands the bytes to the protocol unchanged; a name it accepts hands over the text of the repaired members
(or raises when they can not be read); `Result.from_file` on the file a run leaves is the Result it returned -/
theorem entry_glue (fl : Flags) (w : World) (isGz : GzPred) (scan : MScan) (name : Bytes) :
    (∀ file, runEntry fl w isGz scan ⟨name, false, file⟩ = none) ∧
    (runEntry fl w isGz scan ⟨name, true, none⟩ = resume fl w none) ∧
    (isGz.eval name = false → ∀ data, runEntry fl w isGz scan ⟨name, true, some data⟩ = resume fl w (some data)) ∧
    (isGz.eval name = true → ∀ data, runEntry fl w isGz scan ⟨name, true, some data⟩ =
        (gzText fl scan data).bind (fun text => resume fl w (some text))) ∧
    (isGz.eval name = false → ∀ R tasks pre app,
        fromFile w.c isGz scan name (finish w.c R tasks pre app).file = (finish w.c R tasks pre app).final) := by
  refine ⟨fun file => by simp [runEntry, entryText], by simp [runEntry, entryText], ?_, ?_, ?_⟩
  · intro h data; simp [runEntry, entryText, h]
  · intro h data
    simp only [runEntry, entryText, h, Bool.not_true, Bool.false_eq_true, if_false, if_true]
    cases gzText fl scan data <;> rfl
  · intro h R tasks pre app
    simp [fromFile, h, finish]

/-- at FILE level, over arbitrary cut sequences (`ByteChain`: start from the file of any valid log, kill the run after
`k₁` bytes, run again in any arrival order, kill that run after `k₂` bytes of the file it would have left, …).  Every file
on a chain is a clean log, so every run's first write starts on a fresh line; after at least one run `Result.from_file`
decodes it to the records of the uninterrupted run -/
theorem cut_resume_end_to_end (w : World) (hw : w.OK) (L : List Rec) (hL : ValidLog w L) :
    (∀ ks, ∃ h, ByteChain Flags.fixed w ks (logFile w L) h) ∧
    (∀ ks h, ByteChain Flags.fixed w ks (logFile w L) h → ∃ F, h = logFile w F ∧ ValidLog w F ∧
      (ks ≠ [] → decodeAll w.c h = some F ∧ F.Perm w.universe ∧ ∀ key, bodies F key = bodies w.universe key)) :=
  cut_resume_end_to_end_gen Flags.fixed rfl rfl w hw (Or.inl rfl) L hL

/-! ### the member scan as written in the source (chunked reads) -/

/-- the loop of `_drop_torn_tail` as it is written — `f.read(c)` chunks, a decompressor fed chunk by chunk,
`good = f.tell()-len(member.unused_data)`, `f.seek(good)`, break on `zlib.error` — computes the offset of the abstract
member split `memberScan`, on which `gz_member_scan_spec`, `gz_resume_correct`, `resume_idempotent_gz` are built -/
theorem chunk_scan_eq_member_scan (z : ZScan) (hz : ZLaws z) (c : Nat) (hc : 1 ≤ c) (data : Bytes) :
    chunkScan z c data = memberScan (toMScan z) data := by
  have := chunkLoop_eq z hz c hc data 0 0 (data.length + 1) (Nat.le_refl _) (Nat.zero_le _)
    (fun h => absurd h (Nat.lt_irrefl _)) (Nat.lt_succ_of_le (Nat.sub_le _ _))
  simpa [chunkScan, memberScan] using this

theorem chunk_size_independent (z : ZScan) (hz : ZLaws z) (c₁ c₂ : Nat) (h₁ : 1 ≤ c₁) (h₂ : 1 ≤ c₂) (data : Bytes) :
    chunkScan z c₁ data = chunkScan z c₂ data :=
  (chunk_scan_eq_member_scan z hz c₁ h₁ data).trans (chunk_scan_eq_member_scan z hz c₂ h₂ data).symm

/-- `gz_member_scan_spec` for the loop as written -/
theorem chunk_scan_spec (z : ZScan) (hz : ZLaws z) (all : List Member) (hl : MLaws (toMScan z) all) (c : Nat) (hc : 1 ≤ c)
    (ms : List Member) (hms : ∀ m ∈ ms, m ∈ all) (q : Bytes) (hq : q = [] ∨ ∃ m ∈ all, q <+: m.bytes ∧ q ≠ m.bytes) :
    chunkScan z c (flatM ms ++ q) = (flatM ms).length ∧
      (flatM ms ++ q).take (chunkScan z c (flatM ms ++ q)) = flatM ms := by
  rw [chunk_scan_eq_member_scan z hz c hc, (gz_member_scan_spec _ all hl ms hms q hq).1]
  exact ⟨rfl, List.take_left⟩

/-- the hypothesis `1 ≤ c` is necessary: `f.read(0)` returns `b''` at once and everything is truncated -/
theorem chunk_zero_counterexample (z : ZScan) (data : Bytes) : chunkScan z 0 data = 0 := by
  unfold chunkScan; rw [chunkLoop]; simp

/-- the driver's streaming decompressor (table of the real file's members) satisfies `ZLaws` when `memberTableOK`
holds, and its one-shot form is the `tableScan` the other theorems are run with -/
theorem table_z_laws (tbl : List Member) (h : memberTableOK tbl = true) :
    ZLaws (tableZ tbl) ∧ toMScan (tableZ tbl) = tableScan tbl := by
  have hl := table_scan_laws tbl h
  refine ⟨⟨?_, ?_, ?_⟩, ?_⟩
  · intro b p n hb
    obtain ⟨m, hm, hpre, rfl, rfl⟩ := tableScan_some (tableZ_eof hb)
    exact ⟨List.length_pos_iff.mpr (hl.ne m hm), hpre.length_le⟩
  · intro b p n hb rest
    obtain ⟨m, hm, hpre, rfl, rfl⟩ := tableScan_some (tableZ_eof hb)
    have : b.take m.bytes.length = m.bytes := by obtain ⟨t, rfl⟩ := hpre; simp
    rw [this]; unfold tableZ; rw [hl.complete m hm rest]
  · intro b p n hb k hk
    obtain ⟨m, hm, hpre, rfl, rfl⟩ := tableScan_some (tableZ_eof hb)
    -- fewer bytes than the member has: a proper prefix of a table member, so `more`
    have e : b.take k = m.bytes.take k := by
      obtain ⟨t, rfl⟩ := hpre; rw [List.take_append_of_le_length (Nat.le_of_lt hk)]
    unfold tableZ
    rw [e, hl.torn m hm _ (List.take_prefix _ _) (take_ne_of_lt hk)]
    have : tbl.any (fun m' => (m.bytes.take k).isPrefixOf m'.bytes) = true := by
      simp only [List.any_eq_true]; exact ⟨m, hm, List.isPrefixOf_iff_prefix.mpr (List.take_prefix _ _)⟩
    simp [this]
  · funext b; unfold toMScan tableZ
    cases hs : tableScan tbl b with
    | none =>
      by_cases ha : (tbl.any fun m => List.isPrefixOf b m.bytes) = true <;> simp [ha]
    | some pn => rfl

/-- non-vacuity: a two-member table, the file "member a, member b, two bytes of a", read 1, 2, 3 and 4096 bytes at a time -/
example : memberTableOK [⟨[1], [7, 8, 9]⟩, ⟨[], [5, 6]⟩] = true ∧
    ∀ c, 1 ≤ c → chunkScan (tableZ [⟨[1], [7, 8, 9]⟩, ⟨[], [5, 6]⟩]) c [7, 8, 9, 5, 6, 7, 8] = 5 := by
  have hT : memberTableOK [⟨[1], [7, 8, 9]⟩, ⟨[], [5, 6]⟩] = true := by decide +kernel
  obtain ⟨hz, he⟩ := table_z_laws _ hT
  refine ⟨hT, fun c hc => ?_⟩
  rw [chunk_scan_eq_member_scan _ hz c hc, he]
  decide +kernel

/-- [translator obligation] the read size and the decompressor parameters extracted from the CURRENT source are the
ones the model and the driver use (any read size ≥ 1 is covered by the theorem; 31 = gzip container, which `ZLaws` is about) -/
theorem scan_consts_as_modelled :
    1 ≤ Coba.Generated.C02Scan.readSize ∧ Coba.Generated.C02Scan.wbits = [31, 31] ∧
    Coba.Generated.C02Scan.loopShape = ["for:iter-read-sentinel-b''", "try:member.decompress(chunk)", "except:zlib.error:break",
      "if:member.eof", "good=f.tell()-len(member.unused_data)", "f.seek(good)", "member=zlib.decompressobj", "after:f.truncate(good)"] :=
  ⟨by decide, rfl, rfl⟩

/-! ### the shape test of `Experiment.run` against a restored log -/

/-- no mismatch on ANY set of restored records of the own experiment (sparse logs, logs without experiment line) -/
theorem no_mismatch_own (w : World) (hw : w.OK) (shapeOf : Rec → Option Nat × Option Nat)
    (hs : shapeOf w.exp = (some (givenShape w.triples).1, some (givenShape w.triples).2))
    (K : List Rec) (hK : ∀ r ∈ K, r ∈ w.universe) :
    shapeMismatch shapeOf (givenShape w.triples) K = false := by
  unfold shapeMismatch
  rcases restoredShape_own w hw shapeOf K hK with h | h
  · rw [h, hs]; simp
  · rw [h]; simp

/-- the shape test of `run` (`n_learners`/`n_environments` of the restored experiment line against the experiment given)
never fires on a log the experiment's own runs wrote: the checked run IS the resumed run of `resume_correct` -/
theorem resume_never_mismatch (w : World) (hw : w.OK) (shapeOf : Rec → Option Nat × Option Nat)
    (hs : shapeOf w.exp = (some (givenShape w.triples).1, some (givenShape w.triples).2))
    (L : List Rec) (hL : ValidLog w L) (k : Nat) :
    ∃ o, resume Flags.fixed w (some (cut w L k)) = some o ∧
      resumeChecked Flags.fixed w shapeOf (givenShape w.triples) (some (cut w L k)) = some (false, o) := by
  obtain ⟨_, _, n, h⟩ := restore_cut Flags.fixed rfl w hw L hL k
  have hm := no_mismatch_own w hw shapeOf hs (L.take n) (hL.take n).mem_universe
  refine ⟨finish w.c ⟨logFile w (L.take n), L.take n⟩ (makeTasks Flags.fixed.finishedFix (L.take n) w.triples)
    (preamble Flags.fixed w.ver w.exp (L.take n))
    ((makeTasks Flags.fixed.finishedFix (L.take n) w.triples).filterMap w.out), ?_, ?_⟩
  · simp only [resume, h.restore_eq]
  · simp only [resumeChecked, h.restore_eq, hm]
    rfl

/-- a genuinely different shape is detected (the run then evaluates and writes nothing: `resumeChecked`) -/
theorem mismatch_raises (shapeOf : Rec → Option Nat × Option Nat) (given : Nat × Nat) (K : List Rec) (r : Rec)
    (hr : (K.filter (fun r => decide (r.key = Key.exp))).getLast? = some r) (nl ne : Nat)
    (hs : shapeOf r = (some nl, some ne)) (hne : nl ≠ given.1 ∨ ne ≠ given.2) :
    shapeMismatch shapeOf given K = true := by
  have hK : K.isEmpty = false := by
    cases K with
    | nil => simp at hr
    | cons _ _ => rfl
  have hrs : restoredShape shapeOf K = (some nl, some ne) := by
    unfold restoredShape; rw [hr]; exact hs
  unfold shapeMismatch
  rw [hrs, hK]
  rcases hne with h | h <;> simp [h]

/-- non-vacuity / the converse does not hold: a different experiment with the SAME counts passes the test
(1 learner, 1 environment: a log of experiment A is accepted by any experiment B of that shape) -/
example : shapeMismatch (fun _ => (some 1, some 1)) (givenShape [(5, 9, 0)]) [Ex.rVer, Ex.rExp] = false ∧
    shapeMismatch (fun _ => (some 1, some 1)) (givenShape [(5, 9, 0), (5, 8, 0)]) [Ex.rVer, Ex.rExp] = true := by decide +kernel

/-- the shape test counts learners and environments only: replacing the evaluators of the triples (more, fewer,
others) leaves (`n_learners`, `n_environments`) as they are — with `no_mismatch_own` the test can not fire on such a re-run -/
theorem shape_ignores_evaluators (ts : List (Nat × Nat × Nat)) (g : Nat × Nat × Nat → Nat) :
    givenShape (ts.map (fun t => (t.1, t.2.1, g t))) = givenShape ts := by
  simp [givenShape, List.map_map, Function.comp_def]

/-! ### universal newlines -/

/-- when no record text holds a raw `\r` (json.dumps escapes it; the harness checks every real record to be printable
ASCII), reading any cut of the log with universal-newline translation — what DiskSource really does — gives what the
`\n`-only reading of the other theorems gives -/
theorem universal_newlines_irrelevant (w : World) (L : List Rec) (h : ∀ r ∈ L, CR ∉ w.c.enc r) (k : Nat) :
    decodeAllU w.c (cut w L k) = decodeAll w.c (cut w L k) :=
  decodeAllU_eq _ _ fun hm =>
    noCR_serialize (L.map w.c.enc) (List.forall_mem_map.mpr h) (List.mem_of_mem_take hm)

/-- the hypothesis is necessary: a record text `[\r]` is one line for the `\n`-only reader and two undecodable lines for the real one -/
theorem cr_counterexample :
    let c := tableCodec [(⟨.ver, 0, 0⟩, [91, 13, 93])]
    decodeAll c (serialize [[91, 13, 93]]) = some [⟨.ver, 0, 0⟩] ∧ decodeAllU c (serialize [[91, 13, 93]]) = none := by
  decide +kernel

/-! ### the order ChunkTasks / ProcessTasks give the tasks -/

/-- whatever environments are chunk()ed and whatever `maxtasksperchunk`, ChunkTasks + ProcessTasks run a permutation of
what MakeTasks emitted: no task lost, none run twice -/
theorem run_order_perm (chunkOf : Nat → Option Nat) (m : Nat) (tasks : List Task) : (runOrder chunkOf m tasks).Perm tasks :=
  runOrder_perm chunkOf m tasks

/-- `resume_correct` for the order the real single-process pipeline produces (records arrive in ChunkTasks/ProcessTasks
order, not in MakeTasks order) -/
theorem resume_correct_run_order (w : World) (hw : w.OK) (L : List Rec) (hL : ValidLog w L) (k : Nat)
    (chunkOf : Nat → Option Nat) (m : Nat) :
    ∃ K, restore Flags.fixed w.c (some (cut w L k)) = some ⟨logFile w K, K⟩ ∧ K <+: L ∧
        let o := finish w.c ⟨logFile w K, K⟩ (makeTasks true K w.triples) (preamble Flags.fixed w.ver w.exp K)
          ((runOrder chunkOf m (makeTasks true K w.triples)).filterMap w.out)
        o.file = logFile w (K ++ o.appended) ∧ o.final = some (K ++ o.appended) ∧ ValidLog w (K ++ o.appended) ∧
        (K ++ o.appended).Perm w.universe ∧ (∀ t ∈ o.tasks, ∀ r ∈ K, r.key ≠ t.key) := by
  obtain ⟨_, _, n, h, hfin⟩ := resume_correct_gen Flags.fixed rfl rfl w hw (Or.inl rfl) L hL k
  exact ⟨_, h.restore_eq, List.take_prefix n L, resumed_iff.mp (hfin _ ((runOrder_perm chunkOf m _).filterMap w.out))⟩

/-! ### `Result.from_file` on a cut file WITHOUT resuming

Reading of the statement: "a final record that was only partly written never makes the file unusable" is about the protocol
of the first sentence (running the experiment again with that file): `restore_eq_prefix`, `resume_correct`.  Reading the
file directly is a different entry point; what it does on each kind of cut is stated here.  Readable: a cut on a record
boundary (≥ 1 record) and a cut that only misses the final newline.  Raises: the empty file, and every cut strictly inside a
record.  After ANY `Experiment.run` on the file (`cut_resume_end_to_end`) it is readable again. -/

/-- on a plain file that ends strictly inside a record `Result.from_file` raises (any line that does not decode raises in
TransactionDecode) -/
theorem from_file_torn (w : World) (hw : w.OK) (isGz : GzPred) (scan : MScan) (name : Bytes) (hn : isGz.eval name = false)
    (A : List Rec) (hA : ∀ r ∈ A, r ∈ w.universe) (r : Rec) (hr : r ∈ w.universe) (p : Bytes) (hp : p <+: w.c.enc r)
    (hne : p ≠ []) (hpr : p ≠ w.c.enc r) :
    fromFile w.c isGz scan name (logFile w A ++ p) = none := by
  have hl := lines_tail _ (hw.codec.noNL_texts hA) (hw.codec.ne_texts hA) (NoNL_prefix (hw.codec.noNL r hr) hp) hne
  simp only [fromFile, hn, Bool.false_eq_true, if_false, decodeAll, logFile, hl,
    decodeLines_append_none _ _ _ (hw.codec.torn r hr p hp hpr)]

/-- a cut that only misses the newline of the last record is readable, all records included -/
theorem from_file_unterminated (w : World) (hw : w.OK) (isGz : GzPred) (scan : MScan) (name : Bytes) (hn : isGz.eval name = false)
    (A : List Rec) (hA : ∀ r ∈ A, r ∈ w.universe) (r : Rec) (hr : r ∈ w.universe)
    (hver : ∀ x, (A ++ [r]).head? = some x → x.key = Key.ver) :
    fromFile w.c isGz scan name (logFile w A ++ w.c.enc r) = some (A ++ [r]) := by
  have hl : lines (logFile w A ++ w.c.enc r) = (A ++ [r]).map w.c.enc := by
    rw [List.map_append]
    exact lines_tail _ (hw.codec.noNL_texts hA) (hw.codec.ne_texts hA) (hw.codec.noNL r hr) (hw.codec.ne r hr)
  rw [fromFile, hn, if_neg Bool.false_ne_true]
  exact decodeAll_of_lines hw.codec (List.forall_mem_append.mpr ⟨hA, List.forall_mem_singleton.mpr hr⟩)
    (List.append_ne_nil_of_right_ne_nil _ (List.cons_ne_nil _ _)) hver hl

/-- the witness: 10 bytes of the example log (cut inside the third record) — reading it directly raises, resuming it works -/
theorem from_file_torn_counterexample :
    decodeAll Ex.w.c (Ex.full.take 10) = none ∧ (restore Flags.fixed Ex.w.c (some (Ex.full.take 10))).isSome = true := by decide +kernel

/-! ### the hypothesis `NonEmptyI` is necessary without the finished-triples repair (`Flags.committed`; finding C02-F6) -/

/-
theorem resume_correct_committed_full : `resume_correct_committed` without `hI : NonEmptyI w`.
FALSE: MakeTasks learns the finished triples from the rows of the interactions table, and an `I` record without rows
contributes none.  With fixes/C02-finished-triples.diff (`Flags.fixed`) the hypothesis is gone: `resume_correct`.
-/

/-- C02-F6: an evaluation that yields no rows is recorded as `["I",[0,0,0],{"_packed":{}}]`;
resuming from the COMPLETE log evaluates that triple again and records it a second time -/
theorem empty_rows_counterexample :
    (resume Flags.committed Ex.w0 (some Ex.full0)).map (fun o => (o.tasks, o.final.map keysNodup))
      = some ([Task.eval 0 0 0], some false) := by decide +kernel

/-- the same input with the finished-triples repair: nothing is run, nothing is recorded twice -/
theorem empty_rows_repaired :
    (resume Flags.fixed Ex.w0 (some Ex.full0)).map (fun o => (o.tasks, o.final.map keysNodup))
      = some ([], some true) := by decide +kernel

/-! ### sizes: `maxtasksperchunk`, one gzip member per record, the window of the torn-tail repair -/

/-- for EVERY `maxtasksperchunk = k ≥ 1`, whether or not `k` divides the number of tasks, `_max_chunker` loses and
repeats nothing -/
theorem resume_chunking_complete (k : Nat) (hk : 1 ≤ k) (l : List Task) :
    (batches k l).flatten = l ∧ (∀ b ∈ batches k l, b ≠ [] ∧ b.length ≤ k) ∧ (∀ b ∈ (batches k l).dropLast, b.length = k) := by
  rw [batches_of_ne_zero (Nat.ne_of_gt hk)]
  exact batches_go_spec k hk l _ (Nat.le_refl _)

example : batches 2 [Task.penv 0, Task.eval 0 0 0, Task.eval 0 1 0] = [[Task.penv 0, Task.eval 0 0 0], [Task.eval 0 1 0]] := by decide +kernel

/-- the same for the whole ChunkTasks step of a resumed run: whatever was restored (`K`), whichever environments are
chunk()ed and whatever `k` (0 = no limit), every task MakeTasks emitted is in exactly one chunk -/
theorem resume_chunking_no_task_twice (chunkOf : Nat → Option Nat) (k : Nat) (K : List Rec) (triples : List (Nat × Nat × Nat))
    (h : (makeTasks true K triples).Nodup) :
    (chunkTasks chunkOf k (makeTasks true K triples)).flatten.Perm (makeTasks true K triples) ∧
    (chunkTasks chunkOf k (makeTasks true K triples)).flatten.Nodup :=
  ⟨chunkTasks_flatten_perm _ _ _, (chunkTasks_flatten_perm _ _ _).nodup_iff.mpr h⟩

example : (makeTasks true [] [(0, 0, 0), (0, 1, 0)]).Nodup := by decide +kernel

/-- `_max_chunker` run as the small program the translator extracts from the source (`islice` batches in a
`while batch != []` loop) yields exactly the model's `batches`, for every `max_tasks` (0 = None) and every task list -/
theorem max_chunker_prog_eq_batches (m : Nat) (l : List Task) : runChunker maxChunkerProg m l = batches m l := by
  unfold runChunker maxChunkerProg batches
  by_cases hm : m = 0
  · subst hm
    cases l with
    | nil => simp [execProg, stepSimple, execWhile]
    | cons a as =>
      simp [execProg, stepSimple, execWhile, execBody]
      cases as.length <;> simp [execWhile]
  · simp only [execProg, stepSimple, hm, if_false]
    exact (execWhile_go m hm l.length l []).trans (by simp)

/-- [translator obligation] the program extracted from the CURRENT source of `ChunkTasks._max_chunker` is the one the
model runs, nothing in the function was inexpressible, `__init__` stores `max_tasks or None` and `_chunks` passes it on -/
theorem max_chunker_as_modelled :
    Coba.Generated.C02Chunker.prog = maxChunkerProg ∧ Coba.Generated.C02Chunker.unknown = [] ∧
    Coba.Generated.C02Chunker.maxTasksInit = "max_tasks or None" ∧ Coba.Generated.C02Chunker.maxTasksArg = "self._max_tasks" :=
  ⟨rfl, rfl, rfl, rfl⟩

/-- `DiskSink.write` with `batch=1` opens and closes the file once per line — every record is its own gzip member — and
once more for an empty batch after the last line (the empty member every run leaves) -/
theorem gz_member_per_record (lines : List Bytes) : sinkWrite 1 lines = lines.map (fun x => [x]) ++ [[]] := by
  simp only [sinkWrite, Nat.one_ne_zero, if_false]
  exact sinkWrite_go_one _ _ (Nat.lt_succ_self _)

/-- for every batch size (0 = None) the write loop writes every line exactly once, in order -/
theorem sink_write_complete (b : Nat) (lines : List Bytes) : (sinkWrite b lines).flatten = lines := by
  unfold sinkWrite
  by_cases hb : b = 0
  · simp [hb]
  · simp only [hb, if_false]; exact sinkWrite_go_flatten b hb _ _ (Nat.lt_succ_self _)

/-- [translator obligation] `Experiment.run` builds `DiskSink(result_file, batch=1)` and the write loop of the CURRENT
source has the statements `sinkWrite` mirrors (the `with self:` inside the `while`, one write + flush per line, `_get_batch` =
`islice(lines, self._batch)`, `_unfinished` = not started or a full batch) -/
theorem sink_loop_as_modelled :
    Coba.Generated.C02Sink.batch = 1 ∧
    Coba.Generated.C02Sink.loopShape = ["while:self._unfinished(batch)", "batch=self._get_batch(lines)", "with-self-inside-while",
      "for-line-inside-with", "write:(line+'\\n').encode", "flush-after-each-write", "get_batch:islice(lines,self._batch)",
      "get_batch:list-when-batch", "unfinished:batch-is-None", "unfinished:list-of-len==self._batch", "unfinished:or"] :=
  ⟨rfl, rfl⟩

/-- a torn-tail repair that inspects only the last `W` bytes of a plain file truncates/terminates at the same point as
the committed one (which reads the whole file) for EVERY `W` whose window still contains a newline, or covers the file -/
theorem drop_torn_tail_window_independent (c : Codec) (W : Nat) (file : Bytes)
    (h : NL ∈ file.drop (file.length - W) ∨ file.length ≤ W) : repairWin c W file = repair c file := by
  unfold repairWin
  rcases h with h | h
  · rw [← repair_append_of_mem c _ _ h, List.take_append_drop]
  · simp [Nat.sub_eq_zero_of_le h]

example : NL ∈ ([91, 93, 10, 91] : Bytes).drop (([91, 93, 10, 91] : Bytes).length - 2) := by decide +kernel

/-- the hypothesis is necessary — a final record longer than the window: the windowed repair leaves the head of the torn record
in the file and every later read raises; with a window that reaches the newline it is right -/
theorem window_counterexample :
    let c := tableCodec [(⟨.ver, 0, 0⟩, [91, 93])]
    let file : Bytes := [91, 93, 10, 91, 91, 91, 91]
    repair c file = [91, 93, 10] ∧ decodeAll c (repair c file) = some [⟨.ver, 0, 0⟩] ∧
    repairWin c 2 file = [91, 93, 10, 91, 91] ∧ decodeAll c (repairWin c 2 file) = none ∧
    repairWin c 5 file = repair c file := by
  decide +kernel

/-! ### multi-process runs — what the order of the records can be -/

/-- whatever the workers' schedule: the records arrive as SOME interleaving of the per-chunk sequences (each chunk is run
by one worker in ProcessTasks order and the queues keep each producer's order); for every interleaving each chunk's records
are in the file in ProcessTasks order (per-chunk FIFO) and the resumed run is correct as in `resume_correct` -/
theorem multiprocess_order (w : World) (hw : w.OK) (L : List Rec) (hL : ValidLog w L) (k : Nat)
    (chunkOf : Nat → Option Nat) (m : Nat) :
    ∃ K, restore Flags.fixed w.c (some (cut w L k)) = some ⟨logFile w K, K⟩ ∧ K <+: L ∧
      ∀ app, Merge ((chunkTasks chunkOf m (makeTasks true K w.triples)).map (fun c => (processOrder c).filterMap w.out)) app →
        (∀ c ∈ chunkTasks chunkOf m (makeTasks true K w.triples), ((processOrder c).filterMap w.out).Sublist app) ∧
        let o := finish w.c ⟨logFile w K, K⟩ (makeTasks true K w.triples) (preamble Flags.fixed w.ver w.exp K) app
        o.file = logFile w (K ++ o.appended) ∧ o.final = some (K ++ o.appended) ∧ ValidLog w (K ++ o.appended) ∧
        (K ++ o.appended).Perm w.universe ∧ (∀ t ∈ o.tasks, ∀ r ∈ K, r.key ≠ t.key) := by
  obtain ⟨_, _, n, h, hfin⟩ := resume_correct_gen Flags.fixed rfl rfl w hw (Or.inl rfl) L hL k
  exact ⟨_, h.restore_eq, List.take_prefix n L, fun app hm => ⟨fun c hc => merge_sublist _ _ hm _ (List.mem_map_of_mem hc),
    resumed_iff.mp (hfin app (merge_chunks_perm w.out chunkOf m _ app hm))⟩⟩

theorem merge_perm_sublist {α : Type} (ls : List (List α)) (out : List α) (h : Merge ls out) :
    out.Perm ls.flatten ∧ ∀ l ∈ ls, l.Sublist out :=
  ⟨merge_perm ls out h, merge_sublist ls out h⟩

/-- the hypothesis of `multiprocess_order` is satisfiable: the single-process order is one of the interleavings -/
theorem merge_sequential {α : Type} (ls : List (List α)) : Merge ls ls.flatten := by
  induction ls with
  | nil => exact Merge.done [] (by simp)
  | cons a as ih =>
    induction a with
    | nil => exact ih.nil_cons
    | cons x xs ihx => exact Merge.step [] as x xs _ ihx

/-! ### "re-runs using ANY execution configuration" — including the process-global one

The three settings of a run can come from an earlier `.config()` call, from the arguments of `run()` and from the process-global
`CobaContext.experiment`.  `runCfg` is the value `run` ends up with (`self.config(args…)` overwrites, then the property falls back
to the context).  The resumed run is correct for EVERY combination of the three sources. -/

/-- the setting a run works with is the argument of `run()` when one is given, else the process-global
`CobaContext.experiment` value; what an earlier `.config()` call stored never matters (`run` overwrites it) -/
theorem run_cfg_spec (r : CfgRoute) :
    (∀ a, r.arg = some a → runCfg r = a) ∧ (r.arg = none → runCfg r = r.ctx) ∧
    (∀ s', runCfg ⟨s', r.arg, r.ctx⟩ = runCfg r) :=
  ⟨fun a h => by rw [runCfg_eq, h], fun h => by rw [runCfg_eq, h], fun _ => rfl⟩

/-- `resume_correct` for EVERY way the configuration reaches the run (`cfg`: stored / argument / process-global, for each
of the three settings): the records may arrive in the single-process order of that configuration or as ANY interleaving of
its chunks (multi-process) -/
theorem resume_correct_any_config (w : World) (hw : w.OK) (L : List Rec) (hL : ValidLog w L) (k : Nat)
    (chunkOf : Nat → Option Nat) (cfg : RunConfig) :
    ∃ K, restore Flags.fixed w.c (some (cut w L k)) = some ⟨logFile w K, K⟩ ∧ K <+: L ∧
      (∀ app, (app = (runOrderCfg chunkOf cfg (makeTasks true K w.triples)).filterMap w.out ∨
               Merge ((chunkTasks chunkOf (runCfg cfg.mt) (makeTasks true K w.triples)).map
                 (fun c => (processOrder c).filterMap w.out)) app) →
        let o := finish w.c ⟨logFile w K, K⟩ (makeTasks true K w.triples) (preamble Flags.fixed w.ver w.exp K) app
        o.file = logFile w (K ++ o.appended) ∧ o.final = some (K ++ o.appended) ∧ ValidLog w (K ++ o.appended) ∧
        (K ++ o.appended).Perm w.universe ∧ (∀ t ∈ o.tasks, ∀ r ∈ K, r.key ≠ t.key)) := by
  obtain ⟨_, _, n, h, hfin⟩ := resume_correct_gen Flags.fixed rfl rfl w hw (Or.inl rfl) L hL k
  refine ⟨_, h.restore_eq, List.take_prefix n L, fun app happ => resumed_iff.mp (hfin app ?_)⟩
  rcases happ with rfl | h
  · exact (runOrder_perm chunkOf (runCfg cfg.mt) _).filterMap w.out
  · exact merge_chunks_perm w.out chunkOf (runCfg cfg.mt) _ app h

/-- non-vacuity / the quirk made visible: `.config(maxtasksperchunk=5)` followed by `run()` without arguments under a context
that says 2 runs with 2; with `run(maxtasksperchunk=3)` it runs with 3; multi-processing is decided on the effective values -/
example : runCfg ⟨some 5, none, 2⟩ = 2 ∧ runCfg ⟨some 5, some 3, 2⟩ = 3 ∧ runCfg ⟨none, some 0, 2⟩ = 0 ∧
    isMultiproc (runCfg ⟨some 4, none, 1⟩) (runCfg ⟨none, none, 0⟩) = false ∧
    isMultiproc (runCfg ⟨none, none, 2⟩) 0 = true ∧ isMultiproc 1 (runCfg ⟨none, some 1, 0⟩) = true := by decide +kernel

/-- [translator obligation] the CURRENT source of `Experiment.config`, the three properties and the head of
`Experiment.run` has the statements `configCall` / `cfgProp` / `runCfg` / `isMultiproc` mirror (found by `ast` on every run) -/
theorem config_route_as_modelled :
    Coba.Generated.C02Config.shape = ["config:self._processes=processes", "config:self._maxchunksperchild=maxchunksperchild",
      "config:self._maxtasksperchunk=maxtasksperchunk", "prop:processes", "prop:maxchunksperchild", "prop:maxtasksperchunk",
      "run:defaults-None", "run:self.config(processes,maxchunksperchild,maxtasksperchunk)", "run:mp,mc,mt=properties",
      "run:is_multiproc=mp>1 or mc!=0", "run:ChunkTasks(mt)", "run:CobaMultiprocessor(_,mp,mc,_)"] :=
  rfl

end Coba.C02
