/-
C03 — Each evaluation is isolated from every other evaluation.
The property theorems; model and lemmas are shared with C01 (Model/C01.lean, Lemmas/C01.lean).

`evalS c seed (e,l,v)` is "evaluating a pristine copy of learner `l` on environment `e` alone with
evaluator `v`".  `(run …).rowsOf key` are the rows the Result holds for a triple of ids, `numbered
rows` are rows with their 1-based index, `runLog` holds the tasks whose exception was logged.
-/
import CobaVerif.Lemmas.C01

namespace Coba.C03
open Coba.C01

variable {S P Row : Type}

/-- in every configuration and schedule, the rows recorded for a listed triple
are those of evaluating it alone on a pristine learner (none if that evaluation raises) -/
theorem t4_rows_eq_evalS (c : Comps S P Row) (cfg : Cfg) (picks : List Nat) (seed : Nat) (ts : List Triple)
    (t : Triple) (ht : t ∈ ts) :
    (run c cfg picks seed ts).rowsOf (idKey ts t) =
      match evalS c seed t with
      | .ok rows => numbered rows
      | .error _ => [] := rowsOf_run c cfg picks seed ts t ht

/-- the experiment that lists only this triple (ids (0,0,0)) records exactly `evalS` -/
theorem rows_alone (c : Comps S P Row) (cfg : Cfg) (picks : List Nat) (seed : Nat) (t : Triple) :
    (run c cfg picks seed [t]).rowsOf (0, 0, 0) =
      match evalS c seed t with
      | .ok rows => numbered rows
      | .error _ => [] := by
  have := rowsOf_run c cfg picks seed [t] t (List.mem_singleton.2 rfl)
  rwa [idKey_singleton] at this

/-- the rows of a triple do not depend on which other triples the experiment contains, on their
order, on the configuration or on the schedule -/
theorem rows_independent_of_other_triples (c : Comps S P Row) (cfg cfg' : Cfg) (picks picks' : List Nat)
    (seed : Nat) (ts ts' : List Triple) (t : Triple) (ht : t ∈ ts) (ht' : t ∈ ts') :
    (run c cfg picks seed ts).rowsOf (idKey ts t) = (run c cfg' picks' seed ts').rowsOf (idKey ts' t) := by
  rw [rowsOf_run c cfg picks seed ts t ht, rowsOf_run c cfg' picks' seed ts' t ht']

/-- a triple whose evaluation raises is reported in the log and loses its own
rows; every other listed triple keeps exactly its rows -/
theorem failing_triple_only (c : Comps S P Row) (cfg : Cfg) (picks : List Nat) (seed : Nat) (ts : List Triple)
    (t : Triple) (ht : t ∈ ts) (e : Err) (hfail : evalS c seed t = .error e) :
    (run c cfg picks seed ts).rowsOf (idKey ts t) = [] ∧
    Task.eval (idKey ts t).1 t.1 (idKey ts t).2.1 t.2.1 (idKey ts t).2.2 t.2.2 (decide (lrnCount ts t.2.1 > 1))
      ∈ runLog c cfg picks seed ts ∧
    ∀ t' ∈ ts, ∀ rows, evalS c seed t' = .ok rows → (run c cfg picks seed ts).rowsOf (idKey ts t') = numbered rows := by
  refine ⟨?_, ?_, ?_⟩
  · rw [rowsOf_run c cfg picks seed ts t ht, hfail]
  · exact (mem_runLog c cfg picks seed ts _).2 ⟨mem_makeTasks_eval.2 ⟨ht, rfl, rfl⟩, by rw [fails_eval, hfail]; rfl⟩
  · intro t' ht' rows hok
    rw [rowsOf_run c cfg picks seed ts t' ht', hok]

/-- nothing else is logged as a failed evaluation: a logged evaluation task is a listed triple
whose evaluation (alone, pristine learner) raises -/
theorem logged_only_failing (c : Comps S P Row) (cfg : Cfg) (picks : List Nat) (seed : Nat) (ts : List Triple)
    (ei e li l vi v : Nat) (cp : Bool) (h : Task.eval ei e li l vi v cp ∈ runLog c cfg picks seed ts) :
    (e, l, v) ∈ ts ∧ ∃ err, evalS c seed (e, l, v) = .error err := by
  rw [mem_runLog] at h
  refine ⟨(mem_makeTasks_eval.1 h.1).listed, ?_⟩
  have hf := h.2
  rw [fails_eval] at hf
  cases hr : evalS c seed (e, l, v) with
  | ok rows => rw [hr] at hf; cases hf
  | error err => exact ⟨err, rfl⟩

/-- every evaluation of a run starts from the pristine state of its learner -/
theorem pristine (c : Comps S P Row) (cfg : Cfg) (picks : List Nat) (seed : Nat) (ts : List Triple) :
    (runEvents c cfg picks seed ts).1.Perm ((makeTasks .none ts).map (pristineEv c seed)) :=
  runEvents_perm c cfg picks seed ts

/-- a learner cell is evaluated in place only if the object is listed once; otherwise `copy` is set
and a deep copy is evaluated -/
theorem copy_iff_shared (ts : List Triple) {ei e li l vi v : Nat} {cp : Bool}
    (h : Task.eval ei e li l vi v cp ∈ makeTasks .none ts) : cp = decide (lrnCount ts l > 1) :=
  (mem_makeTasks_eval.1 h).copy

/-- the invariant behind it, for one address space (the caller's process, or one unpickled chunk) -/
theorem pristine_address_space (c : Comps S P Row) (seed : Nat) (h : Heap S) (tasks : List Task)
    (hA : ∀ t ∈ tasks, ∀ l, t.uses l → h l = c.init l) (hN : AtMostOnce tasks) :
    (runSeq c seed h tasks).1 = tasks.map (pristineEv c seed) :=
  runSeq_pristine c seed tasks h hA hN

/-- a learner object listed for several environments or evaluators carries nothing
over — it is still pristine after the run -/
theorem user_objects (c : Comps S P Row) (cfg : Cfg) (picks : List Nat) (seed : Nat) (ts : List Triple)
    (l : Nat) (h : lrnCount ts l > 1) : (runEvents c cfg picks seed ts).2 l = c.init l :=
  runEvents_heap c cfg picks seed ts l (Or.inl h)


/-! ## the log at full strength, process-level state, un-copyable learners -/

/-- in every configuration and schedule the log holds, each exactly once, the tasks that raise on pristine objects and
nothing else; an evaluation may raise at whatever position (the evaluator itself, the environment's read, the learner's
predict or learn): `eval` is an arbitrary function -/
theorem log_exact (c : Comps S P Row) (cfg : Cfg) (picks : List Nat) (seed : Nat) (ts : List Triple) :
    (runLog c cfg picks seed ts).Perm ((makeTasks .none ts).filter (fun t => t.fails c seed)) :=
  runLog_exact c cfg picks seed ts

/-- an environment whose `params` raises is reported in the log and loses only its own parameter row;
no interaction row is lost (`params_failure_keeps_rows`) -/
theorem env_params_failure (c : Comps S P Row) (cfg : Cfg) (picks : List Nat) (seed : Nat) (ts : List Triple)
    (e : Nat) (he : e ∈ envsOf ts) (err : Err) (hf : c.envParams e = .error err) :
    Task.env (idOf (envsOf ts) e) e ∈ runLog c cfg picks seed ts ∧
    ∀ p, (idOf (envsOf ts) e, p) ∉ (run c cfg picks seed ts).envs :=
  params_failure c cfg picks seed ts .env e he err hf

theorem lrn_params_failure (c : Comps S P Row) (cfg : Cfg) (picks : List Nat) (seed : Nat) (ts : List Triple)
    (l : Nat) (hl : l ∈ lrnsOf ts) (err : Err) (hf : c.lrnParams l = .error err) :
    Task.lrn (idOf (lrnsOf ts) l) l ∈ runLog c cfg picks seed ts ∧
    ∀ p, (idOf (lrnsOf ts) l, p) ∉ (run c cfg picks seed ts).lrns :=
  params_failure c cfg picks seed ts .lrn l hl err hf

theorem val_params_failure (c : Comps S P Row) (cfg : Cfg) (picks : List Nat) (seed : Nat) (ts : List Triple)
    (v : Nat) (hv : v ∈ valsOf ts) (err : Err) (hf : c.valParams v = .error err) :
    Task.val (idOf (valsOf ts) v) v ∈ runLog c cfg picks seed ts ∧
    ∀ p, (idOf (valsOf ts) v, p) ∉ (run c cfg picks seed ts).vals :=
  params_failure c cfg picks seed ts .val v hv err hf

theorem params_failure_keeps_rows (c : Comps S P Row) (cfg : Cfg) (picks : List Nat) (seed : Nat) (ts : List Triple)
    (t : Triple) (ht : t ∈ ts) :
    (run c cfg picks seed ts).rowsOf (idKey ts t) =
      match evalS c seed t with
      | .ok rows => numbered rows
      | .error _ => [] := t4_rows_eq_evalS c cfg picks seed ts t ht

section processState
variable {G : Type}

/-- `t4_rows_eq_evalS` with process state: the evaluation alone is one in a fresh process (no rows when it raises, or
when no pristine copy of a shared learner can be made) -/
theorem t4_rows_process_state (cp : CompsP G S P Row) (Clean : G → Prop) (hc : ProcessLocalClean cp Clean)
    (cfg : Cfg) (sched : Sched) (seed : Nat) (ts : List Triple) (t : Triple) (ht : t ∈ ts) :
    (runP cp cfg sched seed ts).rowsOf (idKey ts t) =
      match evalS (cp.clean ts) seed t with
      | .ok rows => numbered rows
      | .error _ => [] := by
  rw [runP, runPFrom_eq_resultSP hc cfg sched seed ts cp.σ0 hc.fresh]
  exact rowsOf_resultS (cp.clean ts) seed ts t ht

/-- `rows_alone` with process state -/
theorem rows_alone_process_state (cp : CompsP G S P Row) (Clean : G → Prop) (hc : ProcessLocalClean cp Clean)
    (cfg : Cfg) (sched : Sched) (seed : Nat) (t : Triple) :
    (runP cp cfg sched seed [t]).rowsOf (0, 0, 0) =
      match (cp.evalP cp.σ0 t.2.2 t.1 (cp.init t.2.1) (effSeedP cp seed t.2.2)).1.1 with
      | .ok rows => numbered rows
      | .error _ => [] := by
  have h := t4_rows_process_state cp Clean hc cfg sched seed [t] t (List.mem_singleton.2 rfl)
  rwa [idKey_singleton, evalS_clean_free seed [t] t (blocked_singleton t)] at h

theorem log_exact_process_state (cp : CompsP G S P Row) (Clean : G → Prop) (hc : ProcessLocalClean cp Clean)
    (cfg : Cfg) (sched : Sched) (seed : Nat) (ts : List Triple) :
    (runLogP cp cfg sched seed ts).Perm ((makeTasks .none ts).filter (fun t => t.fails (cp.clean ts) seed)) :=
  runLogP_exact hc cfg sched seed ts

/-- a learner object that cannot be deep-copied and is listed in several
triples: each of its triples is reported in the log and has no rows; every triple of a learner that is
not blocked keeps exactly the rows of its evaluation in a fresh process on a pristine learner -/
theorem copy_error_logged_per_triple (cp : CompsP G S P Row) (Clean : G → Prop) (hc : ProcessLocalClean cp Clean)
    (cfg : Cfg) (sched : Sched) (seed : Nat) (ts : List Triple) (t : Triple) (ht : t ∈ ts)
    (hb : cp.blocked ts t.2.1 = true) :
    Task.eval (idKey ts t).1 t.1 (idKey ts t).2.1 t.2.1 (idKey ts t).2.2 t.2.2 (decide (lrnCount ts t.2.1 > 1))
      ∈ runLogP cp cfg sched seed ts ∧
    (runP cp cfg sched seed ts).rowsOf (idKey ts t) = [] ∧
    ∀ t' ∈ ts, cp.blocked ts t'.2.1 = false → ∀ rows,
      (cp.evalP cp.σ0 t'.2.2 t'.1 (cp.init t'.2.1) (effSeedP cp seed t'.2.2)).1.1 = .ok rows →
      (runP cp cfg sched seed ts).rowsOf (idKey ts t') = numbered rows := by
  have hfail := evalS_clean_blocked seed ts t hb
  refine ⟨?_, ?_, ?_⟩
  · rw [(log_exact_process_state cp Clean hc cfg sched seed ts).mem_iff, List.mem_filter]
    exact ⟨mem_makeTasks_eval.2 ⟨ht, rfl, rfl⟩, by rw [fails_eval, hfail]; rfl⟩
  · rw [t4_rows_process_state cp Clean hc cfg sched seed ts t ht, hfail]
  · intro t' ht' hb' rows hrows
    rw [t4_rows_process_state cp Clean hc cfg sched seed ts t' ht', evalS_clean_free seed ts t' hb', hrows]

/-- isolation needs the process-state hypothesis: with `leakyComps` the rows of the second triple in the
two-triple experiment are not the rows it gets alone -/
theorem isolation_forced_counterexample :
    (runP leakyComps ⟨1, 0, 0⟩ ⟨[], []⟩ 1 leakyTriples).rowsOf (1, 1, 0) = [(1, 11)] ∧
    (runP leakyComps ⟨1, 0, 0⟩ ⟨[], []⟩ 1 [(1, 1, 0)]).rowsOf (0, 0, 0) = [(1, 10)] := by
  decide +kernel

end processState


/-! ## failures are local -/

/-- the interactions table row by row -/
theorem interactions_exact (c : Comps S P Row) (cfg : Cfg) (picks : List Nat) (seed : Nat) (ts : List Triple)
    (k : Key3) (i : Nat) (row : Row) :
    (k, i, row) ∈ (run c cfg picks seed ts).ints ↔
      ∃ t ∈ ts, ∃ rows, evalS c seed t = .ok rows ∧ k = idKey ts t ∧ (i, row) ∈ numbered rows := by
  rw [run_eq_resultS, resultS, mem_ints_result (specRecs_keysFunctional c seed ts)]
  simp only [mem_specRecs_eval]
  constructor
  · rintro ⟨rows, ⟨t, ht, hk, hr⟩, hmem⟩; exact ⟨t, ht, rows, hr, hk, hmem⟩
  · rintro ⟨t, ht, rows, hr, hk, hmem⟩; exact ⟨rows, ⟨t, ht, hk, hr⟩, hmem⟩

/-- whatever set of the listed triples fails, the Result holds exactly the rows of the non-failing triples, each row
being a row of that triple's run alone (under any configuration) -/
theorem failure_local (c : Comps S P Row) (cfg cfg' : Cfg) (picks picks' : List Nat) (seed : Nat) (ts : List Triple)
    (k : Key3) (i : Nat) (row : Row) :
    (k, i, row) ∈ (run c cfg picks seed ts).ints ↔
      ∃ t ∈ ts, (∃ rows, evalS c seed t = .ok rows) ∧ k = idKey ts t ∧
        (i, row) ∈ (run c cfg' picks' seed [t]).rowsOf (0, 0, 0) := by
  rw [interactions_exact]
  constructor
  · rintro ⟨t, ht, rows, hr, hk, hmem⟩
    refine ⟨t, ht, ⟨rows, hr⟩, hk, ?_⟩
    rw [rows_alone, hr]; exact hmem
  · rintro ⟨t, ht, ⟨rows, hr⟩, hk, hmem⟩
    rw [rows_alone, hr] at hmem
    exact ⟨t, ht, rows, hr, hk, hmem⟩

/-! ## isolation of the PMF / learning_info learner objects of the SequentialCB experiment model -/

section sequentialCBExt
variable {σ V R : Type} [DecidableEq V] [Coba.C06.RewardFn R V]

/-- `rows_independent_of_other_triples` over SequentialCB with PMF-answering / info-writing learner objects: the generator
of a PMF learner's `SafeLearner` and the `learning_info` channel are not shared between evaluations -/
theorem sequentialCB_ext_rows_isolated (w : SeqWorldX σ V R P) (cfg cfg' : Cfg) (picks picks' : List Nat)
    (seed : Nat) (ts ts' : List Triple) (t : Triple) (ht : t ∈ ts) (ht' : t ∈ ts') :
    (run (seqCompsX w) cfg picks seed ts).rowsOf (idKey ts t) =
      (run (seqCompsX w) cfg' picks' seed ts').rowsOf (idKey ts' t) :=
  rows_independent_of_other_triples (seqCompsX w) cfg cfg' picks picks' seed ts ts' t ht ht'

/-- … and equal the rows of the experiment that lists this triple alone -/
theorem sequentialCB_ext_rows_alone (w : SeqWorldX σ V R P) (cfg cfg' : Cfg) (picks picks' : List Nat)
    (seed : Nat) (ts : List Triple) (t : Triple) (ht : t ∈ ts) :
    (run (seqCompsX w) cfg picks seed ts).rowsOf (idKey ts t) =
      (run (seqCompsX w) cfg' picks' seed [t]).rowsOf (0, 0, 0) :=
  rowsOf_run_alone (seqCompsX w) cfg cfg' picks picks' seed ts t ht

end sequentialCBExt

section rejectionCB
variable {σ V R : Type} [DecidableEq V] [Coba.C06.RewardFn R V]

/-- `rows_independent_of_other_triples` over SequentialCB and RejectionCB objects: the generator of a RejectionCB, its
sorted ratio list `Q` and its multiplier `c` live inside one `evaluate` call and are not shared between evaluations -/
theorem rejectionCB_rows_isolated (w : SeqWorldR σ V R P) (cfg cfg' : Cfg) (picks picks' : List Nat)
    (seed : Nat) (ts ts' : List Triple) (t : Triple) (ht : t ∈ ts) (ht' : t ∈ ts') :
    (run (seqCompsR w) cfg picks seed ts).rowsOf (idKey ts t) =
      (run (seqCompsR w) cfg' picks' seed ts').rowsOf (idKey ts' t) :=
  rows_independent_of_other_triples (seqCompsR w) cfg cfg' picks picks' seed ts ts' t ht ht'

/-- … and equal the rows of the experiment that lists this triple alone -/
theorem rejectionCB_rows_alone (w : SeqWorldR σ V R P) (cfg cfg' : Cfg) (picks picks' : List Nat)
    (seed : Nat) (ts : List Triple) (t : Triple) (ht : t ∈ ts) :
    (run (seqCompsR w) cfg picks seed ts).rowsOf (idKey ts t) =
      (run (seqCompsR w) cfg' picks' seed [t]).rowsOf (0, 0, 0) :=
  rowsOf_run_alone (seqCompsR w) cfg cfg' picks picks' seed ts t ht

end rejectionCB

end Coba.C03
