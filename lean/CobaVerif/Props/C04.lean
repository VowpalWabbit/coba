/-
C04 — Environments can be read any number of times with identical results.  The property theorems.

Reading of the statement.  A pipeline object denotes `(D, P)`: the sequence `Obj.den` obtained by
applying the stateless meaning of every stage to the source data, and `Obj.denParams`.  A history is
any list of `Op`s over the pool of objects derived from it (full read, read abandoned after `k`
items, params look-up, `materialize()`, `cache()`, `chunk()`, pickle round-trip, `save()/from_save()`).
`WorldGood D P w` collects the hypotheses: repaired code (`Variant.fixed`, no as-is Shuffle, the
source is re-iterable), surviving fields consistent, `Finalize` leaves finalized output unchanged.
Nothing is assumed about what the stateless filters compute or how lazily they pull.
-/
import CobaVerif.Lemmas.C04

namespace Coba.C04

/-- chains of consistent stages are stable: a read session driven to any point leaves the chain
consistent and the next session delivers the denotation (no assumption on the laziness signatures) -/
theorem compose_stable (u : List Item) (ns : List Node) (h : chainOK u ns) (d : Demand) :
    viewN u ns = denN u ns ∧ viewN u (touchN u ns d).1 = denN u ns ∧ chainOK u (touchN u ns d).1 :=
  ⟨viewN_eq_denN _ _ h, (touchN_standsFor ns u d).view h, touchN_ok _ _ _ h⟩

/-- a stateless stage over a restartable upstream is restartable -/
theorem pure_stage_stable (u : List Item) (ns : List Node) (h : chainOK u ns) (p : PureSt) (d : Demand) :
    viewN u (ns ++ [.pure p]) = p.f (denN u ns) ∧
    viewN u (touchN u (ns ++ [.pure p]) d).1 = p.f (denN u ns) :=
  have hc : chainOK u (ns ++ [.pure p]) := chainOK_snoc.mpr ⟨h, trivial, trivial⟩
  chain_reads hc (denN_append ns [.pure p] u) d

/-- `pipes.Cache` over an upstream delivering `U`: after ANY sequence of read sessions (complete,
abandoned after k items, never started) the next read delivers `U`, and the invariant
`_cache ++ remaining(_iter) = U` (resp. `_cache = U` once the saved iterator is exhausted) holds -/
theorem cache_replay (sz : Option Nat) (prot : Bool) (U : List Item) (ds : List Demand) :
    nodeView (sessions (.cache sz prot .unread) U ds) U = U ∧
    nodeOK (sessions (.cache sz prot .unread) U ds) U :=
  ⟨sessions_view (.cache sz prot .unread) U trivial trivial ds, sessions_nodeOK (.cache sz prot .unread) U trivial ds⟩

/-- the buffer never loses or duplicates an item while slices are pulled -/
theorem cache_fill_conserves (sz fuel : Nat) (c r : List Item) (k : Nat) :
    (fill sz fuel c r k).1 ++ (fill sz fuel c r k).2 = c ++ r := fill_append sz fuel c r k

/-- `EmptyCheck`/`Finalize`: the `_isempty` flag set by the first started read never changes
what later reads deliver -/
theorem emptycheck_stable (p : PureSt) (U : List Item) (ds : List Demand) :
    nodeView (sessions (.finalize p none) U ds) U = (if U = [] then [] else p.f U) :=
  sessions_view (.finalize p none) U trivial trivial ds

/-- Densify's lookup table: after any history of reads that each used a prefix of the key stream
`K` (abandoned reads), a full read leaves exactly the table a fresh full read builds, i.e. every
key keeps the index it would get on a fresh object -/
theorem densify_lookup_prefix_stable (K : List Nat) (ms : List Nat) :
    feed (feedHistory K [] ms) K = feed [] K := by
  -- the table after the history is the table of ONE prefix of `K`
  obtain ⟨M, hM⟩ : ∃ M, feedHistory K [] ms = feed [] (K.take M) := feedHistory_prefix [] K ms 0
  rw [hM, feed_prefix [] (List.take_prefix M K)]

/-- RE-READ.  For every history of operations on the pool, every full read returns the
denotation `D` and every abandoned read the corresponding prefix (`skip` = the operation
addressed an object that does not exist) -/
theorem reread (D : List Item) (P : List Nat) (w : World) (hw : WorldGood D P w) (ops : List Op) :
    List.Forall₂ (OutOK D) ops (run w ops) := by
  induction ops generalizing w with
  | nil => exact List.Forall₂.nil
  | cons op ops ih => exact List.Forall₂.cons (step_good hw op).2 (ih _ (step_good hw op).1)

/-- the hypotheses are preserved by every history (so objects obtained from `materialize()`,
`cache()`, `chunk()`, pickling and `save()/from_save()` denote the same `D`, `P`) -/
theorem derived_objects_good (D : List Item) (P : List Nat) (w : World) (hw : WorldGood D P w) (ops : List Op) :
    WorldGood D P (runW w ops) := runW_good ops hw

/-- PARAMS.  Once an object has been read completely, every later params look-up on it returns
`P`, whatever was done before the read and in between -/
theorem params_after_read (D : List Item) (P : List Nat) (w : World) (hw : WorldGood D P w)
    (pre mid : List Op) (j : Nat) (hj : ∃ o, getObj (runW w pre) j = some o) :
    (run w (pre ++ [.full j] ++ mid ++ [.params j])).getLast? = some (.params P) := by
  obtain ⟨o, ho⟩ := hj
  rw [run_append, List.getLast?_append]
  simp only [run, List.getLast?_singleton, Option.some_or]
  have hw1 : WorldGood D P (runW w (pre ++ [.full j] ++ mid)) := runW_good _ hw
  -- the read started the object, and it stays started through `mid`
  have hst : Started (runW w (pre ++ [.full j] ++ mid)) j := by
    rw [runW_append, runW_append]
    exact runW_started _ _ _ (full_starts _ _ o ho)
  rw [params_of_started hw1 j hst]

/-- ... and the objects handed out by `save()` and `materialize()` have been read already; `hnc`: a pipeline that already ends
with a cache is handed back by `materialize()` unread, and then reports the params of an unread source -/
theorem params_of_materialized_or_saved (D : List Item) (P : List Nat) (w : World) (hw : WorldGood D P w)
    (j : Nat) (o : Obj) (ho : getObj w j = some o) (op : Op) (hop : op = .materialize j ∨ op = .save j)
    (hnc : op = .materialize j → lastIsCache (finalized w.fin o.base).1 = false) :
    (step (step w op).1 (.params w.objs.length)).2 = .params P := by
  refine params_of_started (step_good hw op).1 _ ?_
  rcases hop with rfl | rfl
  · exact materialize_started w j o ho (hnc rfl)
  · exact save_started w j o ho

/-- SOURCE.  No history, in either variant of the code, changes the data a source holds -/
theorem source_unchanged (w : World) (ops : List Op) (j : Nat) (xs : List Item)
    (h : ∃ o, getObj w j = some o ∧ o.src.items = xs) :
    ∃ o, getObj (runW w ops) j = some o ∧ o.src.items = xs := by
  obtain ⟨o, ho, hxs⟩ := h
  obtain ⟨o', ho', hsd⟩ := runW_sameData ops w j o ho
  exact ⟨o', ho', hsd.items.trans hxs⟩

/-! ### the hypotheses are satisfiable: a non-trivial pipeline -/

def idP : PureSt := { f := id, dem := fun _ d => d, par := [] }
def revP : PureSt := { f := List.reverse, dem := fun _ d => if d.isNone then .none else .all, par := [7] }
def src5 : Src := { once := false, items := [0, 1, 2, 3, 4], rem := [], started := false, parPre := [1], parPost := [1, 2] }
def realPerm : Nat → List Item → List Item
  | 0, xs => applyPerm [2, 0, 4, 3, 1] xs      -- CobaRandom(4).shuffle
  | 1, xs => applyPerm [2, 1, 3, 0, 4] xs      -- CobaRandom(12.84).shuffle        (4*3.21)
  | 2, xs => applyPerm [4, 0, 3, 2, 1] xs      -- CobaRandom(41.2164).shuffle      (4*3.21*3.21)
  | _, xs => xs

def goodWorld : World :=
  { fin := idP, variant := .fixed,
    objs := [some { src := src5, ownFin := true,
                    nodes := [.pure revP, .shuffle .fixed realPerm true (fun d => [40 + d]) 0, .cache (some 2) false .unread, .finalize idP none] }] }

example : WorldGood [2, 3, 1, 4, 0] [1, 2, 7, 40] goodWorld := by
  refine ⟨rfl, by decide +kernel, ?_⟩
  intro o ho
  simp only [goodWorld, List.mem_singleton, Option.some.injEq] at ho
  subst ho
  exact ⟨rfl, by simp [chainOK, nodeOK, Node.Fixed], by decide +kernel, by decide +kernel, by decide +kernel,
    fun _ => ⟨[.pure revP, .shuffle .fixed realPerm true (fun d => [40 + d]) 0, .cache (some 2) false .unread], none, rfl, by decide +kernel⟩⟩

example : run goodWorld [.part 0 3, .full 0, .pickle 0, .part 1 1, .save 1, .full 2, .params 2, .full 1, .params 0] =
    [.items [2, 3, 1], .items [2, 3, 1, 4, 0], .derived, .items [2], .derived, .items [2, 3, 1, 4, 0],
     .params [1, 2, 7, 40], .items [2, 3, 1, 4, 0], .params [1, 2, 7, 40]] := by decide +kernel

/-! ### the code before the repairs F1–F4 (in /repo since e4fe683, 22e3b0b, 2a9669e, 451f4c5): each repair is necessary -/

/-- F1 (P5): logged `Shuffle` before the repair — `Environments...logged(..).shuffle(4)` over 5 interactions,
history `[full, abandoned after 2, full, params]`: the third read has another order and the
reported `shuffle_seed` has changed. -/
def shuffleAsIs : World :=
  { fin := idP, variant := .asis,
    objs := [some { src := src5, ownFin := true,
                    nodes := [.shuffle .asis realPerm true (fun d => [40 + d]) 0, .finalize idP none] }] }

theorem shuffle_abandon_counterexample :
    run shuffleAsIs [.full 0, .part 0 2, .full 0, .params 0] =
      [.items [2, 1, 3, 0, 4], .items [2, 1], .items [4, 0, 3, 2, 1], .params [1, 2, 41]] ∧
    ¬ List.Forall₂ (OutOK [2, 1, 3, 0, 4]) [.full 0, .part 0 2, .full 0] (run shuffleAsIs [.full 0, .part 0 2, .full 0]) := by
  refine ⟨by decide +kernel, ?_⟩
  intro h
  have hrun : run shuffleAsIs [.full 0, .part 0 2, .full 0] =
      [.items [2, 1, 3, 0, 4], .items [2, 1], .items [4, 0, 3, 2, 1]] := by decide +kernel
  rw [hrun] at h
  cases h with
  | cons _ h =>
    cases h with
    | cons _ h =>
      cases h with
      | cons h3 _ => rcases h3 with h3 | h3 <;> exact absurd h3 (by decide +kernel)

/-- before the repair, the logged Shuffle is stable exactly as long as no
read session on it is abandoned (every session is never started or driven to the end) -/
theorem shuffle_logged_stable_partial (perm : Nat → List Item → List Item) (lg : Bool) (par : Nat → List Nat) (dep : Nat)
    (u : List Item) (ds : List Demand) (h : ∀ d ∈ ds, d = .none ∨ d = .all) :
    sessions (.shuffle .asis perm lg par dep) u ds = .shuffle .asis perm lg par dep := by
  induction ds with
  | nil => rfl
  | cons d ds ih =>
    have hstep : (nodeStep (.shuffle .asis perm lg par dep) u d).1 = .shuffle .asis perm lg par dep := by
      rcases h d List.mem_cons_self with rfl | rfl <;> rfl
    simp only [sessions, hstep]
    exact ih (fun d' hd' => h d' (List.mem_cons_of_mem _ hd'))

example : ∀ d ∈ [Demand.all, Demand.none, Demand.all], d = .none ∨ d = .all := by decide +kernel

/-- F2 (P6): `from_supervised(X,Y)` before the repair (one-shot `zip`): the second read is empty -/
def oneShotAsIs : World :=
  { fin := idP, variant := .asis,
    objs := [some { src := { src5 with once := true, rem := [0, 1, 2, 3, 4] }, ownFin := true, nodes := [.finalize idP none] }] }

theorem oneshot_counterexample :
    run oneShotAsIs [.full 0, .full 0] = [.items [0, 1, 2, 3, 4], .items []] := by decide +kernel

/-- F3: before the repair, an environment with a half-filled `Cache` cannot be pickled (`_iter` is a live
generator); with the repair the copy starts unread and reads the denotation -/
def cacheWorld (v : Variant) : World :=
  { fin := idP, variant := v,
    objs := [some { src := src5, ownFin := true, nodes := [.cache (some 2) false .unread, .finalize idP none] }] }

theorem pickle_partial_cache_counterexample :
    run (cacheWorld .asis) [.part 0 1, .pickle 0, .full 1] = [.items [0], .err, .skip] ∧
    run (cacheWorld .fixed) [.part 0 1, .pickle 0, .full 1] = [.items [0], .derived, .items [0, 1, 2, 3, 4]] := by
  constructor <;> decide +kernel

/-- F4: before the repair, `save()` records the params before it reads, so a supervised source that was
never read is saved without `n_actions` (token 2) -/
theorem save_params_counterexample :
    run (cacheWorld .asis) [.save 0, .params 1, .params 0] = [.derived, .params [1], .params [1, 2]] ∧
    run (cacheWorld .fixed) [.save 0, .params 1, .params 0] = [.derived, .params [1, 2], .params [1, 2]] := by
  constructor <;> decide +kernel

/-- F7 (recorded, not repaired): the hypothesis `finIdem` of `reread` is necessary.  `Finalize`
(through `BatchSafe`, which re-batches with the size of the first batch) is not idempotent on every
finalized output; `save()/from_save()` finalizes again, so the reloaded environment then differs.
Here `regroup` stands for such a `Finalize`: [0,1|2,3,4] ↦ [0,1|2,3|4] written with batch ids. -/
def regroupP : PureSt :=
  { f := fun xs => if xs = [12, 345] then [12, 34, 5] else xs, dem := fun _ d => d, par := [] }

def regroupWorld : World :=
  { fin := regroupP, variant := .fixed,
    objs := [some { src := { src5 with items := [12, 345] }, ownFin := false,
                    nodes := [.finalize idP none, .pure idP] }] }

theorem finalize_twice_counterexample :
    finF regroupWorld.fin [12, 345] ≠ [12, 345] ∧
    run regroupWorld [.full 0, .save 0, .full 1] = [.items [12, 345], .derived, .items [12, 34, 5]] := by
  constructor <;> decide +kernel

/-! # Built-in filters, noise, collections, caller-owned objects, memoisation -/

/-- BUILT-IN FILTERS.  For a pipeline made of Take / Slice / (repaired) Shuffle / Riffle / Sort /
Where / item-wise rewriting filters the denotation is the closed form `filtDen` (the functions of
`Model/C09`, seeds through `Model/C05`), and that is what every read session delivers, before and
after any other session -/
theorem filter_pipeline_reads (att : Item → Attr) (fs : List (Filt × List Nat)) (u : List Item) (d : Demand) :
    viewN u (filtNodes att fs) = filtDen att u fs ∧
    viewN u (touchN u (filtNodes att fs) d).1 = filtDen att u fs :=
  chain_reads (filtNodes_ok att fs u) (filtNodes_den att fs u) d

/-- NOISE.  `Noise.filter` creates `CobaRandom(seed)` per call: every read, complete or abandoned,
is the corresponding prefix of ONE sequence; an abandoned read scans only what it saw -/
theorem noise_fresh_rng_stable (step : Nat → Item → Nat × Item) (seed : Nat) (u : List Item) (ds : List Demand) :
    noiseFresh step seed u ds = ds.map (fun d => d.take (noiseScan step seed u).2) := by
  induction ds with
  | nil => rfl
  | cons d ds ih => simp only [noiseFresh, List.map_cons, ih]

theorem noise_prefix (step : Nat → Item → Nat × Item) (u : List Item) (s k : Nat) :
    (noiseScan step s (u.take k)).2 = (noiseScan step s u).2.take k := by
  induction u generalizing s k with
  | nil => simp [noiseScan]
  | cons x u ih =>
    cases k with
    | zero => simp [noiseScan]
    | succ k => simp only [List.take_succ_cons, noiseScan, ih]

/-- … and the per-call generator is necessary: a filter that keeps its generator between reads
gives another sequence on the second read -/
theorem noise_kept_rng_counterexample :
    noiseFresh (fun s x => (s + 1, x + s)) 0 [0, 0] [.all, .all] = [[0, 1], [0, 1]] ∧
    noiseKept (fun s x => (s + 1, x + s)) [0, 0] 0 [.all, .all] = [[0, 1], [2, 3]] := by
  constructor <;> decide +kernel

/-- COLLECTIONS.  In a pool holding the members of a collection, no operation addressed to other
objects — reads, abandoned reads, params, or the shortcuts `cache/chunk/materialize/pickle/save`
applied to them — changes member `j` at all (hence not what it yields nor its params) -/
theorem collection_members_independent (w : World) (ops : List Op) (j : Nat) (hj : j < w.objs.length)
    (h : ∀ op ∈ ops, op.on ≠ j) : getObj (runW w ops) j = getObj w j := by
  induction ops generalizing w with
  | nil => rfl
  | cons op ops ih =>
    simp only [runW]
    rw [ih _ (Nat.lt_of_lt_of_le hj (step_frame w op).length_le) (fun o ho => h o (List.mem_cons_of_mem _ ho))]
    exact (step_frame w op).other j (h op List.mem_cons_self) hj

/-- forced hypothesis "a fresh pipe per member": with ONE `Cache` object for the whole collection
(`self.filter(Cache(25))`), reading member 1 after member 0 replays member 0's interactions -/
theorem shared_cache_counterexample :
    sharedCacheReads (some 25) .unread [[0, 1], [5, 6, 7]] [0, 1] = [[0, 1], [0, 1]] ∧
    sharedCacheReads (some 25) .unread [[0, 1], [5, 6, 7]] [1, 0] = [[5, 6, 7], [5, 6, 7]] := by
  constructor <;> decide +kernel

def twoMembers : World :=
  { fin := idP, variant := .fixed,
    objs := [some { src := { src5 with items := [0, 1] }, ownFin := true, nodes := [.finalize idP none] },
             some { src := { src5 with items := [5, 6, 7] }, ownFin := true, nodes := [.finalize idP none] }] }

/-- `Environments.cache()` as it is (a fresh Cache per member): each member keeps its own data -/
example : run (cacheAll twoMembers [0, 1]) [.full 2, .full 3, .part 2 1, .full 3, .full 2] =
    [.items [0, 1], .items [5, 6, 7], .items [0], .items [5, 6, 7], .items [0, 1]] := by decide +kernel

/-- CALLER-OWNED OBJECTS.  Constructor arguments are heap cells of their own; when no source
rewrites the cell it was built from, no history changes any of them (and the outputs are those of
the plain model) -/
theorem caller_objects_unchanged (h : HWorld) (ops : List Op) (hne : ∀ j, h.argEdit j = none) :
    (hrunW h ops).caller = h.caller ∧ hrun h ops = run h.w ops :=
  ⟨hrunW_caller h ops hne, hrun_eq_run h ops⟩

/-- forced hypothesis: a source that edits the list it was given in place (`reward_features` with a
missing feature group: "xa" ↦ "a", codes 2 ↦ 1) changes the caller's object on the first started read -/
def editsArg : HWorld :=
  { w := cacheWorld .fixed, caller := [[1, 2]],
    argEdit := fun j => if j = 0 then some (0, fun l => l.map (fun c => if c = 2 then 1 else c)) else none }

theorem inplace_argument_edit_counterexample :
    (hrunW editsArg [.params 0, .part 0 0]).caller = [[1, 2]] ∧
    (hrunW editsArg [.part 0 1]).caller = [[1, 1]] := by
  constructor <;> decide +kernel

/-- MEMOISATION (`GroundedFeedback.__call__` under `lru_cache(maxsize=None)`): whatever is evaluated
in between, re-evaluating the (instance, argument) pairs of a read returns the values of the first time -/
theorem memo_stable_across_reads (draw : Nat → Nat → Nat → Nat) (m : Memo) (qs : List (Nat × Nat))
    (mids : List (List (Nat × Nat))) :
    (Memo.read none draw (Memo.after none draw (Memo.read none draw m qs).1 mids) qs).2 = (Memo.read none draw m qs).2 := by
  -- a read returns what the memo holds for its pairs afterwards, and an unbounded memo never changes an entry
  have a := memo_read_none draw qs m
  have b := memo_read_none draw qs (Memo.after none draw (Memo.read none draw m qs).1 mids)
  rw [b.vals, a.vals]
  apply List.filterMap_congr
  intro q hq
  obtain ⟨v, hv⟩ := Option.isSome_iff_exists.mp (a.holds q hq)
  rw [hv]
  exact b.keeps q v (memo_after_mono draw mids _ q v hv)

/-- forced hypothesis "unbounded": with room for 2 entries, the third evaluation evicts the first and the
second read of the same pairs draws again from the advanced generators -/
theorem memo_bounded_counterexample :
    Memo.reads none (fun i k a => 100 * i + 10 * k + a) ⟨[], []⟩ [[(0, 0), (0, 1), (1, 0)], [(0, 0), (0, 1), (1, 0)]] =
      [[0, 11, 100], [0, 11, 100]] ∧
    Memo.reads (some 2) (fun i k a => 100 * i + 10 * k + a) ⟨[], []⟩ [[(0, 0), (0, 1), (1, 0)], [(0, 0), (0, 1), (1, 0)]] =
      [[0, 11, 100], [20, 31, 110]] := by
  constructor <;> decide +kernel

/-! # Content-rewriting filters, aliasing, save / from_save -/

/-- CONTENT-REWRITING FILTERS.  A stage that is `Model/C10`'s Repr / Flatten / Sparsify / Densify / Finalize
applied to the content of the interactions (`dec`/`enc` arbitrary) is a stateless stage — so `reread` speaks about
pipelines containing them -/
theorem content_stage_reads (dec : Item → C10.Inter) (enc : C10.Inter → Item) (cfg : C10.Cfg) (st : C10.Step) (par : List Nat)
    (u : List Item) (ns : List Node) (h : chainOK u ns) (d : Demand) :
    viewN u (ns ++ [.pure (contentPure dec enc cfg st par)]) = contentF dec enc cfg st (denN u ns) ∧
    viewN u (touchN u (ns ++ [.pure (contentPure dec enc cfg st par)]) d).1 = contentF dec enc cfg st (denN u ns) :=
  pure_stage_stable u ns h (contentPure dec enc cfg st par) d

/-- ALIASING, every stage.  For EVERY pipeline built from stages that put their results into new objects (`alloc F`, `F` any
function of all the values the stage is handed: row-wise maps, Scale / Impute with their window, Noise's scan, …), hand the
same objects on (`share`) or hand on a selection of them (`pick`: Take, Slice, Shuffle, Sort, Where, Reservoir, Cache replay),
a read leaves every object that existed before it — held by the source, a cache or the caller — exactly as it was -/
theorem no_stage_writes_input_general {α : Type} (d : α) (ss : List (GStage α)) (h : ∀ s ∈ ss, s.writesInput = false) (st : List α) (held : List Nat) :
    (greadOnce d ss st held).1.take st.length = st :=
  (List.prefix_iff_eq_take.mp (grunStages_store_grows d ss h st held)).symm

/-- … and the next read of the same held objects delivers the same values -/
theorem second_read_same_general {α : Type} (d : α) (ss : List (GStage α)) (h : ∀ s ∈ ss, s.writesInput = false) (st : List α) (held : List Nat)
    (hv : ∀ a ∈ held, a < st.length) :
    gdeliver d (greadOnce d ss (greadOnce d ss st held).1 held) = gdeliver d (greadOnce d ss st held) := by
  -- the first read only appended to the store, so the held addresses still hold the same values
  obtain ⟨ext, he⟩ := grunStages_store_grows d ss h st held
  unfold greadOnce
  apply grunStages_deliver_congr d ss h
  rw [← he]
  exact gvals_append_left d st ext held hv

/-- ALIASING.  When no stage of the pipeline writes into the objects it receives (every built-in filter
copies before it changes anything: `interaction.copy()`, `Mutable`), a read leaves every object that
existed before it — the data held by the source, a cache or the caller — exactly as it was -/
theorem no_stage_writes_input (ss : List AStage) (h : ∀ s ∈ ss, s.writesInput = false) (st : Store) (held : List Nat) :
    (readOnce ss st held).1.take st.length = st := by
  unfold readOnce
  rw [runStages_eq_toG ss h]
  exact no_stage_writes_input_general 0 _ (toG_no_write h) st held

/-- … and the next read of the same held objects delivers the same values -/
theorem second_read_same (ss : List AStage) (h : ∀ s ∈ ss, s.writesInput = false) (st : Store) (held : List Nat)
    (hv : ∀ a ∈ held, a < st.length) :
    deliver (readOnce ss (readOnce ss st held).1 held) = deliver (readOnce ss st held) := by
  unfold readOnce
  rw [runStages_eq_toG ss h, runStages_eq_toG ss h]
  exact second_read_same_general 0 _ (toG_no_write h) st held hv

example : ∀ s ∈ [AStage.share, AStage.copyMap (· * 2), AStage.copyMap (· + 1)], s.writesInput = false := by decide +kernel
example : deliver (readOnce [.share, .copyMap (· * 2), .copyMap (· + 1)] [5, 7] [0, 1]) = [11, 15] := by decide +kernel

/-- forced hypothesis: a stage that scales in place what a cache handed out (the seeded change C04-am2 to `Mutable`):
the held objects change and the second read is scaled twice -/
theorem inplace_stage_counterexample :
    (readOnce [.share, .inPlace (· * 2)] [5, 7] [0, 1]).1 = [10, 14] ∧
    deliver (readOnce [.share, .inPlace (· * 2)] [5, 7] [0, 1]) = [10, 14] ∧
    deliver (readOnce [.share, .inPlace (· * 2)] (readOnce [.share, .inPlace (· * 2)] [5, 7] [0, 1]).1 [0, 1]) = [20, 28] := by
  refine ⟨by decide +kernel, by decide +kernel, by decide +kernel⟩

/-- SAVE / FROM_SAVE on the sequence: writing the interactions in batches (1000 in coba: `n+1` here) and
chaining the batches read back gives the sequence that was written, for every batch size -/
theorem load_save_batches (n : Nat) (xs : List Item) : loadBatches (saveBatches n xs) = xs := by
  induction xs using saveBatches.induct n with
  | case1 => simp [saveBatches, loadBatches]
  | case2 x xs ih =>
    rw [saveBatches]
    simp only [loadBatches, List.flatten_cons] at ih ⊢
    rw [ih, List.take_append_drop]

/-! # Fitting-window filters -/

/-- FITTING-WINDOW FILTERS.  A stage that is `Model/C11`'s Scale / Impute (or Noise as a scan from its seed) applied to the
CONTENT of the contexts, appended to a consistent chain, delivers that function of the upstream's denotation before and after
any read session: the window is taken from what `read()` of the upstream gives on THIS call, nothing of an earlier read
survives.  `dec`/`enc`, the statistics configuration and the laziness are arbitrary. -/
theorem fit_stage_reads (sd : List Rat → Rat) (dec : List Item → C11.Ctxs) (enc : C11.Ctxs → List Item) (s : FitStage) (par : List Nat)
    (u : List Item) (ns : List Node) (h : chainOK u ns) (d : Demand) :
    viewN u (ns ++ [.pure (fitPure sd dec enc s par)]) = enc (s.apply sd (dec (denN u ns))) ∧
    viewN u (touchN u (ns ++ [.pure (fitPure sd dec enc s par)]) d).1 = enc (s.apply sd (dec (denN u ns))) :=
  pure_stage_stable u ns h (fitPure sd dec enc s par) d

/-- … and for every CHAIN of such stages behind any consistent chain (caches, shuffles, other filters): the contents a read
delivers are the closed form `fitDen` of the upstream's contents, the first time and after any session
(`second_read_same` for pipelines with fitting windows; `hde`: interning contents is faithful) -/
theorem fit_pipeline_reads (sd : List Rat → Rat) (dec : List Item → C11.Ctxs) (enc : C11.Ctxs → List Item) (hde : ∀ c, dec (enc c) = c)
    (u : List Item) (ns : List Node) (h : chainOK u ns) (ss : List (FitStage × List Nat)) (d : Demand) :
    dec (viewN u (ns ++ ss.map (fun s => Node.pure (fitPure sd dec enc s.1 s.2)))) = fitDen sd (ss.map (·.1)) (dec (denN u ns)) ∧
    dec (viewN u (touchN u (ns ++ ss.map (fun s => Node.pure (fitPure sd dec enc s.1 s.2))) d).1) = fitDen sd (ss.map (·.1)) (dec (denN u ns)) := by
  obtain ⟨h1, h2⟩ := chain_reads ((chainOK_append ..).mpr ⟨h, chainOK_map_pure _ ss _⟩) (denN_append ..) d
  rw [h1, h2]
  exact ⟨fit_chain_den sd dec enc hde ss _, fit_chain_den sd dec enc hde ss _⟩

/-- every read through the real stage (a fresh upstream iterator per call) is the demanded prefix of ONE sequence -/
theorem fit_window_fresh_each_read (sd : List Rat → Rat) (s : FitStage) (c : C11.Ctxs) (ds : List Demand) :
    fitReadsFresh sd s c ds = ds.map (fun d => demTake d (s.apply sd c)) := by
  induction ds with
  | nil => rfl
  | cons d ds ih => simp only [fitReadsFresh, List.map_cons, ih]

/-- a stage that kept its upstream iterator between reads would agree with it only until something has been pulled … -/
theorem fit_kept_iterator_partial (sd : List Rat → Rat) (s : FitStage) (c : C11.Ctxs) (d : Demand) (n : Nat) :
    fitReadsKept sd s c 0 (List.replicate n .none ++ [d]) = fitReadsFresh sd s c (List.replicate n .none ++ [d]) := by
  -- a session that is never started pulls nothing: the position stays 0
  induction n with
  | zero => simp [fitReadsKept, fitReadsFresh, ctxsDrop_zero]
  | succ n ih =>
    simp only [List.replicate_succ, List.cons_append, fitReadsKept, fitReadsFresh, ctxsDrop_zero, fitPulled, Nat.add_zero]
    rw [ih]

def denseRows : C11.Ctxs → List (List C11.Val)
  | .dense r => r
  | _ => []

/-- … forced: `Scale(shift="min", scale=1, using=2)` over contexts [1],[3],[5],[7]; a read abandoned after one item, then a
complete read.  Real stage: the second read is [0],[2],[4],[6].  Kept iterator: it fits on what is left ([5],[7]) and
delivers [0],[2] -/
theorem fit_kept_iterator_counterexample :
    (fitReadsFresh (fun _ => 1) (.scale ⟨⟨.min, .num 1, some 2⟩, "context"⟩) (.dense [[.num 1], [.num 3], [.num 5], [.num 7]]) [.pull 1, .all]).map denseRows
      = [[[.num 0]], [[.num 0], [.num 2], [.num 4], [.num 6]]] ∧
    (fitReadsKept (fun _ => 1) (.scale ⟨⟨.min, .num 1, some 2⟩, "context"⟩) (.dense [[.num 1], [.num 3], [.num 5], [.num 7]]) 0 [.pull 1, .all]).map denseRows
      = [[[.num 0]], [[.num 0], [.num 2]]] := by
  refine ⟨by decide +kernel, by decide +kernel⟩

/-- Scale / Impute / Noise as they are (`FitStage.toG`) never write into what they are handed, so `no_stage_writes_input_general` and
`second_read_same_general` apply to every pipeline that contains them -/
theorem fit_stages_do_not_write (sd : List Rat → Rat) (s : FitStage) : (s.toG sd).writesInput = false := rfl

/-- what a sharing / selecting stage delivers are objects it was handed (identity, not only equality) -/
theorem pick_delivers_held_objects {α : Type} (d : α) (s : GStage α) (hs : s = .share ∨ ∃ sel, s = .pick sel) (st : List α) (as : List Nat) :
    ∀ a ∈ (s.run d (st, as)).2, a ∈ as := by
  rcases hs with rfl | ⟨sel, rfl⟩
  · intro a ha; exact ha
  · intro a ha
    simp only [GStage.run, List.mem_filterMap] at ha
    obtain ⟨i, _, hi⟩ := ha
    exact List.mem_of_getElem? hi

example : ∀ s ∈ [GStage.share, GStage.pick (fun n => (List.range n).reverse), GStage.alloc (List.map (· * 2))], s.writesInput = false := by decide +kernel
example : greadOnce 0 [.share, .pick (fun n => (List.range n).reverse), .alloc (List.map (· * 2))] [5, 7] [0, 1] = ([5, 7, 14, 10], [2, 3]) := by decide +kernel
example : identityPattern 2 (greadOnce 0 [.share, .pick (fun n => (List.range n).reverse)] [5, 7] [0, 1]).2 = [some 1, some 0] := by decide +kernel

/-- forced hypothesis, for `GStage`: `Scale(shift=1, scale=2)` written back into the contexts a cache handed out —
the held contexts change and the second read is scaled twice -/
theorem fit_inplace_counterexample :
    (greadOnce [] [.share, FitStage.toGInPlace (fun _ => 1) (.scale ⟨⟨.num 1, .num 2, none⟩, "context"⟩)] [[.num 1, .num 3], [.num 2, .num 0]] [0, 1]).1
      = [[.num 4, .num 8], [.num 6, .num 2]] ∧
    gdeliver [] (greadOnce [] [.share, FitStage.toGInPlace (fun _ => 1) (.scale ⟨⟨.num 1, .num 2, none⟩, "context"⟩)]
      (greadOnce [] [.share, FitStage.toGInPlace (fun _ => 1) (.scale ⟨⟨.num 1, .num 2, none⟩, "context"⟩)] [[.num 1, .num 3], [.num 2, .num 0]] [0, 1]).1 [0, 1])
      = [[.num 10, .num 18], [.num 14, .num 6]] ∧
    gdeliver [] (greadOnce [] [.share, FitStage.toG (fun _ => 1) (.scale ⟨⟨.num 1, .num 2, none⟩, "context"⟩)]
      (greadOnce [] [.share, FitStage.toG (fun _ => 1) (.scale ⟨⟨.num 1, .num 2, none⟩, "context"⟩)] [[.num 1, .num 3], [.num 2, .num 0]] [0, 1]).1 [0, 1])
      = [[.num 4, .num 8], [.num 6, .num 2]] := by
  refine ⟨by decide +kernel, by decide +kernel, by decide +kernel⟩

/-! # Translator obligations.  `Generated/C04Stages.lean` is regenerated from the CURRENT coba source on every run
(`harness/props/c04.py`, `pre_build`, Python `ast`); these theorems say that what was extracted is what the model assumes. -/

/-- the classes of environments/filters.py, pipes/filters.py and the environment sources that write instance attributes outside
`__init__` (per-object state that survives between reads), with the attributes, are exactly the rows of the model's `stageTable`;
the file holds exactly the filter classes the model knows; the only iterator / generator / defaultdict a filter creates in
`__init__` and keeps is Densify's look-up table -/
theorem stage_table_matches_source :
    Generated.extracted = true ∧
    Generated.envStateful = stageRows "env" ∧ Generated.pipeStateful = stageRows "pipe" ∧ Generated.srcStateful = stageRows "src" ∧
    Generated.envClasses = modelEnvClasses ∧
    Generated.envHeld = modelEnvHeld ∧ Generated.pipeHeld = [] ∧ Generated.srcHeld = [] :=
  ⟨rfl, rfl, rfl, rfl, rfl, rfl, rfl, rfl⟩

/-- `stateAllowed` (what the driver answers when the harness reports an attribute of a pipe object that changed between reads)
allows every extracted attribute, and nothing for an object none of whose classes is in the table -/
theorem stage_table_sound :
    (∀ r ∈ Generated.envStateful ++ Generated.pipeStateful ++ Generated.srcStateful, ∀ a ∈ r.2, stateAllowed [r.1] a = true) ∧
    (∀ (mro : List String) (a : String), (∀ r ∈ stageTable, r.cls ∉ mro) → stateAllowed mro a = false) := by
  have hrows : Generated.envStateful ++ Generated.pipeStateful ++ Generated.srcStateful
      = stageTable.map (fun r => (r.cls, r.attrs)) := rfl
  refine ⟨?_, stateAllowed_unknown⟩
  rw [hrows]
  intro r hr a ha
  obtain ⟨r', hr', rfl⟩ := List.mem_map.mp hr
  exact stateAllowed_row hr' ha

example : stateAllowed ["Cache", "Cache", "EnvironmentFilter"] "_iter" = true ∧ stateAllowed ["Noise", "EnvironmentFilter"] "_rng" = false ∧
    stateAllowed ["Shuffle", "Shuffle", "EnvironmentFilter"] "_seed" = false := by decide +kernel

/-- `Environments.cache()` / `chunk()`: the model's steps append exactly the extracted `Cache(25)` (default `protected`, starting
unread), `chunk` caches by default behind an identity `Chunk` -/
theorem cache_shortcut_matches_source (w : World) (j : Nat) (o : Obj) :
    Node.cache Generated.shortcutCacheSlice Generated.shortcutCacheProtected (if Generated.cacheStartsUnread then .unread else .done []) = shortcutCacheNode ∧
    Generated.cacheDefaultSlice = some 25 ∧ Generated.cacheDefaultProtected = false ∧
    stepObj w j o (.cache j) =
      (pushObj w (some { src := o.src, nodes := (finalized w.fin (o.base ++ [shortcutCacheNode])).1,
                         ownFin := (finalized w.fin (o.base ++ [shortcutCacheNode])).2 }), .derived) ∧
    Generated.chunkCacheDefault = true ∧ Generated.chunkJoins = "Chunk" ∧ Generated.chunkIsIdentity = true ∧
    (∀ u, chunkP.f u = u) ∧
    stepObj w j o (.chunk j) =
      (pushObj w (some { src := o.src, nodes := (finalized w.fin (o.base ++ [.pure chunkP, shortcutCacheNode])).1,
                         ownFin := (finalized w.fin (o.base ++ [.pure chunkP, shortcutCacheNode])).2 }), .derived) :=
  ⟨rfl, rfl, rfl, rfl, rfl, by decide +kernel, rfl, fun _ => rfl, rfl⟩

/-- `Environments.materialize()`: `keptByMaterialize` IS the extracted `nocache` predicate, the appended node is the extracted
`pipes.Cache(None, True)`, the step finalizes first, returns the pipeline as it is when it ends with a cache and otherwise forces a read -/
theorem materialize_matches_source (w : World) (j : Nat) (o : Obj) :
    (∀ n : Node, keptByMaterialize n = Generated.nocache (isCache n) n.prot) ∧
    Node.cache Generated.materializeCacheSlice Generated.materializeCacheProtected .unread = materializeCacheNode ∧
    Generated.materializeOnlyWhenLastNotCache = true ∧ Generated.materializeForcesRead = true ∧ Generated.materializeFinalizesFirst = true ∧
    (lastIsCache (finalized w.fin o.base).1 = true →
      stepObj w j o (.materialize j) = (pushObj w (some { src := o.src, nodes := (finalized w.fin o.base).1, ownFin := false }), .derived)) ∧
    (lastIsCache (finalized w.fin o.base).1 = false →
      stepObj w j o (.materialize j) =
        (let m : Obj := { src := o.src, nodes := (finalized w.fin o.base).1.filter keptByMaterialize ++ [materializeCacheNode], ownFin := false }
         (pushObj (setObj w j { o with src := (m.touch .all).src }) (some (m.touch .all)), .derived))) := by
  refine ⟨fun n => by cases n <;> simp [keptByMaterialize, isCache, Node.prot, Generated.nocache], rfl, rfl, rfl, rfl, ?_, ?_⟩
  · intro h; simp [stepObj, h]
  · intro h; simp [stepObj, h, materializeCacheNode]

/-- `_finalize` (wrap `BatchSafe(Finalize())` unless one is in the chain; a fresh `EmptyCheck` starts with the extracted `_isempty`),
`environments.Cache` copies, the logged-seed factor and keys of `Shuffle`, `BatchSafe`'s re-batching pipe, the batch size of `save()` -/
theorem pipeline_constants_match_source (fin : PureSt) (ns : List Node) :
    Generated.finalizeWrap = ["BatchSafe", "Finalize"] ∧
    Generated.finalizeTest = [("e", "BatchSafe"), ("e._filter", "Finalize")] ∧
    Generated.finalizeHolds = ["EmptyCheck"] ∧
    finalized fin ns = (if ns.any isFinalize then (ns, false) else (ns ++ [.finalize fin Generated.emptyCheckInit], true)) ∧
    Generated.envCacheCopies = true ∧
    Generated.shuffleLoggedFactor = loggedSeedFactor ∧ Generated.shuffleLoggedKeys = loggedKeys ∧
    Generated.batchSafeJoin = ["Unbatch", "self._filter", "Batch"] ∧
    (∀ b ∈ Generated.saveBatchSizes, b = saveBatchModel + 1) ∧ Generated.saveBatchSizes ≠ [] :=
  ⟨rfl, rfl, rfl, rfl, rfl, rfl, rfl, rfl, by decide +kernel, by decide +kernel⟩

/-! # Noise evaluated on content, the draws being those of `CobaRandom(seed)` (Model/C05) -/

/-- `Noise(context=('i', lo, hi), seed)` as the model runs it (`FitStage.noiseInt`, generator created from the seed on every call of
`filter`): every read — complete, abandoned after `k`, never started — is the demanded prefix of ONE sequence, the scan of the
upstream rows from state `normInt seed` -/
theorem noise_int_reads (sd : List Rat → Rat) (seed lo hi : Int) (rows : List (List C11.Val)) (ds : List Demand) :
    fitReadsFresh sd (FitStage.noiseInt seed lo hi) (.dense rows) ds
      = ds.map (fun d => demTake d (.dense (scanRows (noiseIntRow lo hi) (C05.normInt seed) rows))) :=
  fit_window_fresh_each_read sd (FitStage.noiseInt seed lo hi) (.dense rows) ds

/-- one row: the generator advances once per number of the row (`None` and strings draw nothing), the row keeps its length -/
theorem noise_int_row (lo hi : Int) (r : List C11.Val) (s : Nat) :
    (noiseIntRow lo hi s r).1 = iterNext (r.filter drawsNoise).length s ∧ (noiseIntRow lo hi s r).2.length = r.length := by
  induction r generalizing s with
  | nil => exact ⟨rfl, rfl⟩
  | cons v vs ih =>
    cases v with
    | num q => exact ⟨(ih (C05.next s)).1, congrArg (· + 1) (ih (C05.next s)).2⟩
    | nan => exact ⟨(ih (C05.next s)).1, congrArg (· + 1) (ih (C05.next s)).2⟩
    | nil => exact ⟨(ih s).1, congrArg (· + 1) (ih s).2⟩
    | str t => exact ⟨(ih s).1, congrArg (· + 1) (ih s).2⟩

/-- the first `k` noisy rows depend on the first `k` upstream rows only (an abandoned read draws for what it saw) -/
theorem noise_rows_prefix (step : Nat → List C11.Val → Nat × List C11.Val) (rows : List (List C11.Val)) (s k : Nat) :
    (scanRows step s rows).take k = scanRows step s (rows.take k) := by
  induction rows generalizing s k with
  | nil => simp [scanRows]
  | cons r rs ih =>
    cases k with
    | zero => simp [scanRows]
    | succ k => simp [scanRows, ih]

/-- the draws are those of `CobaRandom(1).randint(0, 9)` from successive generator states; a `None` in between draws nothing -/
example : (noiseIntRow 0 9 (C05.normInt 1) [.num 0, .nil, .num 0, .num (1/2)]).2
    = [.num ((C05.randint (C05.normInt 1) 0 9).2 : Rat), .nil, .num ((C05.randint (C05.next (C05.normInt 1)) 0 9).2 : Rat),
       .num (1/2 + ((C05.randint (C05.next (C05.next (C05.normInt 1))) 0 9).2 : Rat))] := by decide +kernel

/-- forced by the per-call generator: a generator kept in the instance (state after the first read) gives other contexts the second time -/
theorem noise_int_kept_rng_counterexample :
    scanRows (noiseIntRow 0 9) (C05.normInt 1) [[.num 0, .num 0]]
      ≠ scanRows (noiseIntRow 0 9) (noiseIntRow 0 9 (C05.normInt 1) [.num 0, .num 0]).1 [[.num 0, .num 0]] := by decide +kernel

/-! # What runs when a read is abandoned (the generator is closed while suspended at a `yield`) -/

/-- translator obligation: every `try` / `with` statement around a `yield` in the anchored files (read from the CURRENT source) is a row
of the model's `abandonTable`; none of them has a `finally` or a handler that catches `GeneratorExit`, every `with` manager only
releases a resource; the `try` around the fill loop of `pipes.Cache.filter` runs nothing when the generator is closed -/
theorem abandon_table_matches_source :
    Generated.abandonRows = abandonTable.map TryRow.tuple ∧
    (Generated.abandonRows.all (fun t => (TryRow.mk t.1 t.2.1 t.2.2.1 t.2.2.2.1 t.2.2.2.2).silent)) = true ∧
    cacheExitAct Generated.cacheFillHandlers = .nothing ∧ Generated.cacheFillFinally = false := by
  have hrows : Generated.abandonRows = abandonTable.map TryRow.tuple := rfl
  refine ⟨hrows, ?_, cacheExitAct_source, rfl⟩
  rw [hrows, List.all_map, List.all_eq_true]
  exact abandonTable_silent

/-- `abandonObsAllowed` (what the driver answers when the harness reports a source line that ran while a dropped read was closed):
every row is silent; for a row's function the tested `except` line / the left `with` line is allowed; a line inside a handler or
`finally` body, or any other line, never is; and nothing is allowed for a function outside the table -/
theorem abandon_table_sound :
    (∀ r ∈ abandonTable, r.silent = true ∧ r.runsOnAbandon = false) ∧
    (∀ r ∈ abandonTable, r.kind = "try" → abandonObsAllowed r.file r.fn "header" = true) ∧
    (∀ r ∈ abandonTable, r.kind = "with" → abandonObsAllowed r.file r.fn "with" = true) ∧
    (∀ (file fn kind : String), kind ≠ "header" → kind ≠ "with" → abandonObsAllowed file fn kind = false) ∧
    (∀ (file fn kind : String), (∀ r ∈ abandonTable, r.fn ≠ fn) → abandonObsAllowed file fn kind = false) := by
  have hrun : ∀ r ∈ abandonTable, r.runsOnAbandon = false := fun r hr => TryRow.not_runs_of_silent (abandonTable_silent r hr)
  refine ⟨fun r hr => ⟨abandonTable_silent r hr, hrun r hr⟩,
    fun r hr hk => abandonObsAllowed_header hr hk (hrun r hr),
    fun r hr hk => abandonObsAllowed_with hr hk (abandonTable_silent r hr), ?_, abandonObsAllowed_other_fn⟩
  intro file fn kind h1 h2
  simp [abandonObsAllowed, h1, h2]

example : abandonObsAllowed "coba/pipes/filters.py" "Cache.filter" "header" = true ∧ abandonObsAllowed "coba/pipes/filters.py" "Cache.filter" "body" = false ∧
    abandonObsAllowed "coba/environments/filters.py" "Shuffle.filter" "header" = false ∧
    (TryRow.mk "coba/pipes/filters.py" "Cache.filter" "try" ["BaseException"] false).runsOnAbandon = true ∧
    (TryRow.mk "coba/environments/filters.py" "Shuffle.filter" "try" [] true).runsOnAbandon = true := by decide +kernel

/-- with the handlers the source has, the session with an explicit exit action IS the cache case of `nodeStep`
(the step all the re-read theorems are about) -/
theorem cache_session_is_nodeStep (sz : Option Nat) (prot : Bool) (st : CacheSt) (u : List Item) (d : Demand) :
    (nodeStep (.cache sz prot st) u d).1 = .cache sz prot (cacheSessX (cacheExitAct Generated.cacheFillHandlers) sz u st d) := by
  rw [cacheExitAct_source]
  exact nodeStep_cache sz prot st u d

/-- any history of sessions on one `pipes.Cache`, from any consistent state: whether closing the generator runs nothing (the
source) or the handler's reset (a handler that also catches `GeneratorExit`), the buffer invariant `_cache ++ rest(_iter) = upstream`
holds afterwards and the next read delivers the upstream sequence -/
theorem cache_abandon_history (x : ExitAct) (hx : x ≠ .dropIter) (sz : Option Nat) (prot : Bool) (u : List Item)
    (ds : List Demand) (st : CacheSt) (h : CacheOK u st) :
    CacheOK u (ds.foldl (cacheSessX x sz u) st) ∧ nodeView (.cache sz prot (ds.foldl (cacheSessX x sz u) st)) u = u := by
  induction ds generalizing st with
  | nil => exact ⟨h, cacheOK_view sz prot u st h⟩
  | cons d ds ih => exact ih _ (cacheSessX_ok x hx sz u st h d)

example : CacheOK [1, 2, 3] .unread ∧ CacheOK [1, 2, 3] (.prog [1, 2] [3]) := ⟨trivial, rfl⟩

/-- the hypothesis `x ≠ .dropIter` is forced: a `finally: self._iter = None` around the fill loop makes ONE abandoned read leave a
truncated cache ([1,2] of [1,2,3], slices of 2) that every later read serves; the source's code keeps delivering [1,2,3] -/
theorem cache_finally_counterexample :
    cacheSessX .dropIter (some 2) [1, 2, 3] .unread (.pull 1) = .done [1, 2] ∧
    nodeView (.cache (some 2) false (cacheSessX .dropIter (some 2) [1, 2, 3] .unread (.pull 1))) [1, 2, 3] = [1, 2] ∧
    nodeView (.cache (some 2) false (cacheSessX .nothing (some 2) [1, 2, 3] .unread (.pull 1))) [1, 2, 3] = [1, 2, 3] :=
  ⟨rfl, by decide +kernel, by decide +kernel⟩


end Coba.C04
