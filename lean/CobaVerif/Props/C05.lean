/-
C05 — Random streams are a pure, contract-respecting function of the seed.
-/
import CobaVerif.Lemmas.C05
import CobaVerif.Lemmas.C05Real
import CobaVerif.Lemmas.C05Period
import Mathlib.Data.Fintype.Card
import CobaVerif.Generated.LcgConsts
import CobaVerif.Generated.C05Source
import CobaVerif.Generated.C05Reservoir
import CobaVerif.Generated.C05Filters

namespace Coba.C05

/-- translator obligation: the constants in coba/random.py are the ones the model uses -/
theorem lcg_consts_match :
    Coba.Generated.lcgA = A ∧ Coba.Generated.lcgC = C ∧ Coba.Generated.lcgM = M := by decide

/-- Hull–Dobell conditions for full period 2^30 (so every one of the 2^30 states is visited,
including the state whose uniform is exactly 0) -/
theorem lcg_params_ok : A % 4 = 1 ∧ C % 2 = 1 ∧ M = 2 ^ 30 := by decide

theorem state_lt (s : Nat) : next s < M := next_lt s

theorem uniform_mem (s : Nat) : 0 ≤ u s ∧ u s < 1 := ⟨u_nonneg s, u_lt_one s⟩

/-- the uniform 0 does occur: it is the first draw of `CobaRandom(482549499)` -/
theorem zero_state_reachable : unum (normInt 482549499) = 0 := by decide

/-- streams never merge: every state has exactly one predecessor -/
theorem next_injective (s t : Nat) (hs : s < M) (ht : t < M) (h : next s = next t) : s = t :=
  next_injOn hs ht h

/-- exactly one state in [0,2^30) is followed by the uniform 0.0 — the boundary the corpus
computes by modular inverse is THE boundary -/
theorem zero_uniform_unique (s t : Nat) (hs : s < M) (ht : t < M) (h1 : unum s = 0) (h2 : unum t = 0) : s = t := by
  rw [unum_eq_next] at h1 h2
  exact next_injective s t hs ht (h1.trans h2.symm)

/-- **full period (Hull–Dobell for m = 2^30, proved directly):** for EVERY seed the stream returns to
its starting state after exactly the multiples of 2^30 draws — no seed has a short cycle -/
theorem period (s : Nat) (hs : s < M) (n : Nat) : next^[n] s = s ↔ M ∣ n :=
  lcg_period (A - 1) C 30 s (by decide) (by decide) hs n

theorem states_distinct (s : Nat) (hs : s < M) (i j : Nat) (hi : i < M) (hj : j < M)
    (h : next^[i] s = next^[j] s) : i = j := by
  wlog hij : i ≤ j generalizing i j
  · exact (this j i hj hi h.symm (Nat.le_of_not_le hij)).symm
  obtain ⟨d, rfl⟩ := Nat.exists_eq_add_of_le hij
  rw [Function.iterate_add_apply] at h
  -- the common `i` steps cancel: the stream is back at its seed after `d < M` draws
  have h2 : s = next^[d] s := next_injOn.iterate next_mapsTo i hs (next_mapsTo.iterate d hs) h
  have h3 : d = 0 :=
    Nat.eq_zero_of_dvd_of_lt ((period s hs d).1 h2.symm) (Nat.lt_of_le_of_lt (Nat.le_add_left d i) hj)
  rw [h3, Nat.add_zero]

theorem visits_every_state (s : Nat) (hs : s < M) (t : Nat) (ht : t < M) :
    ∃ i, i < M ∧ next^[i] s = t := by
  -- pigeonhole on `Fin M`: an injective map of a finite set into itself is onto
  let f : Fin M → Fin M := fun i => ⟨next^[i.val] s, next_mapsTo.iterate i.val hs⟩
  have hinj : Function.Injective f := fun i j h =>
    Fin.ext (states_distinct s hs i.val j.val i.isLt j.isLt (congrArg Fin.val h))
  obtain ⟨i, hi⟩ := Finite.surjective_of_injective hinj ⟨t, ht⟩
  exact ⟨i.val, i.isLt, congrArg Fin.val hi⟩

/-- **exact equidistribution over a period:** `random()` is exactly uniform on its grid `k/2^30` over a period of any seed;
in particular the zero uniform occurs exactly once per period -/
theorem uniform_each_once (s : Nat) (hs : s < M) (k : Nat) (hk : k < M) :
    ∃ i, i < M ∧ unum (next^[i] s) = k ∧ ∀ j, j < M → unum (next^[j] s) = k → j = i := by
  -- the draws of `s` are the states of the stream of `next s`
  obtain ⟨i, hi, hik⟩ := visits_every_state (next s) (next_lt s) k hk
  refine ⟨i, hi, (unum_iterate s i).trans hik, fun j hj hjk => ?_⟩
  exact states_distinct (next s) (next_lt s) j i hj hi (((unum_iterate s j).symm.trans hjk).trans hik.symm)

/-- the hypotheses are met by every normalised seed, e.g. the corpus boundary seed -/
example : normInt 482549499 < M ∧ unum (next^[0] (normInt 482549499)) = 0 := by decide

/-- a zero uniform is never followed by another one (the `while U == 0` loop in
`_next_gaussian` runs at most once) -/
theorem redraw_nonzero (s : Nat) (h : unum s = 0) : unum (next s) ≠ 0 := by
  have := skipZero_nonzero s
  rwa [skipZero, if_pos h] at this

/-- `random(min,max) ∈ [min,max)` over exact arithmetic (in doubles the upper bound can be hit: `random_float_rounds_to_max`) -/
theorem random_mem (s : Nat) (lo hi : Rat) (h : lo < hi) :
    lo ≤ (random s lo hi).2 ∧ (random s lo hi).2 < hi :=
  have h' := mul_u_mem s (sub_pos.2 h)
  ⟨le_add_of_nonneg_right h'.1, lt_sub_iff_add_lt'.1 h'.2⟩

theorem randoms_mem (s n : Nat) (lo hi : Rat) (h : lo < hi) :
    (randoms s n lo hi).2.length = n ∧ ∀ x ∈ (randoms s n lo hi).2, lo ≤ x ∧ x < hi := by
  rw [randoms_eq_iterate]
  exact ⟨(List.length_map _).trans (List.length_iterate ..), List.forall_mem_map.2 fun t _ => random_mem t lo hi h⟩

/-- `randint(a,b) ∈ [a,b]` -/
theorem randint_mem (s : Nat) (a b : Int) (h : a ≤ b) :
    a ≤ (randint s a b).2 ∧ (randint s a b).2 ≤ b := by
  have := ediv_scale_pos (unum_cast_lt s).1 (unum_cast_lt s).2 (show 0 < b - a + 1 by omega)
  simp only [randint]
  omega

theorem randints_mem (s n : Nat) (a b : Int) (h : a ≤ b) :
    (randints s n a b).2.length = n ∧ ∀ x ∈ (randints s n a b).2, a ≤ x ∧ x ≤ b := by
  rw [randints_eq_iterate]
  exact ⟨(List.length_map _).trans (List.length_iterate ..), List.forall_mem_map.2 fun t _ => randint_mem t a b h⟩

theorem shuffle_perm {α} (s : Nat) (xs : List α) : (shuffle s xs).2.Perm xs := shuffle_perm' s xs

/-- the loop of `CobaRandom.shuffle` as written in Python (for i = 0 … n-2: j = i + floor((n-i)·u); swap l[i], l[j]), which is
what the driver runs, computes the recursive formulation the permutation and draw-count theorems are stated about -/
theorem shuffleLoop_eq_shuffle {α} (s : Nat) (l : List α) : shuffleLoop s l = shuffle s l :=
  (shuffle_eq_loop s l).symm

theorem shuffleLoop_perm {α} (s : Nat) (xs : List α) : (shuffleLoop s xs).2.Perm xs := by
  rw [shuffleLoop_eq_shuffle]; exact shuffle_perm' s xs

/-- shuffle consumes exactly `len-1` uniforms (none for lists shorter than 2) -/
theorem shuffle_draws {α} (s : Nat) (xs : List α) :
    (shuffle s xs).1 = Nat.iterate next (xs.length - 1) s := by
  induction s, xs using shuffle_induction with
  | nil s => rw [shuffle]; rfl
  | single s x => rw [shuffle]; rfl
  | step s x y r h t hsw hlen heq ih => rw [heq, ih, hlen]; rfl

/-- weighted choice inside the contract (non-negative weights, positive sum, one per member): the call succeeds, consumes
one uniform, and the chosen member has strictly positive weight -/
theorem choice_pos_weight (s n : Nat) (ws : List Rat) (hlen : ws.length = n)
    (hnn : ∀ w ∈ ws, 0 ≤ w) (hpos : 0 < sum ws) :
    ∃ i, choice s n (some ws) = .ok (next s, i) ∧ i < n ∧ ∃ w, ws[i]? = some w ∧ 0 < w :=
  choice_pos_total s n ws hlen hpos

theorem choice_uniform_mem (s n : Nat) (hn : 0 < n) :
    ∃ i, choice s n none = .ok (next s, i) ∧ i < n := choice_uniform_mem' s n hn

/-- choicew reports exactly the chosen member's weight -/
theorem choicew_weight (s n : Nat) (ws : List Rat) (hlen : ws.length = n)
    (hnn : ∀ w ∈ ws, 0 ≤ w) (hpos : 0 < sum ws) :
    ∃ i w, choicew s n (some ws) = .ok (next s, i, w) ∧ ws[i]? = some w ∧ 0 < w :=
  choicew_weight' s n ws hlen hnn hpos

/-- documented rejections -/
theorem choice_rejects (s n : Nat) (ws : List Rat) :
    (ws ≠ [] ∧ ws.length ≠ n) ∨ sum ws = 0 → choice s n (some ws) = .error .valueError :=
  fun h => (choice_some s n ws).trans (if_pos h)

/-- Box–Muller never takes `log 0`: the first uniform of every pair is non-zero, for every
state (gauss is total in the model; finiteness of the value is then libm's) -/
theorem gauss_log_arg_pos (g : Gen) (h : g.buf = none) : 0 < (gauss1 g).2.k1 ∧ (gauss1 g).2.k1 < M := by
  unfold gauss1
  rw [h]
  exact ⟨Nat.pos_of_ne_zero (skipZero_nonzero g.s), unum_lt _⟩

/-- the buffered member of a pair is returned next and consumes no uniform -/
theorem gauss_pair (g : Gen) (h : g.buf = none) :
    let (g1, d1) := gauss1 g
    let (g2, d2) := gauss1 g1
    d1.isCos = true ∧ d2 = { d1 with isCos := false } ∧ g2.s = g1.s ∧ g2.buf = none := by
  unfold gauss1
  rw [h]
  simp

/-- the first state after normalising an integer seed is what Python's `(a*seed+c) & (m-1)` computes from the raw seed -/
theorem seed_norm_int (seed : Int) :
    ((next (normInt seed) : Nat) : Int) = ((A : Int) * seed + (C : Int)) % (M : Int) := by
  have hM : (0 : Int) < (M : Int) := by exact_mod_cast M_pos
  unfold next normInt
  rw [Int.natCast_mod, Int.natCast_add, Int.natCast_mul, Int.toNat_of_nonneg (Int.emod_nonneg _ hM.ne'),
    Int.add_emod, Int.mul_emod, Int.emod_emod_of_dvd _ (dvd_refl _), ← Int.mul_emod, ← Int.add_emod]

/-- gauss is finite, with the transcendental functions modelled by their real counterparts:
for every pair of uniforms Box–Muller can be fed (first numerator in [1,2^30) by
`gauss_log_arg_pos`) the value is bounded by sqrt(60 ln 2) ≈ 6.45 -/
theorem gauss_finite_real (k1 k2 : Nat) (isCos : Bool) (h1 : 0 < k1) (h2 : k1 < M) :
    |boxMuller k1 k2 isCos| ≤ Real.sqrt (60 * Real.log 2) := by
  unfold boxMuller
  rw [abs_mul, abs_of_nonneg (Real.sqrt_nonneg _)]
  have htrig : |(if isCos then Real.cos (2 * Real.pi * ((k2 : ℝ) / (M : ℝ))) else Real.sin (2 * Real.pi * ((k2 : ℝ) / (M : ℝ))))| ≤ 1 := by
    split
    · exact Real.abs_cos_le_one _
    · exact Real.abs_sin_le_one _
  exact (mul_le_of_le_one_right (Real.sqrt_nonneg _) htrig).trans (boxMuller_radius_le k1 h1)

example : (0 : Nat) < 5 ∧ 5 < M := by decide

/-- `randint` under the standard model of floating-point arithmetic (relative error ≤ 2^-53 on
the int→float conversion of the range and on the product): the product never reaches the
range, for every range, state and admissible rounding error — so `floor` stays ≤ range-1 -/
theorem randint_float_model (n : Rat) (s : Nat) (e1 e2 : Rat) (hn : 0 < n)
    (h1 : |e1| ≤ 1 / 2 ^ 53) (h2 : |e2| ≤ 1 / 2 ^ 53) :
    0 ≤ n * (1 + e1) * u s * (1 + e2) ∧ n * (1 + e1) * u s * (1 + e2) < n := by
  have hδ : (1 : Rat) / 2 ^ 53 < 1 := by norm_num
  obtain ⟨p1, q1⟩ := one_add_mem hδ h1
  obtain ⟨p2, q2⟩ := one_add_mem hδ h2
  have hu0 := u_nonneg s
  -- (1 + 2^-53)² · (1 - 2^-30) < 1: two roundings cannot make up for the distance of the largest uniform from 1
  have hnum : (1 + (1 : Rat) / 2 ^ 53) * (1 - 1 / (M : Rat)) * (1 + 1 / 2 ^ 53) < 1 := by
    rw [show (M : Rat) = 2 ^ 30 by norm_num [M]]; norm_num
  have := mul_three_lt_one q1 hu0 (u_le s) p2.le q2 (by positivity) hnum
  refine ⟨mul_nonneg (mul_nonneg (mul_nonneg hn.le p1.le) hu0) p2.le, ?_⟩
  rw [mul_assoc, mul_assoc, ← mul_assoc (1 + e1)]
  exact mul_lt_of_lt_one_right hn this

/-- IEEE-754 witness for the recorded finding C05-F3: with `min = 2^20-2^-20`, `max = 2^20`
and the largest uniform `(2^30-1)/2^30` the double result of `min+(max-min)*u` *is* `max`.
(`decide +kernel` on a closed `Float` term; no extra axioms.) -/
theorem random_float_rounds_to_max :
    ((1048576.0 - 1.0/1048576.0) + (1048576.0 - (1048576.0 - 1.0/1048576.0)) * (1073741823.0 / 1073741824.0) : Float) == 1048576.0 := by
  decide +kernel

/-! ## The module-level generator, re-seeding and pickling -/

/-- translator obligation: the seed-normalisation branches of `CobaRandom.__init__` (which types go
through `int(seed)`, the `float.is_integer` guard, `str`/`utf-8`/`big`/`% 2**20`, the falsy fallback),
the step/yield of `_next_uniform` (`& (m-1)`, `/ m`), the comparator of the weighted `choice`, what
`__reduce__` stores, `seed()` replacing the global, the nine delegating module functions, default
bounds, Box–Muller coefficients and the zero guard — as read off coba/random.py by `ast` on this run —
are the ones the model is written for -/
theorem source_facts_match :
    Coba.Generated.C05.srcFacts = srcFacts ∧ Coba.Generated.C05.srcNums = srcNums := ⟨rfl, rfl⟩

/-- the model's byte-seed modulus is the extracted `2**20`, and big-endian means base 256 from the left -/
theorem normBytes_def (bs : List Nat) : normBytes bs = fromBytes bs % strMod ∧
    fromBytes (bs ++ [0]) = 256 * fromBytes bs := by
  refine ⟨rfl, ?_⟩
  simp [fromBytes, List.foldl_append, Nat.mul_comm]

/-- **module functions = methods on the global:** `coba.random.f(args)` returns what
`_random.f(args)` returns and advances the global exactly as the method does -/
theorem module_call_eq_method (x : Inst) (o : Op) :
    cstep x (.op o) = ({ x with g := (step x.g o).1 }, some (step x.g o).2) := rfl

/-- frame / purity for any step function (`f = stepE` is what the driver runs; `f = step` gives `frame_calls`): with failing
calls, re-seeding and pickling anywhere in the history, the outputs of object `i` under any interleaving equal those of its
own calls alone — the stream position after an error is part of the object's own state -/
theorem frame_calls_exact (f : Gen → Op → Gen × Out) (st : Nat → Inst) (h : List (Nat × Call)) (i : Nat) :
    ((crunW f st h).filter (·.1 = i)).map (·.2) = crunOneW f (st i) ((h.filter (·.1 = i)).map (·.2)) := by
  induction h generalizing st with
  | nil => rfl
  | cons p h ih =>
    obtain ⟨j, c⟩ := p
    rw [crunW_cons, List.filter_append, List.map_append, ih]
    -- the head call adds its output to the run of `i` exactly when it is a call on `i`
    by_cases hji : j = i
    · subst hji
      rw [List.filter_cons_of_pos (by simp), List.map_cons, crunOneW_cons, if_pos rfl]
      congr 1
      cases (cstepW f (st j) c).2 <;> simp
    · rw [List.filter_cons_of_neg (by simpa using hji), if_neg (Ne.symm hji)]
      cases (cstepW f (st j) c).2 <;> simp [hji]

theorem seed_then_history_exact (f : Gen → Op → Gen × Out) (x : Inst) (s : Nat) (ops : List Op) :
    crunOneW f x (.reseed s :: ops.map .op) = runOneW f { s := s } ops := by
  rw [← fresh_g s]
  exact crunOneW_ops f (fresh s) ops

theorem seed_forgets_past_exact (f : Gen → Op → Gen × Out) (x : Inst) (pre : List Call) (s : Nat) (post : List Call) :
    crunOneW f x (pre ++ .reseed s :: post) = crunOneW f x pre ++ crunOneW f (fresh s) post := by
  rw [crunOneW_append]
  rfl

theorem pickle_restores_seed_exact (f : Gen → Op → Gen × Out) (s : Nat) (ops : List Op) (post : List Call) :
    crunOneW f (fresh s) (ops.map .op ++ .repickle :: post)
      = runOneW f { s := s } ops ++ crunOneW f (fresh s) post := by
  rw [crunOneW_append, crunOneW_ops, fresh_g]
  simp only [crunOneW, cstepW, cafterW_ops_seed0]
  rfl

theorem crunW_step (st : Nat → Inst) (h : List (Nat × Call)) : crunW step st h = crun st h := by
  induction h generalizing st with
  | nil => rfl
  | cons p h ih =>
    obtain ⟨j, c⟩ := p
    simp only [crunW, crun, cstepW_step, ih]

/-- **`coba.random.seed(s)` followed by any history of module calls = `CobaRandom(s)` with that
history** — whatever the global was before (position, buffered gaussian, earlier seeds) -/
theorem seed_then_history (x : Inst) (s : Nat) (ops : List Op) :
    crunOne x (.reseed s :: ops.map .op) = runOne { s := s } ops := by
  rw [← crunOneW_step, ← runOneW_step]
  exact seed_then_history_exact step x s ops

/-- nothing done before a `seed(s)` call (incl. earlier re-seeds and pickling) is visible after it -/
theorem seed_forgets_past (x : Inst) (pre : List Call) (s : Nat) (post : List Call) :
    crunOne x (pre ++ .reseed s :: post) = crunOne x pre ++ crunOne (fresh s) post := by
  simp only [← crunOneW_step]
  exact seed_forgets_past_exact step x pre s post

/-- **pickling restores the seed, not the position:** after any history of method calls the unpickled
object answers like a brand-new `CobaRandom(seed)` -/
theorem pickle_restores_seed (s : Nat) (ops : List Op) (post : List Call) :
    crunOne (fresh s) (ops.map .op ++ .repickle :: post)
      = runOne { s := s } ops ++ crunOne (fresh s) post := by
  simp only [← crunOneW_step, ← runOneW_step]
  exact pickle_restores_seed_exact step s ops post

/-- pickling an unused generator is the identity (what multiprocessing relies on) -/
theorem pickle_fresh_noop (s : Nat) (post : List Call) :
    crunOne (fresh s) (.repickle :: post) = crunOne (fresh s) post := rfl

/-- the position IS lost: seed 1, one draw, pickle round trip — the copy repeats the first uniform, the original moves on -/
theorem pickle_loses_position_counterexample :
    unum (cafter (fresh 1) [.op (.random 0 1), .repickle]).g.s ≠ unum (cafter (fresh 1) [.op (.random 0 1)]).g.s := by
  decide

/-- what `__reduce__` stores (`self._seed`) rebuilds the same start state for every kind of seed
(int, integral float, str/other) — so an unpickled generator IS the generator of the original seed -/
theorem reduce_seed_roundtrip (sd : SeedObj) : normInt (seedAttr sd) = seedState sd := by
  cases sd with
  | int z => rfl
  | integralFloat z => rfl
  | other bs => exact normInt_of_lt _ (normBytes_lt bs)

theorem seed_state_lt (sd : SeedObj) : seedState sd < M := by
  cases sd with
  | int z => exact normInt_lt z
  | integralFloat z => exact normInt_lt z
  | other bs => exact normBytes_lt bs

/-- int seeds that agree modulo 2^30 are the same generator (huge and negative seeds included) -/
theorem seed_norm_periodic (z k : Int) : normInt (z + k * (M : Int)) = normInt z := by
  unfold normInt
  rw [Int.add_mul_emod_self_right]

/-- frame / purity with re-seeding and pickling in the history: the outputs of object `i` (an instance
or the module global) under any interleaving equal those of its own calls alone -/
theorem frame_calls (st : Nat → Inst) (h : List (Nat × Call)) (i : Nat) :
    ((crun st h).filter (·.1 = i)).map (·.2) = crunOne (st i) ((h.filter (·.1 = i)).map (·.2)) := by
  simp only [← crunW_step, ← crunOneW_step]
  exact frame_calls_exact step st h i

/-- on histories of plain method calls the extended runner is `run` -/
theorem crun_ops_eq_run (st : Nat → Inst) (h : Hist) :
    crun st (h.map (fun p => (p.1, Call.op p.2))) = run (fun i => (st i).g) h := by
  induction h generalizing st with
  | nil => rfl
  | cons p h ih =>
    obtain ⟨j, o⟩ := p
    simp only [List.map_cons, crun, cstep, run]
    rw [ih]
    congr 2
    funext k
    by_cases hk : k = j <;> simp [hk]

/-- frame / purity: in any interleaving of calls on any family of instances, the outputs of
instance `i` are exactly those of running `i`'s calls alone -/
theorem frame (st : Nat → Gen) (h : Hist) (i : Nat) :
    ((run st h).filter (·.1 = i)).map (·.2) = runOne (st i) ((h.filter (·.1 = i)).map (·.2)) := by
  -- a history of plain calls is a history of `Call`s on objects that never look at their remembered seed
  have hc := frame_calls (fun j => ⟨0, st j⟩) (h.map (fun p => (p.1, Call.op p.2))) i
  rw [crun_ops_eq_run, List.filter_map, List.map_map] at hc
  calc _ = crunOne ⟨0, st i⟩ (((h.filter (·.1 = i)).map (·.2)).map .op) := by rw [List.map_map]; exact hc
       _ = _ := by rw [← crunOneW_step, crunOneW_ops, runOneW_step]

/-! ## Edge cases of the operations: degenerate and reversed bounds, numbers of draws, single members, weights of any sign -/

theorem random_degenerate (s : Nat) (lo : Rat) : (random s lo lo).2 = lo := by
  rw [random, sub_self, zero_mul, add_zero]

/-- `random(min,max)` with `max < min` does not raise and lies in `(max,min]` -/
theorem random_reversed (s : Nat) (lo hi : Rat) (h : hi < lo) :
    hi < (random s lo hi).2 ∧ (random s lo hi).2 ≤ lo :=
  have h' := mul_u_mem_neg s (sub_neg.2 h)
  ⟨sub_lt_iff_lt_add'.1 h'.1, add_le_of_nonpos_right h'.2⟩

example : (3 : Rat) < 5 := by decide

theorem randint_eq (s : Nat) (a : Int) : (randint s a a).2 = a := by
  have := randint_mem s a a (le_refl a)
  omega

/-- `randint(a,b)` with `a > b` does not raise; the value lies in `[b+1,a]` -/
theorem randint_reversed (s : Nat) (a b : Int) (h : b < a) :
    b + 1 ≤ (randint s a b).2 ∧ (randint s a b).2 ≤ a := by
  have := ediv_scale_nonpos (unum_cast_lt s).1 (unum_cast_lt s).2 (show b - a + 1 ≤ 0 by omega)
  simp only [randint]
  omega

example : (2 : Int) < 7 := by decide

/-- `n = 0`: no value, no uniform consumed; in general exactly `n` uniforms are consumed -/
theorem randoms_zero (s : Nat) (lo hi : Rat) : randoms s 0 lo hi = (s, []) := rfl
theorem randints_zero (s : Nat) (a b : Int) : randints s 0 a b = (s, []) := rfl
theorem randoms_draws (s n : Nat) (lo hi : Rat) : (randoms s n lo hi).1 = next^[n] s :=
  congrArg Prod.fst (randoms_eq_iterate s n lo hi)
theorem randints_draws (s n : Nat) (a b : Int) : (randints s n a b).1 = next^[n] s :=
  congrArg Prod.fst (randints_eq_iterate s n a b)

/-- **`gausses(n)` = n × `gauss()`**: same values and same generator afterwards (state and buffered
second Box–Muller value), for every generator incl. one with a buffered value -/
theorem gausses_eq_iterated_gauss (g : Gen) (n : Nat) : gaussIter g n = gausses g n :=
  (gaussIter_eq_iterate g n).trans (gausses_eq_iterate g n).symm

theorem gausses_zero (g : Gen) : gausses g 0 = (g, []) := rfl
theorem gausses_length (g : Gen) (n : Nat) : (gausses g n).2.length = n := by
  rw [gausses_eq_iterate]
  exact (List.length_map _).trans (List.length_iterate ..)

/-- one element: it is returned whatever its positive weight, and `choicew` reports that weight -/
theorem choice_single (s : Nat) (w : Rat) (hw : 0 < w) :
    choice s 1 (some [w]) = .ok (next s, 0) ∧ choicew s 1 (some [w]) = .ok (next s, 0, w) := by
  obtain ⟨i, hc, hi, _⟩ := choice_pos_total s 1 [w] rfl (by rw [sum_eq, List.sum_singleton]; exact hw)
  obtain rfl : i = 0 := Nat.lt_one_iff.1 hi
  exact ⟨hc, by simp only [choicew, hc]; rfl⟩

example : (0 : Rat) < 1 / 2 := by decide +kernel

theorem choice_single_unweighted (s : Nat) : choice s 1 none = .ok (next s, 0) := by
  rw [choice_none, if_neg Nat.one_ne_zero, Nat.lt_one_iff.1 (scaled_lt s 1 Nat.one_pos)]

/-- zero total weight is rejected before a uniform is drawn: the stream is where it was -/
theorem choice_zero_total_keeps_state (g : Gen) (n : Nat) (ws : List Rat) (h : sum ws = 0) :
    step g (.choice n (some ws)) = (g, .err .valueError) := by
  simp only [step, choice_rejects g.s n ws (Or.inr h)]

example : sum [0, 0] = 0 := by decide +kernel

/-- weights of ANY sign: `hnn` of `choice_pos_weight` is not needed, a positive total is enough -/
theorem choice_pos_weight_any_sign (s n : Nat) (ws : List Rat) (hlen : ws.length = n) (hpos : 0 < sum ws) :
    ∃ i, choice s n (some ws) = .ok (next s, i) ∧ i < n ∧ ∃ w, ws[i]? = some w ∧ 0 < w :=
  choice_pos_total s n ws hlen hpos

example : ([3, -1, 2] : List Rat).length = 3 ∧ 0 < sum [3, -1, 2] := by decide +kernel

/-- …but the total must be positive: with a negative total nothing is found and the bare
`StopIteration` of `next(compress(…))` escapes (outside the contract; replayed by the corpus) -/
theorem choice_negative_total_counterexample :
    choice (normInt 1) 1 (some [-1]) = .error .stopIteration := by decide +kernel

/-! ## Error paths of `choice` and `choicew` -/

/-- **exactly which error paths consume a draw.**  A `choice` call either answers `ValueError` — precisely when the weights
have the wrong length or total zero — and then the generator is untouched (rejected before the draw); or (success,
`IndexError` on an empty sequence, bare `StopIteration` when nothing is found) exactly one uniform has been consumed and
the gaussian buffer is unchanged -/
theorem choice_error_state (g : Gen) (n : Nat) (w : Option (List Rat)) :
    ((stepE g (.choice n w)).2 = .err .valueError ∧ (stepE g (.choice n w)).1 = g ∧
        ∃ ws, w = some ws ∧ ((ws ≠ [] ∧ ws.length ≠ n) ∨ sum ws = 0)) ∨
    ((stepE g (.choice n w)).2 ≠ .err .valueError ∧ (stepE g (.choice n w)).1 = { g with s := next g.s }) := by
  simp only [stepE]
  cases choice_cases g.s n w with
  | valueError hc ws hw hrej => rw [hc]; exact Or.inl ⟨rfl, rfl, ws, hw, hrej⟩
  | ok i hc | indexError hc | stopIteration hc => rw [hc]; exact Or.inr ⟨nofun, rfl⟩

/-- the same for `choicew` (its errors are exactly `choice`'s) -/
theorem choicew_error_state (g : Gen) (n : Nat) (w : Option (List Rat)) :
    ((stepE g (.choicew n w)).2 = .err .valueError ∧ (stepE g (.choicew n w)).1 = g ∧
        ∃ ws, w = some ws ∧ ((ws ≠ [] ∧ ws.length ≠ n) ∨ sum ws = 0)) ∨
    ((stepE g (.choicew n w)).2 ≠ .err .valueError ∧ (stepE g (.choicew n w)).1 = { g with s := next g.s }) := by
  obtain ⟨h1, h2⟩ := stepE_choicew g n w
  rw [h1, Ne, h2]
  exact choice_error_state g n w

/-- `choicew` has no error of its own: `1/len(seq)` and `weights[i]` are never reached with bad arguments -/
theorem choicew_no_own_error (s n : Nat) (w : Option (List Rat)) (e : Err) (h : choicew s n w = .error e) :
    e ≠ .zeroDivision := by
  obtain ⟨wt, hw⟩ := choicew_eq_map s n w
  rw [hw] at h
  cases choice_cases s n w with
  | ok i hc => rw [hc] at h; cases h
  | valueError hc | indexError hc | stopIteration hc => rw [hc] at h; cases h; nofun

/-- the exact semantics `stepE` differs from `step` only on calls that end in `StopIteration` -/
theorem stepE_eq_step (g : Gen) (o : Op) (h : (stepE g o).2 ≠ .err .stopIteration) : stepE g o = step g o := by
  cases o with
  | choice n w | choicew n w =>
    -- `stepE` and `step` branch on the same call and part only where it ends in an error
    simp only [stepE, step] at h ⊢
    split at h
    · next heq => rw [heq]
    · next e heq =>
      rw [heq]
      cases e with
      | stopIteration => exact absurd rfl h
      | _ => rfl
  | _ => rfl

/-- both branches of `choice_error_state` occur: zero total is rejected without a draw, a negative total
ends in StopIteration after the draw -/
example : (stepE { s := 1 } (.choice 2 (some [0, 0]))).1.s = 1 ∧
    (stepE { s := 1 } (.choice 1 (some [-1]))).1.s = next 1 := by decide +kernel

/-! ## A caller that walks the stream in batches (`pipes.filters.Reservoir`) -/

/-- translator obligation: the literals of `Reservoir.filter` (draw `3*batch_size` uniforms, `range(0,3*batch_size,3)`,
slices `[i:i+3]`, three loop targets, `batched_randoms_forever(20)`, in-place shuffle first) as read off
coba/pipes/filters.py by `ast` on this run are the ones the model is written for -/
theorem reservoir_source_match : Coba.Generated.C05.resNums = resNums ∧ resBatch = 20 := ⟨rfl, rfl⟩

/-- translator obligation: the Box–Muller EXPRESSIONS (sqrt of `-2`·log of the first uniform, `2`·pi·the second uniform, cosine value
yielded before the sine value, `mu+sigma*g`, `gauss` = first element of `gausses(1)`) as read off coba/random.py on this run are the
ones `gauss1`/`GaussDesc` and `Lemmas/C05Real.lean` are written for -/
theorem gauss_source_match : Coba.Generated.C05.gaussShape = srcGauss := rfl

/-- batches of `3*b` uniforms handed out in threes are exactly the consecutive triples of the seed's stream: no uniform
skipped, none used twice, across every batch border -/
theorem reservoir_walk_is_stream (b s k : Nat) : batchedTriples (3 * b) s k = streamTriples s (b * k) := by
  induction k generalizing s with
  | zero => rfl
  | succ k ih =>
    simp only [batchedTriples]
    rw [chunk3_unums, ih, Nat.mul_succ, Nat.add_comm (b * k) b, streamTriples_add]

theorem reservoir_walk_length (b s k : Nat) : (batchedTriples (3 * b) s k).length = b * k := by
  rw [reservoir_walk_is_stream, streamTriples_length]

/-- what Reservoir(count,seed) consumes is the model's shuffle of its first `count` items followed by the stream
from where the shuffle left it (the driver runs `reservoirWalk`) -/
theorem reservoir_consumes_stream (s count b k : Nat) :
    reservoirWalk s count b k =
      ((shuffle s (List.range count)).2, streamTriples (shuffle s (List.range count)).1 (b * k)) := by
  simp only [reservoirWalk, reservoir_walk_is_stream]

theorem adv_eq_iterate (s n : Nat) : adv s n = next^[n] s := congrArg Prod.fst (adv_unums_eq_iterate s n)

theorem randoms_eq_unums (s n : Nat) :
    randoms s n 0 1 = (adv s n, (unums s n).map (fun k => (k : Rat) / (M : Rat))) := by
  rw [randoms_eq_iterate, adv_eq_iterate, unums_eq_iterate]
  -- `(k : Rat)` in the statement casts the list, through the `List` monad: `do let a ← unums s n; pure ↑a`
  simp only [List.bind_eq_flatMap, List.pure_def, ← List.map_eq_flatMap, List.map_map, Function.comp_def,
    random, u, sub_zero, one_mul, zero_add]

/-- the hypothesis "batch = multiple of three" is needed: 64 uniforms per batch walked in threes (seeded change C05-hm3)
drop one uniform per batch; replayed on the real code by the corpus (Reservoir runs of > 21 and > 42 replacements) -/
theorem reservoir_walk_counterexample : batchedTriples 64 1 2 ≠ streamTriples 1 42 := by decide +kernel

example : (batchedTriples (3 * 20) 1 3).length = 60 := by decide +kernel

/-! ## The filters that own a generator (`pipes.filters.Shuffle`, `pipes.filters.Reservoir`) and histories of `filter` calls -/

/-- translator obligation: what the model assumes about `Shuffle.filter` and `Reservoir.filter` (generator created inside the call from
`self._seed`; `Shuffle` copies its input and shuffles the copy in place; `count == 0` tested first; `count is None` shuffles a copy;
`islice(items,count)` fills the reservoir; `len(reservoir) < count` → `[] if strict else` in-place shuffle) as read off
coba/pipes/filters.py by `ast` on this run -/
theorem filters_source_match : Coba.Generated.C05.fltNums = fltNums := rfl

/-- `Shuffle(seed).filter(range(n))` is what the method `shuffle` of a NEW `CobaRandom(seed)` returns, and a permutation of its input -/
theorem shuffle_filter_is_seed_stream (s n : Nat) :
    fltOut (.shuffle s) n = .items (shuffleFilter s n) ∧
    (step (fresh s).g (.shuffle n)).2 = .perm (shuffleFilter s n) ∧ (shuffleFilter s n).Perm (List.range n) := by
  refine ⟨rfl, ?_, shuffleFilter_perm s n⟩
  simp [step, shuffleLoop_eq_shuffle, shuffleFilter]

/-- `Reservoir(None,strict,seed)` is `Shuffle(seed)` -/
theorem reservoir_none_is_shuffle (strict : Bool) (s n : Nat) :
    fltOut (.reservoir none strict s) n = fltOut (.shuffle s) n := rfl

theorem reservoir_zero_empty (strict : Bool) (s n : Nat) : fltOut (.reservoir (some 0) strict s) n = .items [] :=
  (fltOut_reservoir_some 0 strict s n).trans (if_pos rfl)

/-- fewer items than `count`: the non-strict reservoir is `Shuffle(seed)` of what there is, the strict one is empty -/
theorem reservoir_short (c s n : Nat) (h : n < c) :
    fltOut (.reservoir (some c) false s) n = fltOut (.shuffle s) n ∧ fltOut (.reservoir (some c) true s) n = .items [] := by
  have hc : c ≠ 0 := Nat.ne_of_gt (Nat.zero_lt_of_lt h)
  constructor
  · rw [fltOut_reservoir_some, if_neg hc, if_pos h]; rfl
  · rw [fltOut_reservoir_some, if_neg hc, if_pos h]; rfl
example : (3 : Nat) < 5 := by decide

/-- at least `count` items (strict or not): the reservoir starts as the seed's shuffle of the first `count` items — a permutation of
them — and Algorithm L is fed with the consecutive triples of the seed's stream from where the shuffle left it (`count-1` draws in) -/
theorem reservoir_full_walk (c : Nat) (strict : Bool) (s n b k : Nat) (hc : 0 < c) (h : c ≤ n) :
    fltOut (.reservoir (some c) strict s) n = .walk (reservoirWalk s c b k).1 (adv s (c - 1)) ∧
    (reservoirWalk s c b k).2 = streamTriples (adv s (c - 1)) (b * k) ∧
    (reservoirWalk s c b k).1.Perm (List.range c) := by
  have hd : (shuffle s (List.range c)).1 = adv s (c - 1) := by
    rw [shuffle_draws, adv_eq_iterate, List.length_range]
  rw [reservoir_consumes_stream, hd]
  refine ⟨?_, rfl, shuffle_perm' _ _⟩
  rw [fltOut_reservoir_some, if_neg (Nat.ne_of_gt hc), if_neg (Nat.not_lt.2 h), hd, shuffleFilter, fresh_g_s]
example : (0 : Nat) < 3 ∧ (3 : Nat) ≤ 3 := by decide

/-- the hypothesis `count ≤ n` of `reservoir_full_walk` is needed: with fewer items there is no walk -/
theorem reservoir_full_walk_counterexample : fltOut (.reservoir (some 3) false 1) 2 = .items (shuffleFilter 1 2) :=
  (reservoir_short 3 1 2 (by decide)).1

/-- histories of `filter` calls on any collection of filter objects: the answer to every call is the answer of that object to that
input, whatever calls (finished or abandoned, on the same object, on a sibling with the same or another seed) surround it -/
theorem filter_history_pure (objs : List Flt) (pre post : List (Nat × Nat)) (o n : Nat) :
    fltRun objs (pre ++ (o, n) :: post) = fltRun objs pre ++ fltAt objs o n :: fltRun objs post := by
  simp only [fltRun_eq_map, List.map_append, List.map_cons]

theorem filter_history_length (objs : List Flt) (h : List (Nat × Nat)) : (fltRun objs h).length = h.length := by
  rw [fltRun_eq_map, List.length_map]

/-- whatever list a filter hands out is empty or a permutation of its whole input (nothing invented, lost or duplicated) -/
theorem filter_items_perm (f : Flt) (n : Nat) (l : List Nat) (h : fltOut f n = .items l) : l = [] ∨ l.Perm (List.range n) := by
  have hperm : ∀ s, .items (shuffleFilter s n) = FltOut.items l → l = [] ∨ l.Perm (List.range n) :=
    fun s e => FltOut.items.inj e ▸ Or.inr (shuffleFilter_perm s n)
  have hnil : FltOut.items [] = .items l → l = [] ∨ l.Perm (List.range n) :=
    fun e => Or.inl (FltOut.items.inj e).symm
  cases f with
  | shuffle s => exact hperm s h
  | reservoir count strict s =>
    cases count with
    | none => exact hperm s h
    | some c =>
      rcases Nat.eq_zero_or_pos c with rfl | hc
      · rw [reservoir_zero_empty] at h; exact hnil h
      · rcases Nat.lt_or_ge n c with hn | hn
        · cases strict
          · rw [(reservoir_short c s n hn).1] at h; exact hperm s h
          · rw [(reservoir_short c s n hn).2] at h; exact hnil h
        · rw [(reservoir_full_walk c strict s n 0 0 hc hn).1] at h; cases h
example : fltOut (.shuffle 1) 3 = .items (shuffleFilter 1 3) := rfl

end Coba.C05
