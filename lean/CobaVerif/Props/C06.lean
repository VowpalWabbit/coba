/-
C06 — Sequential evaluation feeds and records exactly what the environment provides.

Quantification: every theorem holds for all value types `V` (decidable equality = Python `==`), all
reward-function types `R`, all learners (`Learner σ V`: any Mealy machine over any state type),
all configurations `c` (learn ∈ {on,off,ips,None} × eval ∈ {on,ips,None} × any record list) and all
finite environments `first :: rest` (dicts with any keys/fields) satisfying the stated hypotheses:

* `Hyp c L first rest` — the environment is well-formed (`wfEnv`: every interaction has the reserved keys
  of the first one with fields of the right shape, Python dicts have distinct keys), passes the code's
  validation (`missingKeys = []`), and sequence rewards come with a non-empty first action list.
-/
import CobaVerif.Lemmas.C06Batch
import CobaVerif.Lemmas.C06Runs
import CobaVerif.Lemmas.C06Modes

namespace Coba.C06

variable {V R : Type} [DecidableEq V] [RewardFn R V] {σ : Type}

/-- the call trace of the model is the trace the property describes: interaction by interaction, in
environment order, (predict | score)? then learn? with the documented arguments (`specInter`) -/
theorem trace_eq_spec (c : Config) (L : Learner σ V) (first : Dict (Fld V R)) (rest : List (Dict (Fld V R))) (s : σ)
    (H : Hyp c L first rest) :
    ((evaluate c L none (first :: rest) s).toOpt).map (fun r => (r.1, r.2.1)) =
      (specRun c (mkFlags first) L s ((first :: rest).map view)).map (fun r => (r.1, r.2.1)) := by
  rw [evaluate_refines c L first rest s H]; simp [Function.comp_def]

/-- the rows of the model are the rows the property describes (one per interaction, in order; a row
with nothing to record is not emitted, as `if out: yield out` does) -/
theorem rows_eq_spec (c : Config) (L : Learner σ V) (first : Dict (Fld V R)) (rest : List (Dict (Fld V R))) (s : σ)
    (H : Hyp c L first rest) :
    ((evaluate c L none (first :: rest) s).toOpt).map (fun r => r.2.2) =
      (specRun c (mkFlags first) L s ((first :: rest).map view)).map (fun r => r.2.2.filter (fun o => !o.isEmpty)) := by
  rw [evaluate_refines c L first rest s H]; simp [Function.comp_def]

/-- on a well-formed environment that passes validation the evaluation goes through (so the theorems below,
stated for a successful evaluation, are not vacuous, and `trace_eq_spec`/`rows_eq_spec` compare two defined values) -/
theorem evaluate_succeeds (c : Config) (L : Learner σ V) (first : Dict (Fld V R)) (rest : List (Dict (Fld V R))) (s : σ)
    (H : Hyp c L first rest) : ∃ out, evaluate c L none (first :: rest) s = .ok out := by
  have hv := valid_of_missing_nil c L.hasScore first H.valid
  obtain ⟨r, hr⟩ := specRun_isSome L hv (discrete_hasActions first) (first :: rest)
    (fun d hd => (wfEnv_all H.wf d hd).1) s
  have := evaluate_refines c L first rest s H
  rw [hr] at this
  simp only [Option.map_some] at this
  exact ⟨_, Outcome.toOpt_eq_some.mp this⟩

/-- interactions are presented strictly in environment order: every call of the i-th group of the trace carries the
i-th interaction's context -/
theorem order_strict (c : Config) (L : Learner σ V) (first : Dict (Fld V R)) (rest : List (Dict (Fld V R)))
    (s s' : σ) (calls : List (Call V)) (rows : List (Row V R)) (H : Hyp c L first rest)
    (h : evaluate c L none (first :: rest) s = .ok (s', calls, rows)) :
    ∃ groups : List (List (Call V)), calls = groups.flatten ∧ groups.length = (first :: rest).length ∧
      ∀ vg ∈ ((first :: rest).map view).zip groups, ∀ call ∈ vg.2, Call.ctx call = vg.1.ctx := by
  obtain ⟨st, h1, h2, _, h4⟩ := evaluate_ok_steps c L first rest s s' calls rows H h
  refine ⟨st.map (·.2.1), h2, by simpa using h1, forall_zip_map_right fun vx hvx => ?_⟩
  obtain ⟨s2, hsi⟩ := h4 vx hvx
  exact specInter_ctx L vx.2.1 vx.1 (s2, vx.2.2.1, vx.2.2.2) hsi

/-- on-policy learning (learn ∈ {on, ips}): every interaction is one predict followed by one learn that hands the
learner's answer back to it — its action, its probability, its kwargs — with the environment's reward for that action
(resp. the IPS transform of the logged reward); `steps` lists, per interaction, the learner state it was met in -/
theorem kwargs_roundtrip (c : Config) (L : Learner σ V) (first : Dict (Fld V R)) (rest : List (Dict (Fld V R)))
    (s s' : σ) (calls : List (Call V)) (rows : List (Row V R)) (H : Hyp c L first rest)
    (hl : c.learn = .on ∨ c.learn = .ips)
    (h : evaluate c L none (first :: rest) s = .ok (s', calls, rows)) :
    ∃ steps : List (σ × List (Call V)), steps.length = (first :: rest).length ∧ calls = (steps.map (·.2)).flatten ∧
      ∀ vst ∈ ((first :: rest).map view).zip steps,
        ∃ rew, (if c.learn = .on then envReward vst.1 (L.predict vst.2.1 vst.1.ctx vst.1.acts).2.action
                else ipsReward vst.1 (some (L.predict vst.2.1 vst.1.ctx vst.1.acts).2.action)) = some rew ∧
          vst.2.2 = [Call.predict vst.1.ctx vst.1.acts,
                     Call.learn vst.1.ctx (some (L.predict vst.2.1 vst.1.ctx vst.1.acts).2.action) (some rew)
                       (L.predict vst.2.1 vst.1.ctx vst.1.acts).2.prob (L.predict vst.2.1 vst.1.ctx vst.1.acts).2.kw] := by
  obtain ⟨st, h1, h2, _, h4⟩ := evaluate_ok_steps c L first rest s s' calls rows H h
  refine ⟨st.map (fun x => (x.1, x.2.1)), by simpa using h1, by simpa [Function.comp_def] using h2,
    forall_zip_map_right fun vx hvx => ?_⟩
  obtain ⟨s2, hsi⟩ := h4 vx hvx
  exact specInter_on_policy L vx.2.1 vx.1 (s2, vx.2.2.1, vx.2.2.2) hsi hl

/-- off-policy learning (learn = off): every interaction's learn call carries what was logged, and no kwargs -/
theorem off_policy_logged (c : Config) (L : Learner σ V) (first : Dict (Fld V R)) (rest : List (Dict (Fld V R)))
    (s s' : σ) (calls : List (Call V)) (rows : List (Row V R)) (H : Hyp c L first rest) (hl : c.learn = .off)
    (h : evaluate c L none (first :: rest) s = .ok (s', calls, rows)) :
    ∃ groups : List (List (Call V)), groups.length = (first :: rest).length ∧ calls = groups.flatten ∧
      ∀ vg ∈ ((first :: rest).map view).zip groups,
        vg.2.getLast? = some (Call.learn vg.1.ctx vg.1.offAct vg.1.offRwd vg.1.offPr []) := by
  obtain ⟨st, h1, h2, _, h4⟩ := evaluate_ok_steps c L first rest s s' calls rows H h
  refine ⟨st.map (·.2.1), by simpa using h1, h2, forall_zip_map_right fun vx hvx => ?_⟩
  obtain ⟨s2, hsi⟩ := h4 vx hvx
  exact specInter_off_policy L vx.2.1 vx.1 (s2, vx.2.2.1, vx.2.2.2) hsi hl

/-- when neither the mode nor the record options need a prediction the learner never sees `predict` -/
theorem no_predict_when_not_needed (c : Config) (L : Learner σ V) (first : Dict (Fld V R)) (rest : List (Dict (Fld V R)))
    (s s' : σ) (calls : List (Call V)) (rows : List (Row V R)) (H : Hyp c L first rest)
    (hnp : needPred c L.hasScore = false)
    (h : evaluate c L none (first :: rest) s = .ok (s', calls, rows)) :
    ∀ call ∈ calls, Call.isPredict call = false := by
  obtain ⟨full, hs, _⟩ := evaluate_ok_spec c L first rest s s' calls rows H h
  exact specRun_no_predict L hnp _ s _ hs

/-- additional interaction fields are carried into the row unchanged: the i-th row ends with exactly the i-th
interaction's additional fields, everything before them being a recorded column with a reserved name -/
theorem extra_fields_carried (c : Config) (L : Learner σ V) (first : Dict (Fld V R)) (rest : List (Dict (Fld V R)))
    (s s' : σ) (calls : List (Call V)) (rows : List (Row V R)) (H : Hyp c L first rest)
    (h : evaluate c L none (first :: rest) s = .ok (s', calls, rows)) :
    ∃ full : List (Row V R), full.length = (first :: rest).length ∧ rows = full.filter (fun o => !o.isEmpty) ∧
      ∀ vr ∈ ((first :: rest).map view).zip full,
        ∃ pre : Row V R, vr.2 = pre ++ vr.1.extras.map (fun kv => (kv.1, Cell.fld kv.2)) ∧ ∀ b ∈ pre, b.1 ∈ implicitExclude := by
  obtain ⟨st, h1, _, h3, h4⟩ := evaluate_ok_steps c L first rest s s' calls rows H h
  refine ⟨st.map (·.2.2), by simpa using h1, h3, forall_zip_map_right fun vx hvx => ?_⟩
  obtain ⟨s2, hsi⟩ := h4 vx hvx
  exact specInter_extras L vx.2.1 vx.1 (s2, vx.2.2.1, vx.2.2.2) hsi

/-- one row per interaction (stated where no row can be empty: every interaction has an additional field) -/
theorem one_row_per_interaction (c : Config) (L : Learner σ V) (first : Dict (Fld V R)) (rest : List (Dict (Fld V R)))
    (s s' : σ) (calls : List (Call V)) (rows : List (Row V R)) (H : Hyp c L first rest)
    (hex : ∀ d ∈ first :: rest, extrasOf d ≠ [])
    (h : evaluate c L none (first :: rest) s = .ok (s', calls, rows)) :
    rows.length = (first :: rest).length := by
  obtain ⟨full, h1, h2, h3⟩ := extra_fields_carried c L first rest s s' calls rows H h
  have : ∀ o ∈ full, (!o.isEmpty) = true := by
    intro o ho
    obtain ⟨v, hv, hvo⟩ := exists_zip_of_mem_right ((first :: rest).map view) full (by simpa using h1) o ho
    obtain ⟨pre, hp, _⟩ := h3 _ hvo
    simp only at hp
    simp only [List.mem_map] at hv
    obtain ⟨d, hd, hdv⟩ := hv
    have hne := hex d hd
    subst hdv
    rw [hp]
    cases hx : (view d).extras with
    | nil => exact absurd hx hne
    | cons k ks => simp
  rw [h2, List.filter_eq_self.mpr this, h1]

/-- batched evaluation (`Batch(n)`, any n ≥ 1: `BatchSafe(Finalize())`, one loop pass per batch, `Unbatch` of the rows)
records the same rows as unbatched evaluation for every learner whose answers do not depend on its history
(`Oblivious`); no well-formedness hypothesis is needed.  `dropNoneProb` removes the `probability: None` cells the
batched code path writes for learners that report no probability.  (For history-dependent learners the two
legitimately differ: a batch is predicted as a whole before any of it is learned.) -/
theorem batched_eq_unbatched {L : Learner σ V} {f : Option V → Option (List V) → Pred V}
    {g : Option V → Option (List V) → Option V → Rat} (ho : Oblivious L f g) (c : Config) (n : Nat) (hn : 0 < n)
    (env : List (Dict (Fld V R))) (s sb su : σ) (cb cu : List (Call V)) (rb ru : List (Row V R))
    (hb : evaluate c L (some n) env s = .ok (sb, cb, rb)) (hu : evaluate c L none env s = .ok (su, cu, ru)) :
    ru = (rb.map dropNoneProb).filter (fun o => !o.isEmpty) := by
  cases env with
  | nil => cases hb; cases hu; rfl
  | cons first rest =>
    obtain ⟨rowsB, fullB, hpB, hfB, hoB⟩ := runChunks_rows ho c _ true _ s sb cb rb (evaluate_ok_iff.mp hb).2
    obtain ⟨rowsU, fullU, hpU, hfU, hoU⟩ := runChunks_rows ho c _ false _ s su cu ru (evaluate_ok_iff.mp hu).2
    -- both runs read the same interactions: any chunking flattens to the environment
    rw [Option.getD_some, chunks_flatten n hn] at hpB
    rw [Option.getD_none, chunks_flatten 1 (by decide), hpB] at hpU
    cases hpU
    rw [mapE_pureRow_flag c _ L.hasScore f g rowsB fullB (mapE_forall hpB fun _ _ => prep_extras) hfB] at hfU
    cases hfU
    rw [hoU, hoB, filter_drop_filter]

/-- batched refinement, call trace: for every batch size `n` (the last batch may be shorter) the model's trace is the
batched spec's — per batch all predicts (rows in order), then all scores, then all learns, each with the documented
per-interaction arguments (`specChunk`).  A batch-aware learner gets each phase as one call with `Batch.List`
arguments, any other learner row by row through SafeLearner's fallback; the row-level sequence is the same. -/
theorem trace_eq_spec_batched (c : Config) (L : Learner σ V) (n : Nat) (first : Dict (Fld V R)) (rest : List (Dict (Fld V R)))
    (s : σ) (H : Hyp c L first rest) :
    ((evaluate c L (some n) (first :: rest) s).toOpt).map (fun r => (r.1, r.2.1)) =
      (specRunB c (mkFlags first) L s ((chunks n (first :: rest)).map (List.map view))).map (fun r => (r.1, r.2.1)) := by
  rw [evaluate_refines_batched c L n first rest s H]; simp [Function.comp_def]

/-- batched refinement, rows: one row per interaction in environment order (`rowSB`: as `rowS`, with the
`probability` cell written whenever a prediction was made), empty rows not emitted -/
theorem rows_eq_spec_batched (c : Config) (L : Learner σ V) (n : Nat) (first : Dict (Fld V R)) (rest : List (Dict (Fld V R)))
    (s : σ) (H : Hyp c L first rest) :
    ((evaluate c L (some n) (first :: rest) s).toOpt).map (fun r => r.2.2) =
      (specRunB c (mkFlags first) L s ((chunks n (first :: rest)).map (List.map view))).map
        (fun r => r.2.2.filter (fun o => !o.isEmpty)) := by
  rw [evaluate_refines_batched c L n first rest s H]; simp [Function.comp_def]

/-- what a history-dependent learner sees differently in a batch (1): the batch is learned from the state reached
after ALL its predictions/scores -/
theorem batched_calls_shape (c : Config) (fl : Flags) (L : Learner σ V) (s : σ) (vs : List (View V R))
    (r : σ × List (Call V) × List (Row V R)) (h : specChunk c fl L s vs = some r) :
    ∃ args, ((c.learn = .none ∧ args = []) ∨ (c.learn ≠ .none ∧
        allSome (List.zipWith (learnArgsS c) vs
          (if needPred c L.hasScore then (predictS L s vs).2.map some else vs.map (fun _ => none))) = some args)) ∧
      r.1 = learnS L
        (if (c.eval == .ips && L.hasScore && !needPred c L.hasScore) then
            (scoreS L (if needPred c L.hasScore then (predictS L s vs).1 else s) vs).1
          else (if needPred c L.hasScore then (predictS L s vs).1 else s)) vs args
      ∧ r.2.1 = (if needPred c L.hasScore then vs.map (fun v => Call.predict v.ctx v.acts) else [])
          ++ (if (c.eval == .ips && L.hasScore && !needPred c L.hasScore) then vs.map (fun v => Call.score v.ctx v.acts v.offAct) else [])
          ++ List.zipWith (fun (v : View V R) a => Call.learn v.ctx a.1 a.2.1 a.2.2.1 a.2.2.2) vs args :=
  specChunk_state L s vs r h

/-- what a history-dependent learner sees differently in a batch (2): row j of a batch is predicted in the state
reached by predicting rows 0..j-1 of that batch — none of the batch has been learned yet -/
theorem batched_row_predicted_before_learning (L : Learner σ V) (s : σ) (vs : List (View V R)) (j : Nat) (h : j < vs.length) :
    (predictS L s vs).2[j]? = some (L.predict (predictS L s (vs.take j)).1 (vs[j]).ctx (vs[j]).acts).2 := by
  induction vs generalizing s j with
  | nil => simp at h
  | cons v vs ih =>
    cases j with
    | zero => simp [predictS]
    | succ k =>
      simp only [predictS, List.getElem?_cons_succ, List.take_succ_cons, List.getElem_cons_succ]
      exact ih _ k (by simpa using h)

/-- for a history-independent learner the batched run makes exactly the calls of the un-batched run, each kind in the
same order; only the interleaving differs -/
theorem batched_trace_eq_unbatched {L : Learner σ V} {f : Option V → Option (List V) → Pred V}
    {g : Option V → Option (List V) → Option V → Rat} (ho : Oblivious L f g) (c : Config) (n : Nat) (hn : 0 < n)
    (first : Dict (Fld V R)) (rest : List (Dict (Fld V R))) (s sb su : σ) (cb cu : List (Call V)) (rb ru : List (Row V R))
    (H : Hyp c L first rest)
    (hb : evaluate c L (some n) (first :: rest) s = .ok (sb, cb, rb))
    (hu : evaluate c L none (first :: rest) s = .ok (su, cu, ru)) :
    cb.filter Call.isPredict = cu.filter Call.isPredict ∧ cb.filter Call.isScore = cu.filter Call.isScore
      ∧ cb.filter Call.isLearn = cu.filter Call.isLearn := by
  obtain ⟨fb, hsb, _⟩ := evaluate_ok_specB c L n first rest s sb cb rb H hb
  obtain ⟨fu, hsu, _⟩ := evaluate_ok_spec c L first rest s su cu ru H hu
  -- both traces have closed forms over the same per-interaction pieces; filter each kind out of them
  have kb := kinds_closedB c L.hasScore f ((chunks n (first :: rest)).map (List.map view))
  have ku := kinds_closed c L.hasScore f ((first :: rest).map view)
  rw [← specRunB_calls_closed ho _ s _ hsb] at kb
  rw [← specRun_calls_closed ho _ s _ hsu] at ku
  rw [flatten_map_chunks view n hn] at kb
  exact ⟨kb.pred.trans ku.pred.symm, kb.score.trans ku.score.symm, kb.learn.trans ku.learn.symm⟩

/-- several evaluations with the same learner object: the k-th outcome is `evaluate` of the k-th config/environment
started in the learner state the earlier evaluations left (`finalState`); the evaluator and the SafeLearner wrapper
carry nothing over (this is what the harness replays with the `s0` request field) -/
theorem evaluations_independent (L : Learner σ V) (s : σ) (pre : List (Episode V R)) (e : Episode V R) (post : List (Episode V R)) :
    (runHistory L s (pre ++ e :: post))[pre.length]? = some (evaluate e.cfg L e.bs e.env (finalState L s pre)) := by
  rw [runHistory_append, List.getElem?_append_right (by rw [runHistory_length]; exact Nat.le_refl _), runHistory_length]
  simp [runHistory]

/-- … hence histories that leave the learner in the same state are followed by the same outcome -/
theorem history_congr (L : Learner σ V) (s₁ s₂ : σ) (pre₁ pre₂ : List (Episode V R)) (e : Episode V R)
    (post₁ post₂ : List (Episode V R)) (h : finalState L s₁ pre₁ = finalState L s₂ pre₂) :
    (runHistory L s₁ (pre₁ ++ e :: post₁))[pre₁.length]? = (runHistory L s₂ (pre₂ ++ e :: post₂))[pre₂.length]? := by
  rw [evaluations_independent, evaluations_independent, h]

/-- one `SequentialCB` object applied to several (learner, environment) jobs: in the model the evaluator is nothing but
its configuration `c` — `evaluate c` takes no evaluator state and returns none — so the k-th outcome is `evaluate c` of
the k-th job whatever came before (in particular the required keys are recomputed from each job's own learner:
`required c L.hasScore` inside `evaluate`).  The harness holds the real object to this by reusing one SequentialCB
across evaluations with different learners and judging every evaluation on its own. -/
theorem evaluator_stateless (c : Config) (jobs : List (Learner σ V × Option Nat × List (Dict (Fld V R)) × σ)) (k : Nat) :
    (jobs.map (fun j => evaluate c j.1 j.2.1 j.2.2.1 j.2.2.2))[k]? = (jobs[k]?).map (fun j => evaluate c j.1 j.2.1 j.2.2.1 j.2.2.2) :=
  List.getElem?_map

/-- the documented IPS transform with exact rationals: `reward/probability` at the logged action, `0` elsewhere, for
every non-zero probability however small -/
theorem ips_reward_spec (v : View V R) (a : Option V) (r p : Rat) (hr : v.offRwd = some r) (hp : v.offPr = some p) (hp0 : p ≠ 0) :
    ipsReward v a = some (if v.offAct = a then r / p else 0) := by
  simp [ipsReward, hr, hp, hp0]

/-- no clipping: the importance-weighted value times the propensity is the logged reward -/
theorem ips_reward_unclipped (v : View V R) (r p : Rat) (hr : v.offRwd = some r) (hp : v.offPr = some p) (hp0 : p ≠ 0) :
    ∃ w, ipsReward v v.offAct = some w ∧ w * p = r := by
  refine ⟨r / p, by simp [ipsReward, hr, hp, hp0], Rat.div_mul_cancel hp0⟩

/-- score-based IPS evaluation (eval='ips', learner with `score`, no prediction needed): every interaction asks for the
score of the logged action first and its row records `score · reward/probability` -/
theorem score_based_ips (c : Config) (L : Learner σ V) (first : Dict (Fld V R)) (rest : List (Dict (Fld V R)))
    (s s' : σ) (calls : List (Call V)) (rows : List (Row V R)) (H : Hyp c L first rest)
    (he : c.eval = .ips) (hs : L.hasScore = true) (hnp : needPred c L.hasScore = false) (hrec : c.rcd "reward" = true)
    (h : evaluate c L none (first :: rest) s = .ok (s', calls, rows)) :
    ∃ steps : List (σ × List (Call V) × Row V R), steps.length = (first :: rest).length ∧
      calls = (steps.map (·.2.1)).flatten ∧ rows = (steps.map (·.2.2)).filter (fun o => !o.isEmpty) ∧
      ∀ vst ∈ ((first :: rest).map view).zip steps,
        vst.2.2.1.head? = some (Call.score vst.1.ctx vst.1.acts vst.1.offAct) ∧
        ∃ w, ipsReward vst.1 vst.1.offAct = some w ∧
          ("reward", Cell.num (some ((L.score vst.2.1 vst.1.ctx vst.1.acts vst.1.offAct).2 * w))) ∈ vst.2.2.2 := by
  obtain ⟨st, h1, h2, h3, h4⟩ := evaluate_ok_steps c L first rest s s' calls rows H h
  refine ⟨st, h1, h2, h3, fun vst hvst => ?_⟩
  obtain ⟨s2, hsi⟩ := h4 vst hvst
  exact specInter_score_based L vst.2.1 vst.1 (s2, vst.2.2.1, vst.2.2.2) hsi he hs hnp hrec

/-- `CobaContext.learning_info` (un-batched): what a learner writes there does not change the evaluation — state,
calls and rows-before-merging are those of `evaluate` for the same learner (no hypotheses) -/
theorem info_does_not_change_evaluation (c : Config) (L : InfoLearner σ V) (env : List (Dict (Fld V R))) (s : σ) :
    evaluate c L.toLearner none env s = (match evaluateI c L env s with
      | .ok r => .ok (r.1, r.2.1, r.2.2.2.1.filter (fun o => !o.isEmpty))
      | .rejected ks => .rejected ks
      | .crashed e => .crashed e) := by
  cases env with
  | nil => rfl
  | cons first rest =>
    rw [evaluate_cons, evaluateI_cons, Option.getD_none, Option.isSome_none, chunks_one, runI_eq_runChunks]
    unfold validated
    split
    · cases runI c (mkFlags first) L s (first :: rest) <;> rfl
    · rfl

/-- `learning_info` is local to its interaction: row i is the row interaction i has anyway merged with `Pass.info` of
pass i — what `predict` wrote during that pass `update`d by what `learn` wrote during it, functions of that pass's
learner state and call arguments only — so the info of interaction i appears in row i and in no other row -/
theorem info_row_local (c : Config) (L : InfoLearner σ V) (first : Dict (Fld V R)) (rest : List (Dict (Fld V R)))
    (s s' : σ) (calls : List (Call V)) (rows bases : List (Row V R)) (infos : List (Dict V))
    (h : evaluateI c L (first :: rest) s = .ok (s', calls, rows, bases, infos)) :
    rows = (List.zipWith mergeInfo bases infos).filter (fun o => !o.isEmpty) ∧
    evaluate c L.toLearner none (first :: rest) s = .ok (s', calls, bases.filter (fun o => !o.isEmpty)) ∧
    ∃ passes : List (Pass σ V R), passes.length = (first :: rest).length ∧ bases = passes.map (·.out) ∧
      infos = passes.map (Pass.info c L) ∧
      ∀ dk ∈ (first :: rest).zip passes, passOf c (mkFlags first) L.toLearner dk.2.s0 dk.1 = .ok dk.2 := by
  have hb := info_does_not_change_evaluation c L (first :: rest) s
  rw [h] at hb
  obtain ⟨r, hr, h⟩ := Except.map_eq_ok (validated_eq_ok.mp (evaluateI_cons c L first rest s ▸ h)).2
  simp only [Prod.mk.injEq] at h
  obtain ⟨h1, h2, h3, h4, h5⟩ := h
  obtain ⟨ps, p1, p2, p3, p4⟩ := runI_passes c _ L _ s r hr
  exact ⟨by rw [h3, h4, h5]; rfl, hb, ps, p1, by rw [h4, p2], by rw [h5, p3], p4⟩

/-- PMF answers: for a learner that answers with a PMF (`wrapPmf`: SafeLearner draws the action with its own
generator, C05's `choicew`), on-policy evaluation feeds back exactly the parsed answer — the drawn action, its weight
as the probability, the learner's kwargs — and nothing else -/
theorem pmf_answers_recorded_as_parsed (c : Config) (P : PmfLearner σ V) (dflt : V) (first : Dict (Fld V R))
    (rest : List (Dict (Fld V R))) (s s' : σ × Nat) (calls : List (Call V)) (rows : List (Row V R))
    (H : Hyp c (wrapPmf P dflt) first rest) (hl : c.learn = .on ∨ c.learn = .ips)
    (h : evaluate c (wrapPmf P dflt) none (first :: rest) s = .ok (s', calls, rows)) :
    ∃ steps : List ((σ × Nat) × List (Call V)), steps.length = (first :: rest).length ∧ calls = (steps.map (·.2)).flatten ∧
      ∀ vst ∈ ((first :: rest).map view).zip steps,
        ∃ rew, vst.2.2 = [Call.predict vst.1.ctx vst.1.acts,
          Call.learn vst.1.ctx
            (some (parsePmf dflt vst.1.acts (P.predict vst.2.1.1 vst.1.ctx vst.1.acts).2.1
              (P.predict vst.2.1.1 vst.1.ctx vst.1.acts).2.2 vst.2.1.2).1.action)
            (some rew)
            (parsePmf dflt vst.1.acts (P.predict vst.2.1.1 vst.1.ctx vst.1.acts).2.1
              (P.predict vst.2.1.1 vst.1.ctx vst.1.acts).2.2 vst.2.1.2).1.prob
            (P.predict vst.2.1.1 vst.1.ctx vst.1.acts).2.2] := by
  obtain ⟨steps, h1, h2, h3⟩ := kwargs_roundtrip c (wrapPmf P dflt) first rest s s' calls rows H hl h
  refine ⟨steps, h1, h2, fun vst hvst => ?_⟩
  obtain ⟨rew, _, hc⟩ := h3 vst hvst
  exact ⟨rew, by rw [hc]; simp only [wrapPmf, parsePmf_kw]⟩

/-- batched `order_strict`: batch by batch in environment order; within a batch the predicts of its rows, then their
scores, then their learns -/
theorem order_strict_batched (c : Config) (L : Learner σ V) (n : Nat) (first : Dict (Fld V R))
    (rest : List (Dict (Fld V R))) (s s' : σ) (calls : List (Call V)) (rows : List (Row V R)) (H : Hyp c L first rest)
    (h : evaluate c L (some n) (first :: rest) s = .ok (s', calls, rows)) :
    ∃ groups : List (List (Call V)), groups.length = (chunks n (first :: rest)).length ∧ calls = groups.flatten ∧
      ∀ cg ∈ ((chunks n (first :: rest)).map (List.map view)).zip groups,
        ∃ learns : List (Call V), (∀ x ∈ learns, Call.isLearn x = true) ∧ learns.length ≤ cg.1.length ∧
          cg.2 = (if needPred c L.hasScore then cg.1.map (fun v => Call.predict v.ctx v.acts) else [])
            ++ (if (c.eval == .ips && L.hasScore && !needPred c L.hasScore) then cg.1.map (fun v => Call.score v.ctx v.acts v.offAct) else [])
            ++ learns ∧
          ∀ vl ∈ cg.1.zip learns, Call.ctx vl.2 = vl.1.ctx := by
  obtain ⟨st, h1, h2, _, h4⟩ := evaluate_ok_stepsB c L n first rest s s' calls rows H h
  exact ⟨st.map (·.2.2.1), by simpa using h1, h2,
    forall_zip_map_right fun cst hcst => specChunk_order L cst.2.1 cst.1 _ (h4 cst hcst)⟩

/-- batched `kwargs_roundtrip`: with on-policy learning every batch is one predict per row then one learn per row; the
j-th learn carries row j's context and exactly what the learner answered for row j (`predictS`: answered after the
earlier rows of the same batch were predicted, before any of the batch was learned) with the documented reward -/
theorem kwargs_roundtrip_batched (c : Config) (L : Learner σ V) (n : Nat) (first : Dict (Fld V R))
    (rest : List (Dict (Fld V R))) (s s' : σ) (calls : List (Call V)) (rows : List (Row V R)) (H : Hyp c L first rest)
    (hl : c.learn = .on ∨ c.learn = .ips)
    (h : evaluate c L (some n) (first :: rest) s = .ok (s', calls, rows)) :
    ∃ steps : List (σ × List (Call V)), steps.length = (chunks n (first :: rest)).length ∧ calls = (steps.map (·.2)).flatten ∧
      ∀ cst ∈ ((chunks n (first :: rest)).map (List.map view)).zip steps,
        ∃ args : List (Option V × Option Rat × Option Rat × Dict V),
          cst.2.2 = cst.1.map (fun v => Call.predict v.ctx v.acts)
            ++ List.zipWith (fun (v : View V R) a => Call.learn v.ctx a.1 a.2.1 a.2.2.1 a.2.2.2) cst.1 args ∧
          args.length = cst.1.length ∧
          ∀ vpa ∈ (cst.1.zip (predictS L cst.2.1 cst.1).2).zip args,
            ∃ rew, (if c.learn = .on then envReward vpa.1.1 vpa.1.2.action else ipsReward vpa.1.1 (some vpa.1.2.action)) = some rew ∧
              vpa.2 = (some vpa.1.2.action, some rew, vpa.1.2.prob, vpa.1.2.kw) := by
  obtain ⟨st, h1, h2, _, h4⟩ := evaluate_ok_stepsB c L n first rest s s' calls rows H h
  exact ⟨st.map (fun x => (x.1, x.2.2.1)), by simpa using h1, by simpa [Function.comp_def] using h2,
    forall_zip_map_right fun cs hcs => specChunk_on_policy L cs.2.1 cs.1 _ (h4 cs hcs) hl⟩

/-- batched `extra_fields_carried` (and one row per interaction): exactly as un-batched -/
theorem extra_fields_carried_batched (c : Config) (L : Learner σ V) (n : Nat) (hn : 0 < n) (first : Dict (Fld V R))
    (rest : List (Dict (Fld V R))) (s s' : σ) (calls : List (Call V)) (rows : List (Row V R)) (H : Hyp c L first rest)
    (h : evaluate c L (some n) (first :: rest) s = .ok (s', calls, rows)) :
    ∃ full : List (Row V R), full.length = (first :: rest).length ∧ rows = full.filter (fun o => !o.isEmpty) ∧
      ∀ vr ∈ ((first :: rest).map view).zip full,
        ∃ pre : Row V R, vr.2 = pre ++ vr.1.extras.map (fun kv => (kv.1, Cell.fld kv.2)) ∧ ∀ b ∈ pre, b.1 ∈ implicitExclude := by
  obtain ⟨st, h1, _, h3, h4⟩ := evaluate_ok_stepsB c L n first rest s s' calls rows H h
  have key := zip_flatten_forall
    (fun vr : View V R × Row V R => ∃ pre : Row V R, vr.2 = pre ++ vr.1.extras.map (fun kv => (kv.1, Cell.fld kv.2)) ∧ ∀ b ∈ pre, b.1 ∈ implicitExclude)
    ((chunks n (first :: rest)).map (List.map view)) (st.map (·.2.2.2)) (by simpa using h1.symm)
    (forall_zip_map_right fun cs hcs => specChunk_rows L cs.2.1 cs.1 _ (h4 cs hcs))
  rw [flatten_map_chunks view n hn] at key
  exact ⟨_, by simpa using key.1.symm, h3, key.2⟩

/-- the batched-vs-un-batched TRACE relation, exactly: for a history-independent learner both traces have closed forms
over the same per-interaction pieces (`predC`, `scoreC`, `learnCallsO`: the predict / score / learn call of one
interaction), grouped by interaction resp. by batch and kind.  Without `Oblivious` the learn arguments differ (see
`batched_row_predicted_before_learning`). -/
theorem batched_trace_regrouped {L : Learner σ V} {f : Option V → Option (List V) → Pred V}
    {g : Option V → Option (List V) → Option V → Rat} (ho : Oblivious L f g) (c : Config) (n : Nat)
    (first : Dict (Fld V R)) (rest : List (Dict (Fld V R))) (s sb su : σ) (cb cu : List (Call V)) (rb ru : List (Row V R))
    (H : Hyp c L first rest)
    (hb : evaluate c L (some n) (first :: rest) s = .ok (sb, cb, rb))
    (hu : evaluate c L none (first :: rest) s = .ok (su, cu, ru)) :
    cu = ((first :: rest).map view).flatMap
        (fun v => predC c L.hasScore v ++ scoreC c L.hasScore v ++ learnCallsO c L.hasScore f v) ∧
    cb = ((chunks n (first :: rest)).map (List.map view)).flatMap
        (fun ch => ch.flatMap (predC c L.hasScore) ++ ch.flatMap (scoreC c L.hasScore) ++ ch.flatMap (learnCallsO c L.hasScore f)) := by
  obtain ⟨fb, hsb, _⟩ := evaluate_ok_specB c L n first rest s sb cb rb H hb
  obtain ⟨fu, hsu, _⟩ := evaluate_ok_spec c L first rest s su cu ru H hu
  exact ⟨specRun_calls_closed ho _ s _ hsu, specRunB_calls_closed ho _ s _ hsb⟩

/-- `learning_info` in a batched evaluation (no hypotheses): the pass without the info is the batched pass of `evaluate`,
and every row of the batch receives ALL the info written during that batch's pass (`batchInfo`: the predicts of all rows
in order, then the learns; later writes update earlier ones), each value replaced by `value[i]` for the row's position i
in the batch when that works (`indexInfo`/`Subscript.idx` — `Unbatch` indexes every cell) -/
theorem info_batched_rows [Subscript V] (c : Config) (L : InfoLearner σ V) (n : Nat) (first : Dict (Fld V R))
    (rest : List (Dict (Fld V R))) (s s' : σ) (calls : List (Call V)) (rows : List (Row V R))
    (h : evaluateIB c L n (first :: rest) s = .ok (s', calls, rows)) :
    ∃ steps : List (σ × σ × List (Call V) × List (Row V R) × Dict V), steps.length = (chunks n (first :: rest)).length ∧
      calls = (steps.map (·.2.2.1)).flatten ∧
      rows = (steps.map (fun st => (mergeIndexed st.2.2.2.2 0 st.2.2.2.1).filter (fun o => !o.isEmpty))).flatten ∧
      ∀ cst ∈ (chunks n (first :: rest)).zip steps,
        stepChunkIB c (mkFlags first) L cst.2.1 cst.1 = .ok cst.2.2 ∧
        stepChunk c (mkFlags first) L.toLearner true cst.2.1 cst.1
          = .ok (cst.2.2.1, cst.2.2.2.1, cst.2.2.2.2.1.filter (fun o => !o.isEmpty)) :=
  runIB_rows c (mkFlags first) L (chunks n (first :: rest)) s (s', calls, rows)
    (validated_eq_ok.mp (evaluateIB_cons c L n first rest s ▸ h)).2

/-- validation (all environments, batched or not, no hypotheses): `evaluate` rejects up-front — before the
learner is touched — iff a key the code requires (`required` = `_required`) is missing from the first interaction -/
theorem validate_iff_missing (c : Config) (L : Learner σ V) (bs : Option Nat) (env : List (Dict (Fld V R))) (s : σ) :
    (∃ ks, evaluate c L bs env s = .rejected ks) ↔
      ∃ first rest, env = first :: rest ∧ ∃ k ∈ required c L.hasScore, first.has k = false := by
  cases env with
  | nil => simp [evaluate]
  | cons first rest =>
    rw [evaluate_cons, validated_rejected_iff]
    exact ⟨fun hk => ⟨first, rest, rfl, hk⟩, fun ⟨_, _, heq, hk⟩ => (List.cons.inj heq).1 ▸ hk⟩

/-- … and the exception names exactly the missing required keys -/
theorem rejected_names_missing (c : Config) (L : Learner σ V) (bs : Option Nat) (first : Dict (Fld V R))
    (rest : List (Dict (Fld V R))) (s : σ) (ks : List String) (h : evaluate c L bs (first :: rest) s = .rejected ks) :
    ks = (required c L.hasScore).filter (fun k => !first.has k) :=
  (validated_eq_rejected.mp (evaluate_cons c L bs first rest s ▸ h)).2

/- theorem validate_iff_missing_full : (∃ ks, evaluate c L bs (first :: rest) s = .rejected ks) ↔
      ∃ k ∈ requiredS c L.hasScore, first.has k = false
   — FALSE for the code as it is: the docstring says the ips modes require 'probability' (`requiredS`), `_required`
   does not ask for it and `OpeRewards('IPS')` silently divides by 1.  The repository's own test suite asserts this behaviour
   (test_off_ips_actions_no_prob), so it is recorded (finding C06-F1), not repaired.  Proved instead: -/

/-- documented requirements, partial: an environment lacking a documented field is rejected, provided it is not
an ips mode on an environment without `probability` -/
theorem validate_iff_missing_partial (c : Config) (L : Learner σ V) (bs : Option Nat) (first : Dict (Fld V R))
    (rest : List (Dict (Fld V R))) (s : σ) (hp : ipsWithoutProb c first = false) :
    (∃ ks, evaluate c L bs (first :: rest) s = .rejected ks) ↔ ∃ k ∈ requiredS c L.hasScore, first.has k = false := by
  rw [evaluate_cons, validated_rejected_iff, missing_documented_iff hp]

/-! the hypothesis is necessary: learn='ips' on a logged environment without 'probability' -/
instance cexRewardFn : RewardFn Unit Nat := ⟨fun _ _ => 0⟩
def cexCfg : Config := { learn := .ips, eval := .none, record := [] }
def cexEnv : List (Dict (Fld Nat Unit)) :=
  [[("context", .val 7), ("actions", .acts [1, 2]), ("action", .val 1), ("reward", .num 3)]]
def cexL : Learner Nat Nat :=
  { hasScore := false, predict := fun s _ _ => (s + 1, { action := 1, prob := none, kw := [] }),
    score := fun s _ _ _ => (s, 0), learn := fun s _ _ _ _ _ => s + 10 }

/-- 'probability' is documented as required, it is missing, and yet the evaluation goes through and teaches
the learner the reward 3 = 3/1 for the logged action (replayed on the real code: finding C06-F1) -/
theorem validate_counterexample :
    "probability" ∈ requiredS cexCfg cexL.hasScore ∧ (∀ d ∈ cexEnv, d.has "probability" = false) ∧
    evaluate cexCfg cexL none cexEnv 0 =
      .ok (11, [.predict (some 7) (some [1, 2]), .learn (some 7) (some 1) (some 3) none []], []) := by
  set_option synthInstance.maxSize 2000 in
  decide +kernel

/-! the hypotheses of the refinement theorems are satisfiable on a non-trivial environment
(two simulated+logged interactions with an extra field, learn='on', eval='ips') -/
def exCfg : Config := { learn := .on, eval := .ips, record := ["reward", "action", "probability"] }
def exEnv : List (Dict (Fld Nat Unit)) :=
  [[("context", .val 7), ("actions", .acts [1, 2]), ("rewards", .rlist [1, 0]), ("action", .val 1), ("reward", .num 3),
    ("probability", .num 1), ("L", .val 5)],
   [("context", .none), ("actions", .acts [4]), ("rewards", .rlist [2]), ("action", .val 4), ("reward", .num 1),
    ("probability", .num 1), ("L", .none)]]

example : Oblivious cexL (fun _ _ => { action := 1, prob := none, kw := [] }) (fun _ _ _ => 0) :=
  ⟨fun _ _ _ => rfl, fun _ _ _ _ => rfl⟩

example : evaluate exCfg cexL (some 2) exEnv 0 =
    .ok (22, [.predict (some 7) (some [1, 2]), .predict none (some [4]),
              .learn (some 7) (some 1) (some 1) none [], .learn none (some 1) (some 0) none []],
         [[("action", .val (some 1)), ("reward", .num (some 3)), ("probability", .num none), ("L", .fld (.val 5))],
          [("action", .val (some 1)), ("reward", .num (some 0)), ("probability", .num none), ("L", .fld .none)]]) := by
  set_option synthInstance.maxSize 4000 in
  decide +kernel

example : Hyp exCfg cexL exEnv.head! exEnv.tail! := ⟨by decide +kernel, by decide +kernel, by decide +kernel⟩

example : evaluate exCfg cexL none exEnv 0 =
    .ok (22, [.predict (some 7) (some [1, 2]), .learn (some 7) (some 1) (some 1) none [],
              .predict none (some [4]), .learn none (some 1) (some 0) none []],
         [[("action", .val (some 1)), ("reward", .num (some 3)), ("L", .fld (.val 5))],
          [("action", .val (some 1)), ("reward", .num (some 0)), ("L", .fld .none)]]) := by
  set_option synthInstance.maxSize 4000 in
  decide +kernel

/-- environments whose interactions do not all have the first one's keys (1): `has_context`, `has_actions`, `has_action`,
`has_reward` are decided by the FIRST interaction; a reserved key the first interaction lacks is read as
`None` in every later interaction, whatever that interaction holds (and, being a reserved name, is not carried into the
row either) -/
theorem later_reserved_key_ignored {c : Config} {fl : Flags} {d : Dict (Fld V R)} {r : RowIn V R} (h : readRow c fl d = .ok r) :
    (fl.hasContext = false → r.ctx = none) ∧ (fl.hasActions = false → r.acts = none) ∧
    (fl.hasAction = false → r.offAct = none) ∧ (fl.hasReward = false → r.offRwd = none) :=
  have i := readRow_inv h
  ⟨whenHas_false i.ctx, whenHas_false i.acts, whenHas_false i.offAct, whenHas_false i.offRwd⟩

/-- … except the logged probability, which (with fix C06-F8, `interaction.get('probability', None)`) is read from each
interaction itself: its own value when it has one, `None` when it has none — whatever the first interaction had, in both
directions (a later interaction without one no longer raises `KeyError`) -/
theorem logged_probability_read_per_interaction {c : Config} {fl : Flags} {d : Dict (Fld V R)} {r : RowIn V R}
    (h : readRow c fl d = .ok r) : getNumOpt "probability" (d.get? "probability") = .ok r.offPr :=
  (readRow_inv h).offPr

/-- (2): a reserved key the first interaction has and a later one lacks stops the evaluation at that interaction
(`KeyError` in the code; rows yielded before it are already out) — shown for 'context', the first key read -/
theorem later_missing_key_stops {c : Config} {fl : Flags} {d : Dict (Fld V R)} (hf : fl.hasContext = true)
    (hd : d.get? "context" = none) : readRow c fl d = .error (.keyError "context") := by
  simp [readRow, whenHas, hf, hd, getVal, bind, Except.bind]

/-! (3): a log whose first interaction carries no propensity while the second does.  Before fix C06-F8 `learn` received
`None` for both (`has_prob` was read off the first interaction: the homogeneity hypothesis of `off_policy_logged` was
necessary for the probability too); with the per-interaction read the logged 1/4 reaches `learn` although `wfEnv` fails -/
def hetCfg : Config := { learn := .off, eval := .none, record := [] }
def hetEnv : List (Dict (Fld Nat Unit)) :=
  [[("context", .val 1), ("action", .val 2), ("reward", .num 3)],
   [("context", .val 2), ("action", .val 3), ("reward", .num 4), ("probability", .num (1 / 4))]]

theorem off_policy_probability_per_interaction_example :
    wfEnv hetEnv = false ∧ (hetEnv.map view).map (·.offPr) = [none, some (1 / 4)] ∧
    evaluate hetCfg cexL none hetEnv 0 =
      .ok (20, [.learn (some 1) (some 2) (some 3) none [], .learn (some 2) (some 3) (some 4) (some (1 / 4)) []], []) := by
  set_option synthInstance.maxSize 4000 in
  decide +kernel

/-! ## Every mode the constructor accepts, reward targets, record-field set

`ConfigX` ranges over learn ∈ {on,off,ips,dr,dm,None} × eval ∈ {on,ips,dr,dm,None} × any record list; `evaluateX vw` is
`evaluate` of the real `SequentialCB` with (`vw = true`) or without (`vw = false`) the optional package vowpalwabbit. -/

/-- on the modes that need no optional package the all-modes model IS the model the theorems above are about (whether or not
the package is installed): same required keys, same `should_pred`, same reward targets, same outcome -/
theorem evaluateX_conservative (vw : Bool) (c : ConfigX) (c0 : Config) (L : Learner σ V) (bs : Option Nat)
    (env : List (Dict (Fld V R))) (s : σ) (h : c.base = some c0) :
    evaluateX vw c L bs env s = .done (evaluate c0 L bs env s) ∧
    requiredX c L.hasScore = required c0 L.hasScore ∧ shouldPredX c L.hasScore = shouldPred c0 L.hasScore ∧
    evalTargetX c = evalTarget c0 ∧
    opeFilters c = (if learnIps c0 then [(OpeType.ips, "learn_rewards")] else [])
          ++ (if evalIpsOwn c0 then [(OpeType.ips, "eval_rewards")] else []) := by
  refine ⟨?_, requiredX_base c c0 L.hasScore h⟩
  cases env with
  | nil => rfl
  | cons first rest =>
    rw [evaluateX_cons, opeFilters_base_noVw c c0 vw h, h, (requiredX_base c c0 L.hasScore h).1]
    split
    · rfl
    · rw [evaluate_cons]; exact congrArg _ (validated_eq_rejected.mpr ⟨‹_›, rfl⟩).symm

/-- a 'dr'/'dm' mode without vowpalwabbit is never mis-evaluated: on a non-empty environment either validation rejects it
(naming exactly the missing required keys), or — all required keys present — `OpeRewards(t, target)` of a package-needing
type `t` that `_results` really constructs raises; in neither case is the learner used or a row produced -/
theorem package_guard (c : ConfigX) (L : Learner σ V) (bs : Option Nat) (first : Dict (Fld V R))
    (rest : List (Dict (Fld V R))) (s : σ) (hb : c.base = none) :
    (∃ keys, keys ≠ [] ∧ keys = (requiredX c L.hasScore).filter (fun k => !first.has k)
        ∧ evaluateX false c L bs (first :: rest) s = .done (.rejected keys))
    ∨ ((requiredX c L.hasScore).filter (fun k => !first.has k) = [] ∧
        ∃ t tg, (t, tg) ∈ opeFilters c ∧ needsVw t = true ∧ evaluateX false c L bs (first :: rest) s = .packageMissing t tg) := by
  obtain ⟨tt, htt⟩ := opeFilters_vw_of_base_none c hb
  rw [evaluateX_cons]
  by_cases hm : (requiredX c L.hasScore).filter (fun k => !first.has k) = []
  · refine Or.inr ⟨hm, tt.1, tt.2, List.mem_of_find?_eq_some htt, by simpa using List.find?_some htt, ?_⟩
    rw [if_pos hm, htt]
  · exact Or.inl ⟨_, hm, rfl, if_neg hm⟩

/-- which filter raises: the learn filter is constructed first (learn ∈ {dr, dm}: its own type, target `learn_rewards`) -/
theorem package_learn_first (c : ConfigX) (h : c.learn = .dr ∨ c.learn = .dm) :
    (opeFilters c).find? (fun tt => needsVw tt.1 && !false) = (learnType c.learn).map (fun t => (t, "learn_rewards")) := by
  obtain ⟨l, e, rec⟩ := c
  rcases h with h | h <;> cases h <;> cases e <;> rfl

/-- … otherwise (learn ∉ {dr, dm}, eval ∈ {dr, dm}) it is the eval filter, with its own target `eval_rewards` -/
theorem package_eval (c : ConfigX) (hl : c.learn ≠ .dr ∧ c.learn ≠ .dm) (h : c.eval = .dr ∨ c.eval = .dm) :
    (opeFilters c).find? (fun tt => needsVw tt.1 && !false) = (evalType c.eval).map (fun t => (t, "eval_rewards")) := by
  obtain ⟨l, e, rec⟩ := c
  rcases h with h | h <;> cases h <;> cases l <;> first | rfl | exact absurd rfl hl.1 | exact absurd rfl hl.2

/-- without the package only the package-free modes ever produce a result -/
theorem result_only_package_free (c : ConfigX) (L : Learner σ V) (bs : Option Nat) (env : List (Dict (Fld V R))) (s : σ)
    (r : σ × List (Call V) × List (Row V R)) (hne : env ≠ []) (h : evaluateX false c L bs env s = .done (.ok r)) :
    ∃ c0, c.base = some c0 := by
  cases hb : c.base with
  | some c0 => exact ⟨c0, rfl⟩
  | none =>
    cases env with
    | nil => exact absurd rfl hne
    | cons first rest =>
      rcases package_guard c L bs first rest s hb with ⟨k, _, _, hk⟩ | ⟨_, t, tg, _, _, hk⟩ <;> rw [hk] at h <;> cases h

/-- `_required` against the docstring, for EVERY mode: the code requires exactly the documented keys except
'probability' in the ips modes (finding C06-F1); in particular for dr/dm modes the two agree -/
theorem required_documented_all_modes (c : ConfigX) (hs : Bool) :
    requiredSX c hs = requiredX c hs ++ (if c.learn == .ips || c.eval == .ips then ["probability"] else []) := by
  simp only [requiredSX, requiredX, needPredX, outActionX, outProbX, LearnModeX.onPolicy, LearnModeX.logged, EvalModeX.predicts,
    EvalModeX.logged, and_or_and, Bool.or_assoc]

/-- reward-target plumbing: the key the loop reads for learning (`learn_rewards`) is written by a filter of the learn
type, the key it reads for evaluation (`eval_target`) by a filter of the eval type; no two filters write the same key;
and the evaluation shares the learn target exactly when it has no type or the same type -/
theorem targets_written (c : ConfigX) :
    (∀ t, learnType c.learn = some t → (t, learnTargetX) ∈ opeFilters c)
    ∧ (∀ t, evalType c.eval = some t → (t, evalTargetX c) ∈ opeFilters c)
    ∧ ((opeFilters c).map (·.2)).Nodup
    ∧ (evalTargetX c = learnTargetX ↔ (evalType c.eval = none ∨ evalType c.eval = learnType c.learn)) := by
  unfold opeFilters evalTargetX learnTargetX evalOwnX
  -- only the two reward types matter, not which modes gave them
  generalize learnType c.learn = lt
  generalize evalType c.eval = et
  refine ⟨?_, ?_, ?_, ?_⟩
  · rintro t rfl; exact List.mem_append_left _ (List.mem_singleton.mpr rfl)
  · rintro t rfl
    by_cases h : some t = lt
    · subst h; simp
    · simp [h]
  · cases lt <;> cases et <;> simp
    rename_i a b
    by_cases h : b = a <;> simp [h]
  · cases et with
    | none => simp
    | some t => by_cases h : some t = lt <;> simp [h]

/-- record-field set: the keys of a row are exactly `recordKeys` (a function of record options, mode, the first
interaction's flags, whether a prediction is made, batching and whether the learner reported a probability), in that
order, followed by the interaction's additional fields -/
theorem record_fields_per_mode {c : Config} {fl : Flags} {sp b : Bool} {r : RowIn V R} {p : Option (Pred V)} {er : Option Rat}
    {row : Row V R} (hx : mkRow c fl sp b r p er = .ok row) (hnd : nodupKeys (Dict.keys r.extras) = true)
    (hfr : ∀ kv ∈ r.extras, kv.1 ∉ implicitExclude) :
    Dict.keys row = recordKeys c fl sp b (p.bind (·.prob)).isSome ++ Dict.keys r.extras := by
  rw [mkRow_closed hnd hfr] at hx
  obtain ⟨rw, hrw, rfl⟩ := Except.map_eq_ok hx
  have hk := rewardsCell_keys_eq hrw
  simp only [Dict.keys] at hk
  simp only [Dict.keys, recCells, recordKeys, outAction, List.map_append, List.map_map, hk,
    apply_ite (List.map (fun x : String × Cell V R => x.fst)), List.map_cons, List.map_nil]
  rfl

/-- with `eval=None` no row ever has an action, reward or probability cell -/
theorem no_eval_no_reward_cells (c : Config) (fl : Flags) (sp b hp : Bool) (h : c.eval = .none) :
    "action" ∉ recordKeys c fl sp b hp ∧ "reward" ∉ recordKeys c fl sp b hp ∧ "probability" ∉ recordKeys c fl sp b hp := by
  simp [recordKeys, outAction, outProb, h]

example : ({ learn := .dr, eval := .dm, record := [] } : ConfigX).base = none := by decide
example : ({ learn := .ips, eval := .on, record := ["reward"] } : ConfigX).base
    = some { learn := .ips, eval := .on, record := ["reward"] } := by rfl

/-- learn='dr', eval='dm' on a complete logged environment, no vowpalwabbit: the learn filter raises (replayed on the code) -/
theorem package_guard_example :
    evaluateX false { learn := .dr, eval := .dm, record := ["reward"] } cexL none
      ([[("context", .val 1), ("actions", .acts [1, 2]), ("action", .val 2), ("reward", .num 3)]] : List (Dict (Fld Nat Unit))) 0
      = .packageMissing .dr "learn_rewards"
    ∧ evaluateX false { learn := .ips, eval := .dm, record := ["reward"] } cexL none
      ([[("context", .val 1), ("actions", .acts [1, 2]), ("action", .val 2), ("reward", .num 3)]] : List (Dict (Fld Nat Unit))) 0
      = .packageMissing .dm "eval_rewards"
    ∧ evaluateX false { learn := .dr, eval := .none, record := [] } cexL none
      ([[("context", .val 1), ("actions", .acts [1, 2])]] : List (Dict (Fld Nat Unit))) 0
      = .done (.rejected ["action", "reward"]) := by
  set_option synthInstance.maxSize 4000 in
  decide +kernel

/-! ## Translator tie: `Coba.Generated.C06.*` is regenerated from the source under test on every run (harness pre_build, Python `ast`) -/

/-- the tables, key lists, dispatch chains and constants read off `coba/evaluators/sequential.py` and `OpeRewards.__init__`
are the ones the model uses: `_IMPLICIT_EXCLUDE` (as a set), the three key lists of `_required`, the `learn_type`/`eval_type`
chains, the types for which `OpeRewards` demands vowpalwabbit, the reward-target names, the accepted mode literals, the
default `record` -/
theorem source_tables_match :
    ((Coba.Generated.C06.implicitExclude.all (implicitExclude.contains ·)) = true
      ∧ (implicitExclude.all (Coba.Generated.C06.implicitExclude.contains ·)) = true)
    ∧ (∀ c hs, requiredX c hs = requiredWith Coba.Generated.C06.requiredPred Coba.Generated.C06.requiredOff
          Coba.Generated.C06.requiredRwds c hs)
    ∧ (∀ l : LearnModeX, (learnType l).map OpeType.pyName = l.pyName.bind (fun n => Coba.Generated.C06.learnTypes.lookup n))
    ∧ (∀ e : EvalModeX, (evalType e).map OpeType.pyName = e.pyName.bind (fun n => Coba.Generated.C06.evalTypes.lookup n))
    ∧ (∀ t : OpeType, needsVw t = Coba.Generated.C06.vwTypes.contains t.pyName)
    ∧ learnTargetX = Coba.Generated.C06.learnTarget
    ∧ (∀ c, evalTargetX c = if evalOwnX c then Coba.Generated.C06.evalTargetOwn else Coba.Generated.C06.evalTargetShared)
    ∧ (∀ c, ((opeFilters c).map (·.2)).all (Coba.Generated.C06.opeTargets.contains ·) = true)
    ∧ (∀ l : LearnModeX, ∀ n, l.pyName = some n → Coba.Generated.C06.learnModes.contains n = true)
    ∧ (Coba.Generated.C06.learnModes.all (fun n => [LearnModeX.on, .off, .ips, .dr, .dm].any (fun l => l.pyName == some n))) = true
    ∧ (∀ e : EvalModeX, ∀ n, e.pyName = some n → Coba.Generated.C06.evalModes.contains n = true)
    ∧ (Coba.Generated.C06.evalModes.all (fun n => [EvalModeX.on, .ips, .dr, .dm].any (fun e => e.pyName == some n))) = true
    ∧ defaultRecord = Coba.Generated.C06.defaultRecord := by
  refine ⟨⟨by decide +kernel, by decide +kernel⟩, fun _ _ => rfl, ?_, ?_, ?_, rfl, fun _ => rfl, ?_, ?_, by decide +kernel, ?_,
    by decide +kernel, by decide +kernel⟩
  · intro l; cases l <;> decide +kernel
  · intro e; cases e <;> decide +kernel
  · intro t; cases t <;> decide +kernel
  · intro c; obtain ⟨l, e, rec⟩ := c; cases l <;> cases e <;> rfl
  · intro l n h; cases l <;> simp [LearnModeX.pyName] at h <;> subst h <;> decide +kernel
  · intro e n h; cases e <;> simp [EvalModeX.pyName] at h <;> subst h <;> decide +kernel

/-! ## Heterogeneous environments (interactions whose reserved keys differ from the first interaction's)

`neededKeys c fl` lists, in program order, every key `Finalize`, the `OpeRewards('IPS')` filters and the loop body subscript
in an interaction — a function of the mode and of the FIRST interaction's flags only; `missingOf c fl d` are those `d` lacks.
Together with `later_reserved_key_ignored` (a reserved key outside `neededKeys` is never read) this is the full decision. -/

/-- an interaction is processed only if it has every key the code subscripts: any key of `neededKeys` missing ⇒ no row, no
result for it (in the code: `KeyError`) -/
theorem interaction_processed_only_if_complete {c : Config} {fl : Flags} {d : Dict (Fld V R)} {r : RowIn V R}
    (h : prep c fl d = .ok r) : missingOf c fl d = [] :=
  prep_ok_has_needed h

/-- environment level, no well-formedness assumed: an un-batched evaluation that returns has met no interaction lacking a
key of `neededKeys` (flags of the first interaction); contrapositive: one such interaction anywhere ⇒ the evaluation raises -/
theorem hetero_evaluates_only_if (c : Config) (L : Learner σ V) (first : Dict (Fld V R)) (rest : List (Dict (Fld V R)))
    (s : σ) (out : σ × List (Call V) × List (Row V R)) (h : evaluate c L none (first :: rest) s = .ok out) :
    ∀ d ∈ first :: rest, missingOf c (mkFlags first) d = [] := by
  have h := runChunks_ok_needed _ s (evaluate_ok_iff.mp h).2
  rwa [Option.getD_none, chunks_flatten 1 (by decide)] at h

/-- witnesses (kernel-evaluated; replayed on the code as corpus cases): the second interaction lacks 'reward' under
learn='off' ⇒ KeyError 'reward' after the first interaction was learned; the same environment under learn='on' (which
does not read 'reward' … but the first interaction has it, so `has_reward` is set and the loop subscripts it) also raises;
an interaction that GAINS 'context' is evaluated with context None -/
theorem hetero_examples :
    firstBad ({ learn := .off, eval := .none, record := [] } : Config)
        (mkFlags ([("context", .val 1), ("action", .val 2), ("reward", .num 3)] : Dict (Fld Nat Unit)))
        ([[("context", .val 1), ("action", .val 2), ("reward", .num 3)], [("context", .val 2), ("action", .val 3)]] : List (Dict (Fld Nat Unit)))
      = some (1, ["reward"])
    ∧ evaluate ({ learn := .off, eval := .none, record := [] } : Config) cexL none
        ([[("context", .val 1), ("action", .val 2), ("reward", .num 3)], [("context", .val 2), ("action", .val 3)]] : List (Dict (Fld Nat Unit))) 0
      = .crashed (.keyError "reward")
    ∧ evaluate ({ learn := .off, eval := .none, record := [] } : Config) cexL none
        ([[("action", .val 2), ("reward", .num 3)], [("context", .val 2), ("action", .val 3), ("reward", .num 1)]] : List (Dict (Fld Nat Unit))) 0
      = .ok (20, [.learn none (some 2) (some 3) none [], .learn none (some 3) (some 1) none []], []) := by
  set_option synthInstance.maxSize 4000 in
  decide +kernel

/-- **the calls the learner object sees under batching.**  For every configuration, every learner (with or without
`score`, accepting batched arguments or not), every shape of its first answer (`width`) and every split of the environment
into batches whose first batch is non-empty (`Batch(n)` for any n, ragged last batch included), a learner that `evaluate`
wraps afresh receives a call sequence (`rawRun … {}`) such that
(1) read row-wise — refused batch attempts and the orientation probe carry nothing, an accepted batch call is one call per
row — it is exactly the loop skeleton: batch by batch, method by method (`phasesOf`: predict? score? learn?), row by row;
(2) the only surplus predict is `batch_order`'s orientation probe: exactly one when the learner accepts batches, a
prediction is made and the first answer is as wide as the first batch has rows (finding C06-F2), none otherwise;
(3) a learner refusing batched arguments sees exactly one refused batch-level attempt per method the loop uses (all in the
first batch), a batch-accepting one none. -/
theorem calls_seen_by_learner_batched (c : Config) (hasScore aware : Bool) (width : Option Nat) (i : Nat) (t : List Nat)
    (rest : List (List Nat)) :
    rowLevel (rawRun true aware width (phasesOf c hasScore) {} ((i :: t) :: rest))
      = skeleton (phasesOf c hasScore) ((i :: t) :: rest) ∧
    countOrient (rawRun true aware width (phasesOf c hasScore) {} ((i :: t) :: rest))
      = (if aware && shouldPred c hasScore && (width == some (t.length + 1)) then 1 else 0) ∧
    countRefused (rawRun true aware width (phasesOf c hasScore) {} ((i :: t) :: rest))
      = (if aware then 0 else (phasesOf c hasScore).length) := by
  obtain ⟨h1, h2⟩ := rawRun_fresh aware width _ (phasesOf_nodup c hasScore) i t rest
  refine ⟨rowLevel_rawRun .., ?_, h2⟩
  rw [h1]
  cases aware <;> simp [predict_mem_phasesOf]

/-- the row-level reading is the loop skeleton from ANY wrapper state (a `SafeLearner` handed to `evaluate` is re-wrapped,
but the statement does not need it), batched or not, for any list of methods -/
theorem calls_seen_row_level (batched aware : Bool) (width : Option Nat) (phases : List Meth) (st : SafeSt) (cs : List (List Nat)) :
    rowLevel (rawRun batched aware width phases st cs) = skeleton phases cs :=
  rowLevel_rawRun batched aware width phases st cs

/-- un-batched: the learner object sees exactly the loop's calls — no refused attempt, no probe -/
theorem calls_seen_by_learner_unbatched (aware : Bool) (width : Option Nat) (phases : List Meth) (st : SafeSt) (cs : List (List Nat)) :
    rawRun false aware width phases st cs = cs.flatMap (fun ch => phases.flatMap (fun m => ch.map (RawCall.row m))) := by
  induction cs generalizing st with
  | nil => rfl
  | cons ch rest ih => simp [rawRun, rawChunk_unbatched, ih]

/-- a settled wrapper (every method's call discipline decided, first answer parsed) never probes and is never refused again -/
theorem calls_seen_settled {aware : Bool} {phases : List Meth} {st : SafeSt} (hs : Settled aware phases st)
    (width : Option Nat) (cs : List (List Nat)) :
    countOrient (rawRun true aware width phases st cs) = 0 ∧ countRefused (rawRun true aware width phases st cs) = 0 :=
  settled_rawRun hs width cs

/-- kernel-evaluated instances: the default evaluator on 3 interactions in `Batch(2)`, learner with `score`.
Batch-accepting learner answering `(action, probability)` rows (width 2 = batch size): two `has_score` probes, the batch
predict, THE ORIENTATION PROBE on interaction 0, the batch learn, then the last batch.  Batch-refusing learner: one refused
attempt per method, then row by row. -/
example : callsSeen { learn := .on, eval := .on, record := defaultRecord } true true (some 2) (some 2) 3 false
    = [.scoreProbe, .scoreProbe, .batch .predict [0, 1] true, .orient 0, .batch .learn [0, 1] true,
       .batch .predict [2] true, .batch .learn [2] true] := by decide +kernel
example : callsSeen { learn := .on, eval := .on, record := defaultRecord } false false (some 2) (some 2) 3 false
    = [.batch .predict [0, 1] false, .row .predict 0, .row .predict 1, .batch .learn [0, 1] false, .row .learn 0, .row .learn 1,
       .row .predict 2, .row .learn 2] := by decide +kernel
example : Settled true [.predict, .learn] { mPredict := some true, mLearn := some true, parsed := true } := by
  refine ⟨?_, fun _ => rfl⟩
  intro m hm
  cases m <;> simp_all [SafeSt.get]

/-- **translator obligation (small bodies).**  The record-construction code of `SequentialCB._results`, extracted from the source
under test as a program (`Generated.C06.flagDefs`: the `out_x = '<name>' in self._record [and guard]` definitions;
`Generated.C06.rowProgram`: every `if <conjunction>: out['<key>'] = …` of the loop body, in order) and run by the interpreter
`progKeys`, yields for every configuration, flags, `should_pred`, batching and probability-presence exactly the timing cells
(`timeKeys`: presence only) followed by the model's `recordKeys` — the function `record_fields_per_mode` is about.
`'ope_loss'` is excluded: the constructor refuses it without vowpalwabbit. -/
theorem record_program_matches (c : Config) (fl : Flags) (sp batched hasPr : Bool) (hop : c.rcd "ope_loss" = false) :
    progKeys Coba.Generated.C06.flagDefs Coba.Generated.C06.rowProgram c fl sp batched hasPr
      = timeKeys c ++ recordKeys c fl sp batched hasPr := by
  simp only [progKeys, Coba.Generated.C06.flagDefs, Coba.Generated.C06.rowProgram, timeKeys, recordKeys, outAction, outProb,
    filter_map_cons_ite, List.filter_nil, List.map_nil, List.append_nil]
  simp [atomVal, guardVal, List.lookup, hop, Bool.and_assoc]

/-- the hypothesis is met by the default `record`; the program run in the kernel on it (learn='on', eval='on') -/
example : ({ learn := .on, eval := .on, record := defaultRecord } : Config).rcd "ope_loss" = false := by decide
example : progKeys Coba.Generated.C06.flagDefs Coba.Generated.C06.rowProgram
    { learn := .on, eval := .on, record := "time" :: defaultRecord }
    { hasContext := true, hasActions := true, hasRewards := true, hasReward := false, hasAction := false, hasProb := false,
      discrete := true, rwdsIsList := true } true false true
    = ["predict_time", "learn_time", "action", "reward", "probability"] := by decide

/-! ## A consumer that stops early, then goes on with the same learner

`evaluate` is a generator; `evaluateStopped … j` is what has happened when the consumer closes it after the rows of `j` loop
passes (`Model/C06.lean`).  No hypotheses on the environment or the learner. -/

/-- **strict environment order, as seen by a consumer that stops** after `j` passes (any `j`, batched or not): nothing of a
later interaction has been fed or recorded early, and resuming from exactly that point gives the full evaluation -/
theorem stopped_evaluation_is_prefix (c : Config) (L : Learner σ V) (bs : Option Nat) (env : List (Dict (Fld V R))) (s s' : σ)
    (j : Nat) (calls : List (Call V)) (rows : List (Row V R)) (h : evaluate c L bs env s = .ok (s', calls, rows)) :
    ∃ r : σ × List (Call V) × List (Row V R), evaluateStopped c L bs env s j = .ok r ∧ r.2.1 <+: calls ∧ r.2.2 <+: rows ∧
      resumeStopped c L bs env j r = .ok (s', calls, rows) := by
  cases env with
  | nil => cases h; exact ⟨(s, [], []), rfl, List.prefix_refl _, List.prefix_refl _, rfl⟩
  | cons first rest =>
    obtain ⟨hm, h⟩ := evaluate_ok_iff.mp h
    obtain ⟨r, hr, h1, h2, hq⟩ := runChunks_split c _ L _ _ j s s' calls rows h
    exact ⟨r, by rw [evaluateStopped_cons, validated_of_valid hm, hr]; rfl, h1, h2, by rw [resumeStopped_cons, hq]; rfl⟩

/-- un-batched: stopping after `j ≥ 1` rows' passes IS the evaluation of the first `j` interactions (outcome, learner state,
calls, rows; error outcomes included) — so every theorem above speaks about abandoned evaluations too -/
theorem stopped_unbatched_is_evaluation_of_prefix (c : Config) (L : Learner σ V) (env : List (Dict (Fld V R))) (s : σ) (j : Nat)
    (hj : 0 < j) : evaluateStopped c L none env s j = evaluate c L none (env.take j) s := by
  simpa using evaluateStopped_eq_prefix c L none (by decide) env s j hj

/-- `Batch(n)`, `n ≥ 1`: stopping after `j ≥ 1` batches IS the batched evaluation of the first `j·n` interactions -/
theorem stopped_batched_is_evaluation_of_prefix (c : Config) (L : Learner σ V) (n : Nat) (hn : 0 < n)
    (env : List (Dict (Fld V R))) (s : σ) (j : Nat) (hj : 0 < j) :
    evaluateStopped c L (some n) env s j = evaluate c L (some n) (env.take (j * n)) s :=
  evaluateStopped_eq_prefix c L (some n) hn env s j hj

/-- asking for at least as many passes as there are interactions is the full evaluation -/
theorem stopped_after_everything (c : Config) (L : Learner σ V) (bs : Option Nat) (env : List (Dict (Fld V R))) (s : σ) (j : Nat)
    (hj : env.length ≤ j) : evaluateStopped c L bs env s j = evaluate c L bs env s := by
  cases env with
  | nil => rfl
  | cons first rest =>
    rw [evaluateStopped_cons, evaluate_cons,
      List.take_of_length_le (l := chunks _ (first :: rest)) (Nat.le_trans (chunksAux_length_le _ _ _) hj)]

/-- **histories with abandoned evaluations** (read / abandon / read again with the same learner object): every outcome of
the history — also of the evaluations AFTER an abandoned one — is the outcome of the history in which each abandoned
evaluation is replaced by the full evaluation of the interactions it got through (`EpisodeS.seen`).  With
`evaluations_independent`: the next evaluation starts from the learner state those interactions left, nothing else. -/
theorem abandoned_then_continued (L : Learner σ V) (es : List (EpisodeS V R)) (s : σ) (h : ∀ e ∈ es, e.okStop) :
    runHistoryS L s es = runHistory L s (es.map EpisodeS.seen) := by
  induction es generalizing s with
  | nil => rfl
  | cons e es ih =>
    simp only [runHistoryS, List.map_cons, runHistory, EpisodeS.run_eq_seen L e s (h e (List.mem_cons_self ..))]
    rw [ih _ (fun e' he' => h e' (List.mem_cons_of_mem _ he'))]

/-- the hypothesis is forced: with `j = 0` (generator created, never started) a stopped evaluation of an environment lacking a
required key is still `.rejected` in the model's reading while the evaluation of the empty prefix is `.ok` — the harness
never generates `j = 0`. `okStop` is met by any history whose abandoned evaluations took a row. -/
example : (⟨⟨{ learn := .on, eval := .on, record := [] }, some 2, ([] : List (Dict (Fld Nat Nat)))⟩, some 1⟩ : EpisodeS Nat Nat).okStop :=
  ⟨fun j h => by cases h; decide, fun n h => by cases h; decide⟩

end Coba.C06
