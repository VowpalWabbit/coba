/-
C07 — The result log faithfully records what evaluators produced: the property theorems.

Reading of the statement.  `Tx` = what reaches the encoder (T0 from the preamble of `Experiment.run`,
T1…T4 from `ProcessTasks`), `encode` = `TransactionEncode`, `readLog` = `TransactionResult ∘
TransactionDecode`; the flag `true` selects the repaired code of `fixes/C07-*.diff`, `false` the pinned commit.  The documented normalisation is `normIn` (nested
values: floats rounded, sequences lists, keys strings), `normTop` (a table cell: top-level sequence a
tuple), `normRow` (absent fields None, field names `str`), `normParams`.  `specInteractions` /
`specParams` are the tables the statement demands.
-/
import CobaVerif.Lemmas.C07
import CobaVerif.Lemmas.C07Float
import CobaVerif.Generated.C07Consts

namespace Coba.C07

/-! ### values: list2tuple ∘ json ∘ minimize is the documented normalisation -/

/-- what is written and read back for a nested value is its normal form (floats rounded to 5
decimals, every sequence a list, every key a string) -/
theorem wire_normalises (rnd : Rat → Rat) (v : Val) : wire rnd v = normIn rnd v := wire_eq_normIn rnd v

/-- … and after `tuple(v) if isinstance(v,list)` a table cell is `normTop`: top-level sequences are tuples -/
theorem cell_normalises (rnd : Rat → Rat) (v : Val) : tupTop (wire rnd v) = normTop rnd v := tupTop_wire rnd v

theorem minimize_idempotent (rnd : Rat → Rat) (v : Val) (h : ∀ q ∈ fltLeaves v, rnd (rnd q) = rnd q) :
    minimize rnd (minimize rnd v) = minimize rnd v := minimize_idem rnd v h

/-- with `fl_yields_double`: the model's `fl` is a retraction onto the doubles `n·2^t`, `|n| < 2^53` -/
theorem fl_exact_on_doubles (n t : Int) (hn : n ≠ 0) (hb : n.natAbs < 2 ^ 53) :
    fl ((n : Rat) * pow2 t) = (n : Rat) * pow2 t := by
  have hx : (n : Rat) * pow2 t ≠ 0 := mul_ne_zero (Int.cast_ne_zero.mpr hn) (pow2_pos t).ne'
  have he := expo_intCast_mul_pow2 n t hn
  -- scaled by `2^(52 - exponent)` it is the integer `n·2^(52 - log2 |n|)`
  have hlog : Nat.log2 n.natAbs < 53 := (Nat.log2_lt (Int.natAbs_ne_zero.mpr hn)).mpr hb
  generalize Nat.log2 n.natAbs = L at he hlog
  apply fl_of_intCast_significand _ hx (n * 2 ^ (52 - L))
  rw [he, mul_assoc, pow2_mul_eq (show t + (52 - ((L : Int) + t)) = ((52 - L : Nat) : Int) by omega), intCast_mul_pow2]

theorem fl_yields_double (x : Rat) (hx : x ≠ 0) :
    ∃ n t : Int, n ≠ 0 ∧ n.natAbs < 2 ^ 53 ∧ fl x = (n : Rat) * pow2 t := by
  obtain ⟨b1, b2⟩ := significand_bounds x hx
  -- the rounding `m` of the scaled significand lies in [2^52, 2^53]
  have hmge := le_natAbs_rhe _ (2 ^ 52) ((pow2_natCast 52).symm.trans_le b1)
  have hmle := natAbs_rhe_le _ (2 ^ 53) (b2.le.trans_eq (pow2_natCast 53))
  have hfl := fl_eq x hx
  generalize rhe (x * pow2 (52 - expo x)) = m at hfl hmge hmle
  generalize expo x = e at hfl
  have hm0 : m ≠ 0 := by rintro rfl; exact absurd hmge (by decide)
  by_cases hlt : m.natAbs < 2 ^ 53
  · exact ⟨m, e - 52, hm0, hlt, hfl⟩
  · -- rounded up to `±2^53`: take `±2^52` and the exponent one higher
    have hms : m = m.sign * ((2 ^ 53 : Nat) : Int) := by
      rw [← le_antisymm hmle (not_lt.mp hlt)]; exact (Int.sign_mul_natAbs m).symm
    have hn : (m.sign * ((2 ^ 52 : Nat) : Int)).natAbs = 2 ^ 52 := by
      rw [Int.natAbs_mul, Int.natAbs_sign_of_ne_zero hm0, one_mul, Int.natAbs_natCast]
    refine ⟨m.sign * ((2 ^ 52 : Nat) : Int), e - 51, Int.natAbs_ne_zero.mp (by rw [hn]; decide), by rw [hn]; decide, ?_⟩
    rw [hfl]
    conv_lhs => rw [hms]
    rw [Int.cast_mul, Int.cast_mul, Int.cast_natCast, Int.cast_natCast, ← pow2_natCast, ← pow2_natCast, mul_assoc, mul_assoc,
      ← pow2_add, ← pow2_add]
    congr 2
    omega

theorem fl_fixes_small_integers (k : Int) (h : k.natAbs < 2 ^ 53) : fl (k : Rat) = k := by
  by_cases hk : k = 0
  · subst hk; rfl
  · simpa [pow2_zero] using fl_exact_on_doubles k 0 hk h

theorem round5_idempotent (q : Rat) : round5 (round5 q) = round5 q := by
  unfold round5
  rw [div_mul_cancel₀ _ (by norm_num : (100000 : Rat) ≠ 0)]
  suffices h : fl ((rhe (fl (q * 100000)) : Int) : Rat) = ((rhe (fl (q * 100000)) : Int) : Rat) by rw [h, rhe_intCast]
  by_cases hx : q * 100000 = 0
  · have h0 : fl (0 : Rat) = 0 := if_pos rfl
    rw [hx, h0, ← Int.cast_zero, rhe_intCast, Int.cast_zero, h0]
  · obtain ⟨n, t, hn, hb, hfl⟩ := fl_yields_double _ hx
    rw [hfl]
    by_cases ht : 0 ≤ t
    · -- `n·2^t` is an integer: `rhe` does nothing and `fl` fixes it
      obtain ⟨j, rfl⟩ := Int.eq_ofNat_of_zero_le ht
      rw [intCast_mul_pow2, rhe_intCast, ← intCast_mul_pow2]
      exact fl_exact_on_doubles n j hn hb
    · -- `|n·2^t| ≤ 2^52`, so the rounded integer is below 2^53
      apply fl_fixes_small_integers
      have hle : |(n : Rat) * pow2 t| ≤ ((2 ^ 52 : Nat) : Rat) := by
        rw [abs_intCast_mul_pow2]
        calc (n.natAbs : Rat) * pow2 t ≤ ((2 ^ 53 : Nat) : Rat) * pow2 (-1) :=
              mul_le_mul (Nat.cast_le.mpr hb.le) (pow2_le_pow2 (by omega)) (pow2_pos _).le (Nat.cast_nonneg _)
          _ = ((2 ^ 52 : Nat) : Rat) := by rw [← pow2_natCast, ← pow2_natCast, ← pow2_add]; rfl
      have := natAbs_rhe_le _ _ hle
      omega

set_option linter.unusedVariables false in
/-- for coba's `round(v*10**5)/10**5` (binary64 product, ties to even) under a magnitude bound: the rounded
numerator is below 2^53 (|v| < 9·10^10).  `minimize_idempotent_full` needs no bound. -/
theorem minimize_idempotent_partial (v : Val)
    (h : ∀ q ∈ fltLeaves v, (rhe (fl (q * 100000))).natAbs < 2 ^ 53) :
    minimize round5 (minimize round5 v) = minimize round5 v :=
  minimize_idem round5 v (fun q _ => round5_idempotent q)

/-- `round(v*10**5)/10**5` (binary64 product, ties to even, any magnitude in the normal range) is idempotent, hence
so is `minimize` -/
theorem minimize_idempotent_full (v : Val) : minimize round5 (minimize round5 v) = minimize round5 v :=
  minimize_idem round5 v (fun q _ => round5_idempotent q)

/-- reward objects are covered by `wire_normalises`: what is written and read back is the registered json
form `{name: state}` -/
example (rnd : Rat → Rat) : wire rnd (.list [.reward "L1" (.flt (1/4)), .flt (1/3)])
    = .list [.dict [(.str "L1", .flt (1/4))], minFlt rnd (1/3)] := by
  simp [wire, minimize, minimizeL, jsonify, jsonifyL, jsonify_minFlt]

example : ∀ q ∈ fltLeaves (.tup [.flt (1234565 / 1000000), .dict [(.int 1, .flt (1/3))]]),
    (rhe (fl (q * 100000))).natAbs < 2 ^ 53 := by decide +kernel

/-! ### one transaction: packing, unpacking, numbering -/

/-- column packing and row unpacking are inverse for rows with heterogeneous key sets: every row
comes back with every field name of the transaction, absent ones as None (`cellOf`) -/
theorem pack_unpack (rows : List PyDict) :
    unpackN rows.length (pack rows) = rows.map (fun r => (strKeys rows).map (fun s => (s, cellOf s r))) :=
  unpackN_packF cellOf (strKeys rows) rows

/-- the field names of a transaction are exactly the `str` of the rows' keys, each once, sorted -/
theorem strKeys_spec (rows : List PyDict) :
    (∀ s, s ∈ strKeys rows ↔ ∃ r ∈ rows, ∃ kv ∈ r, kv.1.pystr = s) ∧ (strKeys rows).Pairwise (· < ·) := by
  refine ⟨fun s => ?_, sortDedup_sorted _⟩
  simp only [strKeys, sortDedup_mem, List.mem_flatMap, rowStrs, List.mem_map]

/-- [core] one evaluation through the encoder, the json layer and the reader gives exactly the
evaluator's rows, in order, numbered, normalised — for ALL row lists, rows without any field included (their number
travels as `_n`, `fixes/C07-rows-without-fields.diff`) -/
theorem roundtrip_normalise (rnd : Rat → Rat) (e l v : Int) (rows : List PyDict) :
    triRows true e l v (packedOf rnd true rows).1 (packedOf rnd true rows).2 = .ok (specRows rnd e l v rows) :=
  triRows_packedOf rnd e l v rows

/-- a log written before that repair carries no `_n` (`n = 0`): right exactly when some row has a field or there
is no row (`empty_rows_dropped_counterexample`, finding C07-F5 on the pinned code) -/
theorem roundtrip_normalise_partial (rnd : Rat → Rat) (e l v : Int) (rows : List PyDict)
    (h : strKeys rows ≠ [] ∨ rows = []) :
    triRows true e l v (wireCols rnd (pack rows)) 0 = .ok (specRows rnd e l v rows) := by
  rcases h with h | h
  · exact triRows_pack rnd e l v rows 0 h
  · subst h; rfl

example : strKeys [[(Key.str "a", Val.int 1)], [(Key.int 2, Val.none)]] ≠ [] ∨
    [[(Key.str "a", Val.int 1)], [(Key.int 2, Val.none)]] = ([] : List PyDict) := by
  left; decide

/-- rows without any field are dropped: one empty row is yielded, the table gets no row, the
specification demands one (the row holding just the ids and index 1) -/
theorem empty_rows_dropped_counterexample (rnd : Rat → Rat) :
    triRows true 0 0 0 (wireCols rnd (pack [[]])) 0 = .ok [] ∧ specRows rnd 0 0 0 [[]] = [idCells 0 0 0 1] := by
  constructor
  · rfl
  · simp [specRows, strKeys, sortDedup, rowStrs, normRow, number]

/-- the rows of an evaluation are numbered 1..N in the order they were yielded and carry the ids of its triple -/
theorem index_1_N (rnd : Rat → Rat) (e l v : Int) (rows : List PyDict) :
    (specRows rnd e l v rows).length = rows.length
    ∧ (specRows rnd e l v rows).map (fun r => r.lookup "index")
        = (List.range' 1 rows.length).map (fun (j : Nat) => some (Val.int (j : Int)))
    ∧ ∀ r ∈ specRows rnd e l v rows, r.lookup "environment_id" = some (Val.int e)
        ∧ r.lookup "learner_id" = some (Val.int l) ∧ r.lookup "evaluator_id" = some (Val.int v) := by
  refine ⟨?_, ?_, number_ids e l v 1 _⟩
  · simp [specRows, number_length]
  · simpa [specRows] using number_index e l v 1 (rows.map (normRow rnd (strKeys rows)))

/-- `1`, `True` and `1.0` are equal as Python dictionary keys but are three field names for the encoder (`str(k)`:
`'1'`, `'True'`, `'1.0'`, each row filling only its own column) and three keys for json (`'1'`, `'true'`, `'1.0'`) — the general statements are
`pack_unpack` / `strKeys_spec` / `wire_normalises`, which speak about `str(key)` resp. the json key only; this is the concrete instance the harness
family `key:python-equal-names` replays on the real code -/
theorem python_equal_names_kept_apart (a b c : Val) :
    pack [[(Key.int 1, a)], [(Key.bool true, b)], [(Key.other "1.0", c)]]
      = [("1", [a, .none, .none]), ("1.0", [.none, .none, c]), ("True", [.none, b, .none])]
    ∧ jsonify (.dict [(Key.int 1, a), (Key.bool true, b), (Key.other "1.0", c)])
      = .dict [(Key.str "1", jsonify a), (Key.str "true", jsonify b), (Key.str "1.0", jsonify c)] := by
  constructor
  · have e : strKeys [[(Key.int 1, a)], [(Key.bool true, b)], [(Key.other "1.0", c)]] = ["1", "1.0", "True"] := by
      simp only [strKeys, List.flatMap_cons, List.flatMap_nil, rowStrs, List.map_cons, List.map_nil, Key.pystr, List.append_nil, List.cons_append, List.nil_append]
      decide
    have h1 : toString (1 : Int) = "1" := by decide
    simp [pack, e, packWith, cellOf, lookupLast, Key.pystr, h1]
  · rfl

/-! ### the pinned commit's two deviations -/

/-- pinned `packed_list2tuple` (decision by the first row of a column) equals the per-cell conversion
under `firstRowDecides`; without it the equation fails both ways (`first_row_tuple_counterexample`,
`first_row_tuple_typeError_counterexample`) -/
theorem first_row_tuple_partial (cols : Cols) (h : firstRowDecides cols = true) :
    tupleColsFirstRow cols = .ok (tupleColsPerCell cols) := by
  induction cols with
  | nil => simp [tupleColsFirstRow, tupleColsPerCell]
  | cons c cs ih =>
    obtain ⟨k, col⟩ := c
    simp only [firstRowDecides, Bool.and_eq_true, Bool.or_eq_true, beq_iff_eq] at h
    obtain ⟨hk, hcs⟩ := h
    have ih' := ih hcs
    simp only [tupleColsPerCell] at ih'
    simp only [tupleColsFirstRow, ih', tupleColsPerCell, List.map_cons]
    by_cases hr : k = "rewards"
    · simp [hr]
    · simp only [hr, if_false]
      rcases hk with hk | hk
      · exact absurd hk hr
      · cases col with
        | nil => simp
        | cons c0 rest =>
          simp only at hk
          by_cases hl : isList c0 = true
          · simp only [hl, if_true] at hk ⊢
            rw [mapTuple_all_list _ hk]
          · simp only [hl] at hk ⊢
            simp only [Bool.not_eq_true] at hl
            rw [map_tupTop_no_list _ hk]
            simp

example : firstRowDecides [("a", [Val.list [Val.int 1], Val.list []]), ("b", [Val.none, Val.str "x"]),
    ("rewards", [Val.none, Val.list []])] = true := by decide

/-- first row None, later row a list: the list stays a list -/
theorem first_row_tuple_counterexample :
    tupleColsFirstRow [("a", [Val.none, Val.list [Val.int 1]])]
      ≠ .ok (tupleColsPerCell [("a", [Val.none, Val.list [Val.int 1]])]) := by
  simp [tupleColsFirstRow, tupleColsPerCell, isList, tupTop]

/-- first row a list, later row None: `tuple(None)` raises — the log can no longer be read -/
theorem first_row_tuple_typeError_counterexample :
    tupleColsFirstRow [("a", [Val.list [Val.int 1], Val.none])] = .error .typeError := by
  simp [tupleColsFirstRow, isList, mapTuple, pyTuple]

/-- first row a list, later row a string: `tuple("xy")` splits it into its characters -/
theorem first_row_tuple_str_split' :
    tupleColsFirstRow [("a", [Val.list [Val.int 1], Val.str "xy"])] = .ok [("a", [Val.tup [Val.int 1], Val.tup [Val.str "x", Val.str "y"]])] := by
  rfl

/-- end to end on the pinned reader: an evaluator yields `{'a':[1]}` then `{}`; every route raises -/
theorem first_row_crash_counterexample (rnd : Rat → Rat) :
    runNoFile rnd true false [] [.t4 [0, 0, 0] [[(.str "a", .list [.int 1])], []]] = .error .typeError := by
  rfl

/-- pinned `TransactionEncode` packing equals the repaired one whenever `str` is injective on the field
names of the transaction (rows being dicts); without that it does not (`packAsIs_collision_counterexample`) -/
theorem packAsIs_partial (rows : List PyDict) (hc : NoStrCollision rows) (hr : RowsNodup rows) :
    packAsIs rows = pack rows := by
  have hperm := sortByStr_perm (unionKeys rows)
  have hnd : (sortByStr (unionKeys rows)).Nodup := hperm.nodup_iff.mpr (nodup_unionKeys rows)
  have hkeys := pystr_sortByStr_unionKeys rows hc
  have hsnd : ((sortByStr (unionKeys rows)).map Key.pystr).Nodup := hkeys ▸ sortDedup_nodup _
  unfold packAsIs pack packWith
  simp only
  rw [dedupFirst_nodup _ hsnd, ← hkeys, List.map_map, List.map_map]
  apply List.map_congr_left
  intro k hk
  simp only [Function.comp_def, Prod.mk.injEq, true_and]
  rw [filter_image_eq_singleton Key.pystr _ hnd k hk (fun a ha e => hc a (hperm.mem_iff.mp ha) k (hperm.mem_iff.mp hk) e)]
  simp only [List.map_cons, List.map_nil]
  rw [← List.map_eq_flatMap]
  apply List.map_congr_left
  intro row hrow
  symm
  apply cellOf_eq_rowGet k row (hr row hrow)
  intro kv hkv e
  exact hc kv.1 ((mem_unionKeys rows kv.1).mpr ⟨row, hrow, List.mem_map_of_mem hkv⟩) k (hperm.mem_iff.mp hk) e

example : NoStrCollision [[(Key.str "a", Val.int 1), (Key.bool true, Val.none)], [(Key.none, Val.nan)]] := by
  unfold NoStrCollision; decide

/-- field names `True` and `'True'` of two rows share one column: 4 cells for 2 rows -/
theorem packAsIs_collision_counterexample :
    packAsIs [[(Key.bool true, Val.int 1)], [(Key.str "True", Val.int 2)]]
      = [("True", [Val.int 1, Val.none, Val.none, Val.int 2])]
    ∧ pack [[(Key.bool true, Val.int 1)], [(Key.str "True", Val.int 2)]] = [("True", [Val.int 1, Val.int 2])] := by
  constructor <;> rfl

theorem encodeTx_pinned_eq_repaired (rnd : Rat → Rat) (ids : List Int) (rows : List PyDict)
    (hc : NoStrCollision rows) (hr : RowsNodup rows) :
    encodeTx rnd false (.t4 ids rows) = encodeTx rnd true (.t4 ids rows) := by
  simp [encodeTx, packAsIs_partial rows hc hr]

/-! ### whole logs -/

theorem specInteractionsLW_clean (rnd : Rat → Rat) (txs : List Tx) (h : ((t4sOf txs).map (·.1)).Nodup) :
    specInteractionsLW rnd txs = specInteractions rnd txs := by
  unfold specInteractionsLW specInteractions
  rw [lastWins_of_nodup _ h]

/-- after a run the interactions table holds, for the evaluations ordered by their ids, exactly the
rows each evaluator yielded (in order, numbered 1..N, normalised) -/
theorem interactions_roundtrip (rnd : Rat → Rat) (info : PyDict) (txs : List Tx)
    (hw : ∀ ir ∈ t4sOf txs, WellFormed ir) (hnd : ((t4sOf txs).map (·.1)).Nodup) :
    ∃ res, runNoFile rnd true true info txs = .ok res ∧ res.interactions = specInteractions rnd txs :=
  ⟨_, run_wellFormed rnd info txs hw, specInteractionsLW_clean rnd txs hnd⟩

/-- the evaluations appear in the interactions table in increasing order of their id triples -/
theorem order_by_ids (txs : List Tx) :
    (sortBy ltTriP (t4sOf txs)).Pairwise (fun a b => ¬ b.1 < a.1) := by
  exact (sortBy_sorted comparesKey_ltTriP (t4sOf txs)).imp not_lt.mpr

/-- no evaluation is lost or duplicated by the ordering step -/
theorem order_by_ids_perm (txs : List Tx) : (sortBy ltTriP (t4sOf txs)).Perm (t4sOf txs) := sortBy_perm _ _

/-- the environments / learners / evaluators tables hold exactly each component's params (id column
first, values normalised, keys as json strings), ordered by id — for distinct ids and params whose
keys stay distinct as strings and differ from the id column -/
theorem params_roundtrip (rnd : Rat → Rat) (fixed : Bool) (t : Tbl) (txs : List Tx)
    (hid : ((paramsOf t txs).map (·.1)).Nodup)
    (hk : ∀ ip ∈ paramsOf t txs, (ip.2.map (·.1.json)).Nodup ∧ idColName t ∉ ip.2.map (·.1.json)) :
    compTable t (txs.map (encodeTx rnd fixed)) = specParams rnd t txs := compTable_encode rnd fixed t txs hid hk

/-- … and these are the tables of the returned Result -/
theorem params_tables_of_run (rnd : Rat → Rat) (info : PyDict) (txs : List Tx)
    (hw : ∀ ir ∈ t4sOf txs, WellFormed ir) (hnd : ((t4sOf txs).map (·.1)).Nodup) :
    ∃ res, runNoFile rnd true true info txs = .ok res
      ∧ res.environments = compTable .E ((Tx.t0 info :: txs).map (encodeTx rnd true))
      ∧ res.learners = compTable .L ((Tx.t0 info :: txs).map (encodeTx rnd true))
      ∧ res.evaluators = compTable .V ((Tx.t0 info :: txs).map (encodeTx rnd true)) :=
  ⟨_, run_wellFormed rnd info txs hw, rfl, rfl, rfl⟩

/-- the three routes are one function of the transactions: running with a fresh file is running
without a file; `Result.from_file` on the written file is what `run` returned; and a restored run
(file written by a first run over `txs₁`, second run appending `txs₂`) is a single run over
`txs₁ ++ txs₂` -/
theorem routes_agree (rnd : Rat → Rat) (fe fr : Bool) (info : PyDict) (txs₁ txs₂ : List Tx) :
    runFile rnd fe fr info none txs₁ = runNoFile rnd fe fr info txs₁
    ∧ fromFile fr (fileAfter rnd fe info none txs₁) = runFile rnd fe fr info none txs₁
    ∧ runFile rnd fe fr info (some (fileAfter rnd fe info none txs₁)) txs₂ = runNoFile rnd fe fr info (txs₁ ++ txs₂)
    ∧ fromFile fr (fileAfter rnd fe info (some (fileAfter rnd fe info none txs₁)) txs₂)
        = runFile rnd fe fr info (some (fileAfter rnd fe info none txs₁)) txs₂ :=
  ⟨rfl, rfl, congrArg (readLog fr) (fileAfter_append rnd fe info txs₁ txs₂), rfl⟩

/-! ### the Result of a run, as the statement demands it -/

/-- `CleanRun` is decidable: the executable test the driver reports is exact -/
theorem cleanRunB_iff (txs : List Tx) : cleanRunB txs = true ↔ CleanRun txs := by
  simp only [cleanRunB, Bool.and_eq_true, List.all_eq_true, decide_eq_true_eq, nodupB_iff]
  constructor
  · rintro ⟨⟨⟨h0, hw⟩, hn⟩, ht⟩
    refine ⟨fun m hm => by simpa using h0 _ hm, hw, hn, fun t => ?_, fun t => ?_⟩
    · exact (ht t (by cases t <;> simp)).1
    · exact (ht t (by cases t <;> simp)).2
  · intro h
    refine ⟨⟨⟨?_, h.wf⟩, h.triNodup⟩, fun t _ => ⟨h.idNodup t, h.keysOk t⟩⟩
    intro t ht
    cases t with
    | t0 m => exact absurd ht (h.noT0 m)
    | _ => rfl

/-- [core] for every clean run (`CleanRun`: what MakeTasks/ProcessTasks emit — each component and each
triple once, well-formed evaluation records, params keys distinct as strings) the returned Result is
exactly `specResult`: the interactions table holds, per triple in id order, exactly the yielded rows in
order, numbered 1..N, normalised; the three params tables hold exactly the params; `experiment` is the
preamble. -/
theorem run_spec (rnd : Rat → Rat) (info : PyDict) (txs : List Tx) (hc : CleanRun txs) :
    runNoFile rnd true true info txs = .ok (specResult rnd info txs) := by
  rw [runNoFile_eq, readLog_eq_collect, collect_clean rnd info txs hc]
  exact congrArg Except.ok (Collected.result_clean rnd info txs)

example : CleanRun [.t1 0 [(.str "a", .tup [.int 1])], .t2 0 [], .t3 0 [(.bool true, .flt (1/3))],
    .t4 [0, 0, 0] [[(.str "x", .flt (1/3))], [(.none, .nan)]], .t4 [0, 0, 1] [[], []]] :=
  (cleanRunB_iff _).mp (by decide)

/-- the order in which transactions reach the log is immaterial -/
theorem run_order_invariant (rnd : Rat → Rat) (info : PyDict) (txs txs' : List Tx) (hp : txs.Perm txs')
    (hc : CleanRun txs) : runNoFile rnd true true info txs = runNoFile rnd true true info txs' := by
  rw [run_spec rnd info txs hc, run_spec rnd info txs' (cleanRun_perm txs txs' hp hc), specResult_perm rnd info txs txs' hp hc]

/-- restored runs: a first run logging `txs₁` and a second run appending `txs₂` return the Result of a
single fresh run (with or without a file) that emits the same transactions in any order `txs` -/
theorem routes_agree_restored (rnd : Rat → Rat) (info : PyDict) (txs₁ txs₂ txs : List Tx)
    (hp : txs.Perm (txs₁ ++ txs₂)) (hc : CleanRun txs) :
    runFile rnd true true info (some (fileAfter rnd true info none txs₁)) txs₂ = runNoFile rnd true true info txs
    ∧ fromFile true (fileAfter rnd true info (some (fileAfter rnd true info none txs₁)) txs₂) = runNoFile rnd true true info txs := by
  have h := (routes_agree rnd true true info txs₁ txs₂).2.2
  rw [h.2, h.1, run_order_invariant rnd info txs (txs₁ ++ txs₂) hp hc]
  exact ⟨rfl, rfl⟩

/-- take the log of a clean run, delete ANY records from it (the version and experiment
lines stay; `keep` is an arbitrary sublist, not only a prefix — C02's `resume_eq_full` covers byte prefixes and shows that the
records kept plus the records the resumed run appends are a permutation of the full run's), let the resumed run append
`txs₂` so that nothing is missing or doubled: the decoded Result is the uninterrupted one, which is `specResult` -/
theorem punched_log_resume (rnd : Rat → Rat) (info : PyDict) (txs keep txs₂ : List Tx) (hc : CleanRun txs)
    (hk : keep.Sublist txs) (hp : (keep ++ txs₂).Perm txs) :
    (fileAfter rnd true info none keep).Sublist (fileAfter rnd true info none txs)
    ∧ fromFile true (fileAfter rnd true info none keep ++ encode rnd true true txs₂) = .ok (specResult rnd info txs)
    ∧ fromFile true (fileAfter rnd true info none txs) = .ok (specResult rnd info txs) := by
  refine ⟨?_, ?_, run_spec rnd info txs hc⟩
  · exact ((hk.map (encodeTx rnd true)).cons_cons _).cons_cons _
  · have h : fromFile true (fileAfter rnd true info none keep ++ encode rnd true true txs₂)
        = runNoFile rnd true true info (keep ++ txs₂) := congrArg (readLog true) (fileAfter_append rnd true info keep txs₂)
    rw [h, ← run_spec rnd info txs hc]
    exact (run_order_invariant rnd info txs (keep ++ txs₂) hp.symm hc).symm

/-! ### records that are logged more than once -/

/-- `lastWins` is a Python dict filled by `d[k] = v`: last value of every key, every key once, nothing invented, and no
change where the keys are distinct -/
theorem lastWins_spec (l : List (List Int × List PyDict)) :
    (∀ k, (lastWins l).lookup k = l.reverse.lookup k) ∧ ((lastWins l).map (·.1)).Nodup ∧ (∀ p ∈ lastWins l, p ∈ l)
    ∧ ((l.map (·.1)).Nodup → lastWins l = l) :=
  ⟨lastWins_lookup l, lastWins_keys_nodup l, mem_lastWins l, lastWins_of_nodup l⟩

/-- the interactions table without `CleanRun.triNodup`: for ANY list of transactions with well-formed evaluation
records — a triple may be logged twice or more (restored runs before 6c776fe, concurrent writers) — the table holds, per triple
in id order, exactly the rows of the LAST record of that triple.  (`interactions_roundtrip` is the special case of distinct triples,
see `specInteractionsLW_clean`.) -/
theorem interactions_last_wins (rnd : Rat → Rat) (info : PyDict) (txs : List Tx) (hw : ∀ ir ∈ t4sOf txs, WellFormed ir) :
    ∃ res, runNoFile rnd true true info txs = .ok res ∧ res.interactions = specInteractionsLW rnd txs :=
  ⟨_, run_wellFormed rnd info txs hw, rfl⟩

example : ∀ ir ∈ t4sOf [.t4 [0, 0, 0] [[(.str "a", .int 1)]], .t1 0 [], .t4 [0, 0, 0] [[(.str "a", .int 2)], []]], WellFormed ir := by
  intro ir hir
  simp only [t4sOf, List.mem_cons, List.mem_nil_iff, or_false] at hir
  rcases hir with rfl | rfl <;> rfl

/-- the params tables without `CleanRun.idNodup`: for ANY list of transactions, every id recorded for table `t` has
exactly one row, and it is the union, in log order, of all records of that id (`rows[id].update(params)`: later values win,
fields recorded only earlier stay) -/
theorem params_union (rnd : Rat → Rat) (fixed : Bool) (t : Tbl) (txs : List Tx) (id : Int) (h : id ∈ (paramsOf t txs).map (·.1)) :
    (id, unionParams rnd id (paramsOf t txs)) ∈ compRows t (txs.map (encodeTx rnd fixed))
    ∧ ((compRows t (txs.map (encodeTx rnd fixed))).map (·.1)).Nodup := by
  rw [compRows_encode]
  constructor
  · obtain ⟨ip, hip, rfl⟩ := List.mem_map.mp h
    rw [(sortBy_perm ltId _).mem_iff]
    apply mem_of_lookup
    rw [accum_lookup]
    exact foldl_some_getRow (fun r (ip : Int × PyDict) => update r (normParams rnd ip.2)) _
      (List.ne_nil_of_mem (List.mem_filter.mpr ⟨hip, decide_eq_true rfl⟩)) none
  · exact ((sortBy_perm ltId _).map (·.1)).nodup_iff.mpr (accum_keys_nodup _ _ [] List.nodup_nil)

example : (3 : Int) ∈ (paramsOf .E [.t1 3 [(.str "a", .int 1)], .t2 3 [], .t1 3 [(.str "b", .tup [])]]).map (·.1) := by
  simp [paramsOf]

/-! ### the tables as `Table` exposes them: column order, `Missing` padding, independence of the order of the log -/

/-- what `Table.columns` / `Table.to_dicts()` expose beyond the rows, for a table created with `init` columns into which
groups of rows are inserted one after the other: the initial columns come first, no column twice, no field of any row is lost,
and a row shows `Missing` (`none`) in the columns it has no value for -/
theorem tables_observable_spec (init : List String) (groups : List (List Row)) (hinit : init.Nodup) :
    init <+: (padTable init groups).columns ∧ (padTable init groups).columns.Nodup
    ∧ (∀ c, c ∈ (padTable init groups).columns ↔ c ∈ init ∨ ∃ g ∈ groups, ∃ r ∈ g, c ∈ rowKeys r)
    ∧ (padTable init groups).rows = groups.flatten.map (fun r => (padTable init groups).columns.map (fun c => r.lookup c))
    ∧ (∀ g ∈ groups, ∀ r ∈ g, ∀ k ∈ rowKeys r, k ∈ (padTable init groups).columns) := by
  refine ⟨tableCols_prefix init groups, tableCols_nodup init groups hinit, tableCols_mem init groups, rfl, ?_⟩
  exact fun g hg r hr k hk => rowKeys_subset_tableCols init groups (List.mem_flatten.mpr ⟨g, hg, hr⟩) hk

/-- the four `Table`s of a decoded log are the padded views of exactly the rows of `readLog`'s Result: params tables
are one insertion of all rows, the interactions table one insertion per evaluation record (in id order) -/
theorem tables_of_result (fixed : Bool) (file : List Rec) (res : Result) (h : readLog fixed file = .ok res) :
    ∃ groups, tablesOf fixed file = .ok [padTable ["environment_id"] (if res.environments.isEmpty then [] else [res.environments]),
        padTable ["learner_id"] (if res.learners.isEmpty then [] else [res.learners]),
        padTable ["evaluator_id"] (if res.evaluators.isEmpty then [] else [res.evaluators]),
        padTable idCols groups] ∧ groups.flatten = res.interactions := by
  obtain ⟨recs, rfl⟩ := readLog_ok_version4 fixed file res h
  rw [readLog_eq_collect] at h
  rw [tablesOf_eq_collect]
  cases hc : collect fixed recs with
  | error e => rw [hc] at h; cases h
  | ok c =>
    rw [hc] at h
    cases h
    exact ⟨c.groups, rfl, rfl⟩

/-- the padded tables (column order + `Missing` cells) of a clean run are exactly `specTables`: each params table is one
insertion of `specParams`, the interactions table one insertion per triple (in id order) of its `specRows` — the grouping
that `tables_of_result` leaves existential is explicit here -/
theorem tables_spec (rnd : Rat → Rat) (info : PyDict) (txs : List Tx) (hc : CleanRun txs) :
    tablesOf true (fileAfter rnd true info none txs) = .ok (specTables rnd txs) := by
  show tablesOf true (.version 4 :: (Tx.t0 info :: txs).map (encodeTx rnd true)) = _
  rw [tablesOf_eq_collect, collect_clean rnd info txs hc]
  exact congrArg Except.ok (Collected.tables_clean rnd _ txs)

/-- for ANY permutation `txs'` of a clean run's transactions the four padded tables —
column order and `Missing` padding included — are those of `txs` -/
theorem tables_order_invariant (rnd : Rat → Rat) (info : PyDict) (txs txs' : List Tx) (hp : txs.Perm txs') (hc : CleanRun txs) :
    tablesOf true (fileAfter rnd true info none txs') = .ok (specTables rnd txs)
    ∧ tablesOf true (fileAfter rnd true info none txs) = .ok (specTables rnd txs) := by
  refine ⟨?_, tables_spec rnd info txs hc⟩
  rw [specTables_perm rnd txs txs' hp hc]
  exact tables_spec rnd info txs' (cleanRun_perm txs txs' hp hc)

/-- … and so are the tables of a restored run on any kept part of the log (`keep`) that appends the rest (`txs₂`), in any order -/
theorem tables_punched_log (rnd : Rat → Rat) (info : PyDict) (txs keep txs₂ : List Tx) (hc : CleanRun txs)
    (hp : (keep ++ txs₂).Perm txs) :
    tablesOf true (fileAfter rnd true info (some (fileAfter rnd true info none keep)) txs₂) = .ok (specTables rnd txs) :=
  (congrArg (tablesOf true) (fileAfter_append rnd true info keep txs₂)).trans
    (tables_order_invariant rnd info txs (keep ++ txs₂) hp.symm hc).1

/-- the specified insertion groups hold exactly the specified interaction rows, in order; no group is empty -/
theorem specGroups_spec (rnd : Rat → Rat) (txs : List Tx) :
    (specGroups rnd txs).flatten = specInteractions rnd txs ∧ ∀ g ∈ specGroups rnd txs, g ≠ [] := by
  refine ⟨flatten_groups _ _, ?_⟩
  intro g hg
  simp only [specGroups, List.mem_filter, Bool.not_eq_eq_eq_not, Bool.not_true] at hg
  intro e; simp [e] at hg

/-- a late column: the second triple (in id order) brings field `b`; logged first or last, `b` is the last column and the first
triple's row shows `Missing` there -/
example : (match tablesOf true (fileAfter round5 true [] none [.t4 [0, 0, 1] [[(.str "b", .int 2)]], .t4 [0, 0, 0] [[(.str "c", .int 1)]]]) with
      | .ok ts => ts.map (fun t => (t.columns, t.rows.map (fun r => r.map Option.isSome)))
      | .error _ => [])
    = [(["environment_id"], []), (["learner_id"], []), (["evaluator_id"], []),
       (["environment_id", "learner_id", "evaluator_id", "index", "c", "b"],
        [[true, true, true, true, true, false], [true, true, true, true, false, true]])] := by decide +kernel

/-! ### `Result.__init__` — the learner cache and `full_name` are functions of the padded learners table -/

/-- the `full_name` ingredients of every row are computed from that row's OWN fields (the `Missing` padding for other learners' columns never shows); the `k=v` parts are exactly the
row's fields other than `''`, `family`, `learner_id`, each with its value, and they follow the table's column order -/
theorem full_name_spec (init : List String) (groups : List (List Row)) :
    lrnNames (padTable init groups) = groups.flatten.map (fun r => fullNameOf (padTable init groups).columns (fun c => r.lookup c))
    ∧ (∀ r ∈ groups.flatten, ∀ k v, (k, v) ∈ nameParams (padTable init groups).columns (fun c => r.lookup c)
        ↔ (k ≠ "" ∧ k ≠ "family" ∧ k ≠ "learner_id" ∧ r.lookup k = some v))
    ∧ (∀ r : Row, ((nameParams (padTable init groups).columns (fun c => r.lookup c)).map (·.1)).Sublist (padTable init groups).columns) := by
  refine ⟨lrnNames_padTable init groups, ?_, fun r => nameParams_sublist _ _⟩
  intro r hr k v
  apply nameParams_mem
  exact fun c w hc => rowKeys_subset_tableCols init groups hr (List.mem_map_of_mem (mem_of_lookup c w r hc))

/-- hence for a clean run the learner cache does not depend on the order of the log either: it is that of `specTables` -/
theorem full_name_order_invariant (rnd : Rat → Rat) (info : PyDict) (txs txs' : List Tx) (hp : txs.Perm txs') (hc : CleanRun txs) :
    (tablesOf true (fileAfter rnd true info none txs')).map (fun ts => ts.map lrnNames)
      = .ok ((specTables rnd txs).map lrnNames) := by
  rw [(tables_order_invariant rnd info txs txs' hp hc).1]; rfl

/-- two learners with different fields: each name lists its own fields only; `vw` needs family, args and seed -/
example : (lrnNames (padTable ["learner_id"] [[[("learner_id", .int 0), ("family", .str "vw"), ("args", .str "--cb 2"), ("seed", .int 1)],
      [("learner_id", .int 1), ("family", .str "eps"), ("epsilon", .flt (1/10))]]])).map (fun o => o.map (fun n => (n.params.map (·.1), n.vw)))
    = [some (["args", "seed"], true), some (["epsilon"], false)] := by decide +kernel

/-! ### order independence for logs in which the SAME id is recorded several times

Such a log may be rearranged as long as the records of each id keep their relative order.  `SameKeyOrder a b` says exactly that
(for every dictionary entry of `TransactionResult` — experiment, (table, id), id triple — the records going to it are the same and
in the same order); no hypothesis on the records themselves (any ids, any number of repeats, pinned or repaired reader). -/

/-- the Result and the padded tables read from a log depend only on the relative order of the records of each single id -/
theorem same_key_order_invariant (fr : Bool) (n : Int) (a b : List Rec) (h : SameKeyOrder a b) :
    readLog fr (.version n :: a) = readLog fr (.version n :: b) ∧ tablesOf fr (.version n :: a) = tablesOf fr (.version n :: b) := by
  by_cases hn : n = 4
  · subst hn
    rw [readLog_eq_collect, readLog_eq_collect, tablesOf_eq_collect, tablesOf_eq_collect, collect_sameKeyOrder fr a b h]
    exact ⟨rfl, rfl⟩
  · exact ⟨by rw [readLog, readLog, if_pos hn, if_pos hn], by rw [tablesOf, tablesOf, if_pos hn, if_pos hn]⟩

/-- the hypothesis is needed: swapping two records of the SAME id changes the learners table (later values win) -/
theorem same_key_order_counterexample :
    (readLog true [.version 4, .comp .L 0 [("x", .int 1)], .comp .L 0 [("x", .int 2)]]).toOption.map (·.learners)
        = some [[("learner_id", .int 0), ("x", .int 2)]]
    ∧ (readLog true [.version 4, .comp .L 0 [("x", .int 2)], .comp .L 0 [("x", .int 1)]]).toOption.map (·.learners)
        = some [[("learner_id", .int 0), ("x", .int 1)]] := by
  constructor <;> rfl

/-- non-vacuity: a rearrangement that moves a record of learner 1 between the two records of learner 0 -/
example : SameKeyOrder [.comp .L 0 [("x", .int 1)], .comp .L 0 [("x", .int 2)], .comp .L 1 []]
                       [.comp .L 0 [("x", .int 1)], .comp .L 1 [], .comp .L 0 [("x", .int 2)]] :=
  sameKeyOrder_swap [_] [] _ _ (by decide)

/-- `regroupBy ks` (pull the records of every key of `ks` to the front, one key after the other) keeps every id's records in order
and loses / duplicates nothing -/
theorem regroupBy_sameKeyOrder (ks : List RecKey) (recs : List Rec) :
    SameKeyOrder recs (regroupBy ks recs) ∧ (regroupBy ks recs).Perm recs := by
  unfold regroupBy
  induction ks generalizing recs with
  | nil => exact ⟨sameKeyOrder_refl recs, List.Perm.refl _⟩
  | cons k ks ih =>
    simp only [List.foldl_cons]
    exact ⟨sameKeyOrder_trans (pullKey_sameKeyOrder k recs) (ih _).1, (ih _).2.trans (List.filter_append_perm _ _)⟩

/-- the grouped log the driver evaluates (and the harness writes to disk) reads back as the original one -/
theorem regroupLog_same (fr : Bool) (recs : List Rec) :
    readLog fr (regroupLog recs) = readLog fr recs ∧ tablesOf fr (regroupLog recs) = tablesOf fr recs := by
  cases recs with
  | nil => exact ⟨rfl, rfl⟩
  | cons r rs =>
    cases r with
    | version n =>
      have := same_key_order_invariant fr n rs _ (regroupBy_sameKeyOrder (rs.map recKey) rs).1
      exact ⟨this.1.symm, this.2.symm⟩
    | experiment d => exact ⟨rfl, rfl⟩
    | comp t id p => exact ⟨rfl, rfl⟩
    | inter ids c k => exact ⟨rfl, rfl⟩

/-! ### the source's constants.  `Generated/C07Consts.lean` is rewritten on every run from the CURRENT coba source (Python `ast`);
these obligations fail to compile as soon as the source's constants / key lists / dispatch tags differ from the model's. -/
section SourceConsts
open Coba.Generated

/-- what the source says equals what the model uses: log version written = accepted by decoder = accepted by reader = 4,
the T0..T4 -> record-tag dispatch of the encoder and the tags the reader tests, the `_packed` / `_n` keys (same literal on both
sides), `str(key)` field names, absent -> None, the exempt column list of `packed_list2tuple`, the `Table(columns=…)` literals,
the id columns assigned after unpacking (in source order), index from 1, `minimize`'s default precision 5 -/
theorem source_consts_match :
    C07.encVersion = 4 ∧ C07.decVersion = C07.encVersion ∧ C07.resVersion = C07.encVersion ∧
    C07.encTags = [("T0", "experiment"), ("T1", "E"), ("T2", "L"), ("T3", "V"), ("T4", "I")] ∧
    C07.resTags = C07.encTags.map Prod.snd ∧
    C07.packedKey = "_packed" ∧ C07.countKey = "_n" ∧ C07.encKeyIsStr = true ∧ C07.encAbsentIsNone = true ∧
    C07.exemptCols = ["rewards"] ∧ C07.intCols = idCols ∧ C07.idAssigned = idCols ∧
    C07.paramCols = [Tbl.E, Tbl.L, Tbl.V].map idColName ∧ C07.indexFrom = 1 ∧ 10 ^ C07.precision = 100000 :=
  ⟨rfl, rfl, rfl, rfl, rfl, rfl, rfl, rfl, rfl, rfl, rfl, rfl, rfl, rfl, rfl⟩

/-- the model's encoder writes the source's version line -/
theorem encode_uses_source_version (rnd : Rat → Rat) (fixed : Bool) (txs : List Tx) :
    encode rnd fixed false txs = Rec.version C07.encVersion :: txs.map (encodeTx rnd fixed) := rfl

/-- the model's reader rejects every version but the source's -/
theorem readLog_version_gate (fixed : Bool) (n : Int) (recs : List Rec) (h : n ≠ C07.resVersion) :
    readLog fixed (Rec.version n :: recs) = .error .stopIteration := by
  have h' : n ≠ 4 := h
  simp [readLog, h']

example : (3 : Int) ≠ C07.resVersion := by decide

/-- `round5` is `round(v*P)/P` for the source's `P = 10**precision` -/
theorem round5_uses_source_precision (q : Rat) :
    round5 q = (rhe (fl (q * ((10 ^ C07.precision : Nat) : Rat))) : Rat) / ((10 ^ C07.precision : Nat) : Rat) := by
  have : (10 ^ C07.precision : Nat) = 100000 := rfl
  rw [this]; simp [round5]

/-- the specification's and the reader's exemption from the tuple conversion is the source's list -/
theorem exempt_uses_source_list (rnd : Rat → Rat) (col : String) (v : Val) (cols : List (String × List Val)) :
    normCell rnd col v = (if col ∈ C07.exemptCols then normIn rnd v else normTop rnd v)
    ∧ tupleColsPerCell cols = cols.map (fun c => (c.1, if c.1 ∈ C07.exemptCols then c.2 else c.2.map tupTop)) := by
  have : C07.exemptCols = ["rewards"] := rfl
  constructor
  · simp [normCell, this]
  · simp [tupleColsPerCell, this]

/-- the id cells prepended to every row are the source's `packed[name] = …` assignments, in source order, index from the source's start -/
theorem idCells_uses_source_cols (e l v : Int) (i : Nat) :
    (idCells e l v i).map Prod.fst = C07.idAssigned ∧ (idCells e l v (Int.toNat C07.indexFrom)).getLast? = some ("index", .int 1) :=
  ⟨rfl, rfl⟩

end SourceConsts

/-! ### the record-writing / record-reading dispatch read off the source as tables -/
section SourceShapes
open Coba.Generated

/-- the (transaction tag → record tag, elements written) table of `TransactionEncode.filter` and the (record tag → variable, `trx[k]` read)
table of `TransactionResult.filter`, both regenerated from the CURRENT source on every run, are the model's -/
theorem source_shapes_match : C07.encShapes = modelEncShapes ∧ C07.resShapes = modelResShapes := ⟨rfl, rfl⟩

/-- round trip over the EXTRACTED tables: the line the source's encoder table writes for a transaction, read through the source's reader
table, is exactly the record of the model's encoder (`encodeTx`) -/
theorem line_roundtrip_source (rnd : Rat → Rat) (fixed : Bool) (tx : Tx) :
    (encodeLine C07.encShapes rnd fixed tx).bind (decodeLine C07.resShapes) = some (encodeTx rnd fixed tx) := by
  rw [source_shapes_match.1, source_shapes_match.2]; exact line_roundtrip_model rnd fixed tx

theorem log_roundtrip_source (rnd : Rat → Rat) (fixed : Bool) (txs : List Tx) :
    (encodeLines C07.encShapes rnd fixed txs).bind (decodeLines C07.resShapes) = some (txs.map (encodeTx rnd fixed)) :=
  lines_roundtrip _ _ rnd fixed (line_roundtrip_source rnd fixed) txs

/-- hence a clean run written and read through the source's tables (version line from the source) is `specResult` -/
theorem run_spec_via_source_tables (rnd : Rat → Rat) (info : PyDict) (txs : List Tx) (hc : CleanRun txs) :
    ((encodeLines C07.encShapes rnd true (.t0 info :: txs)).bind (decodeLines C07.resShapes)).map
        (fun recs => readLog true (Rec.version C07.encVersion :: recs)) = some (.ok (specResult rnd info txs)) := by
  rw [log_roundtrip_source, Option.map_some, ← run_spec rnd info txs hc]; rfl

end SourceShapes

end Coba.C07
