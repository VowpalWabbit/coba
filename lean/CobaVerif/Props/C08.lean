/-
C08 — Multi-process filtering delivers every output exactly once and never hangs.

The model is a labelled transition system (`enabled`, `step`) over the atomic steps of
`Multiprocessor.filter`; a *schedule* is any sequence of enabled actions, so every theorem below
quantifies over all interleavings of loader, workers (incl. retiring/replaced ones), callbacks and
the caller, over all `n ≥ 1`, all `maxtasksperchild`, all item lists and all sets of raising items.
`Reachable c s` = `s` is reached from `init c` by some schedule.  `outcome s` = what the caller
sees (`ok outs` / `raised e outs` / `closed outs` after an early abandon).
-/
import CobaVerif.Lemmas.C08Comm
import CobaVerif.Lemmas.C08Layers
import CobaVerif.Generated.C08Callback
import CobaVerif.Generated.C08ReadWait

namespace Coba.C08

/-! ### the inductive invariant -/

theorem inv_init (c : Cfg) (hn : 0 < c.n) : Inv c (init c) :=
  .of_parts (npos := hn) (len := by simp [init]) (hB := binv_init c hn) (hK := maxk_init c)
    (hQ := { lph0 := fun _ => by simp [init], sorted := trivial, pick := by simp [init] })
    (hO := { opill := by simp [init], olast := by simp [init] })
    (ev := fun _ _ => init_ws_zero c hn) (outC := outTotal_init c)
    (perrC := fun e => by simp [init, inSide, sumOver_map, elemPerrs])
    (pois := fun w h => by
      simp only [Pilled, init] at h
      rcases h with ⟨e, h⟩ | ⟨h, _⟩ <;>
      · have := List.mem_of_getElem? h
        simp at this)
    (r := {
      errC := fun e => by simp [errTotal, init, inSide, sumOver_replicate, wErrs, sumOver_map, elemErrs]
      fin := fun h => by simp [init, State.active] at h
      aband := by simp [init]
      drops := fun _ => by simp [init]
      lexcIn := fun h => by simp [init] at h
      lexc0 := fun _ e h => by simp [init] at h
      lexcOk := fun e h => by simp [init] at h })

theorem inv_step (c : Cfg) (s : State) (a : Action) (hI : Inv c s) (h : enabled c s a = true) :
    Inv c (step c s a) :=
  hI.moves (Moves.of_enabled h)

theorem inv_reachable (c : Cfg) (hn : 0 < c.n) (s : State) (h : Reachable c s) : Inv c s := by
  induction h with
  | init => exact inv_init c hn
  | step _ he ih => exact inv_step c _ _ ih he

/-! ### every output exactly once -/

/-- no item raises and every item can be pickled ⇒ a finished (not abandoned) call returned normally and handed over exactly the
multiset of outputs the wrapped filter produces item by item -/
theorem exactly_once (c : Cfg) (hn : 0 < c.n) (s : State) (hr : Reachable c s) (hd : s.main = .done)
    (hab : s.abandoned = false) (hne : ∀ x ∈ c.items, x.err = none ∧ x.perr = none) :
    ∃ outs, outcome s = .ok outs ∧ outs.Perm (allOuts c) := by
  rcases outcome_of_done (inv_reachable c hn s hr) hd hab with ⟨ho, hp, _⟩ | ⟨e, _, he⟩
  · exact ⟨_, ho, hp⟩
  · rw [(allErrs_nil_iff c).2 hne] at he; cases he

/-- whenever the call returns normally nothing was dropped: all outputs were delivered and no item raised -/
theorem ok_complete (c : Cfg) (hn : 0 < c.n) (s : State) (hr : Reachable c s) (hd : s.main = .done)
    (outs : List Nat) (ho : outcome s = .ok outs) : outs.Perm (allOuts c) ∧ allErrs c = [] := by
  rcases outcome_of_done (inv_reachable c hn s hr) hd (outcome_ok ho).1 with ⟨ho', h⟩ | ⟨e, ho', _⟩
  · cases ho.symm.trans ho'; exact h
  · cases ho.symm.trans ho'

/-- at every moment of every schedule (also when the call ends by an error or is abandoned) no
output has been delivered more often than the filter produced it -/
theorem never_duplicated (c : Cfg) (hn : 0 < c.n) (s : State) (hr : Reachable c s) (o : Nat) :
    s.recv.count o ≤ (allOuts c).count o :=
  recv_count_le (k := 0) ((inv_reachable c hn s hr).outC o)

/-! ### errors surface -/

/-- some item raises (or cannot be pickled: `Pickler`'s CobaException in the loader thread) ⇒ a finished (not
abandoned) call raised, and what it raised is one of those errors -/
theorem error_surfaces (c : Cfg) (hn : 0 < c.n) (s : State) (hr : Reachable c s) (hd : s.main = .done)
    (hab : s.abandoned = false) (x : ItemSpec) (hx : x ∈ c.items) (hxe : x.err ≠ none ∨ x.perr ≠ none) :
    ∃ e outs, outcome s = .raised e outs ∧ e ∈ allErrs c := by
  rcases outcome_of_done (inv_reachable c hn s hr) hd hab with ⟨_, _, hnil⟩ | ⟨e, ho, he⟩
  · have := (allErrs_nil_iff c).1 hnil x hx
    exact hxe.elim (absurd this.1) (absurd this.2)
  · exact ⟨e, _, ho, he⟩

/-- the call never raises anything but an error of the wrapped filter -/
theorem raised_genuine (c : Cfg) (hn : 0 < c.n) (s : State) (hr : Reachable c s)
    (e : Nat) (outs : List Nat) (ho : outcome s = .raised e outs) : e ∈ allErrs c := by
  obtain ⟨_, es, hex⟩ := outcome_raised ho
  exact excs_sub (inv_reachable c hn s hr) e (by rw [hex]; exact List.mem_cons_self)

/-! ### never hangs -/

/-- as long as the call has not finished some step other than "the caller gives up" is enabled -/
theorem deadlock_free (c : Cfg) (hn : 0 < c.n) (s : State) (hr : Reachable c s) (hnd : s.main ≠ .done) :
    ∃ a, a ≠ Action.cAbandon ∧ enabled c s a = true := by
  have hI := inv_reachable c hn s hr
  obtain ⟨a, _, ha, hmv, _⟩ := progress c hn [] hI.toBInv (fun hm he => .inl (hI.ev hm he)) hnd
  exact ⟨a, ha, hmv.sound.1⟩

/-- a natural-number measure strictly decreases on every enabled step (from any state) -/
theorem variant_decreases (c : Cfg) (s : State) (a : Action) (h : enabled c s a = true) :
    mu c (step c s a) < mu c s :=
  (Moves.of_enabled h).mu_lt

/-- hence every schedule is finite: no run is longer than `mu (init c)` … -/
theorem terminates (c : Cfg) (tr : List Action) (s : State) (h : runTrace c (init c) tr = some s) :
    tr.length ≤ mu c (init c) := by
  have := run_bounded_of (enabled c) (step c) (mu c) (runTrace c) (fun _ => rfl) (fun _ _ _ => rfl) (variant_decreases c) tr _ _ h
  omega

/-- … and a schedule that cannot be extended has finished the call (no fairness assumption needed) -/
theorem reaches_done (c : Cfg) (hn : 0 < c.n) (tr : List Action) (s : State)
    (h : runTrace c (init c) tr = some s)
    (hstuck : ∀ a, a ≠ Action.cAbandon → enabled c s a = false) : s.main = .done :=
  done_of_stuck (deadlock_free c hn s (reachable_of_run c _ _ tr Reachable.init h)) hstuck

/-! ### abandoning the output early -/

/-- the caller may give up after any output; the last step of its `finally` block is enabled in every state of that phase, and
giving up and returning at once ends the call without raising (draining first: `abandon_returns`) -/
theorem abandon_terminates (c : Cfg) (s : State) (hc : s.main = .consuming) :
    enabled c s .cAbandon = true ∧
    (∀ s', s'.main = .fin → enabled c s' .mDone = true) ∧
    outcome (step c (step c s .cAbandon) .mDone) = .closed s.recv := by
  refine ⟨by simp [enabled, hc], ?_, by simp [step, outcome]⟩
  intro s' h; simp [enabled, h]

/-- stronger: in ANY `consuming` state the caller's own steps alone (`finishSeq`: give up, drain both queues, return) are a
possible schedule — no other thread has to move; afterwards no queue keeps a reference to an item or output, nothing is raised,
and the workers are as they were: those waiting on the in-queue stay parked (the real code leaves them as daemon processes until
the parent exits) -/
theorem abandon_returns (c : Cfg) (s : State) (hc : s.main = .consuming) :
    ∃ s', runTrace c s (finishSeq s) = some s' ∧ s'.main = .done ∧ s'.inq = [] ∧ s'.outq = []
      ∧ outcome s' = .closed s.recv ∧ s'.ws = s.ws ∧ (∀ w, enabled c s' (.wGet w) = false)
      ∧ (∀ w k, s.ws[w]? = some (.run k [] none) → mayTake c k = true → parked c s' w = true) := by
  rw [finishSeq, (Moves.cAbandon hc).run_cons, List.append_assoc, drainIn_all c _ _ rfl rfl, drainOut_all c _ _ rfl rfl,
    (Moves.mDone rfl).run_cons]
  refine ⟨_, rfl, rfl, rfl, rfl, rfl, rfl, ?_, ?_⟩
  · intro w
    simp only [enabled]
    split <;> simp
  · intro w k hw hk
    simp [parked, hw, hk]

/-- `commState` (a worker busy, both queues empty, the caller consuming) is such a state -/
example : commState.main = .consuming ∧ commState.inq.length = 0 ∧ (finishSeq commState).length = 2 := by decide

/-! ### maxtasksperchild -/

/-- with `maxtasksperchild = m > 0` no worker process has ever taken more than `m` items -/
theorem max_tasks_respected (c : Cfg) (hn : 0 < c.n) (hm : 0 < c.m) (s : State) (hr : Reachable c s)
    (w k : Nat) (p : List Nat) (e : Option Nat) (h : s.ws[w]? = some (.run k p e)) : k ≤ c.m :=
  (inv_reachable c hn s hr).maxk hm w k p e h

theorem max_tasks_inductive (c : Cfg) (s : State) (a : Action) (h : MaxK c s) (he : enabled c s a = true) : MaxK c (step c s a) :=
  (Moves.of_enabled he).maxk h

/-! ### the in-process path (`n_processes = 1`, `maxtasksperchild = 0`) -/

theorem inproc_exact (items : List ItemSpec) (h : ∀ x ∈ items, x.err = none) :
    inproc items = (items.flatMap (·.outs), none) := by
  induction items with
  | nil => rfl
  | cons y ys ih =>
    have hy := h y (by simp)
    have := ih (fun x hx => h x (by simp [hx]))
    simp [inproc, hy, this]

theorem inproc_error_surfaces (items : List ItemSpec) (x : ItemSpec) (hx : x ∈ items) (hxe : x.err ≠ none) :
    ∃ e, (inproc items).2 = some e ∧ e ∈ items.filterMap (·.err) := by
  induction items with
  | nil => simp at hx
  | cons y ys ih =>
    cases hy : y.err with
    | some e => exact ⟨e, by simp [inproc, hy], by simp [hy]⟩
    | none =>
      simp at hx
      rcases hx with hx | hx
      · subst hx; exact absurd hy hxe
      · obtain ⟨e, h1, h2⟩ := ih hx
        refine ⟨e, by simp [inproc, hy, h1], ?_⟩
        simp [hy] at h2 ⊢; exact h2

theorem inproc_never_duplicated (items : List ItemSpec) :
    (inproc items).1.Sublist (items.flatMap (·.outs)) := by
  induction items with
  | nil => simp [inproc]
  | cons y ys ih =>
    cases hy : y.err with
    | some e => simp [inproc, hy]
    | none =>
      simp only [inproc, hy, List.flatMap_cons]
      exact List.Sublist.append (List.Sublist.refl _) ih

/-! ### several calls on one Multiprocessor object -/

/-- every call starts from `init`, whatever the previous call left on the object … -/
theorem call_starts_fresh (o : Obj) (c : Cfg) : startCall o c = init c := rfl

/-- … so in a history of calls on one object the k-th call's outcome is its single-call outcome
(and every single-call theorem above applies to it) -/
theorem calls_independent (o : Obj) (calls : List (Cfg × List Action)) :
    runHistory o calls = singleCalls calls := by
  unfold runHistory
  induction calls generalizing o with
  | nil => rfl
  | cons p rest ih =>
    obtain ⟨c, tr⟩ := p
    simp only [runHistoryWith, singleCalls, call_starts_fresh]
    cases h : runTrace c (init c) tr with
    | none => rfl
    | some s => simp only [ih s.obj]

def staleObj : Obj := { nprocs := 0, excs := [0] }
def staleCfg : Cfg := { n := 1, m := 1, items := [{ id := 0, outs := [7], err := none }] }
def staleTrace : List Action :=
  [.wBegin 0, .mEvent, .loadTake, .loadPut, .wGet 0, .wPut 0, .wRetire 0, .wCallback 0, .cGet, .cGet, .mDone]

/-- the reset is necessary: in the variant that keeps `_exceptions` across calls (object left with error 0 by an
earlier call), a call on a stream for which the filter never raises ends by raising error 0, and the worker that
retired at maxtasksperchild is not replaced (the schedule below is not even possible from `init`) -/
theorem stale_exceptions_counterexample :
    (runTrace staleCfg (startCallStale staleObj staleCfg) staleTrace).map (fun s => (s.main, outcome s))
        = some (Phase.done, Outcome.raised 0 [7])
      ∧ allErrs staleCfg = [] ∧ runTrace staleCfg (init staleCfg) staleTrace = none := by decide

/-! ### put time-outs: an environment action that the current code never enables -/

/-- the code passes no timeout to `put` ⇒ the system extended by "a timed put gives up" has exactly the runs of the
base system, so nothing is ever dropped: every theorem above applies to `ReachableT` states -/
theorem no_timeouts_no_drops (c : Cfg) (h : c.timeouts = false) (s : State) (hr : ReachableT c s) : Reachable c s := by
  induction hr with
  | init => exact Reachable.init
  | @step s' a _ he ih =>
    cases a with
    | base a => exact Reachable.step ih he
    | putTimeout => simp [enabledT, h] at he

/-- the termination measure also decreases on the extra action -/
theorem variant_decreases_ext (c : Cfg) (s : State) (a : ActionT) (h : enabledT c s a = true) :
    mu c (stepT c s a) < mu c s := by
  cases a with
  | base a => exact variant_decreases c s a h
  | putTimeout =>
    simp only [enabledT, Bool.and_eq_true] at h
    cases hi : s.infl with
    | none => simp [hi] at h
    | some x =>
      simp only [stepT, hi, mu_def]
      simp
      omega

def toItems : List ItemSpec :=
  [{ id := 0, outs := [1], err := none }, { id := 1, outs := [2], err := none }, { id := 2, outs := [3], err := none }]
def toCfg : Cfg := { n := 1, m := 1, items := toItems, timeouts := true }
def toTrace : List ActionT :=
  [.base .loadTake, .base .loadPut, .base .loadTake, .base .loadPut, .base .loadTake, .putTimeout, .base .loadFinish,
   .base (.wBegin 0), .base .mEvent, .base (.wGet 0), .base (.wPut 0), .base (.wRetire 0), .base (.wCallback 0),
   .base (.wBegin 0), .base (.wGet 0), .base (.wPut 0), .base (.wRetire 0), .base (.wCallback 0), .base (.wBegin 0),
   .base .loadTake, .base .loadPut, .base (.wGet 0), .base (.wCallback 0), .base .cGet, .base .cGet, .base .cGet, .base .mDone]

/-- with time-outs on the loader's put (and `Full` swallowed) a call can return normally with an output missing -/
theorem timeouts_can_drop_counterexample :
    (runTraceT toCfg (init toCfg) toTrace).map (fun s => (s.main, outcome s)) = some (Phase.done, Outcome.ok [1, 2])
      ∧ allOuts toCfg = [1, 2, 3] := by decide

/-! ### CobaMultiprocessor around Multiprocessor -/

/-- the empty-input guard looks at the first element but hands the inner Multiprocessor a stream that still yields
everything, also when the input is a one-shot iterator; outputs and an early abandon pass through unchanged -/
theorem wrapper_preserves_outputs {α} (it : List α) (boot : Nat → Bool) (o : Outcome) (outs : List Nat) :
    wrapperInput it = it ∧
    (o = .ok outs → wrapOutcome boot o = .ok outs) ∧ (o = .closed outs → wrapOutcome boot o = .closed outs) :=
  ⟨wrapperInput_eq it, fun h => by subst h; rfl, fun h => by subst h; rfl⟩

/-- the wrapper's shortcut returns nothing exactly for the empty stream — whatever the items are (falsy, `None`, …) -/
theorem wrapper_guard {α} (it : List α) : wrapperSkips it = true ↔ it = [] := by
  cases it <;> simp [wrapperSkips, peekFirst]

/-- testing the first item against `None` instead drops a whole stream that starts with a `None` item -/
theorem wrapper_guard_counterexample :
    wrapperSkips [none, some 1, some 2] = false ∧ wrapperSkipsStale [none, some 1, some 2] = true := by decide

/-- an error `e` of the inner call is re-raised unchanged unless it is one the wrapper turns into `CobaExit` -/
theorem wrapper_error_translation (boot : Nat → Bool) (e : Nat) (outs : List Nat) :
    wrapOutcome boot (.raised e outs) = (if boot e then .exit e outs else .raised e outs) := rfl

/-- when none of the filter's own errors is of the translated kind (the fixed code: only the "bootstrapping phase"
RuntimeError of a missing `__main__` guard is), the wrapper changes no outcome of any reachable state -/
theorem wrapper_transparent (boot : Nat → Bool) (c : Cfg) (hn : 0 < c.n) (s : State) (hr : Reachable c s)
    (hb : ∀ e ∈ allErrs c, boot e = false) :
    wrapOutcome boot (outcome s) = (match outcome s with
      | .ok o => .ok o | .closed o => .closed o | .raised e o => .raised e o) := by
  cases ho : outcome s with
  | ok o => rfl
  | closed o => rfl
  | raised e o =>
    have := raised_genuine c hn s hr e o ho
    simp [wrapOutcome, hb e this]

/-- the guard must pass on the re-chained stream: passing the original one-shot iterator loses the first item -/
theorem wrapper_oneshot_counterexample :
    wrapperInput [1, 2, 3] = [1, 2, 3] ∧ wrapperInputStale [1, 2, 3] = [2, 3] := by decide

/-! ### independent steps commute (justifies the sleep-set reduction of the schedule enumeration) -/

/-- soundness of the table `indep` the schedule enumeration prunes with -/
theorem step_comm (c : Cfg) (s : State) (a b : Action) (hi : indep a b = true)
    (ha : enabled c s a = true) (hb : enabled c s b = true) :
    enabled c (step c s a) b = true ∧ enabled c (step c s b) a = true ∧ step c (step c s a) b = step c (step c s b) a := by
  simp only [indep, Bool.or_eq_true] at hi
  rcases hi with h | h
  · exact step_comm1 c s a b h ha hb
  · exact (step_comm1 c s b a h hb ha).symm

/-- hence schedules that differ only by swapping adjacent independent steps reach the same state (same outcome): it is
enough to enumerate one representative per equivalence class -/
theorem swap_adjacent (c : Cfg) (s : State) (a b : Action) (rest : List Action) (hi : indep a b = true)
    (ha : enabled c s a = true) (hb : enabled c s b = true) :
    runTrace c s (a :: b :: rest) = runTrace c s (b :: a :: rest) := by
  obtain ⟨h1, h2, h3⟩ := step_comm c s a b hi ha hb
  simp [runTrace, ha, hb, h1, h2, h3]

/-- a concrete instance; a worker's put and the caller's get share the out-queue and are not in `indep` -/
example : indep (.wPut 0) .loadPut = true ∧ enabled commCfg commState (.wPut 0) = true ∧ enabled commCfg commState .loadPut = true
      ∧ indep (.wPut 0) .cGet = false := step_comm_example'

/-! ### a larger independence table (`wPut`–`cGet`, `loadPut`–`wGet`) -/

/-- `indep2` = `indep` plus a worker's put with the caller's get and the loader's put with a worker's get: the two ends of one
queue, which commute because both being possible means the queue is not empty, resp. neither empty nor full -/
theorem step_comm2 (c : Cfg) (s : State) (a b : Action) (hi : indep2 a b = true)
    (ha : enabled c s a = true) (hb : enabled c s b = true) :
    enabled c (step c s a) b = true ∧ enabled c (step c s b) a = true ∧ step c (step c s a) b = step c (step c s b) a := by
  simp only [indep2, Bool.or_eq_true] at hi
  rcases hi with (h | h) | h
  · exact step_comm c s a b h ha hb
  · exact step_comm_extra c s a b h ha hb
  · exact (step_comm_extra c s b a h hb ha).symm

theorem swap_adjacent2 (c : Cfg) (s : State) (a b : Action) (rest : List Action) (hi : indep2 a b = true)
    (ha : enabled c s a = true) (hb : enabled c s b = true) :
    runTrace c s (a :: b :: rest) = runTrace c s (b :: a :: rest) := by
  obtain ⟨h1, h2, h3⟩ := step_comm2 c s a b hi ha hb
  simp [runTrace, ha, hb, h1, h2, h3]

/-- the two further pairs are in, two takers / two putters of one queue stay dependent -/
example : indep2 (.wPut 0) .cGet = true ∧ indep (.wPut 0) .cGet = false ∧ indep2 .loadPut (.wGet 1) = true ∧ indep2 (.wGet 0) (.wGet 1) = false
      ∧ indep2 (.wPut 0) (.wPut 1) = false := indep2_example'

/-! ### worker processes that die (exit code ≠ 0, `_main_err`) — `enabledF`/`stepF`, any finite number of faults:
a run in which none dies is a run of the base system -/

/-- without faults the extended system is the base system: every theorem above applies to it -/
theorem no_faults_refines (c : Cfg) (s : FState) (hr : ReachableF c 0 s) :
    Reachable c s.b ∧ s.mainErr = false ∧ s.crashed = [] ∧ s.skipped = false ∧ s.budget = 0 := by
  have hb : s.budget = 0 := Nat.le_zero.1 (budget_le c 0 s hr)
  obtain ⟨h1, h2, h3, h4⟩ := reachableF_no_crash c 0 s hr hb
  exact ⟨h1, h2, h3, h4, hb⟩

/-- a run in which no crash HAPPENED (the budget is untouched) is a run of the base system, whatever the budget was -/
theorem no_crash_refines (c : Cfg) (f : Nat) (s : FState) (hr : ReachableF c f s) (hb : s.budget = f) :
    Reachable c s.b ∧ s.mainErr = false ∧ s.crashed = [] ∧ s.skipped = false := reachableF_no_crash c f s hr hb

/-! ### with crashes: never hangs -/

/-- never hangs, with faults: the measure `muF` strictly decreases on EVERY step of the extended system (a crash included) … -/
theorem variant_decreases_faults (c : Cfg) (s : FState) (a : ActionF) (h : enabledF c s a = true) :
    muF c (stepF c s a) < muF c s := by
  cases a with
  | base a =>
    have hen := enF_base h
    have hb := variant_decreases c s.b a hen
    have key : mu c (stepF c s (.base a)).b ≤ mu c (step c s.b a) := by
      rcases stepF_base_cases c s a with ⟨_, e⟩ | ⟨w, _, _, e⟩ | ⟨rfl, e⟩ <;> rw [e]
      · exact Nat.le_refl _
      · exact Nat.le_refl _
      · exact mu_skip_consuming c s.b
    simp only [muF, stepF_base_budget]; omega
  | wCrash w =>
    -- the lineage's potential rises to that of an exited one (2) at most; the fault pays 3 from the budget
    obtain ⟨hbud, old, hws, _, e⟩ := en_wCrash h
    have := mu_ws (c := c) hws (.exited true none)
    rw [e]
    simp only [muF, wPot] at this ⊢; omega

/-- … so for every number of faults `f` and every schedule (crashes at any moment, of any lineage, before or after the caller woke up)
the run is finite, with an explicit bound -/
theorem terminates_faults (c : Cfg) (f : Nat) (tr : List ActionF) (s : FState) (h : runTraceF c (initF c f) tr = some s) :
    tr.length ≤ mu c (init c) + 3 * f := by
  have := run_bounded_of (enabledF c) (stepF c) (muF c) (runTraceF c) (fun _ => rfl) (fun _ _ _ => rfl)
    (variant_decreases_faults c) tr _ _ h
  simp only [muF, initF] at this; omega

/-- in its `finally` block the caller's last step is always possible, whatever has crashed -/
theorem fin_can_finish_faults (c : Cfg) (s : FState) (h : s.b.main = .fin) : enabledF c s (.base .mDone) = true := by
  simp [enabledF, enabled, h]

/-- never hangs, with crashes: in every reachable state of the extended system (any budget of crashes, any schedule) in which the
call has not returned, some step of the CODE is possible — not a further crash, not the caller giving up -/
theorem deadlock_free_faults (c : Cfg) (hn : 0 < c.n) (f : Nat) (s : FState) (hr : ReachableF c f s) (hnd : s.b.main ≠ .done) :
    ∃ a : Action, a ≠ .cAbandon ∧ enabledF c s (.base a) = true := by
  have hI := finv_reachable c hn f s hr
  obtain ⟨a, _, ha, hmv, hfin, _⟩ := progress c hn s.crashed hI.b hI.evF hnd
  refine ⟨a, ha, enF_lift hmv.sound.1 ?_⟩
  cases hs : s.skipped with
  | false => exact .inl rfl
  | true => exact .inr (hfin (hI.skip hs))

/-- with `terminates_faults`: every schedule with crashes is finite, and one the code cannot extend has finished the call -/
theorem reaches_done_faults (c : Cfg) (hn : 0 < c.n) (f : Nat) (tr : List ActionF) (s : FState)
    (h : runTraceF c (initF c f) tr = some s)
    (hstuck : ∀ a : Action, a ≠ .cAbandon → enabledF c s (.base a) = false) : s.b.main = .done :=
  done_of_stuck (deadlock_free_faults c hn f s (reachableF_of_run c f _ _ tr ReachableF.init h)) hstuck

/-- the same with the executable predicate the driver evaluates on every replayed killed-worker trace -/
theorem stuck_done_faults (c : Cfg) (hn : 0 < c.n) (f : Nat) (s : FState) (hr : ReachableF c f s)
    (hst : stuckF c s = true) : s.b.main = .done := by
  by_cases hnd : s.b.main = .done
  · exact hnd
  · obtain ⟨a, ha, he⟩ := deadlock_free_faults c hn f s hr hnd
    have hmem := mem_codeActions c s.b a (ws_len_reachableF c f s hr) ha (enF_base he)
    simp only [stuckF, List.all_eq_true] at hst
    have := hst a hmem
    rw [he] at this; cases this

/-! ### with crashes: nothing is delivered twice -/

/-- none duplicated, with crashes (also after errors / abandon): what the caller has been handed PLUS what dead processes held
never exceeds the multiset of outputs — so a crash can lose outputs but never makes one appear twice -/
theorem never_duplicated_faults (c : Cfg) (hn : 0 < c.n) (f : Nat) (s : FState) (hr : ReachableF c f s) (o : Nat) :
    s.b.recv.count o + s.lostOuts.count o ≤ (allOuts c).count o :=
  recv_count_le ((finv_reachable c hn f s hr).outF o)

/-- conservation with crashes: every copy of an output is with the caller, in a queue, pending in a process, in an item not yet
processed, drained — or was held by a process that died -/
theorem outputs_accounted_faults (c : Cfg) (hn : 0 < c.n) (f : Nat) (s : FState) (hr : ReachableF c f s) (o : Nat) :
    outTotal o s.b + s.lostOuts.count o = (allOuts c).count o := by
  rw [count_allOuts]; exact (finv_reachable c hn f s hr).outF o

/-! ### with crashes: what is lost -/

/- FULL statements (not provable: false for the code, recorded finding C08-F5):
   theorem exactly_once_faults_full  (f) (hr : ReachableF c f s) … : ∃ outs, outcome s.b = .ok outs ∧ outs.Perm (allOuts c)
   theorem error_surfaces_faults_full (f) (hr : ReachableF c f s) … : "outcome = ok ⇒ nothing lost"
   The callback of a process with exit code ≠ 0 records no error, so the item the process held is lost and the call returns normally. -/

/-- proved part: with the forced hypothesis "no fault happens" (`f = 0`) -/
theorem exactly_once_faults_partial (c : Cfg) (hn : 0 < c.n) (s : FState) (hr : ReachableF c 0 s) (hd : s.b.main = .done)
    (hab : s.b.abandoned = false) (hne : ∀ x ∈ c.items, x.err = none ∧ x.perr = none) :
    ∃ outs, outcome s.b = .ok outs ∧ outs.Perm (allOuts c) :=
  exactly_once c hn s.b (no_faults_refines c s hr).1 hd hab hne

theorem error_surfaces_faults_partial (c : Cfg) (hn : 0 < c.n) (s : FState) (hr : ReachableF c 0 s) (hd : s.b.main = .done)
    (hab : s.b.abandoned = false) (x : ItemSpec) (hx : x ∈ c.items) (hxe : x.err ≠ none ∨ x.perr ≠ none) :
    ∃ e outs, outcome s.b = .raised e outs ∧ e ∈ allErrs c :=
  error_surfaces c hn s.b (no_faults_refines c s hr).1 hd hab x hx hxe

/-- `exactly_once_faults_partial` as strong as it can be: the environment MAY crash processes (any budget `f`); if it did not in
this run, the complete multiset is delivered.  The hypothesis `s.budget = f` cannot be dropped (`exactly_once_faults_counterexample`);
without it not even "recv + lost = all" holds (`crash_strands_items_counterexample`). -/
theorem exactly_once_nocrash_partial (c : Cfg) (hn : 0 < c.n) (f : Nat) (s : FState) (hr : ReachableF c f s) (hb : s.budget = f)
    (hd : s.b.main = .done) (hab : s.b.abandoned = false) (hne : ∀ x ∈ c.items, x.err = none ∧ x.perr = none) :
    ∃ outs, outcome s.b = .ok outs ∧ outs.Perm (allOuts c) :=
  exactly_once c hn s.b (no_crash_refines c f s hr hb).1 hd hab hne

theorem error_surfaces_nocrash_partial (c : Cfg) (hn : 0 < c.n) (f : Nat) (s : FState) (hr : ReachableF c f s) (hb : s.budget = f)
    (hd : s.b.main = .done) (hab : s.b.abandoned = false) (x : ItemSpec) (hx : x ∈ c.items) (hxe : x.err ≠ none ∨ x.perr ≠ none) :
    ∃ e outs, outcome s.b = .raised e outs ∧ e ∈ allErrs c :=
  error_surfaces c hn s.b (no_crash_refines c f s hr hb).1 hd hab x hx hxe

def crashCfg : Cfg := { n := 2, m := 0, items := [{ id := 0, outs := [1], err := none }, { id := 1, outs := [2], err := none }] }
def crashTrace : List ActionF :=
  [.base .loadTake, .base .loadPut, .base .loadTake, .base .loadPut, .base .loadFinish, .base .loadTake, .base .loadPut, .base .loadTake, .base .loadPut,
   .base (.wBegin 0), .base .mEvent, .base (.wBegin 1), .base (.wGet 0), .wCrash 0, .base (.wCallback 0),
   .base (.wGet 1), .base (.wPut 1), .base (.wGet 1), .base (.wCallback 1), .base .cGet, .base .cGet, .base .drainIn, .base .mDone]

/-- the hypothesis is necessary: ONE crash (lineage 0 dies holding item 0) and the call ends normally with `[2]` of `[1, 2]`,
no error recorded — the schedule the harness replays on the real code (known finding C08-F5) -/
theorem exactly_once_faults_counterexample :
    (runTraceF crashCfg (initF crashCfg 1) crashTrace).map (fun s => (s.b.main, outcome s.b, s.lostOuts, s.mainErr))
      = some (Phase.done, Outcome.ok [2], [1], true) ∧ allOuts crashCfg = [1, 2] ∧ allErrs crashCfg = [] := by decide

def skipCfg : Cfg := { n := 2, m := 1, items := [{ id := 0, outs := [1], err := none }] }
def skipTrace : List ActionF :=
  [.base (.wBegin 0), .base .loadTake, .base .loadPut, .base (.wGet 0), .wCrash 0, .base (.wCallback 0), .base .mEvent, .base .mDone]

/-- a crash before the caller woke from `event.wait()`: `_main_err` is seen, no further process is started, the call returns `[]` -/
theorem crash_before_event_skips_counterexample :
    (runTraceF skipCfg (initF skipCfg 1) skipTrace).map (fun s => (s.b.main, outcome s.b, s.skipped, s.lostOuts, enabledF skipCfg s (.base (.wBegin 1))))
      = some (Phase.done, Outcome.ok [], true, [1], false) := by decide

def strandCfg : Cfg := { n := 1, m := 2, items := [{ id := 0, outs := [1], err := none }, { id := 1, outs := [2], err := none }] }
def strandTrace : List ActionF :=
  [.base (.wBegin 0), .base .mEvent, .base .loadTake, .base .loadPut, .base .loadTake, .base .loadPut, .base (.wGet 0), .wCrash 0,
   .base (.wCallback 0), .base .cGet, .base .drainIn, .base .mDone, .base .loadFinish]

/-- with ONE process a crash also strands what is still queued: n = 1, m = 2, two items, the process dies holding item 0 — the call returns
`[]` normally; output 1 was held by the dead process, output 2 was never produced (its item is drained from the in-queue), so
"delivered + held by dead processes" is strictly less than all outputs: `never_duplicated_faults` cannot be an equality -/
theorem crash_strands_items_counterexample :
    (runTraceF strandCfg (initF strandCfg 1) strandTrace).map
        (fun s => (s.b.main, outcome s.b, s.lostOuts, s.b.dropIn.length, stuckF strandCfg s))
      = some (Phase.done, Outcome.ok [], [1], 1, true) ∧ allOuts strandCfg = [1, 2] := by decide

/-- non-vacuity of `stuck_done_faults` / `deadlock_free_faults`: right after the crash of the only process the state is reachable, not
done, not stuck (the dead process' callback is the enabled step); the complete schedule ends stuck and done -/
example :
    (runTraceF strandCfg (initF strandCfg 1) (strandTrace.take 8)).map (fun s => (s.b.main, stuckF strandCfg s, enabledF strandCfg s (.base (.wCallback 0))))
      = some (Phase.consuming, false, true) := by decide

/-! ### with crashes: maxtasksperchild -/

/-- maxtasksperchild, for every schedule INCLUDING restarts after retirements, errors of other lineages and crashed processes:
no process incarnation has taken more than `m` items.  (`MaxK` is inductive on its own: `Moves.maxk`, no other invariant, no `0 < n`.) -/
theorem max_tasks_respected_faults (c : Cfg) (hm : 0 < c.m) (f : Nat) (s : FState) (hr : ReachableF c f s)
    (w k : Nat) (p : List Nat) (e : Option Nat) (h : s.b.ws[w]? = some (.run k p e)) : k ≤ c.m :=
  maxk_reachableF c f s hr w k p e h hm

/-! ### `read_wait=True` — `enabledR`/`stepR` (keys in the out-queue, processes that wait for the caller) -/

/-- every run with `read_wait` (either value of the flag) is, after erasing the key steps, a run of the base system: the base part of
every reachable state is `Reachable`.  Hence `exactly_once`, `ok_complete`, `never_duplicated`, `error_surfaces`, `raised_genuine`,
`max_tasks_respected` hold verbatim for `s.b` with `read_wait=True` (delaying a callback until the caller has read the key is one
of the schedules the base theorems already quantify over). -/
theorem readwait_refines (c : Cfg) (rw : Bool) (s : RState) (hr : ReachableR c rw s) : Reachable c s.b := by
  induction hr with
  | init => exact Reachable.init
  | @step s' a _ he ih =>
    cases a with
    | base a => exact Reachable.step ih (enR_base he)
    | wKey w => exact ih
    | cKey => simp only [stepR]; split <;> exact ih
    | drainKey => exact ih

/-- with `read_wait=False` no process ever waits for the caller -/
theorem no_readwait_no_keys (c : Cfg) (s : RState) (hr : ReachableR c false s) : s.keyPending = [] ∧ s.keyWait = [] := by
  induction hr with
  | init => exact ⟨rfl, rfl⟩
  | @step s' a _ he ih =>
    cases a with
    | base a => exact ih
    | wKey w => simp [enabledR, ih.1] at he
    | cKey => simp only [stepR]; split <;> simp [ih.1, ih.2]
    | drainKey => exact ih

/-- never hangs with `read_wait`: `muR` strictly decreases on every step (key steps included), for every schedule … -/
theorem variant_decreases_readwait (c : Cfg) (rw : Bool) (s : RState) (a : ActionR) (h : enabledR c s a = true) :
    muR c (stepR c rw s a) < muR c s := by
  cases a with
  | base a =>
    have hb := variant_decreases c s.b a (enR_base h)
    have hl := syncOut_len s.b.outq (step c s.b a).outq s.routq (Moves.of_enabled (enR_base h)).outq_len
    have hk : (stepR c rw s (.base a)).keyPending.length ≤ s.keyPending.length + 1 := by
      simp only [stepR]; split <;> simp
    -- the base step gains 6 units of `mu`; at most one key becomes pending (4) and the out-queue grows by at most one element (1)
    simp only [muR, stepR] at hk ⊢
    omega
  | wKey w =>
    simp only [enabledR] at h
    have hm : w ∈ s.keyPending := by simpa using h
    have := List.length_erase_of_mem hm
    have hp : 0 < s.keyPending.length := List.length_pos_of_mem hm
    simp only [muR, stepR]; simp; omega
  | cKey =>
    obtain ⟨_, w, rest, hq⟩ := en_cKey h
    have := List.length_filter_le (fun x => x != w) s.keyWait
    simp only [muR, stepR, hq]; simp; omega
  | drainKey =>
    obtain ⟨_, w, rest, hq⟩ := en_drainKey h
    simp only [muR, stepR, hq]; simp

/-- … so every schedule is finite, with an explicit bound -/
theorem terminates_readwait (c : Cfg) (rw : Bool) (tr : List ActionR) (s : RState) (h : runTraceR c rw (initR c) tr = some s) :
    tr.length ≤ 6 * mu c (init c) := by
  have := run_bounded_of (enabledR c) (stepR c rw) (muR c) (runTraceR c rw) (fun _ => rfl) (fun _ _ _ => rfl)
    (variant_decreases_readwait c rw) tr _ _ h
  simp only [muR, initR] at this; simp at this; omega

/-- the key layer's invariant (`RInv`): what `deadlock_free_readwait` needs to know of a process that waits for the caller -/
theorem readwait_inv (c : Cfg) (rw : Bool) (s : RState) (hr : ReachableR c rw s) :
    s.b.outq = s.routq.filterMap ROut.proj ∧ (s.b.active = true → ∀ w ∈ s.keyWait, ROut.key w ∈ s.routq) := by
  induction hr with
  | init => exact rinv_init c
  | step _ he ih => exact rinv_step c rw _ _ ih he

/-- never hangs with `read_wait`: as long as the call has not finished, some step other than "the caller gives up" is possible —
a process that waits for the caller has its key in the out-queue, and the caller can always take the head of that queue -/
theorem deadlock_free_readwait (c : Cfg) (hn : 0 < c.n) (rw : Bool) (s : RState) (hr : ReachableR c rw s) (hnd : s.b.main ≠ .done) :
    ∃ a, a ≠ ActionR.base .cAbandon ∧ enabledR c s a = true := by
  have hI := inv_reachable c hn s.b (readwait_refines c rw s hr)
  obtain ⟨a, _, hne, hmv, _, hout⟩ := progress c hn [] hI.toBInv (fun hm he => .inl (hI.ev hm he)) hnd
  by_cases hm : s.b.main = .consuming
  · exact keys_keep_progress (readwait_inv c rw s hr) hm hne hmv.sound.1
  · -- outside the loop the step is the caller's own or the start of lineage 0: no callback, nothing taken from the out-queue
    refine ⟨.base a, fun h => hne (ActionR.base.inj h), ?_⟩
    rcases hout hm nofun with rfl | rfl | rfl <;> exact enR_lift hmv.sound.1 nofun nofun

/-- with `terminates_readwait`: every schedule is finite and one that cannot be extended has finished the call (phase `done`),
where by `readwait_refines` + `exactly_once` / `error_surfaces` the outcome is the complete multiset, or the filter's error is raised -/
theorem reaches_done_readwait (c : Cfg) (hn : 0 < c.n) (rw : Bool) (s : RState) (hr : ReachableR c rw s)
    (hstuck : ∀ a, a ≠ ActionR.base .cAbandon → enabledR c s a = false) : s.b.main = .done :=
  done_of_stuck (deadlock_free_readwait c hn rw s hr) hstuck

/-- non-vacuity: n = 1, m = 1, one item, `read_wait=True`: after the worker wrote its key its callback has to wait (the base system
would allow it), and the complete schedule ends `ok [1]` with every key consumed -/
example :
    (runTraceR rwCfg true (initR rwCfg) rwTrace1).map (fun s => (s.routq, s.keyWait, enabledR rwCfg s (.base (.wCallback 0)), enabled rwCfg s.b (.wCallback 0)))
      = some ([ROut.val 1, ROut.key 0], [0], false, true)
    ∧ (runTraceR rwCfg true (initR rwCfg) (rwTrace1 ++ rwTrace2)).map (fun s => (s.b.main, outcome s.b, s.routq, s.keyPending, s.keyWait))
      = some (Phase.done, Outcome.ok [1], [], [], []) := readwait_example'

/-! ### crash × `read_wait` — `enabledRF`/`stepRF` (a process dies while it waits for the caller) -/

/-- never hangs (termination part): `muR` strictly decreases on every step of the combined system, the crash of a waiting process
included (it leaves `keyWait`), whatever the crash budget … -/
theorem variant_decreases_rf (c : Cfg) (rw : Bool) (s : RFState) (a : ActionRF) (h : enabledRF c s a = true) :
    muR c (stepRF c rw s a).r < muR c s.r := by
  cases a with
  | r a =>
    have hb := variant_decreases_readwait c rw s.r a (enRF_r h)
    have key : muR c (stepRF c rw s (.r a)).r ≤ muR c (stepR c rw s.r a) := by
      rcases stepRF_r_cases c rw s a with e | e | ⟨rfl, e⟩ <;> rw [e]
      · exact Nat.le_refl _
      · exact Nat.le_refl _
      · have := mu_skip_consuming c s.r.b
        rw [stepR_mEvent]
        simp only [muR]; omega
    omega
  | wCrashKey w =>
    obtain ⟨_, hmem, p, e, hws, est⟩ := en_wCrashKey rw h
    have hlt : (s.r.keyWait.filter (· != w)).length < s.r.keyWait.length :=
      List.length_filter_lt_length_iff_exists.2 ⟨w, hmem, by simp⟩
    have := mu_ws (c := c) hws (.exited true e)
    rw [est]
    simp only [muR, wPot] at this ⊢; omega

/-- … so every schedule with `read_wait` and any number of crashes of waiting processes has at most `6·mu(init)` steps -/
theorem terminates_rf (c : Cfg) (rw : Bool) (f : Nat) (tr : List ActionRF) (s : RFState)
    (h : runTraceRF c rw (initRF c f) tr = some s) : tr.length ≤ 6 * mu c (init c) := by
  have := run_bounded_of (enabledRF c) (stepRF c rw) (fun s => muR c s.r) (runTraceRF c rw) (fun _ => rfl) (fun _ _ _ => rfl)
    (variant_decreases_rf c rw) tr _ _ h
  simp [initRF, initR, muR] at this; omega

/-- a process that waits for the caller holds no output: conservation of every output survives its crash … -/
theorem outputs_conserved_rf (c : Cfg) (rw : Bool) (f : Nat) (s : RFState) (hr : ReachableRF c rw f s) (o : Nat) :
    outTotal o s.r.b = sumOver (fun x => x.outs.count o) c.items := by
  induction hr with
  | init => exact outTotal_init c o
  | step _ he ih => rw [outTotal_stepRF c rw _ _ o he, ih]

/-- … hence nothing is delivered twice, in every reachable state, with `read_wait` and crashes of waiting processes -/
theorem never_duplicated_rf (c : Cfg) (rw : Bool) (f : Nat) (s : RFState) (hr : ReachableRF c rw f s) (o : Nat) :
    s.r.b.recv.count o ≤ (allOuts c).count o :=
  recv_count_le (k := 0) (outputs_conserved_rf c rw f s hr o)

/-- non-vacuity: n = 1, m = 1, one item, `read_wait`: the process retires, writes its key and dies while waiting — its callback is
no longer held back, sets `_main_err`, does NOT replace the lineage (un-poisoned though it was), `_n_procs` = 0, the pill follows
the stale key; the caller reads the output, the key (`.set()` on an event nobody waits on), the pill: `ok [1]` -/
example :
    (runTraceRF rwCfg true (initRF rwCfg 1) (rfTrace.take (rwTrace1.length + 1))).map
        (fun s => (s.mainErr, s.r.keyWait, s.crashedK, enabledRF rwCfg s (.r (.base (.wCallback 0))))) = some (false, [], [0], true)
    ∧ (runTraceRF rwCfg true (initRF rwCfg 1) rfTrace).map (fun s => (s.mainErr, s.r.keyWait, s.r.b.nprocs, s.r.routq)) = some (true, [], 0, [])
    ∧ (runTraceRF rwCfg true (initRF rwCfg 1) rfTrace).map (fun s => (s.r.b.main, outcome s.r.b, s.budget)) = some (Phase.done, Outcome.ok [1], 0) := crash_keywait_example'

/-! ### translator obligations — `Generated/C08Callback.lean` is re-extracted from coba/pipes/multiprocessing.py (Python `ast`)
on every run; the model's steps are what the CURRENT source says (an edit of these expressions breaks one of these proofs) -/

open Coba.Generated.C08 in
theorem generated_cap (c : Cfg) : cap c = capFactor * c.n := rfl

open Coba.Generated.C08 in
theorem generated_init (c : Cfg) : (init c).nprocs = initProcs c.n := rfl

open Coba.Generated.C08 in
theorem generated_pills (c : Cfg) (s : State) : (step c s .loadFinish).todo = List.replicate (pillsWritten s.nprocs) none := rfl

open Coba.Generated.C08 in
theorem generated_callback (c : Cfg) (s : State) (w : Nat) (p : Bool) (e : Option Nat) (hw : s.ws[w]? = some (.exited p e)) :
    step c s (.wCallback w) =
      (if restartCond p (s.excs ++ e.toList).isEmpty true then { s with excs := s.excs ++ e.toList, ws := s.ws.set w .spawned }
       else { s with excs := s.excs ++ e.toList, ws := s.ws.set w .dead, nprocs := afterExit s.nprocs,
                     outq := if pillCond (afterExit s.nprocs) then s.outq ++ [none] else s.outq }) := by
  cases p <;> simp [step, hw, restartCond, afterExit, pillCond]

open Coba.Generated.C08 in
theorem generated_crash_no_restart : ∀ p b : Bool, restartCond p b false = false := by decide

open Coba.Generated.C08 in
theorem generated_consumes (c : Cfg) (s : FState) :
    (stepF c s (.base .mEvent)).b.main = (if consumes s.mainErr then Phase.consuming else Phase.fin) := by
  cases h : s.mainErr <;> simp [stepF, step, consumes, h]

/-! ### the read_wait protocol of `MyProcessLine` is the program `workerProgram`, and the R layer executes it

The `generated_*` obligations below tie `workerProgram`, `startRegisters`, `callerSets` to the CURRENT source
(`Generated/C08ReadWait.lean`, re-extracted on every run); the harness executes the real `start`/`run` (cases `rwproto`). -/

/-- `runLine` → `writeKey`: when the line of lineage `w` ends (pill, error, `Slice` exhausted) under read_wait, the process is at `writeKey`
and has NOT exited (its callback is blocked) -/
theorem readwait_program_line_end (c : Cfg) (s : RState) (a : Action) (w : Nat) (h : lineEnds s.b a = some w) :
    rwPc (stepR c true s (.base a)) w = 1 ∧ enabledR c (stepR c true s (.base a)) (.base (.wCallback w)) = false := by
  have hk : (stepR c true s (.base a)).keyPending = w :: s.keyPending := by simp [stepR, h]
  exact ⟨rwPc_eq_one.2 (by simp [hk]), by simp [enabledR, hk]⟩

/-- without a store (`read_wait=False`: `workerProgram false = [runLine]`) a base step never makes a process wait -/
theorem readwait_program_no_store (c : Cfg) (s : RState) (a : Action) :
    (stepR c false s (.base a)).keyPending = s.keyPending ∧ (stepR c false s (.base a)).keyWait = s.keyWait := by
  simp [stepR]

/-- `writeKey`: possible at once (the out queue is unbounded), the key goes BEHIND everything already in the out queue (so behind all
outputs of this process), the process is then in `waitCaller`, nothing else changes -/
theorem readwait_program_write_key (c : Cfg) (rw : Bool) (s : RState) (w : Nat) (h : rwPc s w = 1) :
    enabledR c s (.wKey w) = true ∧ (stepR c rw s (.wKey w)).routq = s.routq ++ [.key w]
    ∧ (stepR c rw s (.wKey w)).keyWait.contains w = true ∧ (stepR c rw s (.wKey w)).b = s.b := by
  have hp := rwPc_eq_one.1 h
  refine ⟨by simpa [enabledR] using hp, by simp [stepR], by simp [stepR], by simp [stepR]⟩

/-- as long as the program of `w` has not ended (pc ≠ 0) the process has not exited: `filter_finished_or_failed` cannot run for it -/
theorem readwait_program_blocks_exit (c : Cfg) (s : RState) (w : Nat) (h : rwPc s w ≠ 0) :
    enabledR c s (.base (.wCallback w)) = false := by
  rcases rwPc_ne_zero.1 h with h | h <;> simp only [enabledR, h, Bool.not_true, Bool.and_false, Bool.false_and]

/-- `waitCaller` returns only through the caller: no step other than `cKey` takes a lineage out of `keyWait` -/
theorem readwait_program_wait_released_by_caller (c : Cfg) (rw : Bool) (s : RState) (a : ActionR) (w : Nat)
    (ha : a ≠ .cKey) (hw : s.keyWait.contains w = true) : (stepR c rw s a).keyWait.contains w = true := by
  cases a with
  | base a => simpa [stepR] using hw
  | wKey w' => simp [stepR]; right; simpa using hw
  | cKey => exact absurd rfl ha
  | drainKey => simpa [stepR] using hw

/-- the caller's dispatch IS `callerSets`: a key at the head ⇒ `.set()` (step `cKey`), anything else ⇒ `yield` (step `cGet`) -/
theorem readwait_caller_dispatch (c : Cfg) (s : RState) :
    enabledR c s .cKey = (s.b.main == .consuming && callerSets true (isKeyHead s.routq))
    ∧ enabledR c s (.base .cGet) = (enabled c s.b .cGet && !callerSets true (isKeyHead s.routq)) := by
  simp [enabledR, callerSets]

/-- `read_waiters[i].set()` releases exactly the owner of the key, consumes the key, yields nothing -/
theorem readwait_caller_sets_owner (c : Cfg) (rw : Bool) (s : RState) (w : Nat) (rest : List ROut) (h : s.routq = .key w :: rest) :
    (stepR c rw s .cKey).routq = rest ∧ (stepR c rw s .cKey).keyWait.contains w = false ∧ (stepR c rw s .cKey).b.recv = s.b.recv
    ∧ ∀ w', w' ≠ w → (stepR c rw s .cKey).keyWait.contains w' = s.keyWait.contains w' := by
  refine ⟨by simp [stepR, h], by simp [stepR, h], by simp [stepR, h], ?_⟩
  intro w' hne
  simp [stepR, h, List.contains_eq_mem, List.mem_filter, hne]

/-- the hypotheses are satisfiable / the programs are what the comments say -/
example :
    (workerProgram true).map RWOp.code = [0, 1, 2] ∧ (workerProgram false).map RWOp.code = [0]
    ∧ rwPc { b := init rwCfg, routq := [], keyPending := [0], keyWait := [] } 0 = 1
    ∧ rwPc (stepR rwCfg true { b := init rwCfg, routq := [], keyPending := [0], keyWait := [] } (.wKey 0)) 0 = 2 :=
  readwait_program_example'

/-- translator obligations (source ↦ model): `MyProcessLine.run` is `workerProgram` … -/
theorem generated_worker_program (hasWait : Bool) :
    Coba.Generated.C08RW.workerProgramCodes hasWait = (workerProgram hasWait).map RWOp.code := by cases hasWait <;> rfl

/-- … `MyProcessLine.start` registers iff a store was handed in (also an EMPTY one), before the process is started, and removes the
store from the object that is pickled into the child … -/
theorem generated_start_registers (store nonEmpty : Bool) :
    Coba.Generated.C08RW.startRegisters store nonEmpty = startRegisters store nonEmpty
    ∧ Coba.Generated.C08RW.registersBeforeStart = true ∧ Coba.Generated.C08RW.storeRemoved = true := by
  cases store <;> cases nonEmpty <;> decide

/-- … and the caller's dispatch is `callerSets`, its key branch exactly `read_waiters[i].set()`, its else branch exactly `yield i` -/
theorem generated_caller_dispatch (rw isKey : Bool) :
    Coba.Generated.C08RW.callerSets rw isKey = callerSets rw isKey
    ∧ Coba.Generated.C08RW.callerKeyAction = 1 ∧ Coba.Generated.C08RW.callerElseYields = true := by
  cases rw <;> cases isKey <;> decide

/-! ### histories in which the calls on one object are ALIVE AT THE SAME TIME (read / read a sibling / abandon / read again) -/

/-- every joint run projects to a run of each call on its own: so every single-call theorem above holds for each of the calls,
whatever the sibling does -/
theorem overlapping_calls_project (c1 c2 : Cfg) (tr : List Action2) (s t : State × State) (h : runTrace2 c1 c2 s tr = some t) :
    runTrace c1 s.1 (proj1 tr) = some t.1 ∧ runTrace c2 s.2 (proj2 tr) = some t.2 := by
  induction tr generalizing s with
  | nil => simp [runTrace2] at h; subst h; simp [proj1, proj2, runTrace]
  | cons a as ih =>
    simp only [runTrace2] at h
    split at h
    · rename_i he
      have := ih _ h
      cases a with
      | first a => simp only [enabled2] at he; simpa [proj1, proj2, runTrace, he, step2] using this
      | second a => simp only [enabled2] at he; simpa [proj1, proj2, runTrace, he, step2] using this
    · exact absurd h (by simp)

theorem overlapping_calls_reachable (c1 c2 : Cfg) (s : State × State) (h : Reachable2 c1 c2 s) :
    Reachable c1 s.1 ∧ Reachable c2 s.2 := by
  induction h with
  | init => exact ⟨.init, .init⟩
  | step hr he ih =>
    rename_i s a
    cases a with
    | first a => exact ⟨.step ih.1 (by simpa [enabled2] using he), ih.2⟩
    | second a => exact ⟨ih.1, .step ih.2 (by simpa [enabled2] using he)⟩

/-- a step of one call neither enables nor disables a step of the other, and the two commute -/
theorem overlapping_calls_no_interference (c1 c2 : Cfg) (s : State × State) (a b : Action) :
    enabled2 c1 c2 (step2 c1 c2 s (.first a)) (.second b) = enabled2 c1 c2 s (.second b)
    ∧ enabled2 c1 c2 (step2 c1 c2 s (.second b)) (.first a) = enabled2 c1 c2 s (.first a)
    ∧ step2 c1 c2 (step2 c1 c2 s (.first a)) (.second b) = step2 c1 c2 (step2 c1 c2 s (.second b)) (.first a) := by
  simp [enabled2, step2]

/-- the sibling delivers every output exactly once, whatever the first call does meanwhile (runs, raises, is abandoned, is never read again) -/
theorem overlapping_calls_exactly_once (c1 c2 : Cfg) (hn : 0 < c2.n) (s : State × State) (hr : Reachable2 c1 c2 s)
    (hd : s.2.main = .done) (hab : s.2.abandoned = false) (hne : ∀ x ∈ c2.items, x.err = none ∧ x.perr = none) :
    ∃ outs, outcome s.2 = .ok outs ∧ outs.Perm (allOuts c2) :=
  exactly_once c2 hn s.2 (overlapping_calls_reachable c1 c2 s hr).2 hd hab hne

/-- never hangs: as long as one of the two calls has not returned, a step of the code (not "the caller gives up") is possible … -/
theorem overlapping_calls_deadlock_free (c1 c2 : Cfg) (hn1 : 0 < c1.n) (hn2 : 0 < c2.n) (s : State × State) (hr : Reachable2 c1 c2 s)
    (hnd : s.1.main ≠ .done ∨ s.2.main ≠ .done) :
    ∃ a, a ≠ Action2.first .cAbandon ∧ a ≠ Action2.second .cAbandon ∧ enabled2 c1 c2 s a = true := by
  have hr' := overlapping_calls_reachable c1 c2 s hr
  rcases hnd with h | h
  · obtain ⟨a, ha, he⟩ := deadlock_free c1 hn1 s.1 hr'.1 h
    exact ⟨.first a, by simpa using ha, by simp, by simpa [enabled2] using he⟩
  · obtain ⟨a, ha, he⟩ := deadlock_free c2 hn2 s.2 hr'.2 h
    exact ⟨.second a, by simp, by simpa using ha, by simpa [enabled2] using he⟩

/-- … and every joint schedule is finite: the sum of the two measures strictly decreases on every step -/
theorem overlapping_calls_variant (c1 c2 : Cfg) (s : State × State) (a : Action2) (h : enabled2 c1 c2 s a = true) :
    mu c1 (step2 c1 c2 s a).1 + mu c2 (step2 c1 c2 s a).2 < mu c1 s.1 + mu c2 s.2 := by
  cases a with
  | first a => have := variant_decreases c1 s.1 a (by simpa [enabled2] using h); simp only [step2]; omega
  | second a => have := variant_decreases c2 s.2 a (by simpa [enabled2] using h); simp only [step2]; omega

/-- the hypotheses are satisfiable: two one-item calls (n = 1, m = 1) alive together, the sibling is read first; both end `ok [1]` -/
example :
    (runTrace2 exOv exOv (init exOv, init exOv) exOvTrace).map (fun s => (outcome s.1, outcome s.2)) = some (.ok [1], .ok [1]) :=
  overlapping_calls_example'

/-! ### the hypotheses are satisfiable: complete schedules observed on the real code
(logged by the harness from `Multiprocessor.filter` under the controlled scheduler) -/

/-- fewer items than processes (n = 3, one item) -/
def exFew : Cfg := { n := 3, m := 0, items := [{ id := 0, outs := [7], err := none }] }
def exFewTrace : List Action := [.wBegin 0, .mEvent, .wBegin 2, .loadTake, .wBegin 1, .loadPut, .wGet 0, .wPut 0, .cGet, .loadFinish, .loadTake, .loadPut, .loadTake, .wGet 1, .wCallback 1, .loadPut, .loadTake, .wGet 2, .loadPut, .wCallback 2, .wGet 0, .wCallback 0, .cGet, .mDone]
example : (runTrace exFew (init exFew) exFewTrace).map outcome = some (.ok [7]) := by decide

/-- item count an exact multiple of maxtasksperchild (n = 2, m = 2, four items) -/
def exMult : Cfg := { n := 2, m := 2, items := [{ id := 0, outs := [1], err := none }, { id := 1, outs := [2], err := none }, { id := 2, outs := [3, 3], err := none }, { id := 3, outs := [4], err := none }] }
def exMultTrace : List Action := [.wBegin 0, .mEvent, .wBegin 1, .loadTake, .loadPut, .loadTake, .wGet 0, .wPut 0, .cGet, .loadPut, .loadTake, .wGet 0, .wPut 0, .wRetire 0, .cGet, .wCallback 0, .loadPut, .loadTake, .loadPut, .wGet 1, .wPut 1, .loadFinish, .loadTake, .cGet, .wBegin 0, .wGet 0, .wPut 0, .cGet, .loadPut, .loadTake, .wPut 1, .loadPut, .wGet 1, .wCallback 1, .wGet 0, .wCallback 0, .cGet, .cGet, .mDone]
example : (runTrace exMult (init exMult) exMultTrace).map outcome = some (.ok [1, 2, 3, 4, 3]) := by decide

/-- m = 1: every item is handled by a fresh process -/
def exOne : Cfg := { n := 1, m := 1, items := [{ id := 0, outs := [1], err := none }, { id := 1, outs := [2], err := none }] }
def exOneTrace : List Action := [.wBegin 0, .mEvent, .loadTake, .loadPut, .loadTake, .wGet 0, .loadPut, .wPut 0, .wRetire 0, .loadFinish, .loadTake, .loadPut, .cGet, .wCallback 0, .wBegin 0, .wGet 0, .wPut 0, .wRetire 0, .wCallback 0, .cGet, .wBegin 0, .wGet 0, .wCallback 0, .cGet, .mDone]
example : (runTrace exOne (init exOne) exOneTrace).map outcome = some (.ok [1, 2]) := by decide

/-- an item raises: the call raises that error (after delivering what was produced) -/
def exErr : Cfg := { n := 2, m := 1, items := [{ id := 0, outs := [1], err := some 0 }, { id := 1, outs := [2], err := none }, { id := 2, outs := [3], err := none }] }
def exErrTrace : List Action := [.wBegin 0, .mEvent, .wBegin 1, .loadTake, .loadPut, .loadTake, .wGet 0, .wPut 0, .wRaise 0, .loadPut, .loadTake, .wGet 1, .loadPut, .cGet, .loadFinish, .loadTake, .wPut 1, .wRetire 1, .wCallback 1, .wCallback 0, .wBegin 1, .wGet 1, .loadPut, .loadTake, .cGet, .wPut 1, .wRetire 1, .loadPut, .wCallback 1, .cGet, .cGet, .drainIn, .drainIn, .mDone]
example : (runTrace exErr (init exErr) exErrTrace).map outcome = some (.raised 0 [1, 2, 3]) := by decide

/-- the caller abandons after the first output -/
def exAb : Cfg := { n := 2, m := 0, items := [{ id := 0, outs := [1], err := none }, { id := 1, outs := [2], err := none }, { id := 2, outs := [3], err := none }] }
def exAbTrace : List Action := [.wBegin 0, .mEvent, .wBegin 1, .loadTake, .loadPut, .loadTake, .wGet 0, .wPut 0, .cGet, .cAbandon, .mDone]
example : (runTrace exAb (init exAb) exAbTrace).map outcome = some (.closed [1]) := by decide

end Coba.C08
