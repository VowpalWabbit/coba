/-
C09 — Ordering and selection filters keep exactly the interactions they promise.
The property theorems, each with its proof; the lemmas about the model's functions that several of them share are in
`Lemmas/C09.lean` (single filters), `Lemmas/C09Batch.lean` and `Lemmas/C09Pipes.lean`.  Everything is stated over an
arbitrary element type `α` (interactions are opaque) and arbitrary accessors.
-/
import CobaVerif.Lemmas.C09Batch
import CobaVerif.Lemmas.C09Pipes
import CobaVerif.Generated.C09Shortcuts

namespace Coba.C09

/-! ### Shuffle, Riffle: a permutation fully determined by the seed -/

/-- `pipes.Shuffle` returns a permutation of its input -/
theorem shuffle_perm {α} (s : Nat) (xs : List α) : (pShuffle s xs).Perm xs := pShuffle_perm s xs

/-- `environments.Shuffle` (plain or logged first interaction): a permutation of the input -/
theorem env_shuffle_perm {α} (isLogged : α → Bool) (sPlain sLogged : Nat) (xs : List α) :
    (eShuffle isLogged sPlain sLogged xs).Perm xs := eShuffle_perm isLogged sPlain sLogged xs

/-- determined by the seed: which rearrangement is applied depends on the seed state and the length only, never on
what the interactions contain.  (That equal seeds and inputs give equal outputs needs no theorem: the model is a function.) -/
theorem shuffle_det {α β} (f : α → β) (s : Nat) (xs : List α) :
    pShuffle s (xs.map f) = (pShuffle s xs).map f := pShuffle_map f s xs

/-- `Riffle(spacing, seed)` returns a permutation of its input -/
theorem riffle_perm {α} (spacing s : Nat) (xs : List α) : (riffle spacing s xs).Perm xs :=
  riffleLoop_perm _ _ _ _ _

theorem riffle_det {α β} (f : α → β) (spacing s : Nat) (xs : List α) :
    riffle spacing s (xs.map f) = (riffle spacing s xs).map f := riffle_map f spacing s xs

/-! ### Seeds of every kind -/

/-- for an `int`, integral `float`, or any other (`str`-normalised) seed: Shuffle, environment
Shuffle and Riffle return permutations -/
theorem seeded_perm {α} (isLogged : α → Bool) (sd lsd : Seed) (sp : Nat) (xs : List α) :
    (shuffleSeeded sd xs).Perm xs ∧ (eShuffleSeeded isLogged sd lsd xs).Perm xs ∧ (riffleSeeded sp sd xs).Perm xs :=
  ⟨pShuffle_perm _ xs, eShuffle_perm _ _ _ xs, riffleLoop_perm _ _ _ _ _⟩

/-- …and which rearrangement / sample they produce depends on the normalised seed and the length only; the same for
Reservoir with the float formulas -/
theorem seeded_det {α β} (f : α → β) (sd lsd : Seed) (xs : List α) :
    shuffleSeeded sd (xs.map f) = (shuffleSeeded sd xs).map f ∧
    (∀ sp, riffleSeeded sp sd (xs.map f) = (riffleSeeded sp sd xs).map f) ∧
    (∀ isLogged : β → Bool,
      eShuffleSeeded isLogged sd lsd (xs.map f) = (eShuffleSeeded (isLogged ∘ f) sd lsd xs).map f) ∧
    (∀ {R} (ops : FloatOps R) c strict nT,
      reservoirF ops c strict sd.norm nT (xs.map f) = (reservoirF ops c strict sd.norm nT xs).map (List.map f)) :=
  ⟨pShuffle_map f _ xs, fun sp => riffle_map f sp _ xs, fun il => eShuffle_map f il _ _ xs,
   fun ops c st nT => reservoirF_map f ops c st _ nT xs⟩

/-- integer seeds that agree modulo 2^30 are the same seed -/
theorem seed_int_congr (a b : Int) (h : a % (C05.M : Int) = b % (C05.M : Int)) :
    Seed.norm (.int a) = Seed.norm (.int b) := by
  simp [Seed.norm, C05.normInt, h]

/-! ### Sort: the stable ordering by the chosen context keys -/

/-- the order `sorted` establishes on key tuples is a total preorder -/
theorem key_order_total (a b : Key) : keyLe a b = true ∨ keyLe b a = true := keyLe_total a b
theorem key_order_trans (a b c : Key) (h1 : keyLe a b = true) (h2 : keyLe b c = true) :
    keyLe a c = true := keyLe_trans a b c h1 h2

/-- `Sort(*keys)` when every interaction has the chosen keys (`kf a` is the key tuple of `a`): it returns a
permutation, ordered by key tuple, and stable (the last conjunct) -/
theorem sort_stable_sorted_perm {α} (hasCtx : α → Bool) (ctx : α → Ctx) (keys : List Val)
    (kf : α → Key) (x : α) (xs : List α) (hc : hasCtx x = true)
    (hk : ∀ a ∈ x :: xs, sortKey keys (ctx x).isSparse (ctx a) = .ok (kf a)) :
    ∃ out, sortF hasCtx ctx keys (x :: xs) = .ok out ∧ out.Perm (x :: xs) ∧
      out.Pairwise (fun a b => keyLe (kf a) (kf b) = true) ∧
      (∀ a b, keyLe (kf a) (kf b) = true → [a, b].Sublist (x :: xs) → [a, b].Sublist out) :=
  ⟨_, sortF_eq_sortBy hasCtx ctx keys kf x xs hc hk, sortBy_spec keyLe kf keyLe_total keyLe_trans (x :: xs)⟩

/-- stability, the usual way: the interactions with key tuple `k` come out in their input order -/
theorem sort_stable_classes {α} (hasCtx : α → Bool) (ctx : α → Ctx) (keys : List Val)
    (kf : α → Key) (x : α) (xs : List α) (hc : hasCtx x = true)
    (hk : ∀ a ∈ x :: xs, sortKey keys (ctx x).isSparse (ctx a) = .ok (kf a)) (k : Key) :
    ∃ out, sortF hasCtx ctx keys (x :: xs) = .ok out ∧
      out.filter (fun a => decide (kf a = k)) = (x :: xs).filter (fun a => decide (kf a = k)) := by
  refine ⟨_, sortF_eq_sortBy hasCtx ctx keys kf x xs hc hk, ?_⟩
  apply sortBy_stable_class
  intro a b ha hb
  simp only [decide_eq_true_eq] at ha hb
  rw [ha, hb]
  exact keyLe_refl k

/-- whatever `Sort` returns, also on interactions without context (passed through) and on the empty input -/
theorem sort_perm {α} (hasCtx : α → Bool) (ctx : α → Ctx) (keys : List Val) (xs out : List α)
    (h : sortF hasCtx ctx keys xs = .ok out) : out.Perm xs := sortF_perm hasCtx ctx keys xs out h

theorem sort_no_context_passthrough {α} (hasCtx : α → Bool) (ctx : α → Ctx) (keys : List Val)
    (x : α) (xs : List α) (hc : hasCtx x = false) : sortF hasCtx ctx keys (x :: xs) = .ok (x :: xs) := by
  simp [sortF, hc]

/-- the hypotheses of `sort_stable_sorted_perm` are satisfiable: dense contexts sorted on index 0 -/
example : sortF (fun _ => true) (fun (n : Nat) => Ctx.dense [.num (3 - n), .str [97]]) [.num 0] [0, 1, 2]
    = .ok [2, 1, 0] := by decide +kernel

/-! ### Sort without keys on sparse contexts; missing keys -/

/-- with no keys a sparse context is ordered by the tuple of its key NAMES in insertion order
(`tuple(dict)`), not by its values -/
theorem sort_sparse_no_keys_order (b : Bool) (kvs : List (Val × Val)) :
    sortKey [] b (.sparse kvs) = .ok (kvs.map (·.1)) := rfl

/-- so interactions whose contexts carry the same names, whatever the values, come out in input
order: `Sort()` is the identity on them -/
theorem sort_sparse_no_keys_same_names {α} (hasCtx : α → Bool) (ctx : α → Ctx) (names : List Val)
    (x : α) (xs : List α) (hc : hasCtx x = true)
    (hn : ∀ a ∈ x :: xs, ∃ kvs, ctx a = .sparse kvs ∧ kvs.map (·.1) = names) :
    sortF hasCtx ctx [] (x :: xs) = .ok (x :: xs) := by
  have hk : ∀ a ∈ x :: xs, sortKey [] (ctx x).isSparse (ctx a) = .ok ((fun _ => names) a) := by
    intro a ha
    obtain ⟨kvs, h1, h2⟩ := hn a ha
    rw [h1, sort_sparse_no_keys_order, h2]
  rw [sortF_eq_sortBy hasCtx ctx [] (fun _ => names) x xs hc hk]
  congr 1
  unfold sortBy
  exact isort_all_le _ (fun _ _ => keyLe_refl names) _

/-- witness: contexts `{'a':3}, {'a':2}, {'a':1}` are left in that order -/
theorem sort_sparse_no_keys_ignores_values :
    sortF (fun _ => true) (fun (n : Nat) => Ctx.sparse [(.str [97], .num (3 - n))]) [] [0, 1, 2] = .ok [0, 1, 2] := by
  decide +kernel

/-- `Sort` never orders by a partial key: if it returns, every interaction had every chosen key -/
theorem sort_ok_all_keys_present {α} (hasCtx : α → Bool) (ctx : α → Ctx) (keys : List Val)
    (x : α) (xs out : List α) (hc : hasCtx x = true) (h : sortF hasCtx ctx keys (x :: xs) = .ok out) :
    ∀ a ∈ x :: xs, ∃ k, sortKey keys (ctx x).isSparse (ctx a) = .ok k := by
  obtain ⟨kf, hk, _⟩ := sortF_ok_inv hasCtx ctx keys x xs out hc h
  exact fun a ha => ⟨kf a, hk a ha⟩

/-- a key missing from a sparse context counts as 0 -/
theorem sort_sparse_missing_key_default (keys : List Val) (hk : keys ≠ []) (kvs : List (Val × Val)) :
    sortKey keys true (.sparse kvs)
      = .ok (keys.map (fun k => match lookupVal k kvs with | some v => v | none => .num 0)) := by
  cases keys with
  | nil => exact absurd rfl hk
  | cons k ks => rfl

/-- an index missing from a dense context raises `IndexError` -/
theorem sort_dense_missing_key_raises (k : Nat) (vs : List Val) (h : vs.length ≤ k) :
    sortKey [.num (k : Rat)] false (.dense vs) = .error .indexError := by
  simp only [sortKey, Bool.false_eq_true, ↓reduceIte, subscripts, subscript, Rat.den_natCast, Rat.num_natCast, pyIndex]
  have : vs[k]? = none := List.getElem?_eq_none (by omega)
  simp [this]

/-! ### Take, Slice -/

/-- `Take(count, strict)` is the prefix the property promises: every count (`None`, 0, more than the length), both modes -/
theorem take_spec {α} (count : Option Nat) (strict : Bool) (xs : List α) :
    take count strict xs = takeSpec count strict xs := take_eq_spec count strict xs

/-- non-strict: exactly the first `min n N` interactions -/
theorem take_prefix {α} (n : Nat) (xs : List α) :
    take (some n) false xs = xs.take n ∧ (take (some n) false xs).length = min n xs.length := by
  simp [take, List.length_take]

/-- strict: all `n` or nothing -/
theorem take_strict {α} (n : Nat) (xs : List α) :
    take (some n) true xs = (if n ≤ xs.length then xs.take n else []) ∧
    ((take (some n) true xs).length = n ∨ take (some n) true xs = []) := by
  rw [take_eq_spec]
  simp only [takeSpec, Bool.true_and, decide_eq_true_eq]
  by_cases h : xs.length < n
  · have : ¬ n ≤ xs.length := by omega
    simp [h, this]
  · have h' : n ≤ xs.length := by omega
    simp [h, h', List.length_take]

/-- `Slice(start, stop, step)` keeps exactly the interactions at the indices
`start ≤ i < stop`, `step ∣ i - start`, in order — all `start`/`stop` incl. `None`, all steps ≥ 1 -/
theorem slice_spec {α} (start stop : Option Nat) (step : Nat) (hstep : 0 < step) (xs : List α) :
    slice start stop step xs = sliceSpec start stop step xs := by
  unfold slice sliceSpec
  generalize start.getD 0 = a
  rw [every_eq_pick step hstep _ 0 a a rfl, pick_drop _ 0 a a (Nat.zero_add a).symm]
  cases stop with
  | none =>
    apply pick_congr; intro i _
    simp only [inSlice]
    cases decide (a ≤ i) <;> simp
  | some st =>
    simp only
    rw [pick_take _ 0 st st (Nat.zero_add st).symm]
    apply pick_congr; intro i _
    simp only [inSlice]
    cases decide (a ≤ i) <;> cases decide (i < st) <;> simp

example : slice (some 1) (some 6) 2 [10, 11, 12, 13, 14, 15, 16] = [11, 13, 15] := by decide

/-! ### Reservoir (for EVERY sequence of skip counts / slots the float code could produce) -/

/-- the sample has the promised size: `min(n,N)`; `None`: everything; strict: `n` or nothing -/
theorem reservoir_size {α} (count : Option Nat) (strict : Bool) (s : Nat) (steps : List Step)
    (xs out : List α) (h : reservoir count strict s steps xs = .ok out) :
    out.length = reservoirSize count strict xs.length := (reservoir_spec count strict s steps xs out h).2

/-- the sample is made of input interactions taken at *distinct positions*: it is a permutation
of a sublist of the input (`Subperm`) -/
theorem reservoir_sub {α} (count : Option Nat) (strict : Bool) (s : Nat) (steps : List Step)
    (xs out : List α) (h : reservoir count strict s steps xs = .ok out) : out.Subperm xs :=
  (reservoir_spec count strict s steps xs out h).1

/-- in particular: distinct interactions in, distinct interactions out (run it on positions) -/
theorem reservoir_positions_nodup {α} (count : Option Nat) (strict : Bool) (s : Nat) (steps : List Step)
    (xs out : List α) (h : reservoir count strict s steps xs = .ok out) (hn : xs.Nodup) : out.Nodup :=
  subperm_nodup (reservoir_sub count strict s steps xs out h) hn

/-- strict: exactly `n` or nothing -/
theorem reservoir_strict {α} (n s : Nat) (steps : List Step) (xs out : List α)
    (h : reservoir (some n) true s steps xs = .ok out) : out.length = n ∨ out = [] := by
  have := reservoir_size _ _ _ _ _ _ h
  simp only [reservoirSize, Bool.true_and, decide_eq_true_eq] at this
  split at this
  · exact .inr (List.length_eq_zero_iff.1 this)
  · exact .inl (by omega)

/-- no exception, provided no loop iteration's float computation raises (and the slots are inside
the reservoir); `steps` only has to be longer than the input.
The full statement (no hypothesis on the steps) is a statement about IEEE `log`/`pow` and is not
modelled: see notes/C09.md (`W` underflow). -/
theorem reservoir_total_partial {α} (count : Option Nat) (strict : Bool) (s : Nat) (steps : List Step)
    (xs : List α) (hs : ∀ n, count = some n → ∀ st ∈ steps, st.okFor n = true)
    (hl : xs.length < steps.length) : ∃ out, reservoir count strict s steps xs = .ok out :=
  (reservoir_ok_iff count strict s steps xs).2 (reservoirOk_of_okFor count steps _ hs hl)

/-- the hypothesis is necessary: an iteration that raises makes the filter raise (on the unfixed
code this is `Reservoir(2, seed=1022902634)`, whose 2nd uniform is exactly 0: finding C09-F1) -/
theorem reservoir_total_counterexample :
    reservoir (some 2) false 0 [.raise .zeroDivision] [1, 2, 3] = .error .zeroDivision := by
  decide +kernel

example : ∃ out, reservoir (some 2) false 5 [.skip 0 1, .skip 1 0, .skip 0 0, .skip 0 0, .skip 0 0, .skip 0 0]
    [1, 2, 3, 4, 5] = .ok out :=
  reservoir_total_partial _ _ _ _ _ (by intro n hn st hst; cases hn; revert st hst; decide) (by decide)

/-! ### Reservoir with the actual formulas -/

/-- `reservoir_total_partial` for the steps the float formulas compute from any stream of uniform triples, under
`FloatLaws`; only the triples that pass the loop's guard yield a step -/
theorem reservoir_total_any_uniforms {R α} (ops : FloatOps R) (U : R → Prop) (laws : FloatLaws ops U)
    (n : Nat) (strict : Bool) (s : Nat) (ts : List (Nat × Nat × Nat)) (xs : List α)
    (hts : ∀ t ∈ ts, t.1 < C05.M ∧ t.2.1 < C05.M ∧ t.2.2 < C05.M)
    (hl : xs.length < (ts.filter guardOk).length) :
    ∃ out, reservoir (some n) strict s (floatSteps ops n ops.one ts) xs = .ok out := by
  cases n with
  | zero => exact ⟨_, rfl⟩
  | succ n =>
    obtain ⟨h1, h2⟩ := floatSteps_ok ops U laws (n+1) (Nat.succ_pos n) ops.one (Or.inl rfl) ts hts
    apply reservoir_total_partial
    · intro m hm st hst
      cases hm
      exact h1 st hst
    · rw [h2]; exact hl

/-- under the stated laws of the arithmetic (`FloatLaws`: uniforms, powers, products and `1-W` stay strictly between
0 and 1, where `log` is defined and non-zero) `Reservoir` never raises: the loop's own guard removes zero uniforms, `W`
stays in (0,1), so `log(r2)/log(1-W)` is defined.  `nT` triples must outnumber the input (the code's stream is endless). -/
theorem reservoir_total_under_laws {R α} (ops : FloatOps R) (U : R → Prop) (laws : FloatLaws ops U)
    (count : Option Nat) (strict : Bool) (s nT : Nat) (xs : List α)
    (hl : ∀ n, count = some n → xs.length < ((triples (reservoirState count s xs) nT).filter guardOk).length) :
    ∃ out, reservoirF ops count strict s nT xs = .ok out := by
  cases count with
  | none => exact ⟨_, rfl⟩
  | some n => exact reservoir_total_any_uniforms ops U laws n strict s _ xs (triples_lt _ _) (hl n rfl)

/-- the laws are satisfiable (exact rational arithmetic, `U x := 0 < x < 1`) -/
theorem float_laws_satisfiable : FloatLaws ratOps (fun x : Rat => 0 < x ∧ x < 1) :=
  { unif := fun k h0 hM => ⟨div_pos (by exact_mod_cast h0) C05.MQ_pos, unif_lt_one k hM⟩
    pw_unit := fun r n hr _ => hr
    mul_one := fun p hp => by rw [show ratOps.mul ratOps.one p = 1 * p from rfl, one_mul]; exact hp
    mul_unit := fun w p hw hp => ⟨mul_pos hw.1 hp.1, mul_lt_one_of_nonneg_of_lt_one_left hw.1.le hw.2 hp.2.le⟩
    oneMinus_unit := fun w hw => ⟨sub_pos.2 hw.2, sub_lt_self 1 hw.1⟩
    pos_unit := fun r hr => decide_eq_true hr.1
    lg_ne_zero := fun r hr => decide_eq_false (sub_ne_zero.2 hr.2.ne)
    slot_lt := fun k n hk hn => by
      have h1 : (k : Rat) / (C05.M : Rat) * (n : Rat) < ((n : Int) : Rat) := by
        rw [Int.cast_natCast]; exact mul_lt_of_lt_one_left (by exact_mod_cast hn) (unif_lt_one k hk)
      have hf1 := Rat.floor_lt_iff.2 h1
      show ((k : Rat) / (C05.M : Rat) * (n : Rat)).floor.toNat < n
      omega }

/-- the law that IEEE doubles break is `oneMinus_unit`: once `W < 2^-53` the difference `1-W` is
1, its logarithm 0, and the loop raises `ZeroDivisionError` (two uniforms `2^-30` in a row with
count 1; the first skip alone is 1 073 741 819 items, which is why no real stream gets there) -/
theorem reservoir_underflow_counterexample :
    floatSteps roundingOps 1 roundingOps.one [(1, 5, 5), (1, 5, 5)]
      = [.skip 1073741819 0, .raise .zeroDivision] := by decide +kernel

/-! ### Reservoir raises exactly when the run-time check on lengths fails -/

/-- for every count, mode, seed state, step list and input: `Reservoir.filter` returns iff
`reservoirOk` (a Boolean computed from the steps and the input LENGTH only) holds.  This replaces the
universally quantified hypotheses of `reservoir_total_partial` / `reservoir_total_under_laws` by one
that the driver evaluates on the IEEE steps of every generated case (`runok`), and is an equivalence -/
theorem reservoir_total_iff_checked {α} (count : Option Nat) (strict : Bool) (s : Nat) (steps : List Step) (xs : List α) :
    (∃ out, reservoir count strict s steps xs = .ok out) ↔ reservoirOk count steps xs.length = true :=
  reservoir_ok_iff count strict s steps xs

/-- the same for the filter with the float formulas built in -/
theorem reservoirF_total_iff_checked {R α} (ops : FloatOps R) (n : Nat) (strict : Bool) (s nT : Nat) (xs : List α) :
    (∃ out, reservoirF ops (some n) strict s nT xs = .ok out) ↔
      reservoirOk (some n) (floatSteps ops n ops.one (triples (reservoirState (some n) s xs) nT)) xs.length = true := by
  simp only [reservoirF]
  exact reservoir_total_iff_checked (some n) strict s _ xs

example : reservoirOk (some 2) [.skip 0 1, .skip 1 0, .skip 5 0] 5 = true := by decide
/-- the check is necessary: the underflow run of `reservoir_underflow_counterexample` fails it -/
theorem reservoir_check_counterexample :
    reservoirOk (some 1) [.skip 3 0, .raise .zeroDivision] 10 = false ∧
    reservoir (some 1) false 0 [.skip 3 0, .raise .zeroDivision] (List.range 10) = .error .zeroDivision := by
  decide +kernel

/-! ### Where -/

/-- `Where`: the environment is passed through or dropped entirely according to the bounds on its number of
interactions and on the feature count of its first context; of its interactions those with action count within bounds
are kept.  A `Range` is two-sided, open at either end, or an exact value. -/
theorem where_spec {α} (fetLen : α → Nat) (nAct : α → Nat) (nInt nActB nFet : Range) (xs : List α) :
    whereF fetLen nAct nInt nActB nFet xs = whereSpec fetLen nAct nInt nActB nFet xs :=
  whereF_eq_spec' fetLen nAct nInt nActB nFet xs

/-- peeking `max+1` interactions decides both bounds exactly -/
theorem where_peek_exact (mn mx : Option Nat) (n : Nat) :
    inMinMax (min (peekCount (mn, mx)) (n + 1)) mn mx = inMinMax (n + 1) mn mx := peek_inMinMax mn mx n

/-- …whereas peeking `min+1` (the code before fix C09-F3) lets 10 interactions pass `(1,3)` -/
theorem where_min_first_counterexample :
    inMinMax (min (peekCountMinFirst (some 1, some 3)) 10) (some 1) (some 3) = true ∧
    inMinMax 10 (some 1) (some 3) = false := by decide

/-! ### Batch ∘ Unbatch, Cache, Chunk, Params, Identity: identities -/

/-- `Batch._batched` cuts the sequence into consecutive non-empty pieces of at most the batch size -/
theorem batch_chunks {α} (k : Nat) (hk : 0 < k) (xs : List α) :
    (chunks k xs).flatten = xs ∧ ∀ b ∈ chunks k xs, 0 < b.length ∧ b.length ≤ k :=
  ⟨chunks_flatten k hk xs, chunks_length_bounds k hk xs⟩

/- full statement (no hypothesis on the key sets):
   theorem batch_unbatch_id_full (size) (xs : List (Rec V)) : ∃ bs, batchF size xs = .ok bs ∧ unbatchF bs = xs
   is false: `Batch` takes the key set from the first interaction only — see the counterexamples. -/
/-- `Unbatch ∘ Batch size = id` for interactions of one kind (all carry the key list `ks`,
a non-empty dict), every batch size incl. 0/None -/
theorem batch_unbatch_id_partial {V} (size : Nat) (ks : List String) (hne : ks ≠ []) (xs : List (Rec V))
    (hu : uniformKeys ks xs) : ∃ bs, batchF size xs = .ok bs ∧ unbatchF bs = xs := by
  by_cases hs : size = 0
  · cases xs with
    | nil => exact ⟨[], rfl, rfl⟩
    | cons x xs => exact ⟨_, by rw [batchF, if_pos hs], unbatchF_plain _⟩
  · obtain ⟨bs, hb, hub, _⟩ := batchF_uniform size hs ks hne xs hu
    exact ⟨bs, hb, hub⟩

example : uniformKeys ["context", "actions"] [[("context", 1), ("actions", 2)], [("context", 3), ("actions", 4)]] :=
  ⟨by decide, by decide⟩

/-- the hypothesis is necessary: a key the first interaction lacks is silently dropped … -/
theorem batch_unbatch_id_counterexample :
    ∃ bs, batchF 2 [[("a", 1)], [("a", 2), ("b", 3)]] = .ok bs ∧ unbatchF bs = [[("a", 1)], [("a", 2)]] :=
  ⟨_, rfl, rfl⟩

/-- … and a key a later interaction lacks raises `KeyError` -/
theorem batch_unbatch_id_counterexample2 :
    batchF 2 [[("a", 1), ("b", 3)], [("a", 2)]] = (.error .keyError : Except Err (List (Batched Nat))) := rfl

/-- `Cache`: every read of one Cache object — first or later, after complete or abandoned reads —
delivers exactly the items (the first `k` of them when the caller stops after `k`) -/
theorem cache_identity {α} (nSlice : Nat) (items : List α) (reads : List (Option Nat)) :
    cacheRun nSlice items none reads = reads.map (readSpec items) :=
  cacheRun_spec nSlice items none trivial reads

/-- `Identity`, `Chunk`, `Params` return what they are given -/
theorem identities {α} (xs : List α) : identityF xs = xs := rfl

/-! ### BatchSafe -/

/-- `BatchSafe(F)` for every filter `F` on interactions: nothing in, nothing out; on un-batched input it is `F`; on
the output of `Batch(size)` (interactions of one kind) it is `Batch(min size N) ∘ F ∘ Unbatch`, an error of `F` passed on -/
theorem batchsafe_eq_plain {V} (F : List (Rec V) → Except Err (List (Rec V))) :
    (batchSafe (liftF F) [] = .ok []) ∧
    (∀ recs : List (Rec V), recs ≠ [] →
      batchSafe (liftF F) (recs.map .plain) = (match F recs with | .error e => .error e | .ok ys => .ok (ys.map .plain))) ∧
    (∀ (size : Nat) (ks : List String) (recs : List (Rec V)) (bs : List (Batched V)),
      0 < size → ks ≠ [] → recs ≠ [] → uniformKeys ks recs → batchF size recs = .ok bs →
      batchSafe (liftF F) bs = (match F recs with | .error e => .error e | .ok ys => batchF (min size recs.length) ys)) := by
  refine ⟨rfl, ?_, ?_⟩
  · intro recs hr
    cases recs with
    | nil => exact absurd rfl hr
    | cons r rest =>
      rw [List.map_cons, batchSafe_of_size_zero _ _ _ rfl, ← List.map_cons, liftF_plain]
      cases F (r :: rest) <;> rfl
  · intro size ks recs bs hs hne hr hu hb
    exact batchSafe_batched _ F (liftF_agrees F) size hs ks hne recs hr hu bs hb

example : batchSafe (liftF (fun recs : List (Rec Nat) => .ok (recs.take 1)))
    [.batch [("a", [1, 2]), ("b", [3, 4])], .batch [("a", [5]), ("b", [6])]] = .ok [.batch [("a", [1]), ("b", [3])]] := rfl

/-! ### BatchSafe on any sequence of batches (even or not), the falsy first batch -/

/-- whatever the batch boundaries of the input: if the first batch is non-empty, `BatchSafe(G)` is
`Batch(size of the FIRST batch) ∘ F ∘ Unbatch` (`G` = the inner filter, `F` what it does on
un-batched interactions) -/
theorem batchsafe_first_batch_size {V} (G : List (Batched V) → Except Err (List (Batched V)))
    (F : List (Rec V) → Except Err (List (Rec V))) (hG : agreesOnPlain G F)
    (k : String) (vs : List V) (cols : List (String × List V)) (rest : List (Batched V)) (hvs : vs ≠ []) :
    batchSafe G (.batch ((k, vs) :: cols) :: rest)
      = (match F (unbatchF (.batch ((k, vs) :: cols) :: rest)) with
         | .error e => .error e
         | .ok ys => batchF vs.length ys) :=
  batchSafe_agrees G F hG _ rest fun h => hvs (List.length_eq_zero_iff.1 h)

/-- `unbatch (BatchSafe(F) batches) = F (unbatch batches)` whenever `F`'s output is of one kind
(one key set) — any batch boundaries in the input -/
theorem batchsafe_unbatch {V} (G : List (Batched V) → Except Err (List (Batched V)))
    (F : List (Rec V) → Except Err (List (Rec V))) (hG : agreesOnPlain G F)
    (k : String) (vs : List V) (cols : List (String × List V)) (rest : List (Batched V)) (hvs : vs ≠ [])
    (ys : List (Rec V)) (hF : F (unbatchF (.batch ((k, vs) :: cols) :: rest)) = .ok ys)
    (ks : List String) (hne : ks ≠ []) (hu : uniformKeys ks ys) :
    ∃ out, batchSafe G (.batch ((k, vs) :: cols) :: rest) = .ok out ∧ unbatchF out = ys := by
  rw [batchsafe_first_batch_size G F hG k vs cols rest hvs, hF]
  exact batch_unbatch_id_partial vs.length ks hne ys hu

/-- in particular for the selection / ordering filters (output made of input interactions):
`unbatch (BatchSafe(F) (Batch(k) xs)) = F xs` -/
theorem batchsafe_selection {V} (G : List (Batched V) → Except Err (List (Batched V)))
    (F : List (Rec V) → Except Err (List (Rec V))) (hG : agreesOnPlain G F)
    (size : Nat) (hs : 0 < size) (ks : List String) (hne : ks ≠ []) (recs : List (Rec V)) (hr : recs ≠ [])
    (hu : uniformKeys ks recs) (bs : List (Batched V)) (hb : batchF size recs = .ok bs)
    (ys : List (Rec V)) (hF : F recs = .ok ys) (hsel : ∀ y ∈ ys, y ∈ recs) :
    ∃ out, batchSafe G bs = .ok out ∧ unbatchF out = ys := by
  rw [batchSafe_batched G F hG size hs ks hne recs hr hu bs hb, hF]
  exact batch_unbatch_id_partial _ ks hne ys ⟨hu.1, fun y hy => hu.2 y (hsel y hy)⟩

/-- the hypotheses are satisfiable: `Take(1)` on two batches of two -/
example : ∃ out, batchSafe (liftF (fun recs : List (Rec Nat) => .ok (recs.take 1)))
    [.batch [("a", [1, 2])], .batch [("a", [3, 4])]] = .ok out ∧ unbatchF out = [[("a", 1)]] :=
  batchsafe_selection _ _ (liftF_agrees _) 2 (by decide) ["a"] (by decide)
    [[("a", 1)], [("a", 2)], [("a", 3)], [("a", 4)]] (by decide) ⟨by decide, by decide⟩ _ rfl _ rfl (by decide)

/-- the quirk: a first interaction that is not batched or whose first value is an EMPTY batch makes
`batch_size` falsy — the inner filter is applied to the interactions as they are -/
theorem batchsafe_falsy_first {V} (G : List (Batched V) → Except Err (List (Batched V)))
    (first : Batched V) (rest : List (Batched V)) (h : firstBatchSize first = 0) :
    batchSafe G (first :: rest) = G (first :: rest) :=
  batchSafe_of_size_zero G first rest h

/-- …so with an empty first batch `Take(1)` takes one *batch* (the empty one): the un-batched result
is empty although `Take(1)` of the three interactions is not -/
theorem batchsafe_empty_first_batch_counterexample :
    batchSafe (fun xs : List (Batched Nat) => .ok (xs.take 1)) [emptyBatch ["a"], .batch [("a", [1, 2, 3])]]
      = .ok [emptyBatch ["a"]] ∧
    unbatchF [(emptyBatch ["a"] : Batched Nat)] = [] ∧
    (unbatchF [(emptyBatch ["a"] : Batched Nat), .batch [("a", [1, 2, 3])]]).take 1 = [[("a", 1)]] := ⟨rfl, rfl, rfl⟩

/-- uneven batches are regrouped by the size of the first one (C04-F7): `BatchSafe(Identity)` turns
batches of 2 and 5 into 2, 2, 2, 1 — same interactions, other boundaries -/
theorem batchsafe_uneven_regroups_counterexample :
    batchSafe (fun xs : List (Batched Nat) => .ok xs) [.batch [("a", [1, 2])], .batch [("a", [3, 4, 5, 6, 7])]]
      = .ok [.batch [("a", [1, 2])], .batch [("a", [3, 4])], .batch [("a", [5, 6])], .batch [("a", [7])]] := rfl

/-! ### Unbatch on arbitrary input -/

/-- nothing batched in the first interaction: everything is passed through untouched (also batches
that come later) -/
theorem unbatch_plain_first (first : CRec) (rest : List CRec)
    (h : first.find? (fun kv => kv.2.isBatch) = none) : unbatchG (first :: rest) = .ok (first :: rest) := by
  simp [unbatchG, h]

/- full statement (no hypothesis on the interactions):
   theorem unbatch_rows_full : unbatchG rs = .ok (rs.flatMap rows)   -- kept, ordered, row by row
   is false for mixed sequences: see the three counterexamples below. -/
/-- every interaction fully batched (all cells columns of one length, each interaction its own
size) and carrying the first batched key of the first: Unbatch delivers, interaction by interaction
and in order, the rows of the transposition -/
theorem unbatch_rows_partial (first : CRec) (rest : List CRec) (size : CRec → Nat) (bk : String) (c0 : Cell)
    (hfirst : first.find? (fun kv => kv.2.isBatch) = some (bk, c0))
    (h : ∀ r ∈ first :: rest, wfBatch r (size r) ∧ ∃ c, lookupCell bk r = some c) :
    unbatchG (first :: rest) = .ok ((first :: rest).flatMap (fun r => rowsSpec r (size r))) := by
  simp only [unbatchG, hfirst]
  exact unbatchAll_wf bk (first :: rest) size h

example : unbatchG [[("c", .col [.atom 1, .atom 2]), ("r", .col [.atom 5, .atom 6])], [("c", .col [.atom 3]), ("r", .col [.atom 7])]]
    = .ok [[("c", .val (.atom 1)), ("r", .val (.atom 5))], [("c", .val (.atom 2)), ("r", .val (.atom 6))], [("c", .val (.atom 3)), ("r", .val (.atom 7))]] := rfl

/-- excluded input 1: an un-batched interaction after a batched first one whose value under the
batched key is a sequence is cut into one "interaction" per element (and a sequence-valued cell
of a batched interaction is indexed too: `'xy'` becomes `'x'`, `'y'`) -/
theorem unbatch_mixed_counterexample :
    unbatchG [[("c", .col [.atom 1, .atom 2]), ("n", .val (.seq [.atom 7, .atom 8]))],
              [("c", .val (.seq [.atom 3, .atom 4, .atom 5])), ("n", .val (.atom 9))]]
      = .ok [[("c", .val (.atom 1)), ("n", .val (.atom 7))], [("c", .val (.atom 2)), ("n", .val (.atom 8))],
             [("c", .val (.atom 3)), ("n", .val (.atom 9))], [("c", .val (.atom 4)), ("n", .val (.atom 9))],
             [("c", .val (.atom 5)), ("n", .val (.atom 9))]] := rfl

/-- excluded input 2: …and raises `TypeError` when that value is a number (`len` is outside the `try`) -/
theorem unbatch_mixed_counterexample2 :
    unbatchG [[("c", .col [.atom 1])], [("c", .val (.atom 3))]] = .error .typeError := rfl

/-- excluded input 3: a batch after an un-batched first interaction is not unbatched at all -/
theorem unbatch_mixed_counterexample3 :
    unbatchG [[("c", .val (.atom 1))], [("c", .col [.atom 3, .atom 4])]]
      = .ok [[("c", .val (.atom 1))], [("c", .col [.atom 3, .atom 4])]] := rfl

/-! ### Collections of environments -/

/-- `Environments(env_0, env_1, …).<shortcut>()` gives every environment its own filter object: in any history of
(complete or abandoned) reads, environment `k` delivers what its reads deliver when it is alone with a fresh object -/
theorem collection_pointwise {σ E β} (f : Filt σ E β) (envs : Nat → E) (h : List (Nat × Option Nat)) (k : Nat) :
    ((runColl f envs (fun _ => f.init) h).filter (·.1 = k)).map (·.2)
      = runAlone f (envs k) f.init ((h.filter (·.1 = k)).map (·.2)) :=
  runColl_pointwise f envs (fun _ => f.init) h k

/-- hence `.cache()` / `.chunk()` on a collection: every read of environment `k` delivers
environment `k`'s own interactions (their first `c` when abandoned after `c`) -/
theorem collection_cache {α} (nSlice : Nat) (envs : Nat → List α) (h : List (Nat × Option Nat)) (k : Nat) :
    ((runColl (cacheFilt nSlice) envs (fun _ => none) h).filter (·.1 = k)).map (·.2)
      = ((h.filter (·.1 = k)).map (·.2)).map (readSpec (envs k)) := by
  rw [runColl_pointwise, runAlone_cacheFilt, cacheRun_spec nSlice (envs k) none trivial]

/-- and every stateless shortcut: each read of environment `k` is its own filter applied to its
own interactions -/
theorem collection_stateless {E α} (F : E → Except Err (List α)) (envs : Nat → E)
    (h : List (Nat × Option Nat)) (k : Nat) :
    ((runColl (statelessFilt F) envs (fun _ => ()) h).filter (·.1 = k)).map (·.2)
      = ((h.filter (·.1 = k)).map (·.2)).map (fun c => ((statelessFilt F).read () (envs k) c).2) := by
  rw [runColl_pointwise]
  exact runAlone_stateless F (envs k) _

/-- the freshness is necessary: ONE Cache object shared by two environments hands the first
environment's interactions to the second (the seeded mutant m3) -/
theorem collection_shared_cache_counterexample :
    runShared (cacheFilt 25) (fun k => if k = 0 then [1, 2] else [3]) none [(0, none), (1, none)]
      = [(0, [1, 2]), (1, [1, 2])] := by decide

/-! ### Several filters per shortcut: environments × filters -/

/-- `Environments.filter([f_0 … f_{m-1}])` on `n` environments: member `i*m + j` is environment `i`
behind filter `j` (the order the code produces) -/
theorem product_member_order (nEnv nFilt i j : Nat) (hi : i < nEnv) (hj : j < nFilt) :
    (productMembers nEnv nFilt)[i * nFilt + j]? = some (i, j) := by
  induction nEnv with
  | zero => omega
  | succ n ih =>
    rw [productMembers_succ]
    have hmul : i < n → i * nFilt + j < n * nFilt := fun h =>
      calc i * nFilt + j < (i + 1) * nFilt := by rw [Nat.succ_mul]; omega
        _ ≤ n * nFilt := Nat.mul_le_mul_right _ h
    by_cases h : i < n
    · rw [List.getElem?_append_left (by rw [productMembers_length]; exact hmul h)]
      exact ih h
    · obtain rfl : i = n := by omega
      rw [List.getElem?_append_right (by rw [productMembers_length]; omega), productMembers_length, Nat.add_sub_cancel_left,
        List.getElem?_map, List.getElem?_range hj]
      rfl

/-- `shuffle(seeds=…)` re-orders the members by seed with `sorted`, hence stably -/
theorem shuffle_member_order (seedOf : Nat → Nat) (nEnv nFilt : Nat) :
    (sortedMembers seedOf nEnv nFilt).Perm (productMembers nEnv nFilt) ∧
    (sortedMembers seedOf nEnv nFilt).Pairwise (fun a b => seedOf a.2 ≤ seedOf b.2) ∧
    (∀ a b, seedOf a.2 ≤ seedOf b.2 → [a, b].Sublist (productMembers nEnv nFilt) →
      [a, b].Sublist (sortedMembers seedOf nEnv nFilt)) := by
  have h := sortBy_spec (fun a b : Nat => decide (a ≤ b)) (fun m : Nat × Nat => seedOf m.2)
    (by intro a b; simp; omega) (by intro a b c; simp; omega) (productMembers nEnv nFilt)
  unfold sortedMembers
  refine ⟨h.1, ?_, ?_⟩
  · simpa using h.2.1
  · intro a b hab; exact h.2.2 a b (by simpa using hab)

/-- in any history of reads of the members, member `m = (i, j)` delivers filter `j` applied to
environment `i` alone (its first `k` interactions when the read is abandoned after `k`) -/
theorem collection_product {E Φ α} (apply : Φ → E → Except Err (List α)) (envs : Nat → E) (filters : Nat → Φ)
    (members : List (Nat × Nat)) (dflt : Nat × Nat) (h : List (Nat × Option Nat)) (m i j : Nat)
    (hm : members[m]? = some (i, j)) :
    ((runColl (statelessFilt (fun p : E × Φ => apply p.2 p.1)) (memberEnv envs filters members dflt) (fun _ => ()) h).filter (·.1 = m)).map (·.2)
      = ((h.filter (·.1 = m)).map (·.2)).map (fun c => match c with
          | none => apply (filters j) (envs i)
          | some k => match apply (filters j) (envs i) with | .ok l => .ok (l.take k) | .error e => .error e) := by
  rw [collection_stateless]
  simp only [statelessFilt, memberEnv, hm, Option.getD_some]
  congr 1

example : (productMembers 2 3)[1 * 3 + 2]? = some (1, 2) := product_member_order 2 3 1 2 (by decide) (by decide)
example : sortedMembers (fun j => [5, 1, 5].getD j 0) 2 3 = [(0, 1), (1, 1), (0, 0), (0, 2), (1, 0), (1, 2)] := by decide

/-! ### selecting filters behind a shared `.cache()` / `.chunk()` -/

/-- any history of reads of pipelines `cached environment → D_i` that share ONE Cache object, each read pulling
`need_i` items (`none`: all) from the cache and then abandoning its generator: read `i` delivers `D_i` of the first
`need_i` interactions, whatever was read, completed or abandoned before -/
theorem cached_pipeline_reads {α β} (nSlice : Nat) (items : List α) (reads : List (Option Nat × (List α → β))) :
    cachedRun nSlice items none reads = reads.map (fun r => r.2 (readSpec items r.1)) :=
  cachedRun_spec nSlice items none trivial reads

/-- hence, when every downstream filter only depends on the prefix it pulls, every read delivers
its own filter applied to ALL interactions of the environment -/
theorem cached_pipeline_exact {α β} (nSlice : Nat) (items : List α) (reads : List (Option Nat × (List α → β)))
    (hp : ∀ r ∈ reads, r.2 (readSpec items r.1) = r.2 items) :
    cachedRun nSlice items none reads = reads.map (fun r => r.2 items) := by
  rw [cached_pipeline_reads nSlice items reads]
  exact List.map_congr_left hp

/-- `Take(count, strict)` pulls `count` items and depends on nothing else -/
theorem take_need {α} (count : Option Nat) (strict : Bool) (items : List α) :
    take count strict (readSpec items (takeNeed count)) = take count strict items := by
  cases count with
  | none => rfl
  | some n => simp [take, readSpec, takeNeed, List.take_take]

/-- `Slice(start, stop, step)` pulls `stop` items and depends on nothing else -/
theorem slice_need {α} (start stop : Option Nat) (step : Nat) (items : List α) :
    slice start stop step (readSpec items (sliceNeed stop)) = slice start stop step items := by
  cases stop with
  | none => rfl
  | some n => simp [slice, readSpec, sliceNeed, List.take_take]

/-- the hypothesis of `cached_pipeline_exact` is met by a history mixing `take(3)` and complete reads -/
example : cachedRun 25 (List.range 60) none [(takeNeed (some 3), take (some 3) false), (none, identityF)]
    = [[0, 1, 2], List.range 60] := by decide

/-- the seeded change `self._iter = None` in a `finally:` (an abandoned read seals the partial cache): 25 of 60 on the
next read -/
theorem cache_sealing_counterexample :
    cacheRunSealing 25 (List.range 60) none [some 1, none] = [[0], List.range 25] := by decide

/-! ### random / ordering filters behind shared caches, several environments -/

/-- `cached_pipeline_reads` for several environments, each behind its own Cache object with any number of downstream
pipelines: every read delivers its filter on the first `need` interactions of ITS OWN environment, whatever was read of
this or any other environment before -/
theorem multi_cached_reads {α β} (nSlice : Nat) (envs : Nat → List α) (reads : List (Nat × Option Nat × (List α → β))) :
    multiCachedRun nSlice envs (fun _ => none) reads = reads.map (fun r => r.2.2 (readSpec (envs r.1) r.2.1)) :=
  multiCachedRun_spec nSlice envs (fun _ => none) (fun _ => trivial) reads

/-- whole-input branches (Shuffle / Sort / Reservoir: generators that materialise their input at the
first `next`; Riffle: materialises when the pipeline is read; Reservoir(0): never reads) behind the
shared caches, with the amount each read pulls computed by the model (`pullNeed`): every read in
every history delivers `branchSpec` — the filter on ALL interactions of its own environment, cut
after the `k` items the consumer took -/
theorem cached_random_branches {α} (nSlice : Nat) (envs : Nat → List α) (reads : List (BranchRead α)) :
    branchRun nSlice envs reads = reads.map (branchSpec envs) := by
  unfold branchRun
  rw [multiCachedRun_spec nSlice envs (fun _ => none) (fun _ => trivial), List.map_map]
  exact List.map_congr_left fun r _ => (branchSpec_eq_read envs r).symm

/-- in particular every COMPLETE read of such a branch delivers exactly the filter's result on the
environment's interactions — the same at every point of every history (so: determined by the seed),
errors of the filter (Sort on a missing key) included -/
theorem cached_random_complete_reads {α} (nSlice : Nat) (envs : Nat → List α) (reads : List (BranchRead α))
    (i : Nat) (hi : i < reads.length) (hk : reads[i].k = none) (hp : reads[i].pull ≠ .never) :
    (branchRun nSlice envs reads)[i]? = some (reads[i].F (envs reads[i].env)) := by
  rw [cached_random_branches, List.getElem?_map, List.getElem?_eq_getElem hi]
  simp only [Option.map_some, branchSpec, hk]
  cases hpl : reads[i].pull with
  | never => exact absurd hpl hp
  | eager => simp only [pullNeed, consume]; cases reads[i].F (envs reads[i].env) <;> rfl
  | onFirst => simp only [pullNeed, consume]; cases reads[i].F (envs reads[i].env) <;> rfl

/-- `Pull.never` is right for `Reservoir(0)`: its result does not depend on the input -/
theorem reservoir_zero_never_pulls {R α} (ops : FloatOps R) (strict : Bool) (s nT : Nat) (xs : List α) :
    reservoirF ops (some 0) strict s nT xs = .ok [] := rfl

/-- two environments (60 and 3 interactions, `Cache(25)`): `riffle` of env 0 abandoned at once, a shuffle of
env 1 never started, the same shuffle left after 2 items, then a complete read of the riffle — hypotheses of
`cached_random_complete_reads` met at index 3 -/
example : (branchRun 25 (fun e => if e = 0 then List.range 60 else [100, 101, 102])
      [⟨0, .eager, some 0, fun xs => .ok (riffleSeeded 3 (.int 1) xs)⟩,
       ⟨1, .onFirst, some 0, fun xs => .ok (shuffleSeeded (.int 5) xs)⟩,
       ⟨1, .onFirst, some 2, fun xs => .ok (shuffleSeeded (.int 5) xs)⟩,
       ⟨0, .eager, none, fun xs => .ok (riffleSeeded 3 (.int 1) xs)⟩])[3]?
    = some (.ok (riffleSeeded 3 (.int 1) (List.range 60))) :=
  cached_random_complete_reads _ _ _ 3 (by decide) rfl (by decide)

/-! ### pipelines of several filters (composition depth / position, nested `Pipes.join`) -/

/-- `Pipes.join` of already joined pipes, to any nesting depth: running the spliced filter list (what
`FiltersFilter.filter` / `SourceFilters.read` do) is running every argument as a unit, left to right -/
theorem join_nested_is_sequential {α : Type} (p : Pipe α) (xs : List α) : p.runFlat xs = p.run xs :=
  pipe_flat_eq_run' p xs

/-- position independence: in a pipeline `fs ++ gs` the filters `gs` see exactly what `fs` alone delivers and behave
as they would at the head of a pipeline (so the 2nd, 3rd … filter of a kind is the same function as the 1st) -/
theorem pipeline_append {R α : Type} (ops : FloatOps R) (A : Acc α) (nT : Nat) (fs gs : List FOp) (xs : List α) :
    pipeline ops A nT (fs ++ gs) xs =
      (match pipeline ops A nT fs xs with | .ok ys => pipeline ops A nT gs ys | .error e => .error e) := by
  rw [pipeline, List.map_append, chainF_append]
  rfl

/-- every pipeline of C09 filters (any arithmetic in Reservoir) that returns delivers input interactions taken at
distinct positions: a permutation of a sub-list of its input -/
theorem pipeline_keeps_inputs {R α : Type} (ops : FloatOps R) (A : Acc α) (nT : Nat) (fs : List FOp)
    (xs ys : List α) (h : pipeline ops A nT fs xs = .ok ys) : ys.Subperm xs :=
  pipeline_rel ops A nT (fun a b => a.Subperm b) (fun l => List.Subperm.refl l) (fun _ _ _ h1 h2 => h1.trans h2) fs
    (fun op _ => fop_subperm ops A nT op) xs ys h

/-- a pipeline of selecting filters only (Take, Slice, Where, Identity) keeps the input order -/
theorem pipeline_selecting_keeps_order {R α : Type} (ops : FloatOps R) (A : Acc α) (nT : Nat) (fs : List FOp)
    (hs : ∀ op ∈ fs, op.selecting = true) (xs ys : List α) (h : pipeline ops A nT fs xs = .ok ys) : ys.Sublist xs :=
  pipeline_rel ops A nT (fun a b => a.Sublist b) (fun l => List.Sublist.refl l) (fun _ _ _ h1 h2 => h1.trans h2) fs
    (fun op hop => fop_selecting_sublist ops A nT op (hs op hop)) xs ys h

/-- a pipeline of ordering filters only (Shuffle, Riffle, Sort, Identity) delivers a permutation of its input -/
theorem pipeline_ordering_perm {R α : Type} (ops : FloatOps R) (A : Acc α) (nT : Nat) (fs : List FOp)
    (hs : ∀ op ∈ fs, op.ordering = true) (xs ys : List α) (h : pipeline ops A nT fs xs = .ok ys) : ys.Perm xs :=
  pipeline_rel ops A nT (fun a b => a.Perm b) (fun l => List.Perm.refl l) (fun _ _ _ h1 h2 => h1.trans h2) fs
    (fun op hop => fop_ordering_perm ops A nT op (hs op hop)) xs ys h

/-- the 2nd Take: `take(a).take(b)` is `take(min a b)` -/
theorem take_take {R α : Type} (ops : FloatOps R) (A : Acc α) (nT : Nat) (a b : Nat) (xs : List α) :
    pipeline ops A nT [.take (some a) false, .take (some b) false] xs = pipeline ops A nT [.take (some (min a b)) false] xs := by
  show Except.ok ((xs.take a).take b) = Except.ok (xs.take (min a b))
  rw [List.take_take, Nat.min_comm]

/-- the hypotheses are satisfiable / the definitions compute: take(4) → slice(1,None,2) → strict take(2) on six interactions -/
example : pipeline ratOps (⟨fun _ => false, fun _ => false, fun _ => Ctx.none, fun _ => 0⟩ : Acc Nat) 12
    [.take (some 4) false, .slice (some 1) none 2, .take (some 2) true] [10, 11, 12, 13, 14, 15] = .ok [11, 13] := by decide
example : (Pipe.joined [.joined [.one (fun xs => .ok (xs.take 2))], .one (fun (xs : List Nat) => .ok xs.reverse)]).runFlat [1, 2, 3]
    = .ok [2, 1] := by decide
/-- `take_take` needs the non-strict mode: a strict `take(3)` after `take(2)` delivers nothing, the strict Take of the
minimum delivers two -/
theorem take_take_strict_counterexample :
    pipeline ratOps (⟨fun _ => false, fun _ => false, fun _ => Ctx.none, fun _ => 0⟩ : Acc Nat) 12
      [.take (some 2) false, .take (some 3) true] [0, 1, 2, 3] = .ok [] ∧
    pipeline ratOps (⟨fun _ => false, fun _ => false, fun _ => Ctx.none, fun _ => 0⟩ : Acc Nat) 12
      [.take (some 2) true] [0, 1, 2, 3] = .ok [0, 1] := by decide

/-! ### None of the filters alters the content of an interaction:
each one commutes with every function applied to the elements -/

theorem content_preserved {α β} (f : α → β) (xs : List α) :
    (∀ s, pShuffle s (xs.map f) = (pShuffle s xs).map f) ∧
    (∀ c strict, take c strict (xs.map f) = (take c strict xs).map f) ∧
    (∀ a b st, slice a b st (xs.map f) = (slice a b st xs).map f) ∧
    (∀ c strict s steps, reservoir c strict s steps (xs.map f) = (reservoir c strict s steps xs).map (List.map f)) ∧
    (∀ sp s, riffle sp s (xs.map f) = (riffle sp s xs).map f) ∧
    (∀ (fetLen nAct : β → Nat) nInt nActB nFet,
      whereF fetLen nAct nInt nActB nFet (xs.map f) = (whereF (fetLen ∘ f) (nAct ∘ f) nInt nActB nFet xs).map f) ∧
    (∀ {K} (le : K → K → Bool) (key : β → K), sortBy le key (xs.map f) = (sortBy le (key ∘ f) xs).map f) :=
  ⟨fun s => pShuffle_map f s xs, fun c st => take_map f c st xs, fun a b st => slice_map f a b st xs,
   fun c st s steps => reservoir_map f c st s steps xs, fun sp s => riffle_map f sp s xs,
   fun fl na ni nb nf => whereF_map' f fl na ni nb nf xs, fun le key => sortBy_map f le key xs⟩

/-- no pipeline of C09 filters alters the content of an interaction, and which interactions it keeps and where it puts
them depends on the attributes the filters read (`A`), the parameters and the positions only; exceptions included -/
theorem pipeline_content_preserved {R α β : Type} (ops : FloatOps R) (A : Acc β) (f : α → β) (nT : Nat) (fs : List FOp) (xs : List α) :
    pipeline ops A nT fs (xs.map f) =
      (pipeline ops ⟨A.isLogged ∘ f, A.hasCtx ∘ f, A.ctx ∘ f, A.nAct ∘ f⟩ nT fs xs).map (List.map f) := by
  induction fs generalizing xs with
  | nil => rfl
  | cons op fs ih =>
    simp only [pipeline, List.map_cons, chainF] at ih ⊢
    rw [fop_map]
    cases op.run ops ⟨A.isLogged ∘ f, A.hasCtx ∘ f, A.ctx ∘ f, A.nAct ∘ f⟩ nT xs with
    | error e => rfl
    | ok ys => exact ih ys

/-- Sort alone commutes with every relabelling as well -/
theorem sort_content_preserved {α β} (f : α → β) (hasCtx : β → Bool) (ctx : β → Ctx) (keys : List Val) (xs : List α) :
    sortF hasCtx ctx keys (xs.map f) = (sortF (hasCtx ∘ f) (ctx ∘ f) keys xs).map (List.map f) :=
  sortF_map f hasCtx ctx keys xs

/-! ### translator tie — the shortcut table of `Environments` -/

/-- the shortcut → filter-class(arguments) table and the constructor signatures extracted from the
current coba source are the ones the model assumes (a shortcut wired to another filter, with
swapped / dropped arguments or changed defaults breaks this obligation) -/
theorem shortcuts_wired_as_modelled :
    Coba.Generated.C09.extracted = true ∧ Coba.Generated.C09.shortcuts = shortcutTable
      ∧ Coba.Generated.C09.ctors = ctorTable := ⟨rfl, rfl, rfl⟩

/-- under that table every argument of a selecting / ordering shortcut reaches the constructor
parameter of its name: `take(n, strict)` is `Take(count := n, strict := strict)`, … -/
theorem shortcut_arguments_reach_their_parameters :
    let f := feeds Coba.Generated.C09.shortcuts Coba.Generated.C09.ctors
    f "take" "Take" "count" = some "$n_interactions" ∧ f "take" "Take" "strict" = some "$strict"
    ∧ f "slice" "Slice" "start" = some "$start" ∧ f "slice" "Slice" "stop" = some "$stop" ∧ f "slice" "Slice" "step" = some "$step"
    ∧ f "reservoir" "Reservoir" "count" = some "$n_interactions" ∧ f "reservoir" "Reservoir" "strict" = some "$strict"
    ∧ f "reservoir" "Reservoir" "seed" = some "each($seeds)"
    ∧ f "where" "Where" "n_interactions" = some "$n_interactions" ∧ f "where" "Where" "n_actions" = some "$n_actions"
    ∧ f "where" "Where" "n_features" = some "$n_features"
    ∧ f "riffle" "Riffle" "spacing" = some "$spacing" ∧ f "riffle" "Riffle" "seed" = some "$seed"
    ∧ f "shuffle" "Shuffle" "seed" = some "each($seeds)" ∧ f "sort" "Sort" "*keys" = some "*$keys"
    ∧ f "batch" "Batch" "batch_size" = some "$batch_size" ∧ f "cache" "Cache" "n_slice" = some "25"
    ∧ f "take" "Slice" "start" = none := by decide +kernel

/-! ### translator tie — the control flow of `Environments.shuffle` and `Environments.chunk` -/

/-- the statement lists extracted from the current source are the programs the model assumes -/
theorem shuffle_chunk_programs_as_modelled :
    Coba.Generated.C09.shuffleProgram = shuffleProgram ∧ Coba.Generated.C09.chunkProgram = chunkProgram := ⟨rfl, rfl⟩

/-- the EXTRACTED `shuffle` program, run by the model's interpreter, computes the model's seed list for
every call form: `n=k` → `range(k)` (`[1]` for 0), `seed=v`/`seeds=v` → `[v]` (0 stays 0), a list /
positional seeds → flattened one level, nothing → `[1]` -/
theorem shuffle_program_computes_seeds (c : ShuffleCall) :
    runShuffle c 20 Coba.Generated.C09.shuffleProgram none = some (shuffleSeeds c) :=
  shuffle_chunk_programs_as_modelled.1 ▸ runShuffle_model c

/-- the EXTRACTED `chunk` program appends `Chunk` and, iff `cache`, a `Cache` to every environment -/
theorem chunk_program_computes_filters (cache : Bool) :
    runChunk cache Coba.Generated.C09.chunkProgram = some (chunkFilters cache) :=
  shuffle_chunk_programs_as_modelled.2 ▸ runChunk_model cache

/-- `shuffle` always builds at least one Shuffle filter per environment -/
theorem shuffle_seeds_nonempty (c : ShuffleCall) : shuffleSeeds c ≠ [] := by
  cases c with
  | n k => cases k <;> simp [shuffleSeeds, List.range_succ]
  | kwInt v => simp [shuffleSeeds]
  | kwRow row => simp only [shuffleSeeds]; split <;> simp_all
  | args row => simp only [shuffleSeeds]; split <;> simp_all

/-- `chunk(cache)` is an identity on the interaction sequence for both values of `cache`, in every
history of complete and abandoned reads -/
theorem chunk_reads {α} (cache : Bool) (nSlice : Nat) (items : List α) (reads : List (Option Nat)) :
    chunkRun cache nSlice items reads = reads.map (readSpec items) := by
  cases cache
  · rfl
  · simp only [chunkRun, if_true]
    exact cache_identity nSlice items reads

example : runShuffle (.kwRow [.seq [4, 2], .num 3]) 20 shuffleProgram none = some [4, 2, 3] := runShuffle_model _
/-- an edit of the control flow is noticed: without the `[1]` default the program no longer computes the model's seeds -/
theorem shuffle_program_counterexample :
    runShuffle (.args []) 20 ((shuffleProgram.take 5) ++ (shuffleProgram.drop 7)) none = some [] ∧ shuffleSeeds (.args []) = [1] := by
  simp only [shuffleProgram, List.cons_append, List.nil_append, List.take_succ_cons, List.take_zero, List.drop_succ_cons,
    List.drop_zero, evalTest.eq_def, evalExpr.eq_def, String.reduceEq, ↓reduceIte, runShuffle_flat, runShuffle_seeds,
    runShuffle_if_else, runShuffle_if_last, runShuffle_tail, shuffleSeeds, flatRow, List.isEmpty_nil, and_self]

/-! ### translator tie — the statements of `FiltersFilter.__init__/filter`, `SourceFilters.__init__/read` and
`Environments.filter`, read off the current source on every run -/

/-- the extracted constructor bodies (the splice of already joined arguments, meaning `Pipe.filtersL`) and the body of
`Environments.filter` (meaning `productMembers`) are the statements the model assumes -/
theorem pipeline_code_as_modelled :
    Coba.Generated.C09.filtersFilterInit = joinInitProgram "self._filters" ∧
    Coba.Generated.C09.sourceFiltersInit = joinInitProgram "self._pipes" ∧
    Coba.Generated.C09.environmentsFilter = envFilterProgram := ⟨rfl, rfl, rfl⟩

/-- the EXTRACTED bodies of `FiltersFilter.filter` (argument `items`) and `SourceFilters.read`, run by the model's
interpreter, compute `chainF` of the pipe's filters for every filter list and every input.  (Proved on the extracted statements
themselves, so a renaming of the loop variable, or of the data variable of `read`, in the source keeps it provable; the
parameter name `items` of `filter` is part of the statement.  For the model's own copies of the two programs see
`runPipeProgram_filter_model'` / `runPipeProgram_read_model'`.) -/
theorem pipe_programs_compute_chain {α : Type} (fs : List (List α → Except Err (List α))) (input : List α) :
    runPipeProgram fs input Coba.Generated.C09.filtersFilterFilter [("items", .ok input)] = some (chainF fs input) ∧
    runPipeProgram fs input Coba.Generated.C09.sourceFiltersRead [] = some (chainF fs input) := by
  constructor <;>
    simp [runPipeProgram, Coba.Generated.C09.filtersFilterFilter, Coba.Generated.C09.sourceFiltersRead, loopFilters, List.lookup]

/-- an edit of the loop is noticed: a body that hands its argument back without the loop does not compute the pipeline -/
theorem pipe_program_counterexample :
    runPipeProgram [fun (xs : List Nat) => .ok (xs.take 1)] [0, 1] [(0, "return", "items", "")] [("items", .ok [0, 1])] = some (.ok [0, 1]) ∧
    chainF [fun (xs : List Nat) => .ok (xs.take 1)] [0, 1] = .ok [0] := by decide

end Coba.C09
