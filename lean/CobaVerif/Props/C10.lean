/-
C10 — Changing representation never changes which action earns which reward.
Property theorems (shared lemmas in `Lemmas/C10*.lean`: alignment, Python `==`, encodings, Densify; the model in `Model/C10.lean`).

Reading of the statement:  for an interaction `I` and its image `J` under a filter (chain),
`alignedB I J` says `[rewards'(a') for a' in actions'] = [rewards(a) for a in actions]` (a list
`rewards` is its own observable), the same for `feedbacks`, `actions'.index(action') =
actions.index(action)` for a logged action that is a member, and `reward`, `probability` unchanged.
`Cfg.fixed` is the code with the repairs `fixes/C10-*.diff` (committed in /repo); `Cfg.asIs` the pinned commit, before them.
-/
import CobaVerif.Lemmas.C10
import CobaVerif.Lemmas.C10PyEq
import CobaVerif.Lemmas.C10Batch
import CobaVerif.Lemmas.C10Encode
import CobaVerif.Lemmas.C10Densify
import CobaVerif.Generated.C10Consts
import CobaVerif.Generated.C10ReprModes
import CobaVerif.Generated.C10Options

namespace Coba.C10

/-! ### reward look-up -/

/-- `DiscreteReward(as, rs)(as[i]) = rs[i]` on an action *set* -/
theorem discrete_reward_lookup {as : List Val} {rs : List Rat} (d : Rat) (hd : Distinct as)
    {i : Nat} {a : Val} {x : Rat} (h : as[i]? = some a) (hx : rs[i]? = some x) :
    callRew (.discrete as rs d false) a = .ok x := callRew_discrete_of_distinct d hd h hx

/-- `[DiscreteReward(as, rs)(a) for a in as] = rs` -/
theorem discrete_reward_obs {as : List Val} {rs : List Rat} (d : Rat) (hd : Distinct as)
    (hl : as.length = rs.length) : obsOf (.discrete as rs d false) as = rs.map Except.ok := obsOf_discrete d hd hl

example : Distinct [catA, catB] := (distinctB_iff _).mp (by decide +kernel)

/-! ### the re-keying mechanisms -/

/-- Flatten / Sparsify / Densify / Noise / Repr's default branch:
`DiscreteReward(new_actions, [old(a) for a in old_actions])` -/
theorem rekey_generic_aligned {r r' : Rew} {old new : List Val} (h : genericRew r old new = .ok r')
    (hd : Distinct new) : obsEq (obsOf r old) (obsOf r' new) = true := genericRew_aligned h hd

/-- Repr's `BinaryReward` branch: the argmax is moved to the re-represented member -/
theorem repr_binary_aligned {am : Val} {v : Rat} {old new : List Val} {r' : Rew} {fd : Bool}
    (h : rekey (.reprStyle fd) (.binary am v) old new = .ok r')
    (hdo : Distinct old) (hdn : Distinct new) (hl : old.length = new.length) (hm : am ∈ old) :
    obsEq (obsOf (.binary am v) old) (obsOf r' new) = true := binary_remap_aligned h hdo hdn hl hm

/-- Finalize's `DiscreteReward(actions, list_of_rewards)` -/
theorem finalize_wrap_obs {b : Bool} {rs : List Rat} {old new : List Val} {r' : Rew}
    (h : rekey .wrapSeq (.seq b rs) old new = .ok r') (hd : Distinct new) (hl : old.length = new.length) :
    obsEq (obsOf (.seq b rs) old) (obsOf r' new) = true :=
  rekey_aligned (by simpa [targetHypB] using (distinctB_iff _).mpr hd) hl h

/-- every policy a filter can choose keeps the observable, under that policy's hypothesis -/
theorem rekey_policy_aligned {p : Policy} {r r' : Rew} {old new : List Val}
    (hh : targetHypB p (some r) old new = true) (hl : old.length = new.length)
    (h : rekey p r old new = .ok r') : obsEq (obsOf r old) (obsOf r' new) = true := rekey_aligned hh hl h

/-- the logged action stays the same member of the action set -/
theorem logged_action_index {old new : List Val} {a a' : Val} {k : Nat}
    (hh : loggedHypB old new (some a) (some a') = true) (hk : indexOf old a = some k) :
    indexOf new a' = some k := logged_index_kept hh hk

/-! ### one interaction, one filter, a chain -/

/-- the property for one interaction: `J`, what the plan `p` makes of `I`, is aligned with `I` (`alignedB`) whenever `p` meets `planHypB`
on `I`: as many new actions as old, for `rewards` and for `feedbacks` what the policy chosen needs (`targetHypB`: for an object the
plan keeps, that it gives the new actions what it gave the old), for the logged action `loggedHypB`; without actions, none afterwards
and both objects kept -/
theorem plan_aligned {I J : Inter} {p : Plan} (hh : planHypB I p = true) (h : applyPlan I p = .ok J) :
    alignedB I J = true := applyPlan_aligned hh h

/-- one step of a chain, on a batched stream or not: Batch and Unbatch hand the interactions on as they are, every other step is its
primitive filters (`expandStep`: three for Finalize) on the un-batched stream, aligned when each meets the plan hypotheses on the
stream it receives (`primsHypB`).  `hs`: the reward and feedback functions of the input answer for their own actions — the conclusion
itself where the interactions are handed on -/
theorem step_aligned (cfg : Cfg) (st : Step) {S S' : State}
    (hh : (match st with
           | .batch _ => true
           | .unbatch => true
           | _ => primsHypB cfg (expandStep st) S.stream) = true)
    (h : runStep cfg st S = .ok S') (hs : alignedStreamB S.stream S.stream = true) :
    alignedStreamB S.stream S'.stream = true := by
  cases st with
  | batch n => rw [runStep_batch_stream h]; exact hs
  | unbatch => simp only [runStep] at h; cases h; exact hs
  | _ => exact runPrims_aligned cfg _ hh (runStep_prims h nofun nofun) hs

/-- Repr, any pair of modes, as-is or repaired.  `primsHypB` asks per interaction that the encoding is injective on the
action set: `distinctB` of the new actions, the BinaryReward argmax a member, the logged action re-represented as its member -/
theorem repr_aligned (cfg : Cfg) (cc ca : Option Mode) {s s' : List Inter}
    (hh : primsHypB cfg [.repr cc ca] s = true) (h : runPrim cfg (.repr cc ca) s = .ok s')
    (hs : alignedStreamB s s = true) : alignedStreamB s s' = true := runPrim_aligned cfg _ hh h hs

/-- Flatten, as-is or repaired: aligned when the plan Flatten decides for each interaction meets `planHypB` on it (`primsHypB`) -/
theorem flatten_aligned (cfg : Cfg) {s s' : List Inter}
    (hh : primsHypB cfg [.flatten] s = true) (h : runPrim cfg .flatten s = .ok s')
    (hs : alignedStreamB s s = true) : alignedStreamB s s' = true := runPrim_aligned cfg _ hh h hs

/-- Densify, look-up or hashing (for *every* hash table): aligned unless two actions collide -/
theorem densify_aligned (cfg : Cfg) (n : Nat) (m : DMethod) (c a : Bool) {s s' : List Inter}
    (hh : primsHypB cfg [.densify n m c a] s = true) (h : runPrim cfg (.densify n m c a) s = .ok s')
    (hs : alignedStreamB s s = true) : alignedStreamB s s' = true := runPrim_aligned cfg _ hh h hs

/-- Noise on contexts/actions, for every noise function and every drawn value -/
theorem noise_actions_aligned (cfg : Cfg) (nc na : Option NoiseSpec) (drawn : List Rat) {s s' : List Inter}
    (hh : primsHypB cfg [.noise nc na drawn] s = true) (h : runPrim cfg (.noise nc na drawn) s = .ok s')
    (hs : alignedStreamB s s = true) : alignedStreamB s s' = true := runPrim_aligned cfg _ hh h hs

/-- Finalize = Harden, `Repr("onehot","onehot")`, the wrapping of list rewards (`expandStep`), as-is or repaired: aligned when each of
the three meets the plan hypotheses on the stream it receives (`primsHypB`) -/
theorem finalize_aligned (cfg : Cfg) {s s' : List Inter}
    (hh : primsHypB cfg (expandStep .finalize) s = true) (h : runPrims cfg (expandStep .finalize) s = .ok s')
    (hs : alignedStreamB s s = true) : alignedStreamB s s' = true := runPrims_aligned cfg _ hh h hs

/-- the property for a chain of filters, as-is or repaired: `chainHypB` (evaluated by the driver on every generated case)
asks that each step's encoding stays injective on each action set -/
theorem chain_aligned (cfg : Cfg) (chain : List Step) {S S' : State}
    (hh : chainHypB cfg chain S = true) (h : runChain cfg chain S = .ok S')
    (hs : alignedStreamB S.stream S.stream = true) :
    alignedStreamB S.stream S'.stream = true := by
  fun_induction runChain cfg chain S with
  | case1 => cases h; exact hs
  | case2 => cases h
  | case3 st rest S S1 hst ih =>
    simp only [chainHypB, hst, Bool.and_eq_true] at hh
    have h1 := step_aligned cfg st hh.1 hst hs
    exact alignedStreamB_trans h1 (ih hh.2 h (alignedStreamB_refl_right h1))

/-- non-vacuity: a two-filter chain on a categorical action set meets the hypotheses -/
example : chainHypB Cfg.fixed [.repr none (some .onehot), .sparsify true true] { stream := wRekey ++ wReprDiscrete } = true
    ∧ alignedStreamB (wRekey ++ wReprDiscrete) (wRekey ++ wReprDiscrete) = true := by decide +kernel

/-- the rewards / feedbacks interaction k comes out with are `rekeyOpt` of ONE policy applied to interaction k's own reward function, its own old
actions and its own new actions: the filter's first-interaction decisions choose the policy, nothing else is carried along the stream.
A per-stream memo of translated argmaxes (seeded change im1) is exactly what this excludes. -/
theorem rekey_local (cfg : Cfg) (st : Step) (s s' : List Inter) (h : runPrim cfg st s = .ok s') (k : Nat) (I : Inter) (hk : s[k]? = some I) :
    ∃ J pR pF, s'[k]? = some J ∧ rekeyOpt pR I.rewards I.actions J.actions = .ok J.rewards ∧
      rekeyOpt pF I.feedbacks I.actions J.actions = .ok J.feedbacks ∧ J.reward = I.reward ∧ J.probability = I.probability := by
  obtain ⟨ps, -, h⟩ := runPrim_ok h
  obtain ⟨p, J, _, h2, h3⟩ := applyPlans_local s ps s' h k I hk
  obtain ⟨r', f', hR, hF, rfl⟩ := applyPlan_ok h3
  exact ⟨_, p.polR, p.polF, h2, hR, hF, rfl, rfl⟩

/-! ### Python `==` -/

/-- `==` is reflexive on every value Python can build from numbers, strings, categoricals, lists, tuples and dicts -/
theorem pyEq_refl (a : Val) (h : wfNoLazy a = true) : pyEq a a = true := pyEq_refl_wf a h

/-- … and symmetric on the dense fragment (no dict, no SparseDense inside) -/
theorem pyEq_symm (a b : Val) (ha : denseOnly a = true) (hb : denseOnly b = true) : pyEq a b = pyEq b a :=
  pyEq_symm_wf' a b (wfNoLazy_of_denseOnly a ha) (wfNoLazy_of_denseOnly b hb)

/-- pigeonhole: `keys(d1) ⊆ keys(d2)` and `len(d1) == len(d2)` give equal key sets — what makes `dict.__eq__`, which only walks the
left operand, symmetric -/
theorem dict_keys_pigeonhole (l1 l2 : List String) (hu : uniqKeys l1 = true) (hs : ∀ k ∈ l1, k ∈ l2)
    (hl : l1.length = l2.length) : ∀ k ∈ l2, k ∈ l1 := uniq_subset_eq_length_superset l1 l2 hu hs hl

/-- `==` is symmetric on every value built from numbers, strings, categoricals, lists, tuples and dicts with unique keys
(nested to any depth) — with `pyEq_refl` and `pyEq_trans` Python's `==` is an equivalence relation on the lazy-free value domain -/
theorem pyEq_symm_wf (a b : Val) (ha : wfNoLazy a = true) (hb : wfNoLazy b = true) : pyEq a b = pyEq b a :=
  pyEq_symm_wf' a b ha hb

example : wfNoLazy (.dict [("a", catA), ("b", .dict [("x", .num 1), ("y", .num 2)])]) = true
    ∧ pyEq (.dict [("b", .dict [("y", .num 2), ("x", .num 1)]), ("a", .str "a")]) (.dict [("a", catA), ("b", .dict [("x", .num 1), ("y", .num 2)])]) = true := by decide +kernel

/-- unique keys are needed: with a repeated key the left-walking comparison is one-sided (`[("a",1),("a",1)]` finds all its entries in
`[("a",1),("b",2)]`, not the other way round); Python cannot build such a dict, `wfNoLazy` excludes it -/
theorem pyEq_symm_counterexample :
    pyEq (.dict [("a", .num 1), ("a", .num 1)]) (.dict [("a", .num 1), ("b", .num 2)]) = true
    ∧ pyEq (.dict [("a", .num 1), ("b", .num 2)]) (.dict [("a", .num 1), ("a", .num 1)]) = false := by decide +kernel

/-- `==` is transitive on every value built from numbers, strings, categoricals, lists, tuples and dicts with unique keys
(with `pyEq_refl`: a pre-order; with `pyEq_symm` an equivalence on the dense fragment) -/
theorem pyEq_trans (a b c : Val) (ha : wfNoLazy a = true) (hb : wfNoLazy b = true) (hc : wfNoLazy c = true)
    (h1 : pyEq a b = true) (h2 : pyEq b c = true) : pyEq a c = true := pyEq_trans_wf a b c ha hb hc h1 h2

example : wfNoLazy (.dict [("a", catA), ("b", .list [.num 1])]) = true
    ∧ pyEq (.dict [("a", catA), ("b", .list [.num 1])]) (.dict [("b", .list [.num 1]), ("a", .str "a")]) = true := by decide +kernel

/-- where Python's `==` stops being an equivalence inside coba's value domain: a SparseDense row equals both the list and the
tuple with its elements, which are different from each other (the other place is `nan != nan`, which the rational-valued model
and the generator exclude) -/
theorem pyEq_not_transitive_counterexample :
    pyEq wEqNotTrans.1 wEqNotTrans.2.1 = true ∧ pyEq wEqNotTrans.2.1 wEqNotTrans.2.2 = true ∧ pyEq wEqNotTrans.1 wEqNotTrans.2.2 = false := by
  decide +kernel

/-! ### `==` on SparseDense rows -/

/-- on well-formed rows (`wfRow`: lazy-free values, or a SparseDense with one entry per slot, slots below its
length, lazy-free stored values — what `Densify` builds) `==` gives the same answer in both operand orders: SparseDense against list, tuple,
SparseDense, and the freak comparisons against str / dict -/
theorem pyEq_symm_rows (a b : Val) (ha : wfRow a = true) (hb : wfRow b = true) : pyEq a b = pyEq b a := by
  rcases wfRow_cases ha with ⟨k1, n1, rfl, h1⟩ | h1 <;> rcases wfRow_cases hb with ⟨k2, n2, rfl, h2⟩ | h2
  · rw [Bool.eq_iff_iff, pyEq_lazy_lazy_iff k1 k2 n1 n2 h1, pyEq_lazy_lazy_iff k2 k1 n2 n1 h2]
    constructor
    · rintro ⟨hn, h⟩; subst hn
      exact ⟨rfl, fun i hi => by rw [pyEq_symm_wf' _ _ (lazyAt_wf h2 i) (lazyAt_wf h1 i)]; exact h i hi⟩
    · rintro ⟨hn, h⟩; subst hn
      exact ⟨rfl, fun i hi => by rw [pyEq_symm_wf' _ _ (lazyAt_wf h1 i) (lazyAt_wf h2 i)]; exact h i hi⟩
  · exact pyEq_lazy_comm k1 n1 b h1 h2
  · exact (pyEq_lazy_comm k2 n2 a h2 h1).symm
  · exact pyEq_symm_wf' a b h1 h2

example : wfRow (.lazy [(2, .num 5), (0, catA)] 3) = true
    ∧ pyEq (.lazy [(2, .num 5), (0, catA)] 3) (.tuple [.str "a", .num 0, .num 5]) = true
    ∧ pyEq (.tuple [.str "a", .num 0, .num 5]) (.lazy [(2, .num 5), (0, catA)] 3) = true := by decide +kernel

/-- two SparseDense rows are equal iff they have one length and are element-wise equal (stored value or implicit zero) -/
theorem sparsedense_eq_elementwise (k1 k2 : List (Nat × Val)) (n1 n2 : Nat) (h1 : lazyWf k1 n1 = true) :
    pyEq (.lazy k1 n1) (.lazy k2 n2) = true ↔ n2 = n1 ∧ ∀ i, i < n1 → pyEq (lazyAt k1 i) (lazyAt k2 i) = true :=
  pyEq_lazy_lazy_iff k1 k2 n1 n2 h1

/-! ### sets of actions without the built-in reflexivity -/

/-- `pyEq_refl` taken out of `distinctB`: for well-formed values (unique dict keys, no SparseDense) an action list is a set
as soon as its members are pairwise different -/
theorem distinct_of_pairwise_ne (as : List Val) (hwf : ∀ a ∈ as, wfNoLazy a = true) (h : pairwiseNeB as = true) :
    Distinct as := by
  intro i j a b hi hj
  have h2 := (all_pairs_iff as fun i j a b => i == j || !pyEq a b).mp h i j a b hi hj
  by_cases hij : i = j
  · subst hij
    rw [hi] at hj; cases hj
    simp [pyEq_refl_wf a (hwf a (List.mem_of_getElem? hi))]
  · rw [beq_eq_false_iff_ne.mpr hij]
    simpa [hij] using h2

example : Distinct [catA, catB] :=
  distinct_of_pairwise_ne _ (fun a ha => List.all_eq_true.mp (by decide +kernel : [catA, catB].all wfNoLazy = true) a ha) (by decide +kernel)

/-! ### injectivity of the categorical encodings -/

/-- one-hot tuples and strings compare exactly like the categoricals they encode -/
theorem categorical_encoding_injective {m : Mode} {s t : String} {ls : List String} {a b : Val}
    (ha : encodeValue m (.cat s ls) = .ok a) (hb : encodeValue m (.cat t ls) = .ok b) :
    pyEq a b = pyEq (.cat s ls) (.cat t ls) := encodeValue_pyEq ha hb

/-- a set of categorical actions over one level list stays a set under every mode of Repr -/
theorem repr_scalar_actions_distinct {m : Mode} {ls : List String} {rows enc : List Val}
    (hcat : ∀ r ∈ rows, ∃ s, r = Val.cat s ls) (h : mapM' (encodeValue m) rows = .ok enc)
    (hd : Distinct rows) : Distinct enc := by
  refine mapM'_distinct h (fun a b a' b' ha hb hfa hfb => ?_) hd
  obtain ⟨s, rfl⟩ := hcat a ha
  obtain ⟨t, rfl⟩ := hcat b hb
  exact encodeValue_pyEq hfa hfb

/-! ### injectivity of the encodings on row-valued actions (the hypotheses `distinctB new` of `chain_aligned`, discharged) -/

/-- Repr, any mode, on two dense rows (tuples or lists) of one shape whose categorical cells are at the
top level: the encoded rows compare exactly as the rows did -/
theorem repr_row_pyEq (m : Mode) (ns : List Nat) (first r1 r2 e1 e2 : Val) (hd : descending ns = true)
    (s1 : sameDenseCatShape ns first r1 = true) (s2 : sameDenseCatShape ns first r2 = true)
    (h1 : catset m (prepRow r1) (.l (ns.map CK.i)) = .ok e1) (h2 : catset m (prepRow r2) (.l (ns.map CK.i)) = .ok e2) :
    pyEq e1 e2 = pyEq r1 r2 := by
  -- rows that share the shape of `first` have their categoricals at the same places, over the same levels
  obtain ⟨k, fs, xs, rfl, rfl, lx, a1⟩ := sameDenseCatShape_inv s1
  obtain ⟨k', fs', ys, hf, rfl, ly, a2⟩ := sameDenseCatShape_inv s2
  obtain ⟨rfl, rfl⟩ := seqVal_inj hf
  rw [catset_flat_keys, prepRow_seqVal] at h1 h2
  obtain ⟨xs', ys', rfl, rfl, heq⟩ := encodeKeys_dense_pyEq m ns xs ys e1 e2 hd (lx.symm.trans ly)
    (fun n hn => sameCatAt_eucl (List.all_eq_true.mp a1 n hn) (List.all_eq_true.mp a2 n hn)) h1 h2
  rw [pyEq_seqVal]
  simp only [pyEq, heq]

/-- … hence `EncodeCatRows` keeps an action set of dense rows a set (explicit shape hypothesis `denseCatShapeB`) -/
theorem repr_dense_rows_distinct (m : Mode) (rows enc : List Val) (hs : denseCatShapeB rows = true)
    (h : encodeRows (some m) rows = .ok enc) (hd : Distinct rows) : Distinct enc := by
  cases rows with
  | nil => cases h; exact hd
  | cons first rest =>
    obtain ⟨n, ns, hk, hdesc, hrows⟩ := denseCatShapeB_inv hs
    obtain ⟨k, fs, _, rfl, -⟩ := sameDenseCatShape_inv (hrows first (List.mem_cons_self ..))
    rw [encodeRows_seq m k fs rest n ns hk] at h
    exact mapM'_distinct h (fun a b a' b' ha hb hfa hfb =>
      repr_row_pyEq m (n :: ns) _ a b a' b' hdesc (hrows a ha) (hrows b hb) hfa hfb) hd

/-- Flatten on two rows of one nesting shape: the flat rows compare exactly as the nested ones -/
theorem flatten_row_pyEq (flags : List Bool) (xs ys o1 o2 : List Val) (hf : flags.length = xs.length)
    (hl : xs.length = ys.length) (hs : sameNestShape flags xs ys = true)
    (h1 : flatterList flags xs = .ok o1) (h2 : flatterList flags ys = .ok o2) :
    pyEqL o1 o2 = pyEqL xs ys ∧ o1.length = o2.length := by
  -- the cases of `sameNestShape` are the cases of the three lengths
  fun_induction sameNestShape flags xs ys generalizing o1 o2 with
  | case1 xs ys =>
    obtain rfl := List.eq_nil_of_length_eq_zero hf.symm
    obtain rfl := List.eq_nil_of_length_eq_zero hl.symm
    cases h1; cases h2; exact ⟨rfl, rfl⟩
  | case2 => simp [flatterList] at h1 h2; subst h1; subst h2; exact ⟨rfl, rfl⟩
  | case3 f fs x xs y ys ih =>
    rw [Bool.and_eq_true] at hs
    simp only [flatterList] at h1 h2
    cases hr1 : flatterList fs xs with
    | error e => simp [hr1] at h1
    | ok r1 =>
      cases hr2 : flatterList fs ys with
      | error e => simp [hr2] at h2
      | ok r2 =>
        simp only [hr1, hr2] at h1 h2
        obtain ⟨ih1, ihl⟩ := ih r1 r2 (Nat.succ.inj hf) (Nat.succ.inj hl) hs.2 hr1 hr2
        cases f with
        | false =>
          simp at h1 h2
          subst h1; subst h2
          simp [pyEqL_cons, ih1, ihl]
        | true =>
          obtain ⟨k, a, b, rfl, rfl, hab⟩ := sameCell_inv hs.1
          simp only [if_true, iterItems_seqVal, Except.ok.injEq] at h1 h2
          subst h1; subst h2
          simp [pyEqL_append a b r1 r2 hab, pyEqL_cons, pyEq_seqVal, ih1, ihl, hab]
  | case4 => cases hs

/-- … hence `pipes.Flatten` keeps an action set of equally shaped dense rows a set -/
theorem flatten_dense_rows_distinct (rows enc : List Val) (hs : flattenShapeB rows = true)
    (h : flattenRows rows = .ok enc) (hd : Distinct rows) : Distinct enc := by
  cases rows with
  | nil => cases h; exact hd
  | cons first rest =>
    obtain ⟨k, fs, rfl, hrows⟩ := flattenShapeB_inv hs
    rw [flattenRows_seq] at h
    by_cases hany : (fs.map isFlattable).any id = true
    · simp only [hany, Bool.not_true, Bool.false_eq_true, if_false] at h
      refine mapM'_distinct h (fun a b a' b' ha hb hfa hfb => ?_) hd
      obtain ⟨xs, rfl, hlx, hsx⟩ := hrows a ha
      obtain ⟨ys, rfl, hly, hsy⟩ := hrows b hb
      obtain ⟨o1, ho1, rfl⟩ := flattenRow_seq_ok hfa
      obtain ⟨o2, ho2, rfl⟩ := flattenRow_seq_ok hfb
      rw [pyEq_seqVal, pyEq_seqVal, (flatten_row_pyEq _ xs ys o1 o2 (by simp [hlx]) (hlx.trans hly.symm)
        (sameNestShape_eucl _ fs xs ys hsx hsy hlx hly) ho1 ho2).1]
    · simp only [hany, Bool.not_false, if_true] at h
      cases h; exact hd

/-- the shape hypothesis is needed: `((1,),(2,3))` and `((1,2),(3,))` are two actions with one flattening -/
theorem flatten_shape_counterexample :
    distinctB wFlattenShape = true ∧ flattenShapeB wFlattenShape = false ∧
    (match flattenRows wFlattenShape with | .ok enc => distinctB enc | .error _ => true) = false := by decide +kernel

/-! ### Noise on numeric actions: an injective noiser keeps a set a set -/

/-- an affine noiser with non-zero slope is injective on numeric actions -/
theorem noise_affine_injective (m b : Rat) (hm : m ≠ 0) (orc : List Rat) (x y : Rat) (a' b' : Val) (o1 o2 : List Rat)
    (h1 : noises (some (.affine m b)) orc (.num x) = .ok (o1, a')) (h2 : noises (some (.affine m b)) orc (.num y) = .ok (o2, b')) :
    pyEq a' b' = pyEq (.num x) (.num y) := by
  simp [noises, denseItems, noise1] at h1 h2
  obtain ⟨_, rfl⟩ := h1
  obtain ⟨_, rfl⟩ := h2
  simp [pyEq, affine_injective m b x y hm]

/-- Noise with an injective noiser (affine, slope ≠ 0) keeps a set of numeric actions a set, whatever the generator state -/
theorem noise_affine_nums_distinct (m b : Rat) (hm : m ≠ 0) (orc o' : List Rat) (xs : List Rat) (out : List Val)
    (h : noisesList (some (.affine m b)) orc (xs.map Val.num) = .ok (o', out)) (hd : Distinct (xs.map Val.num)) :
    Distinct out := by
  rw [noisesList_affine_nums] at h
  cases h
  exact distinct_nums_map (fun x => x * m + b) (fun x y => affine_injective m b x y hm) xs hd

example : (match noisesList (some (.affine 2 1)) [] ([1, 2, 3].map Val.num) with
            | .ok (_, out) => Val.sameL out [.num 3, .num 5, .num 7]
            | .error _ => false) = true
    ∧ distinctB ([1, 2, 3].map Val.num) = true := by decide +kernel

/-- an injective noiser keeps every set of numbers a set (no noise, or affine with non-zero slope), for every generator state -/
theorem noise_injective_nums_distinct (na : Option NoiseSpec) (hinj : injNoiser na = true) (orc o' : List Rat) (as out : List Val)
    (hnum : as.all isNum = true) (hd : Distinct as) (h : noisesList na orc as = .ok (o', out)) : Distinct out := by
  cases na with
  | none => rw [noisesList_none] at h; cases h; exact hd
  | some ns =>
    cases ns with
    | drawn => simp [injNoiser] at hinj
    | affine m b =>
      have hm : m ≠ 0 := by simpa [injNoiser] using hinj
      obtain ⟨xs, rfl⟩ := nums_of_all_isNum as hnum
      exact noise_affine_nums_distinct m b hm orc o' xs out h hd

/-- Noise re-keys by position, but the positions are looked up through the noisy actions: a noiser that
merges two actions (slope 0) breaks the alignment — the distinctness hypothesis is necessary -/
theorem noise_collision_counterexample :
    keepsAligned Cfg.fixed [.noise none (some (.affine 0 5)) []] wRekey = false := by decide +kernel

/-! ### Densify: distinct slots give distinct SparseDense rows -/

/-- `_make_dense` is, for every method and every state of the filter object, "put value v at slot(k)" for the slot function of the
table the object ends up with (keys keep their slots while the table grows) -/
theorem densify_rows_are_slot_rows (m : DMethod) (n : Nat) (st st' : DState) (as as' : List Val)
    (h : makeDenseList m n st as = .ok (st', as')) : as' = as.map (denseOf (tableOf m st') n) :=
  (makeDenseList_stage h).built _ (TableLe.refl _)

/-- a slot function that is injective on the keys of two sparse rows (unique keys,
no stored zero), all slots below `n_feats`, gives dense rows that compare exactly as the sparse rows did -/
theorem densify_lookup_injective (slot : String → Nat) (n : Nat) (d1 d2 : List (String × Val))
    (w1 : sparseRowWf d1 = true) (w2 : sparseRowWf d2 = true)
    (hlt : ∀ k ∈ d1.map (·.1) ++ d2.map (·.1), slot k < n)
    (hinj : ∀ k ∈ d1.map (·.1) ++ d2.map (·.1), ∀ k' ∈ d1.map (·.1) ++ d2.map (·.1), slot k = slot k' → k = k') :
    pyEq (.lazy (entsAcc slot d1 []) n) (.lazy (entsAcc slot d2 []) n) = pyEq (.dict d1) (.dict d2) :=
  densify_rows_pyEq slot n d1 d2 w1 w2 hlt hinj

/-- … hence Densify (look-up or hashing, any state of the object) keeps an action set of sparse rows a set as soon as the table gives
the keys of that set pairwise different slots below `n_feats` -/
theorem densify_actions_distinct (m : DMethod) (n : Nat) (st st' : DState) (as as' : List Val)
    (hrun : makeDenseList m n st as = .ok (st', as')) (hrows : sparseRowsB as = true)
    (hslots : slotsInjB (tableOf m st') (keysOfVals as) n = true) (hd : Distinct as) : Distinct as' := by
  rw [densify_rows_are_slot_rows m n st st' as as' hrun]
  exact denseOf_map_distinct _ n as hrows hslots hd

/-- Densify(hashing) genuinely fails when crc32 sends two keys to one slot: the two sparse actions become the same dense
row and the second earns the first one's reward — the injectivity hypothesis cannot be dropped for hashing -/
theorem densify_hashing_counterexample :
    keepsAligned Cfg.fixed [.densify 4 (.hashing [("a", 1), ("b", 1)]) false true] wHashCollision = false := by decide +kernel
example : keepsAligned Cfg.fixed [.densify 4 (.hashing [("a", 1), ("b", 2)]) false true] wHashCollision = true := by decide +kernel

/-! ### end to end from preconditions on the input alone (repaired code): Sparsify, Finalize, Noise, Densify -/

/-- **`Sparsify(context=c, action=a)` (repaired code)** keeps a stream aligned, the plan hypotheses discharged.  `hself`: the reward and
feedback functions of the input answer for their own actions.  `hhomR`, `hhomF`: where an interaction gives `rewards` (`feedbacks`) as a function, so does the
first — Sparsify decides on the first interaction which of the two it re-keys.  `hinj`: the action list Sparsify produces
(`sparsifyActs`; a condition on the OUTPUT) is a set.  `hlog`: a logged action that `index` finds among the actions is literally
the member found, not only `==` to it. -/
theorem sparsify_aligned (c a : Bool) (s s' : List Inter)
    (hself : alignedStreamB s s = true)
    (hhomR : ∀ I ∈ s, ∀ r, I.rewards = some r → r.isCallable = true → firstCallable (·.rewards) s = true)
    (hhomF : ∀ I ∈ s, ∀ r, I.feedbacks = some r → r.isCallable = true → firstCallable (·.feedbacks) s = true)
    (hinj : ∀ I ∈ s, ∀ as, I.actions = some as → Distinct (sparsifyActs a as))
    (hlog : ∀ I ∈ s, ∀ a0 as k, I.action = some a0 → I.actions = some as → indexOf as a0 = some k → as[k]? = some a0)
    (hrun : runPrim Cfg.fixed (.sparsify c a) s = .ok s') : alignedStreamB s s' = true := by
  simp only [runPrim, plansOf, sparsifyPlans_eq] at hrun
  refine applyPlans_aligned (plansHypB_map _ s fun I hI => convPlan_hyp _ (alignedStreamB_self_mem hself I hI) (hhomR I hI)
    (hhomF I hI) (fun hb as has => ?_) (fun h => by simp [h]) (fun as has => ?_) (hlog I hI)) hrun
  · cases a with
    | false => exact List.map_id as
    | true => exact map_id_of_any_false (makeSparse_id "action") as (by simpa [Cfg.fixed, has] using hb)
  · have := hinj I hI as has
    cases a <;> simpa [sparsifyActs] using this

/-- **the last step of Finalize (repaired code)** keeps a stream aligned, the plan hypotheses discharged: where the first interaction
gives `rewards` (`feedbacks`) as a list, each interaction's becomes `DiscreteReward(actions, list)`; context, actions and logged action stay.
`hself`: the reward and feedback functions of the input answer for their own actions.  `hacts`: every interaction has `actions`.
`hinj`: each action list is a set, so that the new `DiscreteReward` finds every action at its own place.  `hlog`: a logged action
that `index` finds among the actions is literally the member found. -/
theorem finalize_wrap_aligned (s s' : List Inter)
    (hself : alignedStreamB s s = true)
    (hacts : ∀ I ∈ s, ∃ as, I.actions = some as)
    (hinj : ∀ I ∈ s, ∀ as, I.actions = some as → Distinct as)
    (hlog : ∀ I ∈ s, ∀ a0 as k, I.action = some a0 → I.actions = some as → indexOf as a0 = some k → as[k]? = some a0)
    (hrun : runPrim Cfg.fixed .wrapSeqs s = .ok s') : alignedStreamB s s' = true := by
  simp only [runPrim, plansOf] at hrun
  cases s with
  | nil => simp [wrapPlans, applyPlans] at hrun; subst hrun; rfl
  | cons first rest =>
    simp only [wrapPlans] at hrun
    refine applyPlans_aligned (plansHypB_map _ (first :: rest) ?_) hrun
    intro I hI
    obtain ⟨as, has⟩ := hacts I hI
    have hd := (distinctB_iff _).mpr (hinj I hI as has)
    obtain ⟨hIr, hIf⟩ := alignedB_self_obs (alignedStreamB_self_mem hself I hI) has
    refine planHypB_some has has rfl
      (targetHypB_discrete_or_keep (.inr rfl) hd fun _ => hIr) (targetHypB_discrete_or_keep (.inr rfl) hd fun _ => hIf) ?_
    cases ha0 : I.action with
    | none => simp [loggedHypB]
    | some a0 => exact loggedHypB_of_member hd (fun k hk => hlog I hI a0 as k ha0 has hk)

/-- **Noise end to end (repaired code)**: every plan Noise decides meets the plan hypotheses as soon as the noisy
action lists are sets — no semantic (`keep`) hypothesis is left -/
theorem noise_plans_explicit (nc na : Option NoiseSpec) (rC fC : Bool) (s : List Inter) (orc : List Rat) (ps : List Plan)
    (h : noisePlans.go Cfg.fixed nc na rC fC orc s = .ok ps)
    (hself : ∀ I ∈ s, alignedB I I = true)
    (hhom : ∀ I ∈ s, ∀ r, I.feedbacks = some r → r.isCallable = true → fC = true)
    (hact : ∀ I ∈ s, I.actions = none → I.rewards = none)
    (hdist : ∀ p ∈ ps, ∀ as, p.actions = some as → Distinct as) : plansHypB s ps = true := by
  induction s generalizing orc ps with
  | nil => cases h; rfl
  | cons I rest ih =>
    obtain ⟨ctx, orc1, orc2, acts, ps', hnone, hsome, h3, rfl⟩ := noisePlans_go_cons h
    simp only [plansHypB, Bool.and_eq_true]
    refine ⟨noise_plan_hyp rC fC I ctx acts (hhom I (by simp)) (hact I (by simp)) hnone fun o ho => ?_,
      ih orc2 ps' h3 (fun J hJ => hself J (by simp [hJ])) (fun J hJ => hhom J (by simp [hJ]))
        (fun J hJ => hact J (by simp [hJ])) (fun p hp => hdist p (by simp [hp]))⟩
    obtain ⟨n, hn, rfl⟩ := hsome o ho
    exact ⟨n, rfl, noisesList_length na orc1 o orc2 n hn, hdist _ (List.mem_cons_self ..) n (noisePlan_actions ..)⟩

/-- **Noise on numeric actions (repaired code), end to end.**  `injNoiser`: an action noiser that cannot merge two numbers (none, or
`x ↦ mul·x + add` with `mul ≠ 0`); `noiseScalarHypB`: decidable preconditions on the *input* alone.  `chainHypB` is discharged:
nothing is assumed about the output. -/
theorem noise_scalar_aligned (nc na : Option NoiseSpec) (orc : List Rat) (s s' : List Inter)
    (hinj : injNoiser na = true) (hh : noiseScalarHypB s = true)
    (hrun : runPrim Cfg.fixed (.noise nc na orc) s = .ok s') : alignedStreamB s s' = true := by
  simp only [noiseScalarHypB, Bool.and_eq_true, List.all_eq_true] at hh
  obtain ⟨hself, hall⟩ := hh
  obtain ⟨ps, hgo, hrun⟩ := runPrim_ok hrun
  refine applyPlans_aligned (noise_plans_explicit nc na _ _ s orc ps hgo (alignedStreamB_self_mem hself) ?_ ?_ ?_) hrun
  · intro I hI r hr hcal
    have := (hall I hI).1
    simp only [hr, hcal, Bool.not_true, Bool.false_or] at this
    exact this
  · intro I hI hacts
    have := (hall I hI).2
    simp only [hacts] at this
    cases hr : I.rewards with
    | none => rfl
    | some r => simp [hr] at this
  · intro p hp as' hpa
    obtain ⟨I, hI, as, o, o', hacts, hn⟩ := noise_go_actions Cfg.fixed nc na _ _ s orc ps hgo p hp as' hpa
    have := (hall I hI).2
    simp only [hacts, Bool.and_eq_true] at this
    exact noise_injective_nums_distinct na hinj o o' as as' this.1 ((distinctB_iff _).mp this.2) hn

example : injNoiser (some (.affine 2 1)) = true ∧ noiseScalarHypB (wRekey ++ wNoiseLogged ++ wNoiseFeedbacks) = false
    ∧ noiseScalarHypB wNoiseLogged = true ∧ noiseScalarHypB (wRekey ++ wRekey) = true
    ∧ keepsAligned Cfg.fixed [.noise none (some (.affine 2 1)) []] (wRekey ++ wRekey) = true := by decide +kernel

/-- the noiser's injectivity cannot be dropped: slope 0 meets every other precondition and misaligns (`noise_collision_counterexample`) -/
theorem noise_scalar_counterexample :
    injNoiser (some (.affine 0 5)) = false ∧ noiseScalarHypB wRekey = true
    ∧ keepsAligned Cfg.fixed [.noise none (some (.affine 0 5)) []] wRekey = false := by decide +kernel

/-- **Densify(action=True) on sparse actions (repaired code), end to end.**  For look-up (any history `prior` of the object) and hashing (any
crc32 table), with or without the context: if the *input* stream meets the explicit decidable preconditions `densifySparseHypB` — reward /
feedback functions answer for their own actions and are functional from the first interaction on, every action set is a set of sparse rows
(unique keys, no stored zero), the logged action is literally its member, and the slot table `densifyTable` (a function of the keys of the
input alone) gives the keys of each action set different slots below `n_feats`.  `chainHypB` is discharged: nothing is assumed about the output. -/
theorem densify_sparse_aligned (m : DMethod) (n : Nat) (c : Bool) (s s' : List Inter)
    (hh : densifySparseHypB (densifyTable m n c true s) n s = true)
    (hrun : runPrim Cfg.fixed (.densify n m c true) s = .ok s') : alignedStreamB s s' = true := by
  simp only [densifySparseHypB, Bool.and_eq_true, List.all_eq_true] at hh
  obtain ⟨hself, hall⟩ := hh
  obtain ⟨ps, hps, hrun⟩ := runPrim_ok hrun
  rw [densifyPlans_eq_map hps] at hrun
  exact applyPlans_aligned
    (plansHypB_map _ s fun I hI => densify_plan_hyp _ n c _ _ I (alignedStreamB_self_mem hself I hI) (hall I hI)) hrun

example : densifySparseHypB (densifyTable (.hashing [("a", 1), ("b", 2)]) 4 false true wHashCollision) 4 wHashCollision = true
    ∧ densifySparseHypB (densifyTable (.lookup []) 4 true true wHashCollision) 4 wHashCollision = true
    ∧ densifySparseHypB (densifyTable (.lookup ["z", "y"]) 4 true true wHashCollision) 4 wHashCollision = true := by decide +kernel

/-- both excluded shapes are necessary: colliding slots (`densify_hashing_counterexample`: the precondition is false there) and a stored zero -/
theorem densify_sparse_counterexample :
    densifySparseHypB (densifyTable (.hashing [("a", 1), ("b", 1)]) 4 false true wHashCollision) 4 wHashCollision = false
    ∧ distinctB [.dict [("a", .num 0)], .dict []] = true
    ∧ densifySparseHypB (densifyTable (.lookup []) 4 false true wStoredZero) 4 wStoredZero = false
    ∧ keepsAligned Cfg.fixed [.densify 4 (.lookup []) false true] wStoredZero = false := by decide +kernel

/-! ### Batch / Unbatch -/

/-- the batches partition the stream: their sizes add up to its length … -/
theorem batch_sizes_sum (k : Nat) (hk : 0 < k) (len : Nat) : (chunkSizes k len len).sum = len :=
  (chunkSizes_spec k hk len len (Nat.le_refl _)).1

/-- … and every batch is non-empty and at most `k` long -/
theorem batch_sizes_bound (k : Nat) (hk : 0 < k) (len : Nat) : ∀ x ∈ chunkSizes k len len, 0 < x ∧ x ≤ k :=
  (chunkSizes_spec k hk len len (Nat.le_refl _)).2

/-- Batch and Unbatch never touch the interactions themselves -/
theorem batch_unbatch_stream (cfg : Cfg) (n : Option Nat) (S S1 S2 : State)
    (h1 : runStep cfg (.batch n) S = .ok S1) (h2 : runStep cfg .unbatch S1 = .ok S2) :
    S2.stream = S.stream ∧ S2.sizes = none := by
  simp only [runStep] at h2
  cases h2
  exact ⟨(runStep_batch_stream h1 : S1.stream = S.stream), rfl⟩

/-- BatchSafe: a representation filter on a batched stream is the filter on the un-batched stream, batched again — batching and
un-batching commute with every representation change (so, with `batch_obs_member` and `chain_aligned`, member k's function is
still applied to member k's action after any chain) -/
theorem batchsafe_commutes (cfg : Cfg) (st : Step) (s : List Inter) (k : Nat) (ks : List Nat)
    (hb : ∀ n, st ≠ .batch n) (hu : st ≠ .unbatch) :
    runStep cfg st { stream := s, sizes := some (k :: ks) } =
      (match runPrims cfg (expandStep st) s with
       | .error e => .error e
       | .ok s' => .ok { stream := s', sizes := some (chunkSizes k s'.length s'.length) }) :=
  runStep_batchsafe cfg st _ hb hu

/-! ### Batch → BatchSafe(Finalize) → Unbatch end to end (rewards, IGL feedbacks, logged interactions) -/

/-- `Batch(k)`, Finalize (inside BatchSafe), `Unbatch`, as-is or repaired: what comes out is not batched, its interactions are what
Finalize makes of the un-batched input, and they are aligned with the input under the hypotheses of `finalize_aligned` -/
theorem batch_finalize_unbatch (cfg : Cfg) (k : Nat) (s : List Inter) (S' : State)
    (h : runChain cfg [.batch (some k), .finalize, .unbatch] { stream := s } = .ok S') :
    S'.sizes = none ∧ runPrims cfg (expandStep .finalize) s = .ok S'.stream ∧
    (primsHypB cfg (expandStep .finalize) s = true → alignedStreamB s s = true → alignedStreamB s S'.stream = true) := by
  obtain ⟨S0, hb, h⟩ := runChain_cons_ok h
  obtain ⟨S1, hf, h⟩ := runChain_cons_ok h
  obtain ⟨S2, hu, h⟩ := runChain_cons_ok h
  cases h; cases hu
  have hr := runStep_prims hf nofun nofun
  rw [runStep_batch_stream hb] at hr
  exact ⟨rfl, hr, fun hh hs => runPrims_aligned cfg _ hh hr hs⟩

/-! ### batched rewards: `Batch.Callable` -/

/-- member `k` of a batched call is member `k`'s function applied to member `k`'s action -/
theorem batch_call_member (fs : List Rew) (as : List Val) (k : Nat) (f : Rew) (a : Val)
    (hf : fs[k]? = some f) (ha : as[k]? = some a) : (batchCall fs as)[k]? = some (callRew f a) := by
  rw [batchCall_eq_zipWith, List.getElem?_zipWith, hf, ha]

example : obsEq (batchCall [.binary (.num 1) 1, .l1 2] [.num 1, .num 5]) [.ok 1, .ok (-3)] = true := by decide +kernel

/-- the batched reward (or feedback) function, asked for the i-th action of every member, answers for member `k` with what
member `k`'s own function says about its own i-th action -/
theorem batch_obs_member (get : Inter → Option Rew) (batch : List Inter) (i : Nat) (col : List (Except Err Rat))
    (h : batchObs get batch i = some col) (k : Nat) (I : Inter) (hk : batch[k]? = some I) :
    ∃ r as a, get I = some r ∧ I.actions = some as ∧ as[i]? = some a ∧ col[k]? = some (callRew r a) := by
  unfold batchObs at h
  split at h
  · simp at h
  · rename_i pairs hm
    split at h
    · rename_i cl hc
      simp at h
      subst h
      have hmap := mapM'_ok _ _ _ hm
      have hlen := mapM'_length _ _ _ hm
      have hkl : k < pairs.length := by
        rw [hlen]
        exact (List.getElem?_eq_some_iff.mp hk).1
      have hp : pairs[k]? = some pairs[k] := List.getElem?_eq_getElem hkl
      obtain ⟨x, hx, hfx⟩ := getElem?_of_map_eq hmap k pairs[k] hp
      rw [hk] at hx; cases hx
      cases hg : get I with
      | none => simp [hg] at hfx
      | some r =>
        cases hacts : I.actions with
        | none => simp [hg, hacts] at hfx
        | some as =>
          simp only [hg, hacts] at hfx
          split at hfx
          · simp at hfx
            obtain ⟨a, h1, h2⟩ := column_getElem? i _ cl hc k as (by simp [hp, ← hfx])
            refine ⟨r, as, a, rfl, rfl, h1, ?_⟩
            exact batch_call_member _ _ k r a (by simp [hp, ← hfx]) h2
          · simp at hfx
    · simp at h

example : optObsEq (batchObs (·.rewards) (wRekey ++ wRekey) 1) (some [.ok 1, .ok 1]) = true := by decide +kernel

/-! ### Cycle: the one filter that moves rewards on purpose -/

/-- what "alignment" means for Cycle: the observable after the filter is the observable before, rotated by one
place (`l[-1%n:] + l[:-1%n]`), and it is still given by the action (a reward function answers for every action of the set) -/
theorem cycle_spec {n : Nat} {r r' : Rew} {acts : List Val}
    (h : rekey (.rotate n) r acts acts = .ok r') (hd : Distinct acts) :
    ∃ vals : List Rat, obsOf r acts = vals.map Except.ok ∧ obsOf r' acts = (rotList n vals).map Except.ok := by
  cases hc : r.isCallable with
  | false =>
    cases r with
    | seq b rs => cases h; exact ⟨rs, rfl, rfl⟩
    | _ => cases hc
  | true => exact rekeyVals_spec (rotList_length n) hc hd ((rekey_rotate_eq_rekeyVals hc n acts).symm.trans h)

/-- position by position: the j-th action earns what the (j-1)-th (cyclically) earned -/
theorem cycle_shift {α} (l : List α) (hl : 0 < l.length) (j : Nat) (hj : j < l.length) :
    (rotList l.length l)[j]? = l[(j + l.length - 1) % l.length]? := by
  have swap (a b : List α) (hj : j < a.length + b.length) : (b ++ a)[j]? = (a ++ b)[(j + a.length) % (a.length + b.length)]? := by
    by_cases h : j < b.length
    · rw [List.getElem?_append_left h, Nat.mod_eq_of_lt (by rw [Nat.add_comm]; exact Nat.add_lt_add_left h _),
        List.getElem?_append_right (Nat.le_add_left ..), Nat.add_sub_cancel]
    · have hb : b.length ≤ j := Nat.le_of_not_lt h
      have hlt : j - b.length < a.length := Nat.sub_lt_left_of_lt_add hb (by rwa [Nat.add_comm] at hj)
      have e : j + a.length = (j - b.length) + (a.length + b.length) := by
        rw [Nat.add_comm a.length, ← Nat.add_assoc, Nat.sub_add_cancel hb]
      rw [List.getElem?_append_right hb, e, Nat.add_mod_right, Nat.mod_eq_of_lt (Nat.lt_add_right _ hlt), List.getElem?_append_left hlt]
  have hm : (l.take (l.length - 1)).length = l.length - 1 := List.length_take_of_le (Nat.sub_le ..)
  have hlen : (l.take (l.length - 1)).length + (l.drop (l.length - 1)).length = l.length := by
    rw [← List.length_append, List.take_append_drop]
  unfold rotList
  rw [if_neg (by simpa using Nat.ne_of_gt hl), swap _ _ (by rwa [hlen]), hlen, hm, List.take_append_drop,
    Nat.add_sub_assoc hl]

/-- `cycle_shift` with the index by its name: of a list of `n` rewards rotated as Cycle rotates it, place `j` holds what place
`cycleSource n j` held -/
theorem cycle_source {α} (l : List α) (hl : 0 < l.length) (j : Nat) (hj : j < l.length) :
    (rotList l.length l)[j]? = l[cycleSource l.length j]? := cycle_shift l hl j hj

example : keepsAligned Cfg.fixed [.cycle 0] wReprDiscrete = false := by decide +kernel
example : keepsAligned Cfg.fixed [.cycle 1] wReprDiscrete = true := by decide +kernel

/-! ### Cycle, negatively -/

/-- **Cycle changes which action earns which reward, by design**: whenever the rotation `l[-1%n:] + l[:-1%n]` (`cycle_shift`:
the j-th action gets what action `cycleSource n j = (j-1) mod n` earned) moves anything, the observable after Cycle differs from
the one before.  The property's statement lists the representation filters and leaves Cycle out; in the model a rotating Cycle
step is outside `chainHypB` (`cycle_outside_hyp`). -/
theorem cycle_misaligns {n : Nat} {r r' : Rew} {acts : List Val} (vals : List Rat)
    (h : rekey (.rotate n) r acts acts = .ok r') (hd : Distinct acts)
    (hv : obsOf r acts = vals.map Except.ok) (hne : rotList n vals ≠ vals) :
    obsEq (obsOf r acts) (obsOf r' acts) = false := by
  obtain ⟨vals', h1, h2⟩ := cycle_spec h hd
  have : vals' = vals := map_ok_injective (h1.symm.trans hv)
  subst this
  cases hb : obsEq (obsOf r acts) (obsOf r' acts) with
  | false => rfl
  | true =>
    rw [h1, h2] at hb
    exact absurd (obsEq_map_ok _ _ hb).symm hne

/-- the policy of a rotating Cycle never meets `targetHypB` on a reward or feedback object that is there: it is outside the hypotheses
of the alignment theorems (`planHypB` asks `targetHypB` of both objects) -/
theorem cycle_outside_hyp (n : Nat) (r : Rew) (o nw : List Val) : targetHypB (.rotate n) (some r) o nw = false := by
  simp [targetHypB]

/-- witness: three string actions with rewards `[1,2,3]` come out as `[3,1,2]` -/
theorem cycle_counterexample : keepsAligned Cfg.fixed [.cycle 0] wCycle = false
    ∧ (match runChain Cfg.fixed [.cycle 0] { stream := wCycle } with
       | .ok S => (match S.stream with
                   | [J] => optObsEq (obsRewards J) (some [.ok 3, .ok 1, .ok 2])
                   | _ => false)
       | .error _ => false) = true := by decide +kernel

/-! ### filter objects: lazy delivery and reuse -/

/-- the model's filter applied to sequence `B` after sequence `A` equals the filter applied to `B` alone — for every
filter except Densify(lookup) -/
theorem filter_stateless_except_lookup (cfg : Cfg) (st : Step) (T : DState) (A B : List Inter)
    (hst : ∀ n p c a, st ≠ .densify n (.lookup p) c a) (hA : ∃ r, runPrimObj cfg st T A = .ok r) :
    runObjTwice cfg st T A B = runPrim cfg st B := by
  obtain ⟨r, hr⟩ := hA
  unfold runObjTwice
  rw [runPrimObj_stateless cfg st T A hst] at hr ⊢
  cases hra : runPrim cfg st A with
  | error e => simp [hra] at hr
  | ok a' =>
    simp only
    rw [runPrimObj_stateless cfg st T B hst]
    cases runPrim cfg st B <;> rfl

/-- Densify(lookup) carries exactly its key table: `B` after `A` = `B` with a table first asked for the keys of `A` -/
theorem densify_reuse_eq_prior (cfg : Cfg) (n : Nat) (p : List String) (c a : Bool) (T : DState) (A B : List Inter)
    (hT : primeKeys (.lookup []) (initDState n) p = .ok T)
    (hA : ∃ r, runPrimObj cfg (.densify n (.lookup p) c a) T A = .ok r) :
    runObjTwice cfg (.densify n (.lookup p) c a) T A B = runPrim cfg (.densify n (.lookup (p ++ keysAsked c a A)) c a) B := by
  obtain ⟨⟨A', T1⟩, hr⟩ := hA
  simp only [runObjTwice, hr]
  refine runPrimObj_eq_runPrim cfg n _ p c a B ?_
  rw [primeKeys_append, hT]
  exact runPrimObj_densify_state hr

/-- the table only grows at its end: a key keeps its slot for the life of the object -/
theorem densify_prior_monotone (cfg : Cfg) (m : DMethod) (n : Nat) (c a rC fC : Bool) (s : List Inter) (st st' : DState) (ps : List Plan)
    (h : densifyRun cfg m n c a rC fC st s = .ok (ps, st')) :
    (∃ ext, st'.table = st.table ++ ext) ∧ (∀ k i, assocGet k st.table = some i → assocGet k st'.table = some i) := by
  obtain ⟨ext, he⟩ := primeKeys_mono m _ st st' (densifyRun_stage cfg m n c a rC fC s st ps st' h).asked
  exact ⟨⟨ext, he⟩, fun k i hk => by rw [he]; exact assocGet_append_left k i _ ext hk⟩

/-- the state a Densify object is left in is its table asked for `keysAsked` (what the harness feeds back as `prior`) -/
theorem densify_state_is_keys (cfg : Cfg) (m : DMethod) (n : Nat) (c a rC fC : Bool) (s : List Inter) (st : DState) (ps : List Plan) (st' : DState)
    (h : densifyRun cfg m n c a rC fC st s = .ok (ps, st')) : primeKeys m st (keysAsked c a s) = .ok st' :=
  (densifyRun_stage cfg m n c a rC fC s st ps st' h).asked

/-! ### histories of reads of one filter object -/

/-- ONE `Densify(lookup)` object after ANY history of reads (any number of `filter()` calls in any order: complete sequences, the items an aborted
read got to before its source failed, the items an abandoned read got to before its consumer stopped), then applied to `B`: exactly what a
fresh object gives on `B` when its table was first asked for the keys of the whole history, in order — nothing else of the history survives.
(`densify_reuse_eq_prior` is the history of length one.) -/
theorem densify_history_eq_prior (cfg : Cfg) (n : Nat) (c a : Bool) (B : List Inter) (hist : List (List Inter)) (p : List String) (T : DState)
    (hT : primeKeys (.lookup []) (initDState n) p = .ok T)
    (hH : ∃ T', runObjHistory cfg (.densify n (.lookup p) c a) T hist = .ok T') :
    runObjAfter cfg (.densify n (.lookup p) c a) T hist B = runPrim cfg (.densify n (.lookup (p ++ historyKeys c a hist)) c a) B :=
  runObjAfter_densify cfg n p c a B hist p T hT hH

/-- non-vacuity: a history of three reads (a, b | a | c) on a 4-slot object exists, leaves the table a, b, c and was asked for a, b, a, c -/
example : (match runObjHistory Cfg.fixed (.densify 4 (.lookup []) false true) (initDState 4)
      [[{ actions := some [.dict [("a", .num 1)], .dict [("b", .num 1)]] }], [{ actions := some [.dict [("a", .num 1)]] }],
       [{ actions := some [.dict [("c", .num 1)]] }]] with
    | .ok T' => T'.table.map (·.1) == ["a", "b", "c"]
    | .error _ => false) = true
    ∧ historyKeys false true [[{ actions := some [.dict [("a", .num 1)], .dict [("b", .num 1)]] }], [{ actions := some [.dict [("a", .num 1)]] }],
       [{ actions := some [.dict [("c", .num 1)]] }]] = ["a", "b", "a", "c"] := by decide +kernel

/-- what every member of an `Environments` collection has to get from `.dense(…)`: the output of a *freshly constructed*
Densify object, which is `runPrim` on that member alone (the harness demands exactly this per member, in every reading order) -/
theorem fresh_densify_object (cfg : Cfg) (n : Nat) (c a : Bool) (s : List Inter) :
    (match runPrimObj cfg (.densify n (.lookup []) c a) (initDState n) s with
      | .ok (s', _) => Except.ok s'
      | .error e => .error e) = runPrim cfg (.densify n (.lookup []) c a) s :=
  runPrimObj_eq_runPrim cfg n [] [] c a s rfl

/-! ### option handling: constructor calls with arguments left out -/

/-- `Generated/C10Options.lean` is rewritten from `coba/environments/filters.py` and `coba/environments/core.py` on every run: the default values of
`Sparsify.__init__`, `Densify.__init__`, `Repr.__init__`, `Cycle.__init__`, of the shortcuts `Environments.sparse / dense / repr`, the documented
method names of Densify and which of its own parameters each shortcut hands to the filter it builds — equal to the model's named defaults -/
theorem option_defaults_match_source :
    Coba.Generated.C10.sparsifyInitDefaults = [(sparsifyDefaults .filter).1, (sparsifyDefaults .filter).2] ∧
    Coba.Generated.C10.envSparseDefaults = [(sparsifyDefaults .env).1, (sparsifyDefaults .env).2] ∧
    Coba.Generated.C10.densifyInitFlagDefaults = [(densifyFlagDefaults .filter).1, (densifyFlagDefaults .filter).2] ∧
    Coba.Generated.C10.envDenseFlagDefaults = [(densifyFlagDefaults .env).1, (densifyFlagDefaults .env).2] ∧
    Coba.Generated.C10.densifyInitN = densifyDefaultN ∧ Coba.Generated.C10.densifyInitMethod = densifyDefaultMethod ∧
    Coba.Generated.C10.densifyMethodNames = densifyMethodNames ∧
    Coba.Generated.C10.reprInitDefaults = [optModeName (reprDefaults .filter).1, optModeName (reprDefaults .filter).2] ∧
    Coba.Generated.C10.envReprDefaults = [optModeName (reprDefaults .env).1, optModeName (reprDefaults .env).2] ∧
    Coba.Generated.C10.cycleInitAfter = cycleDefaultAfter ∧
    Coba.Generated.C10.envSparsePasses = ["context", "action"] ∧
    Coba.Generated.C10.envDensePasses = ["n_feats=n_feats", "method=method", "context=context", "action=action"] ∧
    Coba.Generated.C10.envReprPasses = ["cat_context", "cat_actions"] :=
  ⟨rfl, rfl, rfl, rfl, rfl, rfl, rfl, rfl, rfl, rfl, rfl, rfl, rfl⟩

/-- `Densify._make_dense`'s dispatch on the method name, extracted from the source as a Lean function, is the model's for EVERY string -/
theorem method_dispatch_matches_source (m : String) : Coba.Generated.C10.densifyBranch m = methodBranch m := rfl

/-- the driver's parser of method names: `'lookup'` (and only it) reads the object's table, every other name hashes -/
theorem methodOfName_lookup_iff (m : String) (prior : List String) (tbl : List (String × Nat)) :
    (methodOfName m prior tbl = .lookup prior ↔ m = "lookup") ∧ (m ≠ "lookup" → methodOfName m prior tbl = .hashing tbl) := by
  unfold methodOfName methodBranch
  by_cases h : m = "lookup"
  · subst h; simp
  · simp [h]

/-- what a constructor call without arguments builds: `Sparsify()` = `Sparsify(True, False)`, `Densify()` = `Densify(400,'lookup',True,False)`,
`Repr()` = `Repr(None, None)`, `envs.repr()` = the Repr inside Finalize, `Cycle()` = `Cycle(0)` -/
theorem default_ctor_steps (k : Ctor) (prior : List String) (tbl : List (String × Nat)) :
    mkSparsify k none none = .sparsify true false ∧
    mkDensify k none none none none prior tbl = .densify 400 (.lookup prior) true false ∧
    mkRepr .filter none none = .repr none none ∧
    [Step.harden, mkRepr .env none none, .wrapSeqs] = expandStep .finalize ∧
    mkCycle none = .cycle 0 := by
  cases k <;> refine ⟨rfl, ?_, rfl, rfl, rfl⟩ <;> simp [mkDensify, methodOfName, methodBranch, densifyDefaultMethod, densifyDefaultN, densifyFlagDefaults]

/-- `Sparsify(context=c, action=False)`, any `Cfg`, any stream: nothing but the contexts changes — actions, logged action, reward and
feedback functions, logged reward and probability are literally the input's -/
theorem sparsify_noaction_context_only (cfg : Cfg) (c : Bool) (s s' : List Inter)
    (hrun : runPrim cfg (.sparsify c false) s = .ok s') : s'.map nonContext = s.map nonContext := by
  simp only [runPrim, plansOf, sparsifyPlans_eq] at hrun
  exact applyPlans_map_keeps _ (fun I => convPlan_keeps _ _ _ I (if_neg Bool.false_ne_true) (by simp)) s _ s' rfl hrun

/-- the same for `Densify(n, m, context=c, action=False)`, look-up (any `prior`) or hashing (any table), any `Cfg`, any stream -/
theorem densify_noaction_context_only (cfg : Cfg) (n : Nat) (m : DMethod) (c : Bool) (s s' : List Inter)
    (hrun : runPrim cfg (.densify n m c false) s = .ok s') : s'.map nonContext = s.map nonContext := by
  obtain ⟨ps, hps, hrun⟩ := runPrim_ok hrun
  rw [densifyPlans_eq_map hps] at hrun
  exact applyPlans_map_keeps _ (densifyPlanAt_keeps cfg _ n c _ _) s _ s' rfl hrun

/-- the same with the `action` flag left out, `Sparsify(context=c)` / `Densify(n, m, context=c)`, through the class or the Environments
shortcut, for every choice of the other arguments, every `Cfg`, every look-up history / hash table and every stream -/
theorem default_action_flag_context_only (cfg : Cfg) (k : Ctor) (c : Option Bool) (n : Option Nat) (m : Option String)
    (prior : List String) (tbl : List (String × Nat)) (s s' : List Inter) :
    (runPrim cfg (mkSparsify k c none) s = .ok s' → s'.map nonContext = s.map nonContext) ∧
    (runPrim cfg (mkDensify k n m c none prior tbl) s = .ok s' → s'.map nonContext = s.map nonContext) := by
  constructor
  · intro h
    have : mkSparsify k c none = .sparsify (c.getD (sparsifyDefaults k).1) false := by cases k <;> rfl
    rw [this] at h
    exact sparsify_noaction_context_only cfg _ s s' h
  · intro h
    have : mkDensify k n m c none prior tbl = .densify (n.getD densifyDefaultN) (methodOfName (m.getD densifyDefaultMethod) prior tbl) (c.getD (densifyFlagDefaults k).1) false := by
      cases k <;> rfl
    rw [this] at h
    exact densify_noaction_context_only cfg _ _ _ s s' h

/-- non-vacuity: the default `Sparsify()` runs on a witness stream and really changes its context -/
example : (match runPrim Cfg.asIs (mkSparsify .env none none) [{ context := .num 3, actions := some [.num 1, .num 2], rewards := some (.binary (.num 2) 1) }] with
           | .ok [I] => pyEq I.context (.dict [("context", .num 3)]) && (match I.actions with | some [a, b] => pyEq a (.num 1) && pyEq b (.num 2) | _ => false)
           | _ => false) = true := by decide +kernel

/-! ### the pinned commit violates the property: witnesses (replayed on the real code) -/

/-- P18: Sparsify(action=True) keeps `BinaryReward(2)` keyed on the old actions -/
theorem sparsify_counterexample : keepsAligned Cfg.asIs [.sparsify false true] wRekey = false := by decide +kernel
example : keepsAligned Cfg.fixed [.sparsify false true] wRekey = true := by decide +kernel

/-- P19: Repr('string','onehot') encodes the logged action with the context mode -/
theorem repr_logged_counterexample :
    keepsAligned Cfg.asIs [.repr (some .string) (some .onehot)] wReprLogged = false := by decide +kernel
example : keepsAligned Cfg.fixed [.repr (some .string) (some .onehot)] wReprLogged = true := by decide +kernel

/-- Repr re-keys a DiscreteReward positionally -/
theorem repr_discrete_counterexample :
    keepsAligned Cfg.asIs [.repr none (some .onehot)] wReprDiscrete = false := by decide +kernel
example : keepsAligned Cfg.fixed [.repr none (some .onehot)] wReprDiscrete = true := by decide +kernel

/-- Noise(action) leaves the logged action un-noised … -/
theorem noise_logged_counterexample :
    keepsAligned Cfg.asIs [.noise none (some (.affine 1 10)) []] wNoiseLogged = false := by decide +kernel
example : keepsAligned Cfg.fixed [.noise none (some (.affine 1 10)) []] wNoiseLogged = true := by decide +kernel

/-- … and functional feedbacks keyed on the un-noised actions -/
theorem noise_feedbacks_counterexample :
    keepsAligned Cfg.asIs [.noise none (some (.affine 1 10)) []] wNoiseFeedbacks = false := by decide +kernel
example : keepsAligned Cfg.fixed [.noise none (some (.affine 1 10)) []] wNoiseFeedbacks = true := by decide +kernel

/-- Flatten does not flatten the logged action -/
theorem flatten_logged_counterexample : keepsAligned Cfg.asIs [.flatten] wFlattenLogged = false := by decide +kernel
example : keepsAligned Cfg.fixed [.flatten] wFlattenLogged = true := by decide +kernel

/-- Harden (inside Finalize) turns *every* action of a not materialised dense action list into a list: a plain
tuple next to SparseDense rows stops being the value its reward function is keyed on -/
theorem harden_mixed_counterexample : keepsAligned Cfg.asIs [.finalize] wHardenMixed = false := by decide +kernel
example : keepsAligned Cfg.fixed [.finalize] wHardenMixed = true := by decide +kernel

/-! ### translator tie: constants extracted from the source under test equal the ones the model uses -/

/-- `Generated/C10Consts.lean` is rewritten from `coba/environments/filters.py` on every run (Finalize's `Repr("onehot","onehot")`,
Sparsify's default headers, the seed of Densify's slot generator, Cycle's `l[-1%n:] + l[:-1%n]` and `i >= after`) -/
theorem source_constants_match :
    Coba.Generated.C10.finalizeReprModes = finalizeReprModes ∧ Coba.Generated.C10.sparsifyHeaders = sparsifyHeaders ∧
    Coba.Generated.C10.densifySeed = densifySeed ∧ Coba.Generated.C10.cycleShifts = [cycleShift, cycleShift] ∧
    Coba.Generated.C10.cycleAfterInclusive = cycleRotatesAt 0 0 := ⟨rfl, rfl, rfl, rfl, rfl⟩

/-- … and those named constants are the ones the model's filters really use -/
theorem model_uses_constants (n : Nat) :
    initDState n = { table := [], fresh := lookupStream n (if n == 0 then 0 else 192 / n + 2) (Coba.C05.normInt densifySeed) }
    ∧ (∀ (l : List Nat), rotList n l = if n == 0 then l else l.drop (n - cycleShift) ++ l.take (n - cycleShift))
    ∧ (match cyclePlans 1 (wCycle ++ wCycle ++ wCycle) with
       | .ok ps => ps.map (fun p => p.polR == .rotate 3)
       | .error _ => []) = [cycleRotatesAt 1 0, cycleRotatesAt 1 1, cycleRotatesAt 1 2] :=
  ⟨rfl, fun _ => rfl, by decide +kernel⟩

/-! ### translator tie: Repr's mode names and EncodeCatRows' dispatch, extracted from the source under test -/

/-- `Generated/C10ReprModes.lean` is rewritten on every run from `Repr.__init__`'s `Literal[...]` annotations (filters.py) and from
`EncodeCatRows.__init__` / `_encode_values` / `_encode_collection.catset` (pipes/rows.py): the accepted mode names and, as Lean functions,
the two `if / elif / else` chains on `self._tipe`.  They agree with the model's `modeName`, `valuesBranch`, `collBranch` on every mode. -/
theorem repr_modes_match_source :
    Coba.Generated.C10.reprContextModes = allModes.map modeName ∧ Coba.Generated.C10.reprActionModes = allModes.map modeName ∧
    Coba.Generated.C10.encodeModes = allModes.map modeName ∧
    (∀ m : Mode, Coba.Generated.C10.valuesBranch (modeName m) = valuesBranch m) ∧
    (∀ m : Mode, Coba.Generated.C10.collBranch (modeName m) = collBranch m) :=
  ⟨rfl, rfl, rfl, fun m => by cases m <;> rfl, fun m => by cases m <;> rfl⟩

/-- … and those named tables are the ones the model (and the driver's parser) really use: the parser is the inverse of `modeName` and accepts
nothing else; a scalar categorical is converted by the branch `valuesBranch` names; the row encoder's three branches are told apart by `collBranch` -/
theorem model_uses_mode_dispatch :
    (∀ m, modeOfName (modeName m) = some m) ∧ (∀ s m, modeOfName s = some m → s = modeName m) ∧
    (∀ m v, encodeValue m v = if valuesBranch m = "str" then strOf v
                              else (match onehotOf v with | .ok h => .ok (.tuple h) | .error e => .error e)) ∧
    (∀ m m', collBranch m = collBranch m' → m = m') ∧ (∀ m, collBranch m = "str" ↔ m = .string) ∧ (∀ m, collBranch m = "flat" ↔ m = .onehot) := by
  refine ⟨fun m => by cases m <;> rfl, fun s m h => ?_, fun m v => ?_, fun m m' h => ?_,
    fun m => by cases m <;> simp [collBranch], fun m => by cases m <;> simp [collBranch]⟩
  · unfold modeOfName at h
    by_cases h1 : s = "onehot"
    · subst h1; simp at h; subst h; rfl
    · by_cases h2 : s = "onehot_tuple"
      · subst h2; simp at h; subst h; rfl
      · by_cases h3 : s = "string"
        · subst h3; simp at h; subst h; rfl
        · simp [h1, h2, h3] at h
  · cases m <;> simp [encodeValue, valuesBranch] <;> cases onehotOf v <;> rfl
  · cases m <;> cases m' <;> simp [collBranch] at h <;> rfl

end Coba.C10
