/-
C11 — Scale and Impute apply exactly the statistics of their fitting window.

Reading of the statement.  A feature is a column: index `k` of dense contexts, key `k` of sparse
contexts (an absent key counts as the number 0 in statistics and is never materialised), the context
itself for scalar contexts.  Its fitting window is the column restricted to the first `using`
interactions (`window`).  `ScaleCellSpec sd cfg w v out` says: a number `x` becomes
`(x+shift)*scale` with the documented statistics of the non-missing window values `nums w`
(`None`, `nan` and strings take no part); anything else is unchanged.  `sd` stands for
`statistics.stdev` (needs a square root): every theorem holds for every `sd`.
-/
import CobaVerif.Lemmas.C11Scale
import CobaVerif.Lemmas.C11Impute
import CobaVerif.Lemmas.C11Pipeline
import CobaVerif.Generated.C11Options
import CobaVerif.Generated.C11Programs

namespace Coba.C11

/-! ## the statistics are the documented ones -/

theorem min_max_spec (xs : List Rat) (m : Rat) :
    (minL xs = some m → IsMin xs m) ∧ (maxL xs = some m → IsMax xs m) := ⟨minL_isMin, maxL_isMax⟩

theorem median_spec (xs : List Rat) (m : Rat) (h : median xs = some m) : IsMedian xs m := median_isMedian h

/-- `coba.statistics.percentile` (unweighted) on the data as the code sorts it: linear interpolation between closest ranks -/
theorem percentile_spec (xs : List Rat) (p : Rat) (hn : 2 ≤ xs.length) (hp0 : 0 ≤ p) (hp1 : p ≤ 1) :
    ∃ q, percentile (isort xs) p = some q ∧ IsQuantile xs p q :=
  percentile_isQuantile xs p (List.ne_nil_of_length_pos (Nat.lt_of_lt_of_le Nat.zero_lt_two hn)) hp0 hp1

/-- `coba.statistics.iqr` never fails: the ranks it hands to `percentile` lie inside the data -/
theorem iqr_spec (xs : List Rat) :
    ∃ d, iqr xs = some d ∧
      ((xs.length ≤ 1 ∧ d = 0) ∨
       (2 ≤ xs.length ∧ ∃ a b, IsQuantile xs (1/4) a ∧ IsQuantile xs (3/4) b ∧ d = b - a)) :=
  iqr_total xs

/-! ### size and even/odd thresholds of the statistics; first-seen mode -/

/-- QUARTILE RANKS in natural-number arithmetic: rank `q(n−1) / 4`, remainder `r`, weights `1 − r/4`, `r/4`; no floor of a
rational left in the statement -/
theorem percentile_quarter (s : List Rat) (q : Nat) (hq : q = 1 ∨ q = 3) (hn : 2 ≤ s.length) :
    percentile s ((q : Rat) / 4) = quarterAt s q :=
  percentile_eq_quarterAt s q (List.ne_nil_of_length_pos (Nat.lt_of_lt_of_le Nat.zero_lt_two hn))

theorem iqr_quarters (xs : List Rat) (hn : 2 ≤ xs.length) :
    iqr xs = match quarterAt (isort xs) 1, quarterAt (isort xs) 3 with
      | some a, some b => some (b - a)
      | _, _ => none := by
  have hs : isort xs ≠ [] := List.ne_nil_of_length_pos (by rw [isort_length]; omega)
  have h1 := percentile_eq_quarterAt (isort xs) 1 hs
  have h3 := percentile_eq_quarterAt (isort xs) 3 hs
  have e1 : (((1 : Nat) : Rat) / 4) = 1 / 4 := by norm_num
  have e3 : (((3 : Nat) : Rat) / 4) = 3 / 4 := by norm_num
  rw [e1] at h1; rw [e3] at h3
  unfold iqr
  rw [if_neg (by omega), h1, h3]
  cases quarterAt (isort xs) 1 <;> cases quarterAt (isort xs) 3 <;> rfl

/-- even `n`: `n−1` is odd, so neither quartile rank is whole -/
theorem iqr_even_interpolates (xs : List Rat) (hn : 2 ≤ xs.length) (he : xs.length % 2 = 0) :
    ∃ a b c d, (isort xs)[(xs.length - 1) / 4]? = some a ∧ (isort xs)[(xs.length - 1) / 4 + 1]? = some b ∧
      (isort xs)[3 * (xs.length - 1) / 4]? = some c ∧ (isort xs)[3 * (xs.length - 1) / 4 + 1]? = some d ∧
      (xs.length - 1) % 4 ≠ 0 ∧ 3 * (xs.length - 1) % 4 ≠ 0 ∧
      iqr xs = some (((1 - ((3 * (xs.length - 1) % 4 : Nat) : Rat) / 4) * c + ((3 * (xs.length - 1) % 4 : Nat) : Rat) / 4 * d)
                   - ((1 - (((xs.length - 1) % 4 : Nat) : Rat) / 4) * a + (((xs.length - 1) % 4 : Nat) : Rat) / 4 * b)) := by
  have hm : xs.length = xs.length - 1 + 1 := (Nat.sub_add_cancel (Nat.le_of_succ_le hn)).symm
  have hs : (isort xs).length = xs.length - 1 + 1 := (isort_length xs).trans hm
  obtain ⟨r1, r3⟩ := quartile_rem_of_even hm he
  obtain ⟨l1, l3⟩ := quartile_rank_lt hs (Nat.le_sub_one_of_lt hn)
  have a1 := List.getElem?_eq_getElem (Nat.lt_of_succ_lt l1)
  have b1 := List.getElem?_eq_getElem l1
  have a3 := List.getElem?_eq_getElem (Nat.lt_of_succ_lt l3)
  have b3 := List.getElem?_eq_getElem l3
  refine ⟨_, _, _, _, a1, b1, a3, b3, r1, r3, ?_⟩
  rw [iqr_quarters xs hn, quarterAt_between hs 3 _ _ r3 a3 b3,
    quarterAt_between hs 1 _ _ (by rwa [Nat.one_mul]) (by rwa [Nat.one_mul]) (by rwa [Nat.one_mul]), Nat.one_mul]

example : iqr [8, 1, 4, 2] = some ((1 - 1 / 4) * 4 + 1 / 4 * 8 - ((1 - 3 / 4) * 1 + 3 / 4 * 2)) := by decide +kernel

/-- `n ≡ 1 (mod 4)` (5, 9, 13, …): both ranks are whole -/
theorem iqr_whole_ranks (xs : List Rat) (hn : 2 ≤ xs.length) (h4 : xs.length % 4 = 1) :
    ∃ a c, (isort xs)[(xs.length - 1) / 4]? = some a ∧ (isort xs)[3 * (xs.length - 1) / 4]? = some c ∧ iqr xs = some (c - a) := by
  have hm : xs.length = xs.length - 1 + 1 := (Nat.sub_add_cancel (Nat.le_of_succ_le hn)).symm
  have hs : (isort xs).length = xs.length - 1 + 1 := (isort_length xs).trans hm
  obtain ⟨r1, r3⟩ := quartile_rem_of_mod4 hm h4
  obtain ⟨l1, l3⟩ := quartile_rank_lt hs (Nat.le_sub_one_of_lt hn)
  have a1 := List.getElem?_eq_getElem (Nat.lt_of_succ_lt l1)
  have a3 := List.getElem?_eq_getElem (Nat.lt_of_succ_lt l3)
  refine ⟨_, _, a1, a3, ?_⟩
  rw [iqr_quarters xs hn, quarterAt_whole hs 3 r3, quarterAt_whole hs 1 (by rwa [Nat.one_mul]), Nat.one_mul, a1, a3]

example : iqr [16, 1, 4, 2, 8] = some (8 - 2) := by decide +kernel

/-- the size threshold of `iqr` (`len(values) <= 1` → 0); two values → half their distance -/
theorem iqr_small : iqr [] = some 0 ∧ (∀ a, iqr [a] = some 0) ∧ (∀ a b, iqr [a, b] = some (absR (b - a) / 2)) := by
  refine ⟨rfl, fun a => rfl, fun a b => ?_⟩
  rw [iqr_quarters [a, b] (by simp), isort_pair]
  by_cases h : a ≤ b
  · have : ¬ b - a < 0 := by linarith
    rw [if_pos h]
    simp [quarterAt, absR, this]
    ring
  · have : b - a < 0 := by linarith
    rw [if_neg h]
    simp [quarterAt, absR, this]
    ring

theorem median_small : median [] = none ∧ (∀ a, median [a] = some a) ∧ (∀ a b, median [a, b] = some ((a + b) / 2)) := by
  refine ⟨rfl, fun a => by simp [median, isort, insertSorted], fun a b => ?_⟩
  rw [median_of_even (xs := [a, b]) (by simp) (by simp), isort_pair]
  split_ifs
  · simp
  · simp [add_comm]

theorem median_parity (xs : List Rat) (hn : xs ≠ []) :
    (xs.length % 2 = 1 → ∃ a, (isort xs)[xs.length / 2]? = some a ∧ median xs = some a) ∧
    (xs.length % 2 = 0 → ∃ a b, (isort xs)[xs.length / 2 - 1]? = some a ∧ (isort xs)[xs.length / 2]? = some b ∧
        median xs = some ((a + b) / 2)) := by
  obtain ⟨l1, l2⟩ := median_mid_lt hn
  have a := List.getElem?_eq_getElem l1
  have b := List.getElem?_eq_getElem l2
  exact ⟨fun ho => ⟨_, b, by rw [median_of_odd ho, b]⟩, fun he => ⟨_, _, a, b, by rw [median_of_even hn he, a, b]⟩⟩

/-- FIRST-SEEN MODE: `m` is the FIRST value reaching the maximal count — not the smallest, not the last -/
theorem mode_first_seen {vs : List Val} {m : Val} (h : mode vs = some m) :
    ∃ pre post, vs = pre ++ m :: post ∧ (∀ v ∈ pre, count v vs < count m vs) ∧ (∀ v ∈ post, count v vs ≤ count m vs) := mode_split h

/-- …equivalently: among the values of maximal count, `m` has the least index of first occurrence -/
theorem mode_not_before {vs : List Val} {m : Val} (h : mode vs = some m) (v : Val) (hv : v ∈ vs)
    (hc : count v vs = count m vs) : vs.idxOf m ≤ vs.idxOf v := by
  obtain ⟨pre, post, hvs, h1, _⟩ := mode_first_seen h
  have hm : m ∉ pre := fun hm => by have := h1 m hm; omega
  have hvp : v ∉ pre := fun hv' => by have := h1 v hv'; omega
  rw [hvs, List.idxOf_append_of_notMem hm, List.idxOf_append_of_notMem hvp]
  simp

/-- first seen ≠ smallest, ties, mixed strings and numbers -/
example : mode [.num 3, .num 1, .num 1, .num 3] = some (.num 3) := by decide +kernel
example : mode [.str "b", .num 1, .str "a", .num 1, .str "b"] = some (.str "b") := by decide +kernel
example : mode [.num 2, .str "a", .str "a", .num 2, .str "a"] = some (.str "a") := by decide +kernel

/-! ## `_get_shift_and_scale`: the fitted parameters, and the exception raised when there are none -/

/-- `_get_shift_and_scale`, soundness: for every shift ∈ {number, min, mean, median} and scale ∈ {number, minmax, std, iqr, maxabs} -/
theorem fit_eq_spec (sd : List Rat → Rat) (cfg : Cfg) (w : List Val) (s f : Rat) (h : fit sd cfg w = some (s, f)) :
    ShiftStat cfg.shift (nums w) s ∧ ScaleStat sd cfg.scale (nums w) s f := fit_sound h

/-- … and completeness -/
theorem fit_defined (sd : List Rat → Rat) (cfg : Cfg) (w : List Val)
    (hstr : w.any Val.isStr = false) (hdef : StatsDefined cfg w) : ∃ s f, fit sd cfg w = some (s, f) :=
  fit_isSome sd cfg w hstr hdef

/-- a window holding a string (mixed or string column): `_get_shift_and_scale` succeeds exactly when nothing has to look at
the values; every other configuration raises `TypeError` inside and yields no parameters (the column is left alone) -/
theorem fit_string_window (sd : List Rat → Rat) (cfg : Cfg) (w : List Val) (h : w.any Val.isStr = true) (s f : Rat) :
    fit sd cfg w = some (s, f) ↔
      ∃ a, cfg.shift = .num a ∧ s = a ∧
        ((∃ b, cfg.scale = .num b ∧ f = b) ∨ (cfg.scale = .iqr ∧ presentCount w ≤ 1 ∧ f = 1)) :=
  fit_str_iff sd cfg w h s f

example : fit (fun _ => 1) ⟨.num 2, .iqr, none⟩ [.nil, .str "x"] = some (2, 1) := by decide
example : fit (fun _ => 1) ⟨.num 2, .iqr, none⟩ [.num 3, .str "x"] = none := by decide

/-- `fitE` is the body of the `try` with the exception it raises.  The only class the handler `except (TypeError,ValueError)`
does not catch (`IndexError`, from `percentile`) never arises, so `_get_shift_and_scale` never lets an exception out -/
theorem fit_exception_values (sd : List Rat → Rat) (cfg : Cfg) (w : List Val) :
    fit sd cfg w = (match fitE sd cfg w with | .ok p => some p | .error _ => none) ∧
    fitE sd cfg w ≠ .error .indexError ∧
    getShiftAndScale scaleHandlers sd cfg w = .ok (fit sd cfg w) := by
  have hno : fitE sd cfg w ≠ .error .indexError := fun h => by
    rcases (fitE_error_iff sd cfg w .indexError).1 h with ⟨h, _⟩ | ⟨h, _⟩ | ⟨h, _⟩ <;> cases h
  refine ⟨fit_eq_fitE sd cfg w, hno, ?_⟩
  unfold getShiftAndScale
  rw [fit_eq_fitE]
  cases h : fitE sd cfg w with
  | ok p => rfl
  | error e =>
    cases e with
    | indexError => exact absurd h hno
    | typeError => rfl
    | valueError => rfl
    | statisticsError => rfl

/-- `TypeError`: a string in the window, unless nothing looks at the values -/
theorem fit_type_error_iff (sd : List Rat → Rat) (cfg : Cfg) (w : List Val) :
    fitE sd cfg w = .error .typeError ↔
      w.any Val.isStr = true ∧
        ¬ ∃ a, cfg.shift = .num a ∧ ((∃ b, cfg.scale = .num b) ∨ (cfg.scale = .iqr ∧ presentCount w ≤ 1)) :=
  (fitE_error_iff sd cfg w .typeError).trans (by simp only [TypeErrCond, reduceCtorEq, true_and, false_and, or_false])

/-- plain `ValueError`: `min()`/`max()` of an empty list -/
theorem fit_value_error_iff (sd : List Rat → Rat) (cfg : Cfg) (w : List Val) :
    fitE sd cfg w = .error .valueError ↔
      w.any Val.isStr = false ∧ nums w = [] ∧
        (cfg.shift = .min ∨ ((∃ a, cfg.shift = .num a) ∧ (cfg.scale = .minmax ∨ cfg.scale = .maxabs))) :=
  (fitE_error_iff sd cfg w .valueError).trans
    (by simp only [ValueErrCond, reduceCtorEq, true_and, false_and, or_false, false_or])

/-- `statistics.StatisticsError`: `fmean`/`median` of no data, `stdev` of fewer than two values (when the shift did not fail first) -/
theorem fit_statistics_error_iff (sd : List Rat → Rat) (cfg : Cfg) (w : List Val) :
    fitE sd cfg w = .error .statisticsError ↔
      w.any Val.isStr = false ∧
        ((nums w = [] ∧ (cfg.shift = .mean ∨ cfg.shift = .median)) ∨
         (((∃ a, cfg.shift = .num a) ∨ nums w ≠ []) ∧ cfg.scale = .std ∧ (nums w).length < 2)) :=
  (fitE_error_iff sd cfg w .statisticsError).trans (by simp only [StatErrCond, reduceCtorEq, true_and, false_and, false_or])

example : fitE (fun _ => 1) ⟨.min, .minmax, none⟩ [.num 3, .str "x"] = .error .typeError := by decide
example : fitE (fun _ => 1) ⟨.min, .minmax, none⟩ [.nil, .nan] = .error .valueError := by decide
example : fitE (fun _ => 1) ⟨.mean, .minmax, none⟩ [.nil] = .error .statisticsError := by decide
example : fitE (fun _ => 1) ⟨.min, .std, none⟩ [.num 3, .nil] = .error .statisticsError := by decide
example : fitE (fun _ => 1) ⟨.num 2, .iqr, none⟩ [.nil, .str "x"] = .ok (2, 1) := by decide

/-- a handler that caught `TypeError` only would let the `ValueError` of an all-missing window out of the function
(boundary of `fit_exception_values`: the handler tuple matters) -/
theorem narrow_handler_counterexample :
    getShiftAndScale ["TypeError"] (fun _ => 1) ⟨.min, .minmax, none⟩ [.nil, .nan] = .error .valueError := by decide

/-- `TypeErrCond`, `ValueErrCond`, `StatErrCond` are the right-hand sides of `fit_type_error_iff` … -/
theorem fit_defined_iff (sd : List Rat → Rat) (cfg : Cfg) (w : List Val) :
    (fit sd cfg w).isSome = true ↔ ¬ TypeErrCond cfg w ∧ ¬ ValueErrCond cfg w ∧ ¬ StatErrCond cfg w := by
  rw [fit_eq_fitE]
  have he := fitE_error_iff sd cfg w
  cases h : fitE sd cfg w with
  | ok p =>
    -- a condition that held would make the fit raise its class
    rw [h] at he
    refine iff_of_true rfl ⟨fun t => ?_, fun v => ?_, fun s => ?_⟩
    · cases (he .typeError).2 (Or.inl ⟨rfl, t⟩)
    · cases (he .valueError).2 (Or.inr (Or.inl ⟨rfl, v⟩))
    · cases (he .statisticsError).2 (Or.inr (Or.inr ⟨rfl, s⟩))
  | error e =>
    refine iff_of_false Bool.false_ne_true (fun ⟨nt, nv, ns⟩ => ?_)
    rcases (he e).1 h with ⟨_, t⟩ | ⟨_, v⟩ | ⟨_, s⟩
    · exact nt t
    · exact nv v
    · exact ns s

/-! ## Scale -/

/-- dense contexts.  `hpot`: the code takes its keys from the first interaction, whose value must be a number, `None` or `nan`;
missing values may be anywhere else, the first interaction included -/
theorem scale_eq_spec (sd : List Rat → Rat) (cfg : Cfg) (rows : List (List Val)) (first : List Val)
    (i k : Nat) (v : Val)
    (hfirst : rows.head? = some first) (hv : denseCell rows i k = some v)
    (hpot : potDense first k = true)
    (hstr : (col k (window cfg.usingN rows)).any Val.isStr = false)
    (hdef : StatsDefined cfg (col k (window cfg.usingN rows))) :
    ∃ out, denseCell (scaleDense sd cfg rows) i k = some out ∧
      ScaleCellSpec sd cfg (col k (window cfg.usingN rows)) v out := by
  rw [scaleDense_cell sd cfg rows first hfirst, hv, hpot]
  exact ⟨_, rfl, applyOpt_spec sd cfg _ v hstr hdef⟩

example : ∃ out, denseCell (scaleDense (fun _ => 1) ⟨.min, .minmax, none⟩ [[.nil], [.num 2], [.num 4]]) 2 0 = some out ∧
    ScaleCellSpec (fun _ => 1) ⟨.min, .minmax, none⟩ [.nil, .num 2, .num 4] (.num 4) out :=
  scale_eq_spec _ _ _ [.nil] 2 0 (.num 4) rfl rfl rfl rfl
    ⟨by decide, by decide⟩

/-- no hypothesis on types: in a mixed column numbers are scaled (by `fit_string_window`'s parameters), strings/`None`/`nan` never -/
theorem scale_cell_formula (sd : List Rat → Rat) (cfg : Cfg) (rows : List (List Val)) (first : List Val)
    (hfirst : rows.head? = some first) (i k : Nat) :
    denseCell (scaleDense sd cfg rows) i k =
      (denseCell rows i k).map (applyOpt (if potDense first k then fit sd cfg (col k (window cfg.usingN rows)) else none)) :=
  scaleDense_cell sd cfg rows first hfirst i k

theorem scale_untouched (sd : List Rat → Rat) (cfg : Cfg) (rows : List (List Val)) :
    (∀ i k v, denseCell rows i k = some v → v.isNum = false → denseCell (scaleDense sd cfg rows) i k = some v) ∧
    (∀ first i k, rows.head? = some first → potDense first k = false →
        denseCell (scaleDense sd cfg rows) i k = denseCell rows i k) ∧
    (scaleDense sd cfg rows).length = rows.length ∧
    (∀ i : Nat, ((scaleDense sd cfg rows)[i]?).map List.length = (rows[i]?).map List.length) := by
  refine ⟨fun i k v hv hn => ?_, fun first i k hf hp => ?_, ?_, fun i => ?_⟩
  · cases rows with
    | nil => simp [denseCell] at hv
    | cons f rest =>
      rw [scaleDense_cell sd cfg (f :: rest) f rfl, hv, Option.map_some, applyOpt_nonnum _ v hn]
  · rw [scaleDense_cell sd cfg rows first hf, hp]
    cases denseCell rows i k <;> simp [applyOpt]
  · cases rows with
    | nil => rfl
    | cons f rest => rw [scaleDense_rows sd cfg _ f rfl, List.length_map]
  · cases rows with
    | nil => rfl
    | cons f rest =>
      rw [scaleDense_rows sd cfg _ f rfl, List.getElem?_map, Option.map_map]
      exact congrArg (fun g => Option.map g (f :: rest)[i]?) (funext fun row => denseRow_length sd cfg f _ row)

theorem scale_scalar_eq_spec (sd : List Rat → Rat) (cfg : Cfg) (rows : List Val) (i : Nat) (v : Val)
    (hv : rows[i]? = some v)
    (hstr : (window cfg.usingN rows).any Val.isStr = false)
    (hdef : StatsDefined cfg (window cfg.usingN rows)) :
    ∃ out, (scaleScalar sd cfg rows)[i]? = some out ∧ ScaleCellSpec sd cfg (window cfg.usingN rows) v out := by
  rw [scaleScalar_cell, hv]
  exact ⟨_, rfl, applyOpt_spec sd cfg _ v hstr hdef⟩

theorem scale_scalar_untouched (sd : List Rat → Rat) (cfg : Cfg) (rows : List Val) :
    (∀ (i : Nat) (v : Val), rows[i]? = some v → v.isNum = false → (scaleScalar sd cfg rows)[i]? = some v) ∧
    (scaleScalar sd cfg rows).length = rows.length :=
  ⟨fun i v hv hn => by rw [scaleScalar_cell, hv, Option.map_some, applyOpt_nonnum _ v hn], List.length_map _⟩

/-- sparse contexts (shift 0); an absent key counts as 0 in the window column.  For EVERY key whose first-interaction value
is not a string (`hpot`), whether or not it occurs in the fitting window -/
theorem scale_sparse_eq_spec (sd : List Rat → Rat) (cfg : Cfg) (rows : List SCtx) (first : SCtx)
    (i : Nat) (k : String) (v : Val)
    (hfirst : rows.head? = some first) (h0 : cfg.shift = .num 0)
    (hv : sparseCell rows i k = some v)
    (hpot : potSparse first k = true)
    (hstr : ((window cfg.usingN rows).map (getD0 k)).any Val.isStr = false)
    (hdef : StatsDefined cfg ((window cfg.usingN rows).map (getD0 k))) :
    ∃ outs out, scaleSparse sd cfg rows = .ok outs ∧ sparseCell outs i k = some out ∧
      ScaleCellSpec sd cfg ((window cfg.usingN rows).map (getD0 k)) v out := by
  obtain ⟨outs, h1, h2⟩ := scaleSparse_cell sd cfg rows first hfirst h0 i k
  rw [hv, hpot] at h2
  exact ⟨outs, _, h1, h2, applyOpt_spec sd cfg _ v hstr hdef⟩

/-- the former finding C11-F9 as an instance: `Scale(0, 2, using=1)` on `{a:1},{b:3}` scales `b` -/
example : ∃ outs out, scaleSparse (fun _ => 1) ⟨.num 0, .num 2, some 1⟩ [[("a", .num 1)], [("b", .num 3)]] = .ok outs ∧
    sparseCell outs 1 "b" = some out ∧
    ScaleCellSpec (fun _ => 1) ⟨.num 0, .num 2, some 1⟩ [.num 0] (.num 3) out :=
  scale_sparse_eq_spec _ _ _ [("a", .num 1)] 1 "b" (.num 3) rfl rfl rfl (by decide) (by decide) ⟨trivial, trivial⟩

example : ∃ outs out, scaleSparse (fun _ => 1) ⟨.num 0, .maxabs, some 2⟩ [[("a", .num 1)], [("b", .num 4)], [("b", .num 2)]] = .ok outs ∧
    sparseCell outs 2 "b" = some out ∧
    ScaleCellSpec (fun _ => 1) ⟨.num 0, .maxabs, some 2⟩ [.num 0, .num 4] (.num 2) out :=
  scale_sparse_eq_spec _ _ _ [("a", .num 1)] 2 "b" (.num 2) rfl rfl rfl (by decide) (by decide)
    ⟨trivial, by decide⟩

/-- sparse contexts: non-numbers and the key sets stay; a non-zero shift is rejected (`CobaException`) -/
theorem scale_sparse_untouched (sd : List Rat → Rat) (cfg : Cfg) (rows : List SCtx) (first : SCtx)
    (hfirst : rows.head? = some first) :
    (cfg.shift = .num 0 →
      (∀ i k v, sparseCell rows i k = some v → v.isNum = false →
        ∃ outs, scaleSparse sd cfg rows = .ok outs ∧ sparseCell outs i k = some v) ∧
      (∃ outs, scaleSparse sd cfg rows = .ok outs ∧
        outs.map (fun c => c.map Prod.fst) = rows.map (fun c => c.map Prod.fst))) ∧
    (cfg.shift ≠ .num 0 → scaleSparse sd cfg rows = .error .cobaException) := by
  refine ⟨fun h0 => ⟨fun i k v hv hn => ?_, ?_⟩, fun h0 => ?_⟩
  · obtain ⟨outs, h1, h2⟩ := scaleSparse_cell sd cfg rows first hfirst h0 i k
    rw [hv] at h2
    exact ⟨outs, h1, by simp [h2, applyOpt_nonnum _ v hn]⟩
  · refine ⟨_, scaleSparse_ok sd cfg rows first hfirst h0, ?_⟩
    simp [sparseRow, List.map_map, Function.comp_def]
  · cases rows with
    | nil => simp at hfirst
    | cons f rest => simp [scaleSparse, h0]

/-! ### which columns get scaled (mixed-type columns included) -/

/-- WHICH DENSE COLUMNS GET SCALED, mixed-type columns included.  `denseDecision` IS what `denseRow` applies (first conjunct,
by `rfl`): potential key from the FIRST context, parameters from the WINDOW column -/
theorem scale_dense_column_iff (sd : List Rat → Rat) (cfg : Cfg) (first : List Val) (win : List (List Val)) (k : Nat) :
    (∀ row, denseRow sd cfg first win row = row.mapIdx (fun k v => applyOpt (denseDecision sd cfg first win k) v)) ∧
    ((denseDecision sd cfg first win k).isSome = true ↔
      (∃ v, first[k]? = some v ∧ v.isStr = false) ∧
        ¬ TypeErrCond cfg (col k win) ∧ ¬ ValueErrCond cfg (col k win) ∧ ¬ StatErrCond cfg (col k win)) ∧
    (∀ v, (denseDecision sd cfg first win k = none → applyOpt (denseDecision sd cfg first win k) v = v) ∧
      (∀ s f, denseDecision sd cfg first win k = some (s, f) →
        (∀ x, v = .num x → applyOpt (denseDecision sd cfg first win k) v = .num ((x + s) * f)) ∧
        (v.isNum = false → applyOpt (denseDecision sd cfg first win k) v = v))) := by
  refine ⟨fun row => rfl, ?_, fun v => ⟨fun h => by rw [h]; rfl, fun s f h =>
    ⟨fun x hx => by rw [h, hx]; rfl, fun hv => by rw [h]; exact applyOpt_nonnum _ _ hv⟩⟩⟩
  unfold denseDecision
  rw [ite_isSome, potDense_iff, fit_defined_iff]

/-- a mixed column that starts with a number and holds a string in the window IS scaled under numeric shift and scale … -/
example : denseDecision (fun _ => 1) ⟨.num 1, .num 2, none⟩ [.num 3] [[.num 3], [.str "x"]] 0 = some (1, 2) := by decide +kernel
/-- … and is NOT under a named statistic, nor when it starts with the string -/
example : denseDecision (fun _ => 1) ⟨.min, .num 2, none⟩ [.num 3] [[.num 3], [.str "x"]] 0 = none := by decide +kernel
example : denseDecision (fun _ => 1) ⟨.num 1, .num 2, none⟩ [.str "x"] [[.str "x"], [.num 3]] 0 = none := by decide +kernel

/-- the same for sparse keys; an absent first-context entry counts as fine, an absent window entry as 0 -/
theorem scale_sparse_column_iff (sd : List Rat → Rat) (cfg : Cfg) (first : SCtx) (win : List SCtx) (k : String) :
    (∀ c, sparseRow sd cfg first win c = c.map (fun kv => (kv.1, applyOpt (sparseDecision sd cfg first win kv.1) kv.2))) ∧
    ((sparseDecision sd cfg first win k).isSome = true ↔
      (∀ v, first.lookup k = some v → v.isStr = false) ∧
        ¬ TypeErrCond cfg (win.map (getD0 k)) ∧ ¬ ValueErrCond cfg (win.map (getD0 k)) ∧ ¬ StatErrCond cfg (win.map (getD0 k))) := by
  refine ⟨fun c => rfl, ?_⟩
  unfold sparseDecision
  rw [ite_isSome, potSparse_iff, fit_defined_iff]

/-! ### the three kinds of context agree -/

/-- the three kinds of context agree: scalar contexts behave as dense contexts with one feature — for streams whose first
context is not a string: the scalar path always fits, the dense path takes its potential keys from the first context, so the
two differ on a MIXED column that starts with a string (`scale_scalar_dense_mixed_counterexample`) — and a sparse context
behaves as its dense embedding (absent key = 0) on every key -/
theorem scale_containers_agree (sd : List Rat → Rat) (cfg : Cfg) :
    (∀ rows : List Val, (∀ v0, rows.head? = some v0 → v0.isStr = false) →
      scaleDense sd cfg (rows.map (fun v => [v])) = (scaleScalar sd cfg rows).map (fun v => [v])) ∧
    (∀ (rows : List SCtx) (first : SCtx) (keys : List String) (i j : Nat) (k : String) (v : Val),
      rows.head? = some first → cfg.shift = .num 0 → keys[j]? = some k → sparseCell rows i k = some v →
      ∃ outs, scaleSparse sd cfg rows = .ok outs ∧
        sparseCell outs i k = denseCell (scaleDense sd cfg (rows.map (embed keys))) i j) := by
  refine ⟨fun rows hs => ?_, fun rows first keys i j k v hfirst h0 hk hv => ?_⟩
  · cases rows with
    | nil => rfl
    | cons v0 rest =>
      rw [scaleDense_singletons, (potDense_iff [v0] 0).2 ⟨v0, rfl, hs v0 rfl⟩]
      rfl
  · obtain ⟨outs, h1, h2⟩ := scaleSparse_cell sd cfg rows first hfirst h0 i k
    have hf' : (rows.map (embed keys)).head? = some (embed keys first) := by
      rw [List.head?_map, hfirst]
      rfl
    refine ⟨outs, h1, ?_⟩
    rw [h2, scaleDense_cell sd cfg _ (embed keys first) hf', window_map, col_embed keys j k hk,
      denseCell_embed keys j k hk rows i v hv, hv, potDense_embed keys j k hk first]

/-- `Scale(1, 2)` on the mixed scalar stream `'x', 3` scales the 3, on the dense one-feature stream `('x',), (3,)` leaves it
(column 0 is not a potential key): the hypothesis of `scale_containers_agree` is necessary.  Mixed columns are outside the
property's quantifier; replayed on the code. -/
theorem scale_scalar_dense_mixed_counterexample :
    scaleScalar (fun _ => 1) ⟨.num 1, .num 2, none⟩ [.str "x", .num 3] = [.str "x", .num 8] ∧
    scaleDense (fun _ => 1) ⟨.num 1, .num 2, none⟩ [[.str "x"], [.num 3]] = [[.str "x"], [.num 3]] := by decide +kernel

/-- `scale_containers_agree` WITHOUT its hypothesis, as an iff: the two agree exactly when the first context is not a string
or the scalar path changes nothing.  So the hypothesis cannot be lifted: `scale_scalar_dense_mixed_counterexample`
(replayed on the code by the corpus cases tagged `agree:mixed-first-string`) is an instance of the right-hand side failing -/
theorem scale_scalar_dense_agree_iff (sd : List Rat → Rat) (cfg : Cfg) (v0 : Val) (rest : List Val) :
    scaleDense sd cfg ((v0 :: rest).map (fun v => [v])) = (scaleScalar sd cfg (v0 :: rest)).map (fun v => [v]) ↔
      (v0.isStr = false ∨ ∀ v ∈ v0 :: rest, applyOpt (fit sd cfg (window cfg.usingN (v0 :: rest))) v = v) := by
  have hp : potDense [v0] 0 = !v0.isStr := numOrNil_eq_not_isStr v0
  rw [scaleDense_singletons, hp, scaleScalar, List.map_inj_right (fun _ _ h => (List.cons.inj h).1), List.map_inj_left]
  cases v0.isStr
  · exact iff_of_true (fun _ _ => rfl) (Or.inl rfl)
  · exact ⟨fun h => Or.inr fun v hv => (h v hv).symm, fun h v hv => (h.resolve_left (by decide) v hv).symm⟩

/-! ### outside the property's quantifier: `using = 0`, ragged dense rows -/

/-- `using = 0` on dense contexts (outside the property's quantifier, modelled exactly): with two or more potential keys
nothing is fitted and the interactions pass unchanged.  The first conjunct is the bridge between the cell theorems, which
speak of `scaleDense`, and `scaleCtxs` (`collection_pipelines`, `generator_pipelines`), which applies `scaleDenseFull`: for
`using ≠ 0` the two are one function, for `using = 0` the second conjunct says where they part -/
theorem scale_dense_zero_window (sd : List Rat → Rat) (cfg : Cfg) :
    (∀ rows, cfg.usingN ≠ some 0 → scaleDenseFull sd cfg rows = scaleDense sd cfg rows) ∧
    (∀ first rest, cfg.usingN = some 0 →
      scaleDenseFull sd cfg (first :: rest) = if 2 ≤ potCount first then first :: rest else scaleDense sd cfg (first :: rest)) := by
  refine ⟨fun rows hu => ?_, fun first rest hu => by simp [scaleDenseFull, denseZeroWindow, hu, window]⟩
  cases rows with
  | nil => simp [scaleDenseFull, denseZeroWindow]
  | cons f r =>
    obtain ⟨tl, htl⟩ := window_cons cfg.usingN f r hu
    simp [scaleDenseFull, denseZeroWindow, htl]

/-- ragged dense rows are OUTSIDE the property's quantifier (a feature is a column of every interaction); the model says
what the code does: on rectangular data no `IndexError` can arise and the filter is `scaleDenseFull` -/
theorem scale_dense_rectangular (sd : List Rat → Rat) (cfg : Cfg) (rows : List (List Val)) (h : Rect rows = true) :
    scaleDenseE sd cfg rows = .ok (scaleDenseFull sd cfg rows) := by
  cases rows with
  | nil => rfl
  | cons first rest =>
    have hl := rect_length h
    have h1 : (window cfg.usingN (first :: rest)).any (fun r => (potKeys first).any (fun k => decide (r.length ≤ k))) = false :=
      List.any_eq_false.2 fun r hr => ne_true_of_eq_false (no_short_row (hl r (mem_of_mem_window _ _ _ hr)) _ fun _ hk => hk)
    have h2 : ∀ (p : Nat → Bool), (first :: rest).any (fun r => ((potKeys first).filter p).any (fun k => decide (r.length ≤ k))) = false :=
      fun p => List.any_eq_false.2 fun r hr => ne_true_of_eq_false (no_short_row (hl r hr) _ fun _ hk => (List.mem_filter.1 hk).1)
    simp only [scaleDenseE, h1, h2, Bool.and_false, Bool.false_eq_true, if_false]

example : Rect [[.num 1, .str "a"], [.nil, .str "b"]] = true := by decide

/-- the hypothesis `Rect` is necessary: a short row inside the window raises `IndexError`; a short row after the window
raises it only if the missing column got parameters (`std` of one value gives none → pass-through) -/
theorem scale_dense_ragged_counterexample :
    scaleDenseE (fun _ => 1) ⟨.num 0, .num 2, none⟩ [[.num 1, .num 2], [.num 3]] = .error .indexError ∧
    scaleDenseE (fun _ => 1) ⟨.num 0, .num 2, some 1⟩ [[.num 1, .str "x", .num 5], [.num 2]] = .error .indexError ∧
    scaleDenseE (fun _ => 1) ⟨.num 0, .std, some 1⟩ [[.num 1, .str "x", .num 5], [.num 2]] =
      .ok [[.num 1, .str "x", .num 5], [.num 2]] := by decide +kernel

/-! ## the fitting window -/

/-- `using ≥ N` is `using = None`; with `using = len(w)` on `w ++ rest` every interaction, inside or after the window, goes
through the row function fitted on `w` alone -/
theorem window_semantics (sd : List Rat → Rat) (sh : Shift) (sc : Scl) :
    (∀ (rows : List (List Val)) (n : Nat), rows.length ≤ n →
      scaleDense sd ⟨sh, sc, some n⟩ rows = scaleDense sd ⟨sh, sc, none⟩ rows) ∧
    (∀ (first : List Val) (w rest : List (List Val)), w.head? = some first →
      scaleDense sd ⟨sh, sc, some w.length⟩ (w ++ rest) = (w ++ rest).map (denseRow sd ⟨sh, sc, some w.length⟩ first w)) ∧
    (∀ (rows : List Val) (n : Nat), rows.length ≤ n →
      scaleScalar sd ⟨sh, sc, some n⟩ rows = scaleScalar sd ⟨sh, sc, none⟩ rows) ∧
    (∀ (w rest : List Val),
      scaleScalar sd ⟨sh, sc, some w.length⟩ (w ++ rest) = (w ++ rest).map (applyOpt (fit sd ⟨sh, sc, some w.length⟩ w))) ∧
    (∀ (rows : List SCtx) (n : Nat), rows.length ≤ n →
      scaleSparse sd ⟨sh, sc, some n⟩ rows = scaleSparse sd ⟨sh, sc, none⟩ rows) ∧
    (∀ (first : SCtx) (w rest : List SCtx), w.head? = some first → sh = .num 0 →
      scaleSparse sd ⟨sh, sc, some w.length⟩ (w ++ rest) = .ok ((w ++ rest).map (sparseRow sd ⟨sh, sc, some w.length⟩ first w))) := by
  refine ⟨fun rows n h => ?_, fun first w rest hw => ?_, fun rows n h => ?_, fun w rest => ?_, fun rows n h => ?_,
    fun first w rest hw h0 => ?_⟩
  · cases rows with
    | nil => rfl
    | cons f r =>
      simp only [scaleDense, window_ge n (f :: r) h]
      rfl
  · rw [scaleDense_rows sd _ _ first (head?_append_left hw), window_append]
  · simp only [scaleScalar, window_ge n rows h]
    rfl
  · simp only [scaleScalar, window_append]
  · cases rows with
    | nil => rfl
    | cons f r =>
      simp only [scaleSparse, window_ge n (f :: r) h]
      rfl
  · rw [scaleSparse_ok sd _ _ first (head?_append_left hw) h0, window_append]

theorem impute_window_semantics (st : Stat) (ind : Bool) :
    (∀ (rows : List (List Val)) (n : Nat), rows.length ≤ n → imputeDense st ind (some n) rows = imputeDense st ind none rows) ∧
    (∀ (first : List Val) (w rest : List (List Val)), w.head? = some first →
      imputeDense st ind (some w.length) (w ++ rest) = (w ++ rest).map (imputeDenseRow st ind first w)) ∧
    (∀ (rows : List SCtx) (n : Nat), rows.length ≤ n → imputeSparse st ind (some n) rows = imputeSparse st ind none rows) ∧
    (∀ (rows : List Val) (n : Nat), rows.length ≤ n → imputeScalar st ind (some n) rows = imputeScalar st ind none rows) := by
  refine ⟨fun rows n h => ?_, fun first w rest hw => ?_, fun rows n h => ?_, fun rows n h => ?_⟩
  · cases rows with
    | nil => rfl
    | cons f r =>
      simp only [imputeDense, window_ge n (f :: r) h]
      rfl
  · rw [imputeDense_rows st ind _ _ first (head?_append_left hw), window_append]
  · cases rows with
    | nil => rfl
    | cons f r =>
      simp only [imputeSparse, window_ge n (f :: r) h]
      rfl
  · unfold imputeScalar
    rw [window_ge n rows h]
    rfl

/-! ## Impute -/

/-- `_get_imputation`: soundness, and completeness for every imputable feature -/
theorem imputation_spec (st : Stat) (w : List Val) :
    (∀ m, getImp st w = some m → ImpStat st (present w) m) ∧ (Imputable st w → ∃ m, getImp st w = some m) :=
  ⟨fun _ h => getImp_sound h, getImp_isSome⟩

/-- dense contexts; the missing value (`None` or `nan`) may be anywhere, the first interaction included -/
theorem impute_eq_spec (st : Stat) (ind : Bool) (u : Option Nat) (rows : List (List Val)) (first : List Val)
    (i k : Nat) (v : Val) (hfirst : rows.head? = some first) (hu : u ≠ some 0) (hk : k < first.length)
    (hv : denseCell rows i k = some v) (hmiss : v.isMiss = true)
    (himp : Imputable st (col k (window u rows))) :
    ∃ m, denseCell (imputeDense st ind u rows) i k = some m ∧ ImpStat st (present (col k (window u rows))) m := by
  refine ⟨_, imputeDense_cell st ind u rows first i k v hfirst hv, ?_⟩
  rw [denseImp, if_pos (impDense_of_imputable st first rows u k hfirst hu hk himp)]
  exact imputeCell_spec himp hmiss

example : ∃ m, denseCell (imputeDense .mean true none [[.nil], [.num 2], [.nan], [.num 4]]) 2 0 = some m ∧
    ImpStat .mean (present [.nil, .num 2, .nan, .num 4]) m :=
  impute_eq_spec .mean true none _ [.nil] 2 0 .nan rfl (by decide) (by decide) rfl rfl ⟨by decide, by decide⟩

/-- no non-missing value is changed or moved (scalar contexts: `impute_scalar_spec`).  For sparse contexts the key must not
itself be the indicator name `<b>_is_missing` of a window key `b`: the code writes the indicators with `dict.update`, which
overwrites such a feature (seen by the correspondence check on two-pass lists) -/
theorem impute_nonmissing_fixed (st : Stat) (ind : Bool) (u : Option Nat) :
    (∀ (rows : List (List Val)) i k v, denseCell rows i k = some v → v.isMiss = false →
      denseCell (imputeDense st ind u rows) i k = some v) ∧
    (∀ (rows : List SCtx) i k v, sparseCell rows i k = some v → v.isMiss = false →
      (∀ b ∈ sparseBins ind (window u rows), b ++ "_is_missing" ≠ k) →
      sparseCell (imputeSparse st ind u rows) i k = some v) := by
  refine ⟨fun rows i k v hv hnn => ?_, fun rows i k v hv hnn hfresh => ?_⟩
  · cases rows with
    | nil => simp [denseCell] at hv
    | cons f rest =>
      rw [imputeDense_cell st ind u (f :: rest) f i k v rfl hv, imputeCell_nonmiss _ v hnn]
  · cases rows with
    | nil => simp [sparseCell] at hv
    | cons f rest =>
      rw [imputeSparse_cell st ind u (f :: rest) f i k v rfl hv hfresh, imputeCell_nonmiss _ v hnn]

/-- the missingness indicators: one 0/1 feature per column with a missing value in the window — imputable or not, as for
scalar contexts — appended in column order -/
theorem impute_indicator (st : Stat) (ind : Bool) (u : Option Nat) (rows : List (List Val)) (first row : List Val)
    (i : Nat) (hfirst : rows.head? = some first) (hrow : rows[i]? = some row) :
    ∃ out, (imputeDense st ind u rows)[i]? = some out ∧
      out.length = row.length + (denseBins ind first (window u rows)).length ∧
      (∀ j k, (denseBins ind first (window u rows))[j]? = some k →
        out[row.length + j]? = some (bit (missAt row[k]?))) ∧
      (∀ k, k ∈ denseBins ind first (window u rows) ↔
        (ind = true ∧ k < first.length ∧ (col k (window u rows)).any Val.isMiss = true)) := by
  refine ⟨imputeDenseRow st ind first (window u rows) row, ?_, imputeDenseRow_length _ _ _ _ _, ?_, ?_⟩
  · rw [imputeDense_rows st ind u rows first hfirst, List.getElem?_map, hrow]; rfl
  · intro j k hj; exact imputeDenseRow_bit st ind first _ row j k hj
  · intro k; exact mem_denseBins ind first _ k

theorem impute_no_indicator (st : Stat) (u : Option Nat) (rows : List (List Val)) :
    (imputeDense st false u rows).map List.length = rows.map List.length ∧
    (imputeDense st false u rows).length = rows.length := by
  cases rows with
  | nil => exact ⟨rfl, rfl⟩
  | cons f rest =>
    rw [imputeDense_rows st false u _ f rfl, List.map_map, List.length_map]
    refine ⟨List.map_congr_left fun row _ => ?_, rfl⟩
    -- `denseBins false` is empty: nothing is appended
    rw [Function.comp_apply, imputeDenseRow_length]
    rfl

/-- scalar contexts: scalars, or `[value, indicator]` pairs when `indicator=True` and the window has a missing value -/
theorem impute_scalar_spec (st : Stat) (ind : Bool) (u : Option Nat) (rows : List Val) :
    ((ind && (window u rows).any Val.isMiss) = false →
      imputeScalar st ind u rows = .scalars (rows.map (imputeCell (getImp st (window u rows))))) ∧
    ((ind && (window u rows).any Val.isMiss) = true →
      imputeScalar st ind u rows = .pairs (rows.map (fun v => [imputeCell (getImp st (window u rows)) v, bit v.isMiss]))) ∧
    (∀ v, (v.isMiss = false → imputeCell (getImp st (window u rows)) v = v) ∧
      (v.isMiss = true → Imputable st (window u rows) →
        ∃ m, imputeCell (getImp st (window u rows)) v = m ∧ ImpStat st (present (window u rows)) m)) := by
  exact ⟨fun h => by simp [imputeScalar, h], fun h => by simp [imputeScalar, h],
    fun v => ⟨imputeCell_nonmiss _ v, fun hmiss himp => ⟨_, rfl, imputeCell_spec himp hmiss⟩⟩⟩

/-- sparse contexts; an absent key counts as 0 in the window column.  `hkey`: not a string in the first interaction for
mean/median.  Whether or not the key occurs in the window -/
theorem impute_sparse_eq_spec (st : Stat) (ind : Bool) (u : Option Nat) (rows : List SCtx) (first : SCtx)
    (i : Nat) (k : String) (v : Val) (hfirst : rows.head? = some first)
    (hv : sparseCell rows i k = some v) (hmiss : v.isMiss = true)
    (hkey : impSparseKey st first k = true)
    (himp : Imputable st (sparseCol k (window u rows)))
    (hfresh : ∀ b ∈ sparseBins ind (window u rows), b ++ "_is_missing" ≠ k) :
    ∃ m, sparseCell (imputeSparse st ind u rows) i k = some m ∧
      ImpStat st (present (sparseCol k (window u rows))) m := by
  refine ⟨_, imputeSparse_cell st ind u rows first i k v hfirst hv hfresh, ?_⟩
  rw [sparseImp, if_pos hkey]
  exact imputeCell_spec himp hmiss

example : ∃ m, sparseCell (imputeSparse .median false none [[("a", .nil)], [("a", .num 2)], []]) 0 "a" = some m ∧
    ImpStat .median (present (sparseCol "a" [[("a", .nil)], [("a", .num 2)], []])) m :=
  impute_sparse_eq_spec .median false none _ [("a", .nil)] 0 "a" .nil rfl rfl rfl (by decide) ⟨by decide, by decide⟩
    (by decide)

/-- the former finding C11-F10 as an instance: `Impute('mean', using=1)` on `{a:1},{b:None}` imputes the window
statistic of `b` (absent = 0) -/
example : ∃ m, sparseCell (imputeSparse .mean false (some 1) [[("a", .num 1)], [("b", .nil)]]) 1 "b" = some m ∧
    ImpStat .mean (present (sparseCol "b" [[("a", .num 1)]])) m :=
  impute_sparse_eq_spec .mean false (some 1) _ [("a", .num 1)] 1 "b" .nil rfl rfl rfl (by decide) ⟨by decide, by decide⟩
    (by decide)

/-- sparse contexts: one `<key>_is_missing` 0/1 entry per key with a missing value in the window, written with `dict.update`
(appended, or overwriting an entry of that name) -/
theorem impute_sparse_indicator (st : Stat) (ind : Bool) (u : Option Nat) (rows : List SCtx) (first c : SCtx)
    (i : Nat) (hfirst : rows.head? = some first) (hrow : rows[i]? = some c) :
    (imputeSparse st ind u rows)[i]? = some
      ((sparseBins ind (window u rows)).foldl
        (fun acc k => upsert acc (k ++ "_is_missing") (bit (missAt (c.lookup k))))
        (c.map (fun kv => (kv.1, imputeCell (sparseImp st first (window u rows) kv.1) kv.2)))) ∧
    (∀ k, k ∈ sparseBins ind (window u rows) ↔
      (ind = true ∧ (window u rows).any (hasKey k) = true ∧
        ((window u rows).filterMap (fun c => c.lookup k)).any Val.isMiss = true)) ∧
    (∀ b ∈ sparseBins ind (window u rows), ∃ b' ∈ sparseBins ind (window u rows),
      b' ++ "_is_missing" = b ++ "_is_missing" ∧
      (imputeSparseRow st ind first (window u rows) c).lookup (b ++ "_is_missing") = some (bit (missAt (c.lookup b')))) := by
  refine ⟨?_, fun k => mem_sparseBins ind _ k, fun b hb =>
    ⟨b, hb, rfl, lookup_foldl_upsert_mem (· ++ "_is_missing") (fun _ _ => (String.append_left_inj _).1) _
      (fun k => bit (missAt (c.lookup k))) _ b hb⟩⟩
  rw [imputeSparse_rows st ind u rows first hfirst, List.getElem?_map, hrow]
  rfl

/-- the sparse default-zero completion: Impute's window column of a sparse key (present values, then one 0 per context
lacking the key) against the dense-embedding column (0 in place) -/
theorem sparse_completion (st : Stat) (k : String) (win : List SCtx) :
    (sparseCol k win).Perm (win.map (getD0 k)) ∧
    (∀ m, ImpStat st (present (sparseCol k win)) m ↔ ImpStat st (present (win.map (getD0 k))) m) :=
  ⟨sparseCol_perm k win, fun _ => ⟨impStat_perm (perm_present (sparseCol_perm k win)),
    impStat_perm (perm_present (sparseCol_perm k win).symm)⟩⟩

/-- WHICH COLUMNS GET IMPUTED.  A MIXED column is imputed by `mode` only (`Imputable`).  The dense path additionally asks the
FIRST context's cell not to be a string (mean/median) resp. to exist (mode); the sparse path asks that of the first
context's entry under the key, if there is one -/
theorem impute_column_iff (st : Stat) :
    (∀ w, (getImp st w).isSome = true ↔ Imputable st w) ∧
    (∀ (first : List Val) (win : List (List Val)) (k : Nat), (denseImp st first win k).isSome = true ↔
      (match st with | .mode => k < first.length | _ => ∃ v, first[k]? = some v ∧ v.isStr = false) ∧
        Imputable st (col k win)) ∧
    (∀ (first : SCtx) (win : List SCtx) (k : String), (sparseImp st first win k).isSome = true ↔
      (match st with | .mode => True | _ => ∀ v, first.lookup k = some v → v.isStr = false) ∧
        Imputable st (sparseCol k win)) := by
  refine ⟨getImp_isSome_iff st, fun first win k => ?_, fun first win k => ?_⟩
  · unfold denseImp
    rw [ite_isSome, getImp_isSome_iff]
    cases st <;> simp only [impDense, potDense_iff, decide_eq_true_eq]
  · unfold sparseImp
    rw [ite_isSome, getImp_isSome_iff]
    cases st <;> simp [impSparseKey, ← potSparse_iff, potSparse]

example : (denseImp .mode [.str "a"] [[.str "a"], [.num 1], [.nil]] 0).isSome = true := by decide +kernel
example : (denseImp .mean [.num 2] [[.num 2], [.str "a"], [.nil]] 0).isSome = false := by decide +kernel

/-- `Environments.impute(stats)`: one statistic after the other, each on the result of the previous one -/
theorem impute_list_sequential (st : Stat) (stats : List Stat) (ind : Bool) (u : Option Nat) (c : Ctxs) :
    envImpute [] ind u c = c ∧
    envImpute (st :: stats) ind u c = envImpute stats ind u (imputeCtxs st ind u c) :=
  ⟨envImpute_nil' ind u c, envImpute_cons' st stats ind u c⟩

/-! ## `std` characterised inside ℚ (no abstract square-root function in the conclusion) -/

theorem variance_nonneg_spec (xs : List Rat) (h : 2 ≤ xs.length) : 0 ≤ variance xs := by
  unfold variance
  rw [sumL_eq_sum]
  have h1 : (0 : Rat) ≤ (xs.length : Rat) - 1 := by
    have : (2 : Rat) ≤ (xs.length : Rat) := by exact_mod_cast h
    linarith
  exact div_nonneg (sum_sq_nonneg xs (fun x => x - sumL xs / (xs.length : Rat))) h1

theorem invSqrt_unique (v f g : Rat) (hf : IsInvSqrt v f) (hg : IsInvSqrt v g) : f = g := by
  obtain ⟨hf0, hf1⟩ := hf
  obtain ⟨hg0, hg1⟩ := hg
  have hv : v ≠ 0 := by
    rintro rfl
    rw [mul_zero] at hf1
    exact zero_ne_one hf1
  -- `f² = g²` (cancel `v`), and squaring is injective on the non-negative rationals
  exact (mul_self_inj hf0 hg0).1 (mul_right_cancel₀ hv (hf1.trans hg1.symm))

/-- the 1e-6 guard on the deviation is the 1e-12 guard on the variance -/
theorem std_guard_iff (sd : List Rat → Rat) (xs : List Rat) (h : SqrtExact sd xs) :
    sd xs < 1 / 1000000 ↔ variance xs < 1 / 1000000000000 :=
  guard_sq_iff h.1 (by norm_num) h.2 (by norm_num)

/-- `fit_eq_spec` without a function parameter in the conclusion: when the square-root routine is exact on the window's
numbers (asked for `std` only), the scale for `std` is THE non-negative `f` with `f²·var = 1` (sample variance, `n−1`), or 1
below the guard -/
theorem fit_eq_spec_q (sd : List Rat → Rat) (cfg : Cfg) (w : List Val) (s f : Rat) (h : fit sd cfg w = some (s, f))
    (hx : cfg.scale = .std → SqrtExact sd (nums w)) :
    ShiftStat cfg.shift (nums w) s ∧ ScaleStatQ cfg.scale (nums w) s f :=
  ⟨(fit_sound h).1, scaleStat_to_Q (fit_sound h).2 hx⟩

example : SqrtExact (fun _ => 2) [1, 3, 5] := by
  unfold SqrtExact
  decide +kernel

/-- for a square-root routine with relative error `δ` (`sd² = var·(1+δ)`, e.g. IEEE `sqrt`: |δ| ≤ 2^-51) the scale
for `std` satisfies `f²·var·(1+δ) = 1` exactly -/
theorem std_scale_within (sd : List Rat → Rat) (xs : List Rat) (s f δ : Rat) (hx : SqrtWithin sd xs δ)
    (hg : ¬ sd xs < 1 / 1000000) (h : ScaleStat sd .std xs s f) :
    0 ≤ f ∧ f * f * variance xs * (1 + δ) = 1 := by
  obtain ⟨_, rfl⟩ := (scaleStat_std_iff sd xs s f).1 h
  rw [if_neg hg, mul_assoc]
  exact isInvSqrt_one_div hx.1 hx.2

/-- `std_scale_within` with its guard: `sd < 1e-6` is exactly `var·(1+δ) < 1e-12` -/
theorem std_scale_within_cases (sd : List Rat → Rat) (xs : List Rat) (s f δ : Rat) (hx : SqrtWithin sd xs δ)
    (h : ScaleStat sd .std xs s f) :
    2 ≤ xs.length ∧
    ((variance xs * (1 + δ) < 1 / 1000000000000 ∧ f = 1) ∨
     (1 / 1000000000000 ≤ variance xs * (1 + δ) ∧ 0 ≤ f ∧ f * f * variance xs * (1 + δ) = 1)) := by
  obtain ⟨hl, rfl⟩ := (scaleStat_std_iff sd xs s f).1 h
  exact ⟨hl, (guard_isInvSqrt (le_of_lt hx.1) hx.2).imp_right fun ⟨h1, h2, h3⟩ => ⟨h1, h2, (mul_assoc _ _ _).trans h3⟩⟩

example : SqrtWithin (fun _ => 2) [1, 3, 5] 0 := by
  unfold SqrtWithin
  decide +kernel

/-- every cell theorem above transfers to the parameter-free `ScaleCellSpecQ` -/
theorem scale_cell_spec_q (sd : List Rat → Rat) (cfg : Cfg) (w : List Val) (v out : Val)
    (h : ScaleCellSpec sd cfg w v out) (hx : cfg.scale = .std → SqrtExact sd (nums w)) :
    ScaleCellSpecQ cfg w v out := by
  cases v with
  | num x =>
    obtain ⟨s, f, h1, h2, h3⟩ := h
    exact ⟨s, f, h1, scaleStat_to_Q h2 hx, h3⟩
  | nan => exact h
  | nil => exact h
  | str t => exact h

theorem scale_eq_spec_q (sd : List Rat → Rat) (cfg : Cfg) (rows : List (List Val)) (first : List Val)
    (i k : Nat) (v : Val)
    (hfirst : rows.head? = some first) (hv : denseCell rows i k = some v)
    (hpot : potDense first k = true)
    (hstr : (col k (window cfg.usingN rows)).any Val.isStr = false)
    (hdef : StatsDefined cfg (col k (window cfg.usingN rows)))
    (hx : cfg.scale = .std → SqrtExact sd (nums (col k (window cfg.usingN rows)))) :
    ∃ out, denseCell (scaleDense sd cfg rows) i k = some out ∧
      ScaleCellSpecQ cfg (col k (window cfg.usingN rows)) v out :=
  let ⟨out, h1, h2⟩ := scale_eq_spec sd cfg rows first i k v hfirst hv hpot hstr hdef
  ⟨out, h1, scale_cell_spec_q sd cfg _ v out h2 hx⟩

/-! ### the square root of `statistics.stdev` -/

/-- the integer square root with sticky bit of CPython's `statistics` is exact on perfect squares -/
theorem isqrt_rto_exact (a m : Nat) (hm : 0 < m) : isqrtRto (a * a * m) m = a := isqrtRto_exact a m hm

/-- THE SQUARE ROOT.  `pySd` is what `statistics.stdev` computes (`_float_sqrt_of_frac` on the exact sample variance, before
the final correctly rounded int/int division — exact whenever the numerator fits 53 bits).  It satisfies `SqrtExact`, the
hypothesis of `fit_eq_spec_q`, on every data set whose sample variance is the square of a rational `r ≥ 0` whose denominator
divides `r.num·2^s` (`s` the routine's scaling shift, ≥ 54 for modest data: every dyadic `r` with ≤ 54 fractional bits) -/
theorem sqrt_exact_perfect_square (xs : List Rat) (r : Rat) (hr : 0 ≤ r) (hv : variance xs = r * r)
    (hq : pySqrtShift (r.num.toNat * r.num.toNat) (r.den * r.den) < 0)
    (hd : r.den ∣ r.num.toNat * 2 ^ (-(pySqrtShift (r.num.toNat * r.num.toNat) (r.den * r.den))).toNat) :
    SqrtExact pySd xs := by
  unfold SqrtExact
  rw [pySd_of_variance_sq xs r hr hv hq hd]
  exact ⟨hr, hv.symm⟩

/-- the hypotheses are met by `[1, 3, 5]` (variance 4 = 2²) and by `[0, 3/2, 3]` (variance 9/4 = (3/2)²) -/
example : SqrtExact pySd [1, 3, 5] :=
  sqrt_exact_perfect_square [1, 3, 5] 2 (by decide +kernel) (by decide +kernel) (by decide +kernel) (by decide +kernel)
example : SqrtExact pySd [0, 3 / 2, 3] :=
  sqrt_exact_perfect_square [0, 3 / 2, 3] (3 / 2) (by decide +kernel) (by decide +kernel) (by decide +kernel) (by decide +kernel)

/-- outside perfect squares the routine is NOT exact (ℚ has no √2): `SqrtExact` fails for `[0, 2]` (variance 2) -/
theorem sqrt_exact_counterexample : ¬ SqrtExact pySd [0, 2] := by
  unfold SqrtExact
  decide +kernel

/-! ## the arguments of `Scale` and of `Environments.scale` / `.impute` -/

/-- the `target` of a `Scale` object only gates the sparse-shift rejection: any other target than "context" scales the
context all the same, sparse contexts without the rejection -/
theorem scale_target_semantics (sd : List Rat → Rat) (sc : ScaleCfg) (c : Ctxs) :
    (sc.target = "context" → scaleFilter sd sc c = scaleCtxs sd sc.cfg c) ∧
    (sc.target ≠ "context" → scaleFilter sd sc c = match c with
      | .sparse rows => .ok (.sparse (scaleSparseRows sd sc.cfg rows))
      | c => scaleCtxs sd sc.cfg c) ∧
    (∀ rows, sc.cfg.shift = .num 0 → scaleSparse sd sc.cfg rows = .ok (scaleSparseRows sd sc.cfg rows)) := by
  refine ⟨fun h => ?_, fun h => ?_, fun rows h0 => ?_⟩
  · cases c <;> simp [scaleFilter, scaleCtxs, h]
  · cases c <;> simp [scaleFilter, h]
  · cases rows with
    | nil => rfl
    | cons f r => simp [scaleSparse, scaleSparseRows, h0]

/-- `Environments.scale(shift, scale, targets, using)`: one `Scale` per target; a given `0` shift, `0` scale or `using=0` is
kept (nothing is replaced through truthiness), an omitted keyword takes the documented default (`"min"`, `"minmax"`,
`"context"`, `None`) -/
theorem env_scale_config (a : ScaleArgs) :
    (∀ sh sc ts u, envScaleFilters ⟨some sh, some sc, some ts, some u⟩ = ts.map (fun t => ⟨⟨sh, sc, u⟩, t⟩)) ∧
    envScaleFilters ⟨none, none, none, none⟩ = [⟨⟨.min, .minmax, none⟩, "context"⟩] ∧
    (envScaleFilters a).map (·.target) = (match a.targets with | some ts => ts | none => ["context"]) ∧
    (∀ k ∈ envScaleFilters a,
      (∀ sh, a.shift = some sh → k.cfg.shift = sh) ∧ (a.shift = none → k.cfg.shift = .min) ∧
      (∀ sc, a.scale = some sc → k.cfg.scale = sc) ∧ (a.scale = none → k.cfg.scale = .minmax) ∧
      (∀ u, a.usingA = some u → k.cfg.usingN = u) ∧ (a.usingA = none → k.cfg.usingN = none)) := by
  refine ⟨fun sh sc ts u => rfl, rfl, ?_, fun k hk => ?_⟩
  · rw [envScaleFilters, List.map_map]
    exact List.map_id _
  · simp only [envScaleFilters, List.mem_map] at hk
    obtain ⟨t, _, rfl⟩ := hk
    exact ⟨fun _ h => by rw [h], fun h => by rw [h], fun _ h => by rw [h], fun h => by rw [h], fun _ h => by rw [h],
      fun h => by rw [h]⟩

example : envScaleFilters ⟨some (.num 0), some (.num 0), some ["context", "context"], some (some 0)⟩ =
    [⟨⟨.num 0, .num 0, some 0⟩, "context"⟩, ⟨⟨.num 0, .num 0, some 0⟩, "context"⟩] := rfl

/-- `Environments.impute(stats, indicator, using)`: one `Impute` per statistic in order, `indicator=False` and
`using=0` kept, defaults `"mean"`, `True`, `None` -/
theorem env_impute_config (a : ImputeArgs) :
    (∀ ss b u, envImputeFilters ⟨some ss, some b, some u⟩ = ss.map (fun st => (st, b, u))) ∧
    envImputeFilters ⟨none, none, none⟩ = [(.mean, true, none)] ∧
    (∀ k ∈ envImputeFilters a,
      (∀ b, a.indicator = some b → k.2.1 = b) ∧ (a.indicator = none → k.2.1 = true) ∧
      (∀ u, a.usingA = some u → k.2.2 = u) ∧ (a.usingA = none → k.2.2 = none)) := by
  refine ⟨fun ss b u => rfl, rfl, fun k hk => ?_⟩
  simp only [envImputeFilters, List.mem_map] at hk
  obtain ⟨t, _, rfl⟩ := hk
  exact ⟨fun _ h => by rw [h], fun h => by rw [h], fun _ h => by rw [h], fun h => by rw [h]⟩

theorem env_scale_behaviour (sd : List Rat → Rat) (a : ScaleArgs) (c : Ctxs) :
    envScale sd a c = pipe (scaleFilter sd) (envScaleFilters a) (.ok c) := rfl

/-! ## one filter object on several sequences; collections of environments -/

/-- a `Scale`/`Impute` object keeps no fitted state: whatever sequences it filtered before, and whatever its `_times`
bookkeeping has become, its result on `b` is that of a fresh object -/
theorem filter_stateless {κ α β : Type} (f : κ → α → β) (o : Obj κ) (before : List (List Nat × α))
    (dt : List Nat) (b : α) (times' : List Nat) :
    ((Obj.run f o (before ++ [(dt, b)])).2).getLast? = some (f o.cfg b) ∧
    ((Obj.run f o (before ++ [(dt, b)])).2).getLast? = some ((Obj.call f ⟨o.cfg, times'⟩ dt b).2) := by
  have h := (Obj.run_spec f o (before ++ [(dt, b)])).2
  rw [h]
  simp [Obj.call]

theorem filter_run_pointwise {κ α β : Type} (f : κ → α → β) (o : Obj κ) (calls : List (List Nat × α)) :
    (Obj.run f o calls).1.cfg = o.cfg ∧ (Obj.run f o calls).2 = calls.map (fun c => f o.cfg c.2) :=
  Obj.run_spec f o calls

/-- `Environments([envA, envB, …]).scale(...)/.impute(...)`, the environments read in any order, any number of times -/
theorem collection_pointwise {κ : Type} (f : κ → Ctxs → Except Err Ctxs) (c : Coll κ) (order : List (List Nat × Nat)) :
    (Coll.reads f c order).2 =
      order.map (fun di => (c.srcs[di.2]?).map (fun src => pipe f (c.objs.map (·.cfg)) (.ok src))) := by
  induction order generalizing c with
  | nil => rfl
  | cons di rest ih =>
    obtain ⟨dt, i⟩ := di
    obtain ⟨h1, h2, h3⟩ := Coll.read_spec f c dt i
    simp only [Coll.reads, List.map_cons]
    rw [ih (c.read f dt i).1, h1, h2, h3]

/-- the pipelines of the two calls: one `Scale`; one `Impute` per statistic, i.e. `envImpute` -/
theorem collection_pipelines (sd : List Rat → Rat) (cfg : Cfg) (stats : List Stat) (ind : Bool) (u : Option Nat) (c : Ctxs) :
    pipe (scaleCtxs sd) [cfg] (.ok c) = scaleCtxs sd cfg c ∧
    pipe imputeF (stats.map (fun st => (st, ind, u))) (.ok c) = .ok (envImpute stats ind u c) := by
  refine ⟨by simp [pipe, Except.bind], ?_⟩
  induction stats generalizing c with
  | nil => rfl
  | cons st rest ih =>
    simp only [pipe, List.map_cons, List.foldl_cons, envImpute] at ih ⊢
    simp only [Except.bind, imputeF]
    exact ih (imputeCtxs st ind u c)

/-! ### histories of partial, abandoned and interleaved reads of generators from the same filter object(s) -/

/-- ANY history of `open` / `next` / `close` over any number of generators created from the same shared filter objects
(one `Scale`/`Impute` object, or the pipeline of an `Environments.scale|impute` call), started in any state that a cursor
list describes, is a history of the CURSOR machine, in which generator `g` is nothing but a position in the fixed result
`pipeRows f cfgs src_g` of ITS OWN sequence: no fitted statistic is shared between frames, abandoned frames leave nothing
behind, `_times` never matters -/
theorem generator_histories {κ : Type} (f : κ → Ctxs → Except Err Ctxs) (srcs : List Ctxs) (s : GenSt κ) (cs : List Cur)
    (ops : List (List Nat × GenOp)) (hg : s.gens = cs.map (Cur.conc (pipeRows f (s.objs.map (·.cfg))))) :
    (GenSt.run f srcs s ops).2 = (curRun (pipeRows f (s.objs.map (·.cfg))) srcs cs (ops.map (·.2))).2 := by
  induction ops generalizing s cs with
  | nil => rfl
  | cons o rest ih =>
    obtain ⟨dt, op⟩ := o
    obtain ⟨h1, h2, h3⟩ := GenSt.step_cur f srcs s cs dt op _ rfl hg
    simp only [GenSt.run, curRun, List.map_cons]
    rw [h1]
    have := ih (s.step f srcs dt op).1 (curStep (pipeRows f (s.objs.map (·.cfg))) srcs cs op).1 (by rw [h2]; exact h3)
    rw [h2] at this
    rw [this]

/-- the hypothesis holds at the start (no generator created yet), for any objects with any `_times` -/
theorem generator_histories_init {κ : Type} (f : κ → Ctxs → Except Err Ctxs) (srcs : List Ctxs) (objs : List (Obj κ))
    (ops : List (List Nat × GenOp)) :
    (GenSt.run f srcs ⟨objs, []⟩ ops).2 = (curRun (pipeRows f (objs.map (·.cfg))) srcs [] (ops.map (·.2))).2 :=
  generator_histories f srcs ⟨objs, []⟩ [] ops rfl

/-- and in the middle of a history: one frame suspended after its first interaction, one abandoned -/
example : ([Gen.running [Row.scalar (.num 5)], Gen.done] : List Gen) =
    ([⟨.scalar [.num 1, .num 5], some 1⟩, ⟨.scalar [.nil], none⟩] : List Cur).map
      (Cur.conc (pipeRows imputeF ([] : List ImpCfg))) := by
  simp [Cur.conc, pipeRows, pipe, Except.map, Ctxs.rowList]

/-- an operation on one generator touches no other cursor, so what `next g'` yields later is decided by the operations on
`g'` alone -/
theorem cursor_frame (F : Ctxs → Except Err (List Row)) (srcs : List Ctxs) (cs : List Cur) (op : GenOp) (g' : Nat)
    (hlt : g' < cs.length) (hne : op ≠ .next g' ∧ op ≠ .close g') :
    (curStep F srcs cs op).1[g']? = cs[g']? := by
  rcases curStep_footprint F srcs cs op with h | ⟨c, h⟩ | ⟨g, c, hop, h⟩
  · rw [h]
  · rw [h, List.getElem?_append_left hlt]
  · rw [h, List.getElem?_set_ne]
    rintro rfl
    rcases hop with hop | hop
    · exact hne.1 hop
    · exact hne.2 hop

example : (0 : Nat) < ([⟨.scalar [], some 0⟩] : List Cur).length ∧ (GenOp.next 1 ≠ .next 0 ∧ GenOp.next 1 ≠ .close 0) := by
  refine ⟨by simp, by simp, by simp⟩

/-- the fixed result lists the cursors point into: `Scale` → rows of `scaleCtxs`, `Environments.impute(stats)` → rows of
`envImpute` (so all cell theorems above apply to every interaction yielded in any history; those of `scaleDense` reach the
dense case of `scaleCtxs` through the first conjunct of `scale_dense_zero_window`, that is for `using ≠ 0`) -/
theorem generator_pipelines (sd : List Rat → Rat) (cfg : Cfg) (stats : List Stat) (ind : Bool) (u : Option Nat) (c : Ctxs) :
    pipeRows (scaleCtxs sd) [cfg] c = (scaleCtxs sd cfg c).map Ctxs.rowList ∧
    pipeRows imputeF (stats.map (fun st => (st, ind, u))) c = .ok (envImpute stats ind u c).rowList := by
  refine ⟨by simp only [pipeRows, (collection_pipelines sd cfg stats ind u c).1],
    by simp only [pipeRows, (collection_pipelines sd cfg stats ind u c).2]; rfl⟩

/-! ## translator ties: the option tables and defaults of the source -/

theorem option_tables (s : String) :
    (shiftOfName s = none ↔ s ∉ shiftNames) ∧ (sclOfName s = none ↔ s ∉ scaleNames) ∧ (statOfName s = none ↔ s ∉ statNames) := by
  -- a chain of `if s = name then some _ else …` ends in `none` exactly when every test fails
  simp only [shiftOfName, sclOfName, statOfName, shiftNames, scaleNames, statNames, ite_some_eq_none, List.mem_cons,
    List.not_mem_nil, or_false, not_or, and_true, and_self]

/-- TRANSLATOR OBLIGATION.  What `harness/props/c11.py` extracts from the CURRENT source with `ast` — the accepted
`shift`/`scale`/`stat` strings (the constructors' asserts), the dispatch of `_shift_value`/`_scale_value`/`_get_imputation`
(option string → functions called), the degenerate-feature threshold and the `except` tuple of `_get_shift_and_scale` —
equals the model's tables -/
theorem options_match_source :
    Coba.Generated.C11.shiftAccepted = shiftNames ∧ Coba.Generated.C11.scaleAccepted = scaleNames ∧
    Coba.Generated.C11.statAccepted = statNames ∧ Coba.Generated.C11.shiftDispatch = shiftTable ∧
    Coba.Generated.C11.scaleDispatch = sclTable ∧ Coba.Generated.C11.statDispatch = statTable ∧
    Coba.Generated.C11.guard = guardThreshold ∧ Coba.Generated.C11.handlers = scaleHandlers := by
  refine ⟨by decide, by decide, by decide, by decide, by decide, by decide, by decide +kernel, by decide⟩

/-- TRANSLATOR OBLIGATION.  The keyword defaults of `Scale.__init__`, `Environments.scale`, `Impute.__init__` and
`Environments.impute` in the source are the ones the model's argument glue uses for omitted keywords -/
theorem defaults_match_source :
    Coba.Generated.C11.ctorScale.tuple = (scaleCtorCfg ⟨none, none, none, none⟩).tuple ∧
    Coba.Generated.C11.envScale.map ScaleCfg.tuple = (envScaleFilters ⟨none, none, none, none⟩).map ScaleCfg.tuple ∧
    [Coba.Generated.C11.ctorImpute] = envImputeFilters ⟨none, none, none⟩ ∧
    Coba.Generated.C11.envImpute = envImputeFilters ⟨none, none, none⟩ := by
  refine ⟨by decide +kernel, by decide +kernel, by decide, by decide⟩

/-- the guard of `_scale_value` in terms of the extracted threshold -/
theorem guard_threshold (nd : Rat × Rat) : guardDiv nd = if nd.2 < guardThreshold then nd.1 else nd.1 / nd.2 := rfl

/-! ### the statistic bodies as expression programs -/

/-- the model's `percentile` IS the expression program `pctProg` (Python indexing and `int` included), for every non-empty
list and every `p ≥ 0` -/
theorem percentile_program (s : List Rat) (p : Rat) (hp : 0 ≤ p) (hs : s ≠ []) : pctProg.run s p = percentile s p := by
  have hi : 0 ≤ p * ((s.length : Rat) - 1) := by
    have h1 : 1 ≤ s.length := List.length_pos_iff.2 hs
    have : (1 : Rat) ≤ (s.length : Rat) := by exact_mod_cast h1
    exact mul_nonneg hp (by linarith)
  have hz : pyIndex s 0 = s[0]? := by simpa using pyIndex_nat s 0
  rw [pctProg_run s p hi, percentile_eq_ite, hz, pyIndex_neg_one, List.head?_eq_getElem?]

example : pctProg.run [1, 2, 4, 8] (1 / 4) = some ((1 - 3 / 4) * 1 + 3 / 4 * 2) := by decide +kernel

/-- the model's `iqr` IS the program `iqrProg`, for every list -/
theorem iqr_program (xs : List Rat) : iqrProg.run xs = iqr xs := by
  unfold IqrProg.run iqr iqrProg
  by_cases h : xs.length ≤ 1
  · simp [h]
  · simp only [h, if_false, List.map]
    cases percentile (isort xs) (1 / 4) <;> cases percentile (isort xs) (3 / 4) <;>
      simp [optAll, PExpr.eval, List.lookup]

theorem apply_program (x s f : Rat) :
    applyExpr.eval [("x", x), ("shift", s), ("scale", f)] [] = some ((x + s) * f) ∧ applyVal (s, f) (.num x) = .num ((x + s) * f) := by
  constructor
  · simp [applyExpr, PExpr.eval, List.lookup]
  · rfl

theorem mean_program (xs : List Rat) : meanExpr.eval [] xs = mean xs := by
  cases xs with
  | nil => simp [meanExpr, PExpr.eval, mean]
  | cons a l =>
    have : ((l.length : Rat) + 1) ≠ 0 := by positivity
    simp [meanExpr, PExpr.eval, mean, this]

/-- TRANSLATOR OBLIGATION: the programs extracted from the CURRENT source (`Generated/C11Programs.lean`: bodies of
`coba.statistics.percentile`/`iqr`, every `… = (… + shift) * scale` assignment of `Scale.filter`, the `"mean"` branch of
`Impute._get_imputation`) are the model's programs — with the four theorems above: the source bodies compute the model's functions -/
theorem programs_match_source :
    Coba.Generated.C11.pctSrc = pctProg ∧ Coba.Generated.C11.iqrSrc = iqrProg ∧
    (Coba.Generated.C11.applySrc ≠ [] ∧ ∀ e ∈ Coba.Generated.C11.applySrc, e = applyExpr) ∧ Coba.Generated.C11.meanSrc = meanExpr := by
  decide +kernel

end Coba.C11
