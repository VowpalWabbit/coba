/-
C12 — What coba reads from a dataset file is what the file says.
Property theorems (definitions: `Model/C12.lean`, lemmas: `Lemmas/C12*.lean`).

Reading of the statement
  (a) delivery independence   `readFix D cs = readWhole D cs.flatten`   for every cutting `cs`
      of the (compressed) byte stream, every lawful streaming decompressor `D`;
      `readWhole` = decode the whole stream, then `splitlines` (= Python `str.splitlines`).
      `readFix` is `HttpSource._byte_it_` + `DelimSource.read` with the two proposed repairs
      (incremental UTF-8 decoder; carriage return / all line boundaries handled across chunks),
      `readCur` is the code as it stands: it satisfies the statement only on "good" cuts
      (`chunk_invariance_partial`), and the three `_counterexample`s show each restriction is needed.
  (b) framing                `diskRead (diskWrite lines) = lines`        plain and `.gz`
  (c) round trips            `csvReaderFix (write rows) = rows`  (RFC 4180 writer, any per-field
      quoting choice), `libsvmRead (write rows) = rows`, `manikRead (hdr :: write rows) = rows`,
      the dense and the sparse ARFF data line (`arff_dense_roundtrip_partial`,
      `arff_sparse_roundtrip_partial`), the attribute header (`arff_header_roundtrip`) and whole
      dense and sparse ARFF files (`arff_dense_table_roundtrip`, `arff_sparse_table_roundtrip`).
  (d) "never silently misread": the respellings of an ARFF file listed under (d) below are proved
      to change nothing; over the other spellings it is differential testing in the harness.
-/
import CobaVerif.Lemmas.C12
import CobaVerif.Lemmas.C12ArffFile
import CobaVerif.Generated.C12Readers

namespace Coba.C12

/-! ### (a) delivery independence -/

/-- `encoding=None` -/
theorem identity_lawful : Decomp.identity.Lawful := ⟨fun _ => rfl, fun _ _ _ => rfl⟩

/-- what the repaired `_byte_it_` + `DelimSource.read` deliver does not depend on how the byte stream
is cut into chunks (empty ones included); an undecodable stream is an error either way -/
theorem chunk_invariance {σ} (D : Decomp σ) (hD : D.Lawful) (cs : List (List Nat)) :
    readFix D cs = readWhole D cs.flatten := by
  unfold readFix readWhole Decomp.all
  rw [← decompChunks_flatten D hD, decodeAll_eq, ← decodeChunksFix_flatten]
  cases decodeChunksFix U8.init (decompChunks D D.init cs) with
  | error e => rfl
  | ok ts => simp [delimFix_eq]

/-- … in particular for `b.read(size)` with every chunk size from 1 byte up (0 = all at once) -/
theorem chunk_size_invariance {σ} (D : Decomp σ) (hD : D.Lawful) (size : Nat) (bs : List Nat) :
    readFix D (chunksOf size bs) = readWhole D bs := by
  rw [chunk_invariance D hD, chunksOf_flatten]

/-- `DelimSource` (repaired) on any sequence of text chunks yields the lines of the whole text -/
theorem delim_invariance (chunks : List Text) : delimFix chunks = splitlines chunks.flatten :=
  delimFix_eq chunks

example : delimFix [[97, 13], [10, 98, 0x2028], [], [99]] = [[97], [98], [99]] := by decide

/-- the code as it stands is right when every decompressed chunk decodes on its own (no
multi-byte character is cut) and the cut is "good": no chunk ends in a line boundary other than
`\r`/`\n` and no `\r\n` pair is cut.
theorem chunk_invariance_full : readCur D cs = readWhole D cs.flatten   -- FALSE, see the counterexamples -/
theorem chunk_invariance_partial {σ} (D : Decomp σ) (hD : D.Lawful) (cs : List (List Nat)) (ts : List Text)
    (hdec : decodeChunksCur (decompChunks D D.init cs) = .ok ts) (hgood : goodCuts ts = true) :
    readCur D cs = readWhole D cs.flatten := by
  rw [← chunk_invariance D hD]
  unfold readCur readFix
  rw [hdec, decodeChunksCur_fix _ _ hdec]
  simp only
  rw [delimCur_eq_of_good ts hgood, delimFix_eq]

example : decodeChunksCur (decompChunks Decomp.identity () [[97, 195, 169], [13, 10, 98]]) = .ok [[97, 233], [13, 10, 98]]
    ∧ goodCuts [[97, 233], [13, 10, 98]] = true := by decide

/-- P22: a chunk boundary inside a multi-byte character (`é` = C3 A9) makes the current code
raise `UnicodeDecodeError` although the whole stream is valid -/
theorem chunk_utf8_counterexample :
    ¬ (∀ cs : List (List Nat), readCur Decomp.identity cs = readWhole Decomp.identity cs.flatten) :=
  fun h => absurd (h [[0x61, 0xC3], [0xA9]]) (by decide)

/-- P23: a chunk boundary between `\r` and `\n` yields a spurious empty line -/
theorem chunk_crlf_counterexample :
    readCur Decomp.identity [[0x61, 13], [10, 0x62]] = .ok [[0x61], [], [0x62]] ∧
    readWhole Decomp.identity [0x61, 13, 10, 0x62] = .ok [[0x61], [0x62]] := by decide

/-- a chunk ending in U+2028 (or any boundary of `splitlines` other than `\r`, `\n`) glues two
lines together -/
theorem chunk_linebreak_counterexample :
    readCur Decomp.identity [[0x61, 0xE2, 0x80, 0xA8], [0x62]] = .ok [[0x61, 0x62]] ∧
    readWhole Decomp.identity [0x61, 0xE2, 0x80, 0xA8, 0x62] = .ok [[0x61], [0x62]] := by decide

/-! ### (a) the three content encodings in one statement -/

/-- `HttpSource._byte_it_(encoding, 'utf-8', chunk, bites)` (repaired) for `encoding ∈ {None,
'gzip', 'deflate'}`: the decompressor enters only as an abstract streaming function `D`
(`lambda x: x`, `zlib.decompressobj(16+MAX_WBITS).decompress`, `zlib.decompressobj(-MAX_WBITS)
.decompress`) of which the two laws of `Decomp.Lawful` are assumed; `size = 0` stands for `chunk=None`.
The identity instance is proved lawful (`identity_lawful`); for zlib the laws are trusted and the
harness checks on every case that the pieces its `decompressobj` returns concatenate to the plain text. -/
theorem delivery_invariance {σ} (D : Decomp σ) (hD : D.Lawful) (bs : List Nat) :
    (∀ size, readFix D (chunksOf size bs) = readWhole D bs) ∧
    (∀ cs : List (List Nat), cs.flatten = bs → readFix D cs = readWhole D bs) := by
  refine ⟨fun size => ?_, fun cs h => ?_⟩
  · rw [chunk_invariance D hD, chunksOf_flatten]
  · rw [chunk_invariance D hD, h]

/-! ### (a) empty decompressor outputs in mid-stream -/

/-- a decompressor may return `b''` for any number of chunks (zlib does for the chunks that only
hold the gzip header, or the end of one member): `Decomp.skip n` swallows an `n`-byte header and is lawful -/
theorem skip_lawful (n : Nat) : (Decomp.skip n).Lawful := by
  refine ⟨fun s => by simp [Decomp.skip], fun s a b => ?_⟩
  simp only [Decomp.skip, List.length_append, List.drop_append]
  rw [Nat.sub_add_eq]

/-- … so for such a stream, too, every cutting gives the lines of the whole decoded text: the loop
must go on after an empty decompressor output (the seeded change `while data := decomp(chunk)` stopped there) -/
theorem delivery_invariance_header_skip (n : Nat) (cs : List (List Nat)) :
    readFix (Decomp.skip n) cs = readWhole (Decomp.skip n) cs.flatten := chunk_invariance (Decomp.skip n) (skip_lawful n) cs

example : decompChunks (Decomp.skip 3) 3 [[1, 2], [3], [97, 10], [98]] = [[], [], [97, 10], [98]] ∧
    readFix (Decomp.skip 3) [[1, 2], [3], [97, 10], [98]] = .ok [[97], [98]] := by decide

/-- empty chunks / empty decompressed pieces anywhere in the stream change nothing -/
theorem delivery_empty_chunks_invariance {σ} (D : Decomp σ) (hD : D.Lawful) (cs : List (List Nat)) :
    readFix D (cs.filter (· ≠ [])) = readFix D cs := by
  rw [chunk_invariance D hD, chunk_invariance D hD, List.flatten_filter_ne_nil]

/-! ### (b) framing -/

/-- UTF-8 round trip over every scalar value (1–4 bytes) -/
theorem utf8_roundtrip (t : Text) (bs : List Nat) (h : encode t = .ok bs) : decodeAll bs = .ok t :=
  decodeAll_encode t bs h

/-- every text of scalar values can be encoded (lone surrogates cannot: UnicodeEncodeError) -/
theorem utf8_encodable (t : Text) (h : ∀ c ∈ t, isScalar c = true) : ∃ bs, encode t = .ok bs :=
  encode_ok t h

/-- DiskSink → DiskSource, plain file: lines without `\r`/`\n` come back identically, for every
`batch` setting (the file is the concatenation of the batches) -/
theorem disk_roundtrip (batch : Option Nat) (lines : List Text)
    (hs : ∀ l ∈ lines, ∀ c ∈ l, isScalar c = true) (hn : ∀ l ∈ lines, noNl l = true) :
    ∃ parts, diskWriteParts batch lines = .ok parts ∧ diskRead parts.flatten = .ok lines := by
  obtain ⟨parts, h1, h2⟩ := diskWriteParts_frame batch lines hs
  exact ⟨parts, h1, diskRead_frame lines _ h2 hn⟩

/-- `.gz`: every batch is one gzip member; assuming only that reading a multi-member gzip file
yields the concatenation of the members' contents (trusted: gzip) -/
theorem disk_roundtrip_gz (gz gunzip : List Nat → List Nat)
    (hgz : ∀ parts : List (List Nat), gunzip (parts.map gz).flatten = parts.flatten)
    (batch : Option Nat) (lines : List Text)
    (hs : ∀ l ∈ lines, ∀ c ∈ l, isScalar c = true) (hn : ∀ l ∈ lines, noNl l = true) :
    ∃ parts, diskWriteParts batch lines = .ok parts ∧ diskRead (gunzip (parts.map gz).flatten) = .ok lines := by
  obtain ⟨parts, h1, h2⟩ := disk_roundtrip batch lines hs hn
  exact ⟨parts, h1, by rw [hgz]; exact h2⟩

example : (∀ l ∈ [[97, 0xE9], [], [0x1F600, 32]], ∀ c ∈ l, isScalar c = true) ∧
    (∀ l ∈ [[97, 0xE9], [], [0x1F600, 32]], noNl l = true) := by decide

/-- the hypothesis is needed: a `\r` inside a line is read back as a line boundary
(text mode, universal newlines) -/
theorem disk_cr_counterexample :
    diskWriteParts none [[97, 13, 98]] = .ok [[97, 13, 98, 10]] ∧
    diskRead [97, 13, 98, 10] = .ok [[97], [98]] := by decide

/-! ### (b) histories of DiskSink / DiskSource operations over any number of files -/

/-- For EVERY history of `DiskSink(p, batch=b).write(lines)`, complete `DiskSource(p).read()` and reads abandoned after `k`
lines, over any number of paths, in any order (write/read/write/read; read, abandon, read again, read a sibling): every read
returns exactly the lines written to *that* path so far, in order (the first `k` of them when abandoned;
FileNotFoundError before the first write) — independent of every earlier read and of every operation on another path.
Lines are Python strings without `\r`/`\n` (`diskOpOk`); plain files. -/
theorem disk_history_roundtrip (ops : List DiskOp) (hok : ∀ op ∈ ops, diskOpOk op = true) :
    diskRun List.flatten [] ops = .ok (diskSpecRun [] ops) :=
  disk_history List.flatten (fun _ => rfl) ops hok [] [] diskInv_empty

/-- the same for `.gz` paths: every batch of every write is one more gzip member; assumed of gzip only that reading a
multi-member file yields the concatenation of the members' contents (as in `disk_roundtrip_gz`) -/
theorem disk_history_roundtrip_gz (gz gunzip : List Nat → List Nat)
    (hgz : ∀ parts : List (List Nat), gunzip (parts.map gz).flatten = parts.flatten)
    (ops : List DiskOp) (hok : ∀ op ∈ ops, diskOpOk op = true) :
    diskRun (fun parts => gunzip (parts.map gz).flatten) [] ops = .ok (diskSpecRun [] ops) :=
  disk_history _ hgz ops hok [] [] diskInv_empty

/-- non-vacuity: write `a` to path 0, read it, abandon a read, write `é` to the sibling path 1 and `b` to path 0 in batches
of 1, read both -/
example :
    let ops := [DiskOp.write 0 none [[97]], .read 0, .readk 0 0, .read 1, .write 1 (some 1) [[233]], .write 0 (some 1) [[98], []],
                .read 0, .readk 0 2, .read 1]
    (∀ op ∈ ops, diskOpOk op = true) ∧
    diskSpecRun [] ops = [.wrote, .lines (.ok [[97]]), .lines (.ok []), .nofile, .wrote, .wrote,
                          .lines (.ok [[97], [98], []]), .lines (.ok [[97], [98]]), .lines (.ok [[233]])] := by
  decide

/-- `diskOpOk` is needed: a `\r` inside a written line comes back as a line boundary in a later read of the history -/
theorem disk_history_cr_counterexample :
    diskRun List.flatten [] [.write 0 none [[97, 13, 98]], .read 0] = .ok [.wrote, .lines (.ok [[97], [98]])] ∧
    diskSpecRun [] [.write 0 none [[97, 13, 98]], .read 0] = [.wrote, .lines (.ok [[97, 13, 98]])] := by
  decide

/-! ### (c) CSV -/

/-- `CsvReader` (repaired: only line terminators stripped, empty input gives no rows) reads back
every table an RFC 4180 writer produces: any delimiter (not `"`, not a line break), any
per-field quoting choice beyond the mandatory one, doubled quotes; with or without header -/
theorem csv_roundtrip (delim : Nat) (hd1 : delim ≠ DQ) (hd2 : isNl delim = false) (hasHeader : Bool)
    (rows : List (List (Bool × Text))) (hok : ∀ r ∈ rows, csvRowOk r = true) :
    csvReaderFix (excel delim) hasHeader (rows.map (csvWriteRow delim)) =
      match rows.map (·.map (·.2)) with
      | [] => .ok (none, [])
      | first :: rest => if hasHeader then .ok (some first, rest) else .ok (none, first :: rest) := by
  unfold csvReaderFix
  rw [csv_lines_rstripNl delim rows hok hd2, csvRecords_rows delim rows hok hd1 hd2]
  cases rows.map (·.map (·.2)) <;> rfl

example : csvRowOk [(false, [32, 97]), (true, [34, 44]), (false, [])] = true := by decide

/-- … and it does not matter how the written lines are framed when they reach the reader: with or
without their `\n` / `\r\n` (iterating an open file, `splitlines(keepends=True)`), with blank
lines between records or at the end -/
theorem csv_roundtrip_any_framing (delim : Nat) (hd1 : delim ≠ DQ) (hd2 : isNl delim = false) (hasHeader : Bool)
    (rows : List (List (Bool × Text))) (hok : ∀ r ∈ rows, csvRowOk r = true) (delivered : List Text)
    (hdel : (delivered.map rstripNl).filter (· ≠ []) = rows.map (csvWriteRow delim)) :
    csvReaderFix (excel delim) hasHeader delivered =
      match rows.map (·.map (·.2)) with
      | [] => .ok (none, [])
      | first :: rest => if hasHeader then .ok (some first, rest) else .ok (none, first :: rest) := by
  unfold csvReaderFix
  rw [hdel, csvRecords_rows delim rows hok hd1 hd2]
  cases rows.map (·.map (·.2)) <;> rfl

/-- e.g. `a,b\r\n`, a blank `\r\n`, `c\n`, a blank `\n`, an empty string -/
example : (([[97, 44, 98, 13, 10], [13, 10], [99, 10], [10], []] : List Text).map rstripNl).filter (· ≠ [])
    = [[(false, [97]), (false, [98])], [(false, [99])]].map (csvWriteRow 44) := by decide

/-- the code as it stands: additionally no written line may begin or end with white space, and
an input without records raises StopIteration.
theorem csv_roundtrip_full : csvReaderCur … = rows   -- FALSE, see the counterexamples -/
theorem csv_roundtrip_partial (delim : Nat) (hd1 : delim ≠ DQ) (hd2 : isNl delim = false) (hasHeader : Bool)
    (rows : List (List (Bool × Text))) (hok : ∀ r ∈ rows, csvRowOk r = true)
    (hedge : ∀ r ∈ rows, strip (csvWriteRow delim r) = csvWriteRow delim r) :
    csvReaderCur (excel delim) hasHeader (rows.map (csvWriteRow delim)) =
      match rows.map (·.map (·.2)) with
      | [] => .error .stopIteration
      | first :: rest => if hasHeader then .ok (some first, rest) else .ok (none, first :: rest) := by
  unfold csvReaderCur
  rw [csv_lines_kept delim strip rows hedge hok, csvRecords_rows delim rows hok hd1 hd2]
  cases rows.map (·.map (·.2)) <;> rfl

/-- `" a",b` written as ` a,b` (RFC 4180: spaces are part of the field) is read as `a`,`b` -/
theorem csv_strip_counterexample :
    csvReaderCur (excel 44) false [csvWriteRow 44 [(false, [32, 97]), (false, [98])]] = .ok (none, [[[97], [98]]]) := by
  decide

/-- tab-delimited: a trailing empty field disappears (`"x\t"` is stripped to `"x"`) -/
theorem csv_strip_tab_counterexample :
    csvReaderCur (excel 9) false [csvWriteRow 9 [(false, [120]), (false, [])]] = .ok (none, [[[120]]]) := by
  decide

/-- the empty table raises StopIteration instead of giving no rows -/
theorem csv_empty_counterexample : csvReaderCur (excel 44) false [] = .error .stopIteration := by decide

/-! ### (c) the labelled CSV pipeline `CsvReader | LabelRows(label, tipe)` (label_col pass-through) -/

/-- Every table an RFC 4180 writer produces (hypotheses of `csv_roundtrip`; all records of one width `n`, with or without a
header record), read through `CsvReader(has_header) | LabelRows(label)`: for every label reference that names a column of
the table (`labelCol`: an index `0 ≤ i < n`, a negative index `-n ≤ i < 0` counted from the end, or a name in the header)
every data row comes back as (the other written cells in written order, the written cell of the label column). -/
theorem csv_label_roundtrip (delim : Nat) (hd1 : delim ≠ DQ) (hd2 : isNl delim = false)
    (hdr : Option (List (Bool × Text))) (rows : List (List (Bool × Text)))
    (hok : ∀ r ∈ hdr.toList ++ rows, csvRowOk r = true) (n : Nat) (hw : ∀ r ∈ hdr.toList ++ rows, r.length = n)
    (ref : LabelRef) (j : Nat) (hc : labelCol (hdr.map (·.map (·.2))) n ref = some j) :
    csvLabelRead (excel delim) hdr.isSome ref ((hdr.toList ++ rows).map (csvWriteRow delim)) =
      .ok (some ((rows.map (·.map (·.2))).map (labelSplit j))) := by
  unfold csvLabelRead
  rw [csvReaderFix_table delim hd1 hd2 hdr rows hok]
  have hlen : ∀ r ∈ hdr.toList ++ rows, (r.map (·.2)).length = n := fun r hr => (List.length_map _).trans (hw r hr)
  exact congrArg _ (labelRows_ok _ n ref j
    (fun h hh => by
      obtain ⟨h0, rfl, rfl⟩ := Option.map_eq_some_iff.mp hh
      exact hlen h0 (List.mem_append_left _ (Option.mem_toList.mpr rfl)))
    hc _ (List.forall_mem_map.mpr fun r hr => hlen r (List.mem_append_right _ hr)))

/-- the column found is inside the table, and a name reference finds a column carrying that name's index in the header dict -/
theorem csv_label_col_in_range (hdr : Option (List Text)) (n : Nat) (ref : LabelRef) (j : Nat)
    (hh : ∀ h, hdr = some h → h.length = n) (hc : labelCol hdr n ref = some j) : j < n :=
  (labelIndex_col hdr n ref j hh hc).2

/-- non-vacuity: header `a,b,y`, label `-1`, `0` and `y` -/
example :
    labelCol (some [[97], [98], [121]]) 3 (.idx (-1)) = some 2 ∧ labelCol (some [[97], [98], [121]]) 3 (.idx 0) = some 0 ∧
    labelCol (some [[97], [98], [121]]) 3 (.name [121]) = some 2 ∧
    labelSplit 2 [[49], [50], [51]] = ([[49], [50]], [51]) ∧ labelSplit 0 [[49], [50], [51]] = ([[50], [51]], [49]) := by
  decide

/-- outside `labelCol` the pipeline raises or picks by the header dict: index `n` and `-n-1` raise when the row is
materialised, a name without header / an unknown name raises, and of two columns with the same name the LAST is the label -/
theorem csv_label_boundary_counterexample :
    labelRows none (.idx 2) [[[49], [50]]] = none ∧ labelRows none (.idx (-3)) [[[49], [50]]] = none ∧
    labelRows none (.name [97]) [[[49], [50]]] = none ∧ labelRows (some [[97], [98]]) (.name [99]) [[[49], [50]]] = none ∧
    labelRows (some [[97], [97]]) (.name [97]) [[[49], [50]]] = some [([[49]], [50])] ∧
    labelRows none (.idx (-2)) [[[49], [50]]] = some [([[50]], [49])] := by
  decide

/-! ### (c) LibSVM / Manik -/

/-- `LibsvmReader` reads back every row a LibSVM writer produces (labels, indices and values as
tokens; converting the tokens with `int`/`float` is CPython's) -/
theorem libsvm_roundtrip (rows : List SvmRow) (hok : ∀ r ∈ rows, svmRowOk r = true) :
    libsvmRead (rows.map svmWriteRow) = .ok rows := by
  induction rows with
  | nil => rfl
  | cons r rs ih =>
    simp only [List.map_cons, libsvmRead, svmWriteRow_ne r (hok r (by simp)), if_false,
      svmLine_write r (hok r (by simp)), ih (fun r' hr' => hok r' (by simp [hr']))]

/-- `ManikReader`: the same after the metadata line -/
theorem manik_roundtrip (first : Text) (rows : List SvmRow) (hok : ∀ r ∈ rows, svmRowOk r = true) :
    manikRead (first :: rows.map svmWriteRow) = .ok rows := by
  simp [manikRead, libsvm_roundtrip rows hok]

example : svmRowOk ⟨[[49], [50]], [([51], [52, 46, 53]), ([55], [])]⟩ = true := by decide

/-! ### (c) LibSVM / Manik with `int()` / `float()` of the tokens inside the model -/

/-- `LibsvmReader` with the conversions `int(k)` / `float(v)` as CPython reads them (`libsvmReadPy`): every file a LibSVM
writer produces (decimal indices, values `float()` accepts) is read back as index ↦ value dictionaries and label lists -/
theorem libsvm_roundtrip_py (rows : List SvmRow) (hok : ∀ r ∈ rows, svmRowOk r = true)
    (hnum : ∀ r ∈ rows, svmNumOk r = true) :
    libsvmReadPy (rows.map svmWriteRow) = .ok (rows.map svmRowOutPy) := by
  unfold libsvmReadPy
  rw [libsvm_roundtrip rows hok]
  exact svmRowsPy_written rows hnum

/-- `ManikReader`: the same after the metadata line -/
theorem manik_roundtrip_py (first : Text) (rows : List SvmRow) (hok : ∀ r ∈ rows, svmRowOk r = true)
    (hnum : ∀ r ∈ rows, svmNumOk r = true) :
    manikReadPy (first :: rows.map svmWriteRow) = .ok (rows.map svmRowOutPy) := by
  unfold manikReadPy
  simp only [List.drop_succ_cons, List.drop_zero]
  exact libsvm_roundtrip_py rows hok hnum

example : svmRowOk ⟨[[49], [50]], [([51], [52, 46, 53]), ([55], [49, 101, 53])]⟩ = true ∧
    svmNumOk ⟨[[49], [50]], [([51], [52, 46, 53]), ([55], [49, 101, 53])]⟩ = true := by decide

/-- `svmNumOk` is needed and the numerals are CPython's: the index `1_0` is column 10, `1__0` / the value `1e` / the index
`3\x1c` are rejected with ValueError; a repeated index keeps its first position and its last value -/
theorem libsvm_numerals_counterexample :
    libsvmReadPy [[49, 32, 49, 95, 48, 58, 50]] = .ok [([(10, [50])], [[49]])] ∧
    libsvmReadPy [[49, 32, 49, 95, 95, 48, 58, 50]] = .error .valueError ∧
    libsvmReadPy [[49, 32, 51, 58, 49, 101]] = .error .valueError ∧
    libsvmReadPy [[49, 32, 51, 28, 58, 49]] = .error .valueError ∧
    libsvmReadPy [[49, 32, 51, 58, 49, 32, 52, 58, 50, 32, 51, 58, 57]] = .ok [([(3, [57]), (4, [50])], [[49]])] := by
  refine ⟨?_, ?_, ?_, ?_, ?_⟩ <;> rfl

/-! ### (c) ARFF, dense data lines -/

/-- `ArffLineReader` (dense) reads back every data section the Weka / OpenML writer produces in
one quote style: `q` is the file's quote character (`'` or `"`), values are written bare or quoted
with backslash escapes (the quote character and the backslash always, any further characters the
writer likes — Weka also escapes the other quote and `%`), separated by a comma and any number of
blanks; the reader settles on the quote character at the first quoted value and on the comma at
the first line.  Hypothesis `arffRowOk`: no value holds the *other* quote character (see
C12-F11: such lines go to coba's fallback parser, which `arffLines` leaves out and `arffLineStepF` includes) or a line break.
theorem arff_dense_roundtrip_full (without `arffRowOk`'s restriction to one quote character)   -- FALSE for the code: known finding C12-F11 -/
theorem arff_dense_roundtrip_partial (q : Nat) (hq : q = SQ ∨ q = DQ) (also : Nat → Bool) (n : Nat)
    (rows : List (Nat × List (Bool × Text))) (hok : ∀ r ∈ rows, arffRowOk q r.2 = true ∧ r.2.length = n) :
    arffLines n ALR.init (rows.map (fun r => arffWriteRow q also r.1 r.2)) = .ok (rows.map (·.2.map (·.2))) :=
  arffLines_written q hq also n rows hok ALR.init (Or.inl rfl)

example : arffRowOk SQ [(false, [49]), (false, [115, 32, 116, 39, 92]), (true, [])] = true ∧
    arffWriteRow SQ (fun c => c == 37) 1 [(false, [49]), (false, [115, 32, 116, 39, 92]), (true, [])]
      = [49, 44, 32, 39, 115, 32, 116, 92, 39, 92, 92, 39, 44, 32, 39, 39] := by decide

/-- the restriction is needed: Weka writes `x"y\z` as `'x\"y\\z'`; the line holds both quote
characters, which the modelled simple path refuses (coba's fallback parser then drops the backslash) -/
theorem arff_dense_other_quote_counterexample :
    arffLines 1 ALR.init [arffWriteRow SQ (fun c => c == DQ) 0 [(false, [120, DQ, 121, BS, 122])]] = .error .cobaException := by
  decide

/-! ### (c) ARFF, dense data lines: the tab path and the fallback parser `_dense_advanced` -/

/-- C12-F11 on the complete line reader: Weka writes `x"y\z` as `'x\"y\\z'`; the line holds both quote characters,
the reader goes to its fallback parser and returns `x"yz` — the backslash that was written is lost -/
theorem arff_fallback_backslash_counterexample :
    (arffLineStepF 1 ALRF.init (arffWriteRow SQ (fun c => c == DQ) 0 [(false, [120, DQ, 121, BS, 122])])).map (·.2) =
      .ok [[120, DQ, 121, 122]] := by decide

/-- C12-F14 on the complete line reader: the tab-delimited row `x<TAB>'y,'` (two columns) is split at the comma first
(the comma attempt yields two fields, the right count) -/
theorem arff_tab_comma_counterexample :
    (arffLineStepF 2 ALRF.init [120, TAB, SQ, 121, COMMA, SQ]).map (·.2) ≠ .ok [[120], [121, COMMA]] := by decide

/-! ### plain (unquoted) dense rows: the csv fast path and the fallback parser `_dense_advanced` agree -/

/-- for every row of `plainTok` values (written bare: no comma, quote character, backslash, line break; not empty; not starting
with white space), any number of blanks after the commas: a fresh line reader (fast path), a reader that has switched to the
fallback parser on an earlier comma-delimited line, and the fallback's `while d_line` loop itself all return exactly the written
values.  Outside `plainTok` the two paths differ (see the counterexamples; F11, F14 above). -/
theorem arff_fallback_agrees_plain (pad : Nat) (vs : List Text) (hne : vs ≠ []) (h : ∀ v ∈ vs, plainTok v = true) :
    (arffLineStepF vs.length ALRF.init (plainRowLine pad vs)).map (·.2) = .ok vs ∧
    (∀ s : ALRF, s.fallback = some COMMA → (arffAdvanced vs.length s (plainRowLine pad vs)).map (·.2) = .ok vs) ∧
    advLoop none (splitOn COMMA (plainRowLine pad vs)) = .ok vs := by
  refine ⟨?_, ?_, plainRow_split pad vs hne h⟩
  · obtain ⟨s1, hstep, _⟩ := arffLineStep_written SQ (.inl rfl) (fun _ => false) pad (vs.map fun v => (false, v))
      (plainRow_arffRowOk SQ vs hne h) ALR.init (.inl rfl)
    rw [List.length_map] at hstep
    unfold plainRowLine
    rw [← toF_init, arffLineStep_full _ _ _ _ _ hstep]
    simp [Except.map, List.map_map, Function.comp_def]
  · intro s hs
    unfold arffAdvanced
    simp only [hs, plainRow_split pad vs hne h, if_true, Except.map]

example : plainTok [97, 32, 98] = true ∧ plainTok [63] = true ∧ plainTok [123, 120, 125] = true ∧ plainTok [9, 120] = false ∧
    plainTok [120, 92] = false ∧ plainTok [] = false := by decide

/-- the boundary of `plainTok`: a value starting with a tab (csv keeps the tab, the fallback `lstrip`s it), a backslash (the
fallback drops it), an empty value (the fallback raises IndexError on `item[0]`, csv returns `''`) -/
theorem arff_plain_boundary_counterexample :
    ((arffLineStepF 2 ALRF.init [9, 120, 44, 121]).map (·.2) = .ok [[9, 120], [121]] ∧
      advLoop none (splitOn COMMA [9, 120, 44, 121]) = .ok [[120], [121]]) ∧
    advLoop none (splitOn COMMA [120, 92, 44, 121]) = .ok [[120], [121]] ∧
    ((arffLineStepF 2 ALRF.init [44, 121]).map (·.2) = .ok [[], [121]] ∧
      advLoop none (splitOn COMMA [44, 121]) = .error .indexError) := by decide

/-! ### the fallback parser on pieces that do not start with a quote character; `_fallback_delim` undecided -/

/-- exact result of the `while d_line` loop of `_dense_advanced` on every list of pieces none of which starts (after
`lstrip`) with a quote character: IndexError when some piece is blank, otherwise every piece `lstrip`ped with its
backslashes deleted — for all piece lists, quote characters and tabs further inside the pieces included -/
theorem arff_fallback_unquoted_exact (ps : List Text) (h : ps.all pieceUnquoted = true) :
    advLoop none ps = advUnquoted ps := advLoop_unquoted ps h

/-- the fallback parser entered on the current line with `_fallback_delim` still undecided (a first data row holding both
quote characters, or a later row holding the other quote character): for EVERY line whose pieces under the delimiter chosen
on this line do not start with a quote character, the complete result (values, new reader state, IndexError / CobaException) -/
theorem arff_fallback_undecided_exact (n : Nat) (s : ALRF) (line : Text) (hs : s.fallback = none)
    (h : (splitOn (fallbackDelim line) line).all pieceUnquoted = true) :
    arffAdvanced n s line =
      (match advUnquoted (splitOn (fallbackDelim line) line) with
       | .error e => .error e
       | .ok parsed =>
         if parsed.length = n then .ok ({ s with advanced := true, fallback := some (fallbackDelim line) }, parsed)
         else .error .cobaException) := by
  unfold arffAdvanced
  simp only [hs]
  rw [← arff_fallback_unquoted_exact _ h]
  rfl

/-- the exact ("iff") characterisation: a row of `innerTok` values (not empty, no leading white space or
quote character, no comma, no backslash; tabs and quote characters allowed further in) joined by commas is read back by the
undecided fallback parser **iff** the line holds no tab or fewer tab pieces than values — otherwise the delimiter guess
`len(line.split(',')) > len(line.split('\t'))` picks the tab and the row is misread or rejected.
(`hq`: no tab piece starts with a quote character — there the quoted branch of the loop, where C12-F11 lives, takes over.) -/
theorem arff_fallback_undecided_iff (vs : List Text) (hne : vs ≠ []) (h : ∀ v ∈ vs, innerTok v = true)
    (s : ALRF) (hs : s.fallback = none)
    (hq : (splitOn TAB (joinWith COMMA vs)).all pieceUnquoted = true) :
    (arffAdvanced vs.length s (joinWith COMMA vs)).map (·.2) = .ok vs ↔
      (¬ TAB ∈ joinWith COMMA vs ∨ (splitOn TAB (joinWith COMMA vs)).length < vs.length) := by
  have hcomma : splitOn COMMA (joinWith COMMA vs) = vs :=
    splitOn_join COMMA vs hne (fun t ht c hc => (innerTok_parts t (h t ht)).comma c hc)
  have hvsq : vs.all pieceUnquoted = true := List.all_eq_true.mpr (fun v hv => innerTok_unquoted v (h v hv))
  have hdel : fallbackDelim (joinWith COMMA vs) =
      if (splitOn TAB (joinWith COMMA vs)).length < vs.length then COMMA else TAB := by
    unfold fallbackDelim; rw [hcomma]
  by_cases hlt : (splitOn TAB (joinWith COMMA vs)).length < vs.length
  · -- the comma is chosen and the pieces are the values
    rw [if_pos hlt] at hdel
    rw [arffAdvanced_undecided_ok _ s _ vs hs (by rw [hdel, hcomma]; exact hvsq), hdel, hcomma]
    exact ⟨fun _ => .inr hlt, fun _ => ⟨advUnquoted_inner vs h, rfl⟩⟩
  -- the tab is chosen: the row is read back iff the line holds no tab (and then it is the one value)
  rw [if_neg hlt] at hdel
  rw [arffAdvanced_undecided_ok _ s _ vs hs (by rw [hdel]; exact hq), hdel, advUnquoted_ok_iff, or_iff_left hlt]
  have hlen : vs.length = (joinWith COMMA vs).count COMMA + 1 := by
    rw [← splitOnGo_length COMMA [], ← splitOn, hcomma]
  constructor
  · intro ⟨⟨_, hmap⟩, _⟩ htab
    -- as many tab pieces as values, at least two: the line holds a comma, so does a piece, so does a value
    have h2 : (splitOn TAB (joinWith COMMA vs)).length = vs.length := (List.length_map advClean).symm.trans (congrArg _ hmap)
    rw [splitOn, splitOnGo_length, hlen] at h2
    have hc : COMMA ∈ joinWith COMMA vs :=
      List.count_pos_iff.mp (by rw [← Nat.succ.inj h2]; exact List.count_pos_iff.mpr htab)
    obtain ⟨p, hp, hcp⟩ := mem_splitOnGo_piece TAB [] _ COMMA hc (by decide)
    have hcc : COMMA ∈ advClean p := List.mem_filter.mpr ⟨mem_lstrip_of_not_space p COMMA hcp (by decide), by decide⟩
    exact (innerTok_parts _ (h _ (hmap ▸ List.mem_map_of_mem hp))).comma COMMA hcc rfl
  · intro hnt
    -- one tab piece, so at most one value: the line holds no comma either and both cuts are the line
    have hone := splitOn_no_sep TAB _ hnt
    rw [hone, List.length_singleton, hlen, Nat.succ_lt_succ_iff, Nat.not_lt, Nat.le_zero, List.count_eq_zero] at hlt
    rw [hone, ← splitOn_no_sep COMMA _ hlt, hcomma]
    exact ⟨(advUnquoted_ok_iff vs vs).mp (advUnquoted_inner vs h), rfl⟩

/-- non-vacuity and reachability: the first data row `it's,say"hi` holds both quote characters, so a fresh reader enters
the fallback with `_fallback_delim` undecided — and returns the two values; with a tab inside, `a<TAB>b,c,d` (2 tab pieces
< 3 values) is still read back -/
example :
    innerTok [105,116,39,115] = true ∧ innerTok [115,97,121,34,104,105] = true ∧
    (splitOn TAB (joinWith COMMA [[105,116,39,115], [115,97,121,34,104,105]])).all pieceUnquoted = true ∧
    (arffLineStepF 2 ALRF.init (joinWith COMMA [[105,116,39,115], [115,97,121,34,104,105]])).map (·.2)
      = .ok [[105,116,39,115], [115,97,121,34,104,105]] ∧
    (arffAdvanced 3 ⟨true, true, none, COMMA, none⟩ (joinWith COMMA [[97,9,98], [99], [100]])).map (·.2) = .ok [[97,9,98], [99], [100]] := by
  decide

/-- the right-hand side of the iff is needed: `a<TAB>b,c<TAB>d` (3 tab pieces ≥ 2 values) is split at the tabs and rejected,
`a<TAB>b,c` (2 tab pieces = 2 values) is silently misread as `a`, `b,c`; and outside `innerTok` a backslash is lost -/
theorem arff_fallback_undecided_counterexample :
    (arffAdvanced 2 ⟨true, true, none, COMMA, none⟩ (joinWith COMMA [[97,9,98], [99,9,100]])).map (·.2) = .error .cobaException ∧
    (arffAdvanced 2 ⟨true, true, none, COMMA, none⟩ (joinWith COMMA [[97,9,98], [99]])).map (·.2) = .ok [[97], [98,44,99]] ∧
    (arffAdvanced 2 ⟨true, true, none, COMMA, none⟩ (joinWith COMMA [[97,92,98], [99]])).map (·.2) = .ok [[97,98], [99]] := by
  decide

/-! ### (c) ARFF sparse rows -/

/-- `ArffLineReader._sparse` reads back every row `{i v,i v,…}` a sparse writer produces with bare
values: indices as decimal digits, distinct, inside `[0,n)`, a comma and any number of blanks
between items; values non-empty without white space or comma, not ending in a brace
(`sparseRowOk`).  Quoted values are outside: the reader has no quote handling (C12-F10).
theorem arff_sparse_roundtrip_full (values quoted as Weka writes them)   -- FALSE: C12-F10 -/
theorem arff_sparse_roundtrip_partial (n pad : Nat) (items : List (Text × Text)) (h : sparseRowOk n items = true) :
    arffSparseLine n (sparseWriteRow pad items) = .ok (items.map (fun p => (digitsVal p.1, p.2))) :=
  arffSparseLine_written n pad items h

example : sparseRowOk 4 [([48], [49, 46, 53]), ([51], [105, 116, 39, 115])] = true ∧
    sparseWriteRow 1 [([48], [49, 46, 53]), ([51], [105, 116, 39, 115])] =
      [123, 48, 32, 49, 46, 53, 44, 32, 51, 32, 105, 116, 39, 115, 125] := by decide

/-- C12-F10: Weka writes the value `s t` as `'s t'`; the tokenizer cuts it at the blank -/
theorem arff_sparse_quoted_counterexample :
    arffSparseLine 1 [123, 48, 32, 39, 115, 32, 116, 39, 125] = .error .valueError := by decide

/-! ### (c) ARFF attribute header -/

/-- `ArffAttrReader` reads back every header a Weka / OpenML-style writer produces: per attribute
the keyword in any case, one separator character, the name (bare, or quoted with `q` and the
quote character backslash-escaped — plus any further characters the writer likes to escape),
white space, and the type: `numeric`/`integer`/`real`, `string`/`date …`/`relational` in any case,
or a nominal list `{l1, l2, …}` of bare or quoted levels with any number of blanks after the commas.
The reader returns exactly the names and, per attribute, the encoder with the levels in the
written order (sparse files: with coba's extra level `'0'` in front).
Hypotheses (`AttrW.ok`), each forced by a recorded finding: quoted names/levels hold no backslash
(C12-F8) and do not begin with white space, levels not with a comma (C12-F9, slightly
stronger: the code copes with `' B'`); bare ones hold no separator; names are distinct, the levels
of one attribute are distinct (and not `'0'` in a sparse file) — otherwise coba re-sorts them.
theorem arff_header_roundtrip_full (any name / level text)   -- FALSE: C12-F8, C12-F9 -/
theorem arff_header_roundtrip (isDense : Bool) (q : Nat) (hq : q = SQ ∨ q = DQ) (also : Nat → Bool) (attrs : List AttrW)
    (hok : ∀ a ∈ attrs, a.ok isDense = true) (hnd : (attrs.map (·.name.2)).Nodup) :
    arffAttrs isDense [] (attrs.map (·.line q also)) = .ok (attrs.map (fun a => (a.name.2, a.typ.enc isDense))) :=
  arffAttrs_written isDense q hq also attrs [] hok hnd (fun _ _ => by simp)

/-- the nominal level list alone: `_split(encoding[1:-1], r_comma)` -/
theorem arff_levels_roundtrip (q : Nat) (hq : q = SQ ∨ q = DQ) (also : Nat → Bool) (pad : Nat) (levels : List (Bool × Text))
    (hne : levels ≠ []) (hok : ∀ x ∈ levels, hdrTokOk true x = true) :
    arffSplit .comma none (hdrWriteLevels q also pad levels) = .ok (levels.map (·.2)) :=
  arffSplit_levels q hq also pad levels hne hok

example : AttrW.ok true ⟨[64,65,84,84,82,73,66,85,84,69], 9, (true, [97, 32, 39, 98]), [32, 32],
    .nominal 1 [(false, [120]), (true, [121, 44, 32, 122]), (true, [])]⟩ = true := by decide

/-- C12-F8: Weka writes the name `a\b` as `'a\\b'`; the reader returns `ab` -/
theorem arff_header_backslash_counterexample :
    arffAttrs true [] [[64,97,116,116,114,105,98,117,116,101,32,39,97,92,92,98,39,32,110,117,109,101,114,105,99]] =
      .ok [([97, 98], .numeric)] := by decide

/-- C12-F9: the level `,x` written `',x'` raises IndexError -/
theorem arff_header_comma_level_counterexample :
    arffAttrs true [] [[64,97,116,116,114,105,98,117,116,101,32,97,32,123,39,44,120,39,44,121,125]] = .error .indexError := by
  decide

/-- C12-F13: with a level named `?` the missing marker is read as that level -/
theorem arff_level_qmark_counterexample :
    encodeCell (.nominal [[67], [63]]) [63] = .ok (.cat [63] [[67], [63]]) ∧ encodeCell (.nominal [[67]]) [63] = .ok .missing := by
  decide

/-! ### (c) whole dense ARFF files -/

/-- the whole `ArffReader` on a whole dense file of the Weka / OpenML-style writer: attribute lines
(`AttrW.line`), the `@data` line in any case, one line per row (`denseRowLine`: values bare or quoted
in the file's quote style, `?` for a missing cell, a comma and blanks between them).  The reader
returns the column names, and per row the encoded cells (floats as their literal, strings, `Categorical`
with the levels in written order, `None` for `?`) and the `missing` flag = "the row has a `?`".
By `arff_framing_invariance`, `arff_*_keyword_case` and the two comment theorems the same holds with
blank lines, kept terminators, comments and `@relation` lines added.
Hypotheses, each forced by a recorded finding or the format itself: the header hypotheses of
`arff_header_roundtrip` (F8, F9); `denseRowWOk`: cells fit their columns, one quote style and no
other-quote character (F11), strings/levels hold no `?` (F12, F15), no level is named `?` (F13), a
line does not begin with `%`; the first data line is not wrapped in braces (F17); at least one row
(no rows: the reader returns nothing, `ArffResult.empty`). -/
theorem arff_dense_table_roundtrip (q : Nat) (hq : q = SQ ∨ q = DQ) (also : Nat → Bool) (attrs : List AttrW) (dkw : Text)
    (rows : List (Nat × List (Bool × CellW)))
    (hattrs : attrs ≠ []) (hok : ∀ a ∈ attrs, a.ok true = true) (hnd : (attrs.map (·.name.2)).Nodup)
    (hdkw : lowerAscii dkw = kwData) (hne : rows ≠ [])
    (hrows : ∀ r ∈ rows, denseRowWOk q also r.1 (attrs.map (·.typ.enc true)) r.2 = true)
    (hfirst : ∀ r, rows.head? = some r → notBraced (denseRowLine q also r.1 r.2) = true) :
    arffReadN (attrs.map (·.line q also) ++ dkw :: rows.map (fun r => denseRowLine q also r.1 r.2)) =
      .ok (.dense (attrs.map (·.name.2))
        (rows.map fun r => ⟨rowOut (attrs.map (·.typ.enc true)) r.2, r.2.any (·.2.isMissing)⟩)) := by
  have hDR := denseRows_written q hq also _ rows hrows ALR.init (.inl rfl)
  rw [toF_init] at hDR
  rw [List.length_map] at hDR
  rw [arffReadN_written true q also attrs dkw _ hok hdkw]
  cases rows with
  | nil => exact absurd rfl hne
  | cons r0 rest =>
    have hr0 := hrows r0 List.mem_cons_self
    simp only [denseRowWOk, Bool.and_eq_true, bne_iff_ne, ne_eq] at hr0
    have hnb := hfirst r0 rfl
    rw [List.map_cons] at hDR ⊢
    rw [arffReadParts_written true q hq also attrs hattrs hok hnd _ _ hr0.2 (by
      rw [← notBraced_eq]; exact hnb), if_pos rfl, hDR]
    rfl

example : denseRowWOk SQ (fun _ => false) 1 [.numeric, .str, .nominal [[120], [121, 32, 122]]]
    [(false, .num [49, 46, 53]), (true, .str [115, 32, 116]), (true, .cat [121, 32, 122])] = true ∧
    denseRowWOk SQ (fun _ => false) 0 [.numeric, .str, .nominal [[120], [121, 32, 122]]]
    [(false, .missing), (false, .str [97]), (false, .missing)] = true := by decide

/-- the `missing` flag of a written dense line is "some cell is the missing marker" -/
theorem arff_dense_missing_flag (q : Nat) (hq : q = SQ ∨ q = DQ) (also : Nat → Bool) (pad : Nat) (encs : List Enc)
    (row : List (Bool × CellW)) (hc : rowCellsOk encs row = true) :
    denseMissing (denseRowLine q also pad row) = row.any (·.2.isMissing) := denseMissing_written q hq also pad encs row hc

/-! ### (c) whole sparse ARFF files -/

/-- the whole `ArffReader` on a whole sparse file of the Weka / OpenML-style writer: attribute lines (`AttrW.line`), the
`@data` line in any case, one line `{i v, i v, …}` per row (`sparseRowLine`: decimal column index, one blank, the bare
value or `?`; a comma and any number of blanks between items; `{}` for the all-default row).  The reader returns the
column names and per row (`sparseRowOut`) the written items under their column names, encoded by the column's encoder
(nominal columns carry coba's extra level `'0'` in front), followed by the default entries of the columns that were
not written and do not read as numeric 0 (string columns read `'0'`, nominal columns the level `'0'` — coba's sparse
convention), and the `missing` flag = "some written item is `?`".
Hypotheses: those of `arff_header_roundtrip` (F8, F9); `sparseRowWOk`: indices decimal, distinct, inside the column
range, values bare tokens not ending in a brace (C12-F10: the sparse tokenizer has no quote handling), every cell fits
its column (float literal / level of the column / string without `?`: F12, F13); at least one row.
No hypothesis on the first line is needed (a written sparse row always begins with `{` and ends with `}`). -/
theorem arff_sparse_table_roundtrip (q : Nat) (hq : q = SQ ∨ q = DQ) (also : Nat → Bool) (attrs : List AttrW) (dkw : Text)
    (rows : List (Nat × List (Text × CellW)))
    (hattrs : attrs ≠ []) (hok : ∀ a ∈ attrs, a.ok false = true) (hnd : (attrs.map (·.name.2)).Nodup)
    (hdkw : lowerAscii dkw = kwData) (hne : rows ≠ [])
    (hrows : ∀ r ∈ rows, sparseRowWOk attrs.length (attrs.map (·.typ.enc false)) r.2 = true) :
    arffReadN (attrs.map (·.line q also) ++ dkw :: rows.map (fun r => sparseRowLine r.1 r.2)) =
      .ok (.sparse (attrs.map (·.name.2))
        (rows.map fun r => ⟨sparseRowOut (attrs.map (·.name.2)) (attrs.map (·.typ.enc false)) r.2, r.2.any (·.2.isMissing)⟩)) := by
  have hSR := sparseRows_written (attrs.map (·.name.2)) _ _ rows hrows
  rw [arffReadN_written false q also attrs dkw _ hok hdkw]
  cases rows with
  | nil => exact absurd rfl hne
  | cons r0 rest =>
    have hshape := sparseRowLine_shape r0.1 r0.2
    rw [List.map_cons] at hSR ⊢
    rw [arffReadParts_written false q hq also attrs hattrs hok hnd _ _ (by rw [hshape.1]; decide)
      (by rw [hshape.1, hshape.2]; rfl), if_neg (by decide), hSR]
    rfl

example : sparseRowWOk 3 [.numeric, .str, .nominal [[48], [120], [121]]]
    [([48], .num [49, 46, 53]), ([50], .cat [121])] = true ∧
    sparseRowWOk 3 [.numeric, .str, .nominal [[48], [120], [121]]] [([49], .missing)] = true ∧
    sparseRowWOk 3 [.numeric, .str, .nominal [[48], [120], [121]]] [] = true ∧
    sparseRowOut [[97], [98], [99]] [.numeric, .str, .nominal [[48], [120], [121]]] [([48], .num [49, 46, 53])] =
      [([97], .num [49, 46, 53]), ([98], .str [48]), ([99], .cat [48] [[48], [120], [121]])] := by decide

/-- the `missing` flag of a written sparse line is "some written item is the missing marker" -/
theorem arff_sparse_missing_flag (pad n : Nat) (encs : List Enc) (row : List (Text × CellW))
    (h : sparseRowWOk n encs row = true) :
    sparseMissing (sparseRowLine pad row) = row.any (·.2.isMissing) := sparseMissing_written pad n encs row h

/-- C12-F16 at the boundary of the writer: a blank before the closing brace (`{ 0 ? }`, as in coba's own `{ }` test)
hides the marker from `ArffDataReader._sparse` -/
theorem arff_sparse_missing_blank_counterexample :
    sparseMissing [123, 32, 48, 32, 63, 32, 125] = false ∧ sparseMissing (sparseRowLine 0 [([48], .missing)]) = true := by decide

/-! ### (d) respellings of an ARFF file that provably do not change what is read

`arffRead` is the whole `ArffReader` (header, data section, encoders, missing flags, dense and
sparse rows, fallback parser); `arffReadN` is the same on stripped non-empty lines. -/

/-- line framing: whatever is delivered, only the stripped non-empty lines matter … -/
theorem arff_framing_invariance (l1 l2 : List Text) (h : arffNormalize l1 = arffNormalize l2) :
    arffRead l1 = arffRead l2 := by
  unfold arffRead; rw [h]

/-- … so a blank (or white-space only) line anywhere changes nothing … -/
theorem arff_blank_line_invariance (a c : List Text) (b : Text) (hb : strip b = []) :
    arffRead (a ++ b :: c) = arffRead (a ++ c) := arff_framing_invariance _ _ (arffNormalize_blank a c b hb)

/-- … and neither does a line terminator left on a line (`\n`, `\r\n`: CRLF vs LF files,
`keepends` delivery) nor any other trailing white space -/
theorem arff_line_ending_invariance (a c : List Text) (l s : Text) (hs : ∀ x ∈ s, isPySpace x = true) :
    arffRead (a ++ (l ++ s) :: c) = arffRead (a ++ l :: c) := arff_framing_invariance _ _ (arffNormalize_ws a c l s hs)

example : ∀ x ∈ [CR, LF], isPySpace x = true := by decide

/-- keyword case: `@data`, `@DATA`, `@Data` … (the first `@data` line of the file) -/
theorem arff_data_keyword_case (pre post : List Text) (d1 d2 : Text) (h1 : lowerAscii d1 = kwData) (h2 : lowerAscii d2 = kwData)
    (hpre : ∀ l ∈ pre, lowerAscii l ≠ kwData) :
    arffReadN (pre ++ d1 :: post) = arffReadN (pre ++ d2 :: post) := by
  rw [arffReadN_split pre post d1 hpre h1, arffReadN_split pre post d2 hpre h2]

/-- keyword case: `@attribute` / `@ATTRIBUTE` … followed by any one separator character -/
theorem arff_attribute_keyword_case (pre post : List Text) (a1 a2 : Text)
    (h1 : lowerAscii (a1.take 10) = kwAttribute) (h2 : lowerAscii (a2.take 10) = kwAttribute) (hr : a1.drop 11 = a2.drop 11)
    (hpre : ∀ l ∈ pre, lowerAscii l ≠ kwData) :
    arffReadN (pre ++ a1 :: post) = arffReadN (pre ++ a2 :: post) := by
  obtain ⟨f1, g1⟩ := attrLine_facts a1 h1
  obtain ⟨f2, g2⟩ := attrLine_facts a2 h2
  rw [arffReadN_snoc pre post a1 hpre g1, arffReadN_snoc pre post a2 hpre g2, List.filter_append, List.filter_append,
    List.filter_cons_of_pos (by simpa using f1), List.filter_cons_of_pos (by simpa using f2), List.filter_nil,
    List.append_assoc, List.append_assoc, List.singleton_append, List.singleton_append]
  exact arffReadParts_attr _ _ a1 a2 _ h1 h2 hr

/-- keyword case of the type (`numeric`/`NUMERIC`/`Real`/`STRING`/`date …`) -/
theorem arff_type_keyword_case (isDense : Bool) (e1 e2 : Text) (h : lowerAscii e1 = lowerAscii e2)
    (h1 : e1.head? ≠ some LBRACE) (h2 : e2.head? ≠ some LBRACE) : arffEncoder isDense e1 = arffEncoder isDense e2 := by
  unfold arffEncoder
  simp only [h, h1, h2, if_false]

/-- a `%` comment (or `@relation`, or anything that is not an attribute line) in the header is ignored -/
theorem arff_header_comment_invariance (pre post : List Text) (j : Text) (hj1 : lowerAscii j ≠ kwData)
    (hj2 : lowerAscii (j.take 5) ≠ kwAttr) (hpre : ∀ l ∈ pre, lowerAscii l ≠ kwData) :
    arffReadN (pre ++ j :: post) = arffReadN (pre ++ post) := by
  rw [arffReadN_snoc pre post j hpre hj1, arffReadN_head pre post hpre, List.filter_append,
    List.filter_cons_of_neg (by simpa using hj2), List.filter_nil, List.append_nil]

/-- a `%` comment line anywhere in the data section (before the first row, between rows, at the end) is ignored -/
theorem arff_data_comment_invariance (hdr a b : List Text) (kw c : Text) (hkw : lowerAscii kw = kwData)
    (hhdr : ∀ l ∈ hdr, lowerAscii l ≠ kwData) (hc : c.head? = some PCT) :
    arffReadN (hdr ++ kw :: (a ++ c :: b)) = arffReadN (hdr ++ kw :: (a ++ b)) := by
  rw [arffReadN_split hdr _ kw hhdr hkw, arffReadN_split hdr _ kw hhdr hkw]
  exact arffReadParts_comment _ a b c hc

/-! ### `int()` / `float()`: the enlarged readings are conservative -/

/-- on tokens without an underscore and without the separators `\x1c`–`\x1f`, `parseIntPy` / `isFloatLitPy` (CPython's
reading: PEP 515 underscores, `Py_ISSPACE` stripping) are the older `parseInt` / `isFloatLit` the whole-file model uses -/
theorem numerals_conservative (tok : Text) (hu : ¬ US ∈ tok) (hf : noFs tok = true) :
    parseIntPy tok = parseInt tok ∧ isFloatLitPy tok = isFloatLit tok := numerals_conservative' tok hu hf

example : ¬ US ∈ [32, 43, 49, 50, 9] ∧ noFs [32, 43, 49, 50, 9] = true ∧ parseIntPy [32, 43, 49, 50, 9] = some 12 := by decide

/-- both hypotheses are needed: `'\x0bNaN\x1c'` and `'1\x1c'` are accepted by the older functions (`str.strip()` removes
`\x1c`) but not by CPython's `float()`/`int()`; `1_0` is read by CPython as 10, by the older functions not at all -/
theorem numerals_fs_counterexample :
    (isFloatLit [11, 78, 97, 78, 28] = true ∧ isFloatLitPy [11, 78, 97, 78, 28] = false) ∧
    (parseInt [49, 28] = some 1 ∧ parseIntPy [49, 28] = none) ∧
    (parseInt [49, 95, 48] = none ∧ parseIntPy [49, 95, 48] = some 10 ∧ parseIntPy [49, 95, 95, 48] = none) := by decide

/-! ### the whole ARFF reader over CPython's numerals (`arffReadPy`) -/

/-- `arffRead` (the model the whole-file theorems are about) is the instance of the parametrised reader `arffReadG`
with the older numeral functions -/
theorem arffRead_is_instance (lines : List Text) : arffReadG parseInt isFloatLit lines = arffRead lines := by
  simp only [arffReadG, arffRead, arffReadNG, arffReadN, denseRowsG_isFloatLit, sparseRowsG_parseInt_isFloatLit]

/-- the reader consults its numeral functions only on tokens built from characters of the file (plus `,` glued in by the
fallback parser, `\n` after an escape character at a line end, and the default `'0'`): two pairs of numeral functions that
agree on every token free of `_` and `\x1c`–`\x1f` give the same reading of every file free of these characters — for
all files, dense and sparse, every spelling, errors included -/
theorem arffRead_numerals_congr (pi pi' : Text → Option Int) (fl fl' : Text → Bool)
    (hpi : ∀ t, t.all numClean = true → pi t = pi' t) (hfl : ∀ t, t.all numClean = true → fl t = fl' t)
    (lines : List Text) (hl : linesNumClean lines = true) : arffReadG pi fl lines = arffReadG pi' fl' lines := by
  unfold arffReadG
  apply arffReadNG_congr pi pi' fl fl' (fun t ht => hpi t ((Clean_iff t).mpr ht)) (fun t ht => hfl t ((Clean_iff t).mpr ht))
  apply arffNormalize_clean
  intro l hm
  unfold linesNumClean at hl
  exact (Clean_iff l).mp (List.all_eq_true.mp hl l hm)

/-- on every file free of underscores and of `\x1c`–`\x1f`, the reader over CPython's `int()` /
`float()` (`arffReadPy`, what the driver runs against the real `ArffReader`) IS `arffRead` — so every whole-file
theorem above (`arff_dense_table_roundtrip`, `arff_sparse_table_roundtrip`, framing / keyword / comment invariance)
transfers to `arffReadPy` on such files -/
theorem arffReadPy_conservative (lines : List Text) (hl : linesNumClean lines = true) :
    arffReadPy lines = arffRead lines := by
  rw [← arffRead_is_instance lines]
  unfold arffReadPy
  apply arffRead_numerals_congr _ _ _ _ _ _ lines hl
  · intro t ht; exact (numerals_conservative' t (numClean_tok t ht).1 (numClean_tok t ht).2).1
  · intro t ht; exact (numerals_conservative' t (numClean_tok t ht).1 (numClean_tok t ht).2).2

example : linesNumClean [[64,97,116,116,114,105,98,117,116,101,32,97,32,110,117,109,101,114,105,99], [64,100,97,116,97], [49,46,53]] = true := by
  decide

/-- the hypothesis is needed, in both directions: `1_0` in a numeric column is read (CPython: 10.0) by `arffReadPy` and
rejected by `arffRead`; the quoted value `'1\x1c'` is rejected by `arffReadPy` (CPython's `float` does not skip `\x1c`)
and accepted by `arffRead` -/
theorem arffReadPy_counterexample :
    (arffReadPy [[64,97,116,116,114,105,98,117,116,101,32,97,32,110,117,109,101,114,105,99], [64,100,97,116,97], [49,95,48]]
        = .ok (.dense [[97]] [⟨[.num [49,95,48]], false⟩]) ∧
      arffRead [[64,97,116,116,114,105,98,117,116,101,32,97,32,110,117,109,101,114,105,99], [64,100,97,116,97], [49,95,48]]
        = .error .valueError) ∧
    (arffReadPy [[64,97,116,116,114,105,98,117,116,101,32,97,32,110,117,109,101,114,105,99], [64,100,97,116,97], [39,49,28,39]]
        = .error .valueError ∧
      arffRead [[64,97,116,116,114,105,98,117,116,101,32,97,32,110,117,109,101,114,105,99], [64,100,97,116,97], [39,49,28,39]]
        = .ok (.dense [[97]] [⟨[.num [49,28]], false⟩])) := by decide +kernel

/-! ### reader objects: what is read from an input does not depend on what the object read before -/

/-- frame theorem for ONE reader object (`CsvReader(has_header, **dialect)`, `ArffReader()`, `LibsvmReader()`,
`ManikReader()`) used on any history of inputs, each read in full or abandoned after its first row: the
k-th use returns exactly what a fresh reader returns on input k.  (In the model a reader carries nothing
but its constructor arguments; that the real objects behave like this is what the `reuse` cases check —
the seeded change that cached the CSV header map on the instance breaks it.) -/
theorem reader_history_frame (r : ReaderKind) (hist : List (List Text × Bool)) :
    readerRun r hist = hist.map (fun i => if i.2 then none else some (readerParse r i.1)) := by
  induction hist with
  | nil => rfl
  | cons i is ih => simp only [readerRun, readerStep, List.map_cons, ih]

/-! ### translator obligations: the tables of coba/pipes/readers.py (re-extracted with `ast` on every run into
`Generated/C12Readers.lean`) are the tables the model uses — an edit of the source breaks one of these proofs -/

section Translator
open Coba.Generated

/-- `numeric_types`, `string_types` of `ArffAttrReader._encoder`; the two patterns of `ArffDataReader._sparse`; the separators of
`LibsvmReader.filter` (`split(' ')`, `":" in items[0]`, `split(',')`, `split(":")`); `islice(lines,1,None)` of `ManikReader` -/
theorem readers_tables_match :
    C12Readers.numericTypes = kwNumeric ∧ C12Readers.stringTypes = kwString ∧
    C12Readers.sparseMissingIn = [32, QM, COMMA] ∧ C12Readers.sparseMissingEnd = [32, QM, RBRACE] ∧
    C12Readers.svmItemSep = [SP] ∧ C12Readers.svmNoLabelMark = [COLON] ∧ C12Readers.svmLabelSep = [COMMA] ∧
    C12Readers.svmKvSep = [COLON] ∧ C12Readers.manikSkip = 1 := by decide

/-- `ArffLineReader._dense_advanced`: the delimiter guess `',' if len(line.split(',')) > len(line.split('\t')) else "\t"`
(`fallbackDelim`), the glue of `item += "," + d_line.popleft()` (`advLoop`), the character deleted by `item.replace('\\','')`
(`advClean`, `advLoop`) -/
theorem fallback_tables_match :
    C12Readers.fallbackThen = [COMMA] ∧ C12Readers.fallbackElse = [TAB] ∧ C12Readers.fallbackCountL = [COMMA] ∧
    C12Readers.fallbackCountR = [TAB] ∧ C12Readers.fallbackDeleted = [BS] ∧ C12Readers.fallbackGlue = [COMMA] ∧
    C12Readers.fallbackStrict = true := by decide

/-- `ArffDataReader._trans = str.maketrans('','',…)`: the deleted characters -/
theorem compact_uses_trans (t : Text) : compact t = t.filter (fun c => !C12Readers.transDeleted.contains c) := by
  unfold compact C12Readers.transDeleted
  congr 1
  funext c
  simp
  simp only [Bool.and_assoc]
  rfl

theorem sparse_missing_uses_patterns (l : Text) :
    sparseMissing l = (hasSub C12Readers.sparseMissingIn l || endsWith C12Readers.sparseMissingEnd l) := rfl

/-- `i.rstrip('\r\n')` in `CsvReader.filter` -/
theorem csv_rstrip_uses_chars (t : Text) : rstripNl t = (t.reverse.dropWhile (fun c => C12Readers.csvRstrip.contains c)).reverse := by
  unfold rstripNl
  have e : (fun c : Nat => c == CR || c == LF) = (fun c => C12Readers.csvRstrip.contains c) :=
    funext fun c => by simp only [C12Readers.csvRstrip, List.contains_cons, List.contains_nil, Bool.or_false, CR, LF]
  rw [e]

/-- `line.strip("} {")` in `ArffLineReader._sparse` -/
theorem sparse_strip_uses_chars (t : Text) :
    stripBraces t = ((t.dropWhile (fun c => C12Readers.sparseStripChars.contains c)).reverse.dropWhile
      (fun c => C12Readers.sparseStripChars.contains c)).reverse := by
  unfold stripBraces
  have e : (fun c : Nat => c == RBRACE || c == 32 || c == LBRACE) = (fun c => C12Readers.sparseStripChars.contains c) :=
    funext fun c => by simp only [C12Readers.sparseStripChars, List.contains_cons, List.contains_nil, Bool.or_false, RBRACE, LBRACE, Bool.or_assoc]
  simp only [e]

theorem manik_skip_uses (ls : List Text) : manikRead ls = libsvmRead (ls.drop C12Readers.manikSkip) := rfl

theorem encoder_uses_tables (isDense : Bool) (e : Text) :
    arffEncoder isDense e =
      (if C12Readers.numericTypes.contains (lowerAscii e) then .ok .numeric
       else if C12Readers.stringTypes.any (fun k => startsWith k (lowerAscii e)) then .ok .str
       else if e.head? = some LBRACE then
         match arffSplit .comma none e.tail.dropLast with
         | .error er => .error er
         | .ok cats => match catLevels (if isDense then cats else ZERO :: cats) with
           | .error er => .error er
           | .ok lv => .ok (.nominal lv)
       else .error .cobaException) := rfl

end Translator

end Coba.C12
