/-
C13 — Lazy row views are indistinguishable from the eager table they describe.

Reading.  `baseD b` / `buildD stages` is the lazy row object the coba filters build (the wrapper tree),
`eagerBaseD b` / `eagerD stages` is the same pipeline applied eagerly to a plain list with an optional
header map name → column (`EagerD`).  "The eager pipeline is defined" (`= .ok (some e)`) means: every header
assignment gives distinct names to distinct existing columns (all of them or only some), every encoder
succeeds on its cell, referenced columns exist.  `eagerD … = .ok none` means a row predicate dropped the row.
-/
import CobaVerif.Lemmas.C13
import CobaVerif.Lemmas.C13Dense
import CobaVerif.Lemmas.C13Sparse
import CobaVerif.Generated.C13Methods

namespace Coba.C13

/-! ## the load-once cell -/

/-- after the first `_load_or_get` every later one returns the same row and leaves the cell as it is -/
theorem load_idempotent {α} (c : Cell α) : c.touch.loadOrGet = (c.get, c.touch) := by
  cases c <;> rfl

/-! ## dense rows -/

/-- whenever the eager pipeline yields a row, the lazy pipeline yields a row object too (it does not
raise and does not drop the row) -/
theorem dense_defined (b : DBase) (stages : List Stage) (e0 e : EagerD)
    (hb : eagerBaseD b = .ok e0) (he : eagerD stages e0 = .ok (some e)) :
    ∃ r, buildD stages (baseD b) = .ok (some r) :=
  let ⟨r, hr, _⟩ := (dense_refines b stages e0 hb).of_some he; ⟨r, hr⟩

/-- row dropping: a row removed by a row predicate of the eager pipeline is removed by the lazy one -/
theorem dense_row_dropped (b : DBase) (stages : List Stage) (e0 : EagerD)
    (hb : eagerBaseD b = .ok e0) (he : eagerD stages e0 = .ok none) :
    buildD stages (baseD b) = .ok none := (dense_refines b stages e0 hb).of_none he

/-- by position: `row[i]` is the i-th element of the eager list, and raises IndexError beyond its end -/
theorem get_pos (b : DBase) (stages : List Stage) (e0 e : EagerD) (r : DRow)
    (hb : eagerBaseD b = .ok e0) (he : eagerD stages e0 = .ok (some e))
    (hr : buildD stages (baseD b) = .ok (some r)) (i : Nat) :
    r.getPos i = idx e.cells i := (dense_ref b stages e0 e r hb he hr).pos i

/-- by header name: `row[name]` is the eager cell of the column with that name -/
theorem get_name (b : DBase) (stages : List Stage) (e0 e : EagerD) (r : DRow)
    (hb : eagerBaseD b = .ok e0) (he : eagerD stages e0 = .ok (some e))
    (hr : buildD stages (baseD b) = .ok (some r)) (s : String) (v : Val) (hv : e.byName s = some v) :
    r.getName s = .ok v := (dense_ref b stages e0 e r hb he hr).name s v hv

/-- by iteration (and `copy()`): `list(row)` is the eager list -/
theorem iter_eq (b : DBase) (stages : List Stage) (e0 e : EagerD) (r : DRow)
    (hb : eagerBaseD b = .ok e0) (he : eagerD stages e0 = .ok (some e))
    (hr : buildD stages (baseD b) = .ok (some r)) :
    r.iter = .ok e.cells := (dense_ref b stages e0 e r hb he hr).iter

/-- by length -/
theorem len_eq (b : DBase) (stages : List Stage) (e0 e : EagerD) (r : DRow)
    (hb : eagerBaseD b = .ok e0) (he : eagerD stages e0 = .ok (some e))
    (hr : buildD stages (baseD b) = .ok (some r)) :
    r.len = e.cells.length := (dense_ref b stages e0 e r hb he hr).len

/-- the header map: `row.headers` is the eager header map name → column (any Mapping HeadRows was given: in any order,
naming all or only some of the columns; after DropRows the kept entries renumbered); a table without header has no
`headers` attribute -/
theorem headers_eq (b : DBase) (stages : List Stage) (e0 e : EagerD) (r : DRow)
    (hb : eagerBaseD b = .ok e0) (he : eagerD stages e0 = .ok (some e))
    (hr : buildD stages (baseD b) = .ok (some r)) :
    r.headers.toOption = e.hdr := (dense_ref b stages e0 e r hb he hr).hdr

/-- by equality: `row == o` (also `o == row`, and against another lazy row) is `list == list` on the eager row -/
theorem eq_iff (b : DBase) (stages : List Stage) (e0 e : EagerD) (r : DRow)
    (hb : eagerBaseD b = .ok e0) (he : eagerD stages e0 = .ok (some e))
    (hr : buildD stages (baseD b) = .ok (some r)) (o : List Val) :
    r.eqList o = (e.cells.length == o.length && (List.zipWith pyEq e.cells o).all id) :=
  eqList_of_ref (dense_ref b stages e0 e r hb he hr) o

/-- all of the above as one statement about observations: every access other than feats/label/tipe for
which the eager row defines a result gives exactly that result -/
theorem dense_observations (b : DBase) (stages : List Stage) (e0 e : EagerD) (r : DRow)
    (hb : eagerBaseD b = .ok e0) (he : eagerD stages e0 = .ok (some e))
    (hr : buildD stages (baseD b) = .ok (some r)) (a : Acc)
    (hna : match a with | .label => False | .tipe => False | .feats _ => False | .clone _ => False | _ => True)
    (hdef : eagerObsD e a ≠ .undef) :
    obsD r a = eagerObsD e a := obsD_of_ref (dense_ref b stages e0 e r hb he hr) a hna hdef

/- theorem feats_label_full: for *every* pipeline, `row.feats` refines `e.feats` and `row.label = e.label`.
   False for the code as it is: `feats`/`label` are forwarded by `__getattr__` to the LabelDense wrapper,
   ignoring every stage applied after LabelRows (see `feats_label_counterexample`; recorded C13-F8). -/

/-- feats / label / tipe, when LabelRows is the last stage: `row.feats` is indistinguishable from the
eager row without its label column (header positions renumbered), `row.label` is the label cell -/
theorem feats_label_partial (b : DBase) (stages : List Stage) (k : Key) (t : Option String) (e0 e : EagerD)
    (hb : eagerBaseD b = .ok e0) (he : eagerD (stages ++ [.label k t]) e0 = .ok (some e)) :
    ∃ r f ef v, buildD (stages ++ [.label k t]) (baseD b) = .ok (some r) ∧
      r.feats = .ok f ∧ e.feats = some ef ∧ RefD f ef ∧
      r.labelVal = .ok v ∧ e.labelVal = some v ∧ r.tipe = .ok t ∧ e.lab.map (·.2) = some t := by
  obtain ⟨h, hw⟩ := baseD_refines b e0 hb
  exact buildD_label_last stages k t h hw e he

/-- the hypothesis "LabelRows last" is necessary: `[1,2,3]`, label column 1, then `EncodeRows([+1,+1,+1])`:
the row reads `[2,3,4]` but its label is still 2 (eager: 3): `__getattr__` forwards `label` to the inner LabelDense unchanged
(recorded C13-F8; the proposed fixes/C13-stale-feats-label.diff was not applied, see notes/C13.md) -/
theorem feats_label_counterexample :
    ∃ r e, buildD cexStages (baseD cexBase) = .ok (some r) ∧
      (match eagerBaseD cexBase with | .ok e0 => eagerD cexStages e0 | .error er => .error er) = .ok (some e) ∧
      r.iter = .ok e.cells ∧
      r.labelVal = .ok (.int 2) ∧ e.labelVal = some (.int 3) :=
  ⟨_, _, rfl, rfl, rfl, rfl, rfl⟩

/-- accessing a row in different ways or in a different order never changes what later accesses return: the load-once cell is
the only state a history leaves behind, and no observation sees it -/
theorem access_order_irrelevant (r : DRow) (as : List Acc) : runD r as = as.map (obsD r) := by
  induction as generalizing r with
  | nil => rfl
  | cons a t ih =>
    simp only [runD, stepD, List.map_cons, ih]
    exact congrArg _ (List.map_congr_left fun b _ => touch_obsD r b)

/-- the hypotheses are satisfiable: LazyDense(loader) rows `['1','2','3']`, a header a,b,c, per-column `int`,
drop column b, label column c: the eager row is `[1,3]` with names a,c and so is the lazy one -/
example : ∃ e0 e r, eagerBaseD exBase = .ok e0 ∧ eagerD exStages e0 = .ok (some e) ∧
    buildD exStages (baseD exBase) = .ok (some r) ∧
    e.cells = [.int 1, .int 3] ∧ e.hdr = some [("a", 0), ("c", 1)] ∧ r.iter = .ok [.int 1, .int 3] :=
  ⟨_, _, _, rfl, rfl, rfl, rfl, rfl, rfl⟩

/-- … and with a header Mapping given out of column order that names only two of the three columns (`HeadRows({'z':2,'x':0})`),
`EncodeRows({'z':int})`, `DropRows(['x'])`: the eager row is `['2', 3]` with header map `{'z':1}` -/
example : ∃ e0 e r, eagerBaseD exBase = .ok e0 ∧ eagerD exStagesMap e0 = .ok (some e) ∧
    buildD exStagesMap (baseD exBase) = .ok (some r) ∧
    e.cells = [.str "2", .int 3] ∧ e.hdr = some [("z", 1)] ∧ r.iter = .ok e.cells ∧ r.getName "z" = .ok (.int 3) :=
  ⟨_, _, _, rfl, rfl, rfl, rfl, rfl, rfl, rfl⟩

/-! ## sparse rows

`baseS b` covers dicts, LazySparse rows with or without loader / encoders / header map (`_fwd`/`_inv`) / default
"not sparse" entries, and the rows ArffReader builds.  A header-mapped LazySparse additionally answers to its raw
integer keys (`r.leak`, see `sparse_get_counterexample`): by-key statements are about every other key, and
`leakSafe` (a decidable condition on the stage list, `true` for every pipeline over a base without header map:
`leakSafe_of_simple_base`) says that no HeadRows / row predicate addresses such a hidden key.
Sets (`keys()`, iteration) are compared as sets; `items()` is the eager dict in the model's order (`Obs.agree`
compares dicts as finite maps). -/

/-- a dict or a LazySparse without header map has no hidden keys, so every pipeline over it is `leakSafe` -/
theorem leakSafe_of_simple_base (b : SBase) (h : simpleBase b) (stages : List Stage) :
    leakSafe (!(baseS b).leak.isEmpty) stages = true := by
  rw [simpleBase_leak b h]; exact leakSafe_false stages

/-- whenever the eager pipeline yields a dict, the lazy pipeline neither raises nor drops the row -/
theorem sparse_defined (b : SBase) (stages : List Stage) (hs : leakSafe (!(baseS b).leak.isEmpty) stages = true) (e0 e : EagerS)
    (he0 : eagerBaseS b = .ok e0) (he : eagerS stages e0 = .ok (some e)) :
    ∃ r, buildS stages (baseS b) = .ok (some r) ∧ RefS r e :=
  let ⟨r, hr, href, _⟩ := (sparse_refines b stages hs e0 he0).of_some he; ⟨r, hr, href⟩

/-- row dropping: a dict removed by a row predicate of the eager pipeline is removed by the lazy one -/
theorem sparse_row_dropped (b : SBase) (stages : List Stage) (hs : leakSafe (!(baseS b).leak.isEmpty) stages = true) (e0 : EagerS)
    (he0 : eagerBaseS b = .ok e0) (he : eagerS stages e0 = .ok none) :
    buildS stages (baseS b) = .ok none := (sparse_refines b stages hs e0 he0).of_none he

/-- by key (header name or raw key): `row[k]` is the eager dict's entry, KeyError exactly when it has none —
for every key that is not a hidden raw key of a header-mapped base -/
theorem sparse_get (b : SBase) (stages : List Stage) (hs : leakSafe (!(baseS b).leak.isEmpty) stages = true) (e0 e : EagerS) (r : SRow)
    (he0 : eagerBaseS b = .ok e0) (he : eagerS stages e0 = .ok (some e))
    (hr : buildS stages (baseS b) = .ok (some r)) (k : Key) (hk : k ∉ r.leak) :
    r.get k = optRes (dget e.d k) := (sparse_ref b stages hs e0 e r he0 he hr).get k hk

/-- header names are never hidden keys -/
theorem sparse_get_name (b : SBase) (stages : List Stage) (hs : leakSafe (!(baseS b).leak.isEmpty) stages = true) (e0 e : EagerS) (r : SRow)
    (he0 : eagerBaseS b = .ok e0) (he : eagerS stages e0 = .ok (some e))
    (hr : buildS stages (baseS b) = .ok (some r)) (s : String) :
    r.get (.name s) = optRes (dget e.d (.name s)) :=
  let h := sparse_ref b stages hs e0 e r he0 he hr; h.get _ (not_leak_of_name h rfl)

/-- `items()` (and `copy()`) is the eager dict; no key twice -/
theorem items_eq (b : SBase) (stages : List Stage) (hs : leakSafe (!(baseS b).leak.isEmpty) stages = true) (e0 e : EagerS) (r : SRow)
    (he0 : eagerBaseS b = .ok e0) (he : eagerS stages e0 = .ok (some e))
    (hr : buildS stages (baseS b) = .ok (some r)) :
    r.items = .ok e.d ∧ (e.d.map (·.1)).Nodup :=
  ⟨(sparse_ref b stages hs e0 e r he0 he hr).items, (sparse_wf b stages hs e0 e he0 he).nodup⟩

/-- `keys()` / iteration: exactly the keys of the eager dict, each once -/
theorem sparse_keys_eq (b : SBase) (stages : List Stage) (hs : leakSafe (!(baseS b).leak.isEmpty) stages = true) (e0 e : EagerS) (r : SRow)
    (he0 : eagerBaseS b = .ok e0) (he : eagerS stages e0 = .ok (some e))
    (hr : buildS stages (baseS b) = .ok (some r)) :
    ∃ ks, r.keys = .ok ks ∧ ks.Nodup ∧ ∀ k, k ∈ ks ↔ (dget e.d k).isSome :=
  (sparse_ref b stages hs e0 e r he0 he hr).keys

/-- by length (after the repair of `LazySparse.__len__` also for ArffReader's rows) -/
theorem sparse_len_eq (b : SBase) (stages : List Stage) (hs : leakSafe (!(baseS b).leak.isEmpty) stages = true) (e0 e : EagerS) (r : SRow)
    (he0 : eagerBaseS b = .ok e0) (he : eagerS stages e0 = .ok (some e))
    (hr : buildS stages (baseS b) = .ok (some r)) :
    r.len = .ok e.d.length := (sparse_ref b stages hs e0 e r he0 he hr).len

/-- every access other than feats/label/tipe for which the eager dict defines a result agrees with it
(by key — not a hidden raw key —, keys, iteration, items, copy, len, `==` against a dict) -/
theorem sparse_observations (b : SBase) (stages : List Stage) (hs : leakSafe (!(baseS b).leak.isEmpty) stages = true) (e0 e : EagerS) (r : SRow)
    (he0 : eagerBaseS b = .ok e0) (he : eagerS stages e0 = .ok (some e))
    (hr : buildS stages (baseS b) = .ok (some r)) (a : Acc)
    (hna : match a with | .label => False | .tipe => False | .feats _ => False | .clone _ => False | .name k => k ∉ r.leak | _ => True)
    (hdef : eagerObsS e a ≠ .undef) :
    (obsS r a).agree (eagerObsS e a) :=
  obsS_of_ref (sparse_ref b stages hs e0 e r he0 he hr) (sparse_wf b stages hs e0 e he0 he) a hna hdef

/-- EncodeCatRows (onehot, onehot_tuple, string) on a lazy dense row is EncodeCatRows on the eager list -/
theorem enccat_dense_eq_spec (m : CatMode) (r : DRow) (e : EagerD) (h : RefD r e) :
    applyD (.enccat (some m)) r = .ok (some (if hasCat e.cells then .plain (catEncodeList m e.cells) else r)) ∧
    eagerStageD (.enccat (some m)) e = .ok (some (if hasCat e.cells then ⟨catEncodeList m e.cells, none, none, none⟩ else e)) := by
  simp only [applyD, eagerStageD, h.iter]
  constructor <;> split <;> rfl

/-- EncodeCatRows (onehot, onehot_tuple, string) on a lazy sparse row is EncodeCatRows on the eager dict, whose keys stay distinct -/
theorem enccat_sparse_eq_spec (m : CatMode) (r : SRow) (e : EagerS) (h : RefS r e) (hw : WFS e) :
    applyS (.enccat (some m)) r = .ok (some (if hasCatD e.d then .plain (catEncodeDict m e.d) else r)) ∧
    eagerStageS (.enccat (some m)) e = .ok (some (if hasCatD e.d then ⟨catEncodeDict m e.d, none, none, []⟩ else e)) ∧
    ((catEncodeDict m e.d).map (·.1)).Nodup := by
  simp only [applyS, eagerStageS, h.items, toDict_of_nodup e.d hw.nodup]
  refine ⟨?_, ?_, nodup_catEncodeDict m e.d hw.nodup⟩ <;> split <;> rfl

/-- feats / label / tipe when LabelRows is the last stage (an absent label entry is 0; an int label of a header-mapped
table is the column with that raw key) -/
theorem feats_label_sparse_partial (b : SBase) (stages : List Stage) (k : Key) (t : Option String)
    (hs : leakSafe (!(baseS b).leak.isEmpty) (stages ++ [.label k t]) = true) (e0 e : EagerS)
    (he0 : eagerBaseS b = .ok e0) (he : eagerS (stages ++ [.label k t]) e0 = .ok (some e)) :
    ∃ r f ef v, buildS (stages ++ [.label k t]) (baseS b) = .ok (some r) ∧
      r.feats = .ok f ∧ e.feats = some ef ∧ RefS f ef ∧
      r.labelVal = .ok v ∧ e.labelVal = some v ∧ r.tipe = .ok t ∧ e.lab.map (·.2) = some t := by
  obtain ⟨h, hw⟩ := baseS_refines b e0 he0
  exact buildS_label_last stages k t h hw hs e he

/-- "LabelRows last" is necessary for sparse rows too: `{0:1, 1:2}`, label key 1, then `EncodeRows({0:+1, 1:+1})`:
the row reads `{0:2, 1:3}` but its label is still 2 (eager: 3)  (recorded C13-F9) -/
theorem feats_label_sparse_counterexample :
    ∃ r e, buildS cexStagesS (baseS cexBaseS) = .ok (some r) ∧
      (match eagerBaseS cexBaseS with | .ok e0 => eagerS cexStagesS e0 | .error er => .error er) = .ok (some e) ∧
      r.items = .ok e.d ∧
      r.labelVal = .ok (.int 2) ∧ e.labelVal = some (.int 3) :=
  ⟨_, _, rfl, rfl, rfl, rfl, rfl⟩

/-- the condition `k ∉ r.leak` of `sparse_get` is necessary: `LazySparse({0:7}, fwd={'a':0}, inv={0:'a'})`
answers `row['a'] == 7` like the eager dict `{'a':7}`, but also `row[0] == 7` where the eager dict raises KeyError -/
theorem sparse_get_counterexample :
    ∃ e, eagerBaseS cexLeakBase = .ok e ∧ dget e.d (.pos 0) = none ∧ dget e.d (.name "a") = some (.int 7) ∧
      (baseS cexLeakBase).get (.pos 0) = .ok (.int 7) ∧ (baseS cexLeakBase).get (.name "a") = .ok (.int 7) ∧
      Key.pos 0 ∈ (baseS cexLeakBase).leak :=
  ⟨_, rfl, rfl, rfl, rfl, rfl, by decide⟩

/-- access order (sparse): any history of accesses on one row object yields what fresh rows yield -/
theorem access_order_irrelevant_sparse (r : SRow) (as : List Acc) : runS r as = as.map (obsS r) := by
  induction as generalizing r with
  | nil => rfl
  | cons a t ih =>
    simp only [runS, stepS, List.map_cons, ih]
    exact congrArg _ (List.map_congr_left fun b _ => touch_obsS r b)

/-- the sparse hypotheses are satisfiable: `LazySparse(loader of {'a':'1','b':'2'})`, `EncodeRows({'a':int,'c':str})`,
drop `b`, label `y` (absent, so 0): the eager dict is `{'a':1,'c':'0','y':0}` -/
example : leakSafe (!(baseS exBaseS).leak.isEmpty) exStagesS = true ∧
    ∃ e0 e r, eagerBaseS exBaseS = .ok e0 ∧ eagerS exStagesS e0 = .ok (some e) ∧ buildS exStagesS (baseS exBaseS) = .ok (some r) ∧
      e.d = [(.name "a", .int 1), (.name "c", .str "0"), (.name "y", .int 0)] :=
  ⟨rfl, _, _, _, rfl, rfl, rfl, rfl⟩

/-- … and over ArffReader's sparse rows: attributes `a numeric, b {p,q}`, line `{0 3}`, `EncodeCatRows('onehot_tuple')`,
then label `b`: the eager dict is `{'a':3.0, 'b':(1,0,0)}` (the absent nominal column is its default level "0") -/
example : leakSafe (!(baseS exArffS).leak.isEmpty) exArffStages = true ∧
    ∃ e0 e r, eagerBaseS exArffS = .ok e0 ∧ eagerS exArffStages e0 = .ok (some e) ∧ buildS exArffStages (baseS exArffS) = .ok (some r) ∧
      e.d = [(.name "a", .flt 3), (.name "b", .tup [1, 0, 0])] ∧ r.items = .ok e.d :=
  ⟨rfl, _, _, _, rfl, rfl, rfl, rfl, rfl⟩

/-! ## copies of rows inside access histories

`Acc.clone sub`: at this point of the history the row object is copied (copy.copy / copy.deepcopy / pickle round trip) and `sub`
is made on the copy.  In the model a copy of a row is the row (same wrapper tree, same base data, same state of the load-once cell);
the harness makes the real copies and compares. -/

/-- a history interleaved with copies yields the values of the same history without the copy steps -/
theorem access_after_clone (r : DRow) (as : List Acc) : runD r as = runD r (as.map Acc.strip) := by
  rw [access_order_irrelevant, access_order_irrelevant, List.map_map]
  exact List.map_congr_left fun a _ => obsD_strip r a

theorem access_after_clone_sparse (r : SRow) (as : List Acc) : runS r as = runS r (as.map Acc.strip) := by
  rw [access_order_irrelevant_sparse, access_order_irrelevant_sparse, List.map_map]
  exact List.map_congr_left fun a _ => obsS_strip r a

/-- copies never change the original: after an access on a copy the original answers every later history as before -/
theorem clone_leaves_original (r : DRow) (a : Acc) (bs : List Acc) : runD (stepD r (.clone a)).2 bs = runD r bs := by
  rw [access_order_irrelevant, access_order_irrelevant]
  exact List.map_congr_left fun b _ => touch_obsD r b

theorem clone_leaves_original_sparse (r : SRow) (a : Acc) (bs : List Acc) : runS (stepS r (.clone a)).2 bs = runS r bs := by
  rw [access_order_irrelevant_sparse, access_order_irrelevant_sparse]
  exact List.map_congr_left fun b _ => touch_obsS r b

/-- an access on a copy (of the row, of its feats, of a copy …) is the access itself, on the lazy row and on the eager row:
so `dense_observations` / `sparse_observations` / `feats_label_*` apply to `a.strip` -/
theorem clone_is_transparent (r : DRow) (e : EagerD) (a : Acc) :
    obsD r a = obsD r a.strip ∧ eagerObsD e a = eagerObsD e a.strip := ⟨obsD_strip r a, eagerObsD_strip e a⟩

theorem clone_is_transparent_sparse (r : SRow) (e : EagerS) (a : Acc) :
    obsS r a = obsS r a.strip ∧ eagerObsS e a = eagerObsS e a.strip := ⟨obsS_strip r a, eagerObsS_strip e a⟩

/-- a history with copies on a concrete row: `deepcopy(row)[1]`, `copy(row.feats)` iterated, then `row[1]` -/
example : ∃ r, buildD exStages (baseD exBase) = .ok (some r) ∧
    runD r [.clone (.pos 1), .feats (.clone .iter), .pos 1] = [.val (.int 3), .vals [.int 1], .val (.int 3)] :=
  ⟨_, rfl, rfl⟩

/-! ## one set of filter objects, several tables -/

/-- the `*Rows` filter objects carry no state from one `filter()` call to the next: the same objects run over several tables
(dense and sparse mixed) yield for each table what fresh objects yield.  In the model `runTable` returns its filters unchanged by
definition; the harness applies the real filter objects to 2–3 tables in a row and compares each with `session`'s output. -/
theorem filter_stateless (fs : List Stage) (ts : List Table) :
    session fs ts = ts.map (fun t => (runTable fs t).1) := by
  induction ts generalizing fs with
  | nil => rfl
  | cons t rest ih =>
    have : (runTable fs t).2 = fs := by cases t <;> rfl
    simp only [session, List.map_cons, this, ih]

theorem filter_stateless_pair (fs : List Stage) (A B : Table) :
    (session fs [A, B])[1]? = (session fs [B])[0]? := by
  rw [filter_stateless, filter_stateless]; rfl

/-! ## the first row of a table

The `*Rows` filters derive their arguments from the first incoming row (`tableD1`, what the driver runs); the refinement
theorems above are per row (`buildD`).  `uniformRun` (decidable; the driver reports it as `uniform`, the harness takes it into `hyp`) says that at every
stage every incoming row has the length, the header map and the categorical positions of the first one. -/

/-- on a uniform table, looking at the first row (the code) is the same as looking at each row itself -/
theorem first_row_irrelevant (stages : List Stage) (rows : List DBase)
    (h : uniformRun stages (rows.map baseD) = true) :
    tableD1 stages rows = runStages0 stages (rows.map baseD) := runStages1_eq stages (rows.map baseD) h

/-- … and its rows are exactly the rows `buildD` builds (those not removed by a row predicate), so every per-row theorem above
applies to every row of the table -/
theorem table_rows_are_pipelines (stages : List Stage) (rows out : List DRow) (h : runStages0 stages rows = .ok out) :
    ∃ os, mapMRes (buildD stages) rows = .ok os ∧ out = os.filterMap id := by
  rw [runStages0_eq_runRows] at h
  rw [buildD_eq_pipe]
  exact runRows_rows applyD stages rows out h

/-- the single-stage form: for a row that looks like the first row, `filter()` builds the wrapper the per-row model builds -/
theorem first_row_stage (st : Stage) (f r : DRow) (h : sameShape f r = true) : applyD1 st f r = applyD st r :=
  applyD1_eq st f r h

/-! ## the first dict of a sparse table

On dict rows `LabelRows.filter` reads `first._inv` (to translate a positional label into its header name) and
`EncodeCatRows.filter` reads the keys of the categoricals of the first dict and encodes exactly those keys in every dict.
`tableS1` is that computation; `sameShapeS f r` (same `_inv`, categoricals at the same keys, the row's keys distinct and not
clashing with the generated one-hot names `k_i`) is the decidable condition under which it is the per-row computation `buildS`
the sparse theorems are about.  The driver reports `uniformRunS` per case. -/

/-- on a uniform sparse table, looking at the first dict (the code) is the same as looking at each dict itself -/
theorem first_row_irrelevant_sparse (stages : List Stage) (rows : List SBase)
    (h : uniformRunS stages (rows.map baseS) = true) :
    tableS1 stages rows = runStagesS0 stages (rows.map baseS) := runStagesS1_eq stages (rows.map baseS) h

/-- … and that table consists of the rows `buildS` builds: every per-row sparse theorem applies to every row of the table -/
theorem table_rows_are_pipelines_sparse (stages : List Stage) (rows out : List SRow) (h : runStagesS0 stages rows = .ok out) :
    ∃ os, mapMRes (buildS stages) rows = .ok os ∧ out = os.filterMap id := by
  rw [runStagesS0_eq_runRows] at h
  rw [buildS_eq_pipe]
  exact runRows_rows applyS stages rows out h

theorem first_row_stage_sparse (st : Stage) (f r : SRow) (h : sameShapeS f r = true) : applyS1 st f r = applyS st r :=
  applyS1_eq st f r h

/-- `catset` at the categorical keys of the dict itself is the entry-by-entry encoding of the eager spec (`catEncodeDict`),
when the keys are distinct and no generated name `k_i` is already a key -/
theorem enccat_keys_of_own_dict (m : CatMode) (d : Dict) (hn : (d.map (·.1)).Nodup) (hc : noClash d = true) :
    catEncodeAtD m (catKeysD d) d = .ok (catEncodeDict m d) := catEncodeAtD_self m d hn hc

/-- the hypotheses are satisfiable: two dicts with the categorical at the same key -/
example : uniformRunS [.enccat (some .onehot)]
    ([SBase.plain [(.name "a", .cat "q" ["p", "q"]), (.name "b", .int 1)], SBase.plain [(.name "a", .cat "p" ["p", "q"]), (.name "b", .int 2)]].map baseS) = true := by
  decide +kernel

/-- jagged sparse tables are outside: (1) the second dict has its categorical at another key than the first: it passes through
un-encoded (per row: encoded);  (2) the second dict lacks the key the first has as categorical: KeyError (per row: the dict unchanged);
(3) the first dict has no header map but the second has `_inv = {1:'b'}`: `LabelRows(1)` labels it by the raw key 1 where the
per-row pipeline takes the header name `'b'` -/
theorem first_dict_counterexample :
    (tableS1 [.enccat (some .string)] [.plain [(.name "a", .cat "p" ["p", "q"])], .plain [(.name "a", .str "x"), (.name "b", .cat "q" ["p", "q"])]]
        = .ok [.plain [(.name "a", .str "p")], .plain [(.name "a", .str "x"), (.name "b", .cat "q" ["p", "q"])]] ∧
      buildS [.enccat (some .string)] (baseS (.plain [(.name "a", .str "x"), (.name "b", .cat "q" ["p", "q"])]))
        = .ok (some (.plain [(.name "a", .str "x"), (.name "b", .str "q")]))) ∧
    (tableS1 [.enccat (some .string)] [.plain [(.name "a", .cat "p" ["p", "q"])], .plain [(.name "b", .int 1)]] = .error .keyError ∧
      buildS [.enccat (some .string)] (baseS (.plain [(.name "b", .int 1)])) = .ok (some (.plain [(.name "b", .int 1)]))) ∧
    (∃ r1 r2, applyS1 (.label (.pos 1) none) (.plain []) (.head (.plain [(.pos 1, .int 5)]) [(.name "b", .pos 1)] [(.pos 1, .name "b")]) = .ok (some r1) ∧
      applyS (.label (.pos 1) none) (.head (.plain [(.pos 1, .int 5)]) [(.name "b", .pos 1)] [(.pos 1, .name "b")]) = .ok (some r2) ∧
      r1.labelOf.map (·.2.1) = some (.pos 1) ∧ r2.labelOf.map (·.2.1) = some (.name "b")) :=
  ⟨⟨rfl, rfl⟩, ⟨rfl, rfl⟩, ⟨_, _, rfl, rfl, rfl, rfl⟩⟩

/-! ## exception classes, and the protocol of the row-view classes -/

/-- every access a plain list answers or refuses by itself (position, iteration, copy, len, ==, at any depth of copies):
the lazy dense row raises exactly when the eager list does, and with the same exception CLASS -/
theorem lazy_error_eq_eager_error (b : DBase) (stages : List Stage) (e0 e : EagerD) (r : DRow)
    (hb : eagerBaseD b = .ok e0) (he : eagerD stages e0 = .ok (some e))
    (hr : buildD stages (baseD b) = .ok (some r)) (a : Acc) (ha : a.listAccess = true) :
    errD r a = eagerErrD e a := errD_of_ref (dense_ref b stages e0 e r hb he hr) a ha

/-- `row[i]`: nothing is raised inside the row, an IndexError (not a KeyError / TypeError / ValueError) at and beyond its end -/
theorem index_error_class (b : DBase) (stages : List Stage) (e0 e : EagerD) (r : DRow)
    (hb : eagerBaseD b = .ok e0) (he : eagerD stages e0 = .ok (some e))
    (hr : buildD stages (baseD b) = .ok (some r)) (i : Nat) :
    (i < e.cells.length → errD r (.pos i) = none) ∧ (e.cells.length ≤ i → errD r (.pos i) = some .indexError) := by
  have h := lazy_error_eq_eager_error b stages e0 e r hb he hr (.pos i) rfl
  simp only [eagerErrD] at h
  exact ⟨fun hi => by rw [h, if_pos hi], fun hi => by rw [h, if_neg (Nat.not_lt.2 hi)]⟩

/-- sparse: `row[k]` for a key the eager dict lacks is a KeyError, for a key it has nothing is raised; keys / items / len / copy / ==
never raise — as for the plain dict (by-key access outside the hidden raw keys of a header-mapped base, as in `sparse_get`) -/
theorem lazy_error_eq_eager_error_sparse (b : SBase) (stages : List Stage) (hs : leakSafe (!(baseS b).leak.isEmpty) stages = true) (e0 e : EagerS) (r : SRow)
    (he0 : eagerBaseS b = .ok e0) (he : eagerS stages e0 = .ok (some e))
    (hr : buildS stages (baseS b) = .ok (some r)) (a : Acc) (ha : a.dictAccess (· ∉ r.leak)) :
    errS r a = eagerErrS e a := errS_of_ref (sparse_ref b stages hs e0 e r he0 he hr) a ha

/-- non-vacuity: HeadRows + DropRows over a 3-column list; position 2 is beyond the end of the 2-column result: IndexError on both sides -/
example : (((buildD [.headNames ["a", "b", "c"], .drop [.name "b"] none] (baseD (.plain [.int 1, .int 2, .int 3]))).toOption.bind id).map
      (fun r => (errD r (.pos 2), errD r (.clone (.pos 1))))) = some (some .indexError, none) := by decide +kernel

/-- translator obligation: the public methods / properties the row-view classes of coba/primitives.py and coba/pipes/rows.py define
(extracted from the current source on every run) are exactly the protocol the model's access language covers.  A new public accessor
on a row view (or a removed one) breaks this proof. -/
theorem methods_covered :
    Coba.C13.Generated.extracted = true ∧ Coba.C13.Generated.rowViewMethods = coveredMethods := ⟨rfl, rfl⟩

/-- every single class stays inside the protocol -/
theorem class_methods_covered :
    Coba.C13.Generated.rowViewClasses.all (fun c => allCovered c.2) = true := by decide +kernel

/-! ## attribute forwarding through chains of views, `==` and lengths, the row predicate of DropRows -/

/-- `row.headers` on a table without header: the lazy row raises AttributeError (the class a plain list raises for `.headers`), through every pipeline -/
theorem headers_error_class (b : DBase) (stages : List Stage) (e0 e : EagerD) (r : DRow)
    (hb : eagerBaseD b = .ok e0) (he : eagerD stages e0 = .ok (some e))
    (hr : buildD stages (baseD b) = .ok (some r)) (hn : e.hdr = none) :
    r.headers = .error .attrError := by
  have h := (dense_ref b stages e0 e r hb he hr).hdr
  rw [hn] at h
  obtain ⟨er, her⟩ := toOption_eq_none h
  rw [her, headers_error r er her]

/-- `==` looks at the lengths: a row view never equals a sequence of ANOTHER length, whatever the surplus cells are (in particular
`None` / missing cells: the eager list `[4, None, None]` is not `[4]`) -/
theorem dense_eq_length_sensitive (b : DBase) (stages : List Stage) (e0 e : EagerD) (r : DRow)
    (hb : eagerBaseD b = .ok e0) (he : eagerD stages e0 = .ok (some e))
    (hr : buildD stages (baseD b) = .ok (some r)) (o : List Val) (hl : o.length ≠ e.cells.length) :
    r.eqList o = false := by
  rw [eq_iff b stages e0 e r hb he hr o, beq_false_of_ne (Ne.symm hl), Bool.false_and]

/-- the comparison that does not look at the lengths is not the same function: padding the shorter side with `None` (`zip_longest`) equates `[4, None, None]`
with `[4]` and `[1, 2]` with `[1, 2, None]`; the model's `==` does not (replayed on the real code: corpus family `eq-length`) -/
theorem dense_eq_padded_counterexample :
    eqPadded [.int 4, .none, .none] [.int 4] = true ∧ (DRow.plain [.int 4, .none, .none]).eqList [.int 4] = false ∧
    eqPadded [.int 1, .int 2] [.int 1, .int 2, .none] = true ∧ (DRow.plain [.int 1, .int 2]).eqList [.int 1, .int 2, .none] = false := by decide +kernel

/-- attribute forwarding does not depend on the depth of the wrapper chain: through ANY number of wrapping views without a `headers` slot of
their own (EncodeDense, LabelDense, KeepDense over a header-less row) `headers` is the attribute of the row below, and `missing` through any
wrapping views at all -/
theorem forwarding_depth_independent (ws : List DWrap) (r : DRow) :
    ((∀ w ∈ ws, w.transparent = true) → (wrapD ws r).headers = r.headers) ∧ (wrapD ws r).missing = r.missing := by
  refine ⟨fun h => foldl_forward DRow.headers _ ws (fun w hw r => ?_) r,
    foldl_forward DRow.missing _ ws (fun w _ r => by cases w <;> rfl) r⟩
  match w, h w hw with
  | .encode _, _ => rfl
  | .label _ _, _ => rfl
  | .keep _ _ _ _ none, _ => rfl

/-- sparse: `_inv` (the header map LabelRows reads) through any number of EncodeSparse / DropSparse / LabelSparse views, `missing` through any views -/
theorem forwarding_depth_independent_sparse (ws : List SWrap) (r : SRow) :
    ((∀ w ∈ ws, w.transparent = true) → (wrapS ws r).invOf = r.invOf) ∧ (wrapS ws r).missing = r.missing := by
  refine ⟨fun h => foldl_forward SRow.invOf _ ws (fun w hw r => ?_) r,
    foldl_forward SRow.missing _ ws (fun w _ r => by cases w <;> rfl) r⟩
  match w, h w hw with
  | .encode _ _, _ => rfl
  | .drop _, _ => rfl
  | .label _ _, _ => rfl

/-- so LabelRows translates an integer label to the header name of the row at the bottom, however many views lie between -/
theorem label_key_depth_independent (ws : List SWrap) (r : SRow) (h : ∀ w ∈ ws, w.transparent = true) (k : Key) (t : Option String) :
    applyS (.label k t) (wrapS ws r) = .ok (some (.label (wrapS ws r) (labelKey r.invOf k) t)) := by
  simp only [applyS, (forwarding_depth_independent_sparse ws r).1 h]

/-- the probe the driver and the harness run on every case (`EncodeRows({})` put on top d times) shows the same `headers`, `missing`, `len` / `_inv` at every depth -/
theorem probe_depth_independent (d : Nat) (r : DRow) (s : SRow) :
    ((probeD d r).headers = r.headers ∧ (probeD d r).missing = r.missing ∧ (probeD d r).len = r.len) ∧
    ((probeS d s).invOf = s.invOf ∧ (probeS d s).missing = s.missing) := by
  induction d generalizing r s with
  | zero => exact ⟨⟨rfl, rfl, rfl⟩, rfl, rfl⟩
  | succ d ih =>
    obtain ⟨⟨h1, h2, h3⟩, h4, h5⟩ := ih (.encode r (encsOf [] r)) (.encode s [] (nspOf []))
    exact ⟨⟨h1, h2, h3.trans (length_encsOf [] r)⟩, h4, h5⟩

/-- non-vacuity: a header-mapped LazySparse below DropSparse, EncodeSparse, DropSparse: LabelRows(2) labels by the name 'c' -/
example : (applyS (.label (.pos 2) none) (wrapS [.drop [.name "a"], .encode [] [], .drop [.name "b"]]
      (.lazy (.loaded [(.pos 2, .int 5)]) [] [] [(.name "c", .pos 2)] [(.pos 2, .name "c")] false))).toOption.bind (fun o => o.map (fun r => r.labelVal.toOption)) =
    some (some (Val.int 5)) := by decide +kernel

/-- DropRows decides on the GIVEN row: the row predicate is evaluated before, and independently of, the column dropping -/
theorem drop_row_sees_original (cols : List Key) (pred : Option Pred) (r : DRow) :
    applyD (.drop cols pred) r =
      (match evalPredD pred r with
       | .error e => .error e
       | .ok false => .ok none
       | .ok true => applyD (.drop cols none) r) := by
  simp only [applyD]
  cases evalPredD pred r with
  | error e => rfl
  | ok b => cases b <;> rfl

theorem drop_row_sees_original_sparse (cols : List Key) (pred : Option Pred) (r : SRow) :
    applyS (.drop cols pred) r =
      (match evalPredS pred r with
       | .error e => .error e
       | .ok false => .ok none
       | .ok true => applyS (.drop cols none) r) := by
  simp only [applyS]
  cases evalPredS pred r with
  | error e => rfl
  | ok b => cases b <;> rfl

/-- evaluating the predicate on the column-dropped view is another filter: `[1,'x',10]`, `DropRows([0], lambda r: r[1]=='x')` drops the row, the view's
`r[1]` is 10 and keeps it; `{'a':1,'b':'x'}`, `DropRows(['a'], lambda r: r['a']==1)` drops the row, the view raises KeyError (replayed: corpus family `drop-pred`) -/
theorem drop_row_on_view_counterexample :
    rowDropped (applyD (.drop [.pos 0] (some (.cellEq (.pos 1) (.str "x")))) (.plain [.int 1, .str "x", .int 10])) = true ∧
    rowKept (dropOnView [.pos 0] (some (.cellEq (.pos 1) (.str "x"))) (.plain [.int 1, .str "x", .int 10])) = true ∧
    rowDropped (applyS (.drop [.name "a"] (some (.cellEq (.name "a") (.int 1)))) (.plain [(.name "a", .int 1), (.name "b", .str "x")])) = true ∧
    rowRaised (dropOnViewS [.name "a"] (some (.cellEq (.name "a") (.int 1))) (.plain [(.name "a", .int 1), (.name "b", .str "x")])) = true := by decide +kernel

/-! ## iteration element by element (early consumer stop, abandoned iterators) -/

/-- a consumer that stops early: for every base / pipeline with a defined eager row and every `n`, calling `next()` `n` times on `iter(row)`
(`list(islice(row, n))`, a `zip` with a shorter partner, a `for … break`) yields exactly the first `n` cells of the eager list and raises nothing -/
theorem partial_iteration (b : DBase) (stages : List Stage) (e0 e : EagerD) (r : DRow)
    (hb : eagerBaseD b = .ok e0) (he : eagerD stages e0 = .ok (some e))
    (hr : buildD stages (baseD b) = .ok (some r)) (n : Nat) :
    r.takeN n = (e.cells.take n, none) :=
  takeN_of_iter_ok r e.cells (dense_ref b stages e0 e r hb he hr).iter n

/-- the same for `row.feats` (DropOne: two chained `islice`s over two independent iterations of the labelled row), LabelRows last -/
theorem partial_iteration_feats (b : DBase) (stages : List Stage) (k : Key) (t : Option String) (e0 e : EagerD)
    (hb : eagerBaseD b = .ok e0) (he : eagerD (stages ++ [.label k t]) e0 = .ok (some e)) :
    ∃ r f ef, buildD (stages ++ [.label k t]) (baseD b) = .ok (some r) ∧ r.feats = .ok f ∧ e.feats = some ef ∧
      ∀ n, f.takeN n = (ef.cells.take n, none) := by
  obtain ⟨r, f, ef, _, h1, h2, h3, h4, _⟩ := feats_label_partial b stages k t e0 e hb he
  exact ⟨r, f, ef, h1, h2, h3, takeN_of_iter_ok f ef.cells h4.iter⟩

/-- the element-by-element model agrees with the whole-row one, for every row object: whenever `list(row)` is a value, the generator
pipeline produces exactly these values, one per `next()`, and no exception -/
theorem stream_of_iter_ok (r : DRow) (xs : List Val) (h : r.iter = .ok xs) : r.stream = xs.map .ok := stream_of_iter r xs h

/-- a consumer that stops earlier sees a prefix, and can only raise what the longer consumer raises too (every row object, defined
eager row or not) -/
theorem takeN_prefix (r : DRow) (m n : Nat) (h : m ≤ n) :
    (r.takeN m).1 = (r.takeN n).1.take m ∧ ((r.takeN m).2 = none ∨ (r.takeN m).2 = (r.takeN n).2) :=
  pull_prefix m n r.stream h

/-- read / abandon / read again: after a partial iteration that was abandoned (the base row is loaded, nothing else happened) every history of
accesses — and every further partial iteration — answers as on the untouched row -/
theorem abandoned_iteration (r : DRow) (n : Nat) (as : List Acc) :
    runD (stepTake r n).2 as = runD r as ∧ (stepTake r n).2.takeN = r.takeN := by
  refine ⟨?_, funext fun k => congrArg (pull k) (touch_stream r)⟩
  rw [access_order_irrelevant, access_order_irrelevant]
  exact List.map_congr_left fun a _ => touch_obsD r a

/-- the hypotheses of `partial_iteration` are satisfiable and the statement is not about the empty prefix only:
LazyDense(loader) `['1','2','3']`, header a,b,c, `int` per column, drop b, label c: two `next()` give `[1,3]`, one gives `[1]` -/
example : ∃ e0 e r, eagerBaseD exBase = .ok e0 ∧ eagerD exStages e0 = .ok (some e) ∧ buildD exStages (baseD exBase) = .ok (some r) ∧
    r.takeN 1 = ([.int 1], none) ∧ r.takeN 2 = ([.int 1, .int 3], none) ∧ r.takeN 5 = ([.int 1, .int 3], none) :=
  ⟨_, _, _, rfl, rfl, rfl, rfl, rfl, rfl⟩

/-- where the eager row is undefined (a cell's encoder raises) the ORDER of raising is part of the model: `LazyDense(['1','x','3'], [int,int,int])`
(1) its `feats` for label column 1 (DropOne): one `next()` gives 1, the second raises ValueError — skipping the label cell evaluates it, although
`feats` never shows it; (2) behind `DropRows([1])` (KeepDense, `compress`): the dropped cell still raises at the second `next()`;
(3) position 1 of the KeepDense row is fine (`row[1] == 3`): by position the dropped cell is never evaluated (replayed: corpus family `walk`) -/
theorem raise_order_witness :
    let base := DRow.lazy (.loaded [.str "1", .str "x", .str "3"]) (some [.toInt, .toInt, .toInt]) none false
    (DRow.dropOne base 1).takeN 1 = ([.int 1], none) ∧ (DRow.dropOne base 1).takeN 2 = ([.int 1], some .valueError) ∧
    (DRow.keep base [0, 2] [] [true, false, true] 2 none).takeN 1 = ([.int 1], none) ∧
    (DRow.keep base [0, 2] [] [true, false, true] 2 none).takeN 2 = ([.int 1], some .valueError) ∧
    ((DRow.keep base [0, 2] [] [true, false, true] 2 none).getPos 1).toOption = some (.int 3) := by intro base; decide +kernel

/-- raise order of `row.feats`, in general (`xs`: the cells before the first failing one, at or before the label column `ind`): a consumer of
`iter(row.feats)` that asks for more gets `xs` and then that cell's exception — in particular a failing LABEL cell (`xs.length = ind`) raises out
of `feats`, which never shows it: DropOne's second `islice` skips by evaluating -/
theorem feats_iteration_first_error (r : DRow) (ind : Nat) (xs : List Val) (e : Err) (t : List (Res Val))
    (h : r.stream = xs.map .ok ++ .error e :: t) (hl : xs.length ≤ ind) (n : Nat) (hn : xs.length < n) :
    (DRow.dropOne r ind).takeN n = (xs, some e) := by
  obtain ⟨t', ht⟩ := dropOneS_first_error xs e t ind hl
  simp only [DRow.takeN, DRow.stream, h, ht]
  exact pull_ok_append_error xs e t' n hn

/-- its hypotheses are met by the witness row: `LazyDense(['1','x','3'],[int,int,int])`, label column 1 -/
example : (DRow.lazy (.loaded [.str "1", .str "x", .str "3"]) (some [.toInt, .toInt, .toInt]) none false).stream
    = [Val.int 1].map .ok ++ .error .valueError :: [.ok (.int 3)] := by rfl

/-- why `stream_of_iter_ok` goes from `iter` to `stream` only: on a jagged table (`DropRows` computed its selectors `[True]` from a one-column first row) the row
`LazyDense(['1','2','x'],[int,int,int])` iterates to `[1]` without ever pulling the failing third cell (`compress` stops when the selectors end, one datum after them),
while the whole-list model `iter` encodes the complete inner row first and raises.  The element-wise model follows the code (replayed: corpus family `walk`, jagged case) -/
theorem iter_vs_stream_short_selector_witness :
    let r := DRow.keep (.lazy (.loaded [.str "1", .str "2", .str "x"]) (some [.toInt, .toInt, .toInt]) none false) [0] [] [true] 1 none
    r.iter.toOption = none ∧ r.takeN 5 = ([.int 1], none) := by intro r; decide +kernel

/-- translator obligation: the guard of `__getattr__` in each of the four base classes is `attr == '_row'` (so `_inv`, `_fwd`, `headers`, `missing`, `feats`,
`label` … are forwarded) -/
theorem getattr_guard_extracted :
    Coba.C13.Generated.getattrGuards = baseClasses.map (fun c => (c, forwardGuard.1, forwardGuard.2)) ∧
    forwarded "_inv" = true ∧ forwarded "headers" = true ∧ forwarded "missing" = true ∧ forwarded "_row" = false :=
  ⟨rfl, rfl, rfl, rfl, rfl⟩

/-- translator obligation: each concrete row-view class defines `__len__` / `__iter__` itself and leaves `__eq__` / `__getattr__` to its base class -/
theorem protocol_table_extracted : Coba.C13.Generated.protocolTable = protocolTable := rfl

end Coba.C13
