/-
C14 — Supervised data becomes a bandit problem whose best action is the true label.

Reading of the statement.  `rows : List (χ × Label)` are the examples (features, label) in the
order the source yields them (after `LabelRows` split them and after `Reservoir(take)` selected
them); `read given rows` is what `SupervisedSimulation.read` yields for `label_type = given`.
`typeOf given rows` is the label type in force (given, or inferred from the first label) and
`firstLevels rows` the levels of the first label when it is a `Categorical`.
-/
import CobaVerif.Lemmas.C14
import CobaVerif.Lemmas.C14Pipeline
import CobaVerif.Generated.C14Supervised

namespace Coba.C14

/-! ### all label types -/

/-- "The number and order of interactions equal those of the examples" and "its context is exactly
the example's features", as one equation of lists -/
theorem length_order {χ : Type} (given : Option LType) (rows : List (χ × Label)) (ints : List (Interaction χ))
    (h : read given rows = .ok ints) : ints.map (·.context) = rows.map (·.1) := by
  obtain ⟨acts, mk, rfl, _⟩ := read_rowwise h
  exact List.map_map

/-- "every interaction offers the same action set" -/
theorem actions_same {χ : Type} (given : Option LType) (rows : List (χ × Label)) (ints : List (Interaction χ))
    (h : read given rows = .ok ints) : ∃ acts, ∀ x ∈ ints, x.actions = acts := by
  obtain ⟨acts, mk, rfl, _⟩ := read_rowwise h
  exact ⟨acts, List.forall_mem_map.mpr fun _ _ => rfl⟩

/-! ### already labelled sources (rows carry their own `tipe`, e.g. OpenML) -/

/-- an explicit `label_type` decides, whatever type the source attached to its rows -/
theorem explicit_type_wins {χ : Type} (t : LType) (tipe : Option LType) (r : χ × Label) (rest : List (χ × Label)) :
    typeOf (resolveGiven (some t) tipe) (r :: rest) = some t :=
  rfl

/-- without an explicit `label_type` the rows' own type is used (no inference from the first label) -/
theorem source_type_used {χ : Type} (t : LType) (r : χ × Label) (rest : List (χ × Label)) :
    typeOf (resolveGiven none (some t)) (r :: rest) = some t :=
  rfl

/-! ### label-type inference (`label_type=None`, rows without their own `tipe`) -/

/-- regression exactly for a number (`int`, `float`, also `bool`, which is an `int` in Python:
`True`/`False` are the targets 1/0), classification for everything else — strings, Categoricals
and list-valued labels (delisted to their first member); multi-label is never inferred -/
theorem inference_spec (first : Label) :
    (inferType none first = .r ↔ ∃ q, first = .atom (.num q)) ∧
    (inferType none first = .c ↔ ¬ ∃ q, first = .atom (.num q)) ∧
    inferType none first ≠ .m := by
  cases first with
  | atom v => cases v <;> simp [inferType]
  | cat s L => simp [inferType]
  | list vs => simp [inferType]

/-- where the label type comes from (`typeSources`): the explicit `label_type`, else the rows' `tipe`, else inferred from the first
label — number ⇒ `r` (the extracted `inferThen`), anything else ⇒ `c` (`inferElse`) -/
theorem label_type_resolution (g tipe : Option LType) (first : Label) :
    inferType (resolveGiven g tipe) first =
      match g, tipe with
      | some t, _ => t
      | none, some t => t
      | none, none => match first with | .atom (.num _) => .r | _ => .c := by
  cases g <;> cases tipe <;> simp only [resolveGiven, inferType]
  rcases first with (_ | _) | _ | _ <;> rfl

/-! ### classification, labels that are not `Categorical` (strings, numbers, one-element lists) -/

/-- "exactly the distinct labels of the data in a fixed order": strictly ascending in Python's `<`, so duplicate-free -/
theorem actions_eq {χ : Type} (given : Option LType) (rows : List (χ × Label)) (ints : List (Interaction χ))
    (h : read given rows = .ok ints) (ht : typeOf given rows = some .c) (hl : firstLevels rows = none) :
    ∀ x ∈ ints, Sorted x.actions ∧ ∀ v, v ∈ x.actions ↔ ∃ r ∈ rows, delist r.2 = .ok v := by
  obtain ⟨acts, hall, ha, rfl⟩ := read_plain_inv h ht hl
  obtain ⟨hs, hm⟩ := sortedSet_ok ha
  exact List.forall_mem_map.mpr fun _ _ => ⟨hs, fun v => (hm v).trans (mem_map_delistD hall)⟩

/-- why ascending is a *fixed* order: the list is determined by the set of labels, whatever the order or
multiplicity of the examples -/
theorem actions_order_fixed (l₁ l₂ : List Val) (h₁ : Sorted l₁) (h₂ : Sorted l₂)
    (hm : ∀ v, v ∈ l₁ ↔ v ∈ l₂) : l₁ = l₂ :=
  Sorted.ext h₁ h₂ hm

/-- "its reward is 1 for the example's label and 0 for every other action" (for *every* value `a`,
offered or not) -/
theorem reward_argmax {χ : Type} (given : Option LType) (rows : List (χ × Label)) (ints : List (Interaction χ))
    (h : read given rows = .ok ints) (ht : typeOf given rows = some .c) (hl : firstLevels rows = none)
    (i : Nat) (r : χ × Label) (x : Interaction χ) (hr : rows[i]? = some r) (hx : ints[i]? = some x) :
    ∃ v, delist r.2 = .ok v ∧ v ∈ x.actions ∧
      ∀ a, x.reward.eval (.one a) = .ok (if a = v then 1 else 0) := by
  obtain ⟨acts, hall, ha, rfl⟩ := read_plain_inv h ht hl
  cases getElem?_map_some hr hx
  have hm := List.mem_of_getElem? hr
  refine ⟨delistD r.2, hall r hm, ?_, binary_eval_one rfl⟩
  exact ((sortedSet_ok ha).2 _).mpr ((mem_map_delistD hall).mpr ⟨r, hm, hall r hm⟩)

/-- the best action is the true label, and only it -/
theorem unique_argmax {χ : Type} (given : Option LType) (rows : List (χ × Label)) (ints : List (Interaction χ))
    (h : read given rows = .ok ints) (ht : typeOf given rows = some .c) (hl : firstLevels rows = none)
    (i : Nat) (r : χ × Label) (x : Interaction χ) (hr : rows[i]? = some r) (hx : ints[i]? = some x) :
    ∃ v, delist r.2 = .ok v ∧
      (∀ a, a ∈ x.actions ∧ x.reward.eval (.one a) = .ok 1 ↔ a = v) := by
  obtain ⟨v, hv, hmem, hev⟩ := reward_argmax given rows ints h ht hl i r x hr hx
  refine ⟨v, hv, fun a => ?_⟩
  rw [hev a]
  constructor
  · rintro ⟨_, h1⟩
    by_contra hav
    rw [if_neg hav] at h1
    cases h1
  · rintro rfl
    exact ⟨hmem, by rw [if_pos rfl]⟩

/-- the hypotheses are not vacuous: well-formed classification data (no empty list label, labels of
one kind) is always accepted -/
theorem classification_total {χ : Type} (given : Option LType) (rows : List (χ × Label))
    (ht : typeOf given rows = some .c)
    (hne : ∀ r ∈ rows, r.2 ≠ .list [])
    (hk : ∀ d, delistAll rows = .ok d → homogeneous (d.map (·.2)) = true)
    (hcat : firstLevels rows ≠ none → ∀ r ∈ rows, ∀ vs, r.2 ≠ .list vs) :
    ∃ ints, read given rows = .ok ints := by
  obtain ⟨x, first, rest, rfl, hf⟩ := typeOf_some ht
  obtain ⟨d, hd⟩ := delistAll_total ((x, first) :: rest) hne
  have hh := hk d hd
  cases first with
  | cat s L =>
    obtain ⟨keys, hks⟩ := labelKeys_total ((x, Label.cat s L) :: rest) (hcat (by simp [firstLevels]))
    exact ⟨_, by simp only [read, hf, hks]; rfl⟩
  | atom v => exact ⟨_, by simp only [read, hf, hd, sortedSet_of_homogeneous hh]; rfl⟩
  | list vs => exact ⟨_, by simp only [read, hf, hd, sortedSet_of_homogeneous hh]; rfl⟩

example :
    read (χ := Nat) none [(10, .atom (.str "b")), (11, .atom (.str "a")), (12, .list [.str "b"])] =
      .ok [⟨10, [.str "a", .str "b"], .binary (.atom (.str "b"))⟩,
           ⟨11, [.str "a", .str "b"], .binary (.atom (.str "a"))⟩,
           ⟨12, [.str "a", .str "b"], .binary (.atom (.str "b"))⟩] := by decide +kernel

/-! ### classification, `Categorical` labels (the shortcut of `read`, with fixes/C14-categorical-unused-levels.diff) -/

/-- with a `Categorical` first label the offered actions are the declared levels that occur among
the examples, in declared order -/
theorem actions_eq_cat {χ : Type} (given : Option LType) (rows : List (χ × Label)) (ints : List (Interaction χ))
    (levels : List String)
    (h : read given rows = .ok ints) (ht : typeOf given rows = some .c) (hl : firstLevels rows = some levels) :
    ∀ x ∈ ints, x.actions.Sublist (levels.map Val.str) ∧
      ∀ v, v ∈ x.actions ↔ (∃ l ∈ levels, v = .str l) ∧ ∃ r ∈ rows, delist r.2 = .ok v := by
  obtain ⟨hall, rfl⟩ := read_cat_inv h ht hl
  exact List.forall_mem_map.mpr fun _ _ => ⟨catActions_sublist levels _, fun v =>
    mem_catActions.trans (and_congr_right' (mem_map_delistD fun r hr => delist_of_labelKey (hall r hr)))⟩

theorem cat_actions_nodup {χ : Type} (given : Option LType) (rows : List (χ × Label)) (ints : List (Interaction χ))
    (levels : List String) (hn : levels.Nodup)
    (h : read given rows = .ok ints) (ht : typeOf given rows = some .c) (hl : firstLevels rows = some levels) :
    ∀ x ∈ ints, x.actions.Nodup := by
  intro x hx
  exact List.Nodup.sublist (actions_eq_cat given rows ints levels h ht hl x hx).1
    (List.Nodup.map (fun a b hab => by injection hab) hn)

theorem reward_argmax_cat {χ : Type} (given : Option LType) (rows : List (χ × Label)) (ints : List (Interaction χ))
    (levels : List String)
    (h : read given rows = .ok ints) (ht : typeOf given rows = some .c) (hl : firstLevels rows = some levels)
    (i : Nat) (r : χ × Label) (x : Interaction χ) (hr : rows[i]? = some r) (hx : ints[i]? = some x)
    (hnl : ∀ vs, r.2 ≠ .list vs) :
    ∃ v, delist r.2 = .ok v ∧ ∀ a, x.reward.eval (.one a) = .ok (if a = v then 1 else 0) := by
  obtain ⟨hall, rfl⟩ := read_cat_inv h ht hl
  cases getElem?_map_some hr hx
  have hv := hall r (List.mem_of_getElem? hr)
  exact ⟨delistD r.2, delist_of_labelKey hv, binary_eval_one hv⟩

/-- "exactly the distinct labels of the data" for well-formed `Categorical` labels over one level list (the repaired
shortcut offers no unused level) -/
theorem actions_cat_exact {χ : Type} (given : Option LType) (rows : List (χ × Label))
    (ints : List (Interaction χ)) (levels : List String)
    (h : read given rows = .ok ints) (ht : typeOf given rows = some .c) (hl : firstLevels rows = some levels)
    (hall : ∀ r ∈ rows, ∃ s, r.2 = .cat s levels ∧ s ∈ levels) :
    ∀ x ∈ ints, ∀ v, v ∈ x.actions ↔ ∃ r ∈ rows, delist r.2 = .ok v := by
  intro x hx v
  rw [(actions_eq_cat given rows ints levels h ht hl x hx).2 v]
  constructor
  · rintro ⟨_, h2⟩; exact h2
  · rintro ⟨r, hr, hd⟩
    refine ⟨?_, r, hr, hd⟩
    obtain ⟨s, hs, hsl⟩ := hall r hr
    rw [hs] at hd
    exact ⟨s, hsl, (Except.ok.inj hd).symm⟩

example : ∀ r ∈ [((), Label.cat "x" ["y", "x"]), ((), Label.cat "y" ["y", "x"])],
    ∃ s, r.2 = .cat s ["y", "x"] ∧ s ∈ ["y", "x"] :=
  List.forall_mem_cons.mpr ⟨⟨"x", rfl, by decide⟩,
    List.forall_mem_cons.mpr ⟨⟨"y", rfl, by decide⟩, fun _ h => absurd h List.not_mem_nil⟩⟩

/-- the level `b` no example carries is not offered (it was, before the repair: finding C14-F6) -/
example : read (χ := Unit) none [((), .cat "a" ["b", "a"])] =
    .ok [⟨(), [.str "a"], .binary (.cat "a" ["b", "a"])⟩] := by decide +kernel

/-! ### regression -/

/-- "regression data [is rewarded] by the negative absolute error"; no discrete actions are offered -/
theorem l1_spec {χ : Type} (given : Option LType) (rows : List (χ × Label)) (ints : List (Interaction χ))
    (h : read given rows = .ok ints) (ht : typeOf given rows = some .r)
    (i : Nat) (r : χ × Label) (x : Interaction χ) (hr : rows[i]? = some r) (hx : ints[i]? = some x) :
    x.actions = [] ∧
    ∀ y, r.2 = .atom (.num y) → ∀ a, x.reward.eval (.one (.num a)) = .ok (-|a - y|) := by
  rw [read_r_inv h ht] at hx
  cases getElem?_map_some hr hx
  refine ⟨rfl, fun y hy a => ?_⟩
  simp only [hy, Reward.eval, negAbsDiff_eq]

/-- the best action is the true label -/
theorem l1_best (a y : Rat) : -|a - y| ≤ 0 ∧ (-|a - y| = 0 ↔ a = y) := by
  refine ⟨neg_nonpos.mpr (abs_nonneg _), ?_⟩
  rw [neg_eq_zero, abs_eq_zero, sub_eq_zero]

example : read (χ := Nat) none [(1, .atom (.num 2)), (2, .atom (.num (1/2)))] =
    .ok [⟨1, [], .l1 (.atom (.num 2))⟩, ⟨2, [], .l1 (.atom (.num (1/2)))⟩] := by decide +kernel

/-! ### multi-label -/

/-- the offered actions are exactly the distinct labels occurring in the label sets, ascending -/
theorem multilabel_actions {χ : Type} (given : Option LType) (rows : List (χ × Label))
    (ints : List (Interaction χ))
    (h : read given rows = .ok ints) (ht : typeOf given rows = some .m) :
    ∀ x ∈ ints, Sorted x.actions ∧
      ∀ v, v ∈ x.actions ↔ ∃ r ∈ rows, ∃ vs, r.2 = .list vs ∧ v ∈ vs := by
  obtain ⟨acts, hall, ha, rfl⟩ := read_m_inv h ht
  obtain ⟨hs, hm⟩ := sortedSet_ok ha
  exact List.forall_mem_map.mpr fun _ _ => ⟨hs, fun v => (hm v).trans (mem_flatten_members hall)⟩

/-- "multi-label data rewards an action by its Jaccard overlap with the true label set": for a duplicate-free label list
and a duplicate-free action (one label is read as the singleton), not both empty; `jaccard_nodup_counterexample` for repeats -/
theorem jaccard_spec {χ : Type} (given : Option LType) (rows : List (χ × Label)) (ints : List (Interaction χ))
    (h : read given rows = .ok ints) (ht : typeOf given rows = some .m)
    (i : Nat) (r : χ × Label) (x : Interaction χ) (hr : rows[i]? = some r) (hx : ints[i]? = some x)
    (ys : List Val) (hy : r.2 = .list ys) (hyn : ys.Nodup)
    (a : Action) (han : a.asList.Nodup) (hne : ys ≠ [] ∨ a.asList ≠ []) :
    x.reward.eval a =
      .ok (((a.asList.toFinset ∩ ys.toFinset).card : Rat) / ((a.asList.toFinset ∪ ys.toFinset).card : Rat)) := by
  obtain ⟨acts, _, _, rfl⟩ := read_m_inv h ht
  cases getElem?_map_some hr hx
  simp only [hy, Reward.eval]
  exact hammingValue_jaccard hyn han hne

/-- a single offered label `a` earns `1/|ys|` when it is one of the true labels and 0 otherwise -/
theorem hamming_scalar (ys : List Val) (a : Val) :
    hammingValue ys [a] = .ok (if a ∈ ys then 1 / (ys.length : Rat) else 0) := by
  unfold hammingValue
  rw [nUnion_eq]
  unfold nIntersect
  by_cases h : a ∈ ys
  · have hc : ys.contains a = true := List.contains_iff_mem.mpr h
    have hi : [a].filter (fun a => ys.contains a) = [a] := List.filter_cons_of_pos hc
    have hr : [a].filter (fun a => !ys.contains a) = [] := List.filter_cons_of_neg (by rw [hc]; decide)
    have hne : ys.length ≠ 0 := fun e => List.ne_nil_of_mem h (List.eq_nil_of_length_eq_zero e)
    rw [hi, hr, if_pos h, List.length_nil, Nat.add_zero, if_neg hne, List.length_singleton, Nat.cast_one]
  · have hc : ys.contains a = false := Bool.eq_false_iff.mpr fun e => h (List.contains_iff_mem.mp e)
    have hi : [a].filter (fun a => ys.contains a) = [] := List.filter_cons_of_neg (by rw [hc]; decide)
    have hr : [a].filter (fun a => !ys.contains a) = [a] := List.filter_cons_of_pos (by rw [hc]; rfl)
    rw [hi, hr, if_neg h, List.length_singleton, if_neg (Nat.succ_ne_zero _), List.length_nil, Nat.cast_zero, zero_div]

/-- the best action is the true label set, and only it -/
theorem jaccard_best (ys as : List Val) (hy : ys.Nodup) (ha : as.Nodup) (hne : ys ≠ [] ∨ as ≠ []) :
    hammingValue ys as = .ok 1 ↔ as.toFinset = ys.toFinset := by
  rw [hammingValue_jaccard hy ha hne]
  have hposq : ((as.toFinset ∪ ys.toFinset).card : Rat) ≠ 0 := by exact_mod_cast card_union_ne_zero hne
  constructor
  · intro h
    rw [Except.ok.injEq, div_eq_one_iff_eq hposq] at h
    -- the intersection lies in the union and has as many members, so they coincide
    exact inf_eq_sup.mp
      (Finset.eq_of_subset_of_card_le Finset.inter_subset_union (le_of_eq (by exact_mod_cast h.symm)))
  · intro h
    rw [h, Finset.union_self] at hposq
    rw [h, Finset.inter_self, Finset.union_self, div_self hposq]

example : ([Val.num 1, Val.num 2] : List Val).Nodup := by decide +kernel

/-- `Nodup` is necessary: a label *list* with a repeated member is not scored as the set it denotes
(the code counts list lengths) -/
theorem jaccard_nodup_counterexample :
    hammingValue [.num 1, .num 1] [.num 1] = .ok (1 / 2) ∧
    ((([Val.num 1] : List Val).toFinset ∩ ([Val.num 1, Val.num 1] : List Val).toFinset).card : Rat) /
      ((([Val.num 1] : List Val).toFinset ∪ ([Val.num 1, Val.num 1] : List Val).toFinset).card : Rat) = 1 := by
  refine ⟨by decide +kernel, by simp⟩

/-! ### multi-label with repeated members: the exact relation of `HammingReward` to the Jaccard index -/

/-- for arbitrary lists: numerator and denominator are |A∩Y| and |A∪Y| plus the repeats (of the action's members that are
true labels; inside the true label list and of the action's members that are not true labels) -/
theorem hamming_multiset_formula (ys as : List Val) :
    nIntersect ys as = (as.toFinset ∩ ys.toFinset).card +
        ((as.filter (fun a => ys.contains a)).length - (as.toFinset ∩ ys.toFinset).card) ∧
    nUnion ys as = (as.toFinset ∪ ys.toFinset).card + (ys.length - ys.toFinset.card) +
        ((as.filter (fun a => !ys.contains a)).length - (as.toFinset \ ys.toFinset).card) := by
  have h1 : (as.toFinset ∩ ys.toFinset).card ≤ (as.filter (fun a => ys.contains a)).length := by
    rw [← filter_mem_toFinset]; exact List.toFinset_card_le _
  have h2 : (as.toFinset \ ys.toFinset).card ≤ (as.filter (fun a => !ys.contains a)).length := by
    rw [← filter_not_mem_toFinset]; exact List.toFinset_card_le _
  have h3 : ys.toFinset.card ≤ ys.length := List.toFinset_card_le _
  refine ⟨(Nat.add_sub_cancel' h1).symm, ?_⟩
  rw [nUnion_eq, ← Finset.card_sdiff_add_card]
  omega

/-- an action without repeats against a label list with repeats: only the denominator is off,
by the number of repeats in the label list (so the reward is ≤ the Jaccard index, < when A∩Y ≠ ∅) -/
theorem hamming_nodup_action (ys as : List Val) (ha : as.Nodup) :
    nIntersect ys as = (as.toFinset ∩ ys.toFinset).card ∧
    nUnion ys as = (as.toFinset ∪ ys.toFinset).card + (ys.length - ys.toFinset.card) := by
  have h3 : ys.toFinset.card ≤ ys.length := List.toFinset_card_le _
  refine ⟨nIntersect_card ha, ?_⟩
  rw [nUnion_eq, ← Finset.card_sdiff_add_card, length_filter_not_mem ha]
  omega

/-! ### which action order the code guarantees: a function of the label set (and the declared levels) alone -/

/-- plain labels: ascending (`actions_eq`), hence two example sets with the same labels — in any order, with any
multiplicities, any features — are offered the same action list -/
theorem actions_order_canonical {χ₁ χ₂ : Type} (g₁ g₂ : Option LType) (rows₁ : List (χ₁ × Label)) (rows₂ : List (χ₂ × Label))
    (ints₁ : List (Interaction χ₁)) (ints₂ : List (Interaction χ₂))
    (h₁ : read g₁ rows₁ = .ok ints₁) (h₂ : read g₂ rows₂ = .ok ints₂)
    (t₁ : typeOf g₁ rows₁ = some .c) (t₂ : typeOf g₂ rows₂ = some .c)
    (l₁ : firstLevels rows₁ = none) (l₂ : firstLevels rows₂ = none)
    (hset : ∀ v, (∃ r ∈ rows₁, delist r.2 = .ok v) ↔ (∃ r ∈ rows₂, delist r.2 = .ok v)) :
    ∀ x₁ ∈ ints₁, ∀ x₂ ∈ ints₂, x₁.actions = x₂.actions := by
  intro x₁ hx₁ x₂ hx₂
  obtain ⟨s₁, m₁⟩ := actions_eq g₁ rows₁ ints₁ h₁ t₁ l₁ x₁ hx₁
  obtain ⟨s₂, m₂⟩ := actions_eq g₂ rows₂ ints₂ h₂ t₂ l₂ x₂ hx₂
  exact Sorted.ext s₁ s₂ (fun v => by rw [m₁ v, m₂ v, hset v])

/-- Categorical labels: the declared level order restricted to the occurring levels (`actions_eq_cat`): same levels
and same occurring labels give the same action list -/
theorem cat_order_canonical {χ₁ χ₂ : Type} (g₁ g₂ : Option LType) (rows₁ : List (χ₁ × Label)) (rows₂ : List (χ₂ × Label))
    (ints₁ : List (Interaction χ₁)) (ints₂ : List (Interaction χ₂)) (levels : List String)
    (h₁ : read g₁ rows₁ = .ok ints₁) (h₂ : read g₂ rows₂ = .ok ints₂)
    (t₁ : typeOf g₁ rows₁ = some .c) (t₂ : typeOf g₂ rows₂ = some .c)
    (l₁ : firstLevels rows₁ = some levels) (l₂ : firstLevels rows₂ = some levels)
    (hset : ∀ v, (∃ r ∈ rows₁, delist r.2 = .ok v) ↔ (∃ r ∈ rows₂, delist r.2 = .ok v)) :
    ∀ x₁ ∈ ints₁, ∀ x₂ ∈ ints₂, x₁.actions = x₂.actions := by
  obtain ⟨a₁, rfl⟩ := read_cat_inv h₁ t₁ l₁
  obtain ⟨a₂, rfl⟩ := read_cat_inv h₂ t₂ l₂
  -- `catActions` looks at the keys only through membership
  exact List.forall_mem_map.mpr fun _ _ => List.forall_mem_map.mpr fun _ _ => catActions_congr fun v => by
    rw [mem_map_delistD fun r hr => delist_of_labelKey (a₁ r hr), mem_map_delistD fun r hr => delist_of_labelKey (a₂ r hr), hset]

/-- multi-label: ascending over the union of the label sets -/
theorem multilabel_order_canonical {χ₁ χ₂ : Type} (g₁ g₂ : Option LType) (rows₁ : List (χ₁ × Label)) (rows₂ : List (χ₂ × Label))
    (ints₁ : List (Interaction χ₁)) (ints₂ : List (Interaction χ₂))
    (h₁ : read g₁ rows₁ = .ok ints₁) (h₂ : read g₂ rows₂ = .ok ints₂)
    (t₁ : typeOf g₁ rows₁ = some .m) (t₂ : typeOf g₂ rows₂ = some .m)
    (hset : ∀ v, (∃ r ∈ rows₁, ∃ vs, r.2 = .list vs ∧ v ∈ vs) ↔ (∃ r ∈ rows₂, ∃ vs, r.2 = .list vs ∧ v ∈ vs)) :
    ∀ x₁ ∈ ints₁, ∀ x₂ ∈ ints₂, x₁.actions = x₂.actions := by
  intro x₁ hx₁ x₂ hx₂
  obtain ⟨s₁, m₁⟩ := multilabel_actions g₁ rows₁ ints₁ h₁ t₁ x₁ hx₁
  obtain ⟨s₂, m₂⟩ := multilabel_actions g₂ rows₂ ints₂ h₂ t₂ x₂ hx₂
  exact Sorted.ext s₁ s₂ (fun v => by rw [m₁ v, m₂ v, hset v])

/-- the same labels in another order, with other multiplicities and other features: the same action list -/
example : (read (χ := Nat) none [(1, .atom (.str "b")), (2, .atom (.str "a")), (3, .atom (.str "b"))]).toOption.map (·.map (·.actions)) =
      some [[.str "a", .str "b"], [.str "a", .str "b"], [.str "a", .str "b"]] ∧
    (read (χ := Nat) none [(7, .atom (.str "a")), (8, .atom (.str "b"))]).toOption.map (·.map (·.actions)) =
      some [[.str "a", .str "b"], [.str "a", .str "b"]] := by decide +kernel

/-! ### the whole statement as one predicate (`MeetsStatement`, Lemmas/C14) -/

theorem read_meets_statement {χ : Type} (given : Option LType) (exs : List (χ × Label)) (ints : List (Interaction χ))
    (h : read given exs = .ok ints) : MeetsStatement given exs ints :=
  ⟨length_order given exs ints h, actions_same given exs ints h,
   fun ht hl => ⟨actions_eq given exs ints h ht hl, fun i r x hr hx => reward_argmax given exs ints h ht hl i r x hr hx⟩,
   fun levels ht hl => ⟨actions_eq_cat given exs ints levels h ht hl,
     fun i r x hr hx hnl => reward_argmax_cat given exs ints levels h ht hl i r x hr hx hnl⟩,
   fun ht i r x hr hx => l1_spec given exs ints h ht i r x hr hx,
   fun ht => ⟨multilabel_actions given exs ints h ht,
     fun i r x hr hx ys hy hyn a han hne => jaccard_spec given exs ints h ht i r x hr hx ys hy hyn a han hne⟩⟩

/-- a simulation over a dense table is the in-memory form `SupervisedSimulation(X, Y, label_type)` over the rows split at the
label column -/
theorem dense_eq_xy (given : Option LType) (ind : Int) (table : List (List Label))
    (ints : List (Interaction (List Label))) (h : simDense given none ind table = .ok ints) :
    ∃ exs, DenseSplit ind table exs ∧ simPairs given none exs = .ok ints :=
  simDense_split h

/-- … hence it meets the statement for them -/
theorem dense_meets (given : Option LType) (ind : Int) (table : List (List Label))
    (ints : List (Interaction (List Label))) (h : simDense given none ind table = .ok ints) :
    ∃ exs, DenseSplit ind table exs ∧ MeetsStatement given exs ints :=
  (dense_eq_xy given ind table ints h).imp fun exs hx => ⟨hx.1, read_meets_statement given exs ints hx.2⟩

/-! ### `LabelRows`: "its context is exactly the example's features without the label" -/

/-- dense rows: putting the label back at the label position gives the row -/
theorem context_eq_features_dense {γ : Type} (i : Nat) (row feats : List γ) (l : γ)
    (h : splitDense i row = .ok (feats, l)) :
    row = feats.take i ++ l :: feats.drop i ∧ feats.length + 1 = row.length := by
  obtain ⟨hl, hf⟩ := splitDense_ok.mp h
  rw [hf]
  exact ⟨eraseIdx_insert hl, List.length_eraseIdx_add_one (List.getElem?_eq_some_iff.mp hl).1⟩

/-- sparse rows: the items other than the label key, in the row's order; an absent label is `zero` -/
theorem context_eq_features_sparse {κ γ : Type} [DecidableEq κ] (key : κ) (zero : γ) (row : List (κ × γ)) :
    (∀ kv, kv ∈ (splitSparse key zero row).1 ↔ kv ∈ row ∧ kv.1 ≠ key) ∧
    (splitSparse key zero row).1.Sublist row ∧
    ((∃ v, (key, v) ∈ row ∧ (splitSparse key zero row).2 = v) ∨
     ((∀ kv ∈ row, kv.1 ≠ key) ∧ (splitSparse key zero row).2 = zero)) := by
  refine ⟨fun kv => List.mem_filter.trans (and_congr_right fun _ => decide_eq_true_iff), List.filter_sublist, ?_⟩
  unfold splitSparse
  rcases hf : row.find? (fun kv => decide (kv.1 = key)) with _ | kv
  · refine Or.inr ⟨fun kv hkv => of_decide_eq_false (Bool.eq_false_iff.mpr (List.find?_eq_none.mp hf kv hkv)), ?_⟩
    rw [hf]
  · have hk := List.find?_some hf
    refine Or.inl ⟨kv.2, of_decide_eq_true hk ▸ List.mem_of_find?_eq_some hf, ?_⟩
    rw [hf]

/-- a simulation over dense rows with a label column is `read` over the rows split into
(features without the label, label) — with or without `take` -/
theorem dense_pipeline (given : Option LType) (take : Option (List Nat)) (ind : Int)
    (rows : List (List Label)) (ints : List (Interaction (List Label)))
    (h : simDense given take ind rows = .ok ints) (hne : applyTake take rows ≠ []) :
    ∃ first i prs, (applyTake take rows).head? = some first ∧ normIdx ind first.length = some i ∧
      read given prs = .ok ints ∧ prs.length = (applyTake take rows).length ∧
      ∀ (k : Nat) (row : List Label) (p : List Label × Label),
        (applyTake take rows)[k]? = some row → prs[k]? = some p →
          row = p.1.take i ++ p.2 :: p.1.drop i := by
  obtain ⟨prs, ⟨hlen, hsp⟩, hread⟩ := simDense_split h
  cases hr : applyTake take rows with
  | nil => exact absurd hr hne
  | cons first rest =>
    rw [hr] at hsp hlen
    obtain ⟨i, hi, hk⟩ := hsp first rfl
    exact ⟨first, i, prs, rfl, hi, hread, hlen, hk⟩

theorem sparse_pipeline (given : Option LType) (take : Option (List Nat)) (key : Val)
    (rows : List (List (Val × Label))) :
    simSparse given take key rows =
      read given ((applyTake take rows).map (splitSparse key (Label.atom (.num 0)))) :=
  rfl

/-! ### contexts addressed by header name (`DropOne.headers`, `DropOne.__getitem__(name)`) -/

theorem label_header_absent {η : Type} (i : Nat) (hdr : List η) (l : η) (hn : hdr.Nodup) (hl : hdr[i]? = some l) :
    l ∉ featureHeaders i hdr :=
  featureHeaders_eq i hdr ▸ not_mem_eraseIdx hn hl

/-- the true label cannot be read out of the context by the label column's name (`KeyError`) -/
theorem label_lookup_fails {η γ : Type} [DecidableEq η] (i : Nat) (hdr : List η) (feats : List γ) (l : η)
    (hn : hdr.Nodup) (hl : hdr[i]? = some l) : featureByName i hdr feats l = .error .keyError :=
  lookupNamed_not_mem l _ feats (label_header_absent i hdr l hn hl)

/-- every other column is found in the context under its own name, with the row's value -/
theorem feature_lookup {η γ : Type} [DecidableEq η] (i : Nat) (hdr : List η) (row feats : List γ) (lab : γ)
    (hn : hdr.Nodup) (hlen : hdr.length = row.length) (hs : splitDense i row = .ok (feats, lab))
    (k : Nat) (name : η) (v : γ) (hk : k ≠ i) (hname : hdr[k]? = some name) (hv : row[k]? = some v) :
    featureByName i hdr feats name = .ok v := by
  obtain ⟨_, hf⟩ := splitDense_ok.mp hs
  unfold featureByName
  rw [featureHeaders_eq, hf]
  exact lookupNamed_get name _ _ (hn.sublist (List.eraseIdx_sublist hdr i)) (if k < i then k else k - 1) v
    ((getElem?_eraseIdx_of_ne hdr hk).trans hname) ((getElem?_eraseIdx_of_ne row hk).trans hv)

example : featureByName 1 ["a", "y", "b"] [10, 30] "b" = .ok 30 ∧
    featureByName 1 ["a", "y", "b"] [10, 30] "y" = (.error .keyError : Except Err Nat) := by decide +kernel

/-! ### the lazy row the learner receives (C13's model of `HeadDense` / `LabelDense` / `DropOne`) -/

/-- the context object of an interaction over a list-backed table is `LabelDense(row,i,tipe).feats = DropOne(row,i)`;
every access path gives the row without cell `i`, and the label the simulation uses is cell `i` -/
theorem lazy_context (hdr : Option (List String)) (vals : List C13.Val) (i : Nat) (t : Option String)
    (hi : i < vals.length) :
    (C13.DRow.label (lazyRow hdr vals) i t).feats = .ok (lazyContext hdr vals i) ∧
    (C13.DRow.label (lazyRow hdr vals) i t).labelVal = C13.idx vals i ∧
    (lazyContext hdr vals i).iter = .ok (vals.eraseIdx i) ∧
    (lazyContext hdr vals i).len = (vals.eraseIdx i).length ∧
    (∀ j, (lazyContext hdr vals i).getPos j = C13.idx (vals.eraseIdx i) j) ∧
    (lazyContext hdr vals i).headers.toOption = (hdr.map C13.zipNames).map (C13.DRow.shiftHdr i) := by
  have h := C13.refD_dropOne (refD_lazyRow hdr vals) i hi
  exact ⟨rfl, (refD_lazyRow hdr vals).pos i, h.iter, h.len, h.pos, h.hdr⟩

/-- the label cannot be read out of the lazy context by the label column's header name -/
theorem lazy_context_label_hidden (ns : List String) (vals : List C13.Val) (i : Nat) (l : String)
    (hn : ns.Nodup) (hl : ns[i]? = some l) :
    (lazyContext (some ns) vals i).getName l = .error .keyError := by
  rw [lazyContext_getName, C13.posOf_none_of_not_mem (not_mem_eraseIdx hn hl)]

/-- every other column is read from the lazy context under its header name -/
theorem lazy_context_name (ns : List String) (vals : List C13.Val) (i k : Nat) (name : String) (v : C13.Val)
    (hn : ns.Nodup) (hi : i < vals.length) (hk : k ≠ i) (hname : ns[k]? = some name) (hv : vals[k]? = some v) :
    (lazyContext (some ns) vals i).getName name = .ok v := by
  rw [lazyContext_getName,
    C13.posOf_of_nodup (hn.sublist (List.eraseIdx_sublist ns i)) ((getElem?_eraseIdx_of_ne ns hk).trans hname)]
  -- by position the lazy row answers as the values without cell `i`
  refine ((C13.refD_dropOne (refD_lazyRow (some ns) vals) i hi).pos _).trans ?_
  rw [C13.idx, getElem?_eraseIdx_of_ne vals hk, hv]

example : (lazyContext (some ["a", "y", "b"]) [.int 1, .str "x", .int 2] 1).getName "b" = .ok (.int 2) ∧
    (lazyContext (some ["a", "y", "b"]) [.int 1, .str "x", .int 2] 1).getName "y" = .error .keyError ∧
    (lazyContext (some ["a", "y", "b"]) [.int 1, .str "x", .int 2] 1).iter = .ok [.int 1, .int 2] := by decide +kernel

/-! ### `HeadRows`: which column a header name stands for -/

/-- `headerIndex` (= `dict(zip(headers, count()))[name]`) is **the last column of that name** -/
theorem headerIndex_spec (h : List C12.Text) (nm : C12.Text) (i : Nat) :
    headerIndex h nm = some i ↔ h[i]? = some nm ∧ ∀ j, i < j → h[j]? ≠ some nm := by
  -- from the right: by `headerIndex_concat` a last column named `nm` decides, any other last column changes nothing
  induction h using List.reverseRecOn with
  | nil => exact ⟨fun e => (by cases e), fun e => (by cases e.1)⟩
  | append_singleton h a ih =>
    rw [headerIndex_concat]
    simp only [ne_eq, getElem?_concat_eq_some]
    by_cases e : a = nm
    · rw [if_pos e, Option.some.injEq]
      simp only [e, and_true]
      constructor
      · rintro rfl
        exact ⟨Or.inr rfl, fun j hj c =>
          c.elim (fun c => Nat.lt_asymm hj (List.getElem?_eq_some_iff.mp c).1) (Nat.ne_of_gt hj)⟩
      · rintro ⟨h1, h2⟩
        by_contra hne
        exact h2 h.length (List.getElem?_eq_some_iff.mp (h1.resolve_right (Ne.symm hne))).1 (Or.inr rfl)
    · rw [if_neg e, ih]
      simp only [e, and_false, or_false, ne_eq]

/-- … and it fails (`KeyError`) exactly for a name no column has -/
theorem headerIndex_none (h : List C12.Text) (nm : C12.Text) : headerIndex h nm = none ↔ nm ∉ h := by
  induction h using List.reverseRecOn with
  | nil => exact ⟨fun _ => List.not_mem_nil, fun _ => rfl⟩
  | append_singleton h a ih =>
    rw [headerIndex_concat, List.mem_append, List.mem_singleton]
    by_cases e : a = nm
    · rw [if_pos e]
      exact ⟨fun c => (by cases c), fun c => absurd (Or.inr e.symm) c⟩
    · rw [if_neg e, ih]
      exact ⟨fun c x => x.elim c fun x => e x.symm, fun c x => c (Or.inl x)⟩

example : headerIndex [[121], [102], [121]] [121] = some 2 ∧ headerIndex [[121], [102]] [122] = none := by decide +kernel

/-! ### `take`: the interactions are those of the reservoir's selection, in its order -/

theorem take_is_reservoir {χ : Type} (given : Option LType) (idxs : List Nat) (rows : List (χ × Label))
    (ints : List (Interaction χ)) (h : simPairs given (some idxs) rows = .ok ints) :
    simPairs given (some idxs) rows = simPairs given none (select idxs rows) ∧
    ints.map (·.context) = idxs.filterMap (fun i => rows[i]?.map (·.1)) := by
  refine ⟨rfl, ?_⟩
  rw [length_order given (select idxs rows) ints h, select, List.map_filterMap]

/-! ### `take`: Algorithm L of the C09 model, seed 1 -/

/-- "the data" of a simulation with `take` are the sampled examples: the action set (and every other clause) is that
of the reservoir's sample, a sub-multiset of the examples of size `min k n` -/
theorem take_sample_spec {χ : Type} (given : Option LType) (k : Nat) (steps : List C09.Step)
    (rows : List (χ × Label)) (ints : List (Interaction χ)) (h : simPairsS given k steps rows = .ok ints) :
    ∃ sample, C09.reservoir (some k) false (C05.normInt 1) steps rows = .ok sample ∧
      sample.Subperm rows ∧ sample.length = min k rows.length ∧
      read given sample = .ok ints ∧ MeetsStatement given sample ints := by
  unfold simPairsS at h
  split at h
  · cases h
  · rename_i s hs
    obtain ⟨a, b, c⟩ := sampleRows_spec k steps rows s hs
    exact ⟨s, a, b, c, h, read_meets_statement given s ints h⟩

/-! ### no `take` -/

/-- the pipelines that take a `take` argument, given none, are the ones without it -/
theorem csvSimT_none (delim : Nat) (hasHeader : Bool) (lc : LabelCol) (given : Option LType) (lines : List C12.Text) :
    csvSimT delim hasHeader lc given none lines = csvSim delim hasHeader lc given lines := by
  unfold csvSimT csvSim
  split
  · rfl
  · rename_i hdr rows _
    cases lc with
    | index i => rfl
    | name nm => cases rows <;> rfl

theorem libsvmSimT_none (given : Option LType) (lines : List C12.Text) : libsvmSimT given none lines = libsvmSim given lines := by
  unfold libsvmSimT libsvmSim
  split <;> rfl

theorem manikSimT_none (given : Option LType) (lines : List C12.Text) : manikSimT given none lines = manikSim given lines := by
  unfold manikSimT manikSim
  split <;> rfl

/-! ### end to end = the in-memory form `SupervisedSimulation(X, Y, label_type)` over the examples the file denotes -/

theorem end_to_end_csv_xy (delim : Nat) (hd1 : delim ≠ C12.DQ) (hd2 : C12.isNl delim = false) (hasHeader : Bool)
    (rows : List (List (Bool × C12.Text))) (hok : ∀ r ∈ rows, C12.csvRowOk r = true)
    (ind : Int) (given : Option LType) (ints : List (Interaction (List Label)))
    (h : csvSim delim hasHeader (.index ind) given (rows.map (C12.csvWriteRow delim)) = .ok ints) :
    ∃ exs, DenseSplit ind (((rows.map (·.map (·.2))).drop (if hasHeader then 1 else 0)).map (·.map textLabel)) exs ∧
      simPairs given none exs = .ok ints := by
  rw [← csvSimT_none, csvSimT_written delim hd1 hd2 hasHeader rows hok] at h
  exact dense_eq_xy given ind _ ints h

/-- LibSVM: an equation, errors included -/
theorem end_to_end_libsvm_xy (rows : List C12.SvmRow) (hok : ∀ r ∈ rows, C12.svmRowOk r = true) (given : Option LType) :
    libsvmSim given (rows.map C12.svmWriteRow) = simPairs given none (rows.map svmPair) := by
  unfold libsvmSim
  rw [C12.libsvm_roundtrip rows hok]
  rfl

theorem end_to_end_manik_xy (first : C12.Text) (rows : List C12.SvmRow) (hok : ∀ r ∈ rows, C12.svmRowOk r = true)
    (given : Option LType) :
    manikSim given (first :: rows.map C12.svmWriteRow) = simPairs given none (rows.map svmPair) := by
  unfold manikSim
  rw [C12.manik_roundtrip first rows hok]
  rfl

example : C12.svmRowOk ⟨[[49], [50]], [([51], [52, 46, 53])]⟩ = true := by decide +kernel

/- theorem end_to_end_arff_xy (any ARFF file a Weka/OpenML writer produces) — only in part:
   * dense, one quote style, names/levels/values within C12's `AttrW.ok` / `arffRowOk` (gaps named by C12-F8, F9, F11), header and
     data lines handed over separately: `end_to_end_arff_dense_xy_partial`;
   * whole files through `arffRead`, within the hypotheses of C12's table round trips: `end_to_end_arff_file_dense` with
     `end_to_end_arff_file_dense_meets` (dense), `end_to_end_arff_sparse_xy` (sparse). -/
theorem end_to_end_arff_dense_xy_partial (q : Nat) (hq : q = C12.SQ ∨ q = C12.DQ) (also : Nat → Bool)
    (attrs : List C12.AttrW) (hattr : ∀ a ∈ attrs, a.ok true = true) (hnd : (attrs.map (·.name.2)).Nodup)
    (rows : List (Nat × List (Bool × C12.Text)))
    (hrows : ∀ r ∈ rows, C12.arffRowOk q r.2 = true ∧ r.2.length = attrs.length)
    (ind : Int) (given : Option LType) (ints : List (Interaction (List Label)))
    (h : arffDenseSim (.index ind) given (attrs.map (·.line q also))
          (rows.map (fun r => C12.arffWriteRow q also r.1 r.2)) = .ok ints) :
    ∃ cells table, encodeRows (attrs.map (·.typ.enc true)) (rows.map (·.2.map (·.2))) = .ok cells ∧
      rowsLabels cells = .ok table ∧
      ∃ exs, DenseSplit ind table exs ∧ simPairs given none exs = .ok ints := by
  obtain ⟨cells, table, hc, ht, hs⟩ := arffDenseSim_written q hq also attrs hattr hnd rows hrows ind given ints h
  exact ⟨cells, table, hc, ht, dense_eq_xy given ind table ints hs⟩

/-! ### end to end, the statement: text written by a canonical writer → reader (C12 model) → LabelRows → read -/

/-- CSV (any delimiter, RFC 4180 quoting, optional header; C12's `csvRowOk`): the interactions meet
the statement for the written table split at the label column -/
theorem end_to_end_csv (delim : Nat) (hd1 : delim ≠ C12.DQ) (hd2 : C12.isNl delim = false) (hasHeader : Bool)
    (rows : List (List (Bool × C12.Text))) (hok : ∀ r ∈ rows, C12.csvRowOk r = true)
    (ind : Int) (given : Option LType) (ints : List (Interaction (List Label)))
    (h : csvSim delim hasHeader (.index ind) given (rows.map (C12.csvWriteRow delim)) = .ok ints) :
    ∃ exs, DenseSplit ind (((rows.map (·.map (·.2))).drop (if hasHeader then 1 else 0)).map (·.map textLabel)) exs ∧
      MeetsStatement given exs ints := by
  rw [← csvSimT_none, csvSimT_written delim hd1 hd2 hasHeader rows hok] at h
  exact dense_meets given ind _ ints h

/-- `a,1` / `b,"2"` with the label in column 0 -/
example : csvSim 44 false (.index 0) none
    ([[(false, [97]), (false, [49])], [(false, [98]), (true, [50])]].map (C12.csvWriteRow 44)) =
  .ok [⟨[textLabel [49]], [.str "a", .str "b"], .binary (.atom (.str "a"))⟩,
       ⟨[textLabel [50]], [.str "a", .str "b"], .binary (.atom (.str "b"))⟩] := by decide +kernel

/-- `0,1 1:2` / `1` as multi-label data -/
example : (libsvmSim (some .m) ([⟨[[48], [49]], [([49], [50])]⟩, ⟨[[49]], []⟩].map C12.svmWriteRow)).toOption.map (·.map (·.actions)) =
  some [[.str "0", .str "1"], [.str "0", .str "1"]] := by decide +kernel

/-- LibSVM (C12's `svmRowOk`): examples = (feature tokens, list of label strings) per written row -/
theorem end_to_end_libsvm (rows : List C12.SvmRow) (hok : ∀ r ∈ rows, C12.svmRowOk r = true)
    (given : Option LType) (ints : List (Interaction (List (C12.Text × C12.Text))))
    (h : libsvmSim given (rows.map C12.svmWriteRow) = .ok ints) :
    MeetsStatement given (rows.map svmPair) ints :=
  read_meets_statement given _ ints ((end_to_end_libsvm_xy rows hok given).symm.trans h)

/-- Manik: the same after the metadata line -/
theorem end_to_end_manik (first : C12.Text) (rows : List C12.SvmRow) (hok : ∀ r ∈ rows, C12.svmRowOk r = true)
    (given : Option LType) (ints : List (Interaction (List (C12.Text × C12.Text))))
    (h : manikSim given (first :: rows.map C12.svmWriteRow) = .ok ints) :
    MeetsStatement given (rows.map svmPair) ints :=
  read_meets_statement given _ ints ((end_to_end_manik_xy first rows hok given).symm.trans h)

/-- dense ARFF (header and data lines in one quote style; C12's `AttrW.ok`, `arffRowOk`): the written
values, encoded by the written attribute types, split at the label column, meet the statement.
Partial in the sense of C12: the hypotheses are those forced by C12-F8/F9/F11.
There is no counterpart for sparse data lines handed over separately from the header lines; whole sparse files, through
`C12.arffRead`: `end_to_end_arff_file_sparse` below -/
theorem end_to_end_arff_dense (q : Nat) (hq : q = C12.SQ ∨ q = C12.DQ) (also : Nat → Bool)
    (attrs : List C12.AttrW) (hattr : ∀ a ∈ attrs, a.ok true = true) (hnd : (attrs.map (·.name.2)).Nodup)
    (rows : List (Nat × List (Bool × C12.Text)))
    (hrows : ∀ r ∈ rows, C12.arffRowOk q r.2 = true ∧ r.2.length = attrs.length)
    (ind : Int) (given : Option LType) (ints : List (Interaction (List Label)))
    (h : arffDenseSim (.index ind) given (attrs.map (·.line q also))
          (rows.map (fun r => C12.arffWriteRow q also r.1 r.2)) = .ok ints) :
    ∃ cells table, encodeRows (attrs.map (·.typ.enc true)) (rows.map (·.2.map (·.2))) = .ok cells ∧
      rowsLabels cells = .ok table ∧
      ∃ exs, DenseSplit ind table exs ∧ MeetsStatement given exs ints := by
  obtain ⟨cells, table, hc, ht, hs⟩ := arffDenseSim_written q hq also attrs hattr hnd rows hrows ind given ints h
  exact ⟨cells, table, hc, ht, dense_meets given ind table ints hs⟩

/-! ### text sources WITH `take`: reader (C12) → Reservoir (C09, seed 1) → LabelRows → read, all inside the model -/

/-- CSV with `take`: the statement holds for the reservoir's sample of the written data rows (header dropped), split at the
label column -/
theorem end_to_end_csv_take (delim : Nat) (hd1 : delim ≠ C12.DQ) (hd2 : C12.isNl delim = false) (hasHeader : Bool)
    (rows : List (List (Bool × C12.Text))) (hok : ∀ r ∈ rows, C12.csvRowOk r = true)
    (ind : Int) (given : Option LType) (k : Nat) (steps : List C09.Step) (ints : List (Interaction (List Label)))
    (h : csvSimT delim hasHeader (.index ind) given (some (k, steps)) (rows.map (C12.csvWriteRow delim)) = .ok ints) :
    ∃ sample, C09.reservoir (some k) false (C05.normInt 1) steps
        ((rows.map (·.map (·.2))).drop (if hasHeader then 1 else 0)) = .ok sample ∧
      sample.Subperm ((rows.map (·.map (·.2))).drop (if hasHeader then 1 else 0)) ∧
      sample.length = min k ((rows.map (·.map (·.2))).drop (if hasHeader then 1 else 0)).length ∧
      ∃ exs, DenseSplit ind (sample.map (·.map textLabel)) exs ∧ MeetsStatement given exs ints := by
  rw [csvSimT_written delim hd1 hd2 hasHeader rows hok] at h
  unfold csvTail at h
  split at h
  · cases h
  · rename_i s hs
    obtain ⟨a, b, c⟩ := sampleOpt_spec k steps _ s hs
    exact ⟨s, a, b, c, dense_meets given ind _ ints h⟩

theorem end_to_end_libsvm_take (rows : List C12.SvmRow) (hok : ∀ r ∈ rows, C12.svmRowOk r = true)
    (given : Option LType) (k : Nat) (steps : List C09.Step) (ints : List (Interaction (List (C12.Text × C12.Text))))
    (h : libsvmSimT given (some (k, steps)) (rows.map C12.svmWriteRow) = .ok ints) :
    ∃ sample, C09.reservoir (some k) false (C05.normInt 1) steps rows = .ok sample ∧
      sample.Subperm rows ∧ sample.length = min k rows.length ∧ MeetsStatement given (sample.map svmPair) ints := by
  unfold libsvmSimT at h
  rw [C12.libsvm_roundtrip rows hok] at h
  simp only at h
  split at h
  · cases h
  · rename_i s hs
    obtain ⟨a, b, c⟩ := sampleOpt_spec k steps rows s hs
    exact ⟨s, a, b, c, read_meets_statement given _ ints h⟩

theorem end_to_end_manik_take (first : C12.Text) (rows : List C12.SvmRow) (hok : ∀ r ∈ rows, C12.svmRowOk r = true)
    (given : Option LType) (k : Nat) (steps : List C09.Step) (ints : List (Interaction (List (C12.Text × C12.Text))))
    (h : manikSimT given (some (k, steps)) (first :: rows.map C12.svmWriteRow) = .ok ints) :
    ∃ sample, C09.reservoir (some k) false (C05.normInt 1) steps rows = .ok sample ∧
      sample.Subperm rows ∧ sample.length = min k rows.length ∧ MeetsStatement given (sample.map svmPair) ints := by
  unfold manikSimT at h
  rw [C12.manik_roundtrip first rows hok] at h
  simp only at h
  split at h
  · cases h
  · rename_i s hs
    obtain ⟨a, b, c⟩ := sampleOpt_spec k steps rows s hs
    exact ⟨s, a, b, c, read_meets_statement given _ ints h⟩

/-! ### `label_col` by header name -/

/-- over a table with headers a name is the index `HeadRows` maps it to (`denseByCol` is what `csvSimT` and `arffFileSim` end in) -/
theorem label_by_name (h : List C12.Text) (nm : C12.Text) (i : Nat) (given : Option LType) (table : List (List Label))
    (hi : headerIndex h nm = some i) :
    denseByCol (some h) (.name nm) given table = denseByCol (some h) (.index (i : Int)) given table := by
  cases table with
  | nil => rfl
  | cons r rs => simp only [denseByCol, hi]

/-- CSV written with a header line: `label_col=<name>` yields exactly what `label_col=<its index>` yields (with or without
`take`), so `end_to_end_csv`, `end_to_end_csv_xy` and `end_to_end_csv_take` hold for header names as well -/
theorem end_to_end_csv_name (delim : Nat) (hd1 : delim ≠ C12.DQ) (hd2 : C12.isNl delim = false)
    (hdr : List (Bool × C12.Text)) (rows : List (List (Bool × C12.Text))) (hok : ∀ r ∈ hdr :: rows, C12.csvRowOk r = true)
    (nm : C12.Text) (i : Nat) (hi : headerIndex (hdr.map (·.2)) nm = some i)
    (given : Option LType) (res : Option (Nat × List C09.Step)) :
    csvSimT delim true (.name nm) given res ((hdr :: rows).map (C12.csvWriteRow delim)) =
      csvSimT delim true (.index (i : Int)) given res ((hdr :: rows).map (C12.csvWriteRow delim)) := by
  rw [csvSimT_written delim hd1 hd2 true (hdr :: rows) hok, csvSimT_written delim hd1 hd2 true (hdr :: rows) hok]
  simp only [if_true, List.map_cons, List.head?_cons, csvTail]
  split
  · rfl
  · exact label_by_name _ nm i given _ hi

/-- `y,f` / `a,1` / `b,2` with the label named `y` -/
example : headerIndex [[121], [102]] [121] = some 0 ∧
    (csvSimT 44 true (.name [121]) none none
      ([[(false, [121]), (false, [102])], [(false, [97]), (false, [49])], [(false, [98]), (false, [50])]].map (C12.csvWriteRow 44))).toOption.map
        (·.map (·.actions)) = some [[.str "a", .str "b"], [.str "a", .str "b"]] := by decide +kernel

/-! ### whole-file ARFF (`C12.arffRead`: framing, `@data`, dense / sparse, encoders) -/

/-- a whole dense ARFF file of the Weka/OpenML-style writer (C12's `arff_dense_table_roundtrip`, hypotheses as there, the file
given up to `arffNormalize`, i.e. with any blank lines / kept terminators): the interactions are those of `LabelRows` + `read`
over the written cells (`rowOut`), the label column given by index or by attribute name -/
theorem end_to_end_arff_file_dense (q : Nat) (hq : q = C12.SQ ∨ q = C12.DQ) (also : Nat → Bool) (attrs : List C12.AttrW) (dkw : C12.Text)
    (rows : List (Nat × List (Bool × C12.CellW)))
    (hattrs : attrs ≠ []) (hok : ∀ a ∈ attrs, a.ok true = true) (hnd : (attrs.map (·.name.2)).Nodup)
    (hdkw : C12.lowerAscii dkw = C12.kwData) (hne : rows ≠ [])
    (hrows : ∀ r ∈ rows, C12.denseRowWOk q also r.1 (attrs.map (·.typ.enc true)) r.2 = true)
    (hfirst : ∀ r, rows.head? = some r → C12.notBraced (C12.denseRowLine q also r.1 r.2) = true)
    (lines : List C12.Text)
    (hnorm : C12.arffNormalize lines = attrs.map (·.line q also) ++ dkw :: rows.map (fun r => C12.denseRowLine q also r.1 r.2))
    (lc : LabelCol) (given : Option LType) (ints : List (Interaction (List Label)))
    (h : arffFileSim lc given none lines = .dense (.ok ints)) :
    ∃ table, rowsLabels (rows.map fun r => C12.rowOut (attrs.map (·.typ.enc true)) r.2) = .ok table ∧
      denseByCol (some (attrs.map (·.name.2))) lc given table = .ok ints := by
  obtain ⟨s, table, hs, ht, hd⟩ := arffFileSim_dense_inv
    (dense_file_roundtrip q hq also attrs dkw rows hattrs hok hnd hdkw hne hrows hfirst lines hnorm) lc given none ints h
  cases hs
  rw [denseWritten, List.map_map] at ht
  exact ⟨table, ht, hd⟩

/-- … hence, for an index, the statement and the (X,Y) form for the written table split at the label column
(`dense_meets`, `dense_eq_xy` apply to `denseByCol … (.index ind)` = `simDense`) -/
theorem end_to_end_arff_file_dense_meets (ind : Int) (hdr : Option (List C12.Text)) (given : Option LType) (table : List (List Label))
    (ints : List (Interaction (List Label))) (h : denseByCol hdr (.index ind) given table = .ok ints) :
    ∃ exs, DenseSplit ind table exs ∧ MeetsStatement given exs ints ∧ simPairs given none exs = .ok ints := by
  obtain ⟨exs, hs, hr⟩ := dense_eq_xy given ind table ints h
  exact ⟨exs, hs, read_meets_statement given exs ints hr, hr⟩

/-- under the named hypothesis `SparseFileRoundTrip`, which `sparse_file_roundtrip` and `sparse_file_roundtrip_relation` below
discharge for the canonical writer's files; `end_to_end_arff_file_sparse` / `end_to_end_arff_sparse_xy` state the result without it -/
theorem end_to_end_arff_file_sparse_under (lines : List C12.Text) (names : List C12.Text) (srows : List C12.SparseRow)
    (hrt : SparseFileRoundTrip lines names srows) (lc : LabelCol) (given : Option LType)
    (ints : List (Interaction (List (Val × Label))))
    (h : arffFileSim lc given none lines = .sparse (.ok ints)) :
    ∃ table, sparseTable (srows.map (·.items)) = .ok table ∧
      MeetsStatement given (table.map (splitSparse (sparseKey names lc) (Label.atom (.num 0)))) ints := by
  obtain ⟨s, table, hs, ht, hr⟩ := arffFileSim_sparse_inv hrt lc given none ints h
  cases hs
  exact ⟨table, ht, read_meets_statement given _ ints hr⟩

/-- the hypothesis is met by the concrete sparse file `sparseDemo`, whose simulation offers the levels that occur, in
declared order -/
example : (∃ names srows, SparseFileRoundTrip sparseDemo names srows) ∧
    sparseActions (.name [121]) none sparseDemo = some [[.str "x", .str "z"], [.str "x", .str "z"]] :=
  ⟨sparseDemo_roundtrip, sparseDemo_actions⟩

/-! ### whole sparse ARFF files: `SparseFileRoundTrip` discharged -/

/-- the hypothesis of `end_to_end_arff_file_sparse_under` holds for every whole sparse file of the Weka / OpenML-style writer,
given up to `arffNormalize` (hypotheses those of C12's `arff_sparse_table_roundtrip`) -/
theorem sparse_file_roundtrip (q : Nat) (hq : q = C12.SQ ∨ q = C12.DQ) (also : Nat → Bool) (attrs : List C12.AttrW) (dkw : C12.Text)
    (rows : List (Nat × List (C12.Text × C12.CellW)))
    (hattrs : attrs ≠ []) (hok : ∀ a ∈ attrs, a.ok false = true) (hnd : (attrs.map (·.name.2)).Nodup)
    (hdkw : C12.lowerAscii dkw = C12.kwData) (hne : rows ≠ [])
    (hrows : ∀ r ∈ rows, C12.sparseRowWOk attrs.length (attrs.map (·.typ.enc false)) r.2 = true)
    (lines : List C12.Text)
    (hnorm : C12.arffNormalize lines = attrs.map (·.line q also) ++ dkw :: rows.map (fun r => C12.sparseRowLine r.1 r.2)) :
    SparseFileRoundTrip lines (attrs.map (·.name.2)) (sparseWritten attrs rows) := by
  unfold SparseFileRoundTrip C12.arffRead sparseWritten
  rw [hnorm, C12.arff_sparse_table_roundtrip q hq also attrs dkw rows hattrs hok hnd hdkw hne hrows]

/-- the same with a `@relation` line (or any other line that is neither `@data` nor an attribute line) in front — the files the
harness' sparse writer emits; with `end_to_end_arff_file_sparse_under` this gives the statement for them -/
theorem sparse_file_roundtrip_relation (q : Nat) (hq : q = C12.SQ ∨ q = C12.DQ) (also : Nat → Bool) (attrs : List C12.AttrW) (dkw : C12.Text)
    (rows : List (Nat × List (C12.Text × C12.CellW)))
    (hattrs : attrs ≠ []) (hok : ∀ a ∈ attrs, a.ok false = true) (hnd : (attrs.map (·.name.2)).Nodup)
    (hdkw : C12.lowerAscii dkw = C12.kwData) (hne : rows ≠ [])
    (hrows : ∀ r ∈ rows, C12.sparseRowWOk attrs.length (attrs.map (·.typ.enc false)) r.2 = true)
    (rel : C12.Text) (hr1 : C12.lowerAscii rel ≠ C12.kwData) (hr2 : C12.lowerAscii (rel.take 5) ≠ C12.kwAttr)
    (lines : List C12.Text)
    (hnorm : C12.arffNormalize lines = rel :: (attrs.map (·.line q also) ++ dkw :: rows.map (fun r => C12.sparseRowLine r.1 r.2))) :
    SparseFileRoundTrip lines (attrs.map (·.name.2)) (sparseWritten attrs rows) := by
  unfold SparseFileRoundTrip C12.arffRead sparseWritten
  rw [hnorm]
  have := C12.arff_header_comment_invariance [] (attrs.map (·.line q also) ++ dkw :: rows.map (fun r => C12.sparseRowLine r.1 r.2)) rel hr1 hr2 (fun _ h => by cases h)
  simp only [List.nil_append] at this
  rw [this, C12.arff_sparse_table_roundtrip q hq also attrs dkw rows hattrs hok hnd hdkw hne hrows]

example : C12.lowerAscii (a2t "@relation verif") ≠ C12.kwData ∧ C12.lowerAscii ((a2t "@relation verif").take 5) ≠ C12.kwAttr := by decide +kernel

/-- a whole sparse ARFF file end to end: the statement and the (X,Y) form for the written rows (`sparseRowOut`: the written
items under their column names + coba's defaults for unwritten string/nominal columns) split at the label key (`sparseKey`: a
name, or an index translated to its column name; an absent label is 0) -/
theorem end_to_end_arff_file_sparse (q : Nat) (hq : q = C12.SQ ∨ q = C12.DQ) (also : Nat → Bool) (attrs : List C12.AttrW) (dkw : C12.Text)
    (rows : List (Nat × List (C12.Text × C12.CellW)))
    (hattrs : attrs ≠ []) (hok : ∀ a ∈ attrs, a.ok false = true) (hnd : (attrs.map (·.name.2)).Nodup)
    (hdkw : C12.lowerAscii dkw = C12.kwData) (hne : rows ≠ [])
    (hrows : ∀ r ∈ rows, C12.sparseRowWOk attrs.length (attrs.map (·.typ.enc false)) r.2 = true)
    (lines : List C12.Text)
    (hnorm : C12.arffNormalize lines = attrs.map (·.line q also) ++ dkw :: rows.map (fun r => C12.sparseRowLine r.1 r.2))
    (lc : LabelCol) (given : Option LType) (ints : List (Interaction (List (Val × Label))))
    (h : arffFileSim lc given none lines = .sparse (.ok ints)) :
    ∃ table, sparseTable (rows.map fun r => C12.sparseRowOut (attrs.map (·.name.2)) (attrs.map (·.typ.enc false)) r.2) = .ok table ∧
      MeetsStatement given (table.map (splitSparse (sparseKey (attrs.map (·.name.2)) lc) (Label.atom (.num 0)))) ints ∧
      simPairs given none (table.map (splitSparse (sparseKey (attrs.map (·.name.2)) lc) (Label.atom (.num 0)))) = .ok ints := by
  obtain ⟨s, table, hs, ht, hr⟩ := arffFileSim_sparse_inv
    (sparse_file_roundtrip q hq also attrs dkw rows hattrs hok hnd hdkw hne hrows lines hnorm) lc given none ints h
  cases hs
  rw [sparseWritten, List.map_map] at ht
  exact ⟨table, ht, read_meets_statement given _ ints hr, hr⟩

/-- the (X,Y) equation alone (the form of `end_to_end_csv_xy` / `end_to_end_libsvm_xy`) -/
theorem end_to_end_arff_sparse_xy (q : Nat) (hq : q = C12.SQ ∨ q = C12.DQ) (also : Nat → Bool) (attrs : List C12.AttrW) (dkw : C12.Text)
    (rows : List (Nat × List (C12.Text × C12.CellW)))
    (hattrs : attrs ≠ []) (hok : ∀ a ∈ attrs, a.ok false = true) (hnd : (attrs.map (·.name.2)).Nodup)
    (hdkw : C12.lowerAscii dkw = C12.kwData) (hne : rows ≠ [])
    (hrows : ∀ r ∈ rows, C12.sparseRowWOk attrs.length (attrs.map (·.typ.enc false)) r.2 = true)
    (lines : List C12.Text)
    (hnorm : C12.arffNormalize lines = attrs.map (·.line q also) ++ dkw :: rows.map (fun r => C12.sparseRowLine r.1 r.2))
    (lc : LabelCol) (given : Option LType) (ints : List (Interaction (List (Val × Label))))
    (h : arffFileSim lc given none lines = .sparse (.ok ints)) :
    ∃ table, sparseTable (rows.map fun r => C12.sparseRowOut (attrs.map (·.name.2)) (attrs.map (·.typ.enc false)) r.2) = .ok table ∧
      simPairs given none (table.map (splitSparse (sparseKey (attrs.map (·.name.2)) lc) (Label.atom (.num 0)))) = .ok ints :=
  (end_to_end_arff_file_sparse q hq also attrs dkw rows hattrs hok hnd hdkw hne hrows lines hnorm lc given ints h).imp fun _ t => ⟨t.1, t.2.2⟩

/-- the hypotheses are met by the writer's data of the demo file, and what it writes is that file -/
example : demoAttrs.map (·.line C12.SQ (fun _ => false)) ++ a2t "@data" :: demoRows.map (fun r => C12.sparseRowLine r.1 r.2) = sparseDemo ∧
    (demoAttrs ≠ [] ∧ (∀ a ∈ demoAttrs, a.ok false = true) ∧ (demoAttrs.map (·.name.2)).Nodup ∧
    C12.lowerAscii (a2t "@data") = C12.kwData ∧ demoRows ≠ [] ∧
    (∀ r ∈ demoRows, C12.sparseRowWOk demoAttrs.length (demoAttrs.map (·.typ.enc false)) r.2 = true) ∧
    C12.arffNormalize sparseDemo = sparseDemo) := ⟨demo_written, demo_hyps⟩

/-! ### whole-file ARFF with take -/

/-- sparse file + take: the statement and the (X,Y) form for the reservoir's sample (C09, seed 1) of the written rows, split
at the label key -/
theorem end_to_end_arff_file_sparse_take (q : Nat) (hq : q = C12.SQ ∨ q = C12.DQ) (also : Nat → Bool) (attrs : List C12.AttrW) (dkw : C12.Text)
    (rows : List (Nat × List (C12.Text × C12.CellW)))
    (hattrs : attrs ≠ []) (hok : ∀ a ∈ attrs, a.ok false = true) (hnd : (attrs.map (·.name.2)).Nodup)
    (hdkw : C12.lowerAscii dkw = C12.kwData) (hne : rows ≠ [])
    (hrows : ∀ r ∈ rows, C12.sparseRowWOk attrs.length (attrs.map (·.typ.enc false)) r.2 = true)
    (lines : List C12.Text)
    (hnorm : C12.arffNormalize lines = attrs.map (·.line q also) ++ dkw :: rows.map (fun r => C12.sparseRowLine r.1 r.2))
    (lc : LabelCol) (given : Option LType) (k : Nat) (steps : List C09.Step) (ints : List (Interaction (List (Val × Label))))
    (h : arffFileSim lc given (some (k, steps)) lines = .sparse (.ok ints)) :
    ∃ sample, C09.reservoir (some k) false (C05.normInt 1) steps (sparseWritten attrs rows) = .ok sample ∧
      sample.Subperm (sparseWritten attrs rows) ∧ sample.length = min k rows.length ∧
      ∃ table, sparseTable (sample.map (·.items)) = .ok table ∧
        MeetsStatement given (table.map (splitSparse (sparseKey (attrs.map (·.name.2)) lc) (Label.atom (.num 0)))) ints ∧
        simPairs given none (table.map (splitSparse (sparseKey (attrs.map (·.name.2)) lc) (Label.atom (.num 0)))) = .ok ints := by
  obtain ⟨s, table, hs, ht, hr⟩ := arffFileSim_sparse_inv
    (sparse_file_roundtrip q hq also attrs dkw rows hattrs hok hnd hdkw hne hrows lines hnorm) lc given (some (k, steps)) ints h
  obtain ⟨a, b, c⟩ := sampleOpt_spec k steps _ s hs
  rw [sparseWritten, List.length_map] at c
  exact ⟨s, a, b, c, table, ht, read_meets_statement given _ ints hr, hr⟩

/-- dense file + take: `LabelRows` + `read` over the reservoir's sample of the written rows, label column by index or name
(`end_to_end_arff_file_dense_meets` then gives the statement and the (X,Y) form for an index, `label_by_name` for a name) -/
theorem end_to_end_arff_file_dense_take (q : Nat) (hq : q = C12.SQ ∨ q = C12.DQ) (also : Nat → Bool) (attrs : List C12.AttrW) (dkw : C12.Text)
    (rows : List (Nat × List (Bool × C12.CellW)))
    (hattrs : attrs ≠ []) (hok : ∀ a ∈ attrs, a.ok true = true) (hnd : (attrs.map (·.name.2)).Nodup)
    (hdkw : C12.lowerAscii dkw = C12.kwData) (hne : rows ≠ [])
    (hrows : ∀ r ∈ rows, C12.denseRowWOk q also r.1 (attrs.map (·.typ.enc true)) r.2 = true)
    (hfirst : ∀ r, rows.head? = some r → C12.notBraced (C12.denseRowLine q also r.1 r.2) = true)
    (lines : List C12.Text)
    (hnorm : C12.arffNormalize lines = attrs.map (·.line q also) ++ dkw :: rows.map (fun r => C12.denseRowLine q also r.1 r.2))
    (lc : LabelCol) (given : Option LType) (k : Nat) (steps : List C09.Step) (ints : List (Interaction (List Label)))
    (h : arffFileSim lc given (some (k, steps)) lines = .dense (.ok ints)) :
    ∃ sample, C09.reservoir (some k) false (C05.normInt 1) steps (denseWritten attrs rows) = .ok sample ∧
      sample.Subperm (denseWritten attrs rows) ∧ sample.length = min k rows.length ∧
      ∃ table, rowsLabels (sample.map (·.cells)) = .ok table ∧
        denseByCol (some (attrs.map (·.name.2))) lc given table = .ok ints := by
  obtain ⟨s, table, hs, ht, hd⟩ := arffFileSim_dense_inv
    (dense_file_roundtrip q hq also attrs dkw rows hattrs hok hnd hdkw hne hrows hfirst lines hnorm) lc given (some (k, steps)) ints h
  obtain ⟨a, b, c⟩ := sampleOpt_spec k steps _ s hs
  rw [denseWritten, List.length_map] at c
  exact ⟨s, a, b, c, table, ht, hd⟩

/-! ### translator obligation: `SupervisedSimulation.__init__` / `.read` as extracted from the current source -/

/-- the tables `harness/props/c14.py` (`pre_build`) reads off the current `coba/environments/supervised.py` with Python's `ast` —
reward constructor and action computation reached for every label-type literal (either case) × "first label is a Categorical",
the numeric types and the two literals of the inference, the precedence explicit > tipe > inferred, the argument positions /
keyword names / defaults of both overloads (`label_col`, `label_type`, `take` default to None), `Reservoir(take)` joined before
`LabelRows(label_col,label_type)`, and what an interaction is built from — are the ones the model assumes -/
theorem supervised_source_as_modelled :
    Coba.Generated.C14.extracted = true ∧ Coba.Generated.C14.dispatch = dispatchTable ∧
    Coba.Generated.C14.inferNumeric = inferNumericTypes ∧
    parseLType Coba.Generated.C14.inferThen = some .r ∧ parseLType Coba.Generated.C14.inferElse = some .c ∧
    Coba.Generated.C14.sourcesNoTipe = typeSources false ∧ Coba.Generated.C14.sourcesTipe = typeSources true ∧
    Coba.Generated.C14.sourceArgs = ctorSourceArgs ∧ Coba.Generated.C14.xyArgs = ctorXYArgs ∧
    Coba.Generated.C14.joins = pipelineJoins ∧ Coba.Generated.C14.yields = yieldTable :=
  ⟨rfl, rfl, rfl, rfl, rfl, rfl, rfl, rfl, rfl, rfl, rfl⟩

/-- the model's `read` dispatches as its table says, for all inputs: every reward object has the class of the label type in force -/
theorem reward_class_dispatch {χ : Type} (given : Option LType) (rows : List (χ × Label)) (ints : List (Interaction χ)) (t : LType)
    (h : read given rows = .ok ints) (ht : typeOf given rows = some t) :
    ∀ x ∈ ints, x.reward.className = rewardClassOf t := by
  obtain ⟨acts, mk, rfl, hc⟩ := read_rowwise h
  exact List.forall_mem_map.mpr fun r _ => hc t ht r.2

example : (read (χ := Nat) (parseLType "M") [(1, .list [.str "a", .str "b"]), (2, .list [.str "b"])]).toOption.map (·.map (·.reward.className)) =
      some ["HammingReward", "HammingReward"] ∧
    (read (χ := Nat) none [(1, .cat "y" ["z", "y"]), (2, .cat "z" ["z", "y"])]).toOption.map (·.map (·.reward.className)) =
      some ["BinaryReward", "BinaryReward"] := by decide +kernel

/-- … and the row of that label type (given by any literal `label_type.lower()` maps to it) is in the extracted table, its
constructor being that class, applied to the label or to the delisted label -/
theorem dispatch_row_extracted (lit : String) (t : LType) (cat : Bool) (h : parseLType lit = some t) :
    (lit, cat, rewardCtorOf t cat, actionsKindOf t cat) ∈ Coba.Generated.C14.dispatch ∧
    (rewardCtorOf t cat = rewardClassOf t ∨ rewardCtorOf t cat = rewardClassOf t ++ "(delist)") :=
  ⟨supervised_source_as_modelled.2.1 ▸ dispatch_row_mem lit t cat h, by
    cases t <;> cases cat
    exacts [Or.inr rfl, Or.inl rfl, Or.inl rfl, Or.inl rfl, Or.inl rfl, Or.inl rfl]⟩

example : parseLType "M" = some .m ∧ parseLType "c" = some .c ∧ parseLType "x" = none := by decide +kernel

end Coba.C14
