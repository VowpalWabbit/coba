/-
C15 — Every supported prediction format is understood the same way.
Property theorems only (helper lemmas live in `Lemmas/C15*.lean`; the model and the spec in `Model/C15.lean`).

Reading of the statement.  A learner "using one documented format consistently" is `scripted sp pol`:
`sp` fixes the format (`A | AP | PM | dA | dAP | dPM`), whether a kwargs mapping follows, and how a batch is answered
(`row`-major, `col`umn-major, or `single` = the learner raises on a batch); `pol : context → offered actions → Answer`
is ANY function saying which offered action it names, which probability / PMF it states and which kwargs it gives.
`wantSingle` / `wantBatch` say what the evaluator must then receive.  `Fixes.all` is the code with the proposed repairs
`fixes/C15-*.diff`, `Fixes.none` the pinned commit; the side conditions (`firstRowOK`, `Unambiguous`, all decidable) are
the property's own "offered action objects themselves, or explicit hints where a value could be read two ways", plus -
for flags that are off - the regions of the recorded defects C15-F1…F4.
-/
import CobaVerif.Lemmas.C15Single
import CobaVerif.Lemmas.C15Draw
import CobaVerif.Lemmas.C15Row
import CobaVerif.Lemmas.C15Col
import CobaVerif.Lemmas.C15History
import CobaVerif.Lemmas.C15Equality
import CobaVerif.Lemmas.C15Score
import CobaVerif.Lemmas.C15Witness
import Mathlib.Tactic.Ring

namespace Coba.C15

/-! ### one call: `predict` returns what the learner's answer says -/

/-- **format_roundtrip, unbatched calls.**  `predict` returns exactly the action the learner named (an offered object), the
probability it stated (`None` for a bare action; for a PMF the draw of `CobaRandom.choicew` from the SafeLearner's generator
and the PMF's own entry for it), and the kwargs object it gave; the detection is memoised. -/
theorem format_roundtrip_single (fx : Fixes) (sp : Spec) (pol : Policy) (st : State) (c : PyVal) (as : List PyVal)
    (hinv : Inv sp false st)
    (hfirst : st.layout = Option.none → firstRowOK fx sp (pol c as) as = true) :
    predictCore fx (scripted sp pol) st (.single c as) =
      (wantSingle sp st.rng (pol c as) as).map (fun x => (x.1, stAfter sp false st x.2)) :=
  format_roundtrip_single' fx sp pol st c as hinv hfirst

/-- **format_roundtrip, batched calls** (row-major, column-major, and learners that cannot handle batches - these are
called per row): per row the named action, the stated probability (or the PMF draws made row after row from the one
generator), and per kwargs key the rows' values in order. -/
theorem format_roundtrip_batch (fx : Fixes) (sp : Spec) (pol : Policy) (st : State) (cs : List PyVal) (rows : List (List PyVal))
    (hinv : Inv sp true st) (hlen : cs.length = rows.length) (hne : rows ≠ [])
    (hU : Unambiguous fx sp st (rowsOf pol cs rows) = true) :
    Delivers (predictCore fx (scripted sp pol) st (.batch cs rows)) (wantBatch sp st.rng (rowsOf pol cs rows))
      (stAfter sp true st) := by
  simp only [Unambiguous, Bool.and_eq_true, Bool.or_eq_true, rowsOf] at hU ⊢
  obtain ⟨hcall, hfirst⟩ := hU
  obtain ⟨r0, R', hR⟩ : ∃ r0 R', zipWithAns pol cs rows = r0 :: R' := List.exists_cons_of_ne_nil fun h0 => by
    have := zipWithAns_length pol cs rows hlen
    rw [h0] at this
    exact hne (List.length_eq_zero_iff.mp this.symm)
  rw [hR] at hcall hfirst ⊢
  have hfirst' : st.layout = Option.none → firstCallOK fx sp (r0 :: R') = true := by
    intro h; rcases hfirst with h' | h'
    · rw [h] at h'; simp at h'
    · exact h'
  cases hlay : sp.layout
  case col =>
    simp only [callOK, hlay, Bool.and_eq_true] at hcall
    exact predictCore_col fx sp pol st cs rows r0 R' hR hlay hinv hlen hcall.1 hcall.2
      fun hl => by simpa [firstCallOK, hlay] using hfirst' hl
  case row | single =>
    simp only [callOK, hlay, Bool.or_eq_true, Bool.not_eq_true'] at hcall
    refine predictCore_notCol fx sp pol st cs rows r0 R' hR (by rw [hlay]; nofun) hinv hlen ?_
      fun hl => by simpa [firstCallOK, hlay] using hfirst' hl
    intro hk; rcases hcall with h | h
    · rw [hk] at h; cases h
    · exact h

/-- `format_roundtrip_single` and `format_roundtrip_batch` read for the repaired code: all defect regions are gone from the side
conditions -/
theorem format_roundtrip (sp : Spec) (pol : Policy) (st : State) (cs : List PyVal) (rows : List (List PyVal))
    (hinv : Inv sp true st) (hlen : cs.length = rows.length) (hne : rows ≠ [])
    (hU : Unambiguous Fixes.all sp st (rowsOf pol cs rows) = true) :
    Delivers (predictCore Fixes.all (scripted sp pol) st (.batch cs rows)) (wantBatch sp st.rng (rowsOf pol cs rows))
      (stAfter sp true st) :=
  format_roundtrip_batch Fixes.all sp pol st cs rows hinv hlen hne hU

/-- `format_roundtrip_single` and `format_roundtrip_batch` read for the pinned commit: the same claim holds outside the regions of the
recorded defects (the `fx.… = false` disjuncts of `firstRowOK`, `dictRowsOK`, `colParseOK`); the `_counterexample` theorems below show
each is necessary. -/
theorem format_roundtrip_pinned_partial (sp : Spec) (pol : Policy) (st : State) (cs : List PyVal) (rows : List (List PyVal))
    (hinv : Inv sp true st) (hlen : cs.length = rows.length) (hne : rows ≠ [])
    (hU : Unambiguous Fixes.none sp st (rowsOf pol cs rows) = true) :
    Delivers (predictCore Fixes.none (scripted sp pol) st (.batch cs rows)) (wantBatch sp st.rng (rowsOf pol cs rows))
      (stAfter sp true st) :=
  format_roundtrip_batch Fixes.none sp pol st cs rows hinv hlen hne hU

/-- the hypotheses of `format_roundtrip` are satisfiable: a column-major (action, prob) learner with kwargs on a 2-row batch of
0/1 actions -/
example : Unambiguous Fixes.all { fmt := .AP, kw := true, layout := .col } (initState 1)
    (rowsOf (exPol (fun i => i) (fun _ => 0) 2) (ctxs 2) [[.flt (.safe 0) 0, .flt (.safe 1) 1], [.flt (.safe 4096) 0, .flt (.safe 4097) 1]]) = true := by decide

/-- **fallback_equiv.**  A learner that cannot handle batches is called exactly once per row, in order (after the one
batch attempt of the first call), and - `wantBatch` does not depend on the layout - the evaluator receives what it
would receive from the same learner answering the batch row-major. -/
theorem fallback_equiv (fx : Fixes) (sp : Spec) (pol : Policy) (m : Option Nat) (cs : List PyVal) (rows : List (List PyVal))
    (hlay : sp.layout = .single) (hm : m = Option.none ∨ m = some 2) (s : Nat) (R : Rows) :
    (safeCallTrace fx (scripted sp pol) m (.batch cs rows)).filter (fun a => !isBatchArg a) = perRowArgs cs rows ∧
    wantBatch { sp with layout := .row } s R = wantBatch sp s R := by
  refine ⟨?_, rfl⟩
  have hL : scripted sp pol (.batch cs rows) = .error .learner := by simp [scripted, hlay]
  have hper := perRowArgs_unbatched cs rows
  rcases hm with rfl | rfl
  · have e : (safeCallTrace fx (scripted sp pol) Option.none (.batch cs rows)) = .batch cs rows :: perRowArgs cs rows := by
      simp only [safeCallTrace, hL]
    rw [e, List.filter_cons]
    simp only [isBatchArg, Bool.not_true, Bool.false_eq_true, ↓reduceIte]
    exact hper
  · simp only [safeCallTrace, hper]

/-- **ambiguity_characterised.**  Which un-hinted two-item answers are read as (action, prob): exactly those whose first
item IS one of the objects the learner was given - whatever the learner meant (a two-action PMF built from offered float
objects, a two-feature action starting with another offered action, …).  This is a design limit, not a defect: such
answers need the dict hints. -/
theorem ambiguity_characterised (fx : Fixes) (v x y : PyVal) (as : List PyVal) (hv : v.items = some [x, y]) (hne : as ≠ []) :
    predFormat fx v (some as) = .ok ⟨.AP, false⟩ ↔ as.any (fun a => pyIs x a) = true := by
  rw [predFormat_two fx hv hne]
  constructor
  · intro h
    by_contra hc
    rw [if_neg hc] at h
    exact classify_ne_AP v as h
  · intro h; rw [if_pos h]

/-! ### the recorded defects of the pinned commit (each replayed on the real code by the harness) and their repair -/

/-- C15-F1a: an un-hinted bare action that is a sparse dict with two features raises KeyError -/
theorem pinned_short_dict_counterexample :
    errOf (predict Fixes.none (scripted { fmt := .A, kw := false, layout := .single } (exPol (fun _ => 0) (fun _ => 0) 2)) (initState 1)
      (.single (.int 0) [exD2 2 1, exD2 3 2])) = some .key := by decide

/-- C15-F1b: an un-hinted bare action that is a one-item tuple raises CobaException -/
theorem pinned_short_tuple_counterexample :
    errOf (predict Fixes.none (scripted { fmt := .A, kw := false, layout := .single } (exPol (fun _ => 0) (fun _ => 0) 2)) (initState 1)
      (.single (.int 0) [.tuple (.ext 1) [.int 5], .tuple (.ext 2) [.int 6]])) = some .coba := by decide

/-- C15-F2: batched 0/1 actions get no float copies, so the PMFs [0,1],[1,0] are read as (action, prob) … -/
theorem pinned_batched01_counterexample :
    numsOf (predict Fixes.none (scripted { fmt := .PM, kw := false, layout := .row } (exPol (fun _ => 0) (fun i => 1 - i) 2)) (initState 1)
      (.batch (ctxs 2) [[.int 0, .int 1], [.int 0, .int 1]])) = some ([some 0, some 1], [some 1, some 0]) := by decide

/-- C15-F2 repaired: on the same batch and PMFs the repaired code draws actions 1 and 0 with probability 1 each -/
theorem fixed_batched01 :
    numsOf (predict Fixes.all (scripted { fmt := .PM, kw := false, layout := .row } (exPol (fun _ => 0) (fun i => 1 - i) 2)) (initState 1)
      (.batch (ctxs 2) [[.int 0, .int 1], [.int 0, .int 1]])) = some ([some 1, some 0], [some 1, some 1]) := by decide +kernel

/-- C15-F3a: column-major bare actions with kwargs come back as ONE "action" (the wrapped column) … -/
theorem pinned_colA_counterexample :
    lensOf (predict Fixes.none (scripted { fmt := .A, kw := true, layout := .col } (exPol (fun i => i) (fun _ => 0) 2)) (initState 1)
      (.batch (ctxs 2) [[exStr 1 "aa", exStr 2 "bb"], [exStr 1 "aa", exStr 2 "bb"]])) = some (1, 1) := by decide

theorem fixed_colA :
    lensOf (predict Fixes.all (scripted { fmt := .A, kw := true, layout := .col } (exPol (fun i => i) (fun _ => 0) 2)) (initState 1)
      (.batch (ctxs 2) [[exStr 1 "aa", exStr 2 "bb"], [exStr 1 "aa", exStr 2 "bb"]])) = some (2, 2) := by decide

/-- C15-F3c: column-major PMFs on a non-square batch raise ValueError -/
theorem pinned_colPM_counterexample :
    errOf (predict Fixes.none (scripted { fmt := .PM, kw := false, layout := .col } (exPol (fun _ => 0) (fun i => 2 * i) 3)) (initState 1)
      (.batch (ctxs 2) [[exStr 1 "aa", exStr 2 "bb", exStr 3 "cc"], [exStr 1 "aa", exStr 2 "bb", exStr 3 "cc"]])) = some .value := by decide +kernel

/-- C15-F3e: a column-major hinted answer followed by kwargs raises AttributeError -/
theorem pinned_colHintKw_counterexample :
    errOf (predict Fixes.none (scripted { fmt := .dA, kw := true, layout := .col } (exPol (fun i => i) (fun _ => 0) 2)) (initState 1)
      (.batch (ctxs 2) [[exStr 1 "aa", exStr 2 "bb"], [exStr 1 "aa", exStr 2 "bb"]])) = some .attr := by decide

/-- C15-F4: row-major bare sparse actions with different feature names raise CobaException … -/
theorem pinned_sparseRows_counterexample :
    errOf (predict Fixes.none (scripted { fmt := .A, kw := false, layout := .row } (exPol (fun i => i) (fun _ => 0) 2)) (initState 1)
      (.batch (ctxs 2) [[exSparse "f0" 1, exSparse "f1" 2], [exSparse "f0" 1, exSparse "f1" 2]])) = some .coba := by decide

theorem fixed_sparseRows :
    lensOf (predict Fixes.all (scripted { fmt := .A, kw := false, layout := .row } (exPol (fun i => i) (fun _ => 0) 2)) (initState 1)
      (.batch (ctxs 2) [[exSparse "f0" 1, exSparse "f1" 2], [exSparse "f0" 1, exSparse "f1" 2]])) = some (2, 2) := by decide

/-! ### the float copies of 0/1 actions and the cache that keeps them -/

/-- `predict` is the float-copy step followed by the core the `format_roundtrip` theorems are about -/
theorem predict_prepare (fx : Fixes) (L : Learner) (st : State) (arg : Arg) :
    predict fx L st arg = predictCore fx L (prepare fx st arg).1 (prepare fx st arg).2 := rfl

/-- on a fresh SafeLearner the learner is given the float copies (each row of a batch, in the repaired code) -/
theorem prepare_given (st : State) (arg : Arg) (h : st.prev = Option.none) :
    (prepare Fixes.all st arg).2 =
      (match arg with
       | .single c as => .single c (safeRow 0 as)
       | .batch cs rows => .batch cs (mapIdxFrom safeRow 0 rows)) := by
  cases arg <;> simp [prepare, h, argActs, safeActs, withActs, Fixes.all]

/-- "an action that is one of the offered actions": the learner is given, position by position, the offered object
itself or a float equal to it, and never the int 0, the int 1 or a bool -/
theorem safe_actions_equal (r : Nat) (as : List PyVal) :
    List.Forall₂ (fun s a => s = a ∨ pyEq s a = true) (safeRow r as) as ∧
    ∀ a ∈ safeRow r as, a ≠ .int 0 ∧ a ≠ .int 1 ∧ ∀ b, a ≠ .bool b :=
  ⟨safeRow_values r as, safeRow_no01 r as⟩

/-- hence (`safe_actions_equal`) the entries of a PMF built by the learner (fresh floats, or the interned ints 0/1) are none of the
objects it was given: the two-action side condition of `firstRowOK` holds by construction once the copies are made -/
theorem pmf_entry_fresh (x : PyVal) (as : List PyVal)
    (hx : (∃ k q, x = .flt (.lrn k) q) ∨ x = .int 0 ∨ x = .int 1)
    (hsafe : ∀ a ∈ as, a ≠ .int 0 ∧ a ≠ .int 1) (hl : ∀ a ∈ as, isLrn a = false) :
    as.any (fun a => pyIs x a) = false := by
  rw [List.any_eq_false]
  intro a ha h
  obtain ⟨h0, h1⟩ := hsafe a ha
  have hla := hl a ha
  -- `is` holds between values of one kind only: a float object of the same creator, the same int
  rcases hx with ⟨k, q, rfl⟩ | rfl | rfl <;> cases a <;> simp only [pyIs, Bool.false_eq_true, beq_iff_eq] at h
  · subst h; cases hla
  · exact h0 (h ▸ rfl)
  · exact h1 (h ▸ rfl)

theorem pyEq_makeSafe_left (k : Nat) (x y : PyVal) : pyEq (makeSafe k x) y = pyEq x y := pyEq_makeSafe_left' k x y

/-- **cached action sets.**  `predict` keeps the float copies when `_prev_actions != actions` is False, i.e. when the new
action list `==` the previous one (Python `==`, `pyEq`).  Then the learner is given, position by position, an object that
`==` the newly offered action: the copy compares (as left operand) exactly like the action it replaced
(`pyEq_makeSafe_left`), so no transitivity of `==` is needed. -/
theorem cached_actions_equal (r : Nat) (prev as : List PyVal) (h : pyEq (Acts.single prev).toPy (Acts.single as).toPy = true) :
    List.Forall₂ (fun s a => pyEq s a = true) (safeRow r prev) as := by
  have h1 : pyEqList prev as = true := by simpa [Acts.toPy, pyEq] using h
  have h2 := (pyEqList_forall₂ prev as).mp h1
  have h3 := safeRow_left r prev
  clear h h1
  generalize safeRow r prev = ss at h3
  induction h3 generalizing as with
  | nil => cases h2; exact List.Forall₂.nil
  | cons hsa _ ih =>
    cases h2 with
    | cons hxy hrest => exact List.Forall₂.cons (by rw [hsa]; exact hxy) (ih _ hrest)

example : pyEq (Acts.single [.int 0, .bool true, .str (.ext 1) "a"]).toPy (Acts.single [.bool false, .flt (.ext 2) 1, .str (.ext 3) "a"]).toPy = true := by
  decide

/-! ### the action cache and caller-owned list objects (finding C15-F6)

   theorem inplace_cache_full (cs) : runPrepRef fx ⟨st⟩ cs = runPrep fx st cs      -- FALSE for the pinned lines:
   `_prev_actions = actions` keeps a reference, so a caller that refills its list in place and passes it again is served from the
   cache (`inplace_stale_counterexample`).  It holds for the repaired lines (`_prev_actions` = a copy), which ARE `runPrep`. -/

/-- **partial (forced hypothesis `neverKept`).**  For every history of calls in which the caller never passes the list object the
wrapper currently keeps a reference to, the pinned lines offer the learner, call after call, exactly what the value-based
`prepare` offers - the cache all the other theorems (`prepare_given`, `cached_actions_equal`, `history_roundtrip`) are about. -/
theorem inplace_never_kept_partial (fx : Fixes) (a : AState) (cs : List OCall) (h : neverKept fx a cs = true) :
    runPrepRef fx a cs = runPrep fx a.st cs := by
  induction cs generalizing a with
  | nil => rfl
  | cons c cs ih =>
    simp only [neverKept, Bool.and_eq_true, bne_iff_ne, ne_eq] at h
    obtain ⟨h1, h2⟩ := h
    obtain ⟨e1, e2⟩ := prepareRef_other fx a c h1
    simp only [runPrepRef, runPrep]
    rw [ih _ h2, e1, e2]

/-- **partial, in the caller's terms.**  A caller that builds a fresh list object for every interaction (as coba's environments
do) is inside the hypothesis, whatever the contents are. -/
theorem inplace_fresh_objects_partial (fx : Fixes) (st : State) (cs : List OCall) (h : freshObjects [] cs = true) :
    runPrepRef fx { st := st } cs = runPrep fx st cs :=
  inplace_never_kept_partial fx { st := st } cs (fresh_never_kept fx cs { st := st } [] (by intro o ho; cases ho) h)

example : freshObjects [] [⟨1, .single (.int 7) [.int 0, .int 1]⟩, ⟨2, .single (.int 8) [.int 3]⟩, ⟨3, .single (.int 9) [.int 0, .int 1]⟩] = true := by
  decide

/-- the hypothesis `neverKept` is needed: list object 1 holds [0,1,2], is refilled in place with [3,4] and passed again - the pinned lines
offer the float copies made for [0,1,2] both times (nothing `==` [3,4] is offered), the value-based cache offers [3,4]. -/
theorem inplace_stale_counterexample :
    (offeredLists (runPrepRef Fixes.all { st := initState 1 } inplaceCalls)).map (fun l => pyEqList l [.int 3, .int 4]) = [false, false]
    ∧ (offeredLists (runPrepRef Fixes.all { st := initState 1 } inplaceCalls)).map (fun l => pyEqList l [.int 0, .int 1, .int 2]) = [true, true]
    ∧ (offeredLists (runPrep Fixes.all (initState 1) inplaceCalls)).map (fun l => pyEqList l [.int 3, .int 4]) = [false, true]
    ∧ neverKept Fixes.all { st := initState 1 } inplaceCalls = false := by
  decide

/-! ### PMF draws -/

/-- **pmf_prob_reported.**  A PMF over the offered actions is sampled with one uniform of the SafeLearner's generator
(C05); the action returned is offered, the probability returned is exactly the PMF's entry for it, and it is positive. -/
theorem pmf_prob_reported (s : Nat) (as pmf : List PyVal) (v : PyVal) (hv : v.items = some pmf)
    (hp : validPmf pmf as = true) :
    ∃ (i : Nat) (a p : PyVal) (q : Rat), choicew s as v = .ok (Coba.C05.next s, a, p) ∧ as[i]? = some a ∧ pmf[i]? = some p ∧
      p.num = some q ∧ 0 < q := by
  obtain ⟨_, i, a, p, q, _, _, h⟩ := pmf_draw_c05 s as pmf v hv hp
  exact ⟨i, a, p, q, h⟩

/-- **PMF draws, end to end** (repaired code, fresh SafeLearner with `seed`): `predict` returns the member of the
float-copied action list at the index C05's `choicew` (theorem `C05.choicew_weight'`) draws from the PMF's rational weights
with the seed's first uniform; that member is the offered action at that index or a float `==` to it (the copy of 0/1/bool);
the probability is the PMF's own entry there and positive; exactly one uniform is consumed. -/
theorem pmf_draw_end_to_end (sp : Spec) (pol : Policy) (seed : Int) (c : PyVal) (as : List PyVal)
    (hk : sp.fmt.kind = .PM)
    (hfirst : firstRowOK Fixes.all sp (pol c (safeRow 0 as)) (safeRow 0 as) = true)
    (hvalid : validPmf (pol c (safeRow 0 as)).pmf (safeRow 0 as) = true) :
    ∃ (qs : List Rat) (i : Nat) (a' a p : PyVal) (q : Rat) (r : Result) (st' : State),
      predict Fixes.all (scripted sp pol) (initState seed) (.single c as) = .ok (r, st') ∧ r.a = a' ∧ r.p = p ∧
      toRats (pol c (safeRow 0 as)).pmf = some qs ∧
      Coba.C05.choicew (Coba.C05.normInt seed) as.length (some qs) = .ok (Coba.C05.next (Coba.C05.normInt seed), i, q) ∧
      (safeRow 0 as)[i]? = some a' ∧ as[i]? = some a ∧ (a' = a ∨ pyEq a' a = true) ∧
      (pol c (safeRow 0 as)).pmf[i]? = some p ∧ p.num = some q ∧ 0 < q ∧
      st'.rng = Coba.C05.next (Coba.C05.normInt seed) := by
  set gs := safeRow 0 as with hgs
  have hprev : (initState seed).prev = Option.none := rfl
  have hgiven := prepare_given (initState seed) (.single c as) hprev
  simp only at hgiven
  have hinv : Inv sp false (prepare Fixes.all (initState seed) (.single c as)).1 :=
    inv_prepare Fixes.all sp false _ _ (Or.inl ⟨rfl, rfl⟩)
  have hstep := format_roundtrip_single' Fixes.all sp pol (prepare Fixes.all (initState seed) (.single c as)).1 c gs hinv (fun _ => hfirst)
  have hlen : gs.length = as.length := (safeRow_values 0 as).length_eq
  obtain ⟨qs, i, a', p, q, h1, h2, h3, h4, h5, h6, h7⟩ :=
    pmf_draw_c05 (Coba.C05.normInt seed) gs (pol c gs).pmf (mkPmf sp.pmfTup (pol c gs).pmf) (by simp [mkPmf]) hvalid
  obtain ⟨a, ha, hrel⟩ := forall₂_getElem? (safeRow_values 0 as) i a' h4
  have hrng : (prepare Fixes.all (initState seed) (.single c as)).1.rng = Coba.C05.normInt seed :=
    (prepare_frame Fixes.all (initState seed) (.single c as)).rng
  refine ⟨qs, i, a', a, p, q, ⟨a', p, if sp.kw then kwDict (pol c gs) else emptyKw⟩,
    stAfter sp false (prepare Fixes.all (initState seed) (.single c as)).1 (Coba.C05.next (Coba.C05.normInt seed)), ?_, rfl, rfl, h1, by rw [← hlen]; exact h2,
    h4, ha, hrel, h5, h6, h7, ?_⟩
  · rw [predict_prepare, hgiven, hstep, hrng]
    simp only [wantSingle, hk, h3, Except.map]
  · simp [stAfter]

/-! ### `learn`: the kwargs of `predict`, row by row, and its own call-style memo -/

/-- **kwargs_unchanged** (unbatched calls and learners that take batches): `learn` is called once with exactly the
kwargs object `predict` returned, next to the action, the probability and the reward. -/
theorem kwargs_unchanged (arg : Arg) (r : Result) (reward : PyVal) (ks : List String) (vs : List PyVal) (ref : Ref)
    (hk : r.kw = .dict ref ks vs) :
    (∀ c as, arg = .single c as → learn true arg r reward = .ok [⟨c, r.a, reward, r.p, ks, vs⟩] ∧
                                   learn false arg r reward = .ok [⟨c, r.a, reward, r.p, ks, vs⟩]) ∧
    (∀ cs rows, arg = .batch cs rows → learn true arg r reward = .ok [⟨.list .tmp cs, r.a, reward, r.p, ks, vs⟩]) := by
  constructor
  · intro c as h; subst h; simp [learn, hk, pure, Except.pure]
  · intro cs rows h; subst h; simp [learn, hk, pure, Except.pure]

/-- **kwargs_unchanged, per-row learners**: row j is given its context, action, reward, probability and the j-th entry
of every kwargs column (`format_roundtrip_batch`: that is the value the learner gave for row j under that key). -/
theorem kwargs_unchanged_per_row (ks : List String) (cols : List (List PyVal)) (ref : Ref) (cs A R P : List PyVal)
    (hc : ∀ c ∈ cols, cs.length ≤ c.length) (hA : A.length = cs.length) (hR : R.length = cs.length) (hP : P.length = cs.length) :
    ∃ calls, learnRows 0 cs A R P ks (cols.map (fun c => PyVal.list ref c)) = .ok calls ∧ calls.length = cs.length ∧
      ∀ (j : Nat) (call : LearnCall), calls[j]? = some call →
        call.kwKeys = ks ∧ call.kwVals = cols.map (fun c => c.getD (0 + j) .none) ∧
        cs[j]? = some call.ctx ∧ A[j]? = some call.action ∧ R[j]? = some call.reward ∧ P[j]? = some call.prob :=
  learnRows_cols ks _ cols (allItems_lists cols ref) 0 cs A R P (by simpa using hc) hA hR hP

/-- **kwargs are finite maps** (`sameKeys` only asks for the same key SET, in any order):
whatever order the rows list their keys in, what row j gets back - the j-th entry of every column under the first row's
keys - is, as a finite map, the kwargs the learner gave for row j. -/
theorem kwargs_row_map (sp : Spec) (R : Rows) (hk : sp.kw = true) (hs : sameKeys R = true) (j : Nat) (r : Answer × List PyVal)
    (hj : R[j]? = some r) :
    kwEquiv (wantKw sp R).1 ((wantKw sp R).2.map (fun c => c.getD j .none)) r.1.kwKeys r.1.kwVals := by
  cases R with
  | nil => simp at hj
  | cons r0 R' =>
    obtain ⟨a0, as0⟩ := r0
    obtain ⟨hlen, hsub, hsup⟩ := sameKeys_row hs (List.mem_of_getElem? hj)
    intro k
    simp only [wantKw, hk, ↓reduceIte, List.map_map]
    have hcol : ∀ k', ((fun c : List PyVal => c.getD j .none) ∘ fun k => ((a0, as0) :: R').map (fun r => (lookupKey k r.1.kwKeys r.1.kwVals).getD .none)) k'
        = (lookupKey k' r.1.kwKeys r.1.kwVals).getD .none := by
      intro k'
      simp only [Function.comp, List.getD_eq_getElem?_getD, List.getElem?_map, hj, Option.map_some, Option.getD_some]
    rw [show ((fun c : List PyVal => c.getD j .none) ∘ fun k => ((a0, as0) :: R').map (fun r => (lookupKey k r.1.kwKeys r.1.kwVals).getD .none))
          = fun k' => (lookupKey k' r.1.kwKeys r.1.kwVals).getD .none from funext hcol]
    rw [lookupKey_map]
    by_cases hin : k ∈ a0.kwKeys
    · obtain ⟨v, hv⟩ := lookupKey_isSome k r.1.kwKeys r.1.kwVals hlen (hsub k hin)
      simp [hin, hv]
    · have : k ∉ r.1.kwKeys := fun h => hin (hsup k h)
      simp [hin, lookupKey_none k _ _ this]

/-- **learn with its own call-style memo.**  `learnM` (the memo `_method['learn']` decided on the first learn and kept) delivers
exactly what `learn` (the memo-free model of `history_roundtrip`) delivers whenever the memo is one a uniformly used wrapper
can hold (`learnMemoOK`); for switched wrappers `learnM` is what the driver compares with the real code. -/
theorem learnM_uniform (batchable : Bool) (memo : Option Nat) (arg : Arg) (res : Result) (rw : PyVal)
    (h : learnMemoOK batchable memo arg = true) :
    (learnM batchable memo arg res rw).map Prod.fst = learn batchable arg res rw := by
  unfold learnM learn
  cases hk : res.kw <;> simp only [] <;> try rfl
  rename_i r ks vs
  -- which branch `learnM` takes under each memo a uniformly used wrapper can hold; per row the memo 2 is all it adds
  cases arg with
  | single c as =>
    rcases memo with _ | _ | _ | _ | n <;> first | rfl | (simp [learnMemoOK] at h)
  | batch cs rows =>
    cases batchable <;> (rcases memo with _ | _ | _ | _ | n) <;>
      first | (simp [learnMemoOK] at h; done) | rfl | simp only [Bool.false_eq_true, ↓reduceIte, map_bind_except, map_fst_ite]

example : learnMemoOK false (some 2) (.batch [.int 0] [[.int 5]]) = true := by decide

/-- the hypothesis of `learnM_uniform` is needed: after an unbatched first learn (memo 1) a batch goes straight to a learner that cannot batch -/
theorem learnM_switched_counterexample :
    (learnM false (some 1) (.batch [.int 0] [[.int 5]]) ⟨.list .tmp [.int 5], .list .tmp [.none], .dict .tmp [] []⟩ (.list .tmp [.int 1])).toOption.isNone = true ∧
    (learn false (.batch [.int 0] [[.int 5]]) ⟨.list .tmp [.int 5], .list .tmp [.none], .dict .tmp [] []⟩ (.list .tmp [.int 1])).toOption.isSome = true := by
  decide

/-! ### `score` and `has_score` -/

/-- **score_roundtrip.**  `SafeLearner.score(context, actions, action)`: unbatched the learner's score comes back as is;
for a batch a learner that takes batches is asked once and its sequence of per-row scores is accepted as is, a learner
that raises on batches is asked once per row (`zip(context, actions, action)`) and the scores come back in row order;
the memo `_method['score']` ends up 1 resp. 2 and keeps that value. -/
theorem score_roundtrip (fx : Fixes) (pol : Policy) (batchable tup : Bool) (m : Option Nat) (hm : ScoreInv batchable m) :
    (∀ c as x, m ≠ some 2 → score fx (some (scriptedScore pol batchable tup)) m (.single c as x) = .ok (scoreOf pol c as x, 1)) ∧
    (∀ cs rows acts, cs ≠ [] → rows.length = cs.length → acts.length = cs.length →
        (∀ c a x, (scoreOf pol c a x).isDict = false) →
        ∃ v, score fx (some (scriptedScore pol batchable tup)) m (.batch cs rows acts) = .ok (v, if batchable then 1 else 2) ∧
          v.items = some (scoresOf pol cs rows acts)) := by
  constructor
  · intro c as x hm2
    cases m with
    | none => simp [score, scriptedScore, bind, Except.bind, pure, Except.pure]
    | some k =>
      match k, hm2 with
      | 0, _ | 1, _ | (k + 3), _ => simp [score, scriptedScore, bind, Except.bind, pure, Except.pure]
      | 2, h => exact absurd rfl h
  · intro cs rows acts hne h1 h2 hnd
    obtain ⟨c, cs', rfl⟩ := List.exists_cons_of_ne_nil hne
    obtain ⟨a, rows', rfl⟩ := List.exists_cons_of_length_eq_add_one h1
    obtain ⟨x, acts', rfl⟩ := List.exists_cons_of_length_eq_add_one h2
    have hlen := scoresOf_length pol (c :: cs') (a :: rows') (x :: acts') h1 h2
    have hhead := scoresOf_head pol c cs' a rows' x acts'
    have hper := scorePerRow_scripted pol batchable tup (c :: cs') (a :: rows') (x :: acts')
    have hne' : (scoresOf pol (c :: cs') (a :: rows') (x :: acts')).isEmpty = false := rfl
    have hm2 : scoreMethod2 (scriptedScore pol batchable tup) (c :: cs') (a :: rows') (x :: acts') =
        .ok (.list .tmp (scoresOf pol (c :: cs') (a :: rows') (x :: acts'))) := by
      simp [scoreMethod2, hper, hne', bind, Except.bind, pure, Except.pure]
    cases batchable
    · -- the learner raises on a batch: per-row calls
      have hv := validOut_scores fx (.list .tmp (scoresOf pol (c :: cs') (a :: rows') (x :: acts'))) _ _ (c :: cs').length rfl hhead
        (hnd c a x) hlen.symm
      refine ⟨.list .tmp (scoresOf pol (c :: cs') (a :: rows') (x :: acts')), ?_, rfl⟩
      rcases hm with rfl | rfl
      · simp only [List.length_cons] at hv
        simp [score, scriptedScore, hm2, hv]
      · simp [score, hm2, bind, Except.bind, pure, Except.pure]
    · have hv := validOut_scores fx (mkSeq tup (scoresOf pol (c :: cs') (a :: rows') (x :: acts'))) _ _ (c :: cs').length (items_mkSeq _ _) hhead
        (hnd c a x) hlen.symm
      refine ⟨mkSeq tup (scoresOf pol (c :: cs') (a :: rows') (x :: acts')), ?_, items_mkSeq _ _⟩
      rcases hm with rfl | rfl
      · simp only [List.length_cons] at hv
        simp [score, scriptedScore, hv]
      · simp [score, scriptedScore, bind, Except.bind, pure, Except.pure]

/-- **has_score_iff.**  `SafeLearner.has_score` probes `learner.score(None,None,None)` and answers `"score" not in str(ex)`.
For a learner without a `score` attribute (CPython's AttributeError text, any class name), one that inherits
`Learner.score` (NotImplementedError text), or one that implements `score`: has_score is true exactly for the implementing
ones - PROVIDED the exception an implemented score raises on the probe does not mention "score" in its text. -/
theorem has_score_iff (k : ScoreKind)
    (hclean : ∀ f, k = .implemented (.raises f) → strContains f.msg "score" = false) :
    hasScore (probeOf k) = true ↔ ∃ p, k = .implemented p := by
  cases k with
  | absent cls => simp [hasScore_absent]
  | base => simp [hasScore_base]
  | implemented p =>
    cases p with
    | returns => simp [probeOf, hasScore]
    | raises f => simp [probeOf, hasScore, hclean f rfl]

example : ∀ f, ScoreKind.implemented (.raises ⟨false, "'NoneType' object is not iterable"⟩) = .implemented (.raises f) →
    strContains f.msg "score" = false := by
  intro f h; cases h
  rw [strContains_lit rfl rfl]
  decide

/-- the condition of `has_score_iff` is necessary: an implemented score whose probe call fails inside with a text mentioning "score" is
reported as absent -/
theorem has_score_counterexample :
    hasScore (probeOf (.implemented (.raises ⟨true, "'NoneType' object has no attribute 'score_table'"⟩))) = false := by
  have h : strContains "'NoneType' object has no attribute 'score_table'" "score" = true :=
    strContains_split (a := "'NoneType' object has no attribute '") (b := "_table'") (by simp)
  simp [probeOf, hasScore, h]

/-- **has_score, its wrong verdicts characterised.**  For a learner that implements `score` the verdict is wrong (reported absent)
exactly when the probe call `score(None,None,None)` raises with a text that contains the substring "score" (any exception
class); a learner without `score` or with the base class's is never reported as having one. -/
theorem has_score_wrong_iff (p : ScoreProbe) :
    hasScore (probeOf (.implemented p)) = false ↔ ∃ f, p = .raises f ∧ strContains f.msg "score" = true := by
  cases p <;> simp [probeOf, hasScore]

theorem has_score_never_for_missing (k : ScoreKind) (h : ∀ p, k ≠ .implemented p) : hasScore (probeOf k) = false := by
  cases k with
  | absent cls => exact hasScore_absent cls
  | base => exact hasScore_base
  | implemented p => exact absurd rfl (h p)

example : ∀ p, ScoreKind.absent "Model" ≠ .implemented p := by intro p h; cases h

/-- `has_score` is a substring test: ValueError("bad underscore in name") makes an implemented score "absent", "Scoreboard" does not
(replayed on the real code: corpus / generated `score_kind` cases, (A) `A:has_score`) -/
theorem has_score_substring_counterexample :
    hasScore (probeOf (.implemented (.raises ⟨false, "bad underscore in name"⟩))) = false ∧
    hasScore (probeOf (.implemented (.raises ⟨false, "Scoreboard is missing"⟩))) = true := by
  have h1 : strContains "bad underscore in name" "score" = true :=
    strContains_split (a := "bad under") (b := " in name") (by simp)
  have h2 : strContains "Scoreboard is missing" "score" = false := by
    rw [strContains_lit rfl rfl]
    decide
  simp [probeOf, hasScore, h1, h2]

/-- the error paths of `SafeLearner.score` depend on the exception text as `has_score` does: an AttributeError raised inside an
implemented score whose text contains `'score'` (quotes included) becomes CobaException "not implemented"; other
AttributeErrors and other exceptions pass through unchanged -/
theorem score_error_paths :
    scoreRaises ⟨true, "'Model' object has no attribute 'score'"⟩ = .coba ∧
    scoreRaises ⟨true, "'NoneType' object has no attribute 'score_table'"⟩ = .attr ∧
    scoreRaises ⟨false, "'score' went wrong"⟩ = .learner := by
  have h1 : strContains "'Model' object has no attribute 'score'" "'score'" = true :=
    strContains_split (a := "'Model' object has no attribute ") (b := "") (by simp)
  have h2 : strContains "'NoneType' object has no attribute 'score_table'" "'score'" = false := by
    rw [strContains_lit rfl rfl]
    decide
  simp [scoreRaises, h1, h2]

/-! ### format, kwargs and score in one statement -/

/-- **one statement per format**.  For every format × ±kwargs × layout (row, col, single = per-row fallback), every
policy and batch: (1) `format_roundtrip_batch`; (2) `kwargs_row_map`, the rows may give their keys in ANY order; (3)
`score_roundtrip` on the same wrapper and batch, natively for a learner that takes batches and by one call per row otherwise -
whatever the prediction format is. -/
theorem format_roundtrip_full (fx : Fixes) (sp : Spec) (pol : Policy) (st : State) (cs : List PyVal) (rows : List (List PyVal))
    (tup : Bool) (m : Option Nat)
    (hinv : Inv sp true st) (hlen : cs.length = rows.length) (hne : rows ≠ [])
    (hU : Unambiguous fx sp st (rowsOf pol cs rows) = true) (hm : ScoreInv (sp.layout != .single) m) :
    Delivers (predictCore fx (scripted sp pol) st (.batch cs rows)) (wantBatch sp st.rng (rowsOf pol cs rows)) (stAfter sp true st) ∧
    (sp.kw = true → sameKeys (rowsOf pol cs rows) = true → ∀ j r, (rowsOf pol cs rows)[j]? = some r →
      kwEquiv (wantKw sp (rowsOf pol cs rows)).1 ((wantKw sp (rowsOf pol cs rows)).2.map (fun c => c.getD j .none)) r.1.kwKeys r.1.kwVals) ∧
    (∀ acts, cs ≠ [] → acts.length = cs.length → (∀ c a x, (scoreOf pol c a x).isDict = false) →
      ∃ v, score fx (some (scriptedScore pol (sp.layout != .single) tup)) m (.batch cs rows acts) =
          .ok (v, if (sp.layout != .single) then 1 else 2) ∧ v.items = some (scoresOf pol cs rows acts)) :=
  ⟨format_roundtrip_batch fx sp pol st cs rows hinv hlen hne hU,
   fun hk hs j r hj => kwargs_row_map sp (rowsOf pol cs rows) hk hs j r hj,
   fun acts hcs ha hd => (score_roundtrip fx pol (sp.layout != .single) tup m hm).2 cs rows acts hcs hlen.symm ha hd⟩

/-! ### whole histories -/

/-- the memoised detection is an invariant of the evaluation: it holds initially, the float-copy step keeps it, every
answered call re-establishes it (so the per-call theorems chain over any history of calls) -/
theorem inv_preserved (fx : Fixes) (sp : Spec) (b : Bool) (st : State) (arg : Arg) (s : Nat) :
    Inv sp b (initState 1) ∧ (Inv sp b st → Inv sp b (prepare fx st arg).1) ∧ Inv sp b (stAfter sp b st s) :=
  ⟨Or.inl ⟨rfl, rfl⟩, inv_prepare fx sp b st arg, inv_stAfter sp b st s⟩

/-- **history_roundtrip.**  For ANY sequence of interactions (all unbatched, or all batched) of a learner that answers
consistently in one documented format, evaluated as SequentialCB does (`predict`, then `learn` with what predict
returned): interaction by interaction the parsed (action, prob, kwargs) is the intended one - on the actions the learner is
given, generator state and memoised layout/format threaded through - and every `learn` receives the action, probability,
reward and the kwargs of its own predict (one call with a column per key, or per row that row's finite map); whether
the learner's `learn` takes batches (`batchable`) is independent of what its `predict` does with them. -/
theorem history_roundtrip (fx : Fixes) (sp : Spec) (pol : Policy) (batched batchable : Bool) (h : List (Arg × PyVal)) (st : State)
    (hinv : Inv sp batched st) (hok : histOK fx sp pol batched st h = true) :
    HistDelivers fx sp pol batchable st h (runHistory fx (scripted sp pol) batchable st h) := by
  induction h generalizing st with
  | nil => simp [HistDelivers, runHistory, pure, Except.pure]
  | cons x h ih =>
    obtain ⟨a, rw⟩ := x
    have hinv1 := inv_prepare fx sp batched st a hinv
    obtain ⟨hsh1, hsh2⟩ := prepare_shape fx st a
    simp only [histOK, Bool.and_eq_true] at hok
    obtain ⟨hstep, hrest⟩ := hok
    have hnext : ∀ s', HistDelivers fx sp pol batchable (stAfter sp batched (prepare fx st a).1 s') h
        (runHistory fx (scripted sp pol) batchable (stAfter sp batched (prepare fx st a).1 s') h) :=
      fun s' => ih _ (inv_stAfter sp batched (prepare fx st a).1 s')
        (by rw [histOK_congr fx sp pol batched h _ _ (stEq_after sp batched _ s')]; exact hrest)
    simp only [HistDelivers, runHistory, predict_prepare fx (scripted sp pol) st a, bind, Except.bind]
    cases hsarg : (prepare fx st a).2 with
    | single c gs =>
      obtain ⟨as, rfl⟩ := hsh1 c gs hsarg
      simp only [hsarg, Bool.and_eq_true, Bool.not_eq_true', Bool.or_eq_true] at hstep
      obtain ⟨hb, hfirst⟩ := hstep
      subst hb
      have hstepthm := format_roundtrip_single' fx sp pol (prepare fx st (.single c as)).1 c gs hinv1
        (by intro hl; rcases hfirst with h' | h'
            · rw [hl] at h'; simp at h'
            · exact h')
      simp only [hstepthm]
      cases hw : wantSingle sp (prepare fx st (.single c as)).1.rng (pol c gs) gs with
      | error e => simp [Except.map]
      | ok t =>
        obtain ⟨r, s'⟩ := t
        have hkw := wantSingle_kw sp _ _ _ _ _ hw
        refine ⟨_, hnext s', ?_⟩
        cases hk : sp.kw <;> simp [Except.map, learn, hkw, hk, kwDict, emptyKw, pure, Except.pure]
    | batch cs grows =>
      obtain ⟨rows, rfl⟩ := hsh2 cs grows hsarg
      simp only [hsarg, Bool.and_eq_true, beq_iff_eq, Bool.not_eq_true'] at hstep
      obtain ⟨⟨⟨⟨hb, hlen⟩, hne⟩, hrw⟩, hU⟩ := hstep
      subst hb
      have hne' : grows ≠ [] := by intro h0; simp [h0] at hne
      have hstepthm := format_roundtrip_batch fx sp pol (prepare fx st (.batch cs rows)).1 cs grows hinv1 hlen hne' hU
      cases hw : wantBatch sp (prepare fx st (.batch cs rows)).1.rng (rowsOf pol cs grows) with
      | error e =>
        simp only [Delivers, hw] at hstepthm
        simp only [hstepthm, hw]
      | ok t =>
        obtain ⟨v, s'⟩ := t
        simp only [Delivers, hw] at hstepthm
        simp only [hw]
        obtain ⟨r, hr, hv⟩ := hstepthm
        obtain ⟨Rw, hRw, hRl⟩ : ∃ Rw, rw.items = some Rw ∧ Rw.length = cs.length := by
          cases hi : rw.items with
          | none => simp [hi] at hrw
          | some Rw => exact ⟨Rw, rfl, by simpa [hi] using hrw⟩
        have hRlen : (rowsOf pol cs grows).length = cs.length := by
          rw [rowsOf, zipWithAns_length pol cs grows hlen, hlen]
        obtain ⟨l1, l2, l3⟩ := wantBatch_lengths sp _ _ v s' hw
        have hcsne : cs ≠ [] := by intro h0; rw [h0] at hlen; exact hne' (List.length_eq_zero_iff.mp hlen.symm)
        obtain ⟨lc, hlc, hmeets⟩ := learn_meets batchable cs rows rw r v Rw hv hRw hRl hcsne
          (by rw [l1, hRlen]) (by rw [l2, hRlen]) (by intro c hc; rw [l3 c hc, hRlen])
        refine ⟨r, lc, _, hv, hmeets, hnext s', ?_⟩
        simp only [hr, hlc]
        cases runHistory fx (scripted sp pol) batchable (stAfter sp true (prepare fx st (.batch cs rows)).1 s') h <;>
          simp [Except.map, pure, Except.pure]

/-- the hypotheses of `history_roundtrip` are satisfiable: two row-major (action, prob) batches with kwargs -/
example : histOK Fixes.all { fmt := .AP, kw := true, layout := .row } (exPol (fun i => i) (fun _ => 0) 2) true (initState 1)
    [(.batch (ctxs 2) [[.int 0, .int 1], [.int 0, .int 1]], .list .tmp [.int 1, .int 2]),
     (.batch (ctxs 2) [[.int 0, .int 1], [.int 0, .int 1]], .list .tmp [.int 1, .int 2])] = true := by decide

/- mixed_history_roundtrip does NOT hold: the layout / call style memoised on a wrapper's first call is kept when the
   wrapper is later handed the other kind of call.  What the code does is in the model (`parse`, `safeCall`) and is compared
   with the real code on generated mixed histories; the four witnesses record exactly where it breaks:
   theorem mixed_history_roundtrip : HistDelivers … (for histories mixing `.single` and `.batch`)   -- false -/

/-- (1) unbatched call, then a row-major batch of bare actions: the whole answer list comes back as ONE action, silently -/
theorem mixed_unbatched_then_batch_counterexample :
    obsRun (run Fixes.all (scripted { fmt := .A, kw := false, layout := .row } (exPol (fun i => i) (fun _ => 0) 2)) (initState 1)
      [.single (.int 0) mixActs, .batch (ctxs 2) [mixActs, mixActs]]) = .ok [(true, 2, false), (false, 2, false)] := by decide

/-- (2) unbatched call, then a row-major batch of (action, prob) rows: the first ROW is returned as the action and the second ROW as
its probability -/
theorem mixed_unbatched_then_batch_AP_counterexample :
    obsRun (run Fixes.all (scripted { fmt := .AP, kw := false, layout := .row } (exPol (fun i => i) (fun _ => 0) 2)) (initState 1)
      [.single (.int 0) mixActs, .batch (ctxs 2) [mixActs, mixActs]]) = .ok [(true, 2, false), (false, 2, true)] := by decide

/-- (3) unbatched call, then a batch, on a learner that cannot batch: it is handed the batch directly (memo 1: no per-row fallback
any more) -/
theorem mixed_no_fallback_counterexample :
    errOf (run Fixes.all (scripted { fmt := .AP, kw := false, layout := .single } (exPol (fun i => i) (fun _ => 0) 2)) (initState 1)
      [.single (.int 0) mixActs, .batch (ctxs 2) [mixActs, mixActs]]) = some .learner := by decide

/-- (4) batched call first, then an unbatched one: the single answer is parsed as a row-major batch -/
theorem mixed_batch_then_unbatched_counterexample :
    obsRun (run Fixes.all (scripted { fmt := .A, kw := false, layout := .row } (exPol (fun i => i) (fun _ => 0) 2)) (initState 1)
      [.batch (ctxs 2) [mixActs, mixActs], .single (.int 1) mixActs]) = .ok [(false, 2, true), (true, 2, true)] ∧
    errOf (run Fixes.all (scripted { fmt := .AP, kw := false, layout := .row } (exPol (fun i => i) (fun _ => 0) 2)) (initState 1)
      [.batch (ctxs 2) [mixActs, mixActs], .single (.int 1) mixActs]) = some .type := by decide

/-- **decided once.**  A successful call on a wrapper whose layout / kwargs flag / format are decided - batched or not,
whatever the learner answers - leaves them as they are. -/
theorem predict_keeps_decided (fx : Fixes) (L : Learner) (st : State) (arg : Arg) (d : Decided) (r : Result) (st' : State)
    (hd : st.decidedAs d) (h : predict fx L st arg = .ok (r, st')) : st'.decidedAs d := by
  obtain ⟨hl, hk, hf⟩ := hd
  have hp := prepare_frame fx st arg
  unfold predict at h
  exact predictCore_keeps_decided fx L _ _ d r st' ⟨hp.layout.trans hl, hp.hasKw.trans hk, hp.fmt.trans hf⟩ h

/-- from a decided wrapper on, `run` = `runFrozen` for every list of calls -/
theorem run_frozen (fx : Fixes) (L : Learner) (d : Decided) (args : List Arg) (st : State) (hd : st.decidedAs d) :
    run fx L st args = runFrozen fx L d st args := by
  induction args generalizing st with
  | nil => rfl
  | cons a as ih =>
    have hst : { st with layout := some d.lay, hasKw := d.kw, fmt := some d.f } = st := by
      obtain ⟨h1, h2, h3⟩ := hd
      cases st; simp_all
    unfold run runFrozen
    rw [hst]
    simp only [bind, Except.bind]
    cases hp : predict fx L st a with
    | error e => rfl
    | ok v =>
      obtain ⟨r, st'⟩ := v
      simp only
      rw [ih st' (predict_keeps_decided fx L st a d r st' hd hp)]

example : (initState 1).decidedAs ⟨.row, false, ⟨.AX, false⟩⟩ → False := by
  intro h; exact absurd h.1 (by decide)

example : ({ (initState 1) with layout := some .row, fmt := some ⟨.AX, false⟩ } : State).decidedAs ⟨.row, false, ⟨.AX, false⟩⟩ :=
  ⟨rfl, rfl, rfl⟩

/-- **whole histories, any mix of batched and unbatched calls, any learner.**  If the first call succeeds it decides a format
`d` (layout, kwargs flag, prediction format), and the whole rest of the history is what `runFrozen` returns: every later call
is made on a wrapper that has exactly `d` decided; only the generator state, the call-style memo and the action cache are
threaded.  (That the decided format is then the right one for a switched wrapper is false: `mixed_*_counterexample`.) -/
theorem history_format_decided_once (fx : Fixes) (L : Learner) (st : State) (a : Arg) (as : List Arg) (r : Result) (st' : State)
    (h : predict fx L st a = .ok (r, st')) :
    ∃ d, st'.decidedAs d ∧ run fx L st (a :: as) = (runFrozen fx L d st' as).map (fun rs => r :: rs) := by
  obtain ⟨d, hd⟩ := predict_decides fx L st a r st' h
  refine ⟨d, hd, ?_⟩
  unfold run
  simp only [bind, Except.bind, h]
  rw [run_frozen fx L d as st' hd]
  cases runFrozen fx L d st' as <;> rfl

/-- **parsed as on a fresh wrapper.**  On a decided wrapper the call on the argument the learner is given equals the same call
on a wrapper that knows nothing but the decided format, the generator state and the call-style memo (`State.core`: no
action cache, nothing else of the history); the cache is carried along unchanged. -/
theorem predictCore_frame (fx : Fixes) (L : Learner) (st : State) (sarg : Arg) (hl : st.layout.isSome = true) :
    predictCore fx L st sarg = (predictCore fx L st.core sarg).map (fun p => (p.1, p.2.withCache st)) := by
  have hm : st.core.method = st.method := rfl
  unfold predictCore
  simp only [bind, Except.bind]
  rw [hm]
  cases safeCall fx L st.method sarg with
  | error e => rfl
  | ok v =>
    obtain ⟨pred, m⟩ := v
    simp only
    rw [detect_decided fx L { st with method := some m } sarg pred m hl,
      detect_decided fx L { st.core with method := some m } sarg pred m hl]
    simp only
    rw [parse_frame fx { st with method := some m }]
    rfl

/-- **the splittings the driver executes.**  `run` equals `runSplit` (first call, then `runFrozen` with what that call decided) and
`runCore` (every call on a decided wrapper made on `State.core`) - for every learner, state and list of calls.  The harness
compares the three on every generated history ((C)) and `run` with the real SafeLearner ((A)). -/
theorem run_eq_runSplit (fx : Fixes) (L : Learner) (st : State) (args : List Arg) : run fx L st args = runSplit fx L st args := by
  cases args with
  | nil => rfl
  | cons a as =>
    cases hp : predict fx L st a with
    | error e => simp [run, runSplit, hp, bind, Except.bind]
    | ok v =>
      obtain ⟨r, st'⟩ := v
      obtain ⟨d, hd, hrun⟩ := history_format_decided_once fx L st a as r st' hp
      rw [hrun]
      simp [runSplit, bind, Except.bind, hp, decided?_of st' d hd]

theorem run_eq_runCore (fx : Fixes) (L : Learner) (args : List Arg) (st : State) : run fx L st args = runCore fx L st args := by
  induction args generalizing st with
  | nil => rfl
  | cons a as ih =>
    unfold run runCore predict
    simp only
    by_cases hl : (prepare fx st a).1.layout.isSome = true
    · rw [if_pos hl, ← predictCore_frame fx L _ _ hl]
      simp only [bind, Except.bind]
      cases predictCore fx L (prepare fx st a).1 (prepare fx st a).2 with
      | error e => rfl
      | ok v => obtain ⟨r, st'⟩ := v; simp only [ih st']
    · rw [if_neg hl]
      simp only [bind, Except.bind]
      cases predictCore fx L (prepare fx st a).1 (prepare fx st a).2 with
      | error e => rfl
      | ok v => obtain ⟨r, st'⟩ := v; simp only [ih st']

/-- **wrappers_frame.**  `SafeLearner(SafeLearner(learner), seed)` is a wrapper of its own (`rewrap`: own generator from its
own seed, empty call-style memo, nothing detected).  In ANY interleaving of calls on the two wrappers of one learner, what
each wrapper returns is exactly what it returns on its own calls alone from its own state: draws are a function of the
wrapper's own seed and own call history, format understanding is independent of the other wrapper. -/
theorem wrappers_frame (fx : Fixes) (L : Learner) (inner : State) (seed : Int) (h : List (Bool × Arg)) (w : Bool) :
    ((runTwo fx L inner (rewrap inner seed) h).filter (fun x => x.1 == w)).map (·.2) =
      runOne fx L (if w then initState seed else inner) ((h.filter (fun x => x.1 == w)).map (·.2)) :=
  runTwo_filter fx L h inner (rewrap inner seed) w

/-! ### Python's `==` on the value domain: nested scalars, nan objects -/

/-- on scalars (None, bool, int, float as exact rational, str) Python's `==` is reflexive, symmetric and transitive
(1 == 1.0 == True are one class).  A nan token `mkNan r` is a scalar of the model too and `pyEq` is reflexive on it, which
Python's `nan == nan` is not: what Python compares with `is or ==` goes through `itemEq` (`nan_encoding_faithful`). -/
theorem pyEq_scalar_equiv (x y z : PyVal) (hx : isScalar x = true) (hy : isScalar y = true) (hz : isScalar z = true) :
    pyEq x x = true ∧ (pyEq x y = pyEq y x) ∧ (pyEq x y = true → pyEq y z = true → pyEq x z = true) :=
  ⟨pyEq_refl_seq x (seqVal_of_isScalar hx), pyEq_symm_seq x y (seqVal_of_isScalar hx) (seqVal_of_isScalar hy),
   pyEq_trans_seq x y z (seqVal_of_isScalar hx) (seqVal_of_isScalar hy) (seqVal_of_isScalar hz)⟩

/-- **nested values.**  On scalars nested in tuples and lists to any depth (`seqVal`: no dict inside) Python's `==` is reflexive,
symmetric and transitive (a tuple never equals a list; 1 == 1.0 == True at every position). -/
theorem pyEq_seq_equiv (x y z : PyVal) (hx : seqVal x = true) (hy : seqVal y = true) (hz : seqVal z = true) :
    pyEq x x = true ∧ (pyEq x y = pyEq y x) ∧ (pyEq x y = true → pyEq y z = true → pyEq x z = true) :=
  ⟨pyEq_refl_seq x hx, pyEq_symm_seq x y hx hy, pyEq_trans_seq x y z hx hy hz⟩

example : seqVal (.tuple (.ext 1) [.int 1, .list (.ext 2) [.flt (.ext 3) (1/2), .str (.ext 4) "a"], .tuple (.ext 5) []]) = true := by decide

/-- the hypothesis of `pyEq_seq_equiv` (no dict inside) is about the model's value domain: a dict value with a repeated key (no Python dict has one) breaks symmetry.
   theorem pyEq_equiv_full: the same for dicts with duplicate-free keys and as many values as keys - open (not proved). -/
theorem pyEq_dict_dupkeys_counterexample :
    pyEq (.dict .tmp ["a", "a"] [.int 1, .int 1]) (.dict .tmp ["a", "b"] [.int 1, .int 2]) = true ∧
    pyEq (.dict .tmp ["a", "b"] [.int 1, .int 2]) (.dict .tmp ["a", "a"] [.int 1, .int 1]) = false := by
  decide

/-- **nan_encoding_faithful.**  `float('nan')` objects live in the model as the tokens `mkNan r` (`NVal.enc`).  Python compares
container items (`list.__eq__` in `_prev_actions != actions`, `item in actions`) with `x is y or x == y`, where `nan == y` is
False for every y (`richEq`): on the tokens the model's `pyIs || pyEq` computes exactly that, for every pair of values whose
numbers lie outside the token range and are other objects than the nan objects (`encOK`, what the encoder guarantees). -/
theorem nan_encoding_faithful (x y : NVal) (h : encOK x y = true) : richEq x y = itemEq x.enc y.enc := by
  cases x with
  | nan r =>
    cases y with
    | nan r' => by_cases e : r = r' <;> simp [richEq, itemEq, NVal.enc, pyEq_mkNan, pyIs_mkNan, e]
    | val v =>
      simp only [encOK, Bool.and_eq_true] at h
      simp [richEq, itemEq, NVal.enc, (pyEq_mkNan_val r v h.1).1, (pyIs_mkNan_val r v h.2).1]
  | val v =>
    cases y with
    | nan r =>
      simp only [encOK, Bool.and_eq_true] at h
      simp [richEq, itemEq, NVal.enc, (pyEq_mkNan_val r v h.1).2, (pyIs_mkNan_val r v h.2).2]
    | val w => simp [richEq, itemEq, NVal.enc]

example : encOK (.nan (.ext 1)) (.val (.flt (.ext 2) (5/2))) = true ∧ encOK (.nan (.ext 1)) (.nan (.ext 1)) = true := by
  decide +kernel

/-- the hypothesis of `nan_encoding_faithful` is needed: a number inside the token range would equal the nan object with that code (replayed: the encoder
refuses floats below -2^40, tag `unencodable`) -/
theorem nan_encoding_counterexample :
    richEq (.nan (.ext 1)) (.val (.flt (.ext 2) (nanVal 4))) = false ∧
    itemEq (NVal.enc (.nan (.ext 1))) (NVal.enc (.val (.flt (.ext 2) (nanVal 4)))) = true := by
  decide +kernel

/-- two nan objects are equal in the model iff they are one object; reading a token back gives the nan object -/
theorem nan_identity (r r' : Ref) :
    pyEq (mkNan r) (mkNan r') = decide (r = r') ∧ pyIs (mkNan r) (mkNan r') = decide (r = r') ∧ NVal.ofPy (mkNan r) = .nan r :=
  ⟨pyEq_mkNan r r', pyIs_mkNan r r', ofPy_mkNan r⟩

/-- `item in actions` (`possible_action`) with real nans = the model's `possibleAction` on the tokens -/
theorem possibleAction_faithful (x : NVal) (ys : List NVal) (h : ∀ y ∈ ys, encOK x y = true) :
    possibleAction x.enc (ys.map NVal.enc) = (ys.any (richEq x) || ys.isEmpty) := by
  unfold possibleAction
  congr 1
  · induction ys with
    | nil => rfl
    | cons y ys ih =>
      simp only [List.map_cons, List.any_cons]
      rw [ih (fun b hb => h b (by simp [hb])), nan_encoding_faithful x y (h y (by simp))]
      rfl
  · cases ys <;> rfl

/-- `_prev_actions != actions` with real nans = the model's `pyEqList` on the tokens (for objects that, when not nan, equal
themselves): the cache is hit with ONE shared nan object and missed with a fresh nan object per call -/
theorem cache_test_faithful (xs ys : List NVal)
    (h : ∀ x ∈ xs, ∀ y ∈ ys, encOK x y = true ∧ (pyIs x.enc y.enc = true → pyEq x.enc y.enc = true)) :
    richEqList xs ys = pyEqList (xs.map NVal.enc) (ys.map NVal.enc) := by
  induction xs generalizing ys with
  | nil => cases ys <;> simp [richEqList, pyEqList]
  | cons x xs ih =>
    cases ys with
    | nil => simp [richEqList, pyEqList]
    | cons y ys =>
      have hxy := h x (by simp) y (by simp)
      have ih' := ih ys (fun a ha b hb => h a (by simp [ha]) b (by simp [hb]))
      simp only [richEqList, List.map_cons, pyEqList, ih', nan_encoding_faithful x y hxy.1, itemEq]
      congr 1
      cases hi : pyIs x.enc y.enc
      · simp
      · simp [hxy.2 hi]

example : richEqList [.nan (.ext 1), .val (.int 0)] [.nan (.ext 1), .val (.int 0)] = true ∧
    richEqList [.nan (.ext 1), .val (.int 0)] [.nan (.ext 2), .val (.int 0)] = false := by decide

/-- a nan is not 0/1 (no float copy: the offered object itself is handed on), has no length, is no dict, is no PMF -/
theorem nan_passes_untouched (r : Ref) (k : Nat) (as : List PyVal) :
    isZeroOne (mkNan r) = false ∧ makeSafe k (mkNan r) = mkNan r ∧ (mkNan r).hasLen = false ∧ (mkNan r).isDict = false ∧
    possiblePmf (mkNan r) as = false := by
  have h := nanVal_lt r.code
  have hb := nanBound_neg
  have h0 : ¬ nanVal r.code = 0 := by intro e; rw [e] at h; linarith
  have h1 : ¬ nanVal r.code = 1 := by intro e; rw [e] at h; linarith
  simp [mkNan, isZeroOne, PyVal.num, makeSafe, PyVal.hasLen, PyVal.isDict, possiblePmf, PyVal.items, h0, h1]

/-! ### translator obligations: the model is written with the constants and the decision tree of the current source -/

/-- **translator obligation.**  The constants `harness/props/c15.py` reads from the CURRENT coba/safety.py on every run
(`Generated/C15Consts.lean`: both `is_hint` key lists, `possible_pmf`'s total and tolerance, the probe strings of `has_score` and
`score`, `make_safe`'s list) are the ones the model is written with. -/
theorem source_constants_match :
    Generated.C15.hintSites ≠ [] ∧ Generated.C15.hintSites.all (fun s => s == ["action", "action_prob", "pmf"]) = true ∧
    Generated.C15.pmfTotal = 1 ∧ Generated.C15.absTolNum = 1 ∧ Generated.C15.absTolDen = 1000 ∧
    Generated.C15.hasScoreNeedle = "score" ∧ Generated.C15.scoreNeedle = "'score'" ∧ Generated.C15.zeroOne = [0, 1] := by
  decide

/-- the model's `isHint` / `hasScore` / `scoreRaises` are the source's expressions over the constants of `source_constants_match` -/
theorem isHint_generated (r : Ref) (ks : List String) (vs : List PyVal) :
    ∀ site ∈ Generated.C15.hintSites, isHint (.dict r ks vs) = site.any (fun k => ks.contains k) := by
  intro site hs
  simp only [Generated.C15.hintSites, List.mem_cons, List.mem_nil_iff, or_false, or_self] at hs
  subst hs
  simp [isHint, List.any, Bool.or_assoc]

theorem hasScore_generated (f : ScoreFailure) : hasScore (.raises f) = !strContains f.msg Generated.C15.hasScoreNeedle := rfl

theorem scoreRaises_generated (f : ScoreFailure) :
    scoreRaises f = if f.attr && strContains f.msg Generated.C15.scoreNeedle then .coba else if f.attr then .attr else .learner := rfl

/-- **translator obligation, as a rewriting lemma.**  The model's `possiblePmf` IS the source expression
`len(item) == len(actions) and isclose(sum(item), T, abs_tol=n/d) and all(i >= 0 for i in item)` over the constants the
translator reads from the CURRENT coba/safety.py (`Generated/C15Consts.lean`); an edited tolerance or total breaks this proof. -/
theorem possiblePmf_generated (item : PyVal) (actions : List PyVal) :
    possiblePmf item actions =
      (match item.items with
       | some xs =>
         xs.length == actions.length &&
           (match sumNums xs with
            | some s =>
              decide (s - (Generated.C15.pmfTotal : Rat) ≤ (Generated.C15.absTolNum : Rat) / (Generated.C15.absTolDen : Rat) ∧
                      (Generated.C15.pmfTotal : Rat) - s ≤ (Generated.C15.absTolNum : Rat) / (Generated.C15.absTolDen : Rat)) &&
                xs.all (fun x => match x.num with | some q => decide (0 ≤ q) | Option.none => false)
            | Option.none => false)
       | Option.none => false) := by
  unfold possiblePmf
  rcases item.items with _ | xs
  · rfl
  · rcases sumNums xs with _ | s
    · rfl
    · simp only [pmfTotal_cast, absTol_cast]
      congr!

/-- the tolerance is sharp: a one-entry PMF `[1 + e]` is a possible PMF exactly for `|e| ≤ n/d` (and `1 + e ≥ 0`) -/
theorem possiblePmf_tolerance (r r' : Ref) (a : PyVal) (e : Rat) :
    possiblePmf (.list r [.flt r' (1 + e)]) [a] =
      decide (e ≤ (Generated.C15.absTolNum : Rat) / (Generated.C15.absTolDen : Rat) ∧
              -e ≤ (Generated.C15.absTolNum : Rat) / (Generated.C15.absTolDen : Rat) ∧ 0 ≤ 1 + e) := by
  rw [possiblePmf_generated, pmfTotal_cast, absTol_cast]
  simp only [PyVal.items, sumNums, PyVal.num, List.length_cons, List.length_nil, List.all_cons, List.all_nil]
  have h1 : (1 + e + 0 - 1 : Rat) = e := by ring
  have h2 : (1 - (1 + e + 0) : Rat) = -e := by ring
  rw [h1, h2]
  simp only [beq_self_eq_true, Bool.true_and, Bool.and_true, Bool.decide_and, Bool.and_assoc]

/-- **translator obligation: `pred_format`'s decision tree.**  `Generated.C15.predFormatTree` is the body of
`SafeLearner.pred_format` as the translator reads it (ast) from the CURRENT coba/safety.py on every run: its `if` chain with every
test mapped to a `PFAtom` by its source text, `return '<fmt>'`, `raise`, `std_pred = [std_pred]`, local bindings.  Running that
tree (`pfRun`, the interpreter the driver executes) gives, for EVERY answer and action list, exactly what the model's `predFormat`
gives for the repaired code - results and exceptions.  A reordered, dropped or edited branch of the source breaks this proof. -/
theorem pred_format_table (sp : PyVal) (actions : Option (List PyVal)) :
    pfRun Generated.C15.predFormatTree sp actions = predFormat Fixes.all sp actions := by
  rw [predFormat_parts]
  unfold pfRun Generated.C15.predFormatTree
  generalize actions.getD [] = acts
  rw [pfExecL, pfExec_hinted]
  cases hintedFormat sp acts with
  | some r => rfl
  | none =>
    simp only
    rw [pfExecL, pfExec_wrap]
    cases h2 : twoItem Fixes.all sp acts with
    | error e => rfl
    | ok two =>
      simp only [pfExecL_tail]
      cases two
      · rfl
      · -- taken for (action, prob): a two-item answer, left unwrapped
        simp only [Bool.not_true, Bool.false_eq_true, ↓reduceIte, twoItem_true h2, beq_self_eq_true]
        rfl

end Coba.C15
