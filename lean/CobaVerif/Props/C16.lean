/-
C16 — Built-in learners always return a valid, self-consistent distribution.

Reading of the statement.  A learner is offered a duplicate-free, non-empty list of actions
(actions = their `==`-classes).  The theorems about the exact model hold for EVERY float-rounding function `fl` (the running means are
computed through it) and EVERY UCB index `val` (mean + exploration bonus), so no property of floating point, `log` or `sqrt` is
assumed there; those about the float-faithful definitions (`Kind.pmfF`, `omdF`, `Corral.learnF`, …) say which float law they assume
(`FlRel`, `SumRel`).
-/
import CobaVerif.Lemmas.C16
import CobaVerif.Lemmas.C16Real
import CobaVerif.Lemmas.C16Gen
import CobaVerif.Lemmas.C16Safe
import CobaVerif.Lemmas.C16Float
import CobaVerif.Generated.C16CorralConsts
import CobaVerif.Generated.C16BanditConsts
import CobaVerif.Generated.C16Exprs
import Mathlib.Analysis.SpecialFunctions.Log.Basic
import Mathlib.Analysis.SpecialFunctions.Sqrt

namespace Coba.C16
open Coba.C05 (next)

/-! ## the plain learners -/

/-- epsilon-greedy: the table of values is arbitrary, which covers every history; ties share 1-ε equally, ε is spread uniformly -/
theorem eps_pmf_dist (st : Eps) (actions : List Act) (h0 : 0 ≤ st.eps) (h1 : st.eps ≤ 1) (hne : actions ≠ []) :
    Valid (st.pmf actions) actions.length := Eps.pmf_valid st actions h0 h1 hne

example : (0 : Rat) ≤ (0 : Rat) ∧ (0 : Rat) ≤ 1 ∧ ([3, 5] : List Act) ≠ [] := by simp

/-- epsilon-greedy: each of the `k` greedy actions (maximal `_Q`) carries `(1-ε)/k + ε/n`, every other `ε/n` -/
theorem eps_greedy_argmax_mass (st : Eps) (actions : List Act) (hne : actions ≠ []) :
    ∃ (M : Rat) (k : Nat), (∀ a ∈ actions, st.q a ≤ M) ∧ (∃ a ∈ actions, st.q a = M) ∧
      k = (actions.filter (fun a => decide (st.q a = M))).length ∧ 0 < k ∧
      st.pmf actions = actions.map (fun a =>
        if st.q a = M then (1 - st.eps) / (k : Rat) + st.eps / (actions.length : Rat) else st.eps / (actions.length : Rat)) := by
  obtain ⟨a0, rest, rfl⟩ := List.exists_cons_of_ne_nil hne
  have hmem := exists_eq_maxOf st.q a0 rest
  -- the greedy set among the values is the image of the greedy set among the actions
  have hk : ((st.q a0 :: rest.map st.q).filter (fun q => decide (q = maxOf (st.q a0) (rest.map st.q)))).length
      = ((a0 :: rest).filter (fun a => decide (st.q a = maxOf (st.q a0) (rest.map st.q)))).length := by
    rw [← List.map_cons, List.filter_map, List.length_map]; rfl
  refine ⟨maxOf (st.q a0) (rest.map st.q), _, ?_, hmem, rfl,
    List.length_pos_iff.mpr (argmax_filter_ne_nil st.q a0 rest), ?_⟩
  · exact fun a ha => le_maxOf _ _ _ (List.mem_map_of_mem (f := st.q) ha)
  · rw [Eps.pmf, List.map_cons, epsPmfVals_cons, hk, ← List.map_cons, List.map_map, List.length_map]
    refine List.map_congr_left (fun a _ => ?_)
    show _ + (if st.q a = _ then _ else _) * _ = _
    split <;> ring

/-- UCB, for every index function (∀ bonus): in a state whose dictionaries are consistent (`Ucb.Inv`, kept by `learn`:
`ucb_learn_total`) the pmf is defined — no KeyError, no log 0, no division by 0 — and is a distribution -/
theorem ucb_pmf_dist (val : Act → Rat) (st : Ucb) (actions : List Act) (hinv : st.Inv)
    (hne : actions ≠ []) (hnd : actions.Nodup) :
    ∃ pmf, st.pmf val actions = .ok pmf ∧ Valid pmf actions.length := Ucb.pmf_valid val st actions hinv hne hnd

example : Ucb.Inv {} := Ucb.inv_init

/-- UCB1 initialisation: while an offered action has never been observed, exactly the never-observed
actions carry probability, uniformly — for every index function -/
theorem ucb_never_observed_first (val : Act → Rat) (st : Ucb) (actions : List Act) (hnd : actions.Nodup)
    (h : ∃ a ∈ actions, dhas st.m a = false) :
    st.pmf val actions = .ok (actions.map (fun a =>
      if dhas st.m a = false then 1 / ((actions.filter (fun a => !dhas st.m a)).length : Rat) else 0)) := by
  have hnever : actions.filter (fun a => !dhas st.m a) ≠ [] := by
    obtain ⟨a, ha, hq⟩ := h
    exact List.ne_nil_of_mem (List.mem_filter.mpr ⟨ha, by simp [hq]⟩)
  rw [Ucb.pmf_of_never val st actions hnever, distinct_of_nodup _ (hnd.filter _)]
  congr 1
  exact List.map_congr_left (fun a ha => by by_cases hq : dhas st.m a = false <;> simp [List.mem_filter, ha, hq])

/-- `OnlineVariance` (Welford) over exact arithmetic never reports a negative variance: the fact BanditUCB's index
(`_Avg_R_UCB`) needs under its `sqrt`.  (A sum-of-squares variant does not have it in floating point; the float claim for
Welford — `δ` and `δ₂` have the same sign under monotone rounding — is trusted and checked on every generated UCB history.) -/
theorem welford_var_nonneg (vs : List Rat) :
    0 ≤ (Welford.run (fun x => x) vs).m2 ∧ ∀ x, (Welford.run (fun x => x) vs).var = some x → 0 ≤ x :=
  Welford.run_inv vs {} (le_refl _) (le_refl _) (by intro x h; cases h)

/-- with `t ≥ 1`, `s ≥ 1` (`ucb_pmf_dist`'s invariant) and `var ≥ 0` both `sqrt` arguments of the UCB index are
non-negative: the bonus the model leaves arbitrary is then a well-defined real number -/
theorem ucb_index_args_nonneg (t s : ℕ) (ht : 1 ≤ t) (hs : 1 ≤ s) (var : ℝ) (hvar : 0 ≤ var) :
    0 ≤ 2 * Real.log t / s ∧ 0 ≤ Real.log t / s * min (1 / 4) (var + Real.sqrt (2 * Real.log t / s)) := by
  have hl : 0 ≤ Real.log t := Real.log_nonneg (Nat.one_le_cast.mpr ht)
  have hs' : (0 : ℝ) < s := Nat.cast_pos.mpr hs
  exact ⟨div_nonneg (mul_nonneg zero_le_two hl) hs'.le,
    mul_nonneg (div_nonneg hl hs'.le) (le_min (by norm_num) (add_nonneg hvar (Real.sqrt_nonneg _)))⟩

/-- Fixed (a pmf of the right length) and Random -/
theorem fixed_random_dist (val : Act → Rat) (actions : List Act) (hne : actions ≠ []) (hnd : actions.Nodup) :
    (∀ p : List Rat, (∀ x ∈ p, 0 ≤ x) → p.sum = 1 → p.length = actions.length →
      ∃ pmf, (Kind.fixed p).pmf val actions = .ok pmf ∧ Valid pmf actions.length) ∧
    (∃ pmf, Kind.random.pmf val actions = .ok pmf ∧ Valid pmf actions.length) :=
  ⟨fun p h1 h2 h3 => Kind.pmf_valid val (.fixed p) actions ⟨h1, h2⟩ hne hnd (by intro m hm; cases hm; exact h3),
   Kind.pmf_valid val .random actions trivial hne hnd (by intro m hm; cases hm)⟩

/-- `score(context, actions, a)` is the entry of the current pmf at `a`'s position … -/
theorem score_eq_pmf (val : Act → Rat) (L : Learner) (actions : List Act) (a : Act) (pmf : List Rat)
    (hpmf : L.kind.pmf val actions = .ok pmf) (hlen : pmf.length = actions.length) (ha : a ∈ actions) :
    ∃ p, L.score val actions a = .ok p ∧ pmf[actions.idxOf a]? = some p :=
  Learner.score_eq val L actions a pmf hpmf hlen ha

/-- … so over a duplicate-free action list the score vector IS the pmf: non-negative, sums to 1 -/
theorem score_vector_is_pmf (val : Act → Rat) (L : Learner) (actions : List Act) (hinv : L.kind.Inv)
    (hne : actions ≠ []) (hnd : actions.Nodup) (hfit : Fits L.kind.arity actions.length) :
    ∃ pmf, Valid pmf actions.length ∧ actions.map (fun a => L.score val actions a) = pmf.map Except.ok := by
  obtain ⟨pmf, hp, hv⟩ := Kind.pmf_valid val L.kind actions hinv hne hnd hfit
  refine ⟨pmf, hv, List.ext_getElem (by simp [hv.length_eq]) ?_⟩
  intro i h1 h2
  have hi : i < actions.length := by simpa using h1
  obtain ⟨p, hs, hpi⟩ := score_eq_pmf val L actions actions[i] pmf hp hv.length_eq (List.getElem_mem hi)
  rw [hnd.idxOf_getElem i hi, List.getElem?_eq_getElem (hv.length_eq ▸ hi), Option.some.injEq] at hpi
  simp only [List.getElem_map, hs, hpi]

/-- `predict` returns an offered action together with exactly the probability the current pmf gives it, strictly positive
(C05: the weighted `choice` never returns a zero-weight member); one uniform is consumed -/
theorem predict_mem_pos (val : Act → Rat) (L : Learner) (actions : List Act) (hinv : L.kind.Inv)
    (hne : actions ≠ []) (hnd : actions.Nodup) (hfit : Fits L.kind.arity actions.length) :
    ∃ i p pmf, L.predict val actions = .ok ({ L with rng := next L.rng }, i, p, pmf) ∧
      L.kind.pmf val actions = .ok pmf ∧ Valid pmf actions.length ∧ i < actions.length ∧ pmf[i]? = some p ∧ 0 < p :=
  Learner.predict_ok val L actions hinv hne hnd hfit

/-- `learn` never raises — for never-seen actions, actions that are no longer offered, any reward,
under any Misguided wrappers — and leaves a learner that can predict (`Kind.Inv` is what
`predict_mem_pos` needs) -/
theorem learn_total (fl : Rat → Rat) (L : Learner) (a : Act) (r : Rat) (hinv : L.kind.Inv) :
    ∃ L', L.learn fl a r = .ok L' ∧ L'.kind.Inv ∧ L'.kind.arity = L.kind.arity := Learner.learn_ok fl L a r hinv

theorem ucb_learn_total (fl : Rat → Rat) (st : Ucb) (a : Act) (r : Rat) (hinv : st.Inv) :
    ∃ st', st.learn fl a r = .ok st' ∧ st'.Inv := Ucb.learn_total fl st a r hinv

/-- `MisguidedLearner.learn` teaches the wrapped learner `shifter + scaler*reward` (as computed in
floating point) and changes nothing else … -/
theorem misguided_learn (fl : Rat → Rat) (L : Learner) (sh sc : Rat) (a : Act) (r : Rat) :
    ({ L with mis := (sh, sc) :: L.mis }).learn fl a r =
      (match L.learn fl a (fl (sh + fl (sc * r))) with
       | .ok L' => .ok { L' with mis := (sh, sc) :: L'.mis }
       | .error e => .error e) := by
  cases hk : L.kind with
  | eps st => simp [Learner.learn, hk, misguide]
  | ucb st =>
    simp only [Learner.learn, hk, misguide]
    cases st.learn fl a (misguide fl L.mis (fl (sh + fl (sc * r)))) <;> rfl
  | fixed p => simp [Learner.learn, hk]
  | random => simp [Learner.learn, hk]

/-- … and its `predict` / `score` are the wrapped learner's -/
theorem misguided_predict (val : Act → Rat) (L : Learner) (m : List (Rat × Rat)) (actions : List Act) :
    ({ L with mis := m }).predict val actions =
      (match L.predict val actions with
       | .ok (L', i, p, pmf) => .ok ({ L' with mis := m }, i, p, pmf)
       | .error e => .error e) := by
  cases hk : L.kind
  case random =>
    simp only [Learner.predict, hk]
    rcases liftRng (Coba.C05.choicew L.rng actions.length none) with e | ⟨s', i, w⟩ <;> rfl
  all_goals
    simp only [Learner.predict, hk]
    generalize Kind.pmf val _ actions = q
    rcases q with e | pmf
    · rfl
    · dsimp only
      rcases liftRng (Coba.C05.choicew L.rng actions.length (some pmf)) with e | ⟨s', i, w⟩ <;> rfl

theorem misguided_score (val : Act → Rat) (L : Learner) (m : List (Rat × Rat)) (actions : List Act) (a : Act) :
    ({ L with mis := m }).score val actions a = L.score val actions a := rfl

/-- whole histories of calls inside the property's quantifier (`OpOk`): no call raises and every answer is what the
property demands (`OutOk`) -/
theorem run_valid (fl : Rat → Rat) (val : Nat → Act → Rat) (ops : List Op) (k : Nat) (L : Learner)
    (hinv : L.kind.Inv) (hops : ∀ op ∈ ops, OpOk L.kind.arity op) :
    List.Forall₂ OutOk ops (runL fl val k L ops) := by
  induction ops generalizing k L with
  | nil => exact List.Forall₂.nil
  | cons op ops ih =>
    obtain ⟨L', o, hs, hok, hne, hi, har⟩ := stepL_ok fl (val k) L op hinv (hops op (by simp))
    have hrest := ih (k + 1) L' hi (by intro op' h'; rw [har]; exact hops op' (by simp [h']))
    cases o with
    | err e => exact absurd rfl (hne e)
    | _ =>
      simp only [runL, hs]
      exact List.Forall₂.cons hok hrest

example : (Kind.eps { eps := 1 / 10 }).Inv ∧ (Kind.ucb {}).Inv ∧ Kind.random.Inv ∧ (Kind.fixed [1 / 4, 3 / 4]).Inv := by
  refine ⟨by norm_num [Kind.Inv], Ucb.inv_init, trivial, ?_⟩
  norm_num [Kind.Inv]

/-- offered lists with EQUAL members (no `Nodup`): every learner but BanditUCB (`Kind.positional`) returns a drawn POSITION with
the weight its pmf gives that position — never the weight of another, merely equal, member (C05-gm2 looked the probability up by value) -/
theorem predict_positional_with_equal_members (val : Act → Rat) (L : Learner) (actions : List Act) (hinv : L.kind.Inv)
    (hne : actions ≠ []) (hpos : L.kind.positional = true) (hfit : Fits L.kind.arity actions.length) :
    ∃ i p pmf, L.predict val actions = .ok ({ L with rng := Coba.C05.next L.rng }, i, p, pmf) ∧
      L.kind.pmf val actions = .ok pmf ∧ Valid pmf actions.length ∧ i < actions.length ∧ pmf[i]? = some p ∧ 0 < p := by
  obtain ⟨i, p, pmf, hp, hpmf, hv, h⟩ := Learner.predict_drawable val L actions hinv hne hfit
  exact ⟨i, p, pmf, hp, hpmf, hv (Or.inr hpos), h⟩

/-- the hypotheses are satisfiable by a list with equal members: `FixedLearner([0, 1/4, 3/4])` offered `[7, 3, 7]` -/
example : (Kind.fixed [0, 1/4, 3/4]).positional = true ∧ ([7, 3, 7] : List Act) ≠ [] ∧ ¬ ([7, 3, 7] : List Act).Nodup := by decide

/-- BanditUCB over a list with EQUAL members (no `Nodup`): the pmf is always defined and `choicew` can always draw from it (`Drawable`);
it is a distribution as soon as every offered action has been observed.  PARTIAL with respect to validity: while an offered action is
unobserved AND occurs twice the total exceeds 1 (`ucb_equal_members_counterexample`), which is why the property speaks of action SETS. -/
theorem ucb_pmf_equal_members_partial (val : Act → Rat) (st : Ucb) (actions : List Act) (hinv : st.Inv) (hne : actions ≠ []) :
    ∃ pmf, st.pmf val actions = .ok pmf ∧ Drawable pmf actions.length ∧
      ((∀ a ∈ actions, dhas st.m a = true) → Valid pmf actions.length) :=
  (Ucb.pmf_drawable val st actions hinv hne).imp (fun _ h => ⟨h.1, h.2.1, fun hall => h.2.2 (Or.inr hall)⟩)

/-- `Nodup` is necessary for BanditUCB: a fresh learner offered `[a, a, b]` scores `[1/2, 1/2, 1/2]` (`len(set(...))` counts `a` once);
replayed on the real code by the corpus witness `ucb_equal_members` -/
theorem ucb_equal_members_counterexample (val : Act → Rat) : Ucb.pmf val {} [0, 0, 1] = .ok [1/2, 1/2, 1/2] := by
  simp [Ucb.pmf, dhas, dget, distinct, uniformOn]

/-! ## Corral -/

/-- Corral's pmf over the actions is the mixture of its base learners' choices: non-negative and
with the same total as the smoothed weights (every base learner chose an offered action) -/
theorem corral_pmf_dist (pbars : List Rat) (bacts actions : List Act) (hnd : actions.Nodup)
    (hlen : bacts.length = pbars.length) (hb : ∀ b ∈ bacts, b ∈ actions)
    (hpos : ∀ p ∈ pbars, 0 ≤ p) (hsum : pbars.sum = 1) :
    Valid (corralPmf pbars bacts actions) actions.length := corralPmf_valid pbars bacts actions hnd hlen hb hpos hsum

/-- `PMFInfoPredictor.predict` (Corral): an offered action with its strictly positive mixture probability … -/
theorem corral_predict_mem_pos (c : Corral) (actions bacts : List Act) (hinv : c.Inv)
    (hnd : actions.Nodup) (hlen : bacts.length = c.ps.length) (hb : ∀ b ∈ bacts, b ∈ actions) :
    ∃ i p, c.predict actions bacts = .ok ({ c with rng := next c.rng }, i, p, corralPmf c.pbars bacts actions) ∧
      Valid (corralPmf c.pbars bacts actions) actions.length ∧ i < actions.length ∧
      (corralPmf c.pbars bacts actions)[i]? = some p ∧ 0 < p := Corral.predict_ok c actions bacts hinv hnd hlen hb

/-- … and `PMFInfoPredictor.score` indexes the same pmf -/
theorem corral_score_eq_pmf (c : Corral) (actions bacts : List Act) (a : Act) (ha : a ∈ actions) :
    ∃ p, c.score actions bacts a = .ok p ∧ (corralPmf c.pbars bacts actions)[actions.idxOf a]? = some p :=
  Corral.score_eq c actions bacts a ha

/-- one Corral update with ANY multiplier λ for which `update(λ)` is defined (all denominators `1/p_i + η_i(ℓ_i - λ)` positive,
i.e. λ left of the first pole — the loop invariant of the repaired search) keeps `Corral.Inv`; it does not raise for rewards in
[0,1] and a non-zero probability -/
theorem corral_step_pos (c : Corral) (bacts : List Act) (a : Act) (r p lam : Rat) (hinv : c.Inv)
    (hlen : bacts.length = c.ps.length) (hr0 : 0 ≤ r) (hr1 : r ≤ 1) (hp : p ≠ 0)
    (hlam : ∃ raw, omdRaw c.ps c.etas (corralLosses bacts a r p) lam = some raw) :
    ∃ c', c.learnWith bacts a r p lam = .ok c' ∧ c'.Inv ∧ c'.ps.length = c.ps.length :=
  Corral.learnWith_ok c bacts a r p lam hinv hlen hr0 hr1 hp hlam

/-- the multiplier the repaired bisection returns always satisfies that condition … -/
theorem omd_search_valid (ps etas losses : List Rat) (hp : ∀ p ∈ ps, 0 < p) (he : ∀ e ∈ etas, 0 ≤ e) :
    ∃ raw, omdRaw ps etas losses (omdLambda ps etas losses) = some raw := omdLambda_valid ps etas losses hp he

/-- … hence `learn` never raises and never leaves Corral unable to predict -/
theorem corral_learn_total (c : Corral) (bacts : List Act) (a : Act) (r p : Rat) (hinv : c.Inv)
    (hlen : bacts.length = c.ps.length) (hr0 : 0 ≤ r) (hr1 : r ≤ 1) (hp : p ≠ 0) :
    ∃ c', c.learn bacts a r p = .ok c' ∧ c'.Inv ∧ c'.ps.length = c.ps.length :=
  Corral.learn_ok c bacts a r p hinv hlen hr0 hr1 hp

/-- the weights are a distribution to (better than) the 1e-4 the property allows -/
theorem corral_sum_tol (c : Corral) (h : c.Inv) :
    |c.ps.sum - 1| ≤ 1 / 10000 ∧ |c.pbars.sum - 1| ≤ 1 / 10000 := by
  rw [h.ps_sum, h.pbars_sum]; norm_num

/-- a fresh CorralLearner satisfies the invariant (M ≥ 1 base learners, η > 0, γ = 1/T ∈ [0,1], β > 0) when `1/M` is computed exactly
(`hfl`; for binary64: M a power of two — otherwise the initial weights sum to 1 only after rounding, and `corral_float_init_inv` is the
statement that applies) -/
theorem corral_init_inv (fl : Rat → Rat) (M : Nat) (eta gamma beta : Rat) (imp : Bool) (rng : Nat)
    (hM : M ≠ 0) (hfl : fl (1 / (M : Rat)) = 1 / (M : Rat)) (heta : 0 < eta) (hg0 : 0 ≤ gamma) (hg1 : gamma ≤ 1) (hb : 0 < beta) :
    (Corral.init fl M eta gamma beta imp rng).Inv := by
  have hsum := (replicate_valid M hM).sum_eq
  have hpos : ∀ p ∈ List.replicate M (1 / (M : Rat)), 0 < p :=
    List.forall_mem_replicate.mpr (Or.inr (one_div_pos.mpr (Nat.cast_pos.mpr (Nat.pos_of_ne_zero hM))))
  unfold Corral.init
  rw [hfl]
  exact {
    ne := fun h => hM ((List.replicate_eq_nil_iff _).mp h)
    len_pbars := rfl
    len_etas := by simp
    len_rhos := by simp
    ps_pos := hpos
    ps_sum := hsum
    pbars_pos := hpos
    pbars_sum := hsum
    etas_pos := List.forall_mem_replicate.mpr (Or.inr heta)
    gamma0 := hg0
    gamma1 := hg1
    beta_pos := hb }

/-- whole Corral histories, the base learners' choices arbitrary among the offered actions -/
theorem corral_run_valid (ops : List COp) (c : Corral) (hinv : c.Inv) (hops : ∀ op ∈ ops, COpOk c.ps.length op) :
    List.Forall₂ (fun op co => co.1.Inv ∧ OutOkC op co.2) ops (runC c ops) := by
  induction ops generalizing c with
  | nil => exact List.Forall₂.nil
  | cons op ops ih =>
    obtain ⟨c', o, hs, hok, hi, hlen⟩ := stepC_ok c op hinv (hops op (by simp))
    have hrest := ih c' hi (by intro op' h'; rw [hlen]; exact hops op' (by simp [h']))
    simp only [runC, hs]
    exact List.Forall₂.cons ⟨hi, hok⟩ hrest

/-! ## the root search of the log-barrier update -/

/-- the search's bracket: at `min(losses)` the new weights sum to at most the old total … -/
theorem omd_bracket_low (ps etas losses : List Rat) (lam : Rat) (hp : ∀ p ∈ ps, 0 < p)
    (he : ∀ e ∈ etas, 0 ≤ e) (hl : ∀ l ∈ losses, lam ≤ l) (h1 : etas.length = ps.length) (h2 : losses.length = ps.length) :
    ((omdDenoms ps etas losses lam).map (fun d => 1 / d)).sum ≤ ps.sum := by
  rw [omdDenoms_eq_map, List.map_map]
  conv_rhs => rw [← zip3_map_fst ps etas losses h1 h2]
  refine List.sum_le_sum (fun t ht => ?_)
  obtain ⟨hp', he', hl'⟩ := mem_zip3 ht
  exact omdTerm_le_weight (hp _ hp') (he _ he') (hl _ hl')

/-- … and at `max(losses)`, if still left of the first pole, to at least the old total -/
theorem omd_bracket_high (ps etas losses : List Rat) (lam : Rat) (hp : ∀ p ∈ ps, 0 < p)
    (he : ∀ e ∈ etas, 0 ≤ e) (hl : ∀ l ∈ losses, l ≤ lam) (hd : ∀ d ∈ omdDenoms ps etas losses lam, 0 < d)
    (h1 : etas.length = ps.length) (h2 : losses.length = ps.length) :
    ps.sum ≤ ((omdDenoms ps etas losses lam).map (fun d => 1 / d)).sum := by
  rw [omdDenoms_eq_map] at hd ⊢
  rw [List.map_map]
  conv_lhs => rw [← zip3_map_fst ps etas losses h1 h2]
  refine List.sum_le_sum (fun t ht => ?_)
  obtain ⟨_, he', hl'⟩ := mem_zip3 ht
  exact weight_le_omdTerm (he _ he') (hl _ hl') (hd _ (List.mem_map_of_mem ht))

/-- the hypothesis of `corral_step_pos` is necessary, and the UNREPAIRED `_log_barrier_omd` violated
it: its shortcut `lmbda = max_loss` only tested that the sum rounds to 1.  Witness (replayed on the
real code by the harness, known finding C16-F1): weights (0.99999, 5e-6, 5e-6), losses (1e9, 0, 1e9),
η = 1 — at λ = max_loss the sum rounds to 1 yet the second weight is negative. -/
theorem corral_unguarded_shortcut_counterexample :
    let ps : List Rat := [99999 / 100000, 1 / 200000, 1 / 200000]
    let etas : List Rat := [1, 1, 1]
    let losses : List Rat := [1000000000, 0, 1000000000]
    let new := (omdDenoms ps etas losses 1000000000).map (fun d => 1 / d)
    (∀ p ∈ ps, 0 < p) ∧ ps.sum = 1 ∧ rounds1 new.sum = true ∧ (∃ x ∈ new, x < 0) ∧
      omdRaw ps etas losses 1000000000 = none := by
  simp only [omdDenoms, omdRaw, rounds1]
  norm_num

/-- `f(λ) = Σ 1/(1/p_i + η_i(ℓ_i-λ))` over ℝ is the model's `update` sum (cast) … -/
theorem omd_model_is_barrier (ps etas losses : List Rat) (lam : Rat) :
    barrier (tris ps etas losses) (lam : ℝ) = ((((omdDenoms ps etas losses lam).map (fun d => 1 / d)).sum : Rat) : ℝ) := by
  rw [barrier_eq_sum, tris_eq_map, omdDenoms_eq_map, Rat.cast_list_sum, List.map_map, List.map_map, List.map_map]
  refine congrArg List.sum (List.map_congr_left (fun t _ => ?_))
  simp only [Function.comp, Tri.den_cast, Rat.cast_div, Rat.cast_one]

/-- … and `update(λ)` is defined exactly left of every pole `ℓ_i + 1/(p_i η_i)` -/
theorem omd_defined_iff_below (ps etas losses : List Rat) (lam : Rat) (hp : ∀ p ∈ ps, 0 < p) (he : ∀ e ∈ etas, 0 < e) :
    Below (tris ps etas losses) (lam : ℝ) ↔ ∀ d ∈ omdDenoms ps etas losses lam, 0 < d := by
  rw [omdDenoms_eq_map, tris_eq_map, Below, List.forall_mem_map, List.forall_mem_map]
  refine forall₂_congr (fun t ht => ?_)
  obtain ⟨hp', he', _⟩ := mem_zip3 ht
  have hok : TriOk ((t.1 : ℝ), (t.2.1 : ℝ), (t.2.2 : ℝ)) := ⟨Rat.cast_pos.mpr (hp _ hp'), Rat.cast_pos.mpr (he _ he')⟩
  rw [← Tri.den_pos_iff _ hok, Tri.den_cast, Rat.cast_pos]

/-- **the first bracket has a root, and only one**: exactly one real multiplier left of every pole has `f = 1`, and it lies
between the smallest and the largest loss — the interval the repaired `_log_barrier_omd` bisects -/
theorem first_bracket_has_root (ps etas losses : List Rat) (hne : ps ≠ []) (h1 : etas.length = ps.length)
    (h2 : losses.length = ps.length) (hp : ∀ p ∈ ps, 0 < p) (he : ∀ e ∈ etas, 0 < e) (hsum : ps.sum = 1) :
    ∃ x : ℝ, Below (tris ps etas losses) x ∧ barrier (tris ps etas losses) x = 1 ∧
      (∀ y, Below (tris ps etas losses) y → barrier (tris ps etas losses) y = 1 → y = x) ∧
      (∃ m ∈ tris ps etas losses, (∀ t ∈ tris ps etas losses, m.2.2 ≤ t.2.2) ∧ m.2.2 ≤ x) ∧
      (∃ M ∈ tris ps etas losses, (∀ t ∈ tris ps etas losses, t.2.2 ≤ M.2.2) ∧ x ≤ M.2.2) :=
  barrier_unique_root _ (ne_nil_of_length_eq (tris_length ps etas losses h1 h2) hne)
    (tris_ok ps etas losses hp he) (by rw [tris_sum ps etas losses h1 h2, hsum]; norm_num)

/-- **termination of the repaired bisection**: `F` with its rank stands for the IEEE doubles ordered by value, `mid` for
`fl((l+r)/2)` (inside the bracket, rounding being monotone); exit test, probe and decision rule are arbitrary.  The loop leaves
by one of its own exits within `rank r - rank l + 1` iterations — for doubles at most the number of doubles strictly inside the
bracket, plus one. -/
theorem bisect_terminates {F α} [LinearOrder F] (mid : F → F → F) (done : α → Bool) (probe : F → Option α) (tooBig : α → Bool)
    (rank : F → Nat) (hrank : StrictMono rank) (hmid : ∀ l r, l ≤ r → l ≤ mid l r ∧ mid l r ≤ r) (fuel : Nat)
    (l r : F) (cur : α) (hlr : l ≤ r) (hfuel : rank r - rank l < fuel) :
    (bisect mid done probe tooBig fuel l r cur).2 = true :=
  bisect_halts_on mid done probe tooBig (fun _ => True) rank (fun _ _ _ _ h => hrank h)
    (fun l r _ _ h => ⟨trivial, hmid l r h⟩) fuel l r cur trivial trivial hlr hfuel

example : StrictMono (fun i : Fin 1000 => i.val) ∧
    ∀ l r : Fin 1000, l ≤ r → l ≤ (⟨(l.val + r.val) / 2, by omega⟩ : Fin 1000) ∧ (⟨(l.val + r.val) / 2, by omega⟩ : Fin 1000) ≤ r := by
  refine ⟨fun a b h => h, ?_⟩
  intro l r h
  have : l.val ≤ r.val := h
  constructor
  · show l.val ≤ (l.val + r.val) / 2; omega
  · show (l.val + r.val) / 2 ≤ r.val; omega

/-- termination where only a sub-carrier `D` of the multipliers has a rank: the doubles inside ℚ, which the rounded midpoint
does not leave -/
theorem bisect_terminates_on {F α} [LinearOrder F] (mid : F → F → F) (done : α → Bool) (probe : F → Option α) (tooBig : α → Bool)
    (D : F → Prop) (rank : F → Nat) (hrank : ∀ x y, D x → D y → x < y → rank x < rank y)
    (hmid : ∀ l r, D l → D r → l ≤ r → D (mid l r) ∧ l ≤ mid l r ∧ mid l r ≤ r) (fuel : Nat)
    (l r : F) (cur : α) (hl : D l) (hr : D r) (hlr : l ≤ r) (hfuel : rank r - rank l < fuel) :
    (bisect mid done probe tooBig fuel l r cur).2 = true :=
  bisect_halts_on mid done probe tooBig D rank hrank hmid fuel l r cur hl hr hlr hfuel

/-- and whatever happens it only ever holds a multiplier it has probed successfully -/
theorem bisect_keeps_valid {F α} [DecidableEq F] (mid : F → F → F) (done : α → Bool) (probe : F → Option α) (tooBig : α → Bool)
    (fuel : Nat) (l r : F) (cur : α) (h : probe l = some cur) :
    probe (bisect mid done probe tooBig fuel l r cur).1.1 = some (bisect mid done probe tooBig fuel l r cur).1.2 :=
  bisect_probed mid done probe tooBig fuel l r cur h

/-! ## nested compositions and the feedback they accept -/

/-- **nested compositions**, at every nesting depth `n` (plain learners; Misguided Corrals over plain learners; Corrals over
those; …) — under the FORCED HYPOTHESIS `accepts`: every Corral at or below the learner is handed a reward in [0,1] (after its
Misguided wrappers) and a non-zero probability (`towerLaws`/`corralLaws` spell it out). -/
theorem corral_nested_valid (fl : Rat → Rat) (n : Nat) :
    (∀ s actions, (towerLaws fl n).inv s → actions ≠ [] → actions.Nodup → (towerLaws fl n).fits s actions.length →
      ∃ s' a p, (tower fl n).predict s actions = .ok (s', a, p) ∧ (towerLaws fl n).inv s' ∧ (towerLaws fl n).ready s' ∧
        a ∈ actions ∧ 0 < p ∧ (∀ m, (towerLaws fl n).fits s m → (towerLaws fl n).fits s' m)) ∧
    (∀ s a r p, (towerLaws fl n).inv s → (towerLaws fl n).ready s → (towerLaws fl n).accepts s a r p →
      ∃ s', (tower fl n).learn s a r p = .ok s' ∧ (towerLaws fl n).inv s' ∧ (∀ m, (towerLaws fl n).fits s m → (towerLaws fl n).fits s' m)) :=
  ⟨(towerLaws fl n).predict_ok, (towerLaws fl n).learn_ok⟩

/-- the hypothesis is necessary, and importance mode violates it for an inner Corral: reward 1 at
probability 1/2 reaches the base learner that chose the played action as 2, which a Corral rejects
(`assert 0 <= reward <= 1`; replayed on the real code) -/
theorem corral_importance_feedback_unbounded :
    corralFeedback true [0] [1] 0 1 (1 / 2) = [(0, 2, 1)] ∧
      ∀ (c : Corral) (bacts : List Act) (a : Act) (p : Rat), c.learn bacts a 2 p = .error .assertion := by
  constructor
  · simp [corralFeedback]
  · intro c bacts a p
    simp [Corral.learn, Corral.learnWith]

/-- `accepts` is no extra hypothesis at the depth the property speaks about ("Corral over any of them"): for a Corral (under any Misguided
wrappers) over plain learners it is EXACTLY the property's own precondition — the reward Corral sees is in [0,1] and the probability is not 0.
(Deeper nestings keep the hypothesis: `corral_importance_feedback_unbounded`.) -/
theorem corral_over_plain_accepts_iff (fl : Rat → Rat) (s : (corralOver fl (leafBase fl)).σ) (a : Act) (r p : Rat) :
    (corralLaws fl (leafLaws fl)).accepts s a r p ↔ (0 ≤ misguide fl s.mis r ∧ misguide fl s.mis r ≤ 1 ∧ p ≠ 0) := by
  rw [corralLaws_accepts]
  constructor
  · rintro ⟨h0, h1, hp, _⟩; exact ⟨h0, h1, hp⟩
  · rintro ⟨h0, h1, hp⟩; exact ⟨h0, h1, hp, allAccept_leaf fl _ _⟩

/-- **`accepts` is decidable at every depth**: the forced hypothesis of `corral_nested_valid` is, for every nesting depth n, exactly the
executable recursive predicate `acceptsB` (reward after the Misguided wrappers in [0,1], probability ≠ 0, and recursively for every base
learner with the feedback its Corral hands it: `reward·1[A_j = action]/probability` in importance mode, the reward passed through in
off-policy mode).  The driver evaluates `acceptsB flDouble 2` on every nested Corral round and the harness compares it with whether the real
`learn` raises the AssertionError of an inner Corral. -/
theorem accepts_iff_acceptsB (fl : Rat → Rat) (n : Nat) (s : (tower fl n).σ) (a : Act) (r p : Rat) :
    (towerLaws fl n).accepts s a r p ↔ acceptsB fl n s a r p = true := (towerDecides fl n).iff s a r p

/-- the importance-mode witness of `corral_importance_feedback_unbounded` through the predicate: an importance Corral over a Corral, the inner
one chose the played action, reward 1 at probability 1/2 → not accepted; the same composition off-policy → accepted -/
example : acceptsB (fun x => x) 2 (accTop true) 0 1 (1 / 2) = false ∧ acceptsB (fun x => x) 2 (accTop false) 0 1 (1 / 2) = true := by
  decide +kernel

/-- **off-policy feedback passes the reward through** (generalises `corral_over_plain_accepts_iff` from plain base learners to ANY base
learners): an off-policy Corral that has predicted accepts (a, r, p) ⇔ its own reward r' (after its wrappers) is in [0,1], p ≠ 0 and EVERY
base learner accepts the very same (a, r', p) -/
theorem corral_over_any_offpolicy_accepts_iff (fl : Rat → Rat) {B : Base} (h : B.Laws) (s : (corralOver fl B).σ) (a : Act) (r p : Rat)
    (hoff : s.c.importance = false) (hlen : s.lastActs.length = s.bases.length) :
    (corralLaws fl h).accepts s a r p ↔
      (0 ≤ misguide fl s.mis r ∧ misguide fl s.mis r ≤ 1 ∧ p ≠ 0 ∧ ∀ b ∈ s.bases, h.accepts b a (misguide fl s.mis r) p) := by
  simp only [corralLaws_accepts, corralFeedback, hoff, Bool.false_eq_true, ↓reduceIte]
  rw [allAccept_const h a (misguide fl s.mis r) p s.bases s.lastActs hlen]

/-- hence in a tower of ANY depth whose Corrals all run off-policy without Misguided wrappers the forced hypothesis disappears: the property's
own precondition (reward in [0,1], probability ≠ 0) is enough for `learn` to succeed at every level (`corral_nested_valid`) -/
theorem corral_offpolicy_tower_accepts (fl : Rat → Rat) (n : Nat) (s : (tower fl n).σ) (a : Act) (r p : Rat)
    (hs : offPolicyPlain fl n s) (h0 : 0 ≤ r) (h1 : r ≤ 1) (hp : p ≠ 0) : (towerLaws fl n).accepts s a r p := by
  induction n generalizing a r p with
  | zero => trivial
  | succ n ih =>
    cases s with
    | inl s => trivial
    | inr s =>
      obtain ⟨hoff, hmis, hlen, hb⟩ := hs
      have hm : misguide fl s.mis r = r := by rw [hmis]; rfl
      refine towerLaws_succ_inr_accepts.mpr ?_
      rw [corral_over_any_offpolicy_accepts_iff fl (towerLaws fl n) s a r p hoff hlen, hm]
      exact ⟨h0, h1, hp, fun b hbm => ih b a r p (hb b hbm) h0 h1 hp⟩

/-- **rejected feedback raises** (the converse of `corral_nested_valid`'s learn clause): at every nesting depth, from every state with the
invariants, feedback the decidable predicate `acceptsB` REJECTS makes `learn` raise, and what it raises is the Corral's own `assert 0 <= reward <= 1`
(AssertionError) or the division by a zero probability (ZeroDivisionError) — never anything else, never a silent return.  The harness executes the
real `learn` on every rejected round and demands the exception (`A:corral-accepts-impl`). -/
theorem rejected_feedback_raises (fl : Rat → Rat) (n : Nat) (s : (tower fl n).σ) (a : Act) (r p : Rat)
    (hinv : (towerLaws fl n).inv s) (hready : (towerLaws fl n).ready s) (hrej : acceptsB fl n s a r p = false) :
    ∃ e, (tower fl n).learn s a r p = .error e ∧ (e = .assertion ∨ e = .zeroDivision) :=
  (towerDecides fl n).raises s a r p hinv hready hrej

/-- the hypotheses are satisfiable: an importance Corral over an importance Corral over a RandomLearner, all having predicted, reward 1 at p = 1/2 -/
example : (towerLaws (fun x => x) 2).inv rejTop ∧ (towerLaws (fun x => x) 2).ready rejTop ∧ acceptsB (fun x => x) 2 rejTop 0 1 (1 / 2) = false :=
  rejTop_ok

/-- **`learn` succeeds exactly for accepted feedback**: with `corral_nested_valid` (⇐) and `rejected_feedback_raises` (⇒) the forced hypothesis of
nesting is not merely sufficient but the exact domain of `learn`, at every depth and for every rounding function -/
theorem tower_learn_ok_iff_accepts (fl : Rat → Rat) (n : Nat) (s : (tower fl n).σ) (a : Act) (r p : Rat)
    (hinv : (towerLaws fl n).inv s) (hready : (towerLaws fl n).ready s) :
    (∃ s', (tower fl n).learn s a r p = .ok s') ↔ acceptsB fl n s a r p = true :=
  (towerDecides fl n).learn_ok_iff s a r p hinv hready

/-! ## the pmfs of the plain learners in floats -/

/-- **the float weights**: the pmf of every built-in plain learner AS THE IMPLEMENTATION COMPUTES IT (`Kind.pmfF`: every
operation of the source line through `fl`; with `flDouble` it equals the real `score` bit for bit on every generated call),
under the standard model `FlRel u fl` — four roundings deep, independent of the number of actions -/
theorem float_pmf_sum {u : Rat} {fl : Rat → Rat} (h : FlRel u fl) (hu : u ≤ 1) (val : Act → Rat) (k : Kind) (actions : List Act)
    (hinv : k.Inv) (hne : actions ≠ []) (hnd : actions.Nodup) (hfit : Fits k.arity actions.length) :
    (∀ p ∈ k.pmfF fl val actions, 0 ≤ p) ∧ (1 - u) ^ 4 ≤ (k.pmfF fl val actions).sum ∧ (k.pmfF fl val actions).sum ≤ (1 + u) ^ 4 := by
  obtain ⟨pmf, hpmf, hv⟩ := Kind.pmf_valid val k actions hinv hne hnd hfit
  have hF := Kind.pmfF_near h hu val k actions pmf hinv hpmf
  have b := Near.sum_forall₂ hF
  rw [hv.sum_eq] at b
  exact ⟨Near.nonneg_forall₂ hu hF, b.of_one h.u_nonneg hu le_rfl⟩

example : FlRel (1 / 2 ^ 53) (fun x => x * (1 + 1 / 2 ^ 53)) := flRel_example

/-- for binary64 (u = 2^-53) that is inside the 1e-4 of the property (and the 1e-3 of coba's own
`possible_pmf` check) by eleven orders of magnitude -/
theorem float_pmf_sum_double {fl : Rat → Rat} (h : FlRel (1 / 2 ^ 53) fl) (val : Act → Rat) (k : Kind) (actions : List Act)
    (hinv : k.Inv) (hne : actions ≠ []) (hnd : actions.Nodup) (hfit : Fits k.arity actions.length) :
    (∀ p ∈ k.pmfF fl val actions, 0 ≤ p) ∧ |(k.pmfF fl val actions).sum - 1| ≤ 1 / 10000 := by
  obtain ⟨a, b, c⟩ := float_pmf_sum h (by norm_num) val k actions hinv hne hnd hfit
  exact ⟨a, abs_sub_one_le_of_between b c double_tol.1 double_tol.2⟩

/-! ## `CorralLearner.learn` in floats -/

/-- the float-faithful `_log_barrier_omd` (`omdF`: every operation through `fl`, CPython's compensated
`sum`, the same `bisect` loop; with `fl = flDouble` its output equals the real function's, checked on
every generated Corral update): for EVERY `fl` the returned weights are `fl(w/total)` of an
`update(λ)` whose rounded denominators are all positive … -/
theorem omd_float_from_probed (fl : Rat → Rat) (fuel : Nat) (ps etas losses : List Rat) (ws : List Rat) (h : Bool)
    (hne : losses ≠ []) (hres : omdF fl fuel ps etas losses = some (ws, h)) :
    ∃ lam cur, omdRawF fl ps etas losses lam = some cur ∧ ws = cur.map (fun p => fl (p / pySum fl cur)) := by
  cases losses with
  | nil => exact absurd rfl hne
  | cons l0 ls =>
    obtain ⟨cur, hlo, heq⟩ := omdF_cons_eq_some hres
    exact ⟨_, _, bisect_probed _ _ _ _ fuel _ (maxOf l0 ls) cur hlo, (Prod.mk.inj heq).1⟩

/-- … and on the doubles the loop halts by its own exits within `rank(max ℓ) - rank(min ℓ) + 1` iterations -/
theorem omd_float_halts (fl : Rat → Rat) (fuel : Nat) (ps etas : List Rat) (l0 : Rat) (ls : List Rat)
    (D : Rat → Prop) (rank : Rat → Nat) (hrank : ∀ x y, D x → D y → x < y → rank x < rank y)
    (hmid : ∀ l r, D l → D r → l ≤ r → D (fl (fl (l + r) / 2)) ∧ l ≤ fl (fl (l + r) / 2) ∧ fl (fl (l + r) / 2) ≤ r)
    (hlo : D (minOf l0 ls)) (hhi : D (maxOf l0 ls)) (hfuel : rank (maxOf l0 ls) - rank (minOf l0 ls) < fuel) :
    ∀ ws h, omdF fl fuel ps etas (l0 :: ls) = some (ws, h) → h = true := by
  intro ws hh hres
  obtain ⟨cur, _, heq⟩ := omdF_cons_eq_some hres
  rw [(Prod.mk.inj heq).2]
  exact bisect_halts_on _ _ _ _ D rank hrank hmid fuel _ _ cur hlo hhi (minOf_le_maxOf l0 ls) hfuel

/- FULL STATEMENT (not proved): for the weights `omdF fl … = some (ws, _)` of the float-faithful Corral update,
   `FlRel (1/2^53) fl → |ws.sum - 1| ≤ 1/10000`.
   Proved part: the normalisation step `[p/total for p in new_ps]`, given that `total` is within relative τ of the true
   sum.  MISSING: a bound τ for CPython's compensated `sum` (`pySum`, Neumaier) under `FlRel` — observed ≤ 2^-52. -/
theorem corral_float_weights_sum_partial {u τ : Rat} {fl : Rat → Rat} (h : FlRel u fl) (hu : u ≤ 1) (cur : List Rat) (total : Rat)
    (hpos : ∀ x ∈ cur, 0 < x) (hne : cur ≠ []) (hτ0 : 0 ≤ τ) (hτ1 : τ < 1) (htot : |total - cur.sum| ≤ τ * cur.sum) :
    (∀ w ∈ cur.map (fun p => fl (p / total)), 0 ≤ w) ∧
      (1 - u) / (1 + τ) ≤ (cur.map (fun p => fl (p / total))).sum ∧ (cur.map (fun p => fl (p / total))).sum ≤ (1 + u) / (1 - τ) := by
  have hu0 := h.u_nonneg
  have hS : 0 < cur.sum := List.sum_pos cur hpos hne
  obtain ⟨t1, t2⟩ := abs_le.mp htot
  have ht : 0 < total := pos_of_rel_err hτ1 hS htot
  have hF := Near.forall₂_map cur (fun x => x / total) (fun x => fl (x / total)) (fun x hx => h.near (div_nonneg (hpos x hx).le ht.le))
  have hnn := Near.nonneg_forall₂ hu hF
  obtain ⟨_, s1, s2⟩ := Near.sum_forall₂ hF
  rw [sum_map_div, pow_one] at s1 s2
  refine ⟨hnn, ?_, ?_⟩
  · have : 1 / (1 + τ) ≤ cur.sum / total := by
      rw [div_le_div_iff₀ (by linarith only [hτ0]) ht]; linarith only [t2]
    calc (1 - u) / (1 + τ) = (1 - u) * (1 / (1 + τ)) := by ring
      _ ≤ (1 - u) * (cur.sum / total) := mul_le_mul_of_nonneg_left this (sub_nonneg.mpr hu)
      _ ≤ _ := s1
  · have : cur.sum / total ≤ 1 / (1 - τ) := by
      rw [div_le_div_iff₀ ht (by linarith only [hτ1])]; linarith only [t1]
    calc _ ≤ (1 + u) * (cur.sum / total) := s2
      _ ≤ (1 + u) * (1 / (1 - τ)) := mul_le_mul_of_nonneg_left this (by linarith only [hu0])
      _ = (1 + u) / (1 - τ) := by ring

example : (∀ x ∈ ([1 / 2, 1 / 4] : List Rat), 0 < x) ∧ |(3 / 4 : Rat) - ([1 / 2, 1 / 4] : List Rat).sum| ≤ 0 * ([1 / 2, 1 / 4] : List Rat).sum := by
  norm_num

/-- **p̄-smoothing through `fl`**: `[(1-self._gamma)*p + self._gamma*1/len(self._base_lrns) for p in self._ps]` operation by operation
(`smoothF`, five roundings per entry, three deep; with `flDouble` equal to the real `_p_bars` bit for bit on every generated `learn`), for
EVERY γ ∈ [0,1] (every T > 1 and T = ∞ → γ = 0; the constructor itself divides by `log T = 0` at T = 1): the smoothed weights stay
STRICTLY positive -/
theorem pbar_smoothing_float_simplex {u : Rat} {fl : Rat → Rat} (h : FlRel u fl) (hu : u < 1) (gamma : Rat) (g0 : 0 ≤ gamma) (g1 : gamma ≤ 1)
    (ps : List Rat) (hne : ps ≠ []) (hpos : ∀ p ∈ ps, 0 < p) :
    (∀ q ∈ smoothF fl gamma ps.length ps, 0 < q) ∧
      (1 - u) ^ 3 * ((1 - gamma) * ps.sum + gamma) ≤ (smoothF fl gamma ps.length ps).sum ∧
      (smoothF fl gamma ps.length ps).sum ≤ (1 + u) ^ 3 * ((1 - gamma) * ps.sum + gamma) := by
  have hMq : (0 : Rat) < (ps.length : Rat) := Nat.cast_pos.mpr (List.length_pos_iff.mpr hne)
  have key : ∀ p ∈ ps, Near u 3 ((1 - gamma) * p + gamma / (ps.length : Rat)) (pbarF fl gamma ps.length p) :=
    fun p hp => pbarF_near h hu.le gamma g0 g1 ps.length p (hpos p hp).le
  obtain ⟨_, s1, s2⟩ := Near.sum_forall₂ (Near.forall₂_map ps _ (pbarF fl gamma ps.length) key)
  rw [sum_map_smooth ps gamma hne] at s1 s2
  refine ⟨?_, s1, s2⟩
  intro q hq
  obtain ⟨p, hp, rfl⟩ := List.mem_map.mp hq
  exact (key p hp).pos hu (smooth_entry_pos g0 g1 (hpos p hp) hMq)

/-- the hypotheses are satisfiable (exact arithmetic is a float law with u = 0 whose `sum` is exact) -/
example : FlRel 0 (fun x => x) ∧ SumRel 0 (fun x => x) := ⟨flRel_id, sumRel_id⟩

/- FULL STATEMENT (not proved): the next two theorems without the hypothesis `SumRel τ fl`.
   MISSING (as for `corral_float_weights_sum_partial`): an error bound τ for CPython's compensated `sum` (`pySum`, Neumaier) under
   `FlRel` — a bound independent of the length does not follow from `FlRel` alone (the compensation term is itself rounded); observed ≤ 2^-52
   on every generated update.  Everything else of `learn` is covered: losses, root search, normalisation, smoothing, η/ρ schedule. -/

/-- **one float-faithful `learn` keeps the weights in the float simplex, for all T**: `Corral.learnF` is `CorralLearner.learn`'s state update
operation by operation through `fl` (`loss/probability*(A==action)`, the float root search `omdF`, `[p/total …]`, the p̄-smoothing, the η/ρ
schedule; with `flDouble` whole histories equal the real `_ps/_p_bars/_etas/_rhos` bit for bit, driver op `corral_runF`).  Whenever it returns,
the new state is again strictly positive (`CorralF.Inv`) with both sums near 1 (`SimplexF`) — from ANY state satisfying the invariant, not
only states whose weights sum to 1: nothing accumulates over rounds -/
theorem corral_float_learn_simplex_partial {u τ : Rat} {fl : Rat → Rat} (h : FlRel u fl) (hu : u < 1) (hs : SumRel τ fl) (hτ0 : 0 ≤ τ) (hτ1 : τ < 1)
    (fuel : Nat) (c : Corral) (hinv : CorralF.Inv c) (g0 : 0 ≤ c.gamma) (g1 : c.gamma ≤ 1) (hb : 0 < c.beta)
    (bacts : List Act) (hlen : bacts.length = c.ps.length) (a : Act) (r p : Rat) (c' : Corral) (hh : Bool)
    (hres : c.learnF fl fuel bacts a r p = .ok (c', hh)) :
    CorralF.Inv c' ∧ SimplexF u τ c' ∧ c'.gamma = c.gamma ∧ c'.beta = c.beta ∧ c'.ps.length = c.ps.length := by
  obtain ⟨ws, homd, rfl⟩ := Corral.learnF_eq_ok hres
  have hll : (corralLossesF fl bacts a r p).length = c.ps.length := by simp [corralLossesF, hlen]
  have hlossne : corralLossesF fl bacts a r p ≠ [] := ne_nil_of_length_eq hll hinv.ne
  obtain ⟨lam, cur, hraw, hws⟩ := omd_float_from_probed fl fuel c.ps c.etas _ ws hh hlossne homd
  obtain ⟨hcurlen, hcurpos⟩ := omdRawF_pos (h.pos hu) c.ps c.etas _ lam cur hinv.len hll hraw
  have hcurne : cur ≠ [] := ne_nil_of_length_eq hcurlen hinv.ne
  obtain ⟨_, n2, n3⟩ := corral_float_weights_sum_partial h hu.le cur (pySum fl cur) hcurpos hcurne hτ0 hτ1 (hs cur hcurpos)
  rw [← hws] at n2 n3
  have htot : 0 < pySum fl cur := pos_of_rel_err hτ1 (List.sum_pos cur hcurpos hcurne) (hs cur hcurpos)
  have hwspos : ∀ w ∈ ws, 0 < w := by
    intro w hw
    rw [hws] at hw
    obtain ⟨x, hx, rfl⟩ := List.mem_map.mp hw
    exact h.pos hu _ (div_pos (hcurpos x hx) htot)
  have hwslen : ws.length = c.ps.length := by rw [hws, List.length_map, hcurlen]
  have hwsne : ws ≠ [] := ne_nil_of_length_eq hwslen hinv.ne
  obtain ⟨q1, q2, q3⟩ := pbar_smoothing_float_simplex h hu c.gamma g0 g1 ws hwsne hwspos
  rw [hwslen] at q1 q2 q3
  obtain ⟨t1, _, t2⟩ := etaRhoF_spec fl (h.pos hu) c.beta hb (smoothF fl c.gamma c.ps.length ws) c.etas c.rhos hinv.etas_pos
  exact ⟨⟨by rw [t1, hinv.len, hwslen], hwsne, hwspos, q1, t2⟩, ⟨⟨n2, n3⟩, q2, q3⟩, rfl, rfl, hwslen⟩

/-- **whole float histories**: every state the float-faithful Corral visits along ANY sequence of `learn` calls is in the float simplex -/
theorem corral_float_run_simplex_partial {u τ : Rat} {fl : Rat → Rat} (h : FlRel u fl) (hu : u < 1) (hs : SumRel τ fl) (hτ0 : 0 ≤ τ) (hτ1 : τ < 1)
    (fuel : Nat) (ops : List (List Act × Act × Rat × Rat)) (c : Corral) (hinv : CorralF.Inv c) (g0 : 0 ≤ c.gamma) (g1 : c.gamma ≤ 1)
    (hb : 0 < c.beta) (hops : ∀ o ∈ ops, o.1.length = c.ps.length) :
    ∀ x ∈ runCF fl fuel c ops, ∀ c' hh, x = .ok (c', hh) → CorralF.Inv c' ∧ SimplexF u τ c' := by
  induction ops generalizing c with
  | nil => intro x hx; simp [runCF] at hx
  | cons o ops ih =>
    obtain ⟨bacts, a, r, p⟩ := o
    intro x hx c' hh hxe
    simp only [runCF] at hx
    split at hx
    · rw [List.mem_singleton.mp hx] at hxe; cases hxe
    · rename_i c1 h1 hstep
      obtain ⟨i1, i2, i3, i4, i5⟩ := corral_float_learn_simplex_partial h hu hs hτ0 hτ1 fuel c hinv g0 g1 hb bacts
        (hops (bacts, a, r, p) (by simp)) a r p c1 h1 hstep
      rcases List.mem_cons.mp hx with rfl | hx
      · simp only [Except.ok.injEq, Prod.mk.injEq] at hxe
        obtain ⟨rfl, _⟩ := hxe
        exact ⟨i1, i2⟩
      · exact ih c1 i1 (by rw [i3]; exact g0) (by rw [i3]; exact g1) (by rw [i4]; exact hb)
          (fun o ho => by rw [i5]; exact hops o (by simp [ho])) x hx c' hh hxe

/-- the history may start at `CorralLearner(M base learners, eta > 0)`'s initial state -/
theorem corral_float_init_inv {u : Rat} {fl : Rat → Rat} (h : FlRel u fl) (hu : u < 1) (M : Nat) (hM : 0 < M) (eta gamma beta : Rat)
    (heta : 0 < eta) (imp : Bool) (rng : Nat) : CorralF.Inv (Corral.init fl M eta gamma beta imp rng) := by
  have hp : 0 < fl (1 / (M : Rat)) := h.pos hu _ (one_div_pos.mpr (Nat.cast_pos.mpr hM))
  have hall : ∀ p ∈ List.replicate M (fl (1 / (M : Rat))), 0 < p := List.forall_mem_replicate.mpr (Or.inr hp)
  exact ⟨by simp [Corral.init], fun hnil => hM.ne' ((List.replicate_eq_nil_iff _).mp hnil), hall, hall,
    List.forall_mem_replicate.mpr (Or.inr heta)⟩

/-- binary64 (u = 2^-53) with a `sum` accurate to 2^-50: "in the float simplex" means both Σ`_ps` and Σ`_p_bars` within 1e-4 of 1 — the
property's own accuracy clause, with an order of magnitude to spare -/
theorem corral_float_simplex_double (c : Corral) (g0 : 0 ≤ c.gamma) (g1 : c.gamma ≤ 1) (hS : SimplexF (1 / 2 ^ 53) (1 / 2 ^ 50) c) :
    |c.ps.sum - 1| ≤ 1 / 10000 ∧ |c.pbars.sum - 1| ≤ 1 / 10000 := by
  obtain ⟨h1, h2⟩ := SimplexF.tol (δ := 1 / 100000) g0 g1 hS (by norm_num) (by norm_num) (by norm_num) (by norm_num)
    (by norm_num) (by norm_num)
  exact ⟨h1.trans (by norm_num), h2.trans (by norm_num)⟩

/-! ## action identity -/

/-- **action identity**: the dictionary key `make_hashable` computes is the same for two offered
actions exactly when their CONTENTS are equal, whatever the container flavour (list, tuple,
HashableDense, coba's Dense rows; dict, OrderedDict, MappingProxyType/UserDict, coba's Sparse rows,
HashableSparse) — the justification for modelling an action as a natural number -/
theorem make_hashable_respects_eq (a b : PyAct) : Key.same (makeHashable a) (makeHashable b) = contentsEq a b := by
  cases a <;> cases b <;> rfl

/-- Python `==` between two offered objects implies one key … -/
theorem py_eq_implies_same_key (a b : PyAct) (h : pyEq a b = true) : Key.same (makeHashable a) (makeHashable b) = true := by
  rw [make_hashable_respects_eq]
  cases a with
  | scalar x =>
    cases b with
    | scalar y => exact h
    | _ => cases h
  | dense f xs =>
    cases b with
    | dense g ys =>
      simp only [pyEq] at h
      split at h
      · cases h
      · exact h
    | _ => cases h
  | sparse f kv =>
    cases b with
    | sparse g kw =>
      simp only [pyEq, contentsEq] at h ⊢
      split at h
      · simp only [beq_iff_eq] at h
        subst h
        simp [sameItems]
      · exact h
    | _ => cases h

/-- … and one key implies `==` except for exactly two flavour pairs: list vs tuple, OrderedDict vs OrderedDict -/
theorem same_key_implies_py_eq_except (a b : PyAct) (h : Key.same (makeHashable a) (makeHashable b) = true) :
    pyEq a b = true ∨
      (∃ xs ys, (a = .dense .list xs ∧ b = .dense .tuple ys) ∨ (a = .dense .tuple xs ∧ b = .dense .list ys)) ∨
      (∃ kv kw, a = .sparse .odict kv ∧ b = .sparse .odict kw) := by
  rw [make_hashable_respects_eq] at h
  cases a with
  | scalar x =>
    cases b with
    | scalar y => exact Or.inl h
    | _ => cases h
  | dense f xs =>
    cases b with
    | dense g ys =>
      by_cases hc : (f = .list ∧ g = .tuple) ∨ (f = .tuple ∧ g = .list)
      · right; left
        rcases hc with ⟨rfl, rfl⟩ | ⟨rfl, rfl⟩
        · exact ⟨xs, ys, Or.inl ⟨rfl, rfl⟩⟩
        · exact ⟨xs, ys, Or.inr ⟨rfl, rfl⟩⟩
      · left; simp only [pyEq, if_neg hc]; exact h
    | _ => cases h
  | sparse f kv =>
    cases b with
    | sparse g kw =>
      by_cases hc : f = .odict ∧ g = .odict
      · right; right; obtain ⟨rfl, rfl⟩ := hc; exact ⟨kv, kw, rfl, rfl⟩
      · left; simp only [pyEq, if_neg hc]; exact h
    | _ => cases h

/-- both exceptions are real (replayed on the real objects by the corpus witness `keyeq_sweep`):
`[1,2] == (1,2)` is False yet both have the key `HashableDense((1,2))` — an action list holding both is not a set
of distinct actions for the learners (BanditUCB then scores each with 1.0) -/
theorem make_hashable_flavour_counterexample :
    (Key.same (makeHashable (.dense .list [.num 1, .num 2])) (makeHashable (.dense .tuple [.num 1, .num 2])) = true ∧
      pyEq (.dense .list [.num 1, .num 2]) (.dense .tuple [.num 1, .num 2]) = false) ∧
    (Key.same (makeHashable (.sparse .odict [(.str "a", .num 1), (.str "b", .num 2)]))
        (makeHashable (.sparse .odict [(.str "b", .num 2), (.str "a", .num 1)])) = true ∧
      pyEq (.sparse .odict [(.str "a", .num 1), (.str "b", .num 2)]) (.sparse .odict [(.str "b", .num 2), (.str "a", .num 1)]) = false) := by
  decide

/-- **a string action keeps its own table entry**: for every string s and every offered object x of the action
model (number, bool, string, dense or sparse in any flavour) the learners' table key of the string `s` equals the key of x, and Python `==` holds,
ONLY when x is that very string — never when s merely is the `str()` / `repr()` of x or of x's key (`1` vs `'1'`, `'a'` vs `"'a'"`, `[1, 2]` vs
`'(1, 2)'`).  The catalogue pairs `COLLIDE_STR` are swept against the real `make_hashable` by `keyeq_sweep` and offered side by side by the generators. -/
theorem string_action_own_key (s : String) (x : PyAct) :
    (Key.same (makeHashable (.scalar (.str s))) (makeHashable x) = true ↔ x = .scalar (.str s)) ∧
    (pyEq (.scalar (.str s)) x = true ↔ x = .scalar (.str s)) := by
  constructor
  · cases x with
    | scalar c =>
      cases c with
      | num q => simp [makeHashable, Key.same]
      | str t => simp [makeHashable, Key.same]; exact eq_comm
    | dense f xs => simp [makeHashable, Key.same]
    | sparse f kv => simp [makeHashable, Key.same]
  · cases x with
    | scalar c =>
      cases c with
      | num q => simp [pyEq]
      | str t => simp [pyEq]; exact eq_comm
    | dense f xs => simp [pyEq]
    | sparse f kv => simp [pyEq]

/-! ## SafeLearner -/

/-- **SafeLearner around a learner of this property** (Corral wraps every base learner in one; an experiment wraps every learner), composed
from C15's model of `SafeLearner.predict` (`pred_format`, `_parse_pred`): a learner that answers an unbatched call with
`(the pick-th offered object, probability)` — with kwargs (`kw = true`: Corral's `{'info': …}`) or without — gets back from the SafeLearner
exactly that, on the first call (format detection) and on every later one (`Inv`), for the SafeLearner as it stands and the repaired one (`fx`). So "SafeLearner is the identity on (action, probability)" is a theorem, not an assumption. -/
theorem safe_wrapper_identity (fx : Coba.C15.Fixes) (kw : Bool) (pol : Coba.C15.Policy) (st : Coba.C15.State) (c : Coba.C15.PyVal)
    (as : List Coba.C15.PyVal) (hinv : Coba.C15.Inv (safeSpec kw) false st)
    (hpick : (pol c as).pick < as.length) (hobj : as.all (fun a => !Coba.C15.isLrn a) = true) (hp : (pol c as).p.isDict = false) :
    Coba.C15.predictCore fx (Coba.C15.scripted (safeSpec kw) pol) st (.single c as) =
      .ok (⟨as.getD (pol c as).pick .none, (pol c as).p, if kw then Coba.C15.kwDict (pol c as) else Coba.C15.emptyKw⟩,
           Coba.C15.stAfter (safeSpec kw) false st st.rng) := by
  have hfirst : st.layout = Option.none → Coba.C15.firstRowOK fx (safeSpec kw) (pol c as) as = true := by
    intro _
    simp [Coba.C15.firstRowOK, safeSpec, hpick, hobj, hp]
  rw [Coba.C15.format_roundtrip_single' fx (safeSpec kw) pol st c as hinv hfirst]
  cases kw <;> simp [Coba.C15.wantSingle, safeSpec, Coba.C15.Fmt.kind, Coba.C15.Answer.action, Except.map]

/-- the hypotheses are satisfiable: a fresh SafeLearner, two offered strings, the learner picks the second with probability 1/4 -/
example : Coba.C15.Inv (safeSpec false) false (Coba.C15.initState 1) ∧
    ([Coba.C15.PyVal.str (.ext 0) "a", .str (.ext 1) "b"].all (fun a => !Coba.C15.isLrn a)) = true := by
  exact ⟨Or.inl ⟨rfl, rfl⟩, by decide⟩

/-- the memoised state `stAfter` of `safe_wrapper_identity`, field by field — what the harness reads off the real SafeLearner after the first
`predict` of every SafeLearner-wrapped case: `_pred_batch == 'not'`, `_pred_kwargs == kw` (False for the plain learners, True for Corral's
`{'info': …}`), `_pred_format == 'AP'` -/
theorem safe_state_after (kw : Bool) (st : Coba.C15.State) :
    (Coba.C15.stAfter (safeSpec kw) false st st.rng).layout = some Coba.C15.BLayout.not ∧
    (Coba.C15.stAfter (safeSpec kw) false st st.rng).hasKw = kw ∧
    (Coba.C15.stAfter (safeSpec kw) false st st.rng).fmt = some ⟨Coba.C15.Kind.AP, false⟩ ∧
    (Coba.C15.stAfter (safeSpec kw) false st st.rng).method = some 1 := by
  simp [Coba.C15.stAfter, safeSpec, Coba.C15.Spec.pfmt, Coba.C15.Fmt.kind, Coba.C15.Fmt.hinted]

/-! ## translator obligations -/

/-- translator obligation: `precision = 4` of `_log_barrier_omd`, the `float(2*M)` initial rho and the accepted `mode`
strings, re-extracted from coba/learners/corral.py on every run (`Generated/C16CorralConsts.lean`), are what the model uses
(`rounds1` = `round(.,precision) == 1`, `Corral.init`) -/
theorem corral_consts_match :
    (∀ y : Rat, rounds1 y = (decide (1 - 5 / (10 : Rat) ^ (Coba.Generated.C16.omdPrecision + 1) < y) &&
        decide (y < 1 + 5 / (10 : Rat) ^ (Coba.Generated.C16.omdPrecision + 1)))) ∧
    (∀ (fl : Rat → Rat) (M : Nat) (eta gamma beta : Rat) (imp : Bool) (rng : Nat),
        (Corral.init fl M eta gamma beta imp rng).rhos = List.replicate M ((Coba.Generated.C16.rhoFactor : Rat) * (M : Rat))) ∧
    Coba.Generated.C16.modes = ["importance", "off-policy"] := by
  refine ⟨?_, ?_, by decide⟩
  · intro y
    have h1 : (1 : Rat) - 5 / (10 : Rat) ^ (Coba.Generated.C16.omdPrecision + 1) = 99995 / 100000 := by
      norm_num [Coba.Generated.C16.omdPrecision]
    have h2 : (1 : Rat) + 5 / (10 : Rat) ^ (Coba.Generated.C16.omdPrecision + 1) = 100005 / 100000 := by
      norm_num [Coba.Generated.C16.omdPrecision]
    rw [h1, h2]; rfl
  · intro fl M eta gamma beta imp rng
    simp [Corral.init, Coba.Generated.C16.rhoFactor]

/-- translator obligations, re-extracted with `ast` from coba/safety.py and coba/learners/bandit.py on every run
(`Generated/C16BanditConsts.lean`): SafeLearner's `a in [0,1]` list is what C15's `makeSafe` rewrites; `possible_pmf`'s `abs_tol` is the
model's 1/1000; BanditEpsilon's default ε lies in [0,1] (hypothesis of `eps_pmf_dist`); UCB's variance cap is 1/4 -/
theorem bandit_consts_match :
    (∀ (k : Nat) (i : Int), Coba.C15.makeSafe k (.int i) =
        if i ∈ Coba.Generated.C16.safeInts then Coba.C15.PyVal.flt (.safe k) (i : Rat) else Coba.C15.PyVal.int i) ∧
    ((Coba.Generated.C16.possiblePmfTolNum : Rat) / Coba.Generated.C16.possiblePmfTolDen = 1 / 1000) ∧
    ((0 : Rat) ≤ (Coba.Generated.C16.epsDefaultNum : Rat) / Coba.Generated.C16.epsDefaultDen ∧
        (Coba.Generated.C16.epsDefaultNum : Rat) / Coba.Generated.C16.epsDefaultDen ≤ 1) ∧
    ((Coba.Generated.C16.ucbVarCapNum : Rat) / Coba.Generated.C16.ucbVarCapDen = 1 / 4) := by
  refine ⟨?_, ?_, ?_, ?_⟩
  · intro k i
    simp [Coba.C15.makeSafe, Coba.Generated.C16.safeInts]
  · norm_num [Coba.Generated.C16.possiblePmfTolNum, Coba.Generated.C16.possiblePmfTolDen]
  · norm_num [Coba.Generated.C16.epsDefaultNum, Coba.Generated.C16.epsDefaultDen]
  · norm_num [Coba.Generated.C16.ucbVarCapNum, Coba.Generated.C16.ucbVarCapDen]

/-- **translator obligations, update expressions**: `harness/props/c16.py` re-translates on every run (Python `ast`) the p̄-smoothing, the ρ threshold
and the new ρ of `CorralLearner.learn`, BanditEpsilon's `alpha` and `Q` update and BanditUCB's running mean from the repo under test into `Ex`
programs (`Generated/C16Exprs.lean`).  Their float evaluation `Ex.evalF fl` (every `+ - * /` rounded, int literals exact) IS what the model's
`pbarF`, `etaRhoF`, `Eps.learn`, `Ucb.learn` compute, for every `fl`: an edit of one of these source expressions breaks this proof. -/
theorem update_exprs_match (fl : Rat → Rat) :
    (∀ (gamma p : Rat) (M : Nat), Ex.evalF fl [gamma, p, (M : Rat)] Coba.Generated.C16.pbarExpr = pbarF fl gamma M p) ∧
    (∀ (beta pb e rh : Rat) (pbs es rhs : List Rat), etaRhoF fl beta (pb :: pbs) (e :: es) (rh :: rhs) =
        if rh < Ex.evalF fl [pb] Coba.Generated.C16.rhoThrExpr
        then (fl (e * beta) :: (etaRhoF fl beta pbs es rhs).1, Ex.evalF fl [pb] Coba.Generated.C16.rhoNewExpr :: (etaRhoF fl beta pbs es rhs).2)
        else (e :: (etaRhoF fl beta pbs es rhs).1, rh :: (etaRhoF fl beta pbs es rhs).2)) ∧
    (∀ (st : Eps) (a : Act) (r : Rat), (Eps.learn fl st a r).Q =
        dset st.Q a (Ex.evalF fl [Ex.evalF fl [(st.n a : Rat)] Coba.Generated.C16.epsAlphaExpr, st.q a, r] Coba.Generated.C16.epsQExpr)) ∧
    (∀ (st : Ucb) (a : Act) (r mv : Rat) (sv : Nat), dget st.m a = some mv → dget st.s a = some sv → sv ≠ 0 →
        Ucb.learn fl st a r =
          .ok { t := st.t + 1, m := dset st.m a (Ex.evalF fl [(sv : Rat), mv, r] Coba.Generated.C16.ucbMeanExpr), s := dset st.s a (sv + 1) }) := by
  refine ⟨?_, ?_, ?_, ?_⟩
  · intro gamma p M
    simp [Ex.evalF, Coba.Generated.C16.pbarExpr, pbarF]
  · intro beta pb e rh pbs es rhs
    simp only [etaRhoF, Ex.evalF, Coba.Generated.C16.rhoThrExpr, Coba.Generated.C16.rhoNewExpr, List.getD_cons_zero, Nat.cast_one, Nat.cast_ofNat]
  · intro st a r
    simp [Eps.learn, Ex.evalF, Coba.Generated.C16.epsAlphaExpr, Coba.Generated.C16.epsQExpr]
  · intro st a r mv sv hm hs hsv
    simp [Ucb.learn, hm, hs, hsv, Ex.evalF, Coba.Generated.C16.ucbMeanExpr]

end Coba.C16
