/-
C17 — Indexed table queries return exactly what a full scan would.

`cfg : Cfg` says which of the proposed repairs (`fixes/C17-*.diff`) the modelled code contains;
`Cfg.unfixed` is the pinned tree, `Cfg.fixed` the tree with all of them.  The theorems about single operations and `ops_refine` hold for every `cfg`;
what differs is how much the well-formedness check `whereWF cfg …` has to exclude (each exclusion has a
`_counterexample`).  Those about the invariant `Inv` ask for the insert repair (`cfg.resortInsert`).
-/
import CobaVerif.Lemmas.C17Inv
import CobaVerif.Lemmas.C17PySort

namespace Coba.C17

/-! ## bisect on a sorted segment -/

/-- `bisect_left(c, v, lo, hi)` on a sorted segment of mutually comparable cells returns the
position that separates the cells smaller than `v` from the others -/
theorem bisect_left_spec (xs : List Cell) (v : Cell) (lo hi : Nat) (hle : lo ≤ hi) (hhi : hi ≤ xs.length)
    (hs : SortedSeg xs lo hi) (hc : CmpSeg xs lo hi v) :
    ∃ k, bisectLeft (listGet xs) v lo hi = .ok k ∧ lo ≤ k ∧ k ≤ hi ∧
      (∀ i, lo ≤ i → i < k → (cellAt xs i).key.lt v.key = true) ∧
      (∀ i, k ≤ i → i < hi → (cellAt xs i).key.lt v.key = false) :=
  bisectLeft_spec (listGet xs) xs (listGet_of_lt xs) v lo hi hle hhi hs hc

/-- `bisect_right`: separates the cells not greater than `v` from the greater ones -/
theorem bisect_right_spec (xs : List Cell) (v : Cell) (lo hi : Nat) (hle : lo ≤ hi) (hhi : hi ≤ xs.length)
    (hs : SortedSeg xs lo hi) (hc : CmpSeg xs lo hi v) :
    ∃ k, bisectRight (listGet xs) v lo hi = .ok k ∧ lo ≤ k ∧ k ≤ hi ∧
      (∀ i, lo ≤ i → i < k → v.key.lt (cellAt xs i).key = false) ∧
      (∀ i, k ≤ i → i < hi → v.key.lt (cellAt xs i).key = true) :=
  bisectRight_spec (listGet xs) xs (listGet_of_lt xs) v lo hi hle hhi hs hc

/-- `my_bisect_left` / `my_bisect_right` (with their `c[l]==a` / `c[h-1]==a` shortcuts) find the same
cuts on a list, a `SliceView` or a `ListView`, provided the segment is not empty or the empty-segment
guard (P12) is present -/
theorem my_bisect_spec (cfg : Cfg) (s : Seq) (xs : List Cell) (hsh : s.Shows xs)
    (v : Cell) (lo hi : Nat) (hle : lo ≤ hi) (hhi : hi ≤ xs.length) (hne : cfg.guardEmpty = true ∨ lo < hi)
    (hs : SortedSeg xs lo hi) (hc : CmpSeg xs lo hi v) (hnn : NoNoneSeg xs lo hi) (hv : v.key ≠ .none) :
    ∃ bl br, myBisectLeft cfg s v lo hi = .ok bl ∧ myBisectRight cfg s v lo hi = .ok br ∧ Cuts xs v lo hi bl br :=
  cuts_of_bisect cfg s xs hsh v lo hi hle hhi hne hs hc hnn hv

/-- P12: without the guard an empty segment raises `IndexError` -/
theorem my_bisect_empty_counterexample :
    myBisectLeft Cfg.unfixed { base := [], sel := .all } (.int 1) 0 0 = .error .indexError ∧
    myBisectLeft Cfg.fixed { base := [], sel := .all } (.int 1) 0 0 = .ok 0 := by decide +kernel

/-! ## `_compare`: the bisect path selects what the scan path selects -/

/-- On a whole sorted column, for every operator `= != < <= > >= in !in`, the ranges computed by
bisection expand to exactly the row numbers the scan returns (in order, once each). -/
theorem compare_bisect_eq_scan (cfg : Cfg) (s : Seq) (xs : List Cell) (hsh : s.Shows xs) (op : Op) (a : ArgV)
    (hshape : argShape op a = true)
    (hok : ProbeOK cfg xs 0 xs.length (probesOf a)) (hcmp : allComparable (probesOf a) = true)
    (hdup : op = .isin → cfg.dedupIn = true ∨ (probesOf a).Pairwise (fun u v => u.key ≠ v.key))
    (hcell : ∀ c ∈ xs, CellOK op a c) (hle : leGeOK cfg op a xs) :
    ∃ rs, compareBisect cfg s 0 xs.length op a = .ok rs ∧ compareScan cfg xs op a = .ok (rs.flatMap rangeOf) := by
  obtain ⟨rs, e, hp⟩ := compareBisect_spec cfg s xs hsh 0 xs.length op a hshape hok hcmp hdup
  refine ⟨rs, e, ?_⟩
  rw [compareScan_eq cfg xs op a hshape hle]
  rw [scanFilter_zero (sat op a) (fun c => argSat op a c.key) xs (fun c hc => sat_eq_argSat op a c hshape hok.vnn (hcell c hc))]
  exact congrArg _ ((picks_filter xs.length _).unique hp)

/-- the hypotheses are satisfiable: column `[1,1,2,Missing]`, `in [2,1]` -/
example : ∃ rs, compareBisect Cfg.unfixed { base := [.int 1, .int 1, .int 2, .missing], sel := .all } 0 4 .isin (.coll [.int 2, .int 1]) = .ok rs ∧
    compareScan Cfg.unfixed [.int 1, .int 1, .int 2, .missing] .isin (.coll [.int 2, .int 1]) = .ok (rs.flatMap rangeOf) :=
  ⟨[(0, 2), (2, 3)], by decide +kernel⟩

/-! ## `where` -/

/-
theorem where_eq_spec_full (cfg : Cfg) (t : Table) (pos : Option Op) (kws : List (Nat × Arg)) (R rs) :
    t.rows = .ok R → whereS ⟨t.columns, R⟩ (kws.map (condOf pos)) = .ok rs →
    ∃ t', t.pwhere cfg none pos kws = .ok t' ∧ t'.rows = .ok rs
-- FALSE for the code as it is, in the pinned tree (P8…P12, see the `_counterexample`s below) and, for
-- the conjuncts marked "every tree", also with all proposed repairs: rows not in index order after
-- insert-after-index (P13, recorded), a probe that cannot be ordered against an indexed column,
-- `None` / `Missing` probes.  `match` is outside the theorem altogether (regular expressions are
-- not modelled beyond literal patterns; correspondence-checked only).  Hence the `_partial` form with
-- the explicit decidable hypothesis `whereWF`.
-/

/-- **where = plain filter.**  For a well-formed call (`whereWF`, a decidable check listing the
forced hypotheses) on a table or on a `where` result, with any number of keywords given
positionally, as `{op: value}` or as callables, on indexed and unindexed columns, `Table.where` shows
exactly the rows the plain row-by-row evaluation `whereS` of the documented conditions keeps (same
order, same multiplicity). -/
theorem where_eq_spec_partial (cfg : Cfg) (t : Table) (pos : Option Op) (kws : List (Nat × Arg))
    (R rs : List (List Cell)) (hwf : whereWF cfg t pos kws = true) (hR : t.rows = .ok R)
    (hspec : whereS { columns := t.columns, rows := R } (kws.map (condOf pos)) = .ok rs) :
    ∃ t', t.pwhere cfg Option.none pos kws = .ok t' ∧ t'.rows = .ok rs ∧
      t'.columns = t.columns ∧ t'.indexes = t.indexes :=
  where_eq_spec' cfg t pos kws R rs hwf hR hspec

/-- a table used by the examples: columns a,b; indexed by a; rows (1,5) (1,6) (2,5) (Missing,7) -/
def exT : Table :=
  { columns := [0, 1], data := [(0, [.int 1, .int 1, .int 2, .missing]), (1, [.int 5, .int 6, .int 5, .int 7])],
    sel := .all, indexes := [0] }

/-- the hypotheses of `where_eq_spec_partial` are satisfiable, already for the pinned tree: two keywords,
one on the indexed column (bisect) and one on the other (scan) -/
example : whereWF Cfg.unfixed exT Option.none [(1, .val (.scalar (.int 6))), (0, .dict .ge (.scalar (.int 2)))] = true := by
  decide +kernel

/-- **where with a row predicate** keeps exactly the rows the predicate accepts -/
theorem where_pred_eq_spec (cfg : Cfg) (t : Table) (N : Nat) (hok : t.OK N) (hne : t.columns ≠ []) (p : RowPred)
    (pos : Option Op) (kws : List (Nat × Arg)) (R : List (List Cell)) (hR : t.rows = .ok R) :
    ∃ t', t.pwhere cfg (some p) pos kws = .ok t' ∧ t'.rows = .ok (R.filter p.eval) ∧
      t'.columns = t.columns ∧ t'.indexes = t.indexes ∧ t'.OK N :=
  where_pred_eq_spec' cfg t N hok hne p pos kws R hR

/-! ### each conjunct of `whereWF` is needed (pinned tree = `Cfg.unfixed`) -/

def rowsOf (r : Except Err Table) : Except Err (List (List Cell)) :=
  match r with
  | .ok t => t.rows
  | .error e => .error e

/-- P8: repeated probes of `in` on an indexed column repeat the rows -/
theorem where_duplicate_probes_counterexample :
    rowsOf (exT.pwhere Cfg.unfixed Option.none Option.none [(0, .val (.coll [.int 1, .int 1]))])
      = .ok [[.int 1, .int 5], [.int 1, .int 6], [.int 1, .int 5], [.int 1, .int 6]] ∧
    whereS { columns := [0, 1], rows := [[.int 1, .int 5], [.int 1, .int 6], [.int 2, .int 5], [.missing, .int 7]] }
      [condOf Option.none (0, .val (.coll [.int 1, .int 1]))] = .ok [[.int 1, .int 5], [.int 1, .int 6]] ∧
    whereWF Cfg.unfixed exT Option.none [(0, .val (.coll [.int 1, .int 1]))] = false ∧
    whereWF Cfg.fixed exT Option.none [(0, .val (.coll [.int 1, .int 1]))] = true := by decide +kernel

/-- P9: `{'!in': [5]}` on an unindexed column returns every row -/
theorem where_notin_dict_counterexample :
    rowsOf (exT.pwhere Cfg.unfixed Option.none Option.none [(1, .dict .notin (.coll [.int 5]))])
      = .ok [[.int 1, .int 5], [.int 1, .int 6], [.int 2, .int 5], [.missing, .int 7]] ∧
    whereS { columns := [0, 1], rows := [[.int 1, .int 5], [.int 1, .int 6], [.int 2, .int 5], [.missing, .int 7]] }
      [condOf Option.none (1, .dict .notin (.coll [.int 5]))] = .ok [[.int 1, .int 6], [.missing, .int 7]] ∧
    whereWF Cfg.unfixed exT Option.none [(1, .dict .notin (.coll [.int 5]))] = false ∧
    whereWF Cfg.fixed exT Option.none [(1, .dict .notin (.coll [.int 5]))] = true := by decide +kernel

/-- P10: the `<` of the first keyword is applied to the second one -/
theorem where_operator_leak_counterexample :
    rowsOf (exT.pwhere Cfg.unfixed Option.none Option.none [(0, .dict .lt (.scalar (.int 1))), (1, .val (.scalar (.int 6)))])
      = .ok [[.int 1, .int 5], [.int 2, .int 5]] ∧
    whereS { columns := [0, 1], rows := [[.int 1, .int 5], [.int 1, .int 6], [.int 2, .int 5], [.missing, .int 7]] }
      ([(0, .dict .lt (.scalar (.int 1))), (1, .val (.scalar (.int 6)))].map (condOf Option.none)) = .ok [[.int 1, .int 6]] ∧
    whereWF Cfg.unfixed exT Option.none [(0, .dict .lt (.scalar (.int 1))), (1, .val (.scalar (.int 6)))] = false ∧
    whereWF Cfg.fixed exT Option.none [(0, .dict .lt (.scalar (.int 1))), (1, .val (.scalar (.int 6)))] = true := by decide +kernel

/-- a table with a `Missing` cell in an unindexed column -/
def exM : Table :=
  { columns := [0, 1], data := [(0, [.int 1, .int 2]), (1, [.int 5, .missing])], sel := .all, indexes := [] }

/-- P11: `<=` on an unindexed column containing `Missing` raises `TypeError` -/
theorem where_le_missing_counterexample :
    rowsOf (exM.pwhere Cfg.unfixed Option.none Option.none [(1, .dict .le (.scalar (.int 5)))]) = .error .typeError ∧
    whereS { columns := [0, 1], rows := [[.int 1, .int 5], [.int 2, .missing]] }
      [condOf Option.none (1, .dict .le (.scalar (.int 5)))] = .ok [[.int 1, .int 5]] ∧
    whereWF Cfg.unfixed exM Option.none [(1, .dict .le (.scalar (.int 5)))] = false ∧
    whereWF Cfg.fixed exM Option.none [(1, .dict .le (.scalar (.int 5)))] = true := by decide +kernel

/-- the empty table indexed by its only column -/
def exE : Table := { columns := [0], data := [(0, [])], sel := .all, indexes := [0] }

/-- P12: `where` on an indexed column of an empty table raises `IndexError` -/
theorem where_empty_indexed_counterexample :
    rowsOf (exE.pwhere Cfg.unfixed Option.none Option.none [(0, .val (.scalar (.int 1)))]) = .error .indexError ∧
    whereS { columns := [0], rows := [] } [condOf Option.none (0, .val (.scalar (.int 1)))] = .ok [] ∧
    whereWF Cfg.unfixed exE Option.none [(0, .val (.scalar (.int 1)))] = false ∧
    whereWF Cfg.fixed exE Option.none [(0, .val (.scalar (.int 1)))] = true := by decide +kernel

/-- rows 3,1 indexed by a, then 2,0 inserted: `_indexes` still says a -/
def exStale : Table := { columns := [0], data := [(0, [.int 1, .int 3, .int 2, .int 0])], sel := .all, indexes := [0] }

/-- P13: on rows that are not in index order the bisection answers wrongly (whatever the tree: `where`
trusts `_indexes`).  With the repaired `insert` no history reaches such a table: `inv_reachable`. -/
theorem where_stale_index_counterexample :
    rowsOf (exStale.pwhere Cfg.fixed Option.none Option.none [(0, .val (.scalar (.int 0)))])
      = .ok [[.int 1], [.int 3], [.int 2], [.int 0]] ∧
    whereS { columns := [0], rows := [[.int 1], [.int 3], [.int 2], [.int 0]] }
      [condOf Option.none (0, .val (.scalar (.int 0)))] = .ok [[.int 0]] ∧
    whereWF Cfg.fixed exStale Option.none [(0, .val (.scalar (.int 0)))] = false := by decide +kernel

/-- a probe that cannot be ordered against the cells raises `TypeError` on an indexed column while
the plain evaluation of `=` finds no row; with `fixes/C17-where-incomparable-probe.diff` the
`TypeError` of the bisection is caught and the scan answers -/
theorem where_incomparable_probe_counterexample :
    rowsOf (exT.pwhere Cfg.committed Option.none Option.none [(0, .val (.scalar (.str [113])))]) = .error .typeError ∧
    whereS { columns := [0, 1], rows := [[.int 1, .int 5], [.int 1, .int 6], [.int 2, .int 5], [.missing, .int 7]] }
      [condOf Option.none (0, .val (.scalar (.str [113])))] = .ok [] ∧
    whereWF Cfg.committed exT Option.none [(0, .val (.scalar (.str [113])))] = false ∧
    rowsOf (exT.pwhere Cfg.fixed Option.none Option.none [(0, .val (.scalar (.str [113])))]) = .ok [] := by decide +kernel

/-- `None` as a probe of `!in` is taken for the sentinel: every row comes twice; with
`fixes/C17-notin-none-probe.diff` (a private sentinel) the answer is the plain one -/
theorem where_none_probe_counterexample :
    rowsOf (exT.pwhere Cfg.committed Option.none (some .notin) [(0, .val (.coll [.none]))])
      = .ok [[.int 1, .int 5], [.int 1, .int 6], [.int 2, .int 5], [.missing, .int 7],
             [.int 1, .int 5], [.int 1, .int 6], [.int 2, .int 5], [.missing, .int 7]] ∧
    whereS { columns := [0, 1], rows := [[.int 1, .int 5], [.int 1, .int 6], [.int 2, .int 5], [.missing, .int 7]] }
      [condOf (some .notin) (0, .val (.coll [.none]))] = .ok [[.int 1, .int 5], [.int 1, .int 6], [.int 2, .int 5]] ∧
    whereWF Cfg.committed exT (some .notin) [(0, .val (.coll [.none]))] = false ∧
    rowsOf (exT.pwhere Cfg.fixed Option.none (some .notin) [(0, .val (.coll [.none]))])
      = .ok [[.int 1, .int 5], [.int 1, .int 6], [.int 2, .int 5]] := by decide +kernel

/-- (in every tree) `> Missing`: the scan says `Missing > Missing`, the bisection does not -/
theorem where_missing_probe_counterexample :
    rowsOf (exT.pwhere Cfg.fixed Option.none Option.none [(0, .dict .gt (.scalar .missing))]) = .ok [] ∧
    whereS { columns := [0, 1], rows := [[.int 1, .int 5], [.int 1, .int 6], [.int 2, .int 5], [.missing, .int 7]] }
      [condOf Option.none (0, .dict .gt (.scalar .missing))] = .ok [[.missing, .int 7]] ∧
    whereWF Cfg.fixed exT Option.none [(0, .dict .gt (.scalar .missing))] = false := by decide +kernel

/-! ## `index` -/

/-
theorem index_spec_full (cfg : Cfg) (t : Table) (indx : List Nat) (R) : t.rows = .ok R →
    ∃ t' R', t.index cfg indx = .ok t' ∧ t'.rows = .ok R' ∧ R'.Perm R ∧ (R' in index order)
-- FALSE: `index('a','a')` alters rows in the pinned tree (P14), `index` with the column tuple the
-- table already carries returns at once even if rows were inserted since (P13, every tree), cells
-- that cannot be ordered make `sorted` raise, and `1`/`1.0` may change places between rows that
-- agree on an earlier index column (so `Perm` holds only up to `==`).  Hence `_partial` with `indexWF`.
-/

/-- **index reorders, and orders.**  For a well-formed call (`indexWF`: a table that owns its lists,
distinct index columns that differ from the current `_indexes`, cells of each index column
mutually comparable and not `None`) the rows `Table.index` shows afterwards are a permutation of the
rows before: cell by cell equal up to Python's `==` (`1` and `1.0` may change places inside a group
of an earlier index column), exactly equal in every column that is not an index column; and they
are in non-decreasing lexicographic order of the index columns. -/
theorem index_spec_partial (cfg : Cfg) (t : Table) (indx : List Nat) (hwf : indexWF cfg t indx = true) :
    ∃ (t' : Table) (perm : List Nat) (R R' : List (List Cell)), t.index cfg indx = .ok t' ∧ t.rows = .ok R ∧ t'.rows = .ok R' ∧
      t'.columns = t.columns ∧ t'.indexes = effIndex cfg t indx ∧
      R'.length = R.length ∧ perm.Perm (List.range R.length) ∧
      (∀ i, i < R.length → (R'.getD i []).map Cell.key = (R.getD (perm.getD i 0) []).map Cell.key) ∧
      (∀ i, i < R.length → ∀ k, k < t.columns.length → t.columns.getD k 0 ∉ effIndex cfg t indx →
        (R'.getD i []).getD k .missing = (R.getD (perm.getD i 0) []).getD k .missing) ∧
      (∀ i j, i < j → j < R.length →
        lexLt (idxPositions t.columns (effIndex cfg t indx)) (R'.getD j []) (R'.getD i []) = false) :=
  let ⟨t', perm, R, R', e, hR, hR', c1, c2, hp, r⟩ := index_spec' cfg t indx hwf
  ⟨t', perm, R, R', e, hR, hR', c1, c2, r.len, hp, r.keys, r.others, r.sorted⟩

/-- **index is stable**: rows that tie on every index column (the lexicographic comparison says
"not smaller" in both directions) keep the relative order they had before -/
theorem index_stable (cfg : Cfg) (t : Table) (indx : List Nat) (hwf : indexWF cfg t indx = true) :
    ∃ (t' : Table) (perm : List Nat) (R R' : List (List Cell)), t.index cfg indx = .ok t' ∧ t.rows = .ok R ∧ t'.rows = .ok R' ∧
      perm.Perm (List.range R.length) ∧
      (∀ i, i < R.length → (R'.getD i []).map Cell.key = (R.getD (perm.getD i 0) []).map Cell.key) ∧
      (∀ i j, i < j → j < R.length →
        lexLt (idxPositions t.columns (effIndex cfg t indx)) (R'.getD i []) (R'.getD j []) = false → perm.getD i 0 < perm.getD j 0) :=
  let ⟨t', perm, R, R', e, hR, hR', _, _, hp, r⟩ := index_spec' cfg t indx hwf
  ⟨t', perm, R, R', e, hR, hR', hp, r.keys, r.stable⟩

/-- **index = the stable lexicographic sort** (`indexS`, the specification): up to Python's `==`
cell by cell, the rows after `index` are the rows before sorted stably by the index columns.
(Repeated column names are ignored by the repaired code: `effIndex`; in the pinned tree `indexWF`
excludes them, see `index_duplicate_columns_counterexample`.) -/
theorem index_eq_spec (cfg : Cfg) (t : Table) (indx : List Nat) (hwf : indexWF cfg t indx = true) :
    ∃ (t' : Table) (R R' : List (List Cell)), t.index cfg indx = .ok t' ∧ t.rows = .ok R ∧ t'.rows = .ok R' ∧
      R'.map (List.map Cell.key) = (indexS (idxPositions t.columns (effIndex cfg t indx)) R).map (List.map Cell.key) :=
  let ⟨t', _, R, R', e, hR, hR', _, _, _, r⟩ := index_spec' cfg t indx hwf
  ⟨t', R, R', e, hR, hR', r.spec⟩

/-- rows (2,x) (1,y) (3,z) (1,w), not indexed -/
def exU : Table :=
  { columns := [0, 1], data := [(0, [.int 2, .int 1, .int 3, .int 1]), (1, [.str [120], .str [121], .str [122], .str [119]])],
    sel := .all, indexes := [] }

/-- the hypotheses are satisfiable: two index columns -/
example : indexWF Cfg.unfixed exU [0, 1] = true := by decide +kernel

/-- P14: `index('a','a')` in the pinned tree permutes column a twice: (2,x) (1,y) (3,z) (1,w) becomes
(1,y) (1,x) (2,z) (3,w) — three rows of the result were not in the table -/
theorem index_duplicate_columns_counterexample :
    rowsOf (exU.index Cfg.unfixed [0, 0]) = .ok [[.int 1, .str [121]], [.int 1, .str [120]], [.int 2, .str [122]], [.int 3, .str [119]]] ∧
    indexWF Cfg.unfixed exU [0, 0] = false ∧ indexWF Cfg.fixed exU [0, 0] = true ∧
    rowsOf (exU.index Cfg.fixed [0, 0]) = .ok [[.int 1, .str [121]], [.int 1, .str [119]], [.int 2, .str [120]], [.int 3, .str [122]]] := by
  decide +kernel

/-- P13 (every tree): `index('a')` on a table whose `_indexes` is already `('a',)` returns at once,
whatever order the rows are in -/
theorem index_noop_on_stale_counterexample :
    rowsOf (exStale.index Cfg.fixed [0]) = .ok [[.int 1], [.int 3], [.int 2], [.int 0]] ∧
    indexWF Cfg.fixed exStale [0] = false := by decide +kernel

/-! ## lohis, `groupby`, and chains of operations -/

/-- **lohis.**  On a well-formed table (or `where` result) whose rows are in index order
(`Indexed`), `_calc_lohis` succeeds and the segments recorded for the `j`-th index column are
consecutive and cover all rows (`segs`), rows inside a segment agree on the first `j` index columns
(`agree`), rows of different segments are strictly ordered by them (`strict`); from the second
column on no segment is empty, and the first column has the single segment `(0, len)`. -/
theorem lohis_correct (cfg : Cfg) (t : Table) (N : Nat) (hok : t.OK N) (hix : Indexed t N) (hne : t.indexes ≠ []) :
    ∃ lohis, t.calcLohis cfg = .ok lohis ∧
      ∀ j (hj : j < t.indexes.length), ∃ segs, dictGet lohis t.indexes[j] = .ok segs ∧
        StageInv (Kt t) (t.m N) (t.indexes.take j) (List.range (t.m N)) segs ∧ (0 < j → ∀ p ∈ segs, p.1 < p.2) ∧
        (j = 0 → segs = [(0, t.m N)]) :=
  let ⟨lohis, e, h⟩ := lohis_correct' cfg t N hok hix hne
  ⟨lohis, e, fun j hj => let ⟨segs, es, hs⟩ := h.level j hj; ⟨segs, es, hs.stage, hs.nonempty, hs.first⟩⟩

/-- the hypotheses `t.OK N` and `Indexed t N` are satisfiable (and decidable: `tableOKB`, `indexedB`):
the example table, and a two-row view of it -/
example : exT.OK 4 ∧ Indexed exT 4 := ⟨tableOKB_sound (by decide +kernel), indexedB_iff.mp (by decide +kernel)⟩

example : Table.OK { exT with sel := .list [1, 3] } 4 ∧ Indexed { exT with sel := .list [1, 3] } 4 :=
  ⟨tableOKB_sound (by decide +kernel), indexedB_iff.mp (by decide +kernel)⟩

/-- **groupby partitions exactly by the index prefix.**  `groupby(level, 'count')` on a table in
index order yields one group per segment `[lo,hi)` of consecutive rows; the rows of a group agree (up
to `==`) on the first `level` index columns, rows of different groups are strictly ordered by those
columns (so no two groups share a prefix); the reported index is the prefix of the group's first row
and the count its size. -/
theorem groupby_partition (cfg : Cfg) (t : Table) (N : Nat) (hok : t.OK N) (hix : Indexed t N)
    (level : Nat) (hlev : level < t.indexes.length) :
    ∃ segs : List (Nat × Nat),
      t.groupby cfg level .count = .ok (segs.map (fun p =>
        GroupOut.cnt ((t.indexes.take level).map (fun d => cellAt (t.vcol d) p.1)) (p.2 - p.1))) ∧
      Segs segs 0 (t.m N) ∧
      (∀ d ∈ t.indexes.take level, ∀ p ∈ segs, ∀ i j, p.1 ≤ i → i < p.2 → p.1 ≤ j → j < p.2 → Kt t d i = Kt t d j) ∧
      (∀ p ∈ segs, ∀ i j, i < p.2 → p.2 ≤ j → j < t.m N → lexLtK (Kt t) (t.indexes.take level) i j = true) ∧
      (0 < level → ∀ p ∈ segs, p.1 < p.2) := by
  obtain ⟨segs, hs, hne, e⟩ := groupby_count_spec' cfg t N hok hix level hlev
  refine ⟨segs, e, hs.segs, ?_, ?_, hne⟩
  · intro d hd p hp i j a b c e'
    have hb := hs.segs.bounds p hp
    have := hs.agree d hd p hp i j a b c e'
    rwa [getD_range _ i (by omega), getD_range _ j (by omega)] at this
  · intro p hp i j a b c
    have := hs.strict p hp i j a b c
    rwa [getD_range _ i (by omega), getD_range _ j c] at this

/-- **index establishes index order** (so that everything above applies to what `index` returns) -/
theorem index_establishes_order (cfg : Cfg) (t : Table) (N : Nat) (hok : t.OK N) (hsel : t.sel = .all) (indx : List Nat)
    (hne : indx ≠ []) (hdata : t.data ≠ []) (hnd : (effIndex cfg t indx).Nodup) (hdiff : t.indexes ≠ effIndex cfg t indx)
    (hcols : ∀ d ∈ effIndex cfg t indx, IdxColOK t N d) :
    ∃ t', t.index cfg indx = .ok t' ∧ t'.OK N ∧ Indexed t' N :=
  let ⟨t', _, h⟩ := index_data_spec cfg t N hok hsel indx hne hdata hnd hdiff hcols
  ⟨t', h.run, h.ok, h.indexed hnd hcols⟩

/-- **where on a table in index order** (what `index` returned, or a `where` result of such a table —
where-of-where): no hypothesis about lohis or sortedness is left, only the probes matter
(`KwOKIdx`: not `None`, comparable with the column, no repeated probes for `in` in a tree without
the P8 repair, no `Missing` probe under an order comparison, table not empty without the P12
repair, `<=`/`>=` on an unindexed column do not meet `Missing` without the P11 repair) and the
P10 condition `NoLeak`.  The result shows exactly the plain filter and is again well-formed and in
index order, so the theorem applies to it again. -/
theorem where_of_where (cfg : Cfg) (t : Table) (N : Nat) (hok : t.OK N) (hix : Indexed t N) (pos : Option Op)
    (kws : List (Nat × Arg)) (hne : kws ≠ []) (hkw : ∀ kw ∈ kws, KwOKIdx cfg t (t.m N) pos kw) (hleak : NoLeak cfg kws)
    (R rs : List (List Cell)) (hR : t.rows = .ok R)
    (hspec : whereS { columns := t.columns, rows := R } (kws.map (condOf pos)) = .ok rs) :
    ∃ t', t.pwhere cfg Option.none pos kws = .ok t' ∧ t'.rows = .ok rs ∧
      t'.columns = t.columns ∧ t'.indexes = t.indexes ∧ t'.OK N ∧ Indexed t' N := by
  obtain ⟨sel', _, a, b, hv⟩ := where_indexed_data' cfg t N hok hix pos kws hne hkw hleak R rs hR hspec
  exact ⟨_, a, b, rfl, rfl, hv.ok, hv.indexed hok hix⟩

/-- view of a view: the rows of a table seen through an increasing selection of row numbers are the
selected rows, whatever the table itself is a view of (`composeSel` = `View.__init__` on a `View`,
including the `_try_slice` shortcut) -/
theorem view_compose (t : Table) (N : Nat) (hok : t.OK N) (select : List Nat)
    (hinc : StrictInc select) (hlt : ∀ i ∈ select, i < t.m N) :
    ∃ sel', composeSel t.sel select = .ok sel' ∧ Table.OK { t with sel := sel' } N ∧
      ∀ k, k < select.length → Table.rowAt { t with sel := sel' } k = t.rowAt (select.getD k 0) := by
  obtain ⟨sel', e, hv⟩ := hok.view select hinc hlt
  exact ⟨sel', e, hv.ok, hv.rowAt hok⟩

/-! ## `insert` -/

/-- **insert(rows)** on a table that owns its lists and has no index (or in a tree without the insert
repair, where `_indexes` is simply kept - which is exactly why insert-after-index left a table that
claimed an order it did not have: P13): afterwards the table shows the old rows followed by the
inserted ones, unchanged.  For an indexed table in the repaired tree see `insert_eq_spec` and
`insert_keeps_index_order`. -/
theorem insert_rows (cfg : Cfg) (t : Table) (N : Nat) (hok : t.OK N) (hsel : t.sel = .all)
    (hnd : t.columns.Nodup) (hcne : t.columns ≠ []) (hkeys : ∀ p ∈ t.data, p.1 ∈ t.columns)
    (hni : cfg.resortInsert = false ∨ t.indexes = [])
    (r : List Cell) (rs : List (List Cell)) (hlen : ∀ x ∈ r :: rs, x.length = t.columns.length)
    (R : List (List Cell)) (hR : t.rows = .ok R) :
    ∃ t', t.insert cfg (.rows (r :: rs)) = .ok t' ∧ t'.rows = .ok (R ++ (r :: rs)) ∧
      t'.columns = t.columns ∧ t'.indexes = t.indexes ∧ t'.OK (N + (r :: rs).length) := by
  have hio : InsertOK t N := ⟨hok, hsel, hkeys, fun hd => by
    obtain ⟨c, hc⟩ := List.exists_mem_of_ne_nil _ hcne
    obtain ⟨b, hb⟩ := hok.cols c hc
    rw [hd] at hb; cases hb⟩
  obtain ⟨t', e, ha⟩ := insert_rows_spec' cfg t N hio hnd hcne r rs hlen R hR
  exact ⟨t', insert_eq_insertRaw cfg t t' _ hni e ha.indexes, ha.rows, ha.columns, ha.indexes, ha.ok.ok⟩

/-- index, then insert: what the table shows and what `_indexes` says -/
def indexThenInsert (cfg : Cfg) : Except Err (List (List Cell)) × List Nat :=
  match ({ columns := [0], data := [(0, [.int 3, .int 1])], sel := .all, indexes := [] } : Table).index cfg [0] with
  | .ok t => (match t.insert cfg (.rows [[.int 2], [.int 0]]) with
              | .ok t' => (t'.rows, t'.indexes)
              | .error e => (.error e, []))
  | .error e => (.error e, [])

/-- P13 in one line of evaluation: index, insert, and the table is `exStale`; with
`fixes/C17-insert-keeps-index-order.diff` the rows are in index order again -/
theorem insert_after_index_counterexample :
    indexThenInsert Cfg.committed = (.ok [[.int 1], [.int 3], [.int 2], [.int 0]], [0]) ∧
    indexThenInsert Cfg.fixed = (.ok [[.int 0], [.int 1], [.int 2], [.int 3]], [0]) := by decide +kernel

/-! ## `insert` in all three shapes, and the refinement over histories -/

/-- **insert = `insertSpec`** for rows, dict rows and a column mapping, under the decidable `insertWF`:
the table owns its lists; rows are as long as the (distinct) columns; the value lists of a mapping
are equally long; new columns are appended in sorted order, old rows padded with `Missing` there,
new rows padded with `Missing` for the columns they do not mention (`insertS`).  A table without
index, or a tree without the insert repair: the rows afterwards are exactly `insertS` (last
conjunct).  An indexed table in the repaired tree (`insertWF` then asks that it is in index order
and that the cells of its index columns, new ones included, can be ordered and are not `None`): the
rows afterwards are the stable sort of `insertS` by the index columns, up to `==` cell by cell, and
the table is in index order (`Indexed`). -/
theorem insert_eq_spec (cfg : Cfg) (t : Table) (d : InsertData) (hwf : insertWF cfg t d = true) :
    ∃ t' R R', t.rows = .ok R ∧ t.insert cfg d = .ok t' ∧ t'.columns = (insertSpec cfg t.columns t.indexes R d).1 ∧
      t'.rows = .ok R' ∧ R'.map (List.map Cell.key) = (insertSpec cfg t.columns t.indexes R d).2.map (List.map Cell.key) ∧
      t'.indexes = t.indexes ∧ InsertOK t' (tableN t + d.size) ∧
      (cfg.resortInsert = true → t.indexes ≠ [] → Indexed t' (tableN t + d.size)) ∧
      ((cfg.resortInsert = false ∨ t.indexes = []) → R' = (insertS t.columns R d).2) :=
  let ⟨t', R, R', h⟩ := insert_eq_spec' cfg t d hwf
  ⟨t', R, R', h.before, h.run, h.columns, h.rows, h.keys, h.indexes, h.ok, h.indexed, h.same⟩

/-- insert of a column mapping (first pair `q0`, all value lists as long as its list) -/
theorem insert_mapping_rows (cfg : Cfg) (t : Table) (N : Nat) (h : InsertOK t N)
    (hni : cfg.resortInsert = false ∨ t.indexes = []) (q0 : Nat × List Cell) (cs : List (Nat × List Cell))
    (hk : ∀ q ∈ q0 :: cs, q.2.length = q0.2.length)
    (hcne : t.columns ++ newColsOf t.columns ((q0 :: cs).map (·.1)) ≠ [])
    (R : List (List Cell)) (hR : t.rows = .ok R) :
    ∃ t', t.insert cfg (.cols (q0 :: cs)) = .ok t' ∧ t'.columns = (insertColsS t.columns R (q0 :: cs) q0.2.length).1 ∧
      t'.rows = .ok (insertColsS t.columns R (q0 :: cs) q0.2.length).2 ∧ t'.indexes = t.indexes ∧ InsertOK t' (N + q0.2.length) := by
  obtain ⟨t', e, ha⟩ := insert_mapping_rows' cfg t N h q0 cs hk hcne R hR
  exact ⟨t', insert_eq_insertRaw cfg t t' _ hni e ha.indexes, ha.columns, ha.rows, ha.indexes, ha.ok⟩

/-- insert of a sequence of dict rows: every dict becomes one row (`d.get(k, Missing)`) -/
theorem insert_dicts_rows (cfg : Cfg) (t : Table) (N : Nat) (h : InsertOK t N)
    (hni : cfg.resortInsert = false ∨ t.indexes = []) (d0 : List (Nat × Cell)) (ds : List (List (Nat × Cell)))
    (hpad : cfg.dictLen = true ∨ dictsToCols (d0 :: ds) ≠ [])
    (hcne : t.columns ++ newColsOf t.columns ((d0 :: ds).flatMap (fun d => d.map (·.1))) ≠ [])
    (R : List (List Cell)) (hR : t.rows = .ok R) :
    ∃ t', t.insert cfg (.dicts (d0 :: ds)) = .ok t' ∧ t'.columns = (insertDictsS t.columns R (d0 :: ds)).1 ∧
      t'.rows = .ok (insertDictsS t.columns R (d0 :: ds)).2 ∧ t'.indexes = t.indexes ∧ InsertOK t' (N + (d0 :: ds).length) := by
  obtain ⟨t', e, ha⟩ := insert_dicts_rows' cfg t N h d0 ds hpad hcne R hR
  exact ⟨t', insert_eq_insertRaw cfg t t' _ hni e ha.indexes, ha.columns, ha.rows, ha.indexes, ha.ok⟩

/-- the pinned tree pads one row for any number of key-less dicts (`dat_len = 1 if not data`) -/
theorem insert_empty_dicts_counterexample :
    rowsOf (exM.insert Cfg.unfixed (.dicts [[], []])) = .ok [[.int 1, .int 5], [.int 2, .missing], [.missing, .missing]] ∧
    (insertS [0, 1] [[.int 1, .int 5], [.int 2, .missing]] (.dicts [[], []])).2
      = [[.int 1, .int 5], [.int 2, .missing], [.missing, .missing], [.missing, .missing]] ∧
    insertWF Cfg.unfixed exM (.dicts [[], []]) = false ∧ insertWF Cfg.fixed exM (.dicts [[], []]) = true := by
  decide +kernel

/-- **refinement over arbitrary histories.**  For every sequence `ops` of `insert` (any shape),
`index`, `where` (keywords or a row predicate; each `where` continues with its result, so chains are
where-of-where), `copy`: if every operation meets its decidable side conditions when its turn comes
(`WFL` = `insertWF` / `indexWF` / `whereWF` + "the plain evaluation is defined", evaluated along the
run), then the code's run succeeds, the specification machine's run succeeds
(`runLS`: append the normalised rows / stable lexicographic sort / plain filter / nothing), and the
two final tables have the same columns, the same index columns, and the same rows in the same order
up to Python's `==` cell by cell (`AbsT.eqv`).  `where_eq_spec_partial`, `where_pred_eq_spec`,
`index_eq_spec`, `insert_eq_spec` are the one-operation instances.  Not covered: several live
objects sharing storage (`copy_shares_storage_counterexample`), `groupby` (an observation, see
`groupby_partition`), `match`. -/
theorem ops_refine (cfg : Cfg) (ops : List LOp) (t : Table) (a : AbsT) (hwf : WFL cfg t ops = true)
    (hrel : AbsT.eqv t.abs a) :
    ∃ t' a', runL cfg t ops = .ok t' ∧ runLS cfg a ops = .ok a' ∧ AbsT.eqv t'.abs a' :=
  ops_refine' cfg ops t a hwf hrel

/-- the side conditions are satisfiable along a history with every kind of operation: a table
without columns, dict rows, a column mapping, rows, index, where, where-of-where, copy, row predicate -/
example : WFL Cfg.fixed (Init.columns []).table
    [.insert (.dicts [[(0, .int 2), (1, .str [120])], [(0, .int 1)]]),
     .insert (.cols [(0, [.int 3, .int 1]), (2, [.flt (1/2), .int 7])]),
     .insert (.rows [[.int 2, .str [121], .missing]]),
     .index [0, 1],
     .whereK Option.none [(0, .dict .ge (.scalar (.int 2)))],
     .whereK (some .isin) [(1, .val (.coll [.str [120], .str [121]]))],
     .copy,
     .whereP (.cell 0 (.eqv (.int 2)))] = true := by decide +kernel

/-! ## The repaired `insert`: rows stay in index order, in every reachable state

`Inv t`: the table is well-formed, its index columns are columns, and the rows it shows are in
non-decreasing lexicographic order of the index columns, whose cells can be ordered and are not
`None` (`Indexed`; nothing to ask of a table without index).  The side conditions `opOK` / `OKL`
below speak about the data only - shapes, cells and probes that can be ordered, no `None`; unlike
`opWF` / `WFL` they neither ask that the segments `_calc_lohis` finds are sorted runs nor that
`index` names other columns than the current index. -/

/-- a table without index satisfies the invariant (every freshly made table) -/
theorem inv_init (t : Table) (hok : t.OK (tableN t)) (h : t.indexes = []) : Inv t :=
  ⟨hok, fun c hc => by rw [h] at hc; simp at hc, indexed_nil t _ h⟩

/-- **insert keeps the rows in index order** (`fixes/C17-insert-keeps-index-order.diff`): it looks at
the rows from the last old one on; still in order, nothing happens; out of order, the table is
sorted again (P13, C17-F7 in `known/C17.json`) -/
theorem insert_keeps_index_order (cfg : Cfg) (hfix : cfg.resortInsert = true) (t : Table) (d : InsertData)
    (hinv : Inv t) (h : insertOK cfg t d = true) : ∃ t', t.insert cfg d = .ok t' ∧ Inv t' :=
  inv_insert cfg hfix t d hinv h

/-- **every operation keeps the invariant**: `insert` (any shape), `index`, `where` (keywords or row
predicate; the result is a view), `copy` -/
theorem inv_step (cfg : Cfg) (hfix : cfg.resortInsert = true) (t : Table) (op : LOp) (hinv : Inv t)
    (hok : opOK cfg t op = true) : ∃ t', stepL cfg t op = .ok t' ∧ Inv t' :=
  inv_stepL cfg hfix t op hinv hok

/-- **the invariant holds in every reachable state** -/
theorem inv_reachable (cfg : Cfg) (hfix : cfg.resortInsert = true) (t0 : Table) (ops : List LOp) (hinv : Inv t0)
    (hok : OKL cfg t0 ops = true) : ∃ t, runL cfg t0 ops = .ok t ∧ Inv t := by
  obtain ⟨t, _, e, _, _, hi⟩ := ops_inv_refine' cfg hfix ops t0 t0.abs hinv hok ⟨rfl, rfl, rfl⟩
  exact ⟨t, e, hi⟩

/-- **refinement over arbitrary histories, repaired tree**: as `ops_refine`, with the data-only side
conditions `OKL` in place of `WFL`, from any table that satisfies the invariant; `index` by the
current index columns is covered (the rows are in that order already) -/
theorem ops_inv_refine (cfg : Cfg) (hfix : cfg.resortInsert = true) (ops : List LOp) (t : Table) (a : AbsT)
    (hinv : Inv t) (hok : OKL cfg t ops = true) (hrel : AbsT.eqv t.abs a) :
    ∃ t' a', runL cfg t ops = .ok t' ∧ runLS cfg a ops = .ok a' ∧ AbsT.eqv t'.abs a' ∧ Inv t' :=
  ops_inv_refine' cfg hfix ops t a hinv hok hrel

/-- **indexed query = full scan in every reachable state.**  `t` is whatever a history of inserts,
index calls, wheres and copies made of a table `t0` that satisfies the invariant (e.g. a new table);
a `where` with keywords on `t` returns exactly the rows the plain row-by-row evaluation keeps.
There is no hypothesis about the state of the index: `whereOK` asks the column to exist, the argument
to have the shape of its operator, probes of an indexed column to be orderable against its cells and
each other and not `None` / (under an order comparison) `Missing`, distinct for `in` unless P8 is
repaired, and `<=`/`>=` on an unindexed column not to meet `Missing` unless P11 is repaired. -/
theorem where_reachable_eq_scan (cfg : Cfg) (hfix : cfg.resortInsert = true) (t0 : Table) (ops : List LOp) (hinv : Inv t0)
    (hok : OKL cfg t0 ops = true) (t : Table) (hrun : runL cfg t0 ops = .ok t)
    (pos : Option Op) (kws : List (Nat × Arg)) (R rs : List (List Cell)) (hw : whereOK cfg t pos kws = true)
    (hR : t.rows = .ok R) (hspec : whereS { columns := t.columns, rows := R } (kws.map (condOf pos)) = .ok rs) :
    ∃ t', t.pwhere cfg Option.none pos kws = .ok t' ∧ t'.rows = .ok rs ∧
      t'.columns = t.columns ∧ t'.indexes = t.indexes := by
  obtain ⟨t1, e, hi⟩ := inv_reachable cfg hfix t0 ops hinv hok
  have : t1 = t := by rw [hrun] at e; exact (Except.ok.inj e).symm
  subst this
  obtain ⟨t', a, b, c, d, _⟩ := whereK_step cfg t1 pos kws hi R rs hw hR hspec
  exact ⟨t', a, b, c, d⟩

/-- the P13 history meets the data-only side conditions in the repaired tree (index, insert out of
order, index by the same column again, where on the indexed column), and does not meet `WFL` under
`Cfg.committed` (the tree with the first eight repairs only) -/
example : OKL Cfg.fixed (Init.columns [0]).table
    [.insert (.rows [[.int 3], [.int 1]]), .index [0], .insert (.rows [[.int 2], [.int 0]]), .index [0],
     .whereK Option.none [(0, .val (.scalar (.int 0)))]] = true ∧
  WFL Cfg.committed (Init.columns [0]).table
    [.insert (.rows [[.int 3], [.int 1]]), .index [0], .insert (.rows [[.int 2], [.int 0]]),
     .whereK Option.none [(0, .val (.scalar (.int 0)))]] = false := by decide +kernel

/-! ## `match` -/

/-- **match on a homogeneous column** (all cells strings, or all cells numbers; pattern a number or a
metacharacter-free string): the rows `_compare` selects are exactly those whose cell matches under
the cell-by-cell reading `matchCell`.  The hypothesis is forced: see the two counterexamples. -/
theorem where_match_eq_spec (cfg : Cfg) (col : List Cell) (arg : Cell) (harg : isNumber arg = true ∨ isStr arg = true)
    (hh : homogB col = true) (hne : cfg.matchEmpty = true ∨ col ≠ []) :
    compareScan cfg col .mtch (.scalar arg) = scanFilter 0 col (fun c => .ok (matchCell arg c)) := by
  by_cases hpc : cfg.matchPerCell = true
  · simp only [compareScan, matchScan, hpc, if_true]
  cases col with
  | nil =>
    rcases hne with h | h
    · simp only [compareScan, matchScan, hpc, h, if_true, Bool.false_eq_true, if_false, scanFilter]
    · exact absurd rfl h
  | cons c0 rest =>
    simp only [homogB, Bool.or_eq_true, List.all_eq_true] at hh
    exact matchScan_homog cfg (Bool.not_eq_true _ ▸ hpc) 0 c0 rest arg hh

/-- a string column with a `Missing` cell (ragged insert): `match` raises `TypeError`; not with
`fixes/C17-match-per-cell.diff` -/
theorem where_match_missing_counterexample :
    compareScan Cfg.committed [.str [120], .missing] .mtch (.scalar (.str [120])) = .error .typeError ∧
    scanFilter 0 [.str [120], .missing] (fun c => .ok (matchCell (.str [120]) c)) = .ok [0] ∧
    homogB [.str [120], .missing] = false ∧
    compareScan Cfg.fixed [.str [120], .missing] .mtch (.scalar (.str [120])) = .ok [0] := by decide +kernel

/-- the column's first cell decides how every cell is compared: with `Missing` first the cells are
matched as `str(cell)`, and `str(Missing) = 'None'` contains the pattern `on`; not with
`fixes/C17-match-per-cell.diff` -/
theorem where_match_first_cell_counterexample :
    compareScan Cfg.committed [.missing, .str [111, 110]] .mtch (.scalar (.str [111, 110])) = .ok [0, 1] ∧
    scanFilter 0 [.missing, .str [111, 110]] (fun c => .ok (matchCell (.str [111, 110]) c)) = .ok [1] ∧
    homogB [.missing, .str [111, 110]] = false ∧
    compareScan Cfg.fixed [.missing, .str [111, 110]] .mtch (.scalar (.str [111, 110])) = .ok [1] := by decide +kernel

/-- **match, repaired**: with the per-cell decision `match` is `matchCell` on every column, mixed or not -/
theorem where_match_per_cell (cfg : Cfg) (hfix : cfg.matchPerCell = true) (col : List Cell) (arg : Cell) :
    compareScan cfg col .mtch (.scalar arg) = scanFilter 0 col (fun c => .ok (matchCell arg c)) := by
  simp only [compareScan, matchScan, hfix, if_true]

/-- the hypotheses are satisfiable: `'x12y'` contains the number 12 between non-digits, `'121'` does not -/
example : compareScan Cfg.unfixed [.str [120, 49, 50, 121], .str [49, 50, 49]] .mtch (.scalar (.int 12)) = .ok [0] := by
  decide +kernel

/-- equal numbers written differently are different patterns (`f'{arg}'` of the probe of the call,
the dot unescaped): `match 1` finds `'1'`, `'v1'`, `'1.0'`, `'1x0'`; `match 1.0` finds `'1.0'`, `'1x0'` and
neither `'1'` nor `'v1'` - whatever was asked before -/
theorem match_probe_spelling_example :
    [[49], [118, 49], [49, 46, 48], [49, 120, 48], [49, 49]].map (fun s => matchCell (.int 1) (.str s)) = [true, true, true, true, false] ∧
    [[49], [118, 49], [49, 46, 48], [49, 120, 48], [49, 49]].map (fun s => matchCell (.flt 1) (.str s)) = [false, false, true, true, false] ∧
    matchCell (.flt 1) (.int 1) = true ∧ matchCell (.int 1) (.flt 1) = true := by decide +kernel

/-! ## `copy` and shared storage -/

/-- **queries through one object never change another.**  Every table object of a run shows the
column lists of the first one (`copy` keeps the very dict, `where` a `View` of it); `where`,
`groupby`, `copy` and listing, applied to any of them, leave every existing object exactly as it was. -/
theorem copy_independent (cfg : Cfg) (ts : List (Option Table)) (op : TOp) (hop : op.mutates = false)
    (i : Nat) (hi : i < ts.length) : (step cfg ts op).1[i]? = ts[i]? := by
  cases op with
  | insert _ _ => simp [TOp.mutates] at hop
  | index _ _ => simp [TOp.mutates] at hop
  | skip c => cases c <;> simp [step, List.getElem?_append_left hi]
  | peek j => simp only [step]; split <;> rfl
  | whr j p c k =>
    simp only [step]
    split
    · exact List.getElem?_append_left hi
    · split <;> exact List.getElem?_append_left hi
  | groupby j l s =>
    simp only [step]
    split
    · rfl
    · split <;> rfl
  | copy j =>
    simp only [step]
    split <;> exact List.getElem?_append_left hi

/-- (every tree) `insert` / `index` are *not* independent: `t=…index('a'); c=t.copy(); c.index('b')`
reorders what `t` shows while `t` keeps `_indexes=('a',)`, and `c.insert(..)` adds the rows to `t`
(recorded findings C17-F19/F20; `test_copy` pins the sharing: `assertIs(table._data, tcopy._data)`).
`run` = initial table, insert 4 rows, index a, copy, index the copy by b, look at the original. -/
theorem copy_shares_storage_counterexample :
    (run Cfg.fixed (.columns [0, 1])
      [.insert 0 (.rows [[.int 1, .str [122]], [.int 2, .str [120]], [.int 1, .str [121]], [.int 3, .str [119]]]),
       .index 0 [0], .copy 0, .index 1 [1], .peek 0]).getLast? =
      some (.table [[.int 3, .str [119]], [.int 2, .str [120]], [.int 1, .str [121]], [.int 1, .str [122]]] [0, 1] [0]) := by
  decide +kernel


/-! ## several live objects (views / copies of one storage), each with its own `_lohis` cache -/

/-- **one step of the machine with caches keeps the invariant of every fresh live object**: `stepC` runs
`insert` / `index` / `where` / `groupby` / `copy` / listing through ANY of the live objects; each object
carries its own memoised `_lohis` (`None` / `{}` / dict; `where` and `groupby` fill it, `insert` resets it,
`index` recomputes it, `copy` hands it on). `Good cfg o`: if no OTHER object has mutated the shared lists since
`o` was made (`o.fresh`), `o.t` satisfies `Inv` and a truthy cache equals `_calc_lohis()` of the table now.
Operations on stale objects need no side condition and claim nothing (findings C17-F19/F20). -/
theorem multi_inv_step (cfg : Cfg) (hfix : cfg.resortInsert = true) (os : List (Option CObj)) (op : TOp)
    (hg : AllGood cfg os) (hok : opOKC cfg os op = true) : AllGood cfg (stepC cfg os op).1 := by
  -- after `insert` / `index` the others are stale (`allGood_share`)
  cases op with
  | skip creates =>
    simp only [stepC]; split
    · exact hg.append_none
    · exact hg
  | peek i => simp only [stepC]; split <;> exact hg
  | copy i =>
    simp only [stepC]; split
    · exact hg.append_none
    · rename_i o ho
      exact hg.append_some (hg.target ho)
  | groupby i level select =>
    simp only [stepC]; split
    · exact hg
    · rename_i o ho
      split
      · exact hg
      · rename_i l hl
        split <;> exact hg.set_some i ((hg.target ho).fill_cache hl)
  | insert i d =>
    simp only [stepC]; split
    · exact hg
    · rename_i o ho
      simp only [opOKC, ho] at hok
      split
      · rename_i t' c' he
        exact (allGood_share cfg _ os).set_some i ((hg.target ho).insertC hfix hok he)
      · exact hg.set_none i
  | index i cols =>
    simp only [stepC]; split
    · exact hg
    · rename_i o ho
      simp only [opOKC, ho] at hok
      split
      · rename_i t' c' he
        exact (allGood_share cfg _ os).set_some i ((hg.target ho).indexC hfix hok he)
      · exact hg.set_none i
  | whr i pred cmp kws =>
    simp only [stepC]; split
    · exact hg.append_none
    · rename_i o ho
      cases pred with
      | some p =>
        simp only [opOKC, ho] at hok
        simp only
        split
        · rename_i t' he
          exact hg.append_some ((hg.target ho).whereP hfix hok he)
        · exact hg.append_none
      | none =>
        simp only [opOKC, ho] at hok
        simp only
        split
        · exact hg.append_none
        · rename_i l hl
          have hset := hg.set_some i ((hg.target ho).fill_cache hl)
          split
          · rename_i t' he
            exact hset.append_some ((hg.target ho).whereK hfix hok hl he)
          · exact hset.append_none

/-- … hence in every state any interleaved history over several objects reaches -/
theorem multi_inv_reachable (cfg : Cfg) (hfix : cfg.resortInsert = true) (os : List (Option CObj)) (ops : List TOp)
    (hg : AllGood cfg os) (hok : OKC cfg os ops = true) : AllGood cfg (finalC cfg os ops) := by
  induction ops generalizing os with
  | nil => exact hg
  | cons op rest ih =>
    simp only [OKC, Bool.and_eq_true] at hok
    exact ih _ (multi_inv_step cfg hfix os op hg hok.1) hok.2

/-- **indexed query = full scan for every live object after every history over several objects**: start
from one table, run any interleaving of inserts / index / where / where-of-where / groupby / copy through
any of the objects made on the way (`OKC`: the data-only side conditions of `opOK`, asked only of operations
on fresh objects). Then every live object `o` that no other object has mutated under answers `where(**kws)`
— computed with the lohis it has CACHED (`effLohis`, `pwhereWith`) — with exactly the rows of the plain
row-by-row filter of what it shows. -/
theorem where_every_live_object (cfg : Cfg) (hfix : cfg.resortInsert = true) (init : Init) (ops : List TOp)
    (hinv : Inv init.table) (hok : OKC cfg (initC init) ops = true)
    (o : CObj) (hlive : some o ∈ finalC cfg (initC init) ops) (hfresh : o.fresh = true)
    (pos : Option Op) (kws : List (Nat × Arg)) (R rs : List (List Cell)) (hw : whereOK cfg o.t pos kws = true)
    (hR : o.t.rows = .ok R) (hspec : whereS { columns := o.t.columns, rows := R } (kws.map (condOf pos)) = .ok rs) :
    ∃ l t', effLohis cfg o.t o.cache = .ok l ∧ o.t.pwhereWith cfg l pos kws = .ok t' ∧ t'.rows = .ok rs ∧
      t'.columns = o.t.columns ∧ t'.indexes = o.t.indexes := by
  obtain ⟨hi, hc⟩ := multi_inv_reachable cfg hfix _ ops (allGood_init cfg init hinv) hok o hlive hfresh
  obtain ⟨l, hl⟩ := calc_ok_of_inv cfg o.t hi
  obtain ⟨t', a, b, c, d, _⟩ := whereK_step cfg o.t pos kws hi R rs hw hR hspec
  refine ⟨l, t', ?_, ?_, b, c, d⟩
  · rw [effLohis_of_coh cfg o.t o.cache hc]; exact hl
  · rw [← pwhereWith_eq cfg o.t l pos kws hl]; exact a

/-- a history over three objects (table, its copy, a view of the copy; insert through the copy, queries
through all) meets `OKC`, and the copy and the view are fresh at the end while the original is stale -/
example : OKC Cfg.fixed (initC (.columns [0, 1]))
    [.insert 0 (.rows [[.int 2, .str [120]], [.int 1, .str [121]]]), .index 0 [0], .whr 0 Option.none Option.none [(0, .val (.scalar (.int 1)))],
     .copy 0, .insert 2 (.rows [[.int 0, .str [122]]]), .whr 2 Option.none (some .le) [(0, .val (.scalar (.int 1)))],
     .groupby 2 0 .count, .whr 3 Option.none Option.none [(1, .val (.scalar (.str [122])))]] = true ∧
    (finalC Cfg.fixed (initC (.columns [0, 1]))
    [.insert 0 (.rows [[.int 2, .str [120]], [.int 1, .str [121]]]), .index 0 [0], .whr 0 Option.none Option.none [(0, .val (.scalar (.int 1)))],
     .copy 0, .insert 2 (.rows [[.int 0, .str [122]]]), .whr 2 Option.none (some .le) [(0, .val (.scalar (.int 1)))],
     .groupby 2 0 .count, .whr 3 Option.none Option.none [(1, .val (.scalar (.str [122])))]]).map (fun o => o.map (·.fresh)) =
      [some false, some false, some true, some true, some true] := by decide +kernel

/-- queries through a coherent cache are the queries of the cache-free model every earlier theorem is about -/
theorem cached_query_eq (cfg : Cfg) (t : Table) (c : Option Lohis) (hc : Coh cfg t c) (l : Lohis)
    (hl : effLohis cfg t c = .ok l) (pos : Option Op) (kws : List (Nat × Arg)) (level : Nat) (select : Select) :
    t.pwhereWith cfg l pos kws = t.pwhere cfg Option.none pos kws ∧ t.groupbyWith l level select = t.groupby cfg level select := by
  rw [effLohis_of_coh cfg t c hc] at hl
  exact ⟨(pwhereWith_eq cfg t l pos kws hl).symm, (groupbyWith_eq cfg t l level select hl).symm⟩

/-- (every tree) a stale cache answers wrongly — C17-F20 inside the machine with caches: `t` indexed by a
(which fills its cache), copy, insert through the copy; the original's cached lohis do not cover the new
row, `t.where(a=5)` finds nothing although `t` shows the row -/
theorem stale_cache_counterexample :
    (runC Cfg.fixed (.columns [0])
      [.insert 0 (.rows [[.int 1], [.int 2]]), .index 0 [0], .copy 0, .insert 1 (.rows [[.int 5]]),
       .peek 0, .whr 0 Option.none Option.none [(0, .val (.scalar (.int 5)))]]).drop 5 =
      [.table [[.int 1], [.int 2], [.int 5]] [0] [0], .table [] [0] [0]] := by decide +kernel

/-! ## the operator table is the source's -/

/-- **translator obligation**: the operator set of `where(comparison=Literal[…])`, the keys `_compare`
unpacks from `{op: value}`, the operators `where` never bisects (`match`), and for every operator block of
`_compare` the `my_bisect_left/right` calls of its bisect branch, the cell comparison of its scan branch
and the `c is not None` guard — as extracted from coba/results/core.py by `pre_build` (Python `ast`) into
`Generated/C17Ops.lean` on every run — are the model's operator table. -/
theorem ops_table_eq_source :
    Coba.Generated.C17.extracted = true ∧
    Coba.Generated.C17.whereLiteral = Op.all.map Op.sym ∧
    Coba.Generated.C17.unpackKeys = Op.all.map Op.sym ∧
    Coba.Generated.C17.noBisectOps = [Op.sym .mtch] ∧
    Coba.Generated.C17.compareTable = opTable := ⟨rfl, rfl, rfl, rfl, rfl⟩

/-- the bisect calls `opTable` lists for `<`, `<=`, `>=`, `>` are the ones the model's `_compare` makes -/
theorem opTable_bisect_calls (cfg : Cfg) (s : Seq) (lo hi : Nat) (v : Cell) :
    compareBisect cfg s lo hi .lt (.scalar v) = (myBisectLeft cfg s v lo hi).map (fun l => [(lo, l)]) ∧
    compareBisect cfg s lo hi .le (.scalar v) = (myBisectRight cfg s v lo hi).map (fun h => [(lo, h)]) ∧
    compareBisect cfg s lo hi .ge (.scalar v) = (myBisectLeft cfg s v lo hi).map (fun l => [(l, hi)]) ∧
    compareBisect cfg s lo hi .gt (.scalar v) = (myBisectRight cfg s v lo hi).map (fun h => [(h, hi)]) := by
  refine ⟨?_, ?_, ?_, ?_⟩
  · cases h : myBisectLeft cfg s v lo hi <;> simp [compareBisect, h, Except.map, bind, Except.bind, pure, Except.pure]
  · cases h : myBisectRight cfg s v lo hi <;> simp [compareBisect, h, Except.map, bind, Except.bind, pure, Except.pure]
  · cases h : myBisectLeft cfg s v lo hi <;> simp [compareBisect, h, Except.map, bind, Except.bind, pure, Except.pure]
  · cases h : myBisectRight cfg s v lo hi <;> simp [compareBisect, h, Except.map, bind, Except.bind, pure, Except.pure]

/-! ## the comparison `sorted()` and the bisection use -/

/-- **mixed-class TypeError, exactly**: Python's `a < b` on cells raises iff neither side is `Missing` and the
two are not both numbers (int / float together) or both strings (`None` is comparable with nothing, not even itself) -/
theorem pyLt_raises_iff (a b : Cell) :
    pyLt a b = .error .typeError ↔
      (a.key ≠ .missing ∧ b.key ≠ .missing ∧ ¬ (a.key.rank = b.key.rank ∧ a.key.rank ≤ 1)) := by
  rw [← not_or, ← not_or, ← Key.comparable_iff, pyLt]
  cases a.key.comparable b.key <;> simp only [if_true, Bool.false_eq_true, if_false, reduceCtorEq, not_true_eq_false, not_false_eq_true]

/-- **on each comparable class `<` never raises and is a strict total preorder up to `==`**: irreflexive, transitive,
and two cells neither of which is smaller than the other are `==` -/
theorem pyLt_class_order (a b c : Cell) (hab : a.key.rank = b.key.rank) (hbc : b.key.rank = c.key.rank) (hcl : a.key.rank ≤ 1) :
    pyLt a a = .ok false ∧
    (pyLt a b = .ok true → pyLt b c = .ok true → pyLt a c = .ok true) ∧
    (pyLt a b = .ok false → pyLt b a = .ok false → pyEq a b = true) ∧
    (∃ r, pyLt a b = .ok r) := by
  have hb1 : b.key.rank ≤ 1 := hab ▸ hcl
  have cmp : ∀ x y : Cell, x.key.rank = y.key.rank → x.key.rank ≤ 1 → pyLt x y = .ok (x.key.lt y.key) :=
    fun x y h1 h2 => if_pos ((Key.comparable_iff _ _).mpr (Or.inr (Or.inr ⟨h1, h2⟩)))
  rw [cmp a a rfl hcl, cmp a b hab hcl, cmp b a hab.symm hb1, cmp b c hbc hb1, cmp a c (hab.trans hbc) hcl, Key.lt_irrefl]
  simp only [Except.ok.injEq]
  exact ⟨trivial, Key.lt_trans _ _ _, fun h1 h2 => pyEq_of_key_eq (Key.lt_connected _ _ h1 h2), _, rfl⟩

/-- the hypotheses are met by `1`, `1.0`, `2` (one class) -/
example : (Cell.int 1).key.rank = (Cell.flt 1).key.rank ∧ (Cell.flt 1).key.rank = (Cell.int 2).key.rank ∧ (Cell.int 1).key.rank ≤ 1 := by decide


/-! ## `sorted()` as a comparison sort with the raising `<` -/

/-- **`sorted(vs)` as a comparison sort**: a stable insertion sort that only ever asks Python's raising `<` (`pyLt`; a `TypeError`
of any comparison it makes aborts the sort) returns, for EVERY list of cells (`Missing` included), exactly what the model's
`pySorted` says: `TypeError` iff two members at different places are incomparable, otherwise the stable arrangement. -/
theorem sorted_comparison_sort_eq (vs : List Cell) : pySortedE vs = pySorted vs := by
  have := sortE_eq (fun c : Cell => c) vs
  simp only [List.map_id'] at this
  exact this

/-- the same for `sorted(rows, key=k)` on row numbers (what `index` and `_in_index_order` call) -/
theorem sortedBy_comparison_sort_eq (k : Nat → Cell) (xs : List Nat) : pySortedByE k xs = pySortedBy k xs :=
  sortE_eq k xs

/-- **TypeError iff two members are incomparable**: the comparison sort raises exactly when some `a` before some `b`
in the list has `a < b` raise (by `pyLt_raises_iff`: neither is `Missing` and they are not both numbers or both strings) -/
theorem sorted_raises_iff (vs : List Cell) :
    pySortedE vs = .error .typeError ↔ ¬ vs.Pairwise (fun a b => ∃ r, pyLt a b = .ok r) := by
  rw [sorted_comparison_sort_eq, pySorted]
  have hp : vs.Pairwise (fun a b => ∃ r, pyLt a b = .ok r) ↔ allComparable vs = true := by
    rw [allComparable_pairwise]
    apply List.Pairwise.iff
    intro a b
    unfold pyLt
    by_cases hc : a.key.comparable b.key = true <;> simp [hc]
  rw [hp]
  by_cases h : allComparable vs = true <;> simp [h]

/-- the only error a sort can end with is the `TypeError` of a comparison -/
theorem sorted_error_is_typeError (vs : List Cell) (e : Err) (h : pySortedE vs = .error e) : e = .typeError :=
  sortE_err (fun c : Cell => c) vs e h

/-- both branches occur: `[2, Missing, 1.0, 1]` sorts stably to `[1.0, 1, 2, Missing]`; `[1, Missing, 'a']` raises although the two
incomparable members are never neighbours; `[None]` sorts, `[None, None]` raises -/
example : pySortedE [.int 2, .missing, .flt 1, .int 1] = .ok [.flt 1, .int 1, .int 2, .missing] ∧
    pySortedE [.int 1, .missing, .str [97]] = .error .typeError ∧
    pySortedE [.none] = .ok [.none] ∧ pySortedE [.none, .none] = .error .typeError := by decide


/-! ## `View` objects observed separately -/

/-- **`len`, `to_dicts` and column access of any well-formed table or view refine the `Sel` model**: `len(t)` is the number of selected rows,
`t.to_dicts()` is, row by row, the columns zipped with the row the table shows (`rowAt`, the same rows `list(t)` gives: `Table.OK.rows_eq`), and `t[c]` is a
`list` / `SliceView` / `ListView` according to the selection, of that length, listing exactly the selected cells of the stored column, first cell included -/
theorem view_observables (t : Table) (N : Nat) (hok : t.OK N) (hne : t.columns ≠ []) :
    t.len = .ok (t.m N) ∧
    t.toDicts = .ok ((List.range (t.m N)).map (fun i => t.columns.zip (t.rowAt i))) ∧
    ∀ c ∈ t.columns, ∃ o, t.colObs c = .ok o ∧ o.kind = t.sel.kind ∧ o.len = t.m N ∧ o.items = .ok (t.vcol c) ∧
      (0 < t.m N → o.first = .ok (cellAt (t.vcol c) 0)) := by
  have hd : t.data ≠ [] := by
    cases hc : t.columns with
    | nil => exact absurd hc hne
    | cons c _ =>
      obtain ⟨b, hb⟩ := hok.cols c (by simp [hc])
      intro hnil
      simp [lookupCol, hnil] at hb
  refine ⟨hok.len_eq hd, hok.toDicts_eq hne, ?_⟩
  intro c hc
  obtain ⟨b, hb⟩ := hok.cols c hc
  obtain ⟨e1, sh⟩ := hok.col_shows hb
  have hl := hok.vcol_len hb
  refine ⟨{ kind := t.sel.kind, len := Seq.len { base := b, sel := t.sel }, items := Seq.toList { base := b, sel := t.sel },
            first := Seq.get { base := b, sel := t.sel } 0, last := Seq.getLast { base := b, sel := t.sel } },
          by simp only [Table.colObs, e1], rfl, ?_, sh.toList, ?_⟩
  · show Seq.len { base := b, sel := t.sel } = t.m N
    rw [sh.len, hl]
  · intro hpos
    exact sh.get 0 (by rw [hl]; exact hpos)

/-- **view of a view** (what `where` on a where-result builds, `_try_slice` included): through an increasing selection of row numbers of ANY table or view,
`len` is the number of selected rows and `to_dicts` gives exactly the selected rows' dicts of the parent, in order -/
theorem view_of_view_observables (t : Table) (N : Nat) (hok : t.OK N) (hne : t.columns ≠ []) (select : List Nat)
    (hinc : StrictInc select) (hlt : ∀ i ∈ select, i < t.m N) :
    ∃ sel', composeSel t.sel select = .ok sel' ∧
      Table.len { t with sel := sel' } = .ok select.length ∧
      Table.toDicts { t with sel := sel' } = .ok (select.map (fun i => t.columns.zip (t.rowAt i))) := by
  obtain ⟨sel', e, hv⟩ := hok.view select hinc hlt
  obtain ⟨h1, h2, _⟩ := view_observables { t with sel := sel' } N hv.ok hne
  refine ⟨sel', e, by rw [h1, hv.m_eq], ?_⟩
  rw [h2]
  simpa only [List.map_map, Function.comp_def] using congrArg (fun rs => Except.ok (ε := Err) (rs.map (t.columns.zip ·))) (hv.rows hok)

/-- a ListView of a SliceView: rows 1 and 3 of the slice `[1,5)` of a five-row table are stored rows 2 and 4 -/
example : (composeSel (.slice 1 5) [1, 3] = .ok (.list [2, 4])) ∧ (composeSel (.slice 1 5) [1, 2] = .ok (.slice 2 4)) ∧
    Table.toDicts { columns := [0], data := [(0, [.int 5, .int 6, .int 7, .int 8, .int 9])], sel := .list [2, 4], indexes := [] }
      = .ok [[(0, .int 7)], [(0, .int 9)]] := by decide


/-! ## the sort calls of `class Table`, tied to the source -/

/-- **translator obligation**: every `sorted(...)` / in-place `.sort(...)` call inside `class Table` — the method it
stands in, what it sorts, its `key=`, and whether `reverse=` or anything else is given — as extracted from
coba/results/core.py by `pre_build` (Python `ast`) into `Generated/C17Sorts.lean` on every run, is the list of
sorts the model makes (`sortSitesModel`): `insert` (new column names), `_in_index_order` (last index column of
the new rows), `index` (a segment of row numbers by the cell of the current column), `where` (the row numbers
of several keywords), `_compare` `in` and `!in` (the probes); all ascending, no other key, none in place. -/
theorem sort_sites_eq_source :
    Coba.Generated.C17.sortSitesExtracted = true ∧
    Coba.Generated.C17.sortSites = sortSitesModel := ⟨rfl, rfl⟩

/-- at those sites the model calls the ascending `pySorted` / `pySortedBy` with exactly that key — which by
`sorted_comparison_sort_eq` / `sortedBy_comparison_sort_eq` is the comparison sort with Python's raising `<` -/
theorem sort_sites_model_calls (cfg : Cfg) (s : Seq) (lo hi : Nat) (vs : List Cell) (c : List Cell)
    (k : Nat → Cell) (rest : List (Nat × Nat)) (perm : List Nat) :
    (sortedFrom c lo hi = match pySortedBy (cellAt c) (List.range' lo (hi - lo)) with
        | .error _ => .cannot
        | .ok p => if p = List.range' lo (hi - lo) then .le else .gt) ∧
    (sortSegments k ((lo, hi) :: rest) perm =
        (pySortedBy k ((perm.drop lo).take (hi - lo))).bind
          (fun seg => sortSegments k rest (perm.take lo ++ seg ++ perm.drop hi))) ∧
    (compareBisect cfg s lo hi .isin (.coll vs) =
        (pySorted vs).bind (fun vs0 =>
          (if cfg.dedupIn then dedupAdj vs0 else vs0).mapM (fun v => do
            let l ← myBisectLeft cfg s v lo hi; let h ← myBisectRight cfg s v lo hi; pure (l, h)))) ∧
    (compareBisect cfg s lo hi .notin (.coll vs) =
        (pySorted vs).bind (fun vs' =>
          (notinPairs cfg vs').mapM (fun (p : Option Cell × Option Cell) => do
            let l ← match p.1 with | Option.none => pure lo | some v0 => myBisectRight cfg s v0 lo hi
            let h ← match p.2 with | Option.none => pure hi | some v1 => myBisectLeft cfg s v1 lo hi
            pure (l, h)))) :=
  ⟨rfl, rfl, rfl, rfl⟩

/-! ## finding C17-F21 — a `None` cell next to `Missing` cells in an index column -/

/-- `Table(columns=[0,1]).index(0,1).insert([[None,2],[Missing,1]])` -/
def insertNoneMissing (cfg : Cfg) : Except Err Table :=
  (({ columns := [0, 1], data := [(0, []), (1, [])], sel := .all, indexes := [] } : Table).index cfg [0, 1]).bind
    (fun t => t.insert cfg (.rows [[.none, .int 2], [.missing, .int 1]]))

/-- what that table claims as its index, what it shows, and what `where(c=1)` on it returns -/
def insertNoneMissingObs (cfg : Cfg) : List Nat × Except Err (List (List Cell)) × Except Err (List (List Cell)) :=
  match insertNoneMissing cfg with
  | .ok t => (t.indexes, t.rows, rowsOf (t.pwhere cfg Option.none Option.none [(1, .val (.scalar (.int 1)))]))
  | .error e => ([], .error e, .error e)

/-- **the hypothesis "no `None` in an index column" (`insertOK` / `Indexed`) of `insert_keeps_index_order`,
`where_reachable_eq_scan` is forced, also in the tree with every repair** (C17-F21): `_in_index_order` judges the new
rows with `<` only and `None < Missing` is `True` (`MissingType.__gt__`), so the index `(0,1)` is kept with the rows
`(None,2)`, `(Missing,1)`; `None == Missing` puts both into one group of column 0, inside which column 1 is not
sorted, and the bisecting `where(c=1)` returns both rows where the plain filter keeps only `(Missing,1)`.
Replayed on the real code by the known case C17-F21. -/
theorem insert_none_next_to_missing_counterexample :
    insertNoneMissingObs Cfg.fixed
      = ([0, 1], .ok [[.none, .int 2], [.missing, .int 1]], .ok [[.none, .int 2], [.missing, .int 1]]) ∧
    whereS { columns := [0, 1], rows := [[.none, .int 2], [.missing, .int 1]] }
      [condOf Option.none (1, .val (.scalar (.int 1)))] = .ok [[.missing, .int 1]] ∧
    insertOK Cfg.fixed { columns := [0, 1], data := [(0, []), (1, [])], sel := .all, indexes := [0, 1] }
      (.rows [[.none, .int 2], [.missing, .int 1]]) = false := by decide +kernel

end Coba.C17
