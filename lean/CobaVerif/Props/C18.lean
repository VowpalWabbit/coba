/-
C18 — Analysis compares only complete, equal-length runs and averages correctly.

Reading of the statement (see `notes/C18.md`):
* `whereFinS`   — "keeps exactly those pairing groups that have one evaluation for every compared level, drops or
                   truncates evaluations to the requested length, changes no remaining value, leaves the four
                   tables mutually consistent";
* `rawLearnersS`— "for every learner and x exactly the per-environment progressive, windowed or final averages of y
                   that a direct computation from the interaction rows gives";
* `movingAverageS` — the textbook definition for every span and weighting.
`filterFin true` is the code with `fixes/C18-group-p-duplicate-level.diff`; `filterFin false` the unchanged keep rule.
Both group by equality of the key (the code with `fixes/C18-partial-order-grouping.diff`; identical to the unchanged
code for totally ordered or unorderable keys — finding C18-F2 is about frozenset-like keys only).
Both fixes and the one of C18-F3 are committed in /repo (`known/C18.json`): "unchanged" below means coba before them.
-/
import CobaVerif.Lemmas.C18
import CobaVerif.Lemmas.C18Best
import CobaVerif.Lemmas.C18Contrast
import CobaVerif.Lemmas.C18PySorted
import CobaVerif.Generated.C18Modes
import CobaVerif.Generated.C18Defaults
import Mathlib.Data.Rat.Floor

namespace Coba.C18

/-- Wherever the textbook moving average is defined (no window of total weight 0) `moving_average` returns it:
every span (`None`, 0, 1, …, ≥ len), unweighted, weighted and exponential. -/
theorem moving_average_eq_spec (vs : List Rat) (span : Option Nat) (w : Weights) (out : List Rat)
    (h : movingAverageS vs span w = .ok out) : movingAverage vs span w = .ok out := by
  cases w with
  | none => rw [movingAverage_none_eq]; exact h
  | exp => rw [movingAverage_exp_eq]; exact h
  | ws wl =>
    by_cases h1 : span = some 1
    · subst h1; exact movingAverage_ws_span1 vs wl out h
    · rw [movingAverage_ws_eq vs wl span h1]; exact h

/-- Outside the shortcut `span == 1` with explicit weights (which returns the values even where a weight is 0 and the
textbook divides by it) the two agree as partial functions, error (`ZeroDivisionError`, the `assert`) included. -/
theorem moving_average_eq_spec_full (vs : List Rat) (span : Option Nat) (w : Weights)
    (h : span ≠ some 1 ∨ w = .none ∨ w = .exp) : movingAverage vs span w = movingAverageS vs span w := by
  cases w with
  | none => exact movingAverage_none_eq vs span
  | exp => exact movingAverage_exp_eq vs span
  | ws wl =>
    rcases h with h | h | h
    · exact movingAverage_ws_eq vs wl span h
    · cases h
    · cases h

example : movingAverageS [1, 2, 3, 5] (some 2) .none = .ok [1, 3/2, 5/2, 4] := by decide +kernel

/-- Why the harness may compare floats exactly: the window sums — by the telescoping behind `moving_average_eq_spec`
the running sums the accumulate/tee implementation forms — of inputs `m/2^k`, `|m| ≤ B`, are `m'/2^k` with `|m'| ≤ len·B`.
For `2^k·len·B < 2^53` these, their sums and differences are exact in binary64, so the only rounding in `moving_average` (and in `mean`) is
the final division. -/
theorem window_sum_dyadic (k B : Nat) (vs : List Rat) (h : ∀ x ∈ vs, DyadicBdd k B x) (span : Option Nat) (i : Nat) :
    DyadicBdd k (vs.length * B) (sumL (window span i vs)) := by
  obtain ⟨m, hm, hb⟩ := sumL_dyadic k B (window span i vs) (fun x hx => h x (mem_window span i vs x hx))
  refine ⟨m, hm, hb.trans ?_⟩
  exact Nat.mul_le_mul_right B (length_window_le span i vs)

/-- `Result._remove(ids, n)`: the three nested bisects with the moving cursor select exactly the rows whose id triple is
not in `ids`.  `cut` is the `n` argument; that every listed evaluation has at most `cut` rows holds at both call sites. -/
theorem remove_eq_filter (rows : List IRow) (ids : List Triple) (cut : Nat) (hs : SortedIds rows) (hnd : ids.Nodup)
    (hpres : ∀ t ∈ ids, t ∈ rows.map IRow.triple)
    (hcut : cut = 0 ∨ ∀ t ∈ ids, (rows.map IRow.triple).count t ≤ cut) :
    ∃ sel, remove (rows.map IRow.triple) ids cut = .ok sel ∧
      sel = (List.range rows.length).filter (fun i => (rows[i]?).any (fun r => !(ids.contains r.triple))) ∧
      selectRows rows sel = rows.filter (fun r => !(ids.contains r.triple)) := by
  refine ⟨_, remove_eq _ ids cut hs.triples hnd hpres hcut, ?_, ?_⟩
  · rw [List.length_map, keepIdx_rows]
  · rw [List.length_map, keepIdx_rows]
    exact selectRows_filter rows _

/-- The repaired keep rule is the property's: a group is kept iff it has exactly one evaluation at every
compared level. -/
theorem group_keep_rule (levels : List Key) (hl : levels.Nodup) (g : List Idx) (hsub : ∀ i ∈ g, i.l ∈ levels) :
    groupKeep true levels.length g = true ↔ ∀ lv ∈ levels, (g.filter (fun i => i.l = lv)).length = 1 :=
  groupKeep_fixed_iff levels hl g hsub

/-- `_group_p` (repaired): exactly the rows of the complete `p`-groups survive, each as it was, and exactly
the parameter rows they refer to. -/
theorem group_p_spec (r : Result) (lc pc : List Col) (ix : List Idx) (hs : SortedIds r.ints) (hu : UniqueIds r)
    (hix : mkIndexes r lc pc ((runs r.ints).map (·.1)) = .ok ix) :
    groupP true r lc pc = .ok (restrictTables r (groupPIntsS r.ints ix)) :=
  groupP_eq r lc pc ix hs hix

/-- The unchanged `_group_p` (`len(group) == n_levels`) does the same *provided* no level occurs twice inside a
`p`-group — the forced hypothesis. -/
theorem group_p_spec_partial (r : Result) (lc pc : List Col)
    (hnd : ∀ ix, mkIndexes r lc pc ((runs r.ints).map (·.1)) = .ok ix → ∀ g ∈ groupsOf ix, (g.map (·.l)).Nodup) :
    groupP false r lc pc = groupP true r lc pc := by
  cases hix : mkIndexes r lc pc ((runs r.ints).map (·.1)) with
  | error x => rw [groupP_of_indexes_error false r lc pc x hix, groupP_of_indexes_error true r lc pc x hix]
  | ok ix =>
    obtain ⟨hk, hd⟩ := keptT_legacy ix (hnd ix hix)
    rw [groupP_of_indexes false r lc pc ix hix, groupP_of_indexes true r lc pc ix hix, hk, hd]

/-- The witness of C18-F1: environments 0,1; learners 0,1; evaluators 0,1; environment 0 was evaluated for learner 0
under both evaluators and never for learner 1. -/
def cexResult : Result :=
  { envs := [⟨0, [0]⟩, ⟨1, [0]⟩], lrns := [⟨0, []⟩, ⟨1, []⟩], evals := [⟨0, []⟩, ⟨1, []⟩],
    ints := [⟨0, 0, 0, 1, 1⟩, ⟨0, 0, 1, 1, 3⟩, ⟨1, 1, 0, 1, 2⟩] }

example : SortedIds cexResult.ints ∧ UniqueIds cexResult ∧ IdxWF cexResult.ints ∧ Consistent cexResult := by
  unfold Consistent; decide

/-- Without the hypothesis the unchanged rule is wrong: on `cexResult` with `l='learner_id'`, `p='environment_id'`
it keeps environment 0 (two evaluations = two levels) although learner 1 is missing there; the property
(`whereFinS`) keeps nothing. -/
theorem group_p_duplicate_counterexample :
    filterFin false cexResult none (some ([.lid], [.eid])) =
        .ok { envs := [⟨0, [0]⟩], lrns := [⟨0, []⟩], evals := [⟨0, []⟩, ⟨1, []⟩],
              ints := [⟨0, 0, 0, 1, 1⟩, ⟨0, 0, 1, 1, 3⟩] } ∧
      whereFinS cexResult none (some ([.lid], [.eid])) = .ok { envs := [], lrns := [], evals := [], ints := [] } ∧
      filterFin true cexResult none (some ([.lid], [.eid])) = .ok { envs := [], lrns := [], evals := [], ints := [] } := by
  refine ⟨?_, ?_, ?_⟩ <;> decide +kernel

/-- `_global_n(n)`: evaluations shorter than `n` are dropped, the others cut to their first `n` rows
(`'min'`: all cut to the shortest length), nothing else changes, parameter rows follow. -/
theorem global_n_spec (r : Result) (n : NSpec) (hn : n ≠ .k 0) (hs : SortedIds r.ints) (hu : UniqueIds r)
    (hw : IdxWF r.ints) (hrefs : RefsPresent r) (hall : AllReferenced r) :
    globalN r n = .ok (restrictTables r (globalNIntsS r.ints n)) :=
  globalN_eq r n hn hs hw hrefs hall

/-- after `n='min'` every surviving evaluation has the same length -/
theorem global_n_equal_lengths (ints : List IRow) (m : Nat) (ms : List Nat)
    (h : (runs ints).map (fun g => g.2.length) = m :: ms) :
    ∀ g ∈ runs ints, (g.2.take (minOf m ms)).length = minOf m ms := by
  intro g hg
  have : g.2.length ∈ m :: ms := by rw [← h]; exact List.mem_map.mpr ⟨g, hg, rfl⟩
  rw [List.length_take]
  exact Nat.min_eq_left (minOf_le m ms _ this)

/-- `where_fin(n,l,p)` (repaired) is exactly its specification, for every well-formed Result, every choice of
`l`/`p` columns and every `n`.  (`lp = none`, i.e. `l = p = None`, cannot drop unreferenced parameter rows, so
there the input must already have none.) -/
theorem filter_fin_eq_spec (r : Result) (n : Option NSpec) (lp : Option (List Col × List Col))
    (hs : SortedIds r.ints) (hu : UniqueIds r) (hw : IdxWF r.ints) (hrefs : RefsPresent r)
    (hall : lp = none → AllReferenced r) :
    filterFin true r n lp = whereFinS r n lp :=
  filterFin_eq_spec r n lp hs hw hrefs hall

/-- the property's last clause: the four tables of the result are mutually consistent -/
theorem filter_fin_consistent (r r' : Result) (n : Option NSpec) (lp : Option (List Col × List Col))
    (hs : SortedIds r.ints) (hu : UniqueIds r) (hw : IdxWF r.ints) (hrefs : RefsPresent r)
    (hall : lp = none → AllReferenced r) (h : filterFin true r n lp = .ok r') : Consistent r' := by
  rw [filterFin_eq_spec r n lp hs hw hrefs hall] at h
  exact (whereFinS_restr r r' n lp hs h).consistent hrefs

/-- no remaining value changes: with or without the repair, on any input whatsoever, every row of every
output table is a row of the corresponding input table -/
theorem values_unchanged (fixed : Bool) (r r' : Result) (n : Option NSpec) (lp : Option (List Col × List Col))
    (h : filterFin fixed r n lp = .ok r') :
    (∀ x ∈ r'.ints, x ∈ r.ints) ∧ (∀ p ∈ r'.envs, p ∈ r.envs) ∧ (∀ p ∈ r'.lrns, p ∈ r.lrns) ∧
      (∀ p ∈ r'.evals, p ∈ r.evals) := by
  have key : ∀ r1 : Result, RowsOf r1 r → lengthStep n (.ok r1) (globalN r1) = .ok r' → RowsOf r' r := by
    intro r1 h1 h
    rcases lengthStep_cases n with e | ⟨m, _, e⟩ <;> rw [e] at h
    · cases h; exact h1
    · exact (globalN_rows r1 r' m h).trans h1
  rcases lp with _ | ⟨lc, pc⟩
  · rw [filterFin_none] at h
    exact key r (RowsOf.refl r) h
  · rw [filterFin_some] at h
    cases hg : groupP fixed r lc pc with
    | error x => rw [hg] at h; cases h
    | ok r1 =>
      rw [hg] at h
      exact key r1 (groupP_rows fixed r r1 lc pc hg) h

/-- … and on well-formed input order and multiplicity are kept too (each output table is a sublist) -/
theorem values_unchanged_sublist (r r' : Result) (n : Option NSpec) (lp : Option (List Col × List Col))
    (hs : SortedIds r.ints) (hu : UniqueIds r) (hw : IdxWF r.ints) (hrefs : RefsPresent r)
    (hall : lp = none → AllReferenced r) (h : filterFin true r n lp = .ok r') :
    r'.ints.Sublist r.ints ∧ r'.envs.Sublist r.envs ∧ r'.lrns.Sublist r.lrns ∧ r'.evals.Sublist r.evals := by
  rw [filterFin_eq_spec r n lp hs hw hrefs hall] at h
  exact (whereFinS_restr r r' n lp hs h).sublist

/-- The witness of C18-F3: environment 0 was evaluated for learner 0 (2 interactions) and learner 1 (1 interaction),
environment 1 for both learners with 2 interactions. -/
def cexDrop : Result :=
  { envs := [⟨0, []⟩, ⟨1, []⟩], lrns := [⟨0, []⟩, ⟨1, []⟩], evals := [⟨0, []⟩],
    ints := [⟨0, 0, 0, 1, 1⟩, ⟨0, 0, 0, 2, 1⟩, ⟨0, 1, 0, 1, 1⟩, ⟨1, 0, 0, 1, 1⟩, ⟨1, 0, 0, 2, 1⟩, ⟨1, 1, 0, 1, 1⟩, ⟨1, 1, 0, 2, 1⟩] }

example : WF cexDrop ∧ AllReferenced cexDrop := by decide

/-- `where_fin(2,'learner_id','environment_id')` in the order coba had before commit 89c689f (pairing, *then* dropping the
evaluations shorter than 2) returns environment 0 with learner 0 only: the result is not "a Result where an `l` exists for every `p`"
(docstring of `where_fin`); with the length step first (`filterFinD`) only environment 1 stays and the pairing
is complete. -/
theorem where_fin_length_drop_counterexample :
    (∃ r', filterFin true cexDrop (some (.k 2)) (some ([.lid], [.eid])) = .ok r' ∧
        pairingComplete r' [.lid] [.eid] = .ok false) ∧
      (∃ r', filterFinD cexDrop (some (.k 2)) (some ([.lid], [.eid])) = .ok r' ∧
        pairingComplete r' [.lid] [.eid] = .ok true) := by
  refine ⟨⟨{ envs := [⟨0, []⟩, ⟨1, []⟩], lrns := [⟨0, []⟩, ⟨1, []⟩], evals := [⟨0, []⟩],
             ints := [⟨0, 0, 0, 1, 1⟩, ⟨0, 0, 0, 2, 1⟩, ⟨1, 0, 0, 1, 1⟩, ⟨1, 0, 0, 2, 1⟩, ⟨1, 1, 0, 1, 1⟩, ⟨1, 1, 0, 2, 1⟩] }, ?_, ?_⟩,
    ⟨{ envs := [⟨1, []⟩], lrns := [⟨0, []⟩, ⟨1, []⟩], evals := [⟨0, []⟩],
       ints := [⟨1, 0, 0, 1, 1⟩, ⟨1, 0, 0, 2, 1⟩, ⟨1, 1, 0, 1, 1⟩, ⟨1, 1, 0, 2, 1⟩] }, ?_, ?_⟩⟩ <;> decide +kernel

/-- With `fixes/C18-length-drop-before-pairing.diff` (`filterFinD`) `where_fin` meets the joint contract
`whereFinJ`: evaluations shorter than `n` go first, then exactly the complete pairing groups of the rest stay. -/
theorem filter_fin_d_eq_spec (r : Result) (n : Option NSpec) (lp : Option (List Col × List Col))
    (hwf : WF r) (hall : AllReferenced r) : filterFinD r n lp = whereFinJ r n lp := by
  have base : filterFin true r n lp = whereFinS r n lp :=
    filterFin_eq_spec_of_wf r n lp hwf (fun _ => hall)
  match n with
  | none => exact base
  | some .min => exact base
  | some (.k 0) => exact base
  | some (.k (m + 1)) =>
    -- two calls of `where_fin` on either side, and the first returns a well-formed Result for the second
    rw [filterFinD_succ, filterFin_eq_spec_of_wf r _ none hwf (fun _ => hall)]
    simp only [whereFinJ]
    cases h : whereFinS r (some (.k (m + 1))) none with
    | error x => rfl
    | ok r1 =>
      obtain ⟨hwf1, hall1⟩ := whereFinS_wf r r1 _ none hwf h
      exact filterFin_eq_spec_of_wf r1 none lp hwf1 (fun _ => hall1)

/-- After the pairing step every pairing group of the result holds exactly one evaluation for every level of the
result — duplicate `(l,p)` cells (groups that are too large) and several evaluators included. -/
theorem where_fin_pairing_complete (r r' : Result) (lc pc : List Col) (hwf : WF r)
    (h : filterFin true r none (some (lc, pc)) = .ok r') : pairingComplete r' lc pc = .ok true := by
  rw [filterFin_eq_spec_of_wf r none (some (lc, pc)) hwf (by intro h; cases h)] at h
  exact whereFinS_pairingComplete r r' lc pc hwf.sorted h

example : ∃ r', filterFin true cexDrop none (some ([.lid], [.eid])) = .ok r' ∧ pairingComplete r' [.lid] [.eid] = .ok true :=
  ⟨cexDrop, by decide +kernel, by decide +kernel⟩

/-- `where_fin(n=k,l,p)` in the repaired order (`filterFinD`, the code since the C18-F3 fix) returns "a Result where an
`l` exists for every `p` and all `p` have `n` interactions": complete pairing *and* every evaluation exactly `k` long
(the general statement behind `where_fin_length_drop_counterexample`). -/
theorem where_fin_d_complete (r r' : Result) (m : Nat) (lc pc : List Col) (hwf : WF r) (hall : AllReferenced r)
    (h : filterFinD r (some (.k (m + 1))) (some (lc, pc)) = .ok r') :
    pairingComplete r' lc pc = .ok true ∧ ∀ g ∈ runs r'.ints, g.2.length = m + 1 := by
  rw [filter_fin_d_eq_spec r _ _ hwf hall] at h
  exact whereFinJ_complete r r' m lc pc hwf h

/-- The inner loop of `filter_best` (`max_val, k, d = -inf, [], []; … if mean_val < max_val …`) keeps exactly the
evaluations of the level `bestLevelS` names: a level whose mean no other level of the cell exceeds — among several
the last in ascending order of the level. -/
theorem pick_best_eq_spec (cands : List (Key × Rat × List Triple)) :
    (pickBest cands none [] []).1 = ((bestLevelS cands).map (·.2.2)).getD [] :=
  pickBest_eq_spec cands

/-- the kept level exists for a non-empty cell and has the best mean of its cell -/
theorem best_level_is_max (cands : List (Key × Rat × List Triple)) (h : cands ≠ []) :
    ∃ c, bestLevelS cands = some c ∧ c ∈ cands ∧ ∀ c' ∈ cands, c'.2.1 ≤ c.2.1 := by
  obtain ⟨c, hc⟩ := bestLevelS_some cands h
  exact ⟨c, hc, bestLevelS_mem cands c hc⟩

/-- `where_best(l,p,y,n,full_l,full_p)` = its specification: among the complete `full_p` groups, in every `(p,l)` cell
exactly the evaluations of the best `full_l` level stay, untouched, and exactly the parameter rows they refer to. -/
theorem where_best_spec (r : Result) (lc pc : List Col) (n : Option Nat) (fl fp : List Col) (hwf : WF r) :
    filterBest r lc pc n fl fp = whereBestS r lc pc n fl fp :=
  filterBestW_eq_spec sortLv r lc pc n fl fp hwf

/-- The same for every walking order `lv` of the levels of a cell — in particular `ordLv ord`, the first-occurrence
order of the `groups` list when `sorted(groups)` raised on key values of mixed type. -/
theorem where_best_order_spec (lv : List BEnt → List Key) (r : Result) (lc pc : List Col) (n : Option Nat) (fl fp : List Col)
    (hwf : WF r) : filterBestW lv r lc pc n fl fp = whereBestSW lv r lc pc n fl fp :=
  filterBestW_eq_spec lv r lc pc n fl fp hwf

/-- The iteration order is not fixed (sorted, or table order when the keys cannot be sorted), the kept set is: two
walking orders that list the same levels per cell keep the same evaluations whenever every cell has a single level of
best mean (`UniqueMax`; with ties the later level in walking order wins, `pick_best_eq_spec`). -/
theorem where_best_order_independent (lv1 lv2 : List BEnt → List Key) (es : List BEnt)
    (hperm : ∀ e ∈ es, (lv1 (cellOfEnt es e)).Perm (lv2 (cellOfEnt es e)))
    (hu : ∀ e ∈ es, UniqueMax (levelScoresW lv1 (cellOfEnt es e))) :
    keptByBestSW lv1 es = keptByBestSW lv2 es := by
  unfold keptByBestSW
  congr 1
  apply List.filter_congr
  intro e he
  rw [bestLevelS_perm _ _ (levelScoresW_perm lv1 lv2 _ (hperm e he)) (hu e he)]

/-- two entries of one cell, levels `[0]` (mean 1) and `[1]` (mean 2): the ascending order and the table order
`[(0,1,0),(0,0,0)]` list the same levels and the best mean is attained once -/
example :
    let es : List BEnt := [⟨[0], [0], [0], (0, 0, 0), 1⟩, ⟨[0], [0], [1], (0, 1, 0), 2⟩]
    (∀ e ∈ es, (sortLv (cellOfEnt es e)).Perm (ordLv [(0, 1, 0), (0, 0, 0)] (cellOfEnt es e))) ∧
      keptByBestSW sortLv es = [(0, 1, 0)] ∧ keptByBestSW (ordLv [(0, 1, 0), (0, 0, 0)]) es = [(0, 1, 0)] := by
  decide +kernel

/-- its result is again well-formed with mutually consistent tables -/
theorem where_best_preserves_wf (r r' : Result) (lc pc : List Col) (n : Option Nat) (fl fp : List Col) (hwf : WF r)
    (h : filterBest r lc pc n fl fp = .ok r') : WF r' ∧ Consistent r' := by
  rw [where_best_spec r lc pc n fl fp hwf] at h
  obtain ⟨h1, h2⟩ := whereBestS_wf r r' lc pc n fl fp hwf h
  exact ⟨h1, h1.refs, h2⟩

/-! ### chains (the "histories" of the quantifier) -/

/-- what `where_fin` returns is again well-formed, with every parameter row referenced — so the hypotheses of
`filter_fin_eq_spec` hold again for the next call of a chain -/
theorem filter_fin_preserves_wf (r r' : Result) (n : Option NSpec) (lp : Option (List Col × List Col)) (hwf : WF r)
    (hall : lp = none → AllReferenced r) (h : filterFin true r n lp = .ok r') : WF r' ∧ AllReferenced r' := by
  rw [filterFin_eq_spec_of_wf r n lp hwf hall] at h
  exact whereFinS_wf r r' n lp hwf h

/-- `where(col=value | [values])` keeps a Result well-formed and fully referenced -/
theorem where_preserves_wf (r : Result) (tb : Tbl) (j : Option Nat) (vals : List Int) (hwf : WF r)
    (hall : AllReferenced r) : WF (whereTbl r tb j vals) ∧ AllReferenced (whereTbl r tb j vals) :=
  whereTbl_wf r tb j vals hwf hall

/-- every chain `r.where_fin(…).where(…).where_best(…).where_fin(…)…` of the (repaired) code equals the same chain
of specifications -/
theorem chain_eq_spec (ss : List Step) (r : Result) (hwf : WF r) (hall : AllReferenced r) :
    runChain true ss r = runChainS ss r := by
  induction ss generalizing r with
  | nil => rfl
  | cons st ss ih =>
    cases st with
    | fin n lp =>
      simp only [runChain, runChainS]
      rw [filterFin_eq_spec_of_wf r n lp hwf (fun _ => hall)]
      cases h : whereFinS r n lp with
      | error e => rfl
      | ok r' =>
        simp only
        obtain ⟨h1, h2⟩ := whereFinS_wf r r' n lp hwf h
        exact ih r' h1 h2
    | wher tb j vals =>
      simp only [runChain, runChainS]
      obtain ⟨h1, h2⟩ := whereTbl_wf r tb j vals hwf hall
      exact ih _ h1 h2
    | best lc pc n fl fp =>
      simp only [runChain, runChainS]
      rw [where_best_spec r lc pc n fl fp hwf]
      cases h : whereBestS r lc pc n fl fp with
      | error e => rfl
      | ok r' =>
        simp only
        obtain ⟨h1, h2⟩ := whereBestS_wf r r' lc pc n fl fp hwf h
        exact ih r' h1 h2

example : WF cexResult ∧ AllReferenced cexResult := by decide

/-- `_grouped_ys` — the insertion-ordered dict of lists filled from `moving_average` / `mean` — reports for every
`(l, x)` exactly the list of directly computed averages (progressive, windowed, or final), on any Result. -/
theorem grouped_ys_eq_spec (r : Result) (lc : List Col) (x : XSpec) (span : Option Nat) :
    groupedYs r lc x span = groupedYsS r lc x span := by
  unfold groupedYs groupedYsS
  rw [allEntries_eq r lc x span _ (fun g hg => (runs_spec r.ints g hg).1)]
  cases allEntriesS r lc x span (runs r.ints) with
  | error e => rfl
  | ok es => simp only; rw [insertAll_nil]

/-- `raw_learners(x,y,l,p,span)` = `where_fin` as specified (to the minimal length when `x='index'`) followed by
the direct averages; `CobaException` exactly when nothing is left. -/
theorem raw_learners_eq_spec (r : Result) (x : XSpec) (lc : List Col) (pc : Option (List Col)) (span : Option Nat)
    (hs : SortedIds r.ints) (hu : UniqueIds r) (hw : IdxWF r.ints) (hrefs : RefsPresent r) :
    rawLearners true r x lc pc span = rawLearnersS r x lc pc span := by
  unfold rawLearners rawLearnersS
  split
  · rfl
  · cases pc with
    | none => exact grouped_ys_eq_spec r lc x span
    | some pc =>
      simp only
      rw [filterFin_eq_spec r _ (some (lc, pc)) hs hw hrefs (by intro h; cases h)]
      cases whereFinS r (if x = .index then some .min else none) (some (lc, pc)) with
      | error e => rfl
      | ok fin =>
        simp only
        split
        · rfl
        · exact grouped_ys_eq_spec fin lc x span

/-- `raw_contrast(l1,l2,x,y,l,p,span)` with any number of labels on each side: the label selections, `_grouped_ys(p,x,card='S')` on each, the pairing
by `p` (`zip` for `x='index'`, `product` otherwise) and the grouping by x — fed with the values the code computes
(`moving_average`, `mean(Y[-span:])`, `Y[-1]`) — equals the same pairing of the directly computed averages; the three
`CobaException`s included. -/
theorem raw_contrast_eq_spec (r : Result) (sels1 sels2 : List (List (Tbl × Option Nat × Int))) (pc : List Col)
    (x : XSpec) (span : Option Nat) (strX : Bool) :
    rawContrast r sels1 sels2 pc x span strX = rawContrastS r sels1 sels2 pc x span strX :=
  rawContrastWith_eq r sels1 sels2 pc x span strX

/-- the `card='S'` dict never overwrites when no two entries share `(p, x)` — i.e. when every pairing value has one
evaluation on each side (what `where_fin(l,p)` establishes): then each side's values are simply its entries -/
theorem contrast_side_no_overwrite (es : List ((Key × Key) × Rat)) (h : (es.map (·.1)).Nodup) : lastWins [] es = es :=
  lastWins_nodup es [] (by simpa using h)

/-- Everything `plot_contrast` computes before it draws — `raw_contrast`, the contrast of every pair (`'diff'`: `l2-l1`,
`'prob'`: `int(l2-l1 > 0)`), point estimate and error sizes per x (any `PointAndInterval` object, any `errevery`), the
win / tie / loss lines — fed with the values the code computes equals the same computation over the directly
computed progressive / windowed / final averages; errors included.  Unconditional. -/
theorem plot_contrast_eq_spec (r : Result) (sels1 sels2 : List (List (Tbl × Option Nat × Int))) (pc : List Col)
    (x : XSpec) (span : Option Nat) (strX : Bool) (xord : Option (List (Key × Key))) (mode : CMode) (ci : Option CiFn)
    (errevery : Option Nat) (kind : XKind) :
    plotContrast r sels1 sels2 pc x span strX xord mode ci errevery kind =
    plotContrastS r sels1 sels2 pc x span strX xord mode ci errevery kind := by
  unfold plotContrast plotContrastS plotContrastWith
  rw [rawContrastWith_eq]

/-- Only correctly paired runs contribute and the plotted value is their arithmetic mean: whenever `plot_contrast`
(no interval object) hands lines to the plotter, every x of its table has at least one pair, every formed pair takes
its values from one entry of each side **with the same pairing value** (same position for `x='index'`), and the
plotted points are `y(x) = Σ contrast(pair) / #pairs` with error size 0. -/
theorem plot_contrast_mean_of_paired (r : Result) (sels1 sels2 : List (List (Tbl × Option Nat × Int))) (pc : List Col)
    (x : XSpec) (span : Option Nat) (strX : Bool) (xord : Option (List (Key × Key))) (mode : CMode)
    (errevery : Option Nat) (kind : XKind) (lines : List (List CPoint))
    (h : plotContrast r sels1 sels2 pc x span strX xord mode none errevery kind = .ok lines) :
    ∃ (L1 L2 : List ((Key × Key) × Rat)) (tbl : List ((Key × Key) × List (Rat × Rat))),
      sideValsAll allEntriesS r pc x span sels1 = .ok L1 ∧ sideValsAll allEntriesS r pc x span sels2 = .ok L2 ∧
      (∀ e ∈ tbl, e.2 ≠ [] ∧ ∀ q, q ∈ e.2 ↔ (e.1, q) ∈ contrastPairs (x = .index) L1 L2) ∧
      (∀ e ∈ contrastPairs (x = .index) L1 L2, PairedFrom (x = .index) L1 L2 e) ∧
      lines = contrastLines kind (boundaryOf mode) (tbl.map (meanPoint mode)) := by
  rw [plot_contrast_eq_spec] at h
  unfold plotContrastS plotContrastWith at h
  split at h
  · exact absurd h (by simp)
  · rename_i raw hraw
    obtain ⟨L1, L2, h1, h2, rfl⟩ := rawContrastWith_ok _ r sels1 sels2 pc x span strX raw hraw
    have hne : ∀ e ∈ orderRaw xord (groupPairs (contrastPairs (x = .index) L1 L2)), e.2 ≠ [] :=
      fun e he => (groupPairs_spec _ e (mem_orderRaw _ _ e he)).1
    simp only [contrastPointsFrom_none mode _ _ hne 0] at h
    simp only [Except.ok.injEq] at h
    exact ⟨L1, L2, _, h1, h2, fun e he => groupPairs_spec _ e (mem_orderRaw _ _ e he),
      fun e he => contrastPairs_paired _ L1 L2 e he, h.symm⟩

/-- non-vacuity: on a 2-environment, 2-learner Result the hypothesis holds (the plotter receives lines) -/
example : (match plotContrast cexPlot [[(Tbl.lrn, none, 0)]] [[(Tbl.lrn, none, 1)]] [Col.eid] (.cols [Col.eid]) none true
    (some [([0],[0]),([1],[1])]) .diff none none .other with
    | .ok lines => lines.map (fun (l : List CPoint) => l.map (fun p => (p.x.1, p.y))) == [[], [], [([1], 1), ([0], 2)]]
    | .error _ => false) = true := by decide +kernel

/-- completeness of the pairing for a parameter x: any two entries of the two sides with the same pairing value are contrasted -/
theorem contrast_pairs_complete (L1 L2 : List ((Key × Key) × Rat)) (u w : (Key × Key) × Rat)
    (hu : u ∈ L1) (hw : w ∈ L2) (h : u.1.1 = w.1.1) :
    ((u.1.2, w.1.2), (u.2, w.2)) ∈ contrastPairs false L1 L2 :=
  (mem_contrastPairs_product L1 L2 _).mpr ⟨u, hu, w, hw, h, rfl, rfl⟩

/-- the dict `XY` of `raw_contrast`: distinct x labels, each with the non-empty list of exactly the formed pairs with that x -/
theorem raw_contrast_table_spec (ps : List ((Key × Key) × (Rat × Rat))) :
    ((groupPairs ps).map (·.1)).Nodup ∧ ∀ e ∈ groupPairs ps, e.2 ≠ [] ∧ ∀ q, q ∈ e.2 ↔ (e.1, q) ∈ ps :=
  ⟨groupPairs_keys_nodup ps, fun e he => groupPairs_spec ps e he⟩

/-- the win / tie / loss lines (x neither `'index'` nor `l`): every point with non-negative error sizes lies in
exactly one line — line 0 iff its interval is below the boundary, line 2 iff above, line 1 iff it contains the
boundary — each line is ascending in y and contains plotted points only -/
theorem contrast_lines_partition (b : Rat) (pts : List CPoint) (p : CPoint) :
    splitLines b pts = [sortY (pts.filter (fun p => p.y + p.hi < b)),
                        sortY (pts.filter (fun p => p.y - p.lo ≤ b ∧ b ≤ p.y + p.hi)),
                        sortY (pts.filter (fun p => b < p.y - p.lo))] ∧
    (p ∈ pts → 0 ≤ p.lo → 0 ≤ p.hi →
      ((p.y + p.hi < b ∧ p ∈ (splitLines b pts)[0]! ∧ p ∉ (splitLines b pts)[1]! ∧ p ∉ (splitLines b pts)[2]!) ∨
       (p.y - p.lo ≤ b ∧ b ≤ p.y + p.hi ∧ p ∉ (splitLines b pts)[0]! ∧ p ∈ (splitLines b pts)[1]! ∧ p ∉ (splitLines b pts)[2]!) ∨
       (b < p.y - p.lo ∧ p ∉ (splitLines b pts)[0]! ∧ p ∉ (splitLines b pts)[1]! ∧ p ∈ (splitLines b pts)[2]!))) ∧
    (∀ line ∈ splitLines b pts, line.Pairwise (fun a c => a.y ≤ c.y) ∧ ∀ q ∈ line, q ∈ pts) := by
  refine ⟨rfl, ?_, ?_⟩
  · intro hp hlo hhi
    simp only [splitLines, List.getElem!_cons_zero, List.getElem!_cons_succ, mem_sortY, List.mem_filter, decide_eq_true_eq, hp, true_and]
    by_cases h1 : p.y + p.hi < b
    · left; refine ⟨h1, h1, ?_, ?_⟩
      · intro hc; linarith [hc.2]
      · intro hc; linarith
    · by_cases h3 : b < p.y - p.lo
      · right; right; refine ⟨h3, h1, ?_, h3⟩
        intro hc; linarith [hc.1]
      · right; left
        exact ⟨not_lt.mp h3, not_lt.mp h1, h1, ⟨not_lt.mp h3, not_lt.mp h1⟩, h3⟩
  · intro line hl
    simp only [splitLines, List.mem_cons, List.not_mem_nil, or_false] at hl
    rcases hl with rfl | rfl | rfl <;>
      exact ⟨sortY_sorted _, fun q hq => (List.mem_filter.mp ((mem_sortY q _).mp hq)).1⟩

/-- with `len·B ≤ 2^53` every window sum is a binary64 number (named law `float_exact_boundary`: integers up to `2^53`
are exact), so each average is a single correctly rounded division -/
theorem window_sum_fits_binary64 (k B : Nat) (vs : List Rat) (h : ∀ x ∈ vs, DyadicBdd k B x)
    (hb : vs.length * B ≤ 2 ^ 53) (span : Option Nat) (i : Nat) :
    ∃ m : Int, sumL (window span i vs) = (m : Rat) / 2 ^ k ∧ m.natAbs ≤ 2 ^ 53 := by
  obtain ⟨m, hm, hb'⟩ := window_sum_dyadic k B vs h span i
  exact ⟨m, hm, le_trans hb' hb⟩

/-- the named law at its boundary, evaluated on the kernel's binary64: `2^53-1+1 = 2^53` exactly, `2^53+1` is no
longer representable (rounds to `2^53`), `2^53-1` is; the same one scale step down (`k = 2`) -/
theorem float_exact_boundary :
    ((9007199254740991 : Float) + 1 == 9007199254740992) = true ∧
    ((9007199254740992 : Float) + 1 == 9007199254740992) = true ∧
    ((9007199254740992 : Float) - 1 == 9007199254740991) = true ∧
    ((0.25 : Float) * 9007199254740991 + 0.25 == 0.25 * 9007199254740992) = true :=
  by decide +kernel

/-- `errEveryOf` models `int(n*0.05)` as `n / 20`.  On binary64 this is NOT true for every `n < 2^53`: the exact set where it
differs is `{n | 3·2^51 ≤ n ∧ n % 20 = 19}` (there `int(n*0.05) = n/20 + 1`; found by analysis: `0.05` is `1/20 + 1/(5·2^56)`, the
product `k + 19/20 + n/(5·2^56)` reaches the rounding midpoint `k + 31/32` exactly at `n = 3·2^51`; confirmed on 4·10^5 sampled `n`).
Kernel-checked witnesses on the real binary64: the first differing `n = 3·2^51 + 15` gives `n/20 + 1`, its neighbours
(`n - 20`, `n - 1`) agree with `n/20`.  Below `3·2^51` the two agree for every `n`: `int_mul_005_eq_div20`. -/
theorem int_mul_005_boundary_counterexample : ((6755399441055759 : Float) * 0.05 == 337769972052788) = true ∧
    ((6755399441055739 : Float) * 0.05 < 337769972052787) = true ∧
    ((6755399441055739 : Float) * 0.05 ≥ 337769972052786) = true ∧
    ((6755399441055758 : Float) * 0.05 < 337769972052788) = true ∧
    (6755399441055759 / 20 = 337769972052787) ∧ (6755399441055739 / 20 = 337769972052786) ∧
    6755399441055744 = 3 * 2 ^ 51 :=
  by decide +kernel

/-- **`int(n*0.05) = n // 20` for every `n < 3·2^51`**, for every rounding function obeying the round-to-nearest law
(`FloatLaw`: never crosses a representable value; not farther above `x` than a representable value below `x` is below it —
no tie rule needed): the rounded product `fl(n · 0.05)` (with `0.05` the binary64 `3602879701896397/2^56`) lies in
`[n/20, n/20 + 1)`, so its truncation is `n/20` — what `errEveryOf` uses.  The bound is sharp:
`int_mul_005_boundary_counterexample` (first differing `n = 3·2^51 + 15`, on the kernel's binary64). -/
theorem int_mul_005_eq_div20 (fl : Rat → Rat) (h : FloatLaw fl) (n : Nat) (hn : n < int005Bound) :
    (((n / 20 : Nat) : Rat) ≤ fl ((n : Rat) * c05)) ∧ fl ((n : Rat) * c05) < ((n / 20 : Nat) : Rat) + 1 := by
  unfold int005Bound at hn
  obtain ⟨h1, h2⟩ := mul_c05_bounds (n : Rat) ((n / 20 : Nat) : Rat) ((n % 20 : Nat) : Rat)
    (by exact_mod_cast (Nat.div_add_mod n 20).symm) (Nat.cast_nonneg _)
    (by exact_mod_cast (show n % 20 ≤ 19 by omega)) (Nat.cast_nonneg _) (by exact_mod_cast hn)
  constructor
  · exact h.below _ _ (repr53_nat _ (by omega)) h1
  · -- `k + 15/16` is representable and `k + 31/32` is halfway from it to `k + 1`
    have hrep := repr53_sixteenth (n / 20) (by omega)
    by_cases hc : (n : Rat) * c05 ≤ ((n / 20 : Nat) : Rat) + 15 / 16
    · have := h.above _ _ hrep hc
      linarith only [this]
    · have := h.near _ _ hrep (le_of_lt (not_le.mp hc))
      linarith only [this, h2]

/-- the same as a statement about `floor` (`int()` of a non-negative float) -/
theorem int_mul_005_floor (fl : Rat → Rat) (h : FloatLaw fl) (n : Nat) (hn : n < int005Bound) :
    ⌊fl ((n : Rat) * c05)⌋ = ((n / 20 : Nat) : Int) := by
  obtain ⟨h1, h2⟩ := int_mul_005_eq_div20 fl h n hn
  rw [Int.floor_eq_iff]
  exact ⟨by exact_mod_cast h1, by exact_mod_cast h2⟩

/-- the law is satisfiable (exact arithmetic obeys it; binary64's round-to-nearest does by definition of "nearest") and the
bound is the literal `3·2^51` -/
example : FloatLaw (fun x => x) ∧ int005Bound = 3 * 2 ^ 51 ∧ (19 : Nat) < int005Bound := ⟨floatLaw_id, by decide, by decide⟩

/-- the default `errevery` of the model is `max (n/20) 1` -/
theorem errevery_default_eq (n : Nat) : errEveryDefault n = max (n / 20) 1 := by
  simp [errEveryDefault, errEveryOf]

/-! ### translator obligations: literals and defaults of `plot_contrast` / `raw_contrast` / `_confidence` and the other analysis
functions, extracted by `ast` from the current source (`Generated/C18Modes.lean`, `Generated/C18Defaults.lean`, regenerated on every
run), equal what the model implements — an edit of one of them breaks one of these -/

/-- the `mode` strings are `'diff'`, `'prob'` in this order -/
theorem plot_modes_match : Coba.Generated.C18.modes = [modeName .diff, modeName .prob] := rfl

/-- `_boundary = 0 if mode == 'diff' else .5` -/
theorem plot_boundaries_match :
    Coba.Generated.C18.boundaries.map (fun b => (b.1 : Rat) / (b.2 : Rat)) = [boundaryOf .diff, boundaryOf .prob] := by
  simp [Coba.Generated.C18.boundaries, boundaryOf]

/-- `err` dispatch strings, the special x `'index'`, the comparison operators of the win/tie/loss split, `(i+1) % errevery` -/
theorem plot_tables_match : Coba.Generated.C18.errNames = errNamesM ∧ Coba.Generated.C18.xSpecial = xSpecialM ∧
    Coba.Generated.C18.splitOps = splitOpsM ∧ Coba.Generated.C18.skipOffset = skipOffsetM := ⟨rfl, rfl, rfl, rfl⟩

/-- the two `contraster` lambdas, read off the source (`t[i]-t[j]`, `int(t[i]-t[j] <op> c)`), are the model's `contrastOf` -/
theorem plot_contraster_match (t : Rat × Rat) :
    contrastOf .diff t = pairProj Coba.Generated.C18.diffIdx.1 t - pairProj Coba.Generated.C18.diffIdx.2 t ∧
    contrastOf .prob t = (if cmpOp Coba.Generated.C18.probOp
        (pairProj Coba.Generated.C18.diffIdx.1 t - pairProj Coba.Generated.C18.diffIdx.2 t)
        ((Coba.Generated.C18.probThreshold.1 : Rat) / (Coba.Generated.C18.probThreshold.2 : Rat)) = true then 1 else 0) := by
  simp [contrastOf, pairProj, cmpOp, Coba.Generated.C18.diffIdx, Coba.Generated.C18.probOp, Coba.Generated.C18.probThreshold]

/-- the win / tie / loss split with the source's comparison operators is the model's `splitLines` -/
theorem plot_split_match (b : Rat) (pts : List CPoint) :
    splitLines b pts =
      [ sortY (pts.filter (fun p => cmpOp (Coba.Generated.C18.splitOps.getD 0 "") (p.y + p.hi) b)),
        sortY (pts.filter (fun p => cmpOp (Coba.Generated.C18.splitOps.getD 1 "") (p.y - p.lo) b &&
                                    cmpOp (Coba.Generated.C18.splitOps.getD 2 "") b (p.y + p.hi))),
        sortY (pts.filter (fun p => cmpOp (Coba.Generated.C18.splitOps.getD 3 "") b (p.y - p.lo))) ] := by
  simp [splitLines, cmpOp, Coba.Generated.C18.splitOps]

/-- default `errevery` for `x='index'`: `max(int(last*0.05),1)` with the source's factor -/
theorem plot_errevery_match (n : Nat) :
    errEveryOf true none n = max (n * Coba.Generated.C18.errEveryFactor.1 / Coba.Generated.C18.errEveryFactor.2) 1 := by
  simp [errEveryOf, Coba.Generated.C18.errEveryFactor]

/-- translator obligation: the defaults of `where_fin`/`filter_fin`/`where_best`/`filter_best`/`raw_learners`/`raw_contrast`/
`plot_learners`/`plot_contrast` (n, l, p, x, y, span, full_l, full_p, mode, err, errevery) in the CURRENT source are the ones
model and harness assume ("by default environments", "by default every learner") -/
theorem analysis_defaults_match : Coba.Generated.C18.analysisDefaults = analysisDefaultsM :=
  rfl

/-- translator obligation: `_confidence` maps `err` strings to interval classes as assumed (order included), and its
strings are the accepted `err` names of the model -/
theorem confidence_dispatch_match : Coba.Generated.C18.confDispatch = confDispatchM ∧
    Coba.Generated.C18.confDispatch.map (·.1) = errNamesM :=
  ⟨rfl, rfl⟩

/-- Exact characterisation of when `sorted()` raises, for CPython's `list.sort` below 64 elements (`count_run` +
`binarysort`) on values of the classes None / number / str / frozenset: a list of two or more values is sorted without
`TypeError` **iff** all values belong to one class and that class is not `None` (every value is compared with at least
one other value, and `<` raises across classes and on `None`).  Lists of length ≤ 1 are returned as they are. -/
theorem py_sorted_raises_iff (l : List PyVal) (h2 : 2 ≤ l.length) :
    (∃ out, pySorted l = .ok out) ↔ ∃ c, c ≠ PyClass.none ∧ ∀ v ∈ l, pyClass v = c :=
  pySorted_ok_iff l h2

example : pySorted [.num 2, .str [97], .num 1] = .error .typeError ∧ pySorted [.none, .none] = .error .typeError ∧
    pySorted [.num 2, .num 3, .num 1] = .ok [.num 1, .num 2, .num 3] ∧ pySorted [.none] = .ok [.none] := by decide +kernel

/-- where it succeeds on numbers or on strings, the order `sorted()` realises (`a ≤ b :⇔ not (b < a)`) is a total preorder
(frozensets are only partially ordered: that is C18-F2's subject) -/
theorem py_sorted_total_preorder (a b d : PyVal) (c : PyClass) (hc : c = .num ∨ c = .str)
    (ha : pyClass a = c) (hb : pyClass b = c) (hd : pyClass d = c) :
    (pyLe a b ∨ pyLe b a) ∧ (pyLe a b → pyLe b d → pyLe a d) ∧ pyLe a a := by
  have hna : NS a := by unfold NS; rw [ha]; exact hc
  refine ⟨?_, fun h1 h2 => pyLe_trans_ns h1 h2 (Or.inl hna), ?_⟩
  · obtain ⟨p, q, rfl, rfl⟩ | ⟨s, t, rfl, rfl⟩ := ns_pair (ha.trans hb.symm) (Or.inl hna) <;>
    · simp only [pyLe_num, pyLe_str]
      exact le_total _ _
  · obtain ⟨p, _, rfl, _⟩ | ⟨s, _, rfl, _⟩ := ns_pair (rfl : pyClass a = pyClass a) (Or.inl hna) <;>
    · simp only [pyLe_num, pyLe_str]
      exact le_refl _

/-- the sufficient half of `py_sorted_raises_iff` for lists of any length, with what comes back: on values that all belong to
one class other than `None` (all numbers, all strings or all frozensets) `sorted()` does not raise `TypeError` and returns as
many values as it was given, all of that class. -/
theorem py_sorted_ok_of_one_class {c : PyClass} (hc : c ≠ .none) (l : List PyVal) (h : ∀ v ∈ l, pyClass v = c) :
    ∃ out, pySorted l = .ok out ∧ (∀ v ∈ out, pyClass v = c) ∧ out.length = l.length :=
  pySorted_ok_of_oneClass hc l h

/-- **`sorted()` returns a permutation of its input** (CPython's `count_run` + `binarysort`, any values, whenever it does not
raise): no x label of `raw_contrast`'s table is lost, duplicated or invented by the final sort. Unconditional. -/
theorem py_sorted_perm (l out : List PyVal) (h : pySorted l = .ok out) : out.Perm l :=
  pySorted_perm l out h

/-- **and the result is sorted**: on numbers / strings every earlier value is `≤` every later one in the order `sorted()`
realises (`a ≤ b :⇔ not (b < a)`) — the binary search of `binarysort` keeps the prefix sorted (invariant: everything left of
`l` is `≤ pivot`, everything from `r` on is `≥ pivot`), the initial run is sorted (reversed when strictly descending). Any length. -/
theorem py_sorted_sorted (l out : List PyVal) (hn : ∀ v ∈ l, pyClass v = .num ∨ pyClass v = .str)
    (h : pySorted l = .ok out) : out.Pairwise pyLe :=
  pySorted_sorted l out hn h

example : ([PyVal.num 1, .num 1, .num 2, .num 3]).Pairwise pyLe :=
  py_sorted_sorted [.num 3, .num 1, .num 2, .num 1] _ (by simp [pyClass]) (by decide +kernel)

/-- the hypothesis "numbers or strings" is forced: frozensets are sorted without `TypeError`, but `<` (proper subset) is
only a partial order there, so the result need not be ordered and depends on the arrival order (C18-F2's subject):
`[{1,2},{3},{1}]` is one ascending run for `count_run` (`{3} < {1,2}` and `{1} < {3}` are both false) and comes back as it is,
although `{1} < {1,2}`; the arrangement `[{1},{1,2},{3}]` of the same values comes back as it is, too. -/
theorem py_sorted_fset_counterexample :
    pySorted [.fset [1, 2], .fset [3], .fset [1]] = .ok [.fset [1, 2], .fset [3], .fset [1]] ∧
    pyLt (.fset [1]) (.fset [1, 2]) = .ok true ∧   -- i.e. `¬ pyLe {1,2} {1}`: the result is not `Pairwise pyLe`
    pySorted [.fset [1], .fset [1, 2], .fset [3]] = .ok [.fset [1], .fset [1, 2], .fset [3]] := by decide +kernel

/-- **the outcome of `sorted()` does not depend on the order in which the values arrive** (numbers / strings): two
arrangements of the same values give the same list, and one raises iff the other does — so the hash-dependent insertion
order of the dict `XY` inside `raw_contrast` cannot influence its table. -/
theorem py_sorted_order_independent (l1 l2 : List PyVal) (hp : l1.Perm l2) :
    ((∃ o, pySorted l1 = .ok o) ↔ (∃ o, pySorted l2 = .ok o)) ∧
    ((∀ v ∈ l1, pyClass v = .num ∨ pyClass v = .str) → ∀ o1 o2, pySorted l1 = .ok o1 → pySorted l2 = .ok o2 → o1 = o2) :=
  ⟨pySorted_ok_perm l1 l2 hp, fun hn o1 o2 h1 h2 => pySorted_order_independent l1 l2 o1 o2 hp hn h1 h2⟩

/-- lifted to `raw_contrast`'s final `sorted(XY.items())`: for any two fill orders of `XY` (same entries; the x labels are
distinct dict keys, numbers / strings) the sorted table is the same. -/
theorem raw_contrast_sort_order_independent (labs : List ((Key × Key) × PyVal))
    (raw1 raw2 o1 o2 : List ((Key × Key) × List (Rat × Rat))) (hp : raw1.Perm raw2)
    (hnd : (raw1.map (fun e => labOf labs e.1)).Nodup)
    (hn : ∀ e ∈ raw1, pyClass (labOf labs e.1) = .num ∨ pyClass (labOf labs e.1) = .str)
    (h1 : orderRawPy labs raw1 = .ok o1) (h2 : orderRawPy labs raw2 = .ok o2) : o1 = o2 := by
  obtain ⟨vs1, hs1, rfl⟩ := orderRawPy_ok_inv h1
  obtain ⟨vs2, hs2, rfl⟩ := orderRawPy_ok_inv h2
  -- the sorted labels agree; each is then looked up among entries whose labels are distinct
  obtain rfl : vs1 = vs2 := pySorted_order_independent _ _ _ _ (hp.map _)
    (by intro v hv; obtain ⟨e, he, rfl⟩ := List.mem_map.mp hv; exact hn e he) hs1 hs2
  congr 1
  funext v
  exact find?_perm_of_nodup_key (fun e => labOf labs e.1) raw1 raw2 hp hnd v

/-- A table built by any schedule of in-index-order `Table.insert` batches with read-only analysis calls (which fill the
cache of group boundaries) in between — starting from the empty indexed table, with the code's rule "every insert clears
the cache" — holds exactly the rows of the Result built in one go, and every later analysis call sees exactly the groups
of that one-shot Result.  For all schedules. (All analysis functions of the model are functions of these rows / groups.) -/
theorem incremental_eq_oneshot (ops : List IncOp) :
    (runInc true ops ⟨[], none⟩).rows = insertedRows ops ∧
    (runInc true ops ⟨[], none⟩).groups = (runInc true [] ⟨insertedRows ops, none⟩).groups := by
  have := runInc_spec ops ⟨[], none⟩ (by intro g hg; simp at hg)
  simpa [runInc, ITable.groups] using this

/-- the hypothesis "insert clears the cache" is forced: keeping the cache for in-order inserts (seeded change C18-gm4)
leaves the appended evaluation invisible on the schedule insert / look / insert -/
theorem stale_cache_counterexample :
    (runInc false cexInc ⟨[], none⟩).groups.length = 1 ∧ (runs (insertedRows cexInc)).length = 2 ∧
    (runInc true cexInc ⟨[], none⟩).groups.length = 2 :=
  by decide +kernel

/-- `raw_contrast` *with* its final `sorted(XY.items())` (CPython's `list.sort` over the labels as Python values, mixed-type
x columns included) over the code's values = over directly computed averages, errors (`TypeError`) included -/
theorem raw_contrast_py_eq_spec (r : Result) (sels1 sels2 : List (List (Tbl × Option Nat × Int))) (pc : List Col)
    (x : XSpec) (span : Option Nat) (labs : List ((Key × Key) × PyVal)) :
    rawContrastPy r sels1 sels2 pc x span labs = rawContrastPyS r sels1 sels2 pc x span labs := by
  unfold rawContrastPy rawContrastPyS rawContrastPyWith
  rw [rawContrastWith_eq]

/-- the same for everything `plot_contrast` computes before drawing, over the table that `raw_contrast` sorted itself -/
theorem plot_contrast_py_eq_spec (r : Result) (sels1 sels2 : List (List (Tbl × Option Nat × Int))) (pc : List Col)
    (x : XSpec) (span : Option Nat) (labs : List ((Key × Key) × PyVal)) (mode : CMode) (ci : Option CiFn)
    (errevery : Option Nat) (kind : XKind) :
    plotContrastPy r sels1 sels2 pc x span labs mode ci errevery kind =
    plotContrastPyS r sels1 sels2 pc x span labs mode ci errevery kind := by
  unfold plotContrastPy plotContrastPyS plotContrastPyWith rawContrastPyWith
  rw [rawContrastWith_eq]

/-- `TypeError` iff: when the pairing yields the entries `raw` (≥ 2 of them, parameter x), `raw_contrast` returns a table
**iff** all x labels are Python values of one class other than `None` (all numbers, all strings, all frozensets); and
whatever table it returns consists of entries formed by the pairing, x label and pairs untouched (`x='index'` included) -/
theorem raw_contrast_py_sorted (r : Result) (sels1 sels2 : List (List (Tbl × Option Nat × Int))) (pc : List Col)
    (x : XSpec) (span : Option Nat) (labs : List ((Key × Key) × PyVal)) (raw : List ((Key × Key) × List (Rat × Rat)))
    (hraw : rawContrast r sels1 sels2 pc x span true = .ok raw) :
    (x ≠ .index → 2 ≤ raw.length →
      ((∃ tbl, rawContrastPy r sels1 sels2 pc x span labs = .ok tbl) ↔
        ∃ c, c ≠ PyClass.none ∧ ∀ e ∈ raw, pyClass (labOf labs e.1) = c)) ∧
    (∀ tbl, rawContrastPy r sels1 sels2 pc x span labs = .ok tbl → ∀ q ∈ tbl, q ∈ raw) := by
  unfold rawContrast at hraw
  constructor
  · intro hx h2
    unfold rawContrastPy rawContrastPyWith
    rw [hraw]
    simp only [hx, if_false]
    exact orderRawPy_ok_iff labs raw h2
  · intro tbl h q hq
    unfold rawContrastPy rawContrastPyWith at h
    rw [hraw] at h
    by_cases hx : x = .index
    · simp only [hx, if_true] at h
      injection h with h
      subst h
      exact mem_orderRaw none raw q (by simpa [orderRaw] using hq)
    · simp only [hx, if_false] at h
      exact mem_orderRawPy labs raw tbl q h hq

/-- the hypotheses are satisfiable and both outcomes occur: two labels of one class are sorted (descending input reversed),
a number next to a string raises -/
example : ((orderRawPy [((([1] : Key), ([1] : Key)), .num 5), (([2], [2]), .num 3)] [(([1], [1]), [(1, 2)]), (([2], [2]), [(0, 1)])]).toOption.map
      (fun t => t.map (·.1))) = some [(([2] : Key), ([2] : Key)), ([1], [1])] ∧
    (match orderRawPy [((([1] : Key), ([1] : Key)), .num 5), (([2], [1]), .str [51, 45, 53])] [(([1], [1]), [(1, 2)]), (([2], [1]), [(0, 1)])] with
      | .error .typeError => true | _ => false) = true := by decide +kernel

end Coba.C18
