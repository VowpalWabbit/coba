/-
C19 — Shared caches never expose partial entries and always release their locks.

`Reachable idx progs s`: `s` is reached from the initial state (array all 0, cache empty) by any
number of atomic steps of any callers in any order — i.e. for all interleavings, all numbers of
callers, all programs (`get_set` with a getter that succeeds or raises, nested with-blocks that
are left normally or by an exception, `rmv`), all key→index maps `idx` (equal / distinct / colliding).
-/
import CobaVerif.Lemmas.C19Liveness
import CobaVerif.Lemmas.C19Files
import CobaVerif.Lemmas.C19Semaphore
import CobaVerif.Generated.C19Consts
import CobaVerif.Generated.C19Protocol
import CobaVerif.Generated.C19Keys

namespace Coba.C19

/-! ### the lock protocol: invariant, exclusion, single flight, complete values, lock release -/

/-- the inductive invariant: `array i = -1` iff exactly one caller holds the write lock of index
`i` and nobody reads it, otherwise `array i` is the number of read holds; `_locks` agrees with what
each caller holds; keys inside a with-block are cached; inner-cache facts at each program point -/
theorem inv {idx : Nat → Nat} {progs : List (List (List Instr))} {s : St}
    (h : Reachable idx progs s) : Inv idx s := inv_reachable h

/-- while a caller holds the write lock of key `k` (it populates or removes the entry), nobody, itself included, holds
another lock on that index: an entry is never read while it is written or removed, and two writers never populate one key -/
theorem mutual_exclusion {idx : Nat → Nat} {progs : List (List (List Instr))} {s : St}
    (h : Reachable idx progs s) {i j : Nat} {c d : Caller} {k : Nat}
    (hi : s.cs[i]? = some c) (hj : s.cs[j]? = some d) (hne : j ≠ i) (hw : c.pc.writeKey = some k) :
    (∀ k' ∈ c.reads, idx k' ≠ idx k) ∧ (∀ k' ∈ d.reads, idx k' ≠ idx k) ∧
    (∀ k', d.pc.writeKey = some k' → idx k' ≠ idx k) := by
  have hl := (inv_reachable h).locksOK
  exact ⟨(writer_excl hl hi hw hi).1, (writer_excl hl hi hw hj).1, (writer_excl hl hi hw hj).2 hne⟩

/-- inner-cache operations happen only under the matching lock: a read of the entry (`cget`, and
the with-body that follows `enter`) under a read lock on the key, populate / failed populate /
remove under its write lock -/
theorem cache_ops_under_lock {idx : Nat → Nat} {progs : List (List (List Instr))} {s s' : St} {i : Nat} {ev : Ev}
    (h : Reachable idx progs s) (hs : step idx s i = some (ev, s')) :
    ∃ c, s.cs[i]? = some c ∧
      (∀ k v, ev = .cget k v → k ∈ c.reads ∧ s.cache k = some v) ∧
      (∀ k v, ev = .enter k v → k ∈ c.reads ∧ s.cache k = some v) ∧
      (∀ k v, ev = .cpop k v → c.pc.writeKey = some k ∧ s.cache k = none ∧ s'.cache = upd s.cache k (some v)) ∧
      (∀ k, ev = .cpopFail k → c.pc.writeKey = some k ∧ s.cache k = none ∧ s'.cache = s.cache) ∧
      (∀ k b, ev = .crmv k b → c.pc.writeKey = some k ∧ b = (s.cache k).isSome ∧ s'.cache = upd s.cache k none) := by
  obtain ⟨c, hi, hf⟩ := step_opUnderLock (inv_reachable h) hs
  exact ⟨c, hi, hf.cget, hf.enter, hf.cpop, hf.cpopFail, hf.crmv⟩

/-- single flight, step form: a getter is only ever called for a key that is not cached -/
theorem single_flight {idx : Nat → Nat} {progs : List (List (List Instr))} {s s' : St} {i : Nat} {ev : Ev} {k : Nat}
    (h : Reachable idx progs s) (hs : step idx s i = some (ev, s')) (hev : (∃ v, ev = .cpop k v) ∨ ev = .cpopFail k) :
    s.cache k = none := by
  obtain ⟨c, _, hf⟩ := step_opUnderLock (inv_reachable h) hs
  rcases hev with ⟨v, rfl⟩ | rfl
  · exact (hf.cpop k v rfl).2.1
  · exact (hf.cpopFail k rfl).2.1

/-- single flight, trace form, for every schedule: completed getter runs of `k` = removals of `k`, plus one if `k` is
cached at the end — the getter completes at most once per key while the entry stays cached -/
theorem single_flight_trace (idx : Nat → Nat) (progs : List (List (List Instr))) (sched : List Nat) (k : Nat) :
    popCount k (run idx (init progs) sched).2 =
      rmvCount k (run idx (init progs) sched).2 + cachedN (run idx (init progs) sched).1.cache k := by
  have := single_flight_run (idx := idx) k sched (init progs) (inv_init idx progs)
  simpa [cachedN, init] using this

/-- complete values: the value a caller receives on entering its with-block is the entry currently
in the cache -/
theorem complete_values {idx : Nat → Nat} {progs : List (List (List Instr))} {s s' : St} {i : Nat} {k v : Nat}
    (h : Reachable idx progs s) (hs : step idx s i = some (.enter k v, s')) : s.cache k = some v := by
  obtain ⟨c, _, hf⟩ := step_opUnderLock (inv_reachable h) hs
  exact (hf.enter k v rfl).2

/-- … and every entry of the cache is the complete result of a successful getter of the programs
(`P k v` := some program contains `get_set k` with a getter returning `v`) -/
theorem values_are_getter_results {P : Nat → Nat → Prop} {idx : Nat → Nat} {progs : List (List (List Instr))} {s : St}
    (hP : ∀ p ∈ progs, ∀ seg ∈ p, ∀ ins ∈ seg, instrP P ins) (h : Reachable idx progs s) :
    ∀ k v, s.cache k = some v → P k v := (prov_reachable hP h).2

/-- after all callers have left (normally or through an exception in a getter or a body) no lock
remains: the array is all zero and every `_locks` entry is zero -/
theorem locks_released {idx : Nat → Nat} {progs : List (List (List Instr))} {s : St}
    (h : Reachable idx progs s) (ht : s.allTerminal = true) :
    (∀ i, s.arr i = 0) ∧ ∀ (j : Nat) (c : Caller), s.cs[j]? = some c → ∀ k, c.book k = 0 :=
  locks_released_core (inv_reachable h) ht

/-- a getter that raises leaves the key absent (nothing is stored that could be served later) -/
theorem getter_failure_clean {idx : Nat → Nat} {progs : List (List (List Instr))} {s s' : St} {i k : Nat}
    (h : Reachable idx progs s) (hs : step idx s i = some (.cpopFail k, s')) :
    s'.cache = s.cache ∧ s'.cache k = none := by
  obtain ⟨c, _, hf⟩ := step_opUnderLock (inv_reachable h) hs
  have := hf.cpopFail k rfl
  exact ⟨this.2.2, by rw [this.2.2]; exact this.2.1⟩

/-- an inner-cache `rmv` that raises happens under the write lock of the key and changes neither the
cache nor the array; the caller then releases the write lock (`rmHRelW`) and unwinds, so
`locks_released`, `no_caller_stuck` and `progress_bounded` cover the exception path of `rmv` as well -/
theorem rmv_failure_clean {idx : Nat → Nat} {progs : List (List (List Instr))} {s s' : St} {i k : Nat}
    (h : Reachable idx progs s) (hs : step idx s i = some (.crmvFail k, s')) :
    s'.cache = s.cache ∧ s'.arr = s.arr ∧ ∃ c, s.cs[i]? = some c ∧ c.pc.writeKey = some k :=
  step_crmvFail (inv_reachable h) hs

/-- the array cell counts simultaneous read holds exactly and without bound (the model's cell is an
`Int`): while a caller has `n` re-entrant reads of `k` open, the slot equals the total number of read
holds on the index and is at least `n`.  The real cell is a C `short`; that it can hold the number
of simultaneous readers is in the trusted base and probed by the harness up to 400 -/
theorem slot_counts_readers {idx : Nat → Nat} {progs : List (List (List Instr))} {s : St}
    (h : Reachable idx progs s) {j : Nat} {c : Caller} {k : Nat} (hj : s.cs[j]? = some c) (hk : k ∈ c.stack) :
    s.arr (idx k) = (s.R idx (idx k) : Int) ∧ (c.stack.count k : Int) ≤ s.arr (idx k) := by
  have h1 : c.stack.count k ≤ c.rc idx (idx k) :=
    Nat.le_trans (count_le_countP idx k c.stack) (by rw [Caller.rc, Caller.reads, List.countP_append]; exact Nat.le_add_left ..)
  have := cell_of_reader (inv_reachable h).locksOK hj (Nat.lt_of_lt_of_le (List.count_pos_iff.mpr hk) h1)
  exact ⟨this.1, by omega⟩

/-- 200 nested re-entrant reads by one caller: every acquisition is granted, the slot reads 200 at
the deepest point and 0 when all blocks are left -/
example : (run id (init (nestProgs 200)) (List.replicate (5 * 200 + 6) 0)).1.arr 0 = 200 ∧
    (run id (init (nestProgs 200)) (List.replicate (7 * 200 + 6) 0)).1.arr 0 = 0 ∧
    (run id (init (nestProgs 200)) (List.replicate (7 * 200 + 6) 0)).1.allTerminal = true ∧
    ((run id (init (nestProgs 200)) (List.replicate (7 * 200 + 6) 0)).2.filter (fun e => e.2 == Ev.spin)).length = 0 := by
  decide +kernel

/-! ### progress, and deadlock freedom under the lock hierarchy `Hier` -/

/-- a caller that has not finished always has a step (possibly a failed lock guard) -/
theorem no_caller_stuck {idx : Nat → Nat} {progs : List (List (List Instr))} {s : St} {i : Nat} {c : Caller}
    (h : Reachable idx progs s) (hi : s.cs[i]? = some c) (hnt : c.terminal = false) : (step idx s i).isSome :=
  no_stuck_core (inv_reachable h) hi hnt

/-- bounded progress (`.spin` is a failed lock guard).  With `deadlock_free_partial`: under weak fairness every caller
terminates after at most `(init progs).measure` effective steps -/
theorem progress_bounded {idx : Nat → Nat} {progs : List (List (List Instr))} {s s' : St} {i : Nat} {ev : Ev}
    (h : Reachable idx progs s) (hs : step idx s i = some (ev, s')) :
    (ev ≠ .spin → s'.measure < s.measure) ∧ (ev = .spin → s' = s) := progress_core (inv_reachable h) hs

/- theorem deadlock_free_full (hW : ∀ p ∈ progs, WellNested idx p = true) (h : Reachable idx progs s)
     (hnt : s.allTerminal = false) : ∃ i ev s', step idx s i = some (ev, s') ∧ ev ≠ .spin
   is FALSE for the code as it is: `cross_nesting_counterexample` (known finding C19-F1). -/

/-- deadlock freedom under the lock-hierarchy hypothesis `Hier` (a nested operation targets a key
the caller already reads or a key with a larger index than all it holds — this implies the
property's own exclusion `WellNested`): while some caller has not finished, some caller can take
a step that is not a failed lock guard -/
theorem deadlock_free_partial {idx : Nat → Nat} {progs : List (List (List Instr))} {s : St}
    (hH : ∀ p ∈ progs, Hier idx p = true) (h : Reachable idx progs s) (hnt : s.allTerminal = false) :
    ∃ i ev s', step idx s i = some (ev, s') ∧ ev ≠ .spin :=
  deadlock_free_core (fun _ _ h => h) (inv_reachable h) (hier_reachable hH h) hnt

theorem never_deadlocked {idx : Nat → Nat} {progs : List (List (List Instr))} {s : St}
    (hH : ∀ p ∈ progs, Hier idx p = true) (h : Reachable idx progs s) : s.deadlocked idx = false := by
  cases ht : s.allTerminal with
  | true => simp [St.deadlocked, ht]
  | false => exact not_deadlocked_of_step (deadlock_free_partial hH h ht)

/-- `Hier` is satisfiable by programs with real nesting, re-entrant reads and rmv of a key being read -/
example : Hier (fun k => k) [[.getSet 0 (.ok 1), .getSet 0 (.ok 2), .getSet 1 .fail, .exit, .rmv 0 false false, .exit], [.rmv 1 true true]] = true := by decide

/-- `Hier` is necessary: two well-nested callers (no collisions at all) that each read one key
and remove the other one's key reach a state where both wait forever (known finding C19-F1;
the same schedule is replayed on the real code by the harness) -/
theorem cross_nesting_counterexample :
    (∀ p ∈ cexProgs, WellNested cexIdx p = true) ∧
    (run cexIdx (init cexProgs) cexSched).1.deadlocked cexIdx = true := by
  constructor
  · decide
  · decide

/-- the property's own exclusion is necessary (documented design limit, not a finding): one caller
nesting `get_set` on two different keys with the same index waits for itself -/
theorem nested_collision_counterexample :
    (run (fun _ => 0) (init selfProgs) (List.replicate 18 0)).1.deadlocked (fun _ => 0) = true := by
  decide

/-- fairness-level liveness: under every infinite schedule that gives every caller a turn again and again a `Hier`
system ends and stays ended — no caller waits forever (`runN` = state after n ticks of `σ`) -/
theorem fair_termination {idx : Nat → Nat} {progs : List (List (List Instr))} (hH : ∀ p ∈ progs, Hier idx p = true)
    (σ : Nat → Nat) (hfair : FairSched progs.length σ) :
    ∃ n, ∀ m, n ≤ m → (runN idx (init progs) σ m).allTerminal = true :=
  fair_termination_reachable (fun _ h hnt => deadlock_free_partial hH h hnt) σ hfair

/-! ### the wait-for graph -/

/-- a deadlock (some caller unfinished, no caller has a step other than a failed lock guard) is a
cycle in the wait-for graph: callers each waiting for a lock the next one holds -/
theorem deadlock_has_cycle {idx : Nat → Nat} {progs : List (List (List Instr))} {s : St}
    (h : Reachable idx progs s) (hd : s.deadlocked idx = true) : ∃ i, WaitPath idx s i i := deadlock_has_cycle_core (inv_reachable h) hd

/-- an outgoing wait-for edge blocks a caller: its only step is a failed lock guard -/
theorem waiter_blocked {idx : Nat → Nat} {progs : List (List (List Instr))} {s s' : St} {i j : Nat} {ev : Ev}
    (h : Reachable idx progs s) (hw : waitsFor idx s i j = true) (hs : step idx s i = some (ev, s')) : ev = .spin :=
  waiter_spins (inv_reachable h) (reachable_tn_false h) hw hs

/-- deadlock ⇔ somebody is unfinished and every unfinished caller has an outgoing wait-for edge
(so nestings are deadlock-free exactly as long as the wait-for graph keeps a caller without one) -/
theorem deadlock_iff_all_wait {idx : Nat → Nat} {progs : List (List (List Instr))} {s : St}
    (h : Reachable idx progs s) :
    s.deadlocked idx = true ↔
      s.allTerminal = false ∧ ∀ (i : Nat) (c : Caller), s.cs[i]? = some c → c.terminal = false →
        ∃ j, waitsFor idx s i j = true :=
  deadlocked_iff_all_wait (inv_reachable h) (reachable_tn_false h)

/-- known finding C19-F1 is exactly a 2-cycle: caller 0 reads key 0 and waits for the write lock of
key 1, caller 1 reads key 1 and waits for the write lock of key 0 -/
theorem f1_is_two_cycle :
    waitsFor cexIdx (run cexIdx (init cexProgs) cexSched).1 0 1 = true ∧
    waitsFor cexIdx (run cexIdx (init cexProgs) cexSched).1 1 0 = true := by decide

/-! ### static lock orders -/

/-- a static, program-level criterion weaker than `Hier`: an ACYCLIC STATIC LOCK ORDER.  `ord` ranks the
keys consistently with the lock slots (`idx a = idx b → ord a = ord b`) and every nested operation of every
program targets a key the caller already holds or a key of higher rank than everything it holds
(`Hier ord`; such an `ord` exists iff the graph "held slot → requested slot" over all nested operations of
all programs has no cycle — the harness computes it by topological sorting).  `Hier idx` is the special
case `ord = idx`.  Then: no deadlock, no cycle in the wait-for graph of any reachable state, and fair termination -/
theorem deadlock_free_ranked {idx ord : Nat → Nat} {progs : List (List (List Instr))} {s : St}
    (hord : ∀ a b, idx a = idx b → ord a = ord b) (hH : ∀ p ∈ progs, Hier ord p = true)
    (h : Reachable idx progs s) (hnt : s.allTerminal = false) :
    ∃ i ev s', step idx s i = some (ev, s') ∧ ev ≠ .spin :=
  deadlock_free_core hord (inv_reachable h) (hier_reachable hH h) hnt

theorem no_wait_cycle_ranked {idx ord : Nat → Nat} {progs : List (List (List Instr))} {s : St}
    (hord : ∀ a b, idx a = idx b → ord a = ord b) (hH : ∀ p ∈ progs, Hier ord p = true)
    (h : Reachable idx progs s) (i : Nat) : ¬ WaitPath idx s i i :=
  no_wait_cycle_core hord (inv_reachable h) (hier_reachable hH h) i

theorem fair_termination_ranked {idx ord : Nat → Nat} {progs : List (List (List Instr))}
    (hord : ∀ a b, idx a = idx b → ord a = ord b) (hH : ∀ p ∈ progs, Hier ord p = true)
    (σ : Nat → Nat) (hfair : FairSched progs.length σ) :
    ∃ n, ∀ m, n ≤ m → (runN idx (init progs) σ m).allTerminal = true :=
  fair_termination_reachable (fun _ h hnt => deadlock_free_ranked hord hH h hnt) σ hfair

/-- programs that are not `Hier` for the slot order (5 is held while 2 is requested) but have an acyclic
static lock order (rank 5 ↦ 0, 2 ↦ 1, 1 ↦ 2), including a nested rmv -/
example : (∀ p ∈ [[[Instr.getSet 5 (.ok 1), .getSet 2 (.ok 2), .exit, .exit]], [[.getSet 2 (.ok 3), .rmv 1 false false, .exit]]],
      Hier (fun k => if k = 5 then 0 else if k = 2 then 1 else 2) p = true) ∧
    Hier id [[Instr.getSet 5 (.ok 1), .getSet 2 (.ok 2), .exit, .exit]] = false := by decide

/-! ### the repaired code -/

/-- the code with `fixes/C19-nested-write-wait-raises.diff` (a write-lock request made inside a
with-block raises the documented CobaException instead of waiting) cannot deadlock, whatever the
programs nest — neither `Hier` nor the property's own exclusion `WellNested` is needed -/
theorem deadlock_free_repaired {idx : Nat → Nat} {progs : List (List (List Instr))} {s : St}
    (h : ReachableR idx progs s) (hnt : s.allTerminal = false) :
    ∃ i ev s', step idx s i = some (ev, s') ∧ ev ≠ .spin :=
  deadlock_free_repaired_core (reachableR_inv h).1 (reachableR_inv h).2 hnt

theorem fair_termination_repaired {idx : Nat → Nat} {progs : List (List (List Instr))}
    (σ : Nat → Nat) (hfair : FairSched progs.length σ) :
    ∃ n, ∀ m, n ≤ m → (runN idx (initR progs) σ m).allTerminal = true :=
  fair_termination_core (ReachableR idx progs) (fun _ _ _ _ h hs => ReachableR.step h hs) (fun _ h => (reachableR_inv h).1)
    (fun _ h hnt => deadlock_free_repaired h hnt) (initR progs) ReachableR.init σ (by simpa [initR] using hfair)

/-- the invariant and lock release hold for the repaired code as well -/
theorem inv_repaired {idx : Nat → Nat} {progs : List (List (List Instr))} {s : St}
    (h : ReachableR idx progs s) : Inv idx s := (reachableR_inv h).1

theorem locks_released_repaired {idx : Nat → Nat} {progs : List (List (List Instr))} {s : St}
    (h : ReachableR idx progs s) (ht : s.allTerminal = true) :
    (∀ i, s.arr i = 0) ∧ ∀ (j : Nat) (c : Caller), s.cs[j]? = some c → ∀ k, c.book k = 0 :=
  locks_released_core (reachableR_inv h).1 ht

/-- the F1 programs and schedule on the repaired code: nobody is left waiting and all finish -/
theorem f1_repaired :
    (run cexIdx (initR cexProgs) cexSched).1.deadlocked cexIdx = false ∧
    (run cexIdx (initR cexProgs) (cexSched ++ List.replicate 4 0 ++ List.replicate 12 1)).1.allTerminal = true := by decide

/-! ### get_set-only programs on collision-free keys (ghost-clock refinement) -/

/-- the stamps only observe: the ghost-clock system and the lock protocol reach the same protocol states -/
theorem ghost_refines {idx : Nat → Nat} {progs : List (List (List Instr))} :
    (∀ g, GReachable idx progs g → Reachable idx progs g.base) ∧
    (∀ s, Reachable idx progs s → ∃ g, GReachable idx progs g ∧ g.base = s) :=
  ⟨fun _ h => ghost_projects h, fun _ h => ghost_lifts h⟩

/-- the clock invariant of get_set-only programs (`GInv`), for every schedule -/
theorem ghost_invariant {idx : Nat → Nat} {progs : List (List (List Instr))} {g : GSt}
    (hP : ∀ p ∈ progs, GetSetOnly p = true) (h : GReachable idx progs g) :
    (∀ k v, g.base.cache k = some v → g.tp k < g.clock) ∧
    (∀ (j : Nat) (c : Caller), g.base.cs[j]? = some c → ∀ k, c.pc.missKey = some k →
      g.tm j < g.clock ∧ (∀ k' ∈ c.stack, g.tp k' < g.tm j) ∧ (∀ v, g.base.cache k = some v → g.tm j < g.tp k)) :=
  ⟨(ginv_reachable hP h).pop, (ginv_reachable hP h).miss⟩

/-- along a wait-for edge whose target waits itself the miss time strictly increases (collision-free keys, no rmv) -/
theorem ghost_stamps_increase {idx : Nat → Nat} {progs : List (List (List Instr))} {g : GSt}
    (hcf : CollisionFree idx progs = true) (hP : ∀ p ∈ progs, GetSetOnly p = true) (h : GReachable idx progs g)
    {i j m : Nat} (hij : waitsFor idx g.base i j = true) (hjm : waitsFor idx g.base j m = true) : gRank g i < gRank g j :=
  ghost_edge_lt (collisionFree_inj hcf) (getSetOnly_reachable hP (ghost_projects h)) (inv_reachable (ghost_projects h))
    (ginv_reachable hP h) hij hjm

/-- programs that only use `get_set` (any nesting, any lock order — also cyclic ones —, getters and bodies
that raise) on keys without slot collisions (`CollisionFree`: no two different keys of the programs share a slot) never have a cycle in the wait-for graph, in any reachable state of any schedule -/
theorem no_wait_cycle_getset_only {idx : Nat → Nat} {progs : List (List (List Instr))} {s : St}
    (hcf : CollisionFree idx progs = true) (hP : ∀ p ∈ progs, GetSetOnly p = true)
    (h : Reachable idx progs s) (i : Nat) : ¬ WaitPath idx s i i := by
  obtain ⟨g, hg, rfl⟩ := ghost_lifts h
  exact no_wait_cycle_of_rank (gRank g) (ghost_stamps_increase hcf hP hg) i

/-- … hence no deadlock: while somebody is unfinished some caller has a step that is not a failed lock guard -/
theorem deadlock_free_getset_only {idx : Nat → Nat} {progs : List (List (List Instr))} {s : St}
    (hcf : CollisionFree idx progs = true) (hP : ∀ p ∈ progs, GetSetOnly p = true)
    (h : Reachable idx progs s) (hnt : s.allTerminal = false) :
    ∃ i ev s', step idx s i = some (ev, s') ∧ ev ≠ .spin :=
  step_of_no_cycle (inv_reachable h) hnt (no_wait_cycle_getset_only hcf hP h)

/-- … and under every fair infinite schedule all callers finish -/
theorem fair_termination_getset_only {idx : Nat → Nat} {progs : List (List (List Instr))}
    (hcf : CollisionFree idx progs = true) (hP : ∀ p ∈ progs, GetSetOnly p = true)
    (σ : Nat → Nat) (hfair : FairSched progs.length σ) :
    ∃ n, ∀ m, n ≤ m → (runN idx (init progs) σ m).allTerminal = true :=
  fair_termination_reachable (fun _ h hnt => deadlock_free_getset_only hcf hP h hnt) σ hfair

/-- non-vacuity: the crossing programs (A `with gs 0: with gs 1`, B `with gs 1: with gs 0`) are get_set-only, have NO
acyclic static lock order (`deadlock_free_ranked` does not apply for any rank), and the instrumented run finishes / keeps
its stamps consistent in the state where both have entered their first key and ask for the other one -/
example : (∀ p ∈ crossProgs, GetSetOnly p = true) ∧ CollisionFree id crossProgs = true ∧ (∀ ord : Nat → Nat, ¬ (∀ p ∈ crossProgs, Hier ord p = true)) ∧
    (grun id (ginit crossProgs) (List.replicate 11 0 ++ List.replicate 11 1 ++ List.replicate 12 0 ++ List.replicate 12 1)).base.allTerminal = true ∧
    (grun id (ginit crossProgs) (List.replicate 11 0 ++ List.replicate 11 1 ++ [0, 0, 0, 1, 1, 1])).stampsOK [0, 1] = true := ghost_example'

/-- collision-freeness is necessary (second form of known finding C19-F1; `GetSetOnly` without it): two get_set-only,
`WellNested` callers on two colliding pairs of keys reach a deadlock with the 2-cycle 0→1→0; with `rmv` the hypothesis
`GetSetOnly` is necessary by `cross_nesting_counterexample` (no collisions there) -/
theorem getset_only_collision_counterexample :
    (∀ p ∈ collProgs, GetSetOnly p = true ∧ WellNested collIdx p = true) ∧ CollisionFree collIdx collProgs = false ∧
    (run collIdx (init collProgs) collSched).1.deadlocked collIdx = true ∧
    waitsFor collIdx (run collIdx (init collProgs) collSched).1 0 1 = true ∧
    waitsFor collIdx (run collIdx (init collProgs) collSched).1 1 0 = true := by
  refine ⟨by decide, by decide, by decide, by decide, by decide⟩

/-! ### DiskCacher: `get_set` over a file system as a map -/

/-- a getter / write that fails part-way removes the partial file and raises -/
theorem write_failure_removes (fs : Fs) (key : Nat) (w : Write)
    (hw : (∃ b, w = .cutAfter b) ∨ w = .failBefore) (habs : fs key = none ∨ fs key = some []) :
    (diskGetSet fs key w).2 = .raised ∧ (diskGetSet fs key w).1 key = none := by
  rcases habs with h | h <;> rcases hw with ⟨b, rfl⟩ | rfl <;> simp [diskGetSet, h, upd]

/-- a zero-length file behaves exactly like an absent one -/
theorem zero_length_is_absent (fs : Fs) (key : Nat) (w : Write) (h : fs key = some []) :
    (diskGetSet fs key w).2 = (diskGetSet (upd fs key none) key w).2 ∧
    (diskGetSet fs key w).1 key = (diskGetSet (upd fs key none) key w).1 key := by
  cases w <;> simp [diskGetSet, h, upd]

/-- what is served is a non-empty file already on disk or the complete output of this call's writer -/
theorem disk_served_complete (fs : Fs) (key : Nat) (w : Write) (bytes : List Nat)
    (h : (diskGetSet fs key w).2 = .value bytes) :
    (fs key = some bytes ∧ bytes ≠ []) ∨ w = .complete bytes := by
  simp only [diskGetSet] at h
  cases hk : fs key with
  | none => cases w <;> simp_all
  | some b =>
    cases b with
    | nil => cases w <;> simp_all [upd]
    | cons x t => simp_all; left; rw [← h]; simp

/- theorem zero_length_is_absent_concurrent_full (fs key w) : concDiskGetSet fs key w = diskGetSet fs key w
   is FALSE for the code as it is: `concurrent_zero_length_counterexample` (known finding C19-F3). -/

/-- through ConcurrentCacher a DiskCacher behaves as on its own, provided the file is not zero-length -/
theorem zero_length_is_absent_concurrent_partial (fs : Fs) (key : Nat) (w : Write) (h : fs key ≠ some []) :
    concDiskGetSet fs key w = diskGetSet fs key w := by
  simp only [concDiskGetSet]
  cases hk : fs key with
  | none => rfl
  | some b =>
    cases b with
    | nil => exact absurd hk h
    | cons x t => simp [diskGetSet, hk]

/-- the hypothesis is necessary: a zero-length file (left by a crash) makes
`ConcurrentCacher(DiskCacher).get_set` raise instead of re-populating, whatever the getter does
(the file is gone afterwards, so the next call works) — known finding C19-F3 -/
theorem concurrent_zero_length_counterexample (fs : Fs) (key : Nat) (w : Write) (h : fs key = some []) :
    (concDiskGetSet fs key w).2 = .raised ∧ (concDiskGetSet fs key w).1 key = none := by
  simp [concDiskGetSet, diskGetSet, h, upd]

/-! ### DiskCacher inside the lock protocol: the write window and the unlocked membership test -/

/-- DiskCacher under concurrency: while a writer is between creating the entry's file (`ccreate`)
and closing it (`cpop` / `cpopFail`), the entry does not count as cached, no other caller has it
open — in an operation or in a with-body —, nobody else writes or removes a key of that slot,
and no step of another caller opens or receives it: no partial file is ever read -/
theorem disk_no_partial_read {idx : Nat → Nat} {progs : List (List (List Instr))} {s : St}
    (h : Reachable idx progs s) {i j : Nat} {c d : Caller} {k : Nat} {g : Getter}
    (hi : s.cs[i]? = some c) (hpc : c.pc = .gsPopW k g) (hj : s.cs[j]? = some d) (hne : j ≠ i) :
    s.cache k = none ∧ k ∉ d.reads ∧ d.pc.writeKey ≠ some k ∧
    ∀ ev s', step idx s j = some (ev, s') → ∀ v, ev ≠ .cget k v ∧ ev ≠ .enter k v := by
  have hI := inv_reachable h
  have hw : c.pc.writeKey = some k := by rw [hpc]; rfl
  have hx := mutual_exclusion h hi hj hne hw
  refine ⟨pcOK_popW (hI.pc i c hi) hpc, fun hm => hx.2.1 k hm rfl, fun hm => hx.2.2 k hm rfl, ?_⟩
  intro ev s' hs v
  obtain ⟨d', hd', hf⟩ := step_opUnderLock hI hs
  rw [hj] at hd'; cases hd'
  exact ⟨fun he => hx.2.1 k (hf.cget k v he).1 rfl, fun he => hx.2.1 k (hf.enter k v he).1 rfl⟩

/-- DiskCacher inside the transition system: a DiskCacher writes in place, so between `ccreate` and
`cpop`/`cpopFail` a half-written file exists and an UNLOCKED `exists()` (the `key in self` of `rmv`,
instruction flag `o`) can answer True for it.  Every theorem of this file is proved for every value of
that flag.  And no partial entry is ever exposed, for every interleaving: whenever a caller opens an entry
(`cget`) or receives it (`enter`), nobody is between creating and closing that entry's file, and the
value is the complete cached one -/
theorem no_partial_exposed {idx : Nat → Nat} {progs : List (List (List Instr))} {s s' : St} {j : Nat} {ev : Ev} {k v : Nat}
    (h : Reachable idx progs s) (hs : step idx s j = some (ev, s')) (hev : ev = .cget k v ∨ ev = .enter k v) :
    partialWriter s k = false ∧ s.cache k = some v := by
  have hI := inv_reachable h
  obtain ⟨c, hj, hf⟩ := step_opUnderLock hI hs
  have hk : k ∈ c.reads ∧ s.cache k = some v := hev.elim (hf.cget k v) (hf.enter k v)
  refine ⟨?_, hk.2⟩
  cases hp : partialWriter s k with
  | false => rfl
  | true =>
    -- the writer of the file holds the write lock of `k`, so nobody reads `k`
    obtain ⟨i, ci, g, hi, hpc⟩ := partialWriter_iff.mp hp
    exact absurd rfl ((writer_excl hI.locksOK hi (by rw [hpc]; rfl) hj).1 k hk.1)

/-- the interleaving that does let the unlocked membership test see a half-written file (replayed
against the real ConcurrentCacher + DiskCacher under the controlled scheduler): the test answers True
while the entry is not cached, the remover then waits for the writer and removes the complete entry -/
theorem partial_file_seen_by_rmv :
    partialWriter (run id (init seenProgs) (List.replicate 8 0 ++ [1, 1])).1 0 = true ∧
    (run id (init seenProgs) (List.replicate 8 0 ++ [1, 1])).1.cache 0 = none ∧
    (run id (init seenProgs) seenSched).2.getLast? = some (1, .contains 0 true) ∧
    (run id (init seenProgs) (seenSched ++ [1] ++ List.replicate 5 0 ++ List.replicate 3 1)).1.allTerminal = true ∧
    (run id (init seenProgs) (seenSched ++ [1] ++ List.replicate 5 0 ++ List.replicate 3 1)).1.cache 0 = none ∧
    (run id (init seenProgs) (seenSched ++ [1] ++ List.replicate 5 0 ++ List.replicate 3 1)).1.arr 0 = 0 := by
  decide

/-! ### the DiskCacher write as several steps inside the scheduled system

`DSt` = lock-protocol state + files.  On its turn a caller takes its next protocol step (`DAct.base`) or, while it is the
writer of an entry, writes one more chunk / closes the file (`DAct.chunk b`, `DAct.close`): open-truncate (`ccreate`, the file
exists and is zero-length), chunk, …, close, return (`cpop`) are separate steps of the schedule and every other caller can run
between any two of them.  `enc v` = the chunks of value `v` (arbitrary). -/

/-- every schedule of the file-level system is a schedule of the lock protocol: all theorems above (mutual exclusion,
single flight, lock release, deadlock freedom, …) hold with the write split into open / chunks / close -/
theorem chunked_write_projects {enc : Nat → List Nat} {idx : Nat → Nat} {progs : List (List (List Instr))} {s : DSt}
    (h : DReachable enc idx progs s) : Reachable idx progs s.base := dreachable_base h

/-- files and cache agree: a cached entry's file is closed and complete, and a key that is neither cached nor being written
has no file — a failed write leaves nothing behind -/
theorem chunked_files_consistent {enc : Nat → List Nat} {idx : Nat → Nat} {progs : List (List (List Instr))} {s : DSt}
    (h : DReachable enc idx progs s) (k : Nat) :
    (∀ v, s.base.cache k = some v → s.file k = .closed (enc v)) ∧
    (s.base.cache k = none → partialWriter s.base k = false → s.file k = .absent) := dinv_reachable h k

/-- under ConcurrentCacher no reader observes a partial entry, for every schedule of protocol steps, chunk writes and
closes: whenever a caller opens (`cget`) or receives (`enter`) an entry, its file is closed and complete — not zero-length,
not half-written —, nobody is writing it, and what `DiskCacher.get_set(key, None)` finds on disk is the complete content -/
theorem chunked_no_partial_read {enc : Nat → List Nat} {idx : Nat → Nat} {progs : List (List (List Instr))}
    {s s' : DSt} {j : Nat} {ev : Ev} {obs : Option DiskRead} {k v : Nat}
    (h : DReachable enc idx progs s) (hs : dstep enc idx s j .base = some (.base ev obs, s'))
    (hev : ev = .cget k v ∨ ev = .enter k v) :
    s.file k = .closed (enc v) ∧ partialWriter s.base k = false ∧ (ev = .cget k v → obs = some (.complete (enc v))) := by
  obtain ⟨e, b', hb, _, he, _⟩ := dstep_base_facts hs
  simp at he
  obtain ⟨rfl, rfl⟩ := he
  have hx := no_partial_exposed (dreachable_base h) hb hev
  have hf := (chunked_files_consistent h k).1 v hx.2
  refine ⟨hf, hx.1, ?_⟩
  rintro rfl
  simp [obsOf, hf, diskRead]

/-- the writer's intermediate steps are private: a chunk / close step touches only the file of the entry being populated, which
nobody else can hold open, write or remove meanwhile -/
theorem chunk_steps_exclusive {enc : Nat → List Nat} {idx : Nat → Nat} {progs : List (List (List Instr))}
    {s s' : DSt} {i : Nat} {a : DAct} {ev : DEv} (h : DReachable enc idx progs s) (ha : a ≠ .base)
    (hs : dstep enc idx s i a = some (ev, s')) :
    ∃ k, (ev = .close k ∨ ∃ b, ev = .chunk k b) ∧ s'.base = s.base ∧ (∀ k', k' ≠ k → s'.file k' = s.file k') ∧
      s.base.cache k = none ∧
      ∀ j d, s.base.cs[j]? = some d → j ≠ i → k ∉ d.reads ∧ d.pc.writeKey ≠ some k := by
  obtain ⟨c, k, g, w, f', hi, hpc, hf, rfl, hcase⟩ := dstep_write_facts ha hs
  refine ⟨k, ?_, rfl, fun k' hk => by simp [upd, hk], ?_, ?_⟩
  · rcases hcase with ⟨b, _, rfl, _, _⟩ | ⟨_, rfl, _, _⟩
    · exact Or.inr ⟨b, rfl⟩
    · exact Or.inl rfl
  · exact pcOK_popW ((inv_reachable (dreachable_base h)).pc i c hi) hpc
  · intro j d hj hne
    have := disk_no_partial_read (dreachable_base h) hi hpc hj hne
    exact ⟨this.2.1, this.2.2.1⟩

/-- non-vacuity, and what the locks are for: after the writer's open-truncate the file is zero-length — a bare
`DiskCacher.get_set` would REMOVE it under the writer (`diskRead … = .zeroLength`) — but the reader's only step is a refused
read lock; it stays refused between the chunks and the close, and afterwards the reader finds the complete content.  A wrong /
early chunk, an early close and an early return are not steps of a successful writer (same schedule replayed on the real code) -/
theorem chunked_write_example :
    (drun chunkEnc id (dinit chunkProgs) chunkSched1).1.file 0 = .opened [] ∧
    diskRead ((drun chunkEnc id (dinit chunkProgs) chunkSched1).1.file 0) = .zeroLength ∧
    (drun chunkEnc id (dinit chunkProgs) chunkSched1).2.getLast? = some (1, .base .spin none) ∧
    ((drun chunkEnc id (dinit chunkProgs) chunkSched2).2.filter (fun e => e.1 == 1)).map (·.2) =
      [.base .nextSeg none, .base .begin none, .base .spin none, .base .spin none, .base .spin none, .base .spin none,
       .base (.acqR 0) none, .base (.contains 0 true) none, .base (.cget 0 7) (some (.complete [1, 2]))] ∧
    (dstep chunkEnc id (drun chunkEnc id (dinit chunkProgs) chunkSched1).1 0 (.chunk 2)).isNone = true ∧
    (dstep chunkEnc id (drun chunkEnc id (dinit chunkProgs) chunkSched1).1 0 .close).isNone = true ∧
    (dstep chunkEnc id (drun chunkEnc id (dinit chunkProgs) chunkSched1).1 0 .base).isNone = true := by
  decide

/-! ### progress of the file-level (chunked write) system -/

/-- invariant behind writer progress: while a successful getter's entry is being written, its file is open holding a prefix of the
entry's chunks, or already closed holding all of them -/
theorem writer_file_invariant {enc : Nat → List Nat} {idx : Nat → Nat} {progs : List (List (List Instr))} {s : DSt}
    (h : DReachable enc idx progs s) {j : Nat} {c : Caller} {k v : Nat} (hj : s.base.cs[j]? = some c) (hpc : c.pc = .gsPopW k (.ok v)) :
    (∃ w, s.file k = .opened w ∧ w.isPrefixOf (enc v) = true) ∨ s.file k = .closed (enc v) := winv_reachable h j c k v hj hpc

/-- the writer of an entry (a caller at `gsPopW`) always has a step that is not a failed guard: the next chunk, the close,
the return of the complete entry, or the failure -/
theorem writer_progress {enc : Nat → List Nat} {idx : Nat → Nat} {progs : List (List (List Instr))} {s : DSt}
    {i : Nat} {c : Caller} {k : Nat} {g : Getter} (h : DReachable enc idx progs s)
    (hi : s.base.cs[i]? = some c) (hpc : c.pc = .gsPopW k g) :
    ∃ a ev s', dstep enc idx s i a = some (ev, s') ∧ (∀ e o, ev = .base e o → e ≠ .spin) := writer_enabled h hi hpc

/-- nobody is ever stuck in the file-level system: every unfinished caller has an enabled action -/
theorem chunked_no_caller_stuck {enc : Nat → List Nat} {idx : Nat → Nat} {progs : List (List (List Instr))} {s : DSt}
    {i : Nat} {c : Caller} (h : DReachable enc idx progs s) (hi : s.base.cs[i]? = some c) (hnt : c.terminal = false) :
    ∃ a ev s', dstep enc idx s i a = some (ev, s') := by
  have hsome := no_stuck_core (inv_reachable (dreachable_base h)) hi hnt
  cases hb : step idx s.base i with
  | none => rw [hb] at hsome; cases hsome
  | some r => obtain ⟨a, dev, s', hs, _⟩ := dstep_lift h (ev := r.1) (b' := r.2) hb; exact ⟨a, dev, s', hs⟩

/-- deadlock freedom of the file-level system under an acyclic static lock order (`Hier idx` is `ord = idx`) … -/
theorem chunked_deadlock_free {enc : Nat → List Nat} {idx ord : Nat → Nat} {progs : List (List (List Instr))} {s : DSt}
    (hord : ∀ a b, idx a = idx b → ord a = ord b) (hH : ∀ p ∈ progs, Hier ord p = true)
    (h : DReachable enc idx progs s) (hnt : s.base.allTerminal = false) :
    ∃ i a ev s', dstep enc idx s i a = some (ev, s') ∧ (∀ e o, ev = .base e o → e ≠ .spin) :=
  dstep_lift_nonspin h (deadlock_free_ranked hord hH (dreachable_base h) hnt)

/-- … and for get_set-only programs on collision-free keys -/
theorem chunked_deadlock_free_getset_only {enc : Nat → List Nat} {idx : Nat → Nat} {progs : List (List (List Instr))} {s : DSt}
    (hcf : CollisionFree idx progs = true) (hP : ∀ p ∈ progs, GetSetOnly p = true)
    (h : DReachable enc idx progs s) (hnt : s.base.allTerminal = false) :
    ∃ i a ev s', dstep enc idx s i a = some (ev, s') ∧ (∀ e o, ev = .base e o → e ≠ .spin) :=
  dstep_lift_nonspin h (deadlock_free_getset_only hcf hP (dreachable_base h) hnt)

/-- variant of the file-level system: a protocol step that is not a failed guard decreases `St.measure`; a chunk / close step
leaves the protocol state alone and, for a successful getter, strictly decreases what is left to write (`writeLeft` = missing
chunks + the close).  (A FAILING getter may write any number of chunks before it raises in this model, so termination of the
file-level system needs the getter to stop eventually.) -/
theorem chunked_progress_bounded {enc : Nat → List Nat} {idx : Nat → Nat} {progs : List (List (List Instr))} {s s' : DSt}
    {i : Nat} {a : DAct} {ev : DEv} (h : DReachable enc idx progs s) (hs : dstep enc idx s i a = some (ev, s')) :
    (∀ e o, ev = .base e o → e ≠ .spin → s'.base.measure < s.base.measure) ∧
    (a ≠ .base → s'.base = s.base ∧
      ∀ c k v, s.base.cs[i]? = some c → c.pc = .gsPopW k (.ok v) → writeLeft enc s' i < writeLeft enc s i) := by
  refine ⟨fun e o he hne => ?_, fun ha => dstep_write_left ha hs⟩
  cases a with
  | base =>
    obtain ⟨e', b', hb, _, rfl, rfl⟩ := dstep_base_facts hs
    cases he
    exact (progress_core (inv_reachable (dreachable_base h)) hb).1 hne
  | chunk b | close =>
    obtain ⟨_, _, _, _, _, _, _, _, _, hc⟩ := dstep_write_facts (by simp) hs
    rcases hc with ⟨_, _, rfl, _⟩ | ⟨_, rfl, _⟩ <;> cases he

/-- non-vacuity: a writer in the middle of its entry (one of two chunks written) — the reader can only spin, the writer moves -/
example : (dstep chunkEnc id (drun chunkEnc id (dinit chunkProgs) (chunkSched1 ++ [(0, .chunk 1)])).1 0 (.chunk 2)).isSome = true ∧
    (dstep chunkEnc id (drun chunkEnc id (dinit chunkProgs) (chunkSched1 ++ [(0, .chunk 1)])).1 0 .close).isSome = false ∧
    ((dstep chunkEnc id (drun chunkEnc id (dinit chunkProgs) (chunkSched1 ++ [(0, .chunk 1)])).1 1 .base).map (·.1)) = some (.base .spin none) := by
  decide

/-! ### typed keys — the lock slot is a function of the entry only if `str()` respects the inner cacher's key equality -/

/-- if keys that the inner cacher treats as one entry (`ident`) always get one lock slot (`slotsRespectEq`), the slots the code computes
(`slotOf h r` = hash of `str(key)`) are given by ONE key→index map on entries, `idxOf h reps` — so the real system on these keys is an
instance of the transition system and every theorem above applies to it -/
theorem typed_keys_slot_function_partial {h : Nat → Nat} {reps : List KeyRep} (hr : slotsRespectEq h reps = true) :
    ∀ r ∈ reps, idxOf h reps r.ident = slotOf h r := by
  intro r hm
  unfold idxOf slotOf
  cases hf : reps.find? (fun x => x.ident == r.ident) with
  | none =>
    have := List.find?_eq_none.mp hf r hm
    simp at this
  | some a =>
    have ha := List.mem_of_find?_eq_some hf
    have hp := List.find?_some hf
    simp at hp
    simp only [slotsRespectEq, List.all_eq_true] at hr
    have := hr a ha r hm
    simp [hp] at this
    simpa using this

/-- … in particular `mutual_exclusion` in terms of the slots the code computes: while a caller holds the write lock for the entry of
key `a`, no key of `reps` that anybody reads or writes has `a`'s slot, hence none is `a`'s entry -/
theorem typed_keys_exclusion_partial {h : Nat → Nat} {reps : List KeyRep} (hr : slotsRespectEq h reps = true)
    {progs : List (List (List Instr))} {s : St} (hs : Reachable (idxOf h reps) progs s)
    {i j : Nat} {c d : Caller} {a : KeyRep} (ha : a ∈ reps)
    (hi : s.cs[i]? = some c) (hj : s.cs[j]? = some d) (hne : j ≠ i) (hw : c.pc.writeKey = some a.ident) :
    ∀ b ∈ reps, (b.ident ∈ d.reads ∨ d.pc.writeKey = some b.ident ∨ b.ident ∈ c.reads) → slotOf h b ≠ slotOf h a ∧ b.ident ≠ a.ident := by
  intro b hb hor
  have me := mutual_exclusion hs hi hj hne hw
  have e1 := typed_keys_slot_function_partial hr a ha
  have e2 := typed_keys_slot_function_partial hr b hb
  have key : idxOf h reps b.ident ≠ idxOf h reps a.ident := by
    rcases hor with h1 | h1 | h1
    · exact me.2.1 _ h1
    · exact me.2.2 _ h1
    · exact me.1 _ h1
  refine ⟨by rw [← e1, ← e2]; exact key, ?_⟩
  intro he; rw [he] at key; exact key rfl

/-- the hypothesis is satisfiable and non-trivial: `1` and `"1"` (two entries, one text → one slot), `"a"`, `"b"` -/
example : slotsRespectEq (fun t => t % 7) [⟨0, 0⟩, ⟨1, 0⟩, ⟨2, 5⟩, ⟨3, 12⟩] = true := by decide

/-- the hypothesis is necessary (C19-F4): the keys `1` and `1.0` are ONE entry of a MemoryCacher (`1 == 1.0`, same hash) but have two texts
("1", "1.0") and so two slots; then no key→index map on entries gives the slots the code uses — the two callers lock different slots for the
same entry (replayed on the real code: both getters run at the same time) -/
theorem typed_keys_counterexample :
    slotsRespectEq id [⟨1, 1⟩, ⟨1, 2⟩] = false ∧
    ¬ ∃ idx : Nat → Nat, ∀ r ∈ [(⟨1, 1⟩ : KeyRep), ⟨1, 2⟩], idx r.ident = slotOf id r := by
  refine ⟨by decide, ?_⟩
  rintro ⟨idx, hx⟩
  have h1 := hx ⟨1, 1⟩ (by simp)
  have h2 := hx ⟨1, 2⟩ (by simp)
  simp [slotOf] at h1 h2
  omega

/-- translator obligation: every subscript of and membership test on MemoryCacher's dict, as extracted from the current source, uses
the key ITSELF — the inner cacher's notion of "one entry" is the key's own equality, which is what `KeyRep.ident` stands for in
`typed_keys_slot_function_partial`. Storing under `str(key)`, `repr(key)`, … breaks this obligation. -/
theorem generated_memory_key_identity :
    Generated.memoryKeysExtracted = true ∧ Generated.memoryKeyExprs ≠ [] ∧ ∀ e ∈ Generated.memoryKeyExprs, e = modelMemoryKeyExpr := by decide

/-! ### translator obligations: constants, call order, lock blocks and key expressions extracted from the source -/

/-- translator obligation (regenerated from the source on every run): the semaphore CobaMultiprocessor installs has the
permits the model assumes and at least one (so `semaphore_deadlock_free` applies), every slot number a `digestBytes`-byte
digest can take lies inside the shared lock table, and both equal the model's constants -/
theorem generated_consts_match :
    Generated.openmlPermits = modelPermits ∧ Generated.digestBytes = modelDigestBytes ∧ Generated.lockTableSize = modelSlots ∧
    256 ^ Generated.digestBytes ≤ Generated.lockTableSize ∧ 1 ≤ Generated.openmlPermits := by decide

/-- translator obligation (`Generated/C19Protocol.lean` is regenerated from `coba/context/cachers.py` with `ast` on every run):
along every path of `ConcurrentCacher.get_set` (hit / miss → populate / miss → somebody else populated / getter raises → handler) and
of `rmv` (absent / removed / inner rmv raises) the source makes exactly the calls, in exactly the order, of the model's `step` run -/
theorem generated_call_order :
    (∀ in1 in2 fails, Generated.getSetPath in1 in2 fails = modelGetSetPath in1 in2 fails) ∧
    (∀ inSelf fails, Generated.rmvPath inSelf fails = modelRmvPath inSelf fails) ∧ Generated.protocolExtracted = true := by
  refine ⟨?_, ?_, rfl⟩
  · intro a b c; cases a <;> cases b <;> cases c <;> decide
  · intro a b; cases a <;> cases b <;> decide

/-- … and the lock blocks of `stepC` ARE the extracted ones: `_acquire_read_lock` (guard, `_array` and `_locks` updates, else wait),
`_acquire_write_lock` (guard true / false), `_switch_write_to_read_lock`, `_release_write_lock`, `_release_read_lock` — for all states -/
theorem generated_lock_blocks (idx : Nat → Nat) (arr : Nat → Int) (cache : Nat → Option Nat)
    (k : Nat) (g : Getter) (v : Nat) (cur : List Instr) (rest : List (List Instr)) (stack : List Nat) (book : Nat → Int) (tn : Bool) :
    stepC idx arr cache ⟨.gsAcqR k g, cur, rest, stack, book, tn⟩ =
      (if guardHolds Generated.acqReadGuard (arr (idx k)) then
        some (.acqR k, upd arr (idx k) (applyUpd Generated.acqReadArray (arr (idx k))), cache,
              ⟨.gsChk1 k g, cur, rest, stack, upd book k (applyUpd Generated.acqReadLocks (book k)), tn⟩)
       else some (.spin, arr, cache, ⟨.gsAcqR k g, cur, rest, stack, book, tn⟩)) ∧
    (guardHolds Generated.acqWriteGuard (arr (idx k)) = true →
      stepC idx arr cache ⟨.gsAcqW k g, cur, rest, stack, book, tn⟩ =
        some (.acqW k, upd arr (idx k) (applyUpd Generated.acqWriteArray (arr (idx k))), cache,
              ⟨.gsChk2 k g, cur, rest, stack, upd book k (applyUpd Generated.acqWriteLocks (book k)), tn⟩)) ∧
    (guardHolds Generated.acqWriteGuard (arr (idx k)) = false → tn = false →
      stepC idx arr cache ⟨.gsAcqW k g, cur, rest, stack, book, tn⟩ = some (.spin, arr, cache, ⟨.gsAcqW k g, cur, rest, stack, book, tn⟩)) ∧
    stepC idx arr cache ⟨.gsSwB k v, cur, rest, stack, book, tn⟩ =
      some (.sw k, upd arr (idx k) (applyUpd Generated.switchArray (arr (idx k))), cache,
            ⟨.gsEnter k v, cur, rest, stack, upd book k (applyUpd Generated.switchLocks (book k)), tn⟩) ∧
    stepC idx arr cache ⟨.rmRelW k, cur, rest, stack, book, tn⟩ =
      some (.relW k, upd arr (idx k) (applyUpd Generated.relWriteArray (arr (idx k))), cache,
            ⟨.idle, cur, rest, stack, upd book k (applyUpd Generated.relWriteLocks (book k)), tn⟩) ∧
    stepC idx arr cache ⟨.exRel, cur, rest, k :: stack, book, tn⟩ =
      some (.relR k, upd arr (idx k) (applyUpd Generated.relReadArray (arr (idx k))), cache,
            ⟨.idle, cur, rest, stack, upd book k (applyUpd Generated.relReadLocks (book k)), tn⟩) := by
  -- the extracted guards / updates, semantically (so `>= 0` and `> -1` in the source are the same obligation)
  have gR : ∀ x : Int, guardHolds Generated.acqReadGuard x = decide (x ≥ 0) := by
    intro x; by_cases h : x ≥ 0 <;> simp [guardHolds, Generated.acqReadGuard, h] <;> omega
  have gW : ∀ x : Int, guardHolds Generated.acqWriteGuard x = decide (x = 0) := by
    intro x; by_cases h : x = 0 <;> simp [guardHolds, Generated.acqWriteGuard, h] <;> omega
  have u1 : ∀ x : Int, applyUpd Generated.acqReadArray x = x + 1 ∧ applyUpd Generated.acqReadLocks x = x + 1 := by
    intro x; simp [applyUpd, Generated.acqReadArray, Generated.acqReadLocks] <;> omega
  have u2 : ∀ x : Int, applyUpd Generated.relReadArray x = x - 1 ∧ applyUpd Generated.relReadLocks x = x - 1 := by
    intro x; simp [applyUpd, Generated.relReadArray, Generated.relReadLocks] <;> omega
  have u3 : ∀ x : Int, applyUpd Generated.acqWriteArray x = -1 ∧ applyUpd Generated.acqWriteLocks x = -1 := by
    intro x; simp [applyUpd, Generated.acqWriteArray, Generated.acqWriteLocks] <;> omega
  have u4 : ∀ x : Int, applyUpd Generated.relWriteArray x = 0 ∧ applyUpd Generated.relWriteLocks x = 0 := by
    intro x; simp [applyUpd, Generated.relWriteArray, Generated.relWriteLocks] <;> omega
  have u5 : ∀ x : Int, applyUpd Generated.switchArray x = 1 ∧ applyUpd Generated.switchLocks x = 1 := by
    intro x; simp [applyUpd, Generated.switchArray, Generated.switchLocks] <;> omega
  refine ⟨?_, ?_, ?_, ?_, ?_, ?_⟩
  · simp only [gR, (u1 _).1, (u1 _).2]; simp [stepC]
  · intro h; rw [gW] at h; simp at h
    simp only [(u3 _).1, (u3 _).2]; simp [stepC, h]
  · intro h ht; rw [gW] at h; simp at h
    simp [stepC, h, ht]
  · simp only [(u5 _).1, (u5 _).2]; simp [stepC]
  · simp only [(u4 _).1, (u4 _).2]; simp [stepC]
  · simp only [(u2 _).1, (u2 _).2]; simp [stepC]

/-- translator obligation: the file of an entry is named by the key ITSELF (`f"{key}.gz"`) and the lock slot is the hash of
`str(key)` — the two sites agree on key identity, which is what lets the model index files (`DSt.file`) and locks by the same keys.
A normalising file name (`key.strip()`, `key.lower()`, …) breaks this obligation (and is caught by the twin-key runs). -/
theorem generated_key_identity :
    Generated.cacheNameKeyExpr = modelCacheNameKeyExpr ∧ Generated.cacheNameSuffix = modelCacheNameSuffix ∧
    Generated.indexKeyExpr = modelIndexKeyExpr := ⟨rfl, rfl, rfl⟩

/-! ### the download semaphore: the permits of one `OpenmlSource.read` and of a sequence of reads -/

/-- OpenmlSource.read hands back every permit of the download semaphore it takes, on every path
(source cached before, cached by a peer while waiting in `acquire()`, not cached; the `finally:` covers
normal, raising and abandoned reads), and takes at most one -/
theorem semaphore_balanced (hasSem cached1 cached2 : Bool) :
    (openmlSem hasSem cached1 cached2).acquires = (openmlSem hasSem cached1 cached2).releases ∧
    (openmlSem hasSem cached1 cached2).acquires ≤ 1 := openmlSem_balanced hasSem cached1 cached2

/-- any sequence of OpenmlSource reads (data-id or task-id sources; cached before / by a peer during
`acquire()` / downloaded through `_http_request`; ending normally, raising or abandoned) against a
semaphore with at least one permit never has to wait for ever and leaves the number of free permits unchanged -/
theorem semaphore_sequence_balanced (p : Nat) (hp : 1 ≤ p) (rs : List (Bool × Bool × Bool)) : semRun p rs = some p := by
  induction rs with
  | nil => rfl
  | cons r rs ih => simp [semRun, semStep_balanced p r hp, ih]

example : semRun 3 [(true, false, true), (true, false, false), (true, true, true), (false, false, false)] = some 3 := by decide

/-! ### the download semaphore as an interleaving system

Any number of callers, each a sequence of `OpenmlSource.read`s (`SRead`: cached at the first check / at the re-check after
`acquire()` / the download or its consumer raises), one atomic step per semaphore operation or check; `SReachable permits progs s`
= reached by any schedule. -/

/-- never more than `permits` callers hold a permit, hence never more than `permits` simultaneous downloads: free permits +
holders = permits in every reachable state -/
theorem semaphore_never_exceeds_permits {permits : Nat} {progs : List (List SRead)} {s : SSt}
    (h : SReachable permits progs s) :
    s.free + s.holders = permits ∧ s.downloads ≤ s.holders ∧ s.holders ≤ permits := by
  have := sem_account_reachable h
  refine ⟨this, ssum_le _ _ downloading_le_holds _, by omega⟩

/-- every acquire is released on every path (peer cached it meanwhile, download finished, download or consumer raised): when all
callers are done all permits are back -/
theorem semaphore_all_released {permits : Nat} {progs : List (List SRead)} {s : SSt}
    (h : SReachable permits progs s) (ht : s.allTerminal = true) : s.free = permits := by
  have := sem_account_reachable h
  have hz : s.holders = 0 := by
    apply ssum_zero
    intro c hc
    simp [SSt.allTerminal] at ht
    exact terminal_holds_zero c (ht c hc)
  omega

/-- with at least one permit nobody waits forever: while somebody is unfinished, some caller has a step other than waiting in `acquire()` -/
theorem semaphore_deadlock_free {permits : Nat} {progs : List (List SRead)} {s : SSt} (hp : 1 ≤ permits)
    (h : SReachable permits progs s) (hnt : s.allTerminal = false) :
    ∃ i ev s', sstep s i = some (ev, s') ∧ ev ≠ .wait :=
  sem_deadlock_free_core (by have := sem_account_reachable h; omega) hnt

/-- … and every such step decreases the variant, waiting changes nothing: under weak fairness every read ends -/
theorem semaphore_progress_bounded {s s' : SSt} {i : Nat} {ev : SEv} (hs : sstep s i = some (ev, s')) :
    (ev ≠ .wait → s'.measure < s.measure) ∧ (ev = .wait → s' = s) := by
  obtain ⟨c, f, c', hc, hq, rfl⟩ := sstep_iff.mp hs
  rcases (semStepC_effect hq).2 with ⟨rfl, rfl, rfl⟩ | ⟨hne, hlt⟩
  · exact ⟨fun h => absurd rfl h, fun _ => by rw [set_getElem?_self hc]⟩
  · refine ⟨fun _ => ?_, fun h => absurd h hne⟩
    have := ssum_set SCaller.measure s.cs i c c' hc
    simp only [SSt.measure]
    omega

/-- three callers on one permit (cached / peer-cached / raising reads): one gets in, two wait, all finish, the permit is back -/
example : (srun (sinit 1 semProgs) [0, 1, 2, 0, 1, 2, 0, 0, 0, 1, 1, 1, 2, 2, 2, 2, 0, 0, 0, 0]).1.free = 1 ∧
    (srun (sinit 1 semProgs) [0, 1, 2, 0, 1, 2, 0, 0, 0, 1, 1, 1, 2, 2, 2, 2, 0, 0, 0, 0]).1.allTerminal = true ∧
    (srun (sinit 1 semProgs) [0, 1, 2, 0, 1, 2]).2 = [(0, .request), (1, .request), (2, .request), (0, .acquire), (1, .wait), (2, .wait)] ∧
    (srun (sinit 1 semProgs) [0, 1, 2, 0, 1, 2]).1.holders = 1 := semaphore_example'

/-- `1 ≤ permits` is necessary: with a zero-permit semaphore an uncached read waits forever -/
theorem semaphore_zero_permits_counterexample :
    (srun (sinit 0 [[⟨false, false, false⟩]]) [0, 0, 0]).2 = [(0, .request), (0, .wait), (0, .wait)] ∧
    (srun (sinit 0 [[⟨false, false, false⟩]]) [0, 0, 0]).1.allTerminal = false := by decide

/-- … hence for the library's own semaphore: never more than its 3 permits are held, and nobody waits forever -/
theorem semaphore_library_instance {progs : List (List SRead)} {s : SSt} (h : SReachable Generated.openmlPermits progs s) :
    s.holders ≤ 3 ∧ (s.allTerminal = false → ∃ i ev s', sstep s i = some (ev, s') ∧ ev ≠ .wait) :=
  ⟨(semaphore_never_exceeds_permits h).2.2, semaphore_deadlock_free generated_consts_match.2.2.2.2 h⟩

end Coba.C19
