/-
C20 — Feature interaction encoding equals the mathematical polynomial expansion.
Property theorems only (helper lemmas live in `Lemmas/C20.lean`, `C20Float`, `C20LinAlg`, `C20Names`).  Where other lemmas
need a property theorem, the lemma modules (which cannot import this file) hold it as a lemma and the theorem here
cites it; a primed lemma name (`learn_perm'`) is the name of the theorem here that states the same
(`sparse_call_no_collision'` keeps the hypothesis its theorem discharges; `equalLenOK_no_collision'` and `pmf_length'`
have no theorem of their own name).

`encode Cfg.fixed` is the model of `InteractionsEncoder(...).encode(...)` with the three repairs
(fixes/C20-*.diff, in /repo as 2010245, 7eff493, e131329); `encode Cfg.current` mirrors the unchanged tree and is the
subject of the `_counterexample` theorems.  `mul`/`one` are arbitrary: `*`/`1` for values, `++`/`""` for names.
-/
import CobaVerif.Lemmas.C20Float
import CobaVerif.Lemmas.C20LinAlg
import CobaVerif.Lemmas.C20Names
import CobaVerif.Generated.C20Callers
import CobaVerif.Generated.C20LinAlg

namespace Coba.C20

-- lets `decide` compare results of `encode` (`Except Err Out`)
deriving instance DecidableEq for Except

/-! ### The combinations: each unordered combination of features once -/

/-- `multichoose k xs` (the order of `itertools.combinations_with_replacement`) lists only
size-`k` combinations of members of `xs` … -/
theorem combos_sound {α : Type} (k : Nat) (xs c : List α) (h : c ∈ multichoose k xs) :
    c.length = k ∧ ∀ a ∈ c, a ∈ xs := multichoose_sound k xs c h

/-- … every multiset of `k` members of `xs` is listed … -/
theorem combos_complete {α : Type} [DecidableEq α] (xs : List α) (k : Nat) (m : Multiset α)
    (hk : Multiset.card m = k) (hm : ∀ a ∈ m, a ∈ xs) :
    ∃ c ∈ multichoose k xs, Multiset.ofList c = m := by
  induction xs generalizing k m with
  | nil =>
    have : m = 0 := Multiset.eq_zero_of_forall_notMem (fun a ha => by cases hm a ha)
    subst this
    simp at hk
    subst hk
    exact ⟨[], by simp [multichoose], rfl⟩
  | cons x xs ihx =>
    induction k generalizing m with
    | zero =>
      rw [Multiset.card_eq_zero] at hk
      subst hk
      exact ⟨[], by simp [multichoose], rfl⟩
    | succ k ihk =>
      -- the combinations that start with `x` (one degree less over the same list), then those that do not use it
      by_cases hx : x ∈ m
      · obtain ⟨m', rfl⟩ := Multiset.exists_cons_of_mem hx
        have hk' : Multiset.card m' = k := by simpa using hk
        obtain ⟨c, hc, rfl⟩ := ihk m' hk' (fun a ha => hm a (Multiset.mem_cons_of_mem ha))
        refine ⟨x :: c, ?_, rfl⟩
        rw [multichoose_succ_cons, List.mem_append]
        exact Or.inl (List.mem_map.2 ⟨c, hc, rfl⟩)
      · have hm' : ∀ a ∈ m, a ∈ xs := by
          intro a ha
          rcases List.mem_cons.1 (hm a ha) with h | h
          · subst h; exact absurd ha hx
          · exact h
        obtain ⟨c, hc, rfl⟩ := ihx (k + 1) m hk hm'
        refine ⟨c, ?_, rfl⟩
        rw [multichoose_succ_cons, List.mem_append]
        exact Or.inr hc

/-- … and, for distinct features, no unordered combination is listed twice. -/
theorem combos_once {α : Type} (k : Nat) (xs : List α) (h : xs.Nodup) :
    ((multichoose k xs).map Multiset.ofList).Nodup := multichoose_nodup k xs h

/-- the number of degree-`k` monomials over `n` features is `C(n+k-1, k)`, for every `n`, `k` -/
theorem monos_count {α : Type} (mul : α → α → α) (one : α) (k : Nat) (xs : List α) :
    (monos mul one k xs).length = Nat.choose (xs.length + k - 1) k := monos_length mul one k xs

theorem mono_value (c : List Rat) : monoProd ratMul 1 c = c.prod := by
  induction c with
  | nil => rfl
  | cons a c ih => simp [monoProd, ratMul, ih]

/-! ### `_pows` -/

/-- [core] with the corrected `starts` recurrence, `_pows(values, degree)[k]` is exactly the list
of degree-`k` monomials in `combinations_with_replacement` order — every length, every degree -/
theorem pows_eq_monos {α : Type} (mul : α → α → α) (one : α) (xs : List α) (hne : xs ≠ [])
    (d k : Nat) (hk : k ≤ d) :
    (pows true mul one xs d)[k]? = some (monos mul one k xs) := pows_getElem? mul one xs hne d k hk

theorem pows_all {α : Type} (mul : α → α → α) (one : α) (xs : List α) (hne : xs ≠ []) (d : Nat) :
    pows true mul one xs d = (List.range (d + 1)).map (fun k => monos mul one k xs) :=
  pows_eq mul one xs hne d

example : ([2, 3, 5] : List Int) ≠ [] ∧ 4 ≤ 4 := by decide

/-- `_pows` of no values is `[]` (both recurrences) -/
theorem pows_nil {α : Type} (b : Bool) (mul : α → α → α) (one : α) (d : Nat) :
    pows b mul one [] d = [] := rfl

def imul (a b : Int) : Int := a * b

/-- the recurrence of the unchanged tree, `accumulate(starts[:1]+starts[-1:]+starts[1:-1])`, is wrong from
three features at degree four on … -/
theorem pows_counterexample :
    (pows false imul 1 [2, 3, 5] 4)[4]? ≠ some (monos imul 1 4 [2, 3, 5]) := by decide +kernel

/-- … it yields 14 of the 15 monomials (`5^4` is missing) … -/
theorem pows_counterexample_count :
    ((pows false imul 1 [2, 3, 5] 4)[4]?).map List.length = some 14
      ∧ (monos imul 1 4 [2, 3, 5]).length = 15 := by decide +kernel

/-- … and from four features at degree three on (21 entries, `3·5·7` twice). -/
theorem pows_counterexample_n4_d3 :
    (pows false imul 1 [2, 3, 5, 7] 3)[3]? ≠ some (monos imul 1 3 [2, 3, 5, 7])
      ∧ ((pows false imul 1 [2, 3, 5, 7] 3)[3]?).map List.length = some 21 := by decide +kernel

/-! ### `_cross` -/

/-- [core] a term's entries are the full outer product (left factor major) of the monomials of
its namespaces, provided the powers were computed to a sufficient degree; a term naming an empty
namespace contributes nothing -/
theorem cross_eq_outer {α : Type} (mul : α → α → α) (one : α) (F : Char → List α) (M : Char → Nat)
    (cp : List (Char × Nat)) (hne : cp ≠ []) (h : ∀ kp ∈ cp, 1 ≤ kp.2 ∧ kp.2 ≤ M kp.1) :
    cross mul (fun c => pows true mul one (F c) (M c)) cp
      = .ok (outerAll mul (cp.map (fun kp => monos mul one kp.2 (F kp.1)))) :=
  cross_eq mul one F M cp hne h

example : ([('x', 2), ('a', 1)] : List (Char × Nat)) ≠ [] ∧
    ∀ kp ∈ ([('x', 2), ('a', 1)] : List (Char × Nat)), 1 ≤ kp.2 ∧ kp.2 ≤ (fun _ => 2) kp.1 := by decide

/-- `Counter(term)` reads a term as namespace factors with multiplicity, in order of first
occurrence (`xax` is `x²·a`) -/
theorem counter_factors (t : List Char) :
    counter t = (dedupFirst t).map (fun c => (c, t.count c)) := counter_eq_factors t

/-! ### `encode` -/

/-- [core] for every list of interaction terms (each naming at least one namespace) and numeric
constants, and every assignment of dense vectors, sparse mappings, scalars, strings, `None`,
`[]` or nothing to the namespaces, `encode` succeeds and returns exactly `encodeS`: the constant
first, then per distinct term in the order given the outer product of the monomials — a vector
for dense inputs, a mapping from concatenated feature names to products otherwise -/
theorem encode_eq_spec (is : List Inter) (kw : List (Char × NsVal))
    (hne : ∀ t ∈ strTerms is, t ≠ []) : encode Cfg.fixed is kw = .ok (encodeS is kw) :=
  encodeG_eq_spec ratMul is kw hne

example : ∀ t ∈ strTerms [.num 1, .term ['x', 'x', 'a'], .term ['a']], t ≠ [] := by decide

/-- one encoder object used for any sequence of calls: every call returns the specification of its own
arguments, independently of the calls before it -/
theorem encode_history_eq_spec (is : List Inter) (calls : List (List (Char × NsVal)))
    (hne : ∀ t ∈ strTerms is, t ≠ []) :
    encodeHistory Cfg.fixed is calls = calls.map (fun kw => .ok (encodeS is kw)) := by
  unfold encodeHistory
  apply List.map_congr_left
  intro kw _
  exact encode_eq_spec is kw hne

/-- the error branch: a term that names no namespace (`''`) makes `encode` raise IndexError -/
theorem encode_empty_term_error (is : List Inter) (kw : List (Char × NsVal))
    (h : [] ∈ strTerms is) : encode Cfg.fixed is kw = .error .indexError :=
  encodeG_empty_term ratMul is kw h

/-- dense inputs, distinct terms: the vector spelled out -/
theorem encode_dense_eq_spec (is : List Inter) (kw : List (Char × NsVal))
    (hne : ∀ t ∈ strTerms is, t ≠ []) (hnd : (strTerms is).Nodup) (hd : isSparseCall kw = false) :
    encode Cfg.fixed is kw
      = .ok (.dense ((if constant is ≠ 0 then [constant is] else [])
          ++ (strTerms is).flatMap (termS ratMul 1 (featsDense kw)))) := by
  rw [encode, encodeG_dense ratMul is kw hne hd, dedupFirst_of_nodup _ hnd]
  rfl

/-- sparse / string-valued inputs: the mapping is `dict` of the (name, value) monomials … -/
theorem encode_sparse_eq_spec (is : List Inter) (kw : List (Char × NsVal))
    (hne : ∀ t ∈ strTerms is, t ≠ []) (hs : isSparseCall kw = true) :
    encode Cfg.fixed is kw
      = .ok (.sparse (
          let enc := dictOf (termsS pairMul pairOne (featsSparse kw) (dedupFirst (strTerms is)))
          if constant is ≠ 0 then dictSet "const" (constant is) enc else enc)) := by
  rw [encode_eq_spec is kw hne, encodeS, hs]; rfl

/-- … whose keys are the concatenated names of the participating features … -/
theorem encode_sparse_keys (F : Char → List (String × Rat)) (ts : List (List Char)) :
    (termsS pairMul pairOne F ts).map (·.1) = termsS strMul "" (fun c => (F c).map (·.1)) ts :=
  termsS_map pairMul pairOne strMul "" (·.1) (fun _ _ => rfl) rfl F ts

/-- … and whose values are the corresponding products of the feature values; -/
theorem encode_sparse_vals (F : Char → List (String × Rat)) (ts : List (List Char)) :
    (termsS pairMul pairOne F ts).map (·.2) = termsS ratMul 1 (fun c => (F c).map (·.2)) ts :=
  termsS_map pairMul pairOne ratMul 1 (·.2) (fun _ _ => rfl) rfl F ts

/-- when the names are distinct nothing is merged by `dict` -/
theorem dict_distinct_keys (l : List (String × Rat)) (h : (l.map (·.1)).Nodup) : dictOf l = l :=
  dictOf_of_nodup_keys l h

/-- dense and sparse presentations of the same feature values give the same numbers: the dense
vector is the list of values of the sparse entries (before equal names are merged) -/
theorem dense_sparse_agree (is : List Inter) (kwd kws : List (Char × NsVal))
    (hne : ∀ t ∈ strTerms is, t ≠ [])
    (hd : isSparseCall kwd = false) (hs : isSparseCall kws = true)
    (hsame : ∀ c, featsDense kwd c = (featsSparse kws c).map (·.2)) :
    ∃ entries : List (String × Rat),
      encode Cfg.fixed is kws
        = .ok (.sparse (if constant is ≠ 0 then dictSet "const" (constant is) (dictOf entries) else dictOf entries)) ∧
      encode Cfg.fixed is kwd
        = .ok (.dense (if constant is ≠ 0 then constant is :: entries.map (·.2) else entries.map (·.2))) := by
  refine ⟨termsS pairMul pairOne (featsSparse kws) (dedupFirst (strTerms is)), encode_sparse_eq_spec is kws hne hs, ?_⟩
  rw [encode_sparse_vals, ← funext hsame, encode_eq_spec is kwd hne, encodeS, hd]
  rfl

/-- the hypotheses are met by `x=[2,3]` versus `x={'p':2,'q':3}` -/
example : isSparseCall [('x', NsVal.dense [.num 2, .num 3])] = false
    ∧ isSparseCall [('x', NsVal.sparse [(.str "p", .num 2), (.str "q", .num 3)])] = true
    ∧ ∀ c, featsDense [('x', .dense [.num 2, .num 3])] c
        = (featsSparse [('x', .sparse [(.str "p", .num 2), (.str "q", .num 3)])] c).map (·.2) := by
  refine ⟨by decide, by decide, ?_⟩
  intro c
  by_cases h : 'x' = c
  · subst h; decide +kernel
  · simp [featsDense, featsSparse, nsVal, dictGet, h, denseVals, sparseFeats_none]

/-- a worked instance of the whole pipeline: `InteractionsEncoder([1,'xxa','a']).encode(x=[2,3], a={'k':'v', 3:7})` -/
example : encode Cfg.fixed [.num 1, .term ['x', 'x', 'a'], .term ['a']]
    [('x', .dense [.num 2, .num 3]), ('a', .sparse [(.str "k", .str "v"), (.int 3, .num 7)])]
    = .ok (.sparse [("x0x0akv", 4), ("x0x0a3", 28), ("x0x1akv", 6), ("x0x1a3", 42), ("x1x1akv", 9),
        ("x1x1a3", 63), ("akv", 1), ("a3", 7), ("const", 1)]) := by decide +kernel

/-- scalar, empty, `None` and absent namespaces: the result depends on the keyword arguments
only through the features of each namespace … -/
theorem encode_depends_on_features (is : List Inter) (kw kw' : List (Char × NsVal))
    (hs : isSparseCall kw = isSparseCall kw')
    (hd : ∀ c, featsDense kw c = featsDense kw' c)
    (hf : ∀ c, featsSparse kw c = featsSparse kw' c) : encodeS is kw = encodeS is kw' := by
  unfold encodeS
  rw [hs, funext hd, funext hf]

/-- … and a scalar has the features of the one-element vector, `None` / absent those of `[]` -/
theorem scalar_none_empty (c : Char) (it : Item) (kw : List (Char × NsVal)) :
    denseVals (.scalar it) = denseVals (.dense [it])
    ∧ sparseFeats c (.scalar it) = sparseFeats c (.dense [it])
    ∧ denseVals .none = denseVals (.dense []) ∧ sparseFeats c .none = sparseFeats c (.dense [])
    ∧ (dictGet c kw = none → featsDense kw c = [] ∧ featsSparse kw c = []) :=
  ⟨denseVals_scalar it, sparseFeats_scalar c it, rfl, rfl,
   fun h => by simp [featsDense, featsSparse, nsVal_absent kw c h, denseVals, sparseFeats_none]⟩

/-! ### The unchanged tree (recorded findings; each witness is replayed on the real code) -/

/-- C20-F1 at the `encode` level: `InteractionsEncoder(['xxxx']).encode(x=[2,3,5])` has 14 entries -/
theorem encode_pows_counterexample :
    encode Cfg.current [.term ['x', 'x', 'x', 'x']] [('x', .dense [.num 2, .num 3, .num 5])]
      ≠ .ok (encodeS [.term ['x', 'x', 'x', 'x']] [('x', .dense [.num 2, .num 3, .num 5])]) := by
  decide +kernel

/-- C20-F2: `InteractionsEncoder([1,1,'x','a']).encode(x=[2],a=[3])` loses the `x` term, because
`_cross_pows` is keyed by the leading entries of `interactions` (here `1` twice) -/
theorem crosspows_zip_counterexample :
    encode Cfg.current [.num 1, .num 1, .term ['x'], .term ['a']]
        [('x', .dense [.num 2]), ('a', .dense [.num 3])] = .ok (.dense [2, 3])
    ∧ encodeS [.num 1, .num 1, .term ['x'], .term ['a']]
        [('x', .dense [.num 2]), ('a', .dense [.num 3])] = .dense [2, 2, 3] := by decide +kernel

/-- C20-F3: `InteractionsEncoder(['xa']).encode(x=[2])` raises KeyError for the absent namespace -/
theorem absent_namespace_counterexample :
    encode Cfg.current [.term ['x', 'a']] [('x', .dense [.num 2])] = .error .keyError
    ∧ encodeS [.term ['x', 'a']] [('x', .dense [.num 2])] = .dense [] := by decide +kernel

/-! ### Length, callers, argument shapes -/

/-- the dense vector has `(1 if the constant is non-zero) + Σ_terms Π_namespaces C(n+p-1, p)` entries -/
theorem encode_length_spec (is : List Inter) (kw : List (Char × NsVal))
    (hne : ∀ t ∈ strTerms is, t ≠ []) (hd : isSparseCall kw = false) :
    ∃ vs, encode Cfg.fixed is kw = .ok (.dense vs) ∧ vs.length = encodeLen is kw := by
  rw [encode, encodeG_dense ratMul is kw hne hd]
  refine ⟨_, rfl, ?_⟩
  rw [List.length_append, termsS_length ratMul 1 (featsDense kw) _ (fun t ht => hne t ((mem_dedupFirst _ _).1 ht))]
  unfold encodeLen
  congr 1
  split <;> rfl

/-- `chooseNat` (import-free, used by `encodeLen`) is the binomial coefficient -/
theorem encode_length_choose (n k : Nat) : chooseNat n k = Nat.choose n k := chooseNat_eq n k

/-- translator obligation: the default term lists found in linucb.py, lints.py, synthetics.py and
offline.py (re-extracted on every run), as given and as rewritten for an empty context / no context or
action features, name only `x`/`a` and contain no empty term — the hypotheses of `encode_eq_spec` -/
theorem callers_wellformed :
    wellformedTerms (learnerTerms true Coba.Generated.C20.linucbFeatures) = true
    ∧ wellformedTerms (learnerTerms false Coba.Generated.C20.linucbFeatures) = true
    ∧ wellformedTerms (learnerTerms true Coba.Generated.C20.lintsFeatures) = true
    ∧ wellformedTerms (learnerTerms false Coba.Generated.C20.lintsFeatures) = true
    ∧ wellformedTerms (syntheticTerms 1 1 Coba.Generated.C20.syntheticFeatures) = true
    ∧ wellformedTerms (syntheticTerms 0 1 Coba.Generated.C20.syntheticFeatures) = true
    ∧ wellformedTerms (syntheticTerms 1 0 Coba.Generated.C20.syntheticFeatures) = true
    ∧ wellformedTerms Coba.Generated.C20.offlineFeatures = true := by decide +kernel

/-- for EVERY `features` argument the term list the learners build for an empty context has no empty term -/
theorem learner_terms_nonempty (fs : List Inter) : ∀ t ∈ strTerms (learnerTerms false fs), t ≠ [] := by
  intro t ht
  rw [mem_strTerms] at ht
  simp only [learnerTerms, Bool.false_eq_true, if_false] at ht
  rw [mem_dedupFirst, List.mem_filter] at ht
  intro h
  subst h
  simp [Inter.truthy] at ht

/-- for EVERY `reward_features` argument and feature counts the synthetic simulation's term list has no empty term -/
theorem synthetic_terms_nonempty (nCtx nAct : Nat) (fs : List (List Char)) :
    ∀ t ∈ strTerms (syntheticTerms nCtx nAct fs), t ≠ [] := by
  intro t ht
  rw [mem_strTerms] at ht
  simp only [syntheticTerms, List.mem_map] at ht
  obtain ⟨u, hu, hut⟩ := ht
  cases hut
  rw [mem_dedupFirst, List.mem_filter] at hu
  intro h
  subst h
  simp at hu

/-- hence those calls always return the specification, whatever context / action is passed -/
theorem learner_encode_eq_spec (fs : List Inter) (kw : List (Char × NsVal)) :
    encode Cfg.fixed (learnerTerms false fs) kw = .ok (encodeS (learnerTerms false fs) kw) :=
  encode_eq_spec _ kw (learner_terms_nonempty fs)

theorem synthetic_encode_eq_spec (nCtx nAct : Nat) (fs : List (List Char)) (kw : List (Char × NsVal)) :
    encode Cfg.fixed (syntheticTerms nCtx nAct fs) kw = .ok (encodeS (syntheticTerms nCtx nAct fs) kw) :=
  encode_eq_spec _ kw (synthetic_terms_nonempty nCtx nAct fs)

/-- and a well-formed list (e.g. every default, by `callers_wellformed`) does so as given -/
theorem wellformed_encode_eq_spec (is : List Inter) (kw : List (Char × NsVal)) (h : wellformedTerms is = true) :
    encode Cfg.fixed is kw = .ok (encodeS is kw) :=
  encode_eq_spec is kw (wellformed_nonempty is h)

/-- translator obligation (shapes): with the treatments of the term argument extracted from the source, every
accepted shape of `reward_features` — a bare str (ONE term), a list, a tuple — reaches the encoder as the term list
the caller means, through `Environments.from_linear_synthetic` and through the constructor -/
theorem synthetic_entry_shapes (s : Shape) :
    normalise (Coba.Generated.C20.envNorms ++ Coba.Generated.C20.syntheticNorms) s = s.meaning
    ∧ normalise Coba.Generated.C20.syntheticNorms s = s.meaning := by cases s <;> exact ⟨rfl, rfl⟩

/-- the learners accept sequences (`features: Sequence[str]`): lists and tuples reach the encoder unchanged -/
theorem learner_entry_shapes (ts : List Inter) :
    normalise Coba.Generated.C20.linucbNorms (.list ts) = ts ∧ normalise Coba.Generated.C20.linucbNorms (.tuple ts) = ts
    ∧ normalise Coba.Generated.C20.lintsNorms (.list ts) = ts ∧ normalise Coba.Generated.C20.lintsNorms (.tuple ts) = ts :=
  ⟨rfl, rfl, rfl, rfl⟩

/-- why the obligation matters: a `list(...)` before the constructor splits a bare str into characters -/
theorem shape_listof_counterexample :
    normalise [Norm.listOf, Norm.wrapStr] (.str ['x', 'a']) ≠ (Shape.str ['x', 'a']).meaning := by decide

/-! ### The input shapes the property names, as instances of `encode_eq_spec` -/

/-- (i) one namespace dense, the other sparse: the call is a sparse call and the result is the MAPPING of the
specification (the dense namespace's features are named by position, see the example) -/
theorem encode_mixed_sparse_dense_eq_spec (is : List Inter) (c d : Char) (its : List Item) (kvs : List (Key × Item))
    (hne : ∀ t ∈ strTerms is, t ≠ []) :
    encode Cfg.fixed is [(c, .dense its), (d, .sparse kvs)]
      = .ok (.sparse (
          let enc := dictOf (termsS pairMul pairOne (featsSparse [(c, .dense its), (d, .sparse kvs)]) (dedupFirst (strTerms is)))
          if constant is ≠ 0 then dictSet "const" (constant is) enc else enc)) :=
  encode_sparse_eq_spec is _ hne (by simp [isSparseCall, NsVal.isSparse])

/-- `InteractionsEncoder(['xa']).encode(x=[2,3], a={'k':5})` -/
example : encode Cfg.fixed [.term ['x', 'a']] [('x', .dense [.num 2, .num 3]), ('a', .sparse [(.str "k", .num 5)])]
    = .ok (.sparse [("x0ak", 10), ("x1ak", 15)]) := by decide +kernel

/-- (ii) a string-valued feature `{k: s}` of namespace `c` is one-hot: it contributes the key `c ++ k ++ s` with value 1 -/
theorem encode_string_feature_onehot (c : Char) (k : Key) (s : String) :
    encode Cfg.fixed [.term [c]] [(c, .sparse [(k, .str s)])] = .ok (.sparse [(String.singleton c ++ (k.fmt ++ s), 1)]) := by
  rw [encode_sparse_eq_dictOf_monos _ _ (by simp [strTerms]) rfl, sparseMonos_single, featsSparse, nsVal_single,
    sparseFeats_string_item]
  rfl

/-- … at the level of the namespace's named features, for a mapping entry and for a bare string (key `"0"`) -/
theorem string_feature_names (c : Char) (k : Key) (s : String) :
    sparseFeats c (.sparse [(k, .str s)]) = [(String.singleton c ++ (k.fmt ++ s), 1)]
    ∧ sparseFeats c (.scalar (.str s)) = [(String.singleton c ++ ("0" ++ s), 1)] :=
  ⟨sparseFeats_string_item c k s, sparseFeats_scalar_str c s⟩

/-- `InteractionsEncoder(['a']).encode(a={'k':'v'})` and `.encode(a='red')` -/
example : encode Cfg.fixed [.term ['a']] [('a', .sparse [(.str "k", .str "v")])] = .ok (.sparse [("akv", 1)])
    ∧ encode Cfg.fixed [.term ['a']] [('a', .scalar (.str "red"))] = .ok (.sparse [("a0red", 1)]) := by decide +kernel

/-- (iii) a term with a repeated letter, `ccd` (such as `'xxa'`): the degree-2 monomials of `c` (each unordered pair
once, `monos_count`/`combos_sound`) times the features of `d`, left factor major — as a spec-level identity for every
multiplication, and for the encoder on dense inputs -/
theorem encode_repeated_letter_term (c d : Char) (h : c ≠ d) (kw : List (Char × NsVal)) (hd : isSparseCall kw = false) :
    encode Cfg.fixed [.term [c, c, d]] kw
      = .ok (.dense (outer ratMul (monos ratMul 1 2 (featsDense kw c)) (monos ratMul 1 1 (featsDense kw d)))) := by
  rw [encode_dense_eq_spec _ kw (by simp [strTerms]) (by simp [strTerms]) hd]
  simp [strTerms, constant, termS_repeated_letter _ _ _ c d h]

theorem term_repeated_letter {α : Type} (mul : α → α → α) (one : α) (F : Char → List α) (c d : Char) (h : c ≠ d) :
    termS mul one F [c, c, d] = outer mul (monos mul one 2 (F c)) (monos mul one 1 (F d)) :=
  termS_repeated_letter mul one F c d h

/-- `InteractionsEncoder(['xxa']).encode(x=[2,3], a=[5])`: x0², x0·x1, x1² (three, not four), each times a0 -/
example : 'x' ≠ 'a' ∧ isSparseCall [('x', .dense [.num 2, .num 3]), ('a', .dense [.num 5])] = false
    ∧ encode Cfg.fixed [.term ['x', 'x', 'a']] [('x', .dense [.num 2, .num 3]), ('a', .dense [.num 5])]
      = .ok (.dense [20, 30, 45]) := by decide +kernel

/-! ### Exactly when the sparse mapping is faithful (`sparseMonos`, `collides` in Model) -/

/- theorem encode_sparse_faithful_full: "the mapping contains every (name, product) monomial" is FALSE
   without a hypothesis: names are built by plain concatenation, which is not injective (recorded
   findings C20-F4/C20-F5, `sparse_key_collision_counterexample`, `feature_name_collision_counterexample`). -/

/-- [partial: needs distinct names] when the concatenated names of the monomials (and `const`) are
pairwise distinct, the mapping is exactly the list of (name, product) monomials -/
theorem encode_sparse_faithful_partial (is : List Inter) (kw : List (Char × NsVal))
    (hne : ∀ t ∈ strTerms is, t ≠ []) (hs : isSparseCall kw = true)
    (hk : ((termsS pairMul pairOne (featsSparse kw) (dedupFirst (strTerms is))).map (·.1)
            ++ (if constant is ≠ 0 then ["const"] else [])).Nodup) :
    encode Cfg.fixed is kw = .ok (.sparse (termsS pairMul pairOne (featsSparse kw) (dedupFirst (strTerms is))
            ++ (if constant is ≠ 0 then [("const", constant is)] else []))) := by
  -- the hypothesis says that the names of `sparseMonos` are distinct, so `dict` keeps the list as it is
  have hk' : ((sparseMonos is kw).map (·.1)).Nodup := by
    rw [sparseMonos_names, ← encode_sparse_keys]; exact hk
  rw [encode_sparse_eq_dictOf_monos is kw hne hs, dictOf_of_nodup_keys _ hk']
  rfl

example : ((termsS pairMul pairOne (featsSparse [('x', .sparse [(.str "p", .num 2), (.str "q", .num 3)])])
    (dedupFirst (strTerms [.term ['x'], .term ['x', 'x']]))).map (fun p : String × Rat => p.1) ++ []).Nodup := by decide +kernel

/-- the hypothesis is necessary (C20-F4): `InteractionsEncoder(['x','xx']).encode(x={'1':2,'1x1':3})` has five
monomials but four keys — `x1x1` is both the feature `1x1` (value 3) and the square of `1` (value 4) -/
theorem sparse_key_collision_counterexample :
    encode Cfg.fixed [.term ['x'], .term ['x', 'x']] [('x', .sparse [(.str "1", .num 2), (.str "1x1", .num 3)])]
      = .ok (.sparse [("x1", 2), ("x1x1", 4), ("x1x1x1", 6), ("x1x1x1x1", 9)])
    ∧ (termsS pairMul pairOne (featsSparse [('x', .sparse [(.str "1", .num 2), (.str "1x1", .num 3)])])
        [['x'], ['x', 'x']]).length = 5 := by decide +kernel

/-- when the prefixed names of a namespace's features are distinct none of them is merged -/
theorem sparse_feats_distinct (c : Char) (v : NsVal) (h : (rawNames c v).Nodup) :
    sparseFeats c v = (makeDict v).map (fun kv => (String.singleton c ++ (handleEntry kv).1.fmt, (handleEntry kv).2)) := by
  unfold sparseFeats
  rw [dictOf_of_nodup_keys _ (nodup_keys_of_rawNames h), dictOf_of_nodup_keys _ (rawNames_eq_keys c v ▸ h), List.map_map]
  rfl

/-- … and that hypothesis is necessary too (C20-F5): `encode(x={1:2,'1':3})` keeps one feature `x1` of two -/
theorem feature_name_collision_counterexample :
    encode Cfg.fixed [.term ['x']] [('x', .sparse [(.int 1, .num 2), (.str "1", .num 3)])]
      = .ok (.sparse [("x1", 3)]) := by decide +kernel

/-- `dict(pairs)` has as many entries as there are pairs exactly when no two pairs share a key -/
theorem dictOf_length_eq_iff_nodup (l : List (String × Rat)) :
    (dictOf l).length = l.length ↔ (l.map (·.1)).Nodup := by
  rw [← length_dedupFirst_eq_iff, ← dictOf_keys, List.length_map, List.length_map]

/-- `dict(pairs)` never holds a key twice -/
theorem dictOf_keys_nodup (l : List (String × Rat)) : ((dictOf l).map (·.1)).Nodup := by
  rw [dictOf_keys]; exact nodup_dedupFirst _

/-- `collides` says what it should: two different positions of the list of named monomials carry the same name -/
theorem collides_iff (is : List Inter) (kw : List (Char × NsVal)) :
    collides is kw = true ↔ ¬ ((sparseMonos is kw).map (·.1)).Nodup := hasDup_iff _

/-- [exact characterisation] the mapping returned for a sparse / string-valued call contains every named monomial
`(concatenated name, product)` and has as many keys as there are monomials  ⇔  no two monomials (the constant entry
included) share a name: name collisions are the ONLY way the sparse encoding loses or merges a monomial (findings C20-F4/F5) -/
theorem sparse_faithful_iff (is : List Inter) (kw : List (Char × NsVal))
    (hne : ∀ t ∈ strTerms is, t ≠ []) (hs : isSparseCall kw = true) :
    ∃ d, encode Cfg.fixed is kw = .ok (.sparse d) ∧
      (((∀ kv ∈ sparseMonos is kw, kv ∈ d) ∧ d.length = (sparseMonos is kw).length)
        ↔ ((sparseMonos is kw).map (·.1)).Nodup) := by
  refine ⟨_, encode_sparse_eq_dictOf_monos is kw hne hs, ?_⟩
  constructor
  · rintro ⟨_, hl⟩; exact (dictOf_length_eq_iff_nodup _).mp hl
  · intro h
    rw [dictOf_of_nodup_keys _ h]
    exact ⟨fun _ hkv => hkv, rfl⟩

/-- the same as a dichotomy on the decidable predicate `collides` -/
theorem sparse_faithful_iff_collides (is : List Inter) (kw : List (Char × NsVal))
    (hne : ∀ t ∈ strTerms is, t ≠ []) (hs : isSparseCall kw = true) :
    ∃ d, encode Cfg.fixed is kw = .ok (.sparse d) ∧ (d.map (·.1)).Nodup ∧
      (collides is kw = false → d = sparseMonos is kw) ∧
      (collides is kw = true → d.length < (sparseMonos is kw).length) := by
  refine ⟨_, encode_sparse_eq_dictOf_monos is kw hne hs, dictOf_keys_nodup _, ?_, ?_⟩
  · intro h
    exact dictOf_of_nodup_keys _ ((hasDup_eq_false_iff _).mp h)
  · intro h
    have hle := dictOf_length_le (sparseMonos is kw)
    have := (dictOf_length_eq_iff_nodup (sparseMonos is kw)).not.mpr ((hasDup_iff _).mp h)
    omega

/-- non-vacuity: `InteractionsEncoder(['x','xx']).encode(x={'p':2,'q':3})` is a sparse call with non-empty terms and
five monomials without collision -/
example : (∀ t ∈ strTerms [.term ['x'], .term ['x', 'x']], t ≠ [])
    ∧ isSparseCall [('x', .sparse [(.str "p", .num 2), (.str "q", .num 3)])] = true
    ∧ collides [.term ['x'], .term ['x', 'x']] [('x', .sparse [(.str "p", .num 2), (.str "q", .num 3)])] = false
    ∧ (sparseMonos [.term ['x'], .term ['x', 'x']] [('x', .sparse [(.str "p", .num 2), (.str "q", .num 3)])]).length = 5 := by
  decide +kernel

/-- the C20-F4 witness `InteractionsEncoder(['x','xx']).encode(x={'1':2,'1x1':3})` is on the colliding side: the
names of its five monomials are not pairwise distinct (`x1x1` occurs twice), so four keys are returned -/
theorem sparse_faithful_iff_counterexample :
    collides [.term ['x'], .term ['x', 'x']] [('x', .sparse [(.str "1", .num 2), (.str "1x1", .num 3)])] = true
    ∧ (sparseMonos [.term ['x'], .term ['x', 'x']] [('x', .sparse [(.str "1", .num 2), (.str "1x1", .num 3)])]).map (·.1)
        = ["x1", "x1x1", "x1x1", "x1x1x1", "x1x1x1x1"] := by
  decide +kernel

/-! ### Collisions at the level of feature names -/

/-- the name of a monomial (a list of features) is the plain concatenation of its features' names, nothing else -/
theorem mono_name_concat (c : List String) :
    (monoProd strMul "" c).toList = (c.map String.toList).flatten := monoName_toList c

/-- hence two monomials carry the same name exactly when the concatenations of their feature names are the same
characters — a collision is two DIFFERENT feature lists `c ≠ c'` with this property (concatenation is not injective) -/
theorem mono_name_collision_iff (c c' : List String) :
    monoProd strMul "" c = monoProd strMul "" c' ↔ (c.map String.toList).flatten = (c'.map String.toList).flatten :=
  monoName_eq_iff c c'

theorem concat_equal_length_injective {α : Type} (L : Nat) (hL : 1 ≤ L) (a b : List (List α))
    (ha : ∀ x ∈ a, x.length = L) (hb : ∀ x ∈ b, x.length = L) (h : a.flatten = b.flatten) : a = b :=
  flatten_inj_of_equal_length L hL a b ha hb h

/-- [structural no-collision condition, checkable on the inputs] when the prefixed feature names of a namespace are
pairwise distinct and all have one common length `L ≥ 1`, the names of its monomials of ALL degrees `0..d` (what the
terms `x`, `xx`, `xxx`, … contribute) are pairwise distinct: no collision within or across degrees -/
theorem mono_names_distinct_of_equal_length (L : Nat) (hL : 1 ≤ L) (names : List String)
    (hnd : names.Nodup) (hlen : ∀ s ∈ names, s.length = L) (d : Nat) :
    ((List.range (d + 1)).flatMap (fun k => monos strMul "" k names)).Nodup := by
  unfold monos
  rw [← List.map_flatMap]
  refine names_nodup_of_words L hL (multichoose_range_nodup names hnd (d + 1)) fun c hc s hs => ?_
  obtain ⟨k, _, hk⟩ := List.mem_flatMap.1 hc
  exact hlen s ((multichoose_sound k names c hk).2 s hs)

/-- the hypotheses are met by the names `xp`, `xq` (L = 2) … -/
example : 1 ≤ 2 ∧ ["xp", "xq"].Nodup ∧ ∀ s ∈ ["xp", "xq"], s.length = 2 := by decide +kernel

/-- … and the equal-length hypothesis cannot be dropped: the distinct names `x1`, `x1x1` (C20-F4) collide across degrees 1 and 2 -/
theorem mono_names_equal_length_counterexample :
    ["x1", "x1x1"].Nodup ∧ ¬ ((List.range 3).flatMap (fun k => monos strMul "" k ["x1", "x1x1"])).Nodup := by
  decide +kernel

/-! ### The equal-length no-collision condition for `outerAll` and whole calls -/

/-- [whole call, at the level of names] `F c` = the feature names of namespace `c`; `canonTerm` regroups the letters of a
term (`xax ↦ xxa`). The names of ALL monomials of ALL terms (`outerAll` over several namespaces included) are pairwise
distinct; that each name's length is a multiple of `L` is what keeps `const` apart (`sparse_call_no_collision`) -/
theorem terms_names_distinct_of_equal_length (F : Char → List String) (L : Nat) (hL : 1 ≤ L) (ts : List (List Char))
    (hF : ∀ t ∈ ts, ∀ c ∈ t, (F c).Nodup)
    (hlen : ∀ t ∈ ts, ∀ c ∈ t, ∀ s ∈ F c, s.length = L)
    (hhd : ∀ t ∈ ts, ∀ c ∈ t, ∀ s ∈ F c, hd s = some c)
    (hts : (ts.map canonTerm).Nodup) :
    (termsS strMul "" F ts).Nodup ∧ ∀ n ∈ termsS strMul "" F ts, L ∣ n.length :=
  termsS_names_nodup F L hL ts hF hlen hhd hts

/-- in the model every prefixed feature name starts with its namespace letter (so that hypothesis is free) -/
theorem feature_names_start_with_namespace (kw : List (Char × NsVal)) (c : Char) :
    ∀ p ∈ featsSparse kw c, hd p.1 = some c := featsSparse_hd kw c

/-- [whole call] one common length `L ≥ 1` of all feature names, no two terms equal up to regrouping, and the constant
absent or `L ∤ 5` (`const` has five characters) ⇒ no two named monomials of the call (the constant entry included)
share a name -/
theorem sparse_call_no_collision (L : Nat) (hL : 1 ≤ L) (is : List Inter) (kw : List (Char × NsVal))
    (hlen : ∀ t ∈ strTerms is, ∀ c ∈ t, ∀ p ∈ featsSparse kw c, p.1.length = L)
    (hts : ((dedupFirst (strTerms is)).map canonTerm).Nodup)
    (hconst : constant is = 0 ∨ 5 % L ≠ 0) :
    ((sparseMonos is kw).map (·.1)).Nodup :=
  sparse_call_no_collision' L hL is kw hlen (fun _ _ c _ p hp => featsSparse_hd kw c p hp) hts hconst

/-- … as the decidable predicate the driver evaluates, combined with `sparse_faithful_iff_collides`: when `equalLenOK`
holds, a sparse call (terms non-empty) returns EXACTLY the list of its named monomials — nothing lost, nothing merged -/
theorem sparse_call_faithful_of_equal_length (L : Nat) (is : List Inter) (kw : List (Char × NsVal))
    (hne : ∀ t ∈ strTerms is, t ≠ []) (hs : isSparseCall kw = true) (h : equalLenOK L is kw = true) :
    collides is kw = false ∧ encode Cfg.fixed is kw = .ok (.sparse (sparseMonos is kw)) := by
  have hc := equalLenOK_no_collision' L is kw h
  obtain ⟨d, hd, _, h1, _⟩ := sparse_faithful_iff_collides is kw hne hs
  exact ⟨hc, by rw [hd, h1 hc]⟩

/-- non-vacuity: `['x','xa','xxa']` on `x={'p':2,'q':3}, a={'k':5}` (names `xp`,`xq`,`ak`, L = 2) meets the condition -/
example : equalLenOK 2 [.term ['x'], .term ['x', 'a'], .term ['x', 'x', 'a']]
      [('x', .sparse [(.str "p", .num 2), (.str "q", .num 3)]), ('a', .sparse [(.str "k", .num 5)])] = true
    ∧ callL [.term ['x'], .term ['x', 'a'], .term ['x', 'x', 'a']]
      [('x', .sparse [(.str "p", .num 2), (.str "q", .num 3)]), ('a', .sparse [(.str "k", .num 5)])] = 2 := by decide +kernel

/-- each hypothesis is needed: (i) two terms equal up to regrouping (`xxa`, `xax`) list the same monomials twice;
(ii) with `L = 5` the feature `c`+`onst` is named like the constant entry; (equal lengths: `sparse_faithful_iff_counterexample`) -/
theorem sparse_call_no_collision_counterexample :
    collides [.term ['x', 'x', 'a'], .term ['x', 'a', 'x']]
      [('x', .sparse [(.str "p", .num 2)]), ('a', .sparse [(.str "k", .num 5)])] = true
    ∧ collides [.num 1, .term ['c']] [('c', .sparse [(.str "onst", .num 2)])] = true := by decide +kernel

/-! ### Floating point: the standard model, exact products -/

/-- the encoder with ANY multiplication of values (exact or rounding) is the specification with that multiplication -/
theorem encode_any_mul_eq_spec (vmul : Rat → Rat → Rat) (is : List Inter) (kw : List (Char × NsVal))
    (hne : ∀ t ∈ strTerms is, t ≠ []) : encodeG vmul Cfg.fixed is kw = .ok (encodeSG vmul is kw) :=
  encodeG_eq_spec vmul is kw hne

/-- floating point, standard model (`FloatMul`), dense: every entry of the computed vector equals the exact monomial up
to `d-1` roundings, `d` = the largest term degree -/
theorem encode_float_model {u : Rat} {fmul : Rat → Rat → Rat} (hf : FloatMul u fmul) (h0 : 0 ≤ u) (h1 : u ≤ 1)
    (is : List Inter) (kw : List (Char × NsVal))
    (hne : ∀ t ∈ strTerms is, t ≠ []) (hd : isSparseCall kw = false) :
    ∃ vs vs' : List Rat,
      encodeG fmul Cfg.fixed is kw = .ok (.dense ((if constant is ≠ 0 then [constant is] else []) ++ vs)) ∧
      encode Cfg.fixed is kw = .ok (.dense ((if constant is ≠ 0 then [constant is] else []) ++ vs')) ∧
      List.Forall₂ (Approx u (maxDeg is - 1)) vs vs' :=
  encodeG_dense_approx (floatMulOn_of_floatMul (fun _ => True) hf) h0 h1 is kw hne hd (fun _ _ _ => trivial)

/-- … (sparse): the same names, and every value up to `d-1` roundings -/
theorem encode_float_model_sparse {u : Rat} {fmul : Rat → Rat → Rat} (hf : FloatMul u fmul) (h0 : 0 ≤ u) (h1 : u ≤ 1)
    (is : List Inter) (kw : List (Char × NsVal))
    (hne : ∀ t ∈ strTerms is, t ≠ []) (hs : isSparseCall kw = true) :
    ∃ kvs kvs' : List (String × Rat),
      encodeG fmul Cfg.fixed is kw = .ok (.sparse kvs) ∧ encode Cfg.fixed is kw = .ok (.sparse kvs') ∧
      List.Forall₂ (PairRel (Approx u (maxDeg is - 1))) kvs kvs' :=
  encodeG_sparse_approx (floatMulOn_of_floatMul (fun _ => True) hf) h0 h1 is kw hne hs (fun _ _ _ => trivial)

/-- `m` roundings mean a relative error of at most `(1+u)^m - 1` (what the harness checks with `u = 2^-53`) -/
theorem float_model_rel_error {u : Rat} (h0 : 0 ≤ u) (h1 : u ≤ 1) {m : Nat} {x y : Rat} (h : Approx u m x y) :
    |x - y| ≤ ((1 + u) ^ m - 1) * |y| := by
  obtain ⟨δ, rfl, l, r⟩ := h
  -- Bernoulli on both sides: `1 - m·u ≤ (1-u)^m ≤ δ ≤ (1+u)^m` and `1 + m·u ≤ (1+u)^m`
  have hb1 : 1 + (m : Rat) * u ≤ (1 + u) ^ m := one_add_mul_le_pow (le_trans (by norm_num) h0) m
  have hb2 : 1 + (m : Rat) * (-u) ≤ (1 + -u) ^ m :=
    one_add_mul_le_pow (neg_le_neg (le_trans h1 (by norm_num))) m
  rw [sub_eq_add_neg] at l
  rw [show y * δ - y = (δ - 1) * y by ring, abs_mul]
  refine mul_le_mul_of_nonneg_right (abs_le.mpr ⟨?_, sub_le_sub_right r 1⟩) (abs_nonneg y)
  linarith only [hb1, hb2, l]

/-- the hypotheses are satisfiable: exact multiplication is a `FloatMul` for every `u ≥ 0`, and `u = 2^-53` qualifies -/
example : FloatMul (1 / 2 ^ 53) ratMul ∧ (0 : Rat) ≤ 1 / 2 ^ 53 ∧ (1 : Rat) / 2 ^ 53 ≤ 1 :=
  ⟨floatMul_exact _ (by norm_num), u53_ok.1, u53_ok.2⟩

/-- if exactly representable products are returned exactly (what correct rounding gives), then on dyadic inputs small
enough that no monomial leaves the doubles (`d` = largest term degree) the float encoder IS the exact encoder, dense
and sparse: on the dyadic value pools the `FloatMul` law need not be assumed -/
theorem encode_float_exact_dyadic {fmul : Rat → Rat → Rat} (hf : ExactOn fmul) (M E : Nat) (hM : 1 ≤ M)
    (is : List Inter) (kw : List (Char × NsVal)) (hne : ∀ t ∈ strTerms is, t ≠ [])
    (hb : M ^ maxDeg is ≤ 2 ^ 53) (he : maxDeg is * E ≤ 970)
    (hd : ∀ c, ∀ v ∈ featsDense kw c, Dy M E v) (hs : ∀ c, ∀ p ∈ featsSparse kw c, Dy M E p.2) :
    encodeG fmul Cfg.fixed is kw = encode Cfg.fixed is kw :=
  encode_graded_exact (graded_of_exactOn hf M E (maxDeg is) hM hb he) is kw hne (le_refl _)
    (fun c v hv => by simpa using hd c v hv) (fun c p hp => by simpa using hs c p hp)

/-- the hypotheses are met by `x=[1.5, 2.75]` under `'xxx'` with `M = 11`, `E = 2`; exact multiplication is an `ExactOn` -/
example : ExactOn ratMul
    ∧ (∀ c, ∀ v ∈ featsDense [('x', .dense [.num (3 / 2), .num (11 / 4)])] c, Dy 11 2 v)
    ∧ (∀ c, ∀ p ∈ featsSparse [('x', .dense [.num (3 / 2), .num (11 / 4)])] c, Dy 11 2 p.2)
    ∧ 11 ^ maxDeg [.term ['x', 'x', 'x']] ≤ 2 ^ 53 ∧ maxDeg [.term ['x', 'x', 'x']] * 2 ≤ 970 :=
  ⟨exactOn_ratMul, dyadic_example⟩

/-- the general form: any multiplication that is exact on a degree-graded family of numbers containing the inputs -/
theorem encode_float_exact_graded {P : Nat → Rat → Prop} {D : Nat} {fmul : Rat → Rat → Rat} (hg : Graded P D fmul)
    (is : List Inter) (kw : List (Char × NsVal)) (hne : ∀ t ∈ strTerms is, t ≠ []) (hD : maxDeg is ≤ D)
    (hd : ∀ c, ∀ v ∈ featsDense kw c, P 1 v) (hs : ∀ c, ∀ p ∈ featsSparse kw c, P 1 p.2) :
    encodeG fmul Cfg.fixed is kw = encode Cfg.fixed is kw := encode_graded_exact hg is kw hne hD hd hs

/-! ### IEEE double rounding as an explicit model (`fl53`, `fmul53` in Model) — `ExactOn` proved, not assumed -/

/-- round-to-nearest-even to `prec ≥ 1` significant bits returns every number `m·2^e` with `|m| ≤ 2^prec` unchanged -/
theorem roundSig_representable (prec : Nat) (hp : 1 ≤ prec) (q : Rat) (m e : Int) (hm : |m| ≤ (2 : Int) ^ prec)
    (hq : q = (m : Rat) * (2 : Rat) ^ e) : roundSig prec q = q := roundSig_exact prec hp q m e hm hq

/-- the modelled double multiplication `fmul53 a b = fl53 (a·b)` (the function the driver op "fl53" ties to CPython's
`float.__mul__` product by product) returns every product that is itself a double exactly: `ExactOn` holds for it -/
theorem exactOn_fl53 : ExactOn fmul53 := exactOn_fmul53

/-- `encode_float_exact_dyadic` with the assumption discharged: on such inputs the encoder run with the modelled IEEE
double multiplication IS the exact encoder -/
theorem encode_float53_exact_dyadic (M E : Nat) (hM : 1 ≤ M)
    (is : List Inter) (kw : List (Char × NsVal)) (hne : ∀ t ∈ strTerms is, t ≠ [])
    (hb : M ^ maxDeg is ≤ 2 ^ 53) (he : maxDeg is * E ≤ 970)
    (hd : ∀ c, ∀ v ∈ featsDense kw c, Dy M E v) (hs : ∀ c, ∀ p ∈ featsSparse kw c, Dy M E p.2) :
    encodeG fmul53 Cfg.fixed is kw = encode Cfg.fixed is kw :=
  encode_float_exact_dyadic exactOn_fl53 M E hM is kw hne hb he hd hs

/-- the hypotheses are met by `x=[1.5, 2.75]` under `'xxx'` with `M = 11`, `E = 2` -/
example : (∀ t ∈ strTerms [.term ['x', 'x', 'x']], t ≠ [])
    ∧ (∀ c, ∀ v ∈ featsDense [('x', .dense [.num (3 / 2), .num (11 / 4)])] c, Dy 11 2 v)
    ∧ (∀ c, ∀ p ∈ featsSparse [('x', .dense [.num (3 / 2), .num (11 / 4)])] c, Dy 11 2 p.2)
    ∧ 11 ^ maxDeg [.term ['x', 'x', 'x']] ≤ 2 ^ 53 ∧ maxDeg [.term ['x', 'x', 'x']] * 2 ≤ 970 :=
  ⟨by decide, dyadic_example⟩

/-- the rounding branch of the model is real: 0.1 (the double) times 3 is rounded to the double 0.30000000000000004,
not returned as the exact product -/
example : fmul53 (3602879701896397 / 36028797018963968) 3 = 1351079888211149 / 4503599627370496
    ∧ (3602879701896397 / 36028797018963968 : Rat) * 3 ≠ 1351079888211149 / 4503599627370496 :=
  ⟨by decide +kernel, by decide +kernel⟩

/-! ### The rounding error of the explicit double model -/

/-- rounding to `prec` significant bits moves a number by at most `2^-prec` of its size (every rational, no exponent limits) -/
theorem roundSig_relative_error (prec : Nat) (q : Rat) : |roundSig prec q - q| ≤ |q| / 2 ^ prec := by
  rcases lt_trichotomy q 0 with h | rfl | h
  · have := roundSig_pos_err prec (-q) (neg_pos.mpr h)
    rwa [roundSig_neg, ← neg_sub', abs_neg, ← abs_of_neg h] at this
  · rw [roundSig_zero, sub_zero, abs_zero, zero_div]
  · rw [abs_of_pos h]; exact roundSig_pos_err prec q h

/-- the modelled double product is within relative error `2^-53` of the exact product — the `ε` clause of `FloatMul (2^-53)` -/
theorem fmul53_relative_error (a b : Rat) : |fmul53 a b - a * b| ≤ |a * b| / 2 ^ 53 :=
  roundSig_relative_error 53 (a * b)

/-- `FloatMul`'s clause `fmul a 1 = a` for EVERY rational `a` fails for a rounding multiplication (`fmul53 (1/3) 1 ≠ 1/3`;
it holds on doubles, `exactOn_fl53`), so the float-model theorems apply to `fmul53` only with that clause restricted to
representable numbers (`FloatMulOn`, `encode_float_fmul53`) -/
theorem floatMul_fmul53_counterexample : ¬ FloatMul (1 / 2 ^ 53) fmul53 := by
  intro h
  have := h.1 (1 / 3)
  revert this
  decide +kernel

/-! ### The float model instantiated with the rounding multiplication `fmul53` -/

/-- the float model with `x·1 = x` demanded only on the numbers satisfying `R`, for dense calls whose feature values are
`R`-numbers (`encode_float_model` is the case `R = True`) -/
theorem encode_float_model_on {R : Rat → Prop} {u : Rat} {fmul : Rat → Rat → Rat} (hf : FloatMulOn R u fmul)
    (h0 : 0 ≤ u) (h1 : u ≤ 1) (is : List Inter) (kw : List (Char × NsVal))
    (hne : ∀ t ∈ strTerms is, t ≠ []) (hd : isSparseCall kw = false) (hR : ∀ c, ∀ v ∈ featsDense kw c, R v) :
    ∃ vs vs' : List Rat,
      encodeG fmul Cfg.fixed is kw = .ok (.dense ((if constant is ≠ 0 then [constant is] else []) ++ vs)) ∧
      encode Cfg.fixed is kw = .ok (.dense ((if constant is ≠ 0 then [constant is] else []) ++ vs')) ∧
      List.Forall₂ (Approx u (maxDeg is - 1)) vs vs' :=
  encodeG_dense_approx hf h0 h1 is kw hne hd hR

/-- the rounding multiplication satisfies the restricted law with `u = 2^-53`: `fmul53 a 1 = a` for every double `a`
(`Rep53`: integer significand of at most 53 bits, any exponent) and relative error ≤ 2^-53 for EVERY pair of rationals -/
theorem floatMulOn_fmul53 : FloatMulOn Rep53 (1 / 2 ^ 53) fmul53 :=
  ⟨fun a ha => by unfold fmul53; rw [mul_one]; exact fl53_of_rep53 ha,
   fun a b => exists_eps_of_rel_err (by norm_num) (by rw [mul_one_div]; exact fmul53_relative_error a b)⟩

/-- (dense) for dense calls whose feature values are doubles, the encoder computed with IEEE round-to-nearest-even
multiplication (`fmul53`, no exponent range) returns the constant unchanged and every other entry equal to the exact monomial
times δ, `(1-2^-53)^(d-1) ≤ δ ≤ (1+2^-53)^(d-1)`, d = largest term degree; no hypothesis on the multiplication is left -/
theorem encode_float_fmul53 (is : List Inter) (kw : List (Char × NsVal))
    (hne : ∀ t ∈ strTerms is, t ≠ []) (hd : isSparseCall kw = false) (hR : ∀ c, ∀ v ∈ featsDense kw c, Rep53 v) :
    ∃ vs vs' : List Rat,
      encodeG fmul53 Cfg.fixed is kw = .ok (.dense ((if constant is ≠ 0 then [constant is] else []) ++ vs)) ∧
      encode Cfg.fixed is kw = .ok (.dense ((if constant is ≠ 0 then [constant is] else []) ++ vs')) ∧
      List.Forall₂ (Approx (1 / 2 ^ 53) (maxDeg is - 1)) vs vs' :=
  encodeG_dense_approx floatMulOn_fmul53 u53_ok.1 u53_ok.2 is kw hne hd hR

/-- (sparse / string-valued calls) the same names, every value up to `d-1` roundings of `fmul53` -/
theorem encode_float_fmul53_sparse (is : List Inter) (kw : List (Char × NsVal))
    (hne : ∀ t ∈ strTerms is, t ≠ []) (hs : isSparseCall kw = true) (hR : ∀ c, ∀ p ∈ featsSparse kw c, Rep53 p.2) :
    ∃ kvs kvs' : List (String × Rat),
      encodeG fmul53 Cfg.fixed is kw = .ok (.sparse kvs) ∧ encode Cfg.fixed is kw = .ok (.sparse kvs') ∧
      List.Forall₂ (PairRel (Approx (1 / 2 ^ 53) (maxDeg is - 1))) kvs kvs' :=
  encodeG_sparse_approx floatMulOn_fmul53 u53_ok.1 u53_ok.2 is kw hne hs hR

/-- the unrestricted law implies the restricted one for every `R`, and the restricted one with `R = True` gives it back -/
theorem floatMulOn_generalises {u : Rat} {fmul : Rat → Rat → Rat} :
    (FloatMul u fmul → ∀ R, FloatMulOn R u fmul) ∧ (FloatMulOn (fun _ => True) u fmul → FloatMul u fmul) :=
  ⟨fun h R => floatMulOn_of_floatMul R h, fun h => ⟨fun a => h.1 a trivial, h.2⟩⟩

/-- non-vacuity: the double nearest to 0.1 is `Rep53`; the restriction is needed (`fmul53 (1/3) 1 ≠ 1/3`), and
`'xx'` on `x=[0.1]` rounds: the float encoder returns the double 0.010000000000000002, not the exact square -/
example : Rep53 (3602879701896397 / 36028797018963968) ∧ ¬ (fmul53 (1 / 3) 1 = 1 / 3) := rep53_example
example : encodeG fmul53 Cfg.fixed [.term ['x', 'x']] [('x', .dense [.num (3602879701896397 / 36028797018963968)])]
      = .ok (.dense [1441151880758559 / 144115188075855872])
    ∧ encode Cfg.fixed [.term ['x', 'x']] [('x', .dense [.num (3602879701896397 / 36028797018963968)])]
      ≠ .ok (.dense [1441151880758559 / 144115188075855872]) := by decide +kernel

/-! ## LinUCB (coba/learners/linucb.py `learn`, `_pmf`): the order of the encoded features is unobservable -/

/-- the order in which a caller lists its (distinct) terms only permutes the encoding … -/
theorem encode_terms_order_perm {α : Type} (mul : α → α → α) (one : α) (F : Char → List α) {ts ts' : List (List Char)}
    (h : ts.Perm ts') : (termsS mul one F ts).Perm (termsS mul one F ts') := by
  unfold termsS
  exact h.flatMap_right _

/-- … so a linear consumer whose weights are attached to the features (LinUCB's `theta @ features`, weights and
features laid out by the same encoder) computes the same score for every order of the term list — the hash-dependent
order of the learners' `list(set(…))` on the unchanged tree (`list(dict.fromkeys(…))` since 1475327) is unobservable
for such a consumer -/
theorem linear_consumer_order_invariant (w : String → Rat) (F : Char → List (String × Rat)) {ts ts' : List (List Char)}
    (h : ts.Perm ts') :
    ((termsS pairMul pairOne F ts).map (fun kv => w kv.1 * kv.2)).sum
      = ((termsS pairMul pairOne F ts').map (fun kv => w kv.1 * kv.2)).sum :=
  ((encode_terms_order_perm pairMul pairOne F h).map _).sum_eq

example : (['a'] :: [['a', 'x']] : List (List Char)).Perm [['a', 'x'], ['a']] := List.Perm.swap _ _ _

theorem dotQ_perm {p : List Nat} {n : Nat} (hp : p.Perm (List.range n)) {u v : List Rat}
    (hu : u.length = n) (hv : v.length = n) : dotQ (permV p u) (permV p v) = dotQ u v := dotQ_perm' hp hu hv

theorem matVecQ_perm {p : List Nat} {n : Nat} (hp : p.Perm (List.range n)) {M : List (List Rat)}
    {f : List Rat} (hM : M.length = n) (hrows : ∀ row ∈ M, row.length = n) (hf : f.length = n) :
    matVecQ (permM p M) (permV p f) = permV p (matVecQ M f) := matVecQ_perm' hp hM hrows hf

/-- the initial state is well-formed (θ has d entries, A⁻¹ is d×d) -/
theorem init_wf (d : Nat) : (LinState.init d).WF d := by
  refine ⟨by simp [LinState.init], by simp [LinState.init, identityQ], ?_⟩
  intro row hrow
  simp only [LinState.init, identityQ, List.mem_map] at hrow
  obtain ⟨i, _, rfl⟩ := hrow
  simp

theorem learn_wf {n : Nat} {s : LinState} (hs : s.WF n) {f : List Rat} (r : Rat) : (s.learn f r).WF n :=
  learn_wf' hs r

theorem perm_wf {n : Nat} {p : List Nat} (hp : p.length = n) (s : LinState) : (s.perm p).WF n := by
  refine ⟨by simp [LinState.perm, length_permV, hp], by simp [LinState.perm, permM, hp], ?_⟩
  intro row hrow
  simp only [LinState.perm, permM, List.mem_map] at hrow
  obtain ⟨i, _, rfl⟩ := hrow
  simp [length_permV, hp]

/-- one `learn` call commutes with the layout: learning the re-laid-out features in the re-laid-out state gives
the re-laid-out new state (θ and A⁻¹ exactly, over ℚ) -/
theorem learn_perm {n : Nat} {s : LinState} (hs : s.WF n) {f : List Rat} (hf : f.length = n)
    {p : List Nat} (hp : p.Perm (List.range n)) (r : Rat) :
    (s.perm p).learn (permV p f) r = (s.learn f r).perm p := learn_perm' hs hf hp r

/-- `_pmf`'s point estimate θ·f and confidence term fᵀA⁻¹f are layout independent -/
theorem score_perm {n : Nat} {s : LinState} (hs : s.WF n) {f : List Rat} (hf : f.length = n)
    {p : List Nat} (hp : p.Perm (List.range n)) : (s.perm p).score (permV p f) = s.score f := score_perm' hs hf hp

/-- the initial state (zeros, identity) looks the same in every layout -/
theorem init_perm {d : Nat} {p : List Nat} (hp : p.Perm (List.range d)) :
    (LinState.init d).perm p = LinState.init d := by
  unfold LinState.init LinState.perm
  rw [permV_replicate_zero, permM_identityQ hp, hp.length_eq, List.length_range]

/-- MAIN: for EVERY history of `learn` / `predict` calls on a fresh learner, laying the d encoded features out in
another order `p` (what a different order of the interaction terms does, `encode_terms_order_perm`) leaves every
point estimate and every confidence bound of every prediction unchanged, and the final state is the re-laid-out
final state -/
theorem linucb_perm_equivariant (d : Nat) (p : List Nat) (events : List LinEvent)
    (hp : p.Perm (List.range d)) (hev : ∀ e ∈ events, e.WF d) :
    (linRun (LinState.init d) (events.map (LinEvent.perm p))).1 = (linRun (LinState.init d) events).1
    ∧ (linRun (LinState.init d) (events.map (LinEvent.perm p))).2
        = (linRun (LinState.init d) events).2.perm p := by
  have h := linRun_perm hp events (LinState.init d) (init_wf d) hev
  rw [init_perm hp] at h
  rw [h]
  exact ⟨rfl, rfl⟩

/-- every re-ordering of a vector is a re-layout by an index permutation `p` (the form `linucb_perm_equivariant` uses) -/
theorem perm_index_exists {l l' : List Rat} (h : l.Perm l') :
    ∃ p : List Nat, p.Perm (List.range l.length) ∧ l' = permV p l := by
  -- `l` is the image of its index list, and a permutation of an image is the image of a permutation
  have h' : l'.Perm ((List.range l.length).map (fun i => l.getD i 0)) := (lin_map_getD_range l 0).symm ▸ h.symm
  obtain ⟨p, e, hp⟩ := (congrFun₂ (List.eq_map_comp_perm fun i => l.getD i 0) l' _).mpr h'
  exact ⟨p, hp, e⟩

/-- … in particular listing the interaction terms in another order re-lays the dense numeric encoding out by an
index permutation of its positions (`encode_terms_order_perm` in index form), so `linucb_perm_equivariant` applies -/
theorem encode_terms_order_index_perm (mul : Rat → Rat → Rat) (one : Rat) (F : Char → List Rat)
    {ts ts' : List (List Char)} (h : ts.Perm ts') :
    ∃ p : List Nat, p.Perm (List.range (termsS mul one F ts).length)
      ∧ termsS mul one F ts' = permV p (termsS mul one F ts) :=
  perm_index_exists (encode_terms_order_perm mul one F h)

/-- the hypotheses of `linucb_perm_equivariant` are satisfiable: d = 3, p = [2,0,1], two learns and a predict -/
example : [2, 0, 1].Perm (List.range 3) ∧
    ∀ e ∈ [LinEvent.learn [1, 2, 3] 1, .learn [0, 1, (1 : Rat) / 2] 0, .predict [[1, 0, 0], [0, 1, 1]]], e.WF 3 :=
  linucb_example_hyps

/-- … and on that history the two runs' predictions agree by evaluation, with non-trivial values -/
example :
    (linRun (LinState.init 3) ([LinEvent.learn [1, 2, 3] 1, .learn [0, 1, (1 : Rat) / 2] 0,
        .predict [[1, 0, 0], [0, 1, 1]]].map (LinEvent.perm [2, 0, 1]))).1
      = (linRun (LinState.init 3) [LinEvent.learn [1, 2, 3] 1, .learn [0, 1, (1 : Rat) / 2] 0,
        .predict [[1, 0, 0], [0, 1, 1]]]).1
    ∧ (linRun (LinState.init 3) [LinEvent.learn [1, 2, 3] 1, .learn [0, 1, (1 : Rat) / 2] 0,
        .predict [[1, 0, 0], [0, 1, 1]]]).1 ≠ [[(0, 1), (0, 2)]] := linucb_example_values

/-- translator obligation (LinUCB): the body of `LinUCBLearner.learn`, read off the CURRENT source statement by statement
(`r = θ @ f`, `w = A⁻¹ @ f`, `v = w @ f`, the two Sherman–Morrison assignments; numpy `@`, `np.outer`, broadcasting `+ - * /`),
computes exactly the model's `LinState.learn` for every state, feature vector and reward — an edit of those lines breaks this -/
theorem linucb_learn_source (s : LinState) (f : List Rat) (r : Rat) :
    runLearn Coba.Generated.C20.linucbLearn s f r [] = some (s.learn f r) := learn_prog_sound rfl

/-- … and so does the body of `LinTSLearner.learn` (same update, `_mu_hat` / `_B_inv`, assignments in the other order) -/
theorem lints_learn_source (s : LinState) (f : List Rat) (r : Rat) :
    runLearn Coba.Generated.C20.lintsLearn s f r [] = some (s.learn f r) := learn_prog_sound rfl

/-- hence every history run with the programs read off the source ends in the model's final state
(so `linucb_perm_equivariant` is a statement about the source's update rule) -/
theorem learn_source_history (s : LinState) (es : List LinEvent) :
    linRunProg Coba.Generated.C20.linucbLearn s es = some (linRun s es).2
    ∧ linRunProg Coba.Generated.C20.lintsLearn s es = some (linRun s es).2 :=
  ⟨linRunProg_eq linucb_learn_source s es, linRunProg_eq lints_learn_source s es⟩

/-! ### `_pmf` of both learners read off the source (`Generated/C20LinAlg.lean`) -/

/-- translator obligation (LinUCB): the body of `LinUCBLearner._pmf`, read off the CURRENT source (`θ @ F`,
`einsum('ij,ij->j', A⁻¹ @ F, F)`, `est + α·np.sqrt(bounds)`, `np.where(values == np.amax(values))[0]`, the returned
comprehension), computes for EVERY state, every list of action feature vectors, every α and every square-root function the
model's `LinState.pmf`: the uniform distribution on the maximisers of `θ·f + α·√(fᵀA⁻¹f)` — an edit of those lines breaks this -/
theorem linucb_predict_source (sq : Rat → Rat) (s : LinState) (fs : List (List Rat)) (alpha : Rat) :
    runPredict sq Coba.Generated.C20.linucbPredict Coba.Generated.C20.linucbPredictLhs Coba.Generated.C20.linucbPredictTop s fs alpha
      = some (s.pmf sq alpha fs) := predict_prog_sound rfl

/-- … and the body of `LinTSLearner._pmf` in the branch `self._v == 0` (`μ̂ @ F`, `.round(5)` on both sides of the comparison),
for every rounding function -/
theorem lints_predict_source (rnd : Rat → Rat) (s : LinState) (fs : List (List Rat)) (alpha : Rat) :
    runPredict rnd Coba.Generated.C20.lintsPredict Coba.Generated.C20.lintsPredictLhs Coba.Generated.C20.lintsPredictTop s fs alpha
      = some (s.pmfTS rnd fs) := predictTS_prog_sound rfl

/-- the one unary numpy function of each body is the one the model means (`np.sqrt` / `.round(5)`), and the bodies were read -/
theorem predict_source_functions :
    Coba.Generated.C20.linucbPredictFn = "sqrt" ∧ Coba.Generated.C20.lintsPredictFn = "round5"
    ∧ Coba.Generated.C20.predictExtracted = true := by decide +kernel

/-- hence every prediction of every history, computed with the programs read off the source, is the model's -/
theorem predict_source_history (g : Rat → Rat) (alpha : Rat) (s : LinState) (es : List LinEvent) :
    linRunPredict (fun s fs => runPredict g Coba.Generated.C20.linucbPredict Coba.Generated.C20.linucbPredictLhs
        Coba.Generated.C20.linucbPredictTop s fs alpha) s es = linRunPredict (fun s fs => some (s.pmf g alpha fs)) s es
    ∧ linRunPredict (fun s fs => runPredict g Coba.Generated.C20.lintsPredict Coba.Generated.C20.lintsPredictLhs
        Coba.Generated.C20.lintsPredictTop s fs alpha) s es = linRunPredict (fun s fs => some (s.pmfTS g fs)) s es :=
  ⟨linRunPredict_congr (fun s fs => linucb_predict_source g s fs alpha) s es,
   linRunPredict_congr (fun s fs => lints_predict_source g s fs alpha) s es⟩

/-- the selection step returns a probability distribution over the actions … -/
theorem pmf_sum_one (vals : List Rat) (h : vals ≠ []) :
    (pmfOfValues vals).sum = 1 ∧ (pmfOfValues vals).length = vals.length :=
  ⟨sum_selectEq (maxQ_mem vals h), pmf_length' vals⟩

/-- … action i gets `1/#{j | vals j = vals i}` when no action has a larger value and 0 otherwise (ties share uniformly) -/
theorem pmf_entry (vals : List Rat) (i : Nat) (hi : i < vals.length) :
    (pmfOfValues vals)[i]'(by rw [pmf_length']; exact hi)
      = if ∀ w ∈ vals, w ≤ vals[i] then 1 / ((vals.countP (fun w => w = vals[i]) : Nat) : Rat) else 0 := by
  unfold pmfOfValues selectEq
  rw [List.getElem_map]
  by_cases h : vals[i] = maxQ vals
  · rw [if_pos h, if_pos ((eq_maxQ_iff (List.getElem_mem hi)).1 h), h]
  · rw [if_neg h, if_neg (mt (eq_maxQ_iff (List.getElem_mem hi)).2 h)]

/-- … so the support is exactly the set of maximisers -/
theorem pmf_support_argmax (vals : List Rat) (i : Nat) (hi : i < vals.length) :
    0 < (pmfOfValues vals)[i]'(by rw [pmf_length']; exact hi) ↔ ∀ w ∈ vals, w ≤ vals[i] := by
  rw [pmf_entry vals i hi]
  constructor
  · intro h; by_contra hc; rw [if_neg hc] at h; exact lt_irrefl _ h
  · intro h
    rw [if_pos h]
    exact one_div_pos.2 (countP_eq_pos (List.getElem_mem hi))

/-- LinTS compares `est.round(5)` with `np.amax(est).round(5)`: for a monotone rounding and at least one action that is the
uniform distribution on the maximisers of the ROUNDED estimates -/
theorem pmfTS_eq_pmfOfValues (rnd : Rat → Rat) (hg : ∀ a b, a ≤ b → rnd a ≤ rnd b) (s : LinState)
    (fs : List (List Rat)) (h : fs ≠ []) :
    s.pmfTS rnd fs = pmfOfValues (fs.map (fun f => rnd (s.score f).1)) := by
  unfold LinState.pmfTS pmfOfValues
  rw [maxQ_map_mono rnd hg _ (by simpa using h), List.map_map]
  rfl

/-- LinUCB's whole prediction (not only the scores, `score_perm`) is independent of the layout of the encoded features -/
theorem linucb_pmf_perm {n : Nat} {s : LinState} (hs : s.WF n) {fs : List (List Rat)} (hf : ∀ f ∈ fs, f.length = n)
    {p : List Nat} (hp : p.Perm (List.range n)) (sq : Rat → Rat) (alpha : Rat) :
    (s.perm p).pmf sq alpha (fs.map (permV p)) = s.pmf sq alpha fs := by
  unfold LinState.pmf
  rw [List.map_map]
  congr 1
  apply List.map_congr_left
  intro f hfm
  simp only [Function.comp_def]
  rw [score_perm' hs (hf f hfm) hp]

/-- non-vacuity / ties: three actions, two of them maximal → [1/2, 0, 1/2]; identity is a monotone rounding -/
example : pmfOfValues [3, 1, 3] = [1 / 2, 0, 1 / 2] ∧ ([3, 1, 3] : List Rat) ≠ [] := by decide +kernel
example : ∀ a b : Rat, a ≤ b → id a ≤ id b := fun _ _ h => h
example : (LinState.init 2).WF 2 ∧ [1, 0].Perm (List.range 2) :=
  ⟨init_wf 2, by decide⟩

/-! ## Ownership histories (the caller edits what it shares with the encoder) -/

/-- for EVERY history of caller steps around one encoder — `encode` calls interleaved, in any order and number, with
in-place edits of the term list the caller passed to the constructor and with overwriting of results it was handed —
the k-th `encode` call returns the specification of the terms the encoder was CONSTRUCTED with and of its own
arguments; and the encoder's own term lists are, at the end, still the constructor's -/
theorem own_history_eq_spec (is : List Inter) (ops : List OwnOp) (hne : ∀ t ∈ strTerms is, t ≠ []) :
    (ownRun OwnCfg.code Cfg.fixed is ops).1 = (ownCalls ops).map (fun kw => .ok (encodeS is kw))
    ∧ (ownRun OwnCfg.code Cfg.fixed is ops).2.encTerms = is := by
  obtain ⟨h1, h2⟩ := ownRunFrom_code Cfg.fixed ops (OwnState.init is)
  refine ⟨?_, h2⟩
  unfold ownRun
  rw [h1]
  apply List.map_congr_left
  intro kw _
  exact encode_eq_spec is kw hne

/-- … for every configuration of the three repairs and from every state: the returned values are the call-by-call
values for the encoder's own terms, which no step changes -/
theorem own_history_callwise (cfg : Cfg) (ops : List OwnOp) (s : OwnState) :
    (ownRunFrom OwnCfg.code cfg s ops).1 = (ownCalls ops).map (encode cfg s.encTerms)
    ∧ (ownRunFrom OwnCfg.code cfg s ops).2.encTerms = s.encTerms :=
  ownRunFrom_code cfg ops s

/-- the caller ends up holding exactly one result per `encode` call (edits never add or drop one) -/
theorem own_results_length (oc : OwnCfg) (cfg : Cfg) (ops : List OwnOp) (s : OwnState) :
    (ownRunFrom oc cfg s ops).2.results.length = s.results.length + (ownCalls ops).length := by
  induction ops generalizing s with
  | nil => rfl
  | cons op ops ih =>
    have hrun : (ownRunFrom oc cfg s (op :: ops)).2 = (ownRunFrom oc cfg (s.step oc cfg op).1 ops).2 := rfl
    rw [hrun, ih]
    cases op with
    | encode kw =>
      show (s.results ++ [_]).length + _ = _ + ((ownCalls ops).length + 1)
      rw [List.length_append, List.length_singleton, Nat.add_assoc, Nat.add_comm 1]
    | editResult k o =>
      show (s.results.set k _).length + _ = _
      rw [List.length_set]; rfl
    | editTerms is => rfl

/-- non-vacuity: a history with both kinds of edits between two calls -/
example : (ownRun OwnCfg.code Cfg.fixed [.num 1, .term ['x', 'a']]
      [.encode [('x', .dense [.num 2, .num 3]), ('a', .dense [.num 5])], .editResult 0 (.dense []), .editTerms [],
       .encode [('x', .dense [.num 2]), ('a', .scalar (.num 7))]]).1
    = [.ok (.dense [1, 10, 15]), .ok (.dense [1, 14])] := by decide +kernel

/-- the copy made by the constructor is needed: an encoder that KEEPS the caller's list (`copyTerms := false`) returns,
after the caller appended `'xx'` to its list, the expansion of the edited list (`[2,4]`) — the code's constructor copies
(`[2]`). The witness is a corpus case replayed on the real code. -/
theorem own_keep_terms_counterexample :
    (ownRun ⟨false⟩ Cfg.fixed [.term ['x']]
        [.editTerms [.term ['x'], .term ['x', 'x']], .encode [('x', .dense [.num 2])]]).1
      = [.ok (.dense [2, 4])]
    ∧ (ownRun OwnCfg.code Cfg.fixed [.term ['x']]
        [.editTerms [.term ['x'], .term ['x', 'x']], .encode [('x', .dense [.num 2])]]).1
      = [.ok (.dense [2])] := by decide +kernel

/-- translator obligation (ownership): what `pre_build` reads off the CURRENT `coba/encodings.py` — the constructor uses its
term-list parameter only as the iterable of comprehensions / copying calls (never stores it), and `encode` returns a newly
built list / dict that it does not keep — is the ownership configuration the model runs (`OwnCfg.code`, fresh result slots in
`OwnState.step`). An encoder that keeps the caller's list, or memoises the object it hands out, breaks this. -/
theorem own_source :
    OwnCfg.code = ⟨Coba.Generated.C20.initCopiesTerms⟩ ∧ Coba.Generated.C20.encodeReturnsFresh = true
    ∧ Coba.Generated.C20.ownershipExtracted = true :=
  ⟨rfl, rfl, rfl⟩

/-- … hence the history theorem holds for the configuration read off the source -/
theorem own_source_history (is : List Inter) (ops : List OwnOp) (hne : ∀ t ∈ strTerms is, t ≠ []) :
    (ownRun ⟨Coba.Generated.C20.initCopiesTerms⟩ Cfg.fixed is ops).1 = (ownCalls ops).map (fun kw => .ok (encodeS is kw)) :=
  (own_history_eq_spec is ops hne).1

end Coba.C20
